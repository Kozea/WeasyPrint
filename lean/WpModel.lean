-- Root of the `WpModel` library: every module that must be built by `lake build WpModel`.
import WpModel.Model.Wire
import WpModel.Lemmas.Basic.Except
import WpModel.Lemmas.Basic.List
import WpModel.Lemmas.Basic.Rat
import WpModel.Lemmas.Basic.Char
import WpModel.Drive.Loop
import WpModel.Model.BreakTypes
import WpModel.Gen.BreakTable
import WpModel.Model.Break
import WpModel.Model.Paginate
import WpModel.Lemmas.ParaLines
import WpModel.Lemmas.LineLoop
import WpModel.Lemmas.SegmentDefs
import WpModel.Lemmas.SegList
import WpModel.Lemmas.Segment
import WpModel.Lemmas.SegmentEarlier
import WpModel.Lemmas.SegmentPara
import WpModel.Lemmas.SegmentBlock
import WpModel.Lemmas.SegmentPages
import WpModel.Drive.Break
import WpModel.Drive.Paginate
import WpModel.Drive.Total
import WpModel.Model.Trace
import WpModel.Drive.Trace
import WpModel.Props.C01Trace
import WpModel.Props.C03Trace
import WpModel.Lemmas.ParaGeo
import WpModel.Props.C03Geo
import WpModel.Props.C01
import WpModel.Props.C02
import WpModel.Props.C03
import WpModel.Props.C04
import WpModel.Witness.C04
import WpModel.Gen.StackKinds
import WpModel.Model.Stacking
import WpModel.Model.PaintOrder
import WpModel.Drive.Stacking
import WpModel.Props.C17
import WpModel.Witness.C17
import WpModel.Gen.FetchSites
import WpModel.Model.Resources
import WpModel.Model.ResourcesDoc
import WpModel.Drive.Resources
import WpModel.Props.C20
import WpModel.Witness.C20
import WpModel.Model.Margins
import WpModel.Model.BoxModel
import WpModel.Model.BlockTree
import WpModel.Model.BoxEdges
import WpModel.Drive.BoxModel
import WpModel.Drive.BoxEdges
import WpModel.Props.C05
import WpModel.Lemmas.MinMax
import WpModel.Witness.C05
import WpModel.Gen.UnitsC07
import WpModel.Gen.Expanders
import WpModel.Model.Declarations
import WpModel.Model.VarSubst
import WpModel.Model.LengthC07
import WpModel.Drive.C07
import WpModel.Props.C07
import WpModel.Witness.C07
import WpModel.Gen.ReplacedConsts
import WpModel.Model.Replaced
import WpModel.Model.ReplacedBg
import WpModel.Model.ImageDedupe
import WpModel.Model.ImageDraw
import WpModel.Model.ReplacedDoc
import WpModel.Lemmas.Replaced
import WpModel.Lemmas.ReplacedBg
import WpModel.Lemmas.ImageDedupe
import WpModel.Drive.Replaced
import WpModel.Props.C13
import WpModel.Witness.C13
import WpModel.Model.CopyPages
import WpModel.Model.PdfZoom
import WpModel.Model.ImageCache
import WpModel.Model.WriteSinkTypes
import WpModel.Gen.PdfVariants
import WpModel.Gen.ModuleState
import WpModel.Model.WriteSinks
import WpModel.Model.RenderState
import WpModel.Drive.C19
import WpModel.Props.C19
import WpModel.Lemmas.Assoc
import WpModel.Witness.C19
import WpModel.Lemmas.CollapseMargin
import WpModel.Lemmas.MaxMin
import WpModel.Lemmas.Geometry
import WpModel.Witness.C03
import WpModel.Lemmas.Stacking
import WpModel.Props.C05Pm
import WpModel.Witness.C05Pm
import WpModel.Gen.LineBreakTables
import WpModel.Model.PyStr
import WpModel.Model.Pango
import WpModel.Model.LineBreak
import WpModel.Drive.LineBreak
import WpModel.Lemmas.LineBreak
import WpModel.Lemmas.LineIter
import WpModel.Props.C09
import WpModel.Witness.C09
import WpModel.Model.Anchors
import WpModel.Gen.W3cDate
import WpModel.Model.Outline
import WpModel.Model.Dates
import WpModel.Drive.Outline
import WpModel.Model.Metadata
import WpModel.Lemmas.C18Bookmarks
import WpModel.Lemmas.C18Outlines
import WpModel.Lemmas.C18Links
import WpModel.Lemmas.InsertionSort
import WpModel.Lemmas.KeepFirst
import WpModel.Lemmas.C18Dates
import WpModel.Props.C18
import WpModel.Witness.C18
import WpModel.Gen.FloatTests
import WpModel.Model.Floats
import WpModel.Model.Absolute
import WpModel.Model.FloatFlow
import WpModel.Drive.Floats
import WpModel.Drive.Absolute
import WpModel.Lemmas.Floats
import WpModel.Lemmas.FloatLoop
import WpModel.Lemmas.FloatBounds
import WpModel.Lemmas.FloatPlace
import WpModel.Props.C11
import WpModel.Props.C11Abs
import WpModel.Witness.C11
import WpModel.Model.BoxTypes
import WpModel.Gen.BoxKinds
import WpModel.Gen.CharTable
import WpModel.Model.Whitespace
import WpModel.Model.TableGrid
import WpModel.Model.AnonBoxes
import WpModel.Model.BoxGen
import WpModel.Drive.BoxTree
import WpModel.Lemmas.Grid
import WpModel.Lemmas.Whitespace
import WpModel.Lemmas.Boxes
import WpModel.Lemmas.Tables
import WpModel.Lemmas.WrapTable
import WpModel.Lemmas.Threading
import WpModel.Props.C08
import WpModel.Witness.C08
import WpModel.Model.TableWidths
import WpModel.Model.BorderTypes
import WpModel.Gen.BorderStyles
import WpModel.Model.TableBorders
import WpModel.Drive.Table
import WpModel.Drive.Borders
import WpModel.Lemmas.TableSums
import WpModel.Props.C10
import WpModel.Model.TableRows
import WpModel.Drive.TableRows
import WpModel.Witness.C10
import WpModel.Model.Counters
import WpModel.Gen.CounterStyles
import WpModel.Model.CounterScope
import WpModel.Model.Repaginate
import WpModel.Drive.Counters
import WpModel.Drive.CounterScope
import WpModel.Drive.Repaginate
import WpModel.Props.C15
import WpModel.Lemmas.CounterColumn
import WpModel.Witness.C15
import WpModel.Model.PdfNum
import WpModel.Gen.PdfTags
import WpModel.Model.PdfStream
import WpModel.Model.ContentCheck
import WpModel.Model.PdfPages
import WpModel.Drive.PdfStream
import WpModel.Drive.ContentCheck
import WpModel.Drive.PdfPages
import WpModel.Props.C16
import WpModel.Model.DrawSkeleton
import WpModel.Drive.DrawSkeleton
import WpModel.Lemmas.ContentCheck
import WpModel.Lemmas.PdfStream
import WpModel.Lemmas.PdfPages
import WpModel.Lemmas.PdfRes
import WpModel.Lemmas.PdfWorld
import WpModel.Lemmas.DrawSkeleton
import WpModel.Witness.C16
import WpModel.Lemmas.PdfCache
import WpModel.Model.Flex
import WpModel.Model.Grid
import WpModel.Drive.Flex
import WpModel.Drive.Grid
import WpModel.Gen.FlexGridTables
import WpModel.Props.C12
import WpModel.Lemmas.Rel2
import WpModel.Lemmas.FlexLoop
import WpModel.Witness.C12
import WpModel.Model.MarginSym
import WpModel.Gen.MarginBoxes
import WpModel.Model.PageBoxes
import WpModel.Model.PageState
import WpModel.Model.PageSelectors
import WpModel.Model.PdfBoxes
import WpModel.Model.PageDoc
import WpModel.Drive.C14
import WpModel.Props.C14
import WpModel.Lemmas.Basic.Int
import WpModel.Witness.C14
import WpModel.Model.CssVal
import WpModel.Gen.Precedence
import WpModel.Gen.Units
import WpModel.Model.Computed
import WpModel.Model.Cascade
import WpModel.Model.Style
import WpModel.Model.StyleDoc
import WpModel.Drive.Cascade
import WpModel.Props.C06
import WpModel.Witness.C06
import WpModel.Model.BreakTrace
import WpModel.Drive.BreakTrace
import WpModel.Props.C04Trace
import WpModel.Model.RoundedBox
import WpModel.Drive.Rounded
import WpModel.Lemmas.RoundedBox
import WpModel.Gen.InheritedC07
import WpModel.Model.PendingC07
import WpModel.Model.RasterEmbed
import WpModel.Model.InlineRun
import WpModel.Model.Hyphenate
import WpModel.Drive.InlineRun
import WpModel.Drive.Hyphenate
import WpModel.Lemmas.InlineHyphen
import WpModel.Lemmas.LossyBlock
import WpModel.Lemmas.LossyDefs
import WpModel.Lemmas.LossyEarlier
import WpModel.Lemmas.LossyPages
import WpModel.Lemmas.LossyPara
import WpModel.Lemmas.Pm2Avoid
import WpModel.Lemmas.Pm2Break
import WpModel.Lemmas.Pm2Cut
import WpModel.Lemmas.EarlierWalk
import WpModel.Lemmas.TraceCheck
import WpModel.Lemmas.KidsLoop
import WpModel.Lemmas.Pm2EndValid
import WpModel.Lemmas.Pm2First
import WpModel.Lemmas.Pm2Obs
import WpModel.Lemmas.Pm2Pages
import WpModel.Lemmas.Pm2Renumber
import WpModel.Lemmas.Pm2Step
import WpModel.Lemmas.Pm2Words
import WpModel.Props.C01Pm2
import WpModel.Props.C02Pm2
import WpModel.Props.C03Pm2
import WpModel.Props.C04Pm2
import WpModel.Props.C19Pm2
import WpModel.Witness.C01Pm2
import WpModel.Witness.C03Pm2
import WpModel.Witness.C04Pm2
import WpModel.Model.FloatCheck
import WpModel.Model.FloatTrace
import WpModel.Model.Positioned
import WpModel.Drive.Positioned
import WpModel.Props.C11Flow
import WpModel.Props.C11Fixed
import WpModel.Props.C12Tracks
import WpModel.Props.C12Grid2
import WpModel.Model.UsedCheck
import WpModel.Drive.UsedCheck
import WpModel.Model.ShrinkFit
import WpModel.Drive.ShrinkFit
import WpModel.Props.C05Check
import WpModel.Props.C05Refine
import WpModel.Props.C05Shrink
import WpModel.Witness.C05Shrink
import WpModel.Model.PaginateOof
import WpModel.Drive.PaginateOof
import WpModel.Lemmas.OofEmbed
import WpModel.Lemmas.PageLoop
import WpModel.Lemmas.PagesRun
import WpModel.Lemmas.OofPagesRun
import WpModel.Lemmas.ColPagesRun
import WpModel.Lemmas.FootPagesRun
import WpModel.Lemmas.OofDefs
import WpModel.Lemmas.OofLines
import WpModel.Lemmas.OofSegment
import WpModel.Lemmas.OofEarlier
import WpModel.Lemmas.OofBlock
import WpModel.Lemmas.OofPages
import WpModel.Lemmas.OofTotal
import WpModel.Lemmas.OofParaGeo
import WpModel.Lemmas.OofFrame
import WpModel.Lemmas.OofGeometry
import WpModel.Props.C01Oof
import WpModel.Props.C02Oof
import WpModel.Props.C03Oof
import WpModel.Witness.C01Oof
import WpModel.Model.PaginateFoot
import WpModel.Drive.PaginateFoot
import WpModel.Lemmas.FootEmbed
import WpModel.Lemmas.FootTurn
import WpModel.Lemmas.FootSegment
import WpModel.Lemmas.FootPages
import WpModel.Lemmas.FootState
import WpModel.Lemmas.FootConservePara
import WpModel.Lemmas.FootConserveBox
import WpModel.Lemmas.FootTotal
import WpModel.Lemmas.FootConserveKids
import WpModel.Lemmas.FootConservePages
import WpModel.Lemmas.FootWF
import WpModel.Props.C01Foot
import WpModel.Props.C03Foot
import WpModel.Witness.C01Foot
import WpModel.Lemmas.FootGeo
import WpModel.Lemmas.FootGeoBox
import WpModel.Props.C03FootGeo
import WpModel.Model.PaginateCol
import WpModel.Drive.PaginateCol
import WpModel.Lemmas.ColEmbed
import WpModel.Lemmas.ColEmbedLayout
import WpModel.Lemmas.ColSegDefs
import WpModel.Lemmas.ColSeg
import WpModel.Lemmas.ColSegPara
import WpModel.Lemmas.ColSegEarlier
import WpModel.Lemmas.ColSegBlock
import WpModel.Lemmas.ColSegPages
import WpModel.Props.C01Col
import WpModel.Props.C03Col
import WpModel.Lemmas.ColGeo
import WpModel.Props.C03GeoCol
import WpModel.Witness.C01Col
import WpModel.Lemmas.C07Generic
import WpModel.Lemmas.C07Var
import WpModel.Props.C07Expanders
import WpModel.Props.C07Var
import WpModel.Props.C07Sheet
import WpModel.Props.C07Keywords
import WpModel.Props.C07Descriptors
import WpModel.Model.ExpandersC07
import WpModel.Model.SheetC07
import WpModel.Gen.KeywordsC07
import WpModel.Model.KeywordsC07
import WpModel.Gen.DescriptorsC07
import WpModel.Model.DescriptorsC07
import WpModel.Model.PageCounters
import WpModel.Gen.FirstLetterPunct
import WpModel.Model.TargetText
import WpModel.Model.CounterDescriptors
import WpModel.Drive.PageCounters
import WpModel.Drive.TargetText
import WpModel.Drive.CounterDescriptors
import WpModel.Props.C15Pages
import WpModel.Props.C15Desc
import WpModel.Props.C15Text
import WpModel.Gen.PurityInventory
import WpModel.Model.DiskCache
import WpModel.Model.WriteState
import WpModel.Props.C19State
import WpModel.Props.C19Purity
import WpModel.Model.PdfFile
import WpModel.Model.UseRefs
import WpModel.Model.PdfNames
import WpModel.Lemmas.PdfFile
import WpModel.Lemmas.PdfStreamErrors
import WpModel.Lemmas.PdfNames
import WpModel.Lemmas.PdfOwner
import WpModel.Props.C16File
import WpModel.Props.C16More
import WpModel.Drive.PdfFile
import WpModel.Model.SvgViewport
import WpModel.Lemmas.SvgViewport
import WpModel.Props.C13b
import WpModel.Model.ImageOrient
import WpModel.Gen.RasterEmbedGraph
import WpModel.Model.ReplacedPreferred
import WpModel.Model.C18PdfString
import WpModel.Model.C18Attach
import WpModel.Lemmas.C18PdfString
import WpModel.Lemmas.C18Gather
import WpModel.Lemmas.C18Attach
import WpModel.Lemmas.C18EndToEnd
import WpModel.Props.C18Pdf
import WpModel.Props.C18Tree
import WpModel.Gen.C18MetaKeys
import WpModel.Model.TablePages
import WpModel.Drive.TablePages
import WpModel.Props.C10Pages
import WpModel.Model.TablePreferred
import WpModel.Drive.TablePreferred
import WpModel.Props.C10Pref
import WpModel.Model.TableRowHeights
import WpModel.Drive.TableRowHeights
import WpModel.Props.C10Heights
import WpModel.Model.StyleMemo
import WpModel.Props.C06Memo
import WpModel.Props.C06Values
import WpModel.Model.C06Branches
import WpModel.Props.C17Paint
import WpModel.Props.C17Text
import WpModel.Model.PageBranches
import WpModel.Drive.C14Tags
import WpModel.Props.C14Strings
import WpModel.Props.C14Variable
import WpModel.Model.PageGroups
import WpModel.Drive.C14Groups
import WpModel.Props.C14Groups
import WpModel.Gen.ContentTables
import WpModel.Lemmas.Pipeline
import WpModel.Lemmas.TableText
import WpModel.Lemmas.BoxGenTidy
import WpModel.Lemmas.BoxGenRun
import WpModel.Lemmas.Fuel
import WpModel.Lemmas.TableFuel
import WpModel.Props.C08Pipeline
import WpModel.Model.ResourcesUrl
import WpModel.Model.ResourcesTrace
import WpModel.Props.C20Url
import WpModel.Props.C20Trace
import WpModel.Props.C20Absent
import WpModel.Model.LineVertical
import WpModel.Drive.LineVertical
import WpModel.Lemmas.LineVertical
import WpModel.Lemmas.LineVerticalTB
import WpModel.Lemmas.LineFloats
import WpModel.Model.InlinePreferred
import WpModel.Model.LineBreakTrace
import WpModel.Model.LineFloats
import WpModel.Drive.LineFloats
import WpModel.Props.C17Doc
import WpModel.Model.FixedPages
import WpModel.Drive.C11Regress
import WpModel.Props.C11Inline
import WpModel.Model.PdfFonts
import WpModel.Lemmas.PdfCacheScoped
import WpModel.Props.C16Cache
import WpModel.Props.C16Fonts
import WpModel.Drive.PdfFonts
import WpModel.Gen.NumericC07
import WpModel.Model.NumericC07
import WpModel.Props.C07Numeric
import WpModel.Lemmas.Wrappers
import WpModel.Lemmas.TableKinds
import WpModel.Model.BlockTreeV
import WpModel.Drive.BlockTreeV
import WpModel.Props.C05Tree
import WpModel.Model.UsedShift
import WpModel.Drive.UsedShift
import WpModel.Props.C05Shift
import WpModel.Gen.ImageKey
import WpModel.Props.C19Key
import WpModel.Props.C19Names
import WpModel.Model.ListHintTypes
import WpModel.Gen.ListHints
import WpModel.Model.ListHints
import WpModel.Drive.ListHints
import WpModel.Props.C15Lists
import WpModel.Props.C15PagesTotal
import WpModel.Gen.BreakComputed
import WpModel.Props.C04Computed
import WpModel.Model.C18HitArea
import WpModel.Model.C18LinkAttr
import WpModel.Lemmas.C18Unquote
import WpModel.Lemmas.UriByte
import WpModel.Props.C18LinkAttr
import WpModel.Lemmas.ImageScopes
import WpModel.Gen.SvgNotInherited
import WpModel.Model.SvgCascade
import WpModel.Model.PngChunks
import WpModel.Lemmas.PngChunks
import WpModel.Lemmas.ReplacedDoc
import WpModel.Gen.C06Source
import WpModel.Model.RatioCache
import WpModel.Props.C06Ratio
import WpModel.Props.C06Source
import WpModel.Drive.ResourcesBg
import WpModel.Drive.ResourcesSvg
import WpModel.Props.C20Bg
import WpModel.Props.C20Svg
import WpModel.Props.C14Parse
import WpModel.Drive.C14Percent
import WpModel.Props.C14Percent
import WpModel.Drive.C14Sheet
import WpModel.Props.C14Sheet
import WpModel.Props.C14Doc
import WpModel.Model.LineFloatsInline
import WpModel.Lemmas.LineFloatsInline
import WpModel.Lemmas.InlineNoWrap
import WpModel.Model.TableCellSplit
import WpModel.Drive.TableCellSplit
import WpModel.Props.C10Split
import WpModel.Model.TableCellWidth
import WpModel.Drive.TableCellWidth
import WpModel.Props.C10CellWidth
import WpModel.Model.TableBorderDraw
import WpModel.Drive.TableBorderDraw
import WpModel.Props.C10Draw
import WpModel.Model.TableSplitBorders
import WpModel.Drive.TableSplitBorders
import WpModel.Props.C10SplitBorders
import WpModel.Lemmas.FootOverlap
import WpModel.Model.TracksC07
import WpModel.Props.C07Tracks
import WpModel.Lemmas.InlineDoc
import WpModel.Props.C08Total
import WpModel.Model.ContentFns
import WpModel.Drive.ContentFns
import WpModel.Props.C15Content
import WpModel.Model.TextDecoration
import WpModel.Props.C19Cascade
import WpModel.Model.Memo
import WpModel.Props.C19Memo
import WpModel.Model.TableGroupOrder
import WpModel.Drive.TableGroupOrder
import WpModel.Props.C10Groups
import WpModel.Props.C10Painted
import WpModel.Model.InlineSource
import WpModel.Lemmas.InlineSource
import WpModel.Model.GradientDraw
import WpModel.Lemmas.GradientDraw
import WpModel.Props.C16Gradient
import WpModel.Drive.GradientDraw
import WpModel.Lemmas.PdfFontsW
import WpModel.Model.CanvasBg
import WpModel.Model.ImageId
import WpModel.Lemmas.ImageId
import WpModel.Lemmas.ReplacedRtl
import WpModel.Gen.ImageInherited
import WpModel.Props.C17Parts
import WpModel.Drive.ResourcesPaint
import WpModel.Props.C20Paint
import WpModel.Gen.UrlTables
import WpModel.Props.C20Tables
import WpModel.Model.CssSpec
import WpModel.Props.C06Spec
import WpModel.Model.PresHints
import WpModel.Props.C06Hints
import WpModel.Drive.C14Marks
import WpModel.Props.C14Marks
import WpModel.Props.C05Meta
import WpModel.Props.C02Extra
import WpModel.Drive.C02Extra
import WpModel.Props.C04Table
import WpModel.Drive.C04Extra
import WpModel.Witness.C02Growth
import WpModel.Model.GradientC07
import WpModel.Props.C07Gradient
import WpModel.Props.C10Document
import WpModel.Props.C11Events
import WpModel.Lemmas.InlineSourceText
import WpModel.Lemmas.ColGeoStrict
import WpModel.Lemmas.SpaceFlags
import WpModel.Model.AttachDates
import WpModel.Props.C19Attach
import WpModel.Model.SvgDraw
import WpModel.Props.C19Svg
import WpModel.Props.C11AbsDoc
import WpModel.Lemmas.OofWorld
import WpModel.Lemmas.RowGroups
import WpModel.Model.ListStyleType
import WpModel.Drive.ListStyleType
import WpModel.Props.C15Symbols
import WpModel.Props.C17Clip
import WpModel.Model.PaginateFootOps
import WpModel.Lemmas.FootOps
import WpModel.Lemmas.ChainCut
import WpModel.Props.C03Chain
import WpModel.Model.TableColumns
import WpModel.Drive.TableColumns
import WpModel.Props.C10Columns
import WpModel.Model.C18DocLinks
import WpModel.Props.C18Doc
import WpModel.Props.C19Docs
import WpModel.Props.C14Exact
import WpModel.Model.GridLineC07
import WpModel.Props.C07GridLine
import WpModel.Model.BackgroundDraw
import WpModel.Lemmas.BackgroundDraw
import WpModel.Props.C16Background
import WpModel.Lemmas.ColGeoPage
import WpModel.Props.C20Once
import WpModel.Props.C06Absolute
import WpModel.Drive.C12Tags
import WpModel.Drive.PaintGeo
import WpModel.Drive.ResourcesSource
import WpModel.Drive.ToUnicode
import WpModel.Drive.Transform
import WpModel.Gen.PageSizes
import WpModel.Lemmas.PaintCount
import WpModel.Lemmas.PaintCountTransfer
import WpModel.Lemmas.PaintEnv
import WpModel.Lemmas.PaintOnce
import WpModel.Lemmas.PaintOnceTransfer
import WpModel.Lemmas.PaintSel
import WpModel.Lemmas.StackingPartition
import WpModel.Lemmas.StackingSort
import WpModel.Lemmas.StackingSpec
import WpModel.Lemmas.ToUnicode
import WpModel.Lemmas.Utf16
import WpModel.Lemmas.Transform
import WpModel.Model.BreakConserve
import WpModel.Model.C02Extra
import WpModel.Model.ClipRect
import WpModel.Model.LaidOut
import WpModel.Model.PageMarks
import WpModel.Model.PagePercent
import WpModel.Model.PageSheet
import WpModel.Model.ResourcesBg
import WpModel.Model.ResourcesPaint
import WpModel.Model.ResourcesSource
import WpModel.Model.ResourcesSvg
import WpModel.Model.TableBreaks
import WpModel.Model.TablePartBg
import WpModel.Model.ToUnicode
import WpModel.Model.Transform
import WpModel.Props.C20Source
import WpModel.Props.C04TableGen
import WpModel.Props.C04TableNames
import WpModel.Model.BoxDeco
import WpModel.Drive.BoxDeco
import WpModel.Props.C05Deco
import WpModel.Model.CssWide
import WpModel.Model.MarginCounters
import WpModel.Drive.MarginCounters
import WpModel.Props.C15Margin
import WpModel.Props.C17Utf16
import WpModel.Gen.Monolithic
import WpModel.Props.C03Mono
import WpModel.Props.C02RowEnding
import WpModel.Lemmas.TableRules
import WpModel.Model.PageStd
import WpModel.Drive.PageStd
import WpModel.Props.C15PageStd
import WpModel.Props.C17ReadBack
import WpModel.Lemmas.LineFloatsTall
import WpModel.Props.C14Symm
import WpModel.Props.C20Catalog
import WpModel.Props.C20Fonts
import WpModel.Model.CounterDict
import WpModel.Props.C19Counter
import WpModel.Model.PdfUaLinks
import WpModel.Drive.PdfUaLinks
import WpModel.Props.C16UaLinks
import WpModel.Lemmas.ColGeoFirst
import WpModel.Model.FontFamilyC07
import WpModel.Props.C07FontFamily
