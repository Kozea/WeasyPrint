/-
C08 — clauses that are false of the current code, refuted on concrete inputs.  Each is mirrored by
a `finding:` line of known_findings.txt and a replay function in py/props/c08.py.  At the end: the
inputs of repaired findings, kept as regression statements of the now-correct behaviour.
-/
import WpModel.Model.BoxGen
import WpModel.Lemmas.Grid
import WpModel.Lemmas.Whitespace
import WpModel.Lemmas.Boxes

namespace Wp.Witness.C08
open Wp Wp.Bx Wp.TableGrid

/-- `<tr><td>a<td rowspan=2>b <tr><td colspan=2>c`: the second row's cell starts in the free
column 0 and extends over column 1, which `b` occupies in that row: slot (1, 1) has two owners.
Refutes the unrestricted slot-disjointness statement. -/
theorem colspan_overlaps_rowspan :
    placeGroup [[⟨1, 1⟩, ⟨1, 2⟩], [⟨2, 1⟩]] 0 = .ok ([[⟨0, 1, 1⟩, ⟨1, 1, 2⟩], [⟨0, 2, 1⟩]], 2) ∧
    Covers (0, ⟨1, 1, 2⟩) 1 1 ∧ Covers (1, ⟨0, 2, 1⟩) 1 1 ∧
    ¬ NoOverhang [[⟨1, 1⟩, ⟨1, 2⟩], [⟨2, 1⟩]] [[], []] 0 :=
  ⟨by rfl, by decide, by decide, by decide⟩

/-- A floated `display: inline-flex` computes to `block flow` (a `BlockBox`), not `block flex`:
`computed_values.display` compares with `('inline-table',)`, a value the validator never produces,
and then treats every `inline …` value as `inline flow`. -/
theorem blockify_inline_flex :
    blockify ["inline", "flex"] "left" "static" false = ["block", "flow"] ∧
    boxTypeFromDisplay (blockify ["inline", "flex"] "left" "static" false) = some .BlockBox ∧
    boxTypeFromDisplay ["block", "flex"] = some .FlexBox := by
  decide +kernel

theorem blockify_inline_table :
    boxTypeFromDisplay (blockify ["inline", "table"] "none" "absolute" false) = some .BlockBox ∧
    boxTypeFromDisplay ["block", "table"] = some .TableBox := by
  decide +kernel


private def tx (s : List Nat) : KBox := .mk .TextBox {} {} {} s [] []
private def bx (k : BoxKind) (kids : List KBox) : KBox := .mk k {} {} {} [] kids []

/-- `<div style="display:table-row; position:running(x)">a</div>`: `anonymous_table_boxes` returns a
running box untouched, so the row keeps its text child; its parent still wraps the row in a table and
`wrap_table` reads `cell.colspan` on the text box: AttributeError (the whole render fails). -/
theorem running_row_not_fixed :
    (match atb (.mk .TableRowBox { run := true } {} {} [] [tx [97]] []) with
      | .ok r => r.kids.map (fun (c : KBox) => c.kind) | .error _ => []) = [.TextBox] ∧
    (match createAnonymousBoxes (bx .BlockBox [.mk .TableRowBox { run := true } {} {} [] [tx [97]] []]) with
      | .ok _ => none | .error e => some e) = some .attributeError := by
  constructor <;> rfl

/-! ## Regression cases of repaired findings (`fixed:` lines of known_findings.txt)

The inputs below were witnesses of defects; the code has been repaired and the statements now
say what the repaired code does on the same inputs.  The general theorems are in `Props/C08Pipeline.lean`
(`flex_grid_keeps_wrappers`, `is_whitespace_is_css_white_space`, `marker_display_none`). -/

/-- `<div style="display:flex"><div style="display:inline-table">…` (fixed by 97f25f2): `flex_children`
replaces the inline-block table wrapper by an anonymous block *that is still a table wrapper*. -/
theorem inline_table_item_keeps_wrapper :
    (match createAnonymousBoxes (bx .FlexBox [bx .InlineTableBox []]) with
      | .ok r => r.kids.map (fun (w : KBox) => (w.kind, w.inst.wrapper, w.kids.map (fun (t : KBox) => t.kind)))
      | .error _ => []) = [(.BlockBox, true, [.InlineTableBox])] ∧
    (match createAnonymousBoxes (bx .GridBox [bx .InlineTableBox []]) with
      | .ok r => r.kids.map (fun (w : KBox) => (w.kind, w.inst.wrapper, w.kids.map (fun (t : KBox) => t.kind)))
      | .error _ => []) = [(.BlockBox, true, [.InlineTableBox])] := by
  constructor <;> decide +kernel

/-- A no-break space between two rows is not CSS white space (fixed by f280b41): rule 1.4 keeps it; it
ends up in an anonymous row (and cell) of its own between the two rows. -/
theorem nbsp_between_rows_kept :
    (match atb (bx .TableBox [bx .TableRowBox [], tx [160], bx .TableRowBox []]) with
      | .ok r => leafText r | .error _ => [0]) = [160] ∧
    (match atb (bx .TableBox [bx .TableRowBox [], tx [32, 10], bx .TableRowBox []]) with
      | .ok r => leafText r | .error _ => [0]) = [] := by
  constructor <;> decide +kernel

/-- `li::marker { display: none }` (fixed by 848642f): `marker_to_box` tests the display before
`make_box`; no marker box, no failure, the quote depth is untouched. -/
theorem marker_display_none_no_box :
    markerToBox ⟨{ display := ["none"] }, .inhibit, some [8226, 32]⟩ {} true 3 = .ok ([], 3) := by
  rfl

/-- `<div style="float:left">a <span> b</span></div>` (fixed by b7d94f7): the state "a collapsible space
precedes" goes from child to child inside a floated / absolutely positioned box as in normal flow: `a b`, one
space.  General statement: `C08.whitespace_across_boxes_any_container`. -/
theorem out_of_flow_container_spaces_collapsed :
    leafText (pw (.mk .BlockBox { flt := true } {} {} [] [tx [97, 32], bx .InlineBox [tx [32, 98]]] []) false).1
      = [97, 32, 98] ∧
    leafText (pw (.mk .BlockBox { abs := true } {} {} [] [tx [97, 32], tx [32, 98]] []) false).1
      = [97, 32, 98] ∧
    leafText (pw (bx .BlockBox [tx [97, 32], bx .InlineBox [tx [32, 98]]]) false).1 = [97, 32, 98] ∧
    noDoubleSp [97, 32, 98] = true := by
  refine ⟨by rfl, by rfl, by rfl, by rfl⟩

end Wp.Witness.C08
