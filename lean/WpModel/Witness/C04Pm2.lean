/-
Witness: the C04 break checker (`BreakTrace.badObs`, which asks that the *first page showing a word* of the
box after a side-forcing break has the requested side) can raise a false alarm on a legal PM behaviour: when
that box starts with a box without lines that fills the page, the page that starts the box has the requested
side, but its first *word* is on the following page, of the other side. `C04Pm2.break_checker_accepts_pm`
therefore needs its hypothesis `FirstLine`.
-/
import WpModel.Props.C04Pm2

namespace Wp.Witness.C04Pm2
open Wp Wp.PM

/-- `a` = a one-line paragraph; `b` = a block with `break-before: right` holding an empty block with 20px top
padding and a two-line paragraph; 25px pages, first page a right page. -/
def wDoc : Doc :=
  { pageH := 25, rootLtr := true,
    root := .block 0 { C01.exStyle with isRoot := true }
      [.para 1 1 10 C01.exStyle,
       .block 2 { C01.exStyle with brkBefore := .right }
         [.block 4 { C01.exStyle with pt := 20 } [], .para 3 2 10 C01.exStyle]] }

/-- Pages (right?, blank?, lines): `a`; a blank left page; the right page that starts `b` — showing only the
padded empty block; a left page with the two lines of `b`. -/
theorem pages :
    (paginate wDoc 20).map (fun ps => ps.map (fun p => (p.type.right, p.type.blank, fragLines p.root))) =
      some [(true, false, [(1, 0)]), (false, true, []), (true, false, []), (false, false, [(3, 0), (3, 1)])] := by
  decide +kernel

/-- All other hypotheses of `break_checker_accepts_pm` hold. -/
theorem hypotheses : NoFixedHeight wDoc.root ∧ WellFormed wDoc.root ∧ UniqueParaIds wDoc.root := by
  refine ⟨?_, ?_, ?_⟩
  · simp [wDoc, NoFixedHeight, NoFixedHeightList, C01.exStyle]
  · simp [wDoc, WellFormed, WellFormedList, C01.exStyle]
  · simp [UniqueParaIds, wDoc, paras, parasList]

/-- The checker flags the observation (values `[auto, right, auto]`, last page of `a` = 0, first page with a
word of `b` = 3, a left page). -/
theorem checker_false_alarm :
    (paginate wDoc 20).map (fun ps => (obsOf wDoc ps).map (fun o => (o.values, o.pageA, o.pageB, o.rightB))) =
      some [([.auto, .right, .auto], 0, 3, false)] ∧
    (paginate wDoc 20).map (fun ps => BreakTrace.badObs (obsOf wDoc ps)) = some [0] :=
  by decide +kernel

/-- The two boxes are adjacent siblings of the root, which is the hypothesis `SibAt` of
`C04Pm2.forced_separates_pages`: by that theorem PM did honour the break (the page after the blank one is a right
page and starts `b`). -/
theorem break_was_honoured :
    SibAt wDoc.root [] 0 (.para 1 1 10 C01.exStyle)
      (.block 2 { C01.exStyle with brkBefore := .right }
         [.block 4 { C01.exStyle with pt := 20 } [], .para 3 2 10 C01.exStyle]) := by
  simp [SibAt, wDoc]

end Wp.Witness.C04Pm2
