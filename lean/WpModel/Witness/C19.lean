/-
C19 — negation witnesses: concrete inputs on which a *full-strength* statement is false of the model (and, replayed
by the harness, of the implementation); each is listed in known_findings.txt as a `finding:`.  For the findings that
were repaired in /repo (`fixed:` lines) a `…_regression` theorem states the now-correct behaviour on the input that
showed the defect.
-/
import WpModel.Model.PdfZoom
import WpModel.Model.ImageCache
import WpModel.Model.DiskCache
import WpModel.Model.WriteState
import WpModel.Model.AttachDates

namespace Wp.Witness.C19
open Wp Wp.CopyPages Wp.PdfZoom

def page20 : Page := ⟨100, 100, ⟨20, 20, 20, 20⟩, [], [], []⟩

/-- Regression for the repaired `bleedbox-cap-not-zoomed` (d924a7c).  `@page { size: 100px; bleed: 20px }`: the bleed is
15 pt at zoom 1 and 30 pt at zoom 2, both above the cap (10 pt × zoom); the BleedBox is `[-10 -10 85 85]` at zoom 1 and
now `[-20 -20 170 170]` at zoom 2 — exactly `2 ×` (it was `[-10 -10 160 160]`).  The general statement is
`C19.bleedBox_zoom` / `C19.zoom_linear`. -/
theorem bleedbox_cap_linear_regression :
    bleedBox 1 page20 = ⟨-10, -10, 85, 85⟩ ∧ bleedBox 2 page20 = ⟨-20, -20, 170, 170⟩ ∧
    mediaBox (scale 2) page20 = ⟨-30, -30, 180, 180⟩ ∧ trimBox (scale 2) page20 = ⟨0, 0, 150, 150⟩ := by
  decide +kernel

section cache
open Wp.ImageCache

def jpegFetcher : Fetcher := fun _ => .ok (some "image/jpeg") none ⟨1, false, some ⟨.jpeg, false, true⟩⟩
def lowQuality : Opts := ⟨false, some 5, none⟩
def defaults : Opts := ⟨false, none, none⟩

/-- Regression for the repaired `image-cache-ignores-options` (bca20a5).  The image key now contains the options the stored bytes depend on: a cache filled by a render with `jpeg_quality=5`
no longer answers a render with default options — that one fetches again and embeds the original JPEG bytes, exactly
as on a cold cache.  The general statement is `C19.cache_transparent` (options may change from call to call) and
`C19.payload_transparent`. -/
theorem cache_honours_options_regression :
    let warm := (getImage jpegFetcher lowQuality [] "u" "" .none).cache
    let k := dataKey (imageId (keyStr "u" .none defaults)) none
    (getImage jpegFetcher defaults warm "u" "" .none).fetched = ["u"] ∧
    lookup (getImage jpegFetcher defaults warm "u" "" .none).cache k = some (.bytes (.orig 1)) ∧
    lookup (getImage jpegFetcher defaults [] "u" "" .none).cache k = some (.bytes (.orig 1)) := by
  decide +kernel

end cache

section state
open Wp.WriteState Wp.CopyPages

/-- Regression for the repaired `stale-link-annotation` (974ea74).  Page 1 links to an anchor `b` that sits on page 2.  Writing the whole document
(PDF 1) stores an annotation on the link's box; writing then the copy of page 1 alone (PDF 2: `b` is not anchored,
`resolve_links` drops the link) no longer tags the box: `generate_pdf` resets the boxes of its page list first.
The general statement is `C19.write_tags_current` / `C19.write_history_independent`. -/
theorem no_stale_annotation_regression :
    let page1 := [(⟨7, .internal, "b"⟩ : BoxLink)]
    let full := write 1 ["b"] page1 []
    full.1 = [(7, 1)] ∧ (write 2 [] page1 full.2).1 = [] ∧ (write 2 [] page1 []).1 = [] := by decide

/-- An image of 64 × 32 embedded twice at 32 × 16 (`dpi`): the second call re-encodes the thumbnail stored by the
first (generation 2 instead of 1); used afterwards at ratio 1 the object declares 64 × 32 with 32 × 16 data.  A fresh
image gives generation 1 / original data.  (Known finding `dpi-thumbnail-replaces-source`.) -/
theorem thumbnail_replaces_source :
    (getXObjects (fresh 64 32) [some (32, 16), some (32, 16), none]).map (fun x => (x.width, x.height, x.data)) =
      [(32, 16, ⟨1, 32, 16⟩), (32, 16, ⟨2, 32, 16⟩), (64, 32, ⟨2, 32, 16⟩)] ∧
    (getXObjects (fresh 64 32) [none]).map (fun x => (x.width, x.height, x.data)) = [(64, 32, ⟨0, 64, 32⟩)] := by
  decide

end state

section disk
open Wp.ImageCache Wp.DiskCache

/-- The discipline hypothesis of `C19.disk_refines_dict` is necessary: an object stored under `k`, then bytes under the
same `k` — a dict answers the bytes, `DiskCache.__getitem__` still answers the object (memory is looked up first).
Not reachable through `get_image_from_uri` (`C19.getImage_stores`), hence not a finding; replayed on the real class by
the `disk-cache` correspondence (`mixed-kinds` cases). -/
theorem diskcache_stale_object :
    let ops : List (String × Entry) := [("k", .image none), ("k", .bytes (.orig 1))]
    (getItem (ops.foldl (fun d e => setItem d e.1 e.2) DiskCache.empty) "k").toOption = some (.image none) ∧
    lookup (ops.foldl (fun c e => ImageCache.insert c e.1 e.2) []) "k" = some (.bytes (.orig 1)) := by decide +kernel

end disk

section attachments
open Wp.AttachDates

/-- An attachment embedded from a URL (`<link rel=attachment>`, `<a rel=attachment>`: no dates, no file name): the same
input, the same `SOURCE_DATE_EPOCH`, rendered one second later — the `/CreationDate` and `/ModDate` of the embedded
file differ, hence the PDF bytes.  (`C19.Attach.attachment_dates_reproducible_partial` without its hypotheses is
therefore false: known finding `attachment-dates-from-wall-clock`.) -/
theorem attachment_dates_follow_the_clock :
    dates ⟨none, none, none, "D:20260930173740Z", some "1600000000"⟩ ≠
      dates ⟨none, none, none, "D:20260930173741Z", some "1600000000"⟩ := by decide +kernel

end attachments

end Wp.Witness.C19
