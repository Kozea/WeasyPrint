/-
C05 (pagination model) — witnesses: natural statements about block stacking / heights that are false of the
layout.
-/
import WpModel.Lemmas.Stacking

namespace Wp.C05PmWitness
open Wp Wp.PM

/-- `<p>a</p><div style="margin-top:-10px"></div><p>b</p>`, 10px lines. -/
def negDoc : Doc :=
  { pageH := 100, rootLtr := true,
    root := .block 0 { plainSt with isRoot := true }
      [.para 1 1 10 plainSt, .block 2 { plainSt with mt := -10 } [], .para 3 1 10 plainSt] }

/-- **An empty block with a negative top margin gets a positive height.** A box that collapses through
keeps `position_y` where its parent handed it while its own `position_y` is moved by the collapsed margin;
`height: auto` is then `position_y − content_box_y = −collapse_margin(adjoining margins)`, and only
`min-height` clamps it from below: with `margin-top: -10px` the empty `<div>` is 10px high (CSS: 0) and
its border box covers the preceding paragraph (a background would be painted over it).
Reproduced on WeasyPrint itself: `<p>a</p><div style="margin-top:-10px"></div><p>b</p>` (10px lines) gives
the div `position_y = 10, margin_top = -10, height = 10`. -/
theorem empty_block_negative_margin_height :
    (paginate negDoc 10).map (fun ps => ps.map (fun p =>
      p.root.kids.map (fun k => (k.isEmpty, k.geo.borderBoxY, k.geo.h)))) =
    some [[(false, 0, 10), (true, 0, 10), (false, 0, 10)]] := by decide +kernel

/-- **With a negative collapsed margin placed children overlap** (the hypothesis of
`C05Pm.no_overlap_partial` is necessary; this is what CSS asks for): in the same document the second
paragraph is pulled up by the −10px margin onto the first one — both border boxes are [0, 10]. -/
theorem negative_margin_overlap :
    (paginate negDoc 10).map (fun ps => ps.map (fun p =>
      p.root.kids.map (fun k => (k.geo.borderBoxY, k.geo.borderBottom)))) =
    some [[(0, 10), (0, 10), (0, 10)]] ∧ ¬ NonNegMargins negDoc.root := by
  refine ⟨by decide +kernel, ?_⟩
  simp only [negDoc, NonNegMargins, NonNegMarginsList, plainSt]
  decide +kernel

/-- **The `auto` height before clamping can be negative even with non-negative margins**: an empty block
with `margin-top: 10px` has `position_y − content_box_y = −10`; `min-height: 0` makes the used height 0
(`tailH0` is the height before clamping, see `C05Pm.unfragmented_height`). -/
theorem auto_height_before_clamp_negative :
    tailH0 { plainSt with mt := 10 } { y := 10, mt := 10, mb := 0, pt := 0, pb := 0, bt := 0, bb := 0 } true 10
      [0, 10] [0, 10] false = -10 ∧
    (finishTail { pageBottom := 100, currentPage := 1, forcedBreak := false } { plainSt with mt := 10 }
      { y := 10, mt := 10, mb := 0, pt := 0, pb := 0, bt := 0, bb := 0 } 0 true false none 10
      [0, 10] [0, 10] true false).geo.h = 0 := by decide +kernel

end Wp.C05PmWitness
