/-
C02 clause (a) "rendering terminates" is false in practice for four nested constructs: the cost of rendering
(function calls beyond the un-nested document, measured on /repo at the three depths each docstring names; the harness
stops counting at `CALL_CAP = 150000`, the last figure of the first witness) is rejected by the growth checker, which
accepts a cost only if it grows at most fourfold from one depth to the next (at depths `2d`, `3d`, `4d` that is every
polynomial cost up to degree 3: `growthOk_polynomial`, Props/C02Extra).
Mirrored by the `finding:` lines nested-flex-exponential, nested-grid-exponential, nested-columns-exponential,
nested-padded-inline-exponential (replay functions in py/harness/c02_total.py; exact outcomes in corpus/C02/growth_known.json).
-/
import WpModel.Model.C02Extra

namespace Wp.Witness.C02Growth
open Wp.C02x

/-- `<span style="padding:1px">` nested 6, 9, 12 deep: 9788, 61124, more than 150000 calls. -/
theorem nested_padded_inline_rejected : growthOk 9788 61124 150000 = false := by decide

/-- `display:grid` nested 3, 6, 9 deep around one word: 7534, 52386, 393930 calls (doubling per level). -/
theorem nested_grid_rejected : growthOk 7534 52386 393930 = false := by decide

/-- `display:flex` nested 2, 4, 6 deep: 5354, 43598, 377730 calls (x3 per level). -/
theorem nested_flex_rejected : growthOk 5354 43598 377730 = false := by decide

/-- `columns:2` nested 1, 2, 3 deep: 3475, 18224, 128252 calls (x6 per level). -/
theorem nested_columns_rejected : growthOk 3475 18224 128252 = false := by decide

/-- The same checker accepts what tables cost on the same tree (linear). -/
example : growthOk 19566 16593 23028 = true := by decide

end Wp.Witness.C02Growth
