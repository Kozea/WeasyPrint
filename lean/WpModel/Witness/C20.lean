/-
C20 — negation witnesses: concrete inputs on which the *full-strength* statement is false of the
model (and, replayed by the harness on every run, of the implementation).  Each is listed in
known_findings.txt with the same id as the `finding_replays` entry of py/props/c20.py.
-/
import WpModel.Model.Resources
import WpModel.Model.ResourcesDoc

namespace Wp.Witness.C20
open Wp Wp.Res

def pngRgb : Content := ⟨1, false, some ⟨"PNG", "RGB", false, false, true⟩, false, true, false⟩
def xhtml : Content := ⟨21, true, none, false, true, false⟩
def garbage : Content := ⟨25, false, none, false, true, false⟩

/-- A custom fetcher serving `file:///data/a.png` from memory. -/
def memoryFetcher : Fetcher := fun _ => .resp ⟨true, none, some "image/png", none, pngRgb⟩
def fileReq : Req := ⟨"file:///data/a.png", .fromImage, none⟩

/-- `Except Exc α` has no decidable equality; a successful result is compared through `toOption`, which the
kernel can evaluate. -/
private theorem eq_ok_of_toOption {α} {x : Except Exc α} {v : α} (h : x.toOption = some v) : x = .ok v := by
  cases x with
  | error e => cases h
  | ok w => cases h; rfl

/-- finding `lazy-local-image-reread` (F19).  The image served from memory for a `file:` URL keeps
only the path (`LazyLocalImage`).  When the PDF is written the path is opened behind the fetcher's
back: with no such file, `FileNotFoundError`; with another file there, *its* bytes are embedded.
(So `bytes_from_fetcher` without the scheme hypothesis is false.) -/
theorem lazy_local_reread :
    (getImage [] memoryFetcher ⟨false, none, none⟩ fileReq).2.2 = .ok (some (.raster "PNG" (.lazyLocal "/data/a.png") 1)) ∧
    opensAtWrite (.raster "PNG" (.lazyLocal "/data/a.png") 1) = ["/data/a.png"] ∧
    dataAtWrite (fun _ => none) (.raster "PNG" (.lazyLocal "/data/a.png") 1) =
      .error ⟨"FileNotFoundError", "/data/a.png"⟩ ∧
    dataAtWrite (fun _ => some 99) (.raster "PNG" (.lazyLocal "/data/a.png") 1) = .ok (.fileBytes 99) :=
  ⟨eq_ok_of_toOption (by decide +kernel), rfl, rfl, rfl⟩

/-- The same through `redirected_url`: an `http:` image whose fetcher reports a `file:` location. -/
theorem lazy_local_reread_redirect :
    (getImage [] (fun _ => .resp ⟨true, none, none, some "file:///cache/x.png", pngRgb⟩) ⟨false, none, none⟩
      ⟨"http://a.test/x.png", .fromImage, none⟩).2.2 = .ok (some (.raster "PNG" (.lazyLocal "/cache/x.png") 1)) :=
  eq_ok_of_toOption (by decide +kernel)

/-- finding `read-error-not-funnelled`.  A `file_obj` whose `read()` raises (connection reset,
truncated gzip stream: `EOFError`) is not covered by `except (URLFetchingError, ImageLoadingError)`:
the exception leaves `get_image_from_uri` (and the render).  So `image_total` without the
`absorbed` hypothesis is false. -/
theorem read_error_escapes :
    (getImage [] (fun _ => .resp ⟨false, some ⟨some ⟨"EOFError", "Compressed file ended"⟩, false⟩, some "image/png",
        none, pngRgb⟩) ⟨false, none, none⟩ ⟨"http://a.test/x.png", .fromImage, none⟩).2.2 =
      .error ⟨"EOFError", "Compressed file ended"⟩ := rfl

/-- The same hole in the stylesheet loader: the `<link>` below makes `find_stylesheets` raise, while
the document without it (or with a fetcher that raises *at call time*) is fine. -/
theorem stylesheet_read_error_escapes :
    let link (f : Fetched) : StyleEl :=
      ⟨true, none, none, some "stylesheet", some "http://a.test/s.css", none, [], .mk f [.rule 1]⟩
    (findStylesheets "print" [link (.resp ⟨false, some ⟨some ⟨"OSError", "reset"⟩, false⟩, some "text/css", none,
        garbage⟩)]).err = some ⟨"OSError", "reset"⟩ ∧
    (findStylesheets "print" [link (.raises ⟨"OSError", "reset"⟩)]).err = none ∧
    (findStylesheets "print" []).err = none := by decide +kernel

/-- … and in `write_pdf_attachment` (reached at `write_pdf` time). -/
theorem attachment_read_error_escapes :
    (writeAttachment (fun _ => .resp ⟨false, some ⟨some ⟨"OSError", "reset"⟩, false⟩, none, none, garbage⟩)
      "http://a.test/a.bin").2 = .error ⟨"OSError", "reset"⟩ ∧
    (writeAttachment (fun _ => .raises ⟨"OSError", "reset"⟩) "http://a.test/a.bin").2 = .ok none := ⟨rfl, rfl⟩

/-- finding `xml-accepted-as-image`.  "HTML instead of an image": when the HTML happens to be
well-formed XML, the last-chance branch builds an `SVGImage` from it — under any MIME type — so the
`<img>` becomes a (blank, 300×150) replaced box instead of its alt text. -/
theorem xml_accepted_as_image :
    (getImage [] (fun _ => .resp ⟨true, none, some "text/html", none, xhtml⟩) ⟨false, none, none⟩
      ⟨"http://a.test/x.png", .fromImage, none⟩).2.2 = .ok (some (.svg 21)) ∧
    handleImg (some "http://a.test/x.png") (some "ALT") (some (.svg 21)) = [.replaced] ∧
    handleImg none (some "ALT") none = [.altText "ALT"] := ⟨rfl, by decide, by decide⟩

/-- Repaired finding `svg-image-without-href` (799e002), regression on the same input.  Drawing
`<svg><image width=… height=…/></svg>` (an `<image>` without `href`) used to call `get_image_from_uri(url=None)`:
the fetcher was handed `None` and `'None from-image'` became a cache key.  Now nothing is fetched and nothing cached
(the general statement is `Wp.C20.Trace.drawObject_within`: every URL asked for is the `href` of an element). -/
theorem svg_image_without_href_fetches_nothing :
    (Svg.drawObject (fun _ => .raises ⟨"LookupError", "unknown"⟩) ⟨false, none, none⟩ [(7, [.image none])] 3 [] [] "k" 7) =
      ([], [], false) := rfl

theorem svg_image_without_href_skipped (fetcher : Fetcher) (opts : Opts) (deeper : Cache → String → Nat → Svg.DrawOut)
    (cache : Cache) (rest : List Doc.SvgItem) :
    Svg.drawItems fetcher opts deeper cache (.image none :: rest) = Svg.drawItems fetcher opts deeper cache rest ∧
    Svg.drawItems fetcher opts deeper cache (.image (some "") :: rest) = Svg.drawItems fetcher opts deeper cache rest := by
  constructor <;> simp [Svg.drawItems]

/-- finding `svg-use-bypasses-fetch`.  An external `<use href="other.svg#a">` calls the fetcher directly
(`svg.url_fetcher(url)`), not through `fetch`: the file object it returns is never closed (compare
`fetch_funnel_closes_once`), and the response is passed as a dict to `SVG(…)`, which always fails, so the
reference can never be shown. -/
theorem svg_use_never_closes :
    let fetcher : Fetcher := fun _ => .resp ⟨false, some ⟨none, false⟩, some "image/svg+xml", none, xhtml⟩
    (Svg.drawObject fetcher ⟨false, none, none⟩ [(7, [.useExternal "http://a.test/o.svg#a"])] 3 [] [] "k" 7).2.1 =
      [.call "http://a.test/o.svg#a"] ∧
    (fetch (fetcher "http://a.test/o.svg#a") "http://a.test/o.svg#a" readAll).1 =
      [.call "http://a.test/o.svg#a", .body, .close] := ⟨rfl, rfl⟩

/-- `@import` chains addressed by URL (a graph, unlike the tree of `Sheet`): the URLs fetched when the
sheet at `url` is loaded, with `fuel` bounding the Python recursion depth. -/
def importFetches (imports : String → List String) : Nat → String → Except Exc (List String)
  | 0, _ => .error ⟨"RecursionError", "maximum recursion depth exceeded"⟩
  | fuel + 1, url =>
    (imports url).foldlM (fun acc u => (importFetches imports fuel u).map (acc ++ ·)) [url]

/-- finding `import-cycle-recursion`.  A stylesheet that imports itself (or any `@import` cycle) is
fetched again and again — nothing remembers the URLs being imported — until Python's recursion limit:
`RecursionError`, whatever the limit, escapes from `find_stylesheets` and aborts the render. -/
theorem import_cycle_never_terminates (fuel : Nat) :
    importFetches (fun _ => ["http://a.test/a.css"]) fuel "http://a.test/a.css" =
      .error ⟨"RecursionError", "maximum recursion depth exceeded"⟩ := by
  induction fuel with
  | zero => rfl
  | succ n ih => simp [importFetches, List.foldlM, ih, Except.map, bind, Except.bind]

/-- Repaired finding `svg-self-reference-hang` (9598d29), regression on the same input (the model of the drawing
itself, with the general termination theorem, is `Svg.drawObject` / `Wp.C20.Svg.svg_drawing_terminates`).  Number of
`SVGImage.draw` calls for an SVG with `k` `<image>` elements that point at the SVG itself (same URL and orientation:
the cache returns the same `SVGImage` object), with the `_drawing` flag of that object and the recursion cut at depth
`n`.  Before the repair each level drew its `k` elements again (`1 + k * draws n`, at least `2 ^ n` for `k = 2`, with
Python's limit of 1000 frames the drawing never finished); now every nested call returns at once. -/
def selfDraws (k : Nat) : Bool → Nat → Nat
  | true, _ => 1                 -- `if self._drawing: LOGGER.error(…); return`
  | false, 0 => 1
  | false, n + 1 => 1 + k * selfDraws k true n

theorem svg_self_reference_linear (k n : Nat) : selfDraws k false (n + 1) = 1 + k := by
  simp [selfDraws]

end Wp.Witness.C20
