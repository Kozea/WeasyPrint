/-
Regression theorems for the seven defects of multi-column containers that were recorded as findings of C01 / C02 /
C03 / C05 and have been repaired in /repo (`fixed:` lines of `known_findings.txt`).  Each used to be a witness
refuting a clause on a concrete document (`corpus/C01/colspan_*.json`, `corpus/C03/columns_negative_margin_bottom.json`,
`corpus/C05/columns_margin_top_ignored.json`, `corpus/C01/colspan_block_resume_*.json`); the same documents now
show the correct behaviour, in the model (`Model/PaginateCol.lean`, which follows the repaired code) and — replayed
by the corpus-first cases of `py/harness/pm_col_corr.py` — in the real layout.  The general statements are
`Props/C01Col.lean` (`pages_conserve`, nothing asked of spanning children), `Props/C03Col.lean` (`page_progress`),
`Props/C03GeoCol.lean` (`paginate_line_fits`, nothing asked of the container's bottom margin).
-/
import WpModel.Lemmas.ColSegPages
import WpModel.Lemmas.ColGeo

namespace Wp.Witness.C01Col
open Wp Wp.PM Wp.PMC

def st0 : PStyle :=
  { mt := 0, mb := 0, pt := 0, pb := 0, bt := 0, bb := 0, height := none, minH := 0, maxH := none,
    brkBefore := .auto, brkAfter := .auto, brkInside := .auto, clone := false, page := "", orphans := 1, widows := 1,
    isRoot := false }

def shownLines : PagesOut → Option (List (List (Nat × Nat)))
  | .ok ps => some (ps.map fun (p : CPage) => PMC.fragLines p.root)
  | _ => none

/-- Does the pagination (when it returns pages) show exactly the lines of the document? -/
def conservesB (d : CDoc) (fuel : Nat) : Bool :=
  match paginateCol d fuel with
  | .ok pages => decide (PMC.pagesLines pages = PMC.linesFrom d.root none)
  | _ => true

/-! ### 1. `column-span-loses-following-content` (fixed by b24b457)

`<body style="margin-top:8px"><div style="column-count:2;column-gap:0;column-fill:auto"><p>9 lines of 12px</p>
<p style="column-span:all">1 line</p></div>` on 192×72px pages.  The 9 lines fit in two columns of 64px (5 + 4);
the balancing loop reaches `max_height` and sets `stop_rendering`.  The loop over the groups used to stop there with
`resume_at = None`: the spanning paragraph was on no page.  It now stops only when the group really continues
(`break_page or column_skip_stack is not None`): the span is laid out next, does not fit, and opens page 2. -/
def spanLost : CDoc :=
  { pageH := 72, rootLtr := true,
    root := .block 9 { st0 with isRoot := true }
      [.block 8 { st0 with mt := 8 }
        [.columns 7 st0 { count := 2, balance := false, ltr := true, width := 192 } [false, true]
          [.para 1 9 12 st0,
           .para 6 1 12 st0]]] }

theorem span_keeps_following_content :
    shownLines (paginateCol spanLost 30) =
      some [[(1, 0), (1, 1), (1, 2), (1, 3), (1, 4), (1, 5), (1, 6), (1, 7), (1, 8)], [(6, 0)]] ∧
    conservesB spanLost 30 = true := by
  decide +kernel

/-! ### 2. `column-group-dropped-span-duplicated` (fixed by b24b457)

Container `height:40px; column-count:1; column-fill:auto` holding: an empty spanning block with a 1px bottom
border, a paragraph `min-height:40px`, a spanning paragraph; 140px pages.  The column of the paragraph cannot be
rendered after the first span (`new_child is None`: `columns = []; break_page = True`).  The loop used to go on with
the second span and to compute `{index: None}` with the index of that *last* item (paragraph 4 on no page, span 5 on
two).  It now stops at the group: page 1 shows the first span, page 2 the paragraph and the second span. -/
def groupDropped : CDoc :=
  { pageH := 140, rootLtr := true,
    root := .block 14 { st0 with isRoot := true }
      [.block 13 st0
        [.columns 6 { st0 with height := some 40 } { count := 1, balance := false, ltr := true, width := 192 }
          [true, false, true]
          [.block 3 { st0 with bb := 1 } [],
           .para 4 1 20 { st0 with minH := 40 },
           .para 5 1 20 st0]]] }

theorem group_resumed_span_once :
    shownLines (paginateCol groupDropped 30) = some [[], [(4, 0), (5, 0)]] ∧
    conservesB groupDropped 30 = true := by
  decide +kernel

/-! ### 3. `find-earlier-break-in-columns-attribute-error` (fixed by 3162604)

A container holding one spanning paragraph of 5 lines, followed by a block `break-before: avoid` that does not
fit: `find_earlier_page_break` used to go into the container and to read `.index` of its children (which have
none): `AttributeError`.  A container is no longer looked into; no earlier break exists, the block goes to page 2. -/
def attrErr : CDoc :=
  { pageH := 90, rootLtr := true,
    root := .block 11 { st0 with isRoot := true }
      [.block 10 st0
        [.columns 9 st0 { count := 1, balance := false, ltr := true, width := 192 } [true]
          [.para 8 5 10 { st0 with mb := 4 }],
         .block 4 { st0 with mt := 5, pt := 10, brkBefore := .avoid }
          [.block 3 st0
            [.para 1 2 10 { st0 with pt := 2, orphans := 2 }]]]] }

theorem find_earlier_total :
    shownLines (paginateCol attrErr 30) = some [[(8, 0), (8, 1), (8, 2), (8, 3), (8, 4)], [(1, 0), (1, 1)]] := by
  decide +kernel

/-! ### 4. `columns-negative-margin-bottom-overflow` (fixed by 94e08d4)

`block_box_layout` lays a finished container out a second time with `bottom_space += margin_bottom +
padding_bottom + border_bottom_width`; with `margin-bottom: -18px` the bottom space used to *shrink* by 18px and on
81px pages the tenth line was placed at y = 81 (bottom 90).  The second layout now only happens for a positive sum:
no line that is not first on its page or in its column ends below the page bottom. -/
def negMargin : CDoc :=
  { pageH := 81, rootLtr := true,
    root := .block 10 { st0 with isRoot := true }
      [.block 9 st0
        [.columns 8 { st0 with mb := (-18) } { count := 2, balance := false, ltr := true, width := 192 } [false, false]
          [.para 2 1 9 st0,
           .block 5 st0
            [.para 3 9 9 st0]]]] }

/-- Lines (paragraph, line, bottom) that are not exempt and end below the page bottom (with the fudge factor). -/
def overflowingLines (lh : Nat → Rat) (d : CDoc) (fuel : Nat) : List (Nat × Nat × Rat) :=
  match paginateCol d fuel with
  | .ok ps => ps.flatMap fun (p : CPage) =>
      ((PMC.placedLines lh p.root true).filter fun l =>
        !l.exempt && decide (l.y + l.lineH > d.pageH * (1 + 1 / 1000000000))).map fun l => (l.para, l.line, l.y + l.lineH)
  | _ => []

theorem container_negative_margin_fits :
    overflowingLines (fun _ => 9) negMargin 30 = [] ∧ conservesB negMargin 30 = true := by decide +kernel

/-- The document satisfies the hypotheses of `C03GeoCol.paginate_line_fits`, which ask nothing of the container's
negative bottom margin. -/
example : PMC.DecoOk negMargin.root ∧ LhOk (fun _ => (9 : Rat)) negMargin.root := by
  constructor
  · simp only [negMargin, st0, PMC.DecoOk, PMC.DecoOkList, PStyle.DecoOk]
    decide +kernel
  · simp [negMargin, LhOk, LhOkList]

/-! ### 5. `columns-margin-top-ignored` (C05; fixed by 9436248)

`columns_layout` did `box.position_y += collapse_margin(adjoining_margins) - box.margin_top` without the box's own
top margin in the list: after a 10px paragraph, a container with `margin-top: 10px` had its border box at y = 10.
It is now at y = 20, like the same box without `column-count`. -/
def afterPara (container : Bool) : CDoc :=
  { pageH := 100, rootLtr := true,
    root := .block 9 { st0 with isRoot := true } [.block 8 st0
      [.para 1 1 10 st0,
       if container then
         .columns 4 { st0 with mt := 10 } { count := 2, balance := true, ltr := true, width := 192 } [false]
           [.para 2 2 10 st0]
       else .block 4 { st0 with mt := 10 } [.para 2 2 10 st0]]] }

/-- Top of the border box (`position_y + margin_top`) of the children of `<body>` on each page. -/
def borderTops : PagesOut → List (List Rat)
  | .ok ps => ps.map fun (p : CPage) => (p.root.kids.flatMap (·.kids)).map fun f => f.geo.y + f.geo.mt
  | _ => []

theorem container_margin_top_collapses :
    borderTops (paginateCol (afterPara true) 10) = [[0, 20]] ∧
    borderTops (paginateCol (afterPara false) 10) = [[0, 20]] := by decide +kernel

/-! ### 6. `column-span-block-resume-mislevelled` (C01) / `column-span-block-resume-crash` (C02), fixed by d7e3d63

`columns:2 > [div column-span:all [p 2 lines, p 4 lines], p 4 lines]` on 192×40px pages.  The spanning block is
cut after line 2 of its second paragraph; its resume position `{1: {0: line 2}}` used to be stored as
`{0 + 1: {0: line 2}}` — the container was resumed at its *second child* with the stack of a grandchild (4 of 10
lines lost; with other line counts an IndexError in the inline layout).  The stack is now wrapped
(`column_skip_stack = {0: resume_at}`) and handed back one level down (`skip_stack[0]`). -/
def spanBlock (n1 n2 n3 : Nat) : CDoc :=
  { pageH := 40, rootLtr := true,
    root := .block 9 { st0 with isRoot := true }
      [.block 8 st0
        [.columns 7 st0 { count := 2, balance := true, ltr := true, width := 192 } [true, false]
          [.block 5 st0 [.para 1 n1 10 st0, .para 2 n2 10 st0],
           .para 3 n3 10 st0]]] }

theorem span_block_resumed_at_own_level :
    shownLines (paginateCol (spanBlock 2 4 4) 40) =
      some [[(1, 0), (1, 1), (2, 0), (2, 1)], [(2, 2), (2, 3), (3, 0), (3, 1), (3, 2), (3, 3)]] ∧
    conservesB (spanBlock 2 4 4) 40 = true := by decide +kernel

theorem span_block_resume_total :
    shownLines (paginateCol (spanBlock 1 5 1) 40) =
      some [[(1, 0), (2, 0), (2, 1), (2, 2)], [(2, 3), (2, 4), (3, 0)]] ∧
    conservesB (spanBlock 1 5 1) 40 = true := by decide +kernel

end Wp.Witness.C01Col
