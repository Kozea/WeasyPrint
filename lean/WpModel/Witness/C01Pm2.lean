/-
Witness: full conservation (`C01.pages_conserve`) is false as soon as a box has a fixed `height`
(known finding `fixed-height-forgets-overflow`): `forgetIfFixed` drops the resume position of a fixed-height
box whose content position has passed the bottom of the box.
-/
import WpModel.Props.C01Pm2

namespace Wp.Witness.C01Pm2
open Wp Wp.PM

/-- A 5-line paragraph (line height 10) with `height: 10px`, followed by a 3-line paragraph, on 25px pages.
Page 1 shows lines 0–1 of the first paragraph; the paragraph stops before line 2, but since its content
position (20) is below the bottom of its fixed-height box (10) the resume position is forgotten: lines 2, 3, 4
are never shown, and the second paragraph starts on the same page (at y = 10, over line 1). -/
def lossDoc : Doc := _root_.Wp.C01Pm2.lossDoc

theorem fixed_height_loses_lines :
    (paginate lossDoc 20).map (fun ps => (ps.map (fun p => fragLines p.root)).flatten) =
      some [(1, 0), (1, 1), (2, 0), (2, 1), (2, 2)] ∧
    linesFrom lossDoc.root none = [(1, 0), (1, 1), (1, 2), (1, 3), (1, 4), (2, 0), (2, 1), (2, 2)] :=
  by decide +kernel

/-- Hence `C01.pages_conserve` cannot drop its hypothesis `NoFixedHeight`. -/
theorem pages_conserve_needs_no_fixed_height :
    ¬ ∀ (d : Doc), WellFormed d.root → ∀ fuel pages, paginate d fuel = some pages →
      (pages.map (fun p => fragLines p.root)).flatten = linesFrom d.root none := by
  intro h
  have hw : WellFormed lossDoc.root := by
    simp [lossDoc, _root_.Wp.C01Pm2.lossDoc, WellFormed, WellFormedList, C01.exStyle]
  cases hp : paginate lossDoc 20 with
  | none =>
    have := fixed_height_loses_lines.1
    rw [hp] at this; cases this
  | some pages =>
    have h1 := h lossDoc hw 20 pages hp
    have h2 := fixed_height_loses_lines
    rw [hp] at h2
    simp only [Option.map_some, Option.some.injEq] at h2
    rw [h2.1, h2.2] at h1
    exact absurd h1 (by decide)

/-- The lost lines are exactly lines of the fixed-height paragraph (`Wp.C01Pm2.lost_only_under_fixed_height`). -/
theorem lost_lines_are_fixed :
    _root_.Wp.C01Pm2.fixedLines lossDoc.root = [(1, 0), (1, 1), (1, 2), (1, 3), (1, 4)] := by decide +kernel

/-- The same with a fixed-height *block*: its children that do not fit on the page where it starts are lost
(whole paragraphs 4 and 5). -/
def lossDoc2 : Doc :=
  { pageH := 25, rootLtr := true,
    root := .block 0 { C01.exStyle with isRoot := true }
      [.block 3 { C01.exStyle with height := some 10 }
        [.para 1 2 10 C01.exStyle, .para 4 2 10 C01.exStyle, .para 5 1 10 C01.exStyle],
       .para 2 3 10 C01.exStyle] }

theorem fixed_height_block_loses_children :
    (paginate lossDoc2 20).map (fun ps => (ps.map (fun p => fragLines p.root)).flatten) =
      some [(1, 0), (1, 1), (2, 0), (2, 1), (2, 2)] ∧
    linesFrom lossDoc2.root none = [(1, 0), (1, 1), (4, 0), (4, 1), (5, 0), (2, 0), (2, 1), (2, 2)] :=
  by decide +kernel

/-- Why `C01Pm2.checker_accepts_pm` asks for pairwise distinct paragraph ids (the harness numbers the boxes):
with two paragraphs carrying the same id the words coincide and the trace checker — rightly, on what it is
shown — reports both groups, although PM conserved every line. -/
def dupDoc : Doc :=
  { pageH := 25, rootLtr := true,
    root := .block 0 { C01.exStyle with isRoot := true } [.para 7 1 10 C01.exStyle, .para 7 1 10 C01.exStyle] }

theorem duplicate_ids_are_flagged :
    (paginate dupDoc 10).map (fun ps => Trace.badGroups (groupsOf dupDoc) (pageWordsOf ps)) = some [0, 1] ∧
    (paginate dupDoc 10).map (fun ps => (ps.map (fun p => fragLines p.root)).flatten) =
      some (linesFrom dupDoc.root none) :=
  by decide +kernel

end Wp.Witness.C01Pm2
