/-
Witness (reproduced on the real WeasyPrint, whose output equals the model's on these documents): **stale
`next_page` from a discarded child
layout**. `_in_flow_layout` keeps the `next_page` returned by `block_level_layout(child)` even when it then
discards the child's fragment because it does not fit (`new_child = None`) and the page is broken somewhere
else (before the child, or at an earlier opportunity found by `find_earlier_page_break`). If the discarded
layout had stopped at a forced `break-before: right` *inside* the child, the page-maker receives
`next_page = {break: 'right'}` for a page break that is not that forced break: blank pages are inserted
where no break value asks for one, and the fragments of a paragraph end up on non-consecutive pages.
-/
import WpModel.Props.C01Pm2
import WpModel.Props.C03Pm2

namespace Wp.Witness.C03Pm2
open Wp Wp.PM

/-- 45px pages. `P` = paragraph of 3 lines; then `Q` = block with `break-before: avoid` holding a one-line
paragraph and a paragraph with `break-before: right`. `Q` is given the style `q`. -/
def doc (q : PStyle) : Doc :=
  { pageH := 45, rootLtr := true,
    root := .block 0 { C01.exStyle with isRoot := true }
      [.para 1 3 10 C01.exStyle,
       .block 2 q [.para 3 1 10 C01.exStyle, .para 4 1 10 { C01.exStyle with brkBefore := .right }]] }

/-- Per page: right page?, blank?, lines shown. -/
def summary (d : Doc) : Option (List (Bool × Bool × List (Nat × Nat))) :=
  (paginate d 30).map (fun ps => ps.map (fun p => (p.type.right, p.type.blank, fragLines p.root)))

/-- Per page: is the pending `next_page.break` handed to the next page `right`? -/
def pendingRight (d : Doc) : Option (List Bool) :=
  (paginate d 30).map (fun ps => ps.map (fun p => p.nextPage.brk == some .right))

/-- The sane case (`Q` fits): three pages — `P` and the first line of `Q`; the blank left page the
`break-before: right` demands; the last paragraph on a right page. -/
theorem sane : summary (doc { C01.exStyle with brkBefore := .avoid }) =
      some [(true, false, [(1, 0), (1, 1), (1, 2), (3, 0)]), (false, true, []), (true, false, [(4, 0)])] ∧
    pendingRight (doc { C01.exStyle with brkBefore := .avoid }) = some [true, true, false] :=
  by decide +kernel

/-- `Q` with `height: 100px` (taller than the page): its first layout stops at the forced break inside it
(`next_page.break = right`), is discarded because the fixed-height box overflows, `break-before: avoid` sends
the break to the earlier opportunity inside `P` — and the page-maker still gets `break: right`. Seven pages,
three of them blank; the first blank page follows a page that ended *inside paragraph `P`*, between its lines
1 and 2, where nothing asks for a right page; the same stale value is produced again on pages 3 and 5. -/
theorem stale_next_page_fixed_height :
    summary (doc { C01.exStyle with brkBefore := .avoid, height := some 100 }) =
      some [(true, false, [(1, 0), (1, 1)]), (false, true, []), (true, false, [(1, 2)]), (false, true, []),
        (true, false, [(3, 0)]), (false, true, []), (true, false, [(4, 0)])] ∧
    pendingRight (doc { C01.exStyle with brkBefore := .avoid, height := some 100 }) =
      some [true, true, true, true, true, true, false] :=
  by decide +kernel

/-- The same without any fixed height (so within the hypotheses of `C01.pages_conserve`): `Q` with
`box-decoration-break: clone` and `margin-bottom: -50px`, whose stretched fragment overflows. -/
def q2 : PStyle := { C01.exStyle with brkBefore := .avoid, clone := true, mb := -50 }

theorem stale_next_page :
    summary (doc q2) =
      some [(true, false, [(1, 0), (1, 1)]), (false, true, []), (true, false, [(1, 2)]), (false, true, []),
        (true, false, [(3, 0)]), (false, true, []), (true, false, [(4, 0)])] ∧
    pendingRight (doc q2) = some [true, true, true, true, true, true, false] :=
  by decide +kernel

theorem stale_doc_hypotheses : NoFixedHeight (doc q2).root ∧ WellFormed (doc q2).root ∧ UniqueParaIds (doc q2).root := by
  refine ⟨?_, ?_, ?_⟩
  · simp [doc, q2, NoFixedHeight, NoFixedHeightList, C01.exStyle]
  · simp [doc, q2, WellFormed, WellFormedList, C01.exStyle]
  · simp [UniqueParaIds, doc, paras, parasList]

/-- Consequences. (1) Content is conserved (`C01.pages_conserve` applies) and the conservation checker accepts
(`C01Pm2.checker_accepts_pm`), but the *consecutive pages* checker `Trace.scatteredGroups` rejects paragraph
`P` (group 0): its fragments are on pages 0 and 2. So clause (d) of C01 ("fragments of each element on
consecutive pages") is false of the code on the PM fragment, and the C01 trace checker's rejection here is a
genuine finding, not a false alarm. (2) C03's "every page shows new content or is a blank page required by a
left/right/recto/verso break" fails for pages 1, 3: no break value meets between lines 1 and 2 of `P`. -/
theorem scattered_paragraph :
    (paginate (doc q2) 30).map (fun ps => Trace.badGroups (groupsOf (doc q2)) (pageWordsOf ps)) = some [] ∧
    (paginate (doc q2) 30).map (fun ps => Trace.scatteredGroups (groupsOf (doc q2)) (pageWordsOf ps)) = some [0] ∧
    (paginate (doc q2) 30).map (fun ps => Trace.pagesOf (paraWords (1, 3)) (pageWordsOf ps)) = some [0, 2] :=
  by decide +kernel

/-- The resume position handed over by page 0 is inside paragraph `P` (line 2), and the pending break is
`right`. -/
theorem page0_state :
    (paginate (doc q2) 30).map (fun ps => ps.head?.map (fun p =>
      (skipIdxOf p.resume, skipIdxOf (subSkipOf p.resume), skipLine (subSkipOf (subSkipOf p.resume)),
        p.nextPage.brk == some .right))) = some (some (0, 0, 2, true)) := by decide +kernel

/-- The document has 10 boxes: the 7 pages of `stale_next_page` are within the bound `2·10 + 2` of
`C03Pm2.page_count_bound`. -/
theorem bound_still_holds : size (doc q2).root = 10 := by
  simp [doc, size, sizeList]

end Wp.Witness.C03Pm2
