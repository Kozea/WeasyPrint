/-
C09 — witnesses: clauses of the property that are false of the current code, on concrete inputs
(each mirrored by a `finding:` line of known_findings.txt and a replay function of py/props/c09.py),
regression theorems for the repaired findings (the now-correct behaviour on the old witness input),
and a text on which the result of `split_first_line` depends on its prefix heuristic: why `heuristic_transparent`
needs a hypothesis on the text when `white-space` wraps and the width is finite.
-/
import WpModel.Model.LineBreak
import WpModel.Model.InlineRun
import WpModel.Model.LineVertical
import WpModel.Model.LineFloats

namespace Wp.Witness.C09
open Wp Wp.Py Wp.Pango Wp.LB

def normalStyle (wb : WB) (ow : OW) : Style := { ws := .normal, wb := wb, ow := ow, fs := 10 }

/-- finding `break-all-hyphen-width`: `word-break: break-all`, font-size 10px, 25px available, text
`aaaaaaa`: the first line holds one character (width 10) although two fit (20 ≤ 25) — first-fit
maximality is false.  Step 5 re-wraps with WRAP_CHAR while Pango's automatic hyphens are still on,
so the width of a hyphen that is never drawn is charged at the in-word break. -/
theorem break_all_line_not_maximal :
    (splitFirstLine (normalStyle .breakAll .normal) "aaaaaaa".toList (.fin 25) true false).toOption
      = some { length := 1, resume := some 1, width := 10, text := "a".toList }
    ∧ ((2 : Rat) * 10 ≤ 25) := by
  decide +kernel

/-- the same text under `overflow-wrap: anywhere` (hyphens off) gets the two characters that fit -/
theorem anywhere_line_is_maximal :
    (splitFirstLine (normalStyle .normal .anywhere) "aaaaaaa".toList (.fin 25) true false).toOption
      = some { length := 2, resume := some 2, width := 20, text := "aa".toList } := by
  decide +kernel

/-- regression of the repaired finding `negative-width-unbroken` (fix 3c674e2): `overflow-wrap: anywhere`
with a negative available width (`text-indent` larger than the block).  `int(max_width * 1024) < 0`
meant "no width" to Pango and the whole text `aa b cc` stayed on one line (width 70); the width is now
clamped to 0 and the line is broken down to the smallest unit, one character. -/
theorem negative_width_line_broken :
    (splitFirstLine (normalStyle .normal .anywhere) "aa b cc".toList (.fin (-10)) true false).toOption
      = some { length := 1, resume := some 1, width := 10, text := "a".toList } := by
  decide +kernel

/-- … and with `overflow-wrap: normal` the same call still breaks after the first word -/
theorem negative_width_normal_breaks :
    (splitFirstLine (normalStyle .normal .normal) "aa b cc".toList (.fin (-10)) true false).toOption
      = some { length := 2, resume := some 3, width := 20, text := "aa".toList } := by
  decide +kernel

/-- the step-5 layout always has a width now: a negative available width behaves like width 0 -/
theorem step5_width_never_unconstrained (lay : Layout) (text : Text) (W : Rat) :
    (step5Layout lay text W).width ≠ none := by
  simp [step5Layout]

theorem step5_negative_width_is_zero (lay : Layout) (text : Text) (W : Rat) (h : W ≤ 0) :
    step5Layout lay text W = step5Layout lay text 0 := by
  have hm : max 0 W = max 0 (0 : Rat) := by
    rw [Rat.max_def, Rat.max_def]
    split <;> split <;> grind
  simp only [step5Layout, hm]

/-- `heuristic_transparent` is false for arbitrary texts under a wrapping `white-space` and a finite width:
with a space before a preserved newline under a collapsing `white-space` (a text `process_whitespace` never
produces) the result depends on the speed heuristic — the prefix `aaa \n` is handed to Pango and the newline is
consumed (`resume_index = 5`), the whole text is not and it is left for the next line (`resume_index = 4`). -/
theorem heuristic_not_transparent_with_space_before_newline :
    (splitFirstLineH true { ws := .normal, wb := .normal, ow := .breakWord, fs := 30 }
        "aaa \n aaaa".toList (.fin (195 / 2)) true false).toOption
      = some { length := 3, resume := some 5, width := 90, text := "aaa".toList } ∧
    (splitFirstLineH false { ws := .normal, wb := .normal, ow := .breakWord, fs := 30 }
        "aaa \n aaaa".toList (.fin (195 / 2)) true false).toOption
      = some { length := 3, resume := some 4, width := 90, text := "aaa".toList } := by
  decide +kernel

/-! ### nested inline boxes (`Model/InlineRun`) -/

def inlinePara (width : Rat) (kids : List IR.Node) : IR.Para :=
  { st := { ws := .normal, wb := .normal, ow := .normal, fs := 10 }, kids := kids, lineHeight := 10,
    cbx := 0, width := width, indent := 0,
    align := { alignAll := .start, alignLast := none, ws := .normal, rtl := false }, y := 0 }

def lineWidths (p : IR.Para) : Option (List Rat) := (IR.paragraph p).toOption.map (·.map (·.w))

/-- finding `inline-start-spacing-overflow`: `<span style="padding-left:30px">aaa bbb ccc</span>` in a
90px block: the first line (`aaa bbb`, breakable) is 100px wide. -/
theorem inline_start_spacing_overflows :
    lineWidths (inlinePara 90 [.box 30 0 true [.text "aaa bbb ccc".toList]]) = some [100, 30] := by
  decide +kernel

/-- finding `inline-end-spacing-overflow`: `<span style="padding-right:30px">aa <b>bb </b>cc</span>` in
an 80px block: everything stays on one line of 110px, the opportunity before `cc` is not used. -/
theorem inline_end_spacing_overflows :
    lineWidths (inlinePara 80 [.box 0 30 true
      [.text "aa ".toList, .box 0 0 false [.text "bb ".toList], .text "cc".toList]]) = some [110] := by
  decide +kernel

/-- finding `inline-end-spacing-reserved-early`: `<span style="padding-right:30px">xxxx x x</span>` in an
85px block: the first line is `xxxx` (40px) although `xxxx x` (60px) fits — the span continues on the
next line, so no end spacing has to be kept on the first. -/
theorem inline_end_spacing_reserved_early :
    lineWidths (inlinePara 85 [.box 0 30 true [.text "xxxx x x".toList]]) = some [40, 60] := by
  decide +kernel

/-- finding `inline-box-width-stale`: `<span>aaa bbb<span style="padding-left:10px"> ccc</span></span>` in
a 70px block: on the first line the outer span is 70px wide and its only child `aaa` is 30px wide —
the extents of the inline boxes do not add up. -/
theorem inline_box_width_stale :
    (IR.paragraph (inlinePara 70 [.box 0 0 false [.text "aaa bbb".toList,
        .box 10 0 true [.text " ccc".toList]]])).toOption.map
      (fun ls => ls.head?.map (fun l => l.kids.map (fun f => (f.marginWidth,
        match f with
        | .box _ _ _ _ _ kids => kids.map IR.Frag.marginWidth
        | _ => [])))) = some (some [(70, [30])]) := by
  decide +kernel

/-- finding `waiting-box-boundary-opportunity-unused`: `<span><i>rr </i>anin</span>sss` in a 75px block:
one line of 100px.  When `sss` overflows, `_break_waiting_children` asks `can_break_inside` of the waiting
span, which looks only *inside* its text boxes (`rr `: none, `anin`: none) and never at the boundary
between its two children, so the opportunity after `rr ` is not used … -/
theorem boundary_opportunity_in_waiting_box_unused :
    lineWidths (inlinePara 75 [.box 0 0 false [.box 0 0 false [.text "rr ".toList], .text "anin".toList],
      .text "sss".toList]) = some [100] := by
  decide +kernel

/-- … while the same text in one text box, `<span>rr anin</span>sss`, is broken after `rr`. -/
theorem same_text_in_one_box_breaks :
    lineWidths (inlinePara 75 [.box 0 0 false [.text "rr anin".toList], .text "sss".toList]) = some [20, 70] := by
  decide +kernel

/-- regression of the repaired finding `preserved-line-break-flag-stale-after-rebreak` (fix 889a2ec):
`white-space: pre-line`, 120px, `text-align-last: right`, `uuuu wwwww<span>rrrrr\nx</span> jjj`.  The
span's text ends at a preserved line break, but it overflows and `_break_waiting_children` re-breaks the
waiting text after `uuuu `: the first line `uuuu` used to be returned with the stale flag and aligned
as a last line (x = 80); it is now at the start edge, the line `wwwwwrrrrr` that really ends at the
forced break and the last line stay right-aligned … -/
theorem shortened_line_not_aligned_as_last :
    (IR.paragraph { inlinePara 120 [.text "uuuu wwwww".toList, .box 0 0 false [.text "rrrrr\nx".toList], .text " jjj".toList] with
        st := { ws := .preLine, wb := .normal, ow := .normal, fs := 10 },
        align := { alignAll := .start, alignLast := some .right, ws := .preLine, rtl := false } }).toOption.map
      (fun ls => ls.map (fun l => (l.x, l.w))) = some [(0, 40), (20, 100), (70, 50)] := by
  decide +kernel

/-- … like the same first line without the preserved line break in the span. -/
theorem shortened_line_without_newline_at_start :
    (IR.paragraph { inlinePara 120 [.text "uuuu wwwww".toList, .box 0 0 false [.text "rrrrr x".toList], .text " jjj".toList] with
        st := { ws := .preLine, wb := .normal, ow := .normal, fs := 10 },
        align := { alignAll := .start, alignLast := some .right, ws := .preLine, rtl := false } }).toOption.map
      (fun ls => ls.map (fun l => (l.x, l.w))) = some [(0, 40), (0, 120), (90, 30)] := by
  decide +kernel

/-- regression of the repaired finding `nowrap-breaks-after-collapsed-space` (fix fd6f32a):
`white-space: nowrap`, 50px, `aaa <b> </b>bbb`.  The space of `<b>` collapses with the one before it; the
emptied `<b>` carries `trailing_collapsible_space`, so `last_letter is True` when `bbb` comes; the
`white_space in ('pre', 'nowrap')` test was an `elif` of that branch and was skipped: the line was broken
(`aaa ` / `bbb`).  It is one overflowing line of 70 now … -/
theorem nowrap_does_not_break_after_collapsed_space :
    lineWidths { inlinePara 50 [.text "aaa ".toList, .flagged (.box 0 0 false []), .text "bbb".toList] with
      st := { ws := .nowrap, wb := .normal, ow := .normal, fs := 10 },
      align := { alignAll := .start, alignLast := none, ws := .nowrap, rtl := false } } = some [70] := by
  decide +kernel

/-- … while under `white-space: normal` the collapsed space is still a break opportunity … -/
theorem normal_breaks_after_collapsed_space :
    lineWidths (inlinePara 50 [.text "aaa ".toList, .flagged (.box 0 0 false []), .text "bbb".toList]) = some [40, 30] := by
  decide +kernel

/-- … and `aaa <b>x</b>bbb` under `nowrap` stays on one overflowing line, as before. -/
theorem nowrap_keeps_one_line_without_collapsed_space :
    lineWidths { inlinePara 50 [.text "aaa ".toList, .box 0 0 false [.text "x".toList], .text "bbb".toList] with
      st := { ws := .nowrap, wb := .normal, ow := .normal, fs := 10 },
      align := { alignAll := .start, alignLast := none, ws := .nowrap, rtl := false } } = some [80] := by
  decide +kernel

/-! ### vertical placement (`Model/LineVertical`) -/

def vst (fs : Rat) (va : LV.VAlign) : LV.VStyle :=
  { fs := fs, lh := .normal, va := va, bt := 0, pt := 0, pb := 0, bb := 0,
    textHeight := fs, textBaseline := fs * 4 / 5, ex := 1 / 2 }

mutual
/-- `position_y` of a box and of all its descendants, in document order -/
def allYs : LV.VBox → List Rat
  | .text y _ _ _ _ _ => [y]
  | .box y _ _ _ _ _ kids => y :: allYsL kids
def allYsL : List LV.VBox → List Rat
  | [] => []
  | k :: ks => allYs k ++ allYsL ks
end

/-- regression of the repaired finding `vertical-align-top-bottom-subtree` (fix 5152049):
`aa <span style="vertical-align:top"><b style="font-size:20px">dd</b></span>` at 10px: the line box is
`[0, 20]`; the boxes `aa`, `<span>`, `<b>`, `dd` are at y = 0, 8, 0, 0.  Before the fix the text `dd`
(20px high) was left behind at y = −8, above the line box and over the previous line: `translate_subtree`
moved the `<b>` box with its parent but not its text. -/
theorem top_aligned_grandchild_moves_with_subtree :
    (LV.layoutLine (vst 10 .baseline)
      [.text (vst 10 .baseline), .box (vst 10 .top) [.box (vst 20 .baseline) [.text (vst 20 .baseline)]]] 0).toOption.map
      (fun l => (l.y, l.height, allYsL l.kids)) = some (0, 20, [0, 8, 0, 0]) := by
  decide +kernel

/-- a `bottom` box nested in a `top` box is aligned on its own, once (it used to be moved twice):
`<span style="vertical-align:top;line-height:30px"><i style="vertical-align:bottom">x</i></span>` at 10px in
a line `[0, 30]`: the `<i>` box and its text end at the bottom of the line box (y = 20, 10 high). -/
theorem nested_bottom_in_top_aligned_once :
    (LV.layoutLine (vst 10 .baseline)
      [.box { vst 10 .top with lh := .px 30 } [.box (vst 10 .bottom) [.text (vst 10 .baseline)]]] 0).toOption.map
      (fun l => (l.y, l.height, allYsL l.kids)) = some (0, 30, [0, 20, 20]) := by
  decide +kernel

/-! ### lines next to floats -/

def floatPara (indent : Rat) : Para :=
  { st := normalStyle .normal .normal, text := "aa bbb".toList, lineHeight := 10, cbx := 0, width := 40,
    indent := indent, align := { alignAll := .start, alignLast := none, ws := .normal, rtl := false }, y := 0 }

/-- a right float `[26, 40] × [0, 40]` in a block 40 wide -/
def rightFloat : List Floats.Shape := [⟨26, 0, 14, 40, .right⟩]

def lineXYW (r : Except PyErr (List OutLine)) : Option (List (Rat × Rat × Rat)) :=
  r.toOption.map (·.map fun l => (l.x, l.y, l.w))

/-- finding `float-gap-text-indent-later-lines`: `inline_min_content_width` adds the `text-indent` of
the block to the min-content width of *every* line (`inline_line_widths` reads `style['text_indent']`,
not `linebox.text_indent`, which `iter_line_boxes` resets to 0 after the first line).  With
`text-indent: -5px` the second line `bbb` (30 wide) is believed to need 25 and is put at `y = 10` into
the gap of 26 beside the float: it spans `[0, 30]` and overlaps the float `[26, 40]`. -/
theorem float_gap_ignores_line_width_with_indent :
    lineXYW (LF.paragraph rightFloat (floatPara (-5))) = some [(0, 0, 15), (0, 10, 30)] := by
  decide +kernel

/-- … without `text-indent` the same line is moved below the float (`y = 40`) -/
theorem float_gap_respected_without_indent :
    lineXYW (LF.paragraph rightFloat (floatPara 0)) = some [(0, 0, 20), (0, 40, 30)] := by
  decide +kernel

def bandPara : Para :=
  { st := normalStyle .normal .normal, text := "aaa bbb".toList, lineHeight := 20, cbx := 0, width := 100,
    indent := 0, align := { alignAll := .right, alignLast := none, ws := .normal, rtl := false }, y := 0 }

def lineXYWH (r : Except PyErr (List OutLine)) : Option (List (Rat × Rat × Rat × Rat)) :=
  r.toOption.map (·.map fun l => (l.x, l.y, l.w, l.h))

/-- finding `float-align-width-not-of-line-box`: the width `text_align` works in comes from a
second `avoid_collisions` made with `line.height`, which at that point is the font size (10), not the
line-height (20).  A right float `[60, 100] × [12.5, 27.5]` that starts in the lower half-leading of
the first line is seen by the first placement (the text is split in 60) but not by the second: the
line `aaa` is right-aligned in the whole 100 and its box `[70, 100] × [0, 20]` lies over the float. -/
theorem float_in_half_leading_ignored_by_alignment :
    lineXYWH (LF.paragraph [⟨60, 25 / 2, 40, 15, .right⟩] bandPara) = some [(70, 0, 30, 20), (30, 20, 30, 20)] := by
  decide +kernel

/-- … a float that starts inside the font-size band is respected -/
theorem float_in_font_size_band_respected :
    lineXYWH (LF.paragraph [⟨60, 5, 40, 15, .right⟩] bandPara) = some [(30, 0, 30, 20), (70, 20, 30, 20)] := by
  decide +kernel

/-! ### hypotheses of `Props/C09` that cannot be dropped -/

/-- `max_content_fits_one_line` needs the font size to be a whole number of Pango units (`hk`): with a
glyph advance of 1/3 px the max-content width 5/3 px of `aa aa` is truncated to 1706 units by
`int(max_width * 1024)`, less than the 1706⅔ the text needs, and the line breaks.  (Real glyph
advances are whole Pango units: this is a statement about the model's domain, not a defect.) -/
theorem max_content_breaks_with_fractional_units :
    (splitFirstLine { ws := .normal, wb := .normal, ow := .normal, fs := 1 / 3 } "aa aa".toList
      (.fin (5 / 3)) true false).toOption
      = some { length := 2, resume := some 3, width := 2 / 3, text := "aa".toList } := by
  decide +kernel

end Wp.Witness.C09
