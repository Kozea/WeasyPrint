/-
C05 — negation witnesses: concrete inputs on which a *full-strength* statement is false of the model
(and, replayed by the harness on the real functions, of the implementation).  Each is listed in
known_findings.txt (`stored-margin-right`, `zero-percent-height-auto-cb`).
`rtl-minmax-shift-accumulates` (/repo 165e254) and `rtl-relayout-shift-accumulates` (/repo 7b9d21e) are repaired
in /repo: the theorems on their inputs state the correct behaviour (regressions).
-/
import WpModel.Model.BoxModel
import WpModel.Model.BlockTree

namespace Wp.Witness.C05
open Wp Wp.BoxModel

/-- Margin-box width of the stored used values (`C05.outer?` of Props/C05.lean, which this file does not import). -/
def storedOuter (b : ABox) : Option Rat :=
  match b.ml, b.mr, b.w with
  | some l, some r, some w => some (l + b.bl + b.pl + w + b.pr + b.br + r)
  | _, _, _ => none

/-- `width: 50px; margin: 0` in a 100px containing block. -/
def overConstrained : ABox :=
  { ml := some 0, mr := some 0, pl := 0, pr := 0, bl := 0, br := 0, w := some 50, minW := 0, maxW := .inf,
    posX := 0, isColumn := false }

/-- F20 `stored-margin-right`.  The literal clause (b) "margin-left + … + margin-right equals the
containing block width for every block-level box" is false of the stored used values in the
over-constrained case: the code says "Do nothing in ltr" and leaves `margin_right = 0`
(0 + 50 + 0 ≠ 100).  The geometry is the CSS one (`C05.overconstrained_geometry`,
`C05.overconstrained_ltr_css_margin`). -/
theorem storedMarginNotRecomputed :
    ¬ (∀ (cbw : Rat) (dir : Dir) (b : ABox), storedOuter (blwCore cbw dir b) = some cbw) := by
  intro h
  have := h 100 .ltr overConstrained
  revert this
  decide +kernel

/-- `width: 200px; max-width: 50px; margin: 0` in a 100px `rtl` containing block. -/
def rtlClamped : ABox :=
  { ml := some 0, mr := some 0, pl := 0, pr := 0, bl := 0, br := 0, w := some 200, minW := 0,
    maxW := .fin 50, posX := 0, isColumn := false }

/-- The decorated `block_level_width` on `rtlClamped`: two passes, both over-constrained; the second starts
from the original `position_x` again, so only its own shift (+50) remains: the 50px-wide box ends at
x = 50, its margin-right edge at the end of the containing block (it was −50 while the shifts of the two
passes added up). -/
theorem rtlClamped_result :
    blockLevelWidthMinMax (.box 100 .rtl) rtlClamped =
      .ok { rtlClamped with w := some 50, posX := 50 } := by
  have : (match blockLevelWidthMinMax (.box 100 .rtl) rtlClamped with
      | .ok r => decide (r = { rtlClamped with w := some 50, posX := 50 })
      | .error _ => false) = true := by decide +kernel
  revert this
  cases blockLevelWidthMinMax (.box 100 .rtl) rtlClamped <;> simp

/-- Regression (`fixed: rtl-minmax-shift-accumulates`): on `rtlClamped` the margin-right edge
of the box is at the end of the rtl containing block: margin box [50, 100] in [0, 100].  The statement for
every input is `C05.edge_flush_minmax`. -/
theorem rtl_shift_does_not_accumulate :
    ∀ (r : ABox) (o : Rat), blockLevelWidthMinMax (.box 100 .rtl) rtlClamped = .ok r →
        storedOuter r = some o → r.posX + o = rtlClamped.posX + 100 := by
  intro r o h ho
  rw [rtlClamped_result] at h
  simp only [Except.ok.injEq] at h
  subst h
  have : storedOuter { rtlClamped with w := some 50, posX := 50 } = some 50 := by decide +kernel
  rw [this] at ho
  simp only [Option.some.injEq] at ho
  subst ho
  decide +kernel

/-- Three passes (`width: 200px; max-width: 20px; min-width: 50px`): still one shift. -/
theorem rtl_three_passes :
    (match blockLevelWidthMinMax (.box 100 .rtl) { rtlClamped with maxW := .fin 20, minW := 50 } with
      | .ok r => decide (r.w = some 50 ∧ r.posX = 50)
      | .error _ => false) = true := by decide +kernel

/-- `block_level_width` moves `position_x` relatively (`+=`), so it is not idempotent on the position
(`width: 50px; margin: 0` in a 100px rtl containing block: 50 after one call, 100 after a second call on the
shifted box).  That is why a caller that lays a box out twice must restore `position_x` first; since
/repo 7b9d21e `_in_flow_layout` does (`child.position_x = child_position_x` before the second
`block_level_layout`), as `handle_min_max_width` does between its passes.  Regression for
`fixed: rtl-relayout-shift-accumulates`: the re-layout from the restored position gives 50 again. -/
theorem relayout_from_restored_position :
    (blwCore 100 .rtl overConstrained).posX = 50 ∧
    (blwCore 100 .rtl { overConstrained with posX := (blwCore 100 .rtl overConstrained).posX }).posX = 100 ∧
    (blwCore 100 .rtl { blwCore 100 .rtl overConstrained with posX := overConstrained.posX }).posX = 50 := by
  decide +kernel

/-- `zero-percent-height-auto-cb`.  Clause (d) for an auto-height containing block ("`max-height: v%`
is treated as `none`") is false at `v = 0`: `computed_values.length` turns `0%` into `0px`
(`BlockTree.computeMax`), so `max-height: 0%` computes to the length 0 and the box is clamped to height 0,
while `max-height: 1%` is unbounded.  (`C05.resolve_auto_cb_height` states what holds for the values that
are still percentages after the computed-value step.) -/
theorem zero_percent_is_a_length :
    BlockTree.computeMax 16 (.pct 0) = .ok (.px (.fin 0)) ∧
    BlockTree.computeMax 16 (.pct 1) = .ok (.pct 1) ∧
    percentageX (.px (.fin 0)) .inf = .ok (.fin 0) ∧ percentageX (.pct 1) .inf = .ok .inf ∧
    clampHeight 30 0 (.fin 0) = .fin 0 ∧ clampHeight 30 0 .inf = .fin 30 := by
  refine ⟨rfl, ?_, rfl, ?_, by decide +kernel, by decide +kernel⟩
  · simp [BlockTree.computeMax]
  · have h : (0 : Rat) < 1 := by decide +kernel
    simp [percentageX, Ext.mulRat, Ext.div100, h]

end Wp.Witness.C05
