/-
C06 — negation witnesses: concrete inputs on which the *full-strength* statement is false of the
model (and, replayed by the harness, of the implementation), and, for the findings since repaired, the
same inputs as regressions.  Each finding is listed in known_findings.txt; the two `stale_after_exception*` are no
finding: they show that `C06.lazy_eq_eager` needs its hypothesis `NoStale`.
-/
import WpModel.Model.StyleMemo
import WpModel.Model.CssSpec

namespace Wp.Witness.C06
open Wp Wp.Cascade Wp.Computed Wp.Style Wp.StyleMemo

def isOk (r : Except CErr Val) (v : Val) : Bool :=
  match r with
  | .ok w => w == v
  | .error _ => false

def isTypeError {β : Type} (r : Except CErr β) : Bool :=
  match r with
  | .error (.typeError _) => true
  | _ => false

/-- Regression for the repaired finding `var-inherit-on-root` (commit 582f36b).
`<html style="--x:inherit; width:var(--x)">`: the declaration is a `Pending` value whose solution is
the keyword `inherit`.  `__missing__` used to map `inherit` to `initial` on the root only *before*
pending values were solved, so `parent_style[key]` was evaluated with `parent_style = None`
(`TypeError`).  The root test now comes after the substitution: the solved `inherit` gives the
initial value `auto`, exactly like a directly cascaded `inherit`
(`C06.pending_valid` is the full-strength theorem). -/
theorem var_inherit_on_root_fixed :
    (specified ⟨[("width", .pending (some (.kw "inherit")))], none, [], none⟩ none "width").toOption
      = some (.kw "auto", true) ∧
    (specified ⟨[("width", .val (.kw "inherit"))], none, [], none⟩ none "width").toOption
      = some (.kw "auto", true) ∧
    isTypeError (specified ⟨[("width", .pending (some (.kw "inherit")))], none, [], none⟩ none "width") = false := by
  decide +kernel

/-- `<div style="border-top: 5px solid"><p style="border-top-width: inherit">`: the inherited value
is stored as the computed value without calling the computing function, so the `<p>`, whose own
`border-top-style` is `none`, gets a 5px border width instead of 0 (CSS 2.1 §8.5.1: the computed
width is 0 when the style is none).  The same shortcut keeps `display: inherit` inline on a floated
box (CSS 2.1 §9.7), on which `float_layout` then fails an assertion. -/
theorem inherit_skips_computing :
    let parent : Elem := ⟨[("border_top_style", .val (.kw "solid")),
                           ("border_top_width", .val (.dim 5 "px"))], none, [], none⟩
    let child : Elem := ⟨[("border_top_width", .val (.kw "inherit"))], none, [], none⟩
    isOk (styleAt (1 / 2) (1 / 2) [child, parent] "border_top_style") (.kw "none") = true ∧
    isOk (styleAt (1 / 2) (1 / 2) [child, parent] "border_top_width") (.num 5) = true := by
  decide +kernel

theorem inherit_skips_blockification :
    let parent : Elem := ⟨[("display", .val (.strs ["inline", "flow"]))], none, [], none⟩
    let root : Elem := ⟨[("display", .val (.strs ["block", "flow"]))], none, [], none⟩
    let child : Elem := ⟨[("display", .val (.kw "inherit")), ("float", .val (.kw "left"))], none, [], none⟩
    isOk (styleAt (1 / 2) (1 / 2) [child, parent, root] "float") (.kw "left") = true ∧
    isOk (styleAt (1 / 2) (1 / 2) [child, parent, root] "display") (.strs ["inline", "flow"]) = true := by
  decide +kernel

/-- The same with `position: absolute`: the box stays inline, and `absolute_layout` then raises
`UnboundLocalError` (`<span>x<span style="position:absolute;display:inherit">a</span></span>`). -/
theorem inherit_skips_blockification_absolute :
    let parent : Elem := ⟨[("display", .val (.strs ["inline", "flow"]))], none, [], none⟩
    let root : Elem := ⟨[("display", .val (.strs ["block", "flow"]))], none, [], none⟩
    let child : Elem := ⟨[("display", .val (.kw "inherit")), ("position", .val (.kw "absolute"))], none, [], none⟩
    let plain : Elem := ⟨[("display", .val (.strs ["inline", "flow"])), ("position", .val (.kw "absolute"))], none, [], none⟩
    isOk (styleAt (1 / 2) (1 / 2) [child, parent, root] "display") (.strs ["inline", "flow"]) = true ∧
    isOk (styleAt (1 / 2) (1 / 2) [plain, parent, root] "display") (.strs ["block", "flow"]) = true := by
  decide +kernel

/-- Regression for the repaired finding `image-orientation-not-inherited` (commit 8f3706e):
`image-orientation` is "Inherited: yes" (css-images-3) and was missing from `INHERITED`, so
`<div style="image-orientation: 90deg"><img …></div>` left the image unrotated (`from-image`).
The `<img>` now takes its parent's computed value `(90, False)`
(`C06.inherited_is_css` is the full-strength theorem over every property). -/
theorem image_orientation_inherited :
    let parent : Elem := ⟨[("image_orientation", .val (.tup [.num (pyPi / 2), .kw "False"]))], none, [], none⟩
    let child : Elem := ⟨[("width", .val (.kw "auto"))], none, [], none⟩
    CssSpec.specInherits "image_orientation" = true ∧ isInherited "image_orientation" = true ∧
    isOk (styleAt (1 / 2) (1 / 2) [parent] "image_orientation") (.tup [.num 90, .kw "False"]) = true ∧
    isOk (styleAt (1 / 2) (1 / 2) [child, parent] "image_orientation") (.tup [.num 90, .kw "False"]) = true ∧
    isOk (styleAt (1 / 2) (1 / 2) [⟨[], none, [], none⟩, parent] "image_orientation") (.tup [.num 90, .kw "False"]) = true := by
  decide +kernel

/-- A style whose parent cannot deliver `page` and whose own `page` is a failed `var()`: the first
read of `page` stores the initial value `auto`, then raises while asking the parent; the dict keeps
`auto`, and the second read returns it although the memoised function still fails.  So
`C06.lazy_eq_eager` needs its `NoStale` hypothesis.  (Until commit 582f36b a real document reached
this state through an ancestor chain ending in a root with `page: var(--x)` solved to `inherit`;
since that repair the harness reaches it only with a parent style that raises, see the
`style-memo` section.) -/
theorem stale_after_exception :
    let c : Ctx := ⟨⟨[("page", .pending none)], none, [], none⟩,
                    some (fun _ => .error (.typeError "parent_style[key]")), fun _ => .ok 16, 1 / 2, 1 / 2⟩
    (readSeq c [] ["page", "page"]).map okVal = [none, some (.kw "auto")] ∧
    okVal (pure' c "page") = none ∧
    staleAfterFailure c.e c.parent "page" = some (.kw "auto") := by
  decide +kernel

/-- The same on a chain of two elements, as the `style-memo` section replays it on the real code
(case 0): the root holds the *string* `underline` for `text-decoration-line` (a value the validator
never produces: it gives a set), the child says `inherit`.  The first read stores the inherited
value, then `value | parent_value` raises `TypeError`; the second read returns the stored string. -/
theorem stale_after_exception_chain :
    let root : Elem := ⟨[("text_decoration_line", .val (.kw "underline"))], none, [], none⟩
    let child : Elem := ⟨[("text_decoration_line", .val (.kw "inherit"))], none, [], none⟩
    (ctxOf (1 / 2) (1 / 2) [child, root]).map
        (fun c => (readSeq c [] ["text_decoration_line", "text_decoration_line"]).map okVal)
      = some [none, some (.kw "underline")] := by
  decide +kernel

/-- A style with font size `fs` (root 16px) and nothing else to read. -/
def envFs (fs : Rat) : Env :=
  { fontSize := fun _ => .ok fs, rootFontSize := fun _ => .ok 16, parentFontSize := none,
    parentFontWeight := none, exRatio := 1 / 2, chRatio := 1 / 2,
    get := fun _ => .error (.keyError "style[key]"), specified := fun _ => .error (.keyError "specified[key]"),
    isRoot := true, pseudo := false }

/-- Regression for the repaired finding `border-image-width-not-computed` (commit 26138d1).
`border-image-width: 2em` with a font size of 10px: `computed_values.border_image_width` used to
return a length item as it is (`number if unit is None else value`), so the relative unit was never
computed and drawing the border image failed `assert dimension.unit == 'px'`.  The item now goes
through `length`: 20px on the four sides; numbers, percentages and `auto` are kept. -/
theorem border_image_width_computed :
    (borderImageWidth (envFs 10) (.tup [.dim 2 "em"])).toOption
      = some (.tup [.dim 20 "px", .dim 20 "px", .dim 20 "px", .dim 20 "px"]) ∧
    (borderImageWidth (envFs 10) (.tup [.dim 3 "none", .kw "auto", .dim 50 "%"])).toOption
      = some (.tup [.num 3, .kw "auto", .dim 50 "%", .kw "auto"]) := by
  decide +kernel

end Wp.Witness.C06
