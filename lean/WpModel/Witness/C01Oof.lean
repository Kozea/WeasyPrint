/-
C01 stage 2a — negation witness: a concrete document on which the *full* conservation statement
("every line of every box, out-of-flow boxes included, is shown exactly once") is false of the model —
and, replayed by `py/harness/pm_oof_corr.py` (`corpus/C01/oof_lost_at_end.json`), of the implementation;
and regression theorems for the witnesses whose defect was repaired in /repo (cdccac3, e3ac9f0, 50ab141,
0d665d0, 1bc67ce, 24ce8bf):
the same inputs, now with the correct behaviour (their corpus documents stay in the correspondence as
regression cases).
-/
import WpModel.Model.PaginateOof

namespace Wp.PMO.Witness
open Wp Wp.PM

mutual
/-- Every line a fragment shows, out-of-flow descendants included. -/
def allLines : OFrag → List (Nat × Nat)
  | .para _ id _ _ _ _ lines => lines.map (fun l => (id, l.1))
  | .block _ _ _ _ _ kids => allLinesList kids
  | .ph _ _ _ _ => []
def allLinesList : List OFrag → List (Nat × Nat)
  | [] => []
  | f :: fs => allLines f ++ allLinesList fs
end

def st0 : PStyle where
  mt := 0
  mb := 0
  pt := 0
  pb := 0
  bt := 0
  bb := 0
  height := none
  minH := 0
  maxH := none
  brkBefore := .auto
  brkAfter := .auto
  brkInside := .auto
  clone := false
  page := ""
  orphans := 1
  widows := 1
  isRoot := false

def flow (st : PStyle) : OStyle := { toPStyle := st, pos := .static, clear := false }
def absolute (st : PStyle) : OStyle := { toPStyle := st, pos := .abs, clear := false }
def floated (st : PStyle) : OStyle := { toPStyle := st, pos := .float, clear := false }

def mkDoc (pageH : Rat) (kids : List OBox) : Doc :=
  { pageH := pageH, rootLtr := true,
    root := .block 100 (flow { st0 with isRoot := true }) [.block 99 (flow st0) kids] }

/-- What each page shows and what it registers for the next page: (all lines, [(box id, first line to
resume)]). -/
def summary (d : Doc) (fuel : Nat) : Option (List (List (Nat × Nat) × List (Nat × Nat))) :=
  (paginate d fuel).map fun ps =>
    ps.map fun p => (allLines p.root, p.broken.map fun e => (e.box.id, skipLine (subSkipOf (some e.resume))))

/-! ### out-of-flow-lost-at-document-end (known finding)

`<p>` of 2 lines, then a `position:absolute` (or `float:left;width:100%`) `<p>` of 6 lines, on 50px pages
with 10px lines: the in-flow content ends on page 1, so `make_all_pages` stops and clears
`broken_out_of_flow`: lines 3–5 of the out-of-flow paragraph are on no page. -/

def docLostAbs : Doc := mkDoc 50 [.para 1 2 10 (flow st0), .para 2 6 10 (absolute st0)]
def docLostFloat : Doc := mkDoc 50 [.para 1 2 10 (flow st0), .para 2 6 10 (floated st0)]

theorem lost_at_document_end :
    summary docLostAbs 20 = some [([(1, 0), (1, 1), (2, 0), (2, 1), (2, 2)], [(2, 3)])] ∧
    summary docLostFloat 20 = some [([(1, 0), (1, 1), (2, 0), (2, 1), (2, 2)], [(2, 3)])] :=
  ⟨by decide +kernel, by decide +kernel⟩

/-! ### wrapper-of-empty-box-opens-empty-page (finding filed under C03; a stage-1 document)

`<p>` of 2 lines, then `<div><div style="margin-top:20px"></div></div>`, on 30px pages with 10px lines. The
inner empty box is collapsed through and `_in_flow_layout` exempts it from the page-overflow test; its wrapper
has an in-flow child, so it is *not* "collapsing through", its content box (at `y = 20 + 20`, height 0) is
tested against the page bottom and the wrapper is pushed to a page of its own — which shows nothing at all
(no line, no box with a height, padding or border) and was not asked for by any forced break. Without the
wrapper the same empty box stays on page 1 (`docEmptyBoxAlone`). Found by the trailing-spacer documents added
for seed C03-7; the implementation agrees with the model on it (`corpus/C01/oof_empty_wrapper_page.json`). -/

def docEmptyWrapper : Doc :=
  mkDoc 30 [.para 1 2 10 (flow st0), .block 3 (flow st0) [.block 2 (flow { st0 with mt := 20 }) []]]

def docEmptyBoxAlone : Doc :=
  mkDoc 30 [.para 1 2 10 (flow st0), .block 2 (flow { st0 with mt := 20 }) []]

theorem wrapper_of_empty_box_opens_empty_page :
    summary docEmptyWrapper 20 = some [([(1, 0), (1, 1)], []), ([], [])] ∧
    summary docEmptyBoxAlone 20 = some [([(1, 0), (1, 1)], [])] :=
  ⟨by decide +kernel, by decide +kernel⟩

/-! ### nested-out-of-flow-in-postponed-float — repaired (0d665d0), regression

Two paragraphs (5 lines), then a `float` of `height: 30px` holding a 3-line float, on 70px pages with 10px
lines: the outer float is laid out at `y = 50`; its inner float is cut after 2 lines and registered in
`context.broken_out_of_flow` when the outer float's `block_container_layout` ends. The outer float then ends at
80 > 70 and is postponed to the next page. Before the repair nobody called `remove_placeholders` on the
discarded layout: page 2 showed the "continuation" (line 2) and then the whole outer float again, line 2
twice. Now `_out_of_flow_layout` forgets what is nested in the postponed float: page 1 registers nothing and
page 2 shows the three lines once. -/

def docNestedFloat : Doc :=
  mkDoc 70 [.para 1 3 10 (flow st0), .para 6 2 10 (flow st0),
    .block 3 (floated { st0 with height := some 30 }) [.para 2 3 10 (floated st0)]]

theorem nested_float_in_postponed_float_not_duplicated :
    summary docNestedFloat 20 = some
      [([(1, 0), (1, 1), (1, 2), (6, 0), (6, 1)], []),
       ([(2, 0), (2, 1), (2, 2)], [])] := by decide +kernel

/-! ### float-fragment-duplicated in the block flow — repaired (cdccac3), regression

`<p>` of 2 lines, a 6-line full-width float, then a `<p style="break-before:avoid">`: the float is cut at the
bottom of page 1 and registered in the *local* `broken_out_of_flow` of `block_container_layout`; the next
paragraph does not fit, `find_earlier_page_break` moves the break into the first paragraph and drops the
float from the page. Before the repair the local dict was merged unconditionally: page 2 showed the
continuation (lines 3–5) and then laid the float out again from line 0, lines 3, 4, 5 twice. Now only the
entries whose float is still among `new_children` are merged (`keptBroken`): page 1 registers nothing, the
float starts on page 2 and every line is shown once. -/

def docDupFloat : Doc :=
  mkDoc 50 [.para 1 2 10 (flow st0), .para 2 6 10 (floated st0),
    .para 3 2 10 (flow { st0 with brkBefore := .avoid })]

theorem float_fragment_not_duplicated :
    summary docDupFloat 20 = some
      [([(1, 0)], []),
       ([(1, 1), (2, 0), (2, 1), (2, 2), (2, 3)], [(2, 4)]),
       ([(2, 4), (2, 5), (3, 0), (3, 1)], [])] := by decide +kernel

/-! ### absolute-placeholder-survives-abort — repaired (e3ac9f0), regression

`<p>` of 2 lines, then a `<div>` holding an absolutely positioned 6-line `<p>`, a one-line
`<p style="break-after:avoid">` and a 3-line `<p style="orphans:3">`: the last paragraph does not fit, the
`avoid` finds no earlier break, the `<div>` is cancelled (`abort`). Before the repair `remove_placeholders`
was given the *source* children only: the placeholder stayed in `absolute_boxes`, was laid out invisibly at
the end of page 1, cut and registered; page 2 showed its "continuation" and the whole `<div>` again (lines 3
and 4 twice). Now the placeholders of `new_children` are removed as well: page 1 registers nothing and page
2 shows the absolute box once, from line 0. (Its line 5 is cut by the bottom of the *last* page and lost:
that is the other, still open finding `out-of-flow-lost-at-document-end`; with a following paragraph that
makes a third page — `docAbsAbortTail` — every line of the document is shown exactly once.) -/

def docAbsAbort : Doc :=
  mkDoc 50 [.para 1 2 10 (flow st0),
    .block 5 (flow st0) [.para 2 6 10 (absolute st0), .para 3 1 10 (flow { st0 with brkAfter := .avoid }),
      .para 4 3 10 (flow { st0 with orphans := 3 })]]

theorem absolute_placeholder_removed_on_abort :
    summary docAbsAbort 20 = some
      [([(1, 0), (1, 1)], []),
       ([(2, 0), (2, 1), (2, 2), (2, 3), (2, 4), (3, 0), (4, 0), (4, 1), (4, 2)], [(2, 5)])] := by
  decide +kernel

def docAbsAbortTail : Doc :=
  mkDoc 50 [.para 1 2 10 (flow st0),
    .block 5 (flow st0) [.para 2 6 10 (absolute st0), .para 3 1 10 (flow { st0 with brkAfter := .avoid }),
      .para 4 3 10 (flow { st0 with orphans := 3 })],
    .para 6 2 10 (flow st0)]

theorem absolute_placeholder_removed_on_abort_conserved :
    summary docAbsAbortTail 20 = some
      [([(1, 0), (1, 1)], []),
       ([(2, 0), (2, 1), (2, 2), (2, 3), (2, 4), (3, 0), (4, 0), (4, 1), (4, 2), (6, 0)], [(2, 5)]),
       ([(2, 5), (6, 1)], [])] := by
  decide +kernel

/-! ### two more regression inputs of the same repairs (corpus `oof_float_dropped_by_later_float`,
`oof_nested_abs_abort`)

(1) The cut float is dropped by `find_earlier_page_break` called from `_out_of_flow_layout` (a *second*
float with `break-before: avoid` does not fit) rather than from `_in_flow_layout`. (2) The placeholder of
the cancelled block lies one level deeper (`remove_placeholders` walks `new_children` recursively). Both
showed lines 3–5 of the out-of-flow paragraph twice before the repairs; every line is shown once now. -/

def docDupFloat2 : Doc :=
  mkDoc 50 [.para 1 2 10 (flow st0), .para 2 6 10 (floated st0),
    .para 3 1 10 (floated { st0 with brkBefore := .avoid }), .para 4 1 10 (flow st0)]

theorem cut_float_dropped_by_later_float :
    summary docDupFloat2 20 = some
      [([(1, 0)], []),
       ([(1, 1), (2, 0), (2, 1), (2, 2), (2, 3)], [(2, 4)]),
       ([(2, 4), (2, 5), (3, 0), (4, 0)], [])] := by decide +kernel

def docAbsAbortNested : Doc :=
  mkDoc 50 [.para 1 2 10 (flow st0),
    .block 7 (flow st0) [.block 6 (flow st0) [.para 2 6 10 (absolute st0), .para 3 1 10 (flow st0)],
      .para 4 1 10 (flow { st0 with brkBefore := .avoid, brkAfter := .avoid }),
      .para 5 3 10 (flow { st0 with orphans := 3 })],
    .para 8 2 10 (flow st0)]

theorem nested_placeholder_removed_on_abort :
    summary docAbsAbortNested 20 = some
      [([(1, 0), (1, 1)], []),
       ([(2, 0), (2, 1), (2, 2), (2, 3), (2, 4), (3, 0), (4, 0), (5, 0), (5, 1), (5, 2)], [(2, 5)]),
       ([(2, 5), (8, 0), (8, 1)], [])] := by decide +kernel

/-! ### zero-height float — repaired (50ab141, then 1bc67ce), regression

A float whose border box is 0 high (`height:0`, no padding/border) used to be sent to `y = 0` by
`avoid_collisions`; after 50ab141 it stayed at its static position — over the floats already there; since
1bc67ce it is placed like any other float. Alone, after a 2-line paragraph, it is at `y = 20`
(`docZeroFloat`); with its static position (`y = 10`, after a 10px block) strictly inside a 3-line float it
goes below that float, to `y = 30` (`docZeroFloatInside`; it stayed at 10 before 1bc67ce). -/

def docZeroFloat : Doc :=
  mkDoc 50 [.para 1 2 10 (flow st0), .para 2 1 10 (floated { st0 with height := some 0 }), .para 3 1 10 (flow st0)]

def docZeroFloatInside : Doc :=
  mkDoc 50 [.para 1 3 10 (floated st0), .block 7 (flow { st0 with height := some 10 }) [],
    .para 2 1 10 (floated { st0 with height := some 0 })]

mutual
def fragYs : OFrag → List (Nat × Rat)
  | .para _ id _ _ _ g _ => [(id, g.y)]
  | .block _ id _ _ g kids => (id, g.y) :: fragYsList kids
  | .ph _ id _ y => [(id, y)]
def fragYsList : List OFrag → List (Nat × Rat)
  | [] => []
  | f :: fs => fragYs f ++ fragYsList fs
end

theorem zero_height_float_stays :
    (paginate docZeroFloat 20).map (fun ps => ps.map fun p => fragYs p.root) =
      some [[(100, 0), (99, 0), (1, 0), (2, 20), (3, 20)]] := by decide +kernel

theorem zero_height_float_avoids_floats :
    (paginate docZeroFloatInside 20).map (fun ps => ps.map fun p => fragYs p.root) =
      some [[(100, 0), (99, 0), (1, 0), (7, 0), (2, 30)]] := by decide +kernel

/-! ### earlier-break-keeps-bottom-decoration — repaired (24ce8bf), regression in the stage-2a grammar

A block with `padding-bottom: 5px; margin-bottom: 3px; break-after: avoid` holding a 2-line paragraph, an
absolutely positioned paragraph and a 3-line paragraph, followed by a 2-line paragraph, on 50px pages: the
last paragraph does not fit, `find_earlier_page_break` cuts the block inside its last paragraph. The cut block
used to keep padding-bottom 5 and margin-bottom 3 on page 1; it now has none (its height, 50, is still the one
of its full layout — the repair does not recompute it), and the decoration is drawn on page 2. -/

def docCutBlock : Doc :=
  mkDoc 50 [.block 5 (flow { st0 with pb := 5, mb := 3, brkAfter := .avoid })
      [.para 1 2 10 (flow st0), .para 2 1 10 (absolute st0), .para 3 3 10 (flow st0)],
    .para 4 2 10 (flow st0)]

mutual
/-- (id, y, height, padding-bottom, border-bottom, margin-bottom) of every fragment. -/
def fragGeos : OFrag → List (Nat × List Rat)
  | .para _ id _ _ _ g _ => [(id, [g.y, g.h, g.pb, g.bb, g.mb])]
  | .block _ id _ _ g kids => (id, [g.y, g.h, g.pb, g.bb, g.mb]) :: fragGeosList kids
  | .ph _ id _ y => [(id, [y])]
def fragGeosList : List OFrag → List (Nat × List Rat)
  | [] => []
  | f :: fs => fragGeos f ++ fragGeosList fs
end

theorem earlier_break_cuts_bottom_decoration :
    summary docCutBlock 20 = some
      [([(1, 0), (1, 1), (2, 0), (3, 0), (3, 1)], []), ([(3, 2), (4, 0), (4, 1)], [])] ∧
    (paginate docCutBlock 20).map (fun ps => ps.map fun p => (fragGeos p.root).filter (·.1 == 5)) =
      some [[(5, [0, 50, 0, 0, 0])], [(5, [0, 10, 5, 0, 3])]] :=
  ⟨by decide +kernel, by decide +kernel⟩

end Wp.PMO.Witness
