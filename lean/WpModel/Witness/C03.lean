/-
C03 — witnesses: statements about "content stays above the page bottom" that are false of the layout (the exemption
of the first line and the hypothesis `DecoOk` are needed); then a document on which `find_earlier_page_break` cuts a
box with bottom padding, evaluated, and what `Frag.cutEnd` does to the geometry of any fragment.
-/
import WpModel.Lemmas.Geometry

namespace Wp.C03Witness
open Wp Wp.PM

/-- **The exemption of the first line is necessary**: a 60px line on 55px pages is placed (bottom at 60,
after the tall-first-line rule removed the 4px top margin) — the layout accepts it to make progress. -/
def tallDoc : Doc :=
  { pageH := 55, rootLtr := true,
    root := .block 0 { plainSt with isRoot := true } [.para 1 2 60 { plainSt with mt := 4 }] }

theorem first_line_may_overflow :
    (paginate tallDoc 10).map (fun ps => ps.map (fun p =>
      (placedLines p.root true (pageSource tallDoc p)).map (fun l => (l.exempt, l.line, l.y + l.lineH)))) =
    some [[(true, 0, 60)], [(true, 1, 60)]] := by decide +kernel

/-- **`box-decoration-break: clone` with a negative bottom margin lets lines cross the page bottom**
(`DecoOk` is necessary in `C03Geo.remakePage_line_fits`): `block_container_layout` does
`bottom_space += padding_bottom + border_bottom_width + margin_bottom` for cloned decorations; with
`margin-bottom: -50px` the bottom space becomes −50 and, on a 100px page, 15 lines of 10px are placed: the
lines 10–14 end at 110 … 150, below the page bottom, and are not the first line of the page.
Reproduced on WeasyPrint itself:
`<div style="box-decoration-break:clone;margin-bottom:-50px">` with 20 lines of 10px on a 100px page shows
15 lines on page 1 (5 of them outside the page) and 5 on page 2. -/
def cloneNegDoc : Doc :=
  { pageH := 100, rootLtr := true,
    root := .block 0 { plainSt with isRoot := true }
      [.block 1 { plainSt with clone := true, mb := -50 } [.para 2 20 10 plainSt]] }

theorem clone_negative_margin_overflows :
    (paginate cloneNegDoc 10).map (fun ps => ps.map (fun p =>
      ((placedLines p.root true (pageSource cloneNegDoc p)).filter
        (fun l => !l.exempt && decide (l.y + l.lineH > 100 * (1 + 1 / 1000000000)))).map
          (fun l => (l.line, l.y + l.lineH)))) =
    some [[(10, 110), (11, 120), (12, 130), (13, 140), (14, 150)], []] := by decide +kernel

theorem cloneNegDoc_not_decoOk : ¬ DecoOk cloneNegDoc.root := by
  simp only [cloneNegDoc, DecoOk, DecoOkList, PStyle.DecoOk, plainSt]
  decide +kernel

/-- **Regression (repaired by 24ce8bf; was the finding `earlier-break-keeps-bottom-decoration`)**: the box cut by
`find_earlier_page_break` loses its bottom decoration. 50px pages; a block with `padding-bottom: 5px` and
`break-after: avoid-page` holding five 10px lines, then a one-line paragraph. The block is first laid out whole,
the next paragraph does not fit, the break before it is avoided, `find_earlier_page_break` cuts the block's
paragraph after line 3 and rebuilds the block with `child.copy_with_children(...)`; before the repair the copy kept
`padding_bottom = 5` and its border box ended at 55, below the page bottom. Now `remove_decoration(end=True)`
removes the padding: the border box ends at 50. (The height 50 of the five-line layout is still kept - it
happens to fill the page.) Same numbers on WeasyPrint itself: `py/props/c03.py::earlier_break_keeps_decoration`
returns False. -/
def earlierDecoDoc : Doc :=
  { pageH := 50, rootLtr := true,
    root := .block 0 { plainSt with isRoot := true }
      [.block 1 plainSt
        [.block 2 { plainSt with pb := 5, brkAfter := .avoidPage } [.para 3 5 10 plainSt],
         .para 4 1 10 plainSt]] }

/-- For each fragment of box 2, in page order: (lines shown, padding-bottom kept, height, bottom of the border
box, is the document continued on the next page). -/
def box2Fragments (d : Doc) : Option (List (List Nat × Rat × Rat × Rat × Bool)) :=
  (paginate d 10).map (fun ps => (ps.map (fun p =>
    match p.root with
    | .block _ _ _ _ [.block _ _ _ _ kids] =>
      kids.filterMap (fun k => match k with
        | .block 2 _ _ g [.para _ _ _ _ _ lines] =>
          some (lines.map Prod.fst, g.pb, g.h, g.borderBoxY + g.borderHeight, p.resume.isSome)
        | _ => none)
    | _ => [])).flatten)

theorem earlier_break_removes_bottom_decoration :
    box2Fragments earlierDecoDoc = some [([0, 1, 2, 3], 0, 50, 50, true), ([4], 5, 10, 15, false)] := by
  decide +kernel

/-- For every fragment: what `remove_decoration(start=False, end=True)` does to the box rebuilt by
`find_earlier_page_break` — bottom margin, padding and border become 0 (unless `box-decoration-break: clone`),
position, top decoration and *height* are kept. -/
theorem cutEnd_geo (f : Frag) (h : f.st.clone = false) :
    f.cutEnd.geo.mb = 0 ∧ f.cutEnd.geo.pb = 0 ∧ f.cutEnd.geo.bb = 0 ∧ f.cutEnd.geo.h = f.geo.h ∧
    f.cutEnd.geo.contentBoxY = f.geo.contentBoxY ∧ f.cutEnd.st = f.st := by
  cases f <;> simp_all [Frag.cutEnd, Geo.cutBottom, Frag.geo, Frag.st, Geo.contentBoxY]

theorem cutEnd_clone (f : Frag) (h : f.st.clone = true) : f.cutEnd = f := by
  cases f <;> simp_all [Frag.cutEnd, Geo.cutBottom, Frag.st]

/-- Hence the border box of a cut box ends where its content box ends. -/
theorem cutEnd_border_bottom (f : Frag) (h : f.st.clone = false) :
    f.cutEnd.geo.borderBoxY + f.cutEnd.geo.borderHeight = f.geo.contentBoxY + f.geo.h := by
  obtain ⟨_, hpb, hbb, hh, hc, _⟩ := cutEnd_geo f h
  rw [← hh, ← hc]
  simp only [Geo.borderBoxY, Geo.borderHeight, Geo.contentBoxY, hpb, hbb]
  grind

/-- The document is within the hypotheses of the line theorems (`DecoOk`). -/
theorem earlierDecoDoc_decoOk : DecoOk earlierDecoDoc.root := by
  simp only [earlierDecoDoc, DecoOk, DecoOkList, PStyle.DecoOk, plainSt]
  decide +kernel

end Wp.C03Witness
