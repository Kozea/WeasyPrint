/-
C18 on concrete inputs: the clauses that are false of the code, refuted (`pdf_string_cr`,
`embedded_files_duplicate_keys`, `anchor_id_shadowed_by_name`; mirrored by `finding:` lines of known_findings.txt and
replay functions of py/props/c18.py), and the inputs of the repaired defects as regression examples.
-/
import WpModel.Props.C18
import WpModel.Props.C18Pdf
import WpModel.Props.C18LinkAttr

namespace Wp.Witness.C18
open Wp Wp.Anchors Wp.Outline Wp.C18

/-- Regression example for the repaired defect `anchor-double-transform` (commit a37277b):
`<h1 id=a style="transform: translate(10px, 20px)">` on a 200×20 box at the origin.  The named
destination and the bookmark are both at (10, 20) — the matrix is applied once — exactly as for the
same element without a bookmark (`<div id=a>`). -/
example :
    let m : Matrix := { e := 10, f := 20 }
    (visit .other 0 0 200 20 "one" (some 1) "open" none false (some "a") (some m) {}).anchors =
      [⟨"a", ⟨10, 20, 210, 40⟩⟩] ∧
    (visit .other 0 0 200 20 "one" (some 1) "open" none false (some "a") (some m) {}).bookmarks =
      [⟨1, "one", 10, 20, "open"⟩] ∧
    (visit .other 0 0 200 20 "" none "open" none false (some "a") (some m) {}).anchors =
      [⟨"a", ⟨10, 20, 210, 40⟩⟩] := by
  simp only [visit, hasBookmark, bookmarkPos, anchorStep, bookmarkStep, linkStep, hasLink, hasAnchor,
    Matrix.transformPoint]
  refine ⟨?_, ?_, ?_⟩ <;> decide +kernel

/-- Regression example for the repaired defect `dests-not-byte-sorted` (commit 09da5a8): anchor names
`z` and `aé`.  `sorted(pdf_names)` used to order them by code point (`aé` < `z`) although the keys are
written `(z)` = 7A and `<FEFF006100E9>`; `sorted(pdf_names, key=key_bytes)` puts `z` first and the
array is sorted in the byte order of ISO 32000-1 7.9.6 (for every input: `C18.names_byte_sorted`). -/
example :
    sortNames [([122], 0), ([97, 233], 1)] = [([122], 0), ([97, 233], 1)] ∧
    StrictSorted ((sortNames [([122], 0), ([97, 233], 1)]).map withKey) := by
  have e : sortNames [([122], 0), ([97, 233], 1)] = [([122], 0), ([97, 233], 1)] := by decide +kernel
  refine ⟨e, ?_⟩
  rw [e]
  exact ⟨by decide +kernel, trivial⟩

/-- `<title>a&#13;b</title>`: the ASCII string `a CR b` is written as the literal string `(a CR b)` with the
carriage return unescaped, and an unescaped end-of-line in a literal string reads as a line feed
(ISO 32000-1 7.3.4.2): the title comes back as `a LF b`.  U+0018 comes back as U+02D8 (PDFDocEncoding).
With a non-ASCII character in the same string (hexadecimal UTF-16) both survive:
`pdf_string_roundtrip_unicode`. -/
theorem pdf_string_cr :
    Wp.PdfStr.encode [97, 13, 98] = .ok [40, 97, 13, 98, 41] ∧
    Wp.PdfStr.decode [40, 97, 13, 98, 41] = some [97, 10, 98] ∧
    Wp.PdfStr.decode [40, 24, 41] = some [728] := ⟨rfl, by decide +kernel, by decide +kernel⟩

/-- Regression example for the repaired defect `embedded-files-not-sorted` (commit 186e86a):
attachments `b.txt` then `a.txt` are listed `(a.txt)`, `(b.txt)` in the `/EmbeddedFiles` name array. -/
example :
    (Wp.Attach.embeddedFiles (fun s => s.toList.map Char.toNat) [] 10
      [⟨some 1, some "b.txt", none, none⟩, ⟨some 1, some "a.txt", none, none⟩]).2.1 =
      some ⟨14, [("a.txt", 13), ("b.txt", 11)]⟩ := by decide +kernel

/-- Regression example for the repaired defect `embedded-files-written-form-order` (commit e909019).
186e86a sorted by the *written form* of the keys (`pydyf.String.data`: parentheses around, `\\ ( )`
escaped): for attachments `report` and `report 2` the written forms `(report)` / `(report 2)` compare
`)` (0x29) with the space (0x20), and `report 2` was listed first although its key has `report` as a
proper prefix.  The keys are now compared as bytes: `report`, `report 2` — and `a(1)` before `aZ`
(for every input: `C18.embedded_files_key_sorted`). -/
example :
    let cpsOf := fun (s : String) => s.toList.map Char.toNat
    (Wp.Attach.embeddedFiles cpsOf [] 10
      [⟨some 1, some "report 2", none, none⟩, ⟨some 1, some "report", none, none⟩]).2.1 =
      some ⟨14, [("report", 13), ("report 2", 11)]⟩ ∧
    nameLt (Wp.Attach.fData (cpsOf "report 2")) (Wp.Attach.fData (cpsOf "report")) = true ∧
    (Wp.Attach.sortSpecs cpsOf [⟨10, 11, "aZ", "", 1, ""⟩, ⟨12, 13, "a(1)", "", 1, ""⟩]).map (·.filename) =
      ["a(1)", "aZ"] := by
  refine ⟨by decide +kernel, by decide +kernel, by decide +kernel⟩

/-- Two attachments with one name (`a.txt` twice) give two equal keys in the `/EmbeddedFiles` name tree:
a reader that looks a file up by name finds only one of them. -/
theorem embedded_files_duplicate_keys :
    (Wp.Attach.embeddedFiles (fun s => s.toList.map Char.toNat) [] 10
      [⟨some 1, some "a.txt", none, none⟩, ⟨some 2, some "a.txt", none, none⟩]).2.1 =
      some ⟨14, [("a.txt", 11), ("a.txt", 13)]⟩ := by decide +kernel

/-- `<a id=x name=y>target</a> <a href="#x">link</a>`: the element carries the id `x`, but the UA rule
`a[name] { -weasy-anchor: attr(name) }` overrides `[id] { -weasy-anchor: attr(id) }`, so the only
destination of the document is `y`; the link to `#x` has no destination (`resolve_links` logs
`No anchor #x` and drops it).  With `name=""` the element gets no destination at all. -/
theorem anchor_id_shadowed_by_name :
    let target : Wp.LinkAttr.El := { tag := "a", id := some "x".toList, name := some "y".toList }
    let link : Wp.LinkAttr.El := { tag := "a", href := some "#x".toList }
    Wp.LinkAttr.documentLinks [(0, target), (1, link)] none = ([(1, "internal", "x".toList)], ["y".toList]) ∧
    Wp.LinkAttr.anchorOf { tag := "a", id := some "x".toList, name := some [] } = none ∧
    resolveLinks [⟨[⟨"y", 0, 0⟩], [⟨"internal", "x", 0⟩]⟩] = [([], [⟨"y", 0, 0⟩])] := by
  refine ⟨by decide +kernel, by decide +kernel, by decide +kernel⟩

/-- Regression example for the repaired defect `attachment-second-write-crash` (commit a0bb005): a
document with `<link rel=attachment href="data:text/plain,hi">` used to die with `AttributeError` in the
"Embedded files" block of its second `generate_pdf` (the spent `Attachment.source`).  A second PDF —
here written from object number 31 instead of 10 — now embeds the same file under the same name
(for every document and every pair of object numbers: `C18.second_write_same_files`). -/
example :
    let atts := Wp.Attach.metaAttachments (fun _ => ⟨some 2, none, some "plain,hi", none⟩)
      [⟨some "data:text/plain,hi", none⟩]
    let cpsOf := fun (s : String) => s.toList.map Char.toNat
    (Wp.Attach.embeddedFiles cpsOf [] 10 atts).2.1 = some ⟨12, [("plain,hi", 11)]⟩ ∧
    (Wp.Attach.embeddedFiles cpsOf [] 31 atts).2.1 = some ⟨33, [("plain,hi", 32)]⟩ := by decide +kernel

end Wp.Witness.C18
