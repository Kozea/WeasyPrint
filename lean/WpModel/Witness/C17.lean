/-
C17 — witnesses: clauses of the property that are false of the current code, on concrete inputs
(mirrored by `finding:` lines of known_findings.txt and by the replay functions of py/props/c17.py).
-/
import WpModel.Props.C17
import WpModel.Model.LaidOut
import WpModel.Props.C17Parts
import WpModel.Props.C17Clip
import WpModel.Lemmas.ToUnicode

namespace Wp.C17.Witness
open Wp Wp.Stacking Wp.Gen Wp.C17

/-- `<div style="display:grid; opacity:.5; background:…">` : a grid container rooting a context. -/
def gridCtx : Node :=
  .ctx (.node { plain 1 .GridBox with opacity := 1 / 2 } []) [] [] [] [] [] [] 0

/-- Regression for the grid half of finding `context-root-loses-decoration` (repaired by a9887a3:
`GridContainerBox` joined the tuple of point 2): the background of the grid container that roots a
context is due once and painted once, inside the container's own opacity group. -/
theorem paint_once_holds_for_grid_root :
    cntBg 1 (paint true gridCtx {}) = 1 ∧ (expBg gridCtx).count 1 = 1 ∧
    paint true gridCtx {} =
      [.paint .bg 1 4 { alphas := [1 / 2], transforms := [], clips := [.bgBoxes .bg 1, .bgArea .bg 1] }] := by
  have h : ((1 : Rat) / 2 < 1) := by decide +kernel
  have hp : paint true gridCtx {} =
      [.paint .bg 1 4 { alphas := [1 / 2], transforms := [], clips := [.bgBoxes .bg 1, .bgArea .bg 1] }] := by
    simp [gridCtx, paint, paintBodyWith, plain, Kind.drawOwnDecoration, Kind.drawInline, paintList,
      point7With, point7List, lastIsLine, Kind.drawReplaced, outlineList, ownOutline, decoration,
      drawBackground, drawBorder, ctxEnv, Env.clip, h]
  refine ⟨?_, ?_, hp⟩
  · rw [hp]; decide
  · simp [gridCtx, expBg, expBgL, bgOf, plain]

/-- Every grid container class is painted by point 2 (`rootPainted`), so `paint_once_partial` covers grid roots. -/
theorem grid_roots_painted :
    rootPainted (plain 1 .GridBox) ∧ rootPainted (plain 1 .InlineGridBox) ∧
    rootPainted (plain 1 .GridContainerBox) := by
  refine ⟨?_, ?_, ?_⟩ <;> simp [rootPainted, plain, Kind.drawOwnDecoration, Kind.drawInline]

/-- `<tr style="position:relative; background:…"><td style="background:…">` : a table row rooting a
(fake) context, with its cell. -/
def rowCtx : Node :=
  .ctx (.node { plain 1 .TableRowBox with positioned := true }
      [.node (plain 2 .TableCellBox) []]) [] [] [] [] [] [.node (plain 2 .TableCellBox) []] 0

/-- Known finding `context-root-loses-decoration` (what is left of it: table parts): the unrestricted
paint-once statement fails — neither the row's nor its cell's background is painted (`TableRowBox` is not
in the tuple of point 2 and `draw_table` does not reach a row that left the table's tree). -/
theorem paint_once_fails_for_row_root :
    cntBg 1 (paint true rowCtx {}) = 0 ∧ cntBg 2 (paint true rowCtx {}) = 0 ∧
    (expBg rowCtx).count 1 = 1 ∧ (expBg rowCtx).count 2 = 1 := by
  have hp : paint true rowCtx {} = [] := by
    simp [rowCtx, paint, paintBodyWith, plain, Kind.drawOwnDecoration, Kind.drawInline, paintList,
      point7With, point7List, lastIsLine, Kind.drawReplaced, outlineList, ownOutline,
      Node.attrs?, Kind.drawLine]
  have he : expBg rowCtx = [1, 2] := by simp [rowCtx, expBg, expBgL, bgOf, plain]
  rw [hp, he]
  decide

/-- `<span style="position:relative; z-index:0; background:…">t<span style="position:relative;
z-index:-1; background:…">inner</span></span>`: an inline box rooting a real context with a
negative-z child context. -/
def inlineRootCtx : Node :=
  .ctx (.node { plain 1 .InlineBox with positioned := true, z := some 0 } [.leaf { plain 2 .TextBox with bg := none }])
    [.ctx (.node { plain 3 .InlineBox with positioned := true, z := some (-1) } []) [] [] [] [] [] [] (-1)]
    [] [] [] [] [] 0

/-- Known finding `inline-root-background-late`: CSS 2.1 E.2 paints the background of the context's
root first; here the first item is the background of the negative-z child (box 3), the root's
background (box 1) comes after it and covers it. -/
theorem inline_root_background_not_first :
    (paint true inlineRootCtx {}).map (fun it => match it with | .paint r i _ _ => (r, i) | .raise _ => (Role.bg, 0)) =
      [(.bg, 3), (.bg, 1), (.text, 2)] := by
  simp [inlineRootCtx, paint, paintBodyWith, plain, Kind.drawOwnDecoration, Kind.drawInline, paintList,
    point7With, point7List, lastIsLine, Kind.drawReplaced, outlineList, ownOutline, inlKids, inlBoxWith,
    decoration, drawBackground, drawBorder, drawText, Kind.dilInlineOrLine, Kind.dilTextChild, Node.attrs?,
    Kind.drawLine]

/-- The box of `<p style="visibility:collapse; background:#000004; border:1px solid #000006">` as laid out. -/
def collapsedBox : Attrs :=
  let bg := boxBackground false ⟨.collapse, some 4, 0⟩
  { plain 1 .BlockBox with visible := false, bg := bg, border := some 6, borderSides := 4 }

/-- Regression for finding `collapse-paints-background` (repaired by af29a5d: `layout_box_backgrounds`
tests `visibility != 'visible'`): the collapsed box of
`<p style="visibility:collapse; background:…; border:…">` has no background after layout, as a hidden one,
and paints nothing of its own. -/
theorem collapse_paints_no_background :
    boxBackground false ⟨.collapse, some 4, 0⟩ = none ∧
    boxBackground false ⟨.hidden, some 4, 0⟩ = none ∧
    decoration collapsedBox {} = [] := by
  refine ⟨by decide, by decide, ?_⟩
  simp [collapsedBox, decoration, drawBackground, drawBorder, plain, boxBackground, StyleBg.hidden]

/-- Known finding `row-group-background-first-row-only`: `<tbody style="background:…">` with two rows of one
30 × 20 cell each, at y = 10 and y = 30 (the group is 40 high).  The painting area is (10, 10, 30, 20) — as
high as the highest cell — so the cell of the second row, through whose border box the background is to be
painted (CSS 2.1 17.5.1), lies outside it. -/
theorem group_background_misses_second_row :
    (Wp.TablePart.groupLayer { exCell 10 with height := 40 } [[exCell 10], [exCell 30]]).1 = (10, 10, 30, 20) ∧
    Wp.TablePart.covers (10, 10, 30, 20) (exCell 10) ∧ ¬ Wp.TablePart.covers (10, 10, 30, 20) (exCell 30) := by
  refine ⟨by decide +kernel, by decide +kernel, by decide +kernel⟩

section Clip
open Wp.ClipRect

/-- Known finding `clip-auto-sides-swapped`: `clip: rect(0, auto, auto, 10px)` on a 50 × 40 border box at (50, 30).  CSS clips to
x ∈ [60, 100]; the code writes the rectangle (50, 30, 10, 40): x ∈ [50, 60] — the complement strip. -/
theorem clip_auto_sides_swapped :
    xEdges (clipRect 50 30 50 40 ⟨some 0, none, none, some 10⟩) = (50, 60) ∧
    cssClipEdges 50 30 50 40 ⟨some 0, none, none, some 10⟩ = (60, 100, 30, 70) := by
  decide +kernel

end Clip

end Wp.C17.Witness

namespace Wp.C17.Witness
open Wp Wp.ToUnicode

/-- Not a recorded finding, a closed evaluation of the model: the functional hypothesis of
`tounicode_maps_back` is necessary.  A font that draws U+0020 and U+00A0 with the same glyph (3) records the first text only, so
"a b c" maps back to "a b c": the no-break space is lost. -/
theorem shared_glyph_maps_back_wrong :
    decode (recordAll [] [(68, [0x61]), (3, [0x20]), (69, [0x62]), (3, [0xa0]), (70, [0x63])])
        [68, 3, 69, 3, 70] = some [0x61, 0x20, 0x62, 0x20, 0x63] ∧
    [(68, [0x61]), (3, [0x20]), (69, [0x62]), (3, [0xa0]), (70, [0x63])].flatMap (·.2)
      = [0x61, 0x20, 0x62, 0xa0, 0x63] := by
  decide

end Wp.C17.Witness
