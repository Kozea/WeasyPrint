/-
C05 — floats (`Model/ShrinkFit.lean`): `float-explicit-width-ignores-min-max` and
`float-shrink-to-fit-ignores-own-extras` are repaired in /repo (802b9d8, 8719f13; `fixed:` lines in
known_findings.txt): the theorems on their inputs state the correct behaviour (regressions).  Negation witnesses
for the checker of used values (`Model/UsedCheck.lean`): `first-line-overflow-margin-hack`,
`empty-fragment-below-page-bottom`, `empty-first-child-above-parent`.
-/
import WpModel.Model.ShrinkFit
import WpModel.Model.UsedCheck

namespace Wp.Witness.C05Shrink
open Wp Wp.BoxModel Wp.ShrinkFit

def plain : ABox :=
  { ml := some 0, mr := some 0, pl := 0, pr := 0, bl := 0, br := 0, w := none, minW := 0, maxW := .inf,
    posX := 0, isColumn := false }

private def widthOfResult (r : Except BErr ABox) : Option Rat :=
  match r with
  | .ok b => b.w
  | .error _ => none

/-- Regression (`fixed: float-explicit-width-ignores-min-max`).  `float: left; width: 80px; max-width: 50px`:
the used width is 50, as for an inline-block with the same style (it stayed 80 while `float_layout` reached
the decorated `float_width` only for `width: auto`). -/
theorem float_honours_max_width :
    widthOfResult (floatLayoutWidth 100 30 30 { plain with w := some 80, maxW := .fin 50 }) = some 50 ∧
    widthOfResult (inlineBlockLayoutWidth 100 30 30 { plain with w := some 80, maxW := .fin 50 }) = some 50 := by
  decide +kernel

/-- …and `float: left; width: 20px; min-width: 50px` is 50 wide (it stayed 20). -/
theorem float_honours_min_width :
    widthOfResult (floatLayoutWidth 100 30 30 { plain with w := some 20, minW := 50 }) = some 50 := by
  decide +kernel

/-- Regression (`fixed: float-shrink-to-fit-ignores-own-extras`).  `float: left; padding: 0 10px` around a
long text (min-content 30, max-content 230) in a 100px containing block: `shrink_to_fit` receives the
available 80, the content box is 80 wide and the margin box 100 — the float fits, like the inline-block
(it used to get the whole 100 and overflow by its paddings). -/
theorem float_fits_with_padding :
    widthOfResult (floatLayoutWidth 100 30 230 { plain with pl := 10, pr := 10 }) = some 80 ∧
    widthOfResult (inlineBlockLayoutWidth 100 30 230 { plain with pl := 10, pr := 10 }) = some 80 := by
  decide +kernel

open Wp.UsedCheck in
/-- A box of the shape the layout produces in `empty-fragment-below-page-bottom` /
`first-line-overflow-margin-hack` (height −3) is rejected by the checker with `nonneg`: clause (a) is false
of those pages. -/
theorem negative_height_rejected :
    firstBad 0 { cx := 0, pw := 60, prtl := false }
      (.mk { x := 0, y := 63, w := 60, h := -3, ml := 0, mr := 0, mt := 0, mb := 0, pl := 0, pr := 0, pt := 0,
             pb := 0, bl := 0, br := 0, bt := 0, bb := 0, minW := 0, maxW := none, minH := 0, maxH := none,
             mlAuto := false, mrAuto := false, wAuto := true, hAuto := true, kind := .flow, rtl := false,
             whole := false } []) = some (0, "nonneg") := by
  decide +kernel

/-- A 100 × 13 auto-sized flow box at the origin. -/
def plainU : UsedCheck.UBox :=
  { x := 0, y := 0, w := 100, h := 13, ml := 0, mr := 0, mt := 0, mb := 0, pl := 0, pr := 0, pt := 0, pb := 0,
    bl := 0, br := 0, bt := 0, bb := 0, minW := 0, maxW := none, minH := 0, maxH := none, mlAuto := false,
    mrAuto := false, wAuto := true, hAuto := true, kind := .flow, rtl := false, whole := true }

open Wp.UsedCheck in
/-- `empty-first-child-above-parent`: the shape the layout produces for `<body><div></div><div style="margin-top:3px;
height:10px"></div></body>` — `<body>` at y = 3 after the margin collapsed through the empty first child, which
stayed at y = 0 — is rejected by the checker with `stack` at `<body>` (subtree 1): clause (f)(g) "children lie inside
the parent's content box" is false of that page. -/
theorem empty_first_child_rejected :
    firstBad 0 { cx := 0, pw := 100, prtl := false }
      (.mk plainU [.mk { plainU with y := 3, h := 10 }
        [.mk { plainU with h := 0 } [], .mk { plainU with mt := 3, h := 10, hAuto := false } []]]) =
      some (1, "stack") := by
  decide +kernel

end Wp.Witness.C05Shrink
