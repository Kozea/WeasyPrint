/-
Footnote grammar: regression theorems for the five defects of this grammar repaired in /repo (the correct behaviour
on the inputs that showed them); no clause of C01/C03 is known to be false of the code on this
grammar any more (each input is replayed on the real layout: corpus/C01/footnote_*.json, corpus/C03/footnote_*.json, replays in
py/harness/pm_foot_corr.py).

  fixed 67bf2ca  footnote-policy-block-crash        (`paginateFoot wBlock 20` was `none`)
  fixed 8db5909  footnote-named-page-lost           (footnote 6 taken, never rendered)
  fixed 8db5909  footnote-named-page-area-overlap   (page_bottom 24 → 36, line over the area)
  fixed 84e5b27  footnote-area-negative-margin-overflow   (emptied area, −4px margin)
  fixed 2efefde  footnote-area-negative-margin-box        (non-empty area, −14px)
-/
import WpModel.Props.C01Foot
import WpModel.Props.C03Foot
import WpModel.Props.C03FootGeo

namespace Wp.C01Foot
open Wp Wp.PM Wp.PMF

/-! ### `footnote-policy: block` on the first content of a page (repair 67bf2ca) -/

/-- A 6-line paragraph on a 60px page; line 4 calls a 30px footnote with `footnote-policy: block`. The paragraph is
the first content of the page, lines 0–3 are placed, the footnote does not fit under line 4. Before the repair
`_linebox_layout` aborted the paragraph on an empty page and `make_page` failed its `assert root_box`. -/
def wBlock : FDoc := exDocOf 60 [.para 1 6 10 exSt [⟨4, 1, 3, 10, .block⟩]]

/-- **Regression (C02/C03)**: the page break is taken before line 4 (as
`footnote-policy: line` does); the footnote goes with its line to page 2 and is rendered there. -/
theorem policy_block_first_content :
    (paginateFoot wBlock 20).map (List.map pageSummary) =
      some [⟨false, [(1, 0), (1, 1), (1, 2), (1, 3)], [], [], []⟩, ⟨false, [(1, 4), (1, 5)], [1], [], [1]⟩] := by
  decide +kernel

/-- … and page 1 has a root box. -/
theorem policy_block_root_some :
    (remakePageF wBlock 0 none { brk := none, page := some "" } true (boxFns wBlock.root) []).isSome = true :=
  C03Foot.remakePageF_total wBlock 0 none _ true _ []

/-- `wBlock` satisfies the hypotheses of the footnote theorems. -/
example : FootWF wBlock := by
  refine ⟨?_, ?_, ?_, ?_, ?_⟩
  · simp [wBlock, exDocOf, FootBox.erase, eraseList, NoFixedHeight, NoFixedHeightList, exSt]
  · simp [wBlock, exDocOf, FootBox.erase, eraseList, WellFormed, WellFormedList, exSt]
  · simp [wBlock, exDocOf, CallsOk, CallsOkList]
  · simp [wBlock, exDocOf, UniqueParaIds, paraIds, paraIdsList]
  · decide +kernel

/-- The policy still pushes a paragraph that is *not* the first content of its page: two lines, then a 4-line
paragraph whose line 2 calls a 40px `footnote-policy: block` footnote on an 80px page: lines 0–1 of the paragraph
fit, the footnote does not fit under line 2, the whole paragraph is cancelled (its footnotes un-laid-out) and
starts page 2, where the footnote is rendered. -/
def wBlockPush : FDoc := exDocOf 80 [.para 2 2 10 exSt [], .para 1 4 10 exSt [⟨2, 1, 4, 10, .block⟩]]

theorem policy_block_pushes_paragraph :
    (paginateFoot wBlockPush 20).map (List.map pageSummary) =
      some [⟨false, [(2, 0), (2, 1)], [], [], []⟩,
            ⟨false, [(1, 0), (1, 1), (1, 2), (1, 3)], [1], [], [1]⟩] := by
  decide +kernel

/-! ### footnotes of two page names in one footnote area (repair 8db5909) -/

/-- Two paragraphs on 40.5px pages (lines of 12.5px): the last line of the first calls footnotes 3 and 4 (8px each),
4 is postponed; the second paragraph has `page: pa` and calls footnote 6 on its last line. Page 3 (named `pa`)
takes footnote 4 (page name '') and then 6 (page name `pa`). Before the repair the footnote area was broken at the
page-name change between its two children: 6 was taken (`current_page_footnotes`) but never rendered. -/
def wNamed : FDoc := exDocOf (81 / 2)
  [.para 3 5 (25 / 2) exSt [⟨4, 3, 1, 8, .auto⟩, ⟨4, 4, 1, 8, .auto⟩],
   .para 4 2 (25 / 2) { exSt with page := "pa" } [⟨1, 6, 1, 8, .auto⟩]]

/-- **Regression (C01)**: every footnote is rendered exactly once — the whole
area (4 and 6) is now laid out on page 3, overflows the page, 6 is postponed and a last page is made for it. -/
theorem named_page_keeps_footnote :
    (paginateFoot wNamed 20).map (List.map pageSummary) =
      some [⟨false, [(3, 0), (3, 1), (3, 2)], [], [], []⟩, ⟨false, [(3, 3), (3, 4)], [3], [4], [3]⟩,
            ⟨false, [(4, 0), (4, 1)], [4], [6], [4]⟩, ⟨true, [], [6], [], [6]⟩] ∧
    (boxFns wNamed.root).map (fun f => f.fid) = [3, 4, 6] := by
  constructor <;> decide +kernel

/-- `wNamed` has two page names among its footnotes and satisfies `FootWF`: `footnotes_shown` applies to it. -/
example : FootWF wNamed ∧ (boxFns wNamed.root).map (fun f => f.page) = ["", "", "pa"] := by
  refine ⟨⟨?_, ?_, ?_, ?_, ?_⟩, ?_⟩
  · simp [wNamed, exDocOf, FootBox.erase, eraseList, NoFixedHeight, NoFixedHeightList, exSt]
  · simp [wNamed, exDocOf, FootBox.erase, eraseList, WellFormed, WellFormedList, exSt]
  · simp [wNamed, exDocOf, CallsOk, CallsOkList]
  · simp [wNamed, exDocOf, UniqueParaIds, paraIds, paraIdsList]
  · decide +kernel
  · decide +kernel

/-- A footnote area with a bottom margin and border (2px each) and `max-height: 25px`; footnote 2 (50px, page name
'') is postponed to page 2, named `pb`, where the three footnotes 11–13 of the `page: pb` paragraph are laid out
and postponed one after the other. Before the repair the area — holding footnotes of two page names — was laid out
fragmented (bottom margin/border removed), `_update_footnote_area` subtracted the fragmented margin height but
added back the full one, `page_bottom` rose from 24 to 36 and line 1 (26 … 36) was accepted over the area (top 24). -/
def wDrift : FDoc :=
  { pageH := 53, rootLtr := true, area := { mt := 0, mb := 2, pt := 0, pb := 0, bt := 0, bb := 2, maxH := some 25 },
    root := .block 100 { exSt with isRoot := true } [.block 101 exSt
      [.para 1 1 10 exSt [⟨0, 2, 5, 10, .auto⟩],
       .para 3 2 10 { exSt with page := "pb", pt := 16 } [⟨0, 11, 1, 10, .auto⟩, ⟨0, 12, 1, 10, .auto⟩,
         ⟨0, 13, 1, 10, .auto⟩]]] }

/-- **Regression (C03)**: per page (bottoms of the lines, top of the footnote area,
footnotes rendered): on page 2 only the first line (ending at 26, exempt as first content) is placed above the
area that starts at 24, and the second line goes to page 3; no line below an area top otherwise. -/
theorem page_bottom_no_drift :
    (paginateFoot wDrift 20).map (fun ps => ps.map (fun p =>
      ((placedLines p.page.root true (C03FootGeo.pageSourceF wDrift p).erase).map (fun l => l.y + l.lineH),
       p.area.map (fun a => a.y), shownFids p))) =
    some [([10], none, []), ([26], some 24, [2]), ([10], some 29, [11, 12]), ([], some 39, [13])] := by
  decide +kernel

/-! ### an emptied footnote area with a negative top margin (repair 84e5b27) -/

/-- 6 lines of 10px on a 46px page; line 1 calls a 50px footnote that cannot fit and is postponed; the `@footnote`
area has `margin-top: -4px`. Before the repair `report_footnote` left the emptied area with height 0 and its margin
height −4 subtracted from `context.page_bottom` (46 → 50): line 4 (40 … 50) was accepted on page 1. -/
def wNeg : FDoc :=
  { exDocOf 46 [.para 1 6 10 exSt [⟨1, 1, 5, 10, .auto⟩]] with area := { exArea with mt := -4 } }

/-- **Regression (C03)**: the emptied area takes no room, `page_bottom` is
the page box bottom again, line 4 goes to page 2 (per page: line bottoms, area top, footnotes rendered). -/
theorem area_emptied_takes_no_room :
    (paginateFoot wNeg 20).map (fun ps => ps.map (fun p =>
      ((placedLines p.page.root true (C03FootGeo.pageSourceF wNeg p).erase).map (fun l => l.y + l.lineH),
       p.area.map (fun a => a.y), shownFids p))) =
    some [([10, 20, 30, 40], none, []), ([10], some 0, [1]), ([10], none, [])] ∧ wNeg.pageH = 46 := by
  constructor
  · decide +kernel
  · rfl

/-- The state after `report_footnote` emptied the area is the state before any footnote was laid out. -/
example :
    let c : FCtx := { area := { exArea with mt := -4 }, pageH := 46, currentPage := 1, forcedBreak := false, tbl := [] }
    let f : Fn := ⟨1, 5, 10, .auto, ""⟩
    let fs : FState := { pending := [f], cur := [], reported := [], pageBottom := 46, areaH := none }
    ((reportFootnote c (layoutFootnote c fs f).1 f).areaH, (reportFootnote c (layoutFootnote c fs f).1 f).pageBottom) =
      (none, 46) := by decide +kernel

/-! ### a non-empty footnote area whose margin box has a negative height (repair 2efefde) -/

/-- 7 lines of 10px on a 46px page; line 0 calls a 10px footnote, which fits; the `@footnote` area has
`margin-top: -14px`, more than the content is high: the margin box of the area is −4px high. Before the repair
`_update_footnote_area` subtracted −4 from `context.page_bottom` (46 → 50) and line 4 (40 … 50) was accepted on
page 1. -/
def wNegBox : FDoc :=
  { exDocOf 46 [.para 1 7 10 exSt [⟨0, 1, 1, 10, .auto⟩]] with area := { exArea with mt := -14 } }

/-- **Regression (C03)**: what the area takes from the page is clamped
at 0, `page_bottom` stays 46, four lines (ending at 40) are placed on page 1 and line 4 goes to page 2 (per page:
line bottoms, top of the area's margin box, footnotes rendered). -/
theorem area_negative_margin_box_clamped :
    (paginateFoot wNegBox 20).map (fun ps => ps.map (fun p =>
      ((placedLines p.page.root true (C03FootGeo.pageSourceF wNegBox p).erase).map (fun l => l.y + l.lineH),
       p.area.map (fun a => a.y), shownFids p))) =
    some [([10, 20, 30, 40], some 50, [1]), ([10, 20, 30], none, [])] ∧ wNegBox.pageH = 46 := by
  constructor
  · decide +kernel
  · rfl

/-- `wNegBox` satisfies the hypotheses of `C03FootGeo.paginate_line_fits` (none is on the `@footnote` style), so the
theorem applies to it. -/
example : DecoOk wNegBox.root.erase ∧ HeightsOk wNegBox.root := by
  refine ⟨?_, ?_⟩
  · simp [wNegBox, exDocOf, FootBox.erase, eraseList, DecoOk, DecoOkList, PStyle.DecoOk, exSt]
    decide +kernel
  · simp only [wNegBox, exDocOf, HeightsOk, HeightsOkList, List.mem_cons, List.not_mem_nil, or_false, forall_eq,
      and_true]
    decide +kernel

end Wp.C01Foot
