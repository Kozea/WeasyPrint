/-
C10 — witnesses: concrete inputs on which a full-strength statement is FALSE of the model (and of the
real code: each input is replayed on the implementation by `py/props/c10.py`), and the inputs of
repaired findings, on which the statement now holds.
-/
import WpModel.Props.C10
import WpModel.Props.C10Draw
import WpModel.Model.TableSplitBorders
import WpModel.Props.C10Columns

namespace Wp.Witness.C10
open Wp Wp.Table Wp.C10

/-- Non-negative declarations: table width, spacing, every `<col>` width and every first-row cell
width / padding / border are `≥ 0`. -/
def NonnegDecl (W s : Rat) (cols : List Dim) (cells : List FCell) : Prop :=
  0 ≤ W ∧ 0 ≤ s ∧
  (∀ d ∈ cols, ∀ w, d.used W = some w → 0 ≤ w) ∧
  (∀ c ∈ cells, (∀ w, c.width.used W = some w → 0 ≤ w) ∧ 0 ≤ c.padL ∧ 0 ≤ c.padR ∧ 0 ≤ c.borL ∧ 0 ≤ c.borR)

/-- Regression for the finding `fixed-negative-column` (repaired by 5d962d2).
`<table style="table-layout:fixed;width:60px;border-spacing:0">
<col style="width:100px"><col><tr><td colspan=2 style="width:50px">`: the second column used to get
`50 − 100 = −50` (then `+5`: columns 105 / −45); it now gets `max(−50, 0) = 0` and the table is widened
to the declared 100. -/
theorem fixed_negative_column_repaired :
    fixedLayout (some 60) 0 [.px 100, .auto] [⟨2, .px 50, 0, 0, 0, 0, .content⟩] = .ok ⟨100, [100, 0]⟩ := by
  decide +kernel

/-- Regression: the full statement "all column widths are ≥ 0 given non-negative declarations"
(DESIGN §4 C10, fixed_honours) holds since that repair (`C10.fixed_nonneg`; only the `<col>` part of
`NonnegDecl` is needed). -/
theorem fixed_nonneg_of_nonnegDecl (W s : Rat) (cols : List Dim) (cells : List FCell) (o : FixedOut)
    (hd : NonnegDecl W s cols cells) (h : fixedLayout (some W) s cols cells = .ok o) : ∀ w ∈ o.cols, 0 ≤ w :=
  fixed_nonneg W s cols cells o h hd.2.2.1

/-- Without `CleanBand`, `C10.auto_ge_min_partial` fails by less than `1e-9 · assignable`: two guesses whose
sums both fall inside the tolerance band above the assignable width make the code extrapolate
(`ratio = 5/3`) and the constrained first column ends `8e-8` below its min-content width 100.
(Replayed on the real `auto_table_layout` with `Fraction`s by the harness; not listed as a finding:
the deviation is below the code's own float tolerance.) -/
def bandCols : List ACol :=
  [⟨100, 100 + 120 / 1000000000, 0, true, true⟩, ⟨100, 300, 0, false, true⟩,
   ⟨0, 500, 50 * (1 + 4 / 10000000000), false, true⟩]

theorem auto_band_below_min :
    (autoColumns 400 bandCols).map (·.1) = .ok [1249999999 / 12500000, 100, 2500000001 / 12500000] ∧
    (1249999999 / 12500000 : Rat) < 100 := by
  constructor
  · decide +kernel
  · norm_num

/-- `<table style="border-spacing:10px"><tr><td colspan=2>aaaa</td></tr></table>` (10px fixed-pitch
font): `table_and_columns_preferred_widths` counts one border spacing per column *in which a cell
originates* (here 1 + 1 = 2 spacings = 20px), `table_layout` places all columns with `n + 1 = 3`
spacings.  The auto layout is internally consistent (`auto_sum_table`: `Σ cw + 20 = 50`) but the
clause "column widths plus border spacing add up to the table's width" fails with the spacings that
are actually laid out: finding `auto-spacing-ignores-spanned-only-column`. -/
def spannedOnlyIn : AutoIn :=
  ⟨none, 50, 50, 20, some 0, some 0, 0, 0, 0, 0, 400,
   [⟨15, 15, 0, false, true⟩, ⟨15, 15, 0, false, true⟩]⟩

theorem auto_spacing_short :
    (autoLayout spannedOnlyIn).map (fun o => (o.width, o.cols)) = .ok (50, [15, 15]) ∧
    (colPositions true 0 50 10 [15, 15]).positions = [10, 35] ∧
    -- the last column ends at 50 = the table's right content edge: the third spacing is outside
    sumR [15, 15] + 10 * ((2 : Rat) + 1) ≠ 50 := by
  refine ⟨by decide +kernel, by decide +kernel, by norm_num⟩

/-- Regression for the finding `rtl-columns-reversed-on-relayout` (repaired by d13f52d).
`table_layout` used to end with
`column_widths.reverse()` on the list object shared with the pre-layout table, so a second layout of
the same table on the same page (`_in_flow_layout` retries with a larger `bottom_space`) read the
reversed list and placed the cell of column 0 at x = 25, 68 wide.  The code now stores a reversed
*copy* on the fragment (`table.column_widths = column_widths[::-1]`, `finalColumns` in the model) and
every pass reads the list computed by the width algorithm: with widths `[17, 68]` the cell of column 0
is at x = 76 and 17 wide, the fragment shows `[68, 17]`, and reversing what a fragment shows gives
back the layout widths (checked on every rtl fragment by the `doc-final-columns` section). -/
theorem rtl_relayout_same_widths :
    cellGeom false (colPositions false 8 85 0 [17, 68]).positions [17, 68] 0 0 1 = .ok (some ⟨76, 17, 1⟩) ∧
    finalColumns false [17, 68] = [68, 17] ∧
    finalColumns false (finalColumns false [17, 68]) = [17, 68] := by
  refine ⟨by decide +kernel, by decide +kernel, by decide +kernel⟩

/-- Regression for the finding `collapsed-footer-line-off-by-one` (repaired by 4d1447f).
A collapsed table with a `tfoot` and five body rows `a … e`, row `e` with
`border-top: 4px solid red`, on pages that hold three body rows plus the repeated footer: the first
fragment shows `a, b, c, f`.  `row_number(y, horizontal=True)` used to test
`y >= grid_height - footer_rows - 1` and painted the red line above `e` (next page) between `b` and `c`;
it now tests `y >= grid_height - footer_rows`: line 2 of the fragment is grid line 2 (the null border)
and nothing is painted. -/
def footerFragment : BorderDraw.DrawIn :=
  let e0 : Borders.Edge := Borders.weakNull
  let red : Borders.Edge := ⟨⟨0, 4, Borders.styleRank .solid⟩, ⟨.solid, 4, 1⟩⟩
  ⟨[10, 10, 10, 10], [0, 10, 20, 30], [10], [0], 0, 1, 0, false, false,
   List.replicate 6 [e0, e0], [[e0], [e0], [e0], [e0], [red], [e0], [e0]]⟩

theorem footer_line_repaired :
    BorderDraw.rowNumber footerFragment 2 true = 2 ∧
    BorderDraw.rowNumber footerFragment 3 true = 5 ∧      -- the footer's top line is still the footer's
    BorderDraw.segments footerFragment = .ok [] := by
  refine ⟨by decide +kernel, by decide +kernel, by decide +kernel⟩

/-- Regression: the full statement holds since that repair (`C10Draw.painted_body_lines`). -/
theorem painted_body_lines_full (d : BorderDraw.DrawIn) (y : Int) (h1 : (d.headerRows : Int) < y)
    (h2 : y < (BorderDraw.gridHeight d : Int) - d.footerRows) :
    BorderDraw.rowNumber d y true = y + BorderDraw.bodyOffset d :=
  C10Draw.painted_body_lines d y h1 (Or.inl h2)

/-- Regression for the finding `collapsed-dropped-header-shifts-borders` (repaired by 02afb22).
A collapsed table whose `thead` (one
row `h`, 55px high) does not fit on the 60px page together with a body row: the header is dropped and
the first fragment shows `a, b, c` — grid rows 1, 2, 3.  `table_layout` now stores
`skipped_rows = len(header rows) = 1` on that fragment (`SplitBorders.finalSkippedRows`), so the 4px red
line above `b` (grid line 2) is painted at fragment line 1, y = 12, where the layout reserved it (it
used to be painted at y = 24, under `b`). -/
def droppedHeaderFragment : BorderDraw.DrawIn :=
  let e0 : Borders.Edge := Borders.weakNull
  let red : Borders.Edge := ⟨⟨0, 4, Borders.styleRank .solid⟩, ⟨.solid, 4, 1⟩⟩
  ⟨[12, 12, 10], [0, 12, 24], [10], [0], 0, 0, SplitBorders.finalSkippedRows none [1, 3] true false,
   false, false, List.replicate 4 [e0, e0], [[e0], [e0], [red], [e0], [e0]]⟩

theorem dropped_header_repaired :
    SplitBorders.finalSkippedRows none [1, 3] true false = 1 ∧
    BorderDraw.rowNumber droppedHeaderFragment 1 true = 2 ∧
    (BorderDraw.segments droppedHeaderFragment).map (·.map (fun s => (s.style, s.width, s.color, s.y))) =
      .ok [(.solid, 4, 1, 12)] := by
  refine ⟨rfl, by decide +kernel, by decide +kernel⟩

/-- Finding `collapsed-dropped-header-top-border`.  `table_layout` recomputes the top border of a
fragment (`horizontal_borders[skipped_rows] / 2`) only `if not split_cells and not has_header`, and
`has_header` means *declared*: when the `thead` does not fit and is dropped, every fragment keeps the
top border of the header's top line.  `thead` with border 0, body cells `border: 4px solid red`, header
dropped: 0 is reserved above the first row (`before`), while the line painted at the top of the first
fragment is grid line 1 (under the dropped header), 4px wide, centred on the row's top edge y = 0: half
of it lies outside the table box.  Replayed on the real code by `py/props/c10.py`
(`dropped_header_top_replay`). -/
def droppedHeaderTopFragment : BorderDraw.DrawIn :=
  let e0 : Borders.Edge := Borders.weakNull
  let red : Borders.Edge := ⟨⟨0, 4, Borders.styleRank .solid⟩, ⟨.solid, 4, 1⟩⟩
  ⟨[14, 14], [0, 14], [10], [0], 0, 0, 1, false, false,
   [[e0, e0], [red, red], [red, red]], [[e0], [red], [red], [red]]⟩

theorem dropped_header_top_border :
    (∀ skip lens hw before, SplitBorders.borderTop skip lens true hw before = .ok before) ∧
    SplitBorders.borderTop none [3] false [[0], [4], [4], [4]] 0 = .ok 0 ∧   -- what a header-less table reserves
    SplitBorders.borderTop (some (0, some (1, false))) [3] false [[0], [4], [4], [4]] 0 = .ok 2 ∧
    BorderDraw.rowNumber droppedHeaderTopFragment 0 true = 1 ∧
    ((BorderDraw.segments droppedHeaderTopFragment).map
      (·.filterMap (fun s => if s.side = .top ∧ s.y = 0 then some s.width else none))) = .ok [4] := by
  refine ⟨?_, by decide +kernel, by decide +kernel, by decide +kernel, by decide +kernel⟩
  intro skip lens hw before
  simp [SplitBorders.borderTop]

/-- Finding `collapsed-rtl-clipped-grid`.  `direction: rtl; table-layout: fixed`, first row `<td>a</td>`,
second row `<td style="border:5px solid red">b</td><td>c</td>`: the fixed layout keeps one column (the
first row has one cell), `c` is beyond the grid and not rendered.  The border grids of
`collapse_table_borders` have two columns, stored left to right: `c` on the left (1px black), `b` on the
right (5px red).  The fragment keeps the *rightmost* grid column, `draw_collapsed_borders` reads column
`x = 0`, the leftmost: `b`, laid out with used border widths 2.5 on every side, is painted with 1px lines
above, below and on its left (and `a` gets no top line).  Replayed on the real code by
`py/props/c10.py` (`rtl_clipped_replay`). -/
def clippedRtlFragment : BorderDraw.DrawIn :=
  let e0 : Borders.Edge := Borders.weakNull
  let blk : Borders.Edge := ⟨⟨0, 1, Borders.styleRank .solid⟩, ⟨.solid, 1, 1⟩⟩
  let red : Borders.Edge := ⟨⟨0, 5, Borders.styleRank .solid⟩, ⟨.solid, 5, 2⟩⟩
  ⟨[10, 10], [0, 10], [100], [0], 0, 0, 0, false, false,
   [[e0, blk, blk], [blk, red, red]], [[e0, blk], [blk, red], [blk, red]]⟩

theorem rtl_clipped_grid_wrong_column :
    (BorderDraw.segments clippedRtlFragment).map (·.map (fun s => (s.side, s.width, s.y))) =
      .ok [(.left, 1, 0), (.top, 1, 10), (.left, 1, 19 / 2), (.top, 1, 20), (.left, 5, 19 / 2)] := by
  decide +kernel

/-- Finding `rtl-column-group-negative-width`.  `direction: rtl`, three columns 20 / 30 / 42 wide,
`border-spacing: 2px`, a `<colgroup>` of the first two: `table_layout` sets
`group.width = last.position_x + last.width - first.position_x` with `first` the rightmost column (x = 78)
and `last` the one to its left (x = 46, width 30): the group box is x = 78, **width −2** — its background
is not painted over its columns (left to right the same group is x = 2, width 52).  The general statement
is `C10Columns.group_extent_rtl_nonpos`.  Replayed on the real code by `py/props/c10.py`
(`rtl_colgroup_replay`). -/
theorem rtl_column_group_negative_width :
    (TableColumns.layoutGroup (colPositions false 0 100 2 [20, 30, 42]).positions [20, 30, 42] 2 10
        (C10Columns.span 0 2)).map (·.2) = .ok ⟨78, 2, -2, 10⟩ ∧
    (TableColumns.layoutGroup (colPositions true 0 100 2 [20, 30, 42]).positions [20, 30, 42] 2 10
        (C10Columns.span 0 2)).map (·.2) = .ok ⟨2, 2, 52, 10⟩ ∧
    ¬ (∀ (x W s : Rat) (cw : List Rat) (g k : Nat), g + k < cw.length → (∀ w ∈ cw, 0 ≤ w) → 0 ≤ s →
        0 ≤ C10Columns.colX false x W s cw (g + k) + cw.getD (g + k) 0 - C10Columns.colX false x W s cw g) := by
  refine ⟨by decide +kernel, by decide +kernel, ?_⟩
  intro h
  have h1 := h 0 100 2 [20, 30, 42] 0 1 (by decide) (by intro w hw; simp at hw; rcases hw with rfl | rfl | rfl <;> norm_num)
    (by norm_num)
  have h2 := (C10Columns.group_extent_rtl_nonpos 0 100 2 [20, 30, 42] 0 1 (by decide)
    (by intro w hw; simp at hw; rcases hw with rfl | rfl | rfl <;> norm_num) (by norm_num) (by decide)).1
  rw [h2] at h1
  norm_num [sumR] at h1

end Wp.Witness.C10
