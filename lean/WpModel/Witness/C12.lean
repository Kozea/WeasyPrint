/-
C12 — negation witnesses: concrete inputs on which the *full-strength* clause of the property is
false of the model (and, replayed by the harness on every run, of the implementation).  Each is
listed in known_findings.txt under the id given in its docstring.  All are closed computations
(`decide +kernel`: no axioms).

Regressions: a theorem named `…_fixed` states the *correct* behaviour on the input that shows a finding
repaired in /repo (`fixed:` lines of known_findings.txt, with the commit; all of C12 but `flex-gap-sign` and
`flex-gap-first-on-line` have one), so a model that goes back to the defect does not build and, through the
correspondence and the corpus replays, a code that does is reported.
-/
import WpModel.Model.Flex
import WpModel.Model.Grid

namespace Wp.Witness.C12
open Wp

/-! ## Flex -/

section Flex
open Wp.Flex

/-- an empty block item: `flex: 0 1 auto`, everything else initial -/
def item : Item :=
  { id := 0, order := 0, grow := 0, shrink := 1, basis := .auto, sWidth := none, sHeight := none,
    sMinW := none, sMaxW := none, sMinH := none, sMaxH := none, ml := some 0, mr := some 0,
    mt := some 0, mb := some 0, pl := 0, pr := 0, pt := 0, pb := 0, bl := 0, br := 0, bt := 0,
    bb := 0, alignSelf := .auto }

/-- `flex: 1 1 0` -/
def flex110 : Item := { item with grow := 1, shrink := 1, basis := .px 0 }

/-- `display: flex; width: 100px` -/
def rowC : Container :=
  { row := true, reverse := false, wrap := .nowrap, width := 100, height := none, mainGap := 0,
    crossGap := 0, justify := .normal, alignItems := .normal, alignContent := .normal }

/-- `display: flex; flex-direction: column; width: 100px; height: 100px` -/
def colC : Container := { rowC with row := false, height := some 100 }

/-- border boxes `(x, y, w, h)` of the laid-out items -/
def rects (r : Except PyErr Result) : Option (List (Rat × Rat × Rat × Rat)) :=
  match r with
  | .ok r => some (r.rects.map fun q => (q.x, q.y, q.w, q.h))
  | .error _ => none

/-- fixed id=flex-clamp-no-redistribute (F5, 9739d52).  `flex:1 1 0; max-width:10px` + `flex:1 1 0` in
100px: the first item is frozen at its maximum by 9.7.5.d–e and the second pass gives the 90px that are
left to the second one (was 10 + 50). -/
theorem clamp_redistributes_fixed :
    rects (layout rowC [{ flex110 with sMaxW := some 10 }, { flex110 with id := 1 }]) =
      some [(0, 0, 10, 0), (10, 0, 90, 0)] := by decide +kernel

/-- fixed id=flex-padding-not-counted (b901ca9).  Two `flex:1 1 0; padding:0 10px` items in 100px are 50px
wide each, paddings included (was 70 + 70). -/
theorem padding_counted_fixed :
    rects (layout rowC [{ flex110 with pl := 10, pr := 10 }, { flex110 with id := 1, pl := 10, pr := 10 }]) =
      some [(0, 0, 50, 0), (50, 0, 50, 0)] := by decide +kernel

/-- id=flex-vertical-auto-margins-zeroed.  `margin-top:auto` on a 10px item of a 100px column
container: the item stays at y = 0 (90 expected). -/
theorem vertical_auto_margins_zeroed :
    rects (layout colC [{ item with sHeight := some 10, mt := none }]) = some [(0, 0, 100, 10)] := by
  decide +kernel

/-- fixed id=flex-negative-auto-margin (b27af5f).  `flex:none; width:120px; margin-left:auto` in 100px:
the auto margin is 0 and the item starts at x = 0 (was −20: auto margins only absorb positive free space). -/
theorem negative_auto_margin_fixed :
    rects (layout rowC [{ item with shrink := 0, sWidth := some 120, sHeight := some 10, ml := none }]) =
      some [(0, 0, 120, 10)] := by decide +kernel

/-- fixed id=flex-cross-auto-margin-not-positioned (4ac1c09).  Wrapping column container, second column
holds an item with `margin-left:auto`: it is laid out in its own column, at x = 30 (was x = 0, on top of the
first column). -/
theorem cross_auto_margin_positioned_fixed :
    rects (layout { colC with wrap := .wrap, height := some 50, alignContent := .flexStart }
      [{ item with sHeight := some 40, sWidth := some 30 },
       { item with id := 1, sHeight := some 40, sWidth := some 20, ml := none }]) =
      some [(0, 0, 30, 40), (30, 0, 20, 40)] := by decide +kernel

/-- fixed id=flex-align-content-last-item (10a14ee).  Two lines, `align-content:center`, the second line
holds a `flex-start` item (30px high) and a `flex-end` item (10px): the flex-start item is at the top of
its line, y = 40, the flex-end one at y = 60 (both were at y = 60). -/
theorem align_content_own_offset_fixed :
    rects (layout { rowC with wrap := .wrap, height := some 100, alignContent := .center }
      [{ item with sWidth := some 60, sHeight := some 10 },
       { item with id := 1, sWidth := some 60, sHeight := some 30, alignSelf := .flexStart },
       { item with id := 2, sWidth := some 30, sHeight := some 10, alignSelf := .flexEnd }]) =
      some [(0, 30, 60, 10), (0, 40, 60, 30), (60, 60, 30, 10)] := by decide +kernel

/-- fixed id=flex-column-clamps-by-width (9739d52: the clamp of 9.7.5.d uses the main-axis min / max).
Column container of 100px: `flex:1 1 0; max-width:10px` keeps its share of the *height* (50 + 50; was 10 + 50),
the max-width only limits its width. -/
theorem column_clamps_by_height_fixed :
    rects (layout colC [{ flex110 with sMaxW := some 10 }, { flex110 with id := 1 }]) =
      some [(0, 0, 10, 50), (0, 50, 100, 50)] := by decide +kernel

/-- id=flex-fractional-factor-sum.  `flex:0.5 1 0` alone in 80px takes 80px (css-flexbox 9.7.4.b:
40px): `int(log10 40) = int(log10 80)`, so the scaled free space is not used. -/
theorem fractional_factor_sum :
    rects (layout { rowC with width := 80 } [{ flex110 with grow := 1/2, sHeight := some 10 }]) =
      some [(0, 0, 80, 10)] := by decide +kernel

/-- id=flex-content-base-clamped.  `flex:1 1 auto; min-width:20px` (no width: content-sized) next to
`flex:1 1 auto; width:20px` in 100px: the content flex base size (0) is already clamped to 20 by
`max_content_width`, so the free space is 60 instead of 80 and the items get 50 + 50 (40 + 60 expected). -/
theorem content_base_clamped :
    rects (layout rowC [{ item with grow := 1, sMinW := some 20, sHeight := some 5 },
                        { item with id := 1, grow := 1, sWidth := some 20, sHeight := some 5 }]) =
      some [(0, 0, 50, 5), (50, 0, 50, 5)] := by decide +kernel

/-- fixed id=flex-negative-factor-accepted (c151619).  `flex:1 1 0` next to `flex-grow:-1; flex-basis:0` in 100px:
the validator rejects the negative factor, the declaration is ignored (`computedFactor (-1) 0 = 0`) and the first
item takes the whole width (was 0px: the factors summed to 0 and nothing was distributed). -/
theorem negative_factor_rejected_fixed :
    computedFactor (-1) 0 = 0 ∧ computedFactor (-1/2) 1 = 1 ∧
    rects (layout rowC [{ flex110 with sHeight := some 5 },
                        { item with id := 1, grow := computedFactor (-1) 0, basis := .px 0, sHeight := some 5 }]) =
      some [(0, 0, 100, 5), (100, 0, 0, 5)] := by decide +kernel

end Flex

/-! ## Grid -/

section Grid
open Wp.Grid

/-- an empty block item, 5px high, placed automatically -/
def gitem : GItem :=
  { id := 0, order := 0, rowStart := .auto, rowEnd := .auto, colStart := .auto, colEnd := .auto,
    sWidth := none, sHeight := some 5, ml := some 0, mr := some 0, mt := some 0, mb := some 0,
    pl := 0, pr := 0, pt := 0, pb := 0, bl := 0, br := 0, bt := 0, bb := 0,
    justifySelf := .auto, alignSelf := .auto }

/-- `display: grid; width: 100px` -/
def gridC : GContainer :=
  { templateRows := none, templateCols := none, autoRows := [.one .auto], autoCols := [.one .auto],
    flowColumn := false, dense := false, areas := none, colGap := 0, rowGap := 0, width := 100,
    height := none, justifyContent := .normal, alignContent := .normal, justifyItems := .normal,
    alignItems := .normal }

/-- `grid-template-columns: a px b px …` -/
def pxCols (l : List Rat) : Option (List TElem) :=
  some ((l.map fun q => [TElem.names [], TElem.size (.one (.px q))]).flatten ++ [TElem.names []])

def grects (r : Except GErr Result) : Option (List (Rat × Rat × Rat × Rat)) :=
  match r with
  | .ok r => some (r.rects.map fun q => (q.x, q.y, q.w, q.h))
  | .error _ => none

def gareas (r : Except GErr Result) : Option (List (Nat × Area)) :=
  match r with
  | .ok r => some r.positions
  | .error _ => none

def gerr (r : Except GErr Result) : Option GErr :=
  match r with
  | .ok _ => none
  | .error e => some e

/-- fixed id=grid-justify-ignores-gap (0e77b99).  Two 20px columns, `column-gap:10px;
justify-content:center` in 100px: the columns start at 25 and 55 (were 30 and 60). -/
theorem justify_counts_gap_fixed :
    grects (layout { gridC with templateCols := pxCols [20, 20], colGap := 10, justifyContent := .center }
      [gitem, { gitem with id := 1 }]) = some [(25, 0, 20, 5), (55, 0, 20, 5)] := by decide +kernel

/-- fixed id=grid-locked-skips-first-track (e5d53d3).  `grid-row: 1` alone: the item is put in the first
column (was the second). -/
theorem locked_first_track_fixed :
    gareas (layout { gridC with templateCols := pxCols [20, 30] } [{ gitem with rowStart := lineNo 1 }]) =
      some [(0, (0, 0, 1, 1))] := by decide +kernel

/-- fixed id=grid-span-first-axis-crash (cd18f00).  `grid-row: span 2; grid-column: 2`: the item spans the
rows 0 and 1 of column 1 (was `UnboundLocalError`). -/
theorem span_first_axis_fixed :
    gareas (layout { gridC with templateCols := pxCols [20, 30] }
      [{ gitem with rowStart := .mk true (some 2) none, colStart := lineNo 2 }]) =
      some [(0, (1, 0, 1, 2))] := by decide +kernel

/-- id=grid-named-span-hang.  `grid-row: 1; grid-column: span foo` with no line called `foo`: the
`count()` loop of `_get_second_placement` never finds a placement (the bound of the model is hit). -/
theorem named_span_hang :
    gerr (layout gridC [{ gitem with rowStart := lineNo 1, colStart := .mk true none (some "foo") }]) =
      some (.nonTermination "_get_second_placement.sparse") := by decide +kernel

/-- id=grid-negative-line-numbers.  `grid-column: -2 / -1` on three columns (four lines): css-grid
counts from the end, i.e. `(2, 1)`; `_get_placement` answers `(-3, 1)`
(`placement_numeric` without the positivity hypothesis is false). -/
theorem negative_line_numbers :
    (getPlacement (lineNo (-2)) (lineNo (-1)) [[], [], [], []]).toOption = some (some (-3, 1)) := by
  decide +kernel

/-- fixed id=grid-column-flow-implicit-start (34cd729).  `grid-auto-flow: column`, one item with
`grid-row-end: 1` (a row before the explicit grid) and one automatic item: the columns are sized from their
own implicit start, no `IndexError` any more; both items are placed in column 0, rows −1 and 0. -/
theorem column_flow_implicit_start_fixed :
    gerr (layout { gridC with flowColumn := true } [{ gitem with rowEnd := lineNo 1 }, { gitem with id := 1 }]) = none ∧
    gareas (layout { gridC with flowColumn := true } [{ gitem with rowEnd := lineNo 1 }, { gitem with id := 1 }]) =
      some [(0, (0, -1, 1, 1)), (1, (0, 0, 1, 1))] := by decide +kernel

/-- id=grid-leading-implicit-tracks-misindexed.  `grid-column-end: 1` (a column before the explicit
grid) + one automatic item in 100px: the first item lands at x = 50 with width 0, the second at
x = 0 (expected 0 / 50, 50px wide each): step 4 indexes the tracks with the raw, negative coordinate. -/
theorem leading_implicit_tracks_misindexed :
    grects (layout gridC [{ gitem with colEnd := lineNo 1 }, { gitem with id := 1 }]) =
      some [(50, 0, 0, 5), (0, 0, 50, 5)] := by decide +kernel

/-- id=grid-inflexible-fr-no-restart.  `grid-template-columns: minmax(20px, 0.5fr) 3fr` in 64px: the first track is
made inflexible (its share, 64/3.5 × 0.5, is below its 20px minimum) but the fr size is not computed again without it:
the second track takes 3 × 64/3.5 = 384/7 and the tracks overflow the container (20 + 44 expected). -/
theorem inflexible_fr_no_restart :
    (resolveTracks [(.px 20, .fr (1/2)), (.auto, .fr 3)] (some 64) [] 0 true 0 false).toOption.map
      (List.map (·.base)) = some [20, 384/7] := by decide +kernel

/-- id=grid-maximize-no-redistribution.  `grid-template-columns: minmax(0, 50px) 5px` in 100px:
the 95px of free space are split in two shares of 47.5; the second track is already at its limit and
its share is lost, the first track ends at 47.5px (50px expected: there is room for every maximum). -/
theorem maximize_no_redistribution :
    (resolveTracks [(.px 0, .px 50), (.px 5, .px 5)] (some 100) [] 0 true 0 false).toOption.map
      (List.map (·.base)) = some [95/2, 5] := by decide +kernel

/-- fixed id=grid-named-line-nth-ignored (c8a4ac7).  `grid-column-start: 2 foo` on lines
`[foo] [foo] [foo] []`: the second line called `foo`, line 1 (0-based) (was the first one, 0). The general
statement is `C12.getLine_nth_named`. -/
theorem named_line_nth_fixed :
    (getLine false (some 2) (some "foo") [["foo"], ["foo"], ["foo"], []] "start").toOption.map (·.coord) =
      some (some 1) := by decide +kernel

/-- fixed id=grid-justify-self-outer-width (ca85a65).  `justify-self: start; width: 20px; padding: 0 5px` in
a 100px area: the border box is 30px wide (was 40: the outer max-content width was used as content width). -/
theorem justify_self_content_width_fixed :
    grects (layout gridC [{ gitem with sWidth := some 20, pl := 5, pr := 5, justifySelf := .other }]) =
      some [(0, 0, 30, 5)] := by decide +kernel

/-- fixed id=grid-named-span-from-last-line (cec57c9).  `grid-column: 3 / span 2 foo` on two columns (three lines,
none called `foo`): the two implicit lines after the grid are assumed to be called `foo`, the item spans 2 tracks,
`(2, 2)` (was `(2, 4)`: the span was doubled when `lines[coord+1:]` is empty). -/
theorem named_span_from_last_line_fixed :
    (getPlacement (lineNo 3) (.mk true (some 2) (some "foo")) [[], [], []]).toOption = some (some (2, 2)) := by
  decide +kernel

/-- the same span from the line before is right: `2 / span 2 foo` ends on the second implicit line, `(1, 3)`. -/
example : (getPlacement (lineNo 2) (.mk true (some 2) (some "foo")) [[], [], []]).toOption = some (some (1, 3)) := by
  decide +kernel

/-- fixed id=grid-backward-named-span-count (5e11506).  `grid-column: span foo / 4` on lines `[foo] [foo] [foo] []`:
the `foo` line before line 4 is line 3, i.e. `(2, 1)` (was `(-1, 4)`: the integer of the *end* line was used as the
count); `span 2 foo / 4` goes back two `foo` lines, `(1, 2)`. -/
theorem backward_named_span_count_fixed :
    (getPlacement (.mk true none (some "foo")) (lineNo 4) [["foo"], ["foo"], ["foo"], []]).toOption =
      some (some (2, 1)) ∧
    (getPlacement (.mk true (some 2) (some "foo")) (lineNo 4) [["foo"], ["foo"], ["foo"], []]).toOption =
      some (some (1, 2)) := by decide +kernel

/-- with an end line given by name only the count is the span's: `span foo / bar` is right, `(1, 2)`. -/
example : (getPlacement (.mk true none (some "foo")) (.mk false none (some "bar"))
    [["foo"], ["foo"], [], ["bar", "foo"]]).toOption = some (some (1, 2)) := by decide +kernel

end Grid

end Wp.Witness.C12
