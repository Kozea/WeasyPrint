/-
C11 — negation witnesses: concrete inputs on which the *full-strength* statement is false of the
model (and, replayed by the harness, of the implementation); each is listed in known_findings.txt as `finding:`,
except `zero_height_shape_blocks_a_position_that_fits`, which is boundary behaviour of `collide_iff` (Props/C11.lean,
head) and has no line there.
Regression theorems: the inputs of findings that were repaired in /repo (`fixed:` lines), stating the now-correct
behaviour.
-/
import WpModel.Props.C11
import WpModel.Props.C11Flow
import WpModel.Props.C11Fixed
import WpModel.Model.FixedPages

namespace Wp.Witness.C11
open Wp Wp.Floats Wp.Absolute Wp.C11

/-! ### Regressions: inputs of former findings, repaired in /repo (`fixed:` lines of known_findings.txt).
Each states the now-correct behaviour on the input that used to refute the clause. -/

/-- `left:0; right:0; width:50px; margin-left:auto; margin-right:10px` in a 100-px containing block
(former finding abs-auto-margin-ignores-opposite-margin, repaired in 7752e9b): `margin-left = 100 − 50 − 10 = 40`,
the margin box fills the containing block and the border box ends 10 px before its right edge. -/
theorem abs_auto_margin_takes_the_rest :
    let b : HBox := ⟨some 0, some 0, some 50, none, some 10, 0, 0, 0, 0, 0, none, 0, 0, 0⟩
    let u := usedH b true 0 100
    u.ml = 40 ∧ u.x + u.ml + b.pb + u.w + u.mr = 0 + 100 - 0 := by
  decide +kernel

/-- The same vertically: `top:0; bottom:0; height:10px; margin-top:auto; margin-bottom:10px` in a
100-px-high containing block gives `margin-top = 80`. -/
theorem abs_auto_margin_top_takes_the_rest :
    let b : VBox := ⟨some 0, some 0, some 10, none, some 10, 0, 0, 0, 0, 0⟩
    let u := usedV b 0 100 0
    u.mt = 80 ∧ u.y + u.mt + b.pb + u.h + u.mb = 0 + 100 - 0 := by
  decide +kernel

/-- And for replaced boxes: `left:0; right:0; margin-left:auto; margin-right:10px` on a 50-px-wide
image in a 100-px containing block gives `margin-left = 40`: the equation sums to 100. -/
theorem abs_replaced_auto_margin_takes_the_rest :
    let b : RBox := ⟨some 0, some 0, some 0, none, none, some 10, some 0, some 0, 50, 10,
      0, 0, 0, 0, 0, 0, 0, 0, 0, 0⟩
    let r := absoluteReplacedH b true 0 100
    r.ml = some 40 ∧ r.left = some 0 ∧ r.right = some 0 ∧
      (0 : Rat) + 40 + b.borderWidth + 10 + 0 = 100 := by
  decide +kernel

/-- A float whose border box has height 0 (former finding zero-height-float-at-page-origin, repaired in 50ab141)
stays at its static position against the left edge of its containing block instead of going to the page origin. -/
theorem zero_height_float_keeps_static_position :
    let shapes : List Shape := [⟨50, 40, 20, 20, .left⟩]
    let b : ABox := ⟨70, 70, 5, 5, 5, 5, 10, 0, .left, .none, .bfc⟩
    let cb : CB := ⟨50, 100, false⟩
    (findFloatPosition shapes b cb).toOption = some (50, 70) := by
  decide +kernel

/-- Regression (former finding zero-height-float-ignores-other-floats, repaired in 1bc67ce): a float with an empty
border box but vertical margins (margin box 20×10) next to the 20×20 left float that is already there goes beside
it (x = 70), like any other float, and does not overlap it. -/
theorem zero_height_float_avoids_earlier_float :
    let shapes : List Shape := [⟨50, 70, 20, 20, .left⟩]
    let b : ABox := ⟨50, 70, 5, 5, 5, 5, 10, 0, .left, .none, .bfc⟩
    let cb : CB := ⟨50, 100, false⟩
    (findFloatPosition shapes b cb).toOption = some (70, 70) ∧
    ¬ Overlaps 70 70 b.marginWidth b.marginHeight ⟨50, 70, 20, 20, .left⟩ := by
  refine ⟨by decide +kernel, ?_⟩
  simp [Overlaps, ABox.marginWidth, ABox.marginHeight]
  intro h
  exact absurd h (by decide +kernel)

/-- Regression (former finding float-shrink-to-fit-ignores-margins-paddings, repaired in 8719f13): an auto-width
float with `padding: 0 10px; margin-left: 5px` whose content could take 300px gets a 75px content box in a 100px
container: its margin box is exactly 100px wide and fits. -/
theorem float_shrink_to_fit_leaves_room_for_margins_paddings :
    let f : FloatSpec := ⟨.left, .none, .auto, none, .px 5, .px 0, .px 0, .px 0, .px 10, .px 10, .px 0, .px 0,
      0, 0, 0, 0, .auto, .auto, 40, 300, 10, 30⟩
    (floatResolve f 100).marginWidth = 100 := by
  decide +kernel

/-- Regression (former finding float-width-ignores-min-max, repaired in 802b9d8): `width: 200px; max-width: 100px`
is 100px wide, and `width: 20px; min-width: 50px` is 50px wide. -/
theorem float_width_respects_min_max :
    let f : FloatSpec := ⟨.left, .none, .px 200, some 10, .px 0, .px 0, .px 0, .px 0, .px 0, .px 0, .px 0, .px 0,
      0, 0, 0, 0, .auto, .px 100, 0, 0, 0, 0⟩
    let g : FloatSpec := { f with width := .px 20, minW := .px 50, maxW := .auto }
    (floatResolve f 100).bw = 100 ∧ (floatResolve g 100).bw = 50 := by
  decide +kernel

/-- Regression (former finding inline-float-snapped-to-line-top, repaired in 330f66c): a `clear:left` 5x10 float met
in a line next to an 80x30 left float stays where `float_layout` put it, below that float, and overlaps nothing. -/
theorem inline_float_keeps_its_position :
    let shapes : List Shape := [⟨0, 0, 80, 30, .left⟩]
    let l : LineSpec := ⟨10, 10, 10, [⟨0, 0, 0, 0, 0, 0, 5, 10, .left, .left, .bfc⟩]⟩
    ((layoutLines ⟨0, 100, false⟩ 10 .start shapes [l] 0).toOption.map (fun r => r.2.1.map (fun p => p.floats)))
      = some [[(0, 30, 5, 10)]] ∧ ¬ Overlaps 0 30 5 10 ⟨0, 0, 80, 30, .left⟩ := by
  refine ⟨by decide +kernel, ?_⟩
  simp [Overlaps]
  intro _ _ h
  exact absurd h (by decide +kernel)

/-- Regression (former findings rtl-inline-float-displaced, repaired in 330f66c, and inline-float-laid-out-twice,
repaired in 58d1f9d): in an rtl container starting at x = 20 without earlier floats — every first line is started
again there — a 20x10 left float met in a line after a 20px word is laid out against the container's left edge
(x = 20), once: the float list holds exactly that float. -/
theorem rtl_inline_float_at_the_edge_once :
    let l : LineSpec := ⟨20, 20, 10, [⟨0, 0, 0, 0, 0, 0, 20, 10, .left, .none, .bfc⟩]⟩
    let r := (layoutLines ⟨20, 100, true⟩ 10 .start [] [l] 20).toOption
    r.map (fun r => r.2.1.map (fun p => p.floats)) = some [[(20, 20, 20, 10)]] ∧
    r.map (fun r => r.1) = some [⟨20, 20, 20, 10, .left⟩] := by
  decide +kernel

/-! ### Witnesses: clauses false of the current code (`finding:` lines of known_findings.txt;
`zero_height_shape_blocks_a_position_that_fits` is boundary behaviour, not a finding) -/

/-- `bottom: 0` in a `position: relative` container whose height (0) comes from `min-height: 100px`: the
container's absolute children are laid out inside `block_container_layout`, before the clamp, so the containing
block is 0 high and the 10px box ends at the container's *top* edge (y = −10..0) instead of its bottom edge
(y = 90..100): `cb_height_of_relative_box_partial` has the hypothesis that min/max-height do not change the height
(finding abs-cb-height-before-min-max). -/
theorem abs_cb_height_before_min_max :
    let c : CBHeights := ⟨0, 100, none⟩
    cbHeightAtLayout true c = 0 ∧ c.used = 100 ∧
    (usedV ⟨none, some 0, some 10, some 0, some 0, 0, 0, 0, 0, 0⟩ 0 (cbHeightAtLayout true c) 10).y = -10 ∧
    (usedV ⟨none, some 0, some 10, some 0, some 0, 0, 0, 0, 0, 0⟩ 0 c.used 10).y = 90 := by
  decide +kernel

/-- `position: fixed; bottom: 0; height: 10px` holding two 10px blocks, declared at the top of a 320px page with
16px margins: on its own page `make_page` lays it out with `bottom_space = 0 + translate_y = 278`, the content is
laid out at the static position (y = 16) and the second block ends at 36 > 304 − 278: it is cut (and continued on
the next page); on every other page `layout_fixed_boxes` uses `bottom_space = -inf` and both blocks are drawn.
`fixed_same_content_partial` has the hypothesis that the content ends above `page_bottom − bottom_space`
(finding fixed-box-fragmented-on-own-page). -/
theorem fixed_box_fragmented_on_own_page :
    let vb : VBox := ⟨none, some 0, some 10, some 0, some 0, 0, 0, 0, 0, 16⟩
    Positioned.fixedKept (some 0) 304 vb 16 288 [10, 10] = 1 ∧ Positioned.fixedKept none 304 vb 16 288 [10, 10] = 2 := by
  decide +kernel

/-- `top: 0; bottom: 0; height: 200px; max-height: 100px; margin: auto 0` in a 300px-high containing block:
`absolute_height` solves the equation with the specified height (both margins 50), `block_container_layout` then
clamps the height to 100 and nothing is solved again (horizontally `absolute_width` is re-run by
`handle_min_max_width`): the border box lies at 50..150 from the top instead of being centred at 100..200, and
`top + margin box + bottom = 200 ≠ 300`.  `abs_block_equation_v_partial` therefore needs the hypothesis that
min-height / max-height did not change a specified or solved height (finding abs-height-min-max-not-resolved). -/
theorem abs_height_min_max_not_resolved :
    let st : Absolute.AbsStyle := ⟨.px 0, .auto, .px 0, .px 0, .px 50, .px 200, .px 0, .px 0, .auto, .auto,
      .px 0, .px 0, .px 0, .px 0, 0, 0, 0, 0, .auto, .auto, .auto, .px 100⟩
    (absoluteBlock st ⟨20, 20, 100, 300⟩ true 20 20 0 0 0 0).toOption.map
      (fun r => (r.y, r.height, r.mt, r.mb, r.y + r.mh + 0)) = some (20, 100, 50, 50, 220) ∧
    (220 : Rat) ≠ 20 + 300 := by
  decide +kernel

/-- Zero-height *shapes* make the collision test a closed-interval test (boundary behaviour of
`collide_iff`): a box that only touches a zero-height float with its bottom edge is treated as
colliding, so `as_high_as_possible` needs shapes of positive height. -/
theorem zero_height_shape_blocks_a_position_that_fits :
    let shapes : List Shape := [⟨0, 10, 60, 0, .left⟩]
    -- a 50-wide, 10-high box requested at y = 0 in a 100-wide container: it touches the shape
    -- only along its bottom edge, yet the left bound becomes 60 and it is "blocked"
    blockedAt shapes 50 10 0 100 0 = true ∧ ¬ Overlaps 0 0 50 10 ⟨0, 10, 60, 0, .left⟩ := by
  refine ⟨by decide +kernel, ?_⟩
  simp [Overlaps]
  intro _ _
  decide +kernel

/-- A right-aligned line taller than the strut is positioned with the room measured on the strut band: a 30x12
inline-block (strut 8) next to a left float 10x9 and a right float 60x30 that starts 9px lower ends at
x = 70..100, over the right float (40..100 from y = 9): `placed_box_no_overlap` does not extend to the line
position that `get_next_linebox` computes for alignments other than start. -/
theorem tall_line_aligned_in_strut_band :
    let shapes : List Shape := [⟨0, 0, 10, 9, .left⟩, ⟨40, 9, 60, 30, .right⟩]
    (nextLinebox ⟨0, 100, false⟩ 8 .right shapes ⟨0, 30, 12, []⟩ 0).toOption.map (fun t => (t.x, t.y)) = some (70, 0) ∧
    Overlaps 70 0 30 12 ⟨40, 9, 60, 30, .right⟩ := by
  refine ⟨by decide +kernel, ?_⟩
  simp [Overlaps]
  decide +kernel

/-- A fixed box collected too late (its outermost positioned ancestor is absolutely positioned) is laid out on
its own page only: `fixed_on_every_page` needs `late = false`. -/
theorem fixed_in_absolute_not_repeated :
    Positioned.collectedLate [.static, .absolute] = true ∧
    Positioned.pageFixed [[⟨1, 0, 0, true⟩], []] 1 = [] ∧ Positioned.pageFixed [[⟨1, 0, 0, true⟩], []] 0 ≠ [] := by
  decide +kernel

end Wp.Witness.C11
