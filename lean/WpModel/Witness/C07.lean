/-
C07 — negation witnesses: concrete inputs on which the *full-strength* statement is false of the model
(and, replayed by the harness, of the implementation).  Each is listed in known_findings.txt.

Findings repaired in /repo have a regression `example` next to:
  var-self-cycle-recursion          (2bffab3)  Props/C07Var.lean     `resolve_var_terminates`, `var_cycle_uses_fallback`
  var-inherit-on-root-typeerror     (582f36b)  Props/C07.lean        `pending_valid_as_literal`, `select_total`
  var-shorthand-partially-applied   (f9155ce)  Props/C07Expanders    `pending_expander`, `pending_expander_all_or_nothing`
  flex-float-zero-as-basis          (6a44d73)  Props/C07Expanders    `flex_unitless_zero` (+ example)
  font-face-src-format-indexerror   (be7a07b)  Props/C07Descriptors  example after `descriptors_only_propagate`
  counter-style-system-empty-indexerror (d71ddd0) Props/C07Descriptors `descriptor_empty_dropped`
  flex-negative-factor-accepted     (c151619)  Props/C07Numeric      `flex_factor_nonneg` (+ example)
  image-resolution-zero-division    (d011d54)  Props/C07Numeric      `image_resolution_positive`, `image_resolution_total`
  border-image-gradient-lengths-not-computed (e161f80) Props/C07Gradient `gradient_valued_properties_have_computer`, `gradient_property_all_px` (+ example)
-/
import WpModel.Model.Declarations
import WpModel.Model.VarSubst
import WpModel.Model.PendingC07
import WpModel.Model.ExpandersC07
import WpModel.Model.DescriptorsC07
import WpModel.Model.NumericC07
import WpModel.Model.GridLineC07
import WpModel.Model.FontFamilyC07

namespace Wp.Witness.C07
open Wp Wp.Decl Wp.Var

/-! ### `var(--f, Arial, sans-serif)`: the commas of a fallback are dropped -/

/-- `var(--f, Arial, sans-serif)` -/
def fbTok : Tk :=
  .fn "var" "var" [.ident "--f", .comma, .ws, .ident "Arial", .comma, .ws, .ident "sans-serif"]

/-- With `--f` undefined the code yields the two identifiers **without** the comma between them (one family
name `Arial sans-serif`), textual substitution keeps it (finding `var-fallback-commas-dropped`): the fallback of
`var_subst_partial` has to be read as `codeFallback`, not as text. -/
theorem var_fallback_commas_dropped :
    (match resolveVar (fun _ => []) [] 5 fbTok with
      | .ok (some [.ident "Arial", .ident "sans-serif"]) => true | _ => false) = true ∧
    (match subst (fun _ => []) 5 fbTok with
      | some [.ident "Arial", .comma, .ident "sans-serif"] => true | _ => false) = true := by
  decide +kernel

/-! ### `grid-row-start: inherit 2`: a CSS-wide keyword read as a `<custom-ident>` -/

/-- css-values-4 §4.2: the CSS-wide keywords are excluded from `<custom-ident>`; a value that mixes one with other
components is invalid.  `grid_line` takes any identifier other than `auto` / `span` as the line name:
`grid-row-start: inherit 2` and `span inherit` are kept with the name `inherit` instead of being ignored (finding
`css-wide-keyword-as-ident`); `C07.grid_line_sound_partial` therefore stops at "neither `auto` nor `span`". -/
theorem grid_line_css_wide_as_ident :
    GridLine07.gridLine [.ident "inherit" "inherit", .int 2] = some (.line false (some 2) (some "inherit")) ∧
    GridLine07.gridLine [.ident "span" "span", .ident "initial" "initial"]
      = some (.line true none (some "initial")) := by decide +kernel

/-- The same finding in `font-family`: css-fonts-4 §3.1 excludes the CSS-wide keywords from unquoted family names
(`font-family: inherit, serif` is invalid); `font_family` takes any identifier: the family `inherit` is kept
(finding `css-wide-keyword-as-ident`; `C07.font_family_one_partial` therefore only says "identifier tokens"). -/
theorem font_family_css_wide_as_ident :
    Font07.fontFamily [[.ident "inherit"], [.ident "serif"]] = some ["inherit", "serif"] := by decide +kernel

end Wp.Witness.C07
