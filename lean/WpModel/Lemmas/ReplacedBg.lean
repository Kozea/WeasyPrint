/-
Helper lemmas for Props/C13: concrete object size (contain / cover), object-fit, Python `round`,
`round` repeat, inversion of `layoutBackgroundLayer`.
-/
import WpModel.Lemmas.Replaced
import WpModel.Model.ReplacedBg


namespace Wp.C13
open Wp Wp.Replaced

theorem constraint_no_ratio (cw ch : Rat) (cover : Bool) :
    constraintSizing cw ch none cover = .ok (cw, ch) := rfl

theorem constraintSizing_some (cw ch r : Rat) (hr : r ≠ 0) (cover : Bool) :
    constraintSizing cw ch (some r) cover =
      .ok (if xor cover (decide (cw > ch * r)) then (ch * r, ch) else (cw, cw / r)) := by
  simp only [constraintSizing, pyDiv_ok hr]
  split_ifs <;> rfl

theorem constraint_total (cw ch r : Rat) (hr : r ≠ 0) (cover : Bool) :
    ∃ p, constraintSizing cw ch (some r) cover = .ok p := ⟨_, constraintSizing_some cw ch r hr cover⟩

theorem contain_fits (cw ch r w h : Rat) (hr : 0 < r)
    (hres : containSizing cw ch (some r) = .ok (w, h)) :
    w ≤ cw ∧ h ≤ ch ∧ (w = cw ∨ h = ch) ∧ w = h * r := by
  rw [containSizing, constraintSizing_some _ _ _ hr.ne'] at hres
  by_cases hc : cw > ch * r
  · obtain ⟨rfl, rfl⟩ : ch * r = w ∧ ch = h := by simpa [hc] using hres
    exact ⟨hc.le, le_refl _, Or.inr rfl, rfl⟩
  · obtain ⟨rfl, rfl⟩ : cw = w ∧ cw / r = h := by simpa [hc] using hres
    exact ⟨le_refl _, (div_le_iff₀ hr).mpr (not_lt.mp hc), Or.inl rfl, (div_mul_cancel₀ _ hr.ne').symm⟩

theorem cover_covers (cw ch r w h : Rat) (hr : 0 < r)
    (hres : coverSizing cw ch (some r) = .ok (w, h)) :
    cw ≤ w ∧ ch ≤ h ∧ (w = cw ∨ h = ch) ∧ w = h * r := by
  rw [coverSizing, constraintSizing_some _ _ _ hr.ne'] at hres
  by_cases hc : cw > ch * r
  · obtain ⟨rfl, rfl⟩ : cw = w ∧ cw / r = h := by simpa [hc] using hres
    exact ⟨le_refl _, (le_div_iff₀ hr).mpr hc.le, Or.inl rfl, (div_mul_cancel₀ _ hr.ne').symm⟩
  · obtain ⟨rfl, rfl⟩ : ch * r = w ∧ ch = h := by simpa [hc] using hres
    exact ⟨not_lt.mp hc, le_refl _, Or.inr rfl, rfl⟩

theorem placeAxis_pct_range (far : Bool) (p ref : Rat) (hp0 : 0 ≤ p) (hp1 : p ≤ 100) (href : 0 ≤ ref) :
    0 ≤ placeAxis far (.pct p) ref ∧ placeAxis far (.pct p) ref ≤ ref := by
  have h1 : 0 ≤ ref * p / 100 := div_nonneg (mul_nonneg href hp0) (by norm_num)
  have h2 : ref * p / 100 ≤ ref :=
    (div_le_iff₀ (by norm_num : (0 : Rat) < 100)).mpr (mul_le_mul_of_nonneg_left hp1 href)
  cases far
  · exact ⟨h1, h2⟩
  · exact ⟨sub_nonneg.mpr h2, sub_le_self _ h1⟩

/-- Draw sizes no larger than the content box, for the three `object-fit` values that promise it. -/
theorem drawSize_inside (g : Geom) (fit : ObjectFit) (ratio : Option Rat) (iw ih dw dh : Rat)
    (hfit : fit = .fill ∨ fit = .contain ∨ fit = .scaleDown)
    (hratio : ∀ r, ratio = some r → 0 < r)
    (hres : drawSize g fit ratio iw ih = .ok (dw, dh)) : dw ≤ g.width ∧ dh ≤ g.height := by
  have hcontain : ∀ cw ch, containSizing g.width g.height ratio = .ok (cw, ch) → cw ≤ g.width ∧ ch ≤ g.height := by
    intro cw ch hc
    rcases Option.eq_none_or_eq_some ratio with h | ⟨r, h⟩
    · subst h
      cases hc
      exact ⟨le_refl _, le_refl _⟩
    · subst h
      obtain ⟨h1, h2, _, _⟩ := contain_fits _ _ r cw ch (hratio r rfl) hc
      exact ⟨h1, h2⟩
  rcases hfit with rfl | rfl | rfl
  · cases hres; exact ⟨le_refl _, le_refl _⟩
  · exact hcontain dw dh hres
  · obtain ⟨⟨cw, ch⟩, hc, hres⟩ := Except.bind_eq_ok hres
    cases hres
    obtain ⟨h1, h2⟩ := hcontain cw ch hc
    exact ⟨le_trans (min_le_left _ _) h1, le_trans (min_le_left _ _) h2⟩

/-- Python's `round`: an integer within one half of the argument. -/
theorem roundHalfEven_near (q : Rat) :
    (roundHalfEven q : Rat) - q ≤ 1 / 2 ∧ q - (roundHalfEven q : Rat) ≤ 1 / 2 := by
  have h1 := Rat.floor_le q
  have h2 := Rat.lt_floor_add_one q
  push_cast at h2
  -- the result is the floor when the fractional part is at most one half, the next integer when it is at least that
  have key : (roundHalfEven q = q.floor ∧ q - q.floor ≤ 1 / 2) ∨
      (roundHalfEven q = q.floor + 1 ∧ 1 / 2 ≤ q - q.floor) := by
    unfold roundHalfEven
    simp only []
    split_ifs with ha hb hc
    · exact Or.inl ⟨rfl, ha.le⟩
    · exact Or.inr ⟨rfl, hb.le⟩
    · exact Or.inl ⟨rfl, not_lt.mp hb⟩
    · exact Or.inr ⟨rfl, not_lt.mp ha⟩
  rcases key with ⟨e, h⟩ | ⟨e, h⟩ <;> rw [e]
  · constructor <;> linarith
  · push_cast; constructor <;> linarith

/-- What `roundTiles` computes: Python's `round` of area / image, but at least one tile, and the tile size that fits. -/
theorem roundTiles_eq (positioning image : Rat) (n : Int) (s : Rat)
    (hres : roundTiles positioning image = .ok (n, s)) :
    image ≠ 0 ∧ n = max 1 (roundHalfEven (positioning / image)) ∧ s = positioning / (n : Rat) := by
  unfold roundTiles pyDiv at hres
  by_cases hi : image = 0
  · simp [hi, bind, Except.bind] at hres
  · simp only [hi, if_false, bind, Except.bind, pure, Except.pure, Except.ok.injEq, Prod.mk.injEq] at hres
    obtain ⟨rfl, rfl⟩ := hres
    exact ⟨hi, rfl, rfl⟩

/-- `round` repeat: an integer number of tiles, at least one, exactly filling the positioning area. -/
theorem roundTiles_spec (positioning image : Rat) (n : Int) (s : Rat)
    (hres : roundTiles positioning image = .ok (n, s)) :
    1 ≤ n ∧ s * (n : Rat) = positioning ∧
    (1 / 2 ≤ positioning / image → (n : Rat) - positioning / image ≤ 1 / 2 ∧ positioning / image - (n : Rat) ≤ 1 / 2) := by
  obtain ⟨-, rfl, rfl⟩ := roundTiles_eq positioning image n s hres
  obtain ⟨a, b⟩ := roundHalfEven_near (positioning / image)
  generalize roundHalfEven (positioning / image) = R at *
  generalize hN : max 1 R = N
  have hn : (1 : Int) ≤ N := by rw [← hN]; exact le_max_left _ _
  have hn' : (N : Rat) ≠ 0 := by
    have : (0 : Int) < N := by omega
    exact_mod_cast ne_of_gt this
  refine ⟨hn, by field_simp, fun hq => ?_⟩
  by_cases hR1 : 1 ≤ R
  · have : N = R := by rw [← hN]; exact max_eq_right hR1
    rw [this]; exact ⟨a, b⟩
  · have hR0 : R ≤ 0 := by omega
    have hN1 : N = 1 := by rw [← hN]; exact max_eq_left (by omega)
    have hRq : (R : Rat) ≤ 0 := by exact_mod_cast hR0
    rw [hN1]; push_cast
    constructor <;> linarith

/-- Inversion of `layoutBackgroundLayer` when it yields an image layer. -/
theorem layer_inv (g : Geom) (kind : BoxKind) (pg : Geom) (i : Intr) (size : BgSize) (clip : BoxArea)
    (rx ry : Repeat) (origin : BoxArea) (pos : Position) (fixed : Bool) (pa : Rect) (l : Layer)
    (hres : layoutBackgroundLayer g kind pg (some i) size clip rx ry origin pos fixed = .ok ⟨pa, some l⟩) :
    ∃ positioning s p1 p2,
      positioningAreaOf g kind pg origin fixed = .ok positioning ∧
      concreteSize i size positioning.w positioning.h = .ok s ∧
      roundX rx ry size positioning.w
        ⟨s.1, s.2, placeAxis pos.fromRight pos.x (positioning.w - s.1),
          placeAxis pos.fromBottom pos.y (positioning.h - s.2)⟩ = .ok p1 ∧
      roundY rx ry size positioning.h p1 = .ok p2 ∧
      l = ⟨(p2.iw, p2.ih), (p2.px, p2.py), rx, ry, positioning⟩ := by
  obtain ⟨painting, _, hres⟩ := Except.bind_eq_ok hres
  simp only [] at hres
  split_ifs at hres with hz
  · cases hres
  · obtain ⟨positioning, h1, hres⟩ := Except.bind_eq_ok hres
    obtain ⟨s, h2, hres⟩ := Except.bind_eq_ok hres
    obtain ⟨p1, h3, hres⟩ := Except.bind_eq_ok hres
    obtain ⟨p2, h4, hres⟩ := Except.bind_eq_ok hres
    cases hres
    exact ⟨positioning, s, p1, p2, h1, h2, h3, h4, rfl⟩

theorem layer_none_inv (g : Geom) (kind : BoxKind) (pg : Geom) (i : Intr) (size : BgSize) (clip : BoxArea)
    (rx ry : Repeat) (origin : BoxArea) (pos : Position) (fixed : Bool) (pa : Rect)
    (hres : layoutBackgroundLayer g kind pg (some i) size clip rx ry origin pos fixed = .ok ⟨pa, none⟩) :
    i.w = some 0 ∨ i.h = some 0 := by
  obtain ⟨painting, _, hres⟩ := Except.bind_eq_ok hres
  simp only [] at hres
  split_ifs at hres with hz
  · simpa using hz
  · obtain ⟨_, _, hres⟩ := Except.bind_eq_ok hres
    obtain ⟨_, _, hres⟩ := Except.bind_eq_ok hres
    obtain ⟨_, _, hres⟩ := Except.bind_eq_ok hres
    obtain ⟨_, _, hres⟩ := Except.bind_eq_ok hres
    cases hres

theorem roundX_spec (ry : Repeat) (size : BgSize) (pw : Rat) (p p' : Placed)
    (hres : roundX .round ry size pw p = .ok p') :
    (p.iw ≠ 0 → ∃ n : Int, 1 ≤ n ∧ p'.iw * (n : Rat) = pw ∧ p'.px = 0) ∧ (p.iw = 0 → p' = p) ∧ p'.py = p.py := by
  by_cases h0 : p.iw = 0
  · simp [roundX, h0, pure, Except.pure] at hres
    subst hres
    exact ⟨fun h => absurd h0 h, fun _ => rfl, rfl⟩
  · have hc : (Repeat.round == Repeat.round && p.iw != 0) = true := by simp [h0]
    rw [roundX, if_pos hc] at hres
    obtain ⟨⟨n, s⟩, ht, hres⟩ := Except.bind_eq_ok hres
    cases hres
    obtain ⟨h1, h2, _⟩ := roundTiles_spec pw p.iw n s ht
    exact ⟨fun _ => ⟨n, h1, h2, rfl⟩, fun h => absurd h h0, rfl⟩

theorem roundY_spec (rx : Repeat) (size : BgSize) (ph : Rat) (p p' : Placed)
    (hres : roundY rx .round size ph p = .ok p') :
    (p.ih ≠ 0 → ∃ n : Int, 1 ≤ n ∧ p'.ih * (n : Rat) = ph ∧ p'.py = 0) ∧ (p.ih = 0 → p' = p) ∧
    p'.px = p.px ∧ (rx = .round → p'.iw = p.iw) := by
  by_cases h0 : p.ih = 0
  · simp [roundY, h0, pure, Except.pure] at hres
    subst hres
    exact ⟨fun h => absurd h0 h, fun _ => rfl, rfl, fun _ => rfl⟩
  · have hc : (Repeat.round == Repeat.round && p.ih != 0) = true := by simp [h0]
    rw [roundY, if_pos hc] at hres
    obtain ⟨⟨n, s⟩, ht, hres⟩ := Except.bind_eq_ok hres
    cases hres
    obtain ⟨h1, h2, _⟩ := roundTiles_spec ph p.ih n s ht
    refine ⟨fun _ => ⟨n, h1, h2, rfl⟩, fun h => absurd h h0, rfl, fun h => ?_⟩
    subst h; rfl

/-- The `round` steps never raise: the division happens only for a non-zero image size (`if repeat_x == 'round' and
image_width`, 5dce5fa). -/
theorem roundTiles_total (positioning image : Rat) (h : image ≠ 0) : ∃ t, roundTiles positioning image = .ok t := by
  simp [roundTiles, pyDiv_ok h, bind, Except.bind, pure, Except.pure]

theorem roundX_total (rx ry : Repeat) (size : BgSize) (pw : Rat) (p : Placed) :
    ∃ p', roundX rx ry size pw p = .ok p' := by
  unfold roundX
  by_cases hc : (rx == Repeat.round && p.iw != 0) = true
  · obtain ⟨t, ht⟩ := roundTiles_total pw p.iw (bne_iff_ne.mp (Bool.and_eq_true_iff.mp hc).2)
    rw [if_pos hc, ht]
    exact ⟨_, rfl⟩
  · rw [if_neg hc]; exact ⟨p, rfl⟩

theorem roundY_total (rx ry : Repeat) (size : BgSize) (ph : Rat) (p : Placed) :
    ∃ p', roundY rx ry size ph p = .ok p' := by
  unfold roundY
  by_cases hc : (ry == Repeat.round && p.ih != 0) = true
  · obtain ⟨t, ht⟩ := roundTiles_total ph p.ih (bne_iff_ne.mp (Bool.and_eq_true_iff.mp hc).2)
    rw [if_pos hc, ht]
    exact ⟨_, rfl⟩
  · rw [if_neg hc]; exact ⟨p, rfl⟩

theorem roundY_not_round (rx ry : Repeat) (size : BgSize) (ph : Rat) (p p' : Placed) (hry : ry ≠ .round)
    (hres : roundY rx ry size ph p = .ok p') : p' = p := by
  have : (ry == Repeat.round) = false := by simpa using hry
  simp [roundY, this, pure, Except.pure] at hres
  exact hres.symm

theorem roundX_not_round (rx ry : Repeat) (size : BgSize) (pw : Rat) (p p' : Placed) (hrx : rx ≠ .round)
    (hres : roundX rx ry size pw p = .ok p') : p' = p := by
  have : (rx == Repeat.round) = false := by simpa using hrx
  simp [roundX, this, pure, Except.pure] at hres
  exact hres.symm

end Wp.C13
