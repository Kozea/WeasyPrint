/-
Conservation for *every* document (fixed heights allowed): definitions.
`freeFrom` = the lines with no fixed-height ancestor-or-self; `SandT` = "what is shown is sandwiched between
the free lines and all lines"; `PartT` = structural shape of a fragment ("complete unless under a fixed
height").
-/
import WpModel.Lemmas.Segment

namespace Wp.PM
open Wp Wp.Seg

def fixedSt (st : PStyle) : Bool := st.height.isSome

mutual
/-- The lines at / after a resume position that have no ancestor-or-self box with a fixed `height`. -/
def freeFrom : PBox → Option Resume → List (Nat × Nat)
  | .para id n _ st, σ => if fixedSt st then [] else paraLines id (paraStart σ) n
  | .block _ st kids, σ => if fixedSt st then [] else freeFromKids kids (skipIdxOf σ) (subSkipOf σ)
def freeFromKids : List PBox → Nat → Option Resume → List (Nat × Nat)
  | [], _, _ => []
  | b :: bs, 0, sub => freeFrom b sub ++ freeFromKids bs 0 none
  | _ :: bs, k + 1, sub => freeFromKids bs k sub
end

theorem freeFromKids_eq (kids : List PBox) (k : Nat) (s : Option Resume) :
    freeFromKids kids k s = fromAt freeFrom none kids k s := by
  induction kids generalizing k s with
  | nil => rw [fromAt_nil]; cases k <;> rfl
  | cons b bs ih => cases k <;> simp only [freeFromKids, fromAt, ih]

theorem freeFromKids_nil (k : Nat) (s : Option Resume) : freeFromKids [] k s = [] := by
  simp [freeFromKids]

theorem freeFromKids_append_lt (B R : List PBox) (m : Nat) (s : Option Resume) (h : m < B.length) :
    freeFromKids (B ++ R) m s = freeFromKids B m s ++ freeFromKids R 0 none := by
  simp only [freeFromKids_eq]; exact fromAt_append_lt _ _ B R m s h

theorem freeFromKids_append_len (B R : List PBox) (k : Nat) (s : Option Resume) :
    freeFromKids (B ++ R) (B.length + k) s = freeFromKids R k s := by
  simp only [freeFromKids_eq]; exact fromAt_append_len _ _ B R k s

theorem freeFromKids_append_length (B R : List PBox) (s : Option Resume) :
    freeFromKids (B ++ R) B.length s = freeFromKids R 0 s :=
  freeFromKids_append_len B R 0 s

theorem freeFromKids_drop (kids : List PBox) (k0 m : Nat) (s : Option Resume) :
    freeFromKids kids (k0 + m) s = freeFromKids (kids.drop k0) m s := by
  simp only [freeFromKids_eq]; exact fromAt_drop _ _ kids k0 m s

theorem freeFromKids_eq_drop (kids : List PBox) (k0 : Nat) (s : Option Resume) :
    freeFromKids kids k0 s = freeFromKids (kids.drop k0) 0 s :=
  freeFromKids_drop kids k0 0 s

theorem freeFromKids_append_zero (B R : List PBox) (sub0 : Option Resume) :
    freeFromKids (B ++ R) 0 sub0 =
      freeFromKids B 0 sub0 ++ freeFromKids R 0 (if B = [] then sub0 else none) := by
  simp only [freeFromKids_eq]; exact fromAt_append_zero _ _ B R sub0

/-- `A` = lines shown, `Y` / `Yf` = all / free lines left, `X` / `Xf` = all / free lines asked for:
everything shown or left was asked for, in order (`A ++ Y ⊑ X`); and — outside a fixed-height box
(`fl = false`) — every free line asked for is shown or left (`Xf ⊑ A ++ Yf`). -/
def SandT (fl : Bool) (A Y Yf X Xf : List (Nat × Nat)) : Prop :=
  (fl = false → Xf.Sublist (A ++ Yf)) ∧ (A ++ Y).Sublist X

theorem sandT_whole (fl : Bool) (A X Xf : List (Nat × Nat)) (h1 : fl = false → Xf.Sublist A) (h2 : A.Sublist X) :
    SandT fl A [] [] X Xf := by
  constructor
  · intro h; simpa using h1 h
  · simpa using h2

theorem sandT_rest (fl : Bool) (X Xf : List (Nat × Nat)) : SandT fl [] X Xf X Xf :=
  ⟨fun _ => by simp, by simp⟩

theorem sandT_whole_append (fl : Bool) (A1 X1 X1f A2 Y Yf X2 X2f : List (Nat × Nat))
    (h1 : fl = false → X1f.Sublist A1) (h2 : A1.Sublist X1) (h : SandT fl A2 Y Yf X2 X2f) :
    SandT fl (A1 ++ A2) Y Yf (X1 ++ X2) (X1f ++ X2f) := by
  constructor
  · intro hf
    rw [List.append_assoc]
    exact (h1 hf).append (h.1 hf)
  · rw [List.append_assoc]
    exact h2.append h.2

theorem sandT_frame (fl : Bool) (A Y Yf X Xf Z Zf : List (Nat × Nat)) (h : SandT fl A Y Yf X Xf) :
    SandT fl A (Y ++ Z) (Yf ++ Zf) (X ++ Z) (Xf ++ Zf) := by
  constructor
  · intro hf
    rw [← List.append_assoc]
    exact (h.1 hf).append (List.Sublist.refl _)
  · rw [← List.append_assoc]
    exact h.2.append (List.Sublist.refl _)

theorem sandT_trans (fl : Bool) (A Y Yf X Xf A' Y' Yf' : List (Nat × Nat)) (h : SandT fl A Y Yf X Xf)
    (h' : SandT fl A' Y' Yf' Y Yf) : SandT fl (A ++ A') Y' Yf' X Xf := by
  constructor
  · intro hf
    rw [List.append_assoc]
    exact (h.1 hf).trans ((List.Sublist.refl A).append (h'.1 hf))
  · rw [List.append_assoc]
    exact ((List.Sublist.refl A).append h'.2).trans h.2

theorem sandT_weaken (fl : Bool) (A Y Yf X Xf : List (Nat × Nat)) (h : SandT fl A Y Yf X Xf) :
    SandT true A Y Yf X Xf := ⟨fun hf => (by cases hf), h.2⟩

/-- From the children of a block (those at and after the start position) to the block. -/
theorem sandT_block (id : Nat) (st : PStyle) (kids : List PBox) (σ ρ : Option Resume) (m : Nat) (fl : Bool)
    (A : List (Nat × Nat)) (hidx : skipIdxOf ρ = skipIdxOf σ + m)
    (h : SandT (fl || fixedSt st) A (linesFromKids (kids.drop (skipIdxOf σ)) m (subSkipOf ρ))
      (freeFromKids (kids.drop (skipIdxOf σ)) m (subSkipOf ρ)) (linesFromKids (kids.drop (skipIdxOf σ)) 0 (subSkipOf σ))
      (freeFromKids (kids.drop (skipIdxOf σ)) 0 (subSkipOf σ))) :
    SandT fl A (linesFrom (.block id st kids) ρ) (freeFrom (.block id st kids) ρ)
      (linesFrom (.block id st kids) σ) (freeFrom (.block id st kids) σ) := by
  rw [← linesFromKids_drop, ← freeFromKids_drop, ← linesFromKids_drop, ← freeFromKids_drop, ← hidx] at h
  simp only [linesFrom, freeFrom]
  cases hfx : fixedSt st with
  | true => exact ⟨fun _ => List.nil_sublist _, h.2⟩
  | false =>
    rw [hfx, Bool.or_false] at h
    exact h

theorem pos_block (id : Nat) (st : PStyle) (kids : List PBox) (σ ρ : Option Resume) (m : Nat)
    (hidx : skipIdxOf ρ = skipIdxOf σ + m)
    (h : posKids (kids.drop (skipIdxOf σ)) 0 (subSkipOf σ) < posKids (kids.drop (skipIdxOf σ)) m (subSkipOf ρ)) :
    pos (.block id st kids) σ < pos (.block id st kids) ρ := by
  simp only [pos]
  rw [hidx, posKids_drop, posKids_eq_drop kids (skipIdxOf σ)]
  exact Nat.add_lt_add_left h _

theorem wfList_iff (bs : List PBox) : WellFormedList bs ↔ ∀ b ∈ bs, WellFormed b := by
  induction bs with
  | nil => simp [WellFormedList]
  | cons b bs ih => simp [WellFormedList, ih]

theorem wfList_drop (bs : List PBox) (k : Nat) (h : WellFormedList bs) : WellFormedList (bs.drop k) :=
  (wfList_iff _).2 fun b hb => (wfList_iff _).1 h b (List.mem_of_mem_drop hb)

theorem wfList_append (B R : List PBox) (hB : WellFormedList B) (hR : WellFormedList R) :
    WellFormedList (B ++ R) :=
  (wfList_iff _).2 (List.forall_mem_append.2 ⟨(wfList_iff _).1 hB, (wfList_iff _).1 hR⟩)

mutual
/-- `PartT f b σ fl`: `f` is a fragment of `b` started at `σ`; when neither an ancestor (`fl`) nor a box on the
way has a fixed height it is the complete rest of `b`; otherwise paragraphs may hold fewer (consecutive)
lines and blocks fewer children. `max`: a start position may lie beyond the last line, and then no line is held.
An empty list of fragments is a part of a non-empty list of boxes only under a fixed height (`fl = true ∨ bs = []`). -/
def PartT : Frag → PBox → Option Resume → Bool → Prop
  | .para id _ st n _ lines, b, σ, fl =>
    match b with
    | .para id' n' _ st' => id = id' ∧ n = n' ∧ st = st' ∧
        ∃ m, lines.map Prod.fst = List.range' (paraStart σ) m ∧ paraStart σ + m ≤ max n' (paraStart σ) ∧
          ((fl || fixedSt st') = false → m = n' - paraStart σ)
    | .block _ _ _ => False
  | .block _ _ _ _ fs, b, σ, fl =>
    match b with
    | .block _ st' kids =>
      PartFromT fs (kids.drop (skipIdxOf σ)) (skipIdxOf σ) (subSkipOf σ) (fl || fixedSt st')
    | .para _ _ _ _ => False
def PartFromT : List Frag → List PBox → Nat → Option Resume → Bool → Prop
  | [], bs, _, _, fl => fl = true ∨ bs = []
  | f :: fs, bs, i, sub, fl =>
    match bs with
    | [] => False
    | b :: bs' => PartT f b sub fl ∧ f.idx = i ∧ PartFromT fs bs' (i + 1) none fl
end

theorem partT_withIdx (f : Frag) (i : Nat) (b : PBox) (σ : Option Resume) (fl : Bool) (h : PartT f b σ fl) :
    PartT (f.withIdx i) b σ fl := by
  cases f <;> cases b <;> simp only [Frag.withIdx, PartT] at h ⊢ <;> exact h

theorem partT_cutEnd (f : Frag) (b : PBox) (σ : Option Resume) (fl : Bool) (h : PartT f b σ fl) :
    PartT f.cutEnd b σ fl := by
  cases f <;> cases b <;> simp only [Frag.cutEnd, PartT] at h ⊢ <;> exact h

/-- Forgetting completeness, for a fragment and for a list of fragments. -/
theorem partT_mono :
    (∀ {f b σ fl}, PartT f b σ fl → PartT f b σ true) ∧
    ∀ {fs bs i sub fl}, PartFromT fs bs i sub fl → PartFromT fs bs i sub true := by
  refine PartT.mutual_induct _ _ ?_ ?_ ?_ ?_ ?_ ?_ ?_
  · intro id idx st n g lines σ fl id' n' lh st' h
    simp only [PartT] at h ⊢
    obtain ⟨h1, h2, h3, m, h4, h5, _⟩ := h
    exact ⟨h1, h2, h3, m, h4, h5, by simp⟩
  · intros; simp_all [PartT]
  · intro id idx st g fs σ fl id' st' kids ih h
    simp only [PartT] at h ⊢
    simpa using ih h
  · intros; simp_all [PartT]
  · intros; simp [PartFromT]
  · intros; simp_all [PartFromT]
  · intro f fs i sub fl b bs' ih1 ih2 h
    simp only [PartFromT] at h ⊢
    exact ⟨ih1 h.1, h.2.1, ih2 h.2.2⟩

/-- Extending the list of boxes (and forgetting completeness). -/
theorem partFromT_extend (fs : List Frag) (B R : List PBox) (i : Nat) (sub : Option Resume) (fl : Bool)
    (h : PartFromT fs B i sub fl) : PartFromT fs (B ++ R) i sub true := by
  induction fs generalizing B i sub with
  | nil => simp [PartFromT]
  | cons f fs ih =>
    cases B with
    | nil => simp [PartFromT] at h
    | cons b B' =>
      simp only [PartFromT] at h
      simp only [List.cons_append, PartFromT]
      exact ⟨partT_mono.1 h.1, h.2.1, ih B' (i + 1) none h.2.2⟩

theorem partFromT_snoc (fs : List Frag) (B : List PBox) (i : Nat) (sub : Option Resume) (fl : Bool) (f : Frag)
    (b : PBox) (h : PartFromT fs B i sub fl) (hlen : fs.length = B.length)
    (hf : PartT f b (if B = [] then sub else none) fl) (hi : f.idx = i + B.length) :
    PartFromT (fs ++ [f]) (B ++ [b]) i sub fl := by
  induction fs generalizing B i sub with
  | nil =>
    have : B = [] := by cases B with
      | nil => rfl
      | cons _ _ => simp at hlen
    subst this
    simp only [List.nil_append, PartFromT]
    simp at hf hi
    refine ⟨hf, hi, ?_⟩
    simp
  | cons x xs ih =>
    cases B with
    | nil => simp at hlen
    | cons b0 B =>
      simp only [PartFromT] at h
      simp only [List.cons_append, PartFromT]
      refine ⟨h.1, h.2.1, ?_⟩
      apply ih B (i + 1) none h.2.2 (by simpa using hlen)
      · simp at hf
        split <;> exact hf
      · simp at hi; omega

theorem paraLines_range_sub (id k m n : Nat) (h : k + m ≤ max n k) :
    ((List.range' k m).map (fun i => (id, i))).Sublist (paraLines id k n) := by
  by_cases hk : k + m ≤ n
  · rw [← paraLines_split id k m n hk]; exact List.sublist_append_left _ _
  · have : m = 0 := by omega
    subst this; exact List.nil_sublist _

/-- Upper half: what a fragment shows is a sub-list of what its box holds from the start position. -/
theorem partT_sub :
    (∀ {f b σ fl}, PartT f b σ fl → (fragLines f).Sublist (linesFrom b σ)) ∧
    ∀ {fs bs i sub fl}, PartFromT fs bs i sub fl → (fragLinesList fs).Sublist (linesFromKids bs 0 sub) := by
  refine PartT.mutual_induct _ _ ?_ ?_ ?_ ?_ ?_ ?_ ?_
  · intro id idx st n g lines σ fl id' n' lh st' h
    simp only [PartT] at h
    obtain ⟨rfl, rfl, rfl, m, h4, h5, _⟩ := h
    simp only [fragLines, linesFrom]
    have : lines.map (fun l => (id, l.1)) = (List.range' (paraStart σ) m).map (fun i => (id, i)) := by
      rw [← h4, List.map_map]; rfl
    rw [this]
    exact paraLines_range_sub _ _ _ _ h5
  · intros; simp_all [PartT]
  · intro id idx st g fs σ fl id' st' kids ih h
    simp only [PartT] at h
    simp only [fragLines, linesFrom]
    have hd := linesFromKids_drop kids (skipIdxOf σ) 0 (subSkipOf σ)
    simp only [Nat.add_zero] at hd
    rw [hd]; exact ih h
  · intros; simp_all [PartT]
  · intros; simp [fragLinesList]
  · intros; simp_all [PartFromT]
  · intro f fs i sub fl b bs' ih1 ih2 h
    simp only [PartFromT] at h
    simp only [fragLinesList, linesFromKids]
    exact (ih1 h.1).append (ih2 h.2.2)

/-- Lower half: outside fixed heights, a complete fragment shows every free line of its box. -/
theorem partT_free :
    (∀ {f b σ fl}, fl = false → PartT f b σ fl → (freeFrom b σ).Sublist (fragLines f)) ∧
    ∀ {fs bs i sub fl}, fl = false → PartFromT fs bs i sub fl → (freeFromKids bs 0 sub).Sublist (fragLinesList fs) := by
  refine PartT.mutual_induct _ _ ?_ ?_ ?_ ?_ ?_ ?_ ?_
  · intro id idx st n g lines σ fl id' n' lh st' hfl h
    subst hfl
    simp only [PartT] at h
    obtain ⟨rfl, rfl, rfl, m, h4, _, h6⟩ := h
    simp only [fragLines, freeFrom]
    cases hfx : fixedSt st with
    | true => simp
    | false =>
      simp only [Bool.false_eq_true, ↓reduceIte]
      have hm := h6 (by simp [hfx])
      subst hm
      rw [paraLines_eq id _ _ lines h4]
      exact List.Sublist.refl _
  · intros; simp_all [PartT]
  · intro id idx st g fs σ fl id' st' kids ih hfl h
    subst hfl
    simp only [PartT] at h
    simp only [fragLines, freeFrom]
    cases hfx : fixedSt st' with
    | true => simp
    | false =>
      simp only [Bool.false_eq_true, ↓reduceIte]
      have hd := freeFromKids_drop kids (skipIdxOf σ) 0 (subSkipOf σ)
      simp only [Nat.add_zero] at hd
      rw [hd]; exact ih (by simp [hfx]) h
  · intros; simp_all [PartT]
  · intro bs i sub fl hfl h
    subst hfl
    simp only [PartFromT] at h
    rcases h with h | h
    · cases h
    · subst h; simp [freeFromKids]
  · intros; simp_all [PartFromT]
  · intro f fs i sub fl b bs' ih1 ih2 hfl h
    simp only [PartFromT] at h
    simp only [fragLinesList, freeFromKids]
    exact (ih1 hfl h.1).append (ih2 hfl h.2.2)

/-- Both halves at once, in `SandT` form. -/
theorem partT_sand (f : Frag) (b : PBox) (σ : Option Resume) (fl : Bool) (h : PartT f b σ fl) :
    SandT fl (fragLines f) [] [] (linesFrom b σ) (freeFrom b σ) :=
  sandT_whole fl _ _ _ (fun hf => partT_free.1 hf h) (partT_sub.1 h)

theorem partFromT_length_le (fs : List Frag) (bs : List PBox) (i : Nat) (sub : Option Resume) (fl : Bool)
    (h : PartFromT fs bs i sub fl) : fs.length ≤ bs.length := by
  induction fs generalizing bs i sub with
  | nil => simp
  | cons f fs ih =>
    cases bs with
    | nil => simp [PartFromT] at h
    | cons b bs =>
      simp only [PartFromT] at h
      have := ih bs _ _ h.2.2
      simp; omega

/-! ### without fixed heights nothing is lossy

For a box without fixed heights the free lines are all lines, `PartT · · · false` is `Full`, and a sandwich between
equal bounds is an equation: the conservation statements for such boxes are the case `fl = false` of the general ones. -/

mutual
theorem freeFrom_noFixed : (b : PBox) → NoFixedHeight b → ∀ σ, freeFrom b σ = linesFrom b σ
  | .para id n lh st => by
    intro h σ
    simp only [NoFixedHeight] at h
    simp [freeFrom, linesFrom, fixedSt, h]
  | .block id st kids => by
    intro h σ
    simp only [NoFixedHeight] at h
    simp only [freeFrom, linesFrom, fixedSt, h.1, Option.isSome_none, Bool.false_eq_true, ↓reduceIte]
    exact freeFromKids_noFixed kids h.2 _ _
theorem freeFromKids_noFixed : (bs : List PBox) → NoFixedHeightList bs → ∀ k sub,
    freeFromKids bs k sub = linesFromKids bs k sub
  | [] => by intro _ k sub; simp [freeFromKids, linesFromKids]
  | b :: bs => by
    intro h k sub
    simp only [NoFixedHeightList] at h
    cases k with
    | zero =>
      simp only [freeFromKids, linesFromKids]
      rw [freeFrom_noFixed b h.1, freeFromKids_noFixed bs h.2]
    | succ k =>
      simp only [freeFromKids, linesFromKids]
      exact freeFromKids_noFixed bs h.2 k sub
end

theorem full_partT :
    (∀ {f b σ} fl, Full f b σ → PartT f b σ fl) ∧
    ∀ {fs bs i sub} fl, FullFrom fs bs i sub → PartFromT fs bs i sub fl := by
  refine Full.mutual_induct _ _ ?_ ?_ ?_ ?_ ?_ ?_ ?_
  · intro id idx st n g lines σ id' n' lh st' fl h
    simp only [Full] at h
    simp only [PartT]
    exact ⟨h.1, h.2.1, h.2.2.1, _, h.2.2.2, by omega, fun _ => rfl⟩
  · intros; simp_all [Full]
  · intro id idx st g fs σ id' st' kids ih fl h
    simp only [Full] at h
    simp only [PartT]
    exact ih _ h
  · intros; simp_all [Full]
  · intro bs i sub fl h
    simp only [FullFrom] at h
    simp only [PartFromT]
    exact .inr h
  · intros; simp_all [FullFrom]
  · intro f fs i sub b bs' ih1 ih2 fl h
    simp only [FullFrom] at h
    simp only [PartFromT]
    exact ⟨ih1 fl h.1, h.2.1, ih2 fl h.2.2⟩

theorem noFixedList_drop (bs : List PBox) (k : Nat) (h : NoFixedHeightList bs) : NoFixedHeightList (bs.drop k) := by
  induction k generalizing bs with
  | zero => exact h
  | succ k ih =>
    cases bs with
    | nil => exact h
    | cons _ bs => exact ih bs h.2

theorem partT_full :
    (∀ {f b σ fl}, NoFixedHeight b → fl = false → PartT f b σ fl → Full f b σ) ∧
    ∀ {fs bs i sub fl}, NoFixedHeightList bs → fl = false → PartFromT fs bs i sub fl → FullFrom fs bs i sub := by
  refine PartT.mutual_induct _ _ ?_ ?_ ?_ ?_ ?_ ?_ ?_
  · intro id idx st n g lines σ fl id' n' lh st' hg hfl h
    subst hfl
    simp only [PartT] at h
    simp only [NoFixedHeight] at hg
    obtain ⟨h1, h2, h3, m, h4, _, h6⟩ := h
    simp only [Full]
    refine ⟨h1, h2, h3, ?_⟩
    rw [h4, h6 (by simp [fixedSt, hg])]
  · intros; simp_all [PartT]
  · intro id idx st g fs σ fl id' st' kids ih hg hfl h
    simp only [PartT] at h
    simp only [NoFixedHeight] at hg
    simp only [Full]
    exact ih (noFixedList_drop _ _ hg.2) (by simp [hfl, fixedSt, hg.1]) h
  · intros; simp_all [PartT]
  · intro bs i sub fl _ hfl h
    simp only [PartFromT] at h
    simp only [FullFrom]
    exact h.resolve_left (by simp [hfl])
  · intros; simp_all [PartFromT]
  · intro f fs i sub fl b bs' ih1 ih2 hg hfl h
    simp only [PartFromT] at h
    simp only [NoFixedHeightList] at hg
    simp only [FullFrom]
    exact ⟨ih1 hg.1 hfl h.1, h.2.1, ih2 hg.2 hfl h.2.2⟩

/-- With nothing lossy the sandwich closes. -/
theorem sandT_eq (A Y X : List (Nat × Nat)) (h : SandT false A Y Y X X) : A ++ Y = X :=
  h.2.eq_of_length_le (h.1 rfl).length_le

/-- `sandT_eq` for the lines of a box without fixed heights. -/
theorem sandT_good (b : PBox) (hg : NoFixedHeight b) (σ ρ : Option Resume) (A : List (Nat × Nat))
    (h : SandT false A (linesFrom b ρ) (freeFrom b ρ) (linesFrom b σ) (freeFrom b σ)) :
    A ++ linesFrom b ρ = linesFrom b σ := by
  rw [freeFrom_noFixed b hg, freeFrom_noFixed b hg] at h
  exact sandT_eq _ _ _ h

theorem sandT_goodList (bs : List PBox) (hg : NoFixedHeightList bs) (k m : Nat) (s t : Option Resume) (A : List (Nat × Nat))
    (h : SandT false A (linesFromKids bs m t) (freeFromKids bs m t) (linesFromKids bs k s) (freeFromKids bs k s)) :
    A ++ linesFromKids bs m t = linesFromKids bs k s := by
  rw [freeFromKids_noFixed bs hg, freeFromKids_noFixed bs hg] at h
  exact sandT_eq _ _ _ h

end Wp.PM
