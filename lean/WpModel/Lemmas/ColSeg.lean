/-
The counterpart of `Lemmas/Segment.lean` over the stage-2c types: `linesFromKids`, `posKids` as instances of
`Lemmas/SegList`, `Full`, `GoodList`; and the line loop of the column stage as an instance of the generic line loop
(`lineLoop_eq_G`).  The lemmas about functions shared with stage 1 (`breakLine`, `paraLines`, …)
are used from `Wp.PM`.
-/
import WpModel.Lemmas.ColSegDefs
import WpModel.Lemmas.Segment

namespace Wp.PMC
open Wp Wp.PM Wp.Seg

/-- The column stage tests against the extended context (everything overflows an infinite bottom space). -/
theorem lineLoop_eq_G (c : CCtx) (st : PStyle) (b : BoxSt) (n : Nat) (lineH : Rat)
    (pie : Bool) (bs : Rat) (fuel i : Nat) (y : Rat) (s : LineLoop) :
    lineLoop c st b n lineH pie bs fuel i y s =
      lineLoopG (c.overflowsPage bs) id st b n lineH pie fuel i y s := by
  induction fuel generalizing i y s with
  | zero => rfl
  | succ fuel ih => simp only [lineLoop, lineLoopG, ih, id]

@[simp] theorem fragLines_withIdx (f : CFrag) (i : Nat) : fragLines (f.withIdx i) = fragLines f := by
  cases f <;> simp [CFrag.withIdx, fragLines]

theorem idx_withIdx (f : CFrag) (i : Nat) (h : f.isColumn = false) : (f.withIdx i).idx = i := by
  cases f <;> first | rfl | simp [CFrag.isColumn] at h

theorem full_not_column (f : CFrag) (b : ColBox) (σ : Option Resume) (h : Full f b σ) : f.isColumn = false := by
  cases f <;> first | rfl | simp [Full] at h

theorem full_withIdx (f : CFrag) (i : Nat) (b : ColBox) (σ : Option Resume) (h : Full f b σ) :
    Full (f.withIdx i) b σ := by
  cases f <;> cases b <;> simp only [CFrag.withIdx, Full] at h ⊢ <;> exact h

/-! ### list arithmetic of `linesFromKids`, `posKids` -/

theorem linesFromKids_eq (kids : List ColBox) (k : Nat) (s : Option Resume) :
    linesFromKids kids k s = fromAt linesFrom none kids k s := by
  induction kids generalizing k s with
  | nil => rw [fromAt_nil]; cases k <;> rfl
  | cons b bs ih => cases k <;> simp only [linesFromKids, fromAt, ih]

theorem posKids_eq (kids : List ColBox) (k : Nat) (s : Option Resume) :
    posKids kids k s = posAt sizeBox pos kids k s := by
  induction kids generalizing k s with
  | nil => rw [posAt_nil]; cases k <;> rfl
  | cons b bs ih => cases k <;> simp only [posKids, posAt, ih]

theorem sizeKids_eq (kids : List ColBox) : sizeKids kids = (kids.map sizeBox).sum := by
  induction kids with
  | nil => rfl
  | cons b bs ih => rw [sizeKids, ih, List.map_cons, List.sum_cons]

theorem linesFromKids_nil (k : Nat) (s : Option Resume) : linesFromKids [] k s = [] := by
  simp [linesFromKids]

theorem linesFromKids_append_lt (B R : List ColBox) (m : Nat) (s : Option Resume) (h : m < B.length) :
    linesFromKids (B ++ R) m s = linesFromKids B m s ++ linesFromKids R 0 none := by
  simp only [linesFromKids_eq]; exact fromAt_append_lt _ _ B R m s h

theorem linesFromKids_append_len (B R : List ColBox) (k : Nat) (s : Option Resume) :
    linesFromKids (B ++ R) (B.length + k) s = linesFromKids R k s := by
  simp only [linesFromKids_eq]; exact fromAt_append_len _ _ B R k s

theorem linesFromKids_append_length (B R : List ColBox) (s : Option Resume) :
    linesFromKids (B ++ R) B.length s = linesFromKids R 0 s :=
  linesFromKids_append_len B R 0 s

theorem linesFromKids_drop (kids : List ColBox) (k0 m : Nat) (s : Option Resume) :
    linesFromKids kids (k0 + m) s = linesFromKids (kids.drop k0) m s := by
  simp only [linesFromKids_eq]; exact fromAt_drop _ _ kids k0 m s

theorem linesFromKids_eq_drop (kids : List ColBox) (k0 : Nat) (s : Option Resume) :
    linesFromKids kids k0 s = linesFromKids (kids.drop k0) 0 s :=
  linesFromKids_drop kids k0 0 s

mutual
theorem pos_lt_size : (b : ColBox) → (σ : Option Resume) → pos b σ < sizeBox b
  | .para _ n _ _, σ => by
    simp only [pos, sizeBox]; omega
  | .block _ _ kids, σ => by
    simp only [pos, sizeBox]
    have := posKids_le kids (skipIdxOf σ) (subSkipOf σ)
    omega
  | .columns _ _ _ _ kids, σ => by
    simp only [pos, sizeBox]
    have := posKids_le kids (skipIdxOf σ) (subSkipOf σ)
    omega
theorem posKids_le : (bs : List ColBox) → (k : Nat) → (s : Option Resume) → posKids bs k s ≤ sizeKids bs
  | [], k, s => by simp [posKids, sizeKids]
  | b :: bs, 0, s => by
    simp only [posKids, sizeKids]
    have := pos_lt_size b s
    omega
  | b :: bs, k + 1, s => by
    simp only [posKids, sizeKids]
    have := posKids_le bs k s
    omega
end

theorem posKids_lt (B : List ColBox) (m : Nat) (s : Option Resume) (h : m < B.length) :
    posKids B m s < sizeKids B := by
  rw [posKids_eq, sizeKids_eq]; exact posAt_lt _ _ pos_lt_size B m s h

theorem posKids_append_lt (B R : List ColBox) (m : Nat) (s : Option Resume) (h : m < B.length) :
    posKids (B ++ R) m s = posKids B m s := by
  simp only [posKids_eq]; exact posAt_append_lt _ _ B R m s h

theorem posKids_append_len (B R : List ColBox) (k : Nat) (s : Option Resume) :
    posKids (B ++ R) (B.length + k) s = sizeKids B + posKids R k s := by
  simp only [posKids_eq, sizeKids_eq]; exact posAt_append_len _ _ B R k s

theorem posKids_append_length (B R : List ColBox) (s : Option Resume) :
    posKids (B ++ R) B.length s = sizeKids B + posKids R 0 s :=
  posKids_append_len B R 0 s

theorem posKids_drop (kids : List ColBox) (k0 m : Nat) (s : Option Resume) :
    posKids kids (k0 + m) s = sizeKids (kids.take k0) + posKids (kids.drop k0) m s := by
  simp only [posKids_eq, sizeKids_eq]; exact posAt_drop _ _ kids k0 m s

theorem posKids_eq_drop (kids : List ColBox) (k0 : Nat) (s : Option Resume) :
    posKids kids k0 s = sizeKids (kids.take k0) + posKids (kids.drop k0) 0 s :=
  posKids_drop kids k0 0 s

theorem fullFrom_eq (fs : List CFrag) (bs : List ColBox) (i : Nat) (sub : Option Resume) :
    FullFrom fs bs i sub ↔ alignedAt Full CFrag.idx none fs bs i sub := by
  induction fs generalizing bs i sub with
  | nil => simp only [FullFrom, alignedAt]
  | cons f fs ih => cases bs <;> simp only [FullFrom, alignedAt, ih]

theorem fullFrom_length (fs : List CFrag) (bs : List ColBox) (i : Nat) (sub : Option Resume)
    (h : FullFrom fs bs i sub) : fs.length = bs.length :=
  alignedAt_length ((fullFrom_eq ..).1 h)

/-- A complete fragment shows the lines of its box from the start position on; so does a list of them. -/
theorem full_lines :
    (∀ {f b σ}, Full f b σ → fragLines f = linesFrom b σ) ∧
    ∀ {fs bs i sub}, FullFrom fs bs i sub → fragLinesList fs = linesFromKids bs 0 sub := by
  refine Full.mutual_induct _ _ ?_ ?_ ?_ ?_ ?_ ?_ ?_ ?_ ?_ ?_
  · intro id idx st n g lines σ id' n' lh st' h
    simp only [Full] at h
    obtain ⟨rfl, rfl, rfl, hl⟩ := h
    simp only [fragLines, linesFrom]
    exact paraLines_eq _ _ _ _ hl
  · intro id idx st n g lines b σ hb h
    cases b with
    | para => exact (hb _ _ _ _ rfl).elim
    | _ => simp [Full] at h
  · intro id idx st g fs σ id' st' kids ih h
    simp only [Full] at h
    simp only [fragLines, linesFrom]
    rw [ih h]
    exact (linesFromKids_eq_drop kids _ _).symm
  · intro id idx st g fs b σ hb h
    cases b with
    | block => exact (hb _ _ _ rfl).elim
    | _ => simp [Full] at h
  · intro id idx st g fs σ id' st' cs flags kids h
    simp only [Full] at h
    simp only [fragLines, linesFrom]
    exact h
  · intro id idx st g fs b σ hb h
    cases b with
    | columns => exact (hb _ _ _ _ _ rfl).elim
    | _ => simp [Full] at h
  · intros; simp_all [Full]
  · intro bs i sub h
    simp only [FullFrom] at h
    subst h
    simp [fragLinesList, linesFromKids]
  · intros; simp_all [FullFrom]
  · intro f fs i sub b bs ih1 ih2 h
    simp only [FullFrom] at h
    simp only [fragLinesList, linesFromKids]
    rw [ih1 h.1, ih2 h.2.2]

theorem fullFrom_snoc (fs : List CFrag) (B : List ColBox) (i : Nat) (sub : Option Resume) (f : CFrag) (b : ColBox)
    (h : FullFrom fs B i sub) (hf : Full f b (if B = [] then sub else none)) (hi : f.idx = i + B.length) :
    FullFrom (fs ++ [f]) (B ++ [b]) i sub :=
  (fullFrom_eq ..).2 (alignedAt_snoc ((fullFrom_eq ..).1 h) hf hi)

theorem goodList_iff (bs : List ColBox) : GoodList bs ↔ ∀ b ∈ bs, Good b := by
  induction bs with
  | nil => simp [GoodList]
  | cons b bs ih => simp [GoodList, ih]

theorem goodList_drop (bs : List ColBox) (k : Nat) (h : GoodList bs) : GoodList (bs.drop k) :=
  (goodList_iff _).2 fun b hb => (goodList_iff _).1 h b (List.mem_of_mem_drop hb)

theorem goodList_append (B R : List ColBox) (hB : GoodList B) (hR : GoodList R) : GoodList (B ++ R) :=
  (goodList_iff _).2 (List.forall_mem_append.2 ⟨(goodList_iff _).1 hB, (goodList_iff _).1 hR⟩)

end Wp.PMC
