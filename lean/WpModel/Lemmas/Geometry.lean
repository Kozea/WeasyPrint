/-
Geometry of whole PM layouts: the lines placed by `layoutBox` (with the flag "first content of an empty
page"), the invariant "every placed line ends above the page bottom" lifted from `lineboxLayout` to
fragment trees (through `find_earlier_page_break`, the relayout with a larger bottom space, cloned
decorations), the geometry `finishTail` gives a box, in closed form, and the position of the border box
computed by `prepare` / `finishTail`.
-/
import WpModel.Lemmas.ParaGeo
import WpModel.Lemmas.SegmentBlock
import WpModel.Lemmas.CollapseMargin
import WpModel.Lemmas.Basic.Rat

namespace Wp.PM
open Wp

/-- A style with every length 0, `auto` height, no forced / avoided break, `orphans = widows = 1`
(base of the concrete examples). -/
def plainSt : PStyle where
  mt := 0
  mb := 0
  pt := 0
  pb := 0
  bt := 0
  bb := 0
  height := none
  minH := 0
  maxH := none
  brkBefore := .auto
  brkAfter := .auto
  brkInside := .auto
  clone := false
  page := ""
  orphans := 1
  widows := 1
  isRoot := false

def Frag.kids : Frag → List Frag
  | .para _ _ _ _ _ _ => []
  | .block _ _ _ _ ks => ks

/-! ### placed lines of a fragment tree -/

/-- A line of a paragraph fragment, with the geometry needed to state that it fits:
`exempt` = it is the first line of the first content placed on a page that was empty. -/
structure PlacedLine where
  exempt : Bool
  para : Nat        -- id of the paragraph
  line : Nat        -- line number in the paragraph
  y : Rat           -- top of the line box
  lineH : Rat
  deriving Repr, DecidableEq

def PlacedLine.bottom (p : PlacedLine) : Rat := p.y + p.lineH

/-- The lines of a paragraph fragment laid out with `page_is_empty = pie`. -/
def paraPlaced (pie : Bool) (id : Nat) (lineH : Rat) : List (Nat × Rat) → List PlacedLine
  | [] => []
  | p :: rest =>
    { exempt := pie, para := id, line := p.1, y := p.2, lineH := lineH } ::
      rest.map (fun q => { exempt := false, para := id, line := q.1, y := q.2, lineH := lineH })

/-- Lines placed with `page_is_empty` true instead of false: the same, the first one exempt. -/
theorem paraPlaced_pie (id : Nat) (lineH : Rat) (lines : List (Nat × Rat)) :
    ∀ p ∈ paraPlaced true id lineH lines, p.exempt = true ∨ p ∈ paraPlaced false id lineH lines := by
  cases lines with
  | nil => exact nofun
  | cons a l =>
    intro p hp
    simp only [paraPlaced, List.mem_cons] at hp ⊢
    rcases hp with rfl | hp
    · exact .inl rfl
    · exact .inr (.inr hp)

/-- Every line of `A` is exempt or is a line of `B`: what is said of the unexempt lines of `B` holds of those of `A`. -/
def PieWeaker (A B : List PlacedLine) : Prop := ∀ p ∈ A, p.exempt = true ∨ p ∈ B

theorem PieWeaker.nil (B : List PlacedLine) : PieWeaker [] B := fun _ hp => nomatch hp

theorem PieWeaker.append {A B C D : List PlacedLine} (h1 : PieWeaker A C) (h2 : PieWeaker B D) :
    PieWeaker (A ++ B) (C ++ D) := by
  intro p hp
  rcases List.mem_append.mp hp with hp | hp
  · exact (h1 p hp).imp_right (List.mem_append_left _)
  · exact (h2 p hp).imp_right (List.mem_append_right _)

theorem paraPlaced_weaker (p q : Bool) (hqp : q = true → p = true) (id : Nat) (lineH : Rat)
    (lines : List (Nat × Rat)) : PieWeaker (paraPlaced p id lineH lines) (paraPlaced q id lineH lines) := by
  cases p <;> cases q
  · exact fun _ h => .inr h
  · exact absurd (hqp rfl) (by simp)
  · exact paraPlaced_pie id lineH lines
  · exact fun _ h => .inr h

mutual
/-- All lines of the fragment `f` of the source box `box`, laid out with `page_is_empty = pie`.
The line height is read in the source box (fragment children are matched to source children through
`.idx`); `page_is_empty` stays true only along first-placed children. -/
def placedLines : Frag → Bool → PBox → List PlacedLine
  | .para _ _ _ _ _ lines, pie, box =>
    match box with
    | .para id _ lineH _ => paraPlaced pie id lineH lines
    | .block _ _ _ => []
  | .block _ _ _ _ fkids, pie, box =>
    match box with
    | .block _ _ kids => placedLinesList fkids pie kids
    | .para _ _ _ _ => []
def placedLinesList : List Frag → Bool → List PBox → List PlacedLine
  | [], _, _ => []
  | f :: rest, pie, kids =>
    (match kids[f.idx]? with
      | some kb => placedLines f pie kb
      | none => []) ++ placedLinesList rest false kids
end

/-- Every placed line is exempt or passes the overflow test `ov`. -/
def LinesFit (ov : Rat → Bool) (L : List PlacedLine) : Prop := ∀ p ∈ L, p.exempt = true ∨ ov p.bottom = false

theorem linesFit_nil (ov : Rat → Bool) : LinesFit ov [] := fun _ hp => nomatch hp

theorem linesFit_append (ov : Rat → Bool) (A B : List PlacedLine) :
    LinesFit ov (A ++ B) ↔ LinesFit ov A ∧ LinesFit ov B :=
  ⟨fun h => ⟨fun p hp => h p (List.mem_append_left _ hp), fun p hp => h p (List.mem_append_right _ hp)⟩,
    fun h p hp => (List.mem_append.mp hp).elim (h.1 p) (h.2 p)⟩

/-- A test that passes whatever `ov'` passes. -/
theorem linesFit_mono {ov ov' : Rat → Bool} (L : List PlacedLine) (h : ∀ y, ov' y = false → ov y = false)
    (hL : LinesFit ov' L) : LinesFit ov L :=
  fun p hp => (hL p hp).imp_right (h _)

theorem linesFit_sub (ov : Rat → Bool) (A B : List PlacedLine) (h : ∀ p ∈ A, p ∈ B) (hB : LinesFit ov B) :
    LinesFit ov A := fun p hp => hB p (h p hp)

theorem PieWeaker.linesFit {A B : List PlacedLine} (h : PieWeaker A B) (ov : Rat → Bool) (hB : LinesFit ov B) :
    LinesFit ov A := fun p hp => (h p hp).elim .inl (hB p)

/-- Placed lines of a paragraph whose kept lines are a run from `k`: if each kept line is line `k` of an empty page
or passes the test, every placed line is exempt or passes it (only the first placed line can be line `k`). -/
theorem paraPlaced_fit (ov : Rat → Bool) (lineH : Rat) (pie : Bool) (id k m : Nat) (lines : List (Nat × Rat))
    (hfit : ∀ q ∈ lines, LineFitsG ov lineH pie k q)
    (hcont : lines.map Prod.fst = List.range' k m) : LinesFit ov (paraPlaced pie id lineH lines) := by
  cases lines with
  | nil => exact linesFit_nil ov
  | cons a l =>
    intro p hp
    simp only [paraPlaced, List.mem_cons, List.mem_map] at hp
    rcases hp with rfl | ⟨q, hq, rfl⟩
    · exact (hfit a (by simp)).imp_left (·.1)
    · right
      rcases hfit q (by simp [hq]) with h | h
      · exfalso
        -- q is not the first line: line numbers are consecutive
        cases m with
        | zero => simp at hcont
        | succ m =>
          simp only [List.map_cons, List.range'_succ, List.cons.injEq] at hcont
          have : q.1 ∈ List.range' (k + 1) m := by
            rw [← hcont.2]; exact List.mem_map_of_mem hq
          simp only [List.mem_range'_1] at this
          omega
      · exact h

/-- The placed lines of the generic line loop started with no line kept fit, for a downward-closed test. -/
theorem lineLoopG_placed {ov : Rat → Bool} (place : Rat → Rat) (st : PStyle) (b : BoxSt) (n : Nat) (lineH : Rat)
    (pie : Bool) (hov : Downward ov) (hdeco : 0 ≤ b.bb + b.pb) (id k fuel : Nat) (y : Rat) (s : LineLoop)
    (hs : s.lines = []) :
    LinesFit ov (paraPlaced pie id lineH (outLines (lineLoopG ov place st b n lineH pie fuel k y s))) :=
  let ⟨m, _, hrun⟩ := lineLoopG_contiguous ov place st b n lineH pie k fuel k y s (hs ▸ runFrom_start k)
  paraPlaced_fit _ lineH pie id _ m _
    (lineLoopG_fits place st b n lineH pie hov k fuel k y s hdeco (fun _ => rfl) (by simp [hs])) hrun

/-- Every placed line ends above `pageBottom − bs` (with the fudge factor of the layout) or is exempt. -/
def LinesOk (c : Ctx) (bs : Rat) (L : List PlacedLine) : Prop :=
  ∀ p ∈ L, p.exempt = true ∨ c.overflowsPage bs p.bottom = false

theorem linesOk_nil (c : Ctx) (bs : Rat) : LinesOk c bs [] := linesFit_nil _

theorem linesOk_append (c : Ctx) (bs : Rat) (A B : List PlacedLine) :
    LinesOk c bs (A ++ B) ↔ LinesOk c bs A ∧ LinesOk c bs B := linesFit_append _ A B

theorem linesOk_mono (c : Ctx) (bs bs' : Rat) (L : List PlacedLine) (h : bs ≤ bs') (hL : LinesOk c bs' L) :
    LinesOk c bs L := linesFit_mono L (fun _ => not_overflowsPage_of_space_le c bs bs' _ h) hL

theorem linesOk_sub (c : Ctx) (bs : Rat) (A B : List PlacedLine) (h : ∀ p ∈ A, p ∈ B) (hB : LinesOk c bs B) :
    LinesOk c bs A := linesFit_sub _ A B h hB

/-! ### the lines a paragraph keeps fit -/

theorem paraPlaced_take (pie : Bool) (id : Nat) (lineH : Rat) (lines : List (Nat × Rat)) (m : Nat) :
    ∀ p ∈ paraPlaced pie id lineH (lines.take m), p ∈ paraPlaced pie id lineH lines := by
  cases lines with
  | nil => simp
  | cons a l =>
    cases m with
    | zero => simp [paraPlaced]
    | succ m =>
      intro p hp
      simp only [List.take_succ_cons, paraPlaced, List.mem_cons, List.mem_map] at hp ⊢
      rcases hp with hp | ⟨q, hq, rfl⟩
      · left; exact hp
      · right; exact ⟨q, List.mem_of_mem_take hq, rfl⟩

/-- The lines kept by `_linebox_layout` fit, the first one excepted when the page was empty. -/
theorem lineboxLayout_placed (c : Ctx) (st : PStyle) (b : BoxSt) (n : Nat) (lineH : Rat) (pie : Bool)
    (adj : List Rat) (bs posY : Rat) (skip : Option Resume) (dbd : Bool) (id : Nat) (hdeco : 0 ≤ b.bb + b.pb) :
    LinesOk c bs (paraPlaced pie id lineH (lineboxLayout c st b n lineH pie adj bs posY skip dbd).lines) := by
  rw [lineboxLayout_lines, lineboxLoop, lineLoop_eq_G]
  exact lineLoopG_placed _ st b n lineH pie (not_overflowsPage_of_le c bs) hdeco id _ _ _ _ rfl

/-! ### `withIdx`, `find_earlier_page_break` -/

@[simp] theorem placedLines_withIdx (f : Frag) (i : Nat) (pie : Bool) (box : PBox) :
    placedLines (f.withIdx i) pie box = placedLines f pie box := by
  cases f <;> cases box <;> simp [Frag.withIdx, placedLines]

theorem placedLinesList_snoc (xs : List Frag) (f : Frag) (pie : Bool) (kids : List PBox) :
    placedLinesList (xs ++ [f]) pie kids =
      placedLinesList xs pie kids ++
        (match kids[f.idx]? with
          | some kb => placedLines f (pie && xs.isEmpty) kb
          | none => []) := by
  induction xs generalizing pie with
  | nil => simp [placedLinesList]
  | cons x xs ih =>
    simp only [List.cons_append, placedLinesList, ih false, List.append_assoc]
    simp

@[simp] theorem placedLines_cutEnd (f : Frag) (pie : Bool) (box : PBox) :
    placedLines f.cutEnd pie box = placedLines f pie box := by
  cases f <;> cases box <;> simp [Frag.cutEnd, placedLines]

theorem findEarlierPara_placed (id idx : Nat) (st : PStyle) (n : Nat) (g : Geo) (lines : List (Nat × Rat))
    (x' : Frag) (r : Resume) (h : findEarlierPara id idx st n g lines = some (x', r)) :
    x'.idx = idx ∧ ∀ pie box, ∀ p ∈ placedLines x' pie box, p ∈ placedLines (.para id idx st n g lines) pie box := by
  obtain ⟨_, _, _, rfl, _⟩ := findEarlierPara_take h
  refine ⟨rfl, fun pie box => ?_⟩
  cases box with
  | para id' n' lh st' => simp only [placedLines]; exact paraPlaced_take _ _ _ _ _
  | block _ _ _ => simp [placedLines]

mutual
theorem findEarlierGo_placed : (fs : List Frag) → ∀ (kept : List Frag) (r : Resume),
    (findEarlierGo fs).found = some (kept, r) →
    ∀ pie kids, ∀ p ∈ placedLinesList kept pie kids, p ∈ placedLinesList fs pie kids
  | [] => by
    intro kept r h
    simp [findEarlierGo] at h
  | x :: xs => by
    intro kept r h pie kids p hp
    rcases findEarlierGo_cons_found x xs kept r h with
      ⟨kept0, hfound, rfl⟩ | ⟨_, ⟨_, _, rfl, _⟩ | ⟨x', r1, hfe, rfl, _⟩⟩
    · simp only [placedLinesList, List.mem_append] at hp ⊢
      exact hp.imp_right (findEarlierGo_placed xs kept0 r hfound false kids p)
    · simp only [placedLinesList, List.mem_append, List.append_nil] at hp ⊢
      exact .inl hp
    · obtain ⟨hidx, hsub⟩ := findEarlierFrag_placed x x' r1 hfe
      simp only [placedLinesList, List.mem_append, List.append_nil, idx_cutEnd, hidx, placedLines_cutEnd] at hp ⊢
      left
      split at hp
      · exact hsub _ _ p hp
      · cases hp
theorem findEarlierFrag_placed : (x : Frag) → ∀ (x' : Frag) (r : Resume), findEarlierFrag x = some (x', r) →
    x'.idx = x.idx ∧ ∀ pie box, ∀ p ∈ placedLines x' pie box, p ∈ placedLines x pie box
  | .para id idx st n g lines => by
    intro x' r h
    simp only [findEarlierFrag] at h
    exact findEarlierPara_placed id idx st n g lines x' r h
  | .block id idx st g kids => by
    intro x' r h
    simp only [findEarlierFrag] at h
    split at h
    · rename_i kids' r0 hfound
      simp only [Option.some.injEq, Prod.mk.injEq] at h
      obtain ⟨rfl, rfl⟩ := h
      refine ⟨rfl, ?_⟩
      intro pie box
      cases box with
      | para _ _ _ _ => simp [placedLines]
      | block id' st' bkids =>
        simp only [placedLines]
        exact findEarlierGo_placed kids kids' r0 hfound pie bkids
    · cases h
end

/-! ### `prepare` -/

section
variable (c : Ctx) (st : PStyle) (y bs : Rat) (skip : Option Resume) (cb pie : Bool) (adjL : List Rat)

@[simp] theorem prepare_pb : (prepare c st y bs skip cb pie adjL).b.pb = st.pb := by
  simp only [prepare, apply_ite Prep.b, apply_ite BoxSt.pb, ite_self]

@[simp] theorem prepare_bb : (prepare c st y bs skip cb pie adjL).b.bb = st.bb := by
  simp only [prepare, apply_ite Prep.b, apply_ite BoxSt.bb, ite_self]

@[simp] theorem prepare_mb : (prepare c st y bs skip cb pie adjL).b.mb = st.mb := by
  simp only [prepare, apply_ite Prep.b, apply_ite BoxSt.mb, ite_self]

@[simp] theorem prepare_dbd : (prepare c st y bs skip cb pie adjL).dbd = st.clone := by
  simp only [prepare, apply_ite Prep.dbd, ite_self]

/-- The `bottom_space` used inside the box: enlarged by the cloned bottom decorations. -/
theorem prepare_bs :
    (prepare c st y bs skip cb pie adjL).bs = if st.clone then bs + (st.pb + st.bb + st.mb) else bs := by
  simp only [prepare, apply_ite Prep.bs, apply_ite BoxSt.pb, apply_ite BoxSt.bb, apply_ite BoxSt.mb, ite_self]

theorem prepare_adjL :
    (prepare c st y bs skip cb pie adjL).adjL = adjL ++ [(prepare c st y bs skip cb pie adjL).b.mt] := by
  unfold prepare
  extract_lets mt0 isStart b0 b dbd bs' adjL' cwc
  split <;> rfl

theorem prepare_y :
    (prepare c st y bs skip cb pie adjL).b.y =
      if (prepare c st y bs skip cb pie adjL).cwc then y
      else y + collapseMargin (prepare c st y bs skip cb pie adjL).adjL - (prepare c st y bs skip cb pie adjL).b.mt := by
  unfold prepare
  extract_lets mt0 isStart b0 b dbd bs' adjL' cwc
  have hy : b.y = y := by simp only [b, apply_ite BoxSt.y, ite_self, b0]
  split
  · exact hy
  · show b.y + _ - _ = _
    rw [hy]
    rfl

theorem prepare_curIsL :
    (prepare c st y bs skip cb pie adjL).curIsL = (prepare c st y bs skip cb pie adjL).cwc := by
  unfold prepare
  extract_lets mt0 isStart b0 b dbd bs' adjL' cwc
  split <;> rfl

end

/-! ### hypotheses on the decorations -/

/-- Bottom padding + border is not negative (always true of CSS used values), and when the decorations
are cloned, bottom padding + border + *margin* is not negative (a negative bottom margin larger than
the decorations would *shrink* `bottom_space`). -/
def PStyle.DecoOk (st : PStyle) : Prop :=
  0 ≤ st.pb + st.bb ∧ (st.clone = true → 0 ≤ st.pb + st.bb + st.mb)

mutual
def DecoOk : PBox → Prop
  | .para _ _ _ st => st.DecoOk
  | .block _ st kids => st.DecoOk ∧ DecoOkList kids
def DecoOkList : List PBox → Prop
  | [] => True
  | b :: bs => DecoOk b ∧ DecoOkList bs
end

/-- Bottom padding and border that are those of a style where they do not add up to less than 0, or are both 0
(what the layout of a box leaves its fragment with), do not add up to less than 0. -/
theorem Geo.deco_nonneg {g : Geo} {st : PStyle} (hg : (g.pb = st.pb ∧ g.bb = st.bb) ∨ (g.pb = 0 ∧ g.bb = 0))
    (h : 0 ≤ st.pb + st.bb) : 0 ≤ g.pb + g.bb := by
  rcases hg with ⟨h1, h2⟩ | ⟨h1, h2⟩ <;> rw [h1, h2] <;> grind

theorem DecoOk.st : (box : PBox) → DecoOk box → box.st.DecoOk
  | .para _ _ _ _ => by intro h; unfold DecoOk at h; exact h
  | .block _ _ _ => by intro h; unfold DecoOk at h; exact h.1

theorem prepare_bs_le (c : Ctx) (st : PStyle) (y bs : Rat) (skip : Option Resume) (cb pie : Bool)
    (adjL : List Rat) (h : st.DecoOk) : bs ≤ (prepare c st y bs skip cb pie adjL).bs := by
  rw [prepare_bs]
  split
  · rename_i hc
    have := h.2 hc
    grind
  · exact Rat.le_refl

/-! ### the geometry computed by the tail of `block_container_layout` -/

/-- `position_y` after the margin bookkeeping at the end of `block_container_layout` (margins after the last
child / of an empty box; bottom padding / border / root stop the collapsing). -/
def tailPosY (st : PStyle) (b : BoxSt) (posY : Rat) (cur : List Rat) (hasKids : Bool) : Rat :=
  let through := !hasKids &&
    ((st.height = none || st.height = some 0) && st.minH = 0 && b.bt = 0 && b.pt = 0 && b.bb = 0 && b.pb = 0)
  let (posY, cur) : Rat × List Rat :=
    if !hasKids then (if through then (posY, cur) else (posY + collapseMargin cur, []))
    else if st.height ≠ none then (posY, []) else (posY, cur)
  if b.bb ≠ 0 || b.pb ≠ 0 || st.isRoot then posY + collapseMargin cur else posY

/-- The used `position_y` of the box: moved by the collapsed margins when the box collapses with its
children. -/
def tailY (b : BoxSt) (cwc : Bool) (adjL : List Rat) : Rat :=
  if cwc then b.y + collapseMargin adjL - b.mt else b.y

theorem tailY_box (b : BoxSt) (cwc : Bool) (adjL : List Rat) :
    (if cwc then { b with y := b.y + collapseMargin adjL - b.mt } else b) = { b with y := tailY b cwc adjL } := by
  cases cwc <;> rfl

/-- The height before stretching / clamping: `position_y − content_box_y` for `height: auto`. -/
def tailH0 (st : PStyle) (b : BoxSt) (cwc : Bool) (posY : Rat) (adjL cur : List Rat) (hasKids : Bool) : Rat :=
  match st.height with
  | none => tailPosY st b posY cur hasKids - (tailY b cwc adjL + b.mt + b.bt + b.pt)
  | some h => h

/-- The used geometry in closed form: the box at `tailY`, without its bottom decorations when it is
fragmented and they are not cloned; the height is `tailH0` clamped by `min-height` / `max-height` when
the box is not fragmented, else stretched to the room left on the page. -/
theorem finishTail_geo (c : Ctx) (st : PStyle) (b : BoxSt) (bs : Rat)
    (cwc dbd : Bool) (resume : Option Resume) (posY : Rat) (adjL cur : List Rat) (curIsL hasKids : Bool) :
    (finishTail c st b bs cwc dbd resume posY adjL cur curIsL hasKids).geo =
      let b1 : BoxSt := { b with y := tailY b cwc adjL }
      let nb : BoxSt := if !st.clone && resume.isSome then { b1 with mb := 0, pb := 0, bb := 0 } else b1
      let h0 := tailH0 st b cwc posY adjL cur hasKids
      let newH := c.pageBottom - bs - nb.y - (nb.mt + nb.mb + nb.bt + nb.bb + nb.pt + nb.pb)
      geoOf nb (if !resume.isSome then
          (let capped := match st.maxH with | none => h0 | some m => if h0 ≤ m then h0 else m
           if capped ≥ st.minH then capped else st.minH)
        else if newH > h0 then (if dbd then newH + (b.pb + b.bb + b.mb) else newH) else h0) := by
  unfold finishTail
  rw [tailY_box]
  extract_lets fragmented b1 cm nb contentY
  -- the two tuples of the margin bookkeeping: only their first component reaches the geometry
  split
  rename_i p1 cur1 curIsL1 through1 heq1
  split
  rename_i p2 cur2 curIsL2 heq2
  simp only [b1] at heq1 heq2
  have hp : p2 = tailPosY st b posY cur hasKids := by
    unfold tailPosY
    cases hasKids
    · simp only [Bool.not_false, Bool.true_and, if_true] at heq1 ⊢
      split at heq1 <;> cases heq1 <;> split at heq2 <;> cases heq2 <;>
        simp only [*, cm, Bool.false_eq_true, if_true, if_false]
    · simp only [Bool.not_true, Bool.false_eq_true, if_false] at heq1 ⊢
      split at heq1 <;> cases heq1 <;> split at heq2 <;> cases heq2 <;>
        simp only [*, ne_eq, not_false_eq_true, Bool.false_eq_true, if_true, if_false]
  have hcy : contentY = tailY b cwc adjL + b.mt + b.bt + b.pt := by
    simp only [contentY, nb]
    split <;> rfl
  subst hp
  rw [hcy]
  rfl

theorem finishTail_geo_box (c : Ctx) (st : PStyle) (b : BoxSt) (bs : Rat)
    (cwc dbd : Bool) (resume : Option Resume) (posY : Rat) (adjL cur : List Rat) (curIsL hasKids : Bool) :
    ∃ h, (finishTail c st b bs cwc dbd resume posY adjL cur curIsL hasKids).geo =
      geoOf (if !st.clone && resume.isSome then { b with y := tailY b cwc adjL, mb := 0, pb := 0, bb := 0 }
        else { b with y := tailY b cwc adjL }) h :=
  ⟨_, finishTail_geo c st b bs cwc dbd resume posY adjL cur curIsL hasKids⟩

theorem finishTail_geo_frame (c : Ctx) (st : PStyle) (b : BoxSt) (bs : Rat)
    (cwc dbd : Bool) (resume : Option Resume) (posY : Rat) (adjL cur : List Rat) (curIsL hasKids : Bool) :
    let g := (finishTail c st b bs cwc dbd resume posY adjL cur curIsL hasKids).geo
    g.y = tailY b cwc adjL ∧ g.mt = b.mt ∧ g.bt = b.bt ∧ g.pt = b.pt := by
  obtain ⟨h, hg⟩ := finishTail_geo_box c st b bs cwc dbd resume posY adjL cur curIsL hasKids
  rw [hg]
  split <;> exact ⟨rfl, rfl, rfl, rfl⟩

/-- Bottom padding and border of the used geometry: those of the box, or 0 after decoration removal. -/
theorem finishTail_pb_bb (c : Ctx) (st : PStyle) (b : BoxSt) (bs : Rat)
    (cwc dbd : Bool) (resume : Option Resume) (posY : Rat) (adjL cur : List Rat) (curIsL hasKids : Bool) :
    let g := (finishTail c st b bs cwc dbd resume posY adjL cur curIsL hasKids).geo
    (g.pb = b.pb ∧ g.bb = b.bb) ∨ (g.pb = 0 ∧ g.bb = 0) := by
  obtain ⟨h, hg⟩ := finishTail_geo_box c st b bs cwc dbd resume posY adjL cur curIsL hasKids
  rw [hg]
  split
  · exact .inr ⟨rfl, rfl⟩
  · exact .inl ⟨rfl, rfl⟩

private theorem ite_ge_eq_max (a b : Rat) : (if a ≥ b then a else b) = max a b := by
  split
  · exact (Rat.max_eq_left ‹_›).symm
  · exact (Rat.max_eq_right (Rat.le_of_lt (Rat.not_le.mp ‹_›))).symm

theorem finishTail_h_unfragmented (c : Ctx) (st : PStyle) (b : BoxSt) (bs : Rat)
    (cwc dbd : Bool) (posY : Rat) (adjL cur : List Rat) (curIsL hasKids : Bool) :
    (finishTail c st b bs cwc dbd none posY adjL cur curIsL hasKids).geo.h =
      max (match st.maxH with
        | none => tailH0 st b cwc posY adjL cur hasKids
        | some m => min (tailH0 st b cwc posY adjL cur hasKids) m) st.minH := by
  rw [finishTail_geo]
  exact ite_ge_eq_max _ _

/-- Whether margins collapse through the box depends on the style and the decorations only, not on the page
geometry, the margins or the resume state: no in-flow child, `height` auto or 0, no min-height, padding or border. -/
theorem finishTail_through_eq (c : Ctx) (st : PStyle) (b : BoxSt) (bs : Rat)
    (cwc dbd : Bool) (resume : Option Resume) (posY : Rat) (adjL cur : List Rat) (curIsL hasKids : Bool) :
    (finishTail c st b bs cwc dbd resume posY adjL cur curIsL hasKids).through = (!hasKids &&
      ((st.height = none || st.height = some 0) && st.minH = 0 && b.bt = 0 && b.pt = 0 && b.bb = 0 && b.pb = 0)) := by
  unfold finishTail
  rw [tailY_box]
  dsimp only
  cases hasKids
  · simp only [Bool.not_false, Bool.true_and, if_true]
    split <;> rename_i ht
    · exact ht.symm
    · exact (Bool.not_eq_true _ ▸ ht).symm
  · simp only [Bool.not_true, Bool.false_and, Bool.false_eq_true, if_false]
    split <;> rfl

@[simp] theorem finishContainer_adjL (c : Ctx) (st : PStyle) (b : BoxSt) (isStart pie : Bool) (bs : Rat)
    (cwc dbd : Bool) (resume : Option Resume) (posY : Rat) (adjL cur : List Rat) (curIsL : Bool)
    (np : NextPage) (hasKids : Bool) (pageEnd : String) (mk : Geo → Frag) :
    (finishContainer c st b isStart pie bs cwc dbd resume posY adjL cur curIsL np hasKids pageEnd mk).adjL = adjL := by
  unfold finishContainer; split <;> rfl

theorem finishBlock_adjL (c : Ctx) (st : PStyle) (p : Prep) (pie : Bool) (id idx : Nat) (out : KidsOutcome) :
    (finishBlock c st p pie id idx out).adjL = out.state.adjL := by
  cases out with
  | aborted page s => rfl
  | stopped resume s => exact finishContainer_adjL ..
  | finished s => exact finishContainer_adjL ..

/-! ### the fragment returned by `layoutBox` -/

def outMt : LineOutcome → Rat
  | .done s => s.mt
  | .broke _ _ _ s => s.mt

/-- The tall-first-line rule (only on an empty page) is the only thing that changes the top margin. -/
theorem lineLoop_mt (c : Ctx) (st : PStyle) (b : BoxSt) (n : Nat) (lineH : Rat) (pie : Bool) (bs : Rat)
    (fuel i : Nat) (y : Rat) (s : LineLoop) :
    outMt (lineLoop c st b n lineH pie bs fuel i y s) = s.mt ∨
      (pie = true ∧ outMt (lineLoop c st b n lineH pie bs fuel i y s) = 0) := by
  fun_induction lineLoop c st b n lineH pie bs fuel i y s with
  | case1 i y s => left; rfl
  | case2 fuel i y s resume newPosY dbd offset overflow hov abort stop r lines' hb => left; rfl
  | case3 fuel i y s resume newPosY dbd offset overflow hov shift newPosY' lineY mt' ih =>
    rcases ih with h | h
    · rw [h]
      simp only
      by_cases hs : shift = true
      · right
        have : pie = true := by
          have h1 : (pie && c.overflowsPage bs newPosY) = true := hs
          simp only [Bool.and_eq_true] at h1; exact h1.1
        refine ⟨this, ?_⟩
        show (if shift = true then 0 else s.mt) = 0
        rw [if_pos hs]
      · left
        show (if shift = true then 0 else s.mt) = s.mt
        rw [if_neg hs]
    · right; exact h

theorem lineboxLayout_mt (c : Ctx) (st : PStyle) (b : BoxSt) (n : Nat) (lineH : Rat) (pie : Bool)
    (adj : List Rat) (bs posY : Rat) (skip : Option Resume) (dbd : Bool) :
    (lineboxLayout c st b n lineH pie adj bs posY skip dbd).mt = b.mt ∨
      (pie = true ∧ (lineboxLayout c st b n lineH pie adj bs posY skip dbd).mt = 0) := by
  have h := lineLoop_mt c st b n lineH pie bs (n - skipLine skip) (skipLine skip) (lineStart adj posY)
    { lines := [], posY := lineStart adj posY, skip := skip, mt := b.mt, dbd := dbd }
  unfold lineboxLayout lineboxLoop
  split <;> rename_i heq <;> rw [heq] at h <;> simpa [outMt] using h

/-- A fragment returned by `layoutBox` carries the geometry `finishTail` computes from the `prepare`d box,
with the box's own `bottom_space` and the final content of the list object the box received. Its top margin
is the prepared one, or 0 for a paragraph whose first line was moved by the tall-first-line rule; when the
box is fragmented, `draw_bottom_decoration` is exactly `box-decoration-break: clone`. -/
theorem layoutBox_tail (c : Ctx) (box : PBox) (idx : Nat) (y bs : Rat) (skip : Option Resume)
    (cb pie : Bool) (adjL : List Rat) (f : Frag)
    (h : (layoutBox c box idx y bs skip cb pie adjL).frag = some f) :
    ∃ (mt : Rat) (dbd : Bool) (posY : Rat) (cur : List Rat) (curIsL hasKids : Bool),
      f.geo = (finishTail c box.st { (prepare c box.st y bs skip cb pie adjL).b with mt := mt }
        (prepare c box.st y bs skip cb pie adjL).bs (prepare c box.st y bs skip cb pie adjL).cwc dbd
        (layoutBox c box idx y bs skip cb pie adjL).resume posY
        (layoutBox c box idx y bs skip cb pie adjL).adjL cur curIsL hasKids).geo ∧
      ((layoutBox c box idx y bs skip cb pie adjL).resume.isSome = true → dbd = box.st.clone) ∧
      (mt = (prepare c box.st y bs skip cb pie adjL).b.mt ∨
        (pie = true ∧ (∃ id n lh st, box = .para id n lh st) ∧ mt = 0)) := by
  cases box with
  | para id n lineH st =>
    simp only [layoutBox, finishPara, PBox.st] at h ⊢
    have hd := prepare_dbd c st y bs skip cb pie adjL
    generalize prepare c st y bs skip cb pie adjL = p at h hd ⊢
    have hmt := lineboxLayout_mt c st p.b n lineH pie p.cur p.bs p.posY (subSkipOf skip) p.dbd
    generalize lineboxLayout c st p.b n lineH pie p.cur p.bs p.posY (subSkipOf skip) p.dbd = R at h hmt ⊢
    split at h
    · simp [abortResult] at h
    · rename_i hab
      rw [if_neg hab]
      obtain ⟨rfl, hr, _⟩ := finishContainer_geo h
      rw [hr, finishContainer_adjL]
      refine ⟨R.mt, _, _, _, _, _, rfl, ?_, ?_⟩
      · intro hs
        have hR : R.resume.isSome = true := by
          split at hs
          · obtain ⟨r, hr⟩ := Option.isSome_iff_exists.1 hs
            rw [forgetIfFixed_some hr]; rfl
          · cases hs
        rw [hd]
        cases hr' : R.resume with
        | none => rw [hr'] at hR; cases hR
        | some r => exact Bool.or_false _
      · rcases hmt with hmt | hmt
        · exact .inl hmt
        · exact .inr ⟨hmt.1, ⟨_, _, _, _, rfl⟩, hmt.2⟩
  | block id st kids =>
    simp only [layoutBox, PBox.st] at h ⊢
    have hd := prepare_dbd c st y bs skip cb pie adjL
    generalize prepare c st y bs skip cb pie adjL = p at h hd ⊢
    obtain ⟨resume, cur, curIsL, he, _⟩ := finishBlock_eq _ _ _ _ _ _ _ f h
    rw [he] at h ⊢
    obtain ⟨rfl, hr, _⟩ := finishContainer_geo h
    rw [hr, finishContainer_adjL]
    exact ⟨_, _, _, _, _, _, rfl, fun _ => hd, .inl rfl⟩

/-- The bottom decorations of a returned fragment: those of the style, or 0 after decoration removal. -/
theorem layoutBox_frag_deco (c : Ctx) (box : PBox) (idx : Nat) (y bs : Rat) (skip : Option Resume)
    (cb pie : Bool) (adjL : List Rat) (f : Frag)
    (h : (layoutBox c box idx y bs skip cb pie adjL).frag = some f) :
    (f.geo.pb = box.st.pb ∧ f.geo.bb = box.st.bb) ∨ (f.geo.pb = 0 ∧ f.geo.bb = 0) := by
  obtain ⟨mt, dbd, posY, cur, curIsL, hasKids, hg, _⟩ := layoutBox_tail c box idx y bs skip cb pie adjL f h
  rw [hg, ← prepare_pb c box.st y bs skip cb pie adjL, ← prepare_bb c box.st y bs skip cb pie adjL]
  exact finishTail_pb_bb ..

/-! ### the invariant through the children loop -/

theorem concludeKid_fits (c : Ctx) (bs : Rat) (all : List PBox) (index : Nat) (pie : Bool) (pb : Brk)
    (child : PBox) (s : KidsLoop) (frag : Option Frag) (resume : Option Resume)
    (hall : all[index]? = some child)
    (hs : LinesOk c bs (placedLinesList s.newChildren pie all))
    (hf : ∀ f, frag = some f → LinesOk c bs (placedLines f (pie && s.newChildren.isEmpty) child)) :
    (∀ out s3, concludeKid index pie pb child s frag resume = (some out, s3) →
      LinesOk c bs (placedLinesList out.state.newChildren pie all)) ∧
    (∀ s3, concludeKid index pie pb child s frag resume = (none, s3) →
      LinesOk c bs (placedLinesList s3.newChildren pie all)) := by
  have hnew : ∀ f, frag = some f →
      LinesOk c bs (placedLinesList (s.newChildren ++ [f.withIdx index]) pie all) := by
    intro f hf'
    rw [placedLinesList_snoc, linesOk_append]
    refine ⟨hs, ?_⟩
    simp only [idx_withIdx, hall, placedLines_withIdx]
    exact hf f hf'
  constructor
  · intro out s3 h
    rcases conclude_stop h with
      ⟨_, ⟨kept, r', hfound, rfl⟩ | ⟨rfl, _⟩ | ⟨_, rfl⟩⟩ | ⟨f, r', hf', _, rfl⟩
    · exact linesOk_sub c bs _ _ (findEarlierGo_placed _ _ _ hfound pie all) hs
    · exact hs
    · exact hs
    · exact hnew f hf'
  · intro s3 h
    obtain ⟨f, hf', _, rfl⟩ := conclude_continue h
    exact hnew f hf'

mutual
/-- **Every placed line of a layout fits** above `pageBottom − bs`, except the first line of the first
content when the layout started on an empty page. -/
theorem box_fits : (box : PBox) → DecoOk box → ∀ (c : Ctx) (idx : Nat) (y bs : Rat) (skip : Option Resume)
    (cb pie : Bool) (adjL : List Rat) (f : Frag),
    (layoutBox c box idx y bs skip cb pie adjL).frag = some f → LinesOk c bs (placedLines f pie box)
  | .para id n lineH st => by
    intro hd c idx y bs skip cb pie adjL f hf
    unfold DecoOk at hd
    simp only [layoutBox] at hf
    obtain ⟨g, rfl⟩ := finishPara_frag hf
    simp only [placedLines]
    apply linesOk_mono c bs _ _ (prepare_bs_le c st y bs skip cb pie adjL hd)
    apply lineboxLayout_placed
    simp only [prepare_bb, prepare_pb]
    have := hd.1
    grind
  | .block id st kids => by
    intro hd c idx y bs skip cb pie adjL f hf
    unfold DecoOk at hd
    simp only [layoutBox] at hf
    obtain ⟨g, rfl⟩ := finishBlock_frag hf
    simp only [placedLines]
    apply linesOk_mono c bs _ _ (prepare_bs_le c st y bs skip cb pie adjL hd.1)
    exact kids_fits kids hd.2 c st kids 0 (skipIdxOf skip) _ pie _ (by intro j; simp)
      (by simp [placedLinesList, linesOk_nil])
theorem kids_fits : (rest : List PBox) → DecoOkList rest → ∀ (c : Ctx) (st : PStyle) (all : List PBox)
    (index skipIdx : Nat) (bs : Rat) (pie : Bool) (s : KidsLoop),
    (∀ j, rest[j]? = all[index + j]?) →
    LinesOk c bs (placedLinesList s.newChildren pie all) →
    LinesOk c bs (placedLinesList (layoutKids c st rest index skipIdx bs pie s).state.newChildren pie all)
  | [] => by
    intro _ c st all index skipIdx bs pie s _ hs
    simpa [layoutKids, KidsOutcome.state] using hs
  | child :: rest => by
    intro hd c st all index skipIdx bs pie s hall hs
    unfold DecoOkList at hd
    obtain ⟨hchild, hrest⟩ := List.getElem?_cons_window hall
    by_cases hc : index < skipIdx
    · rw [layoutKids_skip hc]
      exact kids_fits rest hd.2 c st all (index + 1) skipIdx bs pie s hrest hs
    · rw [layoutKids_cons hc]
      split
      · exact hs
      · obtain ⟨bs', _, hr, hfr, hnc, _, _, hbs⟩ := kidResult_spec c st child index bs pie s
        have hfrag : ∀ f, (kidResult c st child index bs pie s).1 = some f →
            LinesOk c bs (placedLines f (pie && (kidResult c st child index bs pie s).2.2.newChildren.isEmpty) child) := by
          intro f hf
          -- a second layout is given more bottom space: what fits then fits now
          have hle : bs ≤ bs' := by
            rcases hbs with rfl | ⟨f1, hf1, rfl⟩
            · exact Rat.le_refl
            · have := Geo.deco_nonneg (layoutBox_frag_deco _ _ _ _ _ _ _ _ _ _ hf1) (DecoOk.st child hd.1).1
              grind
          rcases hfr with h | h
          · rw [h] at hf; cases hf
          · rw [h, hr] at hf
            rw [hnc]
            exact linesOk_mono c bs bs' _ hle (box_fits child hd.1 _ _ _ _ _ _ _ _ f hf)
        have hck := concludeKid_fits c bs all index pie (meetBreak s child).1 child _ _
          (kidResult c st child index bs pie s).2.1.resume hchild (by rw [hnc]; exact hs) hfrag
        split
        · rename_i out s3 heq
          exact hck.1 out s3 heq
        · rename_i s3 heq
          exact kids_fits rest hd.2 c st all (index + 1) skipIdx bs pie s3 hrest (hck.2 s3 heq)
end

/-! ### at most one exempt line: the very first placed line, and only on an empty page -/

/-- `L` has no exempt line, except possibly its head when `pie`. -/
def ExemptHeadOnly (pie : Bool) (L : List PlacedLine) : Prop :=
  (∀ p ∈ L.tail, p.exempt = false) ∧ (pie = false → ∀ p ∈ L, p.exempt = false)

theorem exemptHeadOnly_append (pie : Bool) (A B : List PlacedLine) (hA : ExemptHeadOnly pie A)
    (hB : ∀ p ∈ B, p.exempt = false) : ExemptHeadOnly pie (A ++ B) := by
  constructor
  · cases A with
    | nil => intro p hp; exact hB p (List.mem_of_mem_tail hp)
    | cons a A =>
      intro p hp
      simp only [List.cons_append, List.tail_cons, List.mem_append] at hp
      rcases hp with hp | hp
      · exact hA.1 p (by simpa using hp)
      · exact hB p hp
  · intro hpie p hp
    rcases List.mem_append.mp hp with hp | hp
    · exact hA.2 hpie p hp
    · exact hB p hp

theorem paraPlaced_exempt (pie : Bool) (id : Nat) (lineH : Rat) (lines : List (Nat × Rat)) :
    ExemptHeadOnly pie (paraPlaced pie id lineH lines) := by
  cases lines with
  | nil => simp [paraPlaced, ExemptHeadOnly]
  | cons a l =>
    constructor
    · intro p hp
      simp only [paraPlaced, List.tail_cons, List.mem_map] at hp
      obtain ⟨q, _, rfl⟩ := hp
      rfl
    · intro hpie p hp
      simp only [paraPlaced, List.mem_cons, List.mem_map] at hp
      rcases hp with rfl | ⟨q, _, rfl⟩
      · exact hpie
      · rfl

mutual
theorem placedLines_exempt : (f : Frag) → ∀ (pie : Bool) (box : PBox), ExemptHeadOnly pie (placedLines f pie box)
  | .para id idx st n g lines => by
    intro pie box
    cases box with
    | para id' n' lh st' => simp only [placedLines]; exact paraPlaced_exempt _ _ _ _
    | block _ _ _ => simp [placedLines, ExemptHeadOnly]
  | .block id idx st g fkids => by
    intro pie box
    cases box with
    | para _ _ _ _ => simp [placedLines, ExemptHeadOnly]
    | block id' st' kids => simp only [placedLines]; exact placedLinesList_exempt fkids pie kids
theorem placedLinesList_exempt : (fs : List Frag) → ∀ (pie : Bool) (kids : List PBox),
    ExemptHeadOnly pie (placedLinesList fs pie kids)
  | [] => by intro pie kids; simp [placedLinesList, ExemptHeadOnly]
  | f :: rest => by
    intro pie kids
    simp only [placedLinesList]
    apply exemptHeadOnly_append
    · split
      · exact placedLines_exempt f pie _
      · simp [ExemptHeadOnly]
    · exact (placedLinesList_exempt rest false kids).2 rfl
end

/-! ### pages: the root laid out on an empty page; every page of the run -/

/-- The source the root fragment of a page was laid out from. -/
def pageSource (d : Doc) (p : Page) : PBox := if p.type.blank then emptyRoot d.root else d.root

/-- `remake_page` lays the root (or its empty copy on a blank page) out at the top of an empty page whose
bottom is the page height, with no bottom space. -/
theorem remakePage_root (d : Doc) (index : Nat) (resume : Option Resume) (np : NextPage) (right : Bool)
    (p : Page) (hp : remakePage d index resume np right = some p) :
    ∃ c : Ctx, c.pageBottom = d.pageH ∧
      (layoutBox c (pageSource d p) 0 0 0 resume false true []).frag = some p.root ∧
      (p.type.blank = false → p.resume = (layoutBox c (pageSource d p) 0 0 0 resume false true []).resume) := by
  obtain ⟨blank, r, _, rfl, hf, ht, hr, _⟩ := remakePage_some d index resume np right p hp
  have hsrc : pageSource d p = if blank then emptyRoot d.root else d.root := by rw [pageSource, ht]
  rw [hsrc]
  refine ⟨pageContext d index np, rfl, hf, fun hb => ?_⟩
  rw [ht] at hb
  rw [hr, if_neg (by simpa using hb)]

theorem decoOk_emptyRoot (b : PBox) (h : DecoOk b) : DecoOk (emptyRoot b) := by
  cases b with
  | para id n lh st => simpa [emptyRoot, DecoOk] using h
  | block id st kids =>
    simp only [DecoOk] at h
    simp [emptyRoot, DecoOk, DecoOkList, h.1]

theorem decoOk_pageSource (d : Doc) (p : Page) (h : DecoOk d.root) : DecoOk (pageSource d p) := by
  unfold pageSource
  split
  · exact decoOk_emptyRoot _ h
  · exact h

/-! ### the shared `adjoining_margins` object -/

/-- `concludeKid` only touches `newChildren`. -/
theorem concludeKid_frame (index : Nat) (pie : Bool) (pb : Brk) (child : PBox) (s : KidsLoop)
    (frag : Option Frag) (resume : Option Resume) :
    (∀ out s3, concludeKid index pie pb child s frag resume = (some out, s3) →
      out.state.adjL = s.adjL ∧ out.state.cur = s.cur ∧ out.state.curIsL = s.curIsL ∧ out.state.posY = s.posY) ∧
    (∀ s3, concludeKid index pie pb child s frag resume = (none, s3) →
      s3.adjL = s.adjL ∧ s3.cur = s.cur ∧ s3.curIsL = s.curIsL ∧ s3.posY = s.posY ∧ s3.skip = s.skip ∧
      ∃ f, frag = some f ∧ resume = none ∧ s3.newChildren = s.newChildren ++ [f.withIdx index]) := by
  constructor
  · intro out s3 h
    rcases conclude_stop h with
      ⟨_, ⟨kept, r', _, rfl⟩ | ⟨rfl, _⟩ | ⟨_, rfl⟩⟩ | ⟨f, r', _, _, rfl⟩ <;> exact ⟨rfl, rfl, rfl, rfl⟩
  · intro s3 h
    obtain ⟨f, hf', hr, rfl⟩ := conclude_continue h
    exact ⟨rfl, rfl, rfl, rfl, rfl, f, hf', hr, rfl⟩

theorem setCur_false (s : KidsLoop) (l : List Rat) :
    (s.setCur l false) = { s with cur := l, curIsL := false } := by
  simp [KidsLoop.setCur]

theorem adoptAdj_frozen (s : KidsLoop) (had : Bool) (adj : AdjOut) (frag : Option Frag)
    (h : s.curIsL = false) : (s.adoptAdj had adj frag).adjL = s.adjL ∧ (s.adoptAdj had adj frag).curIsL = false := by
  unfold KidsLoop.adoptAdj
  split
  · exact ⟨rfl, h⟩
  · cases adj <;> cases frag <;> simp [KidsLoop.setCur, KidsLoop.appendCur, h]

theorem kidResult_frozen (c : Ctx) (st : PStyle) (child : PBox) (index : Nat) (bs : Rat) (pie : Bool)
    (s : KidsLoop) (hs : s.curIsL = false) :
    (kidResult c st child index bs pie s).2.2.adjL = s.adjL ∧
      (kidResult c st child index bs pie s).2.2.curIsL = false := by
  unfold kidResult
  dsimp only
  split <;> simp only [hs, setCur_false] <;> exact adoptAdj_frozen _ _ _ _ rfl

/-- Once the loop's `adjoining_margins` variable no longer is the list object the box received, that object
is not modified any more. -/
theorem layoutKids_adjL_frozen (c : Ctx) (st : PStyle) : (rest : List PBox) → ∀ (index skipIdx : Nat) (bs : Rat)
    (pie : Bool) (s : KidsLoop), s.curIsL = false →
    (layoutKids c st rest index skipIdx bs pie s).state.adjL = s.adjL
  | [] => by intro index skipIdx bs pie s _; rfl
  | child :: rest => by
    intro index skipIdx bs pie s hs
    by_cases hc : index < skipIdx
    · rw [layoutKids_skip hc]
      exact layoutKids_adjL_frozen c st rest _ _ _ _ s hs
    · rw [layoutKids_cons hc]
      split
      · rfl
      · obtain ⟨h1, h2⟩ := kidResult_frozen c st child index bs pie s hs
        have hck := concludeKid_frame index pie (meetBreak s child).1 child (kidResult c st child index bs pie s).2.2
          (kidResult c st child index bs pie s).1 (kidResult c st child index bs pie s).2.1.resume
        split
        · rename_i out s3 heq
          rw [(hck.1 out s3 heq).1, h1]
        · rename_i s3 heq
          obtain ⟨ha, _, hl, _⟩ := hck.2 s3 heq
          rw [layoutKids_adjL_frozen c st rest _ _ _ _ s3 (hl.trans h2), ha, h1]

/-- A box that does not collapse with its children hands the list object it received to nobody: the object
keeps the content `prepare` gave it. -/
theorem layoutBox_adjL_frozen (c : Ctx) (box : PBox) (idx : Nat) (y bs : Rat) (skip : Option Resume)
    (cb pie : Bool) (adjL : List Rat) (hc : (prepare c box.st y bs skip cb pie adjL).cwc = false) :
    (layoutBox c box idx y bs skip cb pie adjL).adjL = (prepare c box.st y bs skip cb pie adjL).adjL := by
  cases box with
  | para id n lineH st =>
    simp only [layoutBox, finishPara]
    split
    · rfl
    · exact finishContainer_adjL ..
  | block id st kids =>
    simp only [layoutBox, finishBlock_adjL]
    exact layoutKids_adjL_frozen c st kids 0 _ _ pie _ ((prepare_curIsL ..).trans hc)

/-! ### the top of the border box -/

/-- **Top of the border box** (`prepare` + `finishTail`): the border box of a returned fragment starts at the
position handed by the parent plus the collapsed adjoining margins — the final content of the list object the
box received (its own top margin appended, and those of its first descendants when it collapses with
them). For a paragraph that does not collapse with its line box (top border / padding) whose first line was
translated by the tall-first-line rule, minus the top margin that rule removed. -/
theorem layoutBox_border_top (c : Ctx) (box : PBox) (idx : Nat) (y bs : Rat) (skip : Option Resume)
    (cb pie : Bool) (adjL : List Rat) (f : Frag)
    (h : (layoutBox c box idx y bs skip cb pie adjL).frag = some f) :
    f.geo.borderBoxY = y + collapseMargin (layoutBox c box idx y bs skip cb pie adjL).adjL
      - (if (prepare c box.st y bs skip cb pie adjL).cwc then 0
         else (prepare c box.st y bs skip cb pie adjL).b.mt - f.geo.mt) ∧
    (f.geo.mt = (prepare c box.st y bs skip cb pie adjL).b.mt ∨
      (pie = true ∧ (∃ id n lh st, box = .para id n lh st) ∧ f.geo.mt = 0)) := by
  obtain ⟨mt, dbd, posY, cur, curIsL, hasKids, hg, _, hmt⟩ := layoutBox_tail c box idx y bs skip cb pie adjL f h
  have hy := (congrArg Geo.y hg).trans (finishTail_geo_frame ..).1
  have hm : f.geo.mt = mt := (congrArg Geo.mt hg).trans (finishTail_geo_frame ..).2.1
  refine ⟨?_, hm ▸ hmt⟩
  rw [Geo.borderBoxY, hy, hm, tailY, prepare_y]
  cases hc : (prepare c box.st y bs skip cb pie adjL).cwc
  · rw [layoutBox_adjL_frozen c box idx y bs skip cb pie adjL hc]
    simp only [Bool.false_eq_true, if_false]
    grind
  · simp only [if_true]
    grind

end Wp.PM
