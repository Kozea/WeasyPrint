/-! `Char.ofNat` on the ASCII range. -/

theorem Char.toNat_ofNat_of_lt {b : Nat} (h : b < 128) : (Char.ofNat b).toNat = b := by
  rw [Char.ofNat, dif_pos (Or.inl (by omega))]
  rfl
