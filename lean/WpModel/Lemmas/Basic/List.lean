/- Lists: a fold bounded by its steps (what a fold of `max` or of `min` is exactly: `Lemmas/MaxMin`); a successful
`mapM` in `Except` (one element at a time, as a whole through `Rel2`, carried over to an `Option` function that agrees,
from the success of every element) and `mapM` of functions that agree on the list; filters compared by their tests;
distinct numbers below a bound; index facts (`range'`, a window of a list, `getElem?` of an append); what `lookup` found
is an entry; `eraseP` beside `find?`. -/
import WpModel.Lemmas.Basic.Except
import WpModel.Lemmas.Rel2

namespace List

/-- A fold whose step is above (in `r`) both its accumulator and the image `g a` of its argument ends above the start
and above every `g a`: `max` with `≤`, `min` with `≥`, and their spellings with `if`. -/
theorem foldl_bound {r : β → β → Prop} (hrefl : ∀ b, r b b) (htrans : ∀ {a b c}, r a b → r b c → r a c)
    {f : β → α → β} {g : α → β} (hl : ∀ b a, r b (f b a)) (hr : ∀ b a, r (g a) (f b a)) (l : List α)
    (b : β) : r b (l.foldl f b) ∧ ∀ a ∈ l, r (g a) (l.foldl f b) := by
  induction l generalizing b with
  | nil => exact ⟨hrefl b, nofun⟩
  | cons y ys ih =>
    obtain ⟨h1, h2⟩ := ih (f b y)
    refine ⟨htrans (hl b y) h1, fun a ha => ?_⟩
    rcases mem_cons.mp ha with rfl | ha
    · exact htrans (hr b a) h1
    · exact h2 a ha

theorem mapM_cons_eq_ok {f : α → Except ε β} {a : α} {l : List α} {out : List β}
    (h : (a :: l).mapM f = .ok out) : ∃ b bs, f a = .ok b ∧ l.mapM f = .ok bs ∧ out = b :: bs := by
  rw [mapM_cons] at h
  obtain ⟨b, hb, h⟩ := Except.bind_eq_ok h
  obtain ⟨bs, hbs, h⟩ := Except.bind_eq_ok h
  exact ⟨b, bs, hb, hbs, (Except.ok.inj h).symm⟩

theorem mapM_eq_ok_rel2 {f : α → Except ε β} :
    ∀ {l : List α} {out : List β}, l.mapM f = .ok out → Wp.C12.Rel2 (fun a b => f a = .ok b) l out
  | [], _, h => by cases h; exact .nil
  | _ :: _, _, h => by
    obtain ⟨b, bs, hb, hbs, rfl⟩ := mapM_cons_eq_ok h
    exact .cons hb (mapM_eq_ok_rel2 hbs)

theorem mapM_ok_transfer {f : α → Except ε β} {g : α → Option β} {l : List α} {out : List β}
    (h : l.mapM f = .ok out) (hg : ∀ a ∈ l, ∀ p, f a = .ok p → g a = some p) : l.mapM g = some out := by
  have r := mapM_eq_ok_rel2 h
  clear h
  induction r with
  | nil => rfl
  | cons hb _ ih =>
    rw [mapM_cons, hg _ mem_cons_self _ hb, ih fun x hx => hg x (mem_cons_of_mem _ hx)]
    rfl

theorem mapM_ok_of_forall {f : α → Except ε β} :
    ∀ (l : List α), (∀ a ∈ l, ∃ p, f a = .ok p) → ∃ out, l.mapM f = .ok out
  | [], _ => ⟨[], rfl⟩
  | a :: rest, h => by
    obtain ⟨p, hp⟩ := h a mem_cons_self
    obtain ⟨out, ho⟩ := mapM_ok_of_forall rest fun x hx => h x (mem_cons_of_mem _ hx)
    exact ⟨p :: out, by rw [mapM_cons, hp, ho]; rfl⟩

theorem mapM_congr {m : Type u → Type v} [Monad m] [LawfulMonad m] {f g : α → m β} :
    ∀ (l : List α), (∀ a ∈ l, f a = g a) → l.mapM f = l.mapM g
  | [], _ => rfl
  | a :: rest, h => by
    rw [mapM_cons, mapM_cons, h a mem_cons_self, mapM_congr rest fun x hx => h x (mem_cons_of_mem _ hx)]

/-- A window `x :: xs` of `all` at position `i`: its head is element `i`, its tail the window at `i + 1`. -/
theorem getElem?_cons_window {x : α} {xs all : List α} {i : Nat} (h : ∀ j, (x :: xs)[j]? = all[i + j]?) :
    all[i]? = some x ∧ ∀ j, xs[j]? = all[i + 1 + j]? :=
  ⟨(h 0).symm, fun j => by rw [Nat.add_assoc, Nat.add_comm 1 j, ← h (j + 1), getElem?_cons_succ]⟩

theorem length_filter_le_of_imp {p q : α → Bool} {l : List α} (h : ∀ a ∈ l, p a → q a) :
    (l.filter p).length ≤ (l.filter q).length := by
  simpa only [countP_eq_length_filter] using countP_mono_left h

theorem length_filter_lt_of_imp {p q : α → Bool} {l : List α} (h : ∀ a ∈ l, p a → q a) {w : α} (hw : w ∈ l)
    (hq : q w) (hp : p w = false) : (l.filter p).length < (l.filter q).length := by
  obtain ⟨l₁, l₂, rfl⟩ := append_of_mem hw
  have h₁ := countP_mono_left (l := l₁) fun a ha => h a (by simp [ha])
  have h₂ := countP_mono_left (l := l₂) fun a ha => h a (by simp [ha])
  simp only [← countP_eq_length_filter, countP_append, countP_cons, hq, hp, Bool.false_eq_true, if_true, if_false]
  omega

theorem Nodup.length_le_of_forall_lt {l : List Nat} {n : Nat} (hd : l.Nodup) (hl : ∀ x ∈ l, x < n) :
    l.length ≤ n := by
  simpa using hd.length_le_of_subset fun x hx => mem_range.2 (hl x hx)

theorem range'_sub_succ {k i : Nat} (h : k ≤ i) : range' k (i + 1 - k) = range' k (i - k) ++ [i] := by
  rw [Nat.sub_add_comm h, range'_concat, Nat.one_mul, Nat.add_sub_of_le h]

theorem getElem?_append_eq_some {l₁ l₂ : List α} {i : Nat} {x : α} (h : (l₁ ++ l₂)[i]? = some x) :
    l₁[i]? = some x ∨ l₁.length ≤ i ∧ l₂[i - l₁.length]? = some x := by
  rw [getElem?_append] at h
  split at h
  · exact .inl h
  · exact .inr ⟨by omega, h⟩

theorem getElem?_concat_eq_some {l : List α} {x y : α} {i : Nat} (h : (l ++ [x])[i]? = some y) :
    l[i]? = some y ∨ i = l.length ∧ y = x := by
  refine (getElem?_append_eq_some h).imp_right fun ⟨hi, h⟩ => ?_
  rw [getElem?_singleton] at h
  split at h
  · exact ⟨by omega, (Option.some.inj h).symm⟩
  · cases h

theorem mem_of_lookup_eq_some [BEq α] [LawfulBEq α] {l : List (α × β)} {k : α} {v : β} (h : l.lookup k = some v) :
    (k, v) ∈ l := by
  obtain ⟨l₁, l₂, rfl, -⟩ := lookup_eq_some_iff.mp h
  exact mem_append_right _ mem_cons_self

theorem mem_lookup_getD [BEq α] [LawfulBEq α] {l : List (α × List β)} {k : α} {x : β}
    (h : x ∈ (l.lookup k).getD []) : ∃ v, (k, v) ∈ l ∧ x ∈ v := by
  cases hl : l.lookup k with
  | none => simp [hl] at h
  | some v => exact ⟨v, mem_of_lookup_eq_some hl, by simpa [hl] using h⟩

theorem eraseP_perm (p : α → Bool) : ∀ (l : List α), ((l.find? p).toList ++ l.eraseP p).Perm l
  | [] => by simp
  | a :: l => by
    by_cases h : p a = true
    · simp [h]
    · have h0 : p a = false := by simpa using h
      simp only [find?_cons, eraseP_cons, h0]
      exact perm_middle.trans ((eraseP_perm p l).cons a)

theorem find?_eraseP_disjoint (p q : α → Bool) (hpq : ∀ g, p g = true → q g = false) :
    ∀ (l : List α), (l.eraseP p).find? q = l.find? q
  | [] => by simp
  | a :: l => by
    by_cases h : p a = true
    · simp [h, hpq a h]
    · have h0 : p a = false := by simpa using h
      simp only [eraseP_cons, h0, cond_false, find?_cons]
      rw [find?_eraseP_disjoint p q hpq l]

/-- A predicate on lists given by its `nil` and `cons` equations is "every member". -/
theorem listLift_iff {X : α → Prop} {XL : List α → Prop} (nil : XL []) (cons : ∀ c cs, XL (c :: cs) ↔ X c ∧ XL cs)
    (l : List α) : XL l ↔ ∀ c ∈ l, X c := by
  induction l with
  | nil => simp [nil]
  | cons c cs ih => simp [cons, ih]

end List
