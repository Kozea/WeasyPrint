/-! The non-negative multiples of a non-zero integer, as the `an+b` tests of CSS compute them: the sign of the
product and divisibility. -/

theorem Int.mul_nonneg_and_dvd_iff {a x : Int} (ha : a ≠ 0) : 0 ≤ x * a ∧ a ∣ x ↔ ∃ n : Nat, x = a * (n : Int) := by
  have hsq : 0 < a * a := by
    rcases Int.lt_or_gt_of_ne ha with h | h
    · exact Int.mul_pos_of_neg_of_neg h h
    · exact Int.mul_pos h h
  constructor
  · rintro ⟨hs, k, hk⟩
    have hk0 : 0 ≤ k := by
      apply Int.le_of_not_gt
      intro hneg
      have h1 : a * a * k < 0 := Int.mul_neg_of_pos_of_neg hsq hneg
      have h2 : x * a = a * a * k := by rw [hk, Int.mul_assoc, Int.mul_assoc, Int.mul_comm k a]
      omega
    exact ⟨k.toNat, by rw [Int.toNat_of_nonneg hk0]; exact hk⟩
  · rintro ⟨n, rfl⟩
    refine ⟨?_, ⟨n, rfl⟩⟩
    have h2 : a * (n : Int) * a = a * a * n := by rw [Int.mul_assoc, Int.mul_assoc, Int.mul_comm (n : Int) a]
    rw [h2]
    exact Int.mul_nonneg (Int.le_of_lt hsq) (Int.natCast_nonneg n)
