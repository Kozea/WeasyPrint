/-! `max` on `Rat`, for which core (unlike for `min`, see `Std.min_le_left` and its neighbours) has no lemmas; `min` read off
its definition; `q - 0`; Python's `a if a > b else b`; and the shares of `space-around` / `-evenly` / `-between`. -/

namespace Rat

protected theorem max_eq_right {a b : Rat} (h : a ≤ b) : max a b = b := by rw [Rat.max_def, if_pos h]

protected theorem max_eq_left {a b : Rat} (h : b ≤ a) : max a b = a := by
  rw [Rat.max_def]
  split
  · exact Rat.le_antisymm h ‹_›
  · rfl

protected theorem max_eq_or (a b : Rat) : max a b = a ∨ max a b = b :=
  (Rat.le_total (a := a) (b := b)).elim (fun h => .inr (Rat.max_eq_right h)) (fun h => .inl (Rat.max_eq_left h))

protected theorem le_max_left (a b : Rat) : a ≤ max a b := by
  rw [Rat.max_def]
  split
  · assumption
  · exact Rat.le_refl

protected theorem le_max_right (a b : Rat) : b ≤ max a b := by
  rw [Rat.max_def]
  split
  · exact Rat.le_refl
  · exact Rat.le_of_lt (Rat.not_le.mp ‹_›)

protected theorem min_eq_left {a b : Rat} (h : a ≤ b) : min a b = a := by rw [Rat.min_def, if_pos h]

protected theorem div_pos {x y : Rat} (hx : 0 < x) (hy : 0 < y) : 0 < x / y := by
  rw [Rat.div_def]; exact Rat.mul_pos hx (Rat.inv_pos.mpr hy)

protected theorem sub_zero (q : Rat) : q - 0 = q := by rw [Rat.sub_eq_add_neg, Rat.neg_zero, Rat.add_zero]

protected theorem mul_min_of_nonneg (k x y : Rat) (hk : 0 ≤ k) : min (k * x) (k * y) = k * min x y := by
  rw [Rat.min_def, Rat.min_def]
  by_cases h : x ≤ y
  · rw [if_pos h, if_pos (Rat.mul_le_mul_of_nonneg_left h hk)]
  · rw [if_neg h]
    split
    · rename_i h'
      rcases Rat.le_iff_lt_or_eq.mp hk with hk | hk
      · exact absurd (Rat.le_of_mul_le_mul_left h' hk) h
      · rw [← hk, Rat.zero_mul, Rat.zero_mul]
    · rfl

/-- Python's `a if a > b else b`. -/
theorem le_ite_gt (a b : Rat) : a ≤ (if a > b then a else b) ∧ b ≤ (if a > b then a else b) := by
  split
  · exact ⟨Rat.le_refl, Rat.le_of_lt ‹_›⟩
  · exact ⟨Rat.not_lt.mp ‹_›, Rat.le_refl⟩

/-! The three ways CSS `justify-content` / `align-content` share `free` among `m + 1` boxes: half a share at both ends
(`space-around`), a whole share at both ends (`space-evenly`), none at the ends (`space-between`); flex step 12
(`C12.justify_split`) and grid step 3.5 (`C12.align_split`) read their keyword tables off these. -/

theorem share_around (free : Rat) (m : Nat) :
    free / ((m + 1 : Nat) : Rat) / 2 + (m : Rat) * (free / ((m + 1 : Nat) : Rat)) + free / ((m + 1 : Nat) : Rat) / 2 =
      free := by
  have h0 : (0 : Rat) ≤ (m : Rat) := Rat.natCast_nonneg
  have h1 : ((m + 1 : Nat) : Rat) = (m : Rat) + 1 := by push_cast; rfl
  rw [h1]; grind

theorem share_evenly (free : Rat) (m : Nat) :
    free / ((m + 1 + 1 : Nat) : Rat) + (m : Rat) * (free / ((m + 1 + 1 : Nat) : Rat)) +
      free / ((m + 1 + 1 : Nat) : Rat) = free := by
  have h0 : (0 : Rat) ≤ (m : Rat) := Rat.natCast_nonneg
  have h2 : ((m + 1 + 1 : Nat) : Rat) = (m : Rat) + 2 := by push_cast; grind
  rw [h2]; grind

theorem share_between (free : Rat) (k : Nat) : ((k + 1 : Nat) : Rat) * (free / ((k + 1 : Nat) : Rat)) = free := by
  have h0 : (0 : Rat) ≤ (k : Rat) := Rat.natCast_nonneg
  have h1 : ((k + 1 : Nat) : Rat) = (k : Rat) + 1 := by push_cast; rfl
  rw [h1]; grind

/-- flex halves the share (`free / n / 2`), grid shares the half (`free / 2 / n`) -/
theorem half_share (free n : Rat) : free / 2 / n = free / n / 2 := by
  rw [Rat.div_def, Rat.div_def, Rat.div_def, Rat.div_def, Rat.mul_assoc, Rat.mul_assoc, Rat.mul_comm (2 : Rat)⁻¹]

end Rat
