/-! What it means for a step of an `Except` computation to succeed, and how `bind` and `map` combine. -/

namespace Except

variable {ε : Type u} {α β : Type v} {x : Except ε α} {f : α → Except ε β} {b : β}

theorem bind_eq_ok_iff : x >>= f = .ok b ↔ ∃ a, x = .ok a ∧ f a = .ok b := by
  cases x with
  | error e => exact ⟨nofun, nofun⟩
  | ok a => exact ⟨fun h => ⟨a, rfl, h⟩, fun ⟨_, rfl, h⟩ => h⟩

theorem bind_eq_ok (h : x >>= f = .ok b) : ∃ a, x = .ok a ∧ f a = .ok b :=
  bind_eq_ok_iff.1 h

theorem map_eq_ok {g : α → β} (h : x.map g = .ok b) : ∃ a, x = .ok a ∧ g a = b := by
  cases x with
  | error e => cases h
  | ok a => cases h; exact ⟨a, rfl, rfl⟩

theorem ok_bind (a : α) (f : α → Except ε β) : (Except.ok a : Except ε α).bind f = f a := rfl

theorem bind_ok_eq_map (x : Except ε α) (g : α → β) : (x.bind fun a => .ok (g a)) = x.map g := by
  cases x <;> rfl

theorem map_bind_eq {γ : Type v} (x : Except ε α) (g : α → β) (k : β → Except ε γ) :
    (x.map g).bind k = x.bind fun a => k (g a) := by
  cases x <;> rfl

theorem of_ite_error_eq_ok {c : Prop} [Decidable c] {e : ε} {a r : α}
    (h : (if c then Except.error e else .ok a) = .ok r) : ¬c ∧ a = r := by
  split at h
  · cases h
  · exact ⟨‹_›, Except.ok.inj h⟩

end Except
