/-
C09 — what white-space processing leaves in a text box, stated on the characters `split_first_line`
is given (`Model/InlineSource.decode ∘ Bx.processText ∘ encode`): what carries C08's theorems on
`processText` (imported unchanged) through the code-point / character coding, and why a text without
newline and without double space is canonical once its outer spaces are stripped.  Core Lean only.
-/
import WpModel.Model.InlineSource
import WpModel.Props.C08
import WpModel.Lemmas.LineBreak

namespace Wp.IS
open Wp Wp.Py Wp.LB Wp.C09L

/-- the text box after `process_whitespace`, as characters -/
def processedText (ws : WS) (t : Text) (following : Bool) : Text :=
  decode (Bx.processText (toBxWS ws) (encode t) following).text

/-- it is the text `process_whitespace` puts into a non-empty text box of the model (`IS.pw`) -/
theorem pw_text (ws : WS) (s : Text) (lcs f : Bool) (hs : s.isEmpty = false) :
    ∃ lcs', (pw ws (.text s lcs) f).1 = .text (processedText ws s f) lcs' := by
  unfold pw
  simp only [hs, Bool.false_eq_true, if_false]
  exact ⟨_, rfl⟩

theorem ofNat_eq (n : Nat) (c : Char) (h : Char.ofNat n = c) (hc : c ≠ '\x00') : n = c.toNat := by
  unfold Char.ofNat at h
  split at h
  · subst h
    simp [Char.ofNatAux, Char.toNat]
  · exact absurd h.symm hc

theorem newLineCollapse_of (ws : WS) (h : ws = .normal ∨ ws = .nowrap) : Bx.newLineCollapse (toBxWS ws) = true := by
  rcases h with rfl | rfl <;> decide

theorem spaceCollapse_of (ws : WS) (h : ws.spaceCollapse = true) : Bx.spaceCollapse (toBxWS ws) = true := by
  cases ws <;> first | decide | (exact absurd h (by decide))

theorem noDoubleSp_get : ∀ (u : Bx.Text), Bx.noDoubleSp u = true → ∀ i, u[i]? = some 32 → u[i + 1]? ≠ some 32
  | [], _, i, h => by simp at h
  | [a], _, i, h => by
    cases i <;> simp
  | a :: b :: rest, hd, i, h => by
    simp only [Bx.noDoubleSp, Bool.and_eq_true, Bool.not_eq_true', Bool.and_eq_false_iff, beq_eq_false_iff_ne] at hd
    cases i with
    | zero =>
      simp only [List.getElem?_cons_zero, Option.some.injEq] at h
      simp only [List.getElem?_cons_succ, List.getElem?_cons_zero, ne_eq, Option.some.injEq]
      rcases hd.1 with h1 | h1
      · exact absurd h h1
      · exact h1
    | succ j =>
      simp only [List.getElem?_cons_succ] at h ⊢
      exact noDoubleSp_get (b :: rest) hd.2 j h

def NoDbl (u : Text) : Prop := ∀ i, u[i]? = some ' ' → u[i + 1]? ≠ some ' '

theorem NoDbl.drop {u : Text} (h : NoDbl u) (k : Nat) : NoDbl (u.drop k) := by
  intro i hi
  rw [List.getElem?_drop] at hi ⊢
  have := h (k + i) hi
  rwa [Nat.add_assoc] at this

theorem NoDbl.prefix {p u : Text} (h : NoDbl u) (hp : p <+: u) : NoDbl p := by
  obtain ⟨s, rfl⟩ := hp
  intro i hi
  by_cases h1 : i + 1 < p.length
  · have hi' : (p ++ s)[i]? = some ' ' := by
      rw [List.getElem?_append_left (by omega)]; exact hi
    have := h i hi'
    rwa [List.getElem?_append_left h1] at this
  · rw [List.getElem?_eq_none (by omega)]; simp

theorem dropWhile_eq_drop (p : Char → Bool) : ∀ (u : Text), u.dropWhile p = u.drop (u.takeWhile p).length
  | [] => rfl
  | c :: cs => by
    simp only [List.dropWhile, List.takeWhile]
    split
    · simp [dropWhile_eq_drop p cs]
    · simp

theorem lstripSp_eq_drop (u : Text) : ∃ k, lstripSp u = u.drop k ∧ ∀ c ∈ lstripSp u, c ∈ u := by
  refine ⟨(u.takeWhile (· == ' ')).length, ?_, ?_⟩
  · unfold lstripSp
    exact dropWhile_eq_drop _ u
  · intro c hc
    unfold lstripSp at hc
    exact (List.dropWhile_sublist _).subset hc

theorem head_dropWhile_sp (u : Text) : (u.dropWhile (· == ' ')).head? ≠ some ' ' := by
  have := List.head?_dropWhile_not (· == ' ') u
  intro h; rw [h] at this; simp at this

theorem last_rstripSp (w : Text) : (rstripSp w).getLast? ≠ some ' ' := by
  unfold rstripSp
  rw [List.getLast?_reverse]
  exact head_dropWhile_sp _

/-- **the stripped processed text is canonical**: a text without newline and without two consecutive
spaces, once its leading and trailing spaces are stripped, is made of words separated by single spaces -/
theorem canonical_strip (u : Text) (hnl : ∀ c ∈ u, c ≠ '\n') (hd : NoDbl u) : Canonical (rstripSp (lstripSp u)) := by
  obtain ⟨k, hk, hmem⟩ := lstripSp_eq_drop u
  have hw : NoDbl (lstripSp u) := by rw [hk]; exact hd.drop k
  have hpre := rstripSp_prefix (lstripSp u)
  have hv : NoDbl (rstripSp (lstripSp u)) := hw.prefix hpre
  have hlast := last_rstripSp (lstripSp u)
  have hhead : (rstripSp (lstripSp u)).head? ≠ some ' ' := by
    obtain ⟨s, hs⟩ := hpre
    intro hh
    have : (lstripSp u).head? = some ' ' := by
      rw [← hs]
      cases hv' : rstripSp (lstripSp u) with
      | nil => rw [hv'] at hh; cases hh
      | cons a as => rw [hv'] at hh; simpa using hh
    exact head_dropWhile_sp u this
  generalize rstripSp (lstripSp u) = v at hpre hv hlast hhead
  refine ⟨fun c hc => hnl c (hmem c (hpre.subset hc)), ?_⟩
  intro i hi
  have hilt : i < v.length := (List.getElem?_eq_some_iff.mp hi).1
  have h0 : 0 < i := by
    cases i with
    | zero =>
      exfalso; apply hhead
      cases v with
      | nil => cases hi
      | cons a as => simpa using hi
    | succ j => omega
  have hprev : v[i - 1]? ≠ some ' ' := by
    intro hp
    have := hv (i - 1) hp
    rw [Nat.sub_add_cancel h0] at this
    exact this hi
  have hnext : i + 1 < v.length := by
    by_cases hlt : i + 1 < v.length
    · exact hlt
    · have hil : i = v.length - 1 := by omega
      exfalso; apply hlast
      rw [List.getLast?_eq_getElem?, ← hil]; exact hi
  exact ⟨h0, hprev, hnext, hv i hi⟩

/-- `skip_first_whitespace` at the start of a text box under a collapsing `white-space` hands
`split_text_box` exactly the text without its leading spaces -/
theorem skipFirst_is_lstrip (ws : WS) (h : ws.skipFirst = true) (u : Text) (hu : u ≠ []) :
    ∃ k, skipFirstWhitespace ws u 0 = some k ∧ u.drop k = lstripSp u := by
  refine ⟨(u.takeWhile (· == ' ')).length, ?_, ?_⟩
  · unfold skipFirstWhitespace
    have : ¬ (0 = u.length) := by
      intro e; exact hu (List.length_eq_zero_iff.mp e.symm)
    simp [this, h]
  · unfold lstripSp
    exact (dropWhile_eq_drop _ u).symm

end Wp.IS
