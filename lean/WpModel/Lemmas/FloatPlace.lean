/-
Unfolding lemmas for `avoid_collisions`, `find_float_position`, `float_layout`.
-/
import WpModel.Lemmas.FloatBounds

namespace Wp.C11
open Wp Wp.Floats

theorem avoid_result_bounds (fuel : Nat) (shapes : List Shape) (w h l0 r0 y : Rat) (res : LoopRes)
    (hres : avoidLoop fuel shapes w h l0 r0 y = some res) :
    y ≤ res.y ∧ l0 ≤ res.l ∧ res.r ≤ r0 := by
  have := avoidLoop_induct (fun y' => y ≤ y') shapes w h l0 r0
    (by
      intro y1 p ps h1 _ hl
      have := (next_position hl).2.1
      grind)
    fuel y res Rat.le_refl hres
  obtain ⟨h1, h2, h3, _⟩ := this
  refine ⟨h1, ?_, ?_⟩
  · rw [h2]; exact bounds_l_ge_init _ _ _
  · rw [h3]; exact bounds_r_le_init _ _ _

/-- What `avoid_collisions` returns for any box that passes the class assertion (every box, floats with an
empty border box included). -/
theorem avoid_collisions_result (shapes : List Shape) (b : ABox) (cb : CB) (outer : Bool) (p : Placement)
    (h : avoidCollisions shapes b cb outer = .ok p) :
    ∃ res, avoidLoop (shapes.length + 1) shapes (if outer then b.marginWidth else b.bw)
        (if outer then b.marginHeight else b.bh) (if outer then cb.cx else cb.cx + b.ml)
        (if outer then cb.cx + cb.w else cb.cx + cb.w - b.mr) (if outer then b.py else b.py + b.mt) = some res ∧
      p.avail = res.r - res.l ∧
      (if outer then p.y else p.y + b.mt) = res.y ∧
      (if outer then p.x else p.x + b.ml) =
        (if b.float = .none ∧ cb.rtl = true then
          (if b.kind = .line then res.r else res.r - (if outer then b.marginWidth else b.bw))
         else res.l) := by
  revert h
  fun_cases avoidCollisions shapes b cb outer <;> intro h <;> cases h
  all_goals
    refine ⟨_, by assumption, ?_⟩
    cases hk : b.kind <;> simp +zetaDelta [*] <;> grind

end Wp.C11

namespace Wp.Floats

/-- `avoid_collisions(outer=True)` for a float (any float, an empty border box included). -/
theorem avoidCollisions_float (shapes : List Shape) (b : ABox) (cb : CB) (p : Placement)
    (hf : b.float ≠ .none)
    (h : avoidCollisions shapes b cb true = .ok p) :
    ∃ res, avoidLoop (shapes.length + 1) shapes b.marginWidth b.marginHeight cb.cx (cb.cx + cb.w) b.py = some res ∧
      p = ⟨res.l, res.y, res.r - res.l⟩ := by
  obtain ⟨res, hres, h1, h2, h3⟩ := C11.avoid_collisions_result shapes b cb true p h
  simp only [if_true, hf, false_and, if_false] at hres h2 h3
  exact ⟨res, hres, by rw [← h1, ← h2, ← h3]⟩

theorem findFloatPosition_ok (shapes : List Shape) (b : ABox) (cb : CB) (x y : Rat)
    (h : findFloatPosition shapes b cb = .ok (x, y)) :
    ∃ y0 p, b.py ≤ y0 ∧ (∀ s, shapes.getLast? = some s → s.y ≤ y0) ∧
      avoidCollisions shapes { b with py := y0 } cb true = .ok p ∧ y = p.y ∧
      x = (if b.float = .right then p.x + (p.avail - b.marginWidth) else p.x) := by
  unfold findFloatPosition at h
  simp only at h
  split at h
  · simp at h
  · rename_i p hp
    simp only [Except.ok.injEq, Prod.mk.injEq] at h
    refine ⟨_, p, ?_, ?_, hp, h.2.symm, h.1.symm⟩
    · split
      · split <;> grind
      · exact Rat.le_refl
    · intro s hs; rw [hs]; simp only; split <;> grind

theorem afterClearance_fields (shapes : List Shape) (b : ABox) :
    (afterClearance shapes b).float = b.float ∧ (afterClearance shapes b).bh = b.bh ∧
    (afterClearance shapes b).marginHeight = b.marginHeight ∧
    (afterClearance shapes b).marginWidth = b.marginWidth ∧ (afterClearance shapes b).clear = b.clear := by
  unfold afterClearance
  split <;> simp [ABox.marginHeight, ABox.marginWidth]

theorem floatPlace_ok (shapes : List Shape) (b : ABox) (cb : CB) (b' : ABox) (shapes' : List Shape)
    (h : floatPlace shapes b cb = .ok (b', shapes')) :
    ∃ x y, findFloatPosition shapes (afterClearance shapes b) cb = .ok (x, y) ∧
      b' = { afterClearance shapes b with px := x, py := y } ∧
      shapes' = shapes ++ [⟨x, y, b.marginWidth, b.marginHeight,
        if b.float = .right then Side.right else Side.left⟩] ∧
      shapes' = shapes ++ [b'.toShape] := by
  unfold floatPlace at h
  simp only at h
  split at h
  · simp at h
  · rename_i x y hpos
    simp only [Except.ok.injEq, Prod.mk.injEq] at h
    refine ⟨x, y, hpos, h.1.symm, ?_, by rw [← h.1, ← h.2]⟩
    rw [← h.2]
    obtain ⟨f1, _, f3, f4, _⟩ := afterClearance_fields shapes b
    simp only [ABox.toShape, ABox.marginWidth, ABox.marginHeight] at *
    rw [f1, f3, f4]

end Wp.Floats
