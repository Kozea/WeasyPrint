/-
From `layoutBox` to pages, for every document (fixed heights allowed).
-/
import WpModel.Lemmas.LossyBlock

namespace Wp.PM
open Wp

def restFree (box : PBox) : Option Resume → List (Nat × Nat)
  | none => []
  | some r => freeFrom box (some r)

theorem restFree_good (b : PBox) (hg : Good b) (ρ : Option Resume) : restFree b ρ = restOut b ρ := by
  cases ρ with
  | none => rfl
  | some r => exact freeFrom_noFixed b (good_noFixed b hg) _

theorem boxPostT_sand (box : PBox) (skip : Option Resume) (frag : Option Frag) (resume : Option Resume)
    (f : Frag) (h : BoxPostT box skip false frag resume) (hf : frag = some f) :
    SandT false (fragLines f) (restOut box resume) (restFree box resume) (linesFrom box skip) (freeFrom box skip) ∧
    ∀ r, resume = some r → pos box skip < pos box (some r) := by
  have := h f hf
  cases resume with
  | none =>
    simp only at this
    exact ⟨partT_sand f box skip false this, by intro r hr; cases hr⟩
  | some r =>
    simp only at this
    refine ⟨this.2.1, ?_⟩
    intro r' hr'
    cases hr'
    exact this.2.2

theorem wf_emptyRoot (b : PBox) (h : WellFormed b) : WellFormed (emptyRoot b) := by
  cases b with
  | para id n lh st => simpa [emptyRoot, WellFormed] using h
  | block id st kids => simp [emptyRoot, WellFormed, WellFormedList]

theorem remakePage_linesT (d : Doc) (hw : WellFormed d.root) (index : Nat) (resume : Option Resume) (np : NextPage)
    (right : Bool) (p : Page) (hp : remakePage d index resume np right = some p) :
    (p.type.blank = true → fragLines p.root = [] ∧ p.resume = resume ∧ p.nextPage = np) ∧
    (p.type.blank = false →
      SandT false (fragLines p.root) (restOut d.root p.resume) (restFree d.root p.resume)
        (linesFrom d.root resume) (freeFrom d.root resume) ∧
      ∀ r, p.resume = some r → pos d.root resume < pos d.root (some r)) := by
  obtain ⟨_, h1, h2⟩ := remakePage_spec d index resume np right p hp
  constructor
  · intro hb
    obtain ⟨hr, hn, c, hf⟩ := h1 hb
    refine ⟨?_, hr, hn⟩
    have hs := box_specT (emptyRoot d.root) (wf_emptyRoot _ hw) c 0 0 0 resume false true [] false
    have := (boxPostT_sand _ _ _ _ _ hs hf).1.2
    rw [linesFrom_emptyRoot] at this
    have := List.eq_nil_of_sublist_nil this
    exact (List.append_eq_nil_iff.mp this).1
  · intro hb
    obtain ⟨c, hf, hr, _⟩ := h2 hb
    have hs := box_specT d.root hw c 0 0 0 resume false true [] false
    rw [hr]
    exact boxPostT_sand _ _ _ _ _ hs hf

/-- **All pages, every document**: the lines shown are sandwiched between the free lines and all the lines
designated by the start position. -/
theorem makeAllPages_linesT (d : Doc) (hw : WellFormed d.root) : ∀ (fuel index : Nat) (resume : Option Resume)
    (np : NextPage) (right : Bool) (pages : List Page),
    (resume = none → isBlank (requestedSide d.rootLtr np.brk) right = false) →
    makeAllPages d fuel index resume np right = some pages →
    SandT false (pagesLines pages) [] [] (linesFrom d.root resume) (freeFrom d.root resume) := by
  intro fuel index resume np right pages hstart h
  refine makeAllPages_induct d (fun _ resume np right pages =>
    (resume = none → isBlank (requestedSide d.rootLtr np.brk) right = false) →
      SandT false (pagesLines pages) [] [] (linesFrom d.root resume) (freeFrom d.root resume)) ?_ ?_
    fuel index resume np right pages h hstart
  · intro index resume np right p hp hnone hstart
    obtain ⟨hbl, _, _⟩ := remakePage_spec d index resume np right p hp
    obtain ⟨l1, l2⟩ := remakePage_linesT d hw index resume np right p hp
    cases hb : p.type.blank with
    | true =>
      -- a blank page hands the start position on, so it would not be the last one
      have := hstart ((l1 hb).2.1.symm.trans hnone)
      rw [← hbl, hb] at this
      cases this
    | false =>
      have hl := (l2 hb).1
      rw [hnone] at hl
      simpa [pagesLines, restOut, restFree] using hl
  · intro index resume np right p r ps hp hsome ih _
    obtain ⟨l1, l2⟩ := remakePage_linesT d hw index resume np right p hp
    have hrest := ih (fun he => nomatch he)
    simp only [pagesLines]
    cases hb : p.type.blank with
    | true =>
      obtain ⟨hl, hr, _⟩ := l1 hb
      rw [hl, ← hr, hsome]
      exact hrest
    | false =>
      have hl := (l2 hb).1
      rw [hsome] at hl
      simp only [restOut, restFree] at hl
      exact sandT_trans false _ _ _ _ _ _ _ _ hl hrest

end Wp.PM
