/-
The shading counts `Gradient.draw` reads (Model/GradientDraw) under `Mono`, and the soft-mask block of `Gradient.draw`
by the rules of `Keeps` (Lemmas/PdfWorld).
-/
import WpModel.Model.GradientDraw
import WpModel.Lemmas.PdfWorld
namespace Wp.Pdf

theorem shadingCount_spec {w : World} {h n : Nat} (hc : shadingCount w h = some n) :
    ∃ s r, w.streams[h]? = some s ∧ w.res[s.res]? = some r ∧ r.shading = n := by
  revert hc
  fun_cases shadingCount w h with
  | case1 | case2 => nofun
  | case3 s hs r hr => exact fun hc => ⟨s, r, hs, hr, Option.some.inj hc⟩

theorem shadingCount_of {w : World} {h : Nat} {s : SState} {r : Res} (hs : w.streams[h]? = some s)
    (hr : w.res[s.res]? = some r) : shadingCount w h = some r.shading := by
  simp [shadingCount, hs, hr]

theorem Mono.shading {w w' : World} (hm : Mono w w') {h n : Nat} (hc : shadingCount w h = some n) :
    ∃ n', shadingCount w' h = some n' ∧ n ≤ n' := by
  obtain ⟨s, r, hs, hr, rfl⟩ := shadingCount_spec hc
  obtain ⟨s', hs', e⟩ := hm.streams h s hs
  obtain ⟨r', hr', hle⟩ := hm.res s.res r hr
  exact ⟨r'.shading, shadingCount_of hs' (e ▸ hr'), hle.sh⟩

theorem addShading_count (w w' : World) (h n : Nat) (hstep : w.step (.addShading h) = .ok w')
    (hn : shadingCount w h = some n) : shadingCount w' h = some (n + 1) := by
  obtain ⟨s, r, hs, hr, e⟩ := lookup_ok hstep
  cases e
  obtain ⟨s0, r0, hs0, hr0, rfl⟩ := shadingCount_spec hn
  rw [hs] at hs0; cases hs0
  rw [hr] at hr0; cases hr0
  simp [shadingCount, hs, (List.getElem?_eq_some_iff.mp hr).1]

/-- The scoping condition of a call that names shading `n`, from the shading count. -/
theorem scoped_of_count {w : World} {h n c : Nat} (hc : shadingCount w h = some c) (hlt : n < c) :
    ∀ (s : SState) (r : Res), w.streams[h]? = some s → w.res[s.res]? = some r → n < r.shading := by
  intro s r hs hr
  have := shadingCount_of hs hr
  rw [hc] at this; cases this; exact hlt

/-- The soft-mask block keeps the invariant: the group's `sh` names the shading registered in the group's own
dictionary. -/
theorem alphaStage_ok (w : World) (h : Nat) (sy : Num) (hw : WorldOK w) : Keeps w (alphaStage h sy w) := by
  refine (Keeps.step hw (.setAlphaState h) trivial).thenDo fun w1 _ ok1 _ => ?_
  split
  · exact Keeps.error _
  · rename_i m hm
    refine (Keeps.step ok1 (.addShading w.streams.length) trivial).thenDo fun w2 h2 ok2 _ => ?_
    refine (Keeps.on ok2 (trivial_scoped _ _ _ fun _ => by trivial)).thenDo fun w3 _ ok3 m3 => ?_
    obtain ⟨c3, hc3, hle3⟩ := m3.shading (addShading_count w1 w2 _ m h2 hm)
    exact Keeps.step ok3 _ (scoped_of_count hc3 (by omega))

end Wp.Pdf
