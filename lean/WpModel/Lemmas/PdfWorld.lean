/-
The document machine of Model/PdfStream (`World.step`).  `WorldOK`: every operator of every stream names keys of the
resource dictionary of the stream that emits it, generated keys are fresh and unique.  `Mono`: streams keep their
dictionary, dictionaries only grow.  `Prim` lists the elementary changes a document call is made of
(`World.step_prims`); an invariant is proved once per elementary change and holds along every scoped run.  `Keeps` with
its rules for a call (`Keeps.step`, `Keeps.on`), for `|>>` (`Keeps.thenDo`) and for an optional stage (`Keeps.stageIf`):
how a piece of drawing code made of document calls is shown to keep `WorldOK` and `Mono`.
-/
import WpModel.Model.DrawSkeleton
import WpModel.Lemmas.PdfRes
namespace Wp.Pdf

/-- Document-level invariant: every stream writes to an existing dictionary, every dictionary has fresh unique keys,
every operator of every stream names keys of the dictionary of *that* stream. -/
structure WorldOK (w : World) : Prop where
  resNonempty : 0 < w.res.length
  resIdx : ∀ (i : Nat) (s : SState), w.streams[i]? = some s → s.res < w.res.length
  wf : ∀ (j : Nat) (r : Res), w.res[j]? = some r → r.WF
  good : ∀ (i : Nat) (s : SState) (r : Res), w.streams[i]? = some s → w.res[s.res]? = some r → Good r s

def WCall.scoped (w : World) : WCall → Prop
  | .on h c => ∀ (s : SState) (r : Res), w.streams[h]? = some s → w.res[s.res]? = some r → c.scoped r
  | .assignSh h n => ∀ (s : SState) (r : Res), w.streams[h]? = some s → w.res[s.res]? = some r → n < r.shading
  | _ => True

/-- A call that names no resource is scoped on every stream. -/
theorem trivial_scoped (w : World) (h : Nat) (c : Call) (hc : ∀ r, c.scoped r) : (WCall.on h c).scoped w := by
  intro s r _ _; exact hc r

/-- A document call that first looks up stream `h` and the dictionary it writes to returned: both exist. -/
theorem lookup_ok {w w' : World} {h : Nat} {F : SState → Res → Except PyErr World}
    (hstep : (match w.streams[h]? with
      | none => Except.error badHandle
      | some s => match w.res[s.res]? with
        | none => Except.error badHandle
        | some r => F s r) = .ok w') :
    ∃ s r, w.streams[h]? = some s ∧ w.res[s.res]? = some r ∧ F s r = .ok w' := by
  cases hs : w.streams[h]? with
  | none => rw [hs] at hstep; cases hstep
  | some s =>
    rw [hs] at hstep
    cases hr : w.res[s.res]? with
    | none => simp only [hr] at hstep; cases hstep
    | some r => simp only [hr] at hstep; exact ⟨s, r, rfl, hr, hstep⟩

theorem World.onCall_eq_ok {w w' : World} {h : Nat} {c : Call} (hstep : w.onCall h c = .ok w') :
    ∃ s r s' r', w.streams[h]? = some s ∧ w.res[s.res]? = some r ∧ stepS r s c = .ok (s', r') ∧
      w' = { w with streams := w.streams.set h s', res := w.res.set s.res r' } := by
  revert hstep
  fun_cases World.onCall w h c with
  | case1 | case2 | case3 => nofun
  | case4 s hs r hr s' r' hst => intro h; cases h; exact ⟨s, r, s', r', hs, hr, hst, rfl⟩

theorem addGroup_spec {w w' : World} {h : Nat} (hstep : w.addGroup h = .ok w') :
    ∃ s r, w.streams[h]? = some s ∧ w.res[s.res]? = some r ∧ w'.streams[h]? = some s ∧
      w'.res[s.res]? = some { r with xobj := r.xobj ++ [(XKey.x r.xobj.length, some w.streams.length)] } ∧
      w'.streams[w.streams.length]? = some (freshStream s w.res.length (some (XKey.x r.xobj.length).render)) := by
  obtain ⟨s, r, hs, hr, e⟩ := lookup_ok hstep
  cases e
  have hhlt : h < w.streams.length := (List.getElem?_eq_some_iff.mp hs).1
  have hjlt : s.res < w.res.length := (List.getElem?_eq_some_iff.mp hr).1
  exact ⟨s, r, hs, hr, by simp [List.getElem?_append_left hhlt, hs], by simp [List.getElem?_append_left, hjlt], by simp⟩

/-- The streams of the state `generate_pdf` sets up: `n` fresh page streams. -/
theorem init_stream {mark : Bool} {n i : Nat} {s : SState} :
    (World.init mark n).streams[i]? = some s ↔ i < n ∧ s = { mark := mark } := by
  simp [World.init, List.getElem?_replicate, eq_comm]

theorem init_ok (mark : Bool) (n : Nat) : WorldOK (World.init mark n) := by
  refine ⟨by simp [World.init], ?_, ?_, ?_⟩
  · intro i s h
    obtain ⟨_, rfl⟩ := init_stream.mp h
    exact Nat.zero_lt_one
  · intro j r h
    simp [World.init] at h
    cases j with
    | zero => simp at h; subst h; exact wf_empty
    | succ j => simp at h
  · intro i s r h _
    obtain ⟨_, rfl⟩ := init_stream.mp h
    intro o ho; cases ho

/-- Append streams that write to existing or newly appended dictionaries and are good for them. -/
theorem WorldOK.extend {w : World} (hw : WorldOK w) (news : List SState) (newr : List Res)
    (hidx : ∀ s ∈ news, s.res < w.res.length + newr.length)
    (hwf : ∀ r ∈ newr, r.WF) (hempty : ∀ s ∈ news, s.rops = []) :
    WorldOK { w with streams := w.streams ++ news, res := w.res ++ newr } := by
  refine ⟨by simp; have := hw.resNonempty; omega, ?_, ?_, ?_⟩
  · intro i t ht
    simp only [List.length_append]
    rcases List.getElem?_append_eq_some ht with h1 | ⟨_, h2⟩
    · have := hw.resIdx i t h1; omega
    · exact hidx t (List.mem_of_getElem? h2)
  · intro k q hq
    rcases List.getElem?_append_eq_some hq with h1 | ⟨_, h2⟩
    · exact hw.wf k q h1
    · exact hwf q (List.mem_of_getElem? h2)
  · intro i t q ht hq
    rcases List.getElem?_append_eq_some ht with h1 | ⟨_, h2⟩
    · have hlt := hw.resIdx i t h1
      rw [List.getElem?_append_left hlt] at hq
      exact hw.good i t q h1 hq
    · intro o ho
      rw [hempty t (List.mem_of_getElem? h2)] at ho
      simp at ho

theorem WorldOK.addOwned {w : World} (hw : WorldOK w) (g : SState) (hres : g.res = w.res.length) (hempty : g.rops = []) :
    WorldOK { w with streams := w.streams ++ [g], res := w.res ++ [{}] } :=
  hw.extend [g] [{}] (fun t ht => by cases List.mem_singleton.mp ht; rw [hres]; simp)
    (fun q hq => by cases List.mem_singleton.mp hq; exact wf_empty) (fun t ht => by cases List.mem_singleton.mp ht; exact hempty)

theorem WorldOK.addShared {w : World} (hw : WorldOK w) (g : SState) (hres : g.res < w.res.length) (hempty : g.rops = []) :
    WorldOK { w with streams := w.streams ++ [g] } := by
  have := hw.extend [g] [] (fun t ht => by cases List.mem_singleton.mp ht; simpa using hres) (by simp)
    (fun t ht => by cases List.mem_singleton.mp ht; exact hempty)
  simpa using this

/-- Only dictionary `j` changes (grows). -/
theorem WorldOK.updateRes {w : World} (hw : WorldOK w) (j : Nat) (r r' : Res) (hr : w.res[j]? = some r)
    (hle : r.le r') (hwf : r.WF → r'.WF) : WorldOK { w with res := w.res.set j r' } := by
  have hjlt : j < w.res.length := by
    rcases List.getElem?_eq_some_iff.mp hr with ⟨hlt, _⟩; exact hlt
  refine ⟨by simpa using hw.resNonempty, ?_, ?_, ?_⟩
  · intro i t ht
    simp only [List.length_set]
    exact hw.resIdx i t ht
  · intro k q hq
    rw [List.getElem?_set] at hq
    split at hq
    · simp at hq; subst hq; exact hwf (hw.wf j r hr)
    · exact hw.wf k q hq
  · intro i t q ht hq
    rw [List.getElem?_set] at hq
    split at hq
    · rename_i heq
      simp at hq; subst hq
      exact Good.mono (hw.good i t r ht (heq ▸ hr)) hle
    · exact hw.good i t q ht hq

/-- Only stream `h` changes: it stays on its dictionary and is good for it. -/
theorem WorldOK.setStream {w : World} (hw : WorldOK w) (h : Nat) (s s' : SState) (hs : w.streams[h]? = some s)
    (hres : s'.res = s.res) (hgood : ∀ r, w.res[s.res]? = some r → Good r s') :
    WorldOK { w with streams := w.streams.set h s' } := by
  have hhlt : h < w.streams.length := (List.getElem?_eq_some_iff.mp hs).1
  refine ⟨hw.resNonempty, ?_, hw.wf, ?_⟩
  · intro i t ht
    rw [List.getElem?_set] at ht
    split at ht
    · simp [hhlt] at ht; subst ht; rw [hres]; exact hw.resIdx h s hs
    · exact hw.resIdx i t ht
  · intro i t q ht hq
    rw [List.getElem?_set] at ht
    split at ht
    · simp [hhlt] at ht; subst ht
      exact hgood q (hres ▸ hq)
    · exact hw.good i t q ht hq

theorem xobj_add_le (r : Res) (k : XKey) (v : Option Nat) : r.le { r with xobj := r.xobj ++ [(k, v)] } := by
  refine ⟨fun _ h => h, ?_, Nat.le_refl _, Nat.le_refl _⟩
  intro k' h
  rw [hasX_iff] at h ⊢
  simp only [List.map_append, List.mem_append]
  exact Or.inl h

/-- Streams keep their resource dictionary, dictionaries only grow, nothing disappears. -/
structure Mono (w w' : World) : Prop where
  streams : ∀ (i : Nat) (s : SState), w.streams[i]? = some s → ∃ s', w'.streams[i]? = some s' ∧ s'.res = s.res
  res : ∀ (j : Nat) (r : Res), w.res[j]? = some r → ∃ r', w'.res[j]? = some r' ∧ r.le r'

theorem Mono.refl (w : World) : Mono w w :=
  ⟨fun _ s h => ⟨s, h, rfl⟩, fun _ r h => ⟨r, h, Res.le.refl r⟩⟩

theorem Mono.trans {a b c : World} (h1 : Mono a b) (h2 : Mono b c) : Mono a c := by
  refine ⟨?_, ?_⟩
  · intro i s hs
    obtain ⟨s1, hs1, e1⟩ := h1.streams i s hs
    obtain ⟨s2, hs2, e2⟩ := h2.streams i s1 hs1
    exact ⟨s2, hs2, e2.trans e1⟩
  · intro j r hr
    obtain ⟨r1, hr1, l1⟩ := h1.res j r hr
    obtain ⟨r2, hr2, l2⟩ := h2.res j r1 hr1
    exact ⟨r2, hr2, l1.trans l2⟩

theorem Mono.setStream {w : World} {h : Nat} {s s' : SState} (hs : w.streams[h]? = some s) (hres : s'.res = s.res) :
    Mono w { w with streams := w.streams.set h s' } := by
  refine ⟨fun i t ht => ?_, fun j q hq => ⟨q, hq, Res.le.refl q⟩⟩
  by_cases e : h = i
  · subst e
    rw [hs] at ht; cases ht
    exact ⟨s', by simp [(List.getElem?_eq_some_iff.mp hs).1], hres⟩
  · exact ⟨t, by simp [e, ht], rfl⟩

theorem Mono.setRes {w : World} {j : Nat} {r r' : Res} (hr : w.res[j]? = some r) (hle : r.le r') :
    Mono w { w with res := w.res.set j r' } := by
  refine ⟨fun i t ht => ⟨t, ht, rfl⟩, fun k q hq => ?_⟩
  by_cases e : j = k
  · subst e
    rw [hr] at hq; cases hq
    exact ⟨r', by simp [(List.getElem?_eq_some_iff.mp hr).1], hle⟩
  · exact ⟨q, by simp [e, hq], Res.le.refl q⟩

theorem Mono.append (w : World) (news : List SState) (newr : List Res) :
    Mono w { w with streams := w.streams ++ news, res := w.res ++ newr } :=
  ⟨fun i t ht => ⟨t, by rw [List.getElem?_append_left (List.getElem?_eq_some_iff.mp ht).1]; exact ht, rfl⟩,
   fun j q hq => ⟨q, by rw [List.getElem?_append_left (List.getElem?_eq_some_iff.mp hq).1]; exact hq, Res.le.refl q⟩⟩

theorem Mono.of_eq {w w' : World} (hs : w'.streams = w.streams) (hr : w'.res = w.res) : Mono w w' :=
  ⟨fun _ t ht => ⟨t, hs ▸ ht, rfl⟩, fun _ q hq => ⟨q, hr ▸ hq, Res.le.refl q⟩⟩

/-- The elementary changes a document call is made of. -/
inductive Prim : World → World → Prop
  /-- stream `h` and the dictionary it writes to change together, as one API call changes them -/
  | call {w : World} {h : Nat} {s s' : SState} {r r' : Res} (hs : w.streams[h]? = some s) (hr : w.res[s.res]? = some r)
      (ok : StepOK r s r' s') (hres : s'.res = s.res) (hid : s'.id = s.id) :
      Prim w { w with streams := w.streams.set h s', res := w.res.set s.res r' }
  /-- a name is registered in dictionary `j` -/
  | reg {w : World} {j : Nat} {r r' : Res} (hr : w.res[j]? = some r) (hle : r.le r') (hwf : r.WF → r'.WF)
      (imgs : List (String × List Rat)) : Prim w { w with res := w.res.set j r', images := imgs }
  /-- a fresh stream with a new, empty dictionary of its own -/
  | own {w : World} (g : SState) (hres : g.res = w.res.length) (hempty : g.rops = []) :
      Prim w { w with streams := w.streams ++ [g], res := w.res ++ [{}] }
  /-- a fresh, unnamed stream on the page dictionary or on the dictionary of an existing stream -/
  | share {w : World} (g : SState) (hres : g.res = 0 ∨ ∃ (i : Nat) (s : SState), w.streams[i]? = some s ∧ g.res = s.res)
      (hid : g.id = none) (hempty : g.rops = []) : Prim w { w with streams := w.streams ++ [g] }
  /-- the content of stream `h` is replaced -/
  | stream {w : World} {h : Nat} {s s' : SState} (hs : w.streams[h]? = some s) (hres : s'.res = s.res) (hid : s'.id = s.id)
      (hgood : ∀ r, w.res[s.res]? = some r → Good r s') : Prim w { w with streams := w.streams.set h s' }

/-- A sequence of elementary changes. -/
inductive Prims : World → World → Prop
  | refl (w : World) : Prims w w
  | tail {a b c : World} : Prims a b → Prim b c → Prims a c

theorem Prims.one {a b : World} (h : Prim a b) : Prims a b := .tail (.refl a) h

theorem Prims.induct {P : World → Prop} (step : ∀ a b, Prim a b → P a → P b) {w w' : World} (h : Prims w w')
    (h0 : P w) : P w' := by
  induction h with
  | refl => exact h0
  | tail _ hp ih => exact step _ _ hp ih

/-- **Every document call is a sequence of elementary changes** (names passed by callers being registered). -/
theorem World.step_prims {w w' : World} {c : WCall} (hsc : c.scoped w) (hstep : w.step c = .ok w') : Prims w w' := by
  have onCall : ∀ {w w' : World} {h : Nat} {c : Call}, (WCall.on h c).scoped w → w.onCall h c = .ok w' → Prim w w' := by
    intro w w' h c hsc hstep
    obtain ⟨s, r, s', r', hs, hr, hst, rfl⟩ := World.onCall_eq_ok hstep
    exact .call hs hr (stepS_ok r s c s' r' (hsc s r hs hr) hst) (stepS_kept hst).res_eq (stepS_kept hst).id_eq
  have addGroup : ∀ {w w' : World} {h : Nat}, w.addGroup h = .ok w' → Prims w w' := by
    intro w w' h hstep
    revert hstep
    fun_cases World.addGroup w h <;> intro hstep <;> cases hstep
    next r hr _ _ _ =>
      exact .tail (.one (.reg hr (xobj_add_le _ _ _)
        (fun wf => wf.addX _ _ (fresh_x r wf) (by intro n hn; cases hn; rfl)) w.images))
        (.own _ (by simp +zetaDelta [freshStream]) rfl)
  revert hstep
  fun_cases World.step w c <;> intro hstep
  any_goals cases hstep
  · exact .one (onCall hsc hstep)
  · exact addGroup hstep
  · next r hr _ _ =>
      exact .tail (.one (.reg (r' := { r with pattern := r.pattern ++ [w.streams.length] }) hr
        ⟨fun _ h => h, fun _ h => h, Nat.le_refl _, by simp⟩ (fun wf => ⟨wf.sPos, wf.xPos, wf.gNodup, wf.xNodup⟩) w.images))
        (.own _ (by simp +zetaDelta [freshStream]) rfl)
  · next r hr =>
      exact .one (.reg (r' := { r with shading := r.shading + 1 }) hr
        ⟨fun _ h => h, fun _ h => h, Nat.le_succ _, Nat.le_refl _⟩ (fun wf => ⟨wf.sPos, wf.xPos, wf.gNodup, wf.xNodup⟩) w.images)
  · next id interp _ _ _ r hr _ _ _ _ =>
      exact .one (.reg (r' := if r.hasX (XKey.img id interp) = true then r
          else { r with xobj := r.xobj ++ [(XKey.img id interp, none)] }) hr
        (by split; exact Res.le.refl r; exact xobj_add_le _ _ _)
        (fun wf => by
          split
          · exact wf
          · rename_i hn
            exact wf.addX _ _ (by simpa using hn) (by intro n hn; cases hn)) _)
  · -- `add_group`, then the soft-mask `set_state` on the calling stream
    next hg => exact .tail (addGroup hg) (onCall (trivial_scoped _ _ _ fun _ => by trivial) hstep)
  · next h s hs => exact .one (.share _ (.inr ⟨h, s, hs, rfl⟩) rfl rfl)
  · exact .one (.share _ (.inl rfl) rfl rfl)
  · next h n s hs =>
      refine .one (.stream (s' := { s with rops := [.sh n] }) hs rfl rfl (fun q hq o ho => ?_))
      cases List.mem_singleton.mp ho
      exact hsc s q hs hq

theorem Prim.ok {w w' : World} (hp : Prim w w') (hw : WorldOK w) : WorldOK w' := by
  cases hp with
  | @call h s s' r r' hs hr ok hres hid =>
    have hjlt : s.res < w.res.length := (List.getElem?_eq_some_iff.mp hr).1
    refine (hw.updateRes s.res r r' hr ok.le ok.wf).setStream h s s' hs hres ?_
    intro q hq
    rw [List.getElem?_set_self hjlt] at hq; cases hq
    exact ok.good (hw.good h s r hs hr)
  | reg hr hle hwf imgs =>
    have h1 := hw.updateRes _ _ _ hr hle hwf
    exact ⟨h1.resNonempty, h1.resIdx, h1.wf, h1.good⟩
  | own g hres hempty => exact hw.addOwned g hres hempty
  | share g hres hid hempty =>
    refine hw.addShared g ?_ hempty
    rcases hres with h0 | ⟨i, s, hs, e⟩
    · rw [h0]; exact hw.resNonempty
    · rw [e]; exact hw.resIdx i s hs
  | stream hs hres hid hgood => exact hw.setStream _ _ _ hs hres hgood

theorem Prim.mono {w w' : World} (hp : Prim w w') : Mono w w' := by
  cases hp with
  | call hs hr ok hres hid => exact (Mono.setStream hs hres).trans (Mono.setRes hr ok.le)
  | reg hr hle hwf imgs => exact (Mono.setRes hr hle).trans (Mono.of_eq rfl rfl)
  | own g hres hempty => exact Mono.append _ [g] [{}]
  | share g hres hid hempty => exact (Mono.append w [g] []).trans (Mono.of_eq rfl (List.append_nil _).symm)
  | stream hs hres hid hgood => exact Mono.setStream hs hres

/-- **Every step of the document machine keeps the invariant** (names passed by callers being registered). -/
theorem World.step_ok (w w' : World) (c : WCall) (hw : WorldOK w) (hs : c.scoped w) (hstep : w.step c = .ok w') :
    WorldOK w' :=
  (World.step_prims hs hstep).induct (fun _ _ hp => hp.ok) hw

theorem World.step_mono (w w' : World) (c : WCall) (hs : c.scoped w) (hstep : w.step c = .ok w') : Mono w w' :=
  (World.step_prims hs hstep).induct (P := Mono w) (fun _ _ hp h => h.trans hp.mono) (Mono.refl w)

/-- What the call returns, if it returns, satisfies the invariant and has only grown the dictionaries of `w`. -/
def Keeps (w : World) (x : Except PyErr World) : Prop := ∀ w', x = .ok w' → WorldOK w' ∧ Mono w w'

theorem Keeps.ok {w : World} (hw : WorldOK w) : Keeps w (.ok w) := fun _ h => by cases h; exact ⟨hw, Mono.refl w⟩

theorem Keeps.error {w : World} (e : PyErr) : Keeps w (.error e) := nofun

theorem Keeps.step {w : World} (hw : WorldOK w) (c : WCall) (hs : c.scoped w) : Keeps w (w.step c) :=
  fun w' h => ⟨World.step_ok w w' c hw hs h, World.step_mono w w' c hs h⟩

theorem Keeps.on {w : World} {h : Nat} {c : Call} (hw : WorldOK w) (hs : (WCall.on h c).scoped w) :
    Keeps w (w.onCall h c) := Keeps.step hw (.on h c) hs

/-- Sequencing: what follows is judged at the world the first part returned, which satisfies the invariant again. -/
theorem Keeps.thenDo {w : World} {x : Except PyErr World} {f : Stage} (hx : Keeps w x)
    (hf : ∀ w1, x = .ok w1 → WorldOK w1 → Mono w w1 → Keeps w1 (f w1)) : Keeps w (x |>> f) := by
  cases x with
  | error e => exact Keeps.error e
  | ok w1 =>
    intro w' h
    obtain ⟨ok1, m1⟩ := hx w1 rfl
    obtain ⟨ok', m'⟩ := hf w1 rfl ok1 m1 w' h
    exact ⟨ok', m1.trans m'⟩

theorem Keeps.stageIf {w : World} (hw : WorldOK w) (b : Bool) {f : Stage} (hf : Keeps w (f w)) :
    Keeps w (stageIf b f w) := by
  unfold Wp.Pdf.stageIf
  split
  · exact hf
  · exact Keeps.ok hw

/-- Callers pass registered names along the whole run. -/
def ScopedRun (w : World) : List WCall → Prop
  | [] => True
  | c :: cs => c.scoped w ∧ ∀ w', w.step c = .ok w' → ScopedRun w' cs

theorem World.run_induct {P : World → Prop} (step : ∀ w w1 c, P w → c.scoped w → w.step c = .ok w1 → P w1)
    (cs : List WCall) (w w' : World) (h0 : P w) (hs : ScopedRun w cs) (hrun : w.run cs = .ok w') : P w' := by
  induction cs generalizing w with
  | nil => cases hrun; exact h0
  | cons c cs ih =>
    simp only [World.run] at hrun
    cases h1 : w.step c with
    | error e => rw [h1] at hrun; cases hrun
    | ok w1 => rw [h1] at hrun; exact ih w1 (step w w1 c h0 hs.1 h1) (hs.2 w1 h1) hrun

theorem World.run_ok (cs : List WCall) (w w' : World) (hw : WorldOK w) (hs : ScopedRun w cs)
    (hrun : w.run cs = .ok w') : WorldOK w' :=
  World.run_induct (fun w w1 c hw hc h1 => World.step_ok w w1 c hw hc h1) cs w w' hw hs hrun

theorem World.run_mono (cs : List WCall) (w w' : World) (hs : ScopedRun w cs) (hrun : w.run cs = .ok w') :
    Mono w w' :=
  World.run_induct (P := Mono w) (fun w1 w2 c h hc h1 => h.trans (World.step_mono w1 w2 c hc h1)) cs w w' (Mono.refl w) hs hrun

end Wp.Pdf
