/-
The `following_collapsible_space` threading of `process_whitespace` across the boxes of one inline
formatting context (Model/AnonBoxes.lean `pw` / `pwKids`).
-/
import WpModel.Lemmas.Whitespace
import WpModel.Lemmas.Boxes

namespace Wp.Bx
open KBox

theorem startsWithSp_append (a b : Text) :
    startsWithSp (a ++ b) = if a.isEmpty then startsWithSp b else startsWithSp a := by
  cases a <;> simp [startsWithSp]

theorem endsWithSp_cons (c : Nat) (t : Text) (h : t ≠ []) : endsWithSp (c :: t) = endsWithSp t := by
  cases t with
  | nil => exact absurd rfl h
  | cons d ds => simp [endsWithSp]

theorem endsWithSp_append (a b : Text) :
    endsWithSp (a ++ b) = if b.isEmpty then endsWithSp a else endsWithSp b := by
  induction a with
  | nil => cases b <;> simp [endsWithSp]
  | cons c cs ih =>
    by_cases hb : b = []
    · subst hb; simp
    · have hne : cs ++ b ≠ [] := by simp [hb]
      rw [List.cons_append, endsWithSp_cons c _ hne, ih]
      simp [hb]

/-- Gluing two texts without double space: fine unless the first ends and the second starts with one. -/
theorem noDoubleSp_append (a b : Text) (ha : noDoubleSp a = true) (hb : noDoubleSp b = true)
    (h : endsWithSp a = true → startsWithSp b = false) : noDoubleSp (a ++ b) = true := by
  induction a with
  | nil => simpa using hb
  | cons c cs ih =>
    cases cs with
    | nil =>
      simp only [List.cons_append, List.nil_append]
      cases b with
      | nil => rfl
      | cons d ds =>
        simp only [noDoubleSp, Bool.and_eq_true, hb, and_true]
        simp only [endsWithSp, startsWithSp, Ch.sp, beq_iff_eq] at h
        by_cases hc : c = 32
        · have := h hc
          simp [hc] at this ⊢
          exact this
        · simp [hc]
    | cons d ds =>
      have ha' := noDoubleSp_tail c _ ha
      simp only [noDoubleSp, Bool.and_eq_true] at ha
      have := ih ha' (by simpa [endsWithSp] using h)
      simp only [List.cons_append, noDoubleSp, Bool.and_eq_true]
      exact ⟨ha.1, by simpa using this⟩

theorem lineFeedGo_ne_nil (t : Text) (h : t ≠ []) : lineFeedGo t false ≠ [] := by
  cases t with
  | nil => exact absurd rfl h
  | cons c cs =>
    simp only [lineFeedGo, Bool.and_false, Bool.false_eq_true, if_false]
    split <;> simp

theorem tabSubGo_ne_nil (t : Text) : ∀ (pend : List Nat), (t ≠ [] ∨ pend ≠ []) → tabSubGo t pend false ≠ [] := by
  induction t with
  | nil => intro pend h; rcases h with h | h; exact absurd rfl h; simpa [tabSubGo] using h
  | cons c cs ih =>
    intro pend _
    simp only [tabSubGo, Bool.false_eq_true, if_false]
    split
    · exact ih (c :: pend) (Or.inr (by simp))
    · split <;> simp

theorem spaceSubGo_ne_nil (t : Text) (h : t ≠ []) : spaceSubGo t false ≠ [] := by
  cases t with
  | nil => exact absurd rfl h
  | cons c cs =>
    simp only [spaceSubGo, Bool.false_eq_true, if_false]
    split <;> simp

theorem collapsed_ne_nil (ws : WS) (t : Text) (h : t ≠ []) : collapsed ws t ≠ [] := by
  unfold collapsed spaceSub
  apply spaceSubGo_ne_nil
  have h1 : tabSub (lineFeed t) ≠ [] := tabSubGo_ne_nil _ [] (Or.inl (lineFeedGo_ne_nil t h))
  split
  · simpa [nlToSpace] using h1
  · exact h1

/-- The three facts threaded through the boxes: `t` is the text produced so far, `f` / `f'` the flag
`following_collapsible_space` before and after it ("the text so far ends with a collapsible space"). -/
def Threaded (f : Bool) (t : Text) (f' : Bool) : Prop :=
  noDoubleSp t = true ∧ (f = true → startsWithSp t = false) ∧ f' = (endsWithSp t || (t.isEmpty && f))

/-- One text box of a collapsing `white-space`. -/
theorem processText_thread (ws : WS) (h : spaceCollapse ws = true) (t : Text) (ht : t ≠ []) (f : Bool) :
    Threaded f (processText ws t f).text (processText ws t f).following := by
  rw [processText_collapse ws h t f]
  have hnd := collapsed_noDouble ws t
  have hne := collapsed_ne_nil ws t ht
  generalize collapsed ws t = u at hnd hne
  refine ⟨noDoubleSp_stripLead f u hnd, fun hf => by rw [hf]; exact startsWithSp_stripLead u hnd, ?_⟩
  -- the stripped text is empty only if `u` was a single space, and then it ends with one
  unfold stripLead
  cases u with
  | nil => exact absurd rfl hne
  | cons c cs =>
    by_cases hc : (f && startsWithSp (c :: cs)) = true
    · rw [if_pos hc]
      simp only [Bool.and_eq_true, startsWithSp, Ch.sp, beq_iff_eq] at hc
      obtain ⟨rfl, rfl⟩ := hc
      cases cs with
      | nil => rfl
      | cons d ds => simp [endsWithSp]
    · rw [if_neg hc]
      simp

mutual
/-- Inline content in normal flow with collapsing `white-space`: text boxes and inline boxes only. -/
def IC : KBox → Prop
  | .mk k st _ inst text kids _ =>
    st.run = false ∧ st.abs = false ∧ st.foot = false ∧ (st.flt && !inst.noFloat) = false ∧
    ((Gen.isSub k .TextBox = true ∧ spaceCollapse st.ws = true ∧ kids = []) ∨
     (Gen.isSub k .TextBox = false ∧ Gen.isSub k .InlineBox = true ∧ text = [] ∧ ICL kids))
def ICL : List KBox → Prop
  | [] => True
  | c :: cs => IC c ∧ ICL cs
end

theorem ic_inFlow {b : KBox} (h : IC b) : b.inFlow = true ∧
    (b.isA .TextBox = true ∨ b.isA .InlineBox = true) := by
  obtain ⟨k, st, el, inst, text, kids, cols⟩ := b
  unfold IC at h
  obtain ⟨h1, h2, h3, h4, h5⟩ := h
  refine ⟨by simp [KBox.inFlow, KBox.isFloated, KBox.st, KBox.inst, h1, h2, h3, h4], ?_⟩
  rcases h5 with h5 | h5
  · exact Or.inl h5.1
  · exact Or.inr h5.2.1

theorem threaded_nil (f : Bool) : Threaded f [] f := by
  simp [Threaded, noDoubleSp, startsWithSp, endsWithSp]

/-- Composition: the flag leaving the first text enters the second. -/
theorem threaded_append (f f1 f2 : Bool) (a b : Text) (ha : Threaded f a f1) (hb : Threaded f1 b f2) :
    Threaded f (a ++ b) f2 := by
  obtain ⟨a1, a2, a3⟩ := ha
  obtain ⟨b1, b2, b3⟩ := hb
  refine ⟨?_, ?_, ?_⟩
  · apply noDoubleSp_append a b a1 b1
    intro he
    apply b2
    rw [a3, he]; rfl
  · intro hf
    rw [startsWithSp_append]
    split
    · rename_i hae
      apply b2
      have : a = [] := by simpa using hae
      rw [a3, this, hf]; rfl
    · exact a2 hf
  · rw [b3, endsWithSp_append]
    by_cases hbe : b = []
    · subst hbe; simp [a3, endsWithSp]
    · have : b.isEmpty = false := by simpa using hbe
      have hab : (a ++ b).isEmpty = false := by simp [hbe]
      simp [this, hab]

mutual
/-- `process_whitespace` over an inline formatting context: the concatenated text of the boxes has
no double space, does not begin with a space when a collapsible space precedes, and the returned
flag says whether it ends with one. -/
theorem pw_threaded : ∀ (b : KBox) (f : Bool), IC b →
    Threaded f (leafText (pw b f).1) (pw b f).2
  | .mk k st el inst text kids cols, f, h => by
    unfold IC at h
    obtain ⟨hrun, _, _, _, hcase⟩ := h
    unfold pw
    rcases hcase with ⟨ht, hws, hk⟩ | ⟨ht, _, htext, hkids⟩
    · subst hk
      simp only [ht, if_true]
      split
      · rename_i he
        have : text = [] := by simpa using he
        subst this
        simpa [leafText, leafTextL] using threaded_nil f
      · rename_i he
        have hne : text ≠ [] := by simpa using he
        have := processText_thread st.ws hws text hne f
        simp only [leafText, leafTextL, List.append_nil, hrun, Bool.not_false, Bool.and_true]
        exact this
    · subst htext
      simp only [ht, Bool.false_eq_true, if_false]
      have := pwKids_threaded kids f hkids
      simp only [hrun, Bool.not_false, Bool.and_true, leafText, List.nil_append]
      exact this
theorem pwKids_threaded : ∀ (kids : List KBox) (f : Bool), ICL kids →
    Threaded f (leafTextL (pwKids kids f).1) (pwKids kids f).2
  | [], f, _ => by simpa [pwKids, leafTextL] using threaded_nil f
  | c :: cs, f, h => by
    unfold ICL at h
    obtain ⟨hfl, hkind⟩ := ic_inFlow h.1
    have hc : (Gen.isSub c.kind .TextBox || Gen.isSub c.kind .InlineBox) = true := by
      simp only [KBox.isA] at hkind
      rcases hkind with h1 | h1 <;> simp [h1]
    unfold pwKids
    simp only [hc, if_true, hfl]
    have h1 := pw_threaded c f h.1
    have h2 := pwKids_threaded cs (pw c f).2 h.2
    simp only [leafTextL]
    exact threaded_append f _ _ _ _ h1 h2
end

/-- The inline content of *any* container — a block, a float, an absolutely positioned or running box, a
cell …: the box is not a text box and its children are inline content in normal flow (`ICL`).  Nothing is
asked of the box's own `float` / `position` (since b7d94f7 the state is handed from child to child
whatever the container is). -/
def IFC (b : KBox) : Prop := b.isA .TextBox = false ∧ b.text = [] ∧ ICL b.kids

theorem pw_ifc (b : KBox) (f : Bool) (h : IFC b) :
    Threaded f (leafText (pw b f).1) ((pwKids b.kids f).2) ∧ (pw b f).2 = ((pwKids b.kids f).2 && !b.st.run) := by
  obtain ⟨k, st, el, inst, text, kids, cols⟩ := b
  obtain ⟨ht, htext, hkids⟩ := h
  simp only [KBox.isA, KBox.kind] at ht
  simp only [KBox.text] at htext
  simp only [KBox.kids] at hkids
  subst htext
  have := pwKids_threaded kids f hkids
  unfold pw
  simp only [ht, Bool.false_eq_true, if_false, leafText, List.nil_append, KBox.kids, KBox.st]
  exact ⟨this, trivial⟩

end Wp.Bx
