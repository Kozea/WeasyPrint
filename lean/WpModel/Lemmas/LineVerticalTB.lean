/-
C09, vertical half: containment of every box in its line box *with* `vertical-align: top | bottom`
inline boxes at any depth and in any nesting (full strength since fix 5152049: `translate_subtree`
moves the whole subtree, nested `top` / `bottom` subtrees are aligned on their own).  Core Lean only.
-/
import WpModel.Lemmas.LineVertical

namespace Wp.C09L
open Wp Wp.LV

def Ext.Within (e : Ext) (lo hi : Rat) : Prop := ∀ mx mn, e = some (mx, mn) → lo ≤ mn ∧ mx ≤ hi

theorem Ext.within_self {e : Ext} {mx mn : Rat} (h : e = some (mx, mn)) : Ext.Within e mn mx := by
  intro mx' mn' he; rw [h] at he; cases he; exact ⟨Rat.le_refl, Rat.le_refl⟩

theorem Ext.within_add (e : Ext) (t b lo hi : Rat) (h : Ext.Within (e.add t b) lo hi) :
    Ext.Within e lo hi ∧ lo ≤ t ∧ b ≤ hi := by
  cases e with
  | none =>
    have := h b t rfl
    exact ⟨(fun _ _ h0 => nomatch h0), this.1, this.2⟩
  | some p =>
    obtain ⟨mx, mn⟩ := p
    have := h _ _ rfl
    refine ⟨?_, Rat.le_trans this.1 (ite_lt_le t mn).1, Rat.le_trans (Rat.le_ite_gt b mx).1 this.2⟩
    intro mx' mn' he; cases he
    exact ⟨Rat.le_trans this.1 (ite_lt_le t mn).2, Rat.le_trans (Rat.le_ite_gt b mx).2 this.2⟩

theorem Ext.within_merge (e o : Ext) (lo hi : Rat) (h : Ext.Within (e.merge o) lo hi) :
    Ext.Within e lo hi ∧ Ext.Within o lo hi := by
  cases o with
  | none => exact ⟨h, (fun _ _ h0 => nomatch h0)⟩
  | some p =>
    obtain ⟨mx, mn⟩ := p
    have := Ext.within_add e mn mx lo hi h
    exact ⟨this.1, by intro _ _ he; cases he; exact ⟨this.2.1, this.2.2⟩⟩

theorem Ext.within_mono (e : Ext) (lo hi hi' : Rat) (h : Ext.Within e lo hi) (hh : hi ≤ hi') : Ext.Within e lo hi' := by
  intro mx mn he
  have := h mx mn he
  exact ⟨this.1, Rat.le_trans this.2 hh⟩

theorem Ext.contains_within (e : Ext) (t b lo hi : Rat) (hc : Ext.Contains e t b) (hw : Ext.Within e lo hi) :
    lo ≤ t ∧ b ≤ hi := by
  obtain ⟨mx, mn, he, h1, h2⟩ := hc
  have := hw mx mn he
  exact ⟨Rat.le_trans this.1 h1, Rat.le_trans h2 this.2⟩

theorem Ext.add_assoc_none (t h mt mb : Rat) :
    Ext.add none t (t + h + mt + mb) = Ext.add none t (t + (h + mt + mb)) := by
  simp only [Ext.add]
  congr 2
  grind

theorem Ext.none_merge (o : Ext) : Ext.merge none o = o := by
  cases o with
  | none => rfl
  | some p => obtain ⟨mx, mn⟩ := p; rfl

theorem Ext.add_assoc_box (t h mt mb bt pt pb bb : Rat) :
    Ext.add none t (t + h + mt + mb + bt + pt + pb + bb) = Ext.add none t (t + (h + mt + mb + bt + pt + pb + bb)) := by
  simp only [Ext.add]
  congr 2
  grind

theorem childBaseline_tb (pst : VStyle) (pbase pmt by_ : Rat) (va : VAlign) (mh b : Rat)
    (h : va.isTopBottom = true) : childBaseline pst pbase pmt by_ va mh b = 0 := by
  cases va <;> simp [VAlign.isTopBottom] at h <;> rfl

theorem placeOne_text_plain (pst : VStyle) (pbase pmt by_ y h mt mb b : Rat) (va : VAlign) (hs : va.isTopBottom = false) :
    placeOne pst pbase pmt by_ (.text y h mt mb b va) =
      (.text (childBaseline pst pbase pmt by_ va (h + mt + mb) b - b) h mt mb b va,
       Ext.add none (childBaseline pst pbase pmt by_ va (h + mt + mb) b - b)
         (childBaseline pst pbase pmt by_ va (h + mt + mb) b - b + (h + mt + mb)), []) := by
  unfold placeOne
  simp only [hs, Bool.false_eq_true, if_false]

theorem placeOne_text_tb (pst : VStyle) (pbase pmt by_ y h mt mb b : Rat) (va : VAlign) (hs : va.isTopBottom = true) :
    placeOne pst pbase pmt by_ (.text y h mt mb b va) = (.text (0 - b) h mt mb b va, none, [h + mt + mb]) := by
  unfold placeOne
  simp only [hs, if_true, childBaseline_tb pst pbase pmt by_ va _ b hs]

theorem placeOne_box_plain (pst : VStyle) (pbase pmt by_ y h mt mb b : Rat) (st : VStyle) (kids : List VBox)
    (htb : st.va.isTopBottom = false) :
    placeOne pst pbase pmt by_ (.box y h mt mb b st kids) =
      (.box (childBaseline pst pbase pmt by_ st.va (h + mt + mb + st.bt + st.pt + st.pb + st.bb) b - b) h mt mb b st
        (placeKids st b mt (childBaseline pst pbase pmt by_ st.va (h + mt + mb + st.bt + st.pt + st.pb + st.bb) b) kids).1,
       (Ext.add none (childBaseline pst pbase pmt by_ st.va (h + mt + mb + st.bt + st.pt + st.pb + st.bb) b - b)
         (childBaseline pst pbase pmt by_ st.va (h + mt + mb + st.bt + st.pt + st.pb + st.bb) b - b +
           (h + mt + mb + st.bt + st.pt + st.pb + st.bb))).merge
         (placeKids st b mt (childBaseline pst pbase pmt by_ st.va (h + mt + mb + st.bt + st.pt + st.pb + st.bb) b) kids).2.1,
       (placeKids st b mt (childBaseline pst pbase pmt by_ st.va (h + mt + mb + st.bt + st.pt + st.pb + st.bb) b) kids).2.2) := by
  unfold placeOne
  simp only [htb, Bool.false_eq_true, if_false]

/-- a `top` / `bottom` inline box is laid out around its own baseline 0; its extent is pending -/
theorem placeOne_box_tb (pst : VStyle) (pbase pmt by_ y h mt mb b : Rat) (st : VStyle) (kids : List VBox)
    (htb : st.va.isTopBottom = true) (smx smn : Rat)
    (hsub : (placeKids st b mt 0 kids).2.1.add (0 - b) (0 - b + (h + mt + mb + st.bt + st.pt + st.pb + st.bb)) = some (smx, smn)) :
    placeOne pst pbase pmt by_ (.box y h mt mb b st kids) =
      (.box (0 - b) h mt mb b st (placeKids st b mt 0 kids).1, none, [smx - smn] ++ (placeKids st b mt 0 kids).2.2) := by
  unfold placeOne
  simp only [htb, if_true, childBaseline_tb pst pbase pmt by_ st.va _ b htb, hsub]

theorem placeOne_va (pst : VStyle) (pbase pmt by_ : Rat) (c : VBox) : (placeOne pst pbase pmt by_ c).1.va = c.va := by
  cases c with
  | text y h mt mb b va => unfold placeOne; split <;> rfl
  | box y h mt mb b st kids => unfold placeOne; split <;> rfl

theorem placeOne_tb_ext (pst : VStyle) (pbase pmt by_ : Rat) (c : VBox) (h : c.va.isTopBottom = true) :
    (placeOne pst pbase pmt by_ c).2.1 = none := by
  cases c with
  | text y h' mt mb b va => simp only [VBox.va] at h; unfold placeOne; simp only [h, if_true]
  | box y h' mt mb b st kids => simp only [VBox.va] at h; unfold placeOne; simp only [h, if_true]

mutual
/-- the extent `line_box_verticality` reads back from a placed subtree (`extentKids`: what
`aligned_subtree_verticality` returned for it) is the extent computed while placing it -/
theorem placeOne_extent (pst : VStyle) (pbase pmt by_ : Rat) : ∀ (c : VBox), c.va.isTopBottom = false →
    extentChild (placeOne pst pbase pmt by_ c).1 = (placeOne pst pbase pmt by_ c).2.1
  | .text y h mt mb b va, hs => by
    simp only [VBox.va] at hs
    rw [placeOne_text_plain pst pbase pmt by_ y h mt mb b va hs]
    simp only [extentChild]
    exact Ext.add_assoc_none _ _ _ _
  | .box y h mt mb b st kids, hs => by
    simp only [VBox.va] at hs
    rw [placeOne_box_plain pst pbase pmt by_ y h mt mb b st kids hs]
    simp only [extentChild]
    rw [placeKids_extent st b mt _ kids, Ext.add_assoc_box]
theorem placeKids_extent (pst : VStyle) (pbase pmt by_ : Rat) : ∀ (cs : List VBox),
    extentKids (placeKids pst pbase pmt by_ cs).1 = (placeKids pst pbase pmt by_ cs).2.1
  | [] => by unfold placeKids; simp [extentKids]
  | c :: cs => by
    unfold placeKids
    simp only [extentKids, placeOne_va]
    cases htb : c.va.isTopBottom with
    | true =>
      simp only [if_true]
      rw [placeOne_tb_ext pst pbase pmt by_ c htb, Ext.none_merge]
      exact placeKids_extent pst pbase pmt by_ cs
    | false =>
      simp only [Bool.false_eq_true, if_false]
      rw [placeOne_extent pst pbase pmt by_ c htb, placeKids_extent pst pbase pmt by_ cs]
end

/-- a box `[t, t + H]` inside `[lo - c, hi - c]` lies inside `[lo, hi]` once moved by `c` -/
theorem moved_inside {lo hi c t H : Rat} (h1 : lo - c ≤ t) (h2 : t + H ≤ hi - c) : lo ≤ t + c ∧ t + c + H ≤ hi := by
  constructor <;> grind

/-- a subtree of extent `[mn, mx]` that is not higher than `[lo, hi]`, moved to the top (`dy = lo - mn`), keeps
whatever it holds inside `[lo - dy, hi - dy]` -/
theorem top_range {lo hi mn mx t T : Rat} (he : lo + (mx - mn) ≤ hi) (h1 : mn ≤ t) (h2 : T ≤ mx) :
    lo - (lo - mn) ≤ t ∧ T ≤ hi - (lo - mn) := by
  constructor <;> grind

/-- … and so does one moved to the bottom (`dy = hi - mx`) -/
theorem bottom_range {lo hi mn mx t T : Rat} (he : lo + (mx - mn) ≤ hi) (h1 : mn ≤ t) (h2 : T ≤ mx) :
    lo - (hi - mx) ≤ t ∧ T ≤ hi - (hi - mx) := by
  constructor <;> grind

mutual
/-- **placement then `translate_subtree`**: if the extent of a placed child, moved by what the
enclosing `top` / `bottom` subtree carries down, and the pending `top` / `bottom` extents fit in
`[lo, hi]`, every box of the child lies in `[lo, hi]` after the translations — for any nesting of
`top` / `bottom` boxes inside each other and inside baseline-relative boxes. -/
theorem placeOne_shift_inside (pst : VStyle) (pbase pmt by_ lo hi : Rat) : ∀ (c : VBox) (carried : Rat),
    Ext.Within (placeOne pst pbase pmt by_ c).2.1 (lo - carried) (hi - carried) →
    (∀ e ∈ (placeOne pst pbase pmt by_ c).2.2, lo + e ≤ hi) →
    ∀ d ∈ allBoxes (shift lo hi carried (placeOne pst pbase pmt by_ c).1), lo ≤ d.y ∧ d.y + d.marginHeight ≤ hi
  | .text y h mt mb b va, carried, hw, hp => by
    cases hs : va.isTopBottom with
    | false =>
      rw [placeOne_text_plain pst pbase pmt by_ y h mt mb b va hs] at hw ⊢
      intro d hd
      simp only [shift, hs, Bool.false_eq_true, if_false, allBoxes, List.mem_singleton] at hd
      subst hd
      simp only [VBox.y, VBox.marginHeight]
      have := Ext.within_add none _ _ _ _ hw
      exact moved_inside this.2.1 this.2.2
    | true =>
      rw [placeOne_text_tb pst pbase pmt by_ y h mt mb b va hs] at hp ⊢
      have he : lo + (h + mt + mb) ≤ hi := hp _ (by simp)
      intro d hd
      simp only [shift, hs, if_true, ownDy, extentOf, Ext.add, VBox.va, allBoxes, List.mem_singleton] at hd
      subst hd
      simp only [VBox.y, VBox.marginHeight]
      by_cases htop : va = .top
      · simp only [htop, if_true]; constructor <;> grind
      · simp only [htop, if_false]; constructor <;> grind
  | .box y h mt mb b st kids, carried, hw, hp => by
    cases htb : st.va.isTopBottom with
    | false =>
      rw [placeOne_box_plain pst pbase pmt by_ y h mt mb b st kids htb] at hw hp ⊢
      simp only at hw hp
      have hm := Ext.within_merge _ _ _ _ hw
      have ih := placeKids_shift_inside st b mt
        (childBaseline pst pbase pmt by_ st.va (h + mt + mb + st.bt + st.pt + st.pb + st.bb) b) lo hi kids carried hm.2 hp
      intro d hd
      simp only [shift, htb, Bool.false_eq_true, if_false, allBoxes, List.mem_cons] at hd
      rcases hd with hd | hd
      · subst hd
        simp only [VBox.y, VBox.marginHeight]
        have := Ext.within_add none _ _ _ _ hm.1
        exact moved_inside this.2.1 this.2.2
      · exact ih d hd
    | true =>
      obtain ⟨smx, smn, hsub, hs1, hs2⟩ := Ext.add_self (placeKids st b mt 0 kids).2.1 (0 - b)
        (0 - b + (h + mt + mb + st.bt + st.pt + st.pb + st.bb))
      rw [placeOne_box_tb pst pbase pmt by_ y h mt mb b st kids htb smx smn hsub] at hp ⊢
      have he : lo + (smx - smn) ≤ hi := hp _ (by simp)
      have hext : extentOf (.box (0 - b) h mt mb b st (placeKids st b mt 0 kids).1) = some (smx, smn) := by
        simp only [extentOf, VBox.marginHeight, placeKids_extent]
        exact hsub
      -- the children's own extent lies inside the subtree's extent
      have hin : Ext.Within (placeKids st b mt 0 kids).2.1 smn smx :=
        (Ext.within_add _ _ _ _ _ (Ext.within_self hsub)).1
      intro d hd
      simp only [shift, htb, if_true, ownDy, hext, VBox.va, allBoxes, List.mem_cons] at hd
      by_cases htop : st.va = .top
      · simp only [htop, if_true] at hd
        have hkids := placeKids_shift_inside st b mt 0 lo hi kids (lo - smn)
          (fun mx' mn' he' => top_range he (hin mx' mn' he').1 (hin mx' mn' he').2)
          (fun e he' => hp e (List.mem_append.mpr (Or.inr he')))
        rcases hd with hd | hd
        · subst hd
          simp only [VBox.y, VBox.marginHeight]
          exact moved_inside (top_range he hs1 hs2).1 (top_range he hs1 hs2).2
        · exact hkids d hd
      · simp only [htop, if_false] at hd
        have hkids := placeKids_shift_inside st b mt 0 lo hi kids (hi - smx)
          (fun mx' mn' he' => bottom_range he (hin mx' mn' he').1 (hin mx' mn' he').2)
          (fun e he' => hp e (List.mem_append.mpr (Or.inr he')))
        rcases hd with hd | hd
        · subst hd
          simp only [VBox.y, VBox.marginHeight]
          exact moved_inside (bottom_range he hs1 hs2).1 (bottom_range he hs1 hs2).2
        · exact hkids d hd
theorem placeKids_shift_inside (pst : VStyle) (pbase pmt by_ lo hi : Rat) : ∀ (cs : List VBox) (carried : Rat),
    Ext.Within (placeKids pst pbase pmt by_ cs).2.1 (lo - carried) (hi - carried) →
    (∀ e ∈ (placeKids pst pbase pmt by_ cs).2.2, lo + e ≤ hi) →
    ∀ d ∈ allBoxesL (shiftL lo hi carried (placeKids pst pbase pmt by_ cs).1), lo ≤ d.y ∧ d.y + d.marginHeight ≤ hi
  | [], _, _, _ => by
    unfold placeKids
    intro d hd
    simp [shiftL, allBoxesL] at hd
  | c :: cs, carried, hw, hp => by
    unfold placeKids at hw hp ⊢
    simp only at hw hp ⊢
    have hm := Ext.within_merge _ _ _ _ hw
    have h1 := placeOne_shift_inside pst pbase pmt by_ lo hi c carried hm.1
      (fun e he => hp e (List.mem_append.mpr (Or.inl he)))
    have h2 := placeKids_shift_inside pst pbase pmt by_ lo hi cs carried hm.2
      (fun e he => hp e (List.mem_append.mpr (Or.inr he)))
    intro d hd
    simp only [shiftL, allBoxesL, List.mem_append] at hd
    rcases hd with hd | hd
    · exact h1 d hd
    · exact h2 d hd
end

end Wp.C09L
