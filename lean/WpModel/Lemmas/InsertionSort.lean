/-
Insertion into a list kept in order, and the sorts built from it (Python's `sorted` / `list.sort`, which the models
write as their own recursions).  Every such recursion is `ins r` for a Boolean test `r` (`eq_ins`, `eq_ins_stop`: the
two defining equations, by `rfl`), so permutation and order are proved here once.  What "in order" means is a
parameter `S` of `ins_sorted`: the test may be a non-strict order (`S := r`) or a strict one on a key
(`S a b := k a ≤ k b`).  Core Lean only.
-/

namespace Wp.InsertionSort

universe u v
variable {α : Type u}

section
variable (r : α → α → Bool)

/-- Put `x` behind the leading elements `t` with `r t x`. -/
def ins (x : α) : List α → List α
  | [] => [x]
  | t :: ts => if r t x then t :: ins x ts else x :: t :: ts

def sort (l : List α) : List α := l.foldr (ins r) []

variable {r}

/-- The loop goes on while the test holds. -/
theorem eq_ins (f : α → List α → List α) (h0 : ∀ x, f x [] = [x])
    (h1 : ∀ x y ys, f x (y :: ys) = if r y x = true then y :: f x ys else x :: y :: ys) (x : α) (l : List α) :
    f x l = ins r x l := by
  induction l with
  | nil => exact h0 x
  | cons y ys ih => rw [h1, ih]; rfl

/-- The loop stops where the test holds (`if T x y then x :: y :: ys else y :: f x ys`): `ins` for the negated test.
Where `fun _ _ _ => rfl` is slow to check for `h1` (a test on fields of a large structure), give the recursion's own
equation, `f.eq_2`. -/
theorem eq_ins_stop (T : α → α → Prop) [DecidableRel T] (f : α → List α → List α) (h0 : ∀ x, f x [] = [x])
    (h1 : ∀ x y ys, f x (y :: ys) = if T x y then x :: y :: ys else y :: f x ys) (x : α) (l : List α) :
    f x l = ins (fun t x => !decide (T x t)) x l := by
  induction l with
  | nil => exact h0 x
  | cons y ys ih =>
    rw [h1, ih]
    show _ = if (!decide (T x y)) = true then y :: ins _ x ys else x :: y :: ys
    by_cases h : T x y
    · rw [if_pos h, decide_eq_true h]; rfl
    · rw [if_neg h, decide_eq_false h]; rfl

theorem eq_sort {f : α → List α → List α} (g : List α → List α) (hf : ∀ x l, f x l = ins r x l) (g0 : g [] = [])
    (g1 : ∀ x xs, g (x :: xs) = f x (g xs)) (l : List α) : g l = sort r l := by
  induction l with
  | nil => exact g0
  | cons x xs ih => rw [g1, ih, hf]; rfl

theorem ins_perm (x : α) (l : List α) : (ins r x l).Perm (x :: l) := by
  induction l with
  | nil => exact .refl _
  | cons t ts ih =>
    unfold ins
    split
    · exact (List.Perm.cons t ih).trans (List.Perm.swap x t ts)
    · exact .refl _

theorem sort_perm (l : List α) : (sort r l).Perm l := by
  induction l with
  | nil => exact .refl _
  | cons x xs ih => exact (ins_perm x _).trans (List.Perm.cons x ih)

/-- The `for s in l: insert(s)` form. -/
theorem foldl_perm (l acc : List α) : (l.foldl (fun acc s => ins r s acc) acc).Perm (acc ++ l) := by
  induction l generalizing acc with
  | nil => rw [List.append_nil]; exact .refl _
  | cons s ss ih =>
    exact (ih _).trans (((ins_perm s acc).append_right ss).trans List.perm_middle.symm)

variable {S : α → α → Prop}

/-- `S` says what "in order" means; the hypotheses say what the test has to do with it: an element the new one goes
behind is in order before it, one it stops at is in order after it. -/
theorem ins_sorted (before : ∀ t x, r t x = true → S t x) (after : ∀ t x, r t x = false → S x t)
    (trans : ∀ a b c, S a b → S b c → S a c) (x : α) {l : List α} (hp : l.Pairwise S) :
    (ins r x l).Pairwise S := by
  induction l with
  | nil => exact List.pairwise_singleton _ _
  | cons t ts ih =>
    unfold ins
    rw [List.pairwise_cons] at hp
    cases h : r t x with
    | true =>
      refine List.pairwise_cons.mpr ⟨fun b hb => ?_, ih hp.2⟩
      rcases List.mem_cons.mp ((ins_perm x ts).mem_iff.mp hb) with rfl | hb'
      · exact before _ _ h
      · exact hp.1 b hb'
    | false =>
      refine List.pairwise_cons.mpr ⟨fun b hb => ?_, List.pairwise_cons.mpr hp⟩
      rcases List.mem_cons.mp hb with rfl | hb'
      · exact after _ _ h
      · exact trans _ _ _ (after _ _ h) (hp.1 b hb')

theorem sort_sorted (before : ∀ t x, r t x = true → S t x) (after : ∀ t x, r t x = false → S x t)
    (trans : ∀ a b c, S a b → S b c → S a c) (l : List α) : (sort r l).Pairwise S := by
  induction l with
  | nil => exact List.Pairwise.nil
  | cons x xs ih => exact ins_sorted before after trans x ih

theorem foldl_sorted (before : ∀ t x, r t x = true → S t x) (after : ∀ t x, r t x = false → S x t)
    (trans : ∀ a b c, S a b → S b c → S a c) (l : List α) {acc : List α} (h : acc.Pairwise S) :
    (l.foldl (fun acc s => ins r s acc) acc).Pairwise S := by
  induction l generalizing acc with
  | nil => exact h
  | cons s ss ih => exact ih (ins_sorted before after trans s h)

/-- Stability: an element no other has to go before stays in front. -/
theorem ins_head (x : α) (l : List α) (h : ∀ y ∈ l, r y x = false) : ins r x l = x :: l := by
  cases l with
  | nil => rfl
  | cons y ys => unfold ins; rw [h y List.mem_cons_self]; rfl

/-- Stability: among elements the test never puts behind one another (those of one key, say) the new one comes
first, so a sort leaves their order as it was. -/
theorem ins_filter (p : α → Bool) (x : α) (l : List α) (h : ∀ t ∈ l, p t = true → p x = true → r t x = false) :
    (ins r x l).filter p = if p x then x :: l.filter p else l.filter p := by
  induction l with
  | nil => cases hx : p x <;> simp [ins, hx]
  | cons t ts ih =>
    have ih := ih fun t' ht' => h t' (List.mem_cons_of_mem _ ht')
    unfold ins
    cases hr : r t x with
    | false => cases hx : p x <;> simp [List.filter_cons, hx]
    | true =>
      cases hx : p x with
      | false => simp [List.filter_cons, ih, hx]
      | true =>
        have ht : p t = false := by
          cases ht : p t with
          | false => rfl
          | true => rw [h t List.mem_cons_self ht hx] at hr; cases hr
        simp [ih, hx, ht]

theorem sort_filter (p : α → Bool) (h : ∀ t x, p t = true → p x = true → r t x = false) (l : List α) :
    (sort r l).filter p = l.filter p := by
  induction l with
  | nil => rfl
  | cons x xs ih =>
    show (ins r x (sort r xs)).filter p = _
    rw [ins_filter p x _ fun t _ => h t x, ih, List.filter_cons]

end

/-- A predicate with the three equations of "each element stands in `R` to the next" (true of `[]` and of `[x]`;
of `x :: y :: ys` when `R x y` and it holds of `y :: ys`) holds of a list with `Pairwise R`. -/
theorem adjacent_of_pairwise {R : α → α → Prop} (P : List α → Prop) (h0 : P []) (h1 : ∀ x, P [x])
    (h2 : ∀ x y ys, R x y → P (y :: ys) → P (x :: y :: ys)) {l : List α} (h : l.Pairwise R) : P l := by
  induction l with
  | nil => exact h0
  | cons x xs ih =>
    obtain ⟨hx, hxs⟩ := List.pairwise_cons.mp h
    cases xs with
    | nil => exact h1 x
    | cons y ys => exact h2 x y ys (hx y List.mem_cons_self) (ih hxs)

theorem strict_of_nodup {β : Type v} {S S' : α → α → Prop} (k : α → β) {l : List α} (hs : l.Pairwise S)
    (hnd : (l.map k).Nodup) (h : ∀ a b, S a b → k a ≠ k b → S' a b) : l.Pairwise S' :=
  hs.imp₂ h (List.pairwise_map.mp hnd)

end Wp.InsertionSort
