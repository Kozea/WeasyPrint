/-
The `/W` array of a CID font (Model/PdfFonts `wLoop` / `wArray`) read back by a PDF reader (`wDecode`) is the width
table it was built from, for glyph ids in strictly increasing order (`sorted(widths)` of a dict).  Core Lean only.
-/
import WpModel.Model.PdfFonts
namespace Wp.PdfFonts

/-- The `(cid, width)` pairs one group `c [w1 … wn]` stands for. -/
def decG (g : Nat × List Int) : List (Nat × Int) :=
  ((List.range g.2.length).zip g.2).map (fun p => (g.1 + p.1, p.2))

def dec (gs : List (Nat × List Int)) : List (Nat × Int) := gs.flatMap decG

theorem wDecode_groups (gs : List (Nat × List Int)) :
    wDecode (gs.flatMap (fun g => [WItem.cid g.1, WItem.widths g.2])) = dec gs := by
  induction gs with
  | nil => rfl
  | cons g gs ih =>
    simp only [List.flatMap_cons, List.cons_append, List.nil_append, wDecode, dec]
    rw [ih]; rfl

theorem decG_snoc (c : Nat) (ws : List Int) (w : Int) :
    decG (c, ws ++ [w]) = decG (c, ws) ++ [(c + ws.length, w)] := by
  simp only [decG, List.length_append, List.length_singleton]
  rw [show ws.length + 1 = ws.length.succ from rfl, List.range_succ,
    List.zip_append (by simp), List.map_append]
  rfl

theorem decG_single (c : Nat) (w : Int) : decG (c, [w]) = [(c, w)] := by
  simp [decG, List.range_succ]

theorem dec_append (a b : List (Nat × List Int)) : dec (a ++ b) = dec a ++ dec b := by
  simp [dec, List.flatMap_append]

theorem dec_single (g : Nat × List Int) : dec [g] = decG g := by simp [dec]

/-- Invariant of the loop: the groups built so far decode to the pairs consumed so far, and the last group ends just
after the last consumed glyph id. -/
structure WInv (pre : List (Nat × Int)) (acc : List (Nat × List Int)) : Prop where
  dec_eq : dec acc = pre
  nonempty : pre ≠ [] → acc ≠ []
  last : ∀ g p, acc.getLast? = some g → pre.getLast? = some p → g.1 + g.2.length = p.1 + 1

theorem wLoop_spec (cids : List Nat) (rest pre : List (Nat × Int)) (acc : List (Nat × List Int))
    (hc : cids = pre.map (·.1) ++ rest.map (·.1)) (hs : cids.Pairwise (· < ·)) (hI : WInv pre acc) :
    ∃ out, wLoop cids rest acc = .ok out ∧ dec out = pre ++ rest := by
  induction rest generalizing pre acc with
  | nil => exact ⟨acc, rfl, by simp [hI.dec_eq]⟩
  | cons cw rest ih =>
    obtain ⟨c, w⟩ := cw
    have hc' : cids = (pre ++ [(c, w)]).map (·.1) ++ rest.map (·.1) := by
      rw [hc]; simp
    obtain ⟨hpre, hrest, hcross⟩ := List.pairwise_append.mp (hc ▸ hs)
    simp only [List.map_cons] at hrest hcross
    obtain ⟨hgt, _⟩ := List.pairwise_cons.mp hrest
    simp only [wLoop]
    by_cases hb : (c = 0 ∨ (!cids.contains (c - 1)) = true)
    · -- a new group
      rw [if_pos hb]
      have hI' : WInv (pre ++ [(c, w)]) (acc ++ [(c, [w])]) := by
        refine ⟨?_, fun _ => by simp, ?_⟩
        · rw [dec_append, dec_single, decG_single, hI.dec_eq]
        · intro g p hg hp
          rw [List.getLast?_concat] at hg hp
          cases hg; cases hp; rfl
      obtain ⟨out, ho, hd⟩ := ih (pre ++ [(c, w)]) (acc ++ [(c, [w])]) hc' hI'
      exact ⟨out, ho, by rw [hd]; simp⟩
    · -- the glyph id before this one is used: it is the previous pair, its group goes on
      rw [if_neg hb]
      have hc0 : c ≠ 0 := fun e => hb (Or.inl e)
      have hmem : (c - 1) ∈ cids := by
        have : ¬ ((!cids.contains (c - 1)) = true) := fun e => hb (Or.inr e)
        simpa using this
      have hin : (c - 1) ∈ pre.map (·.1) := by
        rw [hc] at hmem
        simp only [List.map_cons, List.mem_append, List.mem_cons] at hmem
        rcases hmem with h | h | h
        · exact h
        · omega
        · have := hgt _ h; omega
      have hne : pre ≠ [] := by intro e; subst e; simp at hin
      obtain ⟨init, p, rfl⟩ : ∃ init p, pre = init ++ [p] := ⟨_, _, (List.dropLast_concat_getLast hne).symm⟩
      have hp1 : p.1 = c - 1 := by
        have hlt : p.1 < c := hcross p.1 (by simp) c (by simp)
        simp only [List.map_append, List.map_cons, List.map_nil, List.mem_append, List.mem_singleton] at hin
        rcases hin with h | h
        · simp only [List.map_append, List.map_cons, List.map_nil] at hpre
          have := (List.pairwise_append.mp hpre).2.2 _ h p.1 (by simp)
          omega
        · omega
      obtain ⟨ainit, g, rfl⟩ : ∃ ainit g, acc = ainit ++ [g] :=
        ⟨_, _, (List.dropLast_concat_getLast (hI.nonempty hne)).symm⟩
      have hend : g.1 + g.2.length = c := by
        have := hI.last g p List.getLast?_concat List.getLast?_concat; omega
      simp only [List.getLast?_concat, List.dropLast_concat]
      have hI' : WInv (init ++ [p] ++ [(c, w)]) (ainit ++ [(g.1, g.2 ++ [w])]) := by
        refine ⟨?_, fun _ => by simp, ?_⟩
        · have h0 := hI.dec_eq
          rw [dec_append, dec_single] at h0
          rw [dec_append, dec_single, decG_snoc, hend, ← List.append_assoc, h0]
        · intro g' p' hg' hp'
          rw [List.getLast?_concat] at hg' hp'
          cases hg'; cases hp'
          simp only [List.length_append, List.length_singleton]
          omega
      obtain ⟨out, ho, hd⟩ := ih (init ++ [p] ++ [(c, w)]) (ainit ++ [(g.1, g.2 ++ [w])]) hc' hI'
      exact ⟨out, ho, by rw [hd]; simp⟩

end Wp.PdfFonts
