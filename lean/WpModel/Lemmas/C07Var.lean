/-
C07 — `parse_function` / `check_var_function` / `resolve_var`: the equations of the branches, inversion lemmas, the
reference graph of custom properties, and the relation `Calls` of the recursive calls one call makes.
-/
import WpModel.Model.VarSubst
import WpModel.Lemmas.Basic.List

namespace Wp.C07
open Wp Wp.Decl Wp.Var

theorem checkVar_leaf (t : Tk) (h : ∀ n l a, t ≠ .fn n l a) : checkVar t = false := by
  cases t with
  | fn n l a => exact absurd rfl (h n l a)
  | _ => simp [checkVar]

theorem checkVarArgs_false (xs : List Tk) (h : ∀ x ∈ xs, checkVar x = false) : checkVarArgs xs = false :=
  (List.listLift_iff (XL := fun l => checkVarArgs l = false) (X := fun x => checkVar x = false) (by simp [checkVarArgs])
    (fun _ _ => by simp only [checkVarArgs, Bool.or_eq_false_iff]) xs).mpr h

theorem parseArgs_cons_some (t : Tk) (rest : List Tk) (b : Bool) (out : List Tk)
    (h : parseArgs (t :: rest) b = some out) :
    (t = .ws ∧ parseArgs rest b = some out) ∨ (t = .comma ∧ b = false ∧ parseArgs rest true = some out) ∨
      (t ≠ .ws ∧ t ≠ .comma ∧ ∃ d, parseArgs rest false = some d ∧ out = t :: d) := by
  have kept : ∀ u : Tk, u ≠ .ws → u ≠ .comma → (if parses u then (parseArgs rest false).map (u :: ·) else none)
      = some out → u ≠ .ws ∧ u ≠ .comma ∧ ∃ d, parseArgs rest false = some d ∧ out = u :: d := by
    intro u h1 h2 hu
    split at hu
    · cases hr : parseArgs rest false with
      | none => rw [hr] at hu; cases hu
      | some d => rw [hr] at hu; cases hu; exact ⟨h1, h2, d, rfl, rfl⟩
    · cases hu
  cases t with
  | ws => exact Or.inl ⟨rfl, by simpa only [parseArgs] using h⟩
  | comma =>
    simp only [parseArgs] at h
    cases b with
    | true => cases h
    | false => exact Or.inr (Or.inl ⟨rfl, rfl, h⟩)
  | ident _ | leaf _ | fn _ _ _ => exact Or.inr (Or.inr (kept _ nofun nofun (by simpa only [parseArgs] using h)))

/-- An argument list that parses to nothing is whitespace only. -/
theorem checkVarArgs_of_parse_nil : ∀ (a : List Tk) (b : Bool), parseArgs a b = some [] →
    checkVarArgs a = false
  | [], _, _ => rfl
  | t :: rest, b, h => by
    rcases parseArgs_cons_some t rest b _ h with ⟨rfl, h'⟩ | ⟨rfl, _, h'⟩ | ⟨_, _, d, _, hd⟩
    · simp only [checkVarArgs, checkVar, Bool.false_or, checkVarArgs_of_parse_nil rest b h']
    · simp only [checkVarArgs, checkVar, Bool.false_or, checkVarArgs_of_parse_nil rest true h']
    · cases hd

theorem varHead_not_var (l : String) (args : List Tk) (hl : (l != "var") = true) :
    varHead l args = none := by
  have hl' : (l == "var") = false := by simpa [bne] using hl
  simp [varHead, hl']

theorem checkVar_fn_false (n l : String) (xs : List Tk) (hl : (l != "var") = true)
    (h : ∀ x ∈ xs, checkVar x = false) : checkVar (.fn n l xs) = false := by
  simp only [checkVar]
  cases parseArgs xs false with
  | none => rfl
  | some args => simp only [varHead_not_var l args hl, checkVarArgs_false xs h]

theorem checkVar_var_args (n l : String) (args : List Tk) (hl : (l != "var") = false)
    (h : checkVar (.fn n l args) = true) :
    ∃ v dflt, parseArgs args false = some (.ident v :: dflt) := by
  have hl' : (l == "var") = true := by simpa [bne] using hl
  simp only [checkVar] at h
  cases hp : parseArgs args false with
  | none => simp [hp] at h
  | some parsed =>
    simp only [hp] at h
    cases parsed with
    | nil =>
      -- `var()`: the test `name == 'var' and args` fails, and the loop finds nothing in whitespace
      simp only [varHead, hl', List.isEmpty_nil, Bool.not_true, Bool.and_false, Bool.false_eq_true,
        if_false] at h
      rw [checkVarArgs_of_parse_nil args false hp] at h
      cases h
    | cons first dflt =>
      cases first with
      | ident v => exact ⟨v, dflt, rfl⟩
      | _ => simp [varHead, hl'] at h

theorem resolveVar_zero (env : Env) (seen : List String) (t : Tk) : resolveVar env seen 0 t = .error .recursion := rfl

theorem resolveVar_of_no_var (env : Env) (seen : List String) (fuel : Nat) (t : Tk) (hc : checkVar t = false) :
    resolveVar env seen (fuel + 1) t = .ok none := by
  simp only [resolveVar, hc, Bool.not_false, if_true]
  rfl

/-- One unfolding of `resolve_var` on a function that is not `var()`: the arguments, then the rebuilt function. -/
theorem resolveVar_fn (env : Env) (seen : List String) (fuel : Nat) (name lname : String) (args : List Tk)
    (hc : checkVar (.fn name lname args) = true) (hl : (lname != "var") = true) :
    resolveVar env seen (fuel + 1) (.fn name lname args) = (do
      let parts ← args.mapM (argStep (resolveVar env seen fuel))
      match ← resolveVar env seen fuel (.fn name lname parts.flatten) with
      | some r => if r.isEmpty then pure (some [Tk.fn name lname parts.flatten]) else pure (some r)
      | none => pure (some [Tk.fn name lname parts.flatten])) := by
  simp only [resolveVar, hc, Bool.not_true, Bool.false_eq_true, if_false, hl, if_true]
  rfl

/-- … and on a `var()`: the values it stands for are resolved with the custom property added to `seen`. -/
theorem resolveVar_var (env : Env) (seen : List String) (fuel : Nat) (name lname : String)
    (args dflt : List Tk) (v : String) (hc : checkVar (.fn name lname args) = true)
    (hl : (lname != "var") = false) (hp : parseArgs args false = some (.ident v :: dflt)) :
    resolveVar env seen (fuel + 1) (.fn name lname args) =
      ((varValues env seen (dashToUnderscore v) dflt).mapM
        (valueStep (resolveVar env (seen ++ [dashToUnderscore v]) fuel))).map
        (fun parts => some parts.flatten) := by
  simp only [resolveVar, hc, Bool.not_true, Bool.false_eq_true, if_false, hl, hp, bind, Except.bind]
  cases (varValues env seen (dashToUnderscore v) dflt).mapM
    (valueStep (resolveVar env (seen ++ [dashToUnderscore v]) fuel)) <;> rfl

theorem resolveVar_ok_of_no_var (env : Env) (seen : List String) (fuel : Nat) (t : Tk) (o : Option (List Tk))
    (hc : checkVar t = false) (h : resolveVar env seen fuel t = .ok o) : o = none := by
  cases fuel with
  | zero => cases h
  | succ f =>
    rw [resolveVar_of_no_var env seen f t hc] at h
    cases h
    rfl

theorem valueStep_ok (rv : Tk → R (Option (List Tk))) (a : Tk) (p : List Tk) (h : valueStep rv a = .ok p) :
    rv a = .ok (some p) ∨ (rv a = .ok none ∧ p = [a]) := by
  obtain ⟨o, hr, h⟩ := Except.bind_eq_ok h
  cases o with
  | none => cases h; exact Or.inr ⟨hr, rfl⟩
  | some r => cases h; exact Or.inl hr

theorem argStep_ok (rv : Tk → R (Option (List Tk))) (a : Tk) (p : List Tk) (h : argStep rv a = .ok p) :
    rv a = .ok (some p) ∨ (rv a = .ok none ∧ p = [a]) ∨ ((∀ n l xs, a ≠ .fn n l xs) ∧ p = [a]) := by
  cases a with
  | fn n l xs => exact (valueStep_ok rv _ p h).imp id Or.inl
  | ws | comma | ident _ | leaf _ => cases h; exact Or.inr (Or.inr ⟨nofun, rfl⟩)

/-- The three shapes of a successful call with fuel left. -/
theorem resolveVar_succ_cases (env : Env) (seen : List String) (fuel : Nat) (t : Tk) (r : Option (List Tk))
    (h : resolveVar env seen (fuel + 1) t = .ok r) :
    (checkVar t = false ∧ r = none) ∨
    (∃ name lname args parts o, t = .fn name lname args ∧ checkVar t = true ∧ (lname != "var") = true ∧
      args.mapM (argStep (resolveVar env seen fuel)) = .ok parts ∧
      resolveVar env seen fuel (.fn name lname parts.flatten) = .ok o ∧
      r = some (match o with
        | some r2 => if r2.isEmpty then [Tk.fn name lname parts.flatten] else r2
        | none => [Tk.fn name lname parts.flatten])) ∨
    (∃ name lname args v dflt parts, t = .fn name lname args ∧ checkVar t = true ∧ (lname != "var") = false ∧
      parseArgs args false = some (.ident v :: dflt) ∧
      (varValues env seen (dashToUnderscore v) dflt).mapM
        (valueStep (resolveVar env (seen ++ [dashToUnderscore v]) fuel)) = .ok parts ∧
      r = some parts.flatten) := by
  cases hc : checkVar t with
  | false =>
    left
    simp only [resolveVar, hc, Bool.not_false, if_true] at h
    cases h; exact ⟨rfl, rfl⟩
  | true =>
    right
    cases t with
    | fn name lname args =>
      by_cases hl : (lname != "var") = true
      · left
        rw [resolveVar_fn env seen fuel name lname args hc hl] at h
        obtain ⟨parts, hm, h⟩ := Except.bind_eq_ok h
        obtain ⟨o, h2, h⟩ := Except.bind_eq_ok h
        refine ⟨name, lname, args, parts, o, rfl, rfl, hl, hm, h2, ?_⟩
        cases o with
        | none => cases h; rfl
        | some r2 =>
          simp only at h
          split at h <;> (cases h; simp [*])
      · right
        have hl' : (lname != "var") = false := by simpa using hl
        obtain ⟨v, dflt, hp⟩ := checkVar_var_args name lname args hl' hc
        rw [resolveVar_var env seen fuel name lname args dflt v hc hl' hp] at h
        cases hm : (varValues env seen (dashToUnderscore v) dflt).mapM
            (valueStep (resolveVar env (seen ++ [dashToUnderscore v]) fuel)) with
        | error e => rw [hm] at h; cases h
        | ok parts =>
          rw [hm] at h
          cases h
          exact ⟨name, lname, args, v, dflt, parts, rfl, rfl, hl', hp, hm, rfl⟩
    | _ => simp [checkVar] at hc

theorem resolveVar_none (env : Env) (seen : List String) (fuel : Nat) (t : Tk)
    (h : resolveVar env seen fuel t = .ok none) :
    checkVar t = false := by
  cases fuel with
  | zero => cases h
  | succ fuel =>
    rcases resolveVar_succ_cases env seen fuel t _ h with ⟨hc, _⟩ | ⟨_, _, _, _, _, _, _, _, _, _, hr⟩ |
        ⟨_, _, _, _, _, _, _, _, _, _, _, hr⟩
    · exact hc
    · cases hr
    · cases hr

private theorem parts_no_var (rv : Tk → R (Option (List Tk))) (args : List Tk) (parts : List (List Tk))
    (hnone : ∀ t, rv t = .ok none → checkVar t = false)
    (hsome : ∀ t r, rv t = .ok (some r) → ∀ x ∈ r, checkVar x = false)
    (hm : args.mapM (argStep rv) = .ok parts) : ∀ x ∈ parts.flatten, checkVar x = false := by
  intro x hx
  obtain ⟨a, _, p, hfa, hxp⟩ := (List.mapM_eq_ok_rel2 hm).mem_flatten x hx
  rcases argStep_ok _ a p hfa with hra | ⟨hra, rfl⟩ | ⟨hleaf, rfl⟩
  · exact hsome a p hra x hxp
  · rw [List.mem_singleton.mp hxp]; exact hnone a hra
  · rw [List.mem_singleton.mp hxp]; exact checkVar_leaf a hleaf

theorem resolveVar_no_var (env : Env) :
    ∀ (fuel : Nat) (seen : List String) (t : Tk) (r : List Tk), resolveVar env seen fuel t = .ok (some r) →
      ∀ x ∈ r, checkVar x = false
  | 0, _, _, _, h => by cases h
  | fuel + 1, seen, t, r, h => by
    rcases resolveVar_succ_cases env seen fuel t _ h with ⟨_, hr⟩ |
        ⟨name, lname, args, parts, o, rfl, hc, hl, hm, h2, hr⟩ |
        ⟨name, lname, args, v, dflt, parts, rfl, hc, hl, hp, hm, hr⟩
    · cases hr
    · have hc' := checkVar_fn_false name lname parts.flatten hl
        (parts_no_var _ args parts (resolveVar_none env seen fuel) (resolveVar_no_var env fuel seen) hm)
      have ho := resolveVar_ok_of_no_var env seen fuel _ o hc' h2
      subst ho
      cases hr
      intro x hx
      rw [List.mem_singleton.mp hx]
      exact hc'
    · cases hr
      intro x hx
      obtain ⟨a, _, p, hfa, hxp⟩ := (List.mapM_eq_ok_rel2 hm).mem_flatten x hx
      rcases valueStep_ok _ a p hfa with hra | ⟨hra, rfl⟩
      · exact resolveVar_no_var env fuel _ a p hra x hxp
      · rw [List.mem_singleton.mp hxp]
        exact resolveVar_none env _ fuel a hra

/-- The rebuilt function of the non-`var` branch carries no detectable `var()`: the second `resolve_var` on it
returns `None` (so `… or (token,)` always takes `(token,)`). -/
theorem rebuilt_no_var (env : Env) (seen : List String) (fuel : Nat) (name lname : String) (args : List Tk)
    (parts : List (List Tk)) (hl : (lname != "var") = true)
    (hm : args.mapM (argStep (resolveVar env seen fuel)) = .ok parts) :
    checkVar (.fn name lname parts.flatten) = false :=
  checkVar_fn_false name lname parts.flatten hl
    (parts_no_var _ args parts (resolveVar_none env seen fuel) (resolveVar_no_var env fuel seen) hm)

theorem substWith_of_no_var (fb : List Tk → List Tk) (env : Env) (fuel : Nat) (t : Tk) (h : checkVar t = false) :
    substWith fb env fuel t = some [t] := by
  unfold substWith; simp [h]

/-! ### References between custom properties -/

/-- Custom-property names (underscore form, as `computed[...]` is indexed) of the identifiers that are direct
arguments of a function. -/
def identNames : List Tk → List String
  | [] => []
  | .ident v :: rest => dashToUnderscore v :: identNames rest
  | _ :: rest => identNames rest

mutual
/-- Every custom property a token may refer to: the identifier arguments of every function called `var`, at
any depth (an over-approximation of what `resolve_var` looks up). -/
def refs : Tk → List String
  | .fn _ l args => (if l == "var" then identNames args else []) ++ refsList args
  | _ => []
def refsList : List Tk → List String
  | [] => []
  | t :: rest => refs t ++ refsList rest
end

/-- The reference graph of the custom properties is acyclic: a rank decreases along every reference. -/
def Acyclic (env : Env) (rk : String → Nat) : Prop :=
  ∀ n, ∀ m ∈ refsList (env n), rk m < rk n

theorem refsList_eq_flatMap : ∀ l : List Tk, refsList l = l.flatMap refs
  | [] => rfl
  | t :: rest => by rw [refsList, List.flatMap_cons, refsList_eq_flatMap rest]

theorem refsList_mem (l : List Tk) (a : Tk) (h : a ∈ l) : ∀ m ∈ refs a, m ∈ refsList l := fun m hm => by
  rw [refsList_eq_flatMap]; exact List.mem_flatMap.mpr ⟨a, h, hm⟩

theorem refsList_of_mem (l : List Tk) (m : String) (h : m ∈ refsList l) : ∃ a ∈ l, m ∈ refs a := by
  rw [refsList_eq_flatMap] at h; exact List.mem_flatMap.mp h

theorem identNames_mem : ∀ (l : List Tk) (v : String), Tk.ident v ∈ l → dashToUnderscore v ∈ identNames l
  | [], v, h => by cases h
  | t :: rest, v, h => by
    simp only [List.mem_cons] at h
    rcases h with rfl | h
    · simp [identNames]
    · have := identNames_mem rest v h
      cases t <;> simp [identNames, this]

theorem parseArgs_mem : ∀ (a : List Tk) (b : Bool) (out : List Tk), parseArgs a b = some out →
    ∀ x ∈ out, x ∈ a
  | [], b, out, h, x, hx => by
    cases b <;> simp [parseArgs] at h
    subst h; cases hx
  | t :: rest, b, out, h, x, hx => by
    rcases parseArgs_cons_some t rest b out h with ⟨_, h'⟩ | ⟨_, _, h'⟩ | ⟨_, _, d, h', rfl⟩
    · exact List.mem_cons_of_mem _ (parseArgs_mem rest b out h' x hx)
    · exact List.mem_cons_of_mem _ (parseArgs_mem rest true out h' x hx)
    · rcases List.mem_cons.mp hx with rfl | hx
      · exact List.mem_cons_self
      · exact List.mem_cons_of_mem _ (parseArgs_mem rest false d h' x hx)

/-! ### What one call of `resolve_var` calls -/

/-- The recursive calls that `resolve_var` makes on `(seen, t)`: on the arguments of a function that is not
`var()`; on the fallback of a `var()` whose custom property is under substitution or empty; on the value of its
custom property when that is met for the first time and not empty.  The flag says whether the call enters the
value of a custom property (the only call whose token is not a part of `t`). -/
inductive Calls (env : Env) : Bool → List String × Tk → List String × Tk → Prop
  | arg {seen name lname args a} : (lname != "var") = true → a ∈ args →
      Calls env false (seen, .fn name lname args) (seen, a)
  | fallback {seen name lname args v dflt x} : (lname != "var") = false →
      parseArgs args false = some (.ident v :: dflt) →
      seen.contains (dashToUnderscore v) = true ∨ (env (dashToUnderscore v)).isEmpty = true → x ∈ dflt →
      Calls env false (seen, .fn name lname args) (seen ++ [dashToUnderscore v], x)
  | value {seen name lname args v dflt x} : (lname != "var") = false →
      parseArgs args false = some (.ident v :: dflt) → seen.contains (dashToUnderscore v) = false →
      (env (dashToUnderscore v)).isEmpty = false → x ∈ env (dashToUnderscore v) →
      Calls env true (seen, .fn name lname args) (seen ++ [dashToUnderscore v], x)

/-- The tokens a `var()` stands for are called, one way or the other. -/
theorem calls_of_mem_varValues {env : Env} {seen : List String} {name lname : String} {args dflt : List Tk}
    {v : String} {x : Tk} (hl : (lname != "var") = false) (hp : parseArgs args false = some (.ident v :: dflt))
    (hx : x ∈ varValues env seen (dashToUnderscore v) dflt) :
    ∃ b, Calls env b (seen, .fn name lname args) (seen ++ [dashToUnderscore v], x) := by
  unfold varValues at hx
  split at hx
  · exact ⟨_, .fallback hl hp (Or.inl ‹_›) hx⟩
  · split at hx
    · exact ⟨_, .fallback hl hp (Or.inr ‹_›) hx⟩
    · rename_i h1 h2
      exact ⟨_, .value hl hp (Bool.eq_false_iff.mpr h1) (Bool.eq_false_iff.mpr h2) hx⟩

/-- A call that does not enter a custom property is on a part of the token … -/
theorem Calls.sizeOf_lt {env : Env} {c c' : List String × Tk} (h : Calls env false c c') :
    sizeOf c'.2 < sizeOf c.2 := by
  cases h with
  | arg hl ha => have := List.sizeOf_lt_of_mem ha; simp only [Tk.fn.sizeOf_spec]; omega
  | fallback hl hp _ hx =>
    have := List.sizeOf_lt_of_mem (parseArgs_mem _ false _ hp _ (List.mem_cons_of_mem _ hx))
    simp only [Tk.fn.sizeOf_spec]; omega

/-- … and refers to no other custom property than the token does. -/
theorem Calls.refs_subset {env : Env} {c c' : List String × Tk} (h : Calls env false c c') :
    ∀ m ∈ refs c'.2, m ∈ refs c.2 := by
  intro m hm
  cases h with
  | arg _ ha => simp only [refs, List.mem_append]; exact Or.inr (refsList_mem _ _ ha m hm)
  | fallback _ hp _ hx =>
    simp only [refs, List.mem_append]
    exact Or.inr (refsList_mem _ _ (parseArgs_mem _ false _ hp _ (List.mem_cons_of_mem _ hx)) m hm)

theorem var_name_mem_refs {name lname : String} {args dflt : List Tk} {v : String} (hl : (lname != "var") = false)
    (hp : parseArgs args false = some (.ident v :: dflt)) : dashToUnderscore v ∈ refs (Tk.fn name lname args) := by
  have hlv : (lname == "var") = true := by simpa [bne] using hl
  simp only [refs, hlv, if_true, List.mem_append]
  exact Or.inl (identNames_mem args v (parseArgs_mem args false _ hp _ (by simp)))

end Wp.C07
