/-
The cut lemma behind the page-level C04 theorems: if two adjacent siblings `a`, `b` (anywhere in the tree)
meet at a forced break or a change of page name, a layout that starts before `b` never goes past the
boundary: it returns a resume position that is still before the boundary, or exactly the boundary, and then
its `next_page` carries the resolved break value and `b`'s page name.
-/
import WpModel.Lemmas.Pm2EndValid

namespace Wp.PM
open Wp

/-- `SibAt box π j a b`: following the child indexes `π` from `box` one reaches a block whose children number
`j` and `j + 1` are `a` and `b`. -/
def SibAt : PBox → List Nat → Nat → PBox → PBox → Prop
  | .block _ _ kids, [], j, a, b => kids[j]? = some a ∧ kids[j + 1]? = some b
  | .block _ _ kids, i :: π, j, a, b => ∃ k, kids[i]? = some k ∧ SibAt k π j a b
  | .para _ _ _ _, _, _, _, _ => False

/-- The resume position "start of `b`" (`{i₀: {i₁: … {j+1: None}}}`). -/
def resAt : List Nat → Nat → Resume
  | [], j => .node (j + 1) none
  | i :: π, j => .node i (some (resAt π j))

/-- The resume position lies before the start of `b` (child `j + 1` of the block at `π`). -/
def Before : Option Resume → List Nat → Nat → Prop
  | σ, [], j => skipIdxOf σ ≤ j
  | σ, i :: π, j => skipIdxOf σ < i ∨ (skipIdxOf σ = i ∧ Before (subSkipOf σ) π j)

theorem before_none (π : List Nat) (j : Nat) : Before none π j := by
  induction π with
  | nil => simp [Before]
  | cons i π ih =>
    simp only [Before, skipIdxOf_none, subSkipOf_none]
    cases i with
    | zero => right; exact ⟨rfl, ih⟩
    | succ i => left; omega

/-- The pending break recorded when the loop stops at the boundary. -/
def cutPage (a b : PBox) : NextPage :=
  { brk := some (resolve (valuesBetween a b)), page := some (boxPageStart b) }

/-- Outcome of a children loop that started before `b`: it does not finish; if it stops, then before the boundary,
or exactly at it with `np` pending. -/
def CutOut (π : List Nat) (j : Nat) (np : NextPage) : KidsOutcome → Prop
  | .finished _ => False
  | .aborted _ _ => True
  | .stopped ρ s' => ∃ r, ρ = some r ∧ (Before (some r) π j ∨ (r = resAt π j ∧ s'.nextPage = np))

theorem fullFrom_getLast {fs : List Frag} {B : List PBox} {i : Nat} {sub : Option Resume} {a : PBox}
    (h : FullFrom fs B i sub) (ha : B.getLast? = some a) : ∃ l, fs.getLast? = some l := by
  cases fs with
  | nil =>
    have hB : B = [] := h
    rw [hB] at ha
    cases ha
  | cons x xs => exact ⟨_, List.getLast?_eq_some_getLast (List.cons_ne_nil x xs)⟩

/-- `meetBreak` reads the source values when the last placed sibling is complete. -/
theorem meetBreak_source (s : KidsLoop) (child : PBox) (l : Frag) (a : PBox)
    (hl : s.newChildren.getLast? = some l) (he : EndOk l a) :
    meetBreak s child = (resolve (valuesBetween a child), meets a child) := by
  unfold meetBreak
  simp only [hl]
  unfold breakBetween meets valuesBetween
  rw [he.1, he.2]

theorem before_node_lt {k i : Nat} (sub : Option Resume) (π : List Nat) (j : Nat) (h : k < i) :
    Before (some (.node k sub)) (i :: π) j := by
  rw [Before]
  exact Or.inl h

theorem before_node_le {k i : Nat} (π : List Nat) (j : Nat) (h : k ≤ i) :
    Before (some (.node k none)) (i :: π) j := by
  rw [Before]
  exact (Nat.lt_or_eq_of_le h).imp_right fun e => ⟨e, before_none π j⟩

/-- The children loop of the block that holds `a` and `b`, which are children `j` and `j + 1` of what is placed
and what is left. -/
theorem kids_cut_here (c : Ctx) (st : PStyle) (bs : Rat) (pie : Bool) (i0 : Nat) (sub0 : Option Resume)
    (a b : PBox) (hm : meets a b = true) (j : Nat) :
    (rest : List PBox) → GoodList rest → ∀ (B : List PBox) (index : Nat) (s : KidsLoop),
    Placed s B i0 sub0 index → EndOkLast s.newChildren B → (∀ x, (B ++ rest).head? = some x → Valid x sub0) →
    (B ++ rest)[j]? = some a → (B ++ rest)[j + 1]? = some b → B.length ≤ j + 1 →
    CutOut [] (i0 + j) (cutPage a b) (layoutKids c st rest index i0 bs pie s)
  | [] => by
    intro _ B index s _ _ _ _ hb hle
    rw [List.append_nil, List.getElem?_eq_none hle] at hb
    cases hb
  | child :: rest => by
    intro hg B index s hp hend hv ha hb hle
    have hidx := hp.index_eq
    rw [layoutKids_cons hp.not_skipped]
    by_cases hat : B.length = j + 1
    · -- the loop reaches `b`: the break is forced here
      have hchild : child = b := by
        rw [← hat, List.getElem?_append_right (Nat.le_refl _), Nat.sub_self] at hb
        exact Option.some.inj hb
      subst hchild
      have hlast : B.getLast? = some a := by
        rw [List.getElem?_append_left (by omega)] at ha
        rw [List.getLast?_eq_getElem?, hat]
        exact ha
      obtain ⟨l, hl⟩ := fullFrom_getLast hp.full hlast
      rw [meetBreak_source s child l a hl (endOkLast_getLast hend hl hlast)]
      simp only [hm, ↓reduceIte, CutOut]
      refine ⟨_, rfl, Or.inr ⟨?_, rfl⟩⟩
      rw [hidx, hat]
      rfl
    · have hlej : index ≤ i0 + j := hidx ▸ Nat.add_le_add_left (Nat.le_of_lt_succ (Nat.lt_of_le_of_ne hle hat)) i0
      split
      · exact ⟨_, rfl, Or.inl hlej⟩
      · obtain ⟨_, _, hnext⟩ :=
          hp.visit c st child rest bs pie (meetBreak s child).1 hg.1 (box_ev child) hv
        split
        · rename_i out s3 heq
          rcases hp.stops c st child rest bs pie _ hv out s3 heq with
            ⟨_, _, rfl⟩ | ⟨m, sub, s', rfl, hm⟩ | ⟨s', rfl⟩ | ⟨f, r', _, _, rfl⟩
          · trivial
          · exact ⟨_, rfl, Or.inl (Nat.le_trans
              (Nat.le_of_lt (hidx ▸ Nat.add_lt_add_left (validKids_lt hm) i0)) hlej)⟩
          · exact ⟨_, rfl, Or.inl hlej⟩
          · exact ⟨_, rfl, Or.inl hlej⟩
        · rename_i s3 heq
          have happ : (B ++ [child]) ++ rest = B ++ child :: rest := List.append_assoc B [child] rest
          refine kids_cut_here c st bs pie i0 sub0 a b hm j rest hg.2 (B ++ [child]) (index + 1) s3
            (hnext s3 heq).1 ((hnext s3 heq).2 hend) ?_ ?_ ?_ ?_
          · rwa [happ]
          · rwa [happ]
          · rwa [happ]
          · rw [List.length_append, List.length_singleton]
            exact Nat.succ_le_of_lt (Nat.lt_of_le_of_ne hle hat)

/-- The cut lemma for one box (`box_cut`), as the children loop of its parent assumes it. -/
def BoxCut (box : PBox) : Prop :=
  Good box → ∀ (c : Ctx) (idx : Nat) (y bs : Rat) (skip : Option Resume)
    (cb pie : Bool) (adjL : List Rat) (π : List Nat) (j : Nat) (a b : PBox),
    Valid box skip → SibAt box π j a b → meets a b = true → Before skip π j →
    ∀ f, (layoutBox c box idx y bs skip cb pie adjL).frag = some f →
      ∃ r, (layoutBox c box idx y bs skip cb pie adjL).resume = some r ∧
        (Before (some r) π j ∨
          (r = resAt π j ∧ (layoutBox c box idx y bs skip cb pie adjL).nextPage = cutPage a b))

/-- The running children loop of an ancestor of the block that holds `a` and `b` (`k` = child `i` on the way). -/
theorem Placed.kids_cut_deep (c : Ctx) (st : PStyle) (bs : Rat) (pie : Bool) (i0 : Nat) (sub0 : Option Resume)
    (i : Nat) (π : List Nat) (j : Nat) (a b k : PBox) (hsib : SibAt k π j a b) (hm : meets a b = true)
    (hbef : i0 = i → Before sub0 π j) :
    (rest : List PBox) → GoodList rest → (∀ x ∈ rest, BoxCut x) → ∀ (B : List PBox) (index : Nat) (s : KidsLoop),
    Placed s B i0 sub0 index → (∀ x, (B ++ rest).head? = some x → Valid x sub0) →
    (B ++ rest)[i - i0]? = some k → index ≤ i →
    CutOut (i :: π) j (cutPage a b) (layoutKids c st rest index i0 bs pie s)
  | [] => by
    intro _ _ B index s hp _ hk hle
    rw [List.append_nil] at hk
    have := hp.index_eq
    have hklt : i - i0 < B.length := by
      rcases Nat.lt_or_ge (i - i0) B.length with h | h
      · exact h
      · rw [List.getElem?_eq_none h] at hk; cases hk
    omega
  | child :: rest => by
    intro hg hcut B index s hp hv hk hle'
    have hidx := hp.index_eq
    rw [layoutKids_cons hp.not_skipped]
    split
    · exact ⟨_, rfl, Or.inl (before_node_le π j hle')⟩
    · obtain ⟨bs', adj, hR, hfr, _, hnp, _⟩ := kidResult_spec c st child index bs pie s
      obtain ⟨hvchild, _, hnext⟩ := hp.visit c st child rest bs pie (meetBreak s child).1 hg.1 (box_ev child) hv
      have hstops := hp.stops c st child rest bs pie (meetBreak s child).1 hv
      generalize kidResult c st child index bs pie s = kr at hR hfr hnp hstops hnext ⊢
      obtain ⟨frag, R, s2⟩ := kr
      simp only at hR hfr hnp hstops hnext ⊢
      -- the child on the way to the boundary is cut there or before
      have hcut' : index = i → ∀ f, frag = some f → ∃ r, R.resume = some r ∧
          (Before (some r) π j ∨ (r = resAt π j ∧ R.nextPage = cutPage a b)) := by
        intro hat f hf
        have hck : child = k := by
          have hBlen : B.length = i - i0 := by rw [← hat, hidx, Nat.add_sub_cancel_left]
          rw [← hBlen, List.getElem?_append_right (Nat.le_refl _), Nat.sub_self] at hk
          exact Option.some.inj hk
        subst hck
        have hbs : Before s.skip π j := by
          rw [hp.skip_eq]
          split
          · rename_i hB
            rw [hB, List.length_nil, Nat.add_zero] at hidx
            exact hbef (hidx.symm.trans hat)
          · exact before_none π j
        have hfR : R.frag = some f := by
          rcases hfr with e | e
          · rw [e] at hf; cases hf
          · rw [← e]; exact hf
        rw [hR] at hfR ⊢
        exact hcut child List.mem_cons_self hg.1 c index s.posY bs' s.skip st.isRoot (pie && s.newChildren.isEmpty) adj
          π j a b hvchild hsib hm hbs f hfR
      -- a stop before child `i` is `Before` the boundary; at child `i` the child's own cut decides; the loop does not
      -- pass child `i`, because a cut child returns a resume position
      split
      · rename_i out s3 heq
        rcases hstops out s3 heq with
          ⟨_, _, rfl⟩ | ⟨m, sub, s', rfl, hm⟩ | ⟨s', rfl⟩ | ⟨f, r', hf, hr', rfl⟩
        · trivial
        · exact ⟨_, rfl, Or.inl (before_node_lt _ π j (Nat.lt_of_lt_of_le
            (hidx ▸ Nat.add_lt_add_left (validKids_lt hm) i0) hle'))⟩
        · exact ⟨_, rfl, Or.inl (before_node_le π j hle')⟩
        · by_cases hat : index = i
          · obtain ⟨r, hr, hcase⟩ := hcut' hat f hf
            rw [hr'] at hr
            obtain rfl := Option.some.inj hr
            refine ⟨_, rfl, ?_⟩
            rcases hcase with h | ⟨h1, h2⟩
            · exact Or.inl (Or.inr ⟨hat, h⟩)
            · refine Or.inr ⟨by rw [h1, hat]; rfl, ?_⟩
              simp only
              rw [hnp]; exact h2
          · exact ⟨_, rfl, Or.inl (before_node_lt _ π j (Nat.lt_of_le_of_ne hle' hat))⟩
      · rename_i s3 heq
        have hlt' : index < i := by
          refine Nat.lt_of_le_of_ne hle' (fun hat => ?_)
          obtain ⟨f, hf, hrn, _⟩ := conclude_continue heq
          obtain ⟨r, hr, _⟩ := hcut' hat f hf
          rw [hrn] at hr; cases hr
        have happ : (B ++ [child]) ++ rest = B ++ child :: rest := List.append_assoc B [child] rest
        rw [← happ] at hv hk
        exact Placed.kids_cut_deep c st bs pie i0 sub0 i π j a b k hsib hm hbef rest hg.2
          (fun x hx => hcut x (List.mem_cons_of_mem _ hx)) (B ++ [child]) (index + 1) s3 (hnext s3 heq).1 hv hk hlt'

/-- **Cut lemma** for `block_level_layout`. -/
theorem box_cut : ∀ box, BoxCut box := by
  refine PBox.induct ?_ ?_
  · intro id n lineH st _ c idx y bs skip cb pie adjL π j a b _ hs
    cases π <;> exact hs.elim
  · intro id st kids ih hg c idx y bs skip cb pie adjL π j a b hv hs hm hbef f hf
    simp only [Good] at hg
    simp only [layoutBox] at hf ⊢
    obtain ⟨_, hres, hnp⟩ := finishBlock_shape hg.1 hf
    rw [hres]
    have hkids : kids ≠ [] := by
      intro he; subst he
      cases π <;> simp [SibAt] at hs
    have hvk : ValidKids kids (skipIdxOf skip) (subSkipOf skip) := by
      simp only [Valid] at hv
      exact hv.resolve_left hkids
    have hv0 := validKids_head_drop hvk
    generalize prepare c st y bs skip cb pie adjL = p at hf hres hnp ⊢
    generalize hs0 : KidsLoop.mk [] p.posY p.adjL p.cur p.curIsL _ (subSkipOf skip) = s0 at hf hres hnp ⊢
    have hnc : s0.newChildren = [] := by rw [← hs0]
    have hsk : s0.skip = subSkipOf skip := by rw [← hs0]
    have hstart := layoutKids_start c st p.bs pie s0 (skipIdxOf skip) kids 0
    rw [Nat.zero_add] at hstart
    have hout : CutOut π j (cutPage a b) (layoutKids c st kids 0 (skipIdxOf skip) p.bs pie s0) := by
      rw [hstart]
      cases π with
      | nil =>
        obtain ⟨j', rfl⟩ := Nat.exists_eq_add_of_le hbef
        refine kids_cut_here c st _ pie (skipIdxOf skip) (subSkipOf skip) a b hm j' _ (goodList_drop kids _ hg.2) [] _ _
          (hsk ▸ placed_start _ _ hnc) (hnc ▸ endOkLast_nil) hv0 ?_ ?_ (Nat.zero_le _)
        · rw [List.nil_append, List.getElem?_drop]; exact hs.1
        · rw [List.nil_append, List.getElem?_drop, ← Nat.add_assoc]; exact hs.2
      | cons i π' =>
        obtain ⟨k, hk, hsk'⟩ := hs
        have hle : skipIdxOf skip ≤ i := by
          rcases hbef with h | h
          · exact Nat.le_of_lt h
          · exact Nat.le_of_eq h.1
        refine Placed.kids_cut_deep c st _ pie (skipIdxOf skip) (subSkipOf skip) i π' j a b k hsk' hm
          (fun he => (hbef.resolve_left (he ▸ Nat.lt_irrefl _)).2) _ (goodList_drop kids _ hg.2)
          (fun x hx => ih x (List.mem_of_mem_drop hx)) [] _ s0 (hsk ▸ placed_start _ _ hnc) hv0 ?_ hle
        rw [List.nil_append, List.getElem?_drop, Nat.add_sub_cancel' hle]
        exact hk
    generalize layoutKids c st kids 0 (skipIdxOf skip) p.bs pie s0 = out at hout hf hres hnp ⊢
    cases out with
    | aborted page s => simp [finishBlock, abortResult] at hf
    | finished s' => exact hout.elim
    | stopped ρ s' =>
      obtain ⟨r, rfl, hcase⟩ := hout
      refine ⟨r, rfl, ?_⟩
      rcases hcase with h | ⟨h1, h2⟩
      · exact Or.inl h
      · refine Or.inr ⟨h1, ?_⟩
        rw [hnp (boxPageStart b) (by simp only [KidsOutcome.state, h2, cutPage]), KidsOutcome.state, h2]

/-- `Placed.kids_cut_deep` for any call of the loop (`index`, `skipIdx`, `B`, `i0` as in `kids_spec`). -/
theorem kids_cut_deep : (rest : List PBox) → GoodList rest → ∀ (c : Ctx) (st : PStyle) (B : List PBox) (i0 : Nat)
    (sub0 : Option Resume) (index skipIdx : Nat) (bs : Rat) (pie : Bool) (s : KidsLoop)
    (i : Nat) (π : List Nat) (j : Nat) (a b k : PBox),
    GoodList B → FullFrom s.newChildren B i0 sub0 →
    (index < skipIdx → B = [] ∧ i0 = skipIdx) → (skipIdx ≤ index → index = i0 + B.length) →
    s.skip = (if B = [] then sub0 else none) →
    (∀ b, B.head? = some b → Valid b sub0) →
    (B = [] → ∀ child, (rest.drop (skipIdx - index)).head? = some child → Valid child sub0) →
    i0 ≤ i → (B ++ rest.drop (skipIdx - index))[i - i0]? = some k →
    (skipIdx ≤ index → index ≤ i) → SibAt k π j a b → meets a b = true →
    (i0 = i → Before sub0 π j) →
    CutOut (i :: π) j (cutPage a b) (layoutKids c st rest index skipIdx bs pie s) := by
  intro rest hg c st B i0 sub0 index skipIdx bs pie s i π j a b k hgB hinv hlt hge hskip hBv hcv hi0 hk hle hsib hm hbef
  rw [layoutKids_normal c st bs pie rest B index skipIdx i0 s hlt hge]
  refine Placed.kids_cut_deep c st bs pie i0 sub0 i π j a b k hsib hm hbef _ (goodList_drop rest _ hg)
    (fun x _ => box_cut x) B _ s ⟨hinv, rfl, hskip⟩ (by cases B with | nil => exact hcv rfl | cons _ _ => exact hBv)
    hk ?_
  by_cases hc : index < skipIdx
  · obtain ⟨hB, rfl⟩ := hlt hc
    rw [hB]; exact hi0
  · exact hge (Nat.le_of_not_lt hc) ▸ hle (Nat.le_of_not_lt hc)

end Wp.PM
