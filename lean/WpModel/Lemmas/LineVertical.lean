/-
Lemmas for the vertical half of C09 (`Model/LineVertical.lean`).  Core Lean only.
-/
import WpModel.Model.LineVertical
import WpModel.Lemmas.Basic.List
import WpModel.Lemmas.Basic.Rat

namespace Wp.C09L
open Wp Wp.LV

def nodeStyle : VNode → VStyle
  | .text st => st
  | .box st _ => st

/-- the interval `[top, bottom]` lies inside the running extent -/
def Ext.Contains (e : Ext) (top bottom : Rat) : Prop :=
  ∃ mx mn, e = some (mx, mn) ∧ mn ≤ top ∧ bottom ≤ mx

/-- the running minimum of `Ext.add`, written with `if` as in the model (the maximum is `Rat.le_ite_gt`) -/
theorem ite_lt_le (a b : Rat) : (if a < b then a else b) ≤ a ∧ (if a < b then a else b) ≤ b := by
  split
  · rename_i h; exact ⟨Rat.le_refl, Rat.le_of_lt h⟩
  · rename_i h; exact ⟨Rat.not_lt.mp h, Rat.le_refl⟩

theorem Ext.add_self (e : Ext) (top bottom : Rat) : Ext.Contains (e.add top bottom) top bottom := by
  cases e with
  | none => exact ⟨bottom, top, rfl, Rat.le_refl, Rat.le_refl⟩
  | some p =>
    obtain ⟨mx, mn⟩ := p
    exact ⟨_, _, rfl, (ite_lt_le top mn).1, (Rat.le_ite_gt bottom mx).1⟩

mutual
def allBoxes : VBox → List VBox
  | .text y h mt mb b va => [.text y h mt mb b va]
  | .box y h mt mb b st kids => .box y h mt mb b st kids :: allBoxesL kids
def allBoxesL : List VBox → List VBox
  | [] => []
  | k :: ks => allBoxes k ++ allBoxesL ks
end

mutual
def noTB : VBox → Bool
  | .text _ _ _ _ _ va => !va.isTopBottom
  | .box _ _ _ _ _ st kids => !st.va.isTopBottom && noTBL kids
def noTBL : List VBox → Bool
  | [] => true
  | k :: ks => noTB k && noTBL ks
end

mutual
/-- without `top` / `bottom` boxes `translate_subtree` is never called: nothing moves -/
theorem shift_noTB (a b : Rat) : ∀ (k : VBox), noTB k = true → shift a b 0 k = k
  | .text y h mt mb base va, hn => by
    simp only [noTB, Bool.not_eq_true'] at hn
    simp [shift, hn, Rat.add_zero]
  | .box y h mt mb base st kids, hn => by
    simp only [noTB, Bool.and_eq_true, Bool.not_eq_true'] at hn
    unfold shift
    simp only [hn.1, Bool.false_eq_true, if_false, Rat.add_zero, shiftL_noTB a b kids hn.2]
theorem shiftL_noTB (a b : Rat) : ∀ (ks : List VBox), noTBL ks = true → shiftL a b 0 ks = ks
  | [], _ => by simp [shiftL]
  | k :: ks, hn => by
    simp only [noTBL, Bool.and_eq_true] at hn
    simp only [shiftL, shift_noTB a b k hn.1, shiftL_noTB a b ks hn.2]
end

mutual
theorem allBoxes_translateY (dy : Rat) : ∀ (k : VBox) (d' : VBox), d' ∈ allBoxes (translateY dy k) →
    ∃ d ∈ allBoxes k, d'.y = d.y + dy ∧ d'.marginHeight = d.marginHeight
  | .text y h mt mb base va, d', hd => by
    simp only [translateY, allBoxes, List.mem_singleton] at hd
    subst hd
    exact ⟨.text y h mt mb base va, by simp [allBoxes], rfl, rfl⟩
  | .box y h mt mb base st kids, d', hd => by
    simp only [translateY, allBoxes, List.mem_cons] at hd
    rcases hd with hd | hd
    · subst hd
      exact ⟨.box y h mt mb base st kids, by simp [allBoxes], rfl, rfl⟩
    · obtain ⟨d, hm, h1, h2⟩ := allBoxesL_translateY dy kids d' hd
      exact ⟨d, by simp [allBoxes, hm], h1, h2⟩
theorem allBoxesL_translateY (dy : Rat) : ∀ (ks : List VBox) (d' : VBox), d' ∈ allBoxesL (translateYL dy ks) →
    ∃ d ∈ allBoxesL ks, d'.y = d.y + dy ∧ d'.marginHeight = d.marginHeight
  | [], d', hd => by simp [translateYL, allBoxesL] at hd
  | k :: ks, d', hd => by
    simp only [translateYL, allBoxesL, List.mem_append] at hd
    rcases hd with hd | hd
    · obtain ⟨d, hm, h1, h2⟩ := allBoxes_translateY dy k d' hd
      exact ⟨d, by simp [allBoxesL, hm], h1, h2⟩
    · obtain ⟨d, hm, h1, h2⟩ := allBoxesL_translateY dy ks d' hd
      exact ⟨d, by simp [allBoxesL, hm], h1, h2⟩
end

mutual
def noTBNode : VNode → Bool
  | .text st => !st.va.isTopBottom
  | .box st kids => !st.va.isTopBottom && noTBNodeL kids
def noTBNodeL : List VNode → Bool
  | [] => true
  | k :: ks => noTBNode k && noTBNodeL ks
end

mutual
theorem build_noTB : ∀ (n : VNode), noTBNode n = true → noTB (build n) = true
  | .text st, h => by simpa [build, noTB, noTBNode] using h
  | .box st kids, h => by
    simp only [noTBNode, Bool.and_eq_true] at h
    simp only [build, noTB, Bool.and_eq_true]
    exact ⟨h.1, buildL_noTB kids h.2⟩
theorem buildL_noTB : ∀ (ns : List VNode), noTBNodeL ns = true → noTBL (buildL ns) = true
  | [], _ => rfl
  | n :: ns, h => by
    simp only [noTBNodeL, Bool.and_eq_true] at h
    simp only [buildL, noTBL, Bool.and_eq_true]
    exact ⟨build_noTB n h.1, buildL_noTB ns h.2⟩
end

/-- the running maximum of `mn + e` over the pending `top` / `bottom` extents is above its start and above each -/
theorem foldl_max_ge (mn : Rat) (es : List Rat) (m : Rat) :
    m ≤ es.foldl (fun m e => if mn + e > m then mn + e else m) m ∧
    ∀ e ∈ es, mn + e ≤ es.foldl (fun m e => if mn + e > m then mn + e else m) m :=
  List.foldl_bound (g := (mn + ·)) (fun _ => Rat.le_refl) Rat.le_trans (fun m e => (Rat.le_ite_gt (mn + e) m).2)
    (fun m e => (Rat.le_ite_gt (mn + e) m).1) es m

end Wp.C09L
