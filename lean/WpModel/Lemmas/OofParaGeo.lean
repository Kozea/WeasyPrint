/-
Geometry of the paragraph part of the extended model: a placed line (at the position `avoid_collisions`
gave it, below the floats) fits on the page unless it is the first line placed on an empty page.
-/
import WpModel.Lemmas.OofLines
import WpModel.Lemmas.ParaGeo

namespace Wp.PMO
open Wp Wp.PM

theorem lineboxLayout_lines (c : Ctx) (st : PStyle) (b : BoxSt) (n : Nat) (lineH : Rat) (pie : Bool)
    (adj : List Rat) (bs posY : Rat) (skip : Option Resume) (dbd : Bool) (shapes : List Shape) :
    (lineboxLayout c st b n lineH pie adj bs posY skip dbd shapes).lines =
      outLines (lineboxLoop c st b n lineH pie adj bs posY skip dbd shapes) := by
  unfold lineboxLayout
  split <;> simp_all [outLines]

/-- The lines `_linebox_layout` keeps fit, the first one excepted when the page was empty. -/
theorem lineboxLayout_fits (c : Ctx) (st : PStyle) (b : BoxSt) (n : Nat) (lineH : Rat) (pie : Bool)
    (adj : List Rat) (bs posY : Rat) (skip : Option Resume) (dbd : Bool) (shapes : List Shape)
    (hdeco : 0 ≤ b.bb + b.pb) :
    ∀ p ∈ (lineboxLayout c st b n lineH pie adj bs posY skip dbd shapes).lines,
      LineFitsG (c.overflowsPage bs) lineH pie (skipLine skip) p := by
  rw [lineboxLayout_lines, lineboxLoop, lineLoop_eq_G]
  exact lineLoopG_fits _ st b n lineH pie (not_overflowsPage_of_le c bs) (skipLine skip) _ _ _ _ hdeco (fun _ => rfl)
    (by simp)

/-! ### `avoid_collisions` only pushes down -/

theorem minRat_mem (l : List Rat) (m : Rat) (h : minRat l = some m) : m ∈ l := by
  induction l generalizing m with
  | nil => simp [minRat] at h
  | cons x xs ih =>
    simp only [minRat] at h
    cases hx : minRat xs with
    | none => rw [hx] at h; simp at h; simp [h]
    | some m' =>
      rw [hx] at h
      simp only [Option.some.injEq] at h
      split at h
      · simp [← h]
      · rw [← h]; simp [ih m' hx]

theorem avoidY_ge (shapes : List Shape) (h : Rat) (fuel : Nat) (y : Rat) : y ≤ avoidY shapes h fuel y := by
  induction fuel generalizing y with
  | zero => simp [avoidY]
  | succ k ih =>
    unfold avoidY
    dsimp only
    split
    · exact Rat.le_refl
    · rename_i y' hm
      have hmem := minRat_mem _ _ hm
      simp only [List.mem_filter, decide_eq_true_eq] at hmem
      exact Rat.le_trans (Rat.le_of_lt hmem.2) (ih y')

end Wp.PMO
