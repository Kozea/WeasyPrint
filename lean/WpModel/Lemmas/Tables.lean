/-
The anonymous-table rules of Model/AnonBoxes.lean.  `wrap_improper` by its rule induction (`wrapImproper_run`) and
what follows from it; `table_boxes_children` as rules 1.1–1.4 (`preKids`) followed by the three wrapping steps
(`tbcStep1..3`, `tbc_cases`); the sorting and the row-group order of `wrap_table`; `anonymous_table_boxes` by
`atb_cases`.
-/
import WpModel.Model.AnonBoxes
import WpModel.Lemmas.WrapTable

namespace Wp.Bx
open KBox

/-- A table wrapper: the anonymous block / inline-block `wrap_table` returns. -/
def IsWrapper (w : KBox) : Prop :=
  w.inst.wrapper = true ∧ (w.kind = .BlockBox ∨ w.kind = .InlineBlockBox)

theorem initInst_wrapper (cls : BoxKind) (e : El) : (initInst cls e).wrapper = false := by
  unfold initInst; split <;> rfl

theorem anonFrom_kind (cls : BoxKind) (p : KBox) (ks : List KBox) : (anonFrom cls p ks).kind = cls := rfl

theorem anonFrom_wrapper (cls : BoxKind) (p : KBox) (ks : List KBox) :
    (anonFrom cls p ks).inst.wrapper = false := by
  simp [anonFrom, KBox.inst, initInst_wrapper]

theorem wrapTable_isWrapper (n : Nat) (box : KBox) (children : List KBox) (w : KBox)
    (h : wrapTable n box children = .ok w) : IsWrapper w := by
  obtain ⟨_, _, _, caps, _, _, _, _, _, _, _, _, _, _, rfl⟩ := wrapTable_cases h
  refine ⟨by simp [wtWrapper, KBox.withInst, KBox.withStyle, KBox.inst, anonFrom], ?_⟩
  rw [wtWrapper_kind]
  split <;> simp

/-! ### `table_boxes_children` as rule 1 followed by the three wrapping steps -/

/-- Rules 1.1 and 1.2: a column has no children; a column group keeps only its columns, or gets anonymous ones. -/
def rule1Kids (box : KBox) (children : List KBox) : List KBox :=
  if Gen.isSub box.kind .TableColumnBox then []
  else if Gen.isSub box.kind .TableColumnGroupBox then
    if (children.filter (fun c => c.isA .TableColumnBox)).isEmpty then
      List.replicate (groupSpan box) (anonFrom .TableColumnBox box [])
    else children.filter (fun c => c.isA .TableColumnBox)
  else children

/-- Rules 1.1 – 1.4: the children `table_boxes_children` goes on with. -/
def preKids (box : KBox) (children : List KBox) : List KBox :=
  let children := rule1Kids box children
  let children := if Gen.tabularContainer box.kind then rule13 children else children
  rule14 none children

def tbcStep1 (n : Nat) (box : KBox) (children : List KBox) : Except BErr (List KBox) :=
  if Gen.isSub box.kind .TableBox then
    wrapImproper n box children .TableRowBox (fun c => Gen.properTableChild c.kind) []
  else if Gen.isSub box.kind .TableRowGroupBox then
    wrapImproper n box children .TableRowBox (fun c => c.isA .TableRowBox) []
  else .ok children

def tbcStep2 (n : Nat) (box : KBox) (children : List KBox) : Except BErr (List KBox) :=
  if Gen.isSub box.kind .TableRowBox then
    wrapImproper n box children .TableCellBox (fun c => c.isA .TableCellBox) []
  else
    wrapImproper n box children .TableRowBox (fun c => !c.isA .TableCellBox) []

def tbcStep3 (n : Nat) (box : KBox) (children : List KBox) : Except BErr (List KBox) :=
  if Gen.isSub box.kind .InlineBox then
    wrapImproper n box children .InlineTableBox (fun c => !Gen.properTableChild c.kind) []
  else
    wrapImproper n box children .TableBox
      (fun c => !Gen.properTableChild c.kind || (Gen.properParents c.kind).contains box.kind) []

def tbcCore (n : Nat) (box : KBox) (children : List KBox) : Except BErr KBox :=
  match tbcStep1 n box children with
  | .error e => .error e
  | .ok children =>
    match tbcStep2 n box children with
    | .error e => .error e
    | .ok children =>
      match tbcStep3 n box children with
      | .error e => .error e
      | .ok children =>
        if Gen.isSub box.kind .TableBox then wrapTable n box children
        else .ok (box.withKids children)

theorem tbc_succ (n : Nat) (box : KBox) (l : List KBox) :
    tbc (n + 1) box l = tbcCore n box (preKids box l) := by
  unfold tbc
  rfl

/-- What a call of `table_boxes_children` that returned did, in the convention of `wrapTable_cases`: any fuel, the
successor is part of the conclusion. -/
theorem tbc_cases {n : Nat} {box : KBox} {children : List KBox} {r : KBox} (h : tbc n box children = .ok r) :
    ∃ m c1 c2 c3, n = m + 1 ∧ tbcStep1 m box (preKids box children) = .ok c1 ∧ tbcStep2 m box c1 = .ok c2 ∧
      tbcStep3 m box c2 = .ok c3 ∧
      (if Gen.isSub box.kind .TableBox = true then wrapTable m box c3 else .ok (box.withKids c3)) = .ok r := by
  cases n with
  | zero => unfold tbc at h; cases h
  | succ n =>
    rw [tbc_succ] at h
    unfold tbcCore at h
    split at h
    · cases h
    · rename_i c1 h1
      split at h
      · cases h
      · rename_i c2 h2
        split at h
        · cases h
        · rename_i c3 h3
          exact ⟨n, c1, c2, c3, rfl, h1, h2, h3, h⟩

/-- Class and wrapper flag of the result of `table_boxes_children`. -/
theorem tbc_result (n : Nat) (box : KBox) (children : List KBox) (r : KBox)
    (h : tbc n box children = .ok r) :
    if Gen.isSub box.kind .TableBox = true then IsWrapper r
    else r.kind = box.kind ∧ r.inst.wrapper = box.inst.wrapper := by
  obtain ⟨n, _, _, c3, _, _, _, _, hr⟩ := tbc_cases h
  split at hr
  · rename_i ht
    rw [if_pos ht]
    exact wrapTable_isWrapper n box _ r hr
  · rename_i ht
    rw [if_neg ht]
    cases hr
    obtain ⟨k, st, el, inst, text, kids, cols⟩ := box
    exact ⟨rfl, rfl⟩

theorem tbc_col_kind {n : Nat} {box : KBox} {l : List KBox} {r : KBox} (h : tbc n box l = .ok r)
    (hk : r.kind = .TableColumnBox ∨ r.kind = .TableColumnGroupBox) : r.kind = box.kind := by
  have := tbc_result n _ _ _ h
  split at this
  · rcases this.2 with h1 | h1 <;> rcases hk with hk | hk <;> rw [h1] at hk <;> cases hk
  · exact this.1

theorem tbc_anon_kind {n : Nat} {wt : BoxKind} {box : KBox} {l : List KBox} {w : KBox}
    (hwt : Gen.isSub wt .TableBox = false) (h : tbc n (anonFrom wt box []) l = .ok w) : w.kind = wt := by
  have := tbc_result n _ _ _ h
  rw [anonFrom_kind, if_neg (by simp [hwt])] at this
  exact this.1

/-- Rule induction over the runs of `wrap_improper` that return (`P children improper out`): the end of the list with
nothing or with a run of improper children to wrap; a child that passes the test, after such a run or not; a child that
fails it.  The calls of `table_boxes_children` it makes have less fuel than `N`. -/
theorem wrapImproper_run {box : KBox} {wt : BoxKind} {test : KBox → Bool} {N : Nat}
    {P : List KBox → List KBox → List KBox → Prop}
    (done : P [] [] [])
    (flush : ∀ m improper w, m < N → improper ≠ [] → tbc m (anonFrom wt box []) improper.reverse = .ok w →
      P [] improper [w])
    (pass_flush : ∀ m c cs improper w rest, m < N → test c = true → improper ≠ [] →
      tbc m (anonFrom wt box []) improper.reverse = .ok w → P cs [] rest → P (c :: cs) improper (w :: c :: rest))
    (pass : ∀ c cs rest, test c = true → P cs [] rest → P (c :: cs) [] (c :: rest))
    (fail : ∀ c cs improper out, test c = false → P cs (c :: improper) out → P (c :: cs) improper out) :
    ∀ (n : Nat) (children improper out : List KBox), n ≤ N →
      wrapImproper n box children wt test improper = .ok out → P children improper out := by
  intro n
  induction n using Nat.strongRecOn with | _ n ih => ?_
  intro children improper out hn
  fun_cases wrapImproper n box children wt test improper <;> intro h
  -- every return but the tail call is a value
  any_goals cases h
  next w hne hw => exact flush _ improper w hn (by intro e; simp [e] at hne) hw
  next hne =>
    obtain rfl : improper = [] := by simpa using hne
    exact done
  next c cs w rest htest hrest hne hw =>
    exact pass_flush _ c cs improper w rest hn htest (by intro e; simp [e] at hne) hw
      (ih _ (Nat.lt_succ_self _) _ _ _ (Nat.le_of_succ_le hn) hrest)
  next c cs rest htest hrest hne =>
    obtain rfl : improper = [] := by simpa using hne
    exact pass c cs rest htest (ih _ (Nat.lt_succ_self _) _ _ _ (Nat.le_of_succ_le hn) hrest)
  next c cs htest =>
    exact fail c cs improper out (by simpa using htest) (ih _ (Nat.lt_succ_self _) _ _ _ (Nat.le_of_succ_le hn) h)

/-- Every output of `wrap_improper` is an input that passes the test, or the result of
`table_boxes_children` on a fresh anonymous box of the class: it has every property `Q` such results have. -/
theorem wrapImproper_cases (Q : KBox → Prop) (box : KBox) (wt : BoxKind)
    (hQ : ∀ n l w, tbc n (anonFrom wt box []) l = .ok w → Q w) (n : Nat) (children : List KBox)
    (test : KBox → Bool) (improper out : List KBox)
    (h : wrapImproper n box children wt test improper = .ok out) :
    ∀ o ∈ out, (o ∈ children ∧ test o = true) ∨ Q o := by
  have tail : ∀ {c : KBox} {cs : List KBox} {o : KBox}, (o ∈ cs ∧ test o = true) ∨ Q o →
      (o ∈ c :: cs ∧ test o = true) ∨ Q o := fun h => h.imp (fun h => ⟨List.mem_cons_of_mem _ h.1, h.2⟩) id
  refine wrapImproper_run (N := n) (P := fun children _ out => ∀ o ∈ out, (o ∈ children ∧ test o = true) ∨ Q o)
    (fun o ho => by cases ho) ?_ ?_ ?_ ?_ n children improper out (Nat.le_refl _) h
  · intro m improper w _ _ hw o ho
    cases List.mem_singleton.mp ho
    exact Or.inr (hQ m _ _ hw)
  · intro m c cs improper w rest _ htest _ hw ih o ho
    rcases List.mem_cons.mp ho with rfl | ho
    · exact Or.inr (hQ m _ _ hw)
    · rcases List.mem_cons.mp ho with rfl | ho
      · exact Or.inl ⟨List.mem_cons_self, htest⟩
      · exact tail (ih o ho)
  · intro c cs rest htest ih o ho
    rcases List.mem_cons.mp ho with rfl | ho
    · exact Or.inl ⟨List.mem_cons_self, htest⟩
    · exact tail (ih o ho)
  · intro c cs improper out _ ih o ho
    exact tail (ih o ho)

/-- A property of kinds that the passing children and the wrapper class have, every output has. -/
theorem wrapImproper_kinds {n : Nat} {box : KBox} {children : List KBox} {wt : BoxKind} {test : KBox → Bool}
    {improper out : List KBox} (P : BoxKind → Prop) (h : wrapImproper n box children wt test improper = .ok out)
    (hwt : Gen.isSub wt .TableBox = false) (hP : P wt) (ht : ∀ c, test c = true → P c.kind) : ∀ o ∈ out, P o.kind :=
  fun o ho => (wrapImproper_cases (fun o => P o.kind) box wt (fun _ _ _ hw => tbc_anon_kind hwt hw ▸ hP) n children
    test improper out h o ho).elim (fun h1 => ht o h1.2) id

/-- When every child passes the test `wrap_improper` hands the children back, one level of fuel per child. -/
theorem wrapImproper_all (box : KBox) (wt : BoxKind) (test : KBox → Bool) : ∀ (children : List KBox) (n : Nat),
    (∀ c ∈ children, test c = true) →
    wrapImproper n box children wt test [] = if children.length + 1 ≤ n then .ok children else .error .fuel
  | _, 0, _ => by unfold wrapImproper; rfl
  | [], n + 1, _ => by unfold wrapImproper; rfl
  | c :: cs, n + 1, h => by
    unfold wrapImproper
    rw [if_pos (h c List.mem_cons_self), wrapImproper_all box wt test cs n (fun d hd => h d (List.mem_cons_of_mem _ hd))]
    by_cases hn : cs.length + 1 ≤ n
    · rw [if_pos hn, if_pos (show (c :: cs).length + 1 ≤ n + 1 from Nat.succ_le_succ hn)]; rfl
    · rw [if_neg hn, if_neg (show ¬ (c :: cs).length + 1 ≤ n + 1 from fun h' => hn (Nat.le_of_succ_le_succ h'))]; rfl

theorem wrapImproper_all_pass (n : Nat) (box : KBox) (children : List KBox) (wt : BoxKind)
    (test : KBox → Bool) (out : List KBox) (hall : ∀ c ∈ children, test c = true)
    (h : wrapImproper n box children wt test [] = .ok out) : out = children := by
  rw [wrapImproper_all box wt test children n hall] at h
  split at h <;> cases h
  rfl

/-- Rule 1.3 removes at most the first and the last child, both white-space text; everything else stays as it is. -/
theorem rule13_shape (l : List KBox) : ∃ a b, l = a ++ rule13 l ++ b ∧ a.length ≤ 1 ∧ b.length ≤ 1 ∧
    ∀ c ∈ a ++ b, isWhitespace c = true := by
  unfold rule13
  split
  · -- last, then first
    have hlast : ∃ b, l = rule13Last l ++ b ∧ b.length ≤ 1 ∧ ∀ c ∈ b, isWhitespace c = true := by
      fun_cases rule13Last l
      case case1 text _ _ hrev hc =>
        refine ⟨[text], ?_, by simp, fun c hcm => ?_⟩
        · rw [← List.reverse_reverse l, hrev]; simp
        · rw [List.mem_singleton.1 hcm]; exact (Bool.and_eq_true _ _ ▸ hc).2
      all_goals exact ⟨[], by simp, by simp, by simp⟩
    obtain ⟨b, hb, hbl, hbw⟩ := hlast
    have hfirst : ∃ a, rule13Last l = a ++ rule13First (rule13Last l) ∧ a.length ≤ 1 ∧ ∀ c ∈ a, isWhitespace c = true := by
      generalize rule13Last l = m
      fun_cases rule13First m
      case case1 text _ _ hc =>
        exact ⟨[text], rfl, by simp, fun c hcm => by rw [List.mem_singleton.1 hcm]; exact (Bool.and_eq_true _ _ ▸ hc).2⟩
      all_goals exact ⟨[], by simp, by simp, by simp⟩
    obtain ⟨a, ha, hal, haw⟩ := hfirst
    exact ⟨a, b, by rw [← ha]; exact hb, hal, hbl, fun c hc => (List.mem_append.mp hc).elim (haw c) (hbw c)⟩
  · exact ⟨[], [], by simp, by simp, by simp, by simp⟩
theorem rule13_sublist (l : List KBox) : (rule13 l).Sublist l := by
  obtain ⟨a, b, hl, _⟩ := rule13_shape l
  have : (rule13 l).Sublist (a ++ rule13 l ++ b) :=
    (List.sublist_append_right a _).trans (List.sublist_append_left _ b)
  rwa [← hl] at this

theorem rule14_sublist : ∀ (prev : Option KBox) (l : List KBox), (rule14 prev l).Sublist l
  | _, [] => List.Sublist.slnil
  | prev, c :: cs => by
    unfold rule14
    split
    · exact List.Sublist.cons c (rule14_sublist (some c) cs)
    · exact List.Sublist.cons_cons c (rule14_sublist (some c) cs)

theorem isA_kind_iff (c : KBox) (k : BoxKind) (cls : BoxClass)
    (h : ∀ j : BoxKind, Gen.isSub j cls = true ↔ j = k) : c.isA cls = true ↔ c.kind = k := by
  unfold KBox.isA; exact h c.kind

theorem isA_cell_iff (c : KBox) : c.isA .TableCellBox = true ↔ c.kind = .TableCellBox :=
  isA_kind_iff c _ _ (by decide)

theorem isA_row_iff (c : KBox) : c.isA .TableRowBox = true ↔ c.kind = .TableRowBox :=
  isA_kind_iff c _ _ (by decide)

theorem isA_col_iff (c : KBox) : c.isA .TableColumnBox = true ↔ c.kind = .TableColumnBox :=
  isA_kind_iff c _ _ (by decide)

theorem rule1Kids_sublist (box : KBox) (l : List KBox)
    (h : Gen.isSub box.kind .TableColumnGroupBox = true → ∃ c ∈ l, c.isA .TableColumnBox = true) :
    (rule1Kids box l).Sublist l := by
  fun_cases rule1Kids box l
  case case1 => exact List.nil_sublist l
  case case2 hg he => exact absurd he (by simpa using h hg)
  case case3 => exact List.filter_sublist
  case case4 => exact List.Sublist.refl l

/-- Rule 1 only removes children, except in a column group without columns, which gets anonymous ones. -/
theorem preKids_sublist (box : KBox) (l : List KBox)
    (h : Gen.isSub box.kind .TableColumnGroupBox = true → ∃ c ∈ l, c.isA .TableColumnBox = true) :
    (preKids box l).Sublist l := by
  unfold preKids
  refine (rule14_sublist none _).trans ?_
  split
  · exact (rule13_sublist _).trans (rule1Kids_sublist box l h)
  · exact rule1Kids_sublist box l h

/-- Rule 2.3 / 3.1 when no child is out of place: the children come back, for one unit of fuel each. -/
theorem tbcStep2_all (n : Nat) (box : KBox) (c0 : List KBox)
    (h : ∀ c ∈ c0, c.isA .TableCellBox = Gen.isSub box.kind .TableRowBox) :
    tbcStep2 n box c0 = if c0.length + 1 ≤ n then .ok c0 else .error .fuel := by
  unfold tbcStep2
  split
  · rename_i hk; exact wrapImproper_all _ _ _ c0 n (fun c hc => by rw [h c hc, hk])
  · rename_i hk; exact wrapImproper_all _ _ _ c0 n (fun c hc => by rw [h c hc]; simpa using hk)

/-- Rule 3.2 under a box that is no inline box, likewise. -/
theorem tbcStep3_all (n : Nat) (box : KBox) (c0 : List KBox) (hk : Gen.isSub box.kind .InlineBox = false)
    (h : ∀ c ∈ c0, (!Gen.properTableChild c.kind || (Gen.properParents c.kind).contains box.kind) = true) :
    tbcStep3 n box c0 = if c0.length + 1 ≤ n then .ok c0 else .error .fuel := by
  unfold tbcStep3
  rw [if_neg (by rw [hk]; decide)]
  exact wrapImproper_all _ _ _ c0 n h

theorem tbcStep2_pass {n : Nat} {box : KBox} {c1 c2 : List KBox} (h : tbcStep2 n box c1 = .ok c2)
    (hp : ∀ c ∈ c1, c.isA .TableCellBox = Gen.isSub box.kind .TableRowBox) : c2 = c1 := by
  rw [tbcStep2_all n box c1 hp] at h
  split at h <;> cases h
  rfl

theorem tbcStep3_pass {n : Nat} {box : KBox} {c2 c3 : List KBox} (h : tbcStep3 n box c2 = .ok c3)
    (hk : Gen.isSub box.kind .InlineBox = false)
    (hp : ∀ c ∈ c2, (!Gen.properTableChild c.kind || (Gen.properParents c.kind).contains box.kind) = true) :
    c3 = c2 := by
  rw [tbcStep3_all n box c2 hk hp] at h
  split at h <;> cases h
  rfl

/-- Rule 2.3 + 3.x on a row: the children of a `TableRowBox` are cells. -/
theorem tbc_row (n : Nat) (box : KBox) (children : List KBox) (r : KBox) (hk : box.kind = .TableRowBox)
    (h : tbc n box children = .ok r) :
    ∃ ks, r = box.withKids ks ∧ ∀ o ∈ ks, o.kind = .TableCellBox := by
  obtain ⟨n, c1, c2, c3, rfl, _, h2, h3, hr⟩ := tbc_cases h
  unfold tbcStep2 at h2
  rw [if_pos (by rw [hk]; rfl)] at h2
  have hcells := wrapImproper_kinds (· = .TableCellBox) h2 rfl rfl fun c => (isA_cell_iff c).1
  have := tbcStep3_pass h3 (by rw [hk]; rfl) (fun c hc => by rw [hcells c hc, hk]; rfl)
  subst this
  rw [if_neg (by rw [hk]; decide)] at hr
  cases hr
  exact ⟨c3, rfl, hcells⟩

/-- Rule 2.2 + 3.x on a row group: the children of a `TableRowGroupBox` are rows. -/
theorem tbc_row_group (n : Nat) (box : KBox) (children : List KBox) (r : KBox)
    (hk : box.kind = .TableRowGroupBox) (h : tbc n box children = .ok r) :
    ∃ ks, r = box.withKids ks ∧ ∀ o ∈ ks, o.kind = .TableRowBox := by
  obtain ⟨n, c1, c2, c3, rfl, h1, h2, h3, hr⟩ := tbc_cases h
  unfold tbcStep1 at h1
  rw [if_neg (by rw [hk]; decide), if_pos (by rw [hk]; rfl)] at h1
  have hrows := wrapImproper_kinds (· = .TableRowBox) h1 rfl rfl fun c => (isA_row_iff c).1
  have e2 := tbcStep2_pass h2 (fun c hc => by unfold KBox.isA; rw [hrows c hc, hk]; rfl)
  subst e2
  have e3 := tbcStep3_pass h3 (by rw [hk]; rfl) (fun c hc => by rw [hrows c hc, hk]; rfl)
  subst e3
  rw [if_neg (by rw [hk]; decide)] at hr
  cases hr
  exact ⟨c3, rfl, hrows⟩

/-- `wrap_table` sorts the children by class: nothing is lost or doubled, and each of the three lists holds its classes only. -/
theorem sortTableKids_perm : ∀ {l cols rows caps : List KBox}, sortTableKids l = .ok (cols, rows, caps) →
    l.Perm (cols ++ (rows ++ caps)) ∧ (∀ c ∈ cols, c.kind = .TableColumnBox ∨ c.kind = .TableColumnGroupBox) ∧
    (∀ c ∈ rows, c.kind = .TableRowBox ∨ c.kind = .TableRowGroupBox) ∧ ∀ c ∈ caps, c.kind = .TableCaptionBox := by
  intro l cols rows caps h
  fun_induction sortTableKids l generalizing cols rows caps <;> cases h
  case case1 => exact ⟨.nil, nofun, nofun, nofun⟩
  case case3 hrec hk ih =>
    obtain ⟨hp, k1, k2, k3⟩ := ih hrec
    exact ⟨hp.cons _, List.forall_mem_cons.2 ⟨by simpa using hk, k1⟩, k2, k3⟩
  case case4 hrec _ hk ih =>
    obtain ⟨hp, k1, k2, k3⟩ := ih hrec
    exact ⟨(hp.cons _).trans List.perm_middle.symm, k1, List.forall_mem_cons.2 ⟨by simpa using hk, k2⟩, k3⟩
  case case5 hrec _ _ hk ih =>
    obtain ⟨hp, k1, k2, k3⟩ := ih hrec
    exact ⟨(hp.cons _).trans (List.perm_middle.symm.trans (List.perm_middle.symm.append_left _)), k1, k2,
      List.forall_mem_cons.2 ⟨by simpa using hk, k3⟩⟩

theorem sortTableKids_spec (l : List KBox) (cols rows caps : List KBox)
    (h : sortTableKids l = .ok (cols, rows, caps)) :
    (∀ c ∈ cols, c ∈ l ∧ (c.kind = .TableColumnBox ∨ c.kind = .TableColumnGroupBox)) ∧
    (∀ c ∈ rows, c ∈ l ∧ (c.kind = .TableRowBox ∨ c.kind = .TableRowGroupBox)) ∧
    (∀ c ∈ caps, c ∈ l ∧ c.kind = .TableCaptionBox) := by
  obtain ⟨hp, k1, k2, k3⟩ := sortTableKids_perm h
  exact ⟨fun c hc => ⟨hp.mem_iff.mpr (List.mem_append_left _ hc), k1 c hc⟩,
    fun c hc => ⟨hp.mem_iff.mpr (List.mem_append_right _ (List.mem_append_left _ hc)), k2 c hc⟩,
    fun c hc => ⟨hp.mem_iff.mpr (List.mem_append_right _ (List.mem_append_right _ hc)), k3 c hc⟩⟩

theorem withInst_kind (b : KBox) (i : Inst) : (b.withInst i).kind = b.kind := by
  obtain ⟨k, st, el, inst, text, kids, cols⟩ := b; rfl

theorem withKids_kind (b : KBox) (ks : List KBox) : (b.withKids ks).kind = b.kind := by
  obtain ⟨k, st, el, inst, text, kids, cols⟩ := b; rfl

def isHeaderGroup (g : KBox) : Bool := g.st.disp == .header
def isFooterGroup (g : KBox) : Bool := g.st.disp == .footer
def markHeader (g : KBox) : KBox := g.withInst { g.inst with isHeader := true }
def markFooter (g : KBox) : KBox := g.withInst { g.inst with isFooter := true }

theorem header_not_footer (g : KBox) (h : isHeaderGroup g = true) : isFooterGroup g = false := by
  unfold isHeaderGroup at h
  unfold isFooterGroup
  revert h
  cases g.st.disp <;> decide

/-- The loop of `wrap_table` that extracts the header and the footer, from any state (the loop changes its state, so the
induction needs it general). -/
theorem splitGroups_spec : ∀ (gs : List KBox) (h f : Option KBox) (acc : List KBox),
    splitGroups gs h f acc =
      (if h.isNone then (gs.find? isHeaderGroup).map markHeader else h,
       if f.isNone then (gs.find? isFooterGroup).map markFooter else f,
       ((fun l => if f.isNone then l.eraseP isFooterGroup else l)
          (if h.isNone then gs.eraseP isHeaderGroup else gs)).reverse ++ acc) := by
  intro gs h f acc
  fun_induction splitGroups gs h f acc with
  | case1 h f acc => cases h <;> cases f <;> simp
  | case2 g gs h f acc hc ih =>
    simp only [Bool.and_eq_true, Option.isNone_iff_eq_none] at hc
    obtain ⟨(hh : isHeaderGroup g = true), rfl⟩ := hc
    rw [ih]
    cases f <;> simp [hh, header_not_footer g hh, markHeader]
  | case3 g gs h f acc hh hc ih =>
    simp only [Bool.and_eq_true, Option.isNone_iff_eq_none] at hc hh
    obtain ⟨hf, rfl⟩ := hc
    rw [ih]
    cases h <;> simp_all [isHeaderGroup, isFooterGroup, markFooter]
  | case4 g gs h f acc hh hf ih =>
    rw [ih]
    cases h <;> cases f <;> simp_all [isHeaderGroup, isFooterGroup]

/-- From the initial state, as `wrap_table` runs it. -/
theorem splitGroups_initial (gs : List KBox) :
    splitGroups gs none none [] =
      ((gs.find? isHeaderGroup).map markHeader, (gs.find? isFooterGroup).map markFooter,
       ((gs.eraseP isHeaderGroup).eraseP isFooterGroup).reverse) := by
  rw [splitGroups_spec]
  simp

/-- The order `wrap_table` gives to row groups `gs`: the first header group, marked; the others in document
order; the first footer group, marked. -/
def orderedGroups (gs : List KBox) : List KBox :=
  ((gs.find? isHeaderGroup).map markHeader).toList ++ (gs.eraseP isHeaderGroup).eraseP isFooterGroup ++
    ((gs.find? isFooterGroup).map markFooter).toList

theorem wtGroups_eq (gs : List KBox) : wtGroups gs = orderedGroups gs := by
  unfold wtGroups orderedGroups
  rw [splitGroups_initial, List.reverse_reverse]

/-- The row groups `wrap_table` goes on with are the given ones, the first header and the first footer marked. -/
theorem mem_wtGroups {gs : List KBox} {x : KBox} (h : x ∈ wtGroups gs) :
    ∃ g ∈ gs, x = g ∨ x = markHeader g ∨ x = markFooter g := by
  rw [wtGroups_eq, orderedGroups] at h
  simp only [List.mem_append, Option.mem_toList, Option.map_eq_some_iff] at h
  rcases h with (⟨g, hg, rfl⟩ | hx) | ⟨g, hg, rfl⟩
  · exact ⟨g, List.mem_of_find?_eq_some hg, Or.inr (Or.inl rfl)⟩
  · exact ⟨x, (List.eraseP_sublist.trans List.eraseP_sublist).subset hx, Or.inl rfl⟩
  · exact ⟨g, List.mem_of_find?_eq_some hg, Or.inr (Or.inr rfl)⟩

/-- What identifies a row group through `wrap_table` (which only writes `grid_x` / `rowspan` on its cells):
class, style, element attributes, header / footer marks, number of rows. -/
def groupKey (g : KBox) : BoxKind × Style × El × Bool × Bool × Nat :=
  (g.kind, g.st, g.el, g.inst.isHeader, g.inst.isFooter, g.kids.length)

theorem setRow_length : ∀ (cs : List KBox) (os : List TableGrid.CellOut), (setRow cs os).length = cs.length := by
  intro cs os
  fun_induction setRow cs os
  case case1 ih => rw [List.length_cons, ih, List.length_cons]
  case case2 => rfl

theorem setGroup_length : ∀ (rs : List KBox) (os : List (List TableGrid.CellOut)), (setGroup rs os).length = rs.length := by
  intro rs os
  fun_induction setGroup rs os
  case case1 ih => rw [List.length_cons, ih, List.length_cons]
  case case2 => rfl

theorem setGroups_key : ∀ (gs : List KBox) (os : List (List (List TableGrid.CellOut))),
    (setGroups gs os).map groupKey = gs.map groupKey := by
  intro gs os
  fun_induction setGroups gs os
  case case1 g _ _ _ ih =>
    obtain ⟨k, st, el, inst, text, kids, cols⟩ := g
    simp [ih, groupKey, KBox.withKids, KBox.kind, KBox.st, KBox.el, KBox.inst, KBox.kids, setGroup_length]
  case case2 => rfl

theorem setGroups_kinds (gs : List KBox) : ∀ (os : List (List (List TableGrid.CellOut))) (k : BoxKind),
    (∀ x ∈ gs, x.kind = k) → ∀ x ∈ setGroups gs os, x.kind = k := by
  intro os k h x hx
  have := List.mem_map_of_mem (f := groupKey) hx
  rw [setGroups_key, List.mem_map] at this
  obtain ⟨g, hg, e⟩ := this
  exact (congrArg Prod.fst e).symm.trans (h g hg)

theorem setColGroups_kinds (gs : List KBox) : ∀ (os : List TableGrid.ColGroupOut) (k : BoxKind),
    (∀ x ∈ gs, x.kind = k) → ∀ x ∈ setColGroups gs os, x.kind = k := by
  induction gs with
  | nil => intro os k _ x hx; simp [setColGroups] at hx
  | cons g gs ih =>
    intro os k h x hx
    cases os with
    | nil => simp only [setColGroups] at hx; exact h x hx
    | cons o os =>
      simp only [setColGroups] at hx
      cases hx with
      | head => rw [withKids_kind, withInst_kind]; exact h g List.mem_cons_self
      | tail _ h' => exact ih os k (fun y hy => h y (List.mem_cons_of_mem _ hy)) x h'

theorem isA_rowgroup_iff (c : KBox) : c.isA .TableRowGroupBox = true ↔ c.kind = .TableRowGroupBox :=
  isA_kind_iff c _ _ (by decide)

theorem isA_colgroup_iff (c : KBox) : c.isA .TableColumnGroupBox = true ↔ c.kind = .TableColumnGroupBox :=
  isA_kind_iff c _ _ (by decide)

/-- The shape `wrap_table` gives to a table: an anonymous wrapper (inline-block for an inline table,
block otherwise) holding the top captions, the table, the bottom captions; the table's children are
row groups, its `column_groups` column groups; `float` and `position` move to the wrapper. -/
structure TableShape (box : KBox) (children : List KBox) (w : KBox) : Prop where
  wrapper : IsWrapper w
  kind : w.kind = if box.isA .InlineTableBox = true then .InlineBlockBox else .BlockBox
  anon : w.st.anon = true
  parts : ∃ top table bottom, w.kids = top ++ [table] ++ bottom ∧ table.kind = box.kind ∧
    (∀ c ∈ top ++ bottom, c.kind = .TableCaptionBox ∧ c ∈ children) ∧
    (∀ c ∈ top, c.st.capBottom = false) ∧ (∀ c ∈ bottom, c.st.capBottom = true) ∧
    (∀ g ∈ table.kids, g.kind = .TableRowGroupBox) ∧ (∀ g ∈ table.cols, g.kind = .TableColumnGroupBox) ∧
    (Gen.wrapperTakesFloat = true → w.st.flt = box.st.flt ∧ w.st.foot = box.st.foot ∧
      table.st.flt = false ∧ table.st.foot = false) ∧
    (Gen.wrapperTakesPosition = true → w.st.abs = box.st.abs ∧ w.st.run = box.st.run ∧
      table.st.abs = false ∧ table.st.run = false)

theorem wrapTable_shape (n : Nat) (box : KBox) (children : List KBox) (w : KBox)
    (h : wrapTable n box children = .ok w) : TableShape box children w := by
  have hw := wrapTable_isWrapper n box children w h
  obtain ⟨m, columns, rows, caps, columnGroups, rowGroups0, _, out, _, hsort, hcg, hrg, _, _, rfl⟩ := wrapTable_cases h
  obtain ⟨_, _, scaps⟩ := sortTableKids_spec children columns rows caps hsort
  have hrg0 := wrapImproper_kinds (· = .TableRowGroupBox) hrg rfl rfl fun c => (isA_rowgroup_iff c).1
  have hcg0 := wrapImproper_kinds (· = .TableColumnGroupBox) hcg rfl rfl fun c => (isA_colgroup_iff c).1
  refine ⟨hw, wtWrapper_kind _ _ _, ?_, caps.filter isTopCaption, _, caps.filter (fun c => !isTopCaption c),
    wtWrapper_kids _ _ _, (wtTable_proj _ _ _).1, ?_, ?_, ?_, ?_, ?_, fun hf => ?_, fun hp => ?_⟩
  · simp [wtWrapper, KBox.withInst, KBox.withStyle, anonFrom, KBox.st, anonStyle]
  · intro c hc
    simp only [List.mem_append, List.mem_filter] at hc
    have hc : c ∈ caps := hc.elim (·.1) (·.1)
    exact ⟨(scaps c hc).2, (scaps c hc).1⟩
  · intro c hc
    simp only [List.mem_filter, isTopCaption, Bool.not_eq_true'] at hc
    exact hc.2
  · intro c hc
    simp only [List.mem_filter, isTopCaption, Bool.not_not] at hc
    exact hc.2
  · intro g hg
    rw [(wtTable_proj _ _ _).2.1] at hg
    refine setGroups_kinds _ _ _ ?_ g hg
    intro x hx
    obtain ⟨g0, hg0, e | e | e⟩ := mem_wtGroups hx
    · exact e ▸ hrg0 g0 hg0
    · exact e ▸ (withInst_kind g0 _).trans (hrg0 g0 hg0)
    · exact e ▸ (withInst_kind g0 _).trans (hrg0 g0 hg0)
  · intro g hg
    rw [(wtTable_proj _ _ _).2.2] at hg
    exact setColGroups_kinds _ _ _ hcg0 g hg
  · obtain ⟨k, st, el, inst, text, kids, cols⟩ := box
    simp [wtWrapper, wtTable, KBox.withInst, KBox.withStyle, KBox.withKids, KBox.withCols, anonFrom, KBox.st, hf, anonStyle]
  · obtain ⟨k, st, el, inst, text, kids, cols⟩ := box
    simp [wtWrapper, wtTable, KBox.withInst, KBox.withStyle, KBox.withKids, KBox.withCols, anonFrom, KBox.st, hp, anonStyle]

theorem internal_iff (j : BoxKind) :
    Gen.internalTableOrCaption j = (Gen.properTableChild j || j == .TableCellBox) := by
  revert j
  decide

theorem proper_parents_table (j : BoxKind) (h : Gen.properTableChild j = true) :
    (Gen.properParents j).contains .TableBox = true ∧ (Gen.properParents j).contains .InlineTableBox = true := by
  revert j
  decide

theorem not_cell_of_proper (c : KBox) (h : Gen.properTableChild c.kind = true) : c.isA .TableCellBox = false := by
  cases hc : c.isA .TableCellBox
  · rfl
  · rw [(isA_cell_iff c).1 hc] at h; exact absurd h (by decide)

/-- Rules 2.1 + 3.x on a table: everything that is not a proper table child ends up in an anonymous
row; then `wrap_table`. -/
theorem tbc_table (n : Nat) (box : KBox) (children : List KBox) (r : KBox)
    (hk : box.kind = .TableBox ∨ box.kind = .InlineTableBox) (h : tbc n box children = .ok r) :
    ∃ c3, TableShape box c3 r ∧ ∀ o ∈ c3, Gen.properTableChild o.kind = true := by
  have e : Gen.isSub box.kind .TableBox = true ∧ Gen.isSub box.kind .TableRowBox = false ∧
      Gen.isSub box.kind .InlineBox = false := by
    rcases hk with hk | hk <;> rw [hk] <;> exact ⟨rfl, rfl, rfl⟩
  obtain ⟨n, c1, c2, c3, rfl, h1, h2, h3, hr⟩ := tbc_cases h
  unfold tbcStep1 at h1
  rw [if_pos e.1] at h1
  have hp := wrapImproper_kinds (Gen.properTableChild · = true) h1 rfl rfl fun _ h => h
  have e2 := tbcStep2_pass h2 (fun c hc => by rw [not_cell_of_proper c (hp c hc), e.2.1])
  subst e2
  have e3 := tbcStep3_pass h3 e.2.2 (fun c hc => by
    have := proper_parents_table c.kind (hp c hc)
    rcases hk with hk | hk
    · rw [hk, this.1, Bool.or_true]
    · rw [hk, this.2, Bool.or_true])
  subst e3
  rw [if_pos e.1] at hr
  exact ⟨c3, wrapTable_shape n box c3 r hr, hp⟩

/-- Rule 1.2: a column group keeps only columns, and gets anonymous ones when it has none. -/
theorem tbc_column_group (n : Nat) (box : KBox) (children : List KBox) (r : KBox)
    (hk : box.kind = .TableColumnGroupBox) (h : tbc n box children = .ok r) :
    ∃ ks, r = box.withKids ks ∧ ks ≠ [] ∧ ∀ o ∈ ks, o.kind = .TableColumnBox := by
  obtain ⟨n, c1, c2, c3, rfl, h1, h2, h3, hr⟩ := tbc_cases h
  have hcols : rule1Kids box children ≠ [] ∧ ∀ o ∈ rule1Kids box children, o.kind = .TableColumnBox := by
    fun_cases rule1Kids box children
    case case1 hc => rw [hk] at hc; cases hc
    case case4 _ hg => rw [hk] at hg; exact absurd rfl hg
    case case2 =>
      refine ⟨?_, fun o ho => by rw [(List.mem_replicate.mp ho).2]; rfl⟩
      have hpos : 0 < groupSpan box := by
        unfold groupSpan elSpan
        split
        · rename_i hne
          cases hkk : box.kids with
          | nil => simp [hkk] at hne
          | cons a as => simp
        · split
          · rename_i v _
            have : (1 : Int) ≤ max v 1 := Int.le_max_right v 1
            omega
          · omega
      intro he
      have := congrArg List.length he
      simp at this
      omega
    case case3 hne => exact ⟨by simpa using hne, fun o ho => (isA_col_iff o).1 (List.mem_filter.mp ho).2⟩
  -- rule 1.4 cannot drop a column: it only drops white-space text
  have h14 : ∀ prev l, (∀ o ∈ l, o.kind = .TableColumnBox) → rule14 prev l = l := by
    intro prev l hl
    fun_induction rule14 prev l
    case case1 => rfl
    case case2 c _ hd _ =>
      simp only [rule14Drop, isWhitespace, KBox.isA, hl c List.mem_cons_self, Bool.and_eq_true] at hd
      exact absurd hd.2.1 (by decide)
    case case3 ih => rw [ih fun o ho => hl o (List.mem_cons_of_mem _ ho)]
  unfold preKids at h1
  simp only [hk, show Gen.tabularContainer .TableColumnGroupBox = false from rfl, Bool.false_eq_true, if_false,
    h14 _ _ hcols.2] at h1
  generalize rule1Kids box children = cols at hcols h1
  unfold tbcStep1 at h1
  rw [if_neg (by rw [hk]; decide), if_neg (by rw [hk]; decide)] at h1
  cases h1
  have e2 := tbcStep2_pass h2 (fun c hc => by unfold KBox.isA; rw [hcols.2 c hc, hk]; rfl)
  subst e2
  have e3 := tbcStep3_pass h3 (by rw [hk]; rfl) (fun c hc => by rw [hcols.2 c hc, hk]; rfl)
  subst e3
  rw [if_neg (by rw [hk]; decide)] at hr
  cases hr
  exact ⟨c3, rfl, hcols⟩

/-- Rule 1.1: a column has no children. -/
theorem tbc_column (n : Nat) (box : KBox) (children : List KBox) (r : KBox)
    (hk : box.kind = .TableColumnBox) (h : tbc n box children = .ok r) : r = box.withKids [] := by
  obtain ⟨n, c1, c2, c3, rfl, h1, h2, h3, hr⟩ := tbc_cases h
  have e0 : preKids box children = [] := by
    unfold preKids rule1Kids
    rw [hk]
    rfl
  unfold tbcStep1 at h1
  rw [e0, if_neg (by rw [hk]; decide), if_neg (by rw [hk]; decide)] at h1
  cases h1
  have e2 := tbcStep2_pass h2 (fun c hc => by cases hc)
  subst e2
  have e3 := tbcStep3_pass h3 (by rw [hk]; rfl) (fun c hc => by cases hc)
  subst e3
  rw [if_neg (by rw [hk]; decide)] at hr
  cases hr
  rfl

/-- `anonymous_table_boxes` on one box: skipped (no parent box, or a running element), or its children fixed up first
and then `table_boxes_children` with the fuel of the model. -/
theorem atb_cases {b r : KBox} (h : atb b = .ok r) :
    ((b.isA .ParentBox = false ∨ b.st.run = true) ∧ r = b) ∨
    (b.isA .ParentBox = true ∧ b.st.run = false ∧ ∃ children, atbKids b.kids = .ok children ∧
      tbc (tableFuel (children.length + groupSpan b)) b children = .ok r) := by
  revert h
  fun_cases atb b <;> intro h
  case case1 hc => cases h; exact Or.inl ⟨by simpa [KBox.isA, KBox.kind, KBox.st] using hc, rfl⟩
  case case2 => cases h
  case case3 hc _ hk =>
    simp only [Bool.or_eq_true, Bool.not_eq_eq_eq_not, Bool.not_true, not_or, Bool.not_eq_false,
      Bool.not_eq_true] at hc
    exact Or.inr ⟨hc.1, hc.2, _, hk, h⟩

end Wp.Bx
