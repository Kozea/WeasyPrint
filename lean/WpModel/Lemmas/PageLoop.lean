/-
The page loop of all four stages (`make_all_pages`): make a page from a page-maker state; stop when the page
hands over no next state; otherwise go on with one unit of fuel less.  `run` is that loop over an abstract
step; what is proved here about it is proved once for `PM.makeAllPages`, `PMO.makeAllPages`,
`PMF.makeAllPagesF` and `PMC.makeAllPages`, each of which is `run` of its own `remake_page`.
-/
namespace Wp.PageLoop

/-- Outcome of the loop: pages, a failed step (`assert root_box`, an exception), or fuel exhausted. -/
inductive Out (ε π : Type) where
  | ok (ps : List π)
  | fail (e : ε)
  | fuel

variable {σ π ε : Type}

def Out.pages? : Out ε π → Option (List π)
  | .ok ps => some ps
  | _ => none

theorem Out.pages?_eq_some {o : Out ε π} {ps : List π} : o.pages? = some ps ↔ o = .ok ps := by
  cases o <;> simp [Out.pages?]

def run (step : σ → Except ε (π × Option σ)) : Nat → σ → Out ε π
  | 0, _ => .fuel
  | n + 1, s =>
    match step s with
    | .error e => .fail e
    | .ok (p, none) => .ok [p]
    | .ok (p, some s') =>
      match run step n s' with
      | .ok ps => .ok (p :: ps)
      | o => o

variable {step : σ → Except ε (π × Option σ)}

/-- The two ways `run` returns pages. -/
theorem run_ok {n : Nat} {s : σ} {ps : List π} (h : run step n s = .ok ps) :
    ∃ m p, n = m + 1 ∧ ((step s = .ok (p, none) ∧ ps = [p]) ∨
      ∃ s' qs, step s = .ok (p, some s') ∧ run step m s' = .ok qs ∧ ps = p :: qs) := by
  cases n with
  | zero => cases h
  | succ m =>
    refine ⟨m, ?_⟩
    unfold run at h
    split at h
    · cases h
    · cases h; exact ⟨_, rfl, Or.inl ⟨‹_›, rfl⟩⟩
    · rename_i p s' hs
      split at h
      · cases h; exact ⟨_, rfl, Or.inr ⟨_, _, hs, ‹_›, rfl⟩⟩
      · rename_i o hne
        exact absurd h (hne ps)

theorem run_ne_nil {n : Nat} {s : σ} {ps : List π} (h : run step n s = .ok ps) : ps ≠ [] := by
  obtain ⟨_, _, _, ⟨_, rfl⟩ | ⟨_, _, _, _, rfl⟩⟩ := run_ok h <;> exact List.cons_ne_nil _ _

/-- Induction over the pages returned, the fuel put aside. -/
theorem run_induct (P : σ → List π → Prop)
    (last : ∀ s p, step s = .ok (p, none) → P s [p])
    (more : ∀ s p s' ps, step s = .ok (p, some s') → P s' ps → P s (p :: ps)) :
    ∀ (n : Nat) (s : σ) (ps : List π), run step n s = .ok ps → P s ps := by
  intro n
  induction n with
  | zero => intro s ps h; cases h
  | succ n ih =>
    intro s ps h
    obtain ⟨m, p, hm, ⟨hs, rfl⟩ | ⟨s', qs, hs, hq, rfl⟩⟩ := run_ok h
    · exact last s p hs
    · cases hm; exact more s p s' qs hs (ih s' qs hq)

/-- What every turn hands on from state to state (`I`) and shows of its page (`Q`) holds of every page returned. -/
theorem run_forall (I : σ → Prop) (Q : π → Prop)
    (hstep : ∀ s p o, I s → step s = .ok (p, o) → Q p ∧ ∀ s', o = some s' → I s') :
    ∀ (n : Nat) (s : σ) (ps : List π), run step n s = .ok ps → I s → ∀ p ∈ ps, Q p :=
  run_induct (fun s ps => I s → ∀ p ∈ ps, Q p)
    (fun s p hs hI q hq => List.mem_singleton.mp hq ▸ (hstep s p none hI hs).1)
    (fun s p s' ps hs ih hI q hq => (List.mem_cons.mp hq).elim (· ▸ (hstep s p _ hI hs).1)
      (ih ((hstep s p _ hI hs).2 s' rfl) q))

/-- One unit of fuel per page: the pages returned are at most the fuel, and any fuel not below their number
returns the same pages. -/
theorem run_fuel : ∀ (n : Nat) (s : σ) (ps : List π), run step n s = .ok ps →
    ps.length ≤ n ∧ ∀ m, ps.length ≤ m → run step m s = .ok ps := by
  intro n
  induction n with
  | zero => intro s ps h; cases h
  | succ n ih =>
    intro s ps h
    obtain ⟨m, p, hm, ⟨hs, rfl⟩ | ⟨s', qs, hs, hq, rfl⟩⟩ := run_ok h
    · exact ⟨Nat.succ_le_succ (Nat.zero_le _), fun m hm => by
        obtain ⟨k, rfl⟩ : ∃ k, m = k + 1 := ⟨m - 1, by simp at hm; omega⟩
        rw [run, hs]⟩
    · cases hm
      obtain ⟨i1, i2⟩ := ih s' qs hq
      refine ⟨Nat.succ_le_succ i1, fun m hm => ?_⟩
      obtain ⟨k, rfl⟩ : ∃ k, m = k + 1 := ⟨m - 1, by simp at hm; omega⟩
      simp only [run, hs, i2 k (by simpa using hm)]

theorem run_deterministic {n m : Nat} {s : σ} {ps qs : List π} (h1 : run step n s = .ok ps)
    (h2 : run step m s = .ok qs) : ps = qs := by
  obtain ⟨l1, f1⟩ := run_fuel n s ps h1
  obtain ⟨l2, f2⟩ := run_fuel m s qs h2
  exact Out.ok.inj ((f1 (n + m) (by omega)).symm.trans (f2 (n + m) (by omega)))

/-- **The loop ends.** `μ` bounds the pages still to be made: every state of `Inv` needs at least one, and
a page that hands over a next state leaves it in `Inv` with a smaller bound.  Then `μ s` units of fuel
suffice: the loop returns at most `μ s` pages, or stops on a failed step (whose error is one that `step` can
give on `Inv`: take `Q := fun _ => False` when it gives none). -/
theorem run_bounded (Inv : σ → Prop) (μ : σ → Nat) (Q : ε → Prop)
    (hfail : ∀ s e, Inv s → step s = .error e → Q e)
    (hpos : ∀ s, Inv s → 0 < μ s)
    (hstep : ∀ s p s', Inv s → step s = .ok (p, some s') → Inv s' ∧ μ s' < μ s) :
    ∀ (n : Nat) (s : σ), Inv s → μ s ≤ n →
      (∃ ps, run step n s = .ok ps ∧ ps.length ≤ μ s) ∨ ∃ e, run step n s = .fail e ∧ Q e := by
  intro n
  induction n with
  | zero => intro s hi h; have := hpos s hi; omega
  | succ n ih =>
    intro s hi h
    have h0 := hpos s hi
    unfold run
    cases hs : step s with
    | error e => exact Or.inr ⟨e, rfl, hfail s e hi hs⟩
    | ok x =>
      obtain ⟨p, o⟩ := x
      cases o with
      | none => exact Or.inl ⟨[p], rfl, h0⟩
      | some s' =>
        obtain ⟨hi', hlt⟩ := hstep s p s' hi hs
        rcases ih s' hi' (by omega) with ⟨ps, hps, hl⟩ | ⟨e, he, hq⟩
        · exact Or.inl ⟨p :: ps, by simp only [hps], by simp only [List.length_cons]; omega⟩
        · exact Or.inr ⟨e, by simp only [he], hq⟩

/-- The loop with every step total on `Inv`. -/
theorem run_total (Inv : σ → Prop) (μ : σ → Nat)
    (htot : ∀ s e, Inv s → step s ≠ .error e)
    (hpos : ∀ s, Inv s → 0 < μ s)
    (hstep : ∀ s p s', Inv s → step s = .ok (p, some s') → Inv s' ∧ μ s' < μ s)
    (n : Nat) (s : σ) (hi : Inv s) (h : μ s ≤ n) : ∃ ps, run step n s = .ok ps ∧ ps.length ≤ μ s :=
  (run_bounded Inv μ (fun _ => False) (fun s e hi he => htot s e hi he) hpos hstep n s hi h).resolve_right
    (fun ⟨_, _, hq⟩ => hq)

/-- The step of a page maker whose only failure is that no page is made (`assert root_box`): `mk s` is the page,
`next s p` the state the page hands over. -/
def stepOf (mk : σ → Option π) (next : σ → π → Option σ) (s : σ) : Except Unit (π × Option σ) :=
  match mk s with
  | none => .error ()
  | some p => .ok (p, next s p)

theorem stepOf_ok {mk : σ → Option π} {next : σ → π → Option σ} {s : σ} {p : π} {o : Option σ}
    (h : stepOf mk next s = .ok (p, o)) : mk s = some p ∧ o = next s p := by
  unfold stepOf at h
  split at h
  · cases h
  · cases h; exact ⟨‹_›, rfl⟩

theorem stepOf_ne_error {mk : σ → Option π} {next : σ → π → Option σ} {s : σ} (e : Unit)
    (h : (mk s).isSome = true) : stepOf mk next s ≠ .error e := by
  unfold stepOf
  split
  · rename_i hn; rw [hn] at h; cases h
  · nofun

/-- A loop written with `Option` that makes a page, stops when the page hands over no state and otherwise puts the
page in front of the pages made from that state is `run` of `stepOf`, its failures forgotten. -/
theorem eq_run_pages {mk : σ → Option π} {next : σ → π → Option σ} {f : Nat → σ → Option (List π)}
    (h0 : ∀ s, f 0 s = none)
    (hS : ∀ n s, f (n + 1) s = match mk s with
      | none => none
      | some p => match next s p with
        | none => some [p]
        | some s' => (f n s').map (p :: ·)) :
    ∀ n s, f n s = (run (stepOf mk next) n s).pages?
  | 0, s => h0 s
  | n + 1, s => by
    rw [hS, run, stepOf]
    cases mk s with
    | none => rfl
    | some p =>
      dsimp only
      cases next s p with
      | none => rfl
      | some s' =>
        dsimp only
        rw [eq_run_pages h0 hS n s']
        cases run (stepOf mk next) n s' <;> rfl

/-- A map of states, pages and errors that commutes with the step commutes with the loop (embeddings,
renumbering). -/
theorem run_map {σ' π' ε' : Type} {step' : σ' → Except ε' (π' × Option σ')} (fs : σ → σ') (fp : π → π')
    (fe : ε → ε')
    (hstep : ∀ s, step' (fs s) = match step s with
      | .error e => .error (fe e)
      | .ok (p, o) => .ok (fp p, o.map fs)) :
    ∀ (n : Nat) (s : σ), run step' n (fs s) = match run step n s with
      | .ok ps => .ok (ps.map fp)
      | .fail e => .fail (fe e)
      | .fuel => .fuel := by
  intro n
  induction n with
  | zero => intro s; rfl
  | succ n ih =>
    intro s
    unfold run
    rw [hstep s]
    cases hs : step s with
    | error e => rfl
    | ok x =>
      obtain ⟨p, o⟩ := x
      cases o with
      | none => rfl
      | some s' =>
        simp only [Option.map_some]
        rw [ih s']
        cases run step n s' <;> rfl

/-- `run_map` for page makers given by `stepOf`: maps commuting with the page maker and with the hand-over. -/
theorem run_map_stepOf {σ' π' : Type} {mk : σ → Option π} {next : σ → π → Option σ} {mk' : σ' → Option π'}
    {next' : σ' → π' → Option σ'} (fs : σ → σ') (fp : π → π') (hmk : ∀ s, mk' (fs s) = (mk s).map fp)
    (hnext : ∀ s p, next' (fs s) (fp p) = (next s p).map fs) (n : Nat) (s : σ) :
    (run (stepOf mk' next') n (fs s)).pages? = (run (stepOf mk next) n s).pages?.map (List.map fp) := by
  rw [run_map (step := stepOf mk next) (step' := stepOf mk' next') fs fp id (fun s => by
    unfold stepOf
    rw [hmk]
    cases mk s with
    | none => rfl
    | some p => simp only [Option.map_some, hnext]) n s]
  cases run (stepOf mk next) n s <;> rfl

/-- The measure of all four stages: two pages per unit of content still to lay out (`sz` the size, `q` the position),
and one more if the next page is blank. -/
def twoSided (sz q : Nat) (b : Bool) : Nat := 2 * (sz - q) + (if b then 1 else 0)

theorem twoSided_pos {sz q : Nat} (b : Bool) (h : q < sz) : 0 < twoSided sz q b := by
  unfold twoSided; omega

theorem twoSided_le (sz q : Nat) : twoSided sz q false ≤ 2 * sz := by
  simp only [twoSided, Bool.false_eq_true, if_false]; omega

/-- It goes down with every page: a blank page leaves the position and is followed by a non-blank one, a non-blank
page advances. -/
theorem twoSided_step {sz q q' : Nat} {b b' : Bool}
    (h : if b then q' = q ∧ b' = false else q < q') (hq' : q' < sz) :
    twoSided sz q' b' + 1 ≤ twoSided sz q b := by
  unfold twoSided
  cases b
  · simp only [Bool.false_eq_true, if_false] at h ⊢; split <;> omega
  · obtain ⟨rfl, rfl⟩ := h; simp

end Wp.PageLoop
