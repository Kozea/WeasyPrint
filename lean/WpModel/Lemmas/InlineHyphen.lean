/-
Dictionary hyphenation, step 4 of `split_first_line` (`Model/Hyphenate.lean`): what the loop over the
dictionary's first parts of a word can answer.  Core Lean only.
-/
import WpModel.Model.Hyphenate

namespace Wp.C09L
open Wp Wp.Py Wp.Pango Wp.LB

/-- the loop over the dictionary's first parts only ever picks one of them, and the last text tried is one of them too -/
theorem tryParts_spec (st : Style) (cfg : Hy.Cfg) (maxW : MaxW) (pre word : Text) :
    ∀ (parts : List Nat),
      (∀ s t, Hy.tryParts st cfg maxW pre word parts = (some s, t) →
        s.hyphenated = true ∧ ∃ k ∈ parts, s.ri = some (pre ++ word.take k).length) ∧
      (∀ t, (Hy.tryParts st cfg maxW pre word parts).2 = some t → ∃ k ∈ parts, t = pre ++ word.take k)
  | [] => by
    constructor
    · intro s t h; simp [Hy.tryParts] at h
    · intro t h; simp [Hy.tryParts] at h
  | k :: rest => by
    have ih := tryParts_spec st cfg maxW pre word rest
    unfold Hy.tryParts
    dsimp only
    split
    · constructor
      · intro s t h
        cases h
        exact ⟨rfl, k, by simp, rfl⟩
      · intro t h
        simp only [Option.some.injEq] at h
        exact ⟨k, by simp, h.symm⟩
    · split
      · rename_i s' b hr
        constructor
        · intro s t h
          cases h
          obtain ⟨h1, k', hk', h2⟩ := ih.1 s' b hr
          exact ⟨h1, k', by simp [hk'], h2⟩
        · intro t h
          obtain ⟨k', hk', h2⟩ := ih.2 t (by rw [hr]; exact h)
          exact ⟨k', by simp [hk'], h2⟩
      · constructor
        · intro s t h; cases h
        · intro t h
          simp only [Option.some.injEq] at h
          exact ⟨k, by simp, h.symm⟩
      · rename_i t' hr
        constructor
        · intro s t h; cases h
        · intro t h
          simp only [Option.some.injEq] at h
          obtain ⟨k', hk', h2⟩ := ih.2 t' (by rw [hr])
          exact ⟨k', by simp [hk'], by rw [← h]; exact h2⟩

end Wp.C09L
