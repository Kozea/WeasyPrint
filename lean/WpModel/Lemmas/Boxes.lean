/-
`inline_in_block` and `block_in_inline` (Model/AnonBoxes.lean) on kind-trees: invariants, inversions, text, and the rule
induction `bii_run`.
-/
import WpModel.Model.AnonBoxes
import WpModel.Lemmas.Basic.List

namespace Wp.Bx
open KBox

/-- What a line box may hold: inline-level boxes, and boxes out of normal flow (floats, absolutely
positioned boxes and running elements are kept in the line where they occur). -/
def inlineContent (c : KBox) : Bool := c.isA .InlineLevelBox || !c.inFlow

def blockLevel (c : KBox) : Bool := c.isA .BlockLevelBox

/-- CSS 2.1 §9.2.1.1: the children of a block container box are either one line box holding only
inline content, or only block-level boxes. -/
def LinesOrBlocks (kids : List KBox) : Prop :=
  (∃ l, kids = [l] ∧ l.kind = .LineBox ∧ ∀ c ∈ l.kids, inlineContent c = true) ∨
  (∀ c ∈ kids, blockLevel c = true)

mutual
/-- Every block container below (outside running elements, which are left alone) satisfies
`LinesOrBlocks`; every line box holds only inline content. -/
def WF : KBox → Prop
  | .mk k st _ _ _ kids _ =>
    st.run = true ∨
      (WFList kids ∧ (Gen.isSub k .BlockContainerBox = true → LinesOrBlocks kids) ∧
       (k = .LineBox → ∀ c ∈ kids, inlineContent c = true))
def WFList : List KBox → Prop
  | [] => True
  | c :: cs => WF c ∧ WFList cs
end

mutual
/-- The input the theorems on `inline_in_block` ask for: no line box yet, and the children of block containers are
inline-level or block-level.  It is a hypothesis only: no theorem concludes it of what the earlier passes hand over, and
it fails there when a running element (which the table pass skips) holds a stray table part. -/
def Good : KBox → Prop
  | .mk k _ _ _ _ kids _ =>
    k ≠ .LineBox ∧ GoodList kids ∧
    (Gen.isSub k .BlockContainerBox = true →
      ∀ c ∈ kids, c.isA .InlineLevelBox = true ∨ c.isA .BlockLevelBox = true) ∧
    (Gen.isSub k .TextBox = true → kids = [])
def GoodList : List KBox → Prop
  | [] => True
  | c :: cs => Good c ∧ GoodList cs
end

theorem wfList_iff (l : List KBox) : WFList l ↔ ∀ c ∈ l, WF c :=
  List.listLift_iff trivial (fun _ _ => Iff.rfl) l

theorem goodList_iff (l : List KBox) : GoodList l ↔ ∀ c ∈ l, Good c :=
  List.listLift_iff trivial (fun _ _ => Iff.rfl) l

/-- The parts of a box that `inline_in_block` never changes. -/
def Same (a b : KBox) : Prop :=
  b.kind = a.kind ∧ b.st = a.st ∧ b.inst.noFloat = a.inst.noFloat ∧ b.text = a.text ∧ b.el = a.el

theorem Same.isA {a b : KBox} (h : Same a b) (c : BoxClass) : b.isA c = a.isA c := by
  simp [KBox.isA, h.1]

theorem Same.inFlow {a b : KBox} (h : Same a b) : b.inFlow = a.inFlow := by
  simp [KBox.inFlow, KBox.isFloated, h.2.1, h.2.2.1]

/-- The instance attributes `inline_in_block` leaves on a box with children: only the two space flags change. -/
def iibInst (f : Bool) (inst : Inst) (kids : List KBox) (trailing : Bool) : Inst :=
  { inst with
    lcs := if (inst.lcs || f) == false then (match kids with | c :: _ => c.inst.lcs | [] => false) else inst.lcs || f
    tcs := if inst.tcs == false then trailing else inst.tcs }

theorem iib_cases {f : Bool} {k : BoxKind} {st : Style} {el : El} {inst : Inst} {text : Text} {kids cols : List KBox}
    {b' : KBox} (h : iib f (.mk k st el inst text kids cols) = .ok b') :
    ((kids.isEmpty || st.run) = true ∧ b' = .mk k st el { inst with lcs := inst.lcs || f } text kids cols) ∨
    ((kids.isEmpty || st.run) = false ∧ ∃ children trailing, iibKids false kids = .ok (children, trailing) ∧
      ((Gen.isSub k .BlockContainerBox = false ∧
          b' = .mk k st el (iibInst f inst kids trailing) text children cols) ∨
       (Gen.isSub k .BlockContainerBox = true ∧ ∃ newChildren,
          groupLines (.mk k st el (iibInst f inst kids trailing) text children cols) children [] [] = .ok newChildren ∧
          b' = .mk k st el (iibInst f inst kids trailing) text newChildren cols))) := by
  unfold iib at h
  simp only at h
  by_cases hc : (kids.isEmpty || st.run) = true
  · rw [if_pos hc] at h
    cases h
    exact Or.inl ⟨hc, rfl⟩
  · rw [if_neg hc] at h
    refine Or.inr ⟨by simpa using hc, ?_⟩
    cases hr : iibKids false kids with
    | error e =>
      rw [hr] at h
      cases h
    | ok r =>
      obtain ⟨children, trailing⟩ := r
      rw [hr] at h
      simp only at h
      refine ⟨children, trailing, rfl, ?_⟩
      by_cases hb : (!Gen.isSub k .BlockContainerBox) = true
      · rw [if_pos hb] at h
        cases h
        exact Or.inl ⟨by simpa using hb, rfl⟩
      · rw [if_neg hb] at h
        split at h
        · cases h
        · rename_i nc hg
          cases h
          exact Or.inr ⟨by simpa using hb, nc, hg, rfl⟩

theorem iibKids_cons_cases {t : Bool} {c : KBox} {cs out : List KBox} {t' : Bool}
    (h : iibKids t (c :: cs) = .ok (out, t')) :
    ((Gen.isSub c.kind .TextBox && c.text.isEmpty) = true ∧ iibKids (c.inst.lcs || t) cs = .ok (out, t')) ∨
    ((Gen.isSub c.kind .TextBox && c.text.isEmpty) = false ∧ ∃ c1 rest,
      iib t c = .ok c1 ∧ iibKids false cs = .ok (rest, t') ∧ out = c1 :: rest) := by
  unfold iibKids at h
  split at h
  · rename_i hd
    exact Or.inl ⟨hd, h⟩
  · rename_i hd
    refine Or.inr ⟨by simpa using hd, ?_⟩
    split at h
    · cases h
    · rename_i c1 hc1
      split at h
      · cases h
      · rename_i rest t1 hrest
        cases h
        exact ⟨c1, rest, hc1, hrest, rfl⟩

theorem iib_same (f : Bool) (b b' : KBox) (h : iib f b = .ok b') : Same b b' := by
  obtain ⟨k, st, el, inst, text, kids, cols⟩ := b
  rcases iib_cases h with ⟨_, rfl⟩ | ⟨_, _, _, _, ⟨_, rfl⟩ | ⟨_, _, _, rfl⟩⟩ <;> exact ⟨rfl, rfl, rfl, rfl, rfl⟩

/-- Every box the first loop returns is the `inline_in_block` of one of the children. -/
theorem iibKids_mem (kids : List KBox) : ∀ (t : Bool) (out : List KBox) (t' : Bool),
    iibKids t kids = .ok (out, t') → ∀ o ∈ out, ∃ c ∈ kids, ∃ f, iib f c = .ok o := by
  induction kids with
  | nil => intro t out t' h; unfold iibKids at h; cases h; simp
  | cons c cs ih =>
    intro t out t' h o ho
    rcases iibKids_cons_cases h with ⟨_, h'⟩ | ⟨_, c1, rest, hc1, hrest, rfl⟩
    · obtain ⟨c', hc', f, hf⟩ := ih _ _ _ h' o ho
      exact ⟨c', List.mem_cons_of_mem _ hc', f, hf⟩
    · cases ho with
      | head => exact ⟨c, List.mem_cons_self, t, hc1⟩
      | tail _ ho' =>
        obtain ⟨c', hc', f, hf⟩ := ih _ _ _ hrest o ho'
        exact ⟨c', List.mem_cons_of_mem _ hc', f, hf⟩

theorem iibKids_noLine {kids out : List KBox} {t t' : Bool} (hk : ∀ c ∈ kids, c.kind ≠ .LineBox)
    (h : iibKids t kids = .ok (out, t')) : ∀ c ∈ out, c.kind ≠ .LineBox := by
  intro c hc
  obtain ⟨c0, hc0, f0, hf0⟩ := iibKids_mem kids t out t' h c hc
  rw [(iib_same f0 c0 c hf0).1]
  exact hk c0 hc0

theorem anon_line_wf (parent : KBox) (cs : List KBox) (h : ∀ c ∈ cs, WF c ∧ inlineContent c = true) :
    WF (anonFrom .LineBox parent cs) := by
  unfold anonFrom WF
  right
  refine ⟨(wfList_iff cs).2 (fun c hc => (h c hc).1), ?_, fun _ c hc => (h c hc).2⟩
  intro hb; exact absurd hb (by decide)

theorem anon_block_line_wf (parent : KBox) (cs : List KBox) (h : ∀ c ∈ cs, WF c ∧ inlineContent c = true) :
    WF (anonFrom .BlockBox parent [anonFrom .LineBox parent cs]) ∧
    blockLevel (anonFrom .BlockBox parent [anonFrom .LineBox parent cs]) = true := by
  refine ⟨?_, by simp [blockLevel, KBox.isA, anonFrom, KBox.kind]; decide⟩
  unfold anonFrom WF
  right
  refine ⟨⟨anon_line_wf parent cs h, trivial⟩, ?_, fun hk => by cases hk⟩
  intro _
  left
  refine ⟨_, rfl, by simp [KBox.kind], ?_⟩
  intro c hc
  simp only [KBox.kids] at hc
  exact (h c hc).2

/-- The second loop sorts the children into lines and blocks: if what it puts on a line satisfies `L`, what it
collects satisfies `A`, and so does the anonymous block around a line of `L`-boxes, then the result is one line
box of `L`-boxes (only when nothing was collected) or consists of `A`-boxes. -/
theorem groupLines_cases (parent : KBox) (L A : KBox → Prop)
    (hanon : ∀ l, (∀ c ∈ l, L c) → A (anonFrom .BlockBox parent [anonFrom .LineBox parent l])) :
    ∀ (kids line acc out : List KBox),
      (∀ c ∈ kids, (inlineContent c = true → L c) ∧ (c.isA .InlineLevelBox = false → A c)) →
      (∀ c ∈ line, L c) → (∀ c ∈ acc, A c) →
      groupLines parent kids line acc = .ok out →
      (∃ l, (∀ c ∈ l, L c) ∧ out = [anonFrom .LineBox parent l]) ∨ (∀ c ∈ out, A c) := by
  intro kids line acc out hkids hline hacc h
  fun_induction groupLines parent kids line acc with
  | case1 line acc _ lineBox _ =>
    cases h
    right
    intro c hc
    rw [List.mem_reverse] at hc
    cases hc with
    | head => exact hanon _ fun c hc => hline c (List.mem_reverse.mp hc)
    | tail _ h' => exact hacc c h'
  | case2 line acc _ lineBox _ =>
    cases h
    exact Or.inl ⟨_, fun c hc => hline c (List.mem_reverse.mp hc), rfl⟩
  | case3 line acc _ =>
    cases h
    exact Or.inr (fun c hc => hacc c (List.mem_reverse.mp hc))
  | case4 => cases h
  | case5 c cs line acc _ habs ih =>
    -- an absolutely positioned box after the start of a line stays on the line
    simp only [Bool.and_eq_true] at habs
    refine ih (List.forall_mem_cons.mp hkids).2 ?_ hacc h
    intro d hd
    cases hd with
    | head =>
      exact (hkids c List.mem_cons_self).1
        (by simp [inlineContent, KBox.inFlow, show c.st.abs = true from habs.2])
    | tail _ h' => exact hline d h'
  | case6 c cs line acc _ _ hinl _ ih =>
    refine ih (List.forall_mem_cons.mp hkids).2 ?_ hacc h
    intro d hd
    cases hd with
    | head =>
      refine (hkids c List.mem_cons_self).1 ?_
      simp only [Bool.or_eq_true, Bool.and_eq_true] at hinl
      rcases hinl with h1 | h1
      · simp [inlineContent, h1]
      · simp [inlineContent, h1.2]
    | tail _ h' => exact hline d h'
  | case7 c cs line acc _ _ _ _ ih => exact ih (List.forall_mem_cons.mp hkids).2 hline hacc h
  | case8 c cs line acc _ _ hinl _ lineBox ih =>
    simp only [Bool.or_eq_true, not_or, Bool.not_eq_true] at hinl
    refine ih (List.forall_mem_cons.mp hkids).2 (by simp) ?_ h
    intro d hd
    cases hd with
    | head => exact (hkids c List.mem_cons_self).2 hinl.1
    | tail _ h' =>
      cases h' with
      | head => exact hanon _ (fun e he => hline e (List.mem_reverse.mp he))
      | tail _ h'' => exact hacc d h''
  | case9 c cs line acc _ _ hinl _ ih =>
    simp only [Bool.or_eq_true, not_or, Bool.not_eq_true] at hinl
    refine ih (List.forall_mem_cons.mp hkids).2 (by simp) ?_ h
    intro d hd
    cases hd with
    | head => exact (hkids c List.mem_cons_self).2 hinl.1
    | tail _ h' => exact hacc d h'

theorem groupLines_spec (parent : KBox) (kids out : List KBox)
    (hkids : ∀ c ∈ kids, WF c ∧ (c.isA .InlineLevelBox = true ∨ c.isA .BlockLevelBox = true))
    (h : groupLines parent kids [] [] = .ok out) : WFList out ∧ LinesOrBlocks out := by
  have hk : ∀ c ∈ kids, (inlineContent c = true → WF c ∧ inlineContent c = true) ∧
      (c.isA .InlineLevelBox = false → WF c ∧ blockLevel c = true) := by
    intro c hc
    obtain ⟨hw, hib⟩ := hkids c hc
    refine ⟨fun hi => ⟨hw, hi⟩, fun hn => ⟨hw, ?_⟩⟩
    rcases hib with h1 | h1
    · rw [hn] at h1
      cases h1
    · exact h1
  rcases groupLines_cases parent _ _ (anon_block_line_wf parent) kids [] [] out hk nofun nofun h with
    ⟨l, hl, rfl⟩ | hall
  · exact ⟨⟨anon_line_wf parent l hl, trivial⟩, Or.inl ⟨_, rfl, rfl, fun c hc => (hl c hc).2⟩⟩
  · exact ⟨(wfList_iff _).2 (fun c hc => (hall c hc).1), Or.inr (fun c hc => (hall c hc).2)⟩

theorem good_kids {k st el inst text kids cols} (h : Good (.mk k st el inst text kids cols)) :
    k ≠ .LineBox ∧ GoodList kids ∧ (Gen.isSub k .BlockContainerBox = true →
      ∀ c ∈ kids, c.isA .InlineLevelBox = true ∨ c.isA .BlockLevelBox = true) ∧
    (Gen.isSub k .TextBox = true → kids = []) := by
  unfold Good at h; exact h

mutual
/-- After `inline_in_block` every block container holds one line box or only block-level boxes. -/
theorem iib_wf : ∀ (b : KBox) (f : Bool) (b' : KBox), Good b → iib f b = .ok b' → WF b'
  | .mk k st el inst text kids cols, f, b', hg, h => by
    obtain ⟨hk, hgl, hflow, _⟩ := good_kids hg
    rcases iib_cases h with ⟨hcond, rfl⟩ | ⟨_, children, trailing, hkids, hb'⟩
    · unfold WF
      simp only [Bool.or_eq_true] at hcond
      rcases hcond with he | hr
      · have : kids = [] := by simpa using he
        subst this
        exact Or.inr ⟨trivial, fun _ => Or.inr (by simp), fun _ => by simp⟩
      · exact Or.inl hr
    · have hwf : WFList children := iibKids_wf kids false children trailing hgl hkids
      rcases hb' with ⟨hnb, rfl⟩ | ⟨hbc, newChildren, hgroup, rfl⟩
      · unfold WF
        exact Or.inr ⟨hwf, fun hb => absurd (hnb ▸ hb) (by decide), fun hl => absurd hl hk⟩
      · have hkidsR : ∀ c ∈ children, WF c ∧ (c.isA .InlineLevelBox = true ∨ c.isA .BlockLevelBox = true) := by
          intro c hc
          refine ⟨(wfList_iff children).1 hwf c hc, ?_⟩
          obtain ⟨c0, hc0, f0, hf0⟩ := iibKids_mem kids false children trailing hkids c hc
          have hs := iib_same f0 c0 c hf0
          rw [hs.isA, hs.isA]
          exact hflow hbc c0 hc0
        have := groupLines_spec _ children newChildren hkidsR hgroup
        unfold WF
        exact Or.inr ⟨this.1, fun _ => this.2, fun hl => absurd hl hk⟩
theorem iibKids_wf : ∀ (kids : List KBox) (t : Bool) (out : List KBox) (t' : Bool),
    GoodList kids → iibKids t kids = .ok (out, t') → WFList out
  | [], t, out, t', _, h => by
    unfold iibKids at h; cases h; trivial
  | c :: cs, t, out, t', hg, h => by
    unfold GoodList at hg
    rcases iibKids_cons_cases h with ⟨_, h'⟩ | ⟨_, c1, rest, hc1, hrest, rfl⟩
    · exact iibKids_wf cs _ out t' hg.2 h'
    · exact ⟨iib_wf c t c1 hg.1 hc1, iibKids_wf cs false rest _ hg.2 hrest⟩
end

theorem isA_line_iff (c : KBox) : c.isA .LineBox = true ↔ c.kind = .LineBox := by
  unfold KBox.isA
  generalize c.kind = k
  revert k
  decide

theorem groupLines_ok (parent : KBox) (kids : List KBox) (h : ∀ c ∈ kids, c.kind ≠ .LineBox) :
    ∀ (line acc : List KBox), ∃ out, groupLines parent kids line acc = .ok out := by
  intro line acc
  fun_induction groupLines parent kids line acc
  case case1 | case2 | case3 => exact ⟨_, rfl⟩
  case case4 c cs line acc hline => exact absurd ((isA_line_iff c).1 hline) (h c List.mem_cons_self)
  -- every other return is a recursive call
  all_goals
    rename_i ih
    exact ih fun d hd => h d (List.mem_cons_of_mem _ hd)

theorem good_kind {b : KBox} (h : Good b) : b.kind ≠ .LineBox := by
  obtain ⟨k, st, el, inst, text, kids, cols⟩ := b
  exact (good_kids h).1

mutual
/-- No assertion of `inline_in_block` can fail on a tree without line boxes (`P`: any predicate that says so and
descends to the children). -/
theorem iib_ok_of {P : KBox → Prop} (hP : ∀ b, P b → b.kind ≠ .LineBox ∧ ∀ c ∈ b.kids, P c) :
    ∀ (b : KBox) (f : Bool), P b → ∃ b', iib f b = .ok b'
  | .mk k st el inst text kids cols, f, hg => by
    have hgl : ∀ c ∈ kids, P c := (hP _ hg).2
    by_cases hc : (kids.isEmpty || st.run) = true
    · exact ⟨_, by
        unfold iib
        exact if_pos hc⟩
    · obtain ⟨⟨children, trailing⟩, hr⟩ := iibKids_ok_of hP kids false hgl
      by_cases hb : (!Gen.isSub k .BlockContainerBox) = true
      · exact ⟨_, by
          unfold iib
          simp only
          rw [if_neg hc, hr]
          exact if_pos hb⟩
      · have hkinds := iibKids_noLine (fun c hc => (hP _ (hgl c hc)).1) hr
        obtain ⟨out, hout⟩ := groupLines_ok
          (KBox.mk k st el { inst with lcs := _, tcs := _ } text children cols) children hkinds [] []
        exact ⟨_, by
          unfold iib
          simp only
          rw [if_neg hc, hr]
          simp only
          rw [if_neg hb, hout]⟩
theorem iibKids_ok_of {P : KBox → Prop} (hP : ∀ b, P b → b.kind ≠ .LineBox ∧ ∀ c ∈ b.kids, P c) :
    ∀ (kids : List KBox) (t : Bool), (∀ c ∈ kids, P c) → ∃ r, iibKids t kids = .ok r
  | [], t, _ => by unfold iibKids; exact ⟨_, rfl⟩
  | c :: cs, t, hg => by
    rw [List.forall_mem_cons] at hg
    unfold iibKids
    split
    · exact iibKids_ok_of hP cs _ hg.2
    · obtain ⟨c1, hc1⟩ := iib_ok_of hP c t hg.1
      obtain ⟨r, hr⟩ := iibKids_ok_of hP cs false hg.2
      rw [hc1, hr]
      exact ⟨_, rfl⟩
end

theorem good_line (b : KBox) (h : Good b) : b.kind ≠ .LineBox ∧ ∀ c ∈ b.kids, Good c := by
  refine ⟨good_kind h, ?_⟩
  obtain ⟨k, st, el, inst, text, kids, cols⟩ := b
  exact (goodList_iff kids).1 (good_kids h).2.1

theorem iib_ok : ∀ (b : KBox) (f : Bool), Good b → ∃ b', iib f b = .ok b' := iib_ok_of good_line

theorem iibKids_ok : ∀ (kids : List KBox) (t : Bool), GoodList kids → ∃ r, iibKids t kids = .ok r :=
  fun kids t hg => iibKids_ok_of good_line kids t ((goodList_iff kids).1 hg)

mutual
/-- The text of a subtree, in document order. -/
def leafText : KBox → Text
  | .mk _ _ _ _ text kids _ => text ++ leafTextL kids
def leafTextL : List KBox → Text
  | [] => []
  | c :: cs => leafText c ++ leafTextL cs
end

/-- The text without its U+0020 characters. -/
def noSp (t : Text) : Text := t.filter (fun c => c != 32)

@[simp] theorem noSp_nil : noSp [] = [] := rfl

theorem noSp_append (a b : Text) : noSp (a ++ b) = noSp a ++ noSp b := by simp [noSp]

theorem leafTextL_append (a b : List KBox) : leafTextL (a ++ b) = leafTextL a ++ leafTextL b := by
  induction a with
  | nil => simp [leafTextL]
  | cons c cs ih => simp [leafTextL, ih]

theorem leafTextL_reverse_cons (c : KBox) (l : List KBox) :
    leafTextL (c :: l).reverse = leafTextL l.reverse ++ leafText c := by
  simp [leafTextL_append, leafTextL]

theorem leafText_anon (cls : BoxKind) (parent : KBox) (kids : List KBox) :
    leafText (anonFrom cls parent kids) = leafTextL kids := by
  simp [anonFrom, leafText]

def TextLeaf (c : KBox) : Prop := c.isA .TextBox = true → c.kids = []

theorem good_textLeaf {c : KBox} (h : Good c) : TextLeaf c := by
  obtain ⟨k, st, el, inst, text, kids, cols⟩ := c
  exact (good_kids h).2.2.2

theorem leafText_of_text (c : KBox) (h : TextLeaf c) (ht : c.isA .TextBox = true) : leafText c = c.text := by
  obtain ⟨k, st, el, inst, text, kids, cols⟩ := c
  have : kids = [] := h ht
  subst this
  simp [leafText, leafTextL, KBox.text]

/-- The second loop only drops text boxes holding one space. -/
theorem groupLines_text (parent : KBox) (kids : List KBox) :
    ∀ (line acc out : List KBox), (∀ c ∈ kids, TextLeaf c) →
      groupLines parent kids line acc = .ok out →
      noSp (leafTextL out) = noSp (leafTextL acc.reverse) ++ noSp (leafTextL line.reverse) ++ noSp (leafTextL kids) := by
  intro line acc out hg h
  fun_induction groupLines parent kids line acc with
  | case1 line acc _ lineBox _ =>
    cases h
    simp [lineBox, leafTextL_append, leafTextL, leafText_anon, noSp_append]
  | case2 line acc _ lineBox hacc =>
    cases h
    have : acc = [] := by simpa using hacc
    subst this
    simp [lineBox, leafTextL, leafText_anon]
  | case3 line acc hl =>
    cases h
    have : line = [] := by simpa using hl
    subst this
    simp [leafTextL, noSp]
  | case4 => cases h
  | case5 c cs line acc _ _ ih | case6 c cs line acc _ _ _ _ ih =>
    rw [ih (List.forall_mem_cons.mp hg).2 h, leafTextL_reverse_cons]
    simp [leafTextL, noSp_append]
  | case7 c cs line acc _ _ _ hdrop ih =>
    rw [ih (List.forall_mem_cons.mp hg).2 h]
    simp only [Bool.or_eq_true, Bool.not_eq_true', not_or, Bool.not_eq_false, Bool.and_eq_true,
      beq_iff_eq] at hdrop
    have ht : leafText c = [Ch.sp] := by
      rw [leafText_of_text c (hg c List.mem_cons_self) hdrop.2.1.1]
      exact hdrop.2.1.2
    simp [leafTextL, ht, noSp, Ch.sp]
  | case8 c cs line acc _ _ _ _ lineBox ih =>
    rw [ih (List.forall_mem_cons.mp hg).2 h]
    simp [lineBox, leafTextL_append, leafTextL, leafText_anon, noSp_append]
  | case9 c cs line acc _ _ _ hl ih =>
    have : line = [] := by simpa using hl
    subst this
    rw [ih (List.forall_mem_cons.mp hg).2 h, leafTextL_reverse_cons]
    simp [leafTextL, noSp_append]

mutual
/-- `inline_in_block` keeps the text of the tree, in order, up to U+0020 characters (it removes
text boxes emptied by `process_whitespace` and the single collapsible space that would start a line), on every tree
whose text boxes are leaves (`P`: any predicate that says so and descends to the children). -/
theorem iib_text_of {P : KBox → Prop} (hP : ∀ b, P b → TextLeaf b ∧ ∀ c ∈ b.kids, P c) :
    ∀ (b : KBox) (f : Bool) (b' : KBox), P b → iib f b = .ok b' → noSp (leafText b') = noSp (leafText b)
  | .mk k st el inst text kids cols, f, b', hg, h => by
    have hgl : ∀ c ∈ kids, P c := (hP _ hg).2
    rcases iib_cases h with ⟨_, rfl⟩ | ⟨_, children, trailing, hkids, hb'⟩
    · rfl
    · have hkt := iibKids_text_of hP kids false children trailing hgl hkids
      rcases hb' with ⟨_, rfl⟩ | ⟨_, newChildren, hgroup, rfl⟩
      · simp only [leafText, noSp_append, hkt]
      · have hgood : ∀ c ∈ children, TextLeaf c := by
          intro c hc ht
          obtain ⟨c0, hc0, f0, hf0⟩ := iibKids_mem kids false children trailing hkids c hc
          obtain ⟨k0, st0, el0, inst0, text0, kids0, cols0⟩ := c0
          rw [(iib_same f0 _ c hf0).isA] at ht
          have hk0 : kids0 = [] := (hP _ (hgl _ hc0)).1 ht
          subst hk0
          rcases iib_cases hf0 with ⟨_, rfl⟩ | ⟨hne, _⟩
          · rfl
          · cases hne
        have := groupLines_text _ children [] [] newChildren hgood hgroup
        simp only [List.reverse_nil, leafTextL, noSp_nil, List.nil_append] at this
        simp only [leafText, noSp_append, this, hkt]
theorem iibKids_text_of {P : KBox → Prop} (hP : ∀ b, P b → TextLeaf b ∧ ∀ c ∈ b.kids, P c) :
    ∀ (kids : List KBox) (t : Bool) (out : List KBox) (t' : Bool),
    (∀ c ∈ kids, P c) → iibKids t kids = .ok (out, t') → noSp (leafTextL out) = noSp (leafTextL kids)
  | [], t, out, t', _, h => by
    unfold iibKids at h; cases h; rfl
  | c :: cs, t, out, t', hg, h => by
    rw [List.forall_mem_cons] at hg
    rcases iibKids_cons_cases h with ⟨hdrop, h'⟩ | ⟨_, c1, rest, hc1, hrest, rfl⟩
    · rw [iibKids_text_of hP cs _ out t' hg.2 h']
      simp only [Bool.and_eq_true] at hdrop
      have he : c.text = [] := by simpa using hdrop.2
      simp only [leafTextL, leafText_of_text c (hP c hg.1).1 hdrop.1, he, List.nil_append]
    · simp only [leafTextL, noSp_append]
      rw [iib_text_of hP c t c1 hg.1 hc1, iibKids_text_of hP cs false rest _ hg.2 hrest]
end

theorem good_step (b : KBox) (h : Good b) : TextLeaf b ∧ ∀ c ∈ b.kids, Good c :=
  ⟨good_textLeaf h, (good_line b h).2⟩

theorem iib_text : ∀ (b : KBox) (f : Bool) (b' : KBox), Good b → iib f b = .ok b' →
    noSp (leafText b') = noSp (leafText b) := iib_text_of good_step

theorem iibKids_text : ∀ (kids : List KBox) (t : Bool) (out : List KBox) (t' : Bool),
    GoodList kids → iibKids t kids = .ok (out, t') → noSp (leafTextL out) = noSp (leafTextL kids) :=
  fun kids t out t' hg => iibKids_text_of good_step kids t out t' ((goodList_iff kids).1 hg)

mutual
/-- No block-level box in normal flow is a child of the box or of an inline box below it. -/
def NoBlk : KBox → Prop
  | .mk _ _ _ _ _ kids _ => NoBlkL kids
def NoBlkL : List KBox → Prop
  | [] => True
  | c :: cs =>
    ¬ (c.isA .BlockLevelBox = true ∧ c.inFlow = true) ∧ (c.isA .InlineBox = true → NoBlk c) ∧ NoBlkL cs
end

mutual
/-- Every line box below (outside running elements) is free of block-level boxes in normal flow,
through any depth of inline boxes. -/
def WF2 : KBox → Prop
  | .mk k st _ _ _ kids _ => st.run = true ∨ ((k = .LineBox → NoBlkL kids) ∧ WF2L kids)
def WF2L : List KBox → Prop
  | [] => True
  | c :: cs => WF2 c ∧ WF2L cs
end

mutual
/-- Input of `block_in_inline` as `inline_in_block` leaves it: line boxes are never children of a
line box or of an inline box. -/
def Pre : KBox → Prop
  | .mk k _ _ _ _ kids _ =>
    ((k = .LineBox ∨ Gen.isSub k .InlineBox = true) → ∀ c ∈ kids, c.kind ≠ .LineBox) ∧ PreL kids
def PreL : List KBox → Prop
  | [] => True
  | c :: cs => Pre c ∧ PreL cs
end

theorem preL_iff (l : List KBox) : PreL l ↔ ∀ c ∈ l, Pre c :=
  List.listLift_iff trivial (fun _ _ => Iff.rfl) l

theorem wf2L_append (a b : List KBox) : WF2L (a ++ b) ↔ WF2L a ∧ WF2L b := by
  simp only [List.listLift_iff (XL := WF2L) (X := WF2) trivial (fun _ _ => Iff.rfl), List.forall_mem_append]

theorem noBlkL_append (a b : List KBox) : NoBlkL (a ++ b) ↔ NoBlkL a ∧ NoBlkL b := by
  induction a with
  | nil => simp [NoBlkL]
  | cons c cs ih => simp [NoBlkL, ih, and_assoc]

theorem pre_kids {b : KBox} (h : Pre b) :
    ((b.kind = .LineBox ∨ b.isA .InlineBox = true) → ∀ c ∈ b.kids, c.kind ≠ .LineBox) ∧ PreL b.kids := by
  obtain ⟨k, st, el, inst, text, kids, cols⟩ := b
  unfold Pre at h
  exact h

theorem wf2_withKids (b : KBox) (ks : List KBox) (h1 : b.kind = .LineBox → NoBlkL ks) (h2 : WF2L ks) :
    WF2 (b.withKids ks) := by
  obtain ⟨k, st, el, inst, text, kids, cols⟩ := b
  unfold KBox.withKids WF2
  exact Or.inr ⟨h1, h2⟩

theorem withKids_proj (b : KBox) (ks : List KBox) :
    (b.withKids ks).kind = b.kind ∧ (b.withKids ks).st = b.st ∧ (b.withKids ks).inst = b.inst ∧
    (b.withKids ks).kids = ks := by
  obtain ⟨k, st, el, inst, text, kids, cols⟩ := b
  exact ⟨rfl, rfl, rfl, rfl⟩

/-- `isinstance(child, BlockLevelBox) and child.is_in_normal_flow()` -/
def isBlk (c : KBox) : Bool := c.isA .BlockLevelBox && c.inFlow

theorem bii_same : ∀ (n : Nat) (b b' : KBox), bii n b = .ok b' →
    b'.kind = b.kind ∧ b'.st = b.st ∧ b'.inst = b.inst
  | 0, b, b', h => by unfold bii at h; cases h
  | n + 1, b, b', h => by
    unfold bii at h
    split at h
    · cases h; exact ⟨rfl, rfl, rfl⟩
    · split at h
      · cases h
      · cases h
        obtain ⟨k, st, el, inst, text, kids, cols⟩ := b
        exact ⟨rfl, rfl, rfl⟩

/-- Rule induction over the successful runs of `block_in_inline`: one premise per way in which one of
its five functions returns, with the facts about the calls it made as hypotheses.  Fuel and the error
branches do not appear. -/
theorem bii_run
    {Pb : KBox → KBox → Prop} {Pk : KBox → List KBox → List KBox → Prop}
    {Pl : KBox → KBox → List Nat → Bool → List KBox → Prop}
    {Pi : KBox → List Nat → List KBox → Option KBox → List Nat → Prop}
    {Pn : List KBox → Nat → List Nat → List KBox → InnerLoop → Prop}
    (b_leaf : ∀ b, (b.kids.isEmpty || b.st.run) = true → Pb b b)
    (b_kids : ∀ b ks, Pk b b.kids ks → Pb b (b.withKids ks))
    (k_nil : ∀ p, Pk p [] [])
    (k_line : ∀ p c cs pieces rest, c.isA .LineBox = true → Pl p c [] false pieces → Pk p cs rest →
      Pk p (c :: cs) (pieces ++ rest))
    (k_box : ∀ p c cs c' rest, c.isA .LineBox = false → Pb c c' → Pk p cs rest →
      Pk p (c :: cs) (c' :: rest))
    (l_done : ∀ p line stack emitted ks res, Pi line stack ks none res →
      Pl p line stack emitted (if emitted then [anonFrom .BlockBox p [line.withKids ks]] else [line.withKids ks]))
    (l_block : ∀ p line stack emitted ks blk stack' blk' rest, Pi line stack ks (some blk) stack' →
      Pb blk blk' → Pl p line stack' true rest →
      Pl p line stack emitted (anonFrom .BlockBox p [line.withKids ks] :: blk' :: rest))
    (i_found : ∀ box stack ks blk res,
      Pn (box.kids.drop (stack.headD 0)) (stack.headD 0) stack.tail [] (.found ks blk res) →
      Pi box stack ks (some blk) res)
    (i_done : ∀ box stack ks,
      Pn (box.kids.drop (stack.headD 0)) (stack.headD 0) stack.tail [] (.done ks) →
      Pi box stack ks none [])
    (n_nil : ∀ idx stack acc, Pn [] idx stack acc (.done acc.reverse))
    (n_block : ∀ c cs idx acc, isBlk c = true →
      Pn (c :: cs) idx [] acc (.found acc.reverse c [idx + 1]))
    (n_split : ∀ c cs idx stack acc ks blk res, isBlk c = false →
      c.isA .InlineBox = true → Pi c stack ks (some blk) res →
      Pn (c :: cs) idx stack acc (.found (c.withKids ks :: acc).reverse blk (idx :: res)))
    (n_inline : ∀ c cs idx stack acc ks res r, isBlk c = false →
      c.isA .InlineBox = true → Pi c stack ks none res → Pn cs (idx + 1) [] (c.withKids ks :: acc) r →
      Pn (c :: cs) idx stack acc r)
    (n_box : ∀ c cs idx acc c' r, isBlk c = false → c.isA .InlineBox = false →
      c'.kind = c.kind ∧ c'.st = c.st ∧ c'.inst = c.inst → Pb c c' → Pn cs (idx + 1) [] (c' :: acc) r →
      Pn (c :: cs) idx [] acc r) :
    ∀ n,
      (∀ b b', bii n b = .ok b' → Pb b b') ∧
      (∀ p kids out, biiKids n p kids = .ok out → Pk p kids out) ∧
      (∀ p line stack emitted out, biiLine n p line stack emitted = .ok out → Pl p line stack emitted out) ∧
      (∀ box stack box' blk res, inner n box stack = .ok (box', blk, res) →
        ∃ ks, box' = box.withKids ks ∧ Pi box stack ks blk res) ∧
      (∀ kids idx stack acc r, innerKids n kids idx stack acc = .ok r → Pn kids idx stack acc r) := by
  intro n
  induction n using Nat.strongRecOn with | _ n ih => ?_
  refine ⟨?_, ?_, ?_, ?_, ?_⟩
  · intro b b'
    fun_cases bii n b <;> intro h <;> cases h
    next hc => exact b_leaf b hc
    next ks _ hks => exact b_kids b ks ((ih _ (Nat.lt_succ_self _)).2.1 _ _ _ hks)
  · intro p kids out
    fun_cases biiKids n p kids <;> intro h <;> cases h
    all_goals obtain ⟨IHb, IHk, IHl, IHi, IHn⟩ := ih _ (Nat.lt_succ_self _)
    next => exact k_nil p
    next c cs hline pieces rest _ hp hr => exact k_line p c cs pieces rest hline (IHl _ _ _ _ _ hp) (IHk _ _ _ hr)
    next c cs hline c' hc' rest hr => exact k_box p c cs c' rest (by simpa using hline) (IHb _ _ hc') (IHk _ _ _ hr)
  · intro p line stack emitted out
    fun_cases biiLine n p line stack emitted <;> intro h <;> cases h
    all_goals obtain ⟨IHb, IHk, IHl, IHi, IHn⟩ := ih _ (Nat.lt_succ_self _)
    next hin =>
      obtain ⟨ks, rfl, hi⟩ := IHi _ _ _ _ _ hin
      exact l_done p line stack true ks _ hi
    next hin he =>
      obtain ⟨ks, rfl, hi⟩ := IHi _ _ _ _ _ hin
      have := l_done p line stack emitted ks _ hi
      rwa [if_neg he] at this
    next blk stack' blk' hb rest hrest hin =>
      obtain ⟨ks, rfl, hi⟩ := IHi _ _ _ _ _ hin
      exact l_block p line stack emitted ks blk stack' blk' rest hi (IHb _ _ hb) (IHl _ _ _ _ _ hrest)
  · intro box stack box' blk res
    fun_cases inner n box stack <;> intro h <;> cases h
    all_goals obtain ⟨IHb, IHk, IHl, IHi, IHn⟩ := ih _ (Nat.lt_succ_self _)
    next hst hik => cases stack <;> cases hst <;> exact ⟨_, rfl, i_found _ _ _ _ _ (IHn _ _ _ _ _ hik)⟩
    next hik hst => cases stack <;> cases hst <;> exact ⟨_, rfl, i_done _ _ _ (IHn _ _ _ _ _ hik)⟩
  · intro kids idx stack acc r
    fun_cases innerKids n kids idx stack acc <;> intro h
    -- every return but the two tail calls is a value
    any_goals cases h
    all_goals obtain ⟨IHb, IHk, IHl, IHi, IHn⟩ := ih _ (Nat.lt_succ_self _)
    next => exact n_nil idx stack acc
    next c cs hblk hst =>
      obtain rfl : stack = [] := by simpa using hst
      exact n_block c cs idx acc hblk
    next c cs hblk hinl c' blk res hin =>
      obtain ⟨ks, rfl, hi⟩ := IHi _ _ _ _ _ hin
      exact n_split c cs idx stack acc ks blk res (Bool.eq_false_iff.mpr hblk) hinl hi
    next c cs hblk hinl c' res hin =>
      obtain ⟨ks, rfl, hi⟩ := IHi _ _ _ _ _ hin
      exact n_inline c cs idx stack acc ks res r (Bool.eq_false_iff.mpr hblk) hinl hi (IHn _ _ _ _ _ h)
    next c cs hblk hinl c' hc' hst =>
      obtain rfl : stack = [] := by simpa using hst
      exact n_box c cs idx acc c' r (Bool.eq_false_iff.mpr hblk) (by simpa using hinl) (bii_same _ c c' hc') (IHb _ _ hc')
        (IHn _ _ _ _ _ h)

theorem flow_of_same {a b : KBox} (hk : b.kind = a.kind) (hs : b.st = a.st) (hi : b.inst = a.inst) :
    (∀ c, b.isA c = a.isA c) ∧ b.inFlow = a.inFlow := by
  constructor
  · intro c; simp [KBox.isA, hk]
  · simp [KBox.inFlow, KBox.isFloated, hs, hi]

theorem noBlk_withKids (b : KBox) (ks : List KBox) : NoBlk (b.withKids ks) ↔ NoBlkL ks := by
  obtain ⟨k, st, el, inst, text, kids, cols⟩ := b
  simp [KBox.withKids, NoBlk]

theorem isA_block_not_line (b : KBox) (h : b.isA .BlockLevelBox = true) : b.kind ≠ .LineBox := by
  intro hk
  unfold KBox.isA at h
  rw [hk] at h
  exact absurd h (by decide)

theorem preL_drop (l : List KBox) (k : Nat) (h : PreL l) : PreL (l.drop k) := by
  rw [preL_iff] at h ⊢
  intro c hc
  exact h c (List.mem_of_mem_drop hc)


theorem not_isBlk {c : KBox} (h : isBlk c = false) :
    ¬ (c.isA .BlockLevelBox = true ∧ c.inFlow = true) := by
  simpa [isBlk, Bool.and_eq_true] using h

theorem inline_step {c : KBox} {acc ks : List KBox} (hnb : isBlk c = false)
    (hacc1 : NoBlkL acc.reverse) (hacc2 : WF2L acc.reverse) (h1 : NoBlkL ks) (h2 : WF2L ks) :
    NoBlkL (c.withKids ks :: acc).reverse ∧ WF2L (c.withKids ks :: acc).reverse := by
  obtain ⟨p1, p2, p3, _⟩ := withKids_proj c ks
  obtain ⟨f1, f2⟩ := flow_of_same p1 p2 p3
  have hone : NoBlkL [c.withKids ks] := by
    refine ⟨?_, fun _ => (noBlk_withKids c ks).2 h1, trivial⟩
    rw [f1, f2]; exact not_isBlk hnb
  simp only [List.reverse_cons]
  exact ⟨(noBlkL_append _ _).2 ⟨hacc1, hone⟩,
    (wf2L_append _ _).2 ⟨hacc2, wf2_withKids c ks (fun _ => h1) h2, trivial⟩⟩

/-- `block_in_inline` leaves no block-level box in normal flow inside a line box, through any depth of
inline boxes.  The other four motives say the same of the pieces of a line: what `inner` keeps has no
such block, and the block it hands back is block-level and still satisfies `Pre`. -/
theorem bii_wf2 (n : Nat) (b b' : KBox) (hp : Pre b) (hk : b.kind ≠ .LineBox) (h : bii n b = .ok b') : WF2 b' :=
  (bii_run
    (Pb := fun b b' => Pre b → b.kind ≠ .LineBox → WF2 b')
    (Pk := fun _ kids out => PreL kids → WF2L out)
    (Pl := fun _ line _ _ out => Pre line → line.kind = .LineBox → WF2L out)
    (Pi := fun box _ ks blk _ => Pre box → (box.kind = .LineBox ∨ box.isA .InlineBox = true) →
      NoBlkL ks ∧ WF2L ks ∧ ∀ b, blk = some b → Pre b ∧ b.isA .BlockLevelBox = true)
    (Pn := fun kids _ _ acc r => PreL kids → (∀ c ∈ kids, c.kind ≠ .LineBox) → NoBlkL acc.reverse → WF2L acc.reverse →
      match r with
      | .found ks b _ => NoBlkL ks ∧ WF2L ks ∧ Pre b ∧ b.isA .BlockLevelBox = true
      | .done ks => NoBlkL ks ∧ WF2L ks)
    (b_leaf := by
      intro b hc _ _
      obtain ⟨k, st, el, inst, text, kids, cols⟩ := b
      unfold WF2
      simp only [KBox.kids, KBox.st, Bool.or_eq_true] at hc
      rcases hc with he | hr
      · have : kids = [] := by simpa using he
        subst this
        exact Or.inr ⟨fun _ => trivial, trivial⟩
      · exact Or.inl hr)
    (b_kids := fun b ks ih hpre hk => wf2_withKids b ks (fun hl => absurd hl hk) (ih (pre_kids hpre).2))
    (k_nil := fun _ _ => trivial)
    (k_line := fun p c cs pieces rest hline ihl ihk hpre =>
      (wf2L_append _ _).2 ⟨ihl hpre.1 ((isA_line_iff c).1 hline), ihk hpre.2⟩)
    (k_box := fun p c cs c' rest hline ihb ihk hpre =>
      ⟨ihb hpre.1 (fun hk => by rw [(isA_line_iff c).2 hk] at hline; cases hline), ihk hpre.2⟩)
    (l_done := by
      intro p line stack emitted ks res ihi hpre hkind
      obtain ⟨h1, h2, _⟩ := ihi hpre (Or.inl hkind)
      have hw : WF2 (line.withKids ks) := wf2_withKids line ks (fun _ => h1) h2
      split
      · refine ⟨?_, trivial⟩
        unfold anonFrom WF2
        exact Or.inr ⟨(fun hk => by cases hk), hw, trivial⟩
      · exact ⟨hw, trivial⟩)
    (l_block := by
      intro p line stack emitted ks blk stack' blk' rest ihi ihb ihl hpre hkind
      obtain ⟨h1, h2, h3⟩ := ihi hpre (Or.inl hkind)
      obtain ⟨hpb, hbl⟩ := h3 blk rfl
      refine ⟨?_, ihb hpb (isA_block_not_line blk hbl), ihl hpre hkind⟩
      unfold anonFrom WF2
      exact Or.inr ⟨(fun hk => by cases hk), wf2_withKids line ks (fun _ => h1) h2, trivial⟩)
    (i_found := by
      intro box stack ks blk res ihn hpre hkind
      have hpk := pre_kids hpre
      have := ihn (preL_drop _ _ hpk.2) (fun c hc => hpk.1 hkind c (List.mem_of_mem_drop hc)) trivial trivial
      exact ⟨this.1, this.2.1, fun b' hb' => by cases hb'; exact this.2.2⟩)
    (i_done := by
      intro box stack ks ihn hpre hkind
      have hpk := pre_kids hpre
      have := ihn (preL_drop _ _ hpk.2) (fun c hc => hpk.1 hkind c (List.mem_of_mem_drop hc)) trivial trivial
      exact ⟨this.1, this.2, fun b' hb' => by cases hb'⟩)
    (n_nil := fun _ _ _ _ _ h1 h2 => ⟨h1, h2⟩)
    (n_block := fun c cs idx acc hblk hpre _ h1 h2 => ⟨h1, h2, hpre.1, (Bool.and_eq_true _ _ ▸ hblk).1⟩)
    (n_split := by
      intro c cs idx stack acc ks blk res hnb hinl ihi hpre hnl hacc1 hacc2
      obtain ⟨h1, h2, h3⟩ := ihi hpre.1 (Or.inr hinl)
      have := inline_step hnb hacc1 hacc2 h1 h2
      exact ⟨this.1, this.2, h3 blk rfl⟩)
    (n_inline := by
      intro c cs idx stack acc ks res r hnb hinl ihi ihn hpre hnl hacc1 hacc2
      obtain ⟨h1, h2, _⟩ := ihi hpre.1 (Or.inr hinl)
      have := inline_step hnb hacc1 hacc2 h1 h2
      exact ihn hpre.2 (fun d hd => hnl d (List.mem_cons_of_mem _ hd)) this.1 this.2)
    (n_box := by
      intro c cs idx acc c' r hnb hinl ⟨p1, p2, p3⟩ ihb ihn hpre hnl hacc1 hacc2
      obtain ⟨f1, f2⟩ := flow_of_same p1 p2 p3
      have hone : NoBlkL [c'] := by
        refine ⟨?_, fun hi => ?_, trivial⟩
        · rw [f1, f2]; exact not_isBlk hnb
        · rw [f1, hinl] at hi; cases hi
      refine ihn hpre.2 (fun d hd => hnl d (List.mem_cons_of_mem _ hd)) ?_ ?_
      · simp only [List.reverse_cons]; exact (noBlkL_append _ _).2 ⟨hacc1, hone⟩
      · simp only [List.reverse_cons]
        exact (wf2L_append _ _).2 ⟨hacc2, ihb hpre.1 (hnl c List.mem_cons_self), trivial⟩)
    n).1 b b' h hp hk

mutual
/-- Line boxes and inline boxes carry no text of their own (text lives in text boxes). -/
def Leafy : KBox → Prop
  | .mk k _ _ _ text kids _ => ((k = .LineBox ∨ Gen.isSub k .InlineBox = true) → text = []) ∧ LeafyL kids
def LeafyL : List KBox → Prop
  | [] => True
  | c :: cs => Leafy c ∧ LeafyL cs
end

theorem leafyL_iff (l : List KBox) : LeafyL l ↔ ∀ c ∈ l, Leafy c :=
  List.listLift_iff trivial (fun _ _ => Iff.rfl) l

theorem leafy_kids {b : KBox} (h : Leafy b) :
    ((b.kind = .LineBox ∨ b.isA .InlineBox = true) → b.text = []) ∧ LeafyL b.kids := by
  obtain ⟨k, st, el, inst, text, kids, cols⟩ := b
  unfold Leafy at h
  exact h

theorem leafyL_drop (l : List KBox) (k : Nat) (h : LeafyL l) : LeafyL (l.drop k) := by
  rw [leafyL_iff] at h ⊢
  intro c hc
  exact h c (List.mem_of_mem_drop hc)

theorem leafText_withKids (b : KBox) (ks : List KBox) : leafText (b.withKids ks) = b.text ++ leafTextL ks := by
  obtain ⟨k, st, el, inst, text, kids, cols⟩ := b
  simp [KBox.withKids, leafText, KBox.text]

theorem leafText_eq (b : KBox) : leafText b = b.text ++ leafTextL b.kids := by
  obtain ⟨k, st, el, inst, text, kids, cols⟩ := b
  simp [leafText, KBox.text, KBox.kids]

/-- Text of `kids` still to come when the first of them is resumed at `stack` (`[]`: from its start). -/
def textAt : KBox → List Nat → Text
  | box, [] => leafTextL box.kids
  | box, i :: tl =>
    match tl, box.kids.drop i with
    | [], ks => leafTextL ks
    | _ :: _, c :: rest => textAt c tl ++ leafTextL rest
    | _ :: _, [] => []

/-- The same for a list of children whose first one is resumed at `stack`. -/
def kidsText (kids : List KBox) (stack : List Nat) : Text :=
  match stack, kids with
  | [], ks => leafTextL ks
  | _ :: _, c :: rest => textAt c stack ++ leafTextL rest
  | _ :: _, [] => []

/-- Text after a resume position `res` (absolute indices) in a list starting at index `idx`. -/
def resumeText (kids : List KBox) (idx : Nat) (res : List Nat) : Text :=
  match res with
  | [] => []
  | j :: tl => kidsText (kids.drop (j - idx)) tl

theorem textAt_cons (box : KBox) (i : Nat) (tl : List Nat) :
    textAt box (i :: tl) = kidsText (box.kids.drop i) tl := by
  cases tl with
  | nil => simp [textAt, kidsText]
  | cons t ts =>
    cases h : box.kids.drop i with
    | nil => simp [textAt, kidsText, h]
    | cons c rest => simp [textAt, kidsText, h]

theorem textAt_nil (box : KBox) : textAt box [] = leafTextL box.kids := by simp [textAt]

theorem kidsText_nil (kids : List KBox) : kidsText kids [] = leafTextL kids := by
  cases kids <;> simp [kidsText]

theorem kidsText_cons (c : KBox) (cs : List KBox) (stack : List Nat) (hc : c.text = []) :
    kidsText (c :: cs) stack = textAt c stack ++ leafTextL cs := by
  cases stack with
  | nil => simp [kidsText, textAt, leafTextL, leafText_eq c, hc]
  | cons i tl => simp [kidsText]

theorem resumeText_shift (c : KBox) (cs : List KBox) (idx j : Nat) (tl : List Nat) (h : idx + 1 ≤ j) :
    resumeText (c :: cs) idx (j :: tl) = resumeText cs (idx + 1) (j :: tl) := by
  simp only [resumeText]
  have : j - idx = (j - (idx + 1)) + 1 := by omega
  rw [this, List.drop_succ_cons]

/-- `block_in_inline` keeps the text of the tree, in order.  For a line the text is counted from the
resume position: what `inner` keeps, the block it hands back and what lies after the new position
(`textAt`) make up what lay after the old one. -/
theorem bii_leafText (n : Nat) (b b' : KBox) (hl : Leafy b) (h : bii n b = .ok b') : leafText b' = leafText b :=
  (bii_run
    (Pb := fun b b' => Leafy b → leafText b' = leafText b)
    (Pk := fun _ kids out => LeafyL kids → leafTextL out = leafTextL kids)
    (Pl := fun _ line stack _ out => Leafy line → line.text = [] → leafTextL out = textAt line stack)
    (Pi := fun box stack ks blk resume => Leafy box →
      match blk with
      | none => leafTextL ks = textAt box stack
      | some b => leafTextL ks ++ leafText b ++ textAt box resume = textAt box stack ∧ resume ≠ [] ∧ Leafy b)
    (Pn := fun kids idx stack acc r => LeafyL kids →
      match r with
      | .found ks b res =>
        leafTextL ks ++ leafText b ++ resumeText kids idx res = leafTextL acc.reverse ++ kidsText kids stack ∧
        (∃ j tl, res = j :: tl ∧ idx ≤ j) ∧ Leafy b
      | .done ks => leafTextL ks = leafTextL acc.reverse ++ kidsText kids stack)
    (b_leaf := fun _ _ _ => rfl)
    (b_kids := fun b ks ih hl => by rw [leafText_withKids, leafText_eq b, ih (leafy_kids hl).2])
    (k_nil := fun _ _ => rfl)
    (k_line := by
      intro p c cs pieces rest hline ihl ihk hl
      have hct : c.text = [] := (leafy_kids hl.1).1 (Or.inl ((isA_line_iff c).1 hline))
      rw [leafTextL_append, ihl hl.1 hct, ihk hl.2, textAt_nil]
      simp [leafTextL, leafText_eq c, hct])
    (k_box := by
      intro p c cs c' rest _ ihb ihk hl
      simp only [leafTextL]
      rw [ihb hl.1, ihk hl.2])
    (l_done := by
      intro p line stack emitted ks res ihi hl ht
      have h1 := ihi hl
      simp only at h1
      split
      · simp [leafTextL, leafText_anon, leafText_withKids, ht, h1]
      · simp [leafTextL, leafText_withKids, ht, h1])
    (l_block := by
      intro p line stack emitted ks blk stack' blk' rest ihi ihb ihl hl ht
      have h1 := ihi hl
      simp only at h1
      obtain ⟨h1, _, hlb⟩ := h1
      simp only [leafTextL, leafText_anon, leafText_withKids, ht, List.nil_append, List.append_nil]
      rw [ihb hlb, ihl hl ht, ← h1]
      simp)
    (i_found := by
      intro box stack ks blk res ihn hl
      have := ihn (leafyL_drop _ _ (leafy_kids hl).2)
      simp only [List.reverse_nil, leafTextL, List.nil_append] at this
      obtain ⟨t1, ⟨j, tl', rfl, hj⟩, t3⟩ := this
      refine ⟨?_, by simp, t3⟩
      cases stack with
      | nil =>
        simp only [List.headD_nil, List.tail_nil, List.drop_zero, kidsText_nil] at t1
        rw [textAt_cons, textAt_nil]
        simpa [resumeText] using t1
      | cons i tl =>
        simp only [List.headD_cons, List.tail_cons, resumeText, List.drop_drop] at t1 hj
        rw [textAt_cons, textAt_cons]
        have : i + (j - i) = j := by omega
        rw [this] at t1
        exact t1)
    (i_done := by
      intro box stack ks ihn hl
      have := ihn (leafyL_drop _ _ (leafy_kids hl).2)
      simp only [List.reverse_nil, leafTextL, List.nil_append] at this
      cases stack with
      | nil => simpa [textAt_nil, kidsText_nil] using this
      | cons i tl => simp only [List.headD_cons, List.tail_cons] at this; simp only; rw [textAt_cons]; exact this)
    (n_nil := by intro idx stack acc _; cases stack <;> simp [kidsText, leafTextL])
    (n_block := by
      intro c cs idx acc _ hl
      refine ⟨?_, ⟨idx + 1, [], rfl, by omega⟩, hl.1⟩
      simp [resumeText, kidsText, leafTextL, List.append_assoc])
    (n_split := by
      intro c cs idx stack acc ks blk res _ hinl ihi hl
      have hct : c.text = [] := (leafy_kids hl.1).1 (Or.inr hinl)
      have h1 := ihi hl.1
      simp only at h1
      obtain ⟨h1, hne, hlb⟩ := h1
      refine ⟨?_, ⟨idx, res, rfl, Nat.le_refl _⟩, hlb⟩
      simp only [List.reverse_cons, leafTextL_append, leafTextL, leafText_withKids, hct,
        List.nil_append, List.append_nil, resumeText, Nat.sub_self, List.drop_zero]
      rw [kidsText_cons c cs stack hct, ← h1]
      cases res with
      | nil => exact absurd rfl hne
      | cons r rs => simp [kidsText, List.append_assoc])
    (n_inline := by
      intro c cs idx stack acc ks res r _ hinl ihi ihn hl
      have hct : c.text = [] := (leafy_kids hl.1).1 (Or.inr hinl)
      have h1 := ihi hl.1
      simp only at h1
      have := ihn hl.2
      have hacc : leafTextL (c.withKids ks :: acc).reverse = leafTextL acc.reverse ++ textAt c stack := by
        simp [leafTextL_append, leafTextL, leafText_withKids, hct, h1]
      cases r with
      | found ks' b res =>
        simp only at this ⊢
        obtain ⟨t1, ⟨j, tl, rfl, hj⟩, t3⟩ := this
        refine ⟨?_, ⟨j, tl, rfl, by omega⟩, t3⟩
        rw [resumeText_shift c cs idx j tl hj, t1, hacc, kidsText_nil, kidsText_cons c cs stack hct]
        simp [List.append_assoc]
      | done ks' =>
        simp only at this ⊢
        rw [this, hacc, kidsText_nil, kidsText_cons c cs stack hct]
        simp [List.append_assoc])
    (n_box := by
      intro c cs idx acc c' r _ _ _ ihb ihn hl
      have := ihn hl.2
      have hacc : leafTextL (c' :: acc).reverse = leafTextL acc.reverse ++ leafText c := by
        simp [leafTextL_append, leafTextL, ihb hl.1]
      cases r with
      | found ks' b res =>
        simp only at this ⊢
        obtain ⟨t1, ⟨j, tl, rfl, hj⟩, t3⟩ := this
        refine ⟨?_, ⟨j, tl, rfl, by omega⟩, t3⟩
        rw [resumeText_shift c cs idx j tl hj, t1, hacc, kidsText_nil, kidsText_nil]
        simp [leafTextL, List.append_assoc]
      | done ks' =>
        simp only at this ⊢
        rw [this, hacc, kidsText_nil, kidsText_nil]
        simp [leafTextL, List.append_assoc])
    n).1 b b' h hl


/-! ### `inline_in_block` establishes the precondition of `block_in_inline` -/

theorem pre_anon (cls : BoxKind) (parent : KBox) (ks : List KBox) (h : PreL ks)
    (hk : (cls = .LineBox ∨ Gen.isSub cls .InlineBox = true) → ∀ c ∈ ks, c.kind ≠ .LineBox) :
    Pre (anonFrom cls parent ks) := by
  unfold anonFrom Pre; exact ⟨hk, h⟩

theorem leafy_anon (cls : BoxKind) (parent : KBox) (ks : List KBox) (h : LeafyL ks) :
    Leafy (anonFrom cls parent ks) := by
  unfold anonFrom Leafy; exact ⟨fun _ => rfl, h⟩

/-- What the second loop needs of every box it moves around. -/
def Fit (c : KBox) : Prop := Pre c ∧ Leafy c ∧ c.kind ≠ .LineBox

theorem fit_lists (l : List KBox) (h : ∀ c ∈ l, Fit c) : PreL l ∧ LeafyL l :=
  ⟨(preL_iff l).2 (fun c hc => (h c hc).1), (leafyL_iff l).2 (fun c hc => (h c hc).2.1)⟩

theorem fit_anon_block (parent : KBox) (line : List KBox) (h : ∀ c ∈ line, Fit c) :
    Fit (anonFrom .BlockBox parent [anonFrom .LineBox parent line]) := by
  obtain ⟨h1, h2⟩ := fit_lists line h
  refine ⟨pre_anon _ _ _ ⟨pre_anon _ _ _ h1 (fun _ c hc => (h c hc).2.2), trivial⟩ ?_,
    leafy_anon _ _ _ ⟨leafy_anon _ _ _ h2, trivial⟩, by simp [anonFrom, KBox.kind]⟩
  intro hk
  rcases hk with hk | hk
  · cases hk
  · exact absurd hk (by decide)

theorem groupLines_post (parent : KBox) (kids out : List KBox) (hkids : ∀ c ∈ kids, Fit c)
    (h : groupLines parent kids [] [] = .ok out) :
    PreL out ∧ LeafyL out := by
  rcases groupLines_cases parent Fit Fit (fit_anon_block parent) kids [] [] out
    (fun c hc => ⟨fun _ => hkids c hc, fun _ => hkids c hc⟩) nofun nofun h with ⟨l, hl, rfl⟩ | hall
  · obtain ⟨h1, h2⟩ := fit_lists l hl
    exact ⟨⟨pre_anon _ _ _ h1 (fun _ c hc => (hl c hc).2.2), trivial⟩, leafy_anon _ _ _ h2, trivial⟩
  · exact fit_lists _ hall

theorem isSub_bc_not_inline (k : BoxKind) (h : Gen.isSub k .BlockContainerBox = true) :
    ¬ (k = .LineBox ∨ Gen.isSub k .InlineBox = true) := by
  revert k
  decide

mutual
/-- A tree without any line box satisfies `Pre` (`P`: any predicate that says so and descends to the children). -/
theorem pre_of {P : KBox → Prop} (hP : ∀ b, P b → b.kind ≠ .LineBox ∧ ∀ c ∈ b.kids, P c) : ∀ (b : KBox), P b → Pre b
  | .mk k st el inst text kids cols, hg => by
    have hgl : ∀ c ∈ kids, P c := (hP _ hg).2
    unfold Pre
    exact ⟨fun _ c hc => (hP _ (hgl c hc)).1, pre_of_list hP kids hgl⟩
theorem pre_of_list {P : KBox → Prop} (hP : ∀ b, P b → b.kind ≠ .LineBox ∧ ∀ c ∈ b.kids, P c) :
    ∀ (l : List KBox), (∀ c ∈ l, P c) → PreL l
  | [], _ => trivial
  | c :: cs, hg => by
    rw [List.forall_mem_cons] at hg
    exact ⟨pre_of hP c hg.1, pre_of_list hP cs hg.2⟩
end

mutual
/-- The output of `inline_in_block` has its line boxes only as children of block containers, and
text only in text boxes: the precondition of `block_in_inline`. -/
theorem iib_post_of {P : KBox → Prop} (hP : ∀ b, P b → b.kind ≠ .LineBox ∧ ∀ c ∈ b.kids, P c) :
    ∀ (b : KBox) (f : Bool) (b' : KBox), P b → Leafy b → iib f b = .ok b' → Pre b' ∧ Leafy b'
  | .mk k st el inst text kids cols, f, b', hg, hl, h => by
    have hgl : ∀ c ∈ kids, P c := (hP _ hg).2
    have hlk := leafy_kids hl
    have hgk : ∀ c ∈ kids, c.kind ≠ .LineBox := fun c hc => (hP _ (hgl c hc)).1
    rcases iib_cases h with ⟨_, rfl⟩ | ⟨_, children, trailing, hkids, hb'⟩
    · exact ⟨by unfold Pre; exact ⟨fun _ => hgk, pre_of_list hP kids hgl⟩, hl⟩
    · obtain ⟨hp, hlf⟩ := iibKids_post_of hP kids false children trailing hgl hlk.2 hkids
      have hck := iibKids_noLine hgk hkids
      rcases hb' with ⟨_, rfl⟩ | ⟨hbc, newChildren, hgroup, rfl⟩
      · exact ⟨by unfold Pre; exact ⟨fun _ => hck, hp⟩, by unfold Leafy; exact ⟨hlk.1, hlf⟩⟩
      · have hfit : ∀ c ∈ children, Fit c := fun c hc =>
          ⟨(preL_iff children).1 hp c hc, (leafyL_iff children).1 hlf c hc, hck c hc⟩
        obtain ⟨q1, q2⟩ := groupLines_post _ children newChildren hfit hgroup
        exact ⟨by unfold Pre; exact ⟨fun hki => absurd hki (isSub_bc_not_inline k hbc), q1⟩,
          by unfold Leafy; exact ⟨hlk.1, q2⟩⟩
theorem iibKids_post_of {P : KBox → Prop} (hP : ∀ b, P b → b.kind ≠ .LineBox ∧ ∀ c ∈ b.kids, P c) :
    ∀ (kids : List KBox) (t : Bool) (out : List KBox) (t' : Bool),
    (∀ c ∈ kids, P c) → LeafyL kids → iibKids t kids = .ok (out, t') → PreL out ∧ LeafyL out
  | [], t, out, t', _, _, h => by
    unfold iibKids at h; cases h; exact ⟨trivial, trivial⟩
  | c :: cs, t, out, t', hg, hl, h => by
    rw [List.forall_mem_cons] at hg
    unfold LeafyL at hl
    rcases iibKids_cons_cases h with ⟨_, h'⟩ | ⟨_, c1, rest, hc1, hrest, rfl⟩
    · exact iibKids_post_of hP cs _ out t' hg.2 hl.2 h'
    · obtain ⟨a1, a2⟩ := iib_post_of hP c t c1 hg.1 hl.1 hc1
      obtain ⟨b1, b2⟩ := iibKids_post_of hP cs false rest _ hg.2 hl.2 hrest
      exact ⟨⟨a1, b1⟩, ⟨a2, b2⟩⟩
end

theorem pre_of_good : ∀ (b : KBox), Good b → Pre b := pre_of good_line

theorem iib_post : ∀ (b : KBox) (f : Bool) (b' : KBox), Good b → Leafy b → iib f b = .ok b' →
    Pre b' ∧ Leafy b' := iib_post_of good_line

theorem iibKids_post : ∀ (kids : List KBox) (t : Bool) (out : List KBox) (t' : Bool),
    GoodList kids → LeafyL kids → iibKids t kids = .ok (out, t') → PreL out ∧ LeafyL out :=
  fun kids t out t' hg => iibKids_post_of good_line kids t out t' ((goodList_iff kids).1 hg)

end Wp.Bx
