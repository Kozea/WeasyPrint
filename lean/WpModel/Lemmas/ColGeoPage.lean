/-
Page-level lifting of `container_after_span_fits` (`Lemmas/ColGeoStrict.lean`): `strictLines` collects, over a whole
fragment tree, the lines of the column boxes that follow a spanning block in their container (none exempt); every
one of them ends above the bottom space of the layout call, hence above the page bottom: they are among the lines
`trueLines` does not exempt (`strictLines_true`).
-/
import WpModel.Lemmas.ColGeoStrict

namespace Wp.PMC
open Wp Wp.PM

mutual
/-- The `afterSpan` lines of every container fragment of the tree. -/
def strictLines (lh : Nat → Rat) : CFrag → List PlacedLine
  | .para _ _ _ _ _ _ => []
  | .block _ _ _ _ kids => strictList lh kids
  | .cols _ _ _ _ kids => afterSpan lh kids false ++ strictList lh kids
  | .column _ _ _ _ kids => strictList lh kids
def strictList (lh : Nat → Rat) : List CFrag → List PlacedLine
  | [] => []
  | f :: rest => strictLines lh f ++ strictList lh rest
end

theorem strictList_append (lh : Nat → Rat) (xs ys : List CFrag) :
    strictList lh (xs ++ ys) = strictList lh xs ++ strictList lh ys := by
  induction xs with
  | nil => simp [strictList]
  | cons x xs ih => simp [strictList, ih]

@[simp] theorem strictLines_withIdx (lh : Nat → Rat) (f : CFrag) (i : Nat) :
    strictLines lh (f.withIdx i) = strictLines lh f := by
  cases f <;> simp [CFrag.withIdx, strictLines]

theorem strictLines_column (lh : Nat → Rat) (f : CFrag) (h : f.isColumn = true) :
    strictLines lh f = strictList lh f.kids := by
  cases f <;> first | (simp [CFrag.isColumn] at h; done) | simp [strictLines, CFrag.kids]

@[simp] theorem strictLines_withGeo (lh : Nat → Rat) (f : CFrag) (g : Geo) :
    strictLines lh (f.withGeo g) = strictLines lh f := by
  cases f <;> simp [CFrag.withGeo, strictLines]

theorem strictList_addTrailing (lh : Nat → Rat) (diff : Rat) (l : List CFrag) :
    strictList lh (addTrailing diff l).1 = strictList lh l := by
  induction l with
  | nil => simp [addTrailing]
  | cons f fs ih =>
    simp only [addTrailing]
    split <;> simp [strictList, ih, setColHeight]

theorem strictList_map_setColHeight (lh : Nat → Rat) (h : Rat) (l : List CFrag) :
    strictList lh (l.map (setColHeight h)) = strictList lh l := by
  induction l with
  | nil => rfl
  | cons f fs ih => simp [strictList, ih, setColHeight]

@[simp] theorem strictLines_cutEnd (lh : Nat → Rat) (f : CFrag) : strictLines lh f.cutEnd = strictLines lh f := by
  cases f <;> simp [CFrag.cutEnd, strictLines]

/-! ### `find_earlier_page_break` keeps a part of what was laid out -/

mutual
theorem findEarlierGo_strict (lh : Nat → Rat) (inCol : Bool) : (fs : List CFrag) →
    ∀ (kept : List CFrag) (r : Resume), (findEarlierGo inCol fs).found = some (kept, r) →
    ∀ p ∈ strictList lh kept, p ∈ strictList lh fs
  | [] => by
    intro kept r h
    simp [findEarlierGo] at h
  | x :: xs => by
    intro kept r h p hp
    rcases findEarlierGo_cons_found inCol x xs kept r h with
      ⟨kept0, hfound, rfl⟩ | ⟨_, _, rfl | ⟨x', r1, hfe, rfl⟩⟩
    · simp only [strictList, List.mem_append] at hp ⊢
      exact hp.imp_right (findEarlierGo_strict lh inCol xs kept0 r hfound p)
    · simp only [strictList, List.mem_append, List.append_nil] at hp ⊢
      exact .inl hp
    · simp only [strictList, List.mem_append, List.append_nil, strictLines_cutEnd] at hp ⊢
      exact .inl (findEarlierFrag_strict lh inCol x x' r1 hfe p hp)
theorem findEarlierFrag_strict (lh : Nat → Rat) (inCol : Bool) : (x : CFrag) → ∀ (x' : CFrag) (r : Resume),
    findEarlierFrag inCol x = some (x', r) → ∀ p ∈ strictLines lh x', p ∈ strictLines lh x
  | .para id idx st n g lines => by
    intro x' r h
    simp only [findEarlierFrag] at h
    obtain ⟨m, rfl⟩ := findEarlierPara_take id idx st n g lines x' r h
    exact fun p hp => nomatch hp
  | .block id idx st g kids => by
    intro x' r h
    simp only [findEarlierFrag] at h
    split at h
    · rename_i kids' r0 hfound
      simp only [Option.some.injEq, Prod.mk.injEq] at h
      obtain ⟨rfl, rfl⟩ := h
      simp only [strictLines]
      exact findEarlierGo_strict lh inCol kids kids' r0 hfound
    · cases h
  | .cols _ _ _ _ _ | .column _ _ _ _ _ => by
    intro x' r h
    simp [findEarlierFrag] at h
end

/-! ### the strict lines are among those not exempt; every layout, every page -/

mutual
theorem strictLines_true (lh : Nat → Rat) : (f : CFrag) → ∀ (p : Bool), PieWeaker (strictLines lh f) (trueLines lh f p)
  | .para _ _ _ _ _ _, _ => PieWeaker.nil _
  | .block _ _ _ _ kids, p | .column _ _ _ _ kids, p => by
    simp only [strictLines, trueLines]; exact strictList_true lh kids p p
  | .cols _ _ _ _ kids, p => by
    simp only [strictLines, trueLines]
    intro l hl
    rcases List.mem_append.mp hl with hl | hl
    · exact afterSpan_true lh kids false p p (fun h => nomatch h) l hl
    · exact strictList_true lh kids p p l hl
theorem strictList_true (lh : Nat → Rat) : (fs : List CFrag) → ∀ (q e : Bool),
    PieWeaker (strictList lh fs) (trueList lh fs q e)
  | [], _, _ => PieWeaker.nil _
  | f :: rest, q, e => by
    simp only [strictList, trueList]
    exact PieWeaker.append (strictLines_true lh f _) (strictList_true lh rest _ _)
end


/-- **Every column box that follows a spanning block, anywhere in the fragment tree of a layout, fits entirely.** -/
theorem box_page (lh : Nat → Rat) (box : ColBox) (hd : DecoOk box) (hl : LhOk lh box) (c : CCtx) (idx : Nat)
    (y bs : Rat) (skip : Option Resume) (cb pie : Bool) (adjL : List Rat) (f : CFrag)
    (hf : (layoutBox c box idx y bs skip cb pie adjL).frag = some f) : LinesOk c bs (strictLines lh f) :=
  (strictLines_true lh f pie).linesFit _ (box_fits lh box hd hl c idx y bs skip cb pie adjL f hf).1

theorem nth_page (lh : Nat → Rat) : (kids : List ColBox) → DecoOkList kids → LhOkList lh kids → ∀ (c : CCtx) (i : Nat)
    (y bs : Rat) (skip : Option Resume) (cb pie : Bool) (adjL : List Rat) (f : CFrag),
    (layoutNth c kids i y bs skip cb pie adjL).frag = some f → LinesOk c bs (strictLines lh f) := by
  intro kids hd hl c i y bs skip cb pie adjL f hf
  obtain ⟨b, hb, h⟩ := layoutNth_frag c kids i y bs skip cb pie adjL f hf
  exact (strictLines_true lh f pie).linesFit _
    ((boxes_fits lh kids hd hl b hb).2 c 0 y bs skip cb pie adjL f h).1

theorem kids_page (lh : Nat → Rat) : (rest : List ColBox) → DecoOkList rest → LhOkList lh rest → ∀ (c : CCtx)
    (st : PStyle) (flags : List Bool) (index skipIdx base : Nat) (bs : Rat) (pie : Bool) (s : KidsLoop),
    LinesOk c bs (strictList lh s.newChildren) →
    LinesOk c bs (strictList lh (layoutKids c st rest flags index skipIdx base bs pie s).children) := by
  intro rest hd hl c st flags index skipIdx base bs pie s hs
  have hk := boxes_fits lh rest hd hl
  refine layoutKids_inv c st bs pie (fun l => LinesOk c bs (strictList lh l)) (linesOk_nil c bs) ?_ rest ?_ ?_
    flags index skipIdx base s hs
  · intro l kept r hfound hl
    exact linesOk_sub c bs _ _ (findEarlierGo_strict lh _ _ _ _ hfound) hl
  · intro child hc idx y sk cb pie' adj f1 hf1
    exact (hk child hc).2.deco_nonneg (hk child hc).1 c idx y bs sk cb pie' adj f1 hf1
  · intro child hc l idx y bs' sk cb adj f hle hl hf
    rw [strictList_append, linesOk_append]
    refine ⟨hl, ?_⟩
    simp only [strictList, List.append_nil, strictLines_withIdx]
    exact linesOk_mono c bs bs' _ hle
      ((strictLines_true lh f _).linesFit _ ((hk child hc).2 c idx y bs' sk cb _ adj f hf).1)

end Wp.PMC
