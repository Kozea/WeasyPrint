/-
The dispatcher neither loses nor duplicates a box, and every
bucket keeps tree order.
-/
import WpModel.Lemmas.StackingSpec
import WpModel.Lemmas.StackingSort

namespace Wp.Stacking
open Wp Wp.Gen

mutual
/-- Box ids of a laid-out tree, preorder (= tree order). -/
def Box.ids : Box → List Nat
  | .leaf a => [a.id]
  | .node a kids => a.id :: Box.idsL kids
  | .ph b => b.ids
def Box.idsL : List Box → List Nat
  | [] => []
  | b :: bs => b.ids ++ Box.idsL bs
end

mutual
/-- Box ids held by a dispatched structure at *tree positions*: the pruned tree, the contexts inside
it, the child contexts and the floats.  `block_level_boxes` and `blocks_and_cells` are secondary
listings of boxes of the pruned tree and are not counted. -/
def Node.ids : Node → List Nat
  | .leaf a => [a.id]
  | .node a kids => a.id :: Node.idsL kids
  | .ph b => b.ids
  | .ctx box neg zero pos _ floats _ _ =>
    box.ids ++ (Node.idsL neg ++ (Node.idsL zero ++ (Node.idsL pos ++ Node.idsL floats)))
def Node.idsL : List Node → List Nat
  | [] => []
  | n :: ns => n.ids ++ Node.idsL ns
end

def optIds : Option Node → List Nat
  | none => []
  | some n => n.ids

theorem Node.idsL_append (l m : List Node) : Node.idsL (l ++ m) = Node.idsL l ++ Node.idsL m := by
  induction l with
  | nil => simp [Node.idsL]
  | cons x xs ih => simp [Node.idsL, ih, List.append_assoc]

theorem count_idsL (l : List Node) (i : Nat) :
    (Node.idsL l).count i = (l.map (fun n => n.ids.count i)).sum := by
  induction l with
  | nil => rfl
  | cons x xs ih => rw [Node.idsL, List.count_append, ih, List.map_cons, List.sum_cons]

theorem idsL_toList (o : Option Node) : Node.idsL o.toList = optIds o := by
  cases o
  · rfl
  · exact List.append_nil _

/-- `__init__` keeps every child context, every float and the box. -/
theorem count_ids_mkCtx (box : Node) (children blocks floats bc : List Node) (i : Nat) :
    (mkCtx box children blocks floats bc).ids.count i =
      box.ids.count i + (Node.idsL children).count i + (Node.idsL floats).count i := by
  have := sum_map_init (fun n => n.ids.count i) children
  simp only [init_lists, Node.ids, List.count_append, count_idsL]
  omega

/-- One `_dispatch` step keeps the ids of the box's own subtree. -/
theorem count_coreS (a : Attrs) (self : Node) (inner : Delta) (i : Nat) :
    (optIds (coreS a self inner).1).count i + (Node.idsL (coreS a self inner).2.cc).count i +
      (Node.idsL (coreS a self inner).2.floats).count i =
    self.ids.count i + (Node.idsL inner.cc).count i + (Node.idsL inner.floats).count i := by
  have := sum_coreS (fun n => n.ids.count i) (fun n => n.ids.count i) a self inner (self.ids.count i) id
    (fun _ _ => rfl) (fun own bl fl bc => by rw [count_ids_mkCtx, count_idsL, count_idsL]; rfl)
    (fun _ _ _ _ => rfl)
  simpa only [← count_idsL, idsL_toList, id, ite_self] using this

mutual
theorem count_dispatchS : ∀ (b : Box) (i : Nat),
    (optIds (dispatchS b).1).count i + (Node.idsL (dispatchS b).2.cc).count i +
      (Node.idsL (dispatchS b).2.floats).count i = b.ids.count i
  | .ph b, i => by rw [dispatchS, Box.ids]; exact count_dispatchS b i
  | .leaf a, i => by
    rw [dispatchS, count_coreS]; rfl
  | .node a kids, i => by
    rw [dispatchS, count_coreS]
    have := count_listS kids i
    simp only [Node.ids, Box.ids, List.count_cons]
    omega
theorem count_listS : ∀ (l : List Box) (i : Nat),
    (Node.idsL (listS l).1).count i + (Node.idsL (listS l).2.cc).count i +
      (Node.idsL (listS l).2.floats).count i = (Box.idsL l).count i
  | [], i => rfl
  | k :: ks, i => by
    have h1 := count_dispatchS k i
    have h2 := count_listS ks i
    rw [listS_cons, Box.idsL]
    simp only [Delta.append, Node.idsL_append, idsL_toList, List.count_append]
    omega
end

theorem count_fromBoxS (b : Box) (i : Nat) : (fromBoxS b).ids.count i = b.ids.count i := by
  unfold fromBoxS
  rw [count_ids_mkCtx]
  cases b with
  | leaf a => simp [childrenS, Node.ids, Box.ids, Node.idsL]
  | node a kids =>
    have := count_listS kids i
    simp only [childrenS, Node.ids, Box.ids, List.count_cons]
    omega
  | ph b => simp [childrenS, Node.ids, Box.ids, Node.idsL]

theorem count_map_fromBoxS (l : List Box) (i : Nat) :
    (Node.idsL (l.map fromBoxS)).count i = (Box.idsL l).count i := by
  induction l with
  | nil => rfl
  | cons x xs ih => simp [Node.idsL, Box.idsL, List.count_append, ih, count_fromBoxS]

mutual
/-- The boxes of a pruned tree in preorder; contexts standing in the tree are not entered. -/
def Node.region : Node → List Node
  | .leaf a => [.leaf a]
  | .node a kids => .node a kids :: Node.regionL kids
  | .ph _ => []
  | .ctx .. => []
def Node.regionL : List Node → List Node
  | [] => []
  | n :: ns => n.region ++ Node.regionL ns
end

def optRegion : Option Node → List Node
  | none => []
  | some n => n.region

/-- `isinstance(box, BlockLevelBox)` on an entry of a children list. -/
def Node.isBlockLevel : Node → Bool
  | .leaf a => a.kind.dispBlockLevel
  | .node a _ => a.kind.dispBlockLevel
  | _ => false

/-- `isinstance(box, (BlockLevelBox, TableCellBox))` in the order `_dispatch` tests them. -/
def Node.isBlockOrCell : Node → Bool
  | .leaf a => a.kind.dispBlockLevel || a.kind.dispCell
  | .node a _ => a.kind.dispBlockLevel || a.kind.dispCell
  | _ => false

theorem region_mkCtx (box : Node) (c b f bc : List Node) : (mkCtx box c b f bc).region = [] := rfl

theorem regionL_toList (o : Option Node) : Node.regionL o.toList = optRegion o := by
  cases o
  · rfl
  · exact List.append_nil _

theorem Node.regionL_append (l m : List Node) :
    Node.regionL (l ++ m) = Node.regionL l ++ Node.regionL m := by
  induction l with
  | nil => rfl
  | cons x xs ih => rw [List.cons_append, Node.regionL, Node.regionL, ih, List.append_assoc]

/-- `blocks` / `blocks_and_cells` appended by one step = the block-level boxes (and cells) of the
returned tree, in tree order, given the same for the children (`rest`: the region below the box). -/
theorem blocks_coreS (a : Attrs) (self : Node) (inner : Delta) (rest : List Node)
    (hself : self.region = self :: rest ∧ self.isBlockLevel = a.kind.dispBlockLevel ∧
      self.isBlockOrCell = (a.kind.dispBlockLevel || a.kind.dispCell))
    (hb : inner.blocks = rest.filter Node.isBlockLevel)
    (hc : inner.bc = rest.filter Node.isBlockOrCell) :
    (coreS a self inner).2.blocks = (optRegion (coreS a self inner).1).filter Node.isBlockLevel ∧
    (coreS a self inner).2.bc = (optRegion (coreS a self inner).1).filter Node.isBlockOrCell := by
  refine coreS_cases a self inner (fun h1 e => ?_) (fun h1 h2 e => ?_) (fun h1 h2 h3 e => ?_)
    (fun h1 h2 h3 h4 e => ?_) (fun h1 h2 h3 h4 e => ?_) <;> rw [e]
  · exact ⟨rfl, rfl⟩
  · exact ⟨rfl, rfl⟩
  · exact ⟨rfl, rfl⟩
  · exact ⟨rfl, rfl⟩
  · simp only [optRegion]
    rw [hself.1, List.filter_cons, List.filter_cons, hself.2.1, hself.2.2, hb, hc]
    exact ⟨rfl, rfl⟩

mutual
theorem blocks_dispatchS : ∀ (b : Box),
    (dispatchS b).2.blocks = (optRegion (dispatchS b).1).filter Node.isBlockLevel ∧
    (dispatchS b).2.bc = (optRegion (dispatchS b).1).filter Node.isBlockOrCell
  | .ph b => by rw [dispatchS]; exact blocks_dispatchS b
  | .leaf a => by
    rw [dispatchS]; exact blocks_coreS a _ {} [] ⟨rfl, rfl, rfl⟩ rfl rfl
  | .node a kids => by
    rw [dispatchS]
    exact blocks_coreS a _ _ _ ⟨rfl, rfl, rfl⟩ (blocks_listS kids).1 (blocks_listS kids).2
theorem blocks_listS : ∀ (l : List Box),
    (listS l).2.blocks = (Node.regionL (listS l).1).filter Node.isBlockLevel ∧
    (listS l).2.bc = (Node.regionL (listS l).1).filter Node.isBlockOrCell
  | [] => ⟨rfl, rfl⟩
  | k :: ks => by
    have h1 := blocks_dispatchS k
    have h2 := blocks_listS ks
    rw [listS_cons]
    simp only [Delta.append, Node.regionL_append, regionL_toList, List.filter_append]
    rw [h1.1, h1.2, h2.1, h2.2]
    exact ⟨rfl, rfl⟩
end

/-- The id of the box a context was built around. -/
def Node.rootId? : Node → Option Nat
  | .ctx (.leaf a) .. => some a.id
  | .ctx (.node a _) .. => some a.id
  | _ => none

def rootIds (l : List Node) : List Nat := l.filterMap Node.rootId?

theorem rootIds_append (l m : List Node) : rootIds (l ++ m) = rootIds l ++ rootIds m := by
  simp [rootIds, List.filterMap_append]

theorem order_coreS (a : Attrs) (self : Node) (inner : Delta) (rest : List Nat)
    (hself : ∀ c b f bc, (mkCtx self c b f bc).rootId? = some a.id)
    (hc : (rootIds inner.cc).Sublist rest) (hf : (rootIds inner.floats).Sublist rest) :
    (rootIds (coreS a self inner).2.cc).Sublist (a.id :: rest) ∧
    (rootIds (coreS a self inner).2.floats).Sublist (a.id :: rest) := by
  have hnil : ([] : List Nat).Sublist (a.id :: rest) := List.nil_sublist _
  have hone : ∀ c b f bc, (rootIds [mkCtx self c b f bc]).Sublist (a.id :: rest) := by
    intro c b f bc
    simp only [rootIds, List.filterMap_cons, List.filterMap_nil, hself]
    exact List.Sublist.cons_cons _ (List.nil_sublist _)
  refine coreS_cases a self inner (fun h1 e => ?_) (fun h1 h2 e => ?_) (fun h1 h2 h3 e => ?_)
    (fun h1 h2 h3 h4 e => ?_) (fun h1 h2 h3 h4 e => ?_) <;> rw [e]
  · exact ⟨hone _ _ _ _, hnil⟩
  · refine ⟨?_, hnil⟩
    simp only [rootIds, List.filterMap_cons, hself]
    exact List.Sublist.cons_cons _ hc
  · exact ⟨List.Sublist.cons _ hc, hone _ _ _ _⟩
  · exact ⟨List.Sublist.cons _ hc, hnil⟩
  · exact ⟨List.Sublist.cons _ hc, List.Sublist.cons _ hf⟩

mutual
theorem order_dispatchS : ∀ (b : Box),
    (rootIds (dispatchS b).2.cc).Sublist b.ids ∧ (rootIds (dispatchS b).2.floats).Sublist b.ids
  | .ph b => by rw [dispatchS, Box.ids]; exact order_dispatchS b
  | .leaf a => by
    rw [dispatchS, Box.ids]
    exact order_coreS a (.leaf a) {} [] (fun _ _ _ _ => rfl) (List.nil_sublist _) (List.nil_sublist _)
  | .node a kids => by
    rw [dispatchS, Box.ids]
    exact order_coreS a _ _ _ (fun _ _ _ _ => rfl) (order_listS kids).1 (order_listS kids).2
theorem order_listS : ∀ (l : List Box),
    (rootIds (listS l).2.cc).Sublist (Box.idsL l) ∧ (rootIds (listS l).2.floats).Sublist (Box.idsL l)
  | [] => ⟨List.nil_sublist _, List.nil_sublist _⟩
  | k :: ks => by
    have h1 := order_dispatchS k
    have h2 := order_listS ks
    rw [listS_cons, Box.idsL]
    simp only [Delta.append, rootIds_append]
    exact ⟨h1.1.append h2.1, h1.2.append h2.2⟩
end

end Wp.Stacking
