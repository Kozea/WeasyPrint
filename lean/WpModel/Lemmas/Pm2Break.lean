/-
Source-level reading of the break values / page names meeting between two sibling boxes, valid resume
positions, and their link to what `_in_flow_layout` computes on laid-out fragments (`meetBreak`):
a *complete* fragment of a box ends with the same chain of `break-after` values and the same page name as
the box itself (`EndOk`).
-/
import WpModel.Lemmas.Pm2Step

namespace Wp.PM
open Wp

mutual
def boxAfterChain : PBox → List Brk
  | .para _ _ _ st => [st.brkAfter]
  | .block _ st kids => st.brkAfter :: boxAfterChainLast kids
def boxAfterChainLast : List PBox → List Brk
  | [] => []
  | b :: rest => match rest with
    | [] => boxAfterChain b
    | _ :: _ => boxAfterChainLast rest
end

mutual
def boxPageEnd : PBox → String
  | .para _ _ _ st => st.page
  | .block _ st kids => let s := boxPageEndLast kids; if s = "" then st.page else s
def boxPageEndLast : List PBox → String
  | [] => ""
  | b :: rest => match rest with
    | [] => boxPageEnd b
    | _ :: _ => boxPageEndLast rest
end

/-- The break values meeting between two adjacent siblings, in tree order (what
`block_level_page_break(a, b)` folds). -/
def valuesBetween (a b : PBox) : List Brk := (boxAfterChain a).reverse ++ boxBeforeChain b

/-- `_in_flow_layout`'s test, on source boxes: the page name changes to a non-empty name, or the
strongest value meeting between `a` and `b` forces a page break. -/
def meets (a b : PBox) : Bool :=
  (boxPageEnd a ≠ boxPageStart b && boxPageStart b ≠ "") || forcesPage (resolve (valuesBetween a b))

/-- The fragment ends like the box. -/
def EndOk (f : Frag) (b : PBox) : Prop :=
  fragAfterChain f = boxAfterChain b ∧ fragPageEnd f = boxPageEnd b

def EndOkLast (fs : List Frag) (bs : List PBox) : Prop :=
  fragAfterChainLast fs = boxAfterChainLast bs ∧ fragPageEndLast fs = boxPageEndLast bs

@[simp] theorem fragAfterChain_withIdx (f : Frag) (i : Nat) : fragAfterChain (f.withIdx i) = fragAfterChain f := by
  cases f <;> simp [Frag.withIdx, fragAfterChain]

@[simp] theorem fragPageEnd_withIdx (f : Frag) (i : Nat) : fragPageEnd (f.withIdx i) = fragPageEnd f := by
  cases f <;> simp [Frag.withIdx, fragPageEnd]

/-- The "… of the last element" functions (`fragAfterChainLast`, `fragPageEndLast`, `boxAfterChainLast`,
`boxPageEndLast`, `ChainCutLast` of Lemmas/ChainCut) all have the shape `g [a] = f a`, `g (a :: b :: l) = g (b :: l)`. -/
theorem lastBy_snoc {α β : Type} (g : List α → β) (f : α → β) (h1 : ∀ a, g [a] = f a)
    (h2 : ∀ a b l, g (a :: b :: l) = g (b :: l)) (l : List α) (a : α) : g (l ++ [a]) = f a := by
  induction l with
  | nil => exact h1 a
  | cons x xs ih =>
    cases xs with
    | nil => exact (h2 x a []).trans (h1 a)
    | cons y ys => exact (h2 x y (ys ++ [a])).trans ih

theorem lastBy_append {α β : Type} (g : List α → β) (h2 : ∀ a b l, g (a :: b :: l) = g (b :: l))
    (pre l : List α) (h : l ≠ []) : g (pre ++ l) = g l := by
  induction pre with
  | nil => rfl
  | cons x xs ih =>
    cases hq : xs ++ l with
    | nil => exact absurd (List.append_eq_nil_iff.mp hq).2 h
    | cons y ys => rw [List.cons_append, hq, h2, ← hq, ih]

theorem endOkLast_snoc_iff (fs : List Frag) (bs : List PBox) (f : Frag) (b : PBox) :
    EndOkLast (fs ++ [f]) (bs ++ [b]) ↔ EndOk f b := by
  unfold EndOkLast EndOk
  rw [lastBy_snoc fragAfterChainLast fragAfterChain (fun _ => rfl) (fun _ _ _ => rfl),
    lastBy_snoc fragPageEndLast fragPageEnd (fun _ => rfl) (fun _ _ _ => rfl),
    lastBy_snoc boxAfterChainLast boxAfterChain (fun _ => rfl) (fun _ _ _ => rfl),
    lastBy_snoc boxPageEndLast boxPageEnd (fun _ => rfl) (fun _ _ _ => rfl)]

theorem endOkLast_snoc (fs : List Frag) (bs : List PBox) (f : Frag) (b : PBox) (h : EndOk f b) :
    EndOkLast (fs ++ [f]) (bs ++ [b]) :=
  (endOkLast_snoc_iff fs bs f b).mpr h

theorem endOkLast_nil : EndOkLast [] [] := ⟨rfl, rfl⟩

theorem boxAfterChainLast_append (pre bs : List PBox) (h : bs ≠ []) :
    boxAfterChainLast (pre ++ bs) = boxAfterChainLast bs :=
  lastBy_append boxAfterChainLast (fun _ _ _ => rfl) pre bs h

theorem boxPageEndLast_append (pre bs : List PBox) (h : bs ≠ []) :
    boxPageEndLast (pre ++ bs) = boxPageEndLast bs :=
  lastBy_append boxPageEndLast (fun _ _ _ => rfl) pre bs h

theorem endOkLast_getLast {fs : List Frag} {bs : List PBox} {l : Frag} {a : PBox}
    (h : EndOkLast fs bs) (hl : fs.getLast? = some l) (ha : bs.getLast? = some a) : EndOk l a := by
  obtain ⟨fs', rfl⟩ : ∃ fs', fs = fs' ++ [l] := by
    rw [List.getLast?_eq_some_iff] at hl; exact hl
  obtain ⟨bs', rfl⟩ : ∃ bs', bs = bs' ++ [a] := by
    rw [List.getLast?_eq_some_iff] at ha; exact ha
  exact (endOkLast_snoc_iff fs' bs' l a).mp h

mutual
/-- The resume position designates an existing child at every level (paragraph positions are always fine). -/
def Valid : PBox → Option Resume → Prop
  | .para _ _ _ _, _ => True
  | .block _ _ kids, σ => kids = [] ∨ ValidKids kids (skipIdxOf σ) (subSkipOf σ)
def ValidKids : List PBox → Nat → Option Resume → Prop
  | [], _, _ => False
  | b :: _, 0, sub => Valid b sub
  | _ :: bs, k + 1, sub => ValidKids bs k sub
end

theorem valid_none (b : PBox) : Valid b none := by
  cases b with
  | para _ _ _ _ => simp [Valid]
  | block id st kids =>
    simp only [Valid, skipIdxOf_none, subSkipOf_none]
    cases kids with
    | nil => left; rfl
    | cons k ks =>
      right
      simp only [ValidKids]
      exact valid_none k
termination_by sizeOf b
decreasing_by simp_wf; omega

theorem validKids_iff {bs : List PBox} {k : Nat} {sub : Option Resume} :
    ValidKids bs k sub ↔ ∃ b, bs[k]? = some b ∧ Valid b sub := by
  induction bs generalizing k with
  | nil => simp [ValidKids]
  | cons x bs ih =>
    cases k with
    | zero => simp [ValidKids]
    | succ k => simpa [ValidKids] using @ih k

theorem validKids_head_drop {kids : List PBox} {k : Nat} {sub : Option Resume} (h : ValidKids kids k sub) :
    ∀ x, (kids.drop k).head? = some x → Valid x sub := by
  obtain ⟨b, hb, hv⟩ := validKids_iff.mp h
  intro x hx
  rw [List.head?_drop, hb] at hx
  exact Option.some.inj hx ▸ hv

theorem validKids_lt {bs : List PBox} {k : Nat} {sub : Option Resume} (h : ValidKids bs k sub) : k < bs.length :=
  let ⟨_, hb, _⟩ := validKids_iff.mp h
  (List.getElem?_eq_some_iff.mp hb).1

theorem validKids_append (pre bs : List PBox) (m : Nat) (sub : Option Resume) :
    ValidKids (pre ++ bs) (pre.length + m) sub ↔ ValidKids bs m sub := by
  rw [validKids_iff, validKids_iff, List.getElem?_append_right (Nat.le_add_right _ _), Nat.add_sub_cancel_left]

theorem validKids_append_left {bs : List PBox} (post : List PBox) {m : Nat} {sub : Option Resume} (h : ValidKids bs m sub) :
    ValidKids (bs ++ post) m sub := by
  rw [validKids_iff] at h ⊢
  obtain ⟨b, hb, hv⟩ := h
  exact ⟨b, by rw [List.getElem?_append_left (List.getElem?_eq_some_iff.mp hb).1]; exact hb, hv⟩

mutual
theorem findEarlierGo_valid : (fs : List Frag) → ∀ (bs : List PBox) (i : Nat) (sub : Option Resume),
    FullFrom fs bs i sub → (∀ b, bs.head? = some b → Valid b sub) →
    ∀ kept r, (findEarlierGo fs).found = some (kept, r) → ∃ m sub', r = .node (i + m) sub' ∧ ValidKids bs m sub'
  | [] => by
    intro bs i sub _ _ kept r h
    simp [findEarlierGo] at h
  | x :: xs => by
    intro bs i sub hf hv kept r h
    cases bs with
    | nil => simp [FullFrom] at hf
    | cons b bs' =>
      simp only [FullFrom] at hf
      obtain ⟨hx, hxi, hxs⟩ := hf
      rcases findEarlierGo_cons_found x xs kept r h with
        ⟨kept0, hfound, _⟩ | ⟨_, ⟨p, hp, _, rfl⟩ | ⟨x', r1, hfe, _, rfl⟩⟩
      · obtain ⟨m, sub', hr, hm⟩ := findEarlierGo_valid xs bs' (i + 1) none hxs
          (fun b _ => valid_none b) kept0 r hfound
        exact ⟨m + 1, sub', by rw [hr]; congr 1; omega, by simpa [ValidKids] using hm⟩
      · cases xs with
        | nil => cases hp
        | cons p' xs' =>
          cases hp
          cases bs' with
          | nil => simp [FullFrom] at hxs
          | cons b1 bs'' =>
            simp only [FullFrom] at hxs
            exact ⟨1, none, by rw [hxs.2.1], by simpa [ValidKids] using valid_none b1⟩
      · have := findEarlierFrag_valid x b sub hx (hv b rfl) x' r1 hfe
        exact ⟨0, some r1, by rw [hxi]; rfl, by simpa [ValidKids] using this⟩
theorem findEarlierFrag_valid : (x : Frag) → ∀ (b : PBox) (σ : Option Resume), Full x b σ → Valid b σ →
    ∀ x' r, findEarlierFrag x = some (x', r) → Valid b (some r)
  | .para id idx st n g lines => by
    intro b σ hf _ x' r _
    cases b with
    | block _ _ _ => simp [Full] at hf
    | para _ _ _ _ => simp [Valid]
  | .block id idx st g kids => by
    intro b σ hf hv x' r h
    cases b with
    | para _ _ _ _ => simp [Full] at hf
    | block id' st' bkids =>
      simp only [Full] at hf
      simp only [findEarlierFrag] at h
      split at h
      · rename_i kids' r0 hfound
        simp only [Option.some.injEq, Prod.mk.injEq] at h
        obtain ⟨_, rfl⟩ := h
        simp only [Valid] at hv ⊢
        have hhead : ∀ b, (bkids.drop (skipIdxOf σ)).head? = some b → Valid b (subSkipOf σ) := by
          intro b hb
          rcases hv with hv | hv
          · subst hv; simp at hb
          · exact validKids_head_drop hv b hb
        obtain ⟨m, sub', rfl, hm⟩ := findEarlierGo_valid kids _ _ _ hf hhead kids' r0 hfound
        right
        simp only [skipIdxOf_node, subSkipOf_node]
        have hlen : skipIdxOf σ ≤ bkids.length := by
          have := validKids_lt hm
          simp at this; omega
        have := (validKids_append (bkids.take (skipIdxOf σ)) (bkids.drop (skipIdxOf σ)) m sub').mpr hm
        rw [List.take_append_drop, List.length_take, Nat.min_eq_left hlen] at this
        exact this
      · cases h
end

end Wp.PM
