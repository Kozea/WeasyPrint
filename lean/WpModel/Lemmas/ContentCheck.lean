/-
Lemmas about the bracket machine `tokStep` / `runToks` (Model/PdfStream, Model/ContentCheck), used by Props/C16.
Core Lean only.
-/
import WpModel.Model.ContentCheck

namespace Wp.Pdf

def TC.opens (k : Fr) : TC → Bool
  | .q => k == .q | .BT => k == .T | .bmark => k == .M | _ => false

def TC.closes (k : Fr) : TC → Bool
  | .Q => k == .q | .ET => k == .T | .emark => k == .M | _ => false

def b2n (b : Bool) : Nat := if b then 1 else 0

theorem inText_iff (st : List Fr) : inText st = true ↔ 0 < st.count .T := by
  unfold inText
  rw [List.contains_iff_mem, List.count_pos_iff]

theorem inText_false_iff (st : List Fr) : inText st = false ↔ st.count .T = 0 := by
  have := inText_iff st
  cases h : inText st
  · simp only [true_iff]
    cases hc : st.count .T with
    | zero => rfl
    | succ n => rw [h, hc] at this; simp at this
  · simp only [false_iff, reduceCtorEq]
    have := this.mp h
    omega

theorem not_inText_of_guard {st x st' : List Fr} (h : (if inText st then none else some x) = some st') :
    inText st = false ∧ x = st' := by
  cases hnt : inText st <;> simp only [hnt] at h
  · exact ⟨rfl, Option.some.inj h⟩
  · cases h

theorem inText_of_guard {st x st' : List Fr} (h : (if inText st then some x else none) = some st') :
    inText st = true ∧ x = st' := by
  cases hnt : inText st <;> simp only [hnt] at h
  · cases h
  · exact ⟨rfl, Option.some.inj h⟩

theorem tokStep_some (c : TC) (st st' : List Fr) (h : tokStep c st = some st') :
    (c = .q ∧ inText st = false ∧ st' = .q :: st) ∨ (c = .Q ∧ st = .q :: st') ∨
    (c = .BT ∧ inText st = false ∧ st' = .T :: st) ∨ (c = .ET ∧ st = .T :: st') ∨
    (c = .bmark ∧ st' = .M :: st) ∨ (c = .emark ∧ st = .M :: st') ∨
    (c = .graphics ∧ inText st = false ∧ st' = st) ∨ (c = .textOnly ∧ inText st = true ∧ st' = st) ∨
    (c = .free ∧ st' = st) := by
  cases c <;> simp only [tokStep] at h
  case q => obtain ⟨hnt, e⟩ := not_inText_of_guard h; exact .inl ⟨rfl, hnt, e.symm⟩
  case Q =>
    match st, h with
    | .q :: rest, h => cases h; exact .inr (.inl ⟨rfl, rfl⟩)
  case BT => obtain ⟨hnt, e⟩ := not_inText_of_guard h; exact .inr (.inr (.inl ⟨rfl, hnt, e.symm⟩))
  case ET =>
    match st, h with
    | .T :: rest, h => cases h; exact .inr (.inr (.inr (.inl ⟨rfl, rfl⟩)))
  case bmark => cases h; exact .inr (.inr (.inr (.inr (.inl ⟨rfl, rfl⟩))))
  case emark =>
    match st, h with
    | .M :: rest, h => cases h; exact .inr (.inr (.inr (.inr (.inr (.inl ⟨rfl, rfl⟩)))))
  case graphics =>
    obtain ⟨hnt, e⟩ := not_inText_of_guard h
    exact .inr (.inr (.inr (.inr (.inr (.inr (.inl ⟨rfl, hnt, e.symm⟩))))))
  case textOnly =>
    obtain ⟨hnt, e⟩ := inText_of_guard h
    exact .inr (.inr (.inr (.inr (.inr (.inr (.inr (.inl ⟨rfl, hnt, e.symm⟩)))))))
  case free => cases h; exact .inr (.inr (.inr (.inr (.inr (.inr (.inr (.inr ⟨rfl, rfl⟩)))))))

theorem tokStep_count (k : Fr) (c : TC) (st st' : List Fr) (h : tokStep c st = some st') :
    st'.count k + b2n (c.closes k) = st.count k + b2n (c.opens k) := by
  rcases tokStep_some c st st' h with ⟨rfl, _, rfl⟩ | ⟨rfl, rfl⟩ | ⟨rfl, _, rfl⟩ | ⟨rfl, rfl⟩ | ⟨rfl, rfl⟩ |
    ⟨rfl, rfl⟩ | ⟨rfl, _, rfl⟩ | ⟨rfl, _, rfl⟩ | ⟨rfl, rfl⟩ <;>
  cases k <;> simp [TC.opens, TC.closes, b2n]

theorem tokStep_T_le_one (c : TC) (st st' : List Fr) (h : tokStep c st = some st') (hT : st.count .T ≤ 1) :
    st'.count .T ≤ 1 := by
  rcases tokStep_some c st st' h with ⟨rfl, _, rfl⟩ | ⟨rfl, rfl⟩ | ⟨rfl, hi, rfl⟩ | ⟨rfl, rfl⟩ | ⟨rfl, rfl⟩ |
    ⟨rfl, rfl⟩ | ⟨rfl, _, rfl⟩ | ⟨rfl, _, rfl⟩ | ⟨rfl, rfl⟩ <;>
  simp_all [inText_false_iff] <;> omega

theorem tokStep_text_rule (c : TC) (st st' : List Fr) (h : tokStep c st = some st') :
    ((c = .graphics ∨ c = .q ∨ c = .BT) → st.count .T = 0) ∧ (c = .textOnly → 0 < st.count .T) := by
  rcases tokStep_some c st st' h with ⟨rfl, hi, rfl⟩ | ⟨rfl, rfl⟩ | ⟨rfl, hi, rfl⟩ | ⟨rfl, rfl⟩ | ⟨rfl, rfl⟩ |
    ⟨rfl, rfl⟩ | ⟨rfl, hi, rfl⟩ | ⟨rfl, hi, rfl⟩ | ⟨rfl, rfl⟩ <;>
  simp_all [inText_false_iff, inText_iff]

theorem runToks_append (res : ResNames) (st : List Fr) (a b : List Tok) :
    runToks res st (a ++ b) = (runToks res st a).bind (fun st' => runToks res st' b) := by
  induction a generalizing st with
  | nil => simp [runToks]
  | cons t ts ih =>
    simp only [List.cons_append, runToks]
    split
    · split
      · rename_i st' _; exact ih st'
      · simp
    · simp

theorem runToks_prefix (res : ResNames) (st stEnd : List Fr) (toks : List Tok) (n : Nat)
    (h : runToks res st toks = some stEnd) : ∃ stMid, runToks res st (toks.take n) = some stMid ∧
      runToks res stMid (toks.drop n) = some stEnd := by
  have hsplit := runToks_append res st (toks.take n) (toks.drop n)
  rw [List.take_append_drop, h] at hsplit
  cases hm : runToks res st (toks.take n) with
  | none => rw [hm] at hsplit; simp at hsplit
  | some stMid => rw [hm] at hsplit; exact ⟨stMid, rfl, by simpa using hsplit.symm⟩

def opensK (k : Fr) (t : Tok) : Bool := t.cls.opens k
def closesK (k : Fr) (t : Tok) : Bool := t.cls.closes k

/-- An accepted run, token by token: what holds of the empty run and is kept by every accepted step holds of the run
(`motive start tokens end`). -/
theorem runToks_induct (res : ResNames) {motive : List Fr → List Tok → List Fr → Prop}
    (nil : ∀ st, motive st [] st)
    (cons : ∀ st t ts stm st', tokOk res t = true → tokStep t.cls st = some stm → motive stm ts st' →
      motive st (t :: ts) st')
    {s0 s1 : List Fr} {toks : List Tok} (h : runToks res s0 toks = some s1) : motive s0 toks s1 := by
  fun_induction runToks res s0 toks with
  | case1 => cases h; exact nil _
  | case2 st t ts hok stm hstep ih => exact cons st t ts stm s1 hok hstep (ih h)
  | case3 | case4 => cases h

theorem runToks_count (res : ResNames) (k : Fr) (st st' : List Fr) (toks : List Tok)
    (h : runToks res st toks = some st') :
    st'.count k + toks.countP (closesK k) = st.count k + toks.countP (opensK k) := by
  refine runToks_induct res (motive := fun st toks st' =>
    st'.count k + toks.countP (closesK k) = st.count k + toks.countP (opensK k)) (fun _ => rfl) ?_ h
  intro st t ts stm st' _ hstep ih
  have h1 : stm.count k + b2n (closesK k t) = st.count k + b2n (opensK k t) := tokStep_count k t.cls st stm hstep
  rw [List.countP_cons, List.countP_cons]
  unfold b2n at h1
  omega

theorem runToks_T_le_one (res : ResNames) (st st' : List Fr) (toks : List Tok)
    (h : runToks res st toks = some st') (hT : st.count .T ≤ 1) : st'.count .T ≤ 1 :=
  runToks_induct res (motive := fun st _ st' => st.count .T ≤ 1 → st'.count .T ≤ 1) (fun _ h => h)
    (fun st t _ stm _ _ hstep ih hT => ih (tokStep_T_le_one t.cls st stm hstep hT)) h hT

theorem runToks_all_ok (res : ResNames) (st st' : List Fr) (toks : List Tok)
    (h : runToks res st toks = some st') : ∀ t ∈ toks, tokOk res t = true :=
  runToks_induct res (motive := fun _ toks _ => ∀ t ∈ toks, tokOk res t = true) (fun _ _ hu => nomatch hu)
    (fun _ t _ _ _ hok _ ih u hu => by
      rcases List.mem_cons.mp hu with rfl | hu
      · exact hok
      · exact ih u hu) h

theorem runToks_head_step (res : ResNames) (st st' : List Fr) (t : Tok) (ts : List Tok)
    (h : runToks res st (t :: ts) = some st') : ∃ stm, tokStep t.cls st = some stm := by
  simp only [runToks] at h
  split at h
  · split at h
    · rename_i stm hstep; exact ⟨stm, hstep⟩
    · simp at h
  · simp at h

end Wp.Pdf
