/-
Counterpart of `Lemmas/SegmentPages.lean`: from `layoutBox` to pages (`remakePage`, `makeAllPages`) for stage 2c.
-/
import WpModel.Lemmas.ColSegBlock
import WpModel.Lemmas.ColPagesRun

namespace Wp.PMC
open Wp Wp.PM

theorem boxPost_lines (box : ColBox) (skip : Option Resume) (frag : Option CFrag) (resume : Option Resume)
    (f : CFrag) (h : BoxPost box skip frag resume) (hf : frag = some f) :
    fragLines f ++ restOut box resume = linesFrom box skip := by
  have := h f hf
  cases resume with
  | none =>
    simp only at this
    simp [restOut, full_lines.1 this]
  | some r => exact this.1

theorem boxPost_progress (box : ColBox) (skip : Option Resume) (frag : Option CFrag) (r : Resume)
    (f : CFrag) (h : BoxPost box skip frag (some r)) (hf : frag = some f) :
    pos box skip < pos box (some r) := (h f hf).2

/-! ### blank pages lay out an emptied root -/

theorem good_emptyRoot (b : ColBox) (h : Good b) : Good (emptyRoot b) := by
  cases b with
  | para id n lh st => simpa [emptyRoot, Good] using h
  | block id st kids =>
    simp only [Good] at h
    simp [emptyRoot, Good, GoodList, h.1]
  | columns id st cs flags kids =>
    simp [emptyRoot, Good, GoodList]

theorem linesFrom_emptyRoot (b : ColBox) (σ : Option Resume) : linesFrom (emptyRoot b) σ = [] := by
  cases b with
  | para id n lh st => simp [emptyRoot, linesFrom, paraLines]
  | block id st kids => simp [emptyRoot, linesFrom, linesFromKids]
  | columns id st cs flags kids => simp [emptyRoot, linesFrom, linesFromKids]

/-- The layout context of page `index`. -/
def pageContext (d : CDoc) (index : Nat) (np : NextPage) : CCtx :=
  { pageBottom := d.pageH, currentPage := index + 1, forcedBreak := forcedBreakOf np, inColumn := false, inf := false }

/-- `remake_page` in closed form: `blank` = the page is blank, `r` = the layout of the root (emptied on a blank
page) in `pageContext`; a blank page hands on what it was given. -/
theorem remakePage_ok (d : CDoc) (index : Nat) (resume : Option Resume) (np : NextPage) (right : Bool)
    (p : CPage) (hp : remakePage d index resume np right = .ok p) :
    ∃ blank r, blank = isBlank (requestedSide d.rootLtr np.brk) right ∧
      r = layoutBox (pageContext d index np) (if blank then emptyRoot d.root else d.root) 0 0 0 resume false true [] ∧
      r.err = none ∧ r.frag = some p.root ∧
      p.type = { right := right, blank := blank,
                 name := if blank then "" else (match np.page with | some n => n | none => ""), index := index } ∧
      p.resume = (if blank then resume else r.resume) ∧ p.nextPage = (if blank then np else r.nextPage) := by
  unfold remakePage at hp
  dsimp only at hp
  split at hp
  · cases hp
  · rename_i herr
    split at hp
    · cases hp
    · rename_i f hfrag
      cases hp
      exact ⟨_, _, rfl, rfl, herr, hfrag, rfl, rfl, rfl⟩

theorem remakePage_spec (d : CDoc) (index : Nat) (resume : Option Resume) (np : NextPage) (right : Bool)
    (p : CPage) (hp : remakePage d index resume np right = .ok p) :
    p.type.blank = isBlank (requestedSide d.rootLtr np.brk) right ∧
    (p.type.blank = true → p.resume = resume ∧ p.nextPage = np ∧
      ∃ c, (layoutBox c (emptyRoot d.root) 0 0 0 resume false true []).frag = some p.root) ∧
    (p.type.blank = false →
      ∃ c, (layoutBox c d.root 0 0 0 resume false true []).frag = some p.root ∧
        p.resume = (layoutBox c d.root 0 0 0 resume false true []).resume) := by
  obtain ⟨blank, r, hb, rfl, _, hf, ht, hr, hn⟩ := remakePage_ok d index resume np right p hp
  rw [ht]
  refine ⟨hb, ?_, ?_⟩ <;> intro h <;> simp only at h <;> subst h
  · exact ⟨hr, hn, _, hf⟩
  · exact ⟨_, hf, hr⟩

/-- The root fragment of a page comes from a layout of the root box (emptied for a blank page) from the top of
an empty page whose bottom is the page height. -/
theorem remakePage_root (d : CDoc) (index : Nat) (resume : Option Resume) (np : NextPage) (right : Bool)
    (p : CPage) (hp : remakePage d index resume np right = .ok p) :
    ∃ c root, (root = d.root ∨ root = emptyRoot d.root) ∧ c.pageBottom = d.pageH ∧ c.inf = false ∧
      (layoutBox c root 0 0 0 resume false true []).frag = some p.root := by
  obtain ⟨blank, r, _, rfl, _, hf, _⟩ := remakePage_ok d index resume np right p hp
  exact ⟨_, _, by cases blank <;> simp, rfl, rfl, hf⟩

/-- What holds of every page `remake_page` can make holds of every page of `make_all_pages`. -/
theorem makeAllPages_forall (d : CDoc) (P : CPage → Prop)
    (hP : ∀ index resume np right p, remakePage d index resume np right = .ok p → P p) :
    ∀ (fuel index : Nat) (resume : Option Resume) (np : NextPage) (right : Bool) (pages : List CPage),
      makeAllPages d fuel index resume np right = .ok pages → ∀ p ∈ pages, P p :=
  fun fuel index resume np right pages h =>
    PageLoop.run_forall (fun _ => True) P
      (fun _ p _ _ hs => ⟨hP _ _ _ _ p (pageStep_ok hs).1, fun _ _ => trivial⟩)
      fuel (index, resume, np, right) pages (makeAllPages_eq_ok.mp h) trivial

/-- Lines and position of one page. -/
theorem remakePage_lines (d : CDoc) (hg : Good d.root) (index : Nat) (resume : Option Resume) (np : NextPage)
    (right : Bool) (p : CPage) (hp : remakePage d index resume np right = .ok p) :
    (p.type.blank = true → fragLines p.root = [] ∧ p.resume = resume ∧ p.nextPage = np) ∧
    (p.type.blank = false →
      fragLines p.root ++ restOut d.root p.resume = linesFrom d.root resume ∧
      ∀ r, p.resume = some r → pos d.root resume < pos d.root (some r)) := by
  obtain ⟨_, h1, h2⟩ := remakePage_spec d index resume np right p hp
  constructor
  · intro hb
    obtain ⟨hr, hn, c, hf⟩ := h1 hb
    refine ⟨?_, hr, hn⟩
    have hs := box_spec (emptyRoot d.root) (good_emptyRoot _ hg) c 0 0 0 resume false true []
    have := boxPost_lines _ _ _ _ _ hs hf
    rw [linesFrom_emptyRoot] at this
    exact (List.append_eq_nil_iff.mp this).1
  · intro hb
    obtain ⟨c, hf, hr⟩ := h2 hb
    have hs := box_spec d.root hg c 0 0 0 resume false true []
    rw [hr]
    refine ⟨boxPost_lines _ _ _ _ _ hs hf, ?_⟩
    intro r hr'
    rw [hr'] at hs
    exact boxPost_progress _ _ _ _ _ hs hf

/-- All lines shown by a list of pages, in order. -/
def pagesLines : List CPage → List (Nat × Nat)
  | [] => []
  | p :: ps => fragLines p.root ++ pagesLines ps

theorem makeAllPages_lines (d : CDoc) (hg : Good d.root) (fuel index : Nat) (resume : Option Resume)
    (np : NextPage) (right : Bool) (pages : List CPage)
    (hstart : resume = none → isBlank (requestedSide d.rootLtr np.brk) right = false)
    (h : makeAllPages d fuel index resume np right = .ok pages) :
    pagesLines pages = linesFrom d.root resume := by
  refine PageLoop.run_induct (step := pageStep d)
    (fun s ps => (s.2.1 = none → isBlank (requestedSide d.rootLtr s.2.2.1.brk) s.2.2.2 = false) →
      pagesLines ps = linesFrom d.root s.2.1) ?_ ?_ fuel (index, resume, np, right) pages
    (makeAllPages_eq_ok.mp h) hstart
  all_goals
    intro ⟨i, r, n, b⟩ p
  · intro hs hstart
    obtain ⟨hp, ho⟩ := pageStep_ok hs
    have hnone := Option.map_eq_none_iff.mp ho.symm
    obtain ⟨hbl, _, _⟩ := remakePage_spec d i r n b p hp
    obtain ⟨l1, l2⟩ := remakePage_lines d hg i r n b p hp
    cases hb : p.type.blank with
    | true =>
      obtain ⟨_, hr, _⟩ := l1 hb
      have := hstart (hr.symm.trans hnone)
      rw [← hbl, hb] at this
      cases this
    | false =>
      obtain ⟨hl, _⟩ := l2 hb
      rw [hnone] at hl
      simpa [pagesLines, restOut] using hl
  · intro s' ps hs ih hstart
    obtain ⟨hp, ho⟩ := pageStep_ok hs
    obtain ⟨r', hr', rfl⟩ := Option.map_eq_some_iff.mp ho.symm
    obtain ⟨hbl, _, _⟩ := remakePage_spec d i r n b p hp
    obtain ⟨l1, l2⟩ := remakePage_lines d hg i r n b p hp
    rw [pagesLines, ih (fun he => by cases he)]
    cases hb : p.type.blank with
    | true =>
      obtain ⟨hl, hr, _⟩ := l1 hb
      rw [hl, ← hr', hr]
      rfl
    | false =>
      obtain ⟨hl, _⟩ := l2 hb
      rw [hr'] at hl
      exact hl

end Wp.PMC
