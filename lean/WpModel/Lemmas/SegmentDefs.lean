/-
Definitions for the block-level conservation / progress theorems of PM (C01, C02, C03):
the lines a fragment shows, the lines a source box holds at / after a resume position, a position
measure, and the structural relation "this fragment is the complete rest of that box".
-/
import WpModel.Model.Paginate
import WpModel.Lemmas.PagesRun

namespace Wp.PM
open Wp Wp.PageLoop

mutual
/-- (paragraph id, line number) of every line shown by a fragment, in tree order. -/
def fragLines : Frag → List (Nat × Nat)
  | .para id _ _ _ _ lines => lines.map (fun l => (id, l.1))
  | .block _ _ _ _ kids => fragLinesList kids
def fragLinesList : List Frag → List (Nat × Nat)
  | [] => []
  | f :: fs => fragLines f ++ fragLinesList fs
end

/-! `Frag.cutEnd` (the bottom decoration removed by `find_earlier_page_break`) changes the used geometry only. -/

@[simp] theorem fragLines_cutEnd (f : Frag) : fragLines f.cutEnd = fragLines f := by
  cases f <;> simp [Frag.cutEnd, fragLines]

@[simp] theorem idx_cutEnd (f : Frag) : f.cutEnd.idx = f.idx := by
  cases f <;> rfl

@[simp] theorem st_cutEnd (f : Frag) : f.cutEnd.st = f.st := by
  cases f <;> rfl

@[simp] theorem fragAfterChain_cutEnd (f : Frag) : fragAfterChain f.cutEnd = fragAfterChain f := by
  cases f <;> simp [Frag.cutEnd, fragAfterChain]

@[simp] theorem fragBeforeChain_cutEnd (f : Frag) : fragBeforeChain f.cutEnd = fragBeforeChain f := by
  cases f <;> simp [Frag.cutEnd, fragBeforeChain]

@[simp] theorem fragPageEnd_cutEnd (f : Frag) : fragPageEnd f.cutEnd = fragPageEnd f := by
  cases f <;> simp [Frag.cutEnd, fragPageEnd]

/-- First line of a paragraph designated by the `skip_stack` handed to the paragraph's box. -/
def paraStart (σ : Option Resume) : Nat := skipLine (subSkipOf σ)

/-- Lines `k … n-1` of paragraph `id`. -/
def paraLines (id k n : Nat) : List (Nat × Nat) := (List.range' k (n - k)).map (fun i => (id, i))

mutual
/-- Lines of the box at / after a resume position (`none` = all of them), read exactly as
`block_container_layout` reads its `skip_stack`: a paragraph resumed with `node _ (some (line k))` has
lines `k … n-1`; a block resumed with `node i sub` has `linesFrom kids[i] sub` followed by all lines of
the later children. -/
def linesFrom : PBox → Option Resume → List (Nat × Nat)
  | .para id n _ _, σ => paraLines id (paraStart σ) n
  | .block _ _ kids, σ => linesFromKids kids (skipIdxOf σ) (subSkipOf σ)
/-- Lines of the children from child `k` on, child `k` being resumed at `sub`. -/
def linesFromKids : List PBox → Nat → Option Resume → List (Nat × Nat)
  | [], _, _ => []
  | b :: bs, 0, sub => linesFrom b sub ++ linesFromKids bs 0 none
  | _ :: bs, k + 1, sub => linesFromKids bs k sub
end

/-- What is left after a layout returned `resume` (`none` = the box is finished). -/
def restOut (box : PBox) : Option Resume → List (Nat × Nat)
  | none => []
  | some r => linesFrom box (some r)

mutual
/-- Units of a box: one per line, one per box. -/
def size : PBox → Nat
  | .para _ n _ _ => n + 1
  | .block _ _ kids => sizeList kids + 1
def sizeList : List PBox → Nat
  | [] => 0
  | b :: bs => size b + sizeList bs
end

mutual
/-- Units consumed before a resume position. -/
def pos : PBox → Option Resume → Nat
  | .para _ n _ _, σ => min (paraStart σ) n
  | .block _ _ kids, σ => posKids kids (skipIdxOf σ) (subSkipOf σ)
def posKids : List PBox → Nat → Option Resume → Nat
  | [], _, _ => 0
  | b :: _, 0, sub => pos b sub
  | b :: bs, k + 1, sub => size b + posKids bs k sub
end

mutual
/-- No box of the subtree has a fixed `height` (with a fixed height `block_container_layout`
deliberately forgets overflowing children: `forgetIfFixed`). -/
def NoFixedHeight : PBox → Prop
  | .para _ _ _ st => st.height = none
  | .block _ st kids => st.height = none ∧ NoFixedHeightList kids
def NoFixedHeightList : List PBox → Prop
  | [] => True
  | b :: bs => NoFixedHeight b ∧ NoFixedHeightList bs
end

mutual
/-- `orphans` and `widows` of every paragraph are at least 1 (what the CSS validator accepts). -/
def WellFormed : PBox → Prop
  | .para _ _ _ st => 1 ≤ st.orphans ∧ 1 ≤ st.widows
  | .block _ _ kids => WellFormedList kids
def WellFormedList : List PBox → Prop
  | [] => True
  | b :: bs => WellFormed b ∧ WellFormedList bs
end

mutual
/-- `NoFixedHeight ∧ WellFormed`, in one recursion (used by the proofs). -/
def Good : PBox → Prop
  | .para _ _ _ st => st.height = none ∧ 1 ≤ st.orphans ∧ 1 ≤ st.widows
  | .block _ st kids => st.height = none ∧ GoodList kids
def GoodList : List PBox → Prop
  | [] => True
  | b :: bs => Good b ∧ GoodList bs
end

mutual
theorem good_iff : (b : PBox) → (Good b ↔ NoFixedHeight b ∧ WellFormed b)
  | .para _ _ _ _ => by simp only [Good, NoFixedHeight, WellFormed]
  | .block _ _ kids => by
    simp only [Good, NoFixedHeight, WellFormed, goodList_iff_and kids, and_assoc]
theorem goodList_iff_and : (bs : List PBox) → (GoodList bs ↔ NoFixedHeightList bs ∧ WellFormedList bs)
  | [] => by simp [GoodList, NoFixedHeightList, WellFormedList]
  | b :: bs => by
    simp only [GoodList, NoFixedHeightList, WellFormedList, good_iff b, goodList_iff_and bs]
    exact and_and_and_comm
end

theorem good_of (b : PBox) (h1 : NoFixedHeight b) (h2 : WellFormed b) : Good b := (good_iff b).2 ⟨h1, h2⟩

theorem goodList_of (bs : List PBox) (h1 : NoFixedHeightList bs) (h2 : WellFormedList bs) : GoodList bs :=
  (goodList_iff_and bs).2 ⟨h1, h2⟩

theorem good_noFixed (b : PBox) (h : Good b) : NoFixedHeight b := ((good_iff b).1 h).1

theorem goodList_noFixed (bs : List PBox) (h : GoodList bs) : NoFixedHeightList bs := ((goodList_iff_and bs).1 h).1

theorem wf_drop_aux : (b : PBox) → Good b → WellFormed b :=
  fun b h => ((good_iff b).1 h).2

theorem wfList_drop_aux : (bs : List PBox) → GoodList bs → WellFormedList bs :=
  fun bs h => ((goodList_iff_and bs).1 h).2

theorem goodList_iff (bs : List PBox) : GoodList bs ↔ ∀ b ∈ bs, Good b := by
  induction bs with
  | nil => simp [GoodList]
  | cons b bs ih => simp [GoodList, ih]

theorem goodList_drop (bs : List PBox) (k : Nat) (h : GoodList bs) : GoodList (bs.drop k) :=
  (goodList_iff _).2 fun b hb => (goodList_iff _).1 h b (List.mem_of_mem_drop hb)

theorem goodList_append (B R : List PBox) (hB : GoodList B) (hR : GoodList R) : GoodList (B ++ R) :=
  (goodList_iff _).2 (List.forall_mem_append.2 ⟨(goodList_iff _).1 hB, (goodList_iff _).1 hR⟩)

/-! ### "the fragment is the complete rest of the box" -/

mutual
/-- `Full f b σ`: `f` is what the layout of `b` resumed at `σ` gives when it runs to the end of `b`:
paragraphs hold the lines `paraStart σ … n-1`; blocks hold one complete fragment per child from
`skipIdxOf σ` on (the first resumed at `subSkipOf σ`), `.idx` = position of the child. -/
def Full : Frag → PBox → Option Resume → Prop
  | .para id _ st n _ lines, b, σ =>
    match b with
    | .para id' n' _ st' => id = id' ∧ n = n' ∧ st = st' ∧
        lines.map Prod.fst = List.range' (paraStart σ) (n' - paraStart σ)
    | .block _ _ _ => False
  | .block _ _ _ _ fs, b, σ =>
    match b with
    | .block _ _ kids => FullFrom fs (kids.drop (skipIdxOf σ)) (skipIdxOf σ) (subSkipOf σ)
    | .para _ _ _ _ => False
/-- `FullFrom fs bs i sub`: `fs` are complete fragments of the boxes `bs` (positions `i, i+1, …`), the
first one resumed at `sub`. -/
def FullFrom : List Frag → List PBox → Nat → Option Resume → Prop
  | [], bs, _, _ => bs = []
  | f :: fs, bs, i, sub =>
    match bs with
    | [] => False
    | b :: bs' => Full f b sub ∧ f.idx = i ∧ FullFrom fs bs' (i + 1) none
end

/-- All lines shown by a list of pages, in order. -/
def pagesLines : List Page → List (Nat × Nat)
  | [] => []
  | p :: ps => fragLines p.root ++ pagesLines ps

theorem pagesLines_eq (pages : List Page) :
    pagesLines pages = (pages.map (fun p => fragLines p.root)).flatten := by
  induction pages with
  | nil => rfl
  | cons p ps ih => simp [pagesLines, ih]

def pageContext (d : Doc) (index : Nat) (np : NextPage) : Ctx :=
  { pageBottom := d.pageH, currentPage := index + 1, forcedBreak := forcedBreakOf np }

/-- `remake_page` in closed form: `blank` = the page is blank, `r` = the layout of the root (emptied on a blank
page) in `pageContext`; a blank page hands on what it was given. -/
theorem remakePage_some (d : Doc) (index : Nat) (resume : Option Resume) (np : NextPage) (right : Bool)
    (p : Page) (hp : remakePage d index resume np right = some p) :
    ∃ blank r, blank = isBlank (requestedSide d.rootLtr np.brk) right ∧
      r = layoutBox (pageContext d index np) (if blank then emptyRoot d.root else d.root) 0 0 0 resume false true [] ∧
      r.frag = some p.root ∧
      p.type = { right := right, blank := blank,
                 name := if blank then "" else (match np.page with | some n => n | none => ""), index := index } ∧
      p.resume = (if blank then resume else r.resume) ∧ p.nextPage = (if blank then np else r.nextPage) := by
  unfold remakePage at hp
  dsimp only at hp
  split at hp
  · cases hp
  · rename_i f hfrag
    cases hp
    exact ⟨_, _, rfl, rfl, hfrag, rfl, rfl, rfl⟩

theorem remakePage_spec (d : Doc) (index : Nat) (resume : Option Resume) (np : NextPage) (right : Bool)
    (p : Page) (hp : remakePage d index resume np right = some p) :
    p.type.blank = isBlank (requestedSide d.rootLtr np.brk) right ∧
    (p.type.blank = true → p.resume = resume ∧ p.nextPage = np ∧
      ∃ c, (layoutBox c (emptyRoot d.root) 0 0 0 resume false true []).frag = some p.root) ∧
    (p.type.blank = false →
      ∃ c, (layoutBox c d.root 0 0 0 resume false true []).frag = some p.root ∧
        p.resume = (layoutBox c d.root 0 0 0 resume false true []).resume ∧
        p.nextPage = (layoutBox c d.root 0 0 0 resume false true []).nextPage) := by
  obtain ⟨blank, r, hb, rfl, hf, ht, hr, hn⟩ := remakePage_some d index resume np right p hp
  rw [ht]
  refine ⟨hb, ?_, ?_⟩ <;> intro h <;> simp only at h <;> subst h
  · exact ⟨hr, hn, _, hf⟩
  · exact ⟨_, hf, hr, hn⟩

/-- Induction over the pages `make_all_pages` returns, the fuel put aside. -/
theorem makeAllPages_induct (d : Doc) (P : Nat → Option Resume → NextPage → Bool → List Page → Prop)
    (last : ∀ index resume np right p, remakePage d index resume np right = some p → p.resume = none →
      P index resume np right [p])
    (more : ∀ index resume np right p r ps, remakePage d index resume np right = some p → p.resume = some r →
      P (index + 1) (some r) p.nextPage (!right) ps → P index resume np right (p :: ps)) :
    ∀ (fuel index : Nat) (resume : Option Resume) (np : NextPage) (right : Bool) (pages : List Page),
      makeAllPages d fuel index resume np right = some pages → P index resume np right pages := by
  intro fuel index resume np right pages h
  refine run_induct (fun s ps => P s.1 s.2.1 s.2.2.1 s.2.2.2 ps) ?_ ?_ fuel _ pages (makeAllPages_eq_some.mp h)
  · intro ⟨i, r, n, b⟩ p hs
    obtain ⟨hp, ho⟩ := stepOf_ok hs
    exact last i r n b p hp (Option.map_eq_none_iff.mp ho.symm)
  · intro ⟨i, r, n, b⟩ p s' ps hs ih
    obtain ⟨hp, ho⟩ := stepOf_ok hs
    obtain ⟨r', hr, rfl⟩ := Option.map_eq_some_iff.mp ho.symm
    exact more i r n b p r' ps hp hr ih

/-- `make_all_pages` returning pages: the first page, and the rest made from what that page hands over. -/
theorem makeAllPages_some {d : Doc} {fuel index : Nat} {resume : Option Resume} {np : NextPage} {right : Bool}
    {pages : List Page} (h : makeAllPages d (fuel + 1) index resume np right = some pages) :
    ∃ p, remakePage d index resume np right = some p ∧
      ((p.resume = none ∧ pages = [p]) ∨
        ∃ r ps, p.resume = some r ∧ makeAllPages d fuel (index + 1) p.resume p.nextPage (!right) = some ps ∧
          pages = p :: ps) := by
  obtain ⟨m, p, hm, ⟨hs, rfl⟩ | ⟨s', qs, hs, hq, rfl⟩⟩ := PageLoop.run_ok (makeAllPages_eq_some.mp h)
  · obtain ⟨hp, ho⟩ := PageLoop.stepOf_ok hs
    exact ⟨p, hp, .inl ⟨Option.map_eq_none_iff.mp ho.symm, rfl⟩⟩
  · obtain ⟨hp, ho⟩ := PageLoop.stepOf_ok hs
    obtain ⟨r, hr, rfl⟩ := Option.map_eq_some_iff.mp ho.symm
    cases hm
    exact ⟨p, hp, .inr ⟨r, qs, hr, hr ▸ makeAllPages_eq_some.mpr hq, rfl⟩⟩

/-- What holds of every page `remake_page` can make holds of every page of `make_all_pages`. -/
theorem makeAllPages_forall (d : Doc) (Q : Page → Prop)
    (hQ : ∀ index resume np right p, remakePage d index resume np right = some p → Q p)
    (fuel index : Nat) (resume : Option Resume) (np : NextPage) (right : Bool) (pages : List Page)
    (h : makeAllPages d fuel index resume np right = some pages) : ∀ p ∈ pages, Q p :=
  run_forall (step := pageStep d) (fun _ => True) Q
    (fun _ p _ _ hs => ⟨hQ _ _ _ _ p (stepOf_ok hs).1, fun _ _ => trivial⟩)
    fuel _ pages (makeAllPages_eq_some.mp h) trivial

/-- With no break value handed on (the first page) no side is requested: the page is not blank. -/
theorem isBlank_none (ltr right : Bool) : isBlank (requestedSide ltr none) right = false := by
  cases right <;> rfl

/-- The measure of the first page-maker state: two pages per unit of content. -/
theorem twoSided_start (sz q : Nat) (ltr right : Bool) :
    twoSided sz q (isBlank (requestedSide ltr none) right) ≤ 2 * sz := by
  rw [isBlank_none]; exact twoSided_le ..

/-- `remake_page`: the page that follows a blank page is on the other side, hence not blank. -/
theorem isBlank_flip (side : Option Bool) (right : Bool) (h : isBlank side right = true) :
    isBlank side (!right) = false := by
  cases side with
  | none => cases right <;> simp [isBlank] at h
  | some s => cases s <;> cases right <;> simp [isBlank] at h ⊢

/-- One page of a two-sided page maker brings it closer to the end: a blank page (`hb`) keeps the position and the
requested side, so that the page after it, on the other side, is not blank; any other page (`hnb`) advances. -/
theorem twoSided_page {sz q q' : Nat} {side side' : Option Bool} {right blank : Bool}
    (hbl : blank = isBlank side right) (hb : blank = true → q' = q ∧ side' = side)
    (hnb : blank = false → q < q') (hq' : q' < sz) :
    twoSided sz q' (isBlank side' (!right)) + 1 ≤ twoSided sz q (isBlank side right) := by
  rw [← hbl]
  refine twoSided_step ?_ hq'
  cases blank with
  | true => obtain ⟨rfl, rfl⟩ := hb rfl; exact ⟨rfl, isBlank_flip _ _ hbl.symm⟩
  | false => exact hnb rfl

end Wp.PM
