/-
Every item painted by `draw_stacking_context` carries the
graphics environment of the call extended — opacity groups and transforms only ever grow as a
suffix, the stack of clip paths only grows.  Consequence: what a context paints is inside its own
opacity group / transform / `clip` / viewport clip.
-/
import WpModel.Model.PaintOrder

namespace Wp.Stacking
open Wp Wp.Gen

/-- `e ≤ f`: `f` is `e` with more opacity groups, transforms and clip paths appended. -/
def Env.le (e f : Env) : Prop :=
  e.alphas <+: f.alphas ∧ e.transforms <+: f.transforms ∧ e.clips <+: f.clips

theorem Env.le_refl (e : Env) : e.le e := ⟨List.prefix_refl _, List.prefix_refl _, List.prefix_refl _⟩

theorem Env.le_trans {e f g : Env} (h1 : e.le f) (h2 : f.le g) : e.le g :=
  ⟨h1.1.trans h2.1, h1.2.1.trans h2.2.1, h1.2.2.trans h2.2.2⟩

theorem Env.le_clip (e : Env) (c : Clip) : e.le (e.clip c) :=
  ⟨List.prefix_refl _, List.prefix_refl _, List.prefix_append _ _⟩

theorem Env.le_ite_clip (c : Prop) [Decidable c] (e : Env) (x : Clip) :
    e.le (if c then e.clip x else e) := by
  split
  · exact e.le_clip x
  · exact e.le_refl

theorem Env.ite_clip (c : Prop) [Decidable c] (e : Env) (x : Clip) :
    (if c then e.clip x else e) = ⟨e.alphas, e.transforms, e.clips ++ if c then [x] else []⟩ := by
  split <;> simp [Env.clip]

/-- All painted items of a list are in an environment extending `e`. -/
def AllGe (e : Env) (l : List Item) : Prop :=
  ∀ it ∈ l, match it with
    | .paint _ _ _ f => e.le f
    | .raise _ => True

theorem AllGe.nil (e : Env) : AllGe e [] := by intro it h; cases h

theorem AllGe.append {e : Env} {l m : List Item} (h1 : AllGe e l) (h2 : AllGe e m) :
    AllGe e (l ++ m) := by
  intro it h
  rcases List.mem_append.mp h with h | h
  · exact h1 it h
  · exact h2 it h

theorem AllGe.mono {e f : Env} {l : List Item} (hef : e.le f) (h : AllGe f l) : AllGe e l := by
  intro it hit
  have := h it hit
  cases it with
  | paint r i c g => exact Env.le_trans hef this
  | raise _ => trivial

theorem AllGe.single (e f : Env) (r : Role) (i c : Nat) (h : e.le f) : AllGe e [.paint r i c f] := by
  intro it hit
  rcases List.mem_singleton.mp hit with rfl
  exact h

theorem AllGe.raise (e : Env) (x : PyErr) : AllGe e [.raise x] := by
  intro it hit
  rcases List.mem_singleton.mp hit with rfl
  trivial

theorem AllGe.flatMap {α} {e : Env} (l : List α) (f : α → List Item) (h : ∀ x ∈ l, AllGe e (f x)) :
    AllGe e (l.flatMap f) := by
  intro it hit
  rcases List.mem_flatMap.mp hit with ⟨x, hx, hi⟩
  exact h x hx it hi

theorem allGe_attrErr (e : Env) (s : String) : AllGe e (attrErr s) := AllGe.raise e _

theorem allGe_drawBackground (role : Role) (id : Nat) (bg : Option (Option Nat)) (cb : Bool) (e : Env) :
    AllGe e (drawBackground role id bg cb e) := by
  unfold drawBackground
  split
  · exact AllGe.nil e
  · exact AllGe.nil e
  · split
    · exact AllGe.single _ _ _ _ _ (Env.le_trans (e.le_clip _) ((e.clip _).le_clip _))
    · exact AllGe.single _ _ _ _ _ (e.le_clip _)

theorem allGe_drawBorder (a : Attrs) (e : Env) : AllGe e (drawBorder a e) := by
  fun_cases drawBorder a e
  · exact AllGe.nil e
  · exact AllGe.nil e
  · exact AllGe.single _ _ _ _ _ e.le_refl
  · intro it hit
    rcases List.eq_of_mem_replicate hit with rfl
    exact e.le_clip _

theorem allGe_decoration (a : Attrs) (e : Env) : AllGe e (decoration a e) :=
  (allGe_drawBackground _ _ _ _ e).append (allGe_drawBorder a e)

theorem allGe_drawText (a : Attrs) (e : Env) : AllGe e (drawText a e) := by
  unfold drawText
  split
  · exact AllGe.nil e
  · exact AllGe.single _ _ _ _ _ e.le_refl

theorem allGe_ownOutline (a : Attrs) (e : Env) : AllGe e (ownOutline a e) := by
  fun_cases ownOutline a e
  · intro it hit
    rcases List.eq_of_mem_replicate hit with rfl
    exact e.le_clip _
  · exact AllGe.nil e
  · exact AllGe.nil e

theorem allGe_cellBackground (t : Attrs) (e : Env) (c : Node) : AllGe e (cellBackground t e c) := by
  unfold cellBackground
  split
  · split
    · exact allGe_drawBackground _ _ _ _ e
    · exact AllGe.nil e
  · exact allGe_attrErr e _

theorem allGe_rowBackgrounds (t : Attrs) (e : Env) (r : Node) : AllGe e (rowBackgrounds t e r) := by
  unfold rowBackgrounds
  split
  · exact (allGe_drawBackground _ _ _ _ e).append (AllGe.flatMap _ _ (fun c _ => allGe_cellBackground t e c))
  · exact allGe_attrErr e _

theorem allGe_groupBackgrounds (t : Attrs) (e : Env) (g : Node) : AllGe e (groupBackgrounds t e g) := by
  unfold groupBackgrounds
  split
  · exact (allGe_drawBackground _ _ _ _ e).append (AllGe.flatMap _ _ (fun r _ => allGe_rowBackgrounds t e r))
  · exact allGe_attrErr e _

theorem allGe_cellBorder (e : Env) (c : Node) : AllGe e (cellBorder e c) := by
  fun_cases cellBorder e c
  · exact allGe_drawBorder _ e
  · exact AllGe.nil e
  · exact allGe_attrErr e _

theorem allGe_rowBorders (e : Env) (r : Node) : AllGe e (rowBorders e r) := by
  unfold rowBorders
  split
  · exact AllGe.flatMap _ _ (fun c _ => allGe_cellBorder e c)
  · exact allGe_attrErr e _

theorem allGe_groupBorders (e : Env) (g : Node) : AllGe e (groupBorders e g) := by
  unfold groupBorders
  split
  · exact AllGe.flatMap _ _ (fun r _ => allGe_rowBorders e r)
  · exact allGe_attrErr e _

theorem allGe_drawTable (t : Attrs) (groups : List Node) (e : Env) : AllGe e (drawTable t groups e) := by
  unfold drawTable drawTableBackgrounds drawTableBorders columnBackgrounds
  refine AllGe.append (AllGe.append (AllGe.append (allGe_drawBackground _ _ _ _ e) ?_) ?_) ?_
  · refine AllGe.flatMap _ _ (fun g _ => AllGe.append (allGe_drawBackground _ _ _ _ e) ?_)
    exact AllGe.flatMap _ _ (fun c _ => allGe_drawBackground _ _ _ _ e)
  · exact AllGe.flatMap _ _ (fun g _ => allGe_groupBackgrounds t e g)
  · split
    · exact AllGe.single _ _ _ _ _ e.le_refl
    · exact (allGe_drawBorder t e).append (AllGe.flatMap _ _ (fun g _ => allGe_groupBorders e g))

theorem allGe_drawBlock (n : Node) (e : Env) : AllGe e (drawBlock n e) := by
  fun_cases drawBlock n e
  · exact allGe_drawTable _ _ e
  · exact allGe_decoration _ e
  · exact allGe_drawTable _ _ e
  · exact allGe_decoration _ e
  · exact allGe_attrErr e _

theorem allGe_drawBlocks (l : List Node) (e : Env) : AllGe e (l.flatMap (drawBlock · e)) :=
  AllGe.flatMap _ _ (fun b _ => allGe_drawBlock b e)

theorem allGe_drawReplaced (a : Attrs) (e : Env) : AllGe e (drawReplaced a e) := by
  unfold drawReplaced
  split
  · exact AllGe.nil e
  · exact AllGe.single _ _ _ _ _ e.le_refl

theorem allGe_inlBoxWith (a : Attrs) (k : Env → List Item) (e : Env) (hk : AllGe e (k e)) :
    AllGe e (inlBoxWith a k e) := by
  unfold inlBoxWith
  refine (allGe_decoration a e).append ?_
  split
  · exact hk
  · split
    · exact allGe_drawReplaced a e
    · split
      · exact AllGe.raise e _
      · exact allGe_drawText a e

theorem allGe_point7With (a : Attrs) (kids : List Node) (k : Env → List Item) (e : Env)
    (hk : AllGe e (k e)) : AllGe e (point7With a kids k e) := by
  unfold point7With
  split
  · exact allGe_drawReplaced a e
  · split
    · exact hk
    · exact AllGe.nil e

/-- What the outer `q … Q` of a context adds to each of the three stacks. -/
theorem ctxEnv_eq (a : Attrs) (pov : Bool) (env : Env) : ctxEnv a pov env =
    { alphas := env.alphas ++ (if a.opacity < 1 then [a.opacity] else []),
      transforms := env.transforms ++ (match a.matrix with | .regular code => [code] | _ => []),
      clips := env.clips ++ (if a.isRoot && !pov then [Clip.viewport] else []) ++
        (if a.absPos && a.clipProp then [Clip.clipProp a.id] else []) } := by
  unfold ctxEnv
  simp only [Env.ite_clip]
  by_cases h : a.opacity < 1 <;> cases a.matrix <;> simp only [h, ↓reduceIte, List.append_nil]

theorem ctxEnv_ge (a : Attrs) (pov : Bool) (e : Env) : e.le (ctxEnv a pov e) := by
  rw [ctxEnv_eq]
  exact ⟨List.prefix_append _ _, List.prefix_append _ _,
    (List.prefix_append _ _).trans (List.prefix_append _ _)⟩

/-- The body of `draw_stacking_context`: everything is painted inside `ctxEnv`. -/
theorem allGe_paintBodyWith (pov : Bool) (a : Attrs)
    (neg blocks floats ik pt7 zero pos outl : Env → List Item) (env : Env)
    (h : ∀ e, AllGe e (neg e) ∧ AllGe e (blocks e) ∧ AllGe e (floats e) ∧ AllGe e (ik e) ∧
      AllGe e (pt7 e) ∧ AllGe e (zero e) ∧ AllGe e (pos e) ∧ AllGe e (outl e)) :
    AllGe (ctxEnv a pov env) (paintBodyWith pov a neg blocks floats ik pt7 zero pos outl env) := by
  unfold paintBodyWith
  split
  · exact AllGe.nil _
  · simp only
    generalize ctxEnv a pov env = e
    have hclip : e.le (if (!a.overflowVisible && !a.kind.drawPage) = true then e.clip (.overflow a.id) else e) :=
      Env.le_ite_clip _ e _
    generalize (if (!a.overflowVisible && !a.kind.drawPage) = true then e.clip (.overflow a.id) else e) = e1 at hclip
    obtain ⟨h1, h2, h3, h4, h5, h6, h7, _⟩ := h e1
    refine AllGe.append (AllGe.append (AllGe.append ?_ (AllGe.mono hclip ?_)) (allGe_ownOutline a e))
      (h e).2.2.2.2.2.2.2
    · split
      · exact allGe_decoration a e
      · exact AllGe.nil e
    · refine AllGe.append (AllGe.append (AllGe.append (AllGe.append (AllGe.append (AllGe.append h1 h2) h3) ?_) h5) h6) h7
      split
      · exact allGe_inlBoxWith a ik e1 h4
      · exact AllGe.nil e1

/-- The five list traversals of the paint model, for one environment. -/
structure GeL (pov : Bool) (l : List Node) (e : Env) : Prop where
  paint : AllGe e (paintList pov l e)
  pt7 : AllGe e (point7List pov l e)
  kids : AllGe e (inlKids pov l e)
  lines : AllGe e (inlList pov l e)
  outl : AllGe e (outlineList l e)

theorem paintList_cons (pov : Bool) (n : Node) (l : List Node) (e : Env) :
    paintList pov (n :: l) e = paintList pov [n] e ++ paintList pov l e := by
  simp [paintList]
theorem point7List_cons (pov : Bool) (n : Node) (l : List Node) (e : Env) :
    point7List pov (n :: l) e = point7List pov [n] e ++ point7List pov l e := by
  cases n <;> simp [point7List]
theorem inlKids_cons (pov : Bool) (n : Node) (l : List Node) (e : Env) :
    inlKids pov (n :: l) e = inlKids pov [n] e ++ inlKids pov l e := by
  cases n <;> simp [inlKids]
theorem inlList_cons (pov : Bool) (n : Node) (l : List Node) (e : Env) :
    inlList pov (n :: l) e = inlList pov [n] e ++ inlList pov l e := by
  cases n <;> simp [inlList]
theorem outlineList_cons (n : Node) (l : List Node) (e : Env) :
    outlineList (n :: l) e = outlineList [n] e ++ outlineList l e := by
  cases n <;> simp [outlineList]

/-- A context around a box with children paints inside `ctxEnv`, given that for its children and its six lists. -/
theorem allGe_paint_ctx_node (pov : Bool) (a : Attrs) (kids neg zero pos blocks floats bc : List Node) (z : Int)
    (e : Env) (hk : ∀ e, GeL pov kids e) (hneg : ∀ e, GeL pov neg e) (hzero : ∀ e, GeL pov zero e)
    (hpos : ∀ e, GeL pov pos e) (hfl : ∀ e, GeL pov floats e) (hbc : ∀ e, GeL pov bc e) :
    AllGe (ctxEnv a pov e) (paint pov (.ctx (.node a kids) neg zero pos blocks floats bc z) e) := by
  rw [paint]
  exact allGe_paintBodyWith pov a _ _ _ _ _ _ _ _ e fun e' =>
    ⟨(hneg e').paint, allGe_drawBlocks blocks e', (hfl e').paint, (hk e').kids,
      (allGe_point7With a kids _ e' (hk e').lines).append (hbc e').pt7, (hzero e').paint,
      (hpos e').paint, (hk e').outl⟩

mutual
theorem ge_node (pov : Bool) : ∀ (n : Node) (e : Env), GeL pov [n] e
  | .leaf a, e => by
    refine ⟨?_, ?_, ?_, ?_, ?_⟩
    · simp only [paintList, paint, List.append_nil]; exact allGe_attrErr e _
    · simp only [point7List, List.append_nil]
      exact allGe_point7With a [] _ e (AllGe.nil e)
    · simp only [inlKids, List.append_nil]
      split
      · exact allGe_drawText a e
      · exact allGe_inlBoxWith a _ e (AllGe.nil e)
    · simp only [inlList, List.append_nil]
      exact allGe_inlBoxWith a _ e (AllGe.nil e)
    · simp only [outlineList, List.append_nil]; exact allGe_ownOutline a e
  | .node a kids, e => by
    have hk := ge_list pov kids
    refine ⟨?_, ?_, ?_, ?_, ?_⟩
    · simp only [paintList, paint, List.append_nil]; exact allGe_attrErr e _
    · simp only [point7List, List.append_nil]
      exact allGe_point7With a kids _ e (hk e).lines
    · simp only [inlKids, List.append_nil]
      split
      · exact allGe_drawText a e
      · exact allGe_inlBoxWith a _ e (hk e).kids
    · simp only [inlList, List.append_nil]
      exact allGe_inlBoxWith a _ e (hk e).kids
    · simp only [outlineList, List.append_nil]
      exact (allGe_ownOutline a e).append (hk e).outl
  | .ph b, e => by
    refine ⟨?_, ?_, ?_, ?_, ?_⟩
    · simp only [paintList, paint, List.append_nil]; exact allGe_attrErr e _
    · simp only [point7List, List.append_nil]; exact allGe_attrErr e _
    · simp only [inlKids, List.append_nil]; exact allGe_attrErr e _
    · simp only [inlList, List.append_nil]; exact allGe_attrErr e _
    · simp only [outlineList]; exact AllGe.nil e
  | .ctx box neg zero pos blocks floats bc z, e => by
    have hp : AllGe e (paint pov (.ctx box neg zero pos blocks floats bc z) e) := by
      have hneg := ge_list pov neg
      have hzero := ge_list pov zero
      have hpos := ge_list pov pos
      have hfl := ge_list pov floats
      have hbc := ge_list pov bc
      match box with
      | .leaf a =>
        rw [paint]
        refine AllGe.mono (ctxEnv_ge a pov e) (allGe_paintBodyWith pov a _ _ _ _ _ _ _ _ e ?_)
        intro e'
        exact ⟨(hneg e').paint, allGe_drawBlocks blocks e', (hfl e').paint, AllGe.nil e',
          (allGe_point7With a [] _ e' (AllGe.nil e')).append (hbc e').pt7, (hzero e').paint,
          (hpos e').paint, AllGe.nil e'⟩
      | .node a kids =>
        exact AllGe.mono (ctxEnv_ge a pov e)
          (allGe_paint_ctx_node pov a kids neg zero pos blocks floats bc z e (ge_list pov kids) hneg hzero hpos hfl hbc)
      | .ph _ => rw [paint]; exact allGe_attrErr e _
      | .ctx .. => rw [paint]; exact allGe_attrErr e _
    refine ⟨?_, ?_, ?_, ?_, ?_⟩
    · simp only [paintList, List.append_nil]; exact hp
    · simp only [point7List, List.append_nil]; exact allGe_attrErr e _
    · simp only [inlKids, List.append_nil]
      split
      · exact AllGe.raise e _
      · exact hp
    · simp only [inlList, List.append_nil]
      split
      · exact AllGe.raise e _
      · exact hp
    · simp only [outlineList]; exact AllGe.nil e
theorem ge_list (pov : Bool) : ∀ (l : List Node) (e : Env), GeL pov l e
  | [], e => ⟨by simp [paintList, AllGe.nil], by simp [point7List, AllGe.nil],
      by simp [inlKids, AllGe.nil], by simp [inlList, AllGe.nil], by simp [outlineList, AllGe.nil]⟩
  | n :: l, e => by
    have h1 := ge_node pov n e
    have h2 := ge_list pov l e
    refine ⟨?_, ?_, ?_, ?_, ?_⟩
    · rw [paintList_cons]; exact h1.paint.append h2.paint
    · rw [point7List_cons]; exact h1.pt7.append h2.pt7
    · rw [inlKids_cons]; exact h1.kids.append h2.kids
    · rw [inlList_cons]; exact h1.lines.append h2.lines
    · rw [outlineList_cons]; exact h1.outl.append h2.outl
end

end Wp.Stacking
