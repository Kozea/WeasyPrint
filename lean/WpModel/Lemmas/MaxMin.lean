/-
Folds of `max` and of `min` over a list of rationals, from one order-theoretic fact: the fold is the least upper
bound (for `min`: in the reversed order) of the seed and the elements.  Everything else — the fold is attained,
is unique, ignores order and multiplicity, splits over `++`, absorbs a larger seed — is an order argument on top of
that fact, done once for both operations (`Lub`).  (For the one-sided bound of a fold with an arbitrary step function
see `List.foldl_bound` in `Basic/List`.)
-/
import WpModel.Lemmas.Basic.Rat

namespace Wp.MaxMin

/-- `op a b` is one of its arguments and is the least upper bound of the two for the order `r`. -/
structure Lub (op : Rat → Rat → Rat) (r : Rat → Rat → Prop) : Prop where
  le_iff : ∀ a b c, r (op a b) c ↔ r a c ∧ r b c
  cases : ∀ a b, op a b = a ∨ op a b = b
  refl : ∀ a, r a a
  trans : ∀ a b c, r a b → r b c → r a c
  antisymm : ∀ a b, r a b → r b a → a = b

theorem lub_max : Lub max (· ≤ ·) where
  le_iff a b _ :=
    ⟨fun h => ⟨Rat.le_trans (Rat.le_max_left a b) h, Rat.le_trans (Rat.le_max_right a b) h⟩,
      fun h => (Rat.max_eq_or a b).elim (fun e => e.symm ▸ h.1) (fun e => e.symm ▸ h.2)⟩
  cases := Rat.max_eq_or
  refl _ := Rat.le_refl
  trans _ _ _ := Rat.le_trans
  antisymm _ _ := Rat.le_antisymm

theorem lub_min : Lub min (· ≥ ·) where
  le_iff a b _ :=
    ⟨fun h => ⟨Rat.le_trans h (Std.min_le_left ..), Rat.le_trans h (Std.min_le_right ..)⟩,
      fun h => (Std.min_eq_or (a := a) (b := b)).elim (fun e => e.symm ▸ h.1) (fun e => e.symm ▸ h.2)⟩
  cases _ _ := Std.min_eq_or
  refl _ := Rat.le_refl
  trans _ _ _ h1 h2 := Rat.le_trans h2 h1
  antisymm _ _ h1 h2 := Rat.le_antisymm h2 h1

namespace Lub
variable {op : Rat → Rat → Rat} {r : Rat → Rat → Prop} (h : Lub op r)
include h

/-- The fold is the least upper bound of the seed and the elements. -/
theorem foldl_le_iff (ms : List Rat) (a b : Rat) : r (ms.foldl op a) b ↔ r a b ∧ ∀ m ∈ ms, r m b := by
  induction ms generalizing a with
  | nil => simp
  | cons m ms ih => simp only [List.foldl_cons, ih, h.le_iff, List.mem_cons, forall_eq_or_imp, and_assoc]

theorem seed_le_foldl (ms : List Rat) (a : Rat) : r a (ms.foldl op a) :=
  ((h.foldl_le_iff ms a _).mp (h.refl _)).1

theorem le_foldl (ms : List Rat) (a : Rat) : ∀ m ∈ ms, r m (ms.foldl op a) :=
  ((h.foldl_le_iff ms a _).mp (h.refl _)).2

theorem foldl_mem (ms : List Rat) (a : Rat) : ms.foldl op a = a ∨ ms.foldl op a ∈ ms := by
  induction ms generalizing a with
  | nil => exact .inl rfl
  | cons m ms ih =>
    rw [List.foldl_cons]
    rcases ih (op a m) with h1 | h1
    · rw [h1]
      exact (h.cases a m).imp id fun (h2 : op a m = m) => by rw [h2]; exact List.mem_cons_self
    · exact .inr (List.mem_cons_of_mem _ h1)

theorem le_foldl_cons (ms : List Rat) (a : Rat) : ∀ m ∈ a :: ms, r m (ms.foldl op a) :=
  List.forall_mem_cons.mpr ⟨h.seed_le_foldl ms a, h.le_foldl ms a⟩

theorem foldl_mem_cons (ms : List Rat) (a : Rat) : ms.foldl op a ∈ a :: ms :=
  List.mem_cons.mpr (h.foldl_mem ms a)

theorem foldl_unique (ms : List Rat) (a x : Rat) (ha : r a x) (hub : ∀ m ∈ ms, r m x) (hx : x = a ∨ x ∈ ms) :
    ms.foldl op a = x :=
  h.antisymm _ _ ((h.foldl_le_iff ms a x).mpr ⟨ha, hub⟩)
    (hx.elim (fun e => e ▸ h.seed_le_foldl ms a) (h.le_foldl ms a x))

theorem foldl_congr {ms ms' : List Rat} {a a' : Rat}
    (hb : ∀ c, (r a c ∧ ∀ m ∈ ms, r m c) ↔ (r a' c ∧ ∀ m ∈ ms', r m c)) : ms.foldl op a = ms'.foldl op a' :=
  h.antisymm _ _ ((h.foldl_le_iff ms a _).mpr ((hb _).mpr ((h.foldl_le_iff ms' a' _).mp (h.refl _))))
    ((h.foldl_le_iff ms' a' _).mpr ((hb _).mp ((h.foldl_le_iff ms a _).mp (h.refl _))))

theorem foldl_of_mem_iff {ms ms' : List Rat} (a : Rat) (hm : ∀ m, m ∈ ms ↔ m ∈ ms') :
    ms.foldl op a = ms'.foldl op a :=
  h.foldl_congr fun c => by simp only [hm]

theorem foldl_seed (ms : List Rat) (a b : Rat) (hba : r b a) : ms.foldl op a = op a (ms.foldl op b) := by
  apply h.antisymm
  · rw [h.foldl_le_iff]
    have h1 := (h.le_iff a (ms.foldl op b) _).mp (h.refl _)
    exact ⟨h1.1, ((h.foldl_le_iff ms b _).mp h1.2).2⟩
  · rw [h.le_iff, h.foldl_le_iff]
    exact ⟨h.seed_le_foldl ms a, h.trans _ _ _ hba (h.seed_le_foldl ms a), h.le_foldl ms a⟩

theorem foldl_append (xs ys : List Rat) (a : Rat) :
    (xs ++ ys).foldl op a = op (xs.foldl op a) (ys.foldl op a) := by
  rw [List.foldl_append, h.foldl_seed ys _ a (h.seed_le_foldl xs a)]

end Lub

end Wp.MaxMin
