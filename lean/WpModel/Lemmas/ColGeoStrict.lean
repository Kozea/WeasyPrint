/-
C03 geometry for multi-column containers, the strict part: a column box that comes after a spanning block in the
same container fragment is laid out with `page_is_empty = False` (`columns_layout` clears the flag after every
spanning block and after every group), so ALL its lines — the first one included — end above the bottom space.
`afterSpan` collects these lines; they are among the lines `trueList` does not exempt (`afterSpan_true`), so the
statement follows from `box_fits`.  (This is the class of the seeded change C03-2.)
-/
import WpModel.Lemmas.ColGeo

namespace Wp.PMC
open Wp Wp.PM

/-- Lines of the column boxes that follow a spanning block (a non-column sibling) among the children of a
container fragment, none of them exempt. `seen` = a spanning block came before. -/
def afterSpan (lh : Nat → Rat) : List CFrag → Bool → List PlacedLine
  | [], _ => []
  | f :: rest, seen =>
    (if f.isColumn && seen then placedList lh f.kids false else []) ++ afterSpan lh rest (seen || !f.isColumn)

@[simp] theorem kids_withGeo (f : CFrag) (g : Geo) : (f.withGeo g).kids = f.kids := by
  cases f <;> rfl

theorem afterSpan_map_setColHeight (lh : Nat → Rat) (h : Rat) (l : List CFrag) (seen : Bool) :
    afterSpan lh (l.map (setColHeight h)) seen = afterSpan lh l seen := by
  induction l generalizing seen with
  | nil => rfl
  | cons f fs ih => simp [afterSpan, ih, setColHeight]

theorem afterSpan_addTrailing (lh : Nat → Rat) (diff : Rat) (l : List CFrag) (seen : Bool) :
    afterSpan lh (addTrailing diff l).1 seen = afterSpan lh l seen := by
  induction l generalizing seen with
  | nil => rfl
  | cons f fs ih =>
    simp only [addTrailing]
    split <;> simp [afterSpan, ih, setColHeight]

theorem afterSpan_columns_false (lh : Nat → Rat) (l : List CFrag) (h : ∀ f ∈ l, f.isColumn = true) :
    afterSpan lh l false = [] := by
  induction l with
  | nil => rfl
  | cons f fs ih =>
    have hf := h f (by simp)
    simp only [afterSpan, hf, Bool.and_false, Bool.false_eq_true, if_false, Bool.not_true, Bool.or_false,
      List.nil_append]
    exact ih (fun g hg => h g (by simp [hg]))

theorem layoutBox_not_column (c : CCtx) (box : ColBox) (idx : Nat) (y bs : Rat) (skip : Option Resume)
    (cb pie : Bool) (adjL : List Rat) (f : CFrag)
    (hf : (layoutBox c box idx y bs skip cb pie adjL).frag = some f) : f.isColumn = false := by
  cases box with
  | para id n lineH st =>
    simp only [layoutBox] at hf
    obtain ⟨g, rfl, _⟩ := finishPara_frag' _ _ _ _ _ _ _ _ _ hf
    rfl
  | block id st kids =>
    simp only [layoutBox] at hf
    obtain ⟨g, rfl, _⟩ := finishBlock_frag _ _ _ _ _ _ _ _ hf
    rfl
  | columns id st cs flags kids =>
    obtain ⟨g, l, rfl⟩ := layoutBox_columns_frag c id st cs flags kids idx y bs skip cb pie adjL f hf
    rfl

/-- The lines `afterSpan` collects are among the lines `trueList` does not exempt. -/
theorem afterSpan_true (lh : Nat → Rat) : (fs : List CFrag) → ∀ (seen q e : Bool), (seen = true → q = false) →
    PieWeaker (afterSpan lh fs seen) (trueList lh fs q e)
  | [], _, _, _, _ => PieWeaker.nil _
  | f :: rest, seen, q, e, h => by
    simp only [afterSpan, trueList]
    refine PieWeaker.append ?_ (afterSpan_true lh rest _ _ _ ?_)
    · cases f with
      | column id st x g kids =>
        cases seen with
        | false => exact PieWeaker.nil _
        | true =>
          simp only [CFrag.isColumn, Bool.and_self, if_true, CFrag.kids, trueLines, h rfl]
          exact placedList_true lh kids false false false (fun h => h)
      | _ => exact PieWeaker.nil _
    · cases f.isColumn <;> simp_all

/-- **Columns after a spanning block fit entirely**: in the fragment of a multi-column container returned by any
`block_level_layout` call, every line of every column box that follows a spanning block ends above the bottom
space — no exemption for the first line of the column. -/
theorem container_after_span_fits (lh : Nat → Rat) (id : Nat) (st : PStyle) (cs : ColSpec) (flags : List Bool)
    (kids : List ColBox) (hd : DecoOk (.columns id st cs flags kids)) (hl : LhOk lh (.columns id st cs flags kids))
    (c : CCtx) (idx : Nat) (y bs : Rat) (skip : Option Resume) (cb pie : Bool) (adjL : List Rat) (f : CFrag)
    (hf : (layoutBox c (.columns id st cs flags kids) idx y bs skip cb pie adjL).frag = some f) :
    LinesOk c bs (afterSpan lh f.kids false) := by
  obtain ⟨g, l, rfl⟩ := layoutBox_columns_frag c id st cs flags kids idx y bs skip cb pie adjL f hf
  exact (afterSpan_true lh l false pie pie (fun h => nomatch h)).linesFit _
    (box_fits lh _ hd hl c idx y bs skip cb pie adjL _ hf).1

end Wp.PMC
