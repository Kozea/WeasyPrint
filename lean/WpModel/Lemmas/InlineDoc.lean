/-
From the function-level white-space theorems to elements: the boxes `element_to_box` builds for inline
elements in normal flow with a collapsing `white-space` are inline content (`IC`) of their parent, so the
threading theorem of Lemmas/Threading.lean applies to the box of the parent element.
-/
import WpModel.Lemmas.Threading
import WpModel.Lemmas.BoxGenRun

namespace Wp.Bx
open KBox

/-- The style entries that make a box plain inline content: in normal flow, collapsing `white-space`, no
`text-transform`, `hyphens` not `none`. -/
def PlainStyle (st : Style) : Prop :=
  st.run = false ∧ st.abs = false ∧ st.foot = false ∧ st.flt = false ∧ st.tt = .none ∧ st.hyph = false ∧
  spaceCollapse st.ws = true

mutual
/-- Plain inline content: text boxes and inline boxes with `PlainStyle` all the way down. -/
def ICP : KBox → Prop
  | .mk k st _ _ text kids _ =>
    PlainStyle st ∧
    ((Gen.isSub k .TextBox = true ∧ kids = []) ∨
     (Gen.isSub k .TextBox = false ∧ Gen.isSub k .InlineBox = true ∧ text = [] ∧ ICPL kids))
def ICPL : List KBox → Prop
  | [] => True
  | c :: cs => ICP c ∧ ICPL cs
end

theorem icpl_iff (l : List KBox) : ICPL l ↔ ∀ c ∈ l, ICP c :=
  List.listLift_iff trivial (fun _ _ => Iff.rfl) l

mutual
theorem icp_ic : ∀ (b : KBox), ICP b → IC b
  | .mk k st el inst text kids cols, h => by
    unfold ICP at h
    obtain ⟨⟨h1, h2, h3, h4, _, _, h7⟩, hc⟩ := h
    unfold IC
    refine ⟨h1, h2, h3, by simp [h4], ?_⟩
    rcases hc with ⟨a, b⟩ | ⟨a, b, c, d⟩
    · exact Or.inl ⟨a, h7, b⟩
    · exact Or.inr ⟨a, b, c, icpl_icl kids d⟩
theorem icpl_icl : ∀ (l : List KBox), ICPL l → ICL l
  | [], _ => by unfold ICL; trivial
  | c :: cs, h => by
    unfold ICPL at h
    unfold ICL
    exact ⟨icp_ic c h.1, icpl_icl cs h.2⟩
end

theorem icp_inFlow {b : KBox} (h : ICP b) : b.inFlow = true ∧
    (Gen.isSub b.kind .TextBox || Gen.isSub b.kind .InlineBox) = true := by
  have := ic_inFlow (icp_ic b h)
  refine ⟨this.1, ?_⟩
  rcases this.2 with h1 | h1
  · simp only [KBox.isA] at h1; simp [h1]
  · simp only [KBox.isA] at h1; simp [h1]

mutual
/-- `process_whitespace` keeps plain inline content plain (it only changes texts and `lcs`). -/
theorem pw_icp : ∀ (b : KBox) (f : Bool), ICP b → ICP (pw b f).1
  | .mk k st el inst text kids cols, f, h => by
    unfold ICP at h
    obtain ⟨hs, hc⟩ := h
    unfold pw
    rcases hc with ⟨a, b⟩ | ⟨a, b, c, d⟩
    · simp only [a, if_true]
      split
      · unfold ICP; exact ⟨hs, Or.inl ⟨a, b⟩⟩
      · unfold ICP; exact ⟨hs, Or.inl ⟨a, b⟩⟩
    · simp only [a, Bool.false_eq_true, if_false]
      unfold ICP
      exact ⟨hs, Or.inr ⟨a, b, c, pwKids_icp kids f d⟩⟩
theorem pwKids_icp : ∀ (l : List KBox) (f : Bool), ICPL l → ICPL (pwKids l f).1
  | [], _, _ => by simp [pwKids, ICPL]
  | c :: cs, f, h => by
    unfold ICPL at h
    unfold pwKids
    simp only [(icp_inFlow h.1).2, if_true]
    unfold ICPL
    exact ⟨pw_icp c f h.1, pwKids_icp cs _ h.2⟩
end

mutual
/-- `process_text_transform` does nothing to plain inline content. -/
theorem ptt_icp : ∀ (b : KBox), ICP b → ptt b = b
  | .mk k st el inst text kids cols, h => by
    unfold ICP at h
    obtain ⟨⟨h1, _, _, _, h5, h6, _⟩, hc⟩ := h
    unfold ptt
    rcases hc with ⟨a, b⟩ | ⟨a, b, c, d⟩
    · simp only [a, if_true, h5, h6, applyTT, Bool.false_eq_true, if_false]
    · simp only [a, Bool.false_eq_true, if_false, h1, Bool.not_false, if_true, pttKids_icp kids d]
theorem pttKids_icp : ∀ (l : List KBox), ICPL l → pttKids l = l
  | [], _ => by simp [pttKids]
  | c :: cs, h => by
    unfold ICPL at h
    unfold pttKids
    simp only [(icp_inFlow h.1).2, if_true, ptt_icp c h.1, pttKids_icp cs h.2]
end

/-- What `addChild` needs of the parent: the text boxes it makes inherit a plain style. -/
def PlainParent (p : KBox) : Prop := p.st.tt = .none ∧ p.st.hyph = false ∧ spaceCollapse p.st.ws = true

theorem textBoxFrom_icp (p : KBox) (t : Text) (hp : PlainParent p) : ICP (textBoxFrom p t) := by
  unfold textBoxFrom ICP PlainStyle anonStyle
  exact ⟨⟨rfl, rfl, rfl, rfl, hp.1, hp.2.1, hp.2.2⟩, Or.inl ⟨rfl, rfl⟩⟩

theorem addChild_icp (parent : KBox) (hp : PlainParent parent) (acc boxes : List KBox) (tail : Text)
    (ha : ∀ c ∈ acc, ICP c) (hb : ∀ c ∈ boxes, ICP c) : ∀ c ∈ addChild parent acc boxes tail, ICP c := by
  have hacc : ∀ c ∈ boxes.reverse ++ acc, ICP c := by
    intro c hc
    rcases List.mem_append.mp hc with h | h
    · exact hb c (List.mem_reverse.mp h)
    · exact ha c h
  fun_cases addChild parent acc boxes tail
  case case1 => exact hacc
  case case2 last rest e ht =>
    have hacc : ∀ c ∈ last :: rest, ICP c := by rw [← e]; exact hacc
    refine List.forall_mem_cons.2 ⟨?_, (List.forall_mem_cons.1 hacc).2⟩
    have hl := hacc last List.mem_cons_self
    obtain ⟨k, st, el, inst, text, kids, cols⟩ := last
    unfold ICP at hl ⊢
    refine ⟨hl.1, ?_⟩
    rcases hl.2 with ⟨a, b⟩ | ⟨a, _⟩
    · exact Or.inl ⟨a, b⟩
    · cases ht.symm.trans a
  case case3 => exact List.forall_mem_cons.2 ⟨textBoxFrom_icp _ _ hp, hacc⟩
  case case4 => exact List.forall_mem_cons.2 ⟨textBoxFrom_icp _ _ hp, nofun⟩

/-- The computed style of an inline element in normal flow with a collapsing `white-space`. -/
def InlineStyle (s : EStyle) : Prop :=
  s.display = ["inline", "flow"] ∧ s.float = "none" ∧ s.position = "static" ∧ spaceCollapse s.ws = true ∧
  s.tt = .none ∧ s.hyph = false

mutual
/-- A subtree of such inline elements, without `::before` / `::after`. -/
def InlineDom : Dom → Prop
  | .el st _ _ before after _ kids _ => InlineStyle st ∧ before = none ∧ after = none ∧ InlineDomL kids
def InlineDomL : List Dom → Prop
  | [] => True
  | d :: ds => InlineDom d ∧ InlineDomL ds
end

theorem inline_display_facts :
    blockify ["inline", "flow"] "none" "static" false = ["inline", "flow"] ∧
    boxTypeFromDisplay ["inline", "flow"] = some .InlineBox ∧
    (["inline", "flow"] : List String).contains "list-item" = false := by
  decide

theorem mkStyle_inline (es : EStyle) (h : InlineStyle es) : PlainStyle (mkStyle es ["inline", "flow"]) := by
  obtain ⟨_, hf, hp, hw, ht, hh⟩ := h
  unfold PlainStyle mkStyle computeFloat
  simp only [hf, hp]
  exact ⟨by decide, by decide, by decide, by decide, ht, hh, hw⟩

mutual
/-- The box of an inline element (after its own `process_whitespace` / `process_text_transform`) is plain
inline content. -/
theorem elementToBox_inline : ∀ (d : Dom) (depth : Nat) (out : List KBox) (depth' : Nat), InlineDom d →
    elementToBox false d depth = .ok (out, depth') → ∀ c ∈ out, ICP c
  | .el es attrs marker before after text kids tail, depth, out, depth', hd, h => by
    unfold InlineDom at hd
    obtain ⟨hs, rfl, rfl, hk⟩ := hd
    have hps := mkStyle_inline es hs
    obtain ⟨h1, h2, h3, _⟩ := hs
    obtain ⟨f1, f2, f4⟩ := inline_display_facts
    have hd : blockify es.display es.float es.position false = ["inline", "flow"] := by rw [h1, h2, h3]; exact f1
    rcases elementToBox_plain hd f4 h with ⟨h0, _⟩ | ⟨k, accRev, hk', hkids, rfl⟩
    · exact absurd h0 (by decide)
    · rw [f2] at hk'
      cases hk'
      have hpar : PlainParent (elBox es ["inline", "flow"] .InlineBox attrs) :=
        ⟨hps.2.2.2.2.1, hps.2.2.2.2.2.1, hps.2.2.2.2.2.2⟩
      have hacc := elementKids_inline _ kids _ depth accRev depth' hpar hk (by
        intro c hc
        split at hc
        · cases hc
        · rw [List.mem_singleton] at hc
          subst hc
          exact textBoxFrom_icp _ _ hpar) hkids
      have hbox : ICP ((elBox es ["inline", "flow"] .InlineBox attrs).withKids accRev.reverse) := by
        unfold elBox KBox.withKids ICP
        exact ⟨hps, Or.inr ⟨rfl, rfl, rfl, (icpl_iff _).2 (fun c hc => hacc c (List.mem_reverse.mp hc))⟩⟩
      intro c hc
      rw [List.mem_singleton] at hc
      subst hc
      rw [ptt_icp _ (pw_icp _ false hbox)]
      exact pw_icp _ false hbox
theorem elementKids_inline : ∀ (parent : KBox) (ds : List Dom) (acc : List KBox) (depth : Nat) (out : List KBox)
    (depth' : Nat), PlainParent parent → InlineDomL ds → (∀ c ∈ acc, ICP c) →
    elementKids parent ds acc depth = .ok (out, depth') → ∀ c ∈ out, ICP c
  | parent, [], acc, depth, out, depth', _, _, ha, h => by
    unfold elementKids at h; cases h; exact ha
  | parent, d :: ds, acc, depth, out, depth', hp, hd, ha, h => by
    unfold InlineDomL at hd
    unfold elementKids at h
    split at h
    · cases h
    · rename_i boxes d1 hb
      exact elementKids_inline parent ds _ d1 out depth' hp hd.2
        (addChild_icp parent hp acc boxes d.tail ha (elementToBox_inline d depth boxes d1 hd.1 hb)) h
end

end Wp.Bx
