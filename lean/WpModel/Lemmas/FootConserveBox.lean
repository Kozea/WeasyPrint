/-
Footnote conservation, box level: what `block_level_layout` does to the footnote state
(`layoutBoxF` / `layoutKidsF`), for every `footnote-policy` (since repair 67bf2ca `footnote-policy: block` cancels a
paragraph only when something is before it on the page, and `block_container_layout` then un-lays-out all its calls).
-/
import WpModel.Lemmas.FootConservePara

namespace Wp.PMF
open Wp Wp.PM

mutual
/-- Everything the conservation proof needs of a source subtree, in one recursion: no fixed height and
`orphans, widows ≥ 1` (stage-1 `Good`), every call on an existing line, and the
call table `tbl` of the layout context answers, for the lines of each paragraph, with that paragraph's calls. -/
def FootOk (tbl : List (Nat × Nat × Fn)) : FootBox → Prop
  | .para id n _ st calls => st.height = none ∧ 1 ≤ st.orphans ∧ 1 ≤ st.widows ∧
      (∀ c ∈ calls, c.line < n) ∧ (∀ i, tblFns tbl [(id, i)] = lineFns st calls i)
  | .block _ st kids => st.height = none ∧ FootOkList tbl kids
def FootOkList (tbl : List (Nat × Nat × Fn)) : List FootBox → Prop
  | [] => True
  | b :: bs => FootOk tbl b ∧ FootOkList tbl bs
end

mutual
theorem footOk_good (tbl : List (Nat × Nat × Fn)) : (b : FootBox) → FootOk tbl b → Good b.erase
  | .para _ _ _ _ _ => by
    intro h; simp only [FootOk] at h; simp only [FootBox.erase, Good]; exact ⟨h.1, h.2.1, h.2.2.1⟩
  | .block _ _ kids => by
    intro h; simp only [FootOk] at h; simp only [FootBox.erase, Good]
    exact ⟨h.1, footOkList_good tbl kids h.2⟩
theorem footOkList_good (tbl : List (Nat × Nat × Fn)) : (bs : List FootBox) → FootOkList tbl bs →
    GoodList (eraseList bs)
  | [] => by intro _; simp [eraseList, GoodList]
  | b :: bs => by
    intro h; simp only [FootOkList] at h; simp only [eraseList, GoodList]
    exact ⟨footOk_good tbl b h.1, footOkList_good tbl bs h.2⟩
end

/-- Footnotes called on the lines of a laid-out fragment, in tree order. -/
def fragFns (c : FCtx) : Option Frag → List Fn
  | none => []
  | some f => tblFns c.tbl (flines f)

theorem tblFns_append (tbl : List (Nat × Nat × Fn)) (a b : List (Nat × Nat)) :
    tblFns tbl (a ++ b) = tblFns tbl a ++ tblFns tbl b := by
  induction a with
  | nil => rfl
  | cons x xs ih => simp [tblFns, ih]

theorem tblFns_para (tbl : List (Nat × Nat × Fn)) (id : Nat) (st : PStyle) (calls : List Call)
    (h : ∀ i, tblFns tbl [(id, i)] = lineFns st calls i) (is : List Nat) :
    tblFns tbl (is.map (fun i => (id, i))) = idxFns st calls is := by
  induction is with
  | nil => rfl
  | cons i is ih =>
    have := h i
    simp only [tblFns, List.append_nil] at this
    simp only [List.map_cons, tblFns, idxFns, ih, this]

theorem tblFns_paraLines (tbl : List (Nat × Nat × Fn)) (id : Nat) (st : PStyle) (calls : List Call)
    (h : ∀ i, tblFns tbl [(id, i)] = lineFns st calls i) (lines : List (Nat × Rat)) :
    tblFns tbl (lines.map (fun l => (id, l.1))) = lineFnsList st calls lines := by
  rw [lineFnsList_eq, ← tblFns_para tbl id st calls h, List.map_map]
  rfl

mutual
theorem flines_eq : (f : Frag) → flines f = fragLines f
  | .para _ _ _ _ _ _ => rfl
  | .block _ _ _ _ kids => flinesList_eq kids
theorem flinesList_eq : (fs : List Frag) → flinesList fs = fragLinesList fs
  | [] => rfl
  | f :: fs => by rw [flinesList, fragLinesList, flines_eq f, flinesList_eq fs]
end

/-- On an empty page the line loop never aborts the paragraph, whatever the footnote policies. -/
theorem lineLoopF_no_abort (c : FCtx) (st : PStyle) (calls : List Call) (b : BoxSt) (n : Nat) (lineH bs : Rat)
    (fuel i : Nat) (y : Rat) (s : LineLoop) (fs : FState) :
    ∀ a stp r s', (lineLoopF c st calls b n lineH true bs fuel i y s fs).1 = .broke a stp r s' → a = false := by
  fun_induction lineLoopF c st calls b n lineH true bs fuel i y s fs with
  | case1 => intro a stp r s' h; cases h
  | case2 fuel i y s fs resume newPosY dbd offset overflow hov abort stop r lines' hb =>
    intro a stp r2 s' h
    have := breakLine_no_abort st n i s.lines s.skip resume
    rw [hb] at this
    simp only [LineOutcome.broke.injEq] at h
    rw [← h.1]; exact this
  | case3 fuel i y s fs resume newPosY dbd offset overflow hov shift newPosY' lineY mt' fs' hfl ih => exact ih
  | case4 fuel i y s fs resume newPosY dbd offset overflow hov shift newPosY' mt' fs' hfl abort stop r lines' hb =>
    intro a stp r2 s' h
    have := breakLine_no_abort st n i s.lines s.skip resume
    rw [hb] at this
    simp only [LineOutcome.broke.injEq] at h
    rw [← h.1]; exact this
  | case5 fuel i y s fs resume newPosY dbd offset overflow hov shift newPosY' mt' fs' hfl =>
    have := footLoop_no_abort_pie c (!s.lines.isEmpty || !true) bs (newPosY' + offset) (lineFns st calls i) fs
    rw [hfl] at this
    exact absurd rfl this

theorem lineboxF_no_abort (c : FCtx) (st : PStyle) (calls : List Call) (b : BoxSt) (n : Nat) (lineH : Rat)
    (adj : List Rat) (bs posY : Rat) (skip : Option Resume) (dbd : Bool) (fs : FState) :
    (lineboxLayoutF c st calls b n lineH true adj bs posY skip dbd fs).1.abort = false := by
  unfold lineboxLayoutF
  dsimp only
  cases hl : (lineboxLoopF c st calls b n lineH true adj bs posY skip dbd fs).1 with
  | done s => rfl
  | broke a st' r s =>
    simp only [lineResultOf]
    unfold lineboxLoopF at hl
    exact lineLoopF_no_abort c st calls b n lineH bs _ _ _ _ fs a st' r s hl

theorem lineResultOf_abort (n : Nat) (o : LineOutcome) : (lineResultOf n o).abort = outAbort o := by
  cases o <;> rfl

theorem finishPara_cases (c : Ctx) (st : PStyle) (p : Prep) (pie : Bool) (id idx n : Nat) (r : LineResult) :
    (r.abort = true → (finishPara c st p pie id idx n r).frag = none) ∧
    (r.abort = false →
      (dropped st pie (if r.stop then forgetIfFixed st { p.b with mt := r.mt } r.posY r.resume else none) = true →
        (finishPara c st p pie id idx n r).frag = none) ∧
      (dropped st pie (if r.stop then forgetIfFixed st { p.b with mt := r.mt } r.posY r.resume else none) = false →
        ∃ g, (finishPara c st p pie id idx n r).frag = some (.para id idx st n g r.lines))) := by
  unfold finishPara
  dsimp only
  constructor
  · intro h; simp [h, abortResult]
  · intro h
    simp only [h, Bool.false_eq_true, ↓reduceIte]
    unfold finishContainer dropped
    constructor
    · intro hd; rw [if_pos hd]
    · intro hd
      rw [if_neg (by simp [hd])]
      exact ⟨_, rfl⟩

/-- The post-condition on the footnote state of a layout that started in `fs` and returned `frag`. -/
abbrev StatePost (c : FCtx) (fs : FState) (frag : Option Frag) (fs' : FState) : Prop :=
  Took (act fs) fs.pending (fragFns c frag) fs'

/-- Un-laying-out a list `G` of footnotes that were all pending on entry and that covers what was taken since
restores the entry state. -/
theorem unlay_all_state (c : FCtx) (fs fs' : FState) (X G : List Fn)
    (hT : Took (act fs) fs.pending X fs') (hG1 : ∀ g ∈ G, g ∈ fs.pending) (hG2 : ∀ g ∈ X, g ∈ G) :
    StatePost c fs none (unlayAll c fs' G) :=
  Took.cut (X := []) (S := X) hT c G (fun g hg hG => hT.disjoint g (by simpa using hg) (hG1 g hG)) hG2

theorem callFn_mem_lineFns (st : PStyle) (calls : List Call) (cl : Call) (h : cl ∈ calls) :
    mkFn st cl ∈ lineFns st calls cl.line := mem_lineFns.2 ⟨cl, h, rfl, rfl⟩

theorem idxFns_sub_calls (st : PStyle) (calls : List Call) (is : List Nat) (g : Fn) (h : g ∈ idxFns st calls is) :
    g ∈ calls.map (mkFn st) := by
  rw [idxFns_mem] at h
  obtain ⟨i, _, hi⟩ := h
  exact lineFns_sub_calls st calls i g hi

/-- The state invariant of the line loop (`lineLoopF_state`), for `_linebox_layout` started in `fs`. -/
theorem lineboxLayoutF_state (c : FCtx) (st : PStyle) (calls : List Call) (b : BoxSt) (n : Nat) (lineH : Rat)
    (pie : Bool) (adj : List Rat) (bs posY : Rat) (skip : Option Resume) (dbd : Bool) (fs : FState) (hst : StOk fs)
    (hND : (idxFns st calls (List.range' (skipLine skip) (n - skipLine skip))).Nodup)
    (hP : ∀ g ∈ idxFns st calls (List.range' (skipLine skip) (n - skipLine skip)), g ∈ fs.pending) :
    ∃ X : List Fn,
    Took (act fs) fs.pending
      (lineFnsList st calls (lineboxLayoutF c st calls b n lineH pie adj bs posY skip dbd fs).1.lines ++ X)
      (lineboxLayoutF c st calls b n lineH pie adj bs posY skip dbd fs).2 ∧
    (∀ g ∈ X, g ∈ calls.map (mkFn st)) ∧
    ((lineboxLayoutF c st calls b n lineH pie adj bs posY skip dbd fs).1.abort = false → X = []) := by
  have h := lineLoopF_state c st calls b n lineH pie bs (skipLine skip) (n - skipLine skip) (skipLine skip)
    (lineStart adj posY) { lines := [], posY := lineStart adj posY, skip := skip, mt := b.mt, dbd := dbd } fs
    (act fs) fs.pending (Nat.le_refl _) (by simp) rfl hND hP
    ⟨hst, by simp [idxFns], fun g hg => Or.inl hg⟩
  unfold lineboxLayoutF lineboxLoopF
  dsimp only
  rw [lineResultOf_lines, lineResultOf_abort]
  exact h

theorem paraF_state (id n : Nat) (lineH : Rat) (st : PStyle) (calls : List Call) (c : FCtx)
    (hok : FootOk c.tbl (.para id n lineH st calls))
    (idx : Nat) (y bs : Rat) (skip : Option Resume) (cb pie : Bool) (adjL : List Rat) (fs : FState)
    (hskip : skip.isSome = true → pie = true) (hst : StOk fs)
    (hND : (idxFns st calls (List.range' (paraStart skip) (n - paraStart skip))).Nodup)
    (hP : ∀ g ∈ idxFns st calls (List.range' (paraStart skip) (n - paraStart skip)), g ∈ fs.pending) :
    StatePost c fs (layoutBoxF c (.para id n lineH st calls) idx y bs skip cb pie adjL fs).r.frag
      (layoutBoxF c (.para id n lineH st calls) idx y bs skip cb pie adjL fs).fs := by
  simp only [FootOk] at hok
  obtain ⟨hh, ho, hw, hcalls, htbl⟩ := hok
  simp only [layoutBoxF]
  generalize hp : prepare (ctxOf c fs) st y bs skip cb pie adjL = p
  obtain ⟨X, hT, hX, hX0⟩ := lineboxLayoutF_state c st calls p.b n lineH pie p.cur p.bs p.posY
    (subSkipOf skip) p.dbd fs hst hND hP
  have hnoab : pie = true →
      (lineboxLayoutF c st calls p.b n lineH pie p.cur p.bs p.posY (subSkipOf skip) p.dbd fs).1.abort = false := by
    intro hpie
    subst hpie
    exact lineboxF_no_abort c st calls p.b n lineH p.cur p.bs p.posY (subSkipOf skip) p.dbd fs
  generalize lineboxLayoutF c st calls p.b n lineH pie p.cur p.bs p.posY (subSkipOf skip) p.dbd fs = lr
    at hT hX0 hnoab ⊢
  obtain ⟨hc1, hc2⟩ := finishPara_cases (ctxOf c lr.2) st p pie id idx n lr.1
  -- un-laying-out every call of the paragraph restores the entry state, when the paragraph is new here
  have hall : pie = false → StatePost c fs none
      (unlayAll c lr.2 (lineFnsList st calls lr.1.lines ++ calls.map (mkFn st))) := by
    intro hpie
    have hsk : skip = none := by
      cases skip with
      | none => rfl
      | some x => have := hskip rfl; rw [hpie] at this; cases this
    subst hsk
    refine unlay_all_state c fs lr.2 _ _ hT (fun g hgG => hP _ ?_)
      (fun g hg => List.mem_append.mpr ((List.mem_append.mp hg).imp_right (hX g)))
    -- every call of the paragraph is on one of its lines
    have : g ∈ calls.map (mkFn st) := by
      rcases List.mem_append.mp hgG with h | h
      · rw [lineFnsList_eq] at h; exact idxFns_sub_calls st calls _ g h
      · exact h
    obtain ⟨cl, hcl, rfl⟩ := List.mem_map.mp this
    rw [idxFns_mem]
    exact ⟨cl.line, by simp [List.mem_range', paraStart, skipLine]; exact hcalls cl hcl, callFn_mem_lineFns st calls cl hcl⟩
  unfold finishParaF
  dsimp only
  by_cases hab : lr.1.abort = true
  · rw [if_pos hab, hc1 hab]
    refine hall ?_
    cases pie with
    | false => rfl
    | true => rw [hnoab rfl] at hab; cases hab
  · rw [if_neg hab]
    have hab' : lr.1.abort = false := by simpa using hab
    have hXnil : X = [] := hX0 hab'
    subst hXnil
    rw [List.append_nil] at hT
    obtain ⟨hd1, hd2⟩ := hc2 hab'
    by_cases hdr : dropped st pie (if lr.1.stop then forgetIfFixed st { p.b with mt := lr.1.mt } lr.1.posY lr.1.resume else none) = true
    · rw [if_pos hdr, hd1 hdr]
      refine hall ?_
      unfold dropped at hdr
      simp only [Bool.and_eq_true, Bool.not_eq_true'] at hdr
      exact hdr.2
    · rw [if_neg hdr]
      obtain ⟨geo, hfr⟩ := hd2 (by simpa using hdr)
      rw [hfr]
      have hff : fragFns c (some (Frag.para id idx st n geo lr.1.lines)) = lineFnsList st calls lr.1.lines := by
        simp only [fragFns, flines]
        exact tblFns_paraLines c.tbl id st calls htbl lr.1.lines
      rw [StatePost, hff]
      exact hT

end Wp.PMF
