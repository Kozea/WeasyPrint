/-
Counterpart of `Lemmas/SegmentBlock.lean`: post-condition of `layoutBox` / `layoutKids` (conservation + progress) for
nested blocks, and what the base stage has not: column boxes, the chain of columns of `columns_layout` and the container.
-/
import WpModel.Lemmas.ColSegEarlier

namespace Wp.PMC
open Wp Wp.PM

def KidsPost (all : List ColBox) (i0 : Nat) (sub0 : Option Resume) : KidsOutcome → Prop
  | .finished s' => FullFrom s'.newChildren all i0 sub0
  | .aborted _ _ => True
  | .raised _ => True
  | .stopped ρ s' => ∃ m, ρ.isSome = true ∧ skipIdxOf ρ = i0 + m ∧ m < all.length ∧
      fragLinesList s'.newChildren ++ linesFromKids all m (subSkipOf ρ) = linesFromKids all 0 sub0 ∧
      posKids all 0 sub0 < posKids all m (subSkipOf ρ)

theorem fragLinesList_append (a b : List CFrag) :
    fragLinesList (a ++ b) = fragLinesList a ++ fragLinesList b := by
  induction a with
  | nil => simp [fragLinesList]
  | cons x xs ih => simp [fragLinesList, ih]

theorem linesFromKids_append_zero (B R : List ColBox) (sub0 : Option Resume) :
    linesFromKids (B ++ R) 0 sub0 =
      linesFromKids B 0 sub0 ++ linesFromKids R 0 (if B = [] then sub0 else none) := by
  simp only [linesFromKids_eq]; exact Seg.fromAt_append_zero _ _ B R sub0

theorem posKids_append_zero (B : List ColBox) (child : ColBox) (rest : List ColBox) (sub0 : Option Resume) :
    posKids (B ++ child :: rest) 0 sub0 ≤ sizeKids B + pos child (if B = [] then sub0 else none) := by
  simp only [posKids_eq, sizeKids_eq]; exact Seg.posAt_append_zero _ _ pos_lt_size none B child rest sub0

theorem stop_before_spec (B R : List ColBox) (i0 : Nat) (sub0 : Option Resume) (s' : KidsLoop)
    (hinv : FullFrom s'.newChildren B i0 sub0) (hne : s'.newChildren ≠ []) (hR : R ≠ []) :
    KidsPost (B ++ R) i0 sub0 (.stopped (some (.node (i0 + B.length) none)) s') := by
  have hlen := fullFrom_length _ _ _ _ hinv
  have hB : 0 < B.length := by
    rw [← hlen]; exact List.length_pos_iff.mpr hne
  have hRl : 0 < R.length := List.length_pos_iff.mpr hR
  refine ⟨B.length, rfl, rfl, by simp; omega, ?_, ?_⟩
  · simp only [subSkipOf_node]
    rw [full_lines.2 hinv, linesFromKids_append_lt _ _ _ _ hB, linesFromKids_append_length]
  · simp only [subSkipOf_node]
    rw [posKids_append_lt _ _ _ _ hB, posKids_append_length]
    have := posKids_lt B 0 sub0 hB
    omega

/-! ### one iteration of the children loop -/

@[simp] theorem setCur_newChildren' (s : KidsLoop) (l : List Rat) (b : Bool) :
    (s.setCur l b).newChildren = s.newChildren := by
  unfold KidsLoop.setCur; split <;> rfl

@[simp] theorem appendCur_newChildren' (s : KidsLoop) (m : Rat) :
    (s.appendCur m).newChildren = s.newChildren := by
  unfold KidsLoop.appendCur; split <;> rfl

@[simp] theorem adoptAdj_newChildren' (s : KidsLoop) (h : Bool) (a : AdjOut) (f : Option CFrag) :
    (s.adoptAdj h a f).newChildren = s.newChildren := by
  unfold KidsLoop.adoptAdj
  split
  · rfl
  · cases a <;> cases f <;> simp

/-- The first pass keeps the fragment of the first layout or none; a second layout gets the bottom padding and
border of the first fragment as additional bottom space. -/
theorem firstPass_cases (c : CCtx) (bs : Rat) (pienc : Bool) (posY : Rat) (r : LayoutResult) (fp : FirstPass)
    (h : firstPass c bs pienc posY r = fp) :
    match fp with
    | .keep frag _ => frag = none ∨ frag = r.frag
    | .redo bs' => ∃ f, r.frag = some f ∧ bs' = bs + (f.geo.pb + f.geo.bb) := by
  unfold firstPass at h
  cases hf : r.frag with
  | none => rw [hf] at h; subst h; exact .inl rfl
  | some f =>
    rw [hf] at h
    dsimp only at h
    by_cases h1 : r.collapsingThrough = true
    · rw [if_pos h1] at h; subst h; exact .inr rfl
    · rw [if_neg h1] at h
      by_cases h2 : (!pienc && c.overflowsPage bs (f.geo.contentBoxY + f.geo.h)) = true
      · rw [if_pos h2] at h; subst h; exact .inl rfl
      · rw [if_neg h2] at h
        by_cases h3 : (!pienc && c.overflowsPage bs (f.geo.borderBoxY + f.geo.borderHeight)) = true
        · rw [if_pos h3] at h; subst h; exact ⟨f, rfl, rfl⟩
        · rw [if_neg h3] at h; subst h; exact .inr rfl

/-- What `kidResult` is: the result of one `layoutBox` call on the child with the skip stack of the loop and a
bottom space `bs' ≥ bs` (larger only by the bottom padding and border of the first fragment), `page_is_empty` only
if nothing was placed yet; its fragment possibly discarded; the loop state keeps its children. -/
theorem kidResult_spec (c : CCtx) (st : PStyle) (child : ColBox) (idx : Nat) (bs : Rat) (pie : Bool)
    (s s2 : KidsLoop) (frag : Option CFrag) (r : LayoutResult)
    (h : kidResult c st child idx bs pie s = .ok (frag, r, s2)) :
    ∃ bs' adj, r = layoutBox c child idx s.posY bs' s.skip st.isRoot (pie && s.newChildren.isEmpty) adj ∧
      (bs' = bs ∨ ∃ f1, (layoutBox c child idx s.posY bs s.skip st.isRoot (pie && s.newChildren.isEmpty)
        s.cur).frag = some f1 ∧ bs' = bs + (f1.geo.pb + f1.geo.bb)) ∧
      (frag = none ∨ frag = r.frag) ∧ s2.newChildren = s.newChildren ∧ s2.skip = none := by
  revert h
  fun_cases kidResult c st child idx bs pie s <;> intro h
  any_goals cases h
  all_goals simp only [Except.ok.injEq, Prod.mk.injEq] at h; obtain ⟨rfl, rfl, rfl⟩ := h
  next hfp => exact ⟨bs, s.cur, rfl, .inl rfl, firstPass_cases _ _ _ _ _ _ hfp, by simp +zetaDelta, rfl⟩
  next hfp _ _ _ _ => exact ⟨_, _, rfl, .inr (firstPass_cases _ _ _ _ _ _ hfp), .inr rfl, by simp +zetaDelta, rfl⟩

/-- Without a fragment for the child the loop ends: with the children an earlier break keeps, or with those it
has (aborting when there are none, or when the break before the child is to be avoided). -/
theorem concludeKid_none (c : CCtx) (index : Nat) (pie : Bool) (pb : Brk) (child : ColBox) (s : KidsLoop)
    (resume : Option Resume) :
    ∃ out, concludeKid c index pie pb child s none resume = (some out, s) ∧
      ((∃ kept r', findEarlierList c.inColumn s.newChildren = some (kept, r') ∧
          out = .stopped (some r') { s with newChildren := kept }) ∨
        (∃ page, out = .aborted page s) ∨
        (s.newChildren ≠ [] ∧ out = .stopped (some (.node index none)) s)) := by
  generalize hfr : (none : Option CFrag) = fr
  fun_cases concludeKid c index pie pb child s fr resume
  any_goals cases hfr
  any_goals exact ⟨_, rfl, .inr (.inl ⟨_, rfl⟩)⟩
  next x => exact ⟨_, rfl, .inl ⟨_, _, (Option.ite_none_right_eq_some.mp x).2, rfl⟩⟩
  next hne => exact ⟨_, rfl, .inr (.inr ⟨fun he => by simp [he] at hne, rfl⟩)⟩

/-- With a fragment the child is appended; the loop goes on iff nothing is left of the child. -/
theorem concludeKid_some (c : CCtx) (index : Nat) (pie : Bool) (pb : Brk) (child : ColBox) (s : KidsLoop)
    (f : CFrag) (resume : Option Resume) :
    concludeKid c index pie pb child s (some f) resume =
      (resume.map fun r' => .stopped (some (.node index (some r')))
          { s with newChildren := s.newChildren ++ [f.withIdx index] },
        { s with newChildren := s.newChildren ++ [f.withIdx index] }) := by
  cases resume <;> rfl

theorem conclude_spec (c : CCtx) (index : Nat) (pie : Bool) (pb : Brk) (child : ColBox) (s : KidsLoop)
    (frag : Option CFrag) (resume : Option Resume) (B rest : List ColBox) (i0 : Nat) (sub0 : Option Resume)
    (hgB : GoodList B) (hinv : FullFrom s.newChildren B i0 sub0) (hidx : index = i0 + B.length)
    (hchild : BoxPost child (if B = [] then sub0 else none) frag resume) :
    match concludeKid c index pie pb child s frag resume with
    | (some out, _) => KidsPost (B ++ child :: rest) i0 sub0 out
    | (none, s3) => FullFrom s3.newChildren (B ++ [child]) i0 sub0 ∧ s3.skip = s.skip := by
  cases frag with
  | none =>
    obtain ⟨out, heq, hout⟩ := concludeKid_none c index pie pb child s resume
    rw [heq]
    dsimp only
    rcases hout with ⟨kept, r', hfound, rfl⟩ | ⟨page, rfl⟩ | ⟨hne, rfl⟩
    · obtain ⟨m, sub', rfl, hm, hlines, hpos⟩ :=
        findEarlierList_spec c.inColumn _ _ _ _ hgB hinv kept r' hfound
      have h0 : 0 < B.length := by omega
      refine ⟨m, rfl, rfl, by simp; omega, ?_, ?_⟩
      · simp only [subSkipOf_node]
        rw [linesFromKids_append_lt _ _ _ _ hm, linesFromKids_append_lt _ _ _ _ h0, ← List.append_assoc, hlines]
      · simp only [subSkipOf_node]
        rw [posKids_append_lt _ _ _ _ hm, posKids_append_lt _ _ _ _ h0]
        exact hpos
    · trivial
    · rw [hidx]
      exact stop_before_spec _ _ _ _ _ hinv hne (by simp)
  | some f =>
    rw [concludeKid_some]
    have hc := hchild f rfl
    cases resume with
    | some r' =>
      obtain ⟨hl, hp⟩ := hc
      refine ⟨B.length, rfl, by rw [hidx]; rfl, by simp, ?_, ?_⟩
      · simp only [subSkipOf_node]
        rw [fragLinesList_append, full_lines.2 hinv, linesFromKids_append_zero, linesFromKids_append_length]
        simp only [fragLinesList, fragLines_withIdx, List.append_nil, linesFromKids, List.append_assoc]
        rw [← List.append_assoc (fragLines f), hl]
      · simp only [subSkipOf_node]
        rw [posKids_append_length]
        have := posKids_append_zero B child rest sub0
        simp only [posKids]
        omega
    | none =>
      refine ⟨?_, rfl⟩
      apply fullFrom_snoc _ _ _ _ _ _ hinv (full_withIdx _ _ _ _ hc)
      rw [idx_withIdx _ _ (full_not_column _ _ _ hc)]
      simp [hidx]

theorem boxPost_none (box : ColBox) (skip resume : Option Resume) : BoxPost box skip none resume := by
  intro f h; cases h

theorem meetBreak_nil (c : CCtx) (s : KidsLoop) (child : ColBox) (h : s.newChildren = []) :
    (meetBreak c s child).2 = false := by
  unfold meetBreak; simp [h]

theorem finishBlock_post (c : CCtx) (st : PStyle) (p : Prep) (pie : Bool) (id idx : Nat) (out : KidsOutcome)
    (kids : List ColBox) (skip : Option Resume) (hh : st.height = none)
    (hout : KidsPost (kids.drop (skipIdxOf skip)) (skipIdxOf skip) (subSkipOf skip) out) :
    BoxPost (.block id st kids) skip (finishBlock false c st p pie out (fun g ks => .block id idx st g ks)).frag
      (finishBlock false c st p pie out (fun g ks => .block id idx st g ks)).resume := by
  intro f hf
  cases out with
  | raised e => simp [finishBlock, raisedResult] at hf
  | aborted page s => simp [finishBlock, noneResult] at hf
  | stopped resume s =>
    simp only [finishBlock] at hf ⊢
    obtain ⟨rfl, hr⟩ := finishContainer_geo hf
    rw [hr, forgetIfFixed_none _ _ _ _ hh]
    obtain ⟨m, hsome, hidx, _, hlines, hpos⟩ := hout
    cases resume with
    | none => simp at hsome
    | some ρ =>
      simp only
      constructor
      · simp only [fragLines, linesFrom]
        rw [hidx, linesFromKids_drop, hlines]
        exact (linesFromKids_eq_drop kids _ _).symm
      · simp only [pos]
        rw [hidx, posKids_drop, posKids_eq_drop kids (skipIdxOf skip)]
        omega
  | finished s =>
    simp only [finishBlock] at hf ⊢
    obtain ⟨rfl, hr⟩ := finishContainer_geo hf
    rw [hr]
    simp only [Full]
    exact hout

/-! ### list arithmetic for groups and spanning children -/

theorem linesFromKids_ge (K : List ColBox) (m : Nat) (s : Option Resume) (h : K.length ≤ m) :
    linesFromKids K m s = [] := by
  rw [linesFromKids_eq_drop, List.drop_eq_nil_of_le h]
  rfl

theorem linesFromKids_take (K : List ColBox) (e m : Nat) (s : Option Resume) (hm : m < e) (he : e ≤ K.length) :
    linesFromKids K m s = linesFromKids (K.take e) m s ++ linesFromKids K e none := by
  have h1 := linesFromKids_append_lt (K.take e) (K.drop e) m s (by simp; omega)
  rw [List.take_append_drop] at h1
  rw [h1, linesFromKids_eq_drop K e]

theorem posKids_take (K : List ColBox) (e m : Nat) (s : Option Resume) (hm : m < e) (he : e ≤ K.length) :
    posKids K m s = posKids (K.take e) m s := by
  have h1 := posKids_append_lt (K.take e) (K.drop e) m s (by simp; omega)
  rw [List.take_append_drop] at h1
  exact h1

theorem posKids_at_take (K : List ColBox) (e : Nat) (s : Option Resume) :
    sizeKids (K.take e) ≤ posKids K e s := by
  have := posKids_eq_drop K e s
  omega

theorem linesFromKids_get (K : List ColBox) (i : Nat) (b : ColBox) (sub : Option Resume) (h : K[i]? = some b) :
    linesFromKids K i sub = linesFrom b sub ++ linesFromKids K (i + 1) none := by
  rw [linesFromKids_eq, linesFromKids_eq]
  exact Seg.fromAt_get _ _ h sub

theorem posKids_get (K : List ColBox) (i : Nat) (b : ColBox) (sub : Option Resume) (h : K[i]? = some b) :
    posKids K i sub = sizeKids (K.take i) + pos b sub ∧
    ∀ s', sizeKids (K.take i) + sizeBox b ≤ posKids K (i + 1) s' := by
  obtain ⟨hi, rfl⟩ := List.getElem?_eq_some_iff.mp h
  refine ⟨?_, fun s' => ?_⟩
  · rw [posKids_eq_drop, List.drop_eq_getElem_cons hi]
    rfl
  · have := posKids_at_take K (i + 1) s'
    rwa [List.take_succ_eq_append_getElem hi, sizeKids_eq, List.map_append, List.sum_append, ← sizeKids_eq,
      List.map_singleton, List.sum_singleton] at this

theorem goodList_get : (K : List ColBox) → (i : Nat) → (b : ColBox) → GoodList K → K[i]? = some b → Good b :=
  fun K _ b hg h => (goodList_iff K).1 hg b (List.mem_of_getElem? h)

theorem goodList_take (K : List ColBox) (e : Nat) (h : GoodList K) : GoodList (K.take e) :=
  (goodList_iff _).2 fun b hb => (goodList_iff _).1 h b (List.mem_of_mem_take hb)

/-! ### column boxes -/

/-- Lines / position of the children of a container from child `a + skipIdxOf σ` (resumed at `subSkipOf σ`) on:
`σ` is a skip stack of a column box whose first child is child `a` of the container. -/
def colLines (kids : List ColBox) (a : Nat) (σ : Option Resume) : List (Nat × Nat) :=
  linesFromKids kids (a + skipIdxOf σ) (subSkipOf σ)
def colPos (kids : List ColBox) (a : Nat) (σ : Option Resume) : Nat :=
  posKids kids (a + skipIdxOf σ) (subSkipOf σ)

/-- `shown` is what the children of `K` before child `e` hold from the position `σ` designates (relative to child
`a`) up to the position `ρ` designates, which is later and before child `e`; up to child `e` for `ρ = none`. -/
def SegPost (K : List ColBox) (e a : Nat) (σ : Option Resume) (shown : List (Nat × Nat)) : Option Resume → Prop
  | none => shown ++ linesFromKids K e none = colLines K a σ
  | some ρ => shown ++ colLines K a (some ρ) = colLines K a σ ∧ colPos K a σ < colPos K a (some ρ) ∧
      a + skipIdxOf (some ρ) < e

/-- What holds among the first `e` children holds in the whole list. -/
theorem SegPost.of_take (K : List ColBox) (e a : Nat) (σ : Option Resume) (shown : List (Nat × Nat))
    (he : e ≤ K.length) (ha : a + skipIdxOf σ < e) :
    (ρ : Option Resume) → SegPost (K.take e) e a σ shown ρ → SegPost K e a σ shown ρ
  | none, h => by
    simp only [SegPost, colLines] at h ⊢
    rw [linesFromKids_take K e _ _ ha he, ← h, linesFromKids_ge _ _ _ (List.length_take_le _ _), List.append_nil]
  | some ρ, h => by
    simp only [SegPost, colLines, colPos] at h ⊢
    rw [linesFromKids_take K e _ _ ha he, linesFromKids_take K e _ _ h.2.2 he, posKids_take K e _ _ ha he,
      posKids_take K e _ _ h.2.2 he, ← List.append_assoc, h.1]
    exact ⟨rfl, h.2⟩

/-- Post-condition of the layout of one column box of the group that ends before child `e`. -/
def ColPost (K : List ColBox) (e a : Nat) (σ : Option Resume) (r : LayoutResult) : Prop :=
  (r.frag = none → r.resume = none) ∧
  ∀ f, r.frag = some f → f.isColumn = true ∧ SegPost K e a σ (fragLines f) r.resume

theorem ColPost.of_take (K : List ColBox) (e a : Nat) (σ : Option Resume) (r : LayoutResult) (he : e ≤ K.length)
    (ha : a + skipIdxOf σ < e) (h : ColPost (K.take e) (K.take e).length a σ r) : ColPost K e a σ r :=
  ⟨h.1, fun f hf => ⟨(h.2 f hf).1, SegPost.of_take K e a σ _ he ha _ (by
    have := (h.2 f hf).2; rwa [List.length_take_of_le he] at this)⟩⟩

theorem finishContainer_none (isCol : Bool) (c : CCtx) (st : PStyle) (b : BoxSt) (pie : Bool) (bs : Rat)
    (cwc dbd : Bool) (resume : Option Resume) (posY : Rat) (adjL cur : List Rat) (curIsL : Bool)
    (np : NextPage) (hasKids : Bool) (pageEnd : String) (mk : Geo → CFrag)
    (h : (finishContainer isCol c st b pie bs cwc dbd resume posY adjL cur curIsL np hasKids pageEnd mk).frag
      = none) :
    (finishContainer isCol c st b pie bs cwc dbd resume posY adjL cur curIsL np hasKids pageEnd mk).resume
      = none := by
  unfold finishContainer at h ⊢
  split
  · simp [noneResult]
  · rename_i hc; rw [if_neg hc] at h; simp at h

theorem finishColumn_post (c : CCtx) (st : PStyle) (p : Prep) (pie : Bool) (id : Nat) (x : Rat) (out : KidsOutcome)
    (kids : List ColBox) (a : Nat) (σ : Option Resume) (hh : st.height = none)
    (hout : KidsPost (kids.drop (a + skipIdxOf σ)) (skipIdxOf σ) (subSkipOf σ) out) :
    ColPost kids kids.length a σ (finishBlock true c st p pie out (fun g ks => .column id st x g ks)) := by
  constructor
  · intro hn
    cases out with
    | raised e => simp [finishBlock, raisedResult]
    | aborted page s => simp [finishBlock, noneResult]
    | stopped resume s =>
      simp only [finishBlock] at hn ⊢
      exact finishContainer_none _ _ _ _ _ _ _ _ _ _ _ _ _ _ _ _ _ hn
    | finished s =>
      simp only [finishBlock] at hn ⊢
      exact finishContainer_none _ _ _ _ _ _ _ _ _ _ _ _ _ _ _ _ _ hn
  intro f hf
  cases out with
  | raised e => simp [finishBlock, raisedResult] at hf
  | aborted page s => simp [finishBlock, noneResult] at hf
  | stopped resume s =>
    simp only [finishBlock] at hf ⊢
    obtain ⟨rfl, hr⟩ := finishContainer_geo hf
    rw [hr, forgetIfFixed_none _ _ _ _ hh]
    refine ⟨rfl, ?_⟩
    obtain ⟨m, hsome, hidx, hmlen, hlines, hpos⟩ := hout
    cases resume with
    | none => simp at hsome
    | some ρ =>
      simp only [SegPost, colLines, colPos]
      refine ⟨?_, ?_, ?_⟩
      · simp only [fragLines]
        rw [hidx, ← Nat.add_assoc, linesFromKids_drop kids (a + skipIdxOf σ) m, hlines]
        exact (linesFromKids_eq_drop kids _ _).symm
      · rw [hidx, ← Nat.add_assoc, posKids_drop kids (a + skipIdxOf σ) m, posKids_eq_drop kids (a + skipIdxOf σ)]
        omega
      · rw [hidx]
        simp only [List.length_drop] at hmlen
        omega
  | finished s =>
    simp only [finishBlock] at hf ⊢
    obtain ⟨rfl, hr⟩ := finishContainer_geo hf
    rw [hr]
    refine ⟨rfl, ?_⟩
    simp only [SegPost, fragLines, colLines]
    rw [full_lines.2 hout, linesFromKids_ge kids _ none (Nat.le_refl _), List.append_nil]
    exact (linesFromKids_eq_drop kids _ _).symm

/-! ### heights of the columns are adjusted afterwards: lines unchanged -/

@[simp] theorem fragLines_withGeo (f : CFrag) (g : Geo) : fragLines (f.withGeo g) = fragLines f := by
  cases f <;> simp [CFrag.withGeo, fragLines]
@[simp] theorem isColumn_withGeo (f : CFrag) (g : Geo) : (f.withGeo g).isColumn = f.isColumn := by
  cases f <;> rfl
@[simp] theorem fragLines_setColHeight (h : Rat) (f : CFrag) : fragLines (setColHeight h f) = fragLines f := by
  simp [setColHeight]
@[simp] theorem isColumn_setColHeight (h : Rat) (f : CFrag) : (setColHeight h f).isColumn = f.isColumn := by
  simp [setColHeight]

theorem fragLinesList_map_setColHeight (h : Rat) (l : List CFrag) :
    fragLinesList (l.map (setColHeight h)) = fragLinesList l := by
  induction l with
  | nil => rfl
  | cons f fs ih => simp [fragLinesList, ih]

theorem addTrailing_spec (diff : Rat) (l : List CFrag) :
    fragLinesList (addTrailing diff l).1 = fragLinesList l ∧ ((addTrailing diff l).1 = [] ↔ l = []) := by
  induction l with
  | nil => simp [addTrailing, fragLinesList]
  | cons f fs ih =>
    simp only [addTrailing]
    split
    · simp only [fragLinesList, fragLines_setColHeight, ih.1]
      exact ⟨trivial, by simp⟩
    · simp only [fragLinesList, ih.1]
      exact ⟨trivial, by simp⟩

/-! ### the items of `columns_and_blocks` -/

theorem normFlags_length : (n : Nat) → (flags : List Bool) → (normFlags flags n).length = n
  | 0, _ => by simp [normFlags]
  | n + 1, flags => by simp [normFlags, normFlags_length n flags.tail]

/-- The children from `a` to before `e` are a maximal group without spanning child (`F` = one flag per child, `n` =
number of children). -/
def GroupAt (F : List Bool) (n a e : Nat) : Prop :=
  a < e ∧ e ≤ n ∧ (∀ t, a ≤ t → t < e → F[t]? ≠ some true) ∧ (e < n → F[e]? = some true)

/-- `its` describes the children from position `m` on: single children, the others between them in maximal groups
without spanning child. -/
def ItemsOk (F : List Bool) (n : Nat) : Nat → List ColItem → Prop
  | m, [] => n ≤ m
  | m, .span i :: rest => i = m ∧ ItemsOk F n (m + 1) rest
  | m, .group a len :: rest => a = m ∧ GroupAt F n m (m + len) ∧ ItemsOk F n (m + len) rest

theorem colItemsGo_ok (F : List Bool) (n : Nat) (hF : F.length = n) : (k i : Nat) → ∀ (pending : Option (Nat × Nat)),
    i + k = n →
    match pending with
    | none => ItemsOk F n i (colItemsGo (F.drop i) i none)
    | some (a, len) => a + len = i → 0 < len → (∀ t, a ≤ t → t < i → F[t]? ≠ some true) →
        ItemsOk F n a (colItemsGo (F.drop i) i (some (a, len)))
  | 0, i, pending, hk => by
    rw [List.drop_eq_nil_of_le (by omega)]
    cases pending with
    | none => simp only [colItemsGo, ItemsOk]; omega
    | some p =>
      obtain ⟨a, len⟩ := p
      intro h1 h2 h3
      simp only [colItemsGo, ItemsOk]
      exact ⟨trivial, ⟨by omega, by omega, fun t ht1 ht2 => h3 t ht1 (by omega), by omega⟩, by omega⟩
  | k + 1, i, pending, hk => by
    have hlt : i < F.length := by omega
    have hfi : F[i]? = some F[i] := List.getElem?_eq_getElem hlt
    have ih := colItemsGo_ok F n hF k (i + 1)
    rw [List.drop_eq_getElem_cons hlt]
    cases hf : F[i] with
    | true =>
      rw [hf] at hfi
      cases pending with
      | none =>
        simp only [colItemsGo, ItemsOk]
        exact ⟨trivial, ih none (by omega)⟩
      | some p =>
        obtain ⟨a, len⟩ := p
        intro h1 h2 h3
        simp only [colItemsGo, ItemsOk]
        subst h1
        exact ⟨trivial, ⟨by omega, by omega, h3, fun _ => hfi⟩, rfl, ih none (by omega)⟩
    | false =>
      rw [hf] at hfi
      have hi : F[i]? ≠ some true := by rw [hfi]; simp
      cases pending with
      | none =>
        simp only [colItemsGo]
        refine ih (some (i, 1)) (by omega) rfl (by omega) fun t ht1 ht2 => ?_
        rwa [show t = i by omega]
      | some p =>
        obtain ⟨a, len⟩ := p
        intro h1 h2 h3
        simp only [colItemsGo]
        refine ih (some (a, len + 1)) (by omega) (by omega) (by omega) fun t ht1 ht2 => ?_
        by_cases hti : t = i
        · rwa [hti]
        · exact h3 t ht1 (by omega)

theorem colItems_ok (flags : List Bool) (n skip : Nat) :
    ItemsOk (normFlags flags n) n skip (colItems flags n skip) := by
  unfold colItems
  by_cases h : skip ≤ n
  · exact colItemsGo_ok (normFlags flags n) n (normFlags_length n flags) (n - skip) skip none (by omega)
  · rw [List.drop_eq_nil_of_le (by rw [normFlags_length]; omega)]
    simp only [colItemsGo, ItemsOk]
    omega

/-! ### the chain of columns of one group -/

/-- What the loop producing the real columns of the group ending before child `e` returns. -/
def RealPost (K : List ColBox) (e a : Nat) (σ0 : Option Resume) (bp0 : Bool) (r : RealOut) : Prop :=
  r.err = none →
  (r.columns = [] ∧ r.breakPage = true ∧ r.colSkip = none) ∨
  (r.breakPage = bp0 ∧ r.columns ≠ [] ∧ SegPost K e a σ0 (fragLinesList r.columns) r.colSkip)

theorem realLoop_spec (env : ColEnv) (K : List ColBox) (e a : Nat)
    (hcol : ∀ σ, a + skipIdxOf σ < e → ∀ c' x y bs pie, ColPost K e a σ (env.layCol c' a x y bs σ pie))
    (c : CCtx) (y : Rat) (cs : ColSpec) (opie hd : Bool) (obs : Rat) (σ0 : Option Resume) (bp0 : Bool) :
    ∀ (fuel i : Nat) (s : RealOut),
      a + skipIdxOf s.skip < e →
      fragLinesList s.columns ++ colLines K a s.skip = colLines K a σ0 →
      colPos K a σ0 ≤ colPos K a s.skip → s.breakPage = bp0 →
      RealPost K e a σ0 bp0 (realLoop env c a y cs opie hd obs fuel i s) := by
  intro fuel
  induction fuel with
  | zero => intro i s _ _ _ _; simp [realLoop, RealPost]
  | succ fuel ih =>
    intro i s hk hlines hle hbp
    unfold realLoop
    dsimp only
    have hpost := hcol s.skip hk c (colX cs i) y s.bs opie
    split
    · intro h; simp at h
    · split
      · rename_i hnone
        intro _; left
        exact ⟨rfl, rfl, hpost.1 hnone⟩
      · rename_i f hf
        obtain ⟨hfc, hres⟩ := hpost.2 f hf
        have hne : s.columns ++ [f] ≠ [] := by simp
        have hfl : fragLinesList (s.columns ++ [f]) = fragLinesList s.columns ++ fragLines f := by
          simp [fragLinesList_append, fragLinesList]
        cases hr : (env.layCol c a (colX cs i) y s.bs s.skip opie).resume with
        | none =>
          rw [hr] at hres
          simp only [Option.isNone_none, if_true]
          intro _; right
          refine ⟨hbp, hne, ?_⟩
          simp only [SegPost] at hres ⊢
          rw [hfl, List.append_assoc, hres]; exact hlines
        | some ρ =>
          rw [hr] at hres
          simp only [Option.isNone_some, Bool.false_eq_true, if_false]
          have hseg : SegPost K e a σ0 (fragLinesList (s.columns ++ [f])) (some ρ) := by
            simp only [SegPost] at hres ⊢
            refine ⟨?_, by omega, hres.2.2⟩
            rw [hfl, List.append_assoc, hres.1]; exact hlines
          split
          · intro _; right
            exact ⟨hbp, hne, hseg⟩
          · exact ih _ _ hres.2.2 hseg.1 (Nat.le_of_lt hseg.2.1) hbp

/-! ### the loop over `columns_and_blocks` -/

/-- What the layout of the spanning child at position `i` guarantees. -/
def SpanPost (K : List ColBox) (i : Nat) (sk : Option Resume) (r : LayoutResult) : Prop :=
  match K[i]? with
  | none => r.err ≠ none
  | some b => BoxPost b sk r.frag r.resume

/-- The two layout functions `columns_layout` is given meet their post-conditions on the children `K` with the
`column-span` flags `F`: the spanning children, and the column boxes of every maximal group without one. -/
def EnvPost (env : ColEnv) (K : List ColBox) (F : List Bool) : Prop :=
  (∀ c i y bs sk pie adj, SpanPost K i sk (env.laySpan c i y bs sk pie adj)) ∧
  ∀ a e, GroupAt F K.length a e → ∀ σ, a + skipIdxOf σ < e → ∀ c' x y bs pie,
    ColPost K e a σ (env.layCol c' a x y bs σ pie)

/-- A spanning child is a segment of the children: child `i` alone, resumed at its own level. -/
theorem spanPost_seg (K : List ColBox) (i : Nat) (b : ColBox) (hKi : K[i]? = some b) (σ : Option Resume)
    (hsk : skipIdxOf σ = 0) (f : CFrag) : (resume : Option Resume) → BoxPost b (subSkipOf σ) (some f) resume →
    SegPost K (i + 1) i σ (fragLinesList [f]) (resume.map fun ρ => .node 0 (some ρ))
  | none, h => by
    simp only [Option.map_none, SegPost, colLines, hsk, Nat.add_zero, fragLinesList, List.append_nil]
    rw [linesFromKids_get K i b _ hKi, full_lines.1 (h f rfl)]
  | some ρ, h => by
    simp only [Option.map_some, SegPost, colLines, colPos, hsk, skipIdxOf_node, subSkipOf_node, Nat.add_zero,
      fragLinesList, List.append_nil]
    rw [linesFromKids_get K i b _ hKi, linesFromKids_get K i b _ hKi, (posKids_get K i b _ hKi).1,
      (posKids_get K i b _ hKi).1, ← List.append_assoc, (h f rfl).1]
    exact ⟨rfl, by have := (h f rfl).2; omega, by omega⟩

structure LoopInv (K : List ColBox) (total : List (Nat × Nat)) (P0 : Nat) (m : Nat) (s : ColsState) : Prop where
  bp : s.breakPage = false
  cs : s.colSkip = none
  sk0 : skipIdxOf s.skip = 0
  skn : s.skip = none ∨ s.newChildren = []
  lines : fragLinesList s.newChildren ++ colLines K m s.skip = total
  pos : P0 ≤ colPos K m s.skip
  spos : s.newChildren ≠ [] → P0 < colPos K m s.skip

/-- State of `columns_layout` after the loop: what the resume position it is going to compute designates. -/
def LoopPost (K : List ColBox) (total : List (Nat × Nat)) (P0 : Nat) (s : ColsState) : Prop :=
  s.err = none → s.newChildren = [] ∨
    match colsResume s with
    | none => fragLinesList s.newChildren = total
    | some R => fragLinesList s.newChildren ++ linesFromKids K (skipIdxOf (some R)) (subSkipOf (some R)) = total ∧
        P0 < posKids K (skipIdxOf (some R)) (subSkipOf (some R))

/-- The item at position `m`, which ends before child `e`, placed the fragments `X`: laid out to its end, nothing
is skipped any more and the position is past the item; otherwise the page is broken inside it. -/
theorem loopInv_item (K : List ColBox) (total : List (Nat × Nat)) (P0 m e : Nat) (s : ColsState)
    (hinv : LoopInv K total P0 m s) (hme : m < e) (he : e ≤ K.length) (X : List CFrag) : (cs : Option Resume) →
    SegPost K e m s.skip (fragLinesList X) cs → ∀ s' : ColsState, s'.newChildren = s.newChildren ++ X →
    match cs with
    | none => s'.breakPage = false → s'.colSkip = none → s'.skip = none → LoopInv K total P0 e s'
    | some ρ => s'.colSkip = some ρ → s'.index = m → LoopPost K total P0 s'
  | none, hseg => by
    intro s' hn hb hc hs
    have hp : P0 < posKids K e none := by
      have h0 := hinv.pos
      have h1 := posKids_lt (K.take e) m (subSkipOf s.skip) (by simp; omega)
      have h2 := posKids_at_take K e none
      simp only [colPos, hinv.sk0, Nat.add_zero, posKids_take K e m _ hme he] at h0
      omega
    refine ⟨hb, hc, by rw [hs]; rfl, Or.inl hs, ?_, by rw [hs]; exact Nat.le_of_lt hp, fun _ => by rw [hs]; exact hp⟩
    rw [hs, hn, fragLinesList_append, List.append_assoc]
    exact (congrArg _ hseg).trans hinv.lines
  | some ρ, hseg => by
    intro s' hn hc hi _
    right
    simp only [colsResume, hc, hi, Option.isSome_some, if_true, skipIdxOf_node, subSkipOf_node]
    rw [hn, fragLinesList_append, List.append_assoc]
    exact ⟨(congrArg _ hseg.1).trans hinv.lines, Nat.lt_of_le_of_lt hinv.pos hseg.2.1⟩

/-- The item at position `m` could not be placed: the page is broken before it, with the children laid out so
far. -/
theorem loopPost_break (K : List ColBox) (total : List (Nat × Nat)) (P0 m : Nat) (s s' : ColsState)
    (hinv : LoopInv K total P0 m s) (hn : s'.newChildren = s.newChildren) (hc : s'.colSkip = none)
    (hb : s'.breakPage = true) (hi : s'.index = m) : LoopPost K total P0 s' := by
  intro _
  rw [hn]
  by_cases hnil : s.newChildren = []
  · left; exact hnil
  · right
    have hsk : s.skip = none := hinv.skn.resolve_right hnil
    have hl := hinv.lines
    have hp := hinv.spos hnil
    rw [hsk] at hl hp
    simp only [colLines, colPos, skipIdxOf, subSkipOf, Nat.add_zero] at hl hp
    simp only [colsResume, hc, hb, hi, Option.isSome_none, Bool.false_eq_true, if_false, if_true, skipIdxOf, subSkipOf]
    exact ⟨hl, hp⟩

theorem colsLoop_spec (env : ColEnv) (K : List ColBox) (F : List Bool) (henv : EnvPost env K F)
    (c : CCtx) (cs : ColSpec) (hd : Bool) (obs : Rat) (last fuel : Nat) (total : List (Nat × Nat)) (P0 : Nat) :
    ∀ (its : List ColItem) (m : Nat) (s : ColsState), ItemsOk F K.length m its → LoopInv K total P0 m s →
      LoopPost K total P0 (colsLoop env c cs hd obs last fuel its s) := by
  intro its
  induction its with
  | nil =>
    intro m s hok hinv
    simp only [ItemsOk] at hok
    simp only [colsLoop]
    intro _
    rcases hinv.skn with hsk | hnil
    · right
      simp only [colsResume, hinv.cs, hinv.bp, hsk, Option.isSome_none, Bool.false_eq_true, if_false]
      have hl := hinv.lines
      rw [hsk] at hl
      simp only [colLines, skipIdxOf, subSkipOf, Nat.add_zero] at hl
      rw [linesFromKids_ge K m none hok] at hl
      simpa using hl
    · left; exact hnil
  | cons it rest ih =>
    intro m s hok hinv
    cases it with
    | span i =>
      simp only [ItemsOk] at hok
      obtain ⟨rfl, hrest⟩ := hok
      unfold colsLoop
      dsimp only
      have hsp := henv.1 c i s.y obs (subSkipOf s.skip) s.pie s.adj
      generalize env.laySpan c i s.y obs (subSkipOf s.skip) s.pie s.adj = r at hsp ⊢
      split
      · intro h; simp at h
      · rename_i herr
        unfold SpanPost at hsp
        cases hKi : K[i]? with
        | none => rw [hKi] at hsp; exact absurd herr hsp
        | some b =>
          rw [hKi] at hsp
          split
          · exact loopPost_break K total P0 i s _ hinv rfl hinv.cs rfl rfl
          · rename_i f hf
            have hitem := loopInv_item K total P0 i (i + 1) s hinv (Nat.lt_succ_self i)
              (List.getElem?_eq_some_iff.mp hKi).1 [f] _
              (spanPost_seg K i b hKi s.skip hinv.sk0 f r.resume (hf ▸ hsp))
            cases hres : r.resume with
            | some ρ =>
              rw [hres] at hitem
              simp only [Option.isSome_some, if_true]
              exact hitem _ rfl rfl rfl
            | none =>
              rw [hres] at hitem
              simp only [Option.isSome_none, Bool.false_eq_true, if_false]
              exact ih (i + 1) _ hrest (hitem _ rfl hinv.bp hinv.cs rfl)
    | group a len =>
      simp only [ItemsOk] at hok
      obtain ⟨rfl, hgrp, hrest⟩ := hok
      unfold colsLoop
      dsimp only
      split
      · intro h; simp at h
      · generalize htr : trialLoop env c a 0 (s.y + collapseMargin s.adj)
          (c.pageBottom - (s.y + collapseMargin s.adj) - obs) cs.count s.skip
          (cs.balance || decide (a < last)) s.nextPage = t
        generalize hR : realLoop env c a (s.y + collapseMargin s.adj) cs s.pie hd obs fuel 0
          { columns := [], maxColH := 0, skip := s.skip, colSkip := s.colSkip, nextPage := t.nextPage,
            bs := if c.pageBottom - (s.y + collapseMargin s.adj) - t.height > s.bs
              then c.pageBottom - (s.y + collapseMargin s.adj) - t.height else s.bs,
            breakPage := s.breakPage, err := none } = R
        have hreal : RealPost K (a + len) a s.skip false R := hR ▸ realLoop_spec env K (a + len) a
          (henv.2 a (a + len) hgrp) c _ cs s.pie hd obs s.skip false fuel 0 _
          (by rw [hinv.sk0]; exact hgrp.1) (by simp [fragLinesList]) (Nat.le_refl _) hinv.bp
        split
        · intro h; simp at h
        · rename_i herr
          rcases hreal herr with ⟨hc, hbp, hcsk⟩ | ⟨hbp, hne, hm⟩
          · -- no column could be rendered
            simp only [hbp, Bool.true_or, if_true]
            exact loopPost_break K total P0 a s _ hinv (by simp [hc]) hcsk rfl rfl
          · have hitem := loopInv_item K total P0 a (a + len) s hinv hgrp.1 hgrp.2.1
              (R.columns.map (setColHeight R.maxColH)) _ (by rwa [fragLinesList_map_setColHeight])
            cases hcs : R.colSkip with
            | some ρ =>
              rw [hcs] at hitem
              simp only [Option.isSome_some, Bool.or_true, if_true]
              exact hitem _ rfl rfl rfl
            | none =>
              rw [hcs] at hitem
              simp only [hbp, Option.isSome_none, Bool.or_false, Bool.false_eq_true, if_false]
              exact ih (a + len) _ hrest (hitem _ rfl rfl rfl rfl)

theorem colLines_firstItemSkip (kids : List ColBox) (skip : Option Resume) :
    colLines kids (skipIdxOf skip) (firstItemSkip skip) = linesFromKids kids (skipIdxOf skip) (subSkipOf skip) := by
  cases skip <;> simp [colLines, firstItemSkip]

theorem colPos_firstItemSkip (kids : List ColBox) (skip : Option Resume) :
    colPos kids (skipIdxOf skip) (firstItemSkip skip) = posKids kids (skipIdxOf skip) (subSkipOf skip) := by
  cases skip <;> simp [colPos, firstItemSkip]

theorem colsFinish_post (kids : List ColBox) (id idx : Nat) (st : PStyle) (cs : ColSpec) (flags : List Bool)
    (mt y contentY : Rat) (adjL : List Rat) (skip : Option Resume) (s : ColsState) (hnk : kids.length ≠ 0)
    (hg : LoopPost kids (linesFromKids kids (skipIdxOf skip) (subSkipOf skip))
      (posKids kids (skipIdxOf skip) (subSkipOf skip)) s) :
    BoxPost (.columns id st cs flags kids) skip
      (colsFinish id idx st kids.length mt y contentY adjL s).frag
      (colsFinish id idx st kids.length mt y contentY adjL s).resume := by
  intro f hf
  unfold colsFinish at hf ⊢
  cases herr : s.err with
  | some e => rw [herr] at hf; simp [raisedResult] at hf
  | none =>
    rw [herr] at hf
    dsimp only at hf ⊢
    by_cases hne : (decide (kids.length ≠ 0) && s.newChildren.isEmpty) = true
    · rw [if_pos hne] at hf; simp at hf
    · rw [if_neg hne] at hf ⊢
      cases hnp : s.nextPage with
      | none => rw [hnp] at hf; simp [raisedResult] at hf
      | some np =>
        rw [hnp] at hf
        simp only [Option.some.injEq] at hf
        subst hf
        dsimp only
        rcases hg herr with hnil | hm
        · rw [hnil] at hne; simp [hnk] at hne
        · obtain ⟨hl1, _⟩ := addTrailing_spec (colsHeight st (s.y + collapseMargin s.adj - contentY)).2
            s.newChildren
          cases hcr : colsResume s with
          | none =>
            rw [hcr] at hm
            simp only at hm ⊢
            simp only [Full]
            rw [hl1, hm]
          | some R =>
            rw [hcr] at hm
            simp only at hm ⊢
            constructor
            · simp only [fragLines, linesFrom]
              rw [hl1]; exact hm.1
            · simp only [pos]
              exact hm.2

theorem colItems_ge (flags : List Bool) (n k : Nat) (h : n ≤ k) : colItems flags n k = [] := by
  unfold colItems
  rw [List.drop_eq_nil_of_le (by rw [normFlags_length]; exact h)]
  rfl

theorem columnsLayout_post (env : ColEnv) (kids : List ColBox) (flags : List Bool)
    (henv : EnvPost env kids (normFlags flags kids.length)) (c : CCtx) (id idx : Nat) (st : PStyle) (cs : ColSpec)
    (fuel : Nat) (mt y0 bs0 : Rat) (skip : Option Resume) (pie : Bool) (adjL : List Rat) :
    BoxPost (.columns id st cs flags kids) skip
      (columnsLayout env c id idx st cs flags kids.length fuel mt y0 bs0 skip pie adjL).frag
      (columnsLayout env c id idx st cs flags kids.length fuel mt y0 bs0 skip pie adjL).resume := by
  unfold columnsLayout
  split
  · intro f hf; simp [raisedResult] at hf
  · dsimp only
    by_cases hk : kids.length ≤ skipIdxOf skip
    · -- nothing left to lay out
      rw [colItems_ge flags _ _ hk]
      simp only [colsLoop]
      by_cases hn : kids.length = 0
      · have hkids : kids = [] := List.length_eq_zero_iff.mp hn
        subst hkids
        intro f hf
        simp only [colsFinish, colsInit, List.length_nil, if_true, ne_eq, not_true_eq_false, Bool.false_and,
          decide_false, Bool.false_eq_true, if_false, addTrailing, Option.some.injEq] at hf ⊢
        subst hf
        simp [colsResume, Full, fragLinesList, linesFromKids]
      · intro f hf
        simp [colsFinish, colsInit, hn] at hf
    · have hnk : kids.length ≠ 0 := by omega
      apply colsFinish_post kids id idx st cs flags _ _ _ adjL skip _ hnk
      apply colsLoop_spec env kids (normFlags flags kids.length) henv _ cs _ bs0 _ fuel _ _ _
        (skipIdxOf skip) _ (colItems_ok flags kids.length (skipIdxOf skip))
      have hsk : ∀ cy b, (colsInit kids.length cy b skip pie).skip = firstItemSkip skip := by
        intro cy b; simp [colsInit, hnk]
      constructor
      · simp [colsInit]
      · simp [colsInit]
      · rw [hsk]; cases skip <;> simp [firstItemSkip]
      · right; simp [colsInit]
      · rw [hsk, colLines_firstItemSkip]; simp [colsInit, fragLinesList]
      · rw [hsk, colPos_firstItemSkip]; exact Nat.le_refl _
      · intro h; simp [colsInit] at h

/-- A fragment returned by the columns branch of `block_box_layout` is the result of a `columns_layout` call with
the given bottom space or a larger one. -/
theorem columnsBoxLayout_frag {env : ColEnv} {c : CCtx} {id idx : Nat} {st : PStyle} {cs : ColSpec}
    {flags : List Bool} {nkids fuel : Nat} {y bs : Rat} {skip : Option Resume} {cb pie : Bool} {adjL : List Rat}
    {f : CFrag} (h : (columnsBoxLayout env c id idx st cs flags nkids fuel y bs skip cb pie adjL).frag = some f) :
    ∃ mt bs', bs ≤ bs' ∧ columnsBoxLayout env c id idx st cs flags nkids fuel y bs skip cb pie adjL =
      columnsLayout env c id idx st cs flags nkids fuel mt y bs' skip pie adjL := by
  revert h
  fun_cases columnsBoxLayout env c id idx st cs flags nkids fuel y bs skip cb pie adjL <;> intro h
  · exact ⟨_, bs, Rat.le_refl, rfl⟩
  · cases h
  next hpos => exact ⟨_, _, by have : (0 : Rat) < _ := hpos; grind, rfl⟩
  · exact ⟨_, bs, Rat.le_refl, rfl⟩
  · exact ⟨_, bs, Rat.le_refl, rfl⟩

/-! ### the children loop stops at the next spanning child -/

/-- The loop over the children of a column box ends at the first spanning child `j` it comes to and has met none
before: it is the loop of a plain block over the children before `j`. -/
theorem layoutKids_take (c : CCtx) (st : PStyle) : (rest : List ColBox) → ∀ (flags : List Bool)
    (j index skipIdx base : Nat) (bs : Rat) (pie : Bool) (s : KidsLoop),
    skipIdx ≤ index + j → (∀ t, t < j → skipIdx ≤ index + t → flags[t]? ≠ some true) →
    (j < rest.length → flags[j]? = some true) →
    layoutKids c st rest flags index skipIdx base bs pie s =
      layoutKids c st (rest.take j) [] index skipIdx base bs pie s
  | [], flags, j, index, skipIdx, base, bs, pie, s, _, _, _ => by simp [layoutKids]
  | child :: rest, flags, 0, index, skipIdx, base, bs, pie, s, h1, _, h3 => by
    rw [List.take_zero, layoutKids, layoutKids, if_neg (by omega),
      if_pos (List.head?_eq_getElem? ▸ h3 (Nat.succ_pos _))]
  | child :: rest, flags, j + 1, index, skipIdx, base, bs, pie, s, h1, h2, h3 => by
    have ih := fun s' => layoutKids_take c st rest flags.tail j (index + 1) skipIdx base bs pie s' (by omega)
      (fun t ht hs => List.getElem?_tail ▸ h2 (t + 1) (by omega) (by omega))
      (fun hj => List.getElem?_tail ▸ h3 (by simpa using hj))
    rw [List.take_succ_cons]
    by_cases hc : index < skipIdx
    · rw [layoutKids, layoutKids, if_pos hc, if_pos hc]; exact ih s
    · rw [layoutKids_cons hc (List.head?_eq_getElem? ▸ h2 0 (Nat.succ_pos _) (by omega)),
        layoutKids_cons hc (by simp)]
      simp only [ih, List.tail_nil]

/-! ### the post-condition, for every box -/

/-- Segment + progress post-condition of every `block_level_layout` call on `box`. -/
def BoxSpec (box : ColBox) : Prop :=
  ∀ (c : CCtx) (idx : Nat) (y bs : Rat) (skip : Option Resume) (cb pie : Bool) (adjL : List Rat),
    BoxPost box skip (layoutBox c box idx y bs skip cb pie adjL).frag
      (layoutBox c box idx y bs skip cb pie adjL).resume

/-- The children before `skipIdx` are passed over. -/
theorem layoutKids_start (c : CCtx) (st : PStyle) (base : Nat) (bs : Rat) (pie : Bool) (s : KidsLoop) :
    ∀ (k : Nat) (kids : List ColBox) (index : Nat),
      layoutKids c st kids [] index (index + k) base bs pie s =
        layoutKids c st (kids.drop k) [] (index + k) (index + k) base bs pie s
  | 0, _, _ => rfl
  | k + 1, [], _ => by rw [List.drop_nil]; simp only [layoutKids]
  | k + 1, x :: xs, index => by
    rw [layoutKids, if_pos (Nat.lt_add_of_pos_right (Nat.succ_pos k)), List.drop_succ_cons]
    have h := layoutKids_start c st base bs pie s k xs (index + 1)
    rwa [Nat.add_right_comm index 1 k] at h

/-- The running children loop (of a block, or of a column box up to the next spanning child), given the
post-condition of every child: `B` are the children placed so far, from child `i0` (relative to `base`) on. -/
theorem kids_spec : (rest : List ColBox) → (∀ b ∈ rest, BoxSpec b) → GoodList rest → ∀ (c : CCtx) (st : PStyle)
    (B : List ColBox) (i0 : Nat)
    (sub0 : Option Resume) (index skipIdx base : Nat) (bs : Rat) (pie : Bool) (s : KidsLoop),
    skipIdx ≤ index → GoodList B → FullFrom s.newChildren B i0 sub0 → index = base + (i0 + B.length) →
    s.skip = (if B = [] then sub0 else none) →
    KidsPost (B ++ rest) i0 sub0 (layoutKids c st rest [] index skipIdx base bs pie s)
  | [] => by
    intro _ _ c st B i0 sub0 index skipIdx base bs pie s _ hgB hinv _ _
    simp only [layoutKids, List.append_nil, KidsPost]
    exact hinv
  | child :: rest => by
    intro hbox hg c st B i0 sub0 index skipIdx base bs pie s hrun hgB hinv hidx0 hskip
    simp only [GoodList] at hg
    have hidx : index - base = i0 + B.length := by omega
    rw [layoutKids_cons (Nat.not_lt.mpr hrun) (by simp)]
    split
    · -- forced break before `child`
      rename_i hforced
      rw [hidx]
      apply stop_before_spec _ _ _ _ _ hinv _ (by simp)
      intro he
      rw [meetBreak_nil c s child he] at hforced
      cases hforced
    · split
      · trivial
      · rename_i frag r s2 hk
        obtain ⟨bs', adj, rfl, _, hfr, hnc, hsk⟩ := kidResult_spec _ _ _ _ _ _ _ _ _ _ hk
        have hchild : BoxPost child (if B = [] then sub0 else none) frag
            (layoutBox c child (index - base) s.posY bs' s.skip st.isRoot (pie && s.newChildren.isEmpty)
              adj).resume := by
          rcases hfr with rfl | rfl
          · exact boxPost_none _ _ _
          · rw [← hskip]; exact hbox child (by simp) _ _ _ _ _ _ _ _
        have hcs := conclude_spec c (index - base) pie (meetBreak c s child).1 child s2 frag _ B rest i0 sub0 hgB
          (by rw [hnc]; exact hinv) hidx hchild
        split
        · rename_i heq
          rwa [heq] at hcs
        · rename_i s3 heq
          rw [heq] at hcs
          have := kids_spec rest (fun b hb => hbox b (List.mem_cons_of_mem _ hb)) hg.2 c st (B ++ [child]) i0 sub0
            (index + 1) skipIdx base bs pie s3 (Nat.le_succ_of_le hrun)
            (goodList_append _ _ hgB (by simp [GoodList, hg.1])) hcs.1 (by simp; omega)
            (by simp [hcs.2.trans hsk])
          rwa [List.append_assoc] at this

theorem layoutNth_spec (c : CCtx) : (K : List ColBox) → (i : Nat) → ∀ (y bs : Rat) (sk : Option Resume)
    (cb pie : Bool) (adj : List Rat),
    match K[i]? with
    | none => (layoutNth c K i y bs sk cb pie adj).err ≠ none
    | some b => layoutNth c K i y bs sk cb pie adj = layoutBox c b 0 y bs sk cb pie adj
  | [], i, y, bs, sk, cb, pie, adj => by simp [layoutNth, raisedResult]
  | b :: rest, 0, y, bs, sk, cb, pie, adj => by simp [layoutNth]
  | b :: rest, i + 1, y, bs, sk, cb, pie, adj => by
    simp only [List.getElem?_cons_succ, layoutNth]
    exact layoutNth_spec c rest i y bs sk cb pie adj

/-- The two layout functions `block_box_layout` hands to `columns_layout` for a container. -/
def boxEnv (id : Nat) (st : PStyle) (flags : List Bool) (kids : List ColBox) (cb : Bool) : ColEnv :=
  { layCol := fun c' a x y' bs' skip' pie' =>
      finishBlock true c' (columnStyle st) (prepareC true c'.base (columnStyle st) y' bs' skip' false pie' []) pie'
        (layoutKids c' (columnStyle st) kids (normFlags flags kids.length) 0 (a + skipIdxOf skip') a
          (prepareC true c'.base (columnStyle st) y' bs' skip' false pie' []).bs pie'
          { newChildren := [], posY := (prepareC true c'.base (columnStyle st) y' bs' skip' false pie' []).posY,
            adjL := (prepareC true c'.base (columnStyle st) y' bs' skip' false pie' []).adjL,
            cur := (prepareC true c'.base (columnStyle st) y' bs' skip' false pie' []).cur,
            curIsL := (prepareC true c'.base (columnStyle st) y' bs' skip' false pie' []).curIsL,
            nextPage := { brk := none, page := none }, skip := subSkipOf skip' })
        (fun g ks => .column id (columnStyle st) x g ks)
    laySpan := fun c' i y' bs' skip' pie' adjL' => layoutNth c' kids i y' bs' skip' cb pie' adjL' }

theorem layoutBox_columns (c : CCtx) (id : Nat) (st : PStyle) (cs : ColSpec) (flags : List Bool)
    (kids : List ColBox) (idx : Nat) (y bs : Rat) (skip : Option Resume) (cb pie : Bool) (adjL : List Rat) :
    layoutBox c (.columns id st cs flags kids) idx y bs skip cb pie adjL =
      columnsBoxLayout (boxEnv id st flags kids cb) c id idx st cs flags kids.length (sizeKids kids + 1) y bs skip
        cb pie adjL := by
  simp only [layoutBox, boxEnv]

/-- The children loop from its initial state: `i0` = position of the first child to lay out, relative to `base`. -/
theorem kids_spec_start (rest : List ColBox) (hbox : ∀ b ∈ rest, BoxSpec b) (hg : GoodList rest) (c : CCtx)
    (st : PStyle) (i0 skipIdx base : Nat) (hi0 : i0 + base = skipIdx) (bs : Rat) (pie : Bool)
    (s : KidsLoop) (hs : s.newChildren = []) :
    KidsPost (rest.drop skipIdx) i0 s.skip (layoutKids c st rest [] 0 skipIdx base bs pie s) := by
  have h := layoutKids_start c st base bs pie s skipIdx rest 0
  rw [Nat.zero_add] at h
  rw [h]
  exact kids_spec _ (fun b hb => hbox b (List.mem_of_mem_drop hb)) (goodList_drop _ _ hg) c st [] i0 s.skip _ _ base
    bs pie s (Nat.le_refl _) trivial (by simp [hs, FullFrom]) (by simp; omega) (by simp)

mutual
/-- **Segment + progress post-condition of `block_level_layout`** for the extended grammar: every box without
fixed heights (containers excepted) and with `orphans, widows ≥ 1` — spanning children included —, every context,
position, skip stack. -/
theorem box_spec : (box : ColBox) → Good box → BoxSpec box
  | .para id n lineH st => by
    intro hg c idx y bs skip cb pie adjL
    exact para_spec id n lineH st hg c idx y bs skip cb pie adjL
  | .block id st kids => by
    intro hg c idx y bs skip cb pie adjL
    simp only [Good] at hg
    simp only [layoutBox]
    apply finishBlock_post _ _ _ _ _ _ _ _ _ hg.1
    exact kids_spec_start kids (boxes_spec kids hg.2) hg.2 c st _ _ 0 rfl _ pie _ rfl
  | .columns id st cs flags kids => by
    intro hg c idx y bs skip cb pie adjL
    simp only [Good] at hg
    have hboxes := boxes_spec kids hg
    rw [layoutBox_columns]
    intro f hf
    obtain ⟨mt, bs', _, heq⟩ := columnsBoxLayout_frag hf
    rw [heq] at hf ⊢
    refine columnsLayout_post _ kids flags ⟨?_, ?_⟩ c id idx st cs _ mt y bs' skip pie adjL f hf
    · -- spanning children
      intro c' i y' bs' sk pie' adj'
      have hn := layoutNth_spec c' kids i y' bs' sk cb pie' adj'
      unfold SpanPost
      cases hKi : kids[i]? with
      | none => rw [hKi] at hn; exact hn
      | some b =>
        rw [hKi] at hn
        simp only [boxEnv] at hn ⊢
        rw [hn]
        exact hboxes b (List.mem_of_getElem? hKi) c' 0 y' bs' sk cb pie' adj'
    · -- groups of columns
      intro a e hgrp σ hσ c' x y' bs' pie'
      obtain ⟨hae, hen, hfree, hend⟩ := hgrp
      dsimp only [boxEnv]
      rw [layoutKids_take c' _ kids _ e 0 _ a _ pie' _ (by omega) (fun t ht hs => hfree t (by omega) ht) hend]
      apply ColPost.of_take _ _ _ _ _ hen hσ
      apply finishColumn_post _ _ _ _ _ _ _ (kids.take e) a σ rfl
      exact kids_spec_start (kids.take e) (fun b hb => hboxes b (List.mem_of_mem_take hb)) (goodList_take kids e hg)
        c' (columnStyle st) _ _ a (Nat.add_comm _ _) _ pie' _ rfl
theorem boxes_spec : (kids : List ColBox) → GoodList kids → ∀ b ∈ kids, BoxSpec b
  | [] => by intro _ b hb; simp at hb
  | x :: xs => by
    intro hg b hb
    simp only [GoodList] at hg
    rcases List.mem_cons.mp hb with h | h
    · rw [h]; exact box_spec x hg.1
    · exact boxes_spec xs hg.2 b h
end

end Wp.PMC
