/-
Rules 1.3 and 1.4 of the anonymous-table fix-ups (CSS 2.1 §17.2.1; Model/AnonBoxes.lean `rule13`, `rule14`),
exactly: what they may remove and what they must keep.
-/
import WpModel.Lemmas.Tables
namespace Wp.Bx
open KBox

/-- The triples of the source: `zip([None] + children[:-1], children, children[1:] + [None])`, the tail standing
for the next child. -/
def contexts (prev : Option KBox) : List KBox → List (Option KBox × KBox × List KBox)
  | [] => []
  | c :: cs => (prev, c, cs) :: contexts (some c) cs

/-- Rule 1.4 as the source writes it: a comprehension over the triples. -/
theorem rule14_eq_comprehension : ∀ (prev : Option KBox) (l : List KBox),
    rule14 prev l = (contexts prev l).filterMap (fun t => if rule14Drop t.1 t.2.1 t.2.2 = true then none else some t.2.1) := by
  intro prev l
  fun_induction rule14 prev l
  case case1 => rfl
  case case2 h ih => simp only [contexts, List.filterMap_cons, h, if_true]; exact ih
  case case3 h ih => simp only [contexts, List.filterMap_cons, h, if_false, Bool.false_eq_true, ih]

/-- Everything that is not white-space text is kept, in order. -/
theorem rule14_keeps_nonwhite : ∀ (prev : Option KBox) (l : List KBox),
    (rule14 prev l).filter (fun c => !isWhitespace c) = l.filter (fun c => !isWhitespace c) := by
  intro prev l
  fun_induction rule14 prev l
  case case1 => rfl
  case case2 h ih =>
    unfold rule14Drop at h
    simp only [Bool.and_eq_true] at h
    simp only [List.filter_cons, h.2, Bool.not_true, Bool.false_eq_true, if_false]
    exact ih
  case case3 ih => simp only [List.filter_cons, ih]

/-- A child is dropped only between two internal table boxes / captions: one that has no such neighbour on
one side is kept. -/
theorem rule14_keeps_head (prev : Option KBox) (c : KBox) (cs : List KBox)
    (h : (match prev with | some p => Gen.internalTableOrCaption p.kind | none => false) = false ∨
         (match cs with | nx :: _ => Gen.internalTableOrCaption nx.kind | [] => false) = false ∨
         isWhitespace c = false) :
    rule14 prev (c :: cs) = c :: rule14 (some c) cs := by
  have : rule14Drop prev c cs = false := by
    unfold rule14Drop
    cases prev <;> cases cs <;> simp_all
    intro h1 h2
    rcases h with h | h | h
    · rw [h1] at h; cases h
    · rw [h2] at h; cases h
    · exact h
  rw [rule14.eq_2, this]
  rfl

theorem rule13_keeps_nonwhite (l : List KBox) :
    (rule13 l).filter (fun c => !isWhitespace c) = l.filter (fun c => !isWhitespace c) := by
  obtain ⟨a, b, hl, _, _, hw⟩ := rule13_shape l
  have hnil : ∀ x : List KBox, (∀ c ∈ x, c ∈ a ++ b) → x.filter (fun c => !isWhitespace c) = [] := fun x hx =>
    List.filter_eq_nil_iff.mpr fun c hc => by simp [hw c (hx c hc)]
  conv => rhs; rw [hl]
  rw [List.filter_append, List.filter_append, hnil a (fun c hc => List.mem_append_left _ hc),
    hnil b (fun c hc => List.mem_append_right _ hc), List.nil_append, List.append_nil]

end Wp.Bx
