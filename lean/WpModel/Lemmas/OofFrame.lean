/-
What every layout of the out-of-flow stage keeps of the threaded state. A layout changes the world only by removing
and shifting waiting boxes, by appending the boxes it meets to `absolute_boxes` and the items it cuts to
`context.broken_out_of_flow`; the `crash` flag (set where `float_layout` / `absolute_box_layout` would call a method
on `None`) it never touches, because a float and an absolutely positioned box always get a fragment. So a condition
`C` on the flag, `G` on the boxes waiting or registered and `R` on the registered resume positions is kept by every
layout, up to the page (`layoutBox_inv` … `remakePage_inv`), provided a layout of a `G` box from an `R` position
returns an `R` position. Two instances: the flag is left as found (the end of this file); the registered items are
boxes of the document with well-formed positions (`Lemmas/OofWorld`).
-/
import WpModel.Lemmas.OofTotal
import WpModel.Lemmas.OofPages

namespace Wp.PMO
open Wp Wp.PM

@[simp] theorem remove_crash (w : World) (l : List Nat) : (w.remove l).crash = w.crash := rfl
@[simp] theorem removeDropped_crash (w : World) (a b : List OFrag) : (w.removeDropped a b).crash = w.crash := rfl
@[simp] theorem shift_crash (w : World) (l : List Nat) (dy : Rat) : (w.shift l dy).crash = w.crash := rfl

def KidsOutcome.world : KidsOutcome → World
  | .finished s => s.w
  | .aborted _ s => s.w
  | .stopped _ s => s.w

def KidsOutcome.loopState : KidsOutcome → KidsLoop
  | .finished s => s
  | .aborted _ s => s
  | .stopped _ s => s

@[simp] theorem seenByCaller_w (p : Prep) (r : LayoutResult) : (p.seenByCaller r).w = r.w := by
  unfold Prep.seenByCaller; split <;> rfl

theorem layoutAbs_frag_some (c : Ctx) (fuel : Nat) (box : OBox) (idx : Nat) (y : Rat) (skip : Option Resume)
    (w : World) : ∃ f, (layoutAbs c fuel box idx y skip w).frag = some f := by
  obtain ⟨f, hf⟩ := box_frag box c idx y 0 skip false [] { w with shapes := [], absL := [] }
  cases fuel with
  | zero => exact ⟨f, by rw [layoutAbs]; exact hf⟩
  | succ n => exact ⟨_, by rw [layoutAbs, hf]; rfl⟩

section
variable (C : Bool → Prop) (G : OBox → Prop) (R : OBox → Option Resume → Prop)

/-- A registered item is fine: its box, and its resume position for that box. -/
def EInv (e : Broken) : Prop := G e.box ∧ R e.box (some e.resume)

/-- The world is fine: the flag, the boxes waiting in `absolute_boxes`, the items registered. -/
def WInv (w : World) : Prop := C w.crash ∧ (∀ a ∈ w.absL, G a.box) ∧ ∀ e ∈ w.broken, EInv G R e

/-- The loop state is fine: its world, and the items the container has registered so far. -/
def SInv (s : KidsLoop) : Prop := WInv C G R s.w ∧ ∀ e ∈ s.localBroken, EInv G R e

end

variable {C : Bool → Prop} {G : OBox → Prop} {GL : List OBox → Prop} {R : OBox → Option Resume → Prop}

theorem winv_congr {w w' : World} (h : WInv C G R w) (hc : w'.crash = w.crash) (ha : w'.absL = w.absL)
    (hb : w'.broken = w.broken) : WInv C G R w' := by
  unfold WInv; rw [hc, ha, hb]; exact h

theorem winv_remove {w : World} (h : WInv C G R w) (l : List Nat) : WInv C G R (w.remove l) := by
  refine ⟨h.1, fun a ha => ?_, fun e he => ?_⟩
  · simp only [World.remove, List.mem_filter] at ha
    exact h.2.1 a ha.1
  · simp only [World.remove, List.mem_filter] at he
    exact h.2.2 e he.1

theorem winv_shift {w : World} (h : WInv C G R w) (l : List Nat) (dy : Rat) : WInv C G R (w.shift l dy) := by
  refine ⟨h.1, fun a ha => ?_, h.2.2⟩
  simp only [World.shift, List.mem_map] at ha
  obtain ⟨a0, ha0, rfl⟩ := ha
  split <;> exact h.2.1 a0 ha0

theorem winv_append_broken {w : World} (h : WInv C G R w) (l : List Broken) (hl : ∀ e ∈ l, EInv G R e) :
    WInv C G R { w with broken := w.broken ++ l } :=
  ⟨h.1, h.2.1, fun e he => (List.mem_append.mp he).elim (h.2.2 e) (hl e)⟩

theorem finishContainer_inv {c : Ctx} {st : OStyle} {b : BoxSt} {pie : Bool} {bs : Rat}
    {cwc dbd : Bool} {resume : Option Resume} {posY : Rat} {adjL cur : List Rat} {curIsL : Bool}
    {np : NextPage} {hasKids : Bool} {pageEnd : String} {kids : List OFrag} {lb : List Broken} {w : World}
    {mk : Geo → OFrag} (hw : WInv C G R w) (hl : ∀ e ∈ lb, EInv G R e) :
    WInv C G R
      (finishContainer c st b pie bs cwc dbd resume posY adjL cur curIsL np hasKids pageEnd kids lb w mk).w := by
  unfold finishContainer
  split
  · exact winv_remove hw _
  · refine winv_append_broken hw _ fun e he => ?_
    simp only [keptBroken, List.mem_filter] at he
    exact hl e he.1

theorem finishBlock_inv (c : Ctx) (st : OStyle) (p : Prep) (pie : Bool) (id idx : Nat) (out : KidsOutcome)
    (h : SInv C G R out.loopState) : WInv C G R (finishBlock c st p pie id idx out).w := by
  cases out with
  | aborted page s => exact winv_remove h.1 _
  | stopped r s => exact finishContainer_inv h.1 h.2
  | finished s => exact finishContainer_inv h.1 h.2

theorem finishPara_inv (c : Ctx) (st : OStyle) (p : Prep) (pie : Bool) (id idx n : Nat) (r : LineResult)
    (w : World) (h : WInv C G R w) : WInv C G R (finishPara c st p pie id idx n r w).w := by
  unfold finishPara
  dsimp only
  split
  · exact h
  · exact finishContainer_inv h (by simp)

/-- What the conditions must satisfy: `G` passes from a container to its children (`GL` for the list), "no resume
position" (`none`, a layout from the start of the box) is an `R` position of every box, and a layout of a `G` box
from an `R` position returns an `R` position. The last is asked for `page_is_empty` layouts only: a float, an
absolutely positioned box and a continuation, the only boxes whose positions are registered, are laid out so. -/
def Kept (G : OBox → Prop) (GL : List OBox → Prop) (R : OBox → Option Resume → Prop) : Prop :=
  (∀ id st kids, G (.block id st kids) → GL kids) ∧
  (∀ child rest, GL (child :: rest) → G child ∧ GL rest) ∧ (∀ box, R box none) ∧
  ∀ box c idx y bs skip cb adjL w ρ, G box → R box skip →
    (layoutBox c box idx y bs skip cb true adjL w).resume = some ρ → R box (some ρ)

variable (H : Kept G GL R)
include H

/-- The item registered for a `G` box that a layout from an `R` position cuts. -/
theorem brokenOf_inv {box : OBox} (hd : G box) {skip : Option Resume} (hs : R box skip) {resume : Option Resume}
    {c : Ctx} {idx : Nat} {y bs : Rat} {cb : Bool} {adjL : List Rat} {w : World}
    (hres : resume = (layoutBox c box idx y bs skip cb true adjL w).resume) (ser i : Nat)
    (hoof : box.inFlow = false) :
    ∀ b ∈ (match resume with
      | some ρ => [({ ser := ser, box := box, idx := i, resume := ρ, oof := hoof } : Broken)]
      | none => []), EInv G R b := by
  intro b hb
  cases resume with
  | none => cases hb
  | some ρ =>
    rw [List.mem_singleton.mp hb]
    exact ⟨hd, H.2.2.2 _ _ _ _ _ _ _ _ _ ρ hd hs hres.symm⟩

theorem kidStep_inv (c : Ctx) (st : OStyle) (b : BoxSt) (cwc : Bool) (index : Nat) (bs : Rat) (pie : Bool)
    (child : OBox) (s : KidsLoop) (hd : G child)
    (hbox : ∀ idx y bs skip cb pie adjL w, WInv C G R w →
      WInv C G R (layoutBox c child idx y bs skip cb pie adjL w).w)
    (hs : SInv C G R s) :
    StepTo (fun out => SInv C G R out.loopState) (SInv C G R) (kidStep c st b cwc index bs pie child s) := by
  apply stepTo_kidStep
  · intro hc _
    exact ⟨⟨hs.1.1, forall_mem_snoc hs.1.2.1 hd, hs.1.2.2⟩, hs.2⟩
  · intro hc _
    have hr := hbox index (floatY s.w.shapes child.st.clear (s.posY + collapseMargin s.cur)) bs none false true []
      { s.w with shapes := [] } (winv_congr hs.1 rfl rfl rfl)
    apply stepTo_floatStep
    · -- laid out with `page_is_empty`, the float always has a fragment
      intro w hfd
      cases (box_frag ..).choose_spec.symm.trans (floatDone_none hfd).1
    · intro f ser w hfd
      obtain ⟨f0, dy, _, _, _, habs, hbr, hcr⟩ := floatDone_some hfd
      have hw : WInv C G R w := winv_congr (winv_shift hr (fragSers f0) dy) hcr habs hbr
      exact ⟨⟨hw, fun e he => (List.mem_append.mp he).elim (hs.2 e)
          (brokenOf_inv H hd (H.2.2.1 _) rfl _ _ _ e)⟩,
        fun _ _ _ _ => ⟨winv_remove (winv_remove hw _) _, hs.2⟩, fun _ => ⟨winv_remove hw _, hs.2⟩⟩
  · intro _ _
    exact hs
  · intro _ _
    have hw := flowLaid_world (W := WInv C G R) (fun _ l h => winv_remove h l) (fun _ l dy h => winv_shift h l dy)
      c st b cwc index bs pie child s (fun _ _ _ _ _ _ h => hbox _ _ _ _ _ _ _ _ h) hs.1
    obtain ⟨_, hlb, _⟩ := flowLaid_state c st b cwc index bs pie child s
    have hs2 : SInv C G R (flowLaid c st b cwc index bs pie child s).1 :=
      ⟨hw, by rw [hlb, preFlow_localBroken]; exact hs.2⟩
    generalize flowLaid c st b cwc index bs pie child s = x at hs2
    obtain ⟨s2, frag, resume⟩ := x
    cases frag with
    | none =>
      exact stepTo_concludeKid_none (fun _ _ _ => ⟨winv_remove hs2.1 _, hs2.2⟩)
        (fun _ => hs2) (fun _ => ⟨winv_remove hs2.1 _, hs2.2⟩) (fun _ => hs2)
    | some f => exact stepTo_concludeKid_some (fun _ _ => hs2) (fun _ => hs2)

mutual
/-- One layout keeps the world fine. -/
theorem layoutBox_inv : (box : OBox) → G box → ∀ (c : Ctx) (idx : Nat) (y bs : Rat) (skip : Option Resume)
    (cb pie : Bool) (adjL : List Rat) (w : World), WInv C G R w →
    WInv C G R (layoutBox c box idx y bs skip cb pie adjL w).w
  | .para id n lineH st => by
    intro _ c idx y bs skip cb pie adjL w hw
    simp only [layoutBox, seenByCaller_w]
    exact finishPara_inv _ _ _ _ _ _ _ _ _ hw
  | .block id st kids => by
    intro hd c idx y bs skip cb pie adjL w hw
    simp only [layoutBox, seenByCaller_w]
    apply finishBlock_inv
    exact layoutKids_inv kids (H.1 _ _ _ hd) _ _ _ _ _ _ _ _ _ ⟨hw, by simp⟩
theorem layoutKids_inv : (kids : List OBox) → GL kids → ∀ (c : Ctx) (st : OStyle) (b : BoxSt)
    (cwc : Bool) (index skipIdx : Nat) (bs : Rat) (pie : Bool) (s : KidsLoop), SInv C G R s →
    SInv C G R (layoutKids c st b cwc kids index skipIdx bs pie s).loopState
  | [] => by
    intro _ c st b cwc index skipIdx bs pie s hs
    simpa [layoutKids, KidsOutcome.loopState] using hs
  | child :: rest => by
    intro hd c st b cwc index skipIdx bs pie s hs
    obtain ⟨hd1, hd2⟩ := H.2.1 _ _ hd
    exact layoutKids_step (Post := fun out => SInv C G R out.loopState) (SInv C G R)
      (fun _ => layoutKids_inv rest hd2 _ _ _ _ _ _ _ _ _ hs)
      (fun _ => ⟨kidStep_inv H c st b cwc index bs pie child s hd1 (layoutBox_inv child hd1 c) hs,
        fun s' hs' => layoutKids_inv rest hd2 _ _ _ _ _ _ _ _ _ hs'⟩)
end

theorem nestedAbsStep_inv (c : Ctx) (fuel : Nat) (acc : World × List (Nat × OFrag)) (e : AbsEntry)
    (hd : G e.box)
    (hrec : WInv C G R (layoutAbs c fuel e.box e.idx e.y none acc.1).w) :
    WInv C G R (nestedAbsStep c fuel acc e).1 := by
  unfold nestedAbsStep
  obtain ⟨f, hfr⟩ := layoutAbs_frag_some c fuel e.box e.idx e.y none acc.1
  simp only [hfr]
  exact winv_append_broken (winv_congr hrec rfl rfl rfl) _
    (brokenOf_inv H hd (H.2.2.1 _) (layoutAbs_resume ..) _ _ _)

/-- `absolute_box_layout` with the nested absolutely positioned boxes keeps the world fine. -/
theorem layoutAbs_inv (c : Ctx) : ∀ (fuel : Nat) (box : OBox), G box → ∀ (idx : Nat) (y : Rat)
    (skip : Option Resume) (w : World), WInv C G R w → WInv C G R (layoutAbs c fuel box idx y skip w).w
  | 0, box, hd, idx, y, skip, w, hw => by
    rw [layoutAbs]
    have hr := layoutBox_inv H box hd c idx y 0 skip false true [] { w with shapes := [], absL := [] }
      ⟨hw.1, by simp, hw.2.2⟩
    exact ⟨hr.1, hw.2.1, hr.2.2⟩
  | fuel + 1, box, hd, idx, y, skip, w, hw => by
    rw [layoutAbs_succ]
    have hr := layoutBox_inv H box hd c idx y 0 skip false true [] { w with shapes := [], absL := [] }
      ⟨hw.1, by simp, hw.2.2⟩
    generalize layoutBox c box idx y 0 skip false true [] { w with shapes := [], absL := [] } = r at hr ⊢
    have hwa : WInv C G R (r.w.absL.foldl (nestedAbsStep c fuel) ({ r.w with absL := [] }, [])).1 :=
      List.foldlRecOn (motive := fun (acc : World × List (Nat × OFrag)) => WInv C G R acc.1) _ _ ⟨hr.1, by simp, hr.2.2⟩
        fun acc hacc e he => nestedAbsStep_inv H c fuel acc e (hr.2.1 e he)
          (layoutAbs_inv c fuel e.box (hr.2.1 e he) e.idx e.y none acc.1 hacc)
    exact ⟨hwa.1, hw.2.1, hwa.2.2⟩

theorem contStep_inv (c : Ctx) (rootTop : Rat) (acc : World × List OFrag) (e : Broken) (hacc : WInv C G R acc.1)
    (he : EInv G R e) : WInv C G R (contStep c rootTop acc e).1 := by
  have hr := layoutBox_inv H e.box he.1 c 0 (floatY acc.1.shapes e.box.st.clear rootTop) 0
    (some e.resume) false true [] { acc.1 with shapes := [] } (winv_congr hacc rfl rfl rfl)
  have ha := layoutAbs_inv H c (boxDepth e.box) e.box he.1 e.idx rootTop (some e.resume) acc.1 hacc
  fun_cases contStep c rootTop acc e
  next hfd => cases (box_frag ..).choose_spec.symm.trans (floatDone_none hfd).1
  next hfd _ =>
    obtain ⟨f0, dy, _, _, _, habs, hbr, hcr⟩ := floatDone_some hfd
    exact winv_append_broken (winv_congr (winv_shift hr (fragSers f0) dy) hcr habs hbr) _
      (brokenOf_inv H he.1 he.2 rfl _ _ _)
  next h => cases (layoutAbs_frag_some ..).choose_spec.symm.trans h
  · exact winv_append_broken (winv_congr ha rfl rfl rfl) _ (brokenOf_inv H he.1 he.2 (layoutAbs_resume ..) _ _ _)

theorem absFold_inv (c : Ctx) (es : List AbsEntry) (acc : World × List (Nat × OFrag))
    (hes : ∀ a ∈ es, G a.box) (hacc : WInv C G R acc.1) : WInv C G R (es.foldl (absStep c) acc).1 :=
  List.foldlRecOn (motive := fun acc => WInv C G R acc.1) es _ hacc
    fun acc hacc e he => nestedAbsStep_inv H c (boxDepth e.box) acc e (hes e he)
      (layoutAbs_inv H c (boxDepth e.box) e.box (hes e he) e.idx e.y none acc.1 hacc)

theorem contFold_inv (c : Ctx) (rootTop : Rat) (es : List Broken) (acc : World × List OFrag)
    (hes : ∀ e ∈ es, EInv G R e) (hacc : WInv C G R acc.1) : WInv C G R (es.foldl (contStep c rootTop) acc).1 :=
  List.foldlRecOn (motive := fun acc => WInv C G R acc.1) es _ hacc
    fun acc hacc e he => contStep_inv H c rootTop acc e hacc (hes e he)

/-- One page: from fine continuations, a fine flag and a fine root, a fine flag and fine registered items. -/
theorem remakePage_inv (d : Doc) (hd : G d.root) (hde : G (emptyRoot d.root)) (hc : C false) (index : Nat)
    (resume : Option Resume) (np : NextPage) (right : Bool) (brokenIn : List Broken) (rootTop : Rat) (p : Page)
    (hin : ∀ e ∈ brokenIn, EInv G R e) (hp : remakePage d index resume np right brokenIn rootTop = some p) :
    C p.crash ∧ ∀ e ∈ p.broken, EInv G R e := by
  obtain ⟨blank, c, wc, r, f, wa, _, _, rfl, rfl, _, rfl, rfl⟩ :=
    remakePage_some d index resume np right brokenIn rootTop p hp
  have hwc := contFold_inv H c rootTop brokenIn (World.empty, []) hin
    ⟨hc, by simp [World.empty], by simp [World.empty]⟩
  have hroot : G (if blank = true then emptyRoot d.root else d.root) := by
    split
    · exact hde
    · exact hd
  have hr := layoutBox_inv H _ hroot c 0 0 0 resume false true [] _ hwc
  suffices h : WInv C G R _ from ⟨h.1, h.2.2⟩
  exact absFold_inv H _ _ _ hr.2.1 ⟨hr.1, by simp, hr.2.2⟩

omit H

/-! The `crash` flag is never raised: a layout leaves it as it found it. -/

theorem kept_true : Kept (fun _ => True) (fun _ => True) (fun _ _ => True) :=
  ⟨fun _ _ _ _ => trivial, fun _ _ _ => ⟨trivial, trivial⟩, fun _ => trivial,
    fun _ _ _ _ _ _ _ _ _ _ _ _ _ => trivial⟩

/-- `layoutKids` leaves the flag as it found it. -/
theorem layoutKids_crash : (kids : List OBox) → ∀ (c : Ctx) (st : OStyle) (b : BoxSt) (cwc : Bool)
    (index skipIdx : Nat) (bs : Rat) (pie : Bool) (s : KidsLoop),
    (layoutKids c st b cwc kids index skipIdx bs pie s).world.crash = s.w.crash := by
  intro kids c st b cwc index skipIdx bs pie s
  have h := (layoutKids_inv (C := (· = s.w.crash)) (G := fun _ => True) (GL := fun _ => True)
    (R := fun _ _ => True) kept_true kids trivial c st b cwc index skipIdx bs pie s
    ⟨⟨rfl, fun _ _ => trivial, fun _ _ => ⟨trivial, trivial⟩⟩, fun _ _ => ⟨trivial, trivial⟩⟩).1.1
  cases hk : layoutKids c st b cwc kids index skipIdx bs pie s <;> rw [hk] at h <;> exact h

/-- No page is ever marked as crashed: `float_layout` and `absolute_box_layout` always get a box. -/
theorem remakePage_no_crash (d : Doc) (index : Nat) (resume : Option Resume) (np : NextPage) (right : Bool)
    (brokenIn : List Broken) (rootTop : Rat) (p : Page)
    (hp : remakePage d index resume np right brokenIn rootTop = some p) : p.crash = false :=
  (remakePage_inv (C := (· = false)) (G := fun _ => True) (GL := fun _ => True) (R := fun _ _ => True)
    kept_true d trivial trivial rfl index resume np right brokenIn rootTop p
    (fun _ _ => ⟨trivial, trivial⟩) hp).1

end Wp.PMO
