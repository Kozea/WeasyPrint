/-
Lemmas about resource dictionaries (Model/PdfStream `Res`): generated keys are fresh, keys are never removed, every
name an emitted operator uses is a key of the dictionary of the emitting stream.  Core Lean only.
-/
import WpModel.Lemmas.PdfStream
import WpModel.Lemmas.Basic.List
namespace Wp.Pdf

/-- Positional invariant of the generated keys: `s{n}` was inserted when the dictionary had `n` entries, so it sits at
index `n` (nothing is ever removed); same for `x{n}`. -/
structure Res.WF (r : Res) : Prop where
  sPos : ∀ i k d, r.extG[i]? = some (k, d) → ∀ n, k = GKey.s n → n = i
  xPos : ∀ i k v, r.xobj[i]? = some (k, v) → ∀ n, k = XKey.x n → n = i
  gNodup : (r.extG.map (·.1)).Nodup
  xNodup : (r.xobj.map (·.1)).Nodup

theorem hasG_iff (r : Res) (k : GKey) : r.hasG k = true ↔ k ∈ r.extG.map (·.1) := by
  simp [Res.hasG, List.any_eq_true]

theorem hasX_iff (r : Res) (k : XKey) : r.hasX k = true ↔ k ∈ r.xobj.map (·.1) := by
  simp [Res.hasX, List.any_eq_true]

/-! Keys generated from the length of an insertion-ordered dictionary (`l` is `extG` or `xobj`, `key` is `.s` or `.x`) -/

/-- A key generated from position `n` sits at position `n`. -/
def KeyPos {κ β} (key : Nat → κ) (l : List (κ × β)) : Prop := ∀ i k d, l[i]? = some (k, d) → ∀ n, k = key n → n = i

/-- **Freshness**: the key about to be generated is not in the dictionary. -/
theorem KeyPos.fresh {κ β} {key : Nat → κ} {l : List (κ × β)} (h : KeyPos key l) : key l.length ∉ l.map (·.1) := by
  intro hc
  obtain ⟨⟨k, d⟩, hm, hk⟩ := List.mem_map.mp hc
  obtain ⟨i, hi, hget⟩ := List.getElem_of_mem hm
  have := h i k d (by rw [List.getElem?_eq_getElem hi, hget]) l.length hk
  omega

/-- Appending a key that is either not a generated one or the next generated one. -/
theorem KeyPos.append {κ β} {key : Nat → κ} {l : List (κ × β)} (h : KeyPos key l) (k : κ) (v : β)
    (hk : ∀ n, k = key n → n = l.length) : KeyPos key (l ++ [(k, v)]) := by
  intro i k' d' hget n hn
  rcases List.getElem?_concat_eq_some hget with h1 | ⟨h1, h2⟩
  · exact h i k' d' h1 n hn
  · cases h2; rw [h1]; exact hk n hn

theorem nodup_keys_append {κ β} {l : List (κ × β)} (h : (l.map (·.1)).Nodup) (k : κ) (v : β)
    (habs : k ∉ l.map (·.1)) : ((l ++ [(k, v)]).map (·.1)).Nodup := by
  rw [List.map_append, List.nodup_append]
  refine ⟨h, by simp, fun a ha b hb e => habs ?_⟩
  have hb' : b = k := by simpa using hb
  rw [← hb', ← e]; exact ha

theorem fresh_s (r : Res) (h : r.WF) : r.hasG (.s r.extG.length) = false :=
  Bool.eq_false_iff.mpr fun hc => KeyPos.fresh (key := GKey.s) h.sPos ((hasG_iff _ _).mp hc)

theorem fresh_x (r : Res) (h : r.WF) : r.hasX (.x r.xobj.length) = false :=
  Bool.eq_false_iff.mpr fun hc => KeyPos.fresh (key := XKey.x) h.xPos ((hasX_iff _ _).mp hc)

theorem wf_empty : ({} : Res).WF := ⟨by simp, by simp, by simp, by simp⟩

/-- Adding a key that is absent, which is either an alpha key or the next `s{len}` key, keeps the invariant. -/
theorem Res.WF.addG {r : Res} (h : r.WF) (k : GKey) (d : ExtG) (habs : r.hasG k = false)
    (hk : ∀ n, k = .s n → n = r.extG.length) : (r.addG k d).WF :=
  ⟨KeyPos.append (key := GKey.s) h.sPos k d hk, h.xPos,
    nodup_keys_append h.gNodup k d (fun hm => Bool.eq_false_iff.mp habs ((hasG_iff r k).mpr hm)), h.xNodup⟩

theorem Res.WF.ensureG_alpha {r : Res} (h : r.WF) (k : GKey) (d : ExtG) (hk : ∀ n, k ≠ .s n) : (r.ensureG k d).WF := by
  unfold Res.ensureG
  split
  · exact h
  · rename_i hn
    exact h.addG k d (by simpa using hn) (fun n hn => absurd hn (hk n))

theorem Res.WF.addX {r : Res} (h : r.WF) (k : XKey) (v : Option Nat) (habs : r.hasX k = false)
    (hk : ∀ n, k = .x n → n = r.xobj.length) : ({ r with xobj := r.xobj ++ [(k, v)] } : Res).WF :=
  ⟨h.sPos, KeyPos.append (key := XKey.x) h.xPos k v hk, h.gNodup,
    nodup_keys_append h.xNodup k v (fun hm => Bool.eq_false_iff.mp habs ((hasX_iff r k).mpr hm))⟩


/-- The operator only names keys of `r` (the dictionary of the stream that emits it). -/
def opRefOK (r : Res) : Op → Prop
  | .gs k _ => r.hasG k = true
  | .Do k => r.hasX k = true
  | .sh n => n < r.shading
  | .scn _ (some p) _ => p < r.pattern.length
  | _ => True

/-- Nothing is ever removed from a resource dictionary. -/
structure Res.le (a b : Res) : Prop where
  g : ∀ k, a.hasG k = true → b.hasG k = true
  x : ∀ k, a.hasX k = true → b.hasX k = true
  sh : a.shading ≤ b.shading
  pat : a.pattern.length ≤ b.pattern.length

theorem Res.le.refl (r : Res) : r.le r := ⟨fun _ h => h, fun _ h => h, Nat.le_refl _, Nat.le_refl _⟩

theorem Res.le.trans {a b c : Res} (h1 : a.le b) (h2 : b.le c) : a.le c :=
  ⟨fun k h => h2.g k (h1.g k h), fun k h => h2.x k (h1.x k h), Nat.le_trans h1.sh h2.sh, Nat.le_trans h1.pat h2.pat⟩

theorem opRefOK.mono {a b : Res} (h : a.le b) (o : Op) (ho : opRefOK a o) : opRefOK b o := by
  cases o <;> simp only [opRefOK] at ho ⊢
  case gs k d => exact h.g k ho
  case Do k => exact h.x k ho
  case sh n => exact Nat.lt_of_lt_of_le ho h.sh
  case scn ops pat st =>
    cases pat with
    | none => trivial
    | some p => exact Nat.lt_of_lt_of_le ho h.pat

theorem addG_le (r : Res) (k : GKey) (d : ExtG) : r.le (r.addG k d) := by
  refine ⟨?_, fun _ h => h, Nat.le_refl _, Nat.le_refl _⟩
  intro k' h
  rw [hasG_iff] at h ⊢
  simp only [Res.addG, List.map_append, List.mem_append]
  exact Or.inl h

theorem addG_has (r : Res) (k : GKey) (d : ExtG) : (r.addG k d).hasG k = true := by
  rw [hasG_iff]; simp [Res.addG]

theorem ensureG_le (r : Res) (k : GKey) (d : ExtG) : r.le (r.ensureG k d) := by
  unfold Res.ensureG; split
  · exact Res.le.refl r
  · exact addG_le r k d

theorem ensureG_has (r : Res) (k : GKey) (d : ExtG) : (r.ensureG k d).hasG k = true := by
  unfold Res.ensureG; split
  · assumption
  · exact addG_has r k d

/-- All operators of the stream name keys of `r`. -/
def Good (r : Res) (s : SState) : Prop := ∀ o ∈ s.rops, opRefOK r o

theorem Good.mono {a b : Res} {s : SState} (hg : Good a s) (h : a.le b) : Good b s :=
  fun o ho => opRefOK.mono h o (hg o ho)

theorem Good.emit {r : Res} {s : SState} (hg : Good r s) (o : Op) (ho : opRefOK r o) : Good r (s.emit o) := by
  intro x hx
  simp only [SState.emit, List.mem_cons] at hx
  rcases hx with rfl | hx
  · exact ho
  · exact hg x hx

theorem Good.emitAll {r : Res} {s : SState} (hg : Good r s) (os : List Op) (ho : ∀ o ∈ os, opRefOK r o) :
    Good r (s.emitAll os) := by
  induction os generalizing s with
  | nil => exact hg
  | cons o os ih =>
    exact ih (hg.emit o (ho o List.mem_cons_self)) (fun x hx => ho x (List.mem_cons_of_mem _ hx))

theorem Good.of_rops {r : Res} {s s' : SState} (hg : Good r s) (h : ∀ o ∈ s'.rops, o ∈ s.rops) : Good r s' :=
  fun o ho => hg o (h o ho)

/-- The names a caller passes must be registered in the dictionary of the stream it calls
(`draw_x_object(group.id)` after `add_group` on the same stream, `paint_shading(shading.id)`, pattern ids). -/
def Call.scoped (r : Res) : Call → Prop
  | .drawX k => r.hasX k = true
  | .paintShading n => n < r.shading
  | .setColorSpecial (some p) _ _ => p < r.pattern.length
  | _ => True

/-- Result of one stream-level step: dictionary only grows, stays well formed, all names defined. -/
structure StepOK (r : Res) (s : SState) (r' : Res) (s' : SState) : Prop where
  le : r.le r'
  wf : r.WF → r'.WF
  good : Good r s → Good r' s'

theorem StepOK.same (r : Res) (s s' : SState) (h : ∀ o ∈ s'.rops, o ∈ s.rops) : StepOK r s r s' :=
  ⟨Res.le.refl r, id, fun hg => hg.of_rops h⟩

theorem StepOK.emit (r : Res) (s : SState) (o : Op) (ho : opRefOK r o) : StepOK r s r (s.emit o) :=
  ⟨Res.le.refl r, id, fun hg => hg.emit o ho⟩

theorem StepOK.emit_of (r : Res) (s s0 : SState) (o : Op) (hr : s0.rops = s.rops) (ho : opRefOK r o) :
    StepOK r s r (s0.emit o) :=
  ⟨Res.le.refl r, id, fun hg => Good.emit (s := s0) (fun x hx => hg x (hr ▸ hx)) o ho⟩

theorem StepOK.trans {r1 r2 r3 : Res} {s1 s2 s3 : SState} (h1 : StepOK r1 s1 r2 s2) (h2 : StepOK r2 s2 r3 s3) :
    StepOK r1 s1 r3 s3 :=
  ⟨h1.le.trans h2.le, fun w => h2.wf (h1.wf w), fun g => h2.good (h1.good g)⟩

/-- A graphics-state key that is not an `s{n}` key is put in the dictionary and named by the operator emitted on a
state with the same operators (only a cache field was set). -/
theorem StepOK.ensure_emit (r : Res) (s s0 : SState) (k : GKey) (d : ExtG) (hr : s0.rops = s.rops)
    (hk : ∀ n, k ≠ .s n) : StepOK r s (r.ensureG k d) (s0.emit (.gs k d)) :=
  ⟨ensureG_le _ _ _, fun w => w.ensureG_alpha _ _ hk, fun hg =>
    Good.emit (Good.mono (s := s0) (fun o ho => hg o (hr ▸ ho)) (ensureG_le _ _ _)) _ (ensureG_has _ _ _)⟩

theorem setAlphaStroke_ok (r : Res) (s : SState) (α : Num) :
    StepOK r s (setAlphaStroke r s α).2 (setAlphaStroke r s α).1 := by
  unfold setAlphaStroke
  split
  · exact StepOK.ensure_emit r s _ _ _ rfl nofun
  · exact StepOK.same r s s (fun _ h => h)

theorem setAlphaFill_ok (r : Res) (s : SState) (α : Num) :
    StepOK r s (setAlphaFill r s α).2 (setAlphaFill r s α).1 := by
  unfold setAlphaFill
  split
  · exact StepOK.ensure_emit r s _ _ _ rfl nofun
  · exact StepOK.same r s s (fun _ h => h)

theorem alphaStrokePart_ok (r : Res) (s : SState) (α : Num) (stroke : Bool) :
    StepOK r s (alphaStrokePart r s α stroke).2 (alphaStrokePart r s α stroke).1 := by
  unfold alphaStrokePart
  split
  · exact setAlphaStroke_ok r s α
  · exact StepOK.same r s s (fun _ h => h)

theorem setAlpha_ok (r : Res) (s : SState) (α : Num) (stroke : Bool) (fill : Option Bool) :
    StepOK r s (setAlpha r s α stroke fill).2 (setAlpha r s α stroke fill).1 := by
  unfold setAlpha
  split
  · exact (alphaStrokePart_ok r s α stroke).trans (setAlphaFill_ok _ _ α)
  · exact alphaStrokePart_ok r s α stroke

theorem isColour_refOK {o : Op} (h : o.isColour = true) (r : Res) : opRefOK r o := by
  cases o with
  | scn os p st => cases p with | none => trivial | some n => cases h
  | _ => first | trivial | cases h

theorem colourOps_refOK (r : Res) (c : Colour) (stroke : Bool) : ∀ o ∈ colourOps c stroke, opRefOK r o :=
  fun o ho => isColour_refOK (colourOps_isColour c stroke o ho) r

theorem setColorOnly_ok (r : Res) (s : SState) (c : Colour) (stroke : Bool) :
    StepOK r s r (setColorOnly s c stroke) := by
  refine ⟨Res.le.refl r, id, fun hg => ?_⟩
  unfold setColorOnly
  split <;> split
  · exact hg
  · exact Good.emitAll (s := { s with colS := some c.key }) hg _ (colourOps_refOK r c stroke)
  · exact hg
  · exact Good.emitAll (s := { s with colF := some c.key }) hg _ (colourOps_refOK r c stroke)

theorem setColor_ok (r : Res) (s : SState) (c : Colour) (stroke : Bool) :
    StepOK r s (setColor r s c stroke).2 (setColor r s c stroke).1 := by
  unfold setColor
  exact (setAlpha_ok r s c.alpha stroke none).trans (setColorOnly_ok _ _ c stroke)

theorem setState_ok (r : Res) (s : SState) (d : ExtG) : StepOK r s (setState r s d).2 (setState r s d).1 := by
  unfold setState
  refine ⟨addG_le _ _ _, fun w => w.addG _ _ (fresh_s r w) (by intro n h; cases h; rfl), fun hg => ?_⟩
  exact Good.emit (Good.mono hg (addG_le _ _ _)) _ (addG_has _ _ _)


theorem softMaskState_ok (r : Res) (s : SState) :
    StepOK r s (softMaskState r s).2 (softMaskState r s).1 := by
  have h := setState_ok r s softMaskDict
  exact ⟨h.le, h.wf, fun hg => (h.good hg).of_rops (fun _ ho => ho)⟩

theorem popOps_sub (s : SState) : ∀ o ∈ (popOps s).rops, o ∈ s.rops ∨ o = .Q := by
  unfold popOps
  split
  · rename_i rest heq
    intro o ho; left; rw [heq]; exact List.mem_cons_of_mem _ ho
  · intro o ho
    simp only [SState.emit, List.mem_cons] at ho
    rcases ho with rfl | ho
    · right; rfl
    · left; exact ho

theorem beginText_sub (s : SState) : ∀ o ∈ (beginText s).rops, o ∈ s.rops ∨ o = .BT := by
  unfold beginText
  split
  · rename_i rest heq
    intro o ho; left; rw [heq]; exact List.mem_cons_of_mem _ ho
  · intro o ho
    simp only [SState.emit, List.mem_cons] at ho
    rcases ho with rfl | ho
    · right; rfl
    · left; exact ho

theorem good_of_sub {r : Res} {s s' : SState} (hg : Good r s) (o0 : Op) (h0 : opRefOK r o0)
    (h : ∀ o ∈ s'.rops, o ∈ s.rops ∨ o = o0) : Good r s' := by
  intro o ho
  rcases h o ho with h1 | rfl
  · exact hg o h1
  · exact h0

theorem beginMarked_good {r : Res} {s : SState} (hg : Good r s) (et : String) (mcid : Bool) (tag : Option String) :
    Good r (beginMarked s et mcid tag) := by
  unfold beginMarked
  split
  · exact hg
  · split
    · exact Good.emitAll (s := { s with marked := resolveTag et tag :: s.marked }) hg _
        (by intro o ho; simp at ho; rcases ho with rfl | rfl | rfl <;> simp [opRefOK])
    · exact Good.emitAll hg _ (by intro o ho; simp at ho; rcases ho with rfl | rfl <;> simp [opRefOK])

/-- **One call**: the dictionary only grows, generated keys stay fresh and unique, and every name used by an operator
of the stream is a key of its dictionary — provided the caller passes registered names (`Call.scoped`). -/
theorem stepS_ok (r : Res) (s : SState) (c : Call) (s' : SState) (r' : Res) (hsc : c.scoped r)
    (h : stepS r s c = .ok (s', r')) : StepOK r s r' s' := by
  cases c with
  | push =>
    obtain ⟨top, rest, _, rfl, rfl⟩ := stepS_push_ok h
    exact StepOK.emit_of r s _ .q rfl trivial
  | pop =>
    obtain ⟨a, b, rest, _, rfl, rfl⟩ := stepS_pop_ok h
    exact ⟨Res.le.refl r, id, fun hg => good_of_sub hg .Q trivial (popOps_sub s)⟩
  | transform a b c d e f =>
    obtain ⟨top, rest, _, rfl, rfl⟩ := stepS_transform_ok h
    exact StepOK.emit_of r s _ (.cm a b c d e f) rfl trivial
  | beginText =>
    cases h
    exact ⟨Res.le.refl r, id, fun hg => good_of_sub hg .BT trivial (beginText_sub s)⟩
  | endText =>
    cases h
    exact StepOK.emit_of r s { s with oldFont := s.font, font := none } .ET rfl trivial
  | setColor col stroke => obtain ⟨rfl, rfl⟩ := ok_pair_inv h; exact setColor_ok r s col stroke
  | setFont f sz =>
    obtain ⟨rfl, ⟨_, rfl⟩ | ⟨_, rfl⟩⟩ := stepS_setFont_ok h
    · exact StepOK.same r s s (fun _ h => h)
    · exact StepOK.emit_of r s { s with font := some (f, sz.val) } (.Tf f sz) rfl trivial
  | setAlpha α stroke fill => obtain ⟨rfl, rfl⟩ := ok_pair_inv h; exact setAlpha_ok r s α stroke fill
  | setState d => obtain ⟨rfl, rfl⟩ := ok_pair_inv h; exact setState_ok r s d
  | softMaskState => obtain ⟨rfl, rfl⟩ := ok_pair_inv h; exact softMaskState_ok r s
  | setBlendMode mode => obtain ⟨rfl, rfl⟩ := ok_pair_inv h; exact setState_ok r s _
  | beginMarked et mcid tag =>
    cases h
    exact ⟨Res.le.refl r, id, fun hg => beginMarked_good hg et mcid tag⟩
  | endMarked =>
    obtain ⟨rfl, ⟨_, rfl⟩ | ⟨_, rfl⟩⟩ := stepS_endMarked_ok h
    · exact StepOK.same r s s (fun _ h => h)
    · exact StepOK.emit r s .EMC trivial
  | drawX k => cases h; exact StepOK.emit r s _ hsc
  | paintShading n => cases h; exact StepOK.emit r s _ hsc
  | setColorSpecial pat stroke operands =>
    cases h
    refine StepOK.emit r s (.scn operands pat stroke) ?_
    cases pat with
    | none => trivial
    | some p => exact hsc
  -- `cs` and the pass-through methods name nothing
  | _ => cases h; exact StepOK.emit r s _ trivial

end Wp.Pdf
