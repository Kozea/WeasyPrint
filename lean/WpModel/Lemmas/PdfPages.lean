/- `pageTree` is a map over the pages; `minR`; the three page boxes in closed form over `s = zoom * 3/4`. -/
import WpModel.Model.PdfPages
import WpModel.Lemmas.Basic.Rat
namespace Wp.Pdf

theorem genPages_eq (zoom : Rat) (ps : List PageGeom) (acc : List PdfPage) :
    genPages zoom ps acc = acc ++ ps.map (pdfPage zoom) := by
  induction ps generalizing acc with
  | nil => simp [genPages]
  | cons p ps ih => simp [genPages, ih]

theorem pageTree_eq (zoom : Rat) (ps : List PageGeom) : pageTree zoom ps = ps.map (pdfPage zoom) := by
  simp [pageTree, genPages_eq]

theorem minR_le_right (a b : Rat) : minR a b ≤ b := by
  unfold minR; split
  · assumption
  · exact Rat.le_refl

theorem minR_nonneg (a b : Rat) (ha : 0 ≤ a) (hb : 0 ≤ b) : 0 ≤ minR a b := by
  unfold minR; split <;> assumption

theorem minR_mul_left (z a b : Rat) (hz : 0 ≤ z) : minR (z * a) (z * b) = z * minR a b := by
  unfold minR
  rw [← Rat.min_def, ← Rat.min_def]
  exact Rat.mul_min_of_nonneg z a b hz

/-! ### The page boxes in closed form (`s` is `zoom * (3 / 4)`, `a` / `b` the bleed before / after the page) -/

theorem trim_lo (s a : Rat) : -s * a + a * s = 0 := by
  rw [Rat.neg_mul, Rat.mul_comm a s, Rat.neg_add_cancel]

theorem media_hi (s w a b : Rat) : -s * a + s * (w + a + b) = s * w + b * s := by
  rw [Rat.mul_add, ← Rat.add_assoc, Rat.mul_comm b s, Rat.mul_add, Rat.add_comm (s * w),
    ← Rat.add_assoc, Rat.neg_mul, Rat.neg_add_cancel, Rat.zero_add]

theorem trim_hi (s w a b : Rat) : -s * a + s * (w + a + b) - b * s = s * w := by
  rw [media_hi, Rat.add_sub_cancel]

/-- The TrimBox sits at the origin: the bleed added to the MediaBox corner is taken off again. -/
theorem pdfPage_trimBox (zoom : Rat) (p : PageGeom) :
    (pdfPage zoom p).trimBox = ⟨0, 0, zoom * (3 / 4) * p.width, zoom * (3 / 4) * p.height⟩ := by
  simp only [pdfPage, trim_lo, trim_hi]

theorem pdfPage_mediaBox (zoom : Rat) (p : PageGeom) :
    (pdfPage zoom p).mediaBox = ⟨-(p.bleedLeft * (zoom * (3 / 4))), -(p.bleedTop * (zoom * (3 / 4))),
      zoom * (3 / 4) * p.width + p.bleedRight * (zoom * (3 / 4)),
      zoom * (3 / 4) * p.height + p.bleedBottom * (zoom * (3 / 4))⟩ := by
  simp only [pdfPage]
  rw [media_hi, media_hi, Rat.neg_mul, Rat.neg_mul, Rat.mul_comm _ p.bleedLeft, Rat.mul_comm _ p.bleedTop]

theorem pdfPage_bleedBox (zoom : Rat) (p : PageGeom) :
    (pdfPage zoom p).bleedBox = ⟨-minR (10 * zoom) (p.bleedLeft * (zoom * (3 / 4))),
      -minR (10 * zoom) (p.bleedTop * (zoom * (3 / 4))),
      zoom * (3 / 4) * p.width + minR (10 * zoom) (p.bleedRight * (zoom * (3 / 4))),
      zoom * (3 / 4) * p.height + minR (10 * zoom) (p.bleedBottom * (zoom * (3 / 4)))⟩ := by
  simp only [pdfPage]
  rw [trim_lo, trim_lo, trim_hi, trim_hi, Rat.sub_eq_add_neg, Rat.sub_eq_add_neg, Rat.zero_add, Rat.zero_add]

end Wp.Pdf
