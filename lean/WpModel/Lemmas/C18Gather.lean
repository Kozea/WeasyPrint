/-
Helper lemmas for C18: `gather_anchors` over a whole box tree is a left fold of the per-box body over
the pre-order list of boxes (each with the matrix in force).  Core Lean only.
-/
import WpModel.Model.Anchors
import WpModel.Lemmas.KeepFirst

namespace Wp.C18
open Wp Wp.Anchors Wp.KeepFirst

/-- What the body of `gather_anchors` reads from one box, with the matrix in force for it. -/
structure Visit where
  kind : Kind
  hx : Rat
  hy : Rat
  hw : Rat
  hh : Rat
  label : String
  level : Option Int
  state : String
  link : Option (String × String)
  att : Bool
  anchor : Option String
  m : Option Matrix

def Visit.run (v : Visit) (acc : Acc) : Acc :=
  visit v.kind v.hx v.hy v.hw v.hh v.label v.level v.state v.link v.att v.anchor v.m acc

mutual
/-- The boxes of a tree in document (pre-)order, each with the accumulated transformation matrix. -/
def preorder : GBox → Option Matrix → List Visit
  | .mk kind transform ox oy bx bY bw bh hx hy hw hh label level state link att anchor kids, parent =>
    let m := matrixFor kind transform ox oy bx bY bw bh parent
    ⟨kind, hx, hy, hw, hh, label, level, state, link, att, anchor, m⟩ :: preorderList kids m
def preorderList : List GBox → Option Matrix → List Visit
  | [], _ => []
  | b :: rest, m => preorder b m ++ preorderList rest m
end

mutual
theorem gather_fold : ∀ (b : GBox) (m : Option Matrix) (acc : Acc),
    gather b m acc = (preorder b m).foldl (fun a v => v.run a) acc
  | .mk kind transform ox oy bx bY bw bh hx hy hw hh label level state link att anchor kids, m, acc => by
    simp only [gather, preorder, List.foldl_cons, Visit.run]
    exact gatherList_fold kids _ _
theorem gatherList_fold : ∀ (bs : List GBox) (m : Option Matrix) (acc : Acc),
    gatherList bs m acc = (preorderList bs m).foldl (fun a v => v.run a) acc
  | [], _, _ => rfl
  | b :: rest, m, acc => by
    simp only [gatherList, preorderList, List.foldl_append]
    rw [gather_fold b m acc]
    exact gatherList_fold rest m _
end

/-- The link entry a box contributes, if any. -/
def Visit.linkEntry (v : Visit) : Option Link :=
  if hasLink v.kind v.link then
    match v.link with
    | some (ty, target) =>
      some ⟨if ty == "external" && v.att then "attachment" else ty, target, rectangleAabb v.m v.hx v.hy v.hw v.hh⟩
    | none => none
  else none

theorem Visit.linkEntry_rect {v : Visit} {l : Link} (h : v.linkEntry = some l) :
    l.rect = rectangleAabb v.m v.hx v.hy v.hw v.hh := by
  revert h
  fun_cases Visit.linkEntry v <;> rintro ⟨⟩
  rfl

/-- A box contributes a link entry exactly when it carries a link and is neither a text nor a line box. -/
theorem Visit.linkEntry_isSome (v : Visit) : v.linkEntry.isSome = hasLink v.kind v.link := by
  unfold Visit.linkEntry
  split
  · rename_i h
    cases hl : v.link with
    | none => simp [hasLink, hl] at h
    | some p => simpa [hl] using h.symm
  · rename_i h; simp [h]

/-- The bookmark a box contributes, if any. -/
def Visit.bookmarkEntry (v : Visit) : Option Bookmark :=
  if hasBookmark v.label v.level then
    match v.level with
    | some l => some ⟨l, v.label, (bookmarkPos v.m v.hx v.hy).1, (bookmarkPos v.m v.hx v.hy).2, v.state⟩
    | none => none
  else none

/-- The anchor a box carries (its name and where it points), whether or not it is the first. -/
def Visit.anchorEntry (v : Visit) : Option AnchorEntry :=
  match v.anchor with
  | none => none
  | some n =>
    if n != "" then
      let p1 := bookmarkPos v.m v.hx v.hy
      let p2 := bookmarkPos v.m (v.hx + v.hw) (v.hy + v.hh)
      some ⟨n, ⟨p1.1, p1.2, p2.1, p2.2⟩⟩
    else none

/-- Keep the first entry of each name. -/
def addFirst : List AnchorEntry → List AnchorEntry → List AnchorEntry
  | [], acc => acc
  | a :: rest, acc => if hasName a.name acc then addFirst rest acc else addFirst rest (acc ++ [a])

/-! Each of the three steps of the body touches one container only. -/

theorem anchorStep_frame (anchor : Option String) (m : Option Matrix) (pos : Rat × Rat) (hw hh : Rat) (a : Acc) :
    (anchorStep anchor m pos hw hh a).links = a.links ∧ (anchorStep anchor m pos hw hh a).bookmarks = a.bookmarks := by
  fun_cases anchorStep anchor m pos hw hh a <;> exact ⟨rfl, rfl⟩

theorem bookmarkStep_frame (label : String) (level : Option Int) (state : String) (pos : Rat × Rat) (a : Acc) :
    (bookmarkStep label level state pos a).links = a.links ∧
      (bookmarkStep label level state pos a).anchors = a.anchors := by
  fun_cases bookmarkStep label level state pos a <;> exact ⟨rfl, rfl⟩

theorem linkStep_frame (kind : Kind) (hx hy hw hh : Rat) (link : Option (String × String)) (att : Bool)
    (m : Option Matrix) (a : Acc) :
    (linkStep kind hx hy hw hh link att m a).bookmarks = a.bookmarks ∧
      (linkStep kind hx hy hw hh link att m a).anchors = a.anchors := by
  fun_cases linkStep kind hx hy hw hh link att m a <;> exact ⟨rfl, rfl⟩

theorem run_links (v : Visit) (acc : Acc) : (v.run acc).links = acc.links ++ v.linkEntry.toList := by
  unfold Visit.run visit
  rw [(anchorStep_frame ..).1, (bookmarkStep_frame ..).1]
  unfold linkStep Visit.linkEntry
  split
  · split <;> simp [*]
  · simp

theorem run_bookmarks (v : Visit) (acc : Acc) :
    (v.run acc).bookmarks = acc.bookmarks ++ v.bookmarkEntry.toList := by
  unfold Visit.run visit
  rw [(anchorStep_frame ..).2]
  unfold bookmarkStep Visit.bookmarkEntry
  split
  · split <;> simp [*, (linkStep_frame ..).1]
  · simp [(linkStep_frame ..).1]

theorem run_anchors (v : Visit) (acc : Acc) :
    (v.run acc).anchors = addFirst v.anchorEntry.toList acc.anchors := by
  have h : (bookmarkStep v.label v.level v.state (bookmarkPos v.m v.hx v.hy)
      (linkStep v.kind v.hx v.hy v.hw v.hh v.link v.att v.m acc)).anchors = acc.anchors :=
    (bookmarkStep_frame ..).2.trans (linkStep_frame ..).2
  unfold Visit.run visit anchorStep Visit.anchorEntry
  simp only [h, hasAnchor]
  cases hv : v.anchor with
  | none => simp [addFirst, h]
  | some n =>
    simp only []
    by_cases hn : (n != "") = true
    · simp only [hn, Bool.true_and, if_true, Option.toList_some, addFirst]
      by_cases hh : hasName n acc.anchors = true
      · simp [hh, h]
      · have hh' : hasName n acc.anchors = false := by simpa using hh
        simp only [hh', Bool.not_false, if_true, Bool.false_eq_true, if_false]
        cases v.m <;> rfl
    · have hn' : (n != "") = false := by simpa using hn
      simp [hn', addFirst, h]

/-- A field to which each box appends at most one entry collects, over the boxes in order, the entries they have. -/
theorem fold_field {β} (π : Acc → List β) (e : Visit → Option β) (h : ∀ v a, π (v.run a) = π a ++ (e v).toList)
    (vs : List Visit) (acc : Acc) : π (vs.foldl (fun a v => v.run a) acc) = π acc ++ vs.filterMap e := by
  induction vs generalizing acc with
  | nil => simp
  | cons v vs ih =>
    simp only [List.foldl_cons, ih, h, List.filterMap_cons, List.append_assoc]
    cases e v <;> simp

theorem fold_anchors (vs : List Visit) (acc : Acc) :
    (vs.foldl (fun a v => v.run a) acc).anchors = addFirst (vs.filterMap Visit.anchorEntry) acc.anchors := by
  induction vs generalizing acc with
  | nil => simp [addFirst]
  | cons v vs ih =>
    simp only [List.foldl_cons, ih, run_anchors, List.filterMap_cons]
    cases v.anchorEntry with
    | none => simp [addFirst]
    | some a => simp only [Option.toList_some, addFirst]; split <;> rfl

theorem hasName_contains (n : String) (l : List AnchorEntry) : hasName n l = (l.map (·.name)).contains n := by
  induction l with
  | nil => rfl
  | cons a l ih => simp only [hasName, List.map_cons, List.contains_cons, ih, @BEq.comm _ _ _ a.name n]

theorem hasName_mem (n : String) (l : List AnchorEntry) : hasName n l = true ↔ n ∈ l.map (·.name) := by
  rw [hasName_contains]; exact List.contains_iff_mem

/-- `gather_anchors` keeps, behind what it has, the first new entry of each name. -/
theorem addFirst_eq (xs : List AnchorEntry) : ∀ acc,
    addFirst xs acc = acc ++ firsts (·.name) xs (acc.map (·.name)) := by
  induction xs with
  | nil => intro acc; simp [addFirst, firsts]
  | cons a xs ih =>
    intro acc
    simp only [addFirst, firsts, hasName_contains]
    split
    · exact ih acc
    · rw [ih]; simp

theorem addFirst_append (xs ys acc : List AnchorEntry) :
    addFirst (xs ++ ys) acc = addFirst ys (addFirst xs acc) := by
  simp only [addFirst_eq, firsts_append, List.map_append, List.append_assoc]

theorem addFirst_nodup (xs acc : List AnchorEntry) (h : (acc.map (·.name)).Nodup) :
    ((addFirst xs acc).map (·.name)).Nodup := by
  rw [addFirst_eq, List.map_append, List.nodup_append]
  exact ⟨h, firsts_nodup _ xs _, fun a ha b hb e => ((mem_firsts_keys _ xs _ b).mp hb).2 (e ▸ ha)⟩

theorem addFirst_first (xs acc : List AnchorEntry) (n : String) (hn : hasName n acc = false) :
    (addFirst xs acc).find? (fun a => a.name == n) = xs.find? (fun a => a.name == n) := by
  have hn' : n ∉ acc.map (·.name) := fun h => by rw [(hasName_mem n acc).mpr h] at hn; cases hn
  -- nothing in `acc` has the name, so the search goes on among the new entries
  have hacc : acc.find? (fun a => a.name == n) = none :=
    List.find?_eq_none.mpr fun a ha he => hn' (eq_of_beq he ▸ List.mem_map_of_mem ha)
  rw [addFirst_eq, List.find?_append, hacc, firsts_find _ xs _ n hn']; rfl

end Wp.C18
