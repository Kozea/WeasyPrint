/-
Lemmas for C09 (the property theorems are in Props/C09.lean).
Everything is about `Model/Pango.lean` (the assumed fixed-pitch Pango) and `Model/LineBreak.lean`.
Core Lean only (no Mathlib).
-/
import WpModel.Model.LineBreak
import WpModel.Lemmas.LineIter
import WpModel.Lemmas.Basic.Except
import WpModel.Lemmas.Basic.Rat

namespace Wp.C09L
open Wp Wp.Py Wp.Pango Wp.LB Wp.LineIter

theorem layout_wrap_eq_text_wrap (w : WS) : w.layoutWrap = w.textWrap := by cases w <;> decide
theorem physical_align_values (a : Align) :
    Gen.LineBreak.physicalAlignValues.contains a.css = true ↔ (a = .left ∨ a = .right) := by
  cases a <;> decide
theorem ratio_pos : 0 < Gen.LineBreak.ratio := by decide
theorem newline_keep_ge_one : 1 ≤ Gen.LineBreak.newlineKeep := by decide

/-- the break opportunities Pango considers inside the paragraph -/
def opportunities (wc : Bool) (P : Text) : List Nat := (List.range P.length).filter (canBreakAt wc P)

/-- the paragraph end fits (with the end discount) -/
def endFits (fs : Rat) (P : Text) (endDiscount : Bool) (W : Rat) : Prop :=
  (P.length : Rat) * fs + (if P[P.length - 1]? == some ' ' && endDiscount then -fs else 0) ≤ W

theorem mem_opportunities {wc : Bool} {P : Text} {q : Nat} :
    q ∈ opportunities wc P ↔ q < P.length ∧ canBreakAt wc P q = true := by
  simp [opportunities, List.mem_filter, List.mem_range]

theorem opportunity_pos {wc : Bool} {P : Text} {q : Nat} (h : canBreakAt wc P q = true) : 0 < q := by
  simp [canBreakAt] at h; exact h.1

theorem opportunities_sorted (wc : Bool) (P : Text) : List.Pairwise (· < ·) (opportunities wc P) :=
  List.pairwise_lt_range.filter _

theorem firstBreak_eq (fs : Rat) (hy wc : Bool) (P : Text) (ed : Bool) (W : Rat) :
    firstBreak fs hy wc P ed (some W) =
      if P.length = 0 then 0 else
      if (P.length : Rat) * fs + (if P[P.length - 1]? == some ' ' && ed then -fs else 0) ≤ W then P.length else
      match ((opportunities wc P).filter (fitsAt fs hy wc P W)).getLast? with
      | some q => q
      | none => match (opportunities wc P).head? with
        | some q => q
        | none => P.length := rfl

theorem firstBreak_cases (fs : Rat) (hy wc : Bool) (P : Text) (ed : Bool) (W : Rat) (p : Nat)
    (hp0 : firstBreak fs hy wc P ed (some W) = p) :
    (p = P.length ∧ (P = [] ∨ endFits fs P ed W)) ∨
    (¬ endFits fs P ed W ∧ p ∈ opportunities wc P ∧ fitsAt fs hy wc P W p = true ∧
        ∀ q ∈ opportunities wc P, p < q → fitsAt fs hy wc P W q = false) ∨
    (¬ endFits fs P ed W ∧ (∀ q ∈ opportunities wc P, fitsAt fs hy wc P W q = false) ∧
        (opportunities wc P).head? = some p) ∨
    (¬ endFits fs P ed W ∧ opportunities wc P = [] ∧ p = P.length) := by
  rw [firstBreak_eq] at hp0
  by_cases h0 : P.length = 0
  · left; simp [h0] at hp0; exact ⟨by omega, Or.inl (List.length_eq_zero_iff.mp h0)⟩
  · by_cases hfit : endFits fs P ed W
    · left
      refine ⟨?_, Or.inr hfit⟩
      unfold endFits at hfit
      simp only [h0, if_false, hfit, if_true] at hp0
      exact hp0.symm
    · right
      have hp : p = (match ((opportunities wc P).filter (fitsAt fs hy wc P W)).getLast? with
          | some q => q
          | none => match (opportunities wc P).head? with
            | some q => q
            | none => P.length) := by
        unfold endFits at hfit
        simp only [h0, if_false, hfit] at hp0
        exact hp0.symm
      cases hl : ((opportunities wc P).filter (fitsAt fs hy wc P W)).getLast? with
      | some q =>
        left
        rw [hl] at hp; simp only at hp
        refine ⟨hfit, ?_⟩
        rw [hp]
        have hmem := List.mem_of_getLast? hl
        rw [List.mem_filter] at hmem
        refine ⟨hmem.1, hmem.2, ?_⟩
        intro r hr hlt
        obtain ⟨ys, hys⟩ := List.getLast?_eq_some_iff.mp hl
        cases hfr : fitsAt fs hy wc P W r with
        | false => rfl
        | true =>
          exfalso
          have hrmem : r ∈ (opportunities wc P).filter (fitsAt fs hy wc P W) := List.mem_filter.mpr ⟨hr, hfr⟩
          have hpw := (opportunities_sorted wc P).filter (fitsAt fs hy wc P W)
          rw [hys] at hrmem hpw
          rw [List.pairwise_append] at hpw
          rcases List.mem_append.mp hrmem with h1 | h1
          · have := hpw.2.2 r h1 q (by simp)
            omega
          · simp at h1; omega
      | none =>
        right
        rw [hl] at hp; simp only at hp
        have hnone : ∀ q ∈ opportunities wc P, fitsAt fs hy wc P W q = false := by
          intro q hq
          cases hfq : fitsAt fs hy wc P W q with
          | false => rfl
          | true =>
            have hm : q ∈ (opportunities wc P).filter (fitsAt fs hy wc P W) := List.mem_filter.mpr ⟨hq, hfq⟩
            rw [List.getLast?_eq_none_iff.mp hl] at hm
            cases hm
        cases hh : (opportunities wc P).head? with
        | some q =>
          left
          rw [hh] at hp; simp only at hp
          exact ⟨hfit, hnone, by rw [hp]⟩
        | none =>
          right
          rw [hh] at hp; simp only at hp
          exact ⟨hfit, List.head?_eq_none_iff.mp hh, hp⟩

theorem head_le_of_mem {l : List Nat} (hs : List.Pairwise (· < ·) l) {p q : Nat}
    (hh : l.head? = some p) (hq : q ∈ l) : p ≤ q := by
  obtain ⟨ys, rfl⟩ := List.head?_eq_some_iff.mp hh
  rcases List.mem_cons.mp hq with h | h
  · omega
  · have := (List.pairwise_cons.mp hs).1 q h; omega

theorem firstBreak_none (fs : Rat) (hy wc : Bool) (P : Text) (ed : Bool) :
    firstBreak fs hy wc P ed none = P.length := rfl

theorem firstBreak_end_or_mem (fs : Rat) (hy wc : Bool) (P : Text) (ed : Bool) (W : Option Rat) :
    firstBreak fs hy wc P ed W = P.length ∨ firstBreak fs hy wc P ed W ∈ opportunities wc P := by
  cases W with
  | none => exact .inl rfl
  | some W =>
    rcases firstBreak_cases fs hy wc P ed W _ rfl with h | h | h | h
    · exact .inl h.1
    · exact .inr h.2.1
    · exact .inr (List.mem_of_head? h.2.2)
    · exact .inl h.2.2

theorem firstBreak_le (fs : Rat) (hy wc : Bool) (P : Text) (ed : Bool) (W : Option Rat) :
    firstBreak fs hy wc P ed W ≤ P.length := by
  rcases firstBreak_end_or_mem fs hy wc P ed W with h | h
  · omega
  · exact Nat.le_of_lt (mem_opportunities.mp h).1

theorem firstBreak_pos (fs : Rat) (hy wc : Bool) (P : Text) (ed : Bool) (W : Option Rat) (hP : P ≠ []) :
    0 < firstBreak fs hy wc P ed W := by
  rcases firstBreak_end_or_mem fs hy wc P ed W with h | h
  · rw [h]; exact List.length_pos_iff.mpr hP
  · exact opportunity_pos (mem_opportunities.mp h).2

theorem firstBreak_at_opportunity (fs : Rat) (hy wc : Bool) (P : Text) (ed : Bool) (W : Option Rat) :
    firstBreak fs hy wc P ed W = P.length ∨
      canBreakAt wc P (firstBreak fs hy wc P ed W) = true :=
  (firstBreak_end_or_mem fs hy wc P ed W).imp_right fun h => (mem_opportunities.mp h).2

theorem firstBreak_maximal (fs : Rat) (hy wc : Bool) (P : Text) (ed : Bool) (W : Rat) :
    let p := firstBreak fs hy wc P ed (some W)
    (∀ q ∈ opportunities wc P, p < q → fitsAt fs hy wc P W q = false) ∧
      (p < P.length → ¬ endFits fs P ed W) := by
  intro p
  rcases firstBreak_cases fs hy wc P ed W p rfl with h | h | h | h
  · refine ⟨?_, by omega⟩
    intro q hq hlt; have := (mem_opportunities.mp hq).1; omega
  · exact ⟨h.2.2.2, fun _ => h.1⟩
  · exact ⟨fun q hq _ => h.2.1 q hq, fun _ => h.1⟩
  · refine ⟨?_, fun _ => h.1⟩
    intro q hq; rw [h.2.1] at hq; cases hq

theorem firstBreak_of_endFits {fs : Rat} {hy wc : Bool} {P : Text} {ed : Bool} {W : Rat} (h : endFits fs P ed W) :
    firstBreak fs hy wc P ed (some W) = P.length :=
  Nat.le_antisymm (firstBreak_le ..) (Nat.not_lt.mp fun hlt => (firstBreak_maximal fs hy wc P ed W).2 hlt h)

theorem paraOf_length_le (T : Text) : (paraOf T).length ≤ T.length := by
  unfold paraOf; split <;> simp [List.length_take]; omega

theorem paraOf_of_find_none {T : Text} (h : find T '\n' = none) : paraOf T = T := by
  unfold paraOf; rw [h]

/-- the two outcomes of `get_first_line`: Pango wraps inside the first paragraph, or the line is that paragraph -/
theorem firstLine_cases (fs : Rat) (lay : Layout) :
    let P := paraOf lay.text
    let p := firstBreak fs lay.hyph lay.wrapChar P ((find lay.text '\n').isNone || lay.wrapChar) lay.width
    (p < P.length ∧ firstLine fs lay =
        { length := p, resume := some p, width := (p : Rat) * fs + breakExtra fs lay.hyph lay.wrapChar P p }) ∨
    (p = P.length ∧ firstLine fs lay =
        { length := P.length, resume := (find lay.text '\n').map (· + 1), width := (P.length : Rat) * fs }) := by
  intro P p
  by_cases h : p < P.length
  · exact Or.inl ⟨h, if_pos h⟩
  · exact Or.inr ⟨Nat.le_antisymm (firstBreak_le ..) (Nat.not_lt.mp h), if_neg h⟩

/-- … on a layout text without newline: the paragraph is the text, its end is a break opportunity, and a
second line exists only where Pango wrapped -/
theorem firstLine_noNl (fs : Rat) (lay : Layout) (hnl : find lay.text '\n' = none) :
    let p := firstBreak fs lay.hyph lay.wrapChar lay.text true lay.width
    (p < lay.text.length ∧ firstLine fs lay =
        { length := p, resume := some p, width := (p : Rat) * fs + breakExtra fs lay.hyph lay.wrapChar lay.text p }) ∨
    (p = lay.text.length ∧ firstLine fs lay =
        { length := lay.text.length, resume := none, width := (lay.text.length : Rat) * fs }) := by
  have := firstLine_cases fs lay
  rwa [hnl, paraOf_of_find_none hnl] at this

theorem firstLine_no_width (fs : Rat) (lay : Layout) (hw : lay.width = none) :
    firstLine fs lay = { length := (paraOf lay.text).length, resume := (find lay.text '\n').map (· + 1),
                         width := ((paraOf lay.text).length : Rat) * fs } := by
  rcases firstLine_cases fs lay with ⟨hlt, _⟩ | ⟨_, e⟩
  · rw [hw] at hlt; exact absurd hlt (Nat.lt_irrefl _)
  · exact e

theorem firstLine_unlimited (fs : Rat) (T : Text) (wc hy : Bool) :
    firstLine fs { text := T, width := none, wrapChar := wc, hyph := hy } =
      { length := (paraOf T).length, resume := (find T '\n').map (· + 1), width := ((paraOf T).length : Rat) * fs } :=
  firstLine_no_width fs _ rfl

/-- the code's `assert resume_index != 0` -/
theorem firstLine_resume_pos (fs : Rat) (lay : Layout) (i : Nat)
    (h : (firstLine fs lay).resume = some i) : 0 < i := by
  rcases firstLine_cases fs lay with ⟨hlt, e⟩ | ⟨_, e⟩ <;> rw [e] at h
  · cases h
    exact firstBreak_pos _ _ _ _ _ _ fun hP => by rw [hP] at hlt; cases hlt
  · cases hnl : find lay.text '\n' with
    | none => rw [hnl] at h; cases h
    | some j => rw [hnl] at h; cases h; exact Nat.succ_pos _

theorem firstLine_length_le (fs : Rat) (lay : Layout) : (firstLine fs lay).length ≤ lay.text.length := by
  rcases firstLine_cases fs lay with ⟨hlt, e⟩ | ⟨_, e⟩ <;> rw [e]
  · exact Nat.le_trans (Nat.le_of_lt hlt) (paraOf_length_le _)
  · exact paraOf_length_le _

theorem find_get {t : Text} {c : Char} {i : Nat} (h : find t c = some i) : t[i]? = some c := by
  unfold find at h
  have h1 := List.findIdx?_eq_some_iff_getElem.mp h
  obtain ⟨hlt, hp, _⟩ := h1
  rw [List.getElem?_eq_getElem hlt]
  simp only [beq_iff_eq] at hp
  rw [hp]

theorem find_some_lt {t : Text} {c : Char} {i : Nat} (h : find t c = some i) : i < t.length :=
  (List.getElem?_eq_some_iff.mp (find_get h)).1

theorem truncNl_eq_nil {t : Text} (h : truncNl t = []) : t = [] := by
  unfold truncNl at h
  split at h
  · exact h
  · rename_i i hi
    have := find_some_lt hi
    cases t with
    | nil => rfl
    | cons a as => simp [Gen.LineBreak.newlineKeep] at h

theorem firstLine_empty (fs : Rat) (lay : Layout)
    (hr : (firstLine fs lay).resume = none) (hl : (firstLine fs lay).length = 0) : lay.text = [] := by
  rcases firstLine_cases fs lay with ⟨_, e⟩ | ⟨_, e⟩ <;> rw [e] at hr hl
  · cases hr
  · rw [paraOf_of_find_none (Option.map_eq_none_iff.mp hr)] at hl
    exact List.length_eq_zero_iff.mp hl

theorem flm_resume (fs : Rat) (line : Line) (text : Text) (lay : Layout) (ra : Option Nat) (c : Bool) :
    (firstLineMetrics fs line text lay ra c).resume = ra := by
  unfold firstLineMetrics
  split
  · split <;> rfl
  · rfl

theorem step5Resume_ne_zero (fs : Rat) (lay : Layout) (text : Text) (ht : lay.text = truncNl text) :
    step5Resume (firstLine fs lay) text ≠ some 0 := by
  unfold step5Resume
  cases hres : (firstLine fs lay).resume with
  | some i =>
    have hpos := firstLine_resume_pos _ _ _ hres
    simp only
    have : i ≠ 0 := by omega
    simp only [this, ne_eq, not_false_eq_true, if_true]
    split
    · simp
    · simp; omega
  | none =>
    simp only
    split
    · simp
    · rename_i hge
      simp only [ne_eq, Option.some.injEq]
      intro h0
      have h1 := firstLine_empty _ _ hres h0
      rw [ht] at h1
      have := truncNl_eq_nil h1
      rw [this] at hge
      simp at hge

theorem draftFull_line (st : Style) (text : Text) (m : MaxW) :
    (draftFull st text m).line = firstLine st.fs (draftFull st text m).lay := rfl

theorem logical_of_physical (a : Align) (rtl : Bool) (r : Align)
    (hr : r = if Gen.LineBreak.physicalAlignValues.contains a.css then
      (if (a == .left) != rtl then Align.start else Align.«end») else a) : r ≠ .left ∧ r ≠ .right := by
  subst hr
  split
  · split <;> exact ⟨nofun, nofun⟩
  · rename_i h
    exact ⟨fun e => h ((physical_align_values a).mpr (Or.inl e)),
      fun e => h ((physical_align_values a).mpr (Or.inr e))⟩

theorem resolveAlign_logical (s : AlignStyle) (last : Bool) :
    resolveAlign s last ≠ .left ∧ resolveAlign s last ≠ .right :=
  logical_of_physical _ s.rtl _ rfl

theorem textAlign_cases (s : AlignStyle) (line : IBox) (lw avail : Rat) (last : Bool) :
    (avail ≤ lw ∧ textAlign s line lw avail last = .ok (0, line)) ∨
    (lw < avail ∧
      ((resolveAlign s last = .start ∧ textAlign s line lw avail last = .ok (0, line)) ∨
       (resolveAlign s last = .justify ∧ textAlign s line lw avail last =
          .ok (0, if s.ws.alignCollapse then justifyLine line (avail - lw) else line)) ∨
       (resolveAlign s last = .center ∧ textAlign s line lw avail last = .ok ((avail - lw) / 2, line)) ∨
       (resolveAlign s last = .«end» ∧ textAlign s line lw avail last = .ok (avail - lw, line)))) := by
  unfold textAlign
  by_cases hge : lw ≥ avail
  · exact Or.inl ⟨hge, if_pos hge⟩
  · refine Or.inr ⟨Rat.not_le.mp hge, ?_⟩
    rw [if_neg hge]
    have hl := resolveAlign_logical s last
    cases hr : resolveAlign s last with
    | left => exact absurd hr hl.1
    | right => exact absurd hr hl.2
    | start => exact Or.inl ⟨rfl, rfl⟩
    | justify => exact Or.inr (Or.inl ⟨rfl, rfl⟩)
    | center => exact Or.inr (Or.inr (Or.inl ⟨rfl, rfl⟩))
    | «end» => exact Or.inr (Or.inr (Or.inr ⟨rfl, rfl⟩))

theorem half_range {d : Rat} (h : 0 < d) : 0 ≤ d / 2 ∧ d / 2 ≤ d := by
  constructor <;> grind

theorem align_offset_range (s : AlignStyle) (line line' : IBox) (lw avail off : Rat) (last : Bool)
    (h : textAlign s line lw avail last = .ok (off, line')) :
    (lw ≥ avail → off = 0) ∧ (lw < avail → 0 ≤ off ∧ off ≤ avail - lw) := by
  rcases textAlign_cases s line lw avail last with ⟨hge, e⟩ | ⟨hlt, hc⟩
  · rw [e] at h; cases h
    exact ⟨fun _ => rfl, fun hlt => absurd hge (Rat.not_le.mpr hlt)⟩
  · have hd : 0 < avail - lw := by grind
    refine ⟨fun hge => absurd hge (Rat.not_le.mpr hlt), fun _ => ?_⟩
    rcases hc with ⟨_, e⟩ | ⟨_, e⟩ | ⟨_, e⟩ | ⟨_, e⟩ <;> rw [e] at h <;> cases h
    · exact ⟨Rat.le_refl, Rat.le_of_lt hd⟩
    · exact ⟨Rat.le_refl, Rat.le_of_lt hd⟩
    · exact half_range hd
    · exact ⟨Rat.le_of_lt hd, Rat.le_refl⟩

theorem countSpaces_of_not_inFlow (b : IBox) (h : b.inFlow = false) : countSpaces b = 0 := by
  cases b <;> simp_all [IBox.inFlow, countSpaces]

mutual
theorem aws_adv (js : Rat) : ∀ (b : IBox) (adv : Rat),
    (addWordSpacing js b adv).2 = adv + js * (countSpaces b : Rat)
  | .text x w s, adv => by
    unfold addWordSpacing countSpaces
    split
    · rfl
    · have : s = 0 := by omega
      subst this; grind
  | .inl x w rtl kids, adv => by
    unfold addWordSpacing countSpaces
    cases rtl
    · simp only [Bool.false_eq_true, if_false]
      exact awsL_adv js kids adv
    · simp only [if_true]
      exact awsR_adv js kids adv
  | .atom x f kids, adv => by
    unfold addWordSpacing countSpaces; grind
theorem awsL_adv (js : Rat) : ∀ (l : List IBox) (adv : Rat),
    (addWordSpacingL js l adv).2 = adv + js * (countSpacesL l : Rat)
  | [], adv => by unfold addWordSpacingL countSpacesL; grind
  | b :: bs, adv => by
    unfold addWordSpacingL countSpacesL
    split
    · simp only
      rw [awsL_adv js bs, aws_adv js b]
      grind
    · rename_i hf
      simp only
      rw [awsL_adv js bs, countSpaces_of_not_inFlow b (by simpa using hf)]
      grind
theorem awsR_adv (js : Rat) : ∀ (l : List IBox) (adv : Rat),
    (addWordSpacingR js l adv).2 = adv + js * (countSpacesL l : Rat)
  | [], adv => by unfold addWordSpacingR countSpacesL; grind
  | b :: bs, adv => by
    unfold addWordSpacingR countSpacesL
    simp only
    split
    · simp only
      rw [aws_adv js b, awsR_adv js bs]
      grind
    · rename_i hf
      simp only
      rw [awsR_adv js bs, countSpaces_of_not_inFlow b (by simpa using hf)]
      grind
end

def IBox.width : IBox → Rat
  | .text _ w _ => w
  | .inl _ w _ _ => w
  | .atom _ _ _ => 0

theorem justifyLine_no_space (line : IBox) (extra : Rat) (hs : countSpaces line = 0) :
    justifyLine line extra = line := by
  unfold justifyLine; simp [hs]

/-- lines stacked from `y`: each line starts where the previous one ends -/
def Stacked : Rat → List OutLine → Prop
  | _, [] => True
  | y, l :: ls => l.y = y ∧ Stacked (l.y + l.h) ls

theorem emptyLine_y (p : Para) (lineX y : Rat) (s : TextSplit) (l : OutLine)
    (h : emptyLine p lineX y s = .ok l) : l.y = y ∧ l.resume = s.resume ∧ (l.h = 0 ∨ l.h = p.lineHeight) := by
  unfold emptyLine at h
  split at h
  · cases h; exact ⟨rfl, rfl, Or.inl rfl⟩
  · obtain ⟨_, _, h⟩ := Except.map_eq_ok h
    cases h; exact ⟨rfl, rfl, Or.inr rfl⟩

theorem textLine_y (p : Para) (lineX posX y : Rat) (s : TextSplit) (c : Child) (l : OutLine)
    (h : textLine p lineX posX y s c = .ok l) : l.y = y ∧ l.resume = s.resume ∧ l.h = p.lineHeight := by
  unfold textLine at h
  obtain ⟨_, _, h⟩ := Except.bind_eq_ok h
  obtain ⟨_, _, h⟩ := Except.bind_eq_ok h
  split at h
  · cases h; exact ⟨rfl, rfl, rfl⟩
  · cases h

/-- a `resume_at` of `split_text_box` comes from `split_first_line` on the rest of the text; what lies between
the line and the next one is a preserved line break when the flag is set, spaces otherwise -/
theorem splitTextBox_resume {st : Style} {text : Text} {avail : MaxW} {skip : Nat} {ils : Bool} {s : TextSplit} {q : Nat}
    (h : splitTextBox st text avail skip ils = .ok s) (hr : s.resume = some q) :
    ∃ r ri, splitFirstLine st (text.drop skip) avail ils false = .ok r ∧ r.resume = some ri ∧ 0 < ri ∧ q = ri + skip ∧
      (s.preserved = true → isLineBreakText (((text.drop skip).take ri).drop r.length) = true) ∧
      (s.preserved = false → (((text.drop skip).take ri).drop r.length).all (· == ' ') = true) := by
  revert h
  fun_cases splitTextBox st text avail skip ils <;> intro h
  · cases h; cases hr
  obtain ⟨r, hsf, h⟩ := Except.bind_eq_ok h
  simp only at h
  split at h
  · cases h
  · rename_i hne
    split at h
    · cases h; cases hr
    · rename_i ri hri
      split at h
      · cases h
      · rename_i hchk
        cases h
        cases hr
        refine ⟨r, ri, hsf, hri, Nat.pos_of_ne_zero fun h0 => hne (h0 ▸ hri), rfl, fun hp => ?_, fun hp => ?_⟩
        · simp only at hp; rw [hp] at hchk; simpa using hchk
        · -- not preserved: the line ends where the next one starts, or only spaces lie between
          rcases Bool.and_eq_false_iff.mp hp with hl | hany
          · have : r.length = ri := by simpa using hl
            rw [this, List.drop_take_self]; rfl
          · simpa using hany

theorem splitTextBox_resume_gt (st : Style) (text : Text) (avail : MaxW) (skip : Nat) (ils : Bool)
    (s : TextSplit) (r : Nat) (h : splitTextBox st text avail skip ils = .ok s) (hr : s.resume = some r) :
    skip < r := by
  obtain ⟨_, ri, _, _, hpos, hq, _⟩ := splitTextBox_resume h hr
  omega

theorem skipFirstWhitespace_ge (ws : WS) (text : Text) (i j : Nat)
    (h : skipFirstWhitespace ws text i = some j) : i ≤ j := by
  revert h
  fun_cases skipFirstWhitespace ws text i <;> intro h <;> cases h <;> omega

theorem splitTextBox_beyond (st : Style) (text : Text) (avail : MaxW) (skip : Nat) (ils : Bool)
    (s : TextSplit) (hs : text.length ≤ skip) (h : splitTextBox st text avail skip ils = .ok s) :
    s.resume = none := by
  unfold splitTextBox at h
  simp only at h
  have : List.drop skip text = [] := List.drop_eq_nil_iff.mpr hs
  rw [if_pos (Or.inr this)] at h
  cases h; rfl

/-- `split_text_box` called where `skip_first_whitespace` stopped: its `resume_at` is strictly beyond the offset
the skipping started from, and there is none once that offset is beyond the text -/
theorem splitTextBox_after_skip {ws : WS} {st : Style} {text : Text} {i index : Nat} {avail : MaxW} {ils : Bool}
    {s : TextSplit} (hidx : skipFirstWhitespace ws text i = some index)
    (hs : splitTextBox st text avail index ils = .ok s) :
    (∀ r, s.resume = some r → i < r) ∧ (text.length < i → s.resume = none) := by
  have := skipFirstWhitespace_ge _ _ _ _ hidx
  exact ⟨fun r hr => Nat.lt_of_le_of_lt this (splitTextBox_resume_gt _ _ _ _ _ s r hs hr),
    fun h => splitTextBox_beyond _ _ _ _ _ s (by omega) hs⟩

/-- a line of `get_next_linebox` comes from `split_text_box` at the offset after the skipped spaces: it is at
`y`, resumes where the split does, and is a phantom box or one line-height high -/
theorem nextLine_ok {p : Para} {skip : Option Nat} {y : Rat} {first : Bool} {l : OutLine}
    (h : nextLine p skip y first = .ok (some l)) :
    ∃ index avail s, skipFirstWhitespace p.st.ws p.text (skip.getD 0) = some index ∧
      splitTextBox p.st p.text avail index true = .ok s ∧
      l.y = y ∧ l.resume = s.resume ∧ (l.h = 0 ∨ l.h = p.lineHeight) := by
  unfold nextLine at h
  split at h
  · cases h
  · rename_i index hidx
    obtain ⟨s, hs, h⟩ := Except.bind_eq_ok h
    obtain ⟨l', hl', h⟩ := Except.map_eq_ok h
    cases h
    refine ⟨index, _, s, hidx, hs, ?_⟩
    split at hl'
    · exact emptyLine_y _ _ _ _ _ hl'
    · have := textLine_y _ _ _ _ _ _ _ hl'
      exact ⟨this.1, this.2.1, Or.inr this.2.2⟩

theorem nextLine_spec (p : Para) (skip : Option Nat) (y : Rat) (first : Bool) (l : OutLine)
    (h : nextLine p skip y first = .ok (some l)) :
    l.y = y ∧ (l.h = 0 ∨ l.h = p.lineHeight) ∧ ∀ r, l.resume = some r → skip.getD 0 < r := by
  obtain ⟨index, _, s, hidx, hs, hy, hres, hh⟩ := nextLine_ok h
  exact ⟨hy, hh, hres ▸ (splitTextBox_after_skip hidx hs).1⟩

theorem nextLine_beyond (p : Para) (skip : Option Nat) (y : Rat) (first : Bool) (l : OutLine)
    (hs : p.text.length < skip.getD 0) (h : nextLine p skip y first = .ok (some l)) : l.resume = none := by
  obtain ⟨index, _, s, hidx, hs', _, hres, _⟩ := nextLine_ok h
  exact hres ▸ (splitTextBox_after_skip hidx hs').2 hs

theorem iterLines_eq (p : Para) :
    ∀ fuel, iterLines p fuel = iter (nextLine p) (·.resume) (fun l => l.y + l.h) fuel :=
  eq_iter (fun _ _ _ => rfl) fun fuel skip y first => by
    simp only [iterLines, round]
    rcases nextLine p skip y first with e | _ | l <;> try rfl
    dsimp only
    cases l.resume <;> rfl

theorem iterLines_lines (p : Para) (fuel : Nat) (skip : Option Nat) (y : Rat) (first : Bool)
    (ls : List OutLine) (h : iterLines p fuel skip y first = some (.ok ls)) :
      Stacked y ls ∧ ∀ l ∈ ls, l.h = 0 ∨ l.h = p.lineHeight := by
  rw [iterLines_eq] at h
  exact ⟨iter_rule (C := Stacked) (fun _ => trivial)
      (fun skip y first l _ hn ih => ⟨(nextLine_spec p skip y first l hn).1, ih⟩) h,
    iter_forall (fun skip y first l hn => (nextLine_spec p skip y first l hn).2.1) h⟩

theorem iterLines_fuel (p : Para) (fuel : Nat) (skip : Option Nat) (y : Rat) (first : Bool)
    (h1 : 1 ≤ fuel) (h2 : p.text.length + 2 ≤ fuel + skip.getD 0) : iterLines p fuel skip y first ≠ none := by
  rw [iterLines_eq]
  exact iter_fuel (fun s => s.getD 0) p.text.length
    (fun skip y first l r hn hr => (nextLine_spec p skip y first l hn).2.2 r hr)
    (fun skip y first l hs hn => nextLine_beyond p skip y first l hs hn) y first h1 h2

/-- The fuel of `paragraph` never runs out: a `.recursion` error can only be one the loop itself returned. -/
theorem paragraph_terminates (p : Para) (s : String) : paragraph p ≠ .error (.recursion s) ∨
    ∃ e, iterLines p (p.text.length + 2) none p.y true = some (.error e) := by
  unfold paragraph
  have := iterLines_fuel p (p.text.length + 2) none p.y true (by omega) (by simp)
  cases h : iterLines p (p.text.length + 2) none p.y true with
  | none => exact absurd h this
  | some r =>
    cases r with
    | error e => right; exact ⟨e, rfl⟩
    | ok ls => left; simp

theorem truncNl_prefix (t : Text) : truncNl t <+: t := by
  unfold truncNl; split
  · exact List.prefix_refl _
  · exact List.take_prefix _ _

theorem paraOf_prefix (T : Text) : paraOf T <+: T := by
  unfold paraOf; split
  · exact List.prefix_refl _
  · exact List.take_prefix _ _

theorem rstripSp_prefix (t : Text) : rstripSp t <+: t := by
  unfold rstripSp
  have := List.dropWhile_suffix (l := t.reverse) (· == ' ')
  have := List.IsSuffix.reverse this
  simpa using this

theorem sliceTo_prefix {α} (t : List α) (b : Option Int) : sliceTo t b <+: t := by
  unfold sliceTo
  split
  · exact List.prefix_refl _
  · split <;> exact List.take_prefix _ _

theorem sliceToNat_prefix {α} (t : List α) (b : Option Nat) : sliceToNat t b <+: t := by
  unfold sliceToNat
  split
  · exact List.prefix_refl _
  · exact List.take_prefix _ _

theorem take_prefix_of_prefix {α} {a b : List α} (n : Nat) (h : a <+: b) : a.take n <+: b :=
  (List.take_prefix n a).trans h

theorem flm_prefix (fs : Rat) (line : Line) (text : Text) (lay : Layout) (ra : Option Nat) (c : Bool)
    (hl : lay.text <+: text) :
    ((firstLineMetrics fs line text lay ra c).text.take (firstLineMetrics fs line text lay ra c).length) <+: text := by
  unfold firstLineMetrics
  split
  · split
    · simp only
      apply take_prefix_of_prefix
      simp only [Layout.setText]
      refine (truncNl_prefix _).trans ?_
      split
      · exact (rstripSp_prefix _).trans (List.take_prefix _ _)
      · exact List.take_prefix _ _
    · exact take_prefix_of_prefix _ hl
  · exact take_prefix_of_prefix _ hl

theorem step3Texts_append (d : Draft) (maxW : MaxW)
    (hn : ¬ (d.line.resume = none ∧ maxW.ge d.line.width = true)) :
    (step3Texts d maxW).1 ++ (step3Texts d maxW).2 = d.text := by
  unfold step3Texts
  split
  · rename_i hge
    cases hres : d.line.resume with
    | none => exact absurd ⟨hres, hge⟩ hn
    | some r => simp [sliceToNat, sliceFromNat]
  · simp

theorem shortText_prefix (heur : Bool) (fs : Rat) (text : Text) (W : Rat) : shortText heur fs text W <+: text := by
  unfold shortText
  split
  · exact List.prefix_refl _
  · split
    · split
      · exact List.take_prefix _ _
      · exact List.prefix_refl _
    · exact sliceTo_prefix _ _

/-- the two ways step 1 succeeds: the short text fits on one line and the whole text is laid out instead, or
the layout of the short text is kept — and then the text is cut to the short text exactly when a later
break point was found in it -/
theorem step1_cases {heur : Bool} {st : Style} {text : Text} {W : Rat} {d : Draft} (h : step1 heur st text W = .ok d) :
    (d = { text := text, short := text, lay := createLayout st text (.fin W),
           line := firstLine st.fs (createLayout st text (.fin W)) } ∧
      (firstLine st.fs (createLayout st (shortText heur st.fs text W) (.fin W))).resume = none ∧
      shortText heur st.fs text W ≠ text) ∨
    (d.short = shortText heur st.fs text W ∧ d.lay = createLayout st d.short (.fin W) ∧
      d.line = firstLine st.fs d.lay ∧ ¬ (d.line.resume = none ∧ d.short ≠ text) ∧
      (d.text = text ∨ (d.text = d.short ∧ sliceToNat d.short d.line.resume ≠ d.short ∧
        ∃ k, nextBreakPoint d.lay.text ((sliceToNat d.short d.line.resume).length + 1) d.short.length = .ok (some k)))) := by
  revert h
  fun_cases step1 heur st text W <;> intro h <;> try cases h
  next hc => exact Or.inl ⟨rfl, hc⟩
  next hc _ hf =>
    obtain ⟨_ | k, hbp, rfl⟩ := Except.map_eq_ok h <;> refine Or.inr ⟨rfl, rfl, rfl, hc, ?_⟩
    · exact Or.inl rfl
    · exact Or.inr ⟨rfl, hf, k, hbp⟩
  next hc _ _ => exact Or.inr ⟨rfl, rfl, rfl, hc, Or.inl rfl⟩

theorem step1_draft (heur : Bool) (st : Style) (text : Text) (W : Rat) (d : Draft)
    (h : step1 heur st text W = .ok d) :
    d.line = firstLine st.fs d.lay ∧ d.lay.text <+: d.text ∧ d.text <+: text := by
  rcases step1_cases h with ⟨rfl, _⟩ | ⟨hs, hlay, hline, _, ht⟩
  · exact ⟨rfl, truncNl_prefix _, List.prefix_refl _⟩
  · have hsp : d.short <+: text := hs ▸ shortText_prefix _ _ _ _
    have hl : d.lay.text <+: d.short := hlay ▸ truncNl_prefix _
    refine ⟨hline, ?_⟩
    rcases ht with e | ⟨e, _⟩ <;> rw [e]
    · exact ⟨hl.trans hsp, List.prefix_refl _⟩
    · exact ⟨hl, hsp⟩

theorem draftFull_prefix (st : Style) (text : Text) (m : MaxW) :
    (draftFull st text m).lay.text <+: (draftFull st text m).text := by
  simp only [draftFull, createLayout]; exact truncNl_prefix _

/-! ### every result of `split_first_line` is a `first_line_metrics`

of a line, for a next-line offset other than 0 and a layout whose text is a prefix of the text -/

theorem step5_flm (st : Style) (text : Text) (maxW : MaxW) (a b : Bool) (lay : Layout) (line : Line)
    (ri : Option Nat) (hri : ri ≠ some 0) (hl : lay.text <+: text) :
    ∃ line' lay' ra, step5 st text maxW a b lay line ri = firstLineMetrics st.fs line' text lay' ra st.ws.spaceCollapse ∧
      ra ≠ some 0 ∧ lay'.text <+: text := by
  unfold step5
  split
  · split
    · exact ⟨_, _, _, rfl, step5Resume_ne_zero _ _ _ rfl, truncNl_prefix _⟩
    · exact ⟨_, _, _, rfl, hri, hl⟩
  · exact ⟨_, _, _, rfl, hri, hl⟩

theorem step3Try_flm (st : Style) (d : Draft) (maxW : MaxW) (a b : Bool) (flt nw : Text) (c : Char)
    (hd : d.line = firstLine st.fs d.lay) (hl : d.lay.text <+: d.text) (hnew : flt ++ nw <+: d.text) :
    ∃ line lay ra, step3Try st d maxW a b flt nw c = firstLineMetrics st.fs line d.text lay ra st.ws.spaceCollapse ∧
      ra ≠ some 0 ∧ lay.text <+: d.text := by
  have hset : (d.lay.setText (flt ++ nw)).text <+: d.text := (truncNl_prefix _).trans hnew
  fun_cases step3Try st d maxW a b flt nw c
  · exact ⟨_, _, _, rfl, by simp, hset⟩
  · exact step5_flm _ _ _ _ _ _ _ _ (by split <;> simp) hset
  next hres =>
    have := firstLine_resume_pos _ _ _ hres
    exact step5_flm _ _ _ _ _ _ _ _ (by intro e; rw [Option.some.inj e] at this; exact Nat.lt_irrefl 0 this) hset
  · exact step5_flm _ _ _ _ _ _ _ _ (fun e => Nat.lt_irrefl 0 (firstLine_resume_pos _ _ _ (hd ▸ e))) hl

theorem finish_flm (st : Style) (d : Draft) (maxW : MaxW) (a b : Bool) (r : Res)
    (hd : d.line = firstLine st.fs d.lay) (hl : d.lay.text <+: d.text) (h : finish st d maxW a b = .ok r) :
    ∃ line lay ra, r = firstLineMetrics st.fs line d.text lay ra st.ws.spaceCollapse ∧ ra ≠ some 0 ∧
      lay.text <+: d.text := by
  have hline : d.line.resume ≠ some 0 := fun e => Nat.lt_irrefl 0 (firstLine_resume_pos _ _ _ (hd ▸ e))
  revert h
  fun_cases finish st d maxW a b <;> intro h
  case case3 _ hn =>
    unfold step3 at h
    obtain ⟨bp, _, h⟩ := Except.bind_eq_ok h
    simp only at h
    split at h
    · split at h
      · obtain ⟨c, _, h⟩ := Except.map_eq_ok h
        rw [← h]
        apply step3Try_flm _ _ _ _ _ _ _ _ hd hl
        -- the next word is taken from the second line, and the two lines make up the text
        have := (List.prefix_append_right_inj (step3Texts d maxW).1).mpr
          ((rstripSp_prefix _).trans (sliceTo_prefix (step3Texts d maxW).2 bp))
        rwa [step3Texts_append d maxW hn] at this
      · cases h; exact step5_flm _ _ _ _ _ _ _ _ hline hl
    · split at h
      · cases h; exact ⟨_, _, _, rfl, hline, hl⟩
      · cases h; exact step5_flm _ _ _ _ _ _ _ _ hline hl
  all_goals cases h; exact ⟨_, _, _, rfl, hline, hl⟩

theorem splitFirstLineH_flm (heur : Bool) (st : Style) (text : Text) (maxWidth : MaxW) (a b : Bool) (r : Res)
    (h : splitFirstLineH heur st text maxWidth a b = .ok r) :
    ∃ t line lay ra, r = firstLineMetrics st.fs line t lay ra st.ws.spaceCollapse ∧ ra ≠ some 0 ∧
      lay.text <+: t ∧ t <+: text := by
  unfold splitFirstLineH at h
  obtain ⟨d, hd, h⟩ := Except.bind_eq_ok h
  have : d.line = firstLine st.fs d.lay ∧ d.lay.text <+: d.text ∧ d.text <+: text := by
    split at hd
    · split at hd
      · exact step1_draft _ _ _ _ _ hd
      · cases hd; exact ⟨rfl, draftFull_prefix _ _ _, List.prefix_refl _⟩
    · cases hd; exact ⟨rfl, draftFull_prefix _ _ _, List.prefix_refl _⟩
  obtain ⟨line, lay, ra, hr, hra, hlay⟩ := finish_flm st d _ a b r this.1 this.2.1 h
  exact ⟨_, line, lay, ra, hr, hra, hlay, this.2.2⟩

theorem canBreakAt_take (wc : Bool) (P : Text) {q k : Nat} (h : q < k) :
    canBreakAt wc (P.take k) q = canBreakAt wc P q := by
  unfold canBreakAt
  rw [List.getElem?_take_of_lt h, List.getElem?_take_of_lt (by omega : q - 1 < k)]

theorem breakExtra_take (fs : Rat) (hy wc : Bool) (P : Text) {q k : Nat} (h : q < k) :
    breakExtra fs hy wc (P.take k) q = breakExtra fs hy wc P q := by
  unfold breakExtra
  rw [List.getElem?_take_of_lt h, List.getElem?_take_of_lt (by omega : q - 1 < k)]

theorem fitsAt_take (fs : Rat) (hy wc : Bool) (P : Text) (W : Rat) {q k : Nat} (h : q < k) :
    fitsAt fs hy wc (P.take k) W q = fitsAt fs hy wc P W q := by
  unfold fitsAt; rw [breakExtra_take fs hy wc P h]

theorem mem_opportunities_take (wc : Bool) (P : Text) {q k : Nat} (hk : k ≤ P.length) (h : q < k) :
    q ∈ opportunities wc (P.take k) ↔ q ∈ opportunities wc P := by
  rw [mem_opportunities, mem_opportunities, canBreakAt_take wc P h, List.length_take]
  constructor
  · intro ⟨_, h2⟩; exact ⟨by omega, h2⟩
  · intro ⟨_, h2⟩; exact ⟨by omega, h2⟩

theorem ite_nonneg {c : Prop} [Decidable c] {a : Rat} (h : 0 ≤ a) : 0 ≤ if c then a else 0 := by
  split
  · exact h
  · exact Rat.le_refl

theorem breakExtra_of_space {fs : Rat} {hy wc : Bool} {P : Text} {q : Nat} (h : P[q - 1]? = some ' ') :
    breakExtra fs hy wc P q = -fs := by
  unfold breakExtra
  rw [h, if_pos (beq_self_eq_true _)]

theorem breakExtra_nonneg {fs : Rat} (hfs : 0 ≤ fs) (hy wc : Bool) {P : Text} {q : Nat} (h : P[q - 1]? ≠ some ' ') :
    0 ≤ breakExtra fs hy wc P q := by
  unfold breakExtra
  rw [if_neg (by simpa using h)]
  exact ite_nonneg hfs

theorem breakExtra_ge {fs : Rat} (hfs : 0 ≤ fs) (hy wc : Bool) (P : Text) (q : Nat) : -fs ≤ breakExtra fs hy wc P q := by
  by_cases h : P[q - 1]? = some ' '
  · rw [breakExtra_of_space h]; exact Rat.le_refl
  · exact Rat.le_trans (by grind) (breakExtra_nonneg hfs hy wc h)

theorem endCorr_bounds {fs : Rat} (hfs : 0 ≤ fs) (c : Prop) [Decidable c] :
    (if c then -fs else 0) ≤ 0 ∧ -fs ≤ (if c then -fs else (0 : Rat)) := by
  split
  · exact ⟨by grind, Rat.le_refl⟩
  · exact ⟨Rat.le_refl, by grind⟩

theorem advance_nonneg (n : Nat) {fs : Rat} (h : 0 ≤ fs) : (0 : Rat) ≤ (n : Rat) * fs :=
  Rat.mul_nonneg (by exact_mod_cast Nat.zero_le n) h

theorem cast_mul_le {a b : Nat} {fs : Rat} (hfs : 0 ≤ fs) (h : a ≤ b) : (a : Rat) * fs ≤ (b : Rat) * fs := by
  have : (a : Rat) ≤ (b : Rat) := by exact_mod_cast h
  exact Rat.mul_le_mul_of_nonneg_right this hfs

theorem cast_succ_mul_le {k n : Nat} {fs : Rat} (hfs : 0 ≤ fs) (h : k < n) : (k : Rat) * fs + fs ≤ (n : Rat) * fs := by
  have h1 : ((k + 1 : Nat) : Rat) * fs ≤ (n : Rat) * fs := cast_mul_le hfs h
  rw [Rat.natCast_add, Rat.add_mul] at h1
  simpa using h1

/-- `k` characters with a non-positive end correction are not wider than `n ≥ k` characters with a
correction `e ≥ -fs`, as soon as the corrections compare when `n = k` -/
theorem prefix_width_le {k n : Nat} {fs x e : Rat} (hfs : 0 ≤ fs) (hkn : k ≤ n) (hx : x ≤ 0) (he : -fs ≤ e)
    (hxe : n = k → x ≤ e) : (k : Rat) * fs + x ≤ (n : Rat) * fs + e := by
  rcases Nat.eq_or_lt_of_le hkn with h | h
  · rw [← h]; exact Rat.add_le_add_left.mpr (hxe h.symm)
  · have := cast_succ_mul_le hfs h
    grind

theorem endFits_take (fs : Rat) (P : Text) (W : Rat) {k : Nat} (hk : k ≤ P.length) (hk0 : 0 < k) :
    endFits fs (P.take k) true W ↔ (k : Rat) * fs + (if P[k - 1]? == some ' ' then -fs else 0) ≤ W := by
  unfold endFits
  rw [List.length_take, Nat.min_eq_left hk, List.getElem?_take_of_lt (by omega : k - 1 < k), Bool.and_true]

/-- a break that fits leaves room for every shorter prefix taken as a whole paragraph -/
theorem endFits_take_of_fitsAt {fs : Rat} (hfs : 0 ≤ fs) {hy wc : Bool} {P : Text} {W : Rat} {k q : Nat}
    (hk : k ≤ P.length) (hk0 : 0 < k) (hkq : k ≤ q) (hf : fitsAt fs hy wc P W q = true) :
    endFits fs (P.take k) true W := by
  rw [endFits_take fs P W hk hk0]
  unfold fitsAt at hf
  refine Rat.le_trans ?_ (of_decide_eq_true hf)
  apply prefix_width_le hfs hkq (endCorr_bounds hfs _).1 (breakExtra_ge hfs hy wc P q)
  intro hqk
  subst hqk
  split
  · rename_i hsp
    rw [breakExtra_of_space (by simpa using hsp)]; exact Rat.le_refl
  · rename_i hsp
    exact breakExtra_nonneg hfs hy wc (by simpa using hsp)

/-- … and so does a paragraph that fits as a whole -/
theorem endFits_take_of_endFits {fs : Rat} (hfs : 0 ≤ fs) {P : Text} {ed : Bool} {W : Rat} {k : Nat}
    (hk : k ≤ P.length) (hk0 : 0 < k) (hf : endFits fs P ed W) : endFits fs (P.take k) true W := by
  rw [endFits_take fs P W hk hk0]
  unfold endFits at hf
  refine Rat.le_trans ?_ hf
  apply prefix_width_le hfs hk (endCorr_bounds hfs _).1 (endCorr_bounds hfs _).2
  intro hn
  rw [hn]
  cases ed
  · rw [Bool.and_false]; exact (endCorr_bounds hfs _).1
  · rw [Bool.and_true]; exact Rat.le_refl

theorem firstBreak_prefix_stable (fs : Rat) (hfs : 0 ≤ fs) (hy wc : Bool) (P : Text) (ed : Bool) (W : Rat)
    (k : Nat) (hk : k ≤ P.length)
    (hwrap : firstBreak fs hy wc (P.take k) true (some W) < k) :
    firstBreak fs hy wc P ed (some W) = firstBreak fs hy wc (P.take k) true (some W) := by
  have hlen : (P.take k).length = k := by simp [List.length_take]; omega
  have hk0 : 0 < k := by omega
  generalize hpS : firstBreak fs hy wc (P.take k) true (some W) = pS at hwrap ⊢
  generalize hpP : firstBreak fs hy wc P ed (some W) = pP
  have hS := firstBreak_cases fs hy wc (P.take k) true W pS hpS
  have hP := firstBreak_cases fs hy wc P ed W pP hpP
  -- the prefix is wrapped: its end does not fit
  have hnfS : ¬ endFits fs (P.take k) true W := by
    rcases hS with h | h | h | h
    · omega
    · exact h.1
    · exact h.1
    · exact h.1
  -- nothing fits at or beyond the end of the prefix, and the whole paragraph does not fit either
  have F3 : ∀ q ∈ opportunities wc P, k ≤ q → fitsAt fs hy wc P W q = false := fun q _ hkq =>
    Bool.eq_false_iff.mpr fun hf => hnfS (endFits_take_of_fitsAt hfs hk hk0 hkq hf)
  have hnfP : ¬ endFits fs P ed W := fun hf => hnfS (endFits_take_of_endFits hfs hk hk0 hf)
  have hP1 : ¬ (P = [] ∨ endFits fs P ed W) := by
    intro hh
    rcases hh with hh | hh
    · subst hh; simp at hk; omega
    · exact hnfP hh
  have F1 : ∀ q, q < k → (q ∈ opportunities wc (P.take k) ↔ q ∈ opportunities wc P) :=
    fun q hq => mem_opportunities_take wc P hk hq
  have F2 : ∀ q, q < k → fitsAt fs hy wc (P.take k) W q = fitsAt fs hy wc P W q :=
    fun q hq => fitsAt_take fs hy wc P W hq
  rcases hS with h | h | h | h
  · omega
  · -- the prefix line ends at a fitting opportunity, maximal among the prefix's
    have hpSmem : pS ∈ opportunities wc P := (F1 pS hwrap).mp h.2.1
    have hpSfit : fitsAt fs hy wc P W pS = true := by rw [← F2 pS hwrap]; exact h.2.2.1
    have hmax : ∀ q ∈ opportunities wc P, pS < q → fitsAt fs hy wc P W q = false := by
      intro q hq hlt
      by_cases hqk : q < k
      · rw [← F2 q hqk]; exact h.2.2.2 q ((F1 q hqk).mpr hq) hlt
      · exact F3 q hq (by omega)
    rcases hP with g | g | g | g
    · exact absurd g.2 hP1
    · rcases Nat.lt_trichotomy pP pS with lt | eq | gt
      · have := g.2.2.2 pS hpSmem lt; rw [hpSfit] at this; cases this
      · exact eq
      · have := hmax pP g.2.1 gt; rw [g.2.2.1] at this; cases this
    · have := g.2.1 pS hpSmem; rw [hpSfit] at this; cases this
    · rw [g.2.1] at hpSmem; cases hpSmem
  · -- nothing fits in the prefix: its line is the first unit
    have hpSmemS : pS ∈ opportunities wc (P.take k) := List.mem_of_head? h.2.2
    have hpSlt : pS < k := by have := (mem_opportunities.mp hpSmemS).1; omega
    have hpSmem : pS ∈ opportunities wc P := (F1 pS hpSlt).mp hpSmemS
    have hnone : ∀ q ∈ opportunities wc P, fitsAt fs hy wc P W q = false := by
      intro q hq
      by_cases hqk : q < k
      · rw [← F2 q hqk]; exact h.2.1 q ((F1 q hqk).mpr hq)
      · exact F3 q hq (by omega)
    rcases hP with g | g | g | g
    · exact absurd g.2 hP1
    · have := hnone pP g.2.1; rw [g.2.2.1] at this; cases this
    · have h1 : pP ≤ pS := head_le_of_mem (opportunities_sorted wc P) g.2.2 hpSmem
      have hpPmem : pP ∈ opportunities wc (P.take k) := (F1 pP (by omega)).mpr (List.mem_of_head? g.2.2)
      have h2 : pS ≤ pP := head_le_of_mem (opportunities_sorted wc _) h.2.2 hpPmem
      omega
    · rw [g.2.1] at hpSmem; cases hpSmem
  · omega

theorem find_take (t : Text) (k : Nat) (c : Char) :
    find (t.take k) c = (find t c).bind (Option.guard fun j => decide (j < k)) := by
  unfold find; exact List.findIdx?_take

theorem find_truncNl (t : Text) : find (truncNl t) '\n' = find t '\n' := by
  unfold truncNl
  cases h : find t '\n' with
  | none => simp [h]
  | some i =>
    simp only
    rw [find_take, h]
    simp [Option.guard, Gen.LineBreak.newlineKeep]

theorem paraOf_truncNl (t : Text) : paraOf (truncNl t) = paraOf t := by
  unfold paraOf
  rw [find_truncNl]
  cases h : find t '\n' with
  | none => simp [truncNl, h]
  | some i =>
    simp only [truncNl, h, List.take_take, Gen.LineBreak.newlineKeep]
    congr 1; omega

theorem createLayout_setText (st : Style) (a b : Text) (m : MaxW) :
    (createLayout st a m).setText b = createLayout st b m := rfl

theorem paraOf_take_of_find_none {t : Text} {k : Nat} (h : find (t.take k) '\n' = none) (hk : k ≤ t.length) :
    ∃ j, k ≤ j ∧ j ≤ t.length ∧ paraOf t = t.take j := by
  rw [find_take] at h
  unfold paraOf
  cases hf : find t '\n' with
  | none => exact ⟨t.length, hk, Nat.le_refl _, by simp⟩
  | some i =>
    rw [hf] at h
    simp [Option.guard] at h
    exact ⟨i, h, Nat.le_of_lt (find_some_lt hf), rfl⟩

/-- **Why step 1 may hand Pango a prefix**: a prefix of the text that Pango wraps (its first line has a
successor) gets the first line of the whole text. -/
theorem firstLine_of_wrapped_prefix (fs : Rat) (lay : Layout) {short text : Text} (hfs : 0 ≤ fs) (hpre : short <+: text)
    (hres : (firstLine fs (lay.setText short)).resume ≠ none) :
    firstLine fs (lay.setText short) = firstLine fs (lay.setText text) := by
  have hk : short = text.take short.length := List.prefix_iff_eq_take.mp hpre
  have hklen : short.length ≤ text.length := hpre.length_le
  unfold firstLine
  simp only [Layout.setText] at hres ⊢
  simp only [find_truncNl, paraOf_truncNl]
  cases hfS : find short '\n' with
  | some i =>
    -- the newline is inside the prefix: same first paragraph
    have hfT : find text '\n' = some i := by
      rw [hk, find_take] at hfS
      cases hft : find text '\n' with
      | none => rw [hft] at hfS; simp at hfS
      | some j => rw [hft] at hfS; simp [Option.guard] at hfS; rw [hfS.2]
    have hi : i < short.length := find_some_lt hfS
    have hp : paraOf short = paraOf text := by
      unfold paraOf; rw [hfS, hfT]; simp only
      rw [hk, List.take_take]; congr 1; omega
    rw [hfT, hp]
  | none =>
    -- no newline in the prefix: Pango wrapped it, so it wraps the whole paragraph there
    have hpS : paraOf short = short := paraOf_of_find_none hfS
    obtain ⟨j, hkj, hjt, hpT⟩ := paraOf_take_of_find_none (t := text) (k := short.length) (by rw [← hk]; exact hfS) hklen
    have hshort : short = (paraOf text).take short.length := by
      rw [hpT, List.take_take, Nat.min_eq_left hkj]; exact hk
    have hjlen : (paraOf text).length = j := by rw [hpT]; simp [List.length_take]; omega
    -- the first line of the prefix stops before its end
    have hwrapS : firstBreak fs lay.hyph lay.wrapChar short true lay.width < short.length := by
      unfold firstLine at hres
      simp only at hres
      rw [find_truncNl, paraOf_truncNl, hfS, hpS] at hres
      simp only [Option.isNone_none, Bool.true_or] at hres
      split at hres
      · assumption
      · simp at hres
    rw [hpS]
    cases hwid : lay.width with
    | none =>
      rw [hwid] at hwrapS; simp [firstBreak_none] at hwrapS
    | some w =>
      rw [hwid] at hwrapS
      have hstab := firstBreak_prefix_stable fs hfs lay.hyph lay.wrapChar (paraOf text)
        ((find text '\n').isNone || lay.wrapChar) w short.length
        (by omega) (by rw [← hshort]; exact hwrapS)
      rw [← hshort] at hstab
      simp only [Option.isNone_none, Bool.true_or]
      rw [hstab, if_pos hwrapS, if_pos (by omega)]
      congr 1
      have hbe := breakExtra_take fs lay.hyph lay.wrapChar (paraOf text) (k := short.length) hwrapS
      rw [← hshort] at hbe
      rw [hbe]

theorem step1_line_transparent (heur : Bool) (st : Style) (text : Text) (W : Rat) (hfs : 0 ≤ st.fs) (d : Draft)
    (h : step1 heur st text W = .ok d) :
    d.line = firstLine st.fs (createLayout st text (.fin W)) := by
  rcases step1_cases h with ⟨rfl, _⟩ | ⟨hS, hlay, hline, hcond, _⟩
  · rfl
  · rw [hline, hlay]
    rw [hline, hlay] at hcond
    by_cases hst : d.short = text
    · rw [hst]
    · exact firstLine_of_wrapped_prefix st.fs (createLayout st d.short (.fin W)) hfs (hS ▸ shortText_prefix _ _ _ _)
        fun hn => hcond ⟨hn, hst⟩

/-- a width that is a whole number of Pango units (1/1024 px) is kept as it is by `create_layout` -/
theorem quantize_of_units (w : Rat) (hw : 0 ≤ w) (k : Int) (hk : w * 1024 = k) : quantize w = w := by
  unfold quantize
  rw [Rat.max_eq_right hw, hk, Rat.floor_intCast, ← hk]
  grind

theorem createLayout_width_no_wrap (st : Style) (text : Text) (maxWidth : MaxW) (hw : st.ws.textWrap = false) :
    (createLayout st text maxWidth).width = none := by
  have hlw : st.ws.layoutWrap = false := by rw [layout_wrap_eq_text_wrap]; exact hw
  simp only [createLayout, hlw, Bool.false_and, Bool.false_eq_true, if_false]
  cases maxWidth <;> rfl

/-- with no width to wrap in, `split_first_line` is step 2 on the whole text -/
theorem splitFirstLineH_no_width (heur : Bool) (st : Style) (text : Text) (mw : MaxW) (a b : Bool)
    (h : st.ws.textWrap = false ∨ mw = .none) :
    splitFirstLineH heur st text mw a b =
      .ok (firstLineMetrics st.fs (firstLine st.fs (createLayout st text mw)) text (createLayout st text mw)
        (firstLine st.fs (createLayout st text mw)).resume st.ws.spaceCollapse) ∧
    (createLayout st text mw).width = none := by
  refine ⟨?_, h.elim (createLayout_width_no_wrap st text mw) fun e => e ▸ rfl⟩
  have hm : (if st.ws.textWrap = true then mw else MaxW.none) = MaxW.none := by
    rcases h with h | h
    · rw [h]; rfl
    · rw [h]; split <;> rfl
  unfold splitFirstLineH
  simp only [hm]
  rfl

theorem splitFirstLineH_single_line (heur : Bool) (st : Style) (text : Text) (mw : MaxW) (a b : Bool)
    (h : st.ws.textWrap = false ∨ mw = .none) (hnl : find text '\n' = none) :
    splitFirstLineH heur st text mw a b =
      .ok { length := text.length, resume := none, width := (text.length : Rat) * st.fs, text := text } := by
  obtain ⟨e, hwidth⟩ := splitFirstLineH_no_width heur st text mw a b h
  have htext : (createLayout st text mw).text = text := by
    simp only [createLayout, truncNl, hnl]
  rw [e, firstLine_no_width _ _ hwidth, htext, hnl, paraOf_of_find_none hnl]
  simp only [firstLineMetrics, htext, Option.map_none]

theorem no_wrap_breaks_only_at_newline (heur : Bool) (st : Style) (text : Text) (maxWidth : MaxW) (a b : Bool)
    (r : Res) (hw : st.ws.textWrap = false)
    (h : splitFirstLineH heur st text maxWidth a b = .ok r) :
    r.resume = (find text '\n').map (· + 1) := by
  obtain ⟨e, hwidth⟩ := splitFirstLineH_no_width heur st text maxWidth a b (.inl hw)
  rw [e] at h
  cases h
  rw [flm_resume, firstLine_no_width _ _ hwidth]
  exact congrArg (Option.map (· + 1)) (find_truncNl text)

/-- words separated by single spaces: no newline, no leading / trailing / double space -/
def Canonical (t : Text) : Prop :=
  (∀ c ∈ t, c ≠ '\n') ∧
  ∀ i, t[i]? = some ' ' → 0 < i ∧ t[i - 1]? ≠ some ' ' ∧ i + 1 < t.length ∧ t[i + 1]? ≠ some ' '

/-- "no newline" is spelt `∀ c ∈ t, c ≠ '\n'` where prefixes are taken (it passes to them by `IsPrefix.subset`) and
`find t '\n' = none` where the model's own test is met; this is the bridge. -/
theorem find_none_of_not_mem {t : Text} {c : Char} (h : ∀ x ∈ t, x ≠ c) : find t c = none := by
  unfold find
  rw [List.findIdx?_eq_none_iff]
  intro x hx
  simp [h x hx]

theorem Canonical.find_nl {t : Text} (h : Canonical t) : find t '\n' = none :=
  find_none_of_not_mem h.1

theorem Canonical.take_find_nl {t : Text} (h : Canonical t) (k : Nat) : find (t.take k) '\n' = none :=
  find_none_of_not_mem (fun x hx => h.1 x (List.mem_of_mem_take hx))

theorem truncNl_of_find_none {t : Text} (h : find t '\n' = none) : truncNl t = t := by
  unfold truncNl; rw [h]

theorem createLayout_text {text : Text} (hnl : ∀ c ∈ text, c ≠ '\n') (st : Style) (m : MaxW) :
    (createLayout st text m).text = text :=
  truncNl_of_find_none (find_none_of_not_mem hnl)

/-- Pango's first line for a text without newline as `create_layout` hands it over: word wrapping on the whole
text, whose end is a break opportunity -/
theorem firstLine_createLayout (st : Style) {t : Text} (hnl : ∀ c ∈ t, c ≠ '\n') (m : MaxW) :
    let lay := createLayout st t m
    let p := firstBreak st.fs lay.hyph false t true lay.width
    (p < t.length ∧ firstLine st.fs lay =
        { length := p, resume := some p, width := (p : Rat) * st.fs + breakExtra st.fs lay.hyph false t p }) ∨
    (p = t.length ∧ firstLine st.fs lay = { length := t.length, resume := none, width := (t.length : Rat) * st.fs }) := by
  have := firstLine_noNl st.fs (createLayout st t m) (by rw [createLayout_text hnl]; exact find_none_of_not_mem hnl)
  rwa [createLayout_text hnl] at this

/-- a second line exists only where Pango wrapped: it starts inside the text, where the first line ends, at the
place the search chose for the width the layout has -/
theorem createLayout_resume (st : Style) {t : Text} (hnl : ∀ c ∈ t, c ≠ '\n') (m : MaxW) {p : Nat}
    (h : (firstLine st.fs (createLayout st t m)).resume = some p) :
    p < t.length ∧ (firstLine st.fs (createLayout st t m)).length = p ∧
    ∃ W, (createLayout st t m).width = some W ∧
      firstBreak st.fs (createLayout st t m).hyph false t true (some W) = p := by
  rcases firstLine_createLayout st hnl m with ⟨hlt, e⟩ | ⟨_, e⟩ <;> rw [e] at h ⊢ <;> cases h
  refine ⟨hlt, rfl, ?_⟩
  cases hw : (createLayout st t m).width with
  | none => rw [hw] at hlt; exact absurd hlt (Nat.lt_irrefl _)
  | some W => exact ⟨W, rfl, rfl⟩

theorem createLayout_resume_of_wrap (st : Style) {t : Text} (hnl : ∀ c ∈ t, c ≠ '\n') (m : MaxW)
    (h : firstBreak st.fs (createLayout st t m).hyph false t true (createLayout st t m).width < t.length) :
    (firstLine st.fs (createLayout st t m)).resume ≠ none := by
  rcases firstLine_createLayout st hnl m with ⟨_, e⟩ | ⟨hp, _⟩
  · rw [e]; exact nofun
  · omega

/-- `first_line_metrics` with a next line: the first `line.length` characters, stripped if white space
collapses, are measured again on their own -/
theorem flm_some (fs : Rat) (line : Line) (text : Text) (lay : Layout) {r : Nat} (hr : r ≠ 0) (c : Bool) :
    firstLineMetrics fs line text lay (some r) c =
      { length := (paraOf (truncNl (if c then rstripSp (text.take line.length) else text.take line.length))).length,
        resume := some r,
        width := ((paraOf (truncNl (if c then rstripSp (text.take line.length) else text.take line.length))).length : Rat) * fs,
        text := truncNl (if c then rstripSp (text.take line.length) else text.take line.length) } := by
  unfold firstLineMetrics
  simp only [hr, ne_eq, not_false_eq_true, if_true, Layout.setText]
  rw [firstLine_unlimited]

/-- so it reads only `line.length` and that many characters -/
theorem flm_some_congr' (fs : Rat) (l1 l2 : Line) (t1 t2 : Text) (lay1 lay2 : Layout) (r : Nat) (c : Bool)
    (hr : r ≠ 0) (hl : l1.length = l2.length) (ht : t1.take l1.length = t2.take l1.length) :
    firstLineMetrics fs l1 t1 lay1 (some r) c = firstLineMetrics fs l2 t2 lay2 (some r) c := by
  rw [flm_some _ _ _ _ hr, flm_some _ _ _ _ hr, ← hl, ht]

theorem flm_some_congr (fs : Rat) (line : Line) (t1 t2 : Text) (lay1 lay2 : Layout) (r : Nat) (c : Bool)
    (hr : r ≠ 0) (ht : t1.take line.length = t2.take line.length) :
    firstLineMetrics fs line t1 lay1 (some r) c = firstLineMetrics fs line t2 lay2 (some r) c :=
  flm_some_congr' fs line line t1 t2 lay1 lay2 r c hr rfl ht

/-- `s ≤ T.length`: the C array of log attrs has `len + 1` entries. -/
theorem nextBreakPoint_ok (T : Text) (s e : Nat) (h : s ≤ T.length) :
    nextBreakPoint T s e = .ok ((List.range (e - s)).find? (fun k => isLineBreakAttr T (s + k))) := by
  unfold nextBreakPoint
  rw [if_neg (by omega)]

/-- the data the later steps work on, for a text without newline: the line is Pango's line for the whole text,
the layout holds a prefix, and the text was cut to that prefix only if a break point follows the second line's
start in it -/
structure DraftOk (st : Style) (text : Text) (w : Rat) (d : Draft) : Prop where
  line : d.line = firstLine st.fs (createLayout st text (.fin w))
  pre : d.short <+: text
  lay : d.lay = createLayout st d.short (.fin w)
  txt : d.text = text ∨ (d.text = d.short ∧ ∃ p, d.line.resume = some p ∧
        ∃ k, p + 1 + k < d.short.length ∧ isLineBreakAttr d.short (p + 1 + k) = true)
  sh : d.short = text ∨ ∃ p, d.line.resume = some p ∧ p < d.short.length

theorem step1_facts (heur : Bool) (st : Style) (text : Text) (W : Rat) (d : Draft)
    (hnl : ∀ c ∈ text, c ≠ '\n') (hfs : 0 ≤ st.fs) (h : step1 heur st text W = .ok d) : DraftOk st text W d := by
  have hline := step1_line_transparent heur st text W hfs d h
  rcases step1_cases h with ⟨rfl, _⟩ | ⟨hS, hlay, hl, hcond, ht⟩
  · exact ⟨hline, List.prefix_refl _, rfl, Or.inl rfl, Or.inl rfl⟩
  · have hpre : d.short <+: text := hS ▸ shortText_prefix _ _ _ _
    have hnlS : ∀ c ∈ d.short, c ≠ '\n' := fun x hx => hnl x (hpre.subset hx)
    have hT : d.lay.text = d.short := by rw [hlay]; exact createLayout_text hnlS st _
    -- a second line starts inside the short text
    have hres : ∀ p, d.line.resume = some p → p < d.short.length := by
      intro p hp
      rw [hl, hlay] at hp
      exact (createLayout_resume st hnlS _ hp).1
    refine ⟨hline, hpre, hlay, ?_, ?_⟩
    · rcases ht with e | ⟨e, hflt, k, hk⟩
      · exact Or.inl e
      · refine Or.inr ⟨e, ?_⟩
        cases hr : d.line.resume with
        | none => rw [hr] at hflt; exact absurd rfl hflt
        | some p =>
          have hp := hres p hr
          rw [hr, hT] at hk
          simp only [sliceToNat, List.length_take, Nat.min_eq_left (Nat.le_of_lt hp)] at hk
          rw [nextBreakPoint_ok _ _ _ (by omega)] at hk
          injection hk with hk
          obtain ⟨hbr, hlt, _⟩ := List.find?_range_eq_some.mp hk
          rw [List.mem_range] at hlt
          exact ⟨p, rfl, k, by omega, hbr⟩
    · cases hr : d.line.resume with
      | none => exact Or.inl (Decidable.byContradiction fun hne => hcond ⟨hr, hne⟩)
      | some p => exact Or.inr ⟨p, rfl, hres p hr⟩

theorem canBreakWord_normal (st : Style) (a b : Bool) (hwb : st.wb = .normal) (how : st.ow = .normal) :
    canBreakWord st a b = false := by
  unfold canBreakWord; rw [hwb, how]; cases a <;> cases b <;> decide

theorem step5_idle (st : Style) (text : Text) (maxW : MaxW) (a b : Bool) (lay : Layout) (line : Line)
    (ri : Option Nat) (hcb : canBreakWord st a b = false) :
    step5 st text maxW a b lay line ri = firstLineMetrics st.fs line text lay ri st.ws.spaceCollapse := by
  unfold step5
  simp only [hcb, Bool.false_eq_true, and_false, if_false]
  split <;> rfl

/-- the shape of `second_line_text[:break_point]` / `second_line_text[break_point or -1]` when the
next word is not empty: both are about the same offset `m` of the second line -/
theorem next_word_index (slt : Text) (b : Int) (site : String) (hbl : b < slt.length)
    (hnw : rstripSp (sliceTo slt (some b)) ≠ []) :
    ∃ m, 0 < m ∧ m < slt.length ∧ sliceTo slt (some b) = slt.take m ∧
      get slt (orInt (some b) (-1)) site = (match slt[m]? with
        | some c => .ok c
        | none => .error (.indexError site)) := by
  by_cases hpos : 0 ≤ b
  · have hb0 : b ≠ 0 := by
      intro h0; subst h0; simp [sliceTo, rstripSp] at hnw
    refine ⟨b.toNat, by omega, by omega, by simp [sliceTo, hpos], ?_⟩
    unfold Py.get orInt
    simp only [hb0, if_false, hpos, if_true]
    have : ¬ b < 0 := by omega
    simp only [this, if_false]
    cases slt[b.toNat]? <;> rfl
  · have hneg : b < 0 := by omega
    have hlen : (-b).toNat < slt.length := by
      by_cases h : (-b).toNat < slt.length
      · exact h
      · exfalso
        have : slt.length - (-b).toNat = 0 := by omega
        simp [sliceTo, hpos, this, rstripSp] at hnw
    refine ⟨slt.length - (-b).toNat, by omega, by omega, by simp [sliceTo, hpos], ?_⟩
    unfold Py.get orInt
    have hb0 : b ≠ 0 := by omega
    simp only [hb0, if_false, hpos]
    have h1 : ¬ ((slt.length : Int) + b < 0) := by omega
    simp only [h1, if_false]
    have h2 : ((slt.length : Int) + b).toNat = slt.length - (-b).toNat := by omega
    rw [h2]
    cases slt[slt.length - (-b).toNat]? <;> rfl

theorem Canonical.not_nl {t : Text} (h : Canonical t) {i : Nat} : t[i]? ≠ some '\n' := by
  intro hi
  have := List.mem_of_getElem? hi
  exact h.1 _ this rfl

theorem getElem?_of_prefix {α} {s t : List α} (h : s <+: t) {i : Nat} (hi : i < s.length) : s[i]? = t[i]? := by
  rw [List.prefix_iff_eq_take] at h
  rw [h, List.getElem?_take, if_pos hi]

/-- log attrs of a prefix of a canonical text: a line may break exactly after a space -/
theorem Canonical.isLineBreakAttr_prefix {t S : Text} (h : Canonical t) (hS : S <+: t) {i : Nat}
    (h0 : 0 < i) (hi : i < S.length) : isLineBreakAttr S i = (t[i - 1]? == some ' ') := by
  unfold isLineBreakAttr
  have h1 : S[i - 1]? = t[i - 1]? := getElem?_of_prefix hS (by omega)
  have h2 : S[i]? = t[i]? := getElem?_of_prefix hS hi
  rw [if_neg (by omega), if_neg (by omega), h1, h2]
  have hnl : (t[i - 1]? == some '\n') = false := by
    simp only [beq_eq_false_iff_ne, ne_eq]; exact h.not_nl
  rw [hnl, Bool.false_or]
  cases hsp : (t[i - 1]? == some ' ') with
  | false => simp
  | true =>
    simp only [beq_iff_eq] at hsp
    have := h.2 (i - 1) hsp
    have e : i - 1 + 1 = i := by omega
    rw [e] at this
    have h3 : (t[i]? != some ' ') = true := by simp [this.2.2.2]
    have h4 : (t[i]? != some '\n') = true := by simp only [bne_iff_ne, ne_eq]; exact h.not_nl
    simp [h3, h4]

/-- WRAP_WORD opportunities of a canonical text: after each space -/
theorem Canonical.canBreakAt {t : Text} (h : Canonical t) {q : Nat} (h0 : 0 < q) :
    canBreakAt false t q = (t[q - 1]? == some ' ') := by
  unfold Pango.canBreakAt
  simp only [h0, decide_true, Bool.false_or, Bool.true_and]
  cases hsp : (t[q - 1]? == some ' ') with
  | false => simp
  | true =>
    simp only [beq_iff_eq] at hsp
    have := h.2 (q - 1) hsp
    have e : q - 1 + 1 = q := by omega
    rw [e] at this
    simp [this.2.2.2]

theorem lstripSp_of_head_ne {t : Text} (h : t.head? ≠ some ' ') : lstripSp t = t := by
  unfold lstripSp
  cases t with
  | nil => rfl
  | cons a as =>
    have : a ≠ ' ' := by intro e; exact h (by simp [e])
    rw [List.dropWhile_cons_of_neg (by simpa using this)]

theorem rstripSp_of_last_ne {t : Text} (h : t.getLast? ≠ some ' ') : rstripSp t = t := by
  unfold rstripSp
  cases hr : t.reverse with
  | nil => simp_all
  | cons a as =>
    have : t.getLast? = some a := by
      rw [List.getLast?_eq_head?_reverse, hr]; rfl
    rw [this] at h
    have ha : a ≠ ' ' := by intro e; exact h (by rw [e])
    rw [List.dropWhile_cons_of_neg (by simpa using ha), ← hr, List.reverse_reverse]

theorem step1_ok (heur : Bool) (st : Style) (text : Text) (W : Rat) (hnl : ∀ c ∈ text, c ≠ '\n') :
    ∃ d, step1 heur st text W = .ok d := by
  fun_cases step1 heur st text W
  case case2 short lay line _ flt hflt =>
    have hnlS : ∀ c ∈ short, c ≠ '\n' := fun x hx => hnl x ((shortText_prefix _ _ _ _).subset hx)
    have hT : lay.text = short := createLayout_text hnlS st _
    cases hres : line.resume with
    | none => simp only [flt, hres, sliceToNat] at hflt; exact absurd rfl hflt
    | some p =>
      have hp := createLayout_resume st hnlS _ hres
      simp only [flt, hres, sliceToNat, List.length_take, hT]
      rw [Nat.min_eq_left (Nat.le_of_lt hp.1), nextBreakPoint_ok _ _ _ (by omega)]
      exact ⟨_, rfl⟩
  all_goals exact ⟨_, rfl⟩

/-- the opportunity Pango chose on a canonical text follows a space -/
theorem resume_after_space {t : Text} (hcan : Canonical t) (fs : Rat) (hy : Bool) (W : Option Rat) (p : Nat)
    (hp : firstBreak fs hy false t true W = p) (hlt : p < t.length) :
    0 < p ∧ t[p - 1]? = some ' ' := by
  rcases firstBreak_at_opportunity fs hy false t true W with h | h
  · rw [hp] at h; omega
  · rw [hp] at h
    have h0 := opportunity_pos h
    rw [hcan.canBreakAt h0] at h
    exact ⟨h0, by simpa using h⟩

theorem DraftOk.text_pre {st : Style} {text : Text} {w : Rat} {d : Draft} (h : DraftOk st text w d) :
    d.text <+: text := by
  rcases h.txt with e | e
  · rw [e]; exact List.prefix_refl _
  · rw [e.1]; exact h.pre

theorem DraftOk.short_le_text {st : Style} {text : Text} {w : Rat} {d : Draft} (h : DraftOk st text w d) :
    d.short.length ≤ d.text.length := by
  rcases h.txt with e | e
  · rw [e]; exact h.pre.length_le
  · rw [e.1]; exact Nat.le_refl _

theorem DraftOk.lay_text {st : Style} {text : Text} {w : Rat} {d : Draft} (h : DraftOk st text w d)
    (hnl : ∀ c ∈ text, c ≠ '\n') : d.lay.text = d.short := by
  rw [h.lay]
  exact createLayout_text (fun c hc => hnl c (h.pre.subset hc)) st _

/-- a second line of the draft starts inside the short text, where the first line ends -/
theorem DraftOk.resume_lt {st : Style} {text : Text} {w : Rat} {d : Draft} (h : DraftOk st text w d)
    (hnl : ∀ c ∈ text, c ≠ '\n') {p : Nat} (hres : d.line.resume = some p) :
    0 < p ∧ p < text.length ∧ d.line.length = p ∧ p < d.short.length := by
  have hresF : (firstLine st.fs (createLayout st text (.fin w))).resume = some p := h.line ▸ hres
  have hl := createLayout_resume st hnl _ hresF
  rw [← h.line] at hl
  refine ⟨firstLine_resume_pos _ _ _ hresF, hl.1, hl.2.1, ?_⟩
  rcases h.sh with e | ⟨q, hq, hlt⟩
  · rw [e]; exact hl.1
  · rw [hres] at hq; cases hq; exact hlt

/-- the draft keeps the whole text unless a line-break attribute follows the second line's start in the
short text -/
theorem DraftOk.text_eq {st : Style} {text : Text} {w : Rat} {d : Draft} (h : DraftOk st text w d)
    (hno : ∀ p k, d.line.resume = some p → p + 1 + k < d.short.length → isLineBreakAttr d.short (p + 1 + k) = false) :
    d.text = text := by
  rcases h.txt with e | ⟨_, p, hp, k, hk, hbr⟩
  · exact e
  · rw [hno p k hp hk] at hbr; cases hbr

/-- the result every path is shown to reach -/
def target (st : Style) (text : Text) (w : Rat) : Res :=
  firstLineMetrics st.fs (firstLine st.fs (createLayout st text (.fin w))) text
    (createLayout st text (.fin w)) (firstLine st.fs (createLayout st text (.fin w))).resume st.ws.spaceCollapse

theorem flm_draft_eq_target {st : Style} {text : Text} {w : Rat} {d : Draft} (h : DraftOk st text w d)
    (hnl : ∀ c ∈ text, c ≠ '\n') :
    firstLineMetrics st.fs d.line d.text d.lay d.line.resume st.ws.spaceCollapse = target st text w := by
  unfold target
  rw [← h.line]
  cases hres : d.line.resume with
  | none =>
    have hsh : d.short = text := by
      rcases h.sh with e | ⟨p, hp, _⟩
      · exact e
      · rw [hres] at hp; cases hp
    have htx : d.text = text := by
      rcases h.txt with e | ⟨_, p, hp, _⟩
      · exact e
      · rw [hres] at hp; cases hp
    rw [htx, h.lay, hsh]
  | some p =>
    obtain ⟨hp0, _, hlen, hps⟩ := h.resume_lt hnl hres
    apply flm_some_congr' _ _ _ _ _ _ _ _ _ (Nat.pos_iff_ne_zero.mp hp0) rfl
    rw [hlen]
    rcases h.txt with e | e
    · rw [e]
    · rw [e.1, List.prefix_iff_eq_take.mp h.pre, List.take_take, Nat.min_eq_left (Nat.le_of_lt hps)]

theorem step3Try_not_space (st : Style) (d : Draft) (maxW : MaxW) (a b : Bool) (flt nw : Text) (c : Char)
    (hcb : canBreakWord st a b = false) (hc : c ≠ ' ') :
    step3Try st d maxW a b flt nw c =
      firstLineMetrics st.fs d.line d.text d.lay d.line.resume st.ws.spaceCollapse := by
  unfold step3Try
  simp only [hc, if_false]
  exact step5_idle st d.text maxW a b d.lay d.line d.line.resume hcb

/-- Step 3 comes down to `first_line_metrics` of the draft's line as soon as the character
`second_line_text[break_point or -1]` is harmless (or makes step 3 re-derive the same line). -/
theorem step3_reduce (st : Style) (d : Draft) (maxW : MaxW) (a b : Bool) (R : Res)
    (hcb : canBreakWord st a b = false) (bp : Option Int)
    (hbp : step3BreakPoint d (step3Texts d maxW).1 = .ok bp)
    (hc : rstripSp (sliceTo (step3Texts d maxW).2 bp) ≠ [] → st.ws.spaceCollapse = true →
      ∃ c, Py.get (step3Texts d maxW).2 (orInt bp (-1)) "second_line_text" = .ok c ∧
        step3Try st d maxW a b (step3Texts d maxW).1 (rstripSp (sliceTo (step3Texts d maxW).2 bp)) c = R)
    (hR : firstLineMetrics st.fs d.line d.text d.lay d.line.resume st.ws.spaceCollapse = R) :
    step3 st d maxW a b = .ok R := by
  unfold step3
  simp only [hbp, Except.bind]
  split
  · rename_i hnw
    split
    · rename_i hcol
      obtain ⟨c, hg, ht⟩ := hc hnw hcol
      rw [hg]; simp [Except.map, ht]
    · rw [step5_idle _ _ _ _ _ _ _ _ hcb, hR]
  · split
    · rw [hR]
    · rw [step5_idle _ _ _ _ _ _ _ _ hcb, hR]

theorem Canonical.head_ne_space {t : Text} (h : Canonical t) : t.head? ≠ some ' ' := by
  intro hh
  have : t[0]? = some ' ' := by rw [← List.head?_eq_getElem?]; exact hh
  have := (h.2 0 this).1
  omega

theorem Canonical.last_ne_space {t : Text} (h : Canonical t) : t.getLast? ≠ some ' ' := by
  intro hl
  rw [List.getLast?_eq_getElem?] at hl
  have := h.2 (t.length - 1) hl
  omega

theorem get_last {α} (t : List α) (site : String) (c : α) (h : t.getLast? = some c) :
    Py.get t (-1) site = .ok c := by
  unfold Py.get
  have hne : t ≠ [] := by intro e; rw [e] at h; cases h
  have hlen : 0 < t.length := List.length_pos_iff.mpr hne
  simp only [show ¬ (0 : Int) ≤ -1 by omega, if_false]
  have : ¬ ((t.length : Int) + -1 < 0) := by omega
  simp only [this, if_false]
  have e : ((t.length : Int) + -1).toNat = t.length - 1 := by omega
  rw [e, ← List.getLast?_eq_getElem?, h]

/-- Step 3 when no break point follows the first line in the short text: the whole text was kept, and its
last character, the one step 3 looks at, is a letter. -/
theorem step3_no_break {st : Style} {text : Text} {w : Rat} {d : Draft} (a b : Bool)
    (hd : DraftOk st text w d) (hcan : Canonical text) (hcb : canBreakWord st a b = false) (p : Nat)
    (htexts : step3Texts d (.fin w) = (d.text.take p, d.text.drop p))
    (hbp : step3BreakPoint d (step3Texts d (.fin w)).1 = .ok none) (htx : d.text = text) :
    step3 st d (.fin w) a b = .ok (target st text w) := by
  have hR := flm_draft_eq_target hd hcan.1
  apply step3_reduce st d _ a b _ hcb none hbp _ hR
  intro hnw _
  rw [htexts] at hnw ⊢
  have hne : d.text.drop p ≠ [] := by intro e; rw [e] at hnw; exact hnw rfl
  have hplt : p < d.text.length := by
    have := List.length_pos_iff.mpr hne
    rw [List.length_drop] at this
    omega
  cases hl : d.text.getLast? with
  | none => rw [List.getLast?_eq_none_iff] at hl; rw [hl] at hplt; cases hplt
  | some c =>
    refine ⟨c, get_last _ _ _ (by rw [List.getLast?_drop, if_neg (Nat.not_le.mpr hplt)]; exact hl), ?_⟩
    have hc : c ≠ ' ' := by
      intro e; rw [e, htx] at hl; exact hcan.last_ne_space hl
    rw [step3Try_not_space _ _ _ _ _ _ _ _ hcb hc, hR]

/-- Step 3 on a canonical text, the second line starting at `p` of the draft's text: it comes down to the
draft's line unless the character it looks at is a space (`hsp`: what the retry then gives). -/
theorem step3_at {st : Style} {text : Text} {w : Rat} {d : Draft} (a b : Bool)
    (hd : DraftOk st text w d) (hcan : Canonical text) (hcb : canBreakWord st a b = false) (p : Nat)
    (htexts : step3Texts d (.fin w) = (d.text.take p, d.text.drop p)) (hps : p < d.short.length)
    (hq : ∀ q, d.line.resume = some q → p ≤ q)
    (hsp : ∀ k0 m, isLineBreakAttr d.short (p + 1 + k0) = true → p + 1 + k0 < d.short.length → 0 < m →
        p + m < d.text.length →
        sliceTo (d.text.drop p) (some ((k0 : Int) - ((p : Int) + 1))) = (d.text.drop p).take m →
        d.text[p + m]? = some ' ' →
        step3Try st d (.fin w) a b (d.text.take p) (rstripSp ((d.text.drop p).take m)) ' ' = target st text w) :
    step3 st d (.fin w) a b = .ok (target st text w) := by
  have hnl := hcan.1
  have hR := flm_draft_eq_target hd hnl
  have hT := hd.lay_text hnl
  have hsl := hd.short_le_text
  have hfl : (d.text.take p).length = p := by rw [List.length_take]; omega
  have hbpv : step3BreakPoint d (step3Texts d (.fin w)).1 =
      .ok (((List.range (d.short.length - (p + 1))).find? (fun k => isLineBreakAttr d.short (p + 1 + k))).map
        (fun k => (k : Int) - ((p : Int) + 1))) := by
    unfold step3BreakPoint
    rw [htexts]
    simp only [hfl, hT]
    rw [if_neg (by intro e; have := congrArg List.length e; rw [hfl] at this; omega),
      nextBreakPoint_ok _ _ _ (by omega)]
    simp [Except.map]
  cases hf : (List.range (d.short.length - (p + 1))).find? (fun k => isLineBreakAttr d.short (p + 1 + k)) with
  | none =>
    rw [hf] at hbpv
    refine step3_no_break a b hd hcan hcb p htexts hbpv (hd.text_eq fun q k hq' hk => ?_)
    have hpq := hq q hq'
    have := List.find?_range_eq_none.mp hf (q - p + k) (by omega)
    rwa [Bool.not_eq_true', show p + 1 + (q - p + k) = q + 1 + k by omega] at this
  | some k0 =>
    rw [hf] at hbpv
    have hbpv : step3BreakPoint d (step3Texts d (.fin w)).1 = .ok (some ((k0 : Int) - ((p : Int) + 1))) := hbpv
    obtain ⟨hbr, hk0, _⟩ := List.find?_range_eq_some.mp hf
    rw [List.mem_range] at hk0
    apply step3_reduce st d _ a b _ hcb _ hbpv _ hR
    intro hnw _
    rw [htexts] at hnw ⊢
    have hdl : (d.text.drop p).length = d.text.length - p := List.length_drop
    obtain ⟨m, hm0, hml, hsli, hget⟩ :=
      next_word_index (d.text.drop p) ((k0 : Int) - ((p : Int) + 1)) "second_line_text" (by rw [hdl]; omega) hnw
    rw [hdl] at hml
    rw [List.getElem?_drop] at hget
    cases hcc : d.text[p + m]? with
    | none => rw [List.getElem?_eq_none_iff] at hcc; omega
    | some c =>
      rw [hcc] at hget
      refine ⟨c, hget, ?_⟩
      by_cases hc : c = ' '
      · subst hc
        simp only [hsli]
        exact hsp k0 m hbr (by omega) hm0 (by omega) hsli hcc
      · rw [step3Try_not_space _ _ _ _ _ _ _ _ hcb hc, hR]

/-- Step 3 when the first line overflows (`first_line_text = ''`): on a canonical text the next
"word" it looks at is the first word minus its last letter, nothing is retried. -/
theorem step3_overflow {st : Style} {text : Text} {w : Rat} {d : Draft} (a b : Bool)
    (hd : DraftOk st text w d) (hcan : Canonical text) (hcb : canBreakWord st a b = false)
    (hge : (MaxW.fin w).ge d.line.width = false) :
    step3 st d (.fin w) a b = .ok (target st text w) := by
  have htexts : step3Texts d (.fin w) = (d.text.take 0, d.text.drop 0) := by
    unfold step3Texts; rw [hge]; rfl
  by_cases hsh : d.short = []
  · -- empty short text: no break point is looked for
    have hbp : step3BreakPoint d (step3Texts d (.fin w)).1 = .ok none := by
      unfold step3BreakPoint; rw [htexts, hsh]; rfl
    exact step3_no_break a b hd hcan hcb 0 htexts hbp
      (hd.text_eq fun p k _ hk => by rw [hsh] at hk; cases hk)
  · refine step3_at a b hd hcan hcb 0 htexts (List.length_pos_iff.mpr hsh) (fun _ _ => Nat.zero_le _)
      (fun k0 m hbr hk0 hm0 hml hsl hcc => ?_)
    -- the character looked at is the last letter of the first word: the break is after the space that follows it
    exfalso
    rw [Nat.zero_add] at hbr hk0 hml hcc
    have hsp : text[k0]? = some ' ' := by
      have := hcan.isLineBreakAttr_prefix hd.pre (i := 1 + k0) (by omega) hk0
      rw [this, Nat.add_sub_cancel_left] at hbr; simpa using hbr
    have hcs := hcan.2 k0 hsp
    -- `break_point` is `k0 - 1`, not negative: the slice is the first `k0 - 1` characters
    have hm : m = k0 - 1 := by
      have h1 : sliceTo (d.text.drop 0) (some ((k0 : Int) - ((0 : Nat) + 1))) = (d.text.drop 0).take (k0 - 1) := by
        have : (0 : Int) ≤ (k0 : Int) - ((0 : Nat) + 1) := by have := hcs.1; omega
        simp only [sliceTo, this, if_true]
        congr 1; omega
      rw [h1] at hsl
      have := congrArg List.length hsl
      simp only [List.length_take, List.length_drop] at this
      have := hd.short_le_text
      omega
    rw [getElem?_of_prefix hd.text_pre hml, hm] at hcc
    exact hcs.2.1 hcc

/-- Step 3 retrying with the next word (the character at `break_point or -1` is a space) derives the
same line again on a canonical text: the longer first line cannot fit, because the opportunity after
that space would have been taken by Pango. -/
theorem step3Try_space_same {st : Style} {text : Text} {w : Rat} {d : Draft} (a b : Bool)
    (hd : DraftOk st text w d) (hcan : Canonical text) (hcb : canBreakWord st a b = false)
    (hfs : 0 ≤ st.fs) (p m : Nat) (hres : d.line.resume = some p) (hm0 : 0 < m)
    (hpm : p + m < d.text.length) (hsp : d.text[p + m]? = some ' ') :
    step3Try st d (.fin w) a b (d.text.take p) (rstripSp ((d.text.drop p).take m)) ' ' =
      target st text w := by
  have hnl := hcan.1
  have htpre := hd.text_pre
  obtain ⟨hp0, hpn, _, _⟩ := hd.resume_lt hnl hres
  have hspT : text[p + m]? = some ' ' := by rw [← getElem?_of_prefix htpre hpm]; exact hsp
  have hcs := hcan.2 (p + m) hspT
  have hle : p + m ≤ text.length := Nat.le_of_lt (Nat.lt_of_succ_lt hcs.2.2.1)
  have hpos : 0 < p + m := Nat.add_pos_right p hm0
  have hlt : p < p + m := Nat.lt_add_of_pos_right hm0
  have hpred : p + m - 1 < p + m := Nat.sub_lt hpos Nat.one_pos
  -- the next word ends with a letter: nothing to strip
  have hnw : rstripSp ((d.text.drop p).take m) = (d.text.drop p).take m := by
    apply rstripSp_of_last_ne
    rw [List.getLast?_eq_getElem?]
    have hl : ((d.text.drop p).take m).length = m := by rw [List.length_take, List.length_drop]; omega
    rw [hl, List.getElem?_take, if_pos (Nat.sub_lt hm0 Nat.one_pos), List.getElem?_drop, ← Nat.add_sub_assoc hm0,
      getElem?_of_prefix htpre (Nat.lt_trans hpred hpm)]
    exact hcs.2.1
  have hnew : d.text.take p ++ (d.text.drop p).take m = text.take (p + m) := by
    rw [← List.take_add]
    have := List.prefix_iff_eq_take.mp htpre
    rw [this, List.take_take, Nat.min_eq_left (Nat.le_of_lt hpm)]
  rw [hnw]
  unfold step3Try
  simp only [if_true, hnew]
  rw [hd.lay, createLayout_setText]
  -- Pango's line for the whole text
  have hresF : (firstLine st.fs (createLayout st text (.fin w))).resume = some p := hd.line ▸ hres
  obtain ⟨_, _, W, hW, hpF⟩ := createLayout_resume st hnl _ hresF
  generalize hhy : (createLayout st text (.fin w)).hyph = hy at hpF
  have hsp0 := resume_after_space hcan st.fs hy (some W) p hpF hpn
  have hnlN : ∀ c ∈ text.take (p + m), c ≠ '\n' := fun x hx => hnl x (List.mem_of_mem_take hx)
  have hklen : (text.take (p + m)).length = p + m := by rw [List.length_take, Nat.min_eq_left hle]
  -- the longer line does not fit: the opportunity after its last space would fit as well, and is later than `p`
  have hnf : ¬ endFits st.fs (text.take (p + m)) true W := by
    intro hfit
    rw [endFits_take st.fs text W hle hpos, if_neg (by simpa using hcs.2.1)] at hfit
    have hopp : (p + m + 1) ∈ opportunities false text := by
      rw [mem_opportunities]
      refine ⟨hcs.2.2.1, ?_⟩
      rw [hcan.canBreakAt (Nat.succ_pos _)]
      simpa using hspT
    have hfits : fitsAt st.fs hy false text W (p + m + 1) = true := by
      unfold fitsAt
      rw [breakExtra_of_space (by rwa [Nat.add_sub_cancel]), Rat.natCast_add]
      have : ((1 : Nat) : Rat) = 1 := rfl
      rw [this]
      exact decide_eq_true (by grind)
    have hmax := (firstBreak_maximal st.fs hy false text true W).1 (p + m + 1) hopp (by rw [hpF]; exact Nat.lt_succ_of_lt hlt)
    rw [hfits] at hmax; cases hmax
  -- so Pango wraps the retried text …
  have hpmem : p ∈ opportunities false (text.take (p + m)) := by
    rw [mem_opportunities_take false text hle hlt, mem_opportunities]
    refine ⟨hpn, ?_⟩
    rw [hcan.canBreakAt hsp0.1]; simpa using hsp0.2
  have hwrapN : firstBreak st.fs hy false (text.take (p + m)) true (some W) < p + m := by
    rcases firstBreak_cases st.fs hy false (text.take (p + m)) true W _ rfl with h | h | h | h
    · exfalso
      rcases h.2 with e | e
      · have := congrArg List.length e; rw [hklen, List.length_nil] at this; exact absurd this (Nat.ne_of_gt hpos)
      · exact hnf e
    · have := (mem_opportunities.mp h.2.1).1; rwa [hklen] at this
    · have := (mem_opportunities.mp (List.mem_of_head? h.2.2)).1; rwa [hklen] at this
    · rw [h.2.1] at hpmem; cases hpmem
  -- … and gives it the first line of the whole text
  have hlineN : firstLine st.fs (createLayout st (text.take (p + m)) (.fin w)) = d.line := by
    rw [hd.line]
    apply firstLine_of_wrapped_prefix st.fs (createLayout st (text.take (p + m)) (.fin w)) hfs (List.take_prefix _ _)
    subst hhy
    rw [← hW] at hwrapN
    exact createLayout_resume_of_wrap st hnlN (.fin w) (by rw [hklen]; exact hwrapN)
  rw [hlineN]
  simp only [hres]
  rw [step5_idle _ _ _ _ _ _ _ _ hcb, ← flm_draft_eq_target hd hnl, hres]
  exact flm_some_congr' _ _ _ _ _ _ _ _ _ (Nat.pos_iff_ne_zero.mp hp0) rfl rfl

theorem step3_fits {st : Style} {text : Text} {w : Rat} {d : Draft} (a b : Bool)
    (hd : DraftOk st text w d) (hcan : Canonical text) (hcb : canBreakWord st a b = false)
    (hfs : 0 ≤ st.fs) (p : Nat) (hres : d.line.resume = some p)
    (hge : (MaxW.fin w).ge d.line.width = true) :
    step3 st d (.fin w) a b = .ok (target st text w) := by
  have htexts : step3Texts d (.fin w) = (d.text.take p, d.text.drop p) := by
    unfold step3Texts; rw [hge, hres]; rfl
  exact step3_at a b hd hcan hcb p htexts (hd.resume_lt hcan.1 hres).2.2.2
    (fun q h => by rw [hres] at h; cases h; exact Nat.le_refl _)
    (fun _ m _ _ hm0 hpm _ h => step3Try_space_same a b hd hcan hcb hfs p m hres hm0 hpm h)

/-- **`split_first_line` on a canonical text is `first_line_metrics` of Pango's line for the whole
text**, for every `white-space`, whenever step 5 may not break a word (`can_break` false: normal
`word-break` / `overflow-wrap`, but also `anywhere` / `break-word` away from a line start): the prefix heuristic
of step 1, the "put the next word back" of step 3 and step 5 change nothing.  (Without wrapping it is
`splitFirstLineH_no_width`, and nothing is asked of the text.) -/
theorem split_canonical (heur : Bool) (st : Style) (text : Text) (w : Rat) (a b : Bool)
    (hcb : canBreakWord st a b = false) (hfs : 0 ≤ st.fs) (hcan : Canonical text) :
    splitFirstLineH heur st text (.fin w) a b = .ok (target st text w) := by
  cases hwrap : st.ws.textWrap with
  | false => exact (splitFirstLineH_no_width heur st text (.fin w) a b (.inl hwrap)).1
  | true =>
    have hnl := hcan.1
    unfold splitFirstLineH
    simp only [hwrap, if_true]
    -- at font size 0 step 1 is skipped: the draft is the whole text
    obtain ⟨d, hd1, hd⟩ : ∃ d, (if st.fs ≠ 0 then step1 heur st text w else .ok (draftFull st text (.fin w))) = .ok d ∧
        DraftOk st text w d := by
      split
      · obtain ⟨d, hd1⟩ := step1_ok heur st text w hnl
        exact ⟨d, hd1, step1_facts heur st text w d hnl hfs hd1⟩
      · exact ⟨_, rfl, rfl, List.prefix_refl _, rfl, Or.inl rfl, Or.inl rfl⟩
    rw [hd1]
    simp only [Except.bind]
    unfold finish
    simp only
    rw [if_neg (by intro e; cases e)]
    split
    · rename_i hc
      rw [flm_draft_eq_target hd hnl]
    · rename_i hc
      cases hg : (MaxW.fin w).ge d.line.width with
      | false => exact step3_overflow a b hd hcan hcb hg
      | true =>
        cases hres : d.line.resume with
        | none => exact absurd ⟨hres, hg⟩ hc
        | some p => exact step3_fits a b hd hcan hcb hfs p hres hg

/-- the first-fit line in closed form -/
def firstFit (st : Style) (text : Text) (w : Rat) : Res :=
  let p := firstBreak st.fs (createLayout st text (.fin w)).hyph false text true (createLayout st text (.fin w)).width
  if p < text.length then
    let flt := if st.ws.spaceCollapse then rstripSp (text.take p) else text.take p
    { length := flt.length, resume := some p, width := (flt.length : Rat) * st.fs, text := flt }
  else { length := text.length, resume := none, width := (text.length : Rat) * st.fs, text := text }

theorem target_eq_firstFit (st : Style) (text : Text) (w : Rat) (hnl : ∀ c ∈ text, c ≠ '\n') :
    target st text w = firstFit st text w := by
  unfold target firstFit
  rcases firstLine_createLayout st hnl (.fin w) with ⟨hlt, e⟩ | ⟨hp, e⟩ <;> rw [e]
  · have hp0 : firstBreak st.fs (createLayout st text (.fin w)).hyph false text true
        (createLayout st text (.fin w)).width ≠ 0 :=
      Nat.ne_of_gt (firstBreak_pos _ _ _ _ _ _ fun e => by rw [e] at hlt; cases hlt)
    -- the line is measured again on its own text, a prefix of `text`: no newline there either
    have h1 : ∀ n, find (if st.ws.spaceCollapse then rstripSp (text.take n) else text.take n) '\n' = none := fun n =>
      find_none_of_not_mem fun x hx => hnl x (by
        split at hx
        · exact ((rstripSp_prefix _).trans (List.take_prefix _ _)).subset hx
        · exact (List.take_prefix _ _).subset hx)
    rw [if_pos hlt, flm_some _ _ _ _ hp0, truncNl_of_find_none (h1 _), paraOf_of_find_none (h1 _)]
  · rw [if_neg (by omega)]
    simp only [firstLineMetrics, createLayout_text hnl]

/-- on a canonical text, whenever `can_break` is false, `split_first_line` answers the first-fit line: for every
`white-space`, every font size ≥ 0, with or without the prefix heuristic -/
theorem split_canonical_firstFit (heur : Bool) (st : Style) (text : Text) (w : Rat) (a b : Bool)
    (hcb : canBreakWord st a b = false) (hfs : 0 ≤ st.fs) (hcan : Canonical text) :
    splitFirstLineH heur st text (.fin w) a b = .ok (firstFit st text w) := by
  rw [split_canonical heur st text w a b hcb hfs hcan, target_eq_firstFit st text w hcan.1]

/-- executable form of `Canonical` -/
def canonicalB (t : Text) : Bool :=
  t.all (· != '\n') &&
  (List.range t.length).all (fun i =>
    t[i]? != some ' ' ||
      (decide (0 < i) && t[i - 1]? != some ' ' && decide (i + 1 < t.length) && t[i + 1]? != some ' '))

theorem justifyLine_text (x w cx cw : Rat) (n : Nat) (extra : Rat) (hn : n ≠ 0) :
    justifyLine (.inl x w false [.text cx cw n]) extra =
      .inl (x + 0) (w + extra) false [.text (cx + 0) (cw + extra) n] := by
  have hn' : (n : Rat) ≠ 0 := by exact_mod_cast hn
  have hc : extra / (n : Rat) * n = extra := Rat.div_mul_cancel hn'
  have hc0 : (0 : Rat) + extra - 0 = extra := by grind
  simp only [justifyLine, countSpaces, countSpacesL, Nat.add_zero, hn, ne_eq, not_false_eq_true, if_true,
    addWordSpacing, Bool.false_eq_true, if_false, addWordSpacingL, IBox.inFlow,
    show n > 0 from Nat.pos_of_ne_zero hn, hc, hc0]

/-- the offset `text_align` answers is not negative, keeps a line not wider than the available width inside
it, and is `0` for a wider line -/
theorem align_offset_inside {s : AlignStyle} {line line' : IBox} {lw avail off : Rat} {last : Bool}
    (h : textAlign s line lw avail last = .ok (off, line')) :
    0 ≤ off ∧ (lw ≤ avail → off + lw ≤ avail) ∧ (avail < lw → off = 0) := by
  have hr := align_offset_range s _ _ lw avail off last h
  refine ⟨?_, fun hle => ?_, fun hlt => hr.1 (Rat.le_of_lt hlt)⟩
  · by_cases hge : avail ≤ lw
    · rw [hr.1 hge]; exact Rat.le_refl
    · exact (hr.2 (Rat.not_le.mp hge)).1
  · by_cases hge : avail ≤ lw
    · rw [hr.1 hge, Rat.zero_add]; exact hle
    · have := (hr.2 (Rat.not_le.mp hge)).2
      grind

/-- such an offset places a line that starts at `x` inside `[x, x + avail]`, and leaves a wider line at `x` -/
theorem inside_of_offset {off lw avail : Rat} (x : Rat) (h0 : 0 ≤ off) (hin : lw ≤ avail → off + lw ≤ avail)
    (hout : avail < lw → off = 0) :
    (lw ≤ avail → x ≤ x + off ∧ x + off + lw ≤ x + avail) ∧ (avail < lw → x + off = x) := by
  refine ⟨fun hle => ⟨?_, ?_⟩, fun hlt => ?_⟩
  · have := (Rat.add_le_add_left (c := x)).mpr h0
    rwa [Rat.add_zero] at this
  · rw [Rat.add_assoc]; exact Rat.add_le_add_left.mpr (hin hle)
  · rw [hout hlt, Rat.add_zero]

/-- `text_align` on a line holding one text box: line and box stay where they are and grow by the same
amount (justification); the offset is not negative, keeps a line that is not wider than the available
width inside it, and is `0` for a wider line -/
theorem textAlign_text (s : AlignStyle) (x w cx cw : Rat) (n : Nat) (avail : Rat) (last : Bool) (off : Rat) (t : IBox)
    (h : textAlign s (.inl x w false [.text cx cw n]) w avail last = .ok (off, t)) :
    ∃ lw' cw', t = .inl x lw' false [.text cx cw' n] ∧ lw' - w = cw' - cw ∧ 0 ≤ off ∧
      (lw' ≤ avail → off + lw' ≤ avail) ∧ (avail < lw' → off = 0) := by
  have same : t = .inl x w false [.text cx cw n] →
      ∃ lw' cw', t = .inl x lw' false [.text cx cw' n] ∧ lw' - w = cw' - cw ∧ 0 ≤ off ∧
        (lw' ≤ avail → off + lw' ≤ avail) ∧ (avail < lw' → off = 0) :=
    fun e => ⟨w, cw, e, by rw [Rat.sub_self, Rat.sub_self], align_offset_inside h⟩
  rcases textAlign_cases s (.inl x w false [.text cx cw n]) w avail last with ⟨_, e⟩ | ⟨hlt, ⟨_, e⟩ | ⟨_, e⟩ | ⟨_, e⟩ | ⟨_, e⟩⟩ <;>
    rw [e] at h <;> cases h
  · exact same rfl
  · exact same rfl
  · by_cases hj : s.ws.alignCollapse = true ∧ n ≠ 0
    · rw [if_pos hj.1, justifyLine_text x w cx cw n _ hj.2, Rat.add_zero, Rat.add_zero]
      have hfill : w + (avail - w) = avail := by grind
      rw [hfill]
      exact ⟨_, _, rfl, by grind, Rat.le_refl, fun _ => by rw [Rat.zero_add]; exact Rat.le_refl, fun _ => rfl⟩
    · apply same
      split
      · rename_i hc
        have hn : n = 0 := Decidable.byContradiction fun hn => hj ⟨hc, hn⟩
        subst hn
        rfl
      · rfl
  · exact same rfl
  · exact same rfl

theorem removeLastWhitespace_width (st : Style) (c c' : Child) (removed : Rat)
    (h : removeLastWhitespace st c = .ok (c', removed)) : c'.width = c.width - removed := by
  revert h
  fun_cases removeLastWhitespace st c <;> intro h
  case case3 =>
    obtain ⟨ts, _, h⟩ := Except.bind_eq_ok h
    split at h <;> cases h
    grind
  all_goals cases h; grind

end Wp.C09L
