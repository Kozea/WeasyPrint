/-
Geometry of whole layouts of the extended model: every in-flow line placed by `layoutBox` ends above the
page bottom (minus the bottom space), except the first in-flow line when the layout started on an empty
page — through placeholders, floats (which push lines down, never below the tested position),
clearance, `find_earlier_page_break`, the relayout with a larger bottom space, cloned decorations.
-/
import WpModel.Lemmas.OofParaGeo
import WpModel.Lemmas.OofBlock
import WpModel.Lemmas.OofPages
import WpModel.Lemmas.Geometry

namespace Wp.PMO
open Wp Wp.PM

/-! ### placed in-flow lines of a fragment tree -/

mutual
/-- The in-flow lines of the fragment `f` of the source box `box`, laid out with `page_is_empty = pie`.
Fragments out of the flow (placeholders, floats, continuations, laid-out absolute boxes) hold no in-flow
line and do not end the "nothing placed yet" state for this purpose. -/
def placedLines : OFrag → Bool → OBox → List PlacedLine
  | .para _ _ _ _ _ _ lines, pie, box =>
    match box with
    | .para id _ lineH _ => paraPlaced pie id lineH lines
    | .block _ _ _ => []
  | .block _ _ _ _ _ fkids, pie, box =>
    match box with
    | .block _ _ kids => placedLinesList fkids pie kids
    | .para _ _ _ _ => []
  | .ph _ _ _ _, _, _ => []
def placedLinesList : List OFrag → Bool → List OBox → List PlacedLine
  | [], _, _ => []
  | f :: rest, pie, kids =>
    (if f.inFlow then
      (match kids[f.idx]? with
        | some kb => placedLines f pie kb
        | none => [])
     else []) ++ placedLinesList rest (pie && !f.inFlow) kids
end

def noFlow (fs : List OFrag) : Bool := fs.all (fun f => !f.inFlow)

theorem placedLinesList_snoc (xs : List OFrag) (f : OFrag) (pie : Bool) (kids : List OBox) :
    placedLinesList (xs ++ [f]) pie kids = placedLinesList xs pie kids ++
      (if f.inFlow then
        (match kids[f.idx]? with
          | some kb => placedLines f (pie && noFlow xs) kb
          | none => [])
       else []) := by
  induction xs generalizing pie with
  | nil => simp [placedLinesList, noFlow]
  | cons x xs ih =>
    simp only [List.cons_append, placedLinesList, ih, List.append_assoc, noFlow, List.all_cons, Bool.and_assoc]

theorem placedLinesList_append_noFlow (xs ys : List OFrag) (pie : Bool) (kids : List OBox)
    (h : noFlow xs = true) : placedLinesList (xs ++ ys) pie kids = placedLinesList ys pie kids := by
  induction xs generalizing pie with
  | nil => rfl
  | cons x xs ih =>
    simp only [noFlow, List.all_cons, Bool.and_eq_true, Bool.not_eq_true'] at h
    simp only [List.cons_append, placedLinesList, h.1, Bool.false_eq_true, if_false, List.nil_append,
      Bool.not_false, Bool.and_true]
    exact ih _ (by simpa [noFlow] using h.2)

theorem placedLinesList_noFlow (xs : List OFrag) (pie : Bool) (kids : List OBox) (h : noFlow xs = true) :
    placedLinesList xs pie kids = [] := by
  simpa [placedLinesList] using placedLinesList_append_noFlow xs [] pie kids h

theorem lastInFlow_none (xs : List OFrag) (h : lastInFlow xs = none) : noFlow xs = true := by
  induction xs with
  | nil => rfl
  | cons x xs ih =>
    simp only [lastInFlow] at h
    cases hl : lastInFlow xs with
    | some l => rw [hl] at h; cases h
    | none =>
      rw [hl] at h
      simp only at h
      cases hx : x.inFlow with
      | true => rw [hx] at h; simp at h
      | false => simp [noFlow, hx]; simpa [noFlow] using ih hl

theorem noFlow_translate (dy : Rat) (xs : List OFrag) : noFlow (translateList dy xs) = noFlow xs := by
  induction xs with
  | nil => rfl
  | cons x xs ih => simp only [translateList, noFlow, List.all_cons, inFlow_translate] at ih ⊢; rw [ih]

@[simp] theorem placedLines_withIdx (f : OFrag) (i : Nat) (pie : Bool) (box : OBox) :
    placedLines (f.withIdx i) pie box = placedLines f pie box := by
  cases f <;> cases box <;> simp [OFrag.withIdx, placedLines]

@[simp] theorem placedLines_cutEnd (f : OFrag) (pie : Bool) (box : OBox) :
    placedLines f.cutEnd pie box = placedLines f pie box := by
  cases f <;> rfl

mutual
/-- A larger `page_is_empty` only exempts more. -/
theorem placedLines_weaker : (f : OFrag) → ∀ (box : OBox) (p q : Bool), (q = true → p = true) →
    PieWeaker (placedLines f p box) (placedLines f q box)
  | .para _ _ _ _ _ _ lines, box, p, q, h => by
    cases box with
    | para id n lineH st => simp only [placedLines]; exact paraPlaced_weaker p q h _ _ _
    | block _ _ _ => simp only [placedLines]; exact PieWeaker.nil _
  | .block _ _ _ _ _ fkids, box, p, q, h => by
    cases box with
    | para _ _ _ _ => simp only [placedLines]; exact PieWeaker.nil _
    | block _ _ kids => simp only [placedLines]; exact placedLinesList_weaker fkids kids p q h
  | .ph _ _ _ _, box, p, q, h => by simp only [placedLines]; exact PieWeaker.nil _
theorem placedLinesList_weaker : (fs : List OFrag) → ∀ (kids : List OBox) (p q : Bool), (q = true → p = true) →
    PieWeaker (placedLinesList fs p kids) (placedLinesList fs q kids)
  | [], _, _, _, _ => PieWeaker.nil _
  | f :: rest, kids, p, q, h => by
    simp only [placedLinesList]
    refine PieWeaker.append ?_ (placedLinesList_weaker rest kids _ _ (by cases f.inFlow <;> simp_all))
    split
    · split
      · exact placedLines_weaker f _ p q h
      · exact PieWeaker.nil _
    · exact PieWeaker.nil _
end

/-- More exemptions only weaken the statement: what fits with `pie = false` fits with `pie = true`. -/
theorem placedLinesList_flag (c : Ctx) (bs : Rat) : (fs : List OFrag) → (kids : List OBox) →
    LinesOk c bs (placedLinesList fs false kids) → LinesOk c bs (placedLinesList fs true kids) :=
  fun fs kids => (placedLinesList_weaker fs kids true false nofun).linesFit _

/-! ### the lines a paragraph keeps fit -/

theorem lineboxLayout_placed (c : Ctx) (st : PStyle) (b : BoxSt) (n : Nat) (lineH : Rat) (pie : Bool)
    (adj : List Rat) (bs posY : Rat) (skip : Option Resume) (dbd : Bool) (shapes : List Shape) (id : Nat)
    (hdeco : 0 ≤ b.bb + b.pb) :
    LinesOk c bs (paraPlaced pie id lineH (lineboxLayout c st b n lineH pie adj bs posY skip dbd shapes).lines) := by
  rw [lineboxLayout_lines, lineboxLoop, lineLoop_eq_G]
  exact lineLoopG_placed _ st b n lineH pie (not_overflowsPage_of_le c bs) hdeco id _ _ _ _ rfl

/-! ### `find_earlier_page_break` keeps a subset of the placed lines -/

theorem findEarlierPara_placed (ser id idx : Nat) (st : OStyle) (n : Nat) (g : Geo) (lines : List (Nat × Rat))
    (x' : OFrag) (r : Resume) (h : findEarlierPara ser id idx st n g lines = some (x', r)) :
    x'.idx = idx ∧ ∀ pie box, ∀ p ∈ placedLines x' pie box, p ∈ placedLines (.para ser id idx st n g lines) pie box := by
  obtain ⟨kept, hp, rfl⟩ := findEarlierPara_some h
  obtain ⟨_, _, _, hx, _⟩ := PM.findEarlierPara_take hp
  cases hx
  refine ⟨rfl, fun pie box => ?_⟩
  cases box with
  | para id' n' lh st' => simp only [placedLines]; exact paraPlaced_take _ _ _ _ _
  | block _ _ _ => simp [placedLines]

mutual
theorem findEarlierGo_placed : (fs : List OFrag) → ∀ (kept : List OFrag) (r : Resume),
    (findEarlierGo fs).found = some (kept, r) →
    ∀ pie kids, ∀ p ∈ placedLinesList kept pie kids, p ∈ placedLinesList fs pie kids
  | [] => by
    intro kept r h
    simp [findEarlierGo] at h
  | x :: xs => by
    intro kept r h pie kids p hp
    rcases findEarlierGo_cons x xs with ⟨kept0, r0, hfound, hres⟩ |
      ⟨_, ⟨_, hres⟩ | ⟨hxin, ⟨i', _, hres⟩ | ⟨x', r1, hfe, hres⟩ | hres⟩⟩ <;> rw [hres] at h
    · obtain ⟨rfl, rfl⟩ := Prod.mk.inj (Option.some.inj h)
      simp only [placedLinesList, List.mem_append] at hp ⊢
      exact hp.imp_right (findEarlierGo_placed xs kept0 r0 hfound (pie && !x.inFlow) kids p)
    · cases h
    · obtain ⟨rfl, rfl⟩ := Prod.mk.inj (Option.some.inj h)
      simp only [placedLinesList, List.mem_append, List.append_nil] at hp ⊢
      exact Or.inl hp
    · obtain ⟨rfl, rfl⟩ := Prod.mk.inj (Option.some.inj h)
      obtain ⟨hidx, hsub⟩ := findEarlierFrag_placed x x' r1 hfe
      have hfl := findEarlierFrag_inFlow x x' r1 hfe
      simp only [placedLinesList, List.mem_append, List.append_nil, idx_cutEnd, inFlow_cutEnd, placedLines_cutEnd,
        hidx, hfl, hxin, if_true] at hp ⊢
      left
      cases hk : kids[x.idx]? with
      | none => simp [hk] at hp
      | some kb =>
        simp only [hk] at hp ⊢
        exact hsub _ _ p hp
    · cases h
theorem findEarlierFrag_placed : (x : OFrag) → ∀ (x' : OFrag) (r : Resume), findEarlierFrag x = some (x', r) →
    x'.idx = x.idx ∧ ∀ pie box, ∀ p ∈ placedLines x' pie box, p ∈ placedLines x pie box
  | .para ser id idx st n g lines => by
    intro x' r h
    simp only [findEarlierFrag] at h
    exact findEarlierPara_placed ser id idx st n g lines x' r h
  | .block ser id idx st g kids => by
    intro x' r h
    simp only [findEarlierFrag] at h
    split at h
    · rename_i kids' r0 hfound
      simp only [Option.some.injEq, Prod.mk.injEq] at h
      obtain ⟨rfl, rfl⟩ := h
      refine ⟨rfl, ?_⟩
      intro pie box
      cases box with
      | para _ _ _ _ => simp [placedLines]
      | block id' st' bkids =>
        simp only [placedLines]
        exact findEarlierGo_placed kids kids' r0 hfound pie bkids
    · cases h
  | .ph _ _ _ _ => by
    intro x' r h
    simp [findEarlierFrag] at h
end

/-! ### hypotheses on the decorations (of the boxes of the flow) -/

mutual
def DecoOk : OBox → Prop
  | .para _ _ _ st => st.toPStyle.DecoOk
  | .block _ st kids => st.toPStyle.DecoOk ∧ DecoOkList kids
def DecoOkList : List OBox → Prop
  | [] => True
  | b :: bs => (b.inFlow = true → DecoOk b) ∧ DecoOkList bs
end

theorem DecoOk.st : (box : OBox) → DecoOk box → box.st.toPStyle.DecoOk
  | .para _ _ _ _ => by intro h; unfold DecoOk at h; exact h
  | .block _ _ _ => by intro h; unfold DecoOk at h; exact h.1

theorem prepare_bs_le (c : Ctx) (st : OStyle) (y bs : Rat) (skip : Option Resume) (cb pie : Bool)
    (adjL : List Rat) (sh : List Shape) (h : st.toPStyle.DecoOk) : bs ≤ (prepare c st y bs skip cb pie adjL sh).bs := by
  rw [prepare_bs]
  split
  · rename_i hc
    have := h.2 hc
    grind
  · exact Rat.le_refl

/-! ### the invariant through the children loop -/

theorem preFlow_placed (c : Ctx) (b : BoxSt) (cwc pie0 : Bool) (child : OBox) (s : KidsLoop) (pie : Bool)
    (all : List OBox) :
    placedLinesList (preFlow c b cwc pie0 child s).newChildren pie all = placedLinesList s.newChildren pie all ∧
    noFlow (preFlow c b cwc pie0 child s).newChildren = noFlow s.newChildren := by
  unfold preFlow
  split
  · exact ⟨rfl, rfl⟩
  · rename_i hcond
    have hnone : lastInFlow s.newChildren = none := by
      simp only [Bool.or_eq_true, not_or] at hcond
      cases hl : lastInFlow s.newChildren with
      | none => rfl
      | some l => simp [hl] at hcond
    have hnf := lastInFlow_none _ hnone
    dsimp only
    split
    · simp only
      rw [placedLinesList_noFlow _ _ _ hnf, placedLinesList_noFlow _ _ _ (by rw [noFlow_translate]; exact hnf),
        noFlow_translate]
      exact ⟨rfl, rfl⟩
    · exact ⟨rfl, rfl⟩

theorem placedLinesList_snoc_oof (xs : List OFrag) (f : OFrag) (pie : Bool) (kids : List OBox)
    (hf : f.inFlow = false) : placedLinesList (xs ++ [f]) pie kids = placedLinesList xs pie kids := by
  rw [placedLinesList_snoc]
  simp [hf]

theorem concludeKid_fits (c : Ctx) (bs : Rat) (all : List OBox) (index : Nat) (pie : Bool) (pb : Brk)
    (child : OBox) (s : KidsLoop) (frag : Option OFrag) (resume : Option Resume)
    (hall : all[index]? = some child)
    (hs : LinesOk c bs (placedLinesList s.newChildren pie all))
    (hf : ∀ f, frag = some f → LinesOk c bs (placedLines f (pie && noFlow s.newChildren) child)) :
    StepTo (fun out => LinesOk c bs (placedLinesList out.state.newChildren pie all))
      (fun s3 => LinesOk c bs (placedLinesList s3.newChildren pie all))
      (concludeKid index pie pb child s frag resume) := by
  cases frag with
  | none =>
    apply stepTo_concludeKid_none
    · intro kept r' hfound
      exact linesOk_sub c bs _ _ (findEarlierGo_placed _ _ _ hfound pie all) hs
    · intro _; exact hs
    · intro _; exact linesOk_nil c bs
    · intro _; exact hs
  | some f =>
    have hnew : LinesOk c bs (placedLinesList (s.newChildren ++ [f.withIdx index]) pie all) := by
      rw [placedLinesList_snoc, linesOk_append]
      refine ⟨hs, ?_⟩
      split
      · simp only [idx_withIdx, hall, placedLines_withIdx]
        exact hf f rfl
      · exact linesOk_nil c bs
    exact stepTo_concludeKid_some (fun _ _ => hnew) (fun _ => hnew)

theorem floatStep_fits (c : Ctx) (bs0 bs : Rat) (all : List OBox) (index : Nat) (pie : Bool) (child : OBox)
    (hc : child.inFlow = false) (s : KidsLoop) (r : LayoutResult)
    (hrf : ∀ f, r.frag = some f → f.inFlow = false)
    (hs : LinesOk c bs0 (placedLinesList s.newChildren pie all)) :
    StepTo (fun out => LinesOk c bs0 (placedLinesList out.state.newChildren pie all))
      (fun s3 => LinesOk c bs0 (placedLinesList s3.newChildren pie all))
      (floatStep c index pie bs child hc s r) := by
  apply stepTo_floatStep
  · intro _ _; exact hs
  · intro f ser w hfd
    obtain ⟨f0, hf0, hfl, _⟩ := floatDone_frag hfd
    refine ⟨?_, ?_, fun _ => hs⟩
    · show LinesOk c bs0 (placedLinesList (s.newChildren ++ [f.withIdx index]) pie all)
      rw [placedLinesList_snoc_oof _ _ _ _ (by simp [hfl, hrf f0 hf0])]
      exact hs
    · intro kept r' _ hfound
      exact linesOk_sub c bs0 _ _ (findEarlierGo_placed _ _ _ hfound pie all) hs

theorem noFlow_of_all_isPh (xs : List OFrag) (h : xs.all OFrag.isPh = true) : noFlow xs = true := by
  rw [List.all_eq_true] at h
  unfold noFlow
  rw [List.all_eq_true]
  intro x hx
  have := h x hx
  cases x
  · cases this
  · cases this
  · rfl

theorem pienc_noFlow (pie : Bool) (s : KidsLoop) (h : pienc pie s = true) :
    (pie && noFlow s.newChildren) = true := by
  simp only [pienc, Bool.and_eq_true] at h
  rw [h.1, noFlow_of_all_isPh _ h.2]
  rfl

theorem kidStep_fits (c : Ctx) (st : OStyle) (b : BoxSt) (cwc : Bool) (index : Nat) (bs : Rat) (pie : Bool)
    (child : OBox) (s : KidsLoop) (all : List OBox) (hchild : all[index]? = some child)
    (hdeco : child.inFlow = true → child.st.toPStyle.DecoOk)
    (hbox : child.inFlow = true → ∀ (idx : Nat) (y bs : Rat) (skip : Option Resume) (cb pie : Bool)
      (adjL : List Rat) (w : World) (f : OFrag), (layoutBox c child idx y bs skip cb pie adjL w).frag = some f →
      LinesOk c bs (placedLines f pie child))
    (hs : LinesOk c bs (placedLinesList s.newChildren pie all)) :
    StepTo (fun out => LinesOk c bs (placedLinesList out.state.newChildren pie all))
      (fun s' => LinesOk c bs (placedLinesList s'.newChildren pie all))
      (kidStep c st b cwc index bs pie child s) := by
  apply stepTo_kidStep
  · intro _ _
    show LinesOk c bs (placedLinesList (s.newChildren ++ [_]) pie all)
    rw [placedLinesList_snoc_oof _ _ _ _ rfl]
    exact hs
  · intro hcf _
    refine floatStep_fits c bs bs all index pie child hcf s _ ?_ hs
    intro f hf
    rw [layoutBox_frag_inFlow hf, hcf]
  · intro _ _
    exact hs
  · intro hpos _
    have hcin := (inFlow_of_pos child).mpr hpos
    obtain ⟨hnc, _, _⟩ := flowLaid_state c st b cwc index bs pie child s
    obtain ⟨hpl, hnf⟩ := preFlow_placed c { b with y := s.boxY } cwc pie child s pie all
    refine concludeKid_fits c bs all index pie _ child _ _ _ hchild (by rw [hnc, hpl]; exact hs) ?_
    intro f hf
    obtain ⟨bs', adjL', w', hfr, _, hbs'⟩ := flowLaid_frag rfl hf
    -- a second layout is given more bottom space: what fits then fits now
    have hle : bs ≤ bs' := by
      rcases hbs' with rfl | ⟨f1, hf1, rfl⟩
      · exact Rat.le_refl
      · have := Geo.deco_nonneg (layoutBox_frag_deco hf1) (hdeco hcin).1
        grind
    rw [hnc]
    exact (placedLines_weaker f child _ _ (pienc_noFlow pie _)).linesFit _
      (linesOk_mono c bs bs' _ hle (hbox hcin _ _ _ _ _ _ _ _ f hfr))

mutual
/-- **Every in-flow line of a layout fits** above `pageBottom − bs`, except the first in-flow line when the
layout started on an empty page. -/
theorem box_fits : (box : OBox) → DecoOk box → ∀ (c : Ctx) (idx : Nat) (y bs : Rat) (skip : Option Resume)
    (cb pie : Bool) (adjL : List Rat) (w : World) (f : OFrag),
    (layoutBox c box idx y bs skip cb pie adjL w).frag = some f → LinesOk c bs (placedLines f pie box)
  | .para id n lineH st => by
    intro hd c idx y bs skip cb pie adjL w f hf
    unfold DecoOk at hd
    simp only [layoutBox, seenByCaller_frag] at hf
    obtain ⟨_, ⟨g, rfl, _⟩, _⟩ := finishPara_frag hf
    simp only [placedLines]
    apply linesOk_mono c bs _ _ (prepare_bs_le c st y bs skip cb pie adjL w.shapes hd)
    apply lineboxLayout_placed
    simp only [prepare_bb, prepare_pb]
    have := hd.1
    grind
  | .block id st kids => by
    intro hd c idx y bs skip cb pie adjL w f hf
    unfold DecoOk at hd
    simp only [layoutBox, seenByCaller_frag] at hf
    obtain ⟨g, rfl, _⟩ := finishBlock_frag hf
    simp only [placedLines]
    apply linesOk_mono c bs _ _ (prepare_bs_le c st y bs skip cb pie adjL w.shapes hd.1)
    exact kids_fits kids hd.2 c st _ _ kids 0 (skipIdxOf skip) _ pie _ (by intro j; simp)
      (by simp [placedLinesList, linesOk_nil])
theorem kids_fits : (rest : List OBox) → DecoOkList rest → ∀ (c : Ctx) (st : OStyle) (b : BoxSt) (cwc : Bool)
    (all : List OBox) (index skipIdx : Nat) (bs : Rat) (pie : Bool) (s : KidsLoop),
    (∀ j, rest[j]? = all[index + j]?) →
    LinesOk c bs (placedLinesList s.newChildren pie all) →
    LinesOk c bs (placedLinesList (layoutKids c st b cwc rest index skipIdx bs pie s).state.newChildren pie all)
  | [] => by
    intro _ c st b cwc all index skipIdx bs pie s _ hs
    simpa [layoutKids, KidsOutcome.state] using hs
  | child :: rest => by
    intro hd c st b cwc all index skipIdx bs pie s hall hs
    unfold DecoOkList at hd
    obtain ⟨hchild, hrest⟩ := List.getElem?_cons_window hall
    exact layoutKids_step (Post := fun out => LinesOk c bs (placedLinesList out.state.newChildren pie all))
      (fun s' => LinesOk c bs (placedLinesList s'.newChildren pie all))
      (fun _ => kids_fits rest hd.2 c st b cwc all (index + 1) skipIdx bs pie s hrest hs)
      (fun _ => ⟨kidStep_fits c st b cwc index bs pie child s all hchild
          (fun hcin => DecoOk.st child (hd.1 hcin)) (fun hcin => box_fits child (hd.1 hcin) c) hs,
        fun s' hs' => kids_fits rest hd.2 c st b cwc all (index + 1) skipIdx bs pie s' hrest hs'⟩)
end

/-! ### at most one exempt line: the first in-flow line, and only on an empty page -/

mutual
theorem placedLines_exempt : (f : OFrag) → ∀ (pie : Bool) (box : OBox), ExemptHeadOnly pie (placedLines f pie box)
  | .para _ id idx st n g lines => by
    intro pie box
    cases box with
    | para id' n' lh st' => simp only [placedLines]; exact paraPlaced_exempt _ _ _ _
    | block _ _ _ => simp [placedLines, ExemptHeadOnly]
  | .block _ id idx st g fkids => by
    intro pie box
    cases box with
    | para _ _ _ _ => simp [placedLines, ExemptHeadOnly]
    | block id' st' kids => simp only [placedLines]; exact placedLinesList_exempt fkids pie kids
  | .ph _ _ _ _ => by intro pie box; simp [placedLines, ExemptHeadOnly]
theorem placedLinesList_exempt : (fs : List OFrag) → ∀ (pie : Bool) (kids : List OBox),
    ExemptHeadOnly pie (placedLinesList fs pie kids)
  | [] => by intro pie kids; simp [placedLinesList, ExemptHeadOnly]
  | f :: rest => by
    intro pie kids
    simp only [placedLinesList]
    cases hf : f.inFlow with
    | true =>
      simp only [if_true, Bool.not_true, Bool.and_false]
      apply exemptHeadOnly_append
      · split
        · exact placedLines_exempt f pie _
        · simp [ExemptHeadOnly]
      · exact (placedLinesList_exempt rest false kids).2 rfl
    | false =>
      simp only [Bool.false_eq_true, if_false, List.nil_append, Bool.not_false, Bool.and_true]
      exact placedLinesList_exempt rest pie kids
end

/-! ### pages: the final root fragment has the in-flow lines of the raw one -/

@[simp] theorem substAbs_idx_inFlow (res : List (Nat × OFrag)) (f : OFrag) (h : f.inFlow = true) :
    (substAbs res f).idx = f.idx := by
  cases f <;> simp_all [substAbs, OFrag.inFlow, OFrag.idx]

mutual
theorem substAbs_placed (res : List (Nat × OFrag)) (hres : ∀ p ∈ res, p.2.inFlow = false) :
    (f : OFrag) → f.inFlow = true → ∀ (pie : Bool) (box : OBox),
      placedLines (substAbs res f) pie box = placedLines f pie box
  | .para _ _ _ _ _ _ _, _, pie, box => by simp [substAbs]
  | .block _ _ _ _ _ kids, _, pie, box => by
    cases box with
    | para _ _ _ _ => simp [substAbs, placedLines]
    | block _ _ bkids => simp only [substAbs, placedLines]; exact substAbsList_placed res hres kids pie bkids
  | .ph _ _ _ _, h, pie, box => by simp [OFrag.inFlow] at h
theorem substAbsList_placed (res : List (Nat × OFrag)) (hres : ∀ p ∈ res, p.2.inFlow = false) :
    (fs : List OFrag) → ∀ (pie : Bool) (kids : List OBox),
      placedLinesList (substAbsList res fs) pie kids = placedLinesList fs pie kids
  | [], pie, kids => rfl
  | f :: fs, pie, kids => by
    simp only [substAbsList, placedLinesList, substAbs_inFlow res hres f,
      substAbsList_placed res hres fs]
    congr 1
    cases hf : f.inFlow with
    | false => simp
    | true =>
      simp only [if_true, substAbs_idx_inFlow res f hf]
      cases kids[f.idx]? with
      | none => rfl
      | some kb => simp only; exact substAbs_placed res hres f hf pie kb
end

theorem finalRoot_placed (height : Len) (shapes : List Shape) (conts : List OFrag) (res : List (Nat × OFrag))
    (f : OFrag) (hc : ∀ g ∈ conts, g.inFlow = false) (hres : ∀ p ∈ res, p.2.inFlow = false)
    (hroot : f.isPh = false) (pie : Bool) (box : OBox) :
    placedLines (finishRoot height shapes conts (substAbs res f)) pie box = placedLines f pie box := by
  cases f with
  | para _ _ _ _ _ _ _ => simp [substAbs, finishRoot]
  | ph _ _ _ _ => simp [OFrag.isPh] at hroot
  | block ser id idx st g kids =>
    cases box with
    | para _ _ _ _ => simp [substAbs, finishRoot, placedLines]
    | block _ _ bkids =>
      simp only [substAbs, finishRoot, placedLines]
      rw [placedLinesList_append_noFlow _ _ _ _ (by
        simp only [noFlow, List.all_eq_true, Bool.not_eq_true']
        exact hc)]
      exact substAbsList_placed res hres kids pie bkids

/-- The source the root fragment of a page was laid out from. -/
def pageSource (d : Doc) (p : Page) : OBox := if p.type.blank then emptyRoot d.root else d.root

theorem decoOk_emptyRoot (b : OBox) (h : DecoOk b) : DecoOk (emptyRoot b) := by
  cases b with
  | para id n lh st => simpa [emptyRoot, DecoOk] using h
  | block id st kids =>
    simp only [DecoOk] at h
    simp [emptyRoot, DecoOk, DecoOkList, h.1]

/-- **Line fits, pages**: on every page made by `remake_page`, every in-flow line of the final root
fragment ends above the bottom of the page area, except the first in-flow line of the page. -/
theorem remakePage_fits (d : Doc) (hd : DecoOk d.root) (index : Nat) (resume : Option Resume) (np : NextPage)
    (right : Bool) (brokenIn : List Broken) (rootTop : Rat) (p : Page)
    (hp : remakePage d index resume np right brokenIn rootTop = some p) :
    ∃ c : Ctx, c.pageBottom = d.pageH ∧ LinesOk c 0 (placedLines p.root true (pageSource d p)) := by
  obtain ⟨blank, c, wc, r, f, wa, _, hc, rfl, rfl, hfrag, rfl, rfl⟩ :=
    remakePage_some d index resume np right brokenIn rootTop p hp
  refine ⟨c, by rw [hc], ?_⟩
  simp only [pageSource]
  rw [finalRoot_placed _ _ _ _ f (page_oof _ _ _ _ _).1 (page_oof _ rootTop brokenIn _ _).2 (layoutBox_frag_isPh hfrag)]
  split
  · rename_i hb
    simp only [hb, if_true] at hfrag
    exact box_fits _ (decoOk_emptyRoot _ hd) _ _ _ _ _ _ _ _ _ f hfrag
  · rename_i hb
    simp only [hb] at hfrag
    exact box_fits _ hd _ _ _ _ _ _ _ _ _ f hfrag

end Wp.PMO
