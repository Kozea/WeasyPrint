/-
Stage 2c ⊇ stage 1, the layout: `block_level_layout` and `make_all_pages` of `Model/PaginateCol` agree, on
embedded stage-1 documents, with those of `Model/Paginate`. The children loop is compared turn by turn
(`kidResult_embed`: the column stage's `kidResult` against `PM.kidResult`; the loop then unfolds `PM.kidStep`).
-/
import WpModel.Lemmas.ColEmbed
import WpModel.Lemmas.Pm2Step
import WpModel.Lemmas.PagesRun
import WpModel.Lemmas.ColPagesRun

namespace Wp.PMC
open Wp Wp.PM

/-- What `_in_flow_layout` makes of an embedded child is the embedding of what stage 1 makes of it, given that the
child's own layouts commute with the embedding. -/
theorem kidResult_embed (c : Ctx) (st : PStyle) (child : PBox) (idx : Nat) (bs : Rat) (pie : Bool) (s : PM.KidsLoop)
    (hbox : ∀ y bs skip cb pie adjL, layoutBox (cOf c) (embed child) idx y bs skip cb pie adjL =
      embedResult (PM.layoutBox c child idx y bs skip cb pie adjL)) :
    kidResult (cOf c) st (embed child) idx bs pie (embedLoop s) =
      .ok ((PM.kidResult c st child idx bs pie s).1.map embedFrag, embedResult (PM.kidResult c st child idx bs pie s).2.1,
        embedLoop (PM.kidResult c st child idx bs pie s).2.2) := by
  unfold kidResult PM.kidResult
  simp only [embedLoop_isEmpty, embedLoop_posY, embedLoop_skip, embedLoop_cur, embedLoop_curIsL, hbox, embedResult_err,
    firstPass_embed]
  generalize PM.layoutBox c child idx s.posY bs s.skip st.isRoot (pie && s.newChildren.isEmpty) s.cur = r
  simp only [embedResult_frag, embedResult_adj, embedResult_adjL, embedResult_nextPage, setCur_embed]
  cases hfp : PM.firstPass c bs (pie && s.newChildren.isEmpty) s.posY r with
  | keep frag posY =>
    simp only [embedFirstPass, Option.isSome_map, adoptAdj_embed]
    rfl
  | redo bs' =>
    simp only [embedFirstPass, embedLoop_cur, embedLoop_curIsL]
    generalize PM.layoutBox c child idx s.posY bs' s.skip st.isRoot (pie && s.newChildren.isEmpty)
      (s.setCur r.adjL s.curIsL).cur = r2
    simp only [adoptAdj_embed]
    cases hf2 : r2.frag with
    | none => rfl
    | some f2 => simp only [Option.map_some, embedFrag_geo]; rfl

mutual
theorem layoutBox_embed : (box : PBox) → ∀ (c : Ctx) (idx : Nat) (y bs : Rat) (skip : Option Resume)
    (cbIsRoot pie : Bool) (adjL : List Rat),
    layoutBox (cOf c) (embed box) idx y bs skip cbIsRoot pie adjL =
      embedResult (PM.layoutBox c box idx y bs skip cbIsRoot pie adjL)
  | .para id n lineH st => by
    intro c idx y bs skip cbIsRoot pie adjL
    simp only [embed, layoutBox, PM.layoutBox, cOf_base, prepareC_embed, lineboxLayout_embed]
    exact finishPara_embed c st _ pie id idx n _
  | .block id st kids => by
    intro c idx y bs skip cbIsRoot pie adjL
    simp only [embed, layoutBox, PM.layoutBox, cOf_base, prepareC_embed]
    have h := layoutKids_embed kids c st 0 (skipIdxOf skip) (prepare c st y bs skip cbIsRoot pie adjL).bs pie
      { newChildren := [], posY := (prepare c st y bs skip cbIsRoot pie adjL).posY,
        adjL := (prepare c st y bs skip cbIsRoot pie adjL).adjL, cur := (prepare c st y bs skip cbIsRoot pie adjL).cur,
        curIsL := (prepare c st y bs skip cbIsRoot pie adjL).curIsL, nextPage := { brk := none, page := none },
        skip := subSkipOf skip }
    simp only [embedLoop, embedFragList] at h
    rw [h]
    exact finishBlock_embed c st _ pie id idx _
theorem layoutKids_embed : (kids : List PBox) → ∀ (c : Ctx) (st : PStyle) (index skipIdx : Nat) (bs : Rat) (pie : Bool)
    (s : PM.KidsLoop),
    layoutKids (cOf c) st (embedList kids) [] index skipIdx 0 bs pie (embedLoop s) =
      embedOutcome (PM.layoutKids c st kids index skipIdx bs pie s)
  | [] => by
    intro c st index skipIdx bs pie s
    simp [embedList, layoutKids, PM.layoutKids, embedOutcome]
  | child :: rest => by
    intro c st index skipIdx bs pie s
    rw [embedList, PM.layoutKids_turn]
    by_cases hskip : index < skipIdx
    · rw [if_pos hskip, layoutKids]
      simp only [hskip, if_true, List.tail_nil]
      exact layoutKids_embed rest c st (index + 1) skipIdx bs pie s
    · rw [if_neg hskip, layoutKids_cons hskip (by simp), PM.kidStep, meetBreak_embed, Nat.sub_zero,
        kidResult_embed c st child index bs pie s (layoutBox_embed child c index)]
      split
      · simp only [embedOutcome, embedLoop, boxPageStart_embed]
      · simp only [embedResult_resume, concludeKid_embed, List.tail_nil]
        rcases PM.concludeKid index pie (PM.meetBreak s child).1 child (PM.kidResult c st child index bs pie s).2.2
          (PM.kidResult c st child index bs pie s).1 (PM.kidResult c st child index bs pie s).2.1.resume with ⟨_ | out, s3⟩
        · exact layoutKids_embed rest c st (index + 1) skipIdx bs pie s3
        · rfl
end

theorem emptyRoot_embed (b : PBox) : emptyRoot (embed b) = embed (PM.emptyRoot b) := by
  cases b <;> simp [embed, emptyRoot, PM.emptyRoot, embedList]

def embedPageOut : Option PM.Page → PageOut
  | some p => .ok (embedPage p)
  | none => .assertFail

theorem remakePage_embed (d : PM.Doc) (index : Nat) (resume : Option Resume) (np : NextPage) (right : Bool) :
    remakePage (embedDoc d) index resume np right = embedPageOut (PM.remakePage d index resume np right) := by
  unfold remakePage PM.remakePage
  simp only [embedDoc]
  have hc : (⟨d.pageH, index + 1, forcedBreakOf np, false, false⟩ : CCtx) =
      cOf ({ pageBottom := d.pageH, currentPage := index + 1, forcedBreak := forcedBreakOf np } : Ctx) := rfl
  rw [hc]
  by_cases hb : isBlank (requestedSide d.rootLtr np.brk) right = true
  rotate_left
  · simp only [hb, Bool.false_eq_true, if_false, layoutBox_embed, embedResult_err]
    generalize PM.layoutBox ({ pageBottom := d.pageH, currentPage := index + 1, forcedBreak := forcedBreakOf np } : Ctx)
      d.root 0 0 0 resume false true [] = r
    cases hf : r.frag <;> simp [embedResult, hf, embedPageOut, embedPage]
    cases np.page <;> rfl
  · simp only [hb, if_true, emptyRoot_embed, layoutBox_embed, embedResult_err]
    generalize PM.layoutBox ({ pageBottom := d.pageH, currentPage := index + 1, forcedBreak := forcedBreakOf np } : Ctx)
      (PM.emptyRoot d.root) 0 0 0 resume false true [] = r
    cases hf : r.frag <;> simp [embedResult, hf, embedPageOut, embedPage]

def PagesOut.pages? : PagesOut → Option (List CPage)
  | .ok ps => some ps
  | _ => none

def PagesOut.isRaised : PagesOut → Bool
  | .raised _ => true
  | _ => false

theorem makeAllPages_embed (d : PM.Doc) (fuel index : Nat) (resume : Option Resume) (np : NextPage) (right : Bool) :
    (makeAllPages (embedDoc d) fuel index resume np right).pages? =
        (PM.makeAllPages d fuel index resume np right).map (List.map embedPage) ∧
    (makeAllPages (embedDoc d) fuel index resume np right).isRaised = false := by
  have h := PageLoop.run_map (step := PM.pageStep d) (step' := pageStep (embedDoc d)) id embedPage (fun _ => none)
    (fun ⟨i, r, n, b⟩ => by
      show pageStep (embedDoc d) (i, r, n, b) = _
      rw [pageStep, PM.pageStep, PageLoop.stepOf, remakePage_embed]
      cases PM.remakePage d i r n b with
      | none => rfl
      | some p => simp only [embedPageOut, Option.map_id_fun, id_eq]; rfl)
    fuel (index, resume, np, right)
  rw [id_eq] at h
  rw [makeAllPages_eq_run, PM.makeAllPages_eq_run, h]
  cases PageLoop.run (PM.pageStep d) fuel (index, resume, np, right) <;> exact ⟨rfl, rfl⟩

theorem firstRight_embed (d : PM.Doc) : firstRight (embedDoc d) = PM.firstRight d := by
  simp only [firstRight, PM.firstRight, embedDoc, embed_st]
  cases d.root.st.brkBefore <;> rfl

end Wp.PMC
