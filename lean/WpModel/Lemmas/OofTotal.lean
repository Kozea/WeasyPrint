/-
Totality facts of the extended model: laid out with `page_is_empty`, a box always yields a fragment
(through placeholders, floats, clearance), hence `make_page`'s `assert root_box` is unreachable and
`float_layout` / `absolute_box_layout` never get `None` from `block_container_layout`.
-/
import WpModel.Lemmas.OofBlock

namespace Wp.PMO
open Wp Wp.PM

theorem finish_some (c : Ctx) (st : OStyle) (b : BoxSt) (bs : Rat)
    (cwc dbd : Bool) (resume : Option Resume) (posY : Rat) (adjL cur : List Rat) (curIsL : Bool)
    (np : NextPage) (hasKids : Bool) (pageEnd : String) (kids : List OFrag) (lb : List Broken) (w : World)
    (mk : Geo → OFrag) :
    (finishContainer c st b true bs cwc dbd resume posY adjL cur curIsL np hasKids pageEnd kids lb w mk).frag.isSome := by
  unfold finishContainer
  simp

theorem linebox_no_abort (c : Ctx) (st : PStyle) (b : BoxSt) (n : Nat) (lineH : Rat)
    (adj : List Rat) (bs posY : Rat) (skip : Option Resume) (dbd : Bool) (shapes : List Shape) :
    (lineboxLayout c st b n lineH true adj bs posY skip dbd shapes).abort = false := by
  unfold lineboxLayout
  split
  · rfl
  · rename_i a st' r s heq
    unfold lineboxLoop at heq
    exact lineLoopG_no_abort _ _ st b n lineH (lineLoop_eq_G .. ▸ heq)

theorem finishPara_some (c : Ctx) (st : OStyle) (p : Prep) (id idx n : Nat) (r : LineResult) (w : World)
    (h : r.abort = false) : (finishPara c st p true id idx n r w).frag.isSome = true := by
  unfold finishPara
  simp only [h, Bool.false_eq_true, ↓reduceIte]
  exact finish_some ..

theorem finishBlock_some (c : Ctx) (st : OStyle) (p : Prep) (id idx : Nat) (out : KidsOutcome)
    (h : ∀ page s, out ≠ .aborted page s) : (finishBlock c st p true id idx out).frag.isSome = true := by
  unfold finishBlock
  split
  · rename_i page s; exact absurd rfl (h page s)
  · exact finish_some ..
  · exact finish_some ..

theorem firstPass_keeps (c : Ctx) (bs posY : Rat) (r : LayoutResult) (h : r.frag.isSome = true) :
    (∃ f y, firstPass c bs true posY r = .keep (some f) y) := by
  unfold firstPass
  cases hf : r.frag with
  | none => simp [hf] at h
  | some f =>
    simp only [Bool.not_true, Bool.false_and, Bool.false_eq_true, ↓reduceIte]
    split
    · exact ⟨f, _, rfl⟩
    · exact ⟨f, _, rfl⟩

/-- Children lists met during a layout: what answers `is_absolutely_positioned()` is a placeholder. -/
def AbsArePh (fs : List OFrag) : Prop := ∀ f ∈ fs, f.isAbs = f.isPh

theorem absArePh_all (fs : List OFrag) (h : AbsArePh fs) : fs.all OFrag.isAbs = fs.all OFrag.isPh := by
  induction fs with
  | nil => rfl
  | cons f fs ih =>
    simp only [List.all_cons]
    rw [h f (by simp), ih (fun g hg => h g (by simp [hg]))]

/-- What kind of fragment a layout returns: never a placeholder; absolutely positioned iff the box is. -/
theorem layoutBox_frag_kind {c : Ctx} {box : OBox} {idx : Nat} {y bs : Rat} {skip : Option Resume}
    {cb pie : Bool} {adjL : List Rat} {w : World} {f : OFrag}
    (h : (layoutBox c box idx y bs skip cb pie adjL w).frag = some f) :
    f.isPh = false ∧ f.isAbs = (box.st.pos == .abs) := by
  obtain ⟨g, _, hs⟩ := layoutBox_frag_shape h
  cases box with
  | para id n lineH st => obtain ⟨l, rfl⟩ := hs; exact ⟨rfl, rfl⟩
  | block id st kids => obtain ⟨l, rfl⟩ := hs; exact ⟨rfl, rfl⟩

theorem absArePh_translate (dy : Rat) (fs : List OFrag) (h : AbsArePh fs) : AbsArePh (translateList dy fs) := by
  induction fs with
  | nil => intro f hf; simp [translateList] at hf
  | cons g gs ih =>
    intro f hf
    simp only [translateList, List.mem_cons] at hf
    rcases hf with rfl | hf
    · simpa using h g (by simp)
    · exact ih (fun x hx => h x (by simp [hx])) f hf

theorem absArePh_snoc (fs : List OFrag) (f : OFrag) (h : AbsArePh fs) (hf : f.isAbs = f.isPh) :
    AbsArePh (fs ++ [f]) :=
  forall_mem_snoc h hf

theorem flowLaid_frag_isSome (c : Ctx) (st : OStyle) (b : BoxSt) (cwc : Bool) (index : Nat) (bs : Rat) (pie : Bool)
    (child : OBox) (s : KidsLoop)
    (hpe : pienc pie (preFlow c { b with y := s.boxY } cwc pie child s) = true)
    (hbox : ∀ sk cb adjL w, (layoutBox c child index s.posY bs sk cb true adjL w).frag.isSome = true) :
    (flowLaid c st b cwc index bs pie child s).2.1.isSome = true := by
  unfold flowLaid
  extract_lets s0 pe r s1 s1'
  have hr : r.frag.isSome = true := by
    show (layoutBox c child index s.posY bs s0.skip st.isRoot pe s0.cur s0.w).frag.isSome = true
    rw [show pe = true from hpe]
    exact hbox _ _ _ _
  obtain ⟨f, y', hk⟩ := firstPass_keeps c bs s0.posY r hr
  rw [show firstPass c bs pe s0.posY r = firstPass c bs true s0.posY r by rw [show pe = true from hpe], hk]
  rfl

theorem kidStep_not_aborted (c : Ctx) (st : OStyle) (b : BoxSt) (cwc : Bool) (index : Nat) (bs : Rat)
    (child : OBox) (s : KidsLoop)
    (hbox : ∀ idx y bs skip cb adjL w, (layoutBox c child idx y bs skip cb true adjL w).frag.isSome = true)
    (hinv : AbsArePh s.newChildren) :
    StepTo (fun out => ∀ page s', out ≠ .aborted page s') (fun s' => AbsArePh s'.newChildren)
      (kidStep c st b cwc index bs true child s) := by
  apply stepTo_kidStep
  · intro _ _
    exact absArePh_snoc _ _ hinv rfl
  · intro _ hpos
    apply stepTo_floatStep
    · -- laid out with `page_is_empty`, the float always has a fragment
      intro w hfd
      have := hbox index (floatY s.w.shapes child.st.clear (s.posY + collapseMargin s.cur)) bs none false []
        { s.w with shapes := [] }
      rw [(floatDone_none hfd).1] at this
      cases this
    · intro f ser w hfd
      refine ⟨?_, ?_, ?_⟩
      rotate_left
      · intro _ _ _ _ page s' h
        cases h
      · intro _ page s' h
        cases h
      obtain ⟨f0, hf0, _, hph, habs⟩ := floatDone_frag hfd
      have hk := layoutBox_frag_kind hf0
      apply absArePh_snoc _ _ hinv
      simp [hph, habs, hk.1, hk.2, hpos]
  · intro _ _ page s' h
    cases h
  · intro hpos _
    obtain ⟨hnc, _, _⟩ := flowLaid_state c st b cwc index bs true child s
    obtain ⟨dy, hdy⟩ := preFlow_children c { b with y := s.boxY } cwc true child s
    have hinv0 : AbsArePh (flowLaid c st b cwc index bs true child s).1.newChildren := by
      rw [hnc, hdy]
      exact absArePh_translate dy _ hinv
    cases hfr : (flowLaid c st b cwc index bs true child s).2.1 with
    | some f =>
      obtain ⟨bs', adjL', w', hf, _, _⟩ := flowLaid_frag rfl hfr
      have hk := layoutBox_frag_kind hf
      apply stepTo_concludeKid_some
      · intro _ _ page s' h
        cases h
      · intro _
        apply absArePh_snoc _ _ hinv0
        simp [hk.1, hk.2, hpos]
    | none =>
      apply stepTo_concludeKid_none
      · intro _ _ _ page s' h
        cases h
      · intro h
        cases h
      · -- only placeholders laid out: the child was laid out with `page_is_empty`, and kept
        intro hall
        have hpe : pienc true (preFlow c { b with y := s.boxY } cwc true child s) = true := by
          rw [absArePh_all _ hinv0, hnc] at hall
          simpa [pienc] using hall
        have := flowLaid_frag_isSome c st b cwc index bs true child s hpe (fun _ _ _ _ => hbox _ _ _ _ _ _ _)
        rw [hfr] at this
        cases this
      · intro _ page s' h
        cases h

mutual
theorem box_some : (box : OBox) → ∀ (c : Ctx) (idx : Nat) (y bs : Rat) (skip : Option Resume)
    (cb : Bool) (adjL : List Rat) (w : World), (layoutBox c box idx y bs skip cb true adjL w).frag.isSome = true
  | .para id n lineH st => by
    intro c idx y bs skip cb adjL w
    simp only [layoutBox, seenByCaller_frag]
    exact finishPara_some _ _ _ _ _ _ _ _ (linebox_no_abort ..)
  | .block id st kids => by
    intro c idx y bs skip cb adjL w
    simp only [layoutBox, seenByCaller_frag]
    exact finishBlock_some _ _ _ _ _ _
      (fun page s => kids_not_aborted kids _ _ _ _ _ _ _ _ page s (by intro f hf; simp at hf))
theorem kids_not_aborted : (kids : List OBox) → ∀ (c : Ctx) (st : OStyle) (b : BoxSt) (cwc : Bool)
    (index skipIdx : Nat) (bs : Rat) (s : KidsLoop) (page : String) (s' : KidsLoop),
    AbsArePh s.newChildren → layoutKids c st b cwc kids index skipIdx bs true s ≠ .aborted page s'
  | [] => by
    intro c st b cwc index skipIdx bs s page s' _
    simp [layoutKids]
  | child :: rest => by
    intro c st b cwc index skipIdx bs s page s' hinv
    exact layoutKids_step (Post := fun out => ∀ page s', out ≠ .aborted page s')
      (fun s' => AbsArePh s'.newChildren)
      (fun _ page s' => kids_not_aborted rest _ _ _ _ _ _ _ _ page s' hinv)
      (fun _ => ⟨kidStep_not_aborted c st b cwc index bs child s (box_some child c) hinv,
        fun s3 h3 page s' => kids_not_aborted rest _ _ _ _ _ _ _ _ page s' h3⟩) page s'
end

theorem box_frag (box : OBox) (c : Ctx) (idx : Nat) (y bs : Rat) (skip : Option Resume) (cb : Bool)
    (adjL : List Rat) (w : World) : ∃ f, (layoutBox c box idx y bs skip cb true adjL w).frag = some f :=
  Option.isSome_iff_exists.mp (box_some box c idx y bs skip cb adjL w)

end Wp.PMO
