/-
Footnote conservation, page level: `make_page`'s reported-footnotes loop, one page, all pages; page by page, a page
takes what the previous one postponed followed by the calls on its own lines (`PagesChain`); the footnote area shows
every footnote of the page.
-/
import WpModel.Lemmas.FootConserveKids
import WpModel.Lemmas.FootPages
import WpModel.Lemmas.FootEmbed

namespace Wp.PMF
open Wp Wp.PM

/-! ### the reported footnotes are placed first -/

/-- `make_page` places the footnotes reported by the page before on a fresh state: while nothing is reported `act` is
`cur` (hence `hr`); when one overflows (not the first) the loop ends with it and the rest reported again. -/
theorem placeReported_spec (c : FCtx) (L : List Fn) (i : Nat) (fs : FState) (hok : StOk fs) (hr : fs.reported = [])
    (hL : ∀ f ∈ L, f ∉ fs.pending ∧ f ∉ act fs) (hnd : L.Nodup) :
    StOk (placeReported c L i fs) ∧ act (placeReported c L i fs) = act fs ++ L ∧
    (placeReported c L i fs).pending = fs.pending := by
  induction L generalizing i fs with
  | nil => simp [placeReported, hok]
  | cons f rest ih =>
    rw [List.nodup_cons] at hnd
    obtain ⟨hfp, hfa⟩ := hL f (by simp)
    have hfc : f ∉ fs.cur := fun h => hfa (by simp [act, h])
    have hpe : (fs.pending ++ [f]).erase f = fs.pending := by
      rw [List.erase_append_right _ hfp]; simp
    unfold placeReported
    dsimp only
    have hp1 : (layoutFootnote c { fs with pending := fs.pending ++ [f] } f).1.pending = fs.pending := by
      simp [hpe]
    have hc1 : (layoutFootnote c { fs with pending := fs.pending ++ [f] } f).1.cur = fs.cur ++ [f] := by simp
    have hr1 : (layoutFootnote c { fs with pending := fs.pending ++ [f] } f).1.reported = [] := by simp [hr]
    have hact0 : act fs = fs.cur := by simp [act, hr]
    split
    · -- overflow: this footnote and the following ones stay reported
      have hcn : fs.cur.Nodup := by rw [← hact0]; exact hok.actnd
      have hactO : act { reportFootnote c (layoutFootnote c { fs with pending := fs.pending ++ [f] } f).1 f with
          reported := f :: rest } = fs.cur ++ f :: rest := by
        simp only [act, reportFootnote_cur, hc1]
        rw [List.erase_append_right _ hfc]; simp
      refine ⟨⟨by simpa [hpe] using hok.pnd, ?_, ?_⟩, by rw [hactO, hact0], by simp [hpe]⟩
      · rw [hactO, List.nodup_append]
        refine ⟨hcn, List.nodup_cons.mpr hnd, ?_⟩
        intro a ha b hb he
        exact (hL b hb).2 (by rw [hact0, ← he]; exact ha)
      · intro g hg
        rw [hactO, List.mem_append] at hg
        simp only [reportFootnote_pending, hp1]
        rcases hg with h | h
        · exact hok.disj g (by rw [hact0]; exact h)
        · exact (hL g h).1
    · -- placed; go on
      have hok1 : StOk (layoutFootnote c { fs with pending := fs.pending ++ [f] } f).1 := by
        refine ⟨by rw [hp1]; exact hok.pnd, ?_, ?_⟩
        · simp only [act, hc1, hr1, List.append_nil]
          rw [List.nodup_append]
          have hcn : fs.cur.Nodup := by rw [← hact0]; exact hok.actnd
          refine ⟨hcn, by simp, ?_⟩
          intro a ha b hb he
          simp only [List.mem_singleton] at hb
          subst hb; subst he; exact hfc ha
        · intro g hg
          simp only [act, hc1, hr1, List.append_nil, List.mem_append, List.mem_singleton] at hg
          rw [hp1]
          rcases hg with h | h
          · exact hok.disj g (by rw [hact0]; exact h)
          · subst h; exact hfp
      have hact1 : act (layoutFootnote c { fs with pending := fs.pending ++ [f] } f).1 = act fs ++ [f] := by
        simp [act, hr]
      obtain ⟨i1, i2, i3⟩ := ih (i + 1) _ hok1 hr1 (by
        intro g hg
        rw [hp1, hact1]
        refine ⟨(hL g (by simp [hg])).1, ?_⟩
        simp only [List.mem_append, List.mem_singleton, not_or]
        exact ⟨(hL g (by simp [hg])).2, fun he => hnd.1 (he ▸ hg)⟩) hnd.2
      refine ⟨i1, ?_, ?_⟩
      · rw [i2, hact1]; simp
      · rw [i3, hp1]

/-! ### an emptied root (blank page) leaves the footnote state alone -/

theorem emptyRootF_state (c : FCtx) (b : FootBox) (idx : Nat) (y bs : Rat) (skip : Option Resume) (cb pie : Bool)
    (adjL : List Rat) (fs : FState) :
    (layoutBoxF c (emptyRootF b) idx y bs skip cb pie adjL fs).fs = fs := by
  cases b with
  | para id n lineH st calls =>
    simp only [emptyRootF, layoutBoxF]
    rw [lineboxLayoutF_embed, finishParaF_embed]
  | block id st kids =>
    simp only [emptyRootF, layoutBoxF, layoutKidsF, finishBlockF]

/-- What holds between two pages: the lists are consistent and every footnote called on a line still to be
laid out is pending. -/
structure PInv (d : FDoc) (resume : Option Resume) (pending reported : List Fn) : Prop where
  pnd : pending.Nodup
  rnd : reported.Nodup
  disj : ∀ g ∈ reported, g ∉ pending
  rem : ∀ g ∈ tblFns (callTable d.root) (remaining d resume reported), g ∈ pending
  remnd : (tblFns (callTable d.root) (remaining d resume reported)).Nodup

theorem remakePageF_foot (d : FDoc) (hok : FootOk (callTable d.root) d.root) (index : Nat) (resume : Option Resume)
    (np : NextPage) (right : Bool) (pending reported : List Fn) (p : FPage)
    (hstart : resume = none → reported = [] → isBlank (requestedSide d.rootLtr np.brk) right = false)
    (hinv : PInv d resume pending reported)
    (hp : remakePageF d index resume np right pending reported = some p) :
    p.cur ++ p.reported = reported ++ tblFns (callTable d.root) (fragLines p.page.root) ∧
    (¬(p.page.resume = none ∧ p.reported = []) → PInv d p.page.resume p.pending p.reported) := by
  have hg : Good d.root.erase := footOk_good _ _ hok
  have hrem2 := (page_remaining d hg index resume np right pending reported p hstart hp).2
  obtain ⟨l1, _⟩ := remakePageF_lines d hg index resume np right pending reported p hp
  have hfs0 : StOk { pending := pending, cur := [], reported := [], pageBottom := d.pageH, areaH := none } :=
    ⟨hinv.pnd, by simp [act], by simp [act]⟩
  obtain ⟨s1, s2, s3⟩ := placeReported_spec (pageCtxOf d index resume np right reported) reported 0
    { pending := pending, cur := [], reported := [], pageBottom := d.pageH, areaH := none } hfs0 rfl
    (fun f hf => ⟨hinv.disj f hf, by simp [act]⟩) hinv.rnd
  simp only [act, List.nil_append] at s2
  obtain ⟨R, f, hR, hfrag, rfl⟩ := remakePageF_some d index resume np right pending reported p hp
  -- the layout of the root adds the footnotes called on the lines of the page
  have hlay : StOk R.fs ∧ R.fs.cur ++ R.fs.reported = reported ++ tblFns (callTable d.root) (fragLines f) ∧
      ∀ g ∈ pending, g ∈ R.fs.pending ∨ g ∈ tblFns (callTable d.root) (fragLines f) := by
    cases hb : isBlankF d resume np right reported with
    | true =>
      -- blank page: the emptied root does nothing
      rw [hb, if_pos rfl] at hR
      have hst : R.fs = pageStart d (pageCtxOf d index resume np right reported) pending reported := by
        rw [hR]; exact emptyRootF_state _ _ _ _ _ _ _ _ _ _
      have hlines : fragLines f = [] := (l1 hb).1
      rw [hst, hlines]
      exact ⟨s1, by simpa [tblFns, pageStart] using s2, fun g hg => Or.inl (s3 ▸ hg)⟩
    | false =>
      rw [hb, if_neg Bool.false_ne_true] at hR
      have hrem := remaining_of_not_blank d resume np right reported hb
      have hS := boxF_state d.root (pageCtxOf d index resume np right reported) hok 0 0 0 resume false true []
        (pageStart d (pageCtxOf d index resume np right reported) pending reported) (fun _ => rfl) s1
        (by rw [← hrem]; exact hinv.remnd)
        (by intro g hg; show g ∈ (placeReported _ _ _ _).pending; rw [s3]; apply hinv.rem; rw [hrem]; exact hg)
      rw [← hR, hfrag] at hS
      obtain ⟨r1, r2, r3⟩ := hS
      rw [fragFns_some] at r2 r3
      exact ⟨r1, by rw [← s2]; exact r2, fun g hg => r3 g (by show g ∈ (placeReported _ _ _ _).pending; rw [s3]; exact hg)⟩
  obtain ⟨r1, r2, r3⟩ := hlay
  refine ⟨r2, ?_⟩
  intro hnl
  have hnd := r1.actnd
  unfold act at hnd
  rw [List.nodup_append] at hnd
  have hndall := hinv.remnd
  rw [← hrem2 hnl, tblFns_append, List.nodup_append] at hndall
  refine ⟨r1.pnd, hnd.2.1, fun g hg => r1.disj g (by simp [act, hg]), ?_, hndall.2.1⟩
  intro g hg
  have hgall : g ∈ tblFns (callTable d.root) (remaining d resume reported) := by
    rw [← hrem2 hnl, tblFns_append]; simp [hg]
  rcases r3 g (hinv.rem g hgall) with h | h
  · exact h
  · exact absurd rfl (hndall.2.2 g h g hg)

/-- Footnotes in the footnote areas of the pages, in page order. -/
def pagesCur : List FPage → List Fn
  | [] => []
  | p :: ps => p.cur ++ pagesCur ps

/-! ### page by page: a page takes what the previous one postponed, then the calls on its own lines -/

/-- `carried` = footnotes postponed by the previous page. -/
def PagesChain (tbl : List (Nat × Nat × Fn)) : List Fn → List FPage → Prop
  | _, [] => True
  | carried, p :: ps =>
    p.cur ++ p.reported = carried ++ tblFns tbl (fragLines p.page.root) ∧ PagesChain tbl p.reported ps

theorem makeAllPagesF_chain (d : FDoc) (hok : FootOk (callTable d.root) d.root) : ∀ (fuel index : Nat)
    (resume : Option Resume) (np : NextPage) (right : Bool) (pending reported : List Fn) (pages : List FPage),
    (resume = none → reported = [] → isBlank (requestedSide d.rootLtr np.brk) right = false) →
    PInv d resume pending reported →
    makeAllPagesF d fuel index resume np right pending reported = some pages →
    PagesChain (callTable d.root) reported pages ∧ pages ≠ [] ∧
      (∀ p, pages.getLast? = some p → p.reported = []) := by
  intro fuel index resume np right pending reported pages hstart hinv h
  revert hstart hinv
  refine makeAllPagesF_induct d (fun _ resume np right pending reported pages =>
    (resume = none → reported = [] → isBlank (requestedSide d.rootLtr np.brk) right = false) →
    PInv d resume pending reported →
    PagesChain (callTable d.root) reported pages ∧ pages ≠ [] ∧ (∀ p, pages.getLast? = some p → p.reported = []))
    ?_ ?_ fuel index resume np right pending reported pages h
  · intro index resume np right pending reported p hp _ hrep hstart hinv
    refine ⟨⟨(remakePageF_foot d hok index resume np right pending reported p hstart hinv hp).1, trivial⟩,
      List.cons_ne_nil _ _, ?_⟩
    intro q hq
    rw [← Option.some.inj hq]; exact hrep
  · intro index resume np right pending reported p ps hp hnl ih hstart hinv
    obtain ⟨hf1, hf2⟩ := remakePageF_foot d hok index resume np right pending reported p hstart hinv hp
    obtain ⟨i1, i2, i3⟩ := ih (fun h1 h2 => absurd ⟨h1, h2⟩ hnl) (hf2 hnl)
    refine ⟨⟨hf1, i1⟩, List.cons_ne_nil _ _, ?_⟩
    intro q hq
    cases ps with
    | nil => exact absurd rfl i2
    | cons x xs => rw [List.getLast?_cons_cons] at hq; exact i3 q hq

/-- Over all pages the chain telescopes: what the first page was handed, then the calls of all lines. -/
theorem pagesCur_of_chain (tbl : List (Nat × Nat × Fn)) (ps : List FPage) : ∀ carried : List Fn,
    PagesChain tbl carried ps → ps ≠ [] → (∀ p, ps.getLast? = some p → p.reported = []) →
    pagesCur ps = carried ++ tblFns tbl (pagesLinesF ps) := by
  induction ps with
  | nil => exact fun _ _ h => absurd rfl h
  | cons p ps ih =>
    intro carried hc _ hl
    rw [pagesCur, pagesLinesF, tblFns_append, ← List.append_assoc, ← hc.1, List.append_assoc]
    cases ps with
    | nil => rw [hl p rfl]; rfl
    | cons q qs =>
      rw [ih p.reported hc.2 (List.cons_ne_nil _ _) fun x hx => hl x (by rwa [List.getLast?_cons_cons])]

theorem makeAllPagesF_foot (d : FDoc) (hok : FootOk (callTable d.root) d.root) (fuel index : Nat)
    (resume : Option Resume) (np : NextPage) (right : Bool) (pending reported : List Fn) (pages : List FPage)
    (hstart : resume = none → reported = [] → isBlank (requestedSide d.rootLtr np.brk) right = false)
    (hinv : PInv d resume pending reported)
    (h : makeAllPagesF d fuel index resume np right pending reported = some pages) :
    pagesCur pages = reported ++ tblFns (callTable d.root) (remaining d resume reported) := by
  obtain ⟨hc, hne, hl⟩ := makeAllPagesF_chain d hok fuel index resume np right pending reported pages hstart hinv h
  rw [pagesCur_of_chain _ pages reported hc hne hl,
    makeAllPagesF_lines d (footOk_good _ _ hok) fuel index resume np right pending reported pages hstart h]

/-! ### the footnote area shows every footnote of the page (whatever their page names: repair 8db5909) -/

theorem areaKids_fids (y : Rat) (l : List Fn) : (areaKids y l).map (fun k => k.1) = l.map (fun f => f.fid) := by
  induction l generalizing y with
  | nil => rfl
  | cons f rest ih => simp [areaKids, ih]

/-- Ids of the footnotes rendered in the footnote area of a page. -/
def shownFids (p : FPage) : List Nat :=
  match p.area with
  | none => []
  | some a => a.kids.map (fun k => k.1)

theorem areaOut_fids (a : AreaStyle) (pageH : Rat) (cur : List Fn) :
    (match areaOut a pageH cur with | none => [] | some o => o.kids.map (fun k => k.1)) = cur.map (fun f => f.fid) := by
  unfold areaOut
  by_cases he : cur.isEmpty = true
  · rw [if_pos he]
    simp only [List.isEmpty_iff] at he
    simp [he]
  · rw [if_neg he]
    dsimp only
    rw [areaKids_fids]
    rfl

theorem remakePageF_area (d : FDoc) (index : Nat) (resume : Option Resume) (np : NextPage) (right : Bool)
    (pending reported : List Fn) (p : FPage) (hp : remakePageF d index resume np right pending reported = some p) :
    p.area = areaOut (d.areaFor p.page.type.name) d.pageH p.cur := by
  obtain ⟨_, _, _, _, rfl⟩ := remakePageF_some d index resume np right pending reported p hp
  rfl

theorem makeAllPagesF_area (d : FDoc) : ∀ (fuel index : Nat) (resume : Option Resume) (np : NextPage) (right : Bool)
    (pending reported : List Fn) (pages : List FPage),
    makeAllPagesF d fuel index resume np right pending reported = some pages →
    ∀ p ∈ pages, p.area = areaOut (d.areaFor p.page.type.name) d.pageH p.cur := by
  intro fuel index resume np right pending reported pages h
  exact makeAllPagesF_forall d (fun _ => True) _
    (fun index resume np right pending reported p _ hp =>
      ⟨remakePageF_area d index resume np right pending reported p hp, trivial⟩)
    fuel index resume np right pending reported pages trivial h

end Wp.PMF
