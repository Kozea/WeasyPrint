/-
Post-condition of `layoutBox` for every document (fixed heights allowed) and its proof for paragraphs.
-/
import WpModel.Lemmas.LossyEarlier
import WpModel.Lemmas.SegmentPara

namespace Wp.PM
open Wp

/-- What a layout returning a fragment guarantees, fixed heights allowed (`fl` = some ancestor has a fixed
height): with no resume position the fragment is complete unless under a fixed height (`PartT`); with a resume
position, fragment + rest are sandwiched between the free lines and all lines asked for, and the position is
strictly later. -/
def BoxPostT (box : PBox) (skip : Option Resume) (fl : Bool) (frag : Option Frag) (resume : Option Resume) : Prop :=
  ∀ f, frag = some f → match resume with
    | none => PartT f box skip fl
    | some ρ => PartT f box skip true ∧
        SandT fl (fragLines f) (linesFrom box (some ρ)) (freeFrom box (some ρ)) (linesFrom box skip) (freeFrom box skip) ∧
        pos box skip < pos box (some ρ)

theorem boxPostT_none (box : PBox) (skip resume : Option Resume) (fl : Bool) : BoxPostT box skip fl none resume := by
  intro f h; cases h

theorem forgetIfFixed_cases (st : PStyle) (b : BoxSt) (posY : Rat) (r : Option Resume) :
    forgetIfFixed st b posY r = r ∨ (forgetIfFixed st b posY r = none ∧ fixedSt st = true) := by
  rcases forgetIfFixed_or st b posY r with e | ⟨e, ht, hh, _⟩
  · exact .inl e
  · exact .inr ⟨e, by rw [fixedSt, hh]; rfl⟩

/-- The post-condition of a paragraph from what `_linebox_layout` guarantees about its lines, for any line result
`R` (the end of a paragraph is the same in every stage that ends it with `finishPara`). -/
theorem finishPara_postT (id n : Nat) (lineH : Rat) (st : PStyle) (c : Ctx) (p : Prep) (pie : Bool) (idx : Nat)
    (skip : Option Resume) (fl : Bool) (R : LineResult)
    (hR : R.abort = false → LinesRun n (paraStart skip) R) :
    BoxPostT (.para id n lineH st) skip fl (finishPara c st p pie id idx n R).frag
      (finishPara c st p pie id idx n R).resume := by
  intro f hf
  obtain ⟨hab, ⟨g, rfl⟩, b, posY, hres⟩ := finishPara_fragT _ _ _ _ _ _ _ _ _ hf
  rw [hres]
  obtain ⟨h1, h2⟩ := hR hab
  cases hstop : R.stop with
  | false =>
    simp only [Bool.false_eq_true, ↓reduceIte, PartT, true_and]
    exact ⟨n - paraStart skip, h1 hstop, by omega, fun _ => rfl⟩
  | true =>
    obtain ⟨m, hm1, hmn, hl, hr⟩ := h2 hstop
    simp only [↓reduceIte, hr]
    rcases forgetIfFixed_cases st b posY (some (Resume.node 0 (some (Resume.line (paraStart skip + m))))) with h | h
    · rw [h]; exact para_cutT id n lineH st idx g skip fl _ m hl hm1 hmn
    · rw [h.1]
      simp only [PartT, true_and]
      exact ⟨m, hl, by omega, by simp [h.2]⟩

theorem para_specT (id n : Nat) (lineH : Rat) (st : PStyle) (hw : WellFormed (.para id n lineH st))
    (c : Ctx) (idx : Nat) (y bs : Rat) (skip : Option Resume) (cb pie : Bool) (adjL : List Rat) (fl : Bool) :
    BoxPostT (.para id n lineH st) skip fl
      (layoutBox c (.para id n lineH st) idx y bs skip cb pie adjL).frag
      (layoutBox c (.para id n lineH st) idx y bs skip cb pie adjL).resume := by
  simp only [layoutBox]
  exact finishPara_postT id n lineH st c _ pie idx skip fl _ fun hab => linebox_spec _ _ _ _ _ _ _ _ _ _ _ hw.1 hab

end Wp.PM
