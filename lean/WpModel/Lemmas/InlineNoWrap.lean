/-
C09 — `white-space: nowrap | pre` inside nested inline boxes: `split_inline_level` ends a line only at a
preserved line break, whatever the nesting (no opportunity between two children, no re-broken waiting
child, no "put the child on the next line").  Core Lean only.
-/
import WpModel.Model.InlineRun
import WpModel.Lemmas.LineBreak
namespace Wp.LFIL
open Wp Wp.Py Wp.LB Wp.IR Wp.C09L

/-- the box under its `trailing_collapsible_space` flags -/
def unwrapN : Node → Node
  | .flagged n => unwrapN n
  | n => n

/-- the character just before the place a `resume_at` points to, in the tree under a box -/
def charBefore : Node → Skip → Option Char
  | node, .mk k none =>
    match unwrapN node with
    | .text s => s[k - 1]?
    | _ => none
  | node, .mk idx (some sub) =>
    match unwrapN node with
    | .box _ _ _ kids =>
      (match kids[idx]? with
       | some c => charBefore c sub
       | none => none)
    | _ => none

theorem canBreakInside_no_wrap (ws : WS) (hw : ws.breakInside = false) (f : Frag) : canBreakInside ws f = false := by
  cases f <;> simp [canBreakInside, hw]

/-- **under `pre` / `nowrap` (and any non-wrapping value) `_break_waiting_children` never re-breaks a
waiting child**: `can_break_inside` is false for every box, the loop over the waiting children ends
without a break. -/
theorem tryWaiting_no_wrap (ws : WS) (hw : ws.breakInside = false) (split : Split) (skip : Option Skip)
    (kept : List Entry) : ∀ (waiting : List Entry), tryWaiting ws split skip kept waiting = .ok none
  | [] => rfl
  | e :: earlier => by
    unfold tryWaiting
    rw [canBreakInside_no_wrap ws hw]
    simp only [Bool.false_eq_true, if_false]
    exact tryWaiting_no_wrap ws hw split skip kept earlier

theorem splitTextBox_no_wrap (st : Style) (hw : st.ws.textWrap = false) (s : Text) (avail : MaxW) (k : Nat) (ils : Bool)
    (ts : TextSplit) (hs : splitTextBox st s avail k ils = .ok ts) (q : Nat) (hres : ts.resume = some q) :
    s[q - 1]? = some '\n' := by
  obtain ⟨rr, ri, hsf, hri, _, rfl, _⟩ := splitTextBox_resume hs hres
  have hnl := no_wrap_breaks_only_at_newline true st (s.drop k) avail ils false rr hw hsf
  rw [hri] at hnl
  cases hfi : find (s.drop k) '\n' with
  | none => rw [hfi] at hnl; cases hnl
  | some i =>
    rw [hfi] at hnl
    cases hnl
    have hg := find_get hfi
    rw [List.getElem?_drop] at hg
    have : i + 1 + k - 1 = k + i := by omega
    rw [this]
    exact hg

theorem textLevel_no_wrap (st : Style) (hw : st.ws.textWrap = false) (s : Text) (posX maxX : Rat) (skip : Option Skip)
    (o : LevelOut) (h : textLevel st s posX maxX skip = .ok o) (r : Skip) (hr : o.resume = some r) :
    charBefore (.text s) r = some '\n' := by
  revert h
  fun_cases textLevel st s posX maxX skip <;> intro h
  · cases h
  obtain ⟨ts, hs, rfl⟩ := Except.map_eq_ok h
  simp only at hr
  cases hres : ts.resume with
  | none => rw [hres] at hr; cases hr
  | some q =>
    rw [hres] at hr
    simp only [Option.map] at hr
    cases hr
    simp only [charBefore, unwrapN]
    exact splitTextBox_no_wrap st hw s _ _ _ ts hs q hres

/-- the `resume_at` of the children loop under `pre` / `nowrap` is the `resume_at` of one child's own split
(whatever `last_letter` is, `True` included since fix fd6f32a: no break opportunity between two children) -/
theorem boxLoop_no_wrap_child (ws : WS) (hnb : ws.noBreakBetween = true) (hbi : ws.breakInside = false)
    (split : Split) (rs maxX : Rat) (skip : Option Skip) :
    ∀ (kids : List Node) (index : Nat) (posX : Rat) (waiting : List Entry) (firstL : Option Char) (lastL : Last)
      (pres : Bool) (sub : Option Skip) (lo : LoopOut),
      boxLoop ws split rs maxX skip kids index posX [] waiting firstL lastL pres sub = .ok lo →
      ∀ s, lo.resume = some s → ∃ j child sub' px mx sk out, kids[j]? = some child ∧ s = .mk (index + j) (some sub') ∧
        split child px mx sk = .ok out ∧ out.resume = some sub'
  | [], _, _, _, _, _, _, _, lo, h => by
    unfold boxLoop at h
    cases h
    intro s hs; cases hs
  | child :: rest, index, posX, waiting, firstL, lastL, pres, sub, lo, h => by
    unfold boxLoop at h
    simp only [hnb, if_true, Bool.false_eq_true, if_false, List.nil_append] at h
    cases h0 : split child posX maxX sub with
    | error e => rw [h0] at h; cases h
    | ok out0 =>
      rw [h0] at h
      simp only [Except.bind] at h
      have hsrc : ∀ out, (if (rest.isEmpty && rs != 0 && out0.resume.isNone) = true
          then split child posX (maxX - rs) sub else Except.ok out0) = .ok out →
          ∃ mx, split child posX mx sub = .ok out := by
        intro out ho
        split at ho
        · exact ⟨_, ho⟩
        · cases ho; exact ⟨_, h0⟩
      generalize hsecond : (if (rest.isEmpty && rs != 0 && out0.resume.isNone) = true
          then split child posX (maxX - rs) sub else Except.ok out0) = second at h hsrc
      cases second with
      | error e => cases h
      | ok out =>
        obtain ⟨mx, hout⟩ := hsrc out rfl
        simp only at h
        -- `here`: the child at hand is the one that resumes; `later`: a resume found in the rest, its index shifted by one.
        -- Each of the four cases of `out.frag` / `out.resume` below ends in one of the two.
        have here : ∀ r, out.resume = some r → ∀ s, some (Skip.mk index (some r)) = some s →
            ∃ j child' sub' px mx sk out', (child :: rest)[j]? = some child' ∧ s = .mk (index + j) (some sub') ∧
              split child' px mx sk = .ok out' ∧ out'.resume = some sub' := by
          intro r hr s hs
          cases hs
          exact ⟨0, child, r, posX, mx, sub, out, rfl, rfl, hout, hr⟩
        have later : ∀ (lo' : LoopOut), (∀ s, lo'.resume = some s → ∃ j child' sub' px mx sk out', rest[j]? = some child' ∧
              s = .mk (index + 1 + j) (some sub') ∧ split child' px mx sk = .ok out' ∧ out'.resume = some sub') →
            ∀ s, lo'.resume = some s → ∃ j child' sub' px mx sk out', (child :: rest)[j]? = some child' ∧
              s = .mk (index + j) (some sub') ∧ split child' px mx sk = .ok out' ∧ out'.resume = some sub' := by
          intro lo' ih s hs
          obtain ⟨j, c', sub', px, mx', sk, out', hj, hs', hsp, hre⟩ := ih s hs
          refine ⟨j + 1, c', sub', px, mx', sk, out', by simpa using hj, ?_, hsp, hre⟩
          rw [hs']; congr 1; omega
        cases hf : out.frag with
        | none =>
          rw [hf] at h
          simp only at h
          cases hr : out.resume with
          | some r =>
            rw [hr] at h
            simp only at h
            cases h
            exact here r hr
          | none =>
            rw [hr] at h
            simp only at h
            exact later lo (boxLoop_no_wrap_child ws hnb hbi split rs maxX skip rest _ _ _ _ _ _ _ lo h)
        | some f =>
          rw [hf] at h
          -- `children = []`: the branch "put the child on the next line" (`children[-1]`) is dead
          simp only [tryWaiting_no_wrap ws hbi, List.getLast?_nil] at h
          cases hr : out.resume with
          | some r =>
            rw [hr] at h
            simp only [ite_self] at h
            cases h
            exact here r hr
          | none =>
            rw [hr] at h
            simp only [ite_self] at h
            exact later lo (boxLoop_no_wrap_child ws hnb hbi split rs maxX skip rest _ _ _ _ _ _ _ lo h)

theorem no_wrap_tables (ws : WS) (hw : ws.textWrap = false) : ws.noBreakBetween = true ∧ ws.breakInside = false := by
  cases ws <;> first | (exact absurd hw (by decide)) | decide

theorem boxLoop_no_wrap_core (ws : WS) (hnb : ws.noBreakBetween = true) (hbi : ws.breakInside = false)
    (split : Split) (ls rs : Rat) (deco : Bool) (kids : List Node)
    (ih : ∀ c px mx sk out, split c px mx sk = .ok out → ∀ r, out.resume = some r → charBefore c r = some '\n')
    (mx : Rat) (skip sub : Option Skip) (n : Nat) (posX : Rat) (lo : LoopOut)
    (hl : boxLoop ws split rs mx skip (kids.drop n) n posX [] [] none .none false sub = .ok lo) :
    ∀ r, lo.resume = some r → charBefore (.box ls rs deco kids) r = some '\n' := by
  intro r hr
  obtain ⟨j, child, sub', px, mx', sk, out, hj, hs, hsp, hre⟩ :=
    boxLoop_no_wrap_child ws hnb hbi split rs mx skip _ _ _ _ _ _ _ _ lo hl r hr
  have h2 := ih child px mx' sk out hsp sub' hre
  rw [hs]
  rw [List.getElem?_drop] at hj
  simp only [charBefore, unwrapN, hj]
  exact h2

theorem charBefore_flagged (n : Node) (r : Skip) : charBefore (.flagged n) r = charBefore n r := by
  cases r with
  | mk k sub => cases sub <;> simp [charBefore, unwrapN]

/-- **`nowrap` / `pre` inside nested inline boxes**: whatever the nesting, the spacing, the widths, the
resume position and the `trailing_collapsible_space` flags, when `split_inline_level` says the content
continues on a next line, the character just before the resume point is a preserved line break — lines
never end at a space (collapsed or not), between two boxes or inside a re-broken waiting child. -/
theorem splitLevel_no_wrap (st : Style) (hw : st.ws.textWrap = false) : ∀ (fuel : Nat) (node : Node) (posX maxX : Rat)
    (skip : Option Skip) (o : LevelOut), splitLevel st fuel node posX maxX skip = .ok o →
    ∀ r, o.resume = some r → charBefore node r = some '\n'
  | 0, _, _, _, _, _, h => by cases h
  | _ + 1, .text s, posX, maxX, skip, o, h => by
    intro r hr
    exact textLevel_no_wrap st hw s posX maxX skip o h r hr
  | fuel + 1, .flagged n, posX, maxX, skip, o, h => by
    intro r hr
    simp only [splitLevel] at h
    rw [charBefore_flagged]
    exact splitLevel_no_wrap st hw fuel n posX maxX skip o h r hr
  | fuel + 1, .box ls rs deco kids, posX, maxX0, skip, o, h => by
    simp only [splitLevel] at h
    unfold boxLevel at h
    obtain ⟨hnb, hbi⟩ := no_wrap_tables st.ws hw
    obtain ⟨lo, hl, rfl⟩ := Except.map_eq_ok h
    exact boxLoop_no_wrap_core st.ws hnb hbi (splitLevel st fuel) ls rs deco kids
      (fun c px mx sk out hsp => splitLevel_no_wrap st hw fuel c px mx sk out hsp) _ skip _ _ posX lo hl

theorem splitLine_resume (st : Style) (fuel : Nat) (kids : List Node) (posX lineX maxX : Rat) (skip : Option Skip)
    (lo : LineOut) (h : splitLine st fuel kids posX lineX maxX skip = .ok lo) :
    ∃ o, splitLevel st (fuel + 1) (.box 0 0 false kids) posX maxX skip = .ok o ∧ lo.resume = o.resume := by
  unfold splitLine at h
  obtain ⟨o, ho, rfl⟩ := Except.map_eq_ok h
  exact ⟨o, ho, by split <;> rfl⟩

end Wp.LFIL
