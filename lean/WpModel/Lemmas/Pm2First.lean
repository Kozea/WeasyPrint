/-
"The next thing at this resume position is a line" (`FirstLine`), and the fact that any strictly later
position designates strictly fewer lines — so the page that starts at such a position shows that line.
-/
import WpModel.Lemmas.Pm2Pages

namespace Wp.PM
open Wp

mutual
/-- Following the resume position and then first children, one reaches a paragraph with a line left. -/
def FirstLine : PBox → Option Resume → Prop
  | .para _ n _ _, σ => paraStart σ < n
  | .block _ _ kids, σ => FirstLineKids kids (skipIdxOf σ) (subSkipOf σ)
def FirstLineKids : List PBox → Nat → Option Resume → Prop
  | [], _, _ => False
  | b :: _, 0, sub => FirstLine b sub
  | _ :: bs, k + 1, sub => FirstLineKids bs k sub
end

theorem paraLines_length (id k n : Nat) : (paraLines id k n).length = n - k := by
  simp [paraLines]

mutual
theorem firstLine_ne : (b : PBox) → ∀ σ, FirstLine b σ → linesFrom b σ ≠ []
  | .para id n lh st => by
    intro σ h he
    simp only [FirstLine] at h
    have := congrArg List.length he
    simp only [linesFrom, paraLines_length, List.length_nil] at this
    omega
  | .block id st kids => by
    intro σ h
    simp only [FirstLine] at h
    simp only [linesFrom]
    exact firstLineKids_ne kids _ _ h
theorem firstLineKids_ne : (bs : List PBox) → ∀ k sub, FirstLineKids bs k sub → linesFromKids bs k sub ≠ []
  | [] => by intro k sub h; simp [FirstLineKids] at h
  | b :: bs => by
    intro k sub h
    cases k with
    | zero =>
      simp only [FirstLineKids] at h
      simp only [linesFromKids]
      intro he
      exact firstLine_ne b sub h (List.append_eq_nil_iff.mp he).1
    | succ k =>
      simp only [FirstLineKids] at h
      simp only [linesFromKids]
      exact firstLineKids_ne bs k sub h
end

mutual
theorem lines_le : (b : PBox) → ∀ σ, (linesFrom b σ).length ≤ (linesFrom b none).length
  | .para id n lh st => by
    intro σ
    simp only [linesFrom, paraLines_length]
    have : paraStart none = 0 := rfl
    omega
  | .block id st kids => by
    intro σ
    simp only [linesFrom, skipIdxOf_none, subSkipOf_none]
    exact linesKids_le kids _ _
theorem linesKids_le : (bs : List PBox) → ∀ k sub,
    (linesFromKids bs k sub).length ≤ (linesFromKids bs 0 none).length
  | [] => by intro k sub; simp [linesFromKids]
  | b :: bs => by
    intro k sub
    cases k with
    | zero =>
      simp only [linesFromKids, List.length_append]
      have := lines_le b sub
      omega
    | succ k =>
      simp only [linesFromKids, List.length_append]
      have := linesKids_le bs k sub
      omega
end

mutual
/-- A strictly later position designates strictly fewer lines when the earlier one sits on a line. -/
theorem lines_lt : (b : PBox) → ∀ σ ρ, FirstLine b σ → pos b σ < pos b ρ →
    (linesFrom b ρ).length < (linesFrom b σ).length
  | .para id n lh st => by
    intro σ ρ h hp
    simp only [FirstLine] at h
    simp only [pos] at hp
    simp only [linesFrom, paraLines_length]
    omega
  | .block id st kids => by
    intro σ ρ h hp
    simp only [FirstLine] at h
    simp only [pos] at hp
    simp only [linesFrom]
    exact linesKids_lt kids _ _ _ _ h hp
theorem linesKids_lt : (bs : List PBox) → ∀ k sub k' sub', FirstLineKids bs k sub →
    posKids bs k sub < posKids bs k' sub' →
    (linesFromKids bs k' sub').length < (linesFromKids bs k sub).length
  | [] => by intro k sub k' sub' h; simp [FirstLineKids] at h
  | b :: bs => by
    intro k sub k' sub' h hp
    cases k with
    | zero =>
      simp only [FirstLineKids] at h
      cases k' with
      | zero =>
        simp only [posKids] at hp
        simp only [linesFromKids, List.length_append]
        have := lines_lt b sub sub' h hp
        omega
      | succ k' =>
        simp only [linesFromKids, List.length_append]
        have h1 := linesKids_le bs k' sub'
        have h2 : (linesFrom b sub).length ≠ 0 := by
          intro he
          exact firstLine_ne b sub h (List.length_eq_zero_iff.mp he)
        omega
    | succ k =>
      simp only [FirstLineKids] at h
      cases k' with
      | zero =>
        simp only [posKids] at hp
        have := pos_lt_size b sub'
        omega
      | succ k' =>
        simp only [posKids] at hp
        simp only [linesFromKids]
        exact linesKids_lt bs k sub k' sub' h (by omega)
end

theorem firstLineKids_iff {bs : List PBox} {k : Nat} {sub : Option Resume} :
    FirstLineKids bs k sub ↔ ∃ b, bs[k]? = some b ∧ FirstLine b sub := by
  induction bs generalizing k with
  | nil => simp [FirstLineKids]
  | cons x bs ih =>
    cases k with
    | zero => simp [FirstLineKids]
    | succ k => simpa [FirstLineKids] using @ih k

/-- If `b` starts with a line, the resume position "start of `b`" sits on that line. -/
theorem firstLine_resAt (π : List Nat) (box : PBox) (j : Nat) (a b : PBox) (hs : SibAt box π j a b)
    (hb : FirstLine b none) : FirstLine box (some (resAt π j)) := by
  fun_induction SibAt box π j a b with
  | case1 id st kids j a b => exact firstLineKids_iff.mpr ⟨b, hs.2, hb⟩
  | case2 id st kids i π j a b ih =>
    obtain ⟨k, hk, hsk⟩ := hs
    exact firstLineKids_iff.mpr ⟨k, hk, ih k hsk hb⟩
  | case3 => exact hs.elim

/-- **The page that starts on a line shows it.** -/
theorem page_first_line (d : Doc) (hg : Good d.root) (index : Nat) (resume : Option Resume) (np : NextPage)
    (right : Bool) (p : Page) (hp : remakePage d index resume np right = some p) (hb : p.type.blank = false)
    (hfl : FirstLine d.root resume) :
    fragLines p.root ≠ [] ∧ (fragLines p.root).head? = (linesFrom d.root resume).head? := by
  obtain ⟨hl, hprog⟩ := (remakePage_lines d hg index resume np right p hp).2 hb
  have hne : fragLines p.root ≠ [] := by
    cases hr : p.resume with
    | none =>
      rw [hr] at hl
      simp only [restOut, List.append_nil] at hl
      rw [hl]; exact firstLine_ne _ _ hfl
    | some r =>
      have hlt := lines_lt d.root resume (some r) hfl (hprog r hr)
      rw [hr] at hl
      simp only [restOut] at hl
      intro he
      rw [he, List.nil_append] at hl
      rw [hl] at hlt
      omega
  refine ⟨hne, ?_⟩
  rw [← hl]
  cases hq : fragLines p.root with
  | nil => exact absurd hq hne
  | cons x xs => rfl

end Wp.PM
