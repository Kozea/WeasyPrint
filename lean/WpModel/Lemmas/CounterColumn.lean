/-
The reference counter semantics (`Spec`, Model/CounterScope.lean) read one counter name at a time.  The *column*
of a name is its entry in each open frame, innermost first; `Spec.stack` is the column without its gaps.  Every
operation of the reference machine acts on the column of each name by a function of that column alone
(`creset`, `ctouch`, and `cupdate` for a whole style), so what a style or a subtree does to one counter is a fact
about a `List (Option Int)`: no frames, no lookups.  So are `Shield` (an instance that hides the ones below it) and
`crun` (the walk of `element_to_box` on one column).  Props/C15.lean builds the refinement proof, the
list-numbering theorems and the `counter-set` / `counter-increment` order theorem on this.
-/
import WpModel.Model.CounterScope
import WpModel.Lemmas.Assoc

namespace Wp.C15
open Wp.Counters

open Spec in
theorem flookup_fset (f : Frame) (n m : String) (v : Int) :
    flookup (fset f n v) m = if n = m then some v else flookup f m :=
  assoc_get_set_keep flookup fset (fun _ => rfl) (fun _ _ _ _ => rfl) (fun _ _ => rfl) (fun _ _ _ _ _ => rfl) f n m v

open Spec in
theorem flookup_fset_same (f : Frame) (n : String) (v : Int) : flookup (fset f n v) n = some v := by
  rw [flookup_fset, if_pos rfl]

open Spec in
theorem flookup_fset_other (f : Frame) (n m : String) (v : Int) (h : m ≠ n) :
    flookup (fset f n v) m = flookup f m := by
  rw [flookup_fset, if_neg (Ne.symm h)]

open Spec in
theorem fmodify_keys (f : Frame) (n : String) (g : Int → Int) :
    (fmodify f n g).map Prod.fst = f.map Prod.fst := by
  induction f with
  | nil => simp [fmodify]
  | cons x xs ih =>
    obtain ⟨k, w⟩ := x
    by_cases hk : k = n <;> simp [fmodify, hk, ih]

open Spec in
theorem flookup_fmodify (f : Frame) (n m : String) (g : Int → Int) :
    flookup (fmodify f n g) m = if m = n then (flookup f n).map g else flookup f m := by
  induction f with
  | nil => simp [fmodify, flookup]
  | cons x xs ih =>
    obtain ⟨k, w⟩ := x
    by_cases hk : k = n
    · subst hk
      by_cases hm : m = k
      · subst hm; simp [fmodify, flookup]
      · simp [fmodify, flookup, hm, Ne.symm hm]
    · by_cases hm : k = m
      · subst hm; simp [fmodify, flookup, hk]
      · simp [fmodify, flookup, hk, hm, ih]

open Spec in
theorem flookup_append (f : Frame) (n m : String) (v : Int) :
    flookup (f ++ [(n, v)]) m = (flookup f m).orElse (fun _ => if n = m then some v else none) :=
  assoc_get_append flookup (fun _ => rfl) (fun _ _ _ _ => rfl) f [(n, v)] m

open Spec in
theorem flookup_isSome (f : Frame) (n : String) : (flookup f n).isSome = (f.map Prod.fst).contains n := by
  induction f with
  | nil => simp [flookup]
  | cons x xs ih =>
    obtain ⟨k, v⟩ := x
    by_cases h : k = n
    · simp [flookup, h]
    · have h' : ¬ n = k := fun e => h e.symm
      simp [flookup, h, h', ih]

open Spec in
theorem flookup_none (f : Frame) (n : String) : flookup f n = none ↔ (f.map Prod.fst).contains n = false := by
  rw [← flookup_isSome]
  cases flookup f n <;> simp

open Spec in
theorem fset_keys (f : Frame) (n : String) (v : Int) :
    (fset f n v).map Prod.fst = if (f.map Prod.fst).contains n then f.map Prod.fst else f.map Prod.fst ++ [n] := by
  induction f with
  | nil => simp [fset]
  | cons x xs ih =>
    obtain ⟨k, w⟩ := x
    by_cases hk : k = n
    · simp [fset, hk]
    · have h' : ¬ n = k := fun e => hk e.symm
      have hb : (n == k) = false := beq_eq_false_iff_ne.mpr h'
      simp only [fset, hk, if_false, List.map_cons, ih, List.contains_cons, hb, Bool.false_or]
      split <;> rfl

def column (n : String) (fr : Spec.Frames) : List (Option Int) := fr.map (Spec.flookup · n)

theorem stack_of_column (n : String) (fr : Spec.Frames) : Spec.stack fr n = (column n fr).filterMap id := by
  induction fr with
  | nil => rfl
  | cons f rest ih =>
    simp only [Spec.stack, column, List.map_cons, List.filterMap_cons] at ih ⊢
    cases Spec.flookup f n <;> simp [ih]

theorem column_tail (n : String) (fr : Spec.Frames) : column n fr.tail = (column n fr).tail := by
  cases fr <;> rfl

/-- `counter-reset` on the column of its own name: the innermost frame gets the instance. -/
def creset (v : Int) : List (Option Int) → List (Option Int)
  | [] => []
  | _ :: rest => some v :: rest

/-- `Spec.modifyInner` on the column of its own name. -/
def cmodify (g : Int → Int) : List (Option Int) → Option (List (Option Int))
  | [] => none
  | some v :: rest => some (some (g v) :: rest)
  | none :: rest => (cmodify g rest).map (none :: ·)

/-- `counter-set` / `counter-increment` on the column of their own name: the innermost instance is modified, or
one is created in the innermost frame. -/
def ctouch (g : Int → Int) (col : List (Option Int)) : List (Option Int) :=
  match cmodify g col with
  | some c => c
  | none => match col with
    | [] => []
    | _ :: rest => some (g 0) :: rest

/-- A list of declarations read on the column of `n`: only those that name `n` act. -/
def cfold (cf : Int → List (Option Int) → List (Option Int)) (n : String) :
    List (String × Int) → List (Option Int) → List (Option Int)
  | [], col => col
  | (m, v) :: xs, col => cfold cf n xs (if m = n then cf v col else col)

/-- `Spec.update` read on the column of `n`. -/
def cupdate (n : String) (o : Ops) (col : List (Option Int)) : List (Option Int) :=
  cfold (fun v => ctouch (· + v)) n (Spec.effIncr o)
    (cfold (fun v => ctouch fun _ => v) n o.set (cfold creset n o.reset col))

theorem column_reset (n m : String) (fr : Spec.Frames) (v : Int) :
    column n (Spec.reset fr m v) = if m = n then creset v (column n fr) else column n fr := by
  cases fr with
  | nil => simp [Spec.reset, column, creset]
  | cons f rest =>
    by_cases h : m = n
    · subst h; simp [Spec.reset, column, creset, flookup_fset_same]
    · simp [Spec.reset, column, h, flookup_fset_other f m n v (fun e => h e.symm)]

/-- `modifyInner` on the column of `n` is `cmodify`; a successful one keeps the other columns and the names of every
frame. -/
theorem column_modifyInner (g : Int → Int) (n : String) : ∀ fr : Spec.Frames,
    (Spec.modifyInner g n fr).map (column n) = cmodify g (column n fr) ∧
    ∀ fr', Spec.modifyInner g n fr = some fr' →
      (∀ m, m ≠ n → column m fr' = column m fr) ∧ fr'.map (·.map Prod.fst) = fr.map (·.map Prod.fst) := by
  intro fr
  induction fr with
  | nil => exact ⟨rfl, nofun⟩
  | cons f rest ih =>
    unfold Spec.modifyInner
    cases hl : Spec.flookup f n with
    | some y =>
      refine ⟨by simp [column, cmodify, hl, flookup_fmodify], fun fr' h => ?_⟩
      cases h
      exact ⟨fun m hm => by simp [column, flookup_fmodify, hm], by simp [fmodify_keys]⟩
    | none =>
      obtain ⟨ih1, ih2⟩ := ih
      cases hr : Spec.modifyInner g n rest with
      | none =>
        rw [hr] at ih1
        exact ⟨by simp only [column, List.map_cons, hl, cmodify] at ih1 ⊢; rw [← ih1]; rfl, nofun⟩
      | some r =>
        rw [hr] at ih1
        refine ⟨by simp only [column, List.map_cons, hl, cmodify] at ih1 ⊢; rw [← ih1]; simp [column, hl],
          fun fr' h => ?_⟩
        cases h
        obtain ⟨h1, h2⟩ := ih2 r hr
        exact ⟨fun m hm => by simpa [column] using h1 m hm, by simp [h2]⟩

theorem column_touch (g : Int → Int) (n m : String) (fr : Spec.Frames) :
    column n (Spec.touch g fr m) = if m = n then ctouch g (column n fr) else column n fr := by
  cases fr with
  | nil => simp [Spec.touch, column, ctouch, cmodify]
  | cons f rest =>
    obtain ⟨h1, h2⟩ := column_modifyInner g m (f :: rest)
    cases hm : Spec.modifyInner g m (f :: rest) with
    | some fr' =>
      rw [hm] at h1
      simp only [Spec.touch, hm]
      by_cases h : m = n
      · subst h; simp only [if_true, ctouch, ← h1, Option.map_some]
      · simp only [h, if_false]; exact (h2 fr' hm).1 n (fun e => h e.symm)
    | none =>
      rw [hm] at h1
      simp only [Spec.touch, hm]
      by_cases h : m = n
      · subst h
        -- no instance in scope: none in the innermost frame either, where the new one goes
        have hf : Spec.flookup f m = none := by
          cases hl : Spec.flookup f m with
          | none => rfl
          | some y => simp [Spec.modifyInner, hl] at hm
        simp only [if_true, ctouch, ← h1, Option.map_none]
        simp [column, flookup_append, hf]
      · simp only [h, if_false, column, List.map_cons, flookup_append]
        cases Spec.flookup f n <;> simp

theorem column_foldPairs (n : String) (fs : Spec.Frames → String → Int → Spec.Frames)
    (cf : Int → List (Option Int) → List (Option Int))
    (h : ∀ fr m v, column n (fs fr m v) = if m = n then cf v (column n fr) else column n fr) :
    ∀ (l : List (String × Int)) fr, column n (Spec.foldPairs fs l fr) = cfold cf n l (column n fr)
  | [], _ => rfl
  | (m, v) :: xs, fr => by
    simp only [Spec.foldPairs, cfold]
    rw [column_foldPairs n fs cf h xs, h]

theorem column_update_eq (n : String) (fr : Spec.Frames) (o : Ops) :
    column n (Spec.update fr o) = cupdate n o (column n fr) := by
  have hupd : Spec.update fr o =
      Spec.foldPairs (fun s k v => Spec.touch (fun t => t + v) s k) (Spec.effIncr o)
        (Spec.foldPairs (fun s k v => Spec.touch (fun _ => v) s k) o.set (Spec.foldPairs Spec.reset o.reset fr)) := rfl
  rw [hupd, column_foldPairs n _ (fun v => ctouch (· + v)) (fun fr m v => column_touch _ n m fr),
    column_foldPairs n _ (fun v => ctouch fun _ => v) (fun fr m v => column_touch _ n m fr),
    column_foldPairs n _ creset (fun fr m v => column_reset n m fr v)]
  rfl

/-- The css-lists-3 order on a column: the same three folds as `cupdate`, the last two exchanged. -/
theorem column_updateCss_eq (n : String) (fr : Spec.Frames) (o : Ops) :
    column n (Spec.updateCss fr o) =
      cfold (fun v => ctouch fun _ => v) n o.set
        (cfold (fun v => ctouch (· + v)) n (Spec.effIncr o) (cfold creset n o.reset (column n fr))) := by
  unfold Spec.updateCss
  simp only
  rw [column_foldPairs n _ (fun v => ctouch fun _ => v) (fun fr m v => column_touch _ n m fr),
    column_foldPairs n _ (fun v => ctouch (· + v)) (fun fr m v => column_touch _ n m fr),
    column_foldPairs n _ creset (fun fr m v => column_reset n m fr v)]

theorem cfold_quiet (cf : Int → List (Option Int) → List (Option Int)) (n : String) :
    ∀ (l : List (String × Int)) col, (l.map Prod.fst).contains n = false → cfold cf n l col = col
  | [], _, _ => rfl
  | (m, v) :: xs, col, h => by
    simp only [List.map_cons, List.contains_cons, Bool.or_eq_false_iff, beq_eq_false_iff_ne] at h
    simp only [cfold, if_neg (Ne.symm h.1)]
    exact cfold_quiet cf n xs col h.2

/-- `cmodify` read on the instances in scope (`filterMap id` of a column): the innermost one is modified; there is
none exactly when `cmodify` fails. -/
theorem cmodify_stack (g : Int → Int) : ∀ col : List (Option Int),
    match cmodify g col with
    | some c => ∃ top tl, col.filterMap id = top :: tl ∧ c.filterMap id = g top :: tl
    | none => col.filterMap id = []
  | [] => rfl
  | some y :: rest => ⟨y, _, rfl, rfl⟩
  | none :: rest => by
    have ih := cmodify_stack g rest
    simp only [cmodify]
    cases hm : cmodify g rest with
    | none | some _ => rw [hm] at ih; exact ih

theorem stack_ctouch (g : Int → Int) (col : List (Option Int)) (hne : col ≠ []) :
    (ctouch g col).filterMap id = match col.filterMap id with
      | [] => [g 0]
      | top :: tl => g top :: tl := by
  have := cmodify_stack g col
  unfold ctouch
  cases hm : cmodify g col with
  | some c =>
    rw [hm] at this
    obtain ⟨top, tl, h1, h2⟩ := this
    simp only [h1, h2]
  | none =>
    rw [hm] at this
    cases col with
    | nil => exact absurd rfl hne
    | cons c rest =>
      cases c with
      | some y => simp [cmodify] at hm
      | none => simp only [this]; simpa using this

/-- `counter-set` / `counter-increment` act on the innermost instance of their counter, or create one. -/
theorem stack_touch_same (g : Int → Int) (fr : Spec.Frames) (n : String) (hne : fr ≠ []) :
    Spec.stack (Spec.touch g fr n) n = match Spec.stack fr n with
      | [] => [g 0]
      | top :: tl => g top :: tl := by
  rw [stack_of_column, stack_of_column, column_touch, if_pos rfl, stack_ctouch g _ (by simpa [column] using hne)]

theorem stack_touch_other (g : Int → Int) (fr : Spec.Frames) (n m : String) (hm : m ≠ n) :
    Spec.stack (Spec.touch g fr n) m = Spec.stack fr m := by
  rw [stack_of_column, stack_of_column, column_touch, if_neg (Ne.symm hm)]

/-- The names of the frames after a touch: `n` joins the innermost frame exactly when no instance was in scope. -/
theorem keys_touch (g : Int → Int) (f : Spec.Frame) (rest : Spec.Frames) (n : String) :
    (Spec.touch g (f :: rest) n).map (·.map Prod.fst) =
      if Spec.stack (f :: rest) n = [] then (f.map Prod.fst ++ [n]) :: rest.map (·.map Prod.fst)
      else (f :: rest).map (·.map Prod.fst) := by
  obtain ⟨h1, h2⟩ := column_modifyInner g n (f :: rest)
  have h3 := cmodify_stack g (column n (f :: rest))
  rw [← h1, ← stack_of_column] at h3
  cases hm : Spec.modifyInner g n (f :: rest) with
  | some fr' =>
    rw [hm] at h3
    obtain ⟨top, tl, h4, _⟩ := h3
    simp only [Spec.touch, hm, h4, reduceCtorEq, if_false]
    exact (h2 fr' hm).2
  | none =>
    rw [hm] at h3
    simp only [Spec.touch, hm, Option.map_none] at h3 ⊢
    simp [h3]

theorem reset_length (fr : Spec.Frames) (n : String) (v : Int) : (Spec.reset fr n v).length = fr.length := by
  cases fr <;> simp [Spec.reset]

theorem touch_length (g : Int → Int) (fr : Spec.Frames) (n : String) : (Spec.touch g fr n).length = fr.length := by
  cases fr with
  | nil => rfl
  | cons f rest =>
    have := congrArg List.length (keys_touch g f rest n)
    split at this <;> simpa using this

/-- `j` entries from the top of the column there is an instance, and below it the column is `crest`. -/
def Shield (j : Nat) (crest col : List (Option Int)) : Prop :=
  ∃ cp x, cp.length = j ∧ col = cp ++ some x :: crest

theorem Shield.reset {j : Nat} {crest col : List (Option Int)} (v : Int) (h : Shield j crest col) :
    Shield j crest (creset v col) := by
  obtain ⟨cp, x, h1, rfl⟩ := h
  cases cp with
  | nil => exact ⟨[], v, h1, rfl⟩
  | cons c0 cp' => exact ⟨some v :: cp', x, h1, rfl⟩

private theorem shield_cmodify (g : Int → Int) (crest : List (Option Int)) : ∀ (cp : List (Option Int)) (x : Int),
    ∃ cp' x', cp'.length = cp.length ∧ cmodify g (cp ++ some x :: crest) = some (cp' ++ some x' :: crest)
  | [], x => ⟨[], g x, rfl, rfl⟩
  | some y :: cp, x => ⟨some (g y) :: cp, x, rfl, rfl⟩
  | none :: cp, x => by
    obtain ⟨cp', x', h1, h2⟩ := shield_cmodify g crest cp x
    exact ⟨none :: cp', x', by simp [h1], by simp [cmodify, h2]⟩

/-- A touch finds the shielding instance or one above it: what lies below stays. -/
theorem Shield.touch {j : Nat} {crest col : List (Option Int)} (g : Int → Int) (h : Shield j crest col) :
    Shield j crest (ctouch g col) := by
  obtain ⟨cp, x, h1, rfl⟩ := h
  obtain ⟨cp', x', h2, h3⟩ := shield_cmodify g crest cp x
  exact ⟨cp', x', h2.trans h1, by simp only [ctouch, h3]⟩

theorem Shield.fold {j : Nat} {crest : List (Option Int)} (cf : Int → List (Option Int) → List (Option Int))
    (n : String) (h : ∀ v col, Shield j crest col → Shield j crest (cf v col)) :
    ∀ (l : List (String × Int)) col, Shield j crest col → Shield j crest (cfold cf n l col)
  | [], _, hs => hs
  | (m, v) :: xs, col, hs => by
    simp only [cfold]
    refine Shield.fold cf n h xs _ ?_
    split
    · exact h v col hs
    · exact hs

/-- A shield in place after the resets of a style is in place after the whole style. -/
theorem Shield.update_of {j : Nat} {crest col : List (Option Int)} (n : String) (o : Ops)
    (h : Shield j crest (cfold creset n o.reset col)) : Shield j crest (cupdate n o col) :=
  Shield.fold _ n (fun _ _ => Shield.touch _) _ _ (Shield.fold _ n (fun _ _ => Shield.touch _) _ _ h)

theorem Shield.update {j : Nat} {crest col : List (Option Int)} (n : String) (o : Ops) (h : Shield j crest col) :
    Shield j crest (cupdate n o col) :=
  Shield.update_of n o (Shield.fold _ n (fun v _ => Shield.reset v) _ _ h)

theorem Shield.push {j : Nat} {crest col : List (Option Int)} (h : Shield j crest col) :
    Shield (j + 1) crest (none :: col) := by
  obtain ⟨cp, x, h1, rfl⟩ := h
  exact ⟨none :: cp, x, by simp [h1], rfl⟩

theorem Shield.pop {j : Nat} {crest col : List (Option Int)} (h : Shield (j + 1) crest col) :
    Shield j crest col.tail := by
  obtain ⟨cp, x, h1, rfl⟩ := h
  cases cp with
  | nil => simp at h1
  | cons c0 cp' => exact ⟨cp', x, by simpa using h1, rfl⟩

theorem Shield.tail_zero {crest col : List (Option Int)} (h : Shield 0 crest col) : col.tail = crest := by
  obtain ⟨cp, x, h1, rfl⟩ := h
  cases cp with
  | cons _ _ => simp at h1
  | nil => rfl

/-- A reset of `n` among the declarations puts a shield on top of the column. -/
theorem Shield.of_reset (n : String) (c1 : List (Option Int)) : ∀ (l : List (String × Int)) (c0 : Option Int),
    (l.map Prod.fst).contains n = true → Shield 0 c1 (cfold creset n l (c0 :: c1))
  | [], _, h => by cases h
  | (m, v) :: xs, c0, h => by
    simp only [cfold]
    by_cases hm : m = n
    · rw [if_pos hm]
      exact Shield.fold creset n (fun v _ => Shield.reset v) xs _ ⟨[], v, rfl, rfl⟩
    · rw [if_neg hm]
      simp only [List.map_cons, List.contains_cons, Bool.or_eq_true, beq_iff_eq] at h
      exact Shield.of_reset n c1 xs c0 (h.resolve_left fun e => hm e.symm)

/-- A pseudo-element read on the column of `n`: its own declarations. -/
def cpseudo (n : String) : Option Pseudo → List (Option Int) → List (Option Int)
  | none, c => c
  | some p, c => cupdate n p.ops c

mutual
/-- The walk of `element_to_box` through a subtree read on the column of `n`: the element's own declarations, a new
frame, `::before`, the children, `::after`, the frame dropped. -/
def crun (n : String) : Elem → List (Option Int) → List (Option Int)
  | .mk ops _ _ _ before after kids, c =>
    if ops.disp = .none then c
    else (cpseudo n after (ckids n kids (cpseudo n before (none :: cupdate n ops c)))).tail
def ckids (n : String) : List Elem → List (Option Int) → List (Option Int)
  | [], c => c
  | e :: es, c => ckids n es (crun n e c)
end

theorem Shield.pseudo {j : Nat} {crest c : List (Option Int)} (n : String) (p : Option Pseudo)
    (h : Shield j crest c) : Shield j crest (cpseudo n p c) := by
  cases p with
  | none => exact h
  | some q => exact h.update n q.ops

mutual
/-- Once an instance of `n` sits `j` frames from the top, no subtree whatsoever changes the instances below it. -/
theorem Shield.run {crest : List (Option Int)} (n : String) :
    ∀ (e : Elem) (j : Nat) (c : List (Option Int)), Shield j crest c → Shield j crest (crun n e c)
  | .mk ops _ _ _ before after kids, j, c, h => by
    unfold crun
    split
    · exact h
    · exact (((((h.update n ops).push).pseudo n before).kids n kids (j + 1) _).pseudo n after).pop
theorem Shield.kids {crest : List (Option Int)} (n : String) :
    ∀ (es : List Elem) (j : Nat) (c : List (Option Int)), Shield j crest c → Shield j crest (ckids n es c)
  | [], _, _, h => by unfold ckids; exact h
  | e :: es, j, c, h => by
    unfold ckids
    exact (h.run n e j c).kids n es j _
end

/-- A displayed element whose own declarations leave a shield in place keeps it. -/
theorem Shield.run_of_update {j : Nat} {crest c : List (Option Int)} (n : String) (ops : Ops) (ls : Option CName)
    (mc : Option (List Item)) (an : Option String) (before after : Option Pseudo) (kids : List Elem)
    (hd : ops.disp ≠ .none) (h : Shield j crest (cupdate n ops c)) :
    Shield j crest (crun n (.mk ops ls mc an before after kids) c) := by
  unfold crun
  rw [if_neg hd]
  exact ((((h.push).pseudo n before).kids n kids (j + 1) _).pseudo n after).pop

end Wp.C15
