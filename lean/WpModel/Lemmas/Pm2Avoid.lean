/-
What `find_earlier_page_break` really guarantees: a declarative description of the legal break points among
already laid-out sibling fragments (`HasBreakList`), and the proof that `findEarlierGo` finds a break exactly
when one exists.
-/
import WpModel.Lemmas.EarlierWalk

namespace Wp.PM
open Wp

/-- `find_earlier_page_break` on the line boxes of a paragraph fragment succeeds iff `widows` lines can be
sent to the next page while `orphans` (and at least one) lines stay. -/
def paraHasBreak (st : PStyle) (lines : List (Nat × Rat)) : Prop :=
  st.widows + max st.orphans 1 ≤ lines.length

mutual
/-- There is a legal page-break opportunity inside the fragment. -/
def HasBreakIn : Frag → Prop
  | .para _ _ st _ _ lines => paraHasBreak st lines
  | .block _ _ _ _ kids => HasBreakList kids
/-- There is a legal page-break opportunity among / inside the sibling fragments: between two of them when the
values meeting there do not resolve to `avoid` / `avoid-page`, or inside one whose `break-inside` is not
`avoid` / `avoid-page`. (Never after the last one.) -/
def HasBreakList : List Frag → Prop
  | [] => False
  | x :: rest => HasBreakList rest ∨
      (∃ y, rest.head? = some y ∧ avoidsPage (breakBetweenFrags x (some y)) = false) ∨
      (avoidsPage x.st.brkInside = false ∧ HasBreakIn x)
end

theorem findEarlierPara_isSome (id idx : Nat) (st : PStyle) (n : Nat) (g : Geo) (lines : List (Nat × Rat)) :
    (findEarlierPara id idx st n g lines).isSome = true ↔ paraHasBreak st lines := by
  unfold findEarlierPara paraHasBreak
  cases hl : lines with
  | nil => simp
  | cons l ls =>
    simp only [List.isEmpty_cons, Bool.false_eq_true, ↓reduceIte, List.length_cons]
    split
    · rename_i hlt
      simp only [Option.isSome_none, Bool.false_eq_true, false_iff]
      omega
    · rename_i hge
      rw [Int.toNat_sub]
      -- the kept lines are a non-empty prefix exactly when a line is left after the widows
      cases hk : ((l :: ls).take (ls.length + 1 - st.widows)).getLast? with
      | none =>
        have h0 := congrArg List.length (List.getLast?_eq_none_iff.mp hk)
        rw [List.length_take, List.length_cons, List.length_nil] at h0
        simp only [Option.isSome_none, Bool.false_eq_true, false_iff]
        omega
      | some a =>
        have hpos : 0 < ((l :: ls).take (ls.length + 1 - st.widows)).length :=
          List.length_pos_iff.mpr (fun he => by rw [he] at hk; cases hk)
        rw [List.length_take, List.length_cons] at hpos
        simp only [Option.isSome_some, true_iff]
        omega

mutual
theorem findEarlierGo_isSome : (fs : List Frag) → ((findEarlierGo fs).found.isSome = true ↔ HasBreakList fs)
  | [] => by simp [findEarlierGo, HasBreakList]
  | x :: xs => by
    have ih := findEarlierGo_isSome xs
    have hin := findEarlierFrag_isSome x
    rw [HasBreakList]
    rcases findEarlierGo_cons x xs with ⟨kept, r, hfound, hres⟩ |
      ⟨hnone, ⟨p, hp, hav, hres⟩ | ⟨hav, _, ⟨x', r1, hins, hfe, hres⟩ | ⟨hno, hres⟩⟩⟩
    · rw [hres]
      exact iff_of_true rfl (.inl (ih.mp (hfound ▸ rfl)))
    · rw [hres]
      exact iff_of_true rfl (.inr (.inl ⟨p, hp, hav⟩))
    · rw [hres]
      exact iff_of_true rfl (.inr (.inr ⟨hins, hin.mp (hfe ▸ rfl)⟩))
    · rw [hres]
      refine iff_of_false Bool.false_ne_true ?_
      rintro (h | ⟨y, hy, hy'⟩ | ⟨h1, h2⟩)
      · have := ih.mpr h; rw [hnone] at this; cases this
      · rw [hav y hy] at hy'; cases hy'
      · rcases hno with hno | hno
        · rw [h1] at hno; cases hno
        · have := hin.mpr h2; rw [hno] at this; cases this
theorem findEarlierFrag_isSome : (x : Frag) → ((findEarlierFrag x).isSome = true ↔ HasBreakIn x)
  | .para id idx st n g lines => by
    simp only [findEarlierFrag, HasBreakIn]
    exact findEarlierPara_isSome id idx st n g lines
  | .block id idx st g kids => by
    have ih := findEarlierGo_isSome kids
    simp only [findEarlierFrag, HasBreakIn]
    split
    · rename_i kids' r hfound
      rw [hfound] at ih
      simp only [Option.isSome_some, true_iff]
      exact ih.mp rfl
    · rename_i hnone
      rw [hnone] at ih
      simp only [Option.isSome_none, Bool.false_eq_true, false_iff]
      intro h; have := ih.mpr h; cases this
end

theorem findEarlierList_isSome (fs : List Frag) : (findEarlierList fs).isSome = true ↔ HasBreakList fs :=
  findEarlierGo_isSome fs

end Wp.PM
