/-
`iter_line_boxes` over any `get_next_linebox`: the loop the five line-loop models share
(`LB.iterLines`, `LF.iterLines`, `IR.iterLines`, `LFI.iterLines`, `LFI.iterLinesTall`), with its two rules:
what holds of the lines it returns, and how much fuel it needs.  Each model's loop is shown equal to it
where the model's lemmas are (`iterLines_eq`).  Core Lean only.
-/
import WpModel.Model.Wire

namespace Wp.LineIter
open Wp

variable {σ L : Type}

/-- one round of `iter_line_boxes`: a line from `next`, then (`rest`) the lines below it from its `resume_at` -/
def round (next : Option σ → Rat → Bool → Except PyErr (Option L)) (resume : L → Option σ) (bottom : L → Rat)
    (rest : Option σ → Rat → Bool → Option (Except PyErr (List L))) (skip : Option σ) (y : Rat) (first : Bool) :
    Option (Except PyErr (List L)) :=
  match next skip y first with
  | .error e => some (.error e)
  | .ok none => some (.ok [])
  | .ok (some line) =>
    match resume line with
    | none => some (.ok [line])
    | some r => (rest (some r) (bottom line) false).map (·.map (line :: ·))

/-- `iter_line_boxes` with `fuel` rounds; `none` = out of fuel -/
def iter (next : Option σ → Rat → Bool → Except PyErr (Option L)) (resume : L → Option σ) (bottom : L → Rat) :
    Nat → Option σ → Rat → Bool → Option (Except PyErr (List L))
  | 0 => fun _ _ _ => none
  | fuel + 1 => round next resume bottom (iter next resume bottom fuel)

variable {next : Option σ → Rat → Bool → Except PyErr (Option L)} {resume : L → Option σ} {bottom : L → Rat}

theorem eq_iter {f : Nat → Option σ → Rat → Bool → Option (Except PyErr (List L))}
    (h0 : ∀ skip y first, f 0 skip y first = none)
    (hS : ∀ fuel skip y first, f (fuel + 1) skip y first = round next resume bottom (f fuel) skip y first) :
    ∀ fuel, f fuel = iter next resume bottom fuel
  | 0 => funext fun s => funext fun y => funext fun b => h0 s y b
  | fuel + 1 => funext fun s => funext fun y => funext fun b => by rw [hS, eq_iter h0 hS fuel]; rfl

/-- the last step of the loop: the lines found are the line at hand in front of the lines found below it -/
theorem map_cons_eq_ok {ε α : Type} {o : Option (Except ε (List α))} {a : α} {ls : List α}
    (h : o.map (·.map (a :: ·)) = some (.ok ls)) : ∃ rest, o = some (.ok rest) ∧ ls = a :: rest := by
  cases o with
  | none => cases h
  | some res =>
    cases res with
    | error e => cases h
    | ok rest => cases h; exact ⟨rest, rfl, rfl⟩

/-- **the rule of the loop**: what holds of no line, and of a line from `next` put in front of lines for which it
holds from that line's bottom on, holds of the lines the loop returns -/
theorem iter_rule {C : Rat → List L → Prop} (nil : ∀ y, C y [])
    (cons : ∀ skip y first l ls, next skip y first = .ok (some l) → C (bottom l) ls → C y (l :: ls))
    {fuel : Nat} {skip : Option σ} {y : Rat} {first : Bool} {ls : List L}
    (h : iter next resume bottom fuel skip y first = some (.ok ls)) : C y ls := by
  induction fuel generalizing skip y first ls with
  | zero => cases h
  | succ fuel ih =>
    unfold iter round at h
    split at h
    · cases h
    · cases h; exact nil y
    · rename_i l hn
      split at h
      · cases h; exact cons skip y first l [] hn (nil _)
      · obtain ⟨rest, hrest, rfl⟩ := map_cons_eq_ok h
        exact cons skip y first l rest hn (ih hrest)

theorem iter_forall {Q : L → Prop} (hq : ∀ skip y first l, next skip y first = .ok (some l) → Q l)
    {fuel : Nat} {skip : Option σ} {y : Rat} {first : Bool} {ls : List L}
    (h : iter next resume bottom fuel skip y first = some (.ok ls)) : ∀ l ∈ ls, Q l :=
  iter_rule (C := fun _ ls => ∀ l ∈ ls, Q l) (fun _ => nofun)
    (fun skip y first l _ hn ih => List.forall_mem_cons.mpr ⟨hq skip y first l hn, ih⟩) h

/-- **termination**: with a measure `pos` of the resume point that every round raises and a `bound` beyond which
no line is resumed, `bound + 2` rounds suffice from the start (`bound + 2 - pos skip` from `skip`) -/
theorem iter_fuel (pos : Option σ → Nat) (bound : Nat)
    (grow : ∀ skip y first l r, next skip y first = .ok (some l) → resume l = some r → pos skip < pos (some r))
    (stop : ∀ skip y first l, bound < pos skip → next skip y first = .ok (some l) → resume l = none)
    {fuel : Nat} {skip : Option σ} (y : Rat) (first : Bool) (h1 : 1 ≤ fuel) (hb : bound + 2 ≤ fuel + pos skip) :
    iter next resume bottom fuel skip y first ≠ none := by
  induction fuel generalizing skip y first with
  | zero => omega
  | succ fuel ih =>
    unfold iter round
    split
    · exact nofun
    · exact nofun
    · rename_i l hn
      split
      · exact nofun
      · rename_i r hr
        have hgt := grow skip y first l r hn hr
        by_cases hf : fuel = 0
        · -- the last round starts beyond the bound, so its line has no `resume_at`
          rw [stop skip y first l (by omega) hn] at hr; cases hr
        · have := ih (skip := some r) (bottom l) false (by omega) (by omega)
          cases hrest : iter next resume bottom fuel (some r) (bottom l) false with
          | none => exact absurd hrest this
          | some res => exact nofun

end Wp.LineIter
