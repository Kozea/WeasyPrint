/-
The scanners of Model/Whitespace.lean: the three substitutions of `process_whitespace` pass by pass (`nonWhite`, `words`,
`noDoubleSp`, line feeds), then `processText` as `collapsed` followed by `stripLead`.
-/
import WpModel.Model.Whitespace

namespace Wp.Bx

/-- The characters CSS 2.1 §16.6.1 processes: space, tab, line feed, carriage return. -/
def isWhite (c : Nat) : Bool := c == 32 || c == 9 || c == 10 || c == 13

/-- The text without its white space. -/
def nonWhite (t : Text) : Text := t.filter (fun c => !isWhite c)

theorem nonWhite_cons (c : Nat) (t : Text) :
    nonWhite (c :: t) = if isWhite c then nonWhite t else c :: nonWhite t := by
  unfold nonWhite; by_cases h : isWhite c <;> simp [h]

theorem isSpTab_white (c : Nat) (h : isSpTab c = true) : isWhite c = true := by
  simp only [isSpTab, Ch.sp, Ch.tab, Bool.or_eq_true, beq_iff_eq] at h
  rcases h with h | h <;> subst h <;> decide

theorem isSpTab_ne_lf (c : Nat) (h : isSpTab c = true) : c ≠ 10 := by
  rintro rfl; simp [isSpTab, Ch.sp, Ch.tab] at h

theorem mem_lineFeedGo (t : Text) (a : Bool) : ∀ c ∈ lineFeedGo t a, c ≠ 13 ∧ (c ∈ t ∨ c = 10) := by
  fun_induction lineFeedGo t a with
  | case1 => exact fun c hc => nomatch hc
  | case2 d rest a hcr ih =>
    intro c hc
    rcases List.mem_cons.mp hc with rfl | hc
    · exact ⟨by decide, Or.inr rfl⟩
    · exact ⟨(ih c hc).1, (ih c hc).2.imp (List.mem_cons_of_mem _) id⟩
  | case3 d rest a hcr hlf ih =>
    exact fun c hc => ⟨(ih c hc).1, (ih c hc).2.imp (List.mem_cons_of_mem _) id⟩
  | case4 d rest a hcr hlf ih =>
    intro c hc
    rcases List.mem_cons.mp hc with rfl | hc
    · exact ⟨by simpa [Ch.cr] using hcr, Or.inl List.mem_cons_self⟩
    · exact ⟨(ih c hc).1, (ih c hc).2.imp (List.mem_cons_of_mem _) id⟩

theorem lineFeedGo_id (t : Text) (h : ∀ c ∈ t, c ≠ 13) : lineFeedGo t false = t := by
  induction t with
  | nil => rfl
  | cons c cs ih =>
    have h13 : (c == 13) = false := by simpa using h c List.mem_cons_self
    simp only [lineFeedGo, Ch.cr, h13, Bool.false_eq_true, if_false, Bool.and_false]
    rw [ih (fun d hd => h d (List.mem_cons_of_mem _ hd))]

theorem mem_tabSubGo (t : Text) (pend : List Nat) (skip : Bool) :
    ∀ c ∈ tabSubGo t pend skip, c ∈ t ∨ c ∈ pend := by
  fun_induction tabSubGo t pend skip with
  | case1 pend skip => exact fun c hc => Or.inr (List.mem_reverse.mp hc)
  | case2 d ds pend _ ih =>
    exact fun c hc => (ih c hc).elim (fun h => Or.inl (List.mem_cons_of_mem _ h)) nofun
  | case3 d ds pend skip _ _ ih =>
    intro c hc
    rcases ih c hc with h | h
    · exact Or.inl (List.mem_cons_of_mem _ h)
    · exact (List.mem_cons.mp h).elim (fun e => Or.inl (e ▸ List.mem_cons_self)) Or.inr
  | case4 d ds pend skip _ hlf ih =>
    intro c hc
    rcases List.mem_cons.mp hc with rfl | hc
    · exact Or.inl ((beq_iff_eq.mp hlf) ▸ List.mem_cons_self)
    · exact (ih c hc).elim (fun h => Or.inl (List.mem_cons_of_mem _ h)) nofun
  | case5 d ds pend skip _ _ ih =>
    intro c hc
    rcases List.mem_append.mp hc with h | h
    · exact Or.inr (List.mem_reverse.mp h)
    · rcases List.mem_cons.mp h with rfl | h
      · exact Or.inl List.mem_cons_self
      · exact (ih c h).elim (fun h => Or.inl (List.mem_cons_of_mem _ h)) nofun

theorem mem_nlToSpace (t : Text) : ∀ c ∈ nlToSpace t, c ≠ 10 ∧ (c ∈ t ∨ c = 32) := by
  intro c hc
  simp only [nlToSpace, List.mem_map] at hc
  obtain ⟨d, hd, rfl⟩ := hc
  by_cases h10 : d = Ch.lf
  · subst h10; simp [Ch.lf, Ch.sp]
  · have hb : (d == Ch.lf) = false := by simpa using h10
    simp only [hb, Bool.false_eq_true, if_false]
    exact ⟨by simpa [Ch.lf] using h10, Or.inl hd⟩

theorem mem_spaceSubGo (t : Text) (b : Bool) : ∀ c ∈ spaceSubGo t b, c ≠ 9 ∧ (c ∈ t ∨ c = 32) := by
  fun_induction spaceSubGo t b with
  | case1 => exact fun c hc => nomatch hc
  | case2 d ds _ ih =>
    exact fun c hc => ⟨(ih c hc).1, (ih c hc).2.imp (List.mem_cons_of_mem _) id⟩
  | case3 d ds _ _ _ ih =>
    intro c hc
    rcases List.mem_cons.mp hc with rfl | hc
    · exact ⟨by decide, Or.inr rfl⟩
    · exact ⟨(ih c hc).1, (ih c hc).2.imp (List.mem_cons_of_mem _) id⟩
  | case4 d ds _ hs ih =>
    intro c hc
    rcases List.mem_cons.mp hc with rfl | hc
    · exact ⟨fun h9 => hs (h9 ▸ by decide), Or.inl List.mem_cons_self⟩
    · exact ⟨(ih c hc).1, (ih c hc).2.imp (List.mem_cons_of_mem _) id⟩

/-- No two consecutive spaces. -/
def noDoubleSp : Text → Bool
  | a :: b :: rest => !(a == 32 && b == 32) && noDoubleSp (b :: rest)
  | _ => true

theorem noDoubleSp_tail (c : Nat) (t : Text) (h : noDoubleSp (c :: t) = true) : noDoubleSp t = true := by
  cases t with
  | nil => rfl
  | cons d ds => simp only [noDoubleSp, Bool.and_eq_true] at h; exact h.2

theorem noDoubleSp_drop1 (t : Text) (h : noDoubleSp t = true) : noDoubleSp (t.drop 1) = true := by
  cases t with
  | nil => rfl
  | cons c cs => exact noDoubleSp_tail c cs h

theorem noDoubleSp_cons (c : Nat) (t : Text) (h : noDoubleSp t = true) (hc : c ≠ 32 ∨ startsWithSp t = false) :
    noDoubleSp (c :: t) = true := by
  cases t with
  | nil => rfl
  | cons d ds =>
    simp only [noDoubleSp, Bool.and_eq_true, h, and_true]
    rcases hc with hc | hc
    · simp [hc]
    · simp only [startsWithSp, Ch.sp] at hc; simp [hc]

theorem spaceSubGo_spec (t : Text) (b : Bool) :
    noDoubleSp (spaceSubGo t b) = true ∧ (b = true → startsWithSp (spaceSubGo t b) = false) := by
  fun_induction spaceSubGo t b with
  | case1 => simp [noDoubleSp, startsWithSp]
  | case2 c cs _ ih => exact ⟨ih.1, fun _ => ih.2 rfl⟩
  | case3 c cs b _ hb ih => exact ⟨noDoubleSp_cons _ _ ih.1 (Or.inr (ih.2 rfl)), fun h => absurd h hb⟩
  | case4 c cs b hs ih =>
    have hne : c ≠ 32 := fun h => hs (h ▸ by decide)
    refine ⟨noDoubleSp_cons _ _ ih.1 (Or.inl hne), fun _ => ?_⟩
    simp only [startsWithSp, Ch.sp]; simpa using hne

theorem count_lf_spTab (p : List Nat) (h : ∀ c ∈ p, isSpTab c = true) : p.count 10 = 0 := by
  exact List.count_eq_zero.mpr fun hm => isSpTab_ne_lf 10 (h 10 hm) rfl

theorem count_lf_tabSubGo (t : Text) (pend : List Nat) (skip : Bool) (hp : ∀ c ∈ pend, isSpTab c = true) :
    (tabSubGo t pend skip).count 10 = t.count 10 := by
  have hrev : ∀ p : List Nat, (∀ c ∈ p, isSpTab c = true) → p.reverse.count 10 = 0 := fun p h =>
    count_lf_spTab _ fun c hc => h c (List.mem_reverse.mp hc)
  fun_induction tabSubGo t pend skip with
  | case1 pend skip => exact hrev pend hp
  | case2 c cs pend hs ih => rw [List.count_cons_of_ne (isSpTab_ne_lf c hs), ih (by simp)]
  | case3 c cs pend skip hs _ ih =>
    rw [List.count_cons_of_ne (isSpTab_ne_lf c hs), ih (List.forall_mem_cons.mpr ⟨hs, hp⟩)]
  | case4 c cs pend skip _ hlf ih =>
    rw [beq_iff_eq.mp hlf, List.count_cons, List.count_cons, ih (by simp)]
  | case5 c cs pend skip _ hlf ih =>
    have hc : c ≠ 10 := by simpa [Ch.lf] using hlf
    rw [List.count_append, hrev pend hp, List.count_cons_of_ne hc, List.count_cons_of_ne hc, ih (by simp), Nat.zero_add]

theorem count_lf_spaceSubGo (t : Text) (b : Bool) : (spaceSubGo t b).count 10 = t.count 10 := by
  fun_induction spaceSubGo t b with
  | case1 => rfl
  | case2 c cs hs ih => rw [List.count_cons_of_ne (isSpTab_ne_lf c hs), ih]
  | case3 c cs b hs _ ih => rw [List.count_cons_of_ne (isSpTab_ne_lf c hs), List.count_cons_of_ne (by decide), ih]
  | case4 c cs b _ ih => simp only [List.count_cons, ih]

def flushWord (cur : Text) : List Text := if cur.isEmpty then [] else [cur.reverse]

/-- Maximal runs of non-white characters (`cur`: the run being read, reversed). -/
def wordsGo : Text → Text → List Text
  | [], cur => flushWord cur
  | c :: cs, cur => if isWhite c then flushWord cur ++ wordsGo cs [] else wordsGo cs (c :: cur)

def words (t : Text) : List Text := wordsGo t []

theorem flatten_wordsGo (t cur : Text) : (wordsGo t cur).flatten = cur.reverse ++ nonWhite t := by
  have hf : ∀ cur : Text, (flushWord cur).flatten = cur.reverse := by
    intro cur; cases cur <;> simp [flushWord]
  fun_induction wordsGo t cur with
  | case1 cur => simp [hf, nonWhite]
  | case2 c cs cur hw ih => rw [List.flatten_append, hf, ih, nonWhite_cons, if_pos hw]; rfl
  | case3 c cs cur hw ih => rw [ih, nonWhite_cons, if_neg hw, List.reverse_cons, List.append_assoc]; rfl

/-- What keeps the words keeps the non-white characters. -/
theorem nonWhite_eq_words (t : Text) : nonWhite t = (words t).flatten :=
  (flatten_wordsGo t []).symm

theorem wordsGo_white_prefix (p t cur : Text) (hp : ∀ c ∈ p, isWhite c = true) (hne : p ≠ []) :
    wordsGo (p ++ t) cur = flushWord cur ++ wordsGo t [] := by
  induction p generalizing cur with
  | nil => exact absurd rfl hne
  | cons c cs ih =>
    simp only [List.cons_append, wordsGo, hp c List.mem_cons_self, if_true]
    cases cs with
    | nil => rfl
    | cons d ds =>
      rw [ih [] (fun e he => hp e (List.mem_cons_of_mem _ he)) (by simp)]
      simp [flushWord]

/-- The words of `c :: t` depend on `t` only through its words. -/
theorem wordsGo_cons_congr (c : Nat) {t t' : Text} (h : ∀ cur, wordsGo t cur = wordsGo t' cur) (cur : Text) :
    wordsGo (c :: t) cur = wordsGo (c :: t') cur := by
  simp only [wordsGo, h]

theorem wordsGo_append_congr (p : Text) {t t' : Text} (h : ∀ cur, wordsGo t cur = wordsGo t' cur) :
    ∀ cur, wordsGo (p ++ t) cur = wordsGo (p ++ t') cur := by
  induction p with
  | nil => exact h
  | cons c cs ih => exact wordsGo_cons_congr c ih

theorem words_lineFeedGo (t : Text) (a : Bool) (cur : Text) (h : a = true → cur = []) :
    wordsGo (lineFeedGo t a) cur = wordsGo t cur := by
  have h2 : isWhite Ch.lf = true := by decide
  fun_induction lineFeedGo t a generalizing cur with
  | case1 => rfl
  | case2 c rest a hcr ih =>
    have h1 : isWhite c = true := by rw [beq_iff_eq.mp hcr]; decide
    simp only [wordsGo, h1, h2, if_true, ih [] fun _ => rfl]
  | case3 c rest a _ hlf ih =>
    simp only [Bool.and_eq_true, beq_iff_eq] at hlf
    rw [hlf.1, h hlf.2, ih [] (by simp)]
    simp only [wordsGo, h2, if_true, flushWord, List.isEmpty_nil, List.nil_append]
  | case4 c rest a _ _ ih => exact wordsGo_cons_congr c (fun cur => ih cur (by simp)) cur

theorem words_tabSubGo (t : Text) (pend : List Nat) (skip : Bool) (cur : Text)
    (hp : ∀ c ∈ pend, isSpTab c = true) (hs : skip = true → cur = [] ∧ pend = []) :
    wordsGo (tabSubGo t pend skip) cur = wordsGo (pend.reverse ++ t) cur := by
  fun_induction tabSubGo t pend skip generalizing cur with
  | case1 pend skip => rw [List.append_nil]
  | case2 c cs pend hc ih =>
    obtain ⟨rfl, rfl⟩ := hs rfl
    rw [ih [] (by simp) (by simp)]
    simp only [List.reverse_nil, List.nil_append, wordsGo, isSpTab_white c hc, if_true, flushWord, List.isEmpty_nil]
  | case3 c cs pend skip hc _ ih =>
    rw [ih cur (List.forall_mem_cons.mpr ⟨hc, hp⟩) (by simp), List.reverse_cons, List.append_assoc]; rfl
  | case4 c cs pend skip _ hlf ih =>
    obtain rfl := beq_iff_eq.mp hlf
    have h2 : isWhite Ch.lf = true := by decide
    rw [List.append_cons, wordsGo_white_prefix _ _ _ (fun d hd => ?_) (by simp)]
    · simp only [wordsGo, h2, if_true, ih [] (by simp) (by simp), List.reverse_nil, List.nil_append]
    · rcases List.mem_append.mp hd with hd | hd
      · exact isSpTab_white d (hp d (List.mem_reverse.mp hd))
      · rw [List.mem_singleton.mp hd]; exact h2
  | case5 c cs pend skip _ _ ih =>
    exact wordsGo_append_congr _ (wordsGo_cons_congr c fun cur => ih cur (by simp) (by simp)) cur

theorem words_nlToSpace (t cur : Text) : wordsGo (nlToSpace t) cur = wordsGo t cur := by
  induction t generalizing cur with
  | nil => rfl
  | cons c cs ih =>
    rw [nlToSpace, List.map_cons, ← nlToSpace, ← wordsGo_cons_congr c ih]
    split
    · rename_i h10
      rw [beq_iff_eq.mp h10]
      simp only [wordsGo]; rfl
    · rfl

theorem words_spaceSubGo (t : Text) (b : Bool) (cur : Text) (h : b = true → cur = []) :
    wordsGo (spaceSubGo t b) cur = wordsGo t cur := by
  fun_induction spaceSubGo t b generalizing cur with
  | case1 => rfl
  | case2 c cs hs ih =>
    rw [h rfl]
    simp only [wordsGo, isSpTab_white c hs, if_true, flushWord, List.isEmpty_nil, List.nil_append]
    exact ih [] fun _ => rfl
  | case3 c cs b hs _ ih =>
    have h1 : isWhite Ch.sp = true := by decide
    simp only [wordsGo, isSpTab_white c hs, h1, if_true]
    rw [ih [] fun _ => rfl]
  | case4 c cs b _ ih => exact wordsGo_cons_congr c (fun cur => ih cur (by simp)) cur

theorem words_drop_sp (t : Text) (h : startsWithSp t = true) : words (t.drop 1) = words t := by
  cases t with
  | nil => rfl
  | cons c cs =>
    simp only [startsWithSp, Ch.sp, beq_iff_eq] at h
    subst h
    have h1 : isWhite 32 = true := by decide
    simp [words, wordsGo, h1, flushWord]

/-! ## `processText` in two steps: the three substitutions, then the leading space -/

theorem nlc_imp_sc (ws : WS) (h : newLineCollapse ws = true) : spaceCollapse ws = true := by
  cases ws <;> first | rfl | (exact absurd h (by decide))

/-- The text after the three substitutions, before a leading space is possibly removed. -/
def collapsed (ws : WS) (t : Text) : Text :=
  spaceSub (if newLineCollapse ws = true then nlToSpace (tabSub (lineFeed t)) else tabSub (lineFeed t))

/-- `text[1:]` when a collapsible space precedes (`f`) and the text starts with a space. -/
def stripLead (f : Bool) (u : Text) : Text := if (f && startsWithSp u) = true then u.drop 1 else u

theorem processText_collapse (ws : WS) (h : spaceCollapse ws = true) (t : Text) (f : Bool) :
    processText ws t f =
      ⟨stripLead f (collapsed ws t), f && startsWithSp (collapsed ws t), endsWithSp (collapsed ws t)⟩ := by
  unfold processText collapsed stripLead
  simp only [h, if_true]
  generalize spaceSub _ = u
  by_cases hc : (f && startsWithSp u) = true
  · rw [if_pos hc, if_pos hc, hc]
  · rw [if_neg hc, if_neg hc, Bool.eq_false_iff.mpr hc]

theorem processText_pre (ws : WS) (h : spaceCollapse ws = false) (t : Text) (f : Bool) :
    processText ws t f = ⟨lineFeed t, false, false⟩ := by
  have hn : newLineCollapse ws = false := by
    cases hn : newLineCollapse ws
    · rfl
    · rw [nlc_imp_sc ws hn] at h; cases h
  simp [processText, h, hn]

theorem words_lineFeed (t : Text) : words (lineFeed t) = words t := words_lineFeedGo t false [] (by simp)

theorem words_collapsed (ws : WS) (t : Text) : words (collapsed ws t) = words t := by
  have h2 : words (tabSub (lineFeed t)) = words t := by
    unfold tabSub words
    rw [words_tabSubGo _ _ _ _ (by simp) (by simp)]
    exact words_lineFeed t
  unfold collapsed spaceSub words
  rw [words_spaceSubGo _ _ _ (by simp)]
  split
  · rw [words_nlToSpace]; exact h2
  · exact h2

theorem mem_collapsed (ws : WS) (t : Text) :
    ∀ c ∈ collapsed ws t, c ≠ 9 ∧ c ≠ 13 ∧ (newLineCollapse ws = true → c ≠ 10) := by
  have hcr : ∀ c ∈ tabSub (lineFeed t), c ≠ 13 := by
    intro c hc
    rcases mem_tabSubGo _ _ _ c hc with h3 | h3
    · exact (mem_lineFeedGo t false c h3).1
    · cases h3
  intro c hc
  unfold collapsed at hc
  obtain ⟨h9, h1⟩ := mem_spaceSubGo _ _ c hc
  refine ⟨h9, ?_⟩
  rcases h1 with h1 | rfl
  · split at h1
    · rename_i hn
      obtain ⟨h10, h2⟩ := mem_nlToSpace _ c h1
      refine ⟨?_, fun _ => h10⟩
      rcases h2 with h2 | rfl
      · exact hcr c h2
      · decide
    · rename_i hn
      exact ⟨hcr c h1, fun h => absurd h hn⟩
  · exact ⟨by decide, fun _ => by decide⟩

theorem collapsed_noDouble (ws : WS) (t : Text) : noDoubleSp (collapsed ws t) = true :=
  (spaceSubGo_spec _ false).1

theorem count_lf_collapsed (ws : WS) (h : newLineCollapse ws = false) (t : Text) :
    (collapsed ws t).count 10 = (lineFeed t).count 10 := by
  unfold collapsed spaceSub tabSub
  rw [h, if_neg Bool.false_ne_true, count_lf_spaceSubGo, count_lf_tabSubGo _ _ _ (by simp)]

theorem mem_stripLead (f : Bool) (u : Text) : ∀ c ∈ stripLead f u, c ∈ u := by
  unfold stripLead
  split
  · exact fun c hc => List.mem_of_mem_drop hc
  · exact fun c hc => hc

theorem words_stripLead (f : Bool) (u : Text) : words (stripLead f u) = words u := by
  unfold stripLead
  split
  · rename_i hc
    simp only [Bool.and_eq_true] at hc
    exact words_drop_sp _ hc.2
  · rfl

theorem noDoubleSp_stripLead (f : Bool) (u : Text) (h : noDoubleSp u = true) : noDoubleSp (stripLead f u) = true := by
  unfold stripLead
  split
  · exact noDoubleSp_drop1 _ h
  · exact h

/-- After a collapsible space the stripped text does not start with a space. -/
theorem startsWithSp_stripLead (u : Text) (h : noDoubleSp u = true) : startsWithSp (stripLead true u) = false := by
  unfold stripLead
  simp only [Bool.true_and]
  split
  · rename_i hsp
    cases u with
    | nil => rfl
    | cons c cs =>
      simp only [startsWithSp, Ch.sp, beq_iff_eq] at hsp
      subst hsp
      cases cs with
      | nil => rfl
      | cons d ds =>
        simp only [noDoubleSp, Bool.and_eq_true, Bool.not_eq_true', Bool.and_eq_false_iff] at h
        simp only [List.drop_succ_cons, List.drop_zero, startsWithSp, Ch.sp]
        rcases h.1 with h1 | h1
        · simp at h1
        · exact h1
  · rename_i hsp
    simpa using hsp

theorem count_lf_stripLead (f : Bool) (u : Text) : (stripLead f u).count 10 = u.count 10 := by
  unfold stripLead
  split
  · rename_i hc
    simp only [Bool.and_eq_true] at hc
    cases u with
    | nil => rfl
    | cons c cs =>
      simp only [startsWithSp, Ch.sp, beq_iff_eq] at hc
      rw [hc.2, List.count_cons_of_ne (by decide)]
      rfl
  · rfl

end Wp.Bx
