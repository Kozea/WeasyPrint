/-
The paragraph part of the pagination model below the stages: `_break_line` in closed form, and the line loop of
`_linebox_layout` over an abstract overflow test and line placement (`lineLoopG`), of which the line loops of stage 1,
of the out-of-flow stage and of the column stage are instances.  What the loop does — the kept lines are a run of
consecutive numbers, a break happens in `_break_line` on such a run, kept lines pass the test — is proved here once.
-/
import WpModel.Model.Paginate
import WpModel.Lemmas.Basic.List

namespace Wp.PM
open Wp

/-! ### `_break_line` in closed form -/

def outLines : LineOutcome → List (Nat × Rat)
  | .done s => s.lines
  | .broke _ _ _ s => s.lines

/-- What `_break_line`'s `needed` is after its loop over the lines that follow line `i`: how many of the
`widows - 1` lines wanted behind the break the rest of the paragraph cannot supply. -/
def widowsNeeded (st : PStyle) (n i : Nat) : Nat := st.widows - 1 - min (st.widows - 1) (n - 1 - i)

/-- `_break_line` in closed form: on a page that is not empty the paragraph is given up when `orphans` lines
plus the lines taken back for `widows` are not there; otherwise the layout stops, after cutting off the
lines taken back when they can be spared. -/
theorem breakLine_eq (st : PStyle) (n i : Nat) (lines : List (Nat × Rat)) (pie : Bool)
    (skip resume : Option Resume) :
    breakLine st n i lines pie skip resume =
      if pie = false ∧ lines.length < st.orphans + widowsNeeded st n i then (true, false, resume, lines)
      else (false, true, some (.node 0 skip),
        if widowsNeeded st n i ≠ 0 ∧ st.orphans + widowsNeeded st n i ≤ lines.length
        then lines.take (lines.length - widowsNeeded st n i) else lines) := by
  unfold breakLine
  extract_lets overOrphans needed0 remaining needed lines'
  have hneeded : needed = widowsNeeded st n i := by
    simp only [needed, widowsNeeded, needed0, remaining]
    split <;> omega
  have h1 : overOrphans < 0 ↔ lines.length < st.orphans := by simp only [overOrphans]; omega
  have h2 : (needed : Int) > overOrphans ↔ lines.length < st.orphans + needed := by
    simp only [overOrphans]; omega
  have h3 : (needed : Int) ≤ overOrphans ↔ st.orphans + needed ≤ lines.length := by
    simp only [overOrphans]; omega
  simp only [lines', h1, h2, h3, ← hneeded, Bool.and_eq_true, decide_eq_true_eq]
  cases pie
  · simp only [Bool.not_false, and_true, true_and]
    split
    · rw [if_pos (by omega)]
    · rfl
  · simp only [Bool.not_true, Bool.false_eq_true, and_false, if_false]
    exact (if_neg fun h => Bool.noConfusion h.1).symm

theorem breakLine_no_abort (st : PStyle) (n i : Nat) (lines : List (Nat × Rat))
    (skip resume : Option Resume) : (breakLine st n i lines true skip resume).1 = false := by
  rw [breakLine_eq, if_neg (by simp)]

theorem le_add_widowsNeeded (st : PStyle) (n i : Nat) (hi : i < n) (hw : 1 ≤ st.widows) :
    st.widows ≤ (n - i) + widowsNeeded st n i := by
  unfold widowsNeeded; omega

theorem breakLine_lines (st : PStyle) (n i : Nat) (lines : List (Nat × Rat)) (pie : Bool)
    (skip resume : Option Resume) :
    ∃ m, m ≤ lines.length ∧ (breakLine st n i lines pie skip resume).2.2.2 = lines.take m := by
  rw [breakLine_eq]
  split <;> try split
  · exact ⟨_, Nat.le_refl _, List.take_length.symm⟩
  · exact ⟨_, Nat.sub_le _ _, rfl⟩
  · exact ⟨_, Nat.le_refl _, List.take_length.symm⟩

theorem map_fst_snoc_range' (lines : List (Nat × Rat)) (k i : Nat) (y : Rat) (hk : k ≤ i)
    (hs : lines.map Prod.fst = List.range' k (i - k)) :
    (lines ++ [(i, y)]).map Prod.fst = List.range' k (i + 1 - k) := by
  rw [List.map_append, hs, List.range'_sub_succ hk]; rfl

theorem breakLine_lines_sub (st : PStyle) (n i : Nat) (lines : List (Nat × Rat)) (pie : Bool)
    (skip resume : Option Resume) : ∀ p ∈ (breakLine st n i lines pie skip resume).2.2.2, p ∈ lines := by
  obtain ⟨m, _, hl⟩ := breakLine_lines st n i lines pie skip resume
  rw [hl]
  intro p hp
  exact List.mem_of_mem_take hp

theorem breakLine_stop (st : PStyle) (n i : Nat) (lines : List (Nat × Rat)) (pie : Bool)
    (skip resume : Option Resume) (ho : 1 ≤ st.orphans) (hne : lines.isEmpty = false ∨ pie = false) :
    (breakLine st n i lines pie skip resume).1 = false →
      (breakLine st n i lines pie skip resume).2.1 = true ∧
      1 ≤ (breakLine st n i lines pie skip resume).2.2.2.length := by
  rw [breakLine_eq]
  split
  · intro h; cases h
  · rename_i hfit
    refine fun _ => ⟨rfl, ?_⟩
    have : 1 ≤ lines.length := by
      rcases hne with h | h
      · cases lines with
        | nil => cases h
        | cons a l => exact Nat.succ_pos _
      · have := Nat.le_of_not_lt fun h' => hfit ⟨h, h'⟩
        omega
    split
    · rw [List.length_take]; omega
    · exact this

/-- The kept lines are a run of consecutive numbers from `k`. -/
def RunFrom (k i : Nat) (lines : List (Nat × Rat)) : Prop := k ≤ i ∧ lines.map Prod.fst = List.range' k (i - k)

theorem runFrom_snoc (k i : Nat) (lines : List (Nat × Rat)) (y : Rat) (h : RunFrom k i lines) :
    RunFrom k (i + 1) (lines ++ [(i, y)]) :=
  ⟨Nat.le_succ_of_le h.1, map_fst_snoc_range' lines k i y h.1 h.2⟩

theorem runFrom_start (k : Nat) : RunFrom k k [] := ⟨Nat.le_refl _, by simp⟩

/-- What `_break_line` keeps of a run of lines from `k` is a run from `k`; when it does not give the paragraph
up, it stops the layout after at least one line and before the last one. -/
theorem breakLine_run (st : PStyle) (n i k : Nat) (lines : List (Nat × Rat)) (pie : Bool)
    (skip resume : Option Resume) (h : RunFrom k i lines) :
    ∃ m, m ≤ i - k ∧ (breakLine st n i lines pie skip resume).2.2.2.map Prod.fst = List.range' k m ∧
      ((breakLine st n i lines pie skip resume).1 = false → i < n → 1 ≤ st.orphans →
        (lines.isEmpty = false ∨ pie = false) →
        (breakLine st n i lines pie skip resume).2.1 = true ∧ 1 ≤ m ∧ k + m < n) := by
  obtain ⟨hk, hs⟩ := h
  have hlen : lines.length = i - k := by simpa using congrArg List.length hs
  obtain ⟨m, hm, hl⟩ := breakLine_lines st n i lines pie skip resume
  refine ⟨m, hlen ▸ hm, by rw [hl, List.map_take, hs]; exact List.take_range'_of_length_ge (by omega), ?_⟩
  intro ha hn ho hne
  have h1 := breakLine_stop st n i lines pie skip resume ho hne ha
  rw [hl, List.length_take] at h1
  exact ⟨h1.1, by omega, by omega⟩

/-! ### the line loop over an abstract overflow test -/

/-- The line loop of `_linebox_layout` over an abstract overflow test `ov` (position ↦ "below the bottom edge")
and an abstract placement `place` (where `get_next_linebox` puts a line handed `position_y`).  The loops of stage 1,
of the out-of-flow stage and of the column stage are instances (`lineLoop_eq_G` in each stage). -/
def lineLoopG (ov : Rat → Bool) (place : Rat → Rat) (st : PStyle) (b : BoxSt) (n : Nat) (lineH : Rat) (pie : Bool)
    : (fuel : Nat) → (i : Nat) → (y0 : Rat) → LineLoop → LineOutcome
  | 0, _, _, s => .done s
  | fuel + 1, i, y0, s =>
    let y := place y0
    let resume := lineResume n i
    let newPosY := y + lineH
    let dbd := s.dbd || resume.isNone
    let offset := if dbd then b.bb + b.pb else 0
    let overflow := (!s.lines.isEmpty || !pie) && ov (newPosY + offset)
    if overflow then
      let (abort, stop, r, lines') := breakLine st n i s.lines pie s.skip resume
      .broke abort stop r { s with lines := lines', dbd := dbd }
    else
      let shift := pie && ov newPosY
      let newPosY' := if shift then newPosY - s.mt else newPosY
      let lineY := if shift then y - s.mt else y
      let mt' := if shift then 0 else s.mt
      lineLoopG ov place st b n lineH pie fuel (i + 1) (y + lineH)
        { lines := s.lines ++ [(i, lineY)], posY := newPosY', skip := resume, mt := mt', dbd := dbd }

theorem lineLoop_eq_G (c : Ctx) (st : PStyle) (b : BoxSt) (n : Nat) (lineH : Rat) (pie : Bool) (bs : Rat)
    (fuel i : Nat) (y : Rat) (s : LineLoop) :
    lineLoop c st b n lineH pie bs fuel i y s = lineLoopG (c.overflowsPage bs) id st b n lineH pie fuel i y s := by
  induction fuel generalizing i y s with
  | zero => rfl
  | succ fuel ih => simp only [lineLoop, lineLoopG, ih, id]

section
variable (ov : Rat → Bool) (place : Rat → Rat) (st : PStyle) (b : BoxSt) (n : Nat) (lineH : Rat) (pie : Bool)

/-- What the loop does to the list of kept lines: any property `P i lines` ("`lines` are the lines kept when the
loop is at line `i`") that survives keeping line `i` holds of the lines of a loop that runs to the end, and of the
lines handed to `_break_line` when the loop breaks — at a line `i'` it reached, on lines that are not empty unless
the page is not empty. -/
theorem lineLoopG_inv (P : Nat → List (Nat × Rat) → Prop)
    (hP : ∀ i lines y, P i lines → P (i + 1) (lines ++ [(i, y)])) (fuel i : Nat) (y : Rat) (s : LineLoop)
    (h0 : P i s.lines) :
    (∀ s', lineLoopG ov place st b n lineH pie fuel i y s = .done s' → P (i + fuel) s'.lines) ∧
    (∀ abort stop r s', lineLoopG ov place st b n lineH pie fuel i y s = .broke abort stop r s' →
      ∃ i' lines skip, i ≤ i' ∧ i' < i + fuel ∧ P i' lines ∧ (lines.isEmpty = false ∨ pie = false) ∧
        breakLine st n i' lines pie skip (lineResume n i') = (abort, stop, r, s'.lines)) := by
  fun_induction lineLoopG ov place st b n lineH pie fuel i y s with
  | case1 i y s => exact ⟨fun s' h => (by cases h; exact h0), fun _ _ _ _ h => nomatch h⟩
  | case2 fuel i y0 s y resume newPosY dbd offset overflow hov abort' stop' r' lines' hb =>
    refine ⟨fun _ h => (nomatch h), fun abort stop r s' h => ?_⟩
    simp only [LineOutcome.broke.injEq] at h
    obtain ⟨rfl, rfl, rfl, rfl⟩ := h
    have hne : s.lines.isEmpty = false ∨ pie = false := by
      have : (!s.lines.isEmpty || !pie) = true := (Bool.and_eq_true _ _ ▸ hov).1
      cases h1 : s.lines.isEmpty <;> cases h2 : pie <;> simp_all
    exact ⟨i, s.lines, s.skip, Nat.le_refl _, by omega, h0, hne, hb⟩
  | case3 fuel i y0 s y resume newPosY dbd offset overflow hov shift newPosY' lineY mt' ih =>
    obtain ⟨ih1, ih2⟩ := ih (hP i s.lines lineY h0)
    refine ⟨fun s' h => ?_, fun abort stop r s' h => ?_⟩
    · have := ih1 s' h
      rwa [show i + 1 + fuel = i + (fuel + 1) by omega] at this
    · obtain ⟨i', lines, skip, h1, h2, h3⟩ := ih2 abort stop r s' h
      exact ⟨i', lines, skip, by omega, by omega, h3⟩

/-- On an empty page the loop never asks its caller to abort. -/
theorem lineLoopG_no_abort {fuel i : Nat} {y : Rat} {s s' : LineLoop} {a stp : Bool} {r : Option Resume}
    (h : lineLoopG ov place st b n lineH true fuel i y s = .broke a stp r s') : a = false := by
  obtain ⟨i', lines, skip, _, _, _, _, hb⟩ := (lineLoopG_inv ov place st b n lineH true (fun _ _ => True)
    (fun _ _ _ _ => trivial) fuel i y s trivial).2 a stp r s' h
  have := breakLine_no_abort st n i' lines skip (lineResume n i')
  rw [hb] at this
  exact this

/-- When the loop runs to the end, every remaining line has been placed. -/
theorem lineLoopG_done (k : Nat) (fuel i : Nat) (y : Rat) (s s' : LineLoop) (h0 : RunFrom k i s.lines)
    (h : lineLoopG ov place st b n lineH pie fuel i y s = .done s') :
    s'.lines.map Prod.fst = List.range' k ((i - k) + fuel) := by
  have := ((lineLoopG_inv ov place st b n lineH pie (RunFrom k) (runFrom_snoc k) fuel i y s h0).1 s' h).2
  rwa [show i + fuel - k = i - k + fuel by have := h0.1; omega] at this

/-- A loop that breaks does so in `_break_line`, called at a line `i'` the loop reached, on the lines kept so
far — a run from `k`, not empty unless the page is not empty. -/
theorem lineLoopG_broke (k : Nat) (fuel i : Nat) (y : Rat) (s s' : LineLoop) (abort stop : Bool)
    (r : Option Resume) (h0 : RunFrom k i s.lines)
    (h : lineLoopG ov place st b n lineH pie fuel i y s = .broke abort stop r s') :
    ∃ i' lines skip, i ≤ i' ∧ i' < i + fuel ∧ RunFrom k i' lines ∧ (lines.isEmpty = false ∨ pie = false) ∧
      breakLine st n i' lines pie skip (lineResume n i') = (abort, stop, r, s'.lines) :=
  (lineLoopG_inv ov place st b n lineH pie (RunFrom k) (runFrom_snoc k) fuel i y s h0).2 abort stop r s' h

/-- When the loop breaks, the lines kept are numbered consecutively from `k`; if the paragraph is not given up,
the layout stops after at least one line and before the last one. -/
theorem lineLoopG_broke_run (k : Nat) (fuel i : Nat) (y : Rat) (s s' : LineLoop) (abort stop : Bool)
    (r : Option Resume) (h0 : RunFrom k i s.lines)
    (h : lineLoopG ov place st b n lineH pie fuel i y s = .broke abort stop r s') :
    ∃ m, m ≤ (i - k) + fuel ∧ s'.lines.map Prod.fst = List.range' k m ∧
      (abort = false → fuel = n - i → 1 ≤ st.orphans → stop = true ∧ 1 ≤ m ∧ k + m < n) := by
  obtain ⟨i', lines, skip, h1, h2, hrun, hne, hb⟩ :=
    lineLoopG_broke ov place st b n lineH pie k fuel i y s s' abort stop r h0 h
  obtain ⟨m, hm, hl, hstop⟩ := breakLine_run st n i' k lines pie skip (lineResume n i') hrun
  rw [hb] at hl hstop
  exact ⟨m, by omega, hl, fun hab hn ho => hstop hab (by omega) ho hne⟩

/-- The lines produced by the loop are numbered consecutively from `k`. -/
theorem lineLoopG_contiguous (k : Nat) (fuel i : Nat) (y : Rat) (s : LineLoop) (h0 : RunFrom k i s.lines) :
    ∃ m, m ≤ (i - k) + fuel ∧
      (outLines (lineLoopG ov place st b n lineH pie fuel i y s)).map Prod.fst = List.range' k m := by
  cases h : lineLoopG ov place st b n lineH pie fuel i y s with
  | done s' => exact ⟨_, Nat.le_refl _, lineLoopG_done ov place st b n lineH pie k fuel i y s s' h0 h⟩
  | broke abort stop r s' =>
    obtain ⟨m, hm, hl, _⟩ := lineLoopG_broke_run ov place st b n lineH pie k fuel i y s s' abort stop r h0 h
    exact ⟨m, hm, hl⟩

/-! ### lines kept by the loop fit -/

/-- The only property of the overflow test the geometry needs: what is above a fitting position fits. -/
def Downward (ov : Rat → Bool) : Prop := ∀ y y', y ≤ y' → ov y' = false → ov y = false

/-- A kept line either was the first line placed while the page was empty, or ends above the bottom edge. -/
def LineFitsG (ov : Rat → Bool) (lineH : Rat) (pie : Bool) (k : Nat) (p : Nat × Rat) : Prop :=
  (pie = true ∧ p.1 = k) ∨ ov (p.2 + lineH) = false

variable {ov}

/-- A line the loop keeps without its being the first content of an empty page passed the overflow test,
bottom decorations included; so it ends above the bottom edge itself. -/
theorem kept_line_fits (hov : Downward ov) (newPosY d : Rat) (pie dbd : Bool)
    (lines : List (Nat × Rat)) (hd : 0 ≤ d) (hnf : ¬(lines = [] ∧ pie = true))
    (h : ¬((!lines.isEmpty || !pie) && ov (newPosY + if dbd then d else 0)) = true) :
    ov newPosY = false := by
  have hcond : (!lines.isEmpty || !pie) = true := by
    cases lines with
    | nil => cases pie with
      | false => rfl
      | true => exact absurd ⟨rfl, rfl⟩ hnf
    | cons a l => rfl
  rw [hcond, Bool.true_and, Bool.not_eq_true] at h
  refine hov _ _ ?_ h
  split <;> grind

/-- The overflow test of the line loop, passed by a line that is not the first line of an empty page: the line fits
even without the bottom decoration `d` counted in when it may be the last of its box, and is not shifted. -/
theorem line_test (hov : Downward ov) (y lineH mt d : Rat) (dbd pie : Bool) (lines : List (Nat × Rat)) (hd : 0 ≤ d)
    (h : ¬((!lines.isEmpty || !pie) && ov (y + lineH + (if dbd = true then d else 0))) = true)
    (hne : ¬(lines = [] ∧ pie = true)) :
    ov (y + lineH) = false ∧
    (if (pie && ov (y + lineH)) = true then y + lineH - mt else y + lineH) = y + lineH ∧
    (if (pie && ov (y + lineH)) = true then y - mt else y) = y ∧
    0 ≤ (if dbd = true then d else 0) := by
  rw [kept_line_fits hov (y + lineH) d pie dbd lines hd hne h, Bool.and_false]
  exact ⟨rfl, rfl, rfl, by split; exact hd; exact Rat.le_refl⟩

theorem lineLoopG_fits (hov : Downward ov) (k : Nat) (fuel i : Nat) (y : Rat) (s : LineLoop)
    (hdeco : 0 ≤ b.bb + b.pb) (hfirst : s.lines = [] → i = k) (hs : ∀ p ∈ s.lines, LineFitsG ov lineH pie k p) :
    ∀ p ∈ outLines (lineLoopG ov place st b n lineH pie fuel i y s), LineFitsG ov lineH pie k p := by
  fun_induction lineLoopG ov place st b n lineH pie fuel i y s with
  | case1 i y s => simpa [outLines] using hs
  | case2 fuel i y0 s y resume newPosY dbd offset overflow hov' abort stop r lines' hb =>
    intro p hp
    simp only [outLines] at hp
    have hsub := breakLine_lines_sub st n i s.lines pie s.skip resume
    rw [hb] at hsub
    exact hs p (hsub p hp)
  | case3 fuel i y0 s y resume newPosY dbd offset overflow hov' shift newPosY' lineY mt' ih =>
    apply ih
    · intro h; simp at h
    · intro p hp
      rcases List.mem_append.mp hp with hp | hp
      · exact hs p hp
      · simp only [List.mem_singleton] at hp
        subst hp
        by_cases hfirstLine : s.lines = [] ∧ pie = true
        · exact .inl ⟨hfirstLine.2, hfirst hfirstLine.1⟩
        · obtain ⟨hno, _, hy, _⟩ : ov newPosY = false ∧ newPosY' = newPosY ∧ lineY = y ∧ 0 ≤ offset :=
            line_test hov y lineH s.mt (b.bb + b.pb) dbd pie s.lines hdeco hov' hfirstLine
          exact .inr (hy ▸ hno)

end

end Wp.PM
