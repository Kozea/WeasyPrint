/-
The loop of css-flexbox 9.7.5 as `Model/Flex` mirrors it, seen from outside: what one pass may change of an item
(`TargetOnly` for 9.7.5.c, `fixedPart` for the whole pass), that a pass can only fail by the division of 9.7.5.c, and the
lines reachable by successful passes (`Reach`; `loop_reach`: a run that ends normally ends on a reachable, all-frozen
line).  Of the properties of `Props/C12`, termination is an induction along `Flex.loop` itself with the one-pass lemma
`pass_freezes`; filling, min / max and order are inductions on `Reach` or statements about one pass.  Also the lemmas
on `mapExcept` (the model's own `mapM`: `mapExcept_eq_mapM`) and `sumBy` they share.
-/
import WpModel.Model.Flex
import WpModel.Lemmas.Basic.List

namespace Wp.C12
open Wp Wp.Flex

/-- the model's own `mapM` in `Except` -/
theorem mapExcept_eq_mapM {α β ε} (f : α → Except ε β) (l : List α) : mapExcept f l = l.mapM f := by
  fun_induction mapExcept f l <;> simp_all only [List.mapM_cons, List.mapM_nil, bind, Except.bind, pure, Except.pure]

theorem mapExcept_rel {α β ε} {f : α → Except ε β} {l : List α} {l' : List β} (h : mapExcept f l = .ok l') :
    Rel2 (fun x y => f x = .ok y) l l' :=
  List.mapM_eq_ok_rel2 (mapExcept_eq_mapM f l ▸ h)

theorem mapExcept_error {α β ε} {f : α → Except ε β} {l : List α} {e : ε} (h : mapExcept f l = .error e) :
    ∃ x ∈ l, f x = .error e := by
  fun_induction mapExcept f l with
  | case1 => cases h
  | case2 x xs e1 hx => cases h; exact ⟨x, List.mem_cons_self, hx⟩
  | case3 x xs y hy e1 hxs ih =>
    cases h
    obtain ⟨z, hz, hfz⟩ := ih hxs
    exact ⟨z, List.mem_cons_of_mem _ hz, hfz⟩
  | case4 => cases h

theorem mapExcept_ok {α β ε} (f : α → Except ε β) (g : α → β) (l : List α)
    (h : ∀ x ∈ l, f x = .ok (g x)) : mapExcept f l = .ok (l.map g) := by
  rw [mapExcept_eq_mapM, List.mapM_congr l h]; exact List.mapM_pure

theorem sumBy_add {α} (f g : α → Rat) (l : List α) : sumBy (fun x => f x + g x) l = sumBy f l + sumBy g l := by
  induction l with
  | nil => simp [sumBy]; grind
  | cons x xs ih => simp only [sumBy, ih]; grind

theorem sumBy_mul {α} (c : Rat) (f : α → Rat) (l : List α) : sumBy (fun x => c * f x) l = c * sumBy f l := by
  induction l with
  | nil => simp [sumBy]
  | cons x xs ih => simp only [sumBy, ih]; grind

theorem sumBy_div {α} (c : Rat) (f : α → Rat) (l : List α) : sumBy (fun x => f x / c) l = sumBy f l / c := by
  induction l with
  | nil => simp only [sumBy]; grind
  | cons x xs ih => simp only [sumBy, ih]; grind

theorem sumBy_map {α β} (f : β → Rat) (g : α → β) (l : List α) : sumBy f (l.map g) = sumBy (fun x => f (g x)) l := by
  induction l with
  | nil => rfl
  | cons x xs ih => simp only [List.map_cons, sumBy, ih]

theorem sumBy_congr {α} {f g : α → Rat} {l : List α} (h : ∀ x ∈ l, f x = g x) : sumBy f l = sumBy g l := by
  induction l with
  | nil => rfl
  | cons x xs ih =>
    simp only [sumBy]
    rw [h x (by simp), ih (fun y hy => h y (by simp [hy]))]

theorem sumBy_zero {α} (f : α → Rat) (l : List α) (h : ∀ x ∈ l, f x = 0) : sumBy f l = 0 := by
  induction l with
  | nil => rfl
  | cons x xs ih =>
    simp only [sumBy, h x (by simp), ih (fun y hy => h y (by simp [hy]))]; grind

theorem sumBy_pos_exists {α} (f : α → Rat) (l : List α) (h : sumBy f l > 0) : ∃ x ∈ l, f x > 0 := by
  induction l with
  | nil => simp [sumBy] at h
  | cons x xs ih =>
    simp only [sumBy] at h
    by_cases hx : f x > 0
    · exact ⟨x, by simp, hx⟩
    · have : sumBy f xs > 0 := by grind
      obtain ⟨y, hy, hfy⟩ := ih this
      exact ⟨y, by simp [hy], hfy⟩

theorem sumBy_neg_exists {α} (f : α → Rat) (l : List α) (h : sumBy f l < 0) : ∃ x ∈ l, f x < 0 := by
  obtain ⟨x, hx, hfx⟩ := sumBy_pos_exists (fun x => -1 * f x) l (by rw [sumBy_mul]; grind)
  exact ⟨x, hx, by grind⟩

/-! ## Flex: what the steps of 9.7.5 change -/

/-- 9.7.5.c changes nothing but the target of an item, and nothing at all of a frozen item. -/
def TargetOnly (x y : St) : Prop := y = { x with target := y.target } ∧ (x.frozen = true → y = x)

/-- 9.7.5.c for one item: the `ZeroDivisionError` of the grow ratio, or a new target (the old one for a frozen item) -/
theorem distributeOne_cases (grow : Bool) (r g sh : Rat) (s : St) :
    distributeOne grow r g sh s = .error (.zeroDivision "flex.grow_ratio") ∨
    ∃ t, distributeOne grow r g sh s = .ok { s with target := t } ∧ (s.frozen = true → t = s.target) := by
  fun_cases distributeOne grow r g sh s
  · exact .inr ⟨s.target, rfl, fun _ => rfl⟩
  · exact .inl rfl
  all_goals exact .inr ⟨_, rfl, fun h => absurd h ‹_›⟩

theorem distributeOne_targetOnly {grow : Bool} {r g sh : Rat} {x y : St}
    (h : distributeOne grow r g sh x = .ok y) : TargetOnly x y := by
  rcases distributeOne_cases grow r g sh x with he | ⟨t, ht, hfr⟩
  · rw [he] at h; cases h
  · rw [ht] at h; cases h; exact ⟨rfl, fun hf => by rw [hfr hf]⟩

theorem distributeOne_error {grow : Bool} {r g sh : Rat} {s : St} {e : PyErr}
    (h : distributeOne grow r g sh s = .error e) : e = .zeroDivision "flex.grow_ratio" := by
  rcases distributeOne_cases grow r g sh s with he | ⟨t, ht, _⟩
  · rw [he] at h; cases h; rfl
  · rw [ht] at h; cases h

theorem setBase_targetOnly (s : St) : TargetOnly s (setBase s) := by
  unfold setBase
  split
  · exact ⟨rfl, fun _ => rfl⟩
  · rename_i hf; exact ⟨rfl, fun hc => absurd hc hf⟩

theorem distribute_rel {grow : Bool} {r : Rat} {l l' : List St} (h : distribute grow r l = .ok l') :
    Rel2 TargetOnly l l' := by
  unfold distribute at h
  split at h
  · cases h; exact Rel2.of_map _ setBase_targetOnly l
  · have h' := (mapExcept_rel h).map_right id (fun x y hxy => distributeOne_targetOnly hxy)
    rwa [List.map_id] at h'

theorem distribute_error {grow : Bool} {r : Rat} {l : List St} {e : PyErr}
    (h : distribute grow r l = .error e) : e = .zeroDivision "flex.grow_ratio" := by
  unfold distribute at h
  split at h
  · cases h
  · obtain ⟨x, _, hx⟩ := mapExcept_error h
    exact distributeOne_error hx

/-- 9.7.5.d only sets the target and the adjustment -/
theorem fixMinMax_eq (row : Bool) (s : St) :
    fixMinMax row s = { s with target := (fixMinMax row s).target, adj := (fixMinMax row s).adj } := by
  unfold fixMinMax; split <;> rfl

/-- 9.7.5.e only sets the frozen flag -/
theorem freezeOne_eq (a : Rat) (s : St) : freezeOne a s = { s with frozen := (freezeOne a s).frozen } := by
  fun_cases freezeOne a s <;> rfl

/-- 9.7.5.e with a total violation of zero freezes every item -/
theorem freezeOne_zero (s : St) : (freezeOne 0 s).frozen = true := by simp [freezeOne]

theorem freezeOne_mono (a : Rat) (s : St) (h : s.frozen = true) : (freezeOne a s).frozen = true := by
  fun_cases freezeOne a s <;> first | rfl | exact h

/-- what no pass of 9.7.5 touches: everything but the target, the adjustment and the frozen flag -/
def fixedPart (s : St) : St := { s with target := 0, adj := 0, frozen := false }

theorem TargetOnly.fixedPart {x y : St} (h : TargetOnly x y) : fixedPart y = fixedPart x := by
  rw [h.1]; rfl

theorem fixedPart_finish (row : Bool) (a : Rat) (s : St) : fixedPart (freezeOne a (fixMinMax row s)) = fixedPart s := by
  rw [freezeOne_eq, fixMinMax_eq]; rfl

/-- a pass that succeeds is 9.7.5.c, which can only fail by dividing by zero, followed by 9.7.5.d–e -/
theorem pass_ok {row grow : Bool} {avail gap : Rat} {line line' : List St} {f f' : Rat}
    (hp : pass row grow avail gap line f = .ok (line', f')) :
    ∃ l, distribute grow (remainingFree avail gap line f).2 line = .ok l ∧ line' = finishPass row l ∧
      f' = (remainingFree avail gap line f).1 := by
  unfold pass at hp
  split at hp
  · cases hp
  · rename_i l hl; cases hp; exact ⟨l, hl, rfl, rfl⟩

/-- The only error a pass can raise is the `ZeroDivisionError` of 9.7.5.c. -/
theorem pass_error {row grow : Bool} {avail gap : Rat} {line : List St} {f : Rat} {e : PyErr}
    (hp : pass row grow avail gap line f = .error e) : ∃ site, e = .zeroDivision site := by
  unfold pass at hp
  split at hp
  · rename_i e' hdist; cases hp; exact ⟨_, distribute_error hdist⟩
  · cases hp

theorem pass_fixedPart {row grow : Bool} {avail gap : Rat} {line line' : List St} {f f' : Rat}
    (hp : pass row grow avail gap line f = .ok (line', f')) : line'.map fixedPart = line.map fixedPart := by
  obtain ⟨l, hl, rfl, _⟩ := pass_ok hp
  unfold finishPass
  simp only [List.map_map]
  rw [← (distribute_rel hl).map_eq fixedPart fixedPart (fun _ _ h => h.fixedPart)]
  exact List.map_congr_left fun s _ => fixedPart_finish row _ s

/-! ## Flex: the loop of 9.7.5 -/

/-- states of the `while` loop reachable from `(line, f)` -/
inductive Reach (row grow : Bool) (avail gap : Rat) : List St → Rat → List St → Rat → Prop
  | refl (l : List St) (f : Rat) : Reach row grow avail gap l f l f
  | step {l l1 l2 : List St} {f f1 f2 : Rat} (hnot : allFrozen l = false)
      (hp : pass row grow avail gap l f = .ok (l1, f1)) (h : Reach row grow avail gap l1 f1 l2 f2) :
      Reach row grow avail gap l f l2 f2

/-- a function of the fixed part of an item has the same values on a line before and after any number of passes -/
theorem reach_map_eq {γ} (g : St → γ) (hg : ∀ s, g s = g (fixedPart s)) {row grow : Bool} {avail gap : Rat}
    {l l' : List St} {f f' : Rat} (hr : Reach row grow avail gap l f l' f') : l'.map g = l.map g := by
  induction hr with
  | refl => rfl
  | step _ hp _ ih =>
    rw [ih]
    have h := congrArg (List.map g) (pass_fixedPart hp)
    simp only [List.map_map] at h
    rw [List.map_congr_left (fun s _ => hg s), List.map_congr_left (fun s _ => hg s)]
    exact h

/-- what reads only the fixed part of an item and holds of every item of a line still does after any number of passes -/
theorem reach_forall_fixed (P : St → Prop) (hP : ∀ s, P s ↔ P (fixedPart s)) {row grow : Bool} {avail gap : Rat}
    {l l' : List St} {f f' : Rat} (hr : Reach row grow avail gap l f l' f') (h : ∀ s ∈ l, P s) : ∀ s ∈ l', P s := by
  intro s hs
  have hm : fixedPart s ∈ l'.map fixedPart := List.mem_map_of_mem hs
  rw [reach_map_eq fixedPart (fun _ => rfl) hr] at hm
  obtain ⟨t, ht, e⟩ := List.mem_map.mp hm
  exact (hP s).mpr (e ▸ (hP t).mp (h t ht))

theorem loop_of_allFrozen {row grow : Bool} {avail gap : Rat} {fuel : Nat} {line : List St} {f : Rat}
    (h : allFrozen line = true) : loop row grow avail gap fuel line f = .ok line := by
  unfold loop; rw [if_pos h]

theorem loop_zero (row grow : Bool) (avail gap : Rat) (line : List St) (f : Rat) (h : allFrozen line = false) :
    loop row grow avail gap 0 line f = .error (.recursion "flex.loop") := by
  unfold loop; simp only [h, Bool.false_eq_true, if_false]

theorem loop_succ_ok {row grow : Bool} {avail gap : Rat} {n : Nat} {line l : List St} {f f' : Rat}
    (h : allFrozen line = false) (hp : pass row grow avail gap line f = .ok (l, f')) :
    loop row grow avail gap (n + 1) line f = loop row grow avail gap n l f' := by
  rw [loop]; simp only [h, Bool.false_eq_true, if_false, hp]

theorem loop_succ_error (row grow : Bool) (avail gap : Rat) (n : Nat) (line : List St) (f : Rat) (e : PyErr)
    (h : allFrozen line = false) (hp : pass row grow avail gap line f = .error e) :
    loop row grow avail gap (n + 1) line f = .error e := by
  rw [loop]; simp only [h, Bool.false_eq_true, if_false, hp]

/-- When the loop ends normally, its result is reached by successful passes from unfrozen lines, and every item is
frozen. -/
theorem loop_reach {row grow : Bool} {avail gap : Rat} {fuel : Nat} {line res : List St} {f : Rat}
    (h : loop row grow avail gap fuel line f = .ok res) :
    allFrozen res = true ∧ ∃ f', Reach row grow avail gap line f res f' := by
  fun_induction loop row grow avail gap fuel line f with
  | case1 fuel line f hall => cases h; exact ⟨hall, f, .refl _ _⟩
  | case2 => cases h
  | case3 => cases h
  | case4 line f hall fuel l f1 hp ih =>
    obtain ⟨ha, f', hr⟩ := ih h
    exact ⟨ha, f', .step (Bool.not_eq_true _ ▸ hall) hp hr⟩

theorem loop_all_frozen (row grow : Bool) (avail gap : Rat) (fuel : Nat) (line res : List St) (f : Rat)
    (h : loop row grow avail gap fuel line f = .ok res) : allFrozen res = true :=
  (loop_reach h).1

/-- 9.7 for one line that succeeds: 9.7.3, passes from unfrozen lines down to an all-frozen one, and 9.7.6 -/
theorem resolveLine_ok {row : Bool} {avail gap : Rat} {line res : List St}
    (h : resolveLine row avail gap line = .ok res) :
    ∃ grow l f f', Reach row grow avail gap (line.map (sizeInflexible grow)) f l f' ∧ allFrozen l = true ∧
      res = l.map fun s => if row then { s with width := some s.target } else { s with height := some s.target } := by
  unfold resolveLine at h
  simp only [] at h
  split at h
  · cases h
  · rename_i l hl; cases h
    obtain ⟨hall, f', hr⟩ := loop_reach hl
    exact ⟨_, l, _, f', hr, hall, rfl⟩

end Wp.C12
