/-
Paint-once for *every* kind of item — backgrounds, borders, text,
outlines, column backgrounds, replaced content — and exception-freedom, by one induction.

For every selector `Sel` (Lemmas/PaintSel.lean) and every well-formed dispatched structure (`okCtx`:
block / line / inline / atomic-inline / table grammar, painted root classes, `blocks` /
`blocks_and_cells` as built by the dispatcher) the display list of `draw_stacking_context` contains
exactly the number of items the boxes of the structure are due (`expN`), none below a singular
transform.
-/
import WpModel.Lemmas.PaintOnce

namespace Wp.Stacking
open Wp Wp.Gen

mutual
/-- Items due at the tree positions of a dispatched structure; `tc` = `border-collapse` of the
enclosing table (read by cells only). -/
def expN (s : Sel) (tc : Bool) : Node → Nat
  | .leaf a => s.nodeOwn tc a
  | .node a kids => s.nodeOwn tc a + expL s (if a.kind.drawTable then a.collapse else tc) kids
  | .ph _ => 0
  | .ctx (.leaf a) neg zero pos _ floats _ _ =>
    if a.matrix = .singular then 0
    else s.plainOwn a + (expL s false neg + (expL s false zero + (expL s false pos + expL s false floats)))
  | .ctx (.node a kids) neg zero pos _ floats _ _ =>
    if a.matrix = .singular then 0
    else s.plainOwn a + (expL s false kids +
      (expL s false neg + (expL s false zero + (expL s false pos + expL s false floats))))
  | .ctx (.ph _) .. => 0
  | .ctx (.ctx ..) .. => 0
def expL (s : Sel) (tc : Bool) : List Node → Nat
  | [] => 0
  | n :: ns => expN s tc n + expL s tc ns
end

/-- A box without painted background colour and without border (text boxes, line boxes). -/
def noDeco (a : Attrs) : Prop := (a.bg = none ∨ a.bg = some none) ∧ a.border = none

theorem Sel.deco_noDeco (s : Sel) (a : Attrs) (h : noDeco a) : s.deco a = 0 := by
  unfold Sel.deco
  rcases h with ⟨hb | hb, hbd⟩
  · simp [hb, s.bg_none, s.border_none a hbd]
  · simp [hb, s.bg_transparent, s.border_none a hbd]

mutual
/-- Inline-level content: text, inline replaced boxes, inline boxes and lines, atomic contexts. -/
def okInline : Node → Prop
  | .leaf a =>
    a.kind.dispBlockLevel = false ∧ a.kind.dispCell = false ∧ a.kind.drawTable = false ∧
    a.kind.dilInlineOrLine = false ∧ a.kind.dilTextChild = a.kind.dilText ∧
    ((a.kind.dilText = true ∧ noDeco a ∧ a.kind.drawReplaced = false ∧ a.kind.dilInlineReplaced = false) ∨
     (a.kind.dilText = false ∧ a.kind.dilInlineReplaced = true ∧ a.kind.drawReplaced = true))
  | .node a kids =>
    a.kind.dispBlockLevel = false ∧ a.kind.dispCell = false ∧ a.kind.drawTable = false ∧
    a.kind.dilInlineOrLine = true ∧ a.kind.dilTextChild = false ∧ a.kind.dilText = false ∧
    a.kind.drawReplaced = false ∧ okInlineL kids
  | .ph _ => False
  | .ctx box neg zero pos blocks floats bc z =>
    ctxAllowed box = true ∧ okCtx (.ctx box neg zero pos blocks floats bc z)
-- on a context `okInline` calls `okCtx` on the same node: the second component orders the two
termination_by n => (sizeOf n, 1)
decreasing_by
  · simp_wf; exact Prod.Lex.left _ _ (by simp +arith)
  · simp_wf; exact Prod.Lex.right _ Nat.zero_lt_one
def okInlineL : List Node → Prop
  | [] => True
  | n :: ns => okInline n ∧ okInlineL ns
termination_by n => (sizeOf n, 0)
decreasing_by all_goals (simp_wf; exact Prod.Lex.left _ _ (by simp +arith))
/-- Block-flow content: block-level boxes (tables included) whose children are blocks or lines. -/
def okFlow : Node → Prop
  | .leaf a =>
    a.kind.dispBlockLevel = true ∧ a.kind.dispCell = false ∧ a.kind.drawTable = false ∧
    a.kind.dilText = false
  | .node a kids =>
    a.kind.dispBlockLevel = true ∧ a.kind.dispCell = false ∧ a.kind.dilText = false ∧
    a.kind.drawReplaced = false ∧
    ((a.kind.drawTable = true ∧ lastIsLine kids = false ∧ okGroups kids) ∨
     (a.kind.drawTable = false ∧
       ((okFlowL kids ∧ lastIsLine kids = false) ∨ (lastIsLine kids = true ∧ okInlineL kids))))
  | .ph _ => False
  | .ctx .. => False
termination_by n => (sizeOf n, 0)
decreasing_by all_goals (simp_wf; exact Prod.Lex.left _ _ (by simp +arith))
def okFlowL : List Node → Prop
  | [] => True
  | n :: ns => okFlow n ∧ okFlowL ns
termination_by n => (sizeOf n, 0)
decreasing_by all_goals (simp_wf; exact Prod.Lex.left _ _ (by simp +arith))
/-- The row groups of a table. -/
def okGroups : List Node → Prop
  | [] => True
  | .node a rows :: gs =>
    (a.kind.dispBlockLevel = false ∧ a.kind.dispCell = false ∧ a.kind.drawTable = false ∧
     a.kind.dilText = false ∧ a.kind.drawReplaced = false ∧ a.border = none ∧ okRows rows) ∧ okGroups gs
  | .leaf _ :: _ => False
  | .ph _ :: _ => False
  | .ctx .. :: _ => False
termination_by n => (sizeOf n, 0)
decreasing_by all_goals (simp_wf; exact Prod.Lex.left _ _ (by simp +arith))
def okRows : List Node → Prop
  | [] => True
  | .node a cells :: rs =>
    (a.kind.dispBlockLevel = false ∧ a.kind.dispCell = false ∧ a.kind.drawTable = false ∧
     a.kind.dilText = false ∧ a.kind.drawReplaced = false ∧ a.border = none ∧ okCells cells) ∧ okRows rs
  | .leaf _ :: _ => False
  | .ph _ :: _ => False
  | .ctx .. :: _ => False
termination_by n => (sizeOf n, 0)
decreasing_by all_goals (simp_wf; exact Prod.Lex.left _ _ (by simp +arith))
def okCells : List Node → Prop
  | [] => True
  | .node a kids :: cs =>
    (a.kind.dispBlockLevel = false ∧ a.kind.dispCell = true ∧ a.kind.drawReplaced = false ∧
     ((okFlowL kids ∧ lastIsLine kids = false) ∨ (lastIsLine kids = true ∧ okInlineL kids))) ∧ okCells cs
  | .leaf _ :: _ => False
  | .ph _ :: _ => False
  | .ctx .. :: _ => False
termination_by n => (sizeOf n, 0)
decreasing_by all_goals (simp_wf; exact Prod.Lex.left _ _ (by simp +arith))
/-- A context: painted root class, lists as built by the dispatcher, well-formed tree and lists. -/
def okCtx : Node → Prop
  | .ctx (.leaf a) neg zero pos blocks floats bc _ =>
    a.kind.drawOwnDecoration = true ∧ a.kind.drawInline = false ∧ a.kind.dilText = false ∧
    blocks = [] ∧ bc = [] ∧ okCtxL neg ∧ okCtxL zero ∧ okCtxL pos ∧ okCtxL floats
  | .ctx (.node a kids) neg zero pos blocks floats bc _ =>
    rootPainted a ∧ a.kind.dilText = false ∧ a.kind.drawReplaced = false ∧
    blocks = (Node.regionL kids).filter Node.isBlockLevel ∧
    bc = (Node.regionL kids).filter Node.isBlockOrCell ∧
    okCtxL neg ∧ okCtxL zero ∧ okCtxL pos ∧ okCtxL floats ∧
    ((a.kind.drawInline = true ∧ lastIsLine kids = false ∧ okInlineL kids) ∨
     (a.kind.drawInline = false ∧
        ((okFlowL kids ∧ lastIsLine kids = false) ∨ (lastIsLine kids = true ∧ okInlineL kids))))
  | .ctx (.ph _) .. => False
  | .ctx (.ctx ..) .. => False
  | .leaf _ => False
  | .node _ _ => False
  | .ph _ => False
termination_by n => (sizeOf n, 0)
decreasing_by all_goals (simp_wf; exact Prod.Lex.left _ _ (by simp +arith))
def okCtxL : List Node → Prop
  | [] => True
  | n :: ns => okCtx n ∧ okCtxL ns
termination_by n => (sizeOf n, 0)
decreasing_by all_goals (simp_wf; exact Prod.Lex.left _ _ (by simp +arith))
end

theorem okGroups_cons (n : Node) (l : List Node) : okGroups (n :: l) ↔ okGroups [n] ∧ okGroups l := by
  cases n <;> simp [okGroups]
theorem okRows_cons (n : Node) (l : List Node) : okRows (n :: l) ↔ okRows [n] ∧ okRows l := by
  cases n <;> simp [okRows]
theorem okCells_cons (n : Node) (l : List Node) : okCells (n :: l) ↔ okCells [n] ∧ okCells l := by
  cases n <;> simp [okCells]

/-- What is proved about one level of a table (row groups, rows or cells; `ok` is its grammar):
`bgs` / `bds` are what `draw_table` paints for one entry of the level, `flow4L` is empty there, points 7
and 10 reach the contents of the cells.  Borders are painted per cell in the separated model only. -/
def TableLevel (s : Sel) (pov : Bool) (ok : List Node → Prop)
    (bgs : Attrs → Env → Node → List Item) (bds : Env → Node → List Item) (l : List Node) : Prop :=
  ok l → ∀ (t : Attrs) (e e' : Env),
    s.cnt (l.flatMap (bgs t e)) + (if t.collapse then 0 else s.cnt (l.flatMap (bds e))) +
      s.cnt (flow4L l e) + s.cnt (flow7L pov l e) + s.cnt (outlineList l e') = expL s t.collapse l

/-- What is proved about a list of nodes, according to the role the list plays. -/
structure CountL (s : Sel) (pov : Bool) (l : List Node) : Prop where
  inl : okInlineL l → ∀ (tc : Bool) (e e' : Env),
    s.cnt (inlKids pov l e) + s.cnt (outlineList l e') = expL s tc l ∧
    s.cnt (inlList pov l e) + s.cnt (outlineList l e') = expL s tc l ∧
    s.cnt (flow4L l e) = 0 ∧ s.cnt (flow7L pov l e) = 0
  flow : okFlowL l → ∀ (tc : Bool) (e e' : Env),
    s.cnt (flow4L l e) + s.cnt (flow7L pov l e) + s.cnt (outlineList l e') = expL s tc l
  grp : TableLevel s pov okGroups groupBackgrounds groupBorders l
  row : TableLevel s pov okRows rowBackgrounds rowBorders l
  cell : TableLevel s pov okCells cellBackground (fun e => cellBorder e) l
  ctx : okCtxL l → ∀ (tc : Bool) (e : Env), s.cnt (paintList pov l e) = expL s tc l

theorem ite_zero_add (c : Bool) (a b : Nat) :
    (if c then 0 else a + b) = (if c then 0 else a) + (if c then 0 else b) := by
  cases c <;> rfl

theorem TableLevel.nil (s : Sel) (pov : Bool) (ok : List Node → Prop)
    (bgs : Attrs → Env → Node → List Item) (bds : Env → Node → List Item) :
    TableLevel s pov ok bgs bds [] := by
  intro _ t e e'
  cases t.collapse <;> simp [flow4L, flow7L, expL, outlineList]

theorem TableLevel.cons {s : Sel} {pov : Bool} {ok : List Node → Prop}
    {bgs : Attrs → Env → Node → List Item} {bds : Env → Node → List Item} {n : Node} {l : List Node}
    (hok : ok (n :: l) → ok [n] ∧ ok l)
    (h1 : TableLevel s pov ok bgs bds [n]) (h2 : TableLevel s pov ok bgs bds l) :
    TableLevel s pov ok bgs bds (n :: l) := by
  intro h t e e'
  have a := h1 (hok h).1 t e e'
  have b := h2 (hok h).2 t e e'
  simp only [expL, Nat.add_zero, flow4L, flow7L, List.append_nil, List.flatMap_cons,
    List.flatMap_nil] at a
  rw [outlineList_cons]
  simp only [flow4L, flow7L, expL, Sel.cnt_append, List.flatMap_cons, ite_zero_add]
  omega

/-- The children of a block container (flow box, cell, context root). -/
theorem body_count (s : Sel) (pov : Bool) (a : Attrs) (kids : List Node) (ih : CountL s pov kids)
    (hr : a.kind.drawReplaced = false)
    (h : (okFlowL kids ∧ lastIsLine kids = false) ∨ (lastIsLine kids = true ∧ okInlineL kids))
    (tc : Bool) (e e' : Env) :
    s.cnt (flow4L kids e) + s.cnt (point7With a kids (inlList pov kids) e) +
      s.cnt (flow7L pov kids e) + s.cnt (outlineList kids e') = expL s tc kids := by
  rw [s.cnt_point7With a kids _ e hr]
  rcases h with ⟨hf, hl⟩ | ⟨hl, hi⟩
  · have := ih.flow hf tc e e'
    simp [hl]; omega
  · obtain ⟨_, h2, h3, h4⟩ := ih.inl hi tc e e'
    simp [hl, h3, h4]; omega

theorem outlineList_single_leaf (a : Attrs) (e : Env) : outlineList [.leaf a] e = ownOutline a e := by
  simp [outlineList]

theorem outlineList_single_node (a : Attrs) (kids : List Node) (e : Env) :
    outlineList [.node a kids] e = ownOutline a e ++ outlineList kids e := by
  simp [outlineList]

/-- A row group or a row: its own background, then the next level of the table.  Its border is not
painted (`draw_table` paints the borders of the table and of the cells), so the grammar asks for none. -/
theorem TableLevel.part {s : Sel} {pov : Bool} {ok ok' : List Node → Prop}
    {bgs bgs' : Attrs → Env → Node → List Item} {bds bds' : Env → Node → List Item}
    {a : Attrs} {kids : List Node}
    (hok : ok [.node a kids] →
      a.kind.dispBlockLevel = false ∧ a.kind.dispCell = false ∧ a.kind.drawTable = false ∧
      a.kind.dilText = false ∧ a.kind.drawReplaced = false ∧ a.border = none ∧ ok' kids)
    (hbg : ∀ t e, bgs t e (.node a kids) = drawBackground .bg a.id a.bg true e ++ kids.flatMap (bgs' t e))
    (hbd : ∀ e, bds e (.node a kids) = kids.flatMap (bds' e))
    (ih : TableLevel s pov ok' bgs' bds' kids) : TableLevel s pov ok bgs bds [.node a kids] := by
  intro h t e e'
  obtain ⟨hb, hc, ht, hx, hr, hbd', hk⟩ := hok h
  have := ih hk t e e'
  have hown := s.nodeOwn_plain t.collapse hc ht
  simp only [List.flatMap_cons, List.flatMap_nil, List.append_nil, hbg, hbd, Sel.cnt_append,
    Sel.cnt_drawBackground, expL, expN, Nat.add_zero, outlineList_single_node, Sel.cnt_ownOutline, flow4L,
    flow4, flow7L, flow7, hb, hc, Bool.or_self, Bool.false_eq_true, ↓reduceIte, List.nil_append, hown,
    ht, Sel.plainOwn, hx, hr, Sel.deco, s.border_none a hbd']
  omega

mutual
theorem count_node (s : Sel) (pov : Bool) : ∀ (n : Node), CountL s pov [n]
  | .leaf a => by
    refine ⟨?_, ?_, ?_, ?_, ?_, ?_⟩
    · intro h tc e e'
      simp only [okInlineL, okInline, and_true] at h
      obtain ⟨hb, hc, ht, hio, htc, hk⟩ := h
      have hown := s.nodeOwn_plain tc hc ht
      simp only [expL, expN, Nat.add_zero, hown, outlineList_single_leaf, Sel.cnt_ownOutline]
      rcases hk with ⟨hx, hnd, hr, hir⟩ | ⟨hx, hir, hr⟩
      · have htc' : a.kind.dilTextChild = true := by rw [htc]; exact hx
        refine ⟨?_, ?_, ?_, ?_⟩
        · simp [inlKids, htc', Sel.cnt_drawText, Sel.plainOwn, hx, hr, s.deco_noDeco a hnd]
        · simp [inlList, s.cnt_inlBoxWith, hio, hir, Sel.plainOwn, hx, hr,
            s.deco_noDeco a hnd]
        · simp [flow4L, flow4, hb]
        · simp [flow7L, flow7, hb, hc]
      · have htc' : a.kind.dilTextChild = false := by rw [htc]; exact hx
        refine ⟨?_, ?_, ?_, ?_⟩
        · simp [inlKids, htc', s.cnt_inlBoxWith, hio, hir, Sel.plainOwn, hx, hr]
        · simp [inlList, s.cnt_inlBoxWith, hio, hir, Sel.plainOwn, hx, hr]
        · simp [flow4L, flow4, hb]
        · simp [flow7L, flow7, hb, hc]
    · intro h tc e e'
      simp only [okFlowL, okFlow, and_true] at h
      obtain ⟨hb, hc, ht, hx⟩ := h
      have hown := s.nodeOwn_plain tc hc ht
      simp [expL, expN, hown, outlineList_single_leaf, Sel.cnt_ownOutline, flow4L, flow4, flow7L, flow7,
        hb, ht, drawBlock, Sel.cnt_decoration, Sel.cnt_point7With_leaf, Sel.plainOwn, hx]
    · intro h; simp [okGroups] at h
    · intro h; simp [okRows] at h
    · intro h; simp [okCells] at h
    · intro h; simp [okCtxL, okCtx] at h
  | .node a kids => by
    have ih := count_list s pov kids
    refine ⟨?_, ?_, ?_, ?_, ?_, ?_⟩
    · intro h tc e e'
      simp only [okInlineL, okInline, and_true] at h
      obtain ⟨hb, hc, ht, hio, htc, hx, hr, hk⟩ := h
      obtain ⟨h1, h2, h3, h4⟩ := ih.inl hk tc e e'
      have hown := s.nodeOwn_plain tc hc ht
      simp only [expL, expN, Nat.add_zero, hown, ht, Bool.false_eq_true, ↓reduceIte,
        outlineList_single_node, Sel.cnt_append, Sel.cnt_ownOutline]
      refine ⟨?_, ?_, ?_, ?_⟩
      · simp [inlKids, htc, s.cnt_inlBoxWith, hio, Sel.plainOwn, hx, hr]; omega
      · simp [inlList, s.cnt_inlBoxWith, hio, Sel.plainOwn, hx, hr]; omega
      · simp [flow4L, flow4, hb, h3]
      · simp [flow7L, flow7, hb, hc, h4]
    · intro h tc e e'
      simp only [okFlowL, okFlow, and_true] at h
      obtain ⟨hb, hc, hx, hr, hk⟩ := h
      simp only [expL, expN, Nat.add_zero, outlineList_single_node, Sel.cnt_append, Sel.cnt_ownOutline,
        flow4L, flow4, flow7L, flow7, hb, Bool.true_or, ↓reduceIte, List.append_nil]
      rcases hk with ⟨ht, hl, hg⟩ | ⟨ht, hbody⟩
      · -- a table: `draw_table` and the contents of its cells
        have := ih.grp hg a e e'
        have hown : s.nodeOwn tc a = s.tableOwn a := by simp [Sel.nodeOwn, hc, ht]
        rw [s.cnt_point7With a kids _ e hr]
        simp only [hown, ht, ↓reduceIte, drawBlock, Sel.cnt_drawTable, Sel.tableOwn, hl,
          Bool.false_eq_true]
        by_cases hcol : a.collapse = true
        · simp only [hcol, ↓reduceIte] at this ⊢; omega
        · simp only [hcol, Bool.false_eq_true, ↓reduceIte] at this ⊢; omega
      · have := body_count s pov a kids ih hr hbody tc e e'
        have hown := s.nodeOwn_plain tc hc ht
        simp only [hown, ht, Bool.false_eq_true, ↓reduceIte, drawBlock, Sel.cnt_decoration,
          Sel.plainOwn, hx, hr]
        omega
    · exact TableLevel.part (fun h => by rw [okGroups, okGroups] at h; exact h.1)
        (fun _ _ => rfl) (fun _ => rfl) ih.row
    · exact TableLevel.part (fun h => by rw [okRows, okRows] at h; exact h.1)
        (fun _ _ => rfl) (fun _ => rfl) ih.cell
    · intro h t e e'
      simp only [okCells, and_true] at h
      obtain ⟨hb, hc, hr, hbody⟩ := h
      have := body_count s pov a kids ih hr hbody t.collapse e e'
      have hown : s.nodeOwn t.collapse a = s.cellOwn t.collapse a := by simp [Sel.nodeOwn, hc]
      have hexp : expL s (if a.kind.drawTable = true then a.collapse else t.collapse) kids =
          expL s t.collapse kids := by
        -- the children of a cell are blocks or lines, never cells: the flag is not read
        have h1 := body_count s pov a kids ih hr hbody
          (if a.kind.drawTable = true then a.collapse else t.collapse) e e'
        omega
      simp only [List.flatMap_cons, List.flatMap_nil, List.append_nil, cellBackground, cellBorder,
        Node.attrs?, Sel.cnt_append, expL, expN, Nat.add_zero, hexp,
        outlineList_single_node, Sel.cnt_ownOutline, flow4L, flow4, flow7L, flow7, hb, hc,
        Bool.or_true, Bool.false_eq_true, ↓reduceIte, List.nil_append, hown, Sel.cellOwn]
      by_cases hcol : t.collapse = true
      · simp only [hcol, ↓reduceIte, Bool.true_or, Sel.cnt_drawBackground] at this ⊢; omega
      · by_cases hshow : (a.emptyCellsShow || !a.cellEmpty) = true
        · simp only [hcol, Bool.false_eq_true, ↓reduceIte, Bool.false_or, hshow,
            Sel.cnt_drawBackground, Sel.cnt_drawBorder] at this ⊢
          omega
        · simp only [hcol, Bool.false_eq_true, ↓reduceIte, Bool.false_or, hshow, Sel.cnt_nil] at this ⊢
          omega
    · intro h; simp [okCtxL, okCtx] at h
  | .ph _ => by
    refine ⟨?_, ?_, ?_, ?_, ?_, ?_⟩
    · intro h; simp [okInlineL, okInline] at h
    · intro h; simp [okFlowL, okFlow] at h
    · intro h; simp [okGroups] at h
    · intro h; simp [okRows] at h
    · intro h; simp [okCells] at h
    · intro h; simp [okCtxL, okCtx] at h
  | .ctx box neg zero pos blocks floats bc z => by
    have hctx : okCtx (.ctx box neg zero pos blocks floats bc z) → ∀ (tc : Bool) (e : Env),
        s.cnt (paint pov (.ctx box neg zero pos blocks floats bc z) e) =
          expN s tc (.ctx box neg zero pos blocks floats bc z) := by
      have hneg := count_list s pov neg
      have hzero := count_list s pov zero
      have hpos := count_list s pov pos
      have hfl := count_list s pov floats
      match box with
      | .leaf a =>
        intro h tc e
        simp only [okCtx] at h
        obtain ⟨h2, h6, hx, hbl, hbc, wn, wz, wp, wf⟩ := h
        subst hbl; subst hbc
        rw [paint, s.cnt_paintBodyWith _ _ _ _ _ _ _ _ _ _ _ (by simp [h6]), expN]
        by_cases hs : a.matrix = .singular
        · simp [hs]
        · simp only [hs, ↓reduceIte, List.flatMap_nil, Sel.cnt_nil, Sel.cnt_append,
            Sel.cnt_point7With_leaf, point7List, hneg.ctx wn false, hzero.ctx wz false,
            hpos.ctx wp false, hfl.ctx wf false, h2, h6, Bool.false_eq_true, Sel.plainOwn, hx]
          omega
      | .node a kids =>
        have ih := count_list s pov kids
        intro h tc e
        simp only [okCtx] at h
        obtain ⟨hroot, hx, hr, hbl, hbc, wn, wz, wp, wf, hbody⟩ := h
        subst hbl; subst hbc
        rw [paint, s.cnt_paintBodyWith _ _ _ _ _ _ _ _ _ _ _ (fun h6 => (hroot.of_inline h6).2), expN]
        generalize innerEnv a pov e = ei
        generalize ctxEnv a pov e = ec
        by_cases hs : a.matrix = .singular
        · simp [hs]
        · simp only [hs, ↓reduceIte, Sel.cnt_append, flow4L_region, flow7L_region, hneg.ctx wn false,
            hzero.ctx wz false, hpos.ctx wp false, hfl.ctx wf false, Sel.plainOwn, hx, hr,
            Bool.false_eq_true]
          rcases hbody with ⟨h6, hl, hk⟩ | ⟨h6, hk⟩
          · have h2 := (hroot.of_inline h6).1
            obtain ⟨h1, _, h3, h4⟩ := ih.inl hk false ei ec
            rw [s.cnt_point7With a kids _ _ hr]
            simp only [h2, h6, hl, Bool.false_eq_true, ↓reduceIte, h3, h4]
            omega
          · have h2 := hroot.of_not_inline h6
            have := body_count s pov a kids ih hr hk false ei ec
            simp only [h2, h6, Bool.false_eq_true, ↓reduceIte]
            omega
      | .ph _ => intro h; simp [okCtx] at h
      | .ctx .. => intro h; simp [okCtx] at h
    refine ⟨?_, ?_, ?_, ?_, ?_, ?_⟩
    · intro h tc e e'
      simp only [okInlineL, okInline, and_true] at h
      obtain ⟨ha, hw⟩ := h
      have := hctx hw tc e
      refine ⟨?_, ?_, ?_, ?_⟩
      · simp [inlKids, ha, expL, this, outlineList]
      · simp [inlList, ha, expL, this, outlineList]
      · simp [flow4L, flow4]
      · simp [flow7L, flow7]
    · intro h; simp [okFlowL, okFlow] at h
    · intro h; simp [okGroups] at h
    · intro h; simp [okRows] at h
    · intro h; simp [okCells] at h
    · intro h tc e
      simp only [okCtxL, and_true] at h
      simp [paintList, expL, hctx h tc e]
theorem count_list (s : Sel) (pov : Bool) : ∀ (l : List Node), CountL s pov l
  | [] => ⟨fun _ _ _ _ => by simp [inlKids, inlList, flow4L, flow7L, expL, outlineList],
           fun _ _ _ _ => by simp [flow4L, flow7L, expL, outlineList],
           TableLevel.nil _ _ _ _ _, TableLevel.nil _ _ _ _ _, TableLevel.nil _ _ _ _ _,
           fun _ _ _ => by simp [paintList, expL]⟩
  | n :: l => by
    have h1 := count_node s pov n
    have h2 := count_list s pov l
    refine ⟨?_, ?_, ?_, ?_, ?_, ?_⟩
    · intro h tc e e'
      simp only [okInlineL] at h
      obtain ⟨a1, a2, a3, a4⟩ := h1.inl (by simp [okInlineL, h.1]) tc e e'
      obtain ⟨b1, b2, b3, b4⟩ := h2.inl h.2 tc e e'
      simp only [expL, Nat.add_zero, flow4L, flow7L, List.append_nil] at a1 a2 a3 a4
      refine ⟨?_, ?_, ?_, ?_⟩
      · rw [inlKids_cons, outlineList_cons]; simp only [expL, Sel.cnt_append]; omega
      · rw [inlList_cons, outlineList_cons]; simp only [expL, Sel.cnt_append]; omega
      · simp [flow4L, a3, b3]
      · simp [flow7L, a4, b4]
    · intro h tc e e'
      simp only [okFlowL] at h
      have a := h1.flow (by simp [okFlowL, h.1]) tc e e'
      have b := h2.flow h.2 tc e e'
      simp only [expL, Nat.add_zero, flow4L, flow7L, List.append_nil] at a
      rw [outlineList_cons]
      simp only [flow4L, flow7L, expL, Sel.cnt_append]
      omega
    · exact TableLevel.cons (okGroups_cons n l).mp h1.grp h2.grp
    · exact TableLevel.cons (okRows_cons n l).mp h1.row h2.row
    · exact TableLevel.cons (okCells_cons n l).mp h1.cell h2.cell
    · intro h tc e
      simp only [okCtxL] at h
      have a := h1.ctx (by simp [okCtxL, h.1]) tc e
      have b := h2.ctx h.2 tc e
      simp only [expL, Nat.add_zero, paintList, List.append_nil] at a
      simp only [paintList, expL, Sel.cnt_append]
      omega
end

end Wp.Stacking
