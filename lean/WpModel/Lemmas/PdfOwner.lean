/-
Sub-resource dictionaries are never shared between group / pattern streams (what makes the assertion of
`_reference_resources` unreachable through sharing).  Core Lean only.
-/
import WpModel.Lemmas.PdfWorld
namespace Wp.Pdf

/-- Sub-resource dictionaries are never shared: two different group / pattern streams (the ones with an `id`) write
to different dictionaries, and never to the page dictionary 0. -/
structure Owner (w : World) : Prop where
  inj : ∀ (h h' : Nat) (s s' : SState), w.streams[h]? = some s → w.streams[h']? = some s' →
    s.id.isSome = true → s'.id.isSome = true → s.res = s'.res → h = h'
  nonzero : ∀ (h : Nat) (s : SState), w.streams[h]? = some s → s.id.isSome = true → 0 < s.res

theorem owner_init (mark : Bool) (n : Nat) : Owner (World.init mark n) := by
  constructor
  · intro h h' s s' hs _ hid
    obtain ⟨_, rfl⟩ := init_stream.mp hs
    cases hid
  · intro h s hs hid
    obtain ⟨_, rfl⟩ := init_stream.mp hs
    cases hid

theorem Owner.set {w : World} (ho : Owner w) (h : Nat) (s s' : SState) (res' : List Res) (imgs : List (String × List Rat))
    (hs : w.streams[h]? = some s) (hres : s'.res = s.res) (hid : s'.id = s.id) :
    Owner { w with streams := w.streams.set h s', res := res', images := imgs } := by
  have hhlt : h < w.streams.length := (List.getElem?_eq_some_iff.mp hs).1
  have key : ∀ (i : Nat) (t : SState), (w.streams.set h s')[i]? = some t →
      ∃ t0, w.streams[i]? = some t0 ∧ t.res = t0.res ∧ t.id = t0.id := by
    intro i t ht
    rw [List.getElem?_set] at ht
    split at ht
    · rename_i e
      simp at ht; subst ht; subst e
      exact ⟨s, hs, hres, hid⟩
    · exact ⟨t, ht, rfl, rfl⟩
  constructor
  · intro a b ta tb ha hb ia ib hr
    obtain ⟨ta0, ha0, ra, da⟩ := key a ta ha
    obtain ⟨tb0, hb0, rb, db⟩ := key b tb hb
    exact ho.inj a b ta0 tb0 ha0 hb0 (da ▸ ia) (db ▸ ib) (by rw [← ra, ← rb]; exact hr)
  · intro a ta ha ia
    obtain ⟨ta0, ha0, ra, da⟩ := key a ta ha
    rw [ra]; exact ho.nonzero a ta0 ha0 (da ▸ ia)

/-- Appending a stream that owns the new dictionary `w.res.length`, or a stream without an id. -/
theorem Owner.append {w : World} (ho : Owner w) (hw : WorldOK w) (g : SState) (res' : List Res)
    (hg : g.id.isSome = true → g.res = w.res.length) :
    Owner { w with streams := w.streams ++ [g], res := res' } := by
  constructor
  · intro a b ta tb ha hb ia ib hr
    rcases List.getElem?_concat_eq_some ha with ha0 | ⟨ea, rfl⟩ <;>
      rcases List.getElem?_concat_eq_some hb with hb0 | ⟨eb, rfl⟩
    · exact ho.inj a b ta tb ha0 hb0 ia ib hr
    · have := hw.resIdx a ta ha0
      rw [hr, hg ib] at this; omega
    · have := hw.resIdx b tb hb0
      rw [← hr, hg ia] at this; omega
    · omega
  · intro a ta ha ia
    rcases List.getElem?_concat_eq_some ha with ha0 | ⟨_, rfl⟩
    · exact ho.nonzero a ta ha0 ia
    · rw [hg ia]; exact hw.resNonempty

theorem Prim.owner {w w' : World} (hp : Prim w w') (ho : Owner w) (hw : WorldOK w) : Owner w' := by
  cases hp with
  | call hs hr ok hres hid => exact ho.set _ _ _ _ _ hs hres hid
  | reg hr hle hwf imgs => exact ⟨ho.inj, ho.nonzero⟩
  | own g hres hempty => exact ho.append hw g _ (fun _ => hres)
  | share g hres hid hempty =>
    have := ho.append hw g w.res (by intro hh; rw [hid] at hh; cases hh)
    simpa using this
  | stream hs hres hid hgood =>
    have := ho.set _ _ _ w.res w.images hs hres hid
    simpa using this

theorem World.run_owner (cs : List WCall) (w w' : World) (ho : Owner w) (hw : WorldOK w) (hs : ScopedRun w cs)
    (hrun : w.run cs = .ok w') : Owner w' :=
  (World.run_induct (P := fun w => Owner w ∧ WorldOK w)
    (fun _ _ _ h hc h1 => (World.step_prims hc h1).induct (P := fun w => Owner w ∧ WorldOK w)
      (fun _ _ hp h => ⟨hp.owner h.1 h.2, hp.ok h.2⟩) h)
    cs w w' ⟨ho, hw⟩ hs hrun).1

end Wp.Pdf
