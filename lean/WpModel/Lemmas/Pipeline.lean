/-
Trees whose text lives in text boxes that are leaves (`Tidy`), and the text of such a tree through `flex_boxes` /
`grid_boxes` and `inline_in_block` (Model/AnonBoxes.lean).
-/
import WpModel.Lemmas.Boxes

namespace Wp.Bx
open KBox

mutual
/-- Text lives in text boxes, and text boxes are leaves: true of every tree `element_to_box` builds. -/
def Tidy : KBox → Prop
  | .mk k _ _ _ text kids _ =>
    (Gen.isSub k .TextBox = true → kids = []) ∧ (Gen.isSub k .TextBox = false → text = []) ∧ TidyL kids
def TidyL : List KBox → Prop
  | [] => True
  | c :: cs => Tidy c ∧ TidyL cs
end

theorem tidyL_iff (l : List KBox) : TidyL l ↔ ∀ c ∈ l, Tidy c :=
  List.listLift_iff trivial (fun _ _ => Iff.rfl) l

theorem tidyL_append (a b : List KBox) : TidyL (a ++ b) ↔ TidyL a ∧ TidyL b := by
  simp only [tidyL_iff, List.forall_mem_append]

theorem tidy_of_mem {l : List KBox} (h : TidyL l) {c : KBox} (hc : c ∈ l) : Tidy c := (tidyL_iff l).1 h c hc

theorem tidyL_sub {l l' : List KBox} (h : TidyL l) (hs : ∀ c ∈ l', c ∈ l) : TidyL l' :=
  (tidyL_iff l').2 (fun c hc => tidy_of_mem h (hs c hc))

theorem tidy_parts {b : KBox} (h : Tidy b) :
    (b.isA .TextBox = true → b.kids = []) ∧ (b.isA .TextBox = false → b.text = []) ∧ TidyL b.kids := by
  obtain ⟨k, st, el, inst, text, kids, cols⟩ := b
  unfold Tidy at h; exact h

theorem tidy_textLeaf {b : KBox} (h : Tidy b) : TextLeaf b := (tidy_parts h).1

theorem tidy_mk {b : KBox} (h1 : b.isA .TextBox = true → b.kids = []) (h2 : b.isA .TextBox = false → b.text = [])
    (h3 : TidyL b.kids) : Tidy b := by
  obtain ⟨k, st, el, inst, text, kids, cols⟩ := b
  unfold Tidy; exact ⟨h1, h2, h3⟩

theorem tidy_of (b : KBox) (h1 : b.isA .TextBox = false) (h2 : b.text = []) (h3 : TidyL b.kids) : Tidy b :=
  tidy_mk (fun h => by rw [h1] at h; cases h) (fun _ => h2) h3

theorem tidy_of_withKids (box : KBox) (ks : List KBox) (htext : box.text = []) (hnt : box.isA .TextBox = false)
    (h : TidyL ks) : Tidy (box.withKids ks) := by
  obtain ⟨k, st, el, inst, text, kids, cols⟩ := box
  exact tidy_of _ hnt htext h

theorem tidy_withInst (b : KBox) (i : Inst) : Tidy (b.withInst i) ↔ Tidy b := by
  obtain ⟨k, st, el, inst, text, kids, cols⟩ := b
  simp [KBox.withInst, Tidy]

theorem tidy_withStyle (b : KBox) (s : Style) : Tidy (b.withStyle s) ↔ Tidy b := by
  obtain ⟨k, st, el, inst, text, kids, cols⟩ := b
  simp [KBox.withStyle, Tidy]

theorem tidy_withCols (b : KBox) (c : List KBox) : Tidy (b.withCols c) ↔ Tidy b := by
  obtain ⟨k, st, el, inst, text, kids, cols⟩ := b
  simp [KBox.withCols, Tidy]

theorem tidy_withKids' (b : KBox) (ks : List KBox) (hb : Tidy b) (h : TidyL b.kids → TidyL ks)
    (hk : ks = [] ∨ b.isA .TextBox = false) : Tidy (b.withKids ks) := by
  have hp := tidy_parts hb
  obtain ⟨k, st, el, inst, text, kids, cols⟩ := b
  simp only [KBox.isA, KBox.kind, KBox.kids, KBox.text] at hp hk h
  unfold KBox.withKids Tidy
  refine ⟨?_, hp.2.1, h hp.2.2⟩
  intro ht
  rcases hk with hk | hk
  · exact hk
  · rw [hk] at ht; cases ht

theorem tidy_withKids (b : KBox) (ks : List KBox) (hb : Tidy b) (hk : b.isA .TextBox = false) (h : TidyL ks) :
    Tidy (b.withKids ks) :=
  tidy_withKids' b ks hb (fun _ => h) (Or.inr hk)

theorem tidy_anon (cls : BoxKind) (p : KBox) (ks : List KBox) (hc : Gen.isSub cls .TextBox = false) (h : TidyL ks) :
    Tidy (anonFrom cls p ks) := by
  unfold anonFrom Tidy
  exact ⟨(fun h' => by rw [hc] at h'; cases h'), fun _ => rfl, h⟩

theorem leafText_withInst (b : KBox) (i : Inst) : leafText (b.withInst i) = leafText b := by
  obtain ⟨k, st, el, inst, text, kids, cols⟩ := b
  simp [KBox.withInst, leafText]

theorem leafText_withStyle (b : KBox) (s : Style) : leafText (b.withStyle s) = leafText b := by
  obtain ⟨k, st, el, inst, text, kids, cols⟩ := b
  simp [KBox.withStyle, leafText]

theorem leafText_withCols (b : KBox) (c : List KBox) : leafText (b.withCols c) = leafText b := by
  obtain ⟨k, st, el, inst, text, kids, cols⟩ := b
  simp [KBox.withCols, leafText]

theorem isA_withInst (b : KBox) (i : Inst) (c : BoxClass) : (b.withInst i).isA c = b.isA c := by
  obtain ⟨k, st, el, inst, text, kids, cols⟩ := b; rfl

theorem text_withInst (b : KBox) (i : Inst) : (b.withInst i).text = b.text := by
  obtain ⟨k, st, el, inst, text, kids, cols⟩ := b; rfl

theorem kids_withInst (b : KBox) (i : Inst) : (b.withInst i).kids = b.kids := by
  obtain ⟨k, st, el, inst, text, kids, cols⟩ := b; rfl

theorem st_withInst (b : KBox) (i : Inst) : (b.withInst i).st = b.st := by
  obtain ⟨k, st, el, inst, text, kids, cols⟩ := b; rfl

theorem noSp_plainSpaces (t : Text) (h : allPlainSpaces t = true) : noSp t = [] := by
  unfold allPlainSpaces at h
  unfold noSp
  rw [List.filter_eq_nil_iff]
  intro c hc
  have := List.all_eq_true.mp h c hc
  simp only [Ch.sp, beq_iff_eq] at this
  simp [this]

theorem isSub_ib_not_text : ∀ k, Gen.isSub k .InlineBlockBox = true → Gen.isSub k .TextBox = false := by
  decide

theorem parent_not_text : ∀ k, Gen.isSub k .ParentBox = true → Gen.isSub k .TextBox = false := by
  decide

theorem inst_withInst (b : KBox) (i : Inst) : (b.withInst i).inst = i := by
  obtain ⟨k, st, el, inst, text, kids, cols⟩ := b; rfl

theorem withInst_inst (b : KBox) : b.withInst b.inst = b := by
  obtain ⟨k, st, el, inst, text, kids, cols⟩ := b; rfl

theorem withInst_withInst (b : KBox) (i j : Inst) : (b.withInst i).withInst j = b.withInst j := by
  obtain ⟨k, st, el, inst, text, kids, cols⟩ := b; rfl

/-- `child.is_flex_item = True` / `child.is_grid_item = True`. -/
def itemMark (grid : Bool) (b : KBox) : KBox :=
  if grid then b.withInst { b.inst with gridItem := true } else b.withInst { b.inst with flexItem := true }

/-- The head of the loop body of `flex_children` / `grid_children`: the child after its attribute updates. -/
def itemHead (grid : Bool) (c : KBox) : KBox :=
  let c := if grid then c else c.withInst { c.inst with noFloat := true }
  if c.inFlow then itemMark grid c else c

/-- The rest of the loop body: what the updated child adds to the new children. -/
def itemOf (grid : Bool) (c : KBox) : List KBox :=
  if c.isA .TextBox && allPlainSpaces c.text then []
  else if c.isA .InlineBlockBox then
    let a := (anonFrom .BlockBox c c.kids).withStyle c.st
    [itemMark grid (a.withInst { a.inst with wrapper := c.inst.wrapper })]
  else if c.isA .InlineLevelBox then
    let inner := if grid then c.withInst { c.inst with gridItem := false } else c
    [itemMark grid ((anonFrom .BlockBox c [inner]).withStyle c.st)]
  else [c]

theorem itemChildren_cons (grid : Bool) (c : KBox) (cs : List KBox) :
    itemChildren grid (c :: cs) = itemOf grid (itemHead grid c) ++ itemChildren grid cs := by
  rw [itemChildren, itemOf]
  -- both sides branch on the same three tests of `itemHead grid c`
  by_cases h1 : ((itemHead grid c).isA .TextBox && allPlainSpaces (itemHead grid c).text) = true
  · rw [if_pos h1]
    exact if_pos h1
  · rw [if_neg h1]
    refine (if_neg h1).trans ?_
    by_cases h2 : (itemHead grid c).isA .InlineBlockBox = true
    · rw [if_pos h2]
      exact if_pos h2
    · rw [if_neg h2]
      refine (if_neg h2).trans ?_
      by_cases h3 : (itemHead grid c).isA .InlineLevelBox = true
      · rw [if_pos h3]
        exact if_pos h3
      · rw [if_neg h3]
        exact if_neg h3

theorem itemMark_eq (grid : Bool) (b : KBox) :
    ∃ i, itemMark grid b = b.withInst i ∧ i.wrapper = b.inst.wrapper := by
  unfold itemMark
  split
  · exact ⟨_, rfl, rfl⟩
  · exact ⟨_, rfl, rfl⟩

theorem itemHead_eq (grid : Bool) (c : KBox) :
    ∃ i, itemHead grid c = c.withInst i ∧ i.wrapper = c.inst.wrapper := by
  have h1 : ∃ i, (if grid = true then c else c.withInst { c.inst with noFloat := true }) = c.withInst i ∧
      i.wrapper = c.inst.wrapper := by
    split
    · exact ⟨c.inst, (withInst_inst c).symm, rfl⟩
    · exact ⟨_, rfl, rfl⟩
  obtain ⟨i, e, hi⟩ := h1
  unfold itemHead
  simp only [e]
  split
  · obtain ⟨j, ej, hj⟩ := itemMark_eq grid (c.withInst i)
    exact ⟨j, by rw [ej, withInst_withInst], by rw [hj, inst_withInst, hi]⟩
  · exact ⟨i, rfl, hi⟩

theorem itemMark_text (grid : Bool) (b : KBox) :
    leafText (itemMark grid b) = leafText b ∧ (Tidy (itemMark grid b) ↔ Tidy b) := by
  obtain ⟨i, e, _⟩ := itemMark_eq grid b
  rw [e]
  exact ⟨leafText_withInst b i, tidy_withInst b i⟩

/-- The loop body drops only text made of U+0020 and wraps the rest. -/
theorem itemOf_text (grid : Bool) (c : KBox) (h : Tidy c) :
    noSp (leafTextL (itemOf grid c)) = noSp (leafText c) ∧ TidyL (itemOf grid c) := by
  have hp := tidy_parts h
  unfold itemOf
  split
  · rename_i hdrop
    simp only [Bool.and_eq_true] at hdrop
    rw [leafText_of_text c hp.1 hdrop.1, noSp_plainSpaces _ hdrop.2]
    exact ⟨rfl, trivial⟩
  · split
    · rename_i hib
      have htext : c.text = [] := hp.2.1 (isSub_ib_not_text _ hib)
      refine ⟨?_, ?_, trivial⟩
      · simp only [leafTextL, (itemMark_text grid _).1, leafText_withInst, leafText_withStyle, leafText_anon,
          List.append_nil]
        rw [leafText_eq c, htext]
        rfl
      · rw [(itemMark_text grid _).2, tidy_withInst, tidy_withStyle]
        exact tidy_anon _ _ _ rfl hp.2.2
    · split
      · refine ⟨?_, ?_, trivial⟩
        · simp only [leafTextL, (itemMark_text grid _).1, leafText_withStyle, leafText_anon, List.append_nil]
          split
          · rw [leafText_withInst]
          · rfl
        · rw [(itemMark_text grid _).2, tidy_withStyle]
          refine tidy_anon _ _ _ rfl ⟨?_, trivial⟩
          split
          · rw [tidy_withInst]
            exact h
          · exact h
      · exact ⟨by simp only [leafTextL, List.append_nil], h, trivial⟩

/-- `flex_children` / `grid_children` drop only text made of U+0020 and wrap the rest. -/
theorem itemChildren_text (grid : Bool) (l : List KBox) (h : TidyL l) :
    noSp (leafTextL (itemChildren grid l)) = noSp (leafTextL l) ∧ TidyL (itemChildren grid l) := by
  induction l with
  | nil => exact ⟨rfl, trivial⟩
  | cons c cs ih =>
    unfold TidyL at h
    obtain ⟨ih1, ih2⟩ := ih h.2
    obtain ⟨i, e, _⟩ := itemHead_eq grid c
    obtain ⟨t1, t2⟩ := itemOf_text grid (itemHead grid c) (by rw [e, tidy_withInst]; exact h.1)
    rw [e, leafText_withInst, ← e] at t1
    rw [itemChildren_cons, leafTextL_append, noSp_append, t1, ih1, tidyL_append]
    exact ⟨by simp only [leafTextL, noSp_append], t2, ih2⟩

mutual
/-- `flex_boxes` / `grid_boxes` keep the text of the tree up to U+0020 characters, and its tidiness. -/
theorem fgb_text : ∀ (grid : Bool) (b : KBox), Tidy b →
    noSp (leafText (fgb grid b)) = noSp (leafText b) ∧ Tidy (fgb grid b)
  | grid, .mk k st el inst text kids cols, h => by
    have hp := tidy_parts h
    unfold fgb
    split
    · exact ⟨rfl, h⟩
    · rename_i hcond
      obtain ⟨k1, k2⟩ := fgbKids_text grid kids hp.2.2
      have hnt : Gen.isSub k .TextBox = false := by
        simp only [Bool.or_eq_true, not_or, Bool.not_eq_true', Bool.not_eq_false] at hcond
        exact parent_not_text k hcond.1
      simp only
      generalize hkk : (if (if grid = true then Gen.isSub k .GridContainerBox else Gen.isSub k .FlexContainerBox) = true
        then itemChildren grid (fgbKids grid kids) else fgbKids grid kids) = kk
      have hk : noSp (leafTextL kk) = noSp (leafTextL kids) ∧ TidyL kk := by
        rw [← hkk]
        by_cases hcont : (if grid = true then Gen.isSub k .GridContainerBox else Gen.isSub k .FlexContainerBox) = true
        · rw [if_pos hcont]
          obtain ⟨i1, i2⟩ := itemChildren_text grid (fgbKids grid kids) k2
          exact ⟨by rw [i1, k1], i2⟩
        · rw [if_neg hcont]
          exact ⟨k1, k2⟩
      refine ⟨by simp only [leafText, noSp_append, hk.1], ?_⟩
      exact tidy_of _ hnt (hp.2.1 hnt) hk.2
theorem fgbKids_text : ∀ (grid : Bool) (l : List KBox), TidyL l →
    noSp (leafTextL (fgbKids grid l)) = noSp (leafTextL l) ∧ TidyL (fgbKids grid l)
  | _, [], _ => by simp [fgbKids, TidyL]
  | grid, c :: cs, h => by
    unfold TidyL at h
    obtain ⟨a1, a2⟩ := fgb_text grid c h.1
    obtain ⟨b1, b2⟩ := fgbKids_text grid cs h.2
    unfold fgbKids
    exact ⟨by simp only [leafTextL, noSp_append, a1, b1], a2, b2⟩
end

theorem groupLines_tidy (parent : KBox) (kids out : List KBox) (hkids : ∀ c ∈ kids, Tidy c)
    (h : groupLines parent kids [] [] = .ok out) :
    ∀ c ∈ out, Tidy c := by
  have hanon : ∀ l : List KBox, (∀ c ∈ l, Tidy c) →
      Tidy (anonFrom .BlockBox parent [anonFrom .LineBox parent l]) :=
    fun l hl => tidy_anon _ _ _ rfl ⟨tidy_anon _ _ _ rfl ((tidyL_iff _).2 hl), trivial⟩
  rcases groupLines_cases parent Tidy Tidy hanon kids [] [] out
    (fun c hc => ⟨fun _ => hkids c hc, fun _ => hkids c hc⟩) nofun nofun h with ⟨l, hl, rfl⟩ | hall
  · intro c hc
    rw [List.mem_singleton.mp hc]
    exact tidy_anon _ _ _ rfl ((tidyL_iff _).2 hl)
  · exact hall

theorem tidy_step (b : KBox) (h : Tidy b) : TextLeaf b ∧ ∀ c ∈ b.kids, Tidy c :=
  ⟨tidy_textLeaf h, (tidyL_iff _).1 (tidy_parts h).2.2⟩

mutual
/-- `inline_in_block` keeps the text up to U+0020 characters and the tidiness, for any tidy tree. -/
theorem iib_tidy : ∀ (b : KBox) (f : Bool) (b' : KBox), Tidy b → iib f b = .ok b' →
    noSp (leafText b') = noSp (leafText b) ∧ Tidy b'
  | .mk k st el inst text kids cols, f, b', hg, h => by
    refine ⟨iib_text_of tidy_step _ f b' hg h, ?_⟩
    have hp := tidy_parts hg
    rcases iib_cases h with ⟨_, rfl⟩ | ⟨hcond, children, trailing, hkids, hb'⟩
    · exact hg
    · have hnt : Gen.isSub k .TextBox = false := by
        cases hx : Gen.isSub k .TextBox
        · rfl
        · rw [show kids = [] from hp.1 hx] at hcond
          cases hcond
      have hktidy := (iibKids_tidy kids false children trailing hp.2.2 hkids).2
      rcases hb' with ⟨_, rfl⟩ | ⟨_, newChildren, hgroup, rfl⟩
      · exact tidy_of _ hnt (hp.2.1 hnt) hktidy
      · exact tidy_of _ hnt (hp.2.1 hnt)
          ((tidyL_iff _).2 (groupLines_tidy _ children newChildren ((tidyL_iff _).1 hktidy) hgroup))
theorem iibKids_tidy : ∀ (kids : List KBox) (t : Bool) (out : List KBox) (t' : Bool),
    TidyL kids → iibKids t kids = .ok (out, t') →
    noSp (leafTextL out) = noSp (leafTextL kids) ∧ TidyL out
  | [], t, out, t', _, h => by
    unfold iibKids at h; cases h; exact ⟨rfl, trivial⟩
  | c :: cs, t, out, t', hg, h => by
    refine ⟨iibKids_text_of tidy_step _ t out t' ((tidyL_iff _).1 hg) h, ?_⟩
    unfold TidyL at hg
    rcases iibKids_cons_cases h with ⟨_, h'⟩ | ⟨_, c1, rest, hc1, hrest, rfl⟩
    · exact (iibKids_tidy cs _ out t' hg.2 h').2
    · exact ⟨(iib_tidy c t c1 hg.1 hc1).2, (iibKids_tidy cs false rest _ hg.2 hrest).2⟩
end

theorem tidy_leafy : ∀ (b : KBox), Tidy b → Leafy b
  | .mk k st el inst text kids cols, h => by
    have hp := tidy_parts h
    unfold Leafy
    refine ⟨?_, tidyL_leafyL kids hp.2.2⟩
    intro hk
    apply hp.2.1
    show Gen.isSub k .TextBox = false
    rcases hk with rfl | hk
    · rfl
    · revert hk; cases k <;> decide
where
  tidyL_leafyL : ∀ (l : List KBox), TidyL l → LeafyL l
    | [], _ => trivial
    | c :: cs, h => by
      unfold TidyL at h
      exact ⟨tidy_leafy c h.1, tidyL_leafyL cs h.2⟩

end Wp.Bx
