/-
Simulation between the cached emission of `Stream` (early returns on cache hits, `pop_state` / `begin_text` peepholes)
and the cache-free reference emission, with respect to the reference graphics-state interpreter of Model/PdfStream.
Core Lean only.
-/
import WpModel.Model.PdfStream
import WpModel.Lemmas.PdfRes
namespace Wp.Pdf

/-- Current graphics state after the operators. -/
def curG (r : List Op) : GS := (G r).1

theorem G_cons (o : Op) (r : List Op) : G (o :: r) = applyOp o (G r) := rfl

theorem paints_cons (o : Op) (r : List Op) :
    paints (o :: r) = if o.isPaint then (o, (G r).1) :: paints r else paints r := rfl

/-- Operators that leave the modelled part of the graphics state alone and are not `q`, `Q`, `ET`. -/
def Op.inert : Op → Bool
  | .q | .Q | .ET | .gs .. | .rgb .. | .cs .. | .scn .. | .Tf .. => false
  | _ => true

theorem applyOp_inert (o : Op) (h : o.inert = true) (st : GStk) : applyOp o st = st := by
  cases o <;> simp [Op.inert] at h <;> rfl

theorem applyOp_ET (st : GStk) : applyOp .ET st = st := rfl
theorem applyOp_BT (st : GStk) : applyOp .BT st = st := rfl

theorem applyOp_Q_q (st : GStk) : applyOp .Q (applyOp .q st) = st := by
  simp [applyOp]

theorem curG_q (r : List Op) : curG (.q :: r) = curG r := rfl

theorem curG_qs (qs r : List Op) (h : ∀ o ∈ qs, o = .q) : curG (qs ++ r) = curG r := by
  induction qs with
  | nil => rfl
  | cons o qs ih =>
    have ho : o = .q := h o List.mem_cons_self
    subst ho
    rw [List.cons_append, curG_q]
    exact ih (fun x hx => h x (List.mem_cons_of_mem _ hx))

/-- What the fill / stroke colour of the graphics state is after `colourOps c stroke`. -/
def colState (c : Colour) (stroke : Bool) : List Op :=
  match spaceClass c.space with
  | .rgb => [.rgb c.k1 c.k2 c.k3 stroke]
  | .labD65 => [.scn [c.k1, c.k2, c.k3] none stroke, .cs "lab-d65" stroke]
  | .labD50 => [.scn [c.k1, c.k2, c.k3] none stroke, .cs "lab-d50" stroke]
  | .other => [.rgb c.c1.orZero c.c2.orZero c.c3.orZero stroke]

/-- Fold of `applyOp` over operators emitted in order. -/
def applyOps (os : List Op) (st : GStk) : GStk := os.foldl (fun acc o => applyOp o acc) st

theorem G_rev_append (os : List Op) (r : List Op) : G (os.reverse ++ r) = applyOps os (G r) := by
  induction os generalizing r with
  | nil => rfl
  | cons o os ih =>
    rw [List.reverse_cons, List.append_assoc, ih]
    rfl

theorem paints_rev_append (os : List Op) (r : List Op) (h : ∀ o ∈ os, o.isPaint = false) :
    paints (os.reverse ++ r) = paints r := by
  induction os generalizing r with
  | nil => rfl
  | cons o os ih =>
    rw [List.reverse_cons, List.append_assoc, ih _ (fun x hx => h x (List.mem_cons_of_mem _ hx))]
    simp [paints_cons, h o List.mem_cons_self]

theorem G_emitAll (s : SState) (os : List Op) : G (s.emitAll os).rops = applyOps os (G s.rops) := by
  rw [emitAll_eq]; exact G_rev_append os s.rops

theorem paints_emitAll_nonpaint (s : SState) (os : List Op) (h : ∀ o ∈ os, o.isPaint = false) :
    paints (s.emitAll os).rops = paints s.rops := by
  rw [emitAll_eq]; exact paints_rev_append os s.rops h

theorem colourOps_fill (c : Colour) (st : GStk) :
    applyOps (colourOps c false) st = ({ st.1 with fill := colState c false }, st.2) := by
  unfold colourOps colState
  cases spaceClass c.space <;> rfl

theorem colourOps_stroke (c : Colour) (st : GStk) :
    applyOps (colourOps c true) st = ({ st.1 with stroke := colState c true }, st.2) := by
  unfold colourOps colState
  cases spaceClass c.space <;> rfl

theorem colourOps_nonpaint (c : Colour) (stroke : Bool) : ∀ o ∈ colourOps c stroke, o.isPaint = false :=
  fun o ho => (isColour_spec (colourOps_isColour c stroke o ho)).2.1


/-- `sc` (cached, with peepholes) and `sn` (reference) have executed the same calls.  `old`: `begin_text` restores `_old_font`
when the newest operator is `ET`, and `pop_state` can delete trailing `q`s and so make an `ET` the newest operator again:
what `_old_font` holds is therefore claimed for an `ET` under any number of trailing `q`s. -/
structure Sim (cols : List Colour) (r : Res) (sc sn : SState) : Prop where
  g : G sc.rops = G sn.rops
  p : paints sc.rops = paints sn.rops
  ctm : sc.ctm = sn.ctm
  mark : sc.mark = sn.mark
  marked : sc.marked = sn.marked
  colF : ∀ k, sc.colF = some k → ∃ c, c ∈ cols ∧ c.key = k ∧ (curG sc.rops).fill = colState c false
  colS : ∀ k, sc.colS = some k → ∃ c, c ∈ cols ∧ c.key = k ∧ (curG sc.rops).stroke = colState c true
  aF : ∀ k, sc.alphaF = some k → ∃ α, k = .a α ∧ (curG sc.rops).ca = some α ∧ r.hasG k = true
  aS : ∀ k, sc.alphaS = some k → ∃ α, k = .A α ∧ (curG sc.rops).CA = some α ∧ r.hasG k = true
  font : ∀ f, sc.font = some f → (curG sc.rops).font = some f
  old : ∀ qs r', sc.rops = qs ++ r' → (∀ o ∈ qs, o = .q) → r'.head? = some .ET →
    ∀ f, sc.oldFont = some f → (curG r').font = some f

theorem Sim.res_mono {cols : List Colour} {r r' : Res} {sc sn : SState} (h : Sim cols r sc sn) (hle : r.le r') :
    Sim cols r' sc sn :=
  { h with
    aF := fun k hk => by obtain ⟨α, h1, h2, h3⟩ := h.aF k hk; exact ⟨α, h1, h2, hle.g k h3⟩
    aS := fun k hk => by obtain ⟨α, h1, h2, h3⟩ := h.aS k hk; exact ⟨α, h1, h2, hle.g k h3⟩ }

/-- The `old` clause for a stream whose newest operator is neither `q` nor `ET`. -/
theorem old_vacuous (o : Op) (rops : List Op) (oldFont : Option (String × Rat)) (h1 : o ≠ .q) (h2 : o ≠ .ET) :
    ∀ qs r', o :: rops = qs ++ r' → (∀ x ∈ qs, x = .q) → r'.head? = some .ET →
      ∀ f, oldFont = some f → (curG r').font = some f := by
  intro qs r' heq hq hET
  cases qs with
  | nil =>
    simp at heq; subst heq
    simp at hET; exact absurd hET h2
  | cons x qs =>
    simp at heq
    have := hq x List.mem_cons_self
    rw [← heq.1] at this
    exact absurd this h1

/-- Both emit the same operator that leaves the modelled graphics state alone. -/
theorem Sim.emit_inert {cols : List Colour} {r : Res} {sc sn : SState} (h : Sim cols r sc sn) (o : Op)
    (ho : o.inert = true) : Sim cols r (sc.emit o) (sn.emit o) := by
  have hq : o ≠ .q := by intro e; subst e; simp [Op.inert] at ho
  have hE : o ≠ .ET := by intro e; subst e; simp [Op.inert] at ho
  have hcur : curG (o :: sc.rops) = curG sc.rops := by
    simp only [curG, G_cons, applyOp_inert o ho]
  refine ⟨?_, ?_, h.ctm, h.mark, h.marked, hcur ▸ h.colF, hcur ▸ h.colS, hcur ▸ h.aF, hcur ▸ h.aS, hcur ▸ h.font,
    old_vacuous o sc.rops sc.oldFont hq hE⟩
  · simp only [SState.emit, G_cons, h.g]
  · simp only [SState.emit, paints_cons, h.g, h.p]

theorem old_vacuous_list (os : List Op) (rops : List Op) (oldFont : Option (String × Rat)) (hne : os ≠ [])
    (h : ∀ o ∈ os, o ≠ .q ∧ o ≠ .ET) :
    ∀ qs r', os.reverse ++ rops = qs ++ r' → (∀ x ∈ qs, x = .q) → r'.head? = some .ET →
      ∀ f, oldFont = some f → (curG r').font = some f := by
  obtain ⟨l, o, rfl⟩ : ∃ l o, os = l ++ [o] := by
    cases h' : os.reverse with
    | nil => simp at h'; exact absurd h' hne
    | cons o l => exact ⟨l.reverse, o, by rw [← List.reverse_reverse os, h']; simp⟩
  have ho := h o (by simp)
  rw [List.reverse_append]
  exact old_vacuous o _ oldFont ho.1 ho.2

theorem applyOp_gs (k : GKey) (d : ExtG) (st : GStk) : applyOp (.gs k d) st = (applyG d st.1, st.2) := rfl

/-- State-setting operators emitted on both sides (cache miss): `upd` is their effect on the current state. -/
theorem Sim.emit_set {cols : List Colour} {r : Res} {sc sn : SState} (h : Sim cols r sc sn) (os : List Op)
    (upd : GS → GS) (happ : ∀ st : GStk, applyOps os st = (upd st.1, st.2)) (hnp : ∀ o ∈ os, o.isPaint = false)
    (hne : os ≠ []) (hqE : ∀ o ∈ os, o ≠ .q ∧ o ≠ .ET) (sc' : SState) (hrops : sc'.rops = os.reverse ++ sc.rops)
    (hctm : sc'.ctm = sc.ctm) (hmark : sc'.mark = sc.mark) (hmarked : sc'.marked = sc.marked)
    (hcolF : ∀ k, sc'.colF = some k → ∃ c, c ∈ cols ∧ c.key = k ∧ (upd (curG sc.rops)).fill = colState c false)
    (hcolS : ∀ k, sc'.colS = some k → ∃ c, c ∈ cols ∧ c.key = k ∧ (upd (curG sc.rops)).stroke = colState c true)
    (haF : ∀ k, sc'.alphaF = some k → ∃ α, k = .a α ∧ (upd (curG sc.rops)).ca = some α ∧ r.hasG k = true)
    (haS : ∀ k, sc'.alphaS = some k → ∃ α, k = .A α ∧ (upd (curG sc.rops)).CA = some α ∧ r.hasG k = true)
    (hfont : ∀ f, sc'.font = some f → (upd (curG sc.rops)).font = some f) :
    Sim cols r sc' (sn.emitAll os) := by
  have hcur : curG (os.reverse ++ sc.rops) = upd (curG sc.rops) := by simp only [curG, G_rev_append, happ]
  rw [emitAll_eq]
  refine ⟨?_, ?_, by rw [hctm]; exact h.ctm, by rw [hmark]; exact h.mark, by rw [hmarked]; exact h.marked,
    ?_, ?_, ?_, ?_, ?_, ?_⟩
  · simp only [hrops, G_rev_append, h.g]
  · simp only [hrops, paints_rev_append _ _ hnp, h.p]
  · rw [hrops, hcur]; exact hcolF
  · rw [hrops, hcur]; exact hcolS
  · rw [hrops, hcur]; exact haF
  · rw [hrops, hcur]; exact haS
  · rw [hrops, hcur]; exact hfont
  · rw [hrops]; exact old_vacuous_list os sc.rops sc'.oldFont hne hqE

/-- The reference side emits state-setting operators that do not change its state (cache hit on the other side). -/
theorem Sim.naive_noop {cols : List Colour} {r : Res} {sc sn : SState} (h : Sim cols r sc sn) (os : List Op)
    (hnp : ∀ o ∈ os, o.isPaint = false) (hfix : applyOps os (G sn.rops) = G sn.rops) :
    Sim cols r sc (sn.emitAll os) := by
  rw [emitAll_eq]
  refine ⟨?_, ?_, h.ctm, h.mark, h.marked, h.colF, h.colS, h.aF, h.aS, h.font, h.old⟩
  · simp only [G_rev_append, hfix, h.g]
  · simp only [paints_rev_append _ _ hnp, h.p]

theorem applyOps_single (o : Op) (st : GStk) : applyOps [o] st = applyOp o st := rfl

theorem sim_alphaStroke {cols : List Colour} {r : Res} {sc sn : SState} (h : Sim cols r sc sn) (α : Num) :
    Sim cols (setAlphaStroke r sc α).2 (setAlphaStroke r sc α).1 (sn.emit (.gs (.A α) { CA := some α })) ∧
    (setAlphaStroke r sc α).2 = r.ensureG (.A α) { CA := some α } := by
  unfold setAlphaStroke
  split
  · refine ⟨?_, rfl⟩
    have h' := h.res_mono (ensureG_le r (.A α) { CA := some α })
    show Sim cols (r.ensureG (.A α) { CA := some α })
      ({ sc with alphaS := some (GKey.A α) }.emit (.gs (.A α) { CA := some α })) (sn.emitAll [.gs (.A α) { CA := some α }])
    refine h'.emit_set [.gs (.A α) { CA := some α }] (applyG { CA := some α }) (fun st => rfl)
      (List.forall_mem_singleton.2 rfl) (List.cons_ne_nil _ _) (List.forall_mem_singleton.2 ⟨nofun, nofun⟩) _ rfl rfl rfl rfl h'.colF h'.colS h'.aF ?_ h'.font
    intro k hk
    cases hk
    exact ⟨α, rfl, rfl, ensureG_has _ _ _⟩
  · rename_i hhit
    have hk : sc.alphaS = some (.A α) := by simpa using hhit
    obtain ⟨α', hα, hca, hhas⟩ := h.aS _ hk
    cases hα
    have hens : r.ensureG (.A α) { CA := some α } = r := by simp [Res.ensureG, hhas]
    refine ⟨?_, hens.symm⟩
    show Sim cols r sc (sn.emitAll [.gs (.A α) { CA := some α }])
    apply h.naive_noop _ (by simp [Op.isPaint])
    rw [applyOps_single, applyOp_gs]
    have : (G sn.rops).1.CA = some α := by rw [← h.g]; exact hca
    simp only [applyG]
    rw [← this]

theorem sim_alphaFill {cols : List Colour} {r : Res} {sc sn : SState} (h : Sim cols r sc sn) (α : Num) :
    Sim cols (setAlphaFill r sc α).2 (setAlphaFill r sc α).1 (sn.emit (.gs (.a α) { ca := some α })) ∧
    (setAlphaFill r sc α).2 = r.ensureG (.a α) { ca := some α } := by
  unfold setAlphaFill
  split
  · refine ⟨?_, rfl⟩
    have h' := h.res_mono (ensureG_le r (.a α) { ca := some α })
    show Sim cols (r.ensureG (.a α) { ca := some α })
      ({ sc with alphaF := some (GKey.a α) }.emit (.gs (.a α) { ca := some α })) (sn.emitAll [.gs (.a α) { ca := some α }])
    refine h'.emit_set [.gs (.a α) { ca := some α }] (applyG { ca := some α }) (fun st => rfl)
      (List.forall_mem_singleton.2 rfl) (List.cons_ne_nil _ _) (List.forall_mem_singleton.2 ⟨nofun, nofun⟩) _ rfl rfl rfl rfl h'.colF h'.colS ?_ h'.aS h'.font
    intro k hk
    cases hk
    exact ⟨α, rfl, rfl, ensureG_has _ _ _⟩
  · rename_i hhit
    have hk : sc.alphaF = some (.a α) := by simpa using hhit
    obtain ⟨α', hα, hca, hhas⟩ := h.aF _ hk
    cases hα
    have hens : r.ensureG (.a α) { ca := some α } = r := by simp [Res.ensureG, hhas]
    refine ⟨?_, hens.symm⟩
    show Sim cols r sc (sn.emitAll [.gs (.a α) { ca := some α }])
    apply h.naive_noop _ (by simp [Op.isPaint])
    rw [applyOps_single, applyOp_gs]
    have : (G sn.rops).1.ca = some α := by rw [← h.g]; exact hca
    simp only [applyG]
    rw [← this]

theorem sim_setAlpha {cols : List Colour} {r : Res} {sc sn : SState} (h : Sim cols r sc sn) (α : Num)
    (stroke : Bool) (fill : Option Bool) :
    Sim cols (setAlpha r sc α stroke fill).2 (setAlpha r sc α stroke fill).1 (setAlphaNaive r sn α stroke fill).1 ∧
    (setAlpha r sc α stroke fill).2 = (setAlphaNaive r sn α stroke fill).2 := by
  unfold setAlpha setAlphaNaive alphaStrokePart
  simp only
  cases stroke
  · simp only [Bool.false_eq_true, if_false]
    split
    · exact sim_alphaFill h α
    · exact ⟨h, rfl⟩
  · simp only [if_true]
    obtain ⟨h1, e1⟩ := sim_alphaStroke h α
    split
    · obtain ⟨h2, e2⟩ := sim_alphaFill h1 α
      refine ⟨h2, ?_⟩
      rw [e2, e1]
    · exact ⟨h1, e1⟩

theorem colourOps_ne_nil (c : Colour) (stroke : Bool) : colourOps c stroke ≠ [] := by
  unfold colourOps; cases spaceClass c.space <;> simp

theorem colourOps_qE (c : Colour) (stroke : Bool) : ∀ o ∈ colourOps c stroke, o ≠ .q ∧ o ≠ .ET :=
  fun o ho => (isColour_spec (colourOps_isColour c stroke o ho)).2.2

/-- The colour part of `set_color`, for colours of a consistent palette. -/
theorem sim_setColorOnly {cols : List Colour} {r : Res} {sc sn : SState} (h : Sim cols r sc sn) (c : Colour)
    (stroke : Bool) (hc : c ∈ cols)
    (hcons : ∀ c', c' ∈ cols → c'.key = c.key → colState c' false = colState c false ∧
      colState c' true = colState c true) :
    Sim cols r (setColorOnly sc c stroke) (sn.emitAll (colourOps c stroke)) := by
  have hnp := colourOps_nonpaint c stroke
  unfold setColorOnly
  cases stroke
  · simp only [Bool.false_eq_true, if_false]
    split
    · rename_i hhit
      have hk : sc.colF = some c.key := by simpa using hhit
      obtain ⟨c', hc', hkey, hfill⟩ := h.colF _ hk
      apply h.naive_noop _ hnp
      rw [colourOps_fill]
      have : (G sn.rops).1.fill = colState c false := by
        rw [← h.g, ← (hcons c' hc' hkey).1]; exact hfill
      rw [← this]
    · rw [emitAll_eq]
      refine h.emit_set (colourOps c false) (fun g => { g with fill := colState c false })
        (fun st => colourOps_fill c st) hnp (colourOps_ne_nil c false) (colourOps_qE c false) _ rfl rfl rfl rfl
        ?_ h.colS h.aF h.aS h.font
      intro k hk
      cases hk
      exact ⟨c, hc, rfl, rfl⟩
  · simp only [if_true]
    split
    · rename_i hhit
      have hk : sc.colS = some c.key := by simpa using hhit
      obtain ⟨c', hc', hkey, hfill⟩ := h.colS _ hk
      apply h.naive_noop _ hnp
      rw [colourOps_stroke]
      have : (G sn.rops).1.stroke = colState c true := by
        rw [← h.g, ← (hcons c' hc' hkey).2]; exact hfill
      rw [← this]
    · rw [emitAll_eq]
      refine h.emit_set (colourOps c true) (fun g => { g with stroke := colState c true })
        (fun st => colourOps_stroke c st) hnp (colourOps_ne_nil c true) (colourOps_qE c true) _ rfl rfl rfl rfl
        h.colF ?_ h.aF h.aS h.font
      intro k hk
      cases hk
      exact ⟨c, hc, rfl, rfl⟩


theorem sim_push {cols : List Colour} {r : Res} {sc sn : SState} (h : Sim cols r sc sn) (m : List Mat) :
    Sim cols r ({ sc with ctm := m }.emit .q) ({ sn with ctm := m }.emit .q) := by
  refine ⟨?_, ?_, rfl, h.mark, h.marked, h.colF, h.colS, h.aF, h.aS, h.font, ?_⟩
  · simp only [SState.emit, G_cons, h.g]
  · simp only [SState.emit, paints_cons, h.p]; simp [Op.isPaint]
  · intro qs r' heq hq hET f hf
    cases qs with
    | nil =>
      simp [SState.emit] at heq; subst heq
      simp at hET
    | cons x qs =>
      simp [SState.emit] at heq
      exact h.old qs r' heq.2 (fun y hy => hq y (List.mem_cons_of_mem _ hy)) hET f hf

/-- `pop_state` against `Q`: the caches are cleared, a trailing `q` is dropped instead of writing `q Q`. -/
theorem sim_pop {cols : List Colour} {r : Res} {sc sn : SState} (h : Sim cols r sc sn) (m : List Mat) :
    Sim cols r { clearCaches (popOps sc) with ctm := m } ({ sn with ctm := m }.emit .Q) := by
  unfold popOps
  split
  · rename_i rest heq
    have hg : G rest = applyOp .Q (G sn.rops) := by
      rw [← h.g, heq, G_cons, applyOp_Q_q]
    refine ⟨?_, ?_, rfl, h.mark, h.marked, (fun _ hk => nomatch hk), (fun _ hk => nomatch hk), (fun _ hk => nomatch hk),
      (fun _ hk => nomatch hk), (fun _ hf => nomatch hf), ?_⟩
    · simp only [clearCaches, SState.emit, G_cons]; exact hg
    · have := h.p
      rw [heq, paints_cons] at this
      simp only [clearCaches, SState.emit, paints_cons]
      simpa [Op.isPaint] using this
    · intro qs r' heq' hq hET f hf
      simp only [clearCaches] at heq' hf
      exact h.old (.q :: qs) r' (by rw [heq, heq']; rfl)
        (by intro x hx; rcases List.mem_cons.mp hx with rfl | hx; rfl; exact hq x hx) hET f hf
  · refine ⟨?_, ?_, rfl, h.mark, h.marked, (fun _ hk => nomatch hk), (fun _ hk => nomatch hk), (fun _ hk => nomatch hk),
      (fun _ hk => nomatch hk), (fun _ hf => nomatch hf), old_vacuous .Q sc.rops _ (by simp) (by simp)⟩
    · simp only [clearCaches, SState.emit, G_cons, h.g]
    · simp only [clearCaches, SState.emit, paints_cons, h.p]; simp [Op.isPaint]

/-- `begin_text` against `BT`: a trailing `ET` is dropped and `_old_font` restored instead of writing `ET BT`. -/
theorem sim_beginText {cols : List Colour} {r : Res} {sc sn : SState} (h : Sim cols r sc sn) :
    Sim cols r (beginText sc) (sn.emit .BT) := by
  unfold beginText
  split
  · rename_i rest heq
    have hcur : curG rest = curG sc.rops := by rw [heq]; rfl
    refine ⟨?_, ?_, h.ctm, h.mark, h.marked, hcur ▸ h.colF, hcur ▸ h.colS, hcur ▸ h.aF, hcur ▸ h.aS, ?_, ?_⟩
    · have := h.g
      rw [heq, G_cons, applyOp_ET] at this
      simp only [SState.emit, G_cons, applyOp_BT]; exact this
    · have := h.p
      rw [heq, paints_cons] at this
      simp only [SState.emit, paints_cons]
      simpa [Op.isPaint] using this
    · intro f hf
      -- the restored `_old_font` is the font in force at the dropped `ET`
      rw [hcur]
      exact h.old [] sc.rops rfl (by simp) (by rw [heq]; rfl) f hf
    · intro qs r' heq' hq hET f hf
      have h1 := h.old [] sc.rops rfl (by simp) (by rw [heq]; rfl) f hf
      have h2 : curG r' = curG sc.rops := by
        rw [← hcur]
        show curG r' = curG rest
        have : rest = qs ++ r' := heq'
        rw [this, curG_qs qs r' hq]
      rw [h2]; exact h1
  · exact h.emit_inert .BT rfl

theorem sim_endText {cols : List Colour} {r : Res} {sc sn : SState} (h : Sim cols r sc sn) :
    Sim cols r ({ sc with oldFont := sc.font, font := none }.emit .ET) (sn.emit .ET) := by
  have hcur : curG (.ET :: sc.rops) = curG sc.rops := rfl
  refine ⟨?_, ?_, h.ctm, h.mark, h.marked, h.colF, h.colS, h.aF, h.aS, (fun _ hf => nomatch hf), ?_⟩
  · simp only [SState.emit, G_cons, h.g]
  · simp only [SState.emit, paints_cons, h.p]; simp [Op.isPaint]
  · intro qs r' heq hq hET f hf
    cases qs with
    | nil =>
      simp [SState.emit] at heq; subst heq
      simp only [SState.emit] at hf
      rw [hcur]; exact h.font f hf
    | cons x qs =>
      simp [SState.emit] at heq
      have := hq x List.mem_cons_self
      rw [← heq.1] at this; cases this

theorem sim_setFont {cols : List Colour} {r : Res} {sc sn : SState} (h : Sim cols r sc sn) (f : String) (sz : Num) :
    Sim cols r (if sc.font == some (f, sz.val) then sc else { sc with font := some (f, sz.val) }.emit (.Tf f sz))
      (sn.emit (.Tf f sz)) := by
  split
  · rename_i hhit
    have hk : sc.font = some (f, sz.val) := by simpa using hhit
    have hf := h.font _ hk
    show Sim cols r sc (sn.emitAll [.Tf f sz])
    apply h.naive_noop _ (by simp [Op.isPaint])
    rw [applyOps_single]
    have : (G sn.rops).1.font = some (f, sz.val) := by rw [← h.g]; exact hf
    simp only [applyOp]
    rw [← this]
  · show Sim cols r ({ sc with font := some (f, sz.val) }.emit (.Tf f sz)) (sn.emitAll [.Tf f sz])
    refine h.emit_set [.Tf f sz] (fun g => { g with font := some (f, sz.val) }) (fun st => rfl)
      (List.forall_mem_singleton.2 rfl) (List.cons_ne_nil _ _) (List.forall_mem_singleton.2 ⟨nofun, nofun⟩) _ rfl rfl rfl rfl h.colF h.colS h.aF h.aS ?_
    intro g hg
    cases hg; rfl


/-- tinycss2's conversion is a function of the colour: equal cache keys give equal operators. -/
def Consistent (cols : List Colour) : Prop :=
  ∀ c c', c ∈ cols → c' ∈ cols → c'.key = c.key →
    colState c' false = colState c false ∧ colState c' true = colState c true

def callColours : List Call → List Colour
  | [] => []
  | .setColor c _ :: cs => c :: callColours cs
  | _ :: cs => callColours cs

theorem setState_inert_sim {cols : List Colour} {r : Res} {sc sn : SState} (h : Sim cols r sc sn) (d : ExtG)
    (hca : d.ca = none) (hCA : d.CA = none) :
    Sim cols (r.addG (.s r.extG.length) d) (sc.emit (.gs (.s r.extG.length) d)) (sn.emit (.gs (.s r.extG.length) d)) := by
  have h' := h.res_mono (addG_le r (.s r.extG.length) d)
  show Sim cols _ _ (sn.emitAll [.gs (.s r.extG.length) d])
  refine h'.emit_set [.gs (.s r.extG.length) d] id (fun st => by simp [applyOps, applyOp, applyG, hca, hCA])
    (List.forall_mem_singleton.2 rfl) (List.cons_ne_nil _ _) (List.forall_mem_singleton.2 ⟨nofun, nofun⟩) _ rfl rfl rfl rfl h'.colF h'.colS h'.aF h'.aS h'.font

/-- `set_alpha_state` (as repaired): the graphics state gets `ca 1`, and the fill-alpha cache claims nothing. -/
theorem softMaskState_sim {cols : List Colour} {r : Res} {sc sn : SState} (h : Sim cols r sc sn) :
    Sim cols (softMaskState r sc).2 (softMaskState r sc).1 (softMaskState r sn).1 ∧
    (softMaskState r sc).2 = (softMaskState r sn).2 := by
  refine ⟨?_, rfl⟩
  have h' := h.res_mono (addG_le r (.s r.extG.length) softMaskDict)
  have hn : (softMaskState r sn).1 =
      { sn.emitAll [.gs (.s r.extG.length) softMaskDict] with alphaF := none } := rfl
  have hs : Sim cols (r.addG (.s r.extG.length) softMaskDict)
      ({ sc with alphaF := none }.emit (.gs (.s r.extG.length) softMaskDict))
      (sn.emitAll [.gs (.s r.extG.length) softMaskDict]) := by
    refine h'.emit_set [.gs (.s r.extG.length) softMaskDict] (applyG softMaskDict) (fun st => rfl)
      (List.forall_mem_singleton.2 rfl) (List.cons_ne_nil _ _) (List.forall_mem_singleton.2 ⟨nofun, nofun⟩) _ rfl rfl rfl rfl h'.colF h'.colS (fun _ hk => nomatch hk) h'.aS h'.font
  rw [hn]
  exact ⟨hs.g, hs.p, hs.ctm, hs.mark, hs.marked, hs.colF, hs.colS, hs.aF, hs.aS, hs.font, hs.old⟩

theorem emitAll_inert_sim {cols : List Colour} {r : Res} {sc sn : SState} (h : Sim cols r sc sn) (os : List Op)
    (ho : ∀ o ∈ os, o.inert = true) : Sim cols r (sc.emitAll os) (sn.emitAll os) := by
  induction os generalizing sc sn with
  | nil => exact h
  | cons o os ih =>
    exact ih (h.emit_inert o (ho o List.mem_cons_self)) (fun x hx => ho x (List.mem_cons_of_mem _ hx))

/-- **One call**: the cached emission and the reference emission stay in simulation. -/
theorem step_sim (cols : List Colour) (hcons : Consistent cols) {r : Res} {sc sn : SState}
    (h : Sim cols r sc sn) (c : Call) (hsafe : c.cacheSafe = true)
    (hcol : ∀ col st, c = .setColor col st → col ∈ cols) (sc' : SState) (r' : Res)
    (hstep : stepS r sc c = .ok (sc', r')) :
    ∃ sn', stepNaive r sn c = .ok (sn', r') ∧ Sim cols r' sc' sn' := by
  cases c with
  | push =>
    obtain ⟨top, rest, hc, rfl, rfl⟩ := stepS_push_ok hstep
    exact ⟨{ sn with ctm := top :: top :: rest }.emit .q, by simp only [stepNaive, stepS, ← h.ctm, hc], sim_push h _⟩
  | pop =>
    obtain ⟨a, b, rest, hc, rfl, rfl⟩ := stepS_pop_ok hstep
    have hc' : sn.ctm = a :: b :: rest := by rw [← h.ctm]; exact hc
    exact ⟨{ sn with ctm := b :: rest }.emit .Q, by simp only [stepNaive, hc'], sim_pop h (b :: rest)⟩
  | transform a b c d e f =>
    obtain ⟨top, rest, hc, rfl, rfl⟩ := stepS_transform_ok hstep
    refine ⟨{ sn with ctm := Mat.mul ⟨a.val, b.val, c.val, d.val, e.val, f.val⟩ top :: rest }.emit (.cm a b c d e f),
      by simp only [stepNaive, stepS, ← h.ctm, hc], ?_⟩
    have h' : Sim cols r { sc with ctm := Mat.mul ⟨a.val, b.val, c.val, d.val, e.val, f.val⟩ top :: rest }
        { sn with ctm := Mat.mul ⟨a.val, b.val, c.val, d.val, e.val, f.val⟩ top :: rest } :=
      ⟨h.g, h.p, rfl, h.mark, h.marked, h.colF, h.colS, h.aF, h.aS, h.font, h.old⟩
    exact h'.emit_inert (.cm a b c d e f) rfl
  | beginText => cases hstep; exact ⟨sn.emit .BT, rfl, sim_beginText h⟩
  | endText => cases hstep; exact ⟨sn.emit .ET, rfl, sim_endText h⟩
  | setColor col stroke =>
    obtain ⟨rfl, rfl⟩ := ok_pair_inv hstep
    have hc := hcol col stroke rfl
    obtain ⟨h1, e1⟩ := sim_setAlpha h col.alpha stroke none
    have h2 := sim_setColorOnly h1 col stroke hc (fun c' hc' hk => hcons col c' hc hc' hk)
    exact ⟨_, by simp only [stepNaive, setColor, e1], h2⟩
  | setFont f sz =>
    have := sim_setFont h f sz
    obtain ⟨rfl, ⟨hhit, rfl⟩ | ⟨hmiss, rfl⟩⟩ := stepS_setFont_ok hstep
    · rw [if_pos (by simpa using hhit)] at this
      exact ⟨_, rfl, this⟩
    · rw [if_neg (by simpa using hmiss)] at this
      exact ⟨_, rfl, this⟩
  | setAlpha α stroke fill =>
    obtain ⟨rfl, rfl⟩ := ok_pair_inv hstep
    obtain ⟨h1, e1⟩ := sim_setAlpha h α stroke fill
    exact ⟨_, by simp only [stepNaive, e1], h1⟩
  | setState d =>
    obtain ⟨rfl, rfl⟩ := ok_pair_inv hstep
    simp only [Call.cacheSafe, Bool.and_eq_true, Option.isNone_iff_eq_none] at hsafe
    exact ⟨_, rfl, setState_inert_sim h d hsafe.1 hsafe.2⟩
  | softMaskState =>
    obtain ⟨rfl, rfl⟩ := ok_pair_inv hstep
    obtain ⟨h1, e1⟩ := softMaskState_sim (r := r) h
    exact ⟨(softMaskState r sn).1, by simp only [stepNaive, stepS, e1], h1⟩
  | setBlendMode mode =>
    obtain ⟨rfl, rfl⟩ := ok_pair_inv hstep
    exact ⟨_, rfl, setState_inert_sim h _ rfl rfl⟩
  | beginMarked et mcid tag =>
    cases hstep
    refine ⟨beginMarked sn et mcid tag, rfl, ?_⟩
    unfold beginMarked
    rw [← h.marked, ← h.mark]
    cases sc.mark
    · exact h
    · cases mcid
      · exact emitAll_inert_sim h [.tag (resolveTag et tag), .BMC]
          (by intro o ho; simp at ho; rcases ho with rfl | rfl <;> rfl)
      · refine emitAll_inert_sim ?_ [.tag (resolveTag et tag), .props sc.marked.length, .BDC]
          (by intro o ho; simp at ho; rcases ho with rfl | rfl | rfl <;> rfl)
        exact ⟨h.g, h.p, h.ctm, rfl, rfl, h.colF, h.colS, h.aF, h.aS, h.font, h.old⟩
  | endMarked =>
    obtain ⟨rfl, ⟨hm, rfl⟩ | ⟨hm, rfl⟩⟩ := stepS_endMarked_ok hstep
    · exact ⟨sn, by simp only [stepNaive, stepS, ← h.mark, hm]; rfl, h⟩
    · exact ⟨sn.emit .EMC, by simp only [stepNaive, stepS, ← h.mark, hm]; rfl, h.emit_inert _ rfl⟩
  | setColorSpace sp stroke => cases hsafe
  | setColorSpecial pat stroke operands => cases hsafe
  -- `Do`, `sh` and the pass-through methods: the same inert operator on both sides
  | _ => cases hstep; exact ⟨_, rfl, h.emit_inert _ rfl⟩


theorem mem_callColours (calls : List Call) (col : Colour) (st : Bool) (h : Call.setColor col st ∈ calls) :
    col ∈ callColours calls := by
  induction calls with
  | nil => simp at h
  | cons c cs ih =>
    rcases List.mem_cons.mp h with rfl | h'
    · simp [callColours]
    · cases c <;> simp [callColours] <;> first | exact ih h' | exact Or.inr (ih h')

theorem Sim.init (cols : List Colour) (r : Res) (mark : Bool) : Sim cols r { mark := mark } { mark := mark } := by
  exact ⟨rfl, rfl, rfl, rfl, rfl, (fun _ hk => nomatch hk), (fun _ hk => nomatch hk), (fun _ hk => nomatch hk),
    (fun _ hk => nomatch hk), (fun _ hf => nomatch hf), (fun _ _ _ _ _ _ hf => nomatch hf)⟩

end Wp.Pdf
