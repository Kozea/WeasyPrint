/-
The first content of an empty page is always accepted in the footnote model, whatever the footnote policies
(before repair 67bf2ca `footnote-policy: block` could abort a paragraph on an empty page and the `assert root_box`
of `make_page` failed; the regression example is in `Witness/C01Foot.lean`).
-/
import WpModel.Lemmas.FootConservePara
import WpModel.Lemmas.FootConserveBox
import WpModel.Lemmas.FootTurn

namespace Wp.PMF
open Wp Wp.PM

/-- A turn on an empty page does not abort, given that the child laid out on an empty page yields a fragment:
the child is the first content and is kept, or something was placed before it. -/
theorem kidStepF_not_aborted (c : FCtx) (st : PStyle) (index : Nat) (bs : Rat) (child : FootBox) (s : KidsLoop)
    (fs : FState)
    (hbox : (layoutBoxF c child index s.posY bs s.skip st.isRoot true s.cur fs).r.frag.isSome = true)
    (page : String) (s' s3 : KidsLoop) (fs' : FState) :
    kidStepF c st index bs true child s fs ≠ ((some (.aborted page s'), s3), fs') := by
  fun_cases kidStepF c st index bs true child s fs <;> intro hcontra <;> cases hcontra
  next heq =>
    refine conclude_not_aborted _ _ _ _ _ _ ?_ _ _ _ heq
    rw [kidResultF_newChildren]
    cases hne : s.newChildren.isEmpty with
    | false => exact .inr rfl
    | true => exact .inl (kidResultF_first c st child index bs s fs hne (by simpa [hne] using hbox))

mutual
/-- **First content accepted**: laid out with `page_is_empty`, a box always yields a fragment, in any footnote
state and whatever the footnote policies. -/
theorem box_someF : (box : FootBox) → ∀ (c : FCtx) (idx : Nat) (y bs : Rat)
    (skip : Option Resume) (cb : Bool) (adjL : List Rat) (fs : FState),
    (layoutBoxF c box idx y bs skip cb true adjL fs).r.frag.isSome = true
  | .para id n lineH st calls => by
    intro c idx y bs skip cb adjL fs
    simp only [layoutBoxF, finishParaF_r]
    exact finishPara_some _ _ _ _ _ _ _ (lineboxF_no_abort _ _ _ _ _ _ _ _ _ _ _ _)
  | .block id st kids => by
    intro c idx y bs skip cb adjL fs
    simp only [layoutBoxF, finishBlockF_r]
    exact finishBlock_some _ _ _ _ _ _ (fun page s => kidsF_not_aborted kids _ _ _ _ _ _ _ page s)
theorem kidsF_not_aborted : (kids : List FootBox) → ∀ (c : FCtx) (st : PStyle)
    (index skipIdx : Nat) (bs : Rat) (s : KidsLoop) (fs : FState) (page : String) (s' : KidsLoop),
    (layoutKidsF c st kids index skipIdx bs true s fs).1 ≠ .aborted page s'
  | [] => by
    intro c st index skipIdx bs s fs page s'
    simp [layoutKidsF]
  | child :: rest => by
    intro c st index skipIdx bs s fs page s'
    rw [layoutKidsF_turn]
    split
    · exact kidsF_not_aborted rest _ _ _ _ _ _ _ _ _
    · have hstep := kidStepF_not_aborted c st index bs child s fs (box_someF child c _ _ _ _ _ _ _) page s'
      split
      · rename_i out s3 fs' heq
        intro hcontra
        exact hstep s3 fs' (by rw [heq, show out = .aborted page s' from hcontra])
      · exact kidsF_not_aborted rest _ _ _ _ _ _ _ _ _
end

end Wp.PMF
