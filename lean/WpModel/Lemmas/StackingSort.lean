/-
`StackingContext.__init__` — the three-way split is three
filters, the model of `list.sort(key=z_index)` is the insertion sort of Lemmas/InsertionSort and stable.
-/
import WpModel.Model.Stacking
import WpModel.Lemmas.InsertionSort

namespace Wp.Stacking
open Wp

theorem splitZ_foldl (l : List Node) (a b c : List Node) :
    l.foldl
      (fun (acc : List Node × List Node × List Node) c =>
        if c.zIndex < 0 then (acc.1 ++ [c], acc.2.1, acc.2.2)
        else if c.zIndex = 0 then (acc.1, acc.2.1 ++ [c], acc.2.2)
        else (acc.1, acc.2.1, acc.2.2 ++ [c]))
      (a, b, c) =
    (a ++ l.filter (fun n => decide (n.zIndex < 0)), b ++ l.filter (fun n => decide (n.zIndex = 0)),
     c ++ l.filter (fun n => decide (0 < n.zIndex))) := by
  induction l generalizing a b c with
  | nil => simp
  | cons x xs ih =>
    simp only [List.foldl_cons]
    by_cases h1 : x.zIndex < 0
    · have h2 : ¬ x.zIndex = 0 := by omega
      have h3 : ¬ 0 < x.zIndex := by omega
      simp [h1, h2, h3, ih]
    · by_cases h2 : x.zIndex = 0
      · have h3 : ¬ 0 < x.zIndex := by omega
        simp [h2, ih]
      · have h3 : 0 < x.zIndex := by omega
        simp [h1, h2, h3, ih]

/-- The loop of `__init__` is three filters (tree order kept in each). -/
theorem splitZ_eq (l : List Node) :
    splitZ l = (l.filter (fun n => decide (n.zIndex < 0)), l.filter (fun n => decide (n.zIndex = 0)),
                l.filter (fun n => decide (0 < n.zIndex))) := by
  have := splitZ_foldl l [] [] []
  simpa [splitZ] using this

/-- The three lists of a context: the child contexts of negative / zero / positive z-index, the
outer two stably sorted by z-index. -/
theorem init_lists (box : Node) (children blocks floats bc : List Node) :
    mkCtx box children blocks floats bc =
      .ctx box (sortZ (children.filter (fun n => decide (n.zIndex < 0))))
        (children.filter (fun n => decide (n.zIndex = 0)))
        (sortZ (children.filter (fun n => decide (0 < n.zIndex)))) blocks floats bc
        (zOfStyle box.styleZ) := by
  rw [mkCtx, splitZ_eq]

/-- The loop only regroups the child contexts: a sum over them is the sum over the three lists. -/
theorem sum_map_split (f : Node → Nat) (l : List Node) :
    ((l.filter (fun n => decide (n.zIndex < 0))).map f).sum +
    ((l.filter (fun n => decide (n.zIndex = 0))).map f).sum +
    ((l.filter (fun n => decide (0 < n.zIndex))).map f).sum = (l.map f).sum := by
  induction l with
  | nil => rfl
  | cons x xs ih =>
    simp only [List.filter_cons, decide_eq_true_eq]
    rw [List.map_cons, List.sum_cons, ← ih]
    rcases Int.lt_trichotomy x.zIndex 0 with h | h | h
    · rw [if_pos h, if_neg (Int.ne_of_lt h), if_neg (Int.lt_asymm h), List.map_cons, List.sum_cons]
      simp only [Nat.add_assoc]
    · rw [if_neg (h ▸ Int.lt_irrefl 0), if_pos h, if_neg (h ▸ Int.lt_irrefl 0), List.map_cons, List.sum_cons]
      simp only [Nat.add_assoc, Nat.add_left_comm (f x)]
    · rw [if_neg (Int.lt_asymm h), if_neg (Int.ne_of_gt h), if_pos h, List.map_cons, List.sum_cons]
      simp only [Nat.add_assoc, Nat.add_left_comm (f x)]

/-- `insertZ` stops in front of the first context with a z-index at least its own. -/
theorem insertZ_eq_ins (x : Node) (l : List Node) :
    insertZ x l = InsertionSort.ins (fun t x => !decide (x.zIndex ≤ t.zIndex)) x l :=
  InsertionSort.eq_ins_stop (fun x y => x.zIndex ≤ y.zIndex) insertZ (fun _ => rfl) (fun _ _ _ => rfl) x l

theorem sortZ_eq_sort (l : List Node) :
    sortZ l = InsertionSort.sort (fun t x => !decide (x.zIndex ≤ t.zIndex)) l :=
  InsertionSort.eq_sort sortZ insertZ_eq_ins rfl (fun _ _ => rfl) l

theorem sortZ_perm (l : List Node) : (sortZ l).Perm l :=
  sortZ_eq_sort l ▸ InsertionSort.sort_perm l

/-- `__init__` as a whole (split, then the two sorts) keeps every sum over the child contexts. -/
theorem sum_map_init (f : Node → Nat) (l : List Node) :
    ((sortZ (l.filter (fun n => decide (n.zIndex < 0)))).map f).sum +
    ((l.filter (fun n => decide (n.zIndex = 0))).map f).sum +
    ((sortZ (l.filter (fun n => decide (0 < n.zIndex)))).map f).sum = (l.map f).sum := by
  rw [((sortZ_perm _).map f).sum_nat, ((sortZ_perm _).map f).sum_nat]
  exact sum_map_split f l

theorem sortZ_sorted (l : List Node) : (sortZ l).Pairwise (fun a b => a.zIndex ≤ b.zIndex) := by
  rw [sortZ_eq_sort]
  exact InsertionSort.sort_sorted (S := fun a b : Node => a.zIndex ≤ b.zIndex)
    (fun t x h => by simp at h; omega) (fun t x h => by simpa using h)
    (fun _ _ _ => Int.le_trans) l

/-- The sort is stable: among the contexts of one z-index the original (tree) order is kept. -/
theorem sortZ_stable (k : Int) (l : List Node) :
    (sortZ l).filter (fun n => decide (n.zIndex = k)) = l.filter (fun n => decide (n.zIndex = k)) := by
  rw [sortZ_eq_sort]
  exact InsertionSort.sort_filter _ (fun t x ht hx => by simp at ht hx ⊢; omega) l

end Wp.Stacking
