/-
Helper lemmas for C18: `pydyf.String.data` read back by a PDF reader.  Core Lean only.
-/
import WpModel.Model.C18PdfString
import WpModel.Model.Utf16

namespace Wp.C18
open Wp Wp.PdfStr

/-! ### literal strings -/

theorem escByte_special (depth : Nat) (acc : List Nat) (b : Nat) (h : b = 92 ∨ b = 40 ∨ b = 41) :
    escByte depth acc b = .cont .normal depth (b :: acc) := by
  rcases h with rfl | rfl | rfl <;> rfl

theorem readLit_escape (rest : List Nat) :
    ∀ (s acc : List Nat), (∀ b ∈ s, b ≠ 13) →
      readLit .normal 1 acc (escapeLit s ++ 41 :: rest) = some (acc.reverse ++ s, rest) := by
  intro s
  induction s with
  | nil => intro acc _; simp [escapeLit, readLit, stepByte, normalByte]
  | cons b s ih =>
    intro acc h
    have hb : (b == 13) = false := by simpa using h b (by simp)
    have hs : ∀ x ∈ s, x ≠ 13 := fun x hx => h x (by simp [hx])
    have e : (b :: acc).reverse ++ s = acc.reverse ++ b :: s := by simp
    by_cases hsp : (b == 92 || b == 40 || b == 41) = true
    · -- written `\b`: the backslash opens an escape, which yields `b`
      have hb' : b = 92 ∨ b = 40 ∨ b = 41 := by simpa [or_assoc] using hsp
      simp only [escapeLit, hsp, if_true, List.cons_append, readLit, stepByte, normalByte, beq_self_eq_true,
        escByte_special 1 acc b hb']
      rw [ih (b :: acc) hs, e]
    · simp only [Bool.or_eq_true, not_or, Bool.not_eq_true] at hsp
      simp only [escapeLit, hsp.1.1, hsp.1.2, hsp.2, hb, Bool.or_self, Bool.false_eq_true, if_false, List.cons_append,
        readLit, stepByte, normalByte]
      rw [ih (b :: acc) hs, e]

/-! ### hexadecimal strings -/

theorem hexDigit_spec : ∀ n, n < 16 → hexVal (hexDigit n) = some n ∧ isPdfWs (hexDigit n) = false ∧
    hexDigit n ≠ 62 := by decide +kernel

theorem readHex_hexBytes (rest : List Nat) :
    ∀ (bs acc : List Nat), (∀ b ∈ bs, b < 256) →
      readHex none acc (hexBytes bs ++ 62 :: rest) = some (acc.reverse ++ bs, rest) := by
  intro bs
  induction bs with
  | nil => intro acc _; simp [hexBytes, readHex]
  | cons b bs ih =>
    intro acc h
    have hq : b / 16 < 16 := Nat.div_lt_of_lt_mul (h b (by simp))
    have hr : b % 16 < 16 := Nat.mod_lt b (by decide)
    have step : ∀ (p : Option Nat) (a : List Nat) (n : Nat) (t : List Nat), n < 16 →
        readHex p a (hexDigit n :: t) = match p with
          | none => readHex (some n) a t
          | some hh => readHex none ((hh * 16 + n) :: a) t := by
      intro p a n t hn
      obtain ⟨g1, g2, g3⟩ := hexDigit_spec n hn
      have g4 : (hexDigit n == 62) = false := by simpa using g3
      simp only [readHex, g4, g2, g1, Bool.false_eq_true, if_false]
      cases p <;> rfl
    simp only [hexBytes, List.cons_append]
    rw [step none acc (b / 16) _ hq]
    simp only []
    rw [step (some (b / 16)) acc (b % 16) _ hr]
    simp only []
    rw [Nat.div_add_mod' b 16, ih (b :: acc) (fun x hx => h x (by simp [hx]))]
    simp

/-! ### UTF-16 -/

/-- Unicode scalar values: what a Python `str` can hold and `'utf-16-be'` can encode. -/
def Scalar (c : Nat) : Prop := c < 1114112 ∧ ¬ (55296 ≤ c ∧ c < 57344)

theorem utf16be_bytes (c : Nat) (h : Scalar c) : ∀ b ∈ utf16be c, b < 256 := by
  unfold utf16be
  obtain ⟨h1, h2⟩ := h
  split
  · intro b hb; simp at hb; omega
  · intro b hb; simp at hb; omega

theorem units_utf16be (c : Nat) (t : List Nat) :
    units (utf16be c ++ t) = (units t).map (fun r => Utf16.encode c ++ r) := by
  unfold utf16be Utf16.encode
  by_cases hb : c < 65536
  · simp only [if_pos hb, List.cons_append, List.nil_append, units]
    have e : c / 256 * 256 + c % 256 = c := Nat.div_add_mod' c 256
    rw [e]
  · simp only [if_neg hb, List.cons_append, List.nil_append, units, Option.map_map]
    generalize c - 65536 = v
    rw [Nat.div_add_mod' (55296 + v / 1024) 256, Nat.div_add_mod' (56320 + v % 1024) 256]
    rfl

theorem units_flatMap (s : List Nat) : units (s.flatMap utf16be) = some (s.flatMap Utf16.encode) := by
  induction s with
  | nil => rfl
  | cons c s ih => rw [List.flatMap_cons, units_utf16be, ih]; rfl

theorem combine_encode (c : Nat) (h : Scalar c) (t : List Nat) :
    combine (Utf16.encode c ++ t) = (combine t).map (fun r => c :: r) := by
  obtain ⟨h1, h2⟩ := h
  unfold Utf16.encode
  by_cases hb : c < 65536
  · have n1 : isHigh c = false := by
      simp only [isHigh, Bool.and_eq_false_iff, decide_eq_false_iff_not]; omega
    have n2 : isLow c = false := by
      simp only [isLow, Bool.and_eq_false_iff, decide_eq_false_iff_not]; omega
    rw [if_pos hb]
    simp only [List.cons_append, List.nil_append]
    rw [combine.eq_def]
    simp only [n1, n2, Bool.false_eq_true, if_false]
  · -- the two halves get names, so that what is left for `omega` is linear
    have hq := Nat.div_lt_of_lt_mul (show c - 65536 < 1024 * 1024 by omega)
    have hr := Nat.mod_lt (c - 65536) (show 0 < 1024 by decide)
    have e := Nat.div_add_mod' (c - 65536) 1024
    rw [if_neg hb]
    generalize (c - 65536) / 1024 = q at hq e ⊢
    generalize (c - 65536) % 1024 = r at hr e ⊢
    have p1 : isHigh (55296 + q) = true := by
      simp only [isHigh, Bool.and_eq_true, decide_eq_true_eq]; omega
    have p2 : isLow (56320 + r) = true := by
      simp only [isLow, Bool.and_eq_true, decide_eq_true_eq]; omega
    simp only [List.cons_append, List.nil_append]
    rw [combine.eq_def]
    simp only [p1, p2, if_true, Nat.add_sub_cancel_left]
    rw [show 65536 + q * 1024 + r = c by omega]

theorem combine_flatMap (s : List Nat) (h : ∀ c ∈ s, Scalar c) : combine (s.flatMap Utf16.encode) = some s := by
  induction s with
  | nil => rfl
  | cons c s ih =>
    simp only [List.flatMap_cons]
    rw [combine_encode c (h c (by simp)), ih (fun x hx => h x (by simp [hx]))]
    rfl

theorem utf16_roundtrip (s : List Nat) (h : ∀ c ∈ s, Scalar c) : utf16Decode (s.flatMap utf16be) = some s := by
  unfold utf16Decode
  rw [units_flatMap]
  exact combine_flatMap s h

/-! ### PDFDocEncoding -/

theorem docDecode_plain (s : List Nat) (h : ∀ c ∈ s, c < 127 ∧ ¬ (24 ≤ c ∧ c < 32)) : docDecode s = some s := by
  induction s with
  | nil => rfl
  | cons c s ih =>
    obtain ⟨h1, h2⟩ := h c (by simp)
    have hc : pdfDocChar c = some c := by
      unfold pdfDocChar
      have : ∀ k, 24 ≤ k → k < 32 → (c == k) = false := by
        intro k hk1 hk2; simp only [beq_eq_false_iff_ne, ne_eq]; omega
      simp only [this 24 (by omega) (by omega), this 25 (by omega) (by omega), this 26 (by omega) (by omega),
        this 27 (by omega) (by omega), this 28 (by omega) (by omega), this 29 (by omega) (by omega),
        this 30 (by omega) (by omega), this 31 (by omega) (by omega), Bool.false_eq_true, if_false, h1, if_true]
    simp only [docDecode, hc, ih (fun x hx => h x (by simp [hx]))]

end Wp.C18
