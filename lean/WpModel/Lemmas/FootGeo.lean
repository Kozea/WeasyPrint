/-
Geometry of the footnote model: the footnote area, and lines of a paragraph against the page bottom.

`context.page_bottom` is the page bottom minus the margin height of the footnote area — *exactly*, for every
`@footnote` style: since repair 8db5909 the area is never fragmented, so what `_update_footnote_area` subtracts is
what it later adds back and the bookkeeping telescopes (before the repair it drifted when the area had a bottom
decoration and footnotes of two page names: the regression case `corpus/C01/footnote_named_page_overlap.json`).
An emptied area takes no room (repair 84e5b27: its height goes back to 'auto'), and what a non-empty area takes
from the page is clamped at 0 (repair 2efefde), so `page_bottom ≤ page height` holds for every `@footnote` style
(`PbInv.le`; regression theorem `area_negative_margin_box_clamped`).
-/
import WpModel.Lemmas.FootSegment
import WpModel.Lemmas.FootState
import WpModel.Lemmas.ParaGeo

namespace Wp.PMF
open Wp Wp.PM

/-- `page_bottom` is the page bottom minus the current margin height of the footnote area, whose height is ≥ 0;
the footnotes in the area have non-negative heights. -/
def PbInv (c : FCtx) (fs : FState) : Prop :=
  (∀ f ∈ fs.cur, 0 ≤ f.height) ∧
  ((fs.areaH = none ∧ fs.pageBottom = c.pageH) ∨
    ∃ h, fs.areaH = some h ∧ 0 ≤ h ∧ fs.pageBottom = c.pageH - max0 (c.area.marginHeight h)) ∧
  (∀ f ∈ fs.reported, 0 ≤ f.height)

theorem sumHeights_nonneg (l : List Fn) (h : ∀ f ∈ l, 0 ≤ f.height) : 0 ≤ sumHeights l := by
  induction l with
  | nil => simp [sumHeights]
  | cons f fs ih =>
    simp only [sumHeights]
    have h1 := h f (by simp)
    have h2 := ih (fun g hg => h g (by simp [hg]))
    grind

theorem max0_nonneg (x : Rat) : 0 ≤ max0 x := by
  unfold max0; split
  · assumption
  · exact Rat.le_refl

/-- `page_bottom` never exceeds the page box bottom — for every `@footnote` style (since repair 2efefde what the
area takes from the page is clamped at 0). -/
theorem PbInv.le {c : FCtx} {fs : FState} (h : PbInv c fs) : fs.pageBottom ≤ c.pageH := by
  rcases h.2.1 with ⟨_, hp⟩ | ⟨hh, _, h0, hp⟩
  · rw [hp]; exact Rat.le_refl
  · rw [hp]
    have := max0_nonneg (c.area.marginHeight hh)
    grind

/-- The state `_update_footnote_area` computes once `page_bottom` has been raised back to `pb1`. -/
def updateAreaFrom (c : FCtx) (fs : FState) (pb1 : Rat) : FState :=
  if fs.cur.isEmpty then { fs with areaH := none, pageBottom := pb1 }
  else { fs with areaH := some (areaLayout c.area c.pageH fs.cur).h,
                 pageBottom := pb1 - max0 (areaLayout c.area c.pageH fs.cur).marginHeight }

theorem updateAreaFrom_inv (c : FCtx) (fs : FState) (hcur : ∀ f ∈ fs.cur, 0 ≤ f.height)
    (hrep : ∀ f ∈ fs.reported, 0 ≤ f.height) :
    PbInv c (updateAreaFrom c fs c.pageH) := by
  unfold updateAreaFrom
  split
  · exact ⟨hcur, Or.inl ⟨rfl, rfl⟩, hrep⟩
  · refine ⟨hcur, Or.inr ⟨(areaLayout c.area c.pageH fs.cur).h, rfl, ?_, ?_⟩, hrep⟩
    · unfold areaLayout
      dsimp only
      exact max0_nonneg _
    · rfl

/-- What `_update_footnote_area` subtracted from `page_bottom` for the area it replaces, it first adds back. -/
theorem updateArea_eq (c : FCtx) (fs fs0 : FState)
    (h0 : PbInv c fs0) (ha : fs.areaH = fs0.areaH) (hp : fs.pageBottom = fs0.pageBottom) :
    (updateArea c fs).1 = updateAreaFrom c fs c.pageH := by
  unfold updateArea updateAreaFrom
  rw [ha, hp]
  rcases h0.2.1 with ⟨h1, h2⟩ | ⟨h, h1, _, h2⟩
  · rw [h1]; dsimp only; rw [h2]; split <;> rfl
  · rw [h1]; dsimp only; rw [h2]
    have e : c.pageH - max0 (c.area.marginHeight h) + max0 (c.area.marginHeight h) = c.pageH := by grind
    rw [e]; split <;> rfl

/-- `_update_footnote_area` re-establishes the invariant, whatever the footnotes now in the area. -/
theorem updateArea_inv (c : FCtx) (fs fs0 : FState) (hcur : ∀ f ∈ fs.cur, 0 ≤ f.height)
    (hrep : ∀ f ∈ fs.reported, 0 ≤ f.height)
    (h0 : PbInv c fs0) (ha : fs.areaH = fs0.areaH) (hp : fs.pageBottom = fs0.pageBottom) :
    PbInv c (updateArea c fs).1 := by
  rw [updateArea_eq c fs fs0 h0 ha hp]
  exact updateAreaFrom_inv c fs hcur hrep

theorem layoutFootnote_inv (c : FCtx) (fs : FState) (f : Fn) (h : PbInv c fs)
    (hf : 0 ≤ f.height) : PbInv c (layoutFootnote c fs f).1 := by
  unfold layoutFootnote
  refine updateArea_inv c _ fs ?_ h.2.2 h rfl rfl
  intro g hg
  simp only [List.mem_append, List.mem_singleton] at hg
  rcases hg with hg | hg
  · exact h.1 g hg
  · subst hg; exact hf

theorem reportFootnote_inv (c : FCtx) (fs : FState) (f : Fn) (h : PbInv c fs)
    (hf : 0 ≤ f.height) : PbInv c (reportFootnote c fs f) := by
  unfold reportFootnote
  refine updateArea_inv c _ fs (fun g hg => h.1 g (List.mem_of_mem_erase hg)) ?_ h rfl rfl
  intro g hg
  simp only [List.mem_append, List.mem_singleton] at hg
  rcases hg with hg | hg
  · exact h.2.2 g hg
  · subst hg; exact hf

theorem unlayFootnote_inv (c : FCtx) (fs : FState) (f : Fn) (h : PbInv c fs) :
    PbInv c (unlayFootnote c fs f) := by
  unfold unlayFootnote
  split
  · exact h
  · dsimp only
    split
    · exact updateArea_inv c _ fs (fun g hg => h.1 g (List.mem_of_mem_erase hg)) h.2.2 h rfl rfl
    · split
      · exact updateArea_inv c _ fs h.1 (fun g hg => h.2.2 g (List.mem_of_mem_erase hg)) h rfl rfl
      · exact updateArea_inv c _ fs h.1 h.2.2 h rfl rfl

theorem pbInv_stable (c : FCtx) : Stable c (PbInv c) :=
  ⟨fun fs f hf h => layoutFootnote_inv c fs f h hf, fun fs f hf h => reportFootnote_inv c fs f h hf,
    fun fs f h => unlayFootnote_inv c fs f h⟩

theorem kidsF_inv : (rest : List FootBox) → HeightsOkList rest → ∀ (c : FCtx)
    (st : PStyle) (index skipIdx : Nat) (bs : Rat) (pie : Bool) (s : KidsLoop) (fs : FState),
    PbInv c fs → PbInv c (layoutKidsF c st rest index skipIdx bs pie s fs).2 :=
  fun rest hh c st index skipIdx bs pie s fs h => kidsF_stable (pbInv_stable c) rest hh st index skipIdx bs pie s fs h

theorem lineLoopF_fits (c : FCtx) (st : PStyle) (calls : List Call) (b : BoxSt) (n : Nat) (lineH : Rat) (pie : Bool)
    (bs : Rat) (k : Nat) (fuel i : Nat) (y : Rat) (s : LineLoop) (fs : FState)
    (hcalls : ∀ cl ∈ calls, 0 ≤ (cl.m : Rat) * cl.h) (hdeco : 0 ≤ b.bb + b.pb)
    (hinv : PbInv c fs) (hfirst : s.lines = [] → i = k)
    (hs : ∀ p ∈ s.lines, LineFitsG (overflows (c.pageH - bs)) lineH pie k p) :
    ∀ p ∈ outLines (lineLoopF c st calls b n lineH pie bs fuel i y s fs).1,
      LineFitsG (overflows (c.pageH - bs)) lineH pie k p := by
  have hsub := fun i (s : LineLoop) resume => breakLine_lines_sub st n i s.lines pie s.skip resume
  fun_induction lineLoopF c st calls b n lineH pie bs fuel i y s fs with
  | case1 i y s fs => simpa [outLines] using hs
  | case2 fuel i y s fs resume newPosY dbd offset overflow hov abort stop r lines' hb =>
    have := hsub i s resume
    rw [hb] at this
    exact fun p hp => hs p (this p hp)
  | case3 fuel i y s fs resume newPosY dbd offset overflow hov shift newPosY' lineY mt' fs' hfl ih =>
    have hinv' : PbInv c fs' := by
      have := footLoop_stable (pbInv_stable c) (!s.lines.isEmpty || !pie) pie bs (newPosY' + offset)
        (lineFns st calls i) fs (lineFns_height st calls i hcalls) hinv
      rw [hfl] at this
      exact this
    apply ih hinv'
    · intro h; simp at h
    · intro p hp
      rcases List.mem_append.mp hp with hp | hp
      · exact hs p hp
      · simp only [List.mem_singleton] at hp
        subst hp
        by_cases hfirstLine : s.lines = [] ∧ pie = true
        · left
          exact ⟨hfirstLine.2, hfirst hfirstLine.1⟩
        · right
          obtain ⟨hno', _, hy, _⟩ : (ctxOf c fs).overflowsPage bs newPosY = false ∧ newPosY' = newPosY ∧ lineY = y ∧
              0 ≤ offset := line_test (not_overflowsPage_of_le (ctxOf c fs) bs) y lineH s.mt (b.bb + b.pb) dbd pie s.lines hdeco hov hfirstLine
          show overflows (c.pageH - bs) (lineY + lineH) = false
          rw [hy]
          have hle : fs.pageBottom - bs ≤ c.pageH - bs := by
            have := hinv.le
            grind
          exact overflows_anti _ _ _ hle hno'
  | case4 fuel i y s fs resume newPosY dbd offset overflow hov shift newPosY' mt' fs' hfl abort stop r lines' hb =>
    have := hsub i s resume
    rw [hb] at this
    exact fun p hp => hs p (this p hp)
  | case5 fuel i y s fs resume newPosY dbd offset overflow hov shift newPosY' mt' fs' hfl =>
    exact hs

end Wp.PMF
