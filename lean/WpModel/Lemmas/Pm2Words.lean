/-
The abstraction the Python harness applies to a render of a PM document (one word per line, word ids in
source order), written for PM itself: `groupsOf d` (what the trace checker is told to expect) and
`pageWordsOf pages` (what the checker is shown), plus the list lemmas needed to prove that the verified
trace checker `Trace.badGroups` accepts every PM pagination (Props/C01Pm2.lean).
-/
import WpModel.Model.Trace
import WpModel.Lemmas.SegmentPages

namespace Wp.PM
open Wp

def tri : Nat → Nat
  | 0 => 0
  | n + 1 => tri n + (n + 1)

/-- The word printed on line `i` of paragraph `id` (Cantor pairing: injective, no bound on `id`, `i`). -/
def wordId (id i : Nat) : Nat := tri (id + i) + i

theorem tri_mono (a b : Nat) (h : a ≤ b) : tri a ≤ tri b := by
  induction h with
  | refl => exact Nat.le_refl _
  | step _ ih => exact Nat.le_trans ih (Nat.le_add_right _ _)

theorem wordId_inj (a b a' b' : Nat) (h : wordId a b = wordId a' b') : a = a' ∧ b = b' := by
  unfold wordId at h
  have key : ∀ s s' x x', x ≤ s → x' ≤ s' → tri s + x = tri s' + x' → ¬ s < s' := by
    intro s s' x x' hx hx' he hlt
    have h1 := tri_mono (s + 1) s' (by omega)
    simp only [tri] at h1
    omega
  have hs : a + b = a' + b' := by
    have h1 := key (a + b) (a' + b') b b' (by omega) (by omega) h
    have h2 := key (a' + b') (a + b) b' b (by omega) (by omega) h.symm
    omega
  rw [hs] at h
  omega

mutual
/-- `(id, number of lines)` of every paragraph, in source order. -/
def paras : PBox → List (Nat × Nat)
  | .para id n _ _ => [(id, n)]
  | .block _ _ kids => parasList kids
def parasList : List PBox → List (Nat × Nat)
  | [] => []
  | b :: bs => paras b ++ parasList bs
end

def paraAllLines (p : Nat × Nat) : List (Nat × Nat) := (List.range p.2).map (fun i => (p.1, i))

/-- The words of one paragraph, in source order. -/
def paraWords (p : Nat × Nat) : List Nat := (List.range p.2).map (wordId p.1)

theorem paraWords_eq (p : Nat × Nat) : paraWords p = (paraAllLines p).map (fun l => wordId l.1 l.2) := by
  simp [paraWords, paraAllLines, List.map_map, Function.comp_def]

mutual
theorem linesFrom_none_paras : (b : PBox) → linesFrom b none = ((paras b).map paraAllLines).flatten
  | .para id n lh st => by
    simp [linesFrom_para_none, paras, paraAllLines, List.range_eq_range']
  | .block id st kids => by
    simp only [linesFrom, paras, skipIdxOf_none, subSkipOf_none]
    exact linesFromKids_none_paras kids
theorem linesFromKids_none_paras : (bs : List PBox) →
    linesFromKids bs 0 none = ((parasList bs).map paraAllLines).flatten
  | [] => by simp [linesFromKids, parasList]
  | b :: bs => by
    simp only [linesFromKids, parasList, List.map_append, List.flatten_append]
    rw [linesFrom_none_paras b, linesFromKids_none_paras bs]
end

/-- Every word of the document, in source order. -/
def allWords (b : PBox) : List Nat := ((paras b).map paraWords).flatten

theorem allWords_eq (b : PBox) : allWords b = (linesFrom b none).map (fun l => wordId l.1 l.2) := by
  unfold allWords
  rw [linesFrom_none_paras, List.map_flatten, List.map_map]
  congr 1
  apply List.map_congr_left
  intro p _
  exact paraWords_eq p

/-- One kind-0 group (rendered exactly once, in order) per paragraph, and one kind-1 group holding every
word of the document in source order (cross-container order: the whole document is one sequential flow). -/
def groupsOf (d : Doc) : List Trace.Group :=
  (paras d.root).map (fun p => { kind := 0, words := paraWords p }) ++
    [{ kind := 1, words := allWords d.root }]

/-- The words each page shows, in fragment-tree order. -/
def pageWordsOf (pages : List Page) : List (List Nat) :=
  pages.map (fun p => (fragLines p.root).map (fun l => wordId l.1 l.2))

/-- Paragraph ids are pairwise distinct (the harness numbers the boxes in source order). -/
def UniqueParaIds (b : PBox) : Prop := ((paras b).map Prod.fst).Nodup

theorem pageWordsOf_flatten (pages : List Page) :
    (pageWordsOf pages).flatten =
      ((pages.map (fun p => fragLines p.root)).flatten).map (fun l => wordId l.1 l.2) := by
  unfold pageWordsOf
  rw [List.map_flatten, List.map_map]
  rfl

theorem paraWords_disjoint (p q : Nat × Nat) (h : q.1 ≠ p.1) : ∀ w ∈ paraWords q, w ∉ paraWords p := by
  intro w hq hp
  simp only [paraWords, List.mem_map, List.mem_range] at hq hp
  obtain ⟨i, _, rfl⟩ := hq
  obtain ⟨j, _, hj⟩ := hp
  exact h (wordId_inj _ _ _ _ hj).1.symm

theorem project_self (ws : List Nat) : Trace.project ws ws = ws :=
  List.filter_eq_self.mpr fun w hw => by simpa using hw

theorem project_para (L : List (Nat × Nat)) (hnd : (L.map Prod.fst).Nodup) (p : Nat × Nat) (hp : p ∈ L) :
    Trace.project (paraWords p) (L.map paraWords).flatten = paraWords p := by
  unfold Trace.project
  induction L with
  | nil => cases hp
  | cons q L ih =>
    simp only [List.map_cons, List.nodup_cons] at hnd
    simp only [List.map_cons, List.flatten_cons, List.filter_append]
    have hrest : ∀ L' : List (Nat × Nat), (∀ r ∈ L', r.1 ≠ p.1) →
        (L'.map paraWords).flatten.filter (fun w => (paraWords p).contains w) = [] := by
      intro L' hL'
      rw [List.filter_eq_nil_iff]
      intro w hw
      simp only [List.mem_flatten, List.mem_map] at hw
      obtain ⟨ws, ⟨r, hr, rfl⟩, hw⟩ := hw
      have := paraWords_disjoint p r (hL' r hr) w hw
      simpa using this
    rcases List.mem_cons.mp hp with rfl | hpL
    · have h1 : (paraWords p).filter (fun w => (paraWords p).contains w) = paraWords p := project_self _
      rw [h1, hrest L (by
        intro r hr he
        exact hnd.1 (by rw [← he]; exact List.mem_map_of_mem hr)), List.append_nil]
    · have hq : q.1 ≠ p.1 := by
        intro he
        exact hnd.1 (by rw [he]; exact List.mem_map_of_mem hpL)
      have h1 : (paraWords q).filter (fun w => (paraWords p).contains w) = [] := by
        rw [List.filter_eq_nil_iff]
        intro w hw
        have := paraWords_disjoint p q hq w hw
        simpa using this
      rw [h1, List.nil_append]
      exact ih hnd.2 hpL

theorem line_id_mem (L : List (Nat × Nat)) (l : Nat × Nat) (h : l ∈ (L.map paraAllLines).flatten) :
    l.1 ∈ L.map Prod.fst := by
  obtain ⟨_, hls, hl⟩ := List.mem_flatten.mp h
  obtain ⟨p, hp, rfl⟩ := List.mem_map.mp hls
  obtain ⟨i, _, rfl⟩ := List.mem_map.mp hl
  exact List.mem_map.mpr ⟨p, hp, rfl⟩

theorem paraAllLines_nodup : (L : List (Nat × Nat)) → (L.map Prod.fst).Nodup → (L.map paraAllLines).flatten.Nodup
  | [], _ => List.nodup_nil
  | p :: L, h => by
    rw [List.map_cons, List.nodup_cons] at h
    rw [List.map_cons, List.flatten_cons, List.nodup_append]
    refine ⟨?_, paraAllLines_nodup L h.2, ?_⟩
    · rw [paraAllLines, List.nodup_iff_pairwise_ne, List.pairwise_map]
      exact (List.nodup_iff_pairwise_ne.mp List.nodup_range).imp (fun hne hab => hne (by simpa using hab))
    · intro x hx y hy hxy
      subst hxy
      obtain ⟨i, _, rfl⟩ := List.mem_map.mp hx
      exact h.1 (line_id_mem L (p.1, i) hy)

theorem linesFrom_nodup (b : PBox) (h : UniqueParaIds b) : (linesFrom b none).Nodup :=
  linesFrom_none_paras b ▸ paraAllLines_nodup _ h

theorem linesFromKids_nodup : (bs : List PBox) → ((parasList bs).map Prod.fst).Nodup →
    (linesFromKids bs 0 none).Nodup :=
  fun bs h => linesFromKids_none_paras bs ▸ paraAllLines_nodup _ h

end Wp.PM
