/-
Footnote conservation, block level: `find_earlier_page_break` keeps a prefix of the lines; the footnote state along
the children loop (`KState`, `conclude_state`) and after the block is finished (`finishBlockF_state`); the mutual
induction over the source tree (state post-condition of `layoutBoxF`: `boxF_state`, `kidsF_state`).
-/
import WpModel.Lemmas.FootTotal
import WpModel.Lemmas.SegmentPages

namespace Wp.PMF
open Wp Wp.PM

/-! ### `find_earlier_page_break` keeps a prefix of the lines -/

theorem findEarlierPara_prefix (id idx : Nat) (st : PStyle) (n : Nat) (g : Geo) (lines : List (Nat × Rat))
    (x' : Frag) (r : Resume) (h : findEarlierPara id idx st n g lines = some (x', r)) :
    ∃ t, fragLines (.para id idx st n g lines) = fragLines x' ++ t := by
  obtain ⟨_, _, _, rfl, _⟩ := findEarlierPara_take h
  refine ⟨(lines.drop (lines.length - st.widows)).map (fun l => (id, l.1)), ?_⟩
  simp only [fragLines]
  rw [← List.map_append, List.take_append_drop]

mutual
theorem findEarlierGo_prefix : (xs : List Frag) → ∀ (kept : List Frag) (r : Resume),
    (findEarlierGo xs).found = some (kept, r) → ∃ t, fragLinesList xs = fragLinesList kept ++ t
  | [] => by intro kept r h; simp [findEarlierGo] at h
  | x :: xs => by
    intro kept r h
    rcases findEarlierGo_cons_found x xs kept r h with ⟨kept0, hf, rfl⟩ | ⟨_, ⟨_, _, rfl, _⟩ | ⟨x', r1, hx, rfl, _⟩⟩
    · obtain ⟨t, ht⟩ := findEarlierGo_prefix xs kept0 r hf
      exact ⟨t, by simp [fragLinesList, ht]⟩
    · exact ⟨fragLinesList xs, by simp [fragLinesList]⟩
    · obtain ⟨t, ht⟩ := findEarlierFrag_prefix x x' r1 hx
      exact ⟨t ++ fragLinesList xs, by simp [fragLinesList, ht]⟩
theorem findEarlierFrag_prefix : (x : Frag) → ∀ (x' : Frag) (r : Resume),
    findEarlierFrag x = some (x', r) → ∃ t, fragLines x = fragLines x' ++ t
  | .para id idx st n g lines => by
    intro x' r h
    simp only [findEarlierFrag] at h
    exact findEarlierPara_prefix id idx st n g lines x' r h
  | .block id idx st g kids => by
    intro x' r h
    simp only [findEarlierFrag] at h
    split at h
    · rename_i kids' r' hk
      simp only [Option.some.injEq, Prod.mk.injEq] at h
      obtain ⟨rfl, _⟩ := h
      obtain ⟨t, ht⟩ := findEarlierGo_prefix kids kids' r' hk
      exact ⟨t, by simp [fragLines, ht]⟩
    · cases h
end

/-! ### the calls of a subtree and the table -/

theorem tblFns_mem (tbl : List (Nat × Nat × Fn)) (ls : List (Nat × Nat)) (g : Fn) :
    g ∈ tblFns tbl ls ↔ ∃ l ∈ ls, g ∈ tblFns tbl [l] := by
  induction ls with
  | nil => simp [tblFns]
  | cons l ls ih =>
    simp only [tblFns, List.mem_append, ih, List.append_nil, List.mem_cons, exists_eq_or_imp]

theorem tblFns_sub (tbl : List (Nat × Nat × Fn)) (a b : List (Nat × Nat)) (h : ∀ l ∈ a, l ∈ b) (g : Fn)
    (hg : g ∈ tblFns tbl a) : g ∈ tblFns tbl b := by
  rw [tblFns_mem] at hg ⊢
  obtain ⟨l, hl, hgl⟩ := hg
  exact ⟨l, h l hl, hgl⟩

mutual
/-- Every call of a subtree is a call on one of its lines, and conversely (as sets). -/
theorem boxFns_mem_iff (tbl : List (Nat × Nat × Fn)) : (b : FootBox) → FootOk tbl b → ∀ g,
    (g ∈ boxFns b ↔ g ∈ tblFns tbl (linesFrom b.erase none))
  | .para id n lineH st calls => by
    intro hok g
    simp only [FootOk] at hok
    obtain ⟨_, _, _, hcalls, htbl⟩ := hok
    simp only [boxFns, FootBox.erase]
    rw [linesFrom_para_none, tblFns_para tbl id st calls htbl]
    constructor
    · intro h
      simp only [List.mem_map] at h
      obtain ⟨cl, hcl, rfl⟩ := h
      rw [idxFns_mem]
      exact ⟨cl.line, by simp [List.mem_range']; exact hcalls cl hcl, callFn_mem_lineFns st calls cl hcl⟩
    · exact idxFns_sub_calls st calls _ g
  | .block id st kids => by
    intro hok g
    simp only [FootOk] at hok
    simp only [boxFns, FootBox.erase, linesFrom, skipIdxOf_none, subSkipOf_none]
    exact boxFnsList_mem_iff tbl kids hok.2 g
theorem boxFnsList_mem_iff (tbl : List (Nat × Nat × Fn)) : (bs : List FootBox) → FootOkList tbl bs → ∀ g,
    (g ∈ boxFnsList bs ↔ g ∈ tblFns tbl (linesFromKids (eraseList bs) 0 none))
  | [] => by intro _ g; simp [boxFnsList, eraseList, linesFromKids, tblFns]
  | b :: bs => by
    intro hok g
    simp only [FootOkList] at hok
    simp only [boxFnsList, eraseList, linesFromKids, List.mem_append, tblFns_append]
    rw [boxFns_mem_iff tbl b hok.1 g, boxFnsList_mem_iff tbl bs hok.2 g]
end

/-! ### state of the children loop -/

/-- `kids` are the children laid out so far (or finally kept): `act` holds, after `A0`, the footnotes called on
their lines; every footnote of `P0` is pending or one of those; their lines are lines of `Ltot`. -/
structure KState (c : FCtx) (A0 P0 : List Fn) (Ltot : List (Nat × Nat)) (kids : List Frag) (fs : FState) : Prop where
  ok : StOk fs
  hact : act fs = A0 ++ tblFns c.tbl (fragLinesList kids)
  pers : ∀ g ∈ P0, g ∈ fs.pending ∨ g ∈ tblFns c.tbl (fragLinesList kids)
  sub : ∀ l ∈ fragLinesList kids, l ∈ Ltot

def outKids : KidsOutcome → List Frag
  | .finished s => s.newChildren
  | .aborted _ s => s.newChildren
  | .stopped _ s => s.newChildren

theorem fragFns_some (c : FCtx) (f : Frag) : fragFns c (some f) = tblFns c.tbl (fragLines f) := by
  simp [fragFns, flines_eq]

theorem KState.took {c : FCtx} {A0 P0 : List Fn} {Ltot : List (Nat × Nat)} {kids : List Frag} {fs : FState}
    (h : KState c A0 P0 Ltot kids fs) : Took A0 P0 (tblFns c.tbl (fragLinesList kids)) fs :=
  ⟨h.ok, h.hact, h.pers⟩

/-- A layout that keeps nothing leaves pending what was pending. -/
theorem StatePost.pending_none {c : FCtx} {fs fs1 : FState} (h : StatePost c fs none fs1) :
    ∀ g ∈ fs.pending, g ∈ fs1.pending :=
  fun g hg => (h.pers g hg).elim id (nomatch ·)

/-- Un-laying-out the fragment just produced restores the state in which its layout started. -/
theorem unlay_restore (c : FCtx) (fs fs1 : FState) (f : Frag) (h : StatePost c fs (some f) fs1) :
    StatePost c fs none (unlayAll c fs1 (tblFns c.tbl (flines f))) := by
  have hnd := h.ok.actnd
  rw [h.hact, List.nodup_append] at hnd
  exact Took.cut (X := []) (S := tblFns c.tbl (flines f)) h c _
    (fun g hg hG => hnd.2.2 g (by simpa using hg) g hG rfl) (fun _ h => h)

theorem firstPassUnlay_keep (c : FCtx) (ctx : Ctx) (bs : Rat) (pienc : Bool) (posY : Rat) (r : LayoutResult)
    (fs fsR : FState) (frag : Option Frag) (y : Rat) (hR : StatePost c fs r.frag fsR)
    (hfp : firstPass ctx bs pienc posY r = .keep frag y) :
    StatePost c fs frag (firstPassUnlay c r (.keep frag y) fsR) := by
  have hk := firstPass_keep hfp
  cases hf : r.frag with
  | none =>
    rw [hf] at hR hk
    have : frag = none := by rcases hk with h | h <;> exact h
    subst this
    simp only [firstPassUnlay, unlayFrag, hf]
    exact hR
  | some f =>
    rw [hf] at hR hk
    rcases hk with h | h
    · subst h
      simp only [firstPassUnlay, unlayFrag, hf]
      exact unlay_restore c fs fsR f hR
    · subst h
      simp only [firstPassUnlay]
      exact hR

theorem firstPassUnlay_redo (c : FCtx) (r : LayoutResult) (fs fsR : FState) (bs' : Rat)
    (hR : StatePost c fs r.frag fsR) : StatePost c fs none (firstPassUnlay c r (.redo bs') fsR) := by
  cases hf : r.frag with
  | none =>
    rw [hf] at hR
    simp only [firstPassUnlay, unlayFrag, hf]
    exact hR
  | some f =>
    rw [hf] at hR
    simp only [firstPassUnlay, unlayFrag, hf]
    exact unlay_restore c fs fsR f hR

/-- State after `concludeKid` (+ the footnote effect of `find_earlier_page_break`). `fsB` is the state before the
child was laid out, `fs1` the state after its (kept or discarded) layout. -/
theorem conclude_state (c : FCtx) (A0 P0 : List Fn) (Ltot : List (Nat × Nat)) (index : Nat) (pie : Bool)
    (pb : Brk) (child : PBox) (s2 : KidsLoop) (frag : Option Frag) (resume : Option Resume) (fsB fs1 : FState)
    (hK : KState c A0 P0 Ltot s2.newChildren fsB) (hchild : StatePost c fsB frag fs1)
    (hsubf : ∀ f, frag = some f → ∀ l ∈ fragLines f, l ∈ Ltot) :
    (∀ out s3, concludeKid index pie pb child s2 frag resume = (some out, s3) →
      KState c A0 P0 Ltot (outKids out) (earlierUnlay c pb s2 frag fs1)) ∧
    (∀ s3, concludeKid index pie pb child s2 frag resume = (none, s3) →
      KState c A0 P0 Ltot s3.newChildren fs1) := by
  -- the state after the child: what the children before it took, then what its fragment took
  have hT : Took A0 P0 (tblFns c.tbl (fragLinesList s2.newChildren) ++ fragFns c frag) fs1 := hK.took.trans hchild
  cases frag with
  | some f =>
    -- the child is appended
    have hnew : KState c A0 P0 Ltot (s2.newChildren ++ [f.withIdx index]) fs1 := by
      have e : tblFns c.tbl (fragLinesList (s2.newChildren ++ [f.withIdx index])) =
          tblFns c.tbl (fragLinesList s2.newChildren) ++ fragFns c (some f) := by
        rw [fragFns_some, fragLinesList_append, tblFns_append]
        simp [fragLinesList]
      refine ⟨hT.ok, e ▸ hT.hact, e ▸ hT.pers, fun l hl => ?_⟩
      rw [fragLinesList_append] at hl
      simp only [fragLinesList, fragLines_withIdx, List.append_nil, List.mem_append] at hl
      exact hl.elim (hK.sub l) (hsubf f rfl l)
    constructor
    · intro out s3 h
      cases resume with
      | some r' =>
        simp only [concludeKid, Prod.mk.injEq, Option.some.injEq] at h
        obtain ⟨rfl, _⟩ := h
        simpa [outKids, earlierUnlay] using hnew
      | none => simp [concludeKid] at h
    · intro s3 h
      obtain ⟨_, hf, _, rfl⟩ := conclude_continue h
      cases hf
      exact hnew
  | none =>
    -- nothing fits: the state is the one before the child
    rw [show fragFns c none = [] from rfl, List.append_nil] at hT
    have hsame : KState c A0 P0 Ltot s2.newChildren fs1 := ⟨hT.ok, hT.hact, hT.pers, hK.sub⟩
    constructor
    · intro out s3 h
      -- the layout goes back to an earlier break, or the outcome keeps the children as they are and nothing is un-laid-out
      have hout : (∃ kept r', avoidsPage pb = true ∧ findEarlierList s2.newChildren = some (kept, r') ∧ outKids out = kept) ∨
          (outKids out = s2.newChildren ∧ earlierUnlay c pb s2 none fs1 = fs1) := by
        unfold concludeKid at h
        unfold earlierUnlay
        dsimp only at h ⊢
        split at h
        · rename_i kept r' he
          cases h
          split at he
          · rename_i hav; exact .inl ⟨kept, r', hav, he, rfl⟩
          · cases he
        · rename_i he
          refine .inr ⟨?_, ?_⟩
          · split at h
            · cases h; rfl
            · split at h <;> cases h <;> rfl
          · split
            · rename_i hav; rw [if_pos hav] at he; rw [he]
            · rfl
      rcases hout with ⟨kept, r', hav, hfe, hk⟩ | ⟨hk, hu⟩
      · rw [hk]
        simp only [earlierUnlay, hav, hfe, if_true]
        obtain ⟨t, ht⟩ := findEarlierGo_prefix s2.newChildren kept r' hfe
        have hdrop : (flinesList s2.newChildren).drop (flinesList kept).length = t := by
          rw [flinesList_eq, flinesList_eq, ht, List.drop_left' rfl]
        rw [hdrop]
        -- the lines after the earlier break are cut
        have hnd := hT.ok.actnd
        rw [ht, tblFns_append] at hT
        rw [hT.hact, ← List.append_assoc, List.nodup_append] at hnd
        have := hT.cut c (tblFns c.tbl t) (fun g hg hG => hnd.2.2 g hg g hG rfl) (fun _ h => h)
        exact ⟨this.ok, this.hact, this.pers, fun l hl => hK.sub l (by rw [ht]; simp [hl])⟩
      · rw [hk, hu]
        exact hsame
    · intro s3 h
      obtain ⟨_, hf, _⟩ := conclude_continue h
      cases hf

/-! ### the block after its children loop -/

theorem finishBlock_cases (c : Ctx) (st : PStyle) (p : Prep) (pie : Bool) (id idx : Nat) (out : KidsOutcome) :
    (∀ page s, out = .aborted page s → (finishBlock c st p pie id idx out).frag = none) ∧
    (∀ resume s, out = .stopped resume s →
      (dropped st pie (forgetIfFixed st p.b s.posY resume) = true → (finishBlock c st p pie id idx out).frag = none) ∧
      (dropped st pie (forgetIfFixed st p.b s.posY resume) = false →
        ∃ g, (finishBlock c st p pie id idx out).frag = some (.block id idx st g s.newChildren))) ∧
    (∀ s, out = .finished s → ∃ g, (finishBlock c st p pie id idx out).frag = some (.block id idx st g s.newChildren)) := by
  refine ⟨?_, ?_, ?_⟩
  · intro page s h; subst h; simp [finishBlock, abortResult]
  · intro resume s h; subst h
    simp only [finishBlock]
    unfold finishContainer dropped
    constructor
    · intro hd; rw [if_pos hd]
    · intro hd; rw [if_neg (by simp [hd])]; exact ⟨_, rfl⟩
  · intro s h; subst h
    simp only [finishBlock]
    unfold finishContainer
    simp

theorem linesFrom_block (id : Nat) (st : PStyle) (kids : List PBox) (skip : Option Resume) :
    linesFrom (.block id st kids) skip = linesFromKids (kids.drop (skipIdxOf skip)) 0 (subSkipOf skip) :=
  linesFromKids_eq_drop kids _ _

theorem finishBlockF_state (c : FCtx) (id : Nat) (st : PStyle) (kids : List FootBox)
    (hok : FootOkList c.tbl kids) (p : Prep) (pie : Bool) (idx : Nat) (skip : Option Resume) (out : KidsOutcome)
    (fs fs' : FState) (hskip : skip.isSome = true → pie = true)
    (hP : ∀ g ∈ tblFns c.tbl (linesFrom (FootBox.block id st kids).erase skip), g ∈ fs.pending)
    (hK : KState c (act fs) fs.pending (linesFrom (FootBox.block id st kids).erase skip) (outKids out) fs')
    (hab : ∀ page s, out = .aborted page s → pie = false) :
    StatePost c fs (finishBlockF c st (dropKids kids (skipIdxOf skip)) p pie id idx out fs').r.frag
      (finishBlockF c st (dropKids kids (skipIdxOf skip)) p pie id idx out fs').fs := by
  obtain ⟨hc1, hc2, hc3⟩ := finishBlock_cases (ctxOf c fs') st p pie id idx out
  -- un-laying-out every call of the block restores the entry state, when the block is new on this page
  have hdrop : pie = false → StatePost c fs none
      (unlayAll c fs' (tblFns c.tbl (flinesList (outKids out)) ++ boxFnsList (dropKids kids (skipIdxOf skip)))) := by
    intro hpie
    have hsk : skip = none := by
      cases skip with
      | none => rfl
      | some x => have := hskip rfl; rw [hpie] at this; cases this
    subst hsk
    rw [flinesList_eq]
    apply unlay_all_state c fs fs' _ _ hK.took _ (fun g hg => List.mem_append.mpr (Or.inl hg))
    intro g hg
    apply hP
    rcases List.mem_append.mp hg with h | h
    · exact tblFns_sub c.tbl _ _ hK.sub g h
    · simp only [skipIdxOf_none, dropKids] at h
      rw [boxFnsList_mem_iff c.tbl kids hok g] at h
      simpa [FootBox.erase, linesFrom] using h
  have hkeep : ∀ geo, StatePost c fs (some (Frag.block id idx st geo (outKids out))) fs' := by
    intro geo
    have hff : fragFns c (some (Frag.block id idx st geo (outKids out))) =
        tblFns c.tbl (fragLinesList (outKids out)) := by
      simp [fragFns, flines, flinesList_eq]
    rw [StatePost, hff]
    exact hK.took
  simp only [finishBlockF_r]
  cases out with
  | aborted page s =>
    simp only [finishBlockF]
    rw [hc1 page s rfl]
    exact hdrop (hab page s rfl)
  | stopped resume s =>
    obtain ⟨hd1, hd2⟩ := hc2 resume s rfl
    simp only [finishBlockF]
    rw [show outResume st p (KidsOutcome.stopped resume s) = forgetIfFixed st p.b s.posY resume from rfl]
    by_cases hdr : dropped st pie (forgetIfFixed st p.b s.posY resume) = true
    · rw [if_pos hdr, hd1 hdr]
      apply hdrop
      unfold dropped at hdr
      simp only [Bool.and_eq_true, Bool.not_eq_true'] at hdr
      exact hdr.2
    · rw [if_neg hdr]
      obtain ⟨geo, hfr⟩ := hd2 (by simpa using hdr)
      rw [hfr]
      exact hkeep geo
  | finished s =>
    obtain ⟨geo, hfr⟩ := hc3 s rfl
    simp only [finishBlockF]
    rw [hfr]
    exact hkeep geo

/-! ### the mutual induction over the source tree -/

/-- The child about to be laid out has its footnotes pending: `Lp` are the lines already placed, `Lc` the
lines of the child, `Lr` the lines after it. -/
theorem child_pre (tbl : List (Nat × Nat × Fn)) (Lp Lc Lr : List (Nat × Nat)) (P0 : List Fn) (fs : FState)
    (hND : (tblFns tbl (Lp ++ (Lc ++ Lr))).Nodup) (hP : ∀ g ∈ tblFns tbl (Lp ++ (Lc ++ Lr)), g ∈ P0)
    (hJ : ∀ g ∈ P0, g ∈ fs.pending ∨ g ∈ tblFns tbl Lp) :
    (tblFns tbl Lc).Nodup ∧ ∀ g ∈ tblFns tbl Lc, g ∈ fs.pending := by
  rw [tblFns_append, tblFns_append] at hND hP
  exact mid_pending _ _ _ _ _ hND hP hJ

/-- The footnote state after `_in_flow_layout`: as if the fragment kept for the child had been laid out once. -/
theorem kidResultF_state (c : FCtx) (st : PStyle) (child : FootBox) (index : Nat) (bs : Rat) (pie : Bool) (s : KidsLoop)
    (fs : FState)
    (hbox : ∀ (bs : Rat) (cur : List Rat) (fs0 : FState), StOk fs0 → (∀ g ∈ fs.pending, g ∈ fs0.pending) →
      StatePost c fs0 (layoutBoxF c child index s.posY bs s.skip st.isRoot (pie && s.newChildren.isEmpty) cur fs0).r.frag
        (layoutBoxF c child index s.posY bs s.skip st.isRoot (pie && s.newChildren.isEmpty) cur fs0).fs)
    (hst : StOk fs) :
    StatePost c fs (kidResultF c st child index bs pie s fs).1.1 (kidResultF c st child index bs pie s fs).2 := by
  unfold kidResultF
  dsimp only
  have hR := hbox bs s.cur fs hst fun _ h => h
  generalize hfp : firstPass _ bs _ s.posY _ = fp
  cases fp with
  | keep frag y => exact firstPassUnlay_keep c _ bs _ s.posY _ fs _ frag y hR hfp
  | redo bs' =>
    have h1 := firstPassUnlay_redo c _ fs _ bs' hR
    exact Took.trans h1 (hbox _ _ _ h1.ok h1.pending_none)

mutual
/-- **State post-condition of `block_level_layout`** (any `footnote-policy`, no fixed height): `act` grows
exactly by the footnotes called on the lines of the returned fragment, in line order. -/
theorem boxF_state : (box : FootBox) → ∀ (c : FCtx), FootOk c.tbl box → ∀ (idx : Nat) (y bs : Rat)
    (skip : Option Resume) (cb pie : Bool) (adjL : List Rat) (fs : FState),
    (skip.isSome = true → pie = true) → StOk fs →
    (tblFns c.tbl (linesFrom box.erase skip)).Nodup →
    (∀ g ∈ tblFns c.tbl (linesFrom box.erase skip), g ∈ fs.pending) →
    StatePost c fs (layoutBoxF c box idx y bs skip cb pie adjL fs).r.frag
      (layoutBoxF c box idx y bs skip cb pie adjL fs).fs
  | .para id n lineH st calls => by
    intro c hok idx y bs skip cb pie adjL fs hskip hst hND hP
    have htbl : ∀ i, tblFns c.tbl [(id, i)] = lineFns st calls i := by
      simp only [FootOk] at hok; exact hok.2.2.2.2
    have hl : tblFns c.tbl (linesFrom (FootBox.para id n lineH st calls).erase skip) =
        idxFns st calls (List.range' (paraStart skip) (n - paraStart skip)) := by
      simp only [FootBox.erase, linesFrom, paraLines]
      exact tblFns_para c.tbl id st calls htbl _
    rw [hl] at hND hP
    exact paraF_state id n lineH st calls c hok idx y bs skip cb pie adjL fs hskip hst hND hP
  | .block id st kids => by
    intro c hok idx y bs skip cb pie adjL fs hskip hst hND hP
    have hokl : FootOkList c.tbl kids := by simp only [FootOk] at hok; exact hok.2
    simp only [layoutBoxF]
    generalize hp : prepare (ctxOf c fs) st y bs skip cb pie adjL = p
    have hL : linesFrom (FootBox.block id st kids).erase skip =
        linesFromKids ([] ++ (eraseList kids).drop (skipIdxOf skip - 0)) 0 (subSkipOf skip) := by
      simp only [FootBox.erase, List.nil_append, Nat.sub_zero]
      exact linesFrom_block id st (eraseList kids) skip
    have hk := kidsF_state kids c hokl st [] (skipIdxOf skip) (subSkipOf skip) 0 (skipIdxOf skip) p.bs pie
      { newChildren := [], posY := p.posY, adjL := p.adjL, cur := p.cur, curIsL := p.curIsL,
        nextPage := { brk := none, page := none }, skip := subSkipOf skip } fs (act fs) fs.pending
      (linesFrom (FootBox.block id st kids).erase skip) hL
      (by simp [GoodList]) (by simp [FullFrom]) (by intro _; exact ⟨rfl, rfl⟩) (by intro h; simp; omega)
      (by simp)
      (by
        intro h
        apply hskip
        cases skip with
        | none => simp [subSkipOf] at h
        | some x => rfl)
      hND hP
      ⟨hst, by simp [fragLinesList, tblFns], fun g hg => Or.inl hg, by simp [fragLinesList]⟩
    apply finishBlockF_state c id st kids hokl p pie idx skip _ fs _ hskip hP hk
    intro page s hab
    cases hpie : pie with
    | false => rfl
    | true =>
      exfalso
      subst hpie
      exact kidsF_not_aborted kids c st 0 (skipIdxOf skip) p.bs _ fs page s hab

/-- The children loop: `KState` is kept from iteration to iteration and holds for the outcome. `B`, `i0`, `sub0` and
the hypotheses on them are the invariant of `kidsF_spec`, carried only to know where the lines of the child about to
be laid out stand in `Ltot`. -/
theorem kidsF_state : (rest : List FootBox) → ∀ (c : FCtx), FootOkList c.tbl rest → ∀ (st : PStyle) (B : List PBox)
    (i0 : Nat) (sub0 : Option Resume) (index skipIdx : Nat) (bs : Rat) (pie : Bool) (s : KidsLoop) (fs : FState)
    (A0 P0 : List Fn) (Ltot : List (Nat × Nat)),
    Ltot = linesFromKids (B ++ (eraseList rest).drop (skipIdx - index)) 0 sub0 →
    GoodList B → FullFrom s.newChildren B i0 sub0 →
    (index < skipIdx → B = [] ∧ i0 = skipIdx) → (skipIdx ≤ index → index = i0 + B.length) →
    s.skip = (if B = [] then sub0 else none) →
    (sub0.isSome = true → pie = true) →
    (tblFns c.tbl Ltot).Nodup → (∀ g ∈ tblFns c.tbl Ltot, g ∈ P0) →
    KState c A0 P0 Ltot s.newChildren fs →
    KState c A0 P0 Ltot (outKids (layoutKidsF c st rest index skipIdx bs pie s fs).1)
      (layoutKidsF c st rest index skipIdx bs pie s fs).2
  | [] => by
    intro c _ st B i0 sub0 index skipIdx bs pie s fs A0 P0 Ltot _ _ _ _ _ _ _ _ _ hK
    simpa [layoutKidsF, outKids] using hK
  | child :: rest => by
    intro c hok st B i0 sub0 index skipIdx bs pie s fs A0 P0 Ltot hL hgB hinv hlt hge hskip hpie hND hP hK
    simp only [FootOkList] at hok
    simp only [eraseList] at hL
    rw [layoutKidsF_turn]
    by_cases hc : index < skipIdx
    · rw [if_pos hc]
      obtain ⟨hB, hi0⟩ := hlt hc
      rw [Seg.drop_skipped hc] at hL
      exact kidsF_state rest c hok.2 st B i0 sub0 (index + 1) skipIdx bs pie s fs A0 P0 Ltot hL hgB hinv
        (fun _ => ⟨hB, hi0⟩) (by intro _; subst hB; simp; omega) hskip hpie hND hP hK
    · rw [if_neg hc]
      have hidx := hge (by omega)
      have hd : skipIdx - index = 0 := by omega
      have hd' : skipIdx - (index + 1) = 0 := by omega
      rw [hd, List.drop_zero] at hL
      unfold kidStepF
      dsimp only
      by_cases hm : (meetBreak s child.erase).2 = true
      · -- forced break before `child`
        rw [if_pos hm]
        simpa [outKids] using hK
      · rw [if_neg hm]
        have hgood : Good child.erase := footOk_good c.tbl child hok.1
        -- the lines: placed ++ child ++ rest
        have hLsplit : Ltot = fragLinesList s.newChildren ++
            (linesFrom child.erase s.skip ++ linesFromKids (eraseList rest) 0 none) := by
          rw [hL, linesFromKids_append_zero, full_lines.2 hinv, hskip]
          simp [linesFromKids]
        have hpre := child_pre c.tbl _ _ _ P0 fs (by rw [← hLsplit]; exact hND) (by rw [← hLsplit]; exact hP) hK.pers
        have hskipc : s.skip.isSome = true → (pie && s.newChildren.isEmpty) = true := by
          intro h
          rw [hskip] at h
          by_cases hB : B = []
          · rw [if_pos hB] at h
            have hlen := fullFrom_length _ _ _ _ hinv
            rw [hB] at hlen
            have : s.newChildren = [] := List.length_eq_zero_iff.mp (by simpa using hlen)
            simp [this, hpie h]
          · rw [if_neg hB] at h; cases h
        have hnc := kidResultF_newChildren c st child index bs pie s fs
        have hsk := kidResultF_skip c st child index bs pie s fs
        have hpost := kidResultF_post c st child index bs pie s fs fun _ _ _ => boxF_spec child hgood _ _ _ _ _ _ _ _ _
        have hstate := kidResultF_state c st child index bs pie s fs (fun bs' cur fs0 h0 hp0 =>
          boxF_state child c hok.1 index s.posY bs' s.skip st.isRoot _ cur fs0 hskipc h0 hpre.1
            fun g hg => hp0 g (hpre.2 g hg)) hK.ok
        generalize kidResultF c st child index bs pie s fs = x at hnc hsk hpost hstate ⊢
        have hcs := conclude_state c A0 P0 Ltot index pie (meetBreak s child.erase).1 child.erase x.1.2.2 x.1.1
          x.1.2.1.resume fs x.2 (hnc ▸ hK) hstate fun f hf l hl => by
            -- the lines of whatever fragment of the child is kept are lines of `Ltot`
            rw [hLsplit, ← boxPost_lines _ _ _ _ f hpost hf]
            simp [hl]
        have hcp := conclude_spec index pie (meetBreak s child.erase).1 child.erase x.1.2.2 x.1.1 x.1.2.1.resume B
          (eraseList rest) i0 sub0 hgB (hnc ▸ hinv) hidx (hskip ▸ hpost)
        generalize hck : concludeKid index pie _ _ _ _ _ = ck at hcs hcp ⊢
        rcases ck with ⟨_ | out, s3⟩
        · exact kidsF_state rest c hok.2 st (B ++ [child.erase]) i0 sub0 (index + 1) skipIdx bs pie s3 x.2 A0 P0 Ltot
            (by rw [hL, hd', List.drop_zero]; simp)
            (goodList_append _ _ hgB (by simp [GoodList, hgood])) (hcp.2 s3 rfl).1 (by intro _; omega)
            (by intro _; simp; omega) (by simp [(hcp.2 s3 rfl).2, hsk]) hpie hND hP (hcs.2 s3 rfl)
        · exact hcs.1 out s3 rfl
end

end Wp.PMF
