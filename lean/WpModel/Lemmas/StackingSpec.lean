/-
A *pure* specification of the dispatcher of `stacking.py`
(`dispatchS`: what one call appends to each of the four threaded lists) and the proof that the literal
state-passing model (`Model/Stacking.lean`: mutable lists, `len` remembered, `insert` at the index,
the `assert`) computes exactly that.  All C17 theorems about buckets are proved on `dispatchS` and
transported by `dispatch_eq`.
-/
import WpModel.Model.Stacking

namespace Wp.Stacking
open Wp Wp.Gen

/-- What one `_dispatch` call appends to `child_contexts`, `blocks`, `floats`, `blocks_and_cells`. -/
structure Delta where
  cc : List Node := []
  blocks : List Node := []
  floats : List Node := []
  bc : List Node := []
  deriving Repr, Inhabited

def St.app (st : St) (d : Delta) : St :=
  { cc := st.cc ++ d.cc, blocks := st.blocks ++ d.blocks, floats := st.floats ++ d.floats,
    bc := st.bc ++ d.bc, failed := st.failed }

def Delta.append (d e : Delta) : Delta :=
  { cc := d.cc ++ e.cc, blocks := d.blocks ++ e.blocks, floats := d.floats ++ e.floats,
    bc := d.bc ++ e.bc }

@[simp] theorem St.app_empty (st : St) : st.app {} = st := by
  cases st; simp [St.app]

theorem St.app_app (st : St) (d e : Delta) : (st.app d).app e = st.app (d.append e) := by
  simp [St.app, Delta.append, List.append_assoc]

/-- `_dispatch` as a function of the box (with its already dispatched children `self`, and what
dispatching those children appended: `inner`). -/
def coreS (a : Attrs) (self : Node) (inner : Delta) : Option Node × Delta :=
  if definesContext a then
    (none, { cc := [mkCtx self inner.cc inner.blocks inner.floats inner.bc] })
  else if a.positioned then
    (none, { cc := mkCtx self [] inner.blocks inner.floats inner.bc :: inner.cc })
  else if a.floated then
    (none, { cc := inner.cc, floats := [mkCtx self [] inner.blocks inner.floats inner.bc] })
  else if a.kind.dispStackingClass then
    (some (mkCtx self [] inner.blocks inner.floats inner.bc), { cc := inner.cc })
  else
    (some self,
      { cc := inner.cc
        blocks := if a.kind.dispBlockLevel then self :: inner.blocks else inner.blocks
        floats := inner.floats
        bc := if a.kind.dispBlockLevel || a.kind.dispCell then self :: inner.bc else inner.bc })

mutual
def dispatchS : Box → Option Node × Delta
  | .ph b => dispatchS b
  | .leaf a => coreS a (.leaf a) {}
  | .node a kids => coreS a (.node a (listS kids).1) (listS kids).2
def listS : List Box → List Node × Delta
  | [] => ([], {})
  | k :: ks =>
    ((match (dispatchS k).1 with | some n => n :: (listS ks).1 | none => (listS ks).1),
     (dispatchS k).2.append (listS ks).2)
end

/-- The loop of `_dispatch_children` keeps the results that are not `None`, in order. -/
theorem listS_cons (k : Box) (ks : List Box) :
    listS (k :: ks) =
      ((dispatchS k).1.toList ++ (listS ks).1, (dispatchS k).2.append (listS ks).2) := by
  rw [listS]
  cases (dispatchS k).1 <;> rfl

/-- `_dispatch_children` / `from_box` / `from_page`, purely. -/
def childrenS : Box → Node × Delta
  | .leaf a => (.leaf a, {})
  | .node a kids => (.node a (listS kids).1, (listS kids).2)
  | .ph b => (.ph b, {})

def fromBoxS (b : Box) : Node :=
  let r := childrenS b
  mkCtx r.1 r.2.cc r.2.blocks r.2.floats r.2.bc

def fromPageS (page : Attrs) (children : List Box) : Node :=
  mkCtx (.node page []) (children.map fromBoxS) [] [] []

/-- The case analysis of `_dispatch`: the tests are tried in this order, the first that holds decides
what is returned and appended. -/
theorem coreS_cases (a : Attrs) (self : Node) (inner : Delta) {P : Prop}
    (defines : definesContext a = true →
      coreS a self inner = (none, { cc := [mkCtx self inner.cc inner.blocks inner.floats inner.bc] }) → P)
    (positioned : definesContext a = false → a.positioned = true →
      coreS a self inner =
        (none, { cc := mkCtx self [] inner.blocks inner.floats inner.bc :: inner.cc }) → P)
    (floated : definesContext a = false → a.positioned = false → a.floated = true →
      coreS a self inner =
        (none, { cc := inner.cc, floats := [mkCtx self [] inner.blocks inner.floats inner.bc] }) → P)
    (atomic : definesContext a = false → a.positioned = false → a.floated = false →
      a.kind.dispStackingClass = true →
      coreS a self inner =
        (some (mkCtx self [] inner.blocks inner.floats inner.bc), { cc := inner.cc }) → P)
    (inTree : definesContext a = false → a.positioned = false → a.floated = false →
      a.kind.dispStackingClass = false →
      coreS a self inner =
        (some self,
          { cc := inner.cc
            blocks := if a.kind.dispBlockLevel then self :: inner.blocks else inner.blocks
            floats := inner.floats
            bc := if a.kind.dispBlockLevel || a.kind.dispCell then self :: inner.bc else inner.bc }) →
      P) : P := by
  cases h1 : definesContext a
  case true => exact defines h1 (if_pos h1)
  cases h2 : a.positioned
  case true => exact positioned h1 h2 (by simp [coreS, h1, h2])
  cases h3 : a.floated
  case true => exact floated h1 h2 h3 (by simp [coreS, h1, h2, h3])
  cases h4 : a.kind.dispStackingClass
  case true => exact atomic h1 h2 h3 h4 (by simp [coreS, h1, h2, h3, h4])
  exact inTree h1 h2 h3 h4 (by simp [coreS, h1, h2, h3, h4])

/-- The box leaves the normal tree (`_dispatch` branches 1–3). -/
def leavesTree (a : Attrs) : Bool := definesContext a || a.positioned || a.floated

/-- One `_dispatch` step keeps any additive measure.  `μ0` measures contexts, `μt` what stays in the
tree (they agree on contexts); a context around `self` measures `cut (c + its child contexts + its
floats)`, where `cut` (nothing is due below a singular transform) can only act on a box that defines
a context; `c` is what `self` counts as a context root, which need not be what it counts in the tree. -/
theorem sum_coreS (μt μ0 : Node → Nat) (a : Attrs) (self : Node) (inner : Delta) (c : Nat) (cut : Nat → Nat)
    (hcut : definesContext a = false → ∀ x, cut x = x)
    (h0 : ∀ own bl fl bc, μ0 (mkCtx self own bl fl bc) = cut (c + (own.map μ0).sum + (fl.map μ0).sum))
    (ht : ∀ own bl fl bc, μt (mkCtx self own bl fl bc) = μ0 (mkCtx self own bl fl bc)) :
    ((coreS a self inner).1.toList.map μt).sum + ((coreS a self inner).2.cc.map μ0).sum +
      ((coreS a self inner).2.floats.map μ0).sum =
    cut ((if leavesTree a || a.kind.dispStackingClass then c else μt self) +
      (inner.cc.map μ0).sum + (inner.floats.map μ0).sum) := by
  refine coreS_cases a self inner (fun h1 e => ?_) (fun h1 h2 e => ?_) (fun h1 h2 h3 e => ?_)
    (fun h1 h2 h3 h4 e => ?_) (fun h1 h2 h3 h4 e => ?_) <;> rw [e]
  · simp [leavesTree, h1, h0]
  · simp [leavesTree, h1, h2, h0, hcut h1]; omega
  · simp [leavesTree, h1, h2, h3, h0, hcut h1]; omega
  · simp [leavesTree, h1, h2, h3, h4, h0, ht, hcut h1]; omega
  · rw [hcut h1]; simp [leavesTree, h1, h2, h3, h4]

/-- `list.insert(len_before, x)` after appends lands right after the old prefix. -/
theorem insertAt_length_append {α} (l d : List α) (x : α) :
    insertAt l.length x (l ++ d) = l ++ x :: d := by
  induction l with
  | nil => cases d <;> rfl
  | cons y ys ih => simp [insertAt, ih]

/-- The `assert` of `_dispatch`: a positioned box that creates no context has `z-index: auto`. -/
theorem z_none_of_positioned (a : Attrs) (h : definesContext a = false) (hp : a.positioned = true) : a.z = none := by
  cases hz : a.z with
  | none => rfl
  | some z => simp [definesContext, hp, hz] at h

/-- One `_dispatch` step, given that the children function behaves as a pure append. -/
theorem dispatchCore_eq (a : Attrs) (children : St → Node × St) (self : Node) (inner : Delta)
    (h : ∀ s, children s = (self, s.app inner)) (st : St) :
    dispatchCore a children st = ((coreS a self inner).1, st.app (coreS a self inner).2) := by
  refine coreS_cases a self inner (fun h1 e => ?_) (fun h1 h2 e => ?_) (fun h1 h2 h3 e => ?_)
    (fun h1 h2 h3 h4 e => ?_) (fun h1 h2 h3 h4 e => ?_) <;> rw [e]
  · simp [dispatchCore, h1, fromBoxWith, h, St.app]
  · simp [dispatchCore, h1, h2, z_none_of_positioned a h1 h2, fromBoxWith, h, St.app, insertAt_length_append]
  · simp [dispatchCore, h1, h2, h3, fromBoxWith, h, St.app]
  · simp [dispatchCore, h1, h2, h3, h4, fromBoxWith, h, St.app]
  · cases hb : a.kind.dispBlockLevel <;> cases hc : a.kind.dispCell <;>
      simp [dispatchCore, h1, h2, h3, h4, hb, hc, h, St.app, insertAt_length_append]

mutual
theorem dispatch_eq : ∀ (b : Box) (st : St),
    dispatch b st = ((dispatchS b).1, st.app (dispatchS b).2)
  | .ph b, st => by rw [dispatch, dispatchS]; exact dispatch_eq b st
  | .leaf a, st => by
    rw [dispatch, dispatchS]
    exact dispatchCore_eq a _ (.leaf a) {} (fun s => by simp) st
  | .node a kids, st => by
    rw [dispatch, dispatchS]
    exact dispatchCore_eq a _ (.node a (listS kids).1) (listS kids).2
      (fun s => by simp [dispatchList_eq kids s]) st
theorem dispatchList_eq : ∀ (l : List Box) (st : St),
    dispatchList l st = ((listS l).1, st.app (listS l).2)
  | [], st => by simp [dispatchList, listS]
  | k :: ks, st => by
    rw [dispatchList, listS]
    simp only [dispatch_eq k st, dispatchList_eq ks, St.app_app]
    cases (dispatchS k).1 <;> rfl
end

theorem dispatchChildren_eq (b : Box) (st : St) :
    dispatchChildren b st = ((childrenS b).1, st.app (childrenS b).2) := by
  cases b with
  | leaf a => simp [dispatchChildren, childrenS]
  | node a kids => simp [dispatchChildren, childrenS, dispatchList_eq]
  | ph b => simp [dispatchChildren, childrenS]

/-- `from_box(box, page)` (no shared list): the context of the specification, assert flag clear. -/
theorem fromBox_none_eq (b : Box) : fromBox b none = (fromBoxS b, none, false) := by
  simp [fromBox, fromBoxWith, dispatchChildren_eq, fromBoxS, St.app]

/-- `StackingContext.from_page`: the pure specification, and the assert is unreachable. -/
theorem fromPage_eq (page : Attrs) (children : List Box) :
    fromPage page children = (fromPageS page children, false) := by
  simp [fromPage, fromPageS, fromBox_none_eq, Function.comp_def]

end Wp.Stacking
