/-
Text through the anonymous-table rules (`table_boxes_children`, `wrap_improper`, `wrap_table`): the
visible characters of the result are a permutation of those of the input (tables move captions,
headers and footers), white-space text between table parts and the content of columns aside.
-/
import WpModel.Lemmas.Pipeline
import WpModel.Lemmas.TableRules
import WpModel.Lemmas.RowGroups

namespace Wp.Bx
open KBox

/-- The characters `is_whitespace` does not call white space. -/
def vis (t : Text) : Text := t.filter (fun c => !Gen.reSpaceCp c)

theorem vis_append (a b : Text) : vis (a ++ b) = vis a ++ vis b := by simp [vis]

@[simp] theorem vis_nil : vis [] = [] := rfl

/-- Same visible characters, up to order. -/
def PT (a b : Text) : Prop := (vis a).Perm (vis b)

theorem PT.refl (a : Text) : PT a a := List.Perm.refl _
theorem PT.trans {a b c : Text} (h1 : PT a b) (h2 : PT b c) : PT a c := List.Perm.trans h1 h2
theorem PT.symm {a b : Text} (h : PT a b) : PT b a := List.Perm.symm h
theorem PT.of_eq {a b : Text} (h : vis a = vis b) : PT a b := by unfold PT; rw [h]
theorem PT.append {a b c d : Text} (h1 : PT a b) (h2 : PT c d) : PT (a ++ c) (b ++ d) := by
  unfold PT; rw [vis_append, vis_append]; exact List.Perm.append h1 h2
theorem PT.comm (a b : Text) : PT (a ++ b) (b ++ a) := by
  unfold PT; rw [vis_append, vis_append]; exact List.perm_append_comm

theorem vis_of_noSp_eq {a b : Text} (h : noSp a = noSp b) : vis a = vis b := by
  have key : ∀ t : Text, vis t = vis (noSp t) := by
    intro t
    unfold vis noSp
    rw [List.filter_filter]
    apply List.filter_congr
    intro c _
    by_cases hc : c = 32
    · subst hc; decide
    · simp [hc]
  rw [key a, key b, h]

theorem vis_whitespace (c : KBox) (hl : TextLeaf c) (h : isWhitespace c = true) : vis (leafText c) = [] := by
  unfold isWhitespace at h
  simp only [Bool.and_eq_true] at h
  rw [leafText_of_text c hl h.1]
  unfold vis allReSpace at *
  rw [List.filter_eq_nil_iff]
  intro x hx
  simp [List.all_eq_true.mp h.2 x hx]

/-- White-space text boxes carry no visible character. -/
theorem vis_filter_nonwhite : ∀ (l : List KBox), TidyL l →
    vis (leafTextL (l.filter fun c => !isWhitespace c)) = vis (leafTextL l)
  | [], _ => rfl
  | c :: cs, h => by
    unfold TidyL at h
    have ih := vis_filter_nonwhite cs h.2
    by_cases hw : isWhitespace c = true
    · simp only [List.filter_cons, hw, Bool.not_true, Bool.false_eq_true, if_false, leafTextL, vis_append,
        vis_whitespace c (tidy_textLeaf h.1) hw, List.nil_append, ih]
    · simp only [List.filter_cons, hw, Bool.not_false, if_true, leafTextL, vis_append, ih]

/-- A rule that only removes boxes and keeps those that are not white-space text keeps the visible text. -/
theorem vis_of_keeps_nonwhite {l' l : List KBox} (hs : l'.Sublist l) (h : TidyL l)
    (hk : l'.filter (fun c => !isWhitespace c) = l.filter (fun c => !isWhitespace c)) :
    vis (leafTextL l') = vis (leafTextL l) ∧ TidyL l' :=
  have t := tidyL_sub h fun _ hc => hs.subset hc
  ⟨by rw [← vis_filter_nonwhite l' t, hk, vis_filter_nonwhite l h], t⟩

/-! ### writing grid positions back does not touch the text -/

theorem setRow_text (cs : List KBox) : ∀ (os : List TableGrid.CellOut),
    leafTextL (setRow cs os) = leafTextL cs ∧ (TidyL cs → TidyL (setRow cs os)) := by
  intro os
  fun_induction setRow cs os
  case case1 ih =>
    simp only [leafTextL, leafText_withInst, ih.1, TidyL, tidy_withInst]
    exact ⟨trivial, fun h => ⟨h.1, ih.2 h.2⟩⟩
  case case2 => exact ⟨rfl, id⟩

theorem leafText_withKids_same (b : KBox) (ks : List KBox) (h : leafTextL ks = leafTextL b.kids) :
    leafText (b.withKids ks) = leafText b := by
  rw [leafText_withKids, leafText_eq b, h]

theorem setRow_nil_of_nil (os : List TableGrid.CellOut) : setRow [] os = [] := by cases os <;> rfl

theorem setGroup_text (rs : List KBox) : ∀ (os : List (List TableGrid.CellOut)),
    leafTextL (setGroup rs os) = leafTextL rs ∧ (TidyL rs → TidyL (setGroup rs os)) := by
  intro os
  fun_induction setGroup rs os
  case case1 r _ o _ ih =>
    simp only [leafTextL, TidyL]
    refine ⟨by rw [leafText_withKids_same r _ (setRow_text r.kids o).1, ih.1], ?_⟩
    intro h
    refine ⟨tidy_withKids' r _ h.1 (setRow_text r.kids o).2 ?_, ih.2 h.2⟩
    by_cases ht : r.isA .TextBox = true
    · left; rw [(tidy_parts h.1).1 ht]; exact setRow_nil_of_nil o
    · right; simpa using ht
  case case2 => exact ⟨rfl, id⟩

theorem setGroup_nil_of_nil (os : List (List TableGrid.CellOut)) : setGroup [] os = [] := by cases os <;> rfl

theorem setGroups_text (gs : List KBox) : ∀ (os : List (List (List TableGrid.CellOut))),
    leafTextL (setGroups gs os) = leafTextL gs ∧ (TidyL gs → TidyL (setGroups gs os)) := by
  intro os
  fun_induction setGroups gs os
  case case1 g _ o _ ih =>
    simp only [leafTextL, TidyL]
    refine ⟨by rw [leafText_withKids_same g _ (setGroup_text g.kids o).1, ih.1], ?_⟩
    intro h
    refine ⟨tidy_withKids' g _ h.1 (setGroup_text g.kids o).2 ?_, ih.2 h.2⟩
    by_cases ht : g.isA .TextBox = true
    · left; rw [(tidy_parts h.1).1 ht]; exact setGroup_nil_of_nil o
    · right; simpa using ht
  case case2 => exact ⟨rfl, id⟩

theorem setCols_tidy (cs : List KBox) : ∀ (xs : List Nat), TidyL cs → TidyL (setCols cs xs) := by
  intro xs h
  fun_induction setCols cs xs
  case case1 ih => exact ⟨(tidy_withInst _ _).2 h.1, ih h.2⟩
  case case2 => exact h

/-- Columns and column groups render nothing: their visible text is empty. -/
def ColEmpty (l : List KBox) : Prop :=
  ∀ c ∈ l, (c.kind = .TableColumnBox ∨ c.kind = .TableColumnGroupBox) → vis (leafText c) = []

def AllEmpty (l : List KBox) : Prop := ∀ c ∈ l, vis (leafText c) = []

theorem vis_allEmpty (l : List KBox) (h : AllEmpty l) : vis (leafTextL l) = [] := by
  induction l with
  | nil => rfl
  | cons c cs ih =>
    simp only [leafTextL, vis_append, h c List.mem_cons_self, List.nil_append]
    exact ih (fun d hd => h d (List.mem_cons_of_mem _ hd))

theorem PT.nil_right {a b : Text} (h : PT a b) (hb : vis b = []) : vis a = [] := by
  unfold PT at h; rw [hb] at h; exact h.eq_nil

/-- The text of a list of boxes, up to order, does not depend on the order of the boxes. -/
theorem leafTextL_perm {l l' : List KBox} (h : l.Perm l') : PT (leafTextL l) (leafTextL l') := by
  induction h with
  | nil => exact PT.refl _
  | cons c _ ih => exact PT.append (PT.refl _) ih
  | swap a b l =>
    unfold PT
    simp only [leafTextL, vis_append]
    exact List.perm_append_comm_assoc _ _ _
  | trans _ _ ih1 ih2 => exact ih1.trans ih2

theorem sort_text (l : List KBox) (cols rows caps : List KBox) (h : sortTableKids l = .ok (cols, rows, caps))
    (ht : TidyL l) :
    PT (leafTextL l) (leafTextL cols ++ (leafTextL rows ++ leafTextL caps)) ∧
    TidyL cols ∧ TidyL rows ∧ TidyL caps := by
  have hp := (sortTableKids_perm h).1
  have sub : ∀ c ∈ cols ++ (rows ++ caps), c ∈ l := fun c hc => hp.mem_iff.mpr hc
  exact ⟨by simpa [leafTextL_append] using leafTextL_perm hp,
    tidyL_sub ht fun c hc => sub c (List.mem_append_left _ hc),
    tidyL_sub ht fun c hc => sub c (List.mem_append_right _ (List.mem_append_left _ hc)),
    tidyL_sub ht fun c hc => sub c (List.mem_append_right _ (List.mem_append_right _ hc))⟩

theorem filter_text (p : KBox → Bool) (l : List KBox) :
    PT (leafTextL (l.filter p) ++ leafTextL (l.filter (fun c => !p c))) (leafTextL l) := by
  simpa [leafTextL_append] using leafTextL_perm (List.filter_append_perm p l)

theorem tidyL_filter (p : KBox → Bool) (l : List KBox) (h : TidyL l) : TidyL (l.filter p) :=
  tidyL_sub h (fun _ hc => (List.mem_filter.mp hc).1)

theorem optText (o : Option KBox) : leafTextL o.toList = (match o with | some x => leafText x | none => []) := by
  cases o <;> simp [leafTextL]

/-- Header first, footer last: the row groups are the same boxes up to the two marks, so is their text. -/
theorem wtGroups_text (gs : List KBox) (h : TidyL gs) :
    PT (leafTextL (wtGroups gs)) (leafTextL gs) ∧ TidyL (wtGroups gs) := by
  refine ⟨?_, (tidyL_iff _).2 fun x hx => ?_⟩
  · have hmark : ∀ (o : Option KBox) (m : KBox → KBox), (∀ g, leafText (m g) = leafText g) →
        leafTextL (o.map m).toList = leafTextL o.toList := fun o m hm => by
      cases o <;> simp [leafTextL, hm]
    rw [wtGroups_eq, orderedGroups, leafTextL_append, leafTextL_append,
      hmark _ markHeader (fun g => leafText_withInst g _), hmark _ markFooter (fun g => leafText_withInst g _),
      ← leafTextL_append, ← leafTextL_append]
    exact leafTextL_perm (splitGroups_perm gs)
  · obtain ⟨g, hg, e | e | e⟩ := mem_wtGroups hx
    · exact e ▸ tidy_of_mem h hg
    · exact e ▸ (tidy_withInst g _).2 (tidy_of_mem h hg)
    · exact e ▸ (tidy_withInst g _).2 (tidy_of_mem h hg)

theorem colEmpty_sub {l l' : List KBox} (h : ColEmpty l) (hs : ∀ c ∈ l', c ∈ l) : ColEmpty l' :=
  fun c hc => h c (hs c hc)

theorem allEmpty_sub {l l' : List KBox} (h : AllEmpty l) (hs : ∀ c ∈ l', c ∈ l) : AllEmpty l' :=
  fun c hc => h c (hs c hc)

theorem anon_text (cls : BoxKind) (p : KBox) (ks : List KBox) : (anonFrom cls p ks).text = [] := rfl

theorem anon_isA_text (cls : BoxKind) (p : KBox) (ks : List KBox) (h : Gen.isSub cls .TextBox = false) :
    (anonFrom cls p ks).isA .TextBox = false := h

/-- `table_boxes_children` with fuel `n` keeps the visible text (up to the order of captions and row groups) and the
tidiness of the tree. -/
def TbcText (n : Nat) : Prop :=
  ∀ (box : KBox) (children : List KBox) (r : KBox),
    box.text = [] → box.isA .TextBox = false → TidyL children → ColEmpty children →
    ((Gen.isSub box.kind .TableColumnBox = true ∨ Gen.isSub box.kind .TableColumnGroupBox = true) → AllEmpty children) →
    tbc n box children = .ok r → PT (leafText r) (leafTextL children) ∧ Tidy r

/-- Rules 1.1 – 1.4 keep the visible text: what they drop is white space or the content of a column (group). -/
theorem preKids_text (box : KBox) (children : List KBox) (htidy : TidyL children) (hcole : ColEmpty children)
    (hcol : (Gen.isSub box.kind .TableColumnBox = true ∨ Gen.isSub box.kind .TableColumnGroupBox = true) →
      AllEmpty children) :
    vis (leafTextL (preKids box children)) = vis (leafTextL children) ∧ TidyL (preKids box children) ∧
      ColEmpty (preKids box children) := by
  unfold preKids
  simp only
  have p00 : vis (leafTextL (rule1Kids box children)) = vis (leafTextL children) ∧ TidyL (rule1Kids box children) ∧
      ColEmpty (rule1Kids box children) := by
    have hv := fun hk => vis_allEmpty children (hcol hk)
    fun_cases rule1Kids box children
    case case1 hk => exact ⟨by rw [hv (Or.inl hk)]; rfl, trivial, nofun⟩
    case case2 hk _ =>
      have hrep : AllEmpty (List.replicate (groupSpan box) (anonFrom .TableColumnBox box [])) := by
        intro c hc
        rw [(List.mem_replicate.mp hc).2]
        rfl
      refine ⟨by rw [hv (Or.inr hk), vis_allEmpty _ hrep], ?_, fun c hc _ => hrep c hc⟩
      rw [tidyL_iff]
      intro c hc
      rw [(List.mem_replicate.mp hc).2]
      exact tidy_anon _ _ _ rfl trivial
    case case3 hk _ =>
      exact ⟨by rw [hv (Or.inr hk), vis_allEmpty _ (allEmpty_sub (hcol (Or.inr hk)) fun _ h => List.filter_sublist.subset h)],
        tidyL_filter _ _ htidy, colEmpty_sub hcole fun _ h => List.filter_sublist.subset h⟩
    case case4 => exact ⟨rfl, htidy, hcole⟩
  generalize rule1Kids box children = c00 at p00 ⊢
  obtain ⟨e00, t00, ce00⟩ := p00
  generalize hc01 : (if Gen.tabularContainer box.kind = true then rule13 c00 else c00) = c01
  have p01 : vis (leafTextL c01) = vis (leafTextL c00) ∧ TidyL c01 ∧ (∀ c ∈ c01, c ∈ c00) := by
    rw [← hc01]
    split
    · have r := vis_of_keeps_nonwhite (rule13_sublist c00) t00 (rule13_keeps_nonwhite c00)
      exact ⟨r.1, r.2, fun c hc => (rule13_sublist c00).subset hc⟩
    · exact ⟨rfl, t00, fun c hc => hc⟩
  obtain ⟨e01, t01, s01⟩ := p01
  obtain ⟨e02, t0⟩ := vis_of_keeps_nonwhite (rule14_sublist none c01) t01 (rule14_keeps_nonwhite none c01)
  exact ⟨by rw [e02, e01, e00], t0, colEmpty_sub ce00 (fun c hc => s01 c ((rule14_sublist none c01).subset hc))⟩

theorem wrapper_colEmpty (n : Nat) (wt : BoxKind) (box : KBox) (l : List KBox) (w : KBox)
    (hw : Wp.Bx.tbc n (anonFrom wt box []) l = .ok w) (hcol : Gen.isSub wt .TableColumnBox = false)
    (hcg : Gen.isSub wt .TableColumnGroupBox = false) : ColEmpty [w] := by
  intro c hc hk
  simp only [List.mem_singleton] at hc
  subst hc
  rw [tbc_col_kind hw hk, anonFrom_kind] at hk
  rcases hk with rfl | rfl
  · exact absurd hcol (by decide)
  · exact absurd hcg (by decide)

/-- `wrap_improper` keeps the text, given that `table_boxes_children` does with less fuel than `N`. -/
theorem wi_text {N : Nat} (htbc : ∀ m, m < N → TbcText m) (n : Nat) (hn : n ≤ N) (box : KBox) (children : List KBox)
    (wt : BoxKind) (test : KBox → Bool) (out : List KBox) (tc : TidyL children)
    (cc : ColEmpty children) (hwc : Gen.isSub wt .TableColumnBox = false)
    (hwt : Gen.isSub wt .TextBox = false)
    (hwg : Gen.isSub wt .TableColumnGroupBox = false)
    (h : wrapImproper n box children wt test [] = .ok out) :
    PT (leafTextL out) (leafTextL children) ∧ TidyL out ∧ ColEmpty out := by
  -- the wrapper made for a run of improper children keeps their text
  have wrap : ∀ m improper w, m < N → tbc m (anonFrom wt box []) improper.reverse = .ok w → TidyL improper →
      ColEmpty improper →
      PT (leafText w) (leafTextL improper.reverse) ∧ Tidy w ∧ ColEmpty [w] := by
    intro m improper w hm hw ti ci
    obtain ⟨a, b⟩ := htbc m hm (anonFrom wt box []) improper.reverse w rfl hwt
      (tidyL_sub ti (fun c hc => List.mem_reverse.mp hc)) (colEmpty_sub ci (fun c hc => List.mem_reverse.mp hc))
      (by
        rw [anonFrom_kind]
        rintro (hk | hk)
        · rw [hwc] at hk; cases hk
        · rw [hwg] at hk; cases hk) hw
    exact ⟨a, b, wrapper_colEmpty m wt box _ w hw hwc hwg⟩
  refine wrapImproper_run (N := N) (P := fun children improper out =>
      TidyL children → TidyL improper → ColEmpty children → ColEmpty improper →
      PT (leafTextL out) (leafTextL improper.reverse ++ leafTextL children) ∧ TidyL out ∧ ColEmpty out)
    (fun _ _ _ _ => ⟨PT.refl _, trivial, fun c hc => by cases hc⟩) ?_ ?_ ?_ ?_ n children [] out hn h
    tc trivial cc (fun _ hc => by cases hc)
  · intro m improper w hm _ hw _ ti _ ci
    obtain ⟨a, b, c⟩ := wrap m improper w hm hw ti ci
    exact ⟨by simpa [leafTextL] using a, ⟨b, trivial⟩, c⟩
  · intro m c cs improper w rest hm _ _ hw ih tc ti cc ci
    obtain ⟨a, b, cw⟩ := wrap m improper w hm hw ti ci
    obtain ⟨r1, r2, r3⟩ := ih tc.2 trivial (List.forall_mem_cons.1 cc).2 (fun d hd => by cases hd)
    refine ⟨?_, ⟨b, tc.1, r2⟩, ?_⟩
    · simp only [leafTextL]
      exact PT.append a (PT.append (PT.refl _) (by simpa [leafTextL] using r1))
    · exact List.forall_mem_cons.2 ⟨cw _ List.mem_cons_self, List.forall_mem_cons.2 ⟨cc _ List.mem_cons_self, r3⟩⟩
  · intro c cs rest _ ih tc _ cc _
    obtain ⟨r1, r2, r3⟩ := ih tc.2 trivial (List.forall_mem_cons.1 cc).2 (fun d hd => by cases hd)
    refine ⟨?_, ⟨tc.1, r2⟩, ?_⟩
    · simp only [leafTextL, List.reverse_nil, List.nil_append]
      exact PT.append (PT.refl _) (by simpa [leafTextL] using r1)
    · exact List.forall_mem_cons.2 ⟨cc _ List.mem_cons_self, r3⟩
  · intro c cs improper out _ ih tc ti cc ci
    obtain ⟨cc1, cc2⟩ := List.forall_mem_cons.1 cc
    obtain ⟨r1, r2, r3⟩ := ih tc.2 ⟨tc.1, ti⟩ cc2 (List.forall_mem_cons.2 ⟨cc1, ci⟩)
    refine ⟨?_, r2, r3⟩
    simpa [leafTextL, leafTextL_append, List.append_assoc] using r1

/-- `wrap_table` keeps the text up to the order of captions and row groups, under the same condition. -/
theorem wt_text {N : Nat} (htbc : ∀ m, m < N → TbcText m) (n : Nat) (hn : n ≤ N) (box : KBox) (children : List KBox)
    (w : KBox) (htext : box.text = []) (hnt : box.isA .TextBox = false) (htidy : TidyL children)
    (hcole : ColEmpty children) (h : wrapTable n box children = .ok w) :
    PT (leafText w) (leafTextL children) ∧ Tidy w := by
  obtain ⟨m, columns, rows, caps, columnGroups, rowGroups0, _, out, rfl, hsort, _, hrg, _, _, rfl⟩ := wrapTable_cases h
  obtain ⟨sp, _, trows, tcaps⟩ := sort_text children columns rows caps hsort htidy
  obtain ⟨scols, srows, _⟩ := sortTableKids_spec children columns rows caps hsort
  have hce : vis (leafTextL columns) = [] :=
    vis_allEmpty columns (fun c hc => hcole c (scols c hc).1 (scols c hc).2)
  obtain ⟨rp, rt, _⟩ := wi_text htbc m (Nat.le_of_succ_le hn) box rows .TableRowGroupBox _ rowGroups0 trows
    (fun c hc => hcole c (srows c hc).1) rfl rfl rfl hrg
  obtain ⟨gp, gt⟩ := wtGroups_text rowGroups0 rt
  obtain ⟨st1, st2⟩ := setGroups_text (wtGroups rowGroups0) out.groups
  have hgroups : PT (leafTextL (setGroups (wtGroups rowGroups0) out.groups)) (leafTextL rows) := by
    rw [st1]
    exact gp.trans rp
  have hcap := filter_text isTopCaption caps
  unfold wtWrapper wtTable
  refine ⟨?_, ?_⟩
  · -- the columns hold no visible text; rows and captions are rearranged
    simp only [leafText_withInst, leafText_withStyle, leafText_anon, leafTextL_append, leafTextL, leafText_withCols,
      leafText_withKids, htext, List.nil_append, List.append_nil, List.append_assoc]
    refine PT.trans ?_ sp.symm
    unfold PT at hgroups hcap ⊢
    simp only [vis_append, hce, List.nil_append] at hcap ⊢
    refine (List.perm_append_comm_assoc _ _ _).trans ?_
    exact List.Perm.append hgroups hcap
  · rw [tidy_withInst, tidy_withStyle]
    apply tidy_anon
    · split <;> rfl
    · rw [tidyL_append, tidyL_append]
      refine ⟨⟨tidyL_filter _ _ tcaps, ?_, trivial⟩, tidyL_filter _ _ tcaps⟩
      rw [tidy_withStyle, tidy_withCols]
      exact tidy_of_withKids box _ htext hnt (st2 gt)

/-- By induction on the fuel: every nested call (`wrap_improper`, `wrap_table`, the wrappers they make) has less. -/
theorem tbc_text (n : Nat) : TbcText n := by
  induction n using Nat.strongRecOn with
  | ind n IH =>
  cases n with
  | zero => intro box children r _ _ _ _ _ h; unfold Wp.Bx.tbc at h; cases h
  | succ n =>
    intro box children r htext hnt htidy hcole hcol h
    obtain ⟨e0, t0, ce0⟩ := preKids_text box children htidy hcole hcol
    obtain ⟨_, c1, c2, c3, hn, h1, h2, h3, hr⟩ := tbc_cases h
    cases hn
    generalize preKids box children = c0 at e0 t0 ce0 h1
    -- the three wrapping steps: none of them makes a column group
    have stepWI := wi_text IH n (Nat.le_succ n) box
    have q1 : PT (leafTextL c1) (leafTextL c0) ∧ TidyL c1 ∧ ColEmpty c1 := by
      unfold tbcStep1 at h1
      split at h1
      · exact stepWI c0 _ _ c1 t0 ce0 rfl rfl rfl h1
      · split at h1
        · exact stepWI c0 _ _ c1 t0 ce0 rfl rfl rfl h1
        · cases h1
          exact ⟨PT.refl _, t0, ce0⟩
    have q2 : PT (leafTextL c2) (leafTextL c1) ∧ TidyL c2 ∧ ColEmpty c2 := by
      unfold tbcStep2 at h2
      split at h2
      · exact stepWI c1 _ _ c2 q1.2.1 q1.2.2 rfl rfl rfl h2
      · exact stepWI c1 _ _ c2 q1.2.1 q1.2.2 rfl rfl rfl h2
    have q3 : PT (leafTextL c3) (leafTextL c2) ∧ TidyL c3 ∧ ColEmpty c3 := by
      unfold tbcStep3 at h3
      split at h3
      · exact stepWI c2 _ _ c3 q2.2.1 q2.2.2 rfl rfl rfl h3
      · exact stepWI c2 _ _ c3 q2.2.1 q2.2.2 rfl rfl rfl h3
    have chain : PT (leafTextL c3) (leafTextL children) :=
      q3.1.trans (q2.1.trans (q1.1.trans (PT.of_eq e0)))
    split at hr
    · obtain ⟨w1, w2⟩ := wt_text IH n (Nat.le_succ n) box c3 r htext hnt q3.2.1 q3.2.2 hr
      exact ⟨w1.trans chain, w2⟩
    · cases hr
      refine ⟨?_, ?_⟩
      · rw [leafText_withKids, htext, List.nil_append]
        exact chain
      · exact tidy_of_withKids box c3 htext hnt q3.2.1

mutual
/-- Columns and column groups hold no visible text (CSS 2.1 §17.2: they are not rendered). -/
def ColQuiet : KBox → Prop
  | .mk k _ _ _ text kids _ =>
    ((k = .TableColumnBox ∨ k = .TableColumnGroupBox) → vis (text ++ leafTextL kids) = []) ∧ ColQuietL kids
def ColQuietL : List KBox → Prop
  | [] => True
  | c :: cs => ColQuiet c ∧ ColQuietL cs
end

theorem colQuiet_parts {b : KBox} (h : ColQuiet b) :
    ((b.kind = .TableColumnBox ∨ b.kind = .TableColumnGroupBox) → vis (leafText b) = []) ∧ ColQuietL b.kids := by
  obtain ⟨k, st, el, inst, text, kids, cols⟩ := b
  unfold ColQuiet at h
  simpa [leafText, KBox.kind, KBox.kids] using h

theorem vis_append_nil {a b : Text} (h : vis (a ++ b) = []) : vis a = [] ∧ vis b = [] := by
  rw [vis_append] at h
  exact List.append_eq_nil_iff.mp h

theorem allEmpty_of_vis_nil (l : List KBox) (h : vis (leafTextL l) = []) : AllEmpty l := by
  induction l with
  | nil => intro c hc; cases hc
  | cons c cs ih =>
    simp only [leafTextL] at h
    obtain ⟨h1, h2⟩ := vis_append_nil h
    intro d hd
    rcases List.mem_cons.mp hd with rfl | h'
    · exact h1
    · exact ih h2 d h'

theorem atb_kind (b r : KBox) (h : atb b = .ok r) :
    (r.kind = .TableColumnBox ∨ r.kind = .TableColumnGroupBox) → r.kind = b.kind := by
  rcases atb_cases h with ⟨_, rfl⟩ | ⟨_, _, _, _, h⟩
  · exact fun _ => rfl
  · exact tbc_col_kind h

mutual
/-- `anonymous_table_boxes` keeps the visible characters of a tidy tree up to order (white-space text
between table parts and the content of columns, which holds none, aside). -/
theorem atb_text : ∀ (b r : KBox), Tidy b → ColQuiet b → atb b = .ok r →
    PT (leafText r) (leafText b) ∧ Tidy r
  | .mk k st el inst text kids cols, r, ht, hq, h => by
    have hp := tidy_parts ht
    have hqp := colQuiet_parts hq
    simp only [KBox.isA, KBox.kind, KBox.kids, KBox.text] at hp hqp
    rcases atb_cases h with ⟨_, rfl⟩ | ⟨hpar, _, children, hkids, h⟩
    · exact ⟨PT.refl _, ht⟩
    · have hnt : Gen.isSub k .TextBox = false := parent_not_text k hpar
      have htext : text = [] := hp.2.1 hnt
      obtain ⟨kp, kt, kc, ka⟩ := atbKids_text kids children hp.2.2 hqp.2 hkids
      have hall : (Gen.isSub k .TableColumnBox = true ∨ Gen.isSub k .TableColumnGroupBox = true) →
          AllEmpty children := by
        intro hk
        have := hqp.1 (hk.imp (isA_col_iff (.mk k st el inst text kids cols)).1
          (isA_colgroup_iff (.mk k st el inst text kids cols)).1)
        simp only [leafText, htext, List.nil_append] at this
        exact ka (allEmpty_of_vis_nil kids this)
      obtain ⟨tp, tt⟩ := tbc_text _ (.mk k st el inst text kids cols) children r htext hnt kt kc hall h
      refine ⟨tp.trans ?_, tt⟩
      simp only [leafText, htext, List.nil_append]
      exact kp
theorem atbKids_text : ∀ (kids out : List KBox), TidyL kids → ColQuietL kids → atbKids kids = .ok out →
    PT (leafTextL out) (leafTextL kids) ∧ TidyL out ∧ ColEmpty out ∧ (AllEmpty kids → AllEmpty out)
  | [], out, _, _, h => by
    unfold atbKids at h; cases h
    exact ⟨PT.refl _, trivial, (fun c hc => by cases hc), (fun _ c hc => by cases hc)⟩
  | c :: cs, out, ht, hq, h => by
    unfold TidyL at ht
    unfold ColQuietL at hq
    unfold atbKids at h
    split at h
    · rename_i a b ha hb
      cases h
      obtain ⟨p1, t1⟩ := atb_text c a ht.1 hq.1 ha
      obtain ⟨p2, t2, c2, a2⟩ := atbKids_text cs b ht.2 hq.2 hb
      refine ⟨by simp only [leafTextL]; exact PT.append p1 p2, ⟨t1, t2⟩, ?_, ?_⟩
      · intro d hd hk
        rcases List.mem_cons.mp hd with rfl | h'
        · have hkind := atb_kind c d ha hk
          have := (colQuiet_parts hq.1).1 (by rw [← hkind]; exact hk)
          exact PT.nil_right p1 this
        · exact c2 d h' hk
      · intro hall d hd
        rcases List.mem_cons.mp hd with rfl | h'
        · have := hall c List.mem_cons_self
          exact PT.nil_right p1 this
        · exact a2 (fun e he => hall e (List.mem_cons_of_mem _ he)) d h'
    · cases h
    · cases h
end

/-- The whole of `create_anonymous_boxes`: the visible characters of the result are a permutation of those of the
input, when its columns hold no visible text. -/
theorem pipeline_text (b r : KBox) (ht : Tidy b) (hq : ColQuiet b) (h : createAnonymousBoxes b = .ok r) :
    PT (leafText r) (leafText b) := by
  revert h
  fun_cases createAnonymousBoxes b <;> intro h
  case case3 b1 h1 _ _ b4 h4 =>
    obtain ⟨p1, t1⟩ := atb_text b b1 ht hq h1
    obtain ⟨e2, t2⟩ := fgb_text false b1 t1
    obtain ⟨e3, t3⟩ := fgb_text true _ t2
    obtain ⟨e4, t4⟩ := iib_tidy _ false b4 t3 h4
    rw [bii_leafText _ b4 r (tidy_leafy b4 t4) h]
    exact (PT.of_eq (vis_of_noSp_eq (e4.trans (e3.trans e2)))).trans p1
  all_goals cases h

end Wp.Bx
