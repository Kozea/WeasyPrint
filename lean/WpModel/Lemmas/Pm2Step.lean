/-
One iteration of the children loop of `block_container_layout` (`layoutKids`), factored for proofs: what the
first pass does with the child's layout, `kidResult` = the layout result of the child that `_in_flow_layout`
finally uses (first layout, or the second one with a larger bottom space), the fragment possibly discarded,
and the loop state handed to `concludeKid`; the ways `concludeKid` ends or continues the loop. `layoutKids_cons` is
the loop of the model written with `kidResult`.
-/
import WpModel.Lemmas.SegmentPara

namespace Wp.PM
open Wp

/-! ### the loop state helpers keep the children (the unprimed names are private ones of Props/C03, defined from these) -/

@[simp] theorem setCur_newChildren' (s : KidsLoop) (l : List Rat) (b : Bool) :
    (s.setCur l b).newChildren = s.newChildren := by
  unfold KidsLoop.setCur; split <;> rfl

@[simp] theorem appendCur_newChildren' (s : KidsLoop) (m : Rat) :
    (s.appendCur m).newChildren = s.newChildren := by
  unfold KidsLoop.appendCur; split <;> rfl

@[simp] theorem adoptAdj_newChildren' (s : KidsLoop) (h : Bool) (a : AdjOut) (f : Option Frag) :
    (s.adoptAdj h a f).newChildren = s.newChildren := by
  unfold KidsLoop.adoptAdj
  split
  · rfl
  · cases a <;> cases f <;> simp

/-- What `_in_flow_layout` does with `position_y` after the first layout of a child: unchanged when the child
is dropped or collapses through, else the bottom of its border box. -/
theorem firstPass_posY (c : Ctx) (bs : Rat) (pienc : Bool) (posY : Rat) (r : LayoutResult)
    (frag : Option Frag) (posY' : Rat) (h : firstPass c bs pienc posY r = .keep frag posY') :
    (frag = none ∧ posY' = posY) ∨
    (∃ f, frag = some f ∧ r.frag = some f ∧
      ((r.collapsingThrough = true ∧ posY' = posY) ∨
       (r.collapsingThrough = false ∧ posY' = f.geo.borderBoxY + f.geo.borderHeight))) := by
  revert h
  fun_cases firstPass c bs pienc posY r <;> intro h <;> cases h
  · exact .inl ⟨rfl, rfl⟩
  next f hf ht => exact .inr ⟨f, rfl, hf, .inl ⟨ht, rfl⟩⟩
  · exact .inl ⟨rfl, rfl⟩
  next f hf ht _ _ _ _ => exact .inr ⟨f, rfl, hf, .inr ⟨by simpa using ht, rfl⟩⟩

theorem firstPass_keep {c : Ctx} {bs : Rat} {pienc : Bool} {posY : Rat} {r : LayoutResult}
    {frag : Option Frag} {y : Rat} (h : firstPass c bs pienc posY r = .keep frag y) :
    frag = none ∨ frag = r.frag := by
  rcases firstPass_posY c bs pienc posY r frag y h with h | ⟨f, hf, hr, _⟩
  · exact .inl h.1
  · exact .inr (hf.trans hr.symm)

theorem firstPass_redo {c : Ctx} {bs : Rat} {pienc : Bool} {posY : Rat} {r : LayoutResult} {bs' : Rat}
    (h : firstPass c bs pienc posY r = .redo bs') :
    ∃ f, r.frag = some f ∧ bs' = bs + (f.geo.pb + f.geo.bb) := by
  revert h
  fun_cases firstPass c bs pienc posY r <;> intro h <;> cases h
  next f hf _ _ _ _ _ => exact ⟨f, hf, rfl⟩

/-- On an empty page the first pass keeps the fragment it is given. -/
theorem firstPass_keeps (c : Ctx) (bs posY : Rat) (r : LayoutResult) (h : r.frag.isSome = true) :
    ∃ f y, firstPass c bs true posY r = .keep (some f) y ∧ r.frag = some f := by
  unfold firstPass
  cases hf : r.frag with
  | none => simp [hf] at h
  | some f =>
    simp only [Bool.not_true, Bool.false_and, Bool.false_eq_true, ↓reduceIte]
    split
    · exact ⟨f, _, rfl, rfl⟩
    · exact ⟨f, _, rfl, rfl⟩

/-- (fragment kept for the child, the `block_level_layout` result it comes from, loop state before
`concludeKid`). -/
def kidResult (c : Ctx) (st : PStyle) (child : PBox) (index : Nat) (bs : Rat) (pie : Bool) (s : KidsLoop) :
    Option Frag × LayoutResult × KidsLoop :=
  let pienc := pie && s.newChildren.isEmpty
  let r := layoutBox c child index s.posY bs s.skip st.isRoot pienc s.cur
  let s1 := s.setCur r.adjL s.curIsL
  match firstPass c bs pienc s.posY r with
  | .keep frag posY =>
    (frag, r, { s1.adoptAdj r.frag.isSome r.adj frag with posY := posY, nextPage := r.nextPage, skip := none })
  | .redo bs' =>
    let r2 := layoutBox c child index s.posY bs' s.skip st.isRoot pienc s1.cur
    let s1' := s1.setCur r2.adjL s1.curIsL
    let posY := match r2.frag with
      | some f2 => f2.geo.borderBoxY + f2.geo.borderHeight
      | none => s.posY
    (r2.frag, r2, { s1'.adoptAdj true r2.adj r2.frag with posY := posY, nextPage := r2.nextPage, skip := none })

/-- One visited child of the loop. -/
theorem layoutKids_cons {c : Ctx} {st : PStyle} {child : PBox} {rest : List PBox} {index skipIdx : Nat}
    {bs : Rat} {pie : Bool} {s : KidsLoop} (h : ¬ index < skipIdx) :
    layoutKids c st (child :: rest) index skipIdx bs pie s =
      if (meetBreak s child).2 then
        .stopped (some (.node index none))
          { s with nextPage := { brk := some (meetBreak s child).1, page := some (boxPageStart child) } }
      else
        match concludeKid index pie (meetBreak s child).1 child (kidResult c st child index bs pie s).2.2
            (kidResult c st child index bs pie s).1 (kidResult c st child index bs pie s).2.1.resume with
        | (some out, _) => out
        | (none, s3) => layoutKids c st rest (index + 1) skipIdx bs pie s3 := by
  rw [layoutKids]
  simp only [h, ↓reduceIte]
  split
  · rfl
  · unfold kidResult
    dsimp only
    split <;> rename_i heq <;> simp only [heq] <;> rfl

theorem layoutKids_skip {c : Ctx} {st : PStyle} {child : PBox} {rest : List PBox} {index skipIdx : Nat}
    {bs : Rat} {pie : Bool} {s : KidsLoop} (h : index < skipIdx) :
    layoutKids c st (child :: rest) index skipIdx bs pie s =
      layoutKids c st rest (index + 1) skipIdx bs pie s := by
  rw [layoutKids]
  simp only [h, ↓reduceIte]

theorem meetBreak_nil (s : KidsLoop) (child : PBox) (h : s.newChildren = []) : (meetBreak s child).2 = false := by
  unfold meetBreak; simp [h]

/-- What `kidResult` is: the result of one `layoutBox` call on the child (same skip stack, `page_is_empty`
only if nothing was placed yet), its fragment possibly discarded; the loop state keeps its children. The call
runs with the bottom space `bs` of the loop, or with `bs` enlarged by the bottom padding and border of the
fragment a first call with `bs` gave. -/
theorem kidResult_spec (c : Ctx) (st : PStyle) (child : PBox) (index : Nat) (bs : Rat) (pie : Bool)
    (s : KidsLoop) :
    ∃ bs' adj,
      (kidResult c st child index bs pie s).2.1 =
        layoutBox c child index s.posY bs' s.skip st.isRoot (pie && s.newChildren.isEmpty) adj ∧
      ((kidResult c st child index bs pie s).1 = none ∨
        (kidResult c st child index bs pie s).1 = (kidResult c st child index bs pie s).2.1.frag) ∧
      (kidResult c st child index bs pie s).2.2.newChildren = s.newChildren ∧
      (kidResult c st child index bs pie s).2.2.nextPage = (kidResult c st child index bs pie s).2.1.nextPage ∧
      (kidResult c st child index bs pie s).2.2.skip = none ∧
      (bs' = bs ∨ ∃ f1, (layoutBox c child index s.posY bs s.skip st.isRoot (pie && s.newChildren.isEmpty)
        s.cur).frag = some f1 ∧ bs' = bs + (f1.geo.pb + f1.geo.bb)) := by
  unfold kidResult
  dsimp only
  split
  · rename_i frag posY hfp
    exact ⟨bs, s.cur, rfl, firstPass_keep hfp, by simp, rfl, rfl, .inl rfl⟩
  · rename_i bs' hfp
    exact ⟨_, _, rfl, .inr rfl, by simp, rfl, rfl, .inr (firstPass_redo hfp)⟩

/-- One turn of the children loop on a child that is not skipped: the outcome if the loop ends here, and the
loop state. -/
def kidStep (c : Ctx) (st : PStyle) (index : Nat) (bs : Rat) (pie : Bool) (child : PBox) (s : KidsLoop) :
    Option KidsOutcome × KidsLoop :=
  if (meetBreak s child).2 then
    (some (.stopped (some (.node index none))
      { s with nextPage := { brk := some (meetBreak s child).1, page := some (boxPageStart child) } }), s)
  else
    concludeKid index pie (meetBreak s child).1 child (kidResult c st child index bs pie s).2.2
      (kidResult c st child index bs pie s).1 (kidResult c st child index bs pie s).2.1.resume

/-- The children loop, one more child: skipped, or visited by a turn that ends the loop or hands its state on. -/
theorem layoutKids_turn (c : Ctx) (st : PStyle) (child : PBox) (rest : List PBox) (index skipIdx : Nat)
    (bs : Rat) (pie : Bool) (s : KidsLoop) :
    layoutKids c st (child :: rest) index skipIdx bs pie s =
      if index < skipIdx then layoutKids c st rest (index + 1) skipIdx bs pie s
      else match kidStep c st index bs pie child s with
        | (some out, _) => out
        | (none, s') => layoutKids c st rest (index + 1) skipIdx bs pie s' := by
  split
  · rename_i h; exact layoutKids_skip h
  · rename_i h
    rw [layoutKids_cons h, kidStep]
    split <;> rfl

/-! ### the end of `_in_flow_layout` -/

/-- The ways `concludeKid` ends the loop: nothing fits and the layout goes back to an earlier break, gives the
box up (only on a page with content, or when no child was placed), or stops before the child; or the child
was placed and is to be resumed. -/
theorem conclude_stop {index : Nat} {pie : Bool} {pb : Brk} {child : PBox} {s : KidsLoop}
    {frag : Option Frag} {resume : Option Resume} {out : KidsOutcome} {s3 : KidsLoop}
    (h : concludeKid index pie pb child s frag resume = (some out, s3)) :
    (frag = none ∧
      ((∃ kept r', (findEarlierGo s.newChildren).found = some (kept, r') ∧
          out = .stopped (some r') { s with newChildren := kept }) ∨
       (out = .aborted (boxPageStart child) s ∧ (pie = false ∨ s.newChildren.isEmpty = true)) ∨
       (s.newChildren.isEmpty = false ∧ out = .stopped (some (.node index none)) s))) ∨
    (∃ f r', frag = some f ∧ resume = some r' ∧
      out = .stopped (some (.node index (some r'))) { s with newChildren := s.newChildren ++ [f.withIdx index] }) := by
  revert h
  fun_cases concludeKid index pie pb child s frag resume <;> intro h
  any_goals cases h
  next x => exact .inl ⟨rfl, .inl ⟨_, _, (Option.ite_none_right_eq_some.mp x).2, rfl⟩⟩
  next hc => exact .inl ⟨rfl, .inr (.inl ⟨rfl, .inl (Bool.not_eq_true' _ ▸ (Bool.and_eq_true _ _ ▸ hc).2)⟩)⟩
  next hne => exact .inl ⟨rfl, .inr (.inr ⟨by simpa using hne, rfl⟩)⟩
  next hne => exact .inl ⟨rfl, .inr (.inl ⟨rfl, .inr (by simpa using hne)⟩)⟩
  · exact .inr ⟨_, _, rfl, rfl, (Option.some.inj (Prod.mk.inj h).1).symm⟩

/-- `conclude_stop` without the condition under which the container is given up. -/
theorem concludeKid_stops {index : Nat} {pie : Bool} {pb : Brk} {child : PBox} {s : KidsLoop}
    {frag : Option Frag} {resume : Option Resume} {out : KidsOutcome} {s3 : KidsLoop}
    (h : concludeKid index pie pb child s frag resume = (some out, s3)) :
    (frag = none ∧
      ((∃ kept r', (findEarlierGo s.newChildren).found = some (kept, r') ∧
          out = .stopped (some r') { s with newChildren := kept }) ∨
        out = .aborted (boxPageStart child) s ∨
        (s.newChildren ≠ [] ∧ out = .stopped (some (.node index none)) s))) ∨
    (∃ f r', frag = some f ∧ resume = some r' ∧
      out = .stopped (some (.node index (some r'))) { s with newChildren := s.newChildren ++ [f.withIdx index] }) := by
  rcases conclude_stop h with
    ⟨hf, ⟨kept, r', hfound, ho⟩ | ⟨ho, _⟩ | ⟨hne, ho⟩⟩ | hplaced
  · exact .inl ⟨hf, .inl ⟨kept, r', hfound, ho⟩⟩
  · exact .inl ⟨hf, .inr (.inl ho)⟩
  · exact .inl ⟨hf, .inr (.inr ⟨fun he => by simp [he] at hne, ho⟩)⟩
  · exact .inr hplaced

/-- The continuing case of `concludeKid`: the child was appended. -/
theorem conclude_continue {index : Nat} {pie : Bool} {pb : Brk} {child : PBox} {s : KidsLoop}
    {frag : Option Frag} {resume : Option Resume} {s3 : KidsLoop}
    (h : concludeKid index pie pb child s frag resume = (none, s3)) :
    ∃ f, frag = some f ∧ resume = none ∧ s3 = { s with newChildren := s.newChildren ++ [f.withIdx index] } := by
  revert h
  fun_cases concludeKid index pie pb child s frag resume <;> intro h
  any_goals cases h
  exact ⟨_, rfl, rfl, (Prod.mk.inj h).2.symm⟩

/-! ### on an empty page a finished container always yields a fragment -/

theorem finish_some (c : Ctx) (st : PStyle) (b : BoxSt) (isStart : Bool) (bs : Rat)
    (cwc dbd : Bool) (resume : Option Resume) (posY : Rat) (adjL cur : List Rat) (curIsL : Bool)
    (np : NextPage) (hasKids : Bool) (pageEnd : String) (mk : Geo → Frag) :
    (finishContainer c st b isStart true bs cwc dbd resume posY adjL cur curIsL np hasKids pageEnd mk).frag.isSome := by
  unfold finishContainer
  simp

theorem finishPara_some (c : Ctx) (st : PStyle) (p : Prep) (id idx n : Nat) (r : LineResult)
    (h : r.abort = false) : (finishPara c st p true id idx n r).frag.isSome = true := by
  unfold finishPara
  simp only [h, Bool.false_eq_true, ↓reduceIte]
  exact finish_some ..

theorem finishBlock_some (c : Ctx) (st : PStyle) (p : Prep) (id idx : Nat) (out : KidsOutcome)
    (h : ∀ page s, out ≠ .aborted page s) : (finishBlock c st p true id idx out).frag.isSome = true := by
  unfold finishBlock
  split
  · rename_i page s; exact absurd rfl (h page s)
  · exact finish_some ..
  · exact finish_some ..

theorem conclude_not_aborted (index : Nat) (pb : Brk) (child : PBox) (s : KidsLoop)
    (frag : Option Frag) (resume : Option Resume)
    (h : frag.isSome = true ∨ s.newChildren.isEmpty = false) :
    ∀ page s' s'', concludeKid index true pb child s frag resume ≠ (some (.aborted page s'), s'') := by
  intro page s' s'' heq
  rcases conclude_stop heq with
    ⟨rfl, ⟨_, _, _, ho⟩ | ⟨_, hp | he⟩ | ⟨_, ho⟩⟩ | ⟨_, _, _, _, ho⟩
  · cases ho
  · cases hp
  · rcases h with h | h
    · cases h
    · rw [he] at h; cases h
  · cases ho
  · cases ho

end Wp.PM
