/-
The footnote state of the layout context (`FState`): what `layout_footnote`, `report_footnote`,
`unlayout_footnote` and the per-line footnote loop do to the three lists, abstracted as

  act fs = fs.cur ++ fs.reported      -- the footnotes taken by this page so far, in the order they were taken

Laying a footnote out appends it to `act` (it sits in `cur`, or in `reported` once the area overflowed:
`context.reported_footnotes` non-empty forces every later footnote to be reported as well, so the order is
kept); un-laying-out a list `G` filters `G` out of `act` and puts it back into `pending`.

Second half: a predicate on the state that survives the three methods (`Stable`) survives whole layouts
(`boxF_stable`); the page-bottom invariants `PbInv` and `PbX` are instances.
-/
import WpModel.Model.PaginateFoot

namespace Wp.PMF
open Wp Wp.PM

def act (fs : FState) : List Fn := fs.cur ++ fs.reported

/-- Consistency of the three lists: no repetition, nothing both taken and pending. -/
structure StOk (fs : FState) : Prop where
  pnd : fs.pending.Nodup
  actnd : (act fs).Nodup
  disj : ∀ f ∈ act fs, f ∉ fs.pending

/-! ### `_update_footnote_area` touches neither list -/

@[simp] theorem updateArea_pending (c : FCtx) (fs : FState) : (updateArea c fs).1.pending = fs.pending := by
  unfold updateArea; dsimp only; split <;> rfl
@[simp] theorem updateArea_cur (c : FCtx) (fs : FState) : (updateArea c fs).1.cur = fs.cur := by
  unfold updateArea; dsimp only; split <;> rfl
@[simp] theorem updateArea_reported (c : FCtx) (fs : FState) : (updateArea c fs).1.reported = fs.reported := by
  unfold updateArea; dsimp only; split <;> rfl

@[simp] theorem layoutFootnote_pending (c : FCtx) (fs : FState) (f : Fn) :
    (layoutFootnote c fs f).1.pending = fs.pending.erase f := by simp [layoutFootnote]
@[simp] theorem layoutFootnote_cur (c : FCtx) (fs : FState) (f : Fn) :
    (layoutFootnote c fs f).1.cur = fs.cur ++ [f] := by simp [layoutFootnote]
@[simp] theorem layoutFootnote_reported (c : FCtx) (fs : FState) (f : Fn) :
    (layoutFootnote c fs f).1.reported = fs.reported := by simp [layoutFootnote]

@[simp] theorem reportFootnote_pending (c : FCtx) (fs : FState) (f : Fn) :
    (reportFootnote c fs f).pending = fs.pending := by simp [reportFootnote]
@[simp] theorem reportFootnote_cur (c : FCtx) (fs : FState) (f : Fn) :
    (reportFootnote c fs f).cur = fs.cur.erase f := by simp [reportFootnote]
@[simp] theorem reportFootnote_reported (c : FCtx) (fs : FState) (f : Fn) :
    (reportFootnote c fs f).reported = fs.reported ++ [f] := by simp [reportFootnote]

/-- `overflow` in the footnote loop of `_linebox_layout`, after `layout_footnote(f)`: the area overflows, a footnote
is already postponed, or the line no longer fits above the raised area. -/
def tookOver (c : FCtx) (bs y : Rat) (fs : FState) (f : Fn) : Bool :=
  (layoutFootnote c fs f).2 || !(layoutFootnote c fs f).1.reported.isEmpty ||
    (ctxOf c (layoutFootnote c fs f).1).overflowsPage bs y

/-- The state after `layout_footnote(f)` followed, when it overflows, by `report_footnote(f)`. -/
def takeStep (c : FCtx) (bs y : Rat) (fs : FState) (f : Fn) : FState :=
  if tookOver c bs y fs f then reportFootnote c (layoutFootnote c fs f).1 f else (layoutFootnote c fs f).1

theorem takeStep_spec (c : FCtx) (bs y : Rat) (fs : FState) (f : Fn) (hok : StOk fs) (hf : f ∈ fs.pending) :
    StOk (takeStep c bs y fs f) ∧ act (takeStep c bs y fs f) = act fs ++ [f] ∧
    (takeStep c bs y fs f).pending = fs.pending.erase f := by
  have hfa : f ∉ act fs := fun h => hok.disj f h hf
  have hfc : f ∉ fs.cur := fun h => hfa (by simp [act, h])
  have hp : (takeStep c bs y fs f).pending = fs.pending.erase f := by
    unfold takeStep; split <;> simp
  have ha : act (takeStep c bs y fs f) = act fs ++ [f] := by
    unfold takeStep
    split
    · simp only [act, reportFootnote_cur, layoutFootnote_cur, reportFootnote_reported, layoutFootnote_reported]
      rw [List.erase_append_right _ hfc]
      simp
    · rename_i hno
      -- not `overflow`: in particular nothing is postponed yet
      simp only [tookOver, Bool.or_eq_true, not_or, Bool.not_eq_true, layoutFootnote_reported] at hno
      have hre : fs.reported = [] := by simpa using hno.1.2
      simp [act, hre]
  refine ⟨⟨?_, ?_, ?_⟩, ha, hp⟩
  · rw [hp]; exact hok.pnd.erase f
  · rw [ha, List.nodup_append]
    refine ⟨hok.actnd, by simp, ?_⟩
    intro a ha' b hb
    rw [List.mem_singleton.mp hb]
    intro he; exact hfa (he ▸ ha')
  · intro g hg
    rw [ha, List.mem_append, List.mem_singleton] at hg
    rw [hp, hok.pnd.mem_erase_iff]
    rcases hg with hg | hg
    · exact fun h => hok.disj g hg h.2
    · exact fun h => h.1 hg

/-! ### the footnote loop of one line -/

/-- One round of the loop: a footnote that is not pending is skipped; a pending one is taken (`takeStep`), and the
loop stops there only under the guard, after the footnote was postponed, for `footnote-policy: line` (break before
the line) or `block` (break on an empty page, else abort the paragraph). -/
theorem footLoop_cons (c : FCtx) (guard pie : Bool) (bs y : Rat) (f : Fn) (rest : List Fn) (fs : FState) :
    (f ∉ fs.pending ∧ footLoop c guard pie bs y (f :: rest) fs = footLoop c guard pie bs y rest fs) ∨
    (f ∈ fs.pending ∧
      footLoop c guard pie bs y (f :: rest) fs = footLoop c guard pie bs y rest (takeStep c bs y fs f)) ∨
    (f ∈ fs.pending ∧ guard = true ∧ tookOver c bs y fs f = true ∧
      ∃ o, footLoop c guard pie bs y (f :: rest) fs = (o, takeStep c bs y fs f) ∧
        (f.policy = .line ∧ o = .brk ∨ f.policy = .block ∧ o = if pie then .brk else .abort)) := by
  rw [footLoop]
  by_cases hp : f ∈ fs.pending
  · rw [if_pos hp]
    refine Or.inr ?_
    by_cases hov : tookOver c bs y fs f = true
    · have ht : takeStep c bs y fs f = reportFootnote c (layoutFootnote c fs f).1 f := if_pos hov
      rw [ht]
      have hov' := hov
      unfold tookOver at hov'
      dsimp only
      rw [if_pos hov']
      by_cases hl : (guard && f.policy == .line) = true
      · rw [if_pos hl]
        simp only [Bool.and_eq_true, beq_iff_eq] at hl
        exact Or.inr ⟨hp, hl.1, hov, .brk, rfl, Or.inl ⟨hl.2, rfl⟩⟩
      · rw [if_neg hl]
        by_cases hb : (guard && f.policy == .block) = true
        · rw [if_pos hb]
          simp only [Bool.and_eq_true, beq_iff_eq] at hb
          cases pie
          · exact Or.inr ⟨hp, hb.1, hov, .abort, rfl, Or.inr ⟨hb.2, rfl⟩⟩
          · exact Or.inr ⟨hp, hb.1, hov, .brk, rfl, Or.inr ⟨hb.2, rfl⟩⟩
        · rw [if_neg hb]
          exact Or.inl ⟨hp, rfl⟩
    · have ht : takeStep c bs y fs f = (layoutFootnote c fs f).1 := if_neg hov
      rw [ht]
      unfold tookOver at hov
      dsimp only
      rw [if_neg hov]
      exact Or.inl ⟨hp, rfl⟩
  · rw [if_neg hp]
    exact Or.inl ⟨hp, rfl⟩

/-- The loop ends a line early only under the guard (`new_children or not page_is_empty`), at a footnote whose
policy asks for it. -/
theorem footLoop_stops (c : FCtx) (guard pie : Bool) (bs y : Rat) (F : List Fn) (fs : FState)
    (h : (footLoop c guard pie bs y F fs).1 ≠ .ok) :
    guard = true ∧ ∃ f ∈ F, (f.policy = .line ∧ (footLoop c guard pie bs y F fs).1 = .brk) ∨
      (f.policy = .block ∧ (footLoop c guard pie bs y F fs).1 = if pie then .brk else .abort) := by
  induction F generalizing fs with
  | nil => exact absurd rfl h
  | cons f rest ih =>
    have hgo : ∀ fs', footLoop c guard pie bs y (f :: rest) fs = footLoop c guard pie bs y rest fs' →
        guard = true ∧ ∃ g ∈ f :: rest, (g.policy = .line ∧ (footLoop c guard pie bs y (f :: rest) fs).1 = .brk) ∨
          (g.policy = .block ∧ (footLoop c guard pie bs y (f :: rest) fs).1 = if pie then .brk else .abort) := by
      intro fs' he
      rw [he] at h ⊢
      obtain ⟨hg, g, hm, hgo⟩ := ih fs' h
      exact ⟨hg, g, List.mem_cons_of_mem _ hm, hgo⟩
    rcases footLoop_cons c guard pie bs y f rest fs with ⟨_, he⟩ | ⟨_, he⟩ | ⟨_, hg, _, o, he, ho⟩
    · exact hgo _ he
    · exact hgo _ he
    · rw [he]
      exact ⟨hg, f, List.mem_cons_self, ho⟩

theorem footLoop_preserves (c : FCtx) (guard pie : Bool) (bs y : Rat) (P : FState → Prop) (F : List Fn)
    (hstep : ∀ fs, ∀ f ∈ F, P fs → P (takeStep c bs y fs f)) (fs : FState) (h : P fs) :
    P (footLoop c guard pie bs y F fs).2 := by
  induction F generalizing fs with
  | nil => exact h
  | cons f rest ih =>
    have hr : ∀ fs, ∀ g ∈ rest, P fs → P (takeStep c bs y fs g) :=
      fun fs g hg => hstep fs g (List.mem_cons_of_mem _ hg)
    have ht := hstep fs f List.mem_cons_self h
    rcases footLoop_cons c guard pie bs y f rest fs with ⟨_, he⟩ | ⟨_, he⟩ | ⟨_, _, _, o, he, _⟩
    · rw [he]; exact ih hr fs h
    · rw [he]; exact ih hr _ ht
    · rw [he]; exact ht

/-- Without `footnote-policy: block` the loop never aborts the paragraph. -/
theorem footLoop_no_abort (c : FCtx) (guard pie : Bool) (bs y : Rat) (F : List Fn) (fs : FState)
    (h : ∀ f ∈ F, f.policy ≠ .block) : (footLoop c guard pie bs y F fs).1 ≠ .abort := by
  intro ha
  obtain ⟨_, f, hf, ⟨_, hb⟩ | ⟨hb, _⟩⟩ := footLoop_stops c guard pie bs y F fs (by rw [ha]; decide)
  · rw [ha] at hb; cases hb
  · exact h f hf hb

/-- The loop aborts only under the guard (`new_children or not page_is_empty`) and off an empty page. -/
theorem footLoop_abort_guard (c : FCtx) (guard pie : Bool) (bs y : Rat) (F : List Fn) (fs : FState)
    (h : (footLoop c guard pie bs y F fs).1 = .abort) : guard = true ∧ pie = false := by
  obtain ⟨hg, f, _, ⟨_, hb⟩ | ⟨_, hb⟩⟩ := footLoop_stops c guard pie bs y F fs (by rw [h]; decide)
  · rw [h] at hb; cases hb
  · rw [h] at hb
    cases pie
    · exact ⟨hg, rfl⟩
    · cases hb

/-- On an empty page the loop never aborts the paragraph, whatever the policies (repair 67bf2ca:
`footnote-policy: block` then breaks before the line). -/
theorem footLoop_no_abort_pie (c : FCtx) (guard : Bool) (bs y : Rat) (F : List Fn) (fs : FState) :
    (footLoop c guard true bs y F fs).1 ≠ .abort :=
  fun ha => Bool.noConfusion (footLoop_abort_guard c guard true bs y F fs ha).2

/-- The footnote state since a point where `act` was `A0`: the footnotes `X` were taken since, in this order, and are
still laid out; every footnote of `P0` is pending or one of them. -/
structure Took (A0 P0 X : List Fn) (fs : FState) : Prop where
  ok : StOk fs
  hact : act fs = A0 ++ X
  pers : ∀ g ∈ P0, g ∈ fs.pending ∨ g ∈ X

theorem Took.takeStep {A0 P0 X : List Fn} {fs : FState} (h : Took A0 P0 X fs) (c : FCtx) (bs y : Rat) {f : Fn}
    (hf : f ∈ fs.pending) : Took A0 P0 (X ++ [f]) (takeStep c bs y fs f) := by
  obtain ⟨hok1, ha1, hp1⟩ := takeStep_spec c bs y fs f h.ok hf
  refine ⟨hok1, by rw [ha1, h.hact, List.append_assoc], fun g hg => ?_⟩
  rw [hp1, h.ok.pnd.mem_erase_iff, List.mem_append, List.mem_singleton]
  by_cases hgf : g = f
  · exact .inr (.inr hgf)
  · exact (h.pers g hg).imp (fun hp => ⟨hgf, hp⟩) .inl

/-- The loop takes a prefix `F1` of the (pending, distinct) footnotes of the line, all of them when it ends with `.ok`. -/
theorem footLoop_spec (c : FCtx) (guard pie : Bool) (bs y : Rat) (F : List Fn) (fs : FState) {A0 P0 X : List Fn}
    (h : Took A0 P0 X fs) (hF : ∀ f ∈ F, f ∈ fs.pending) (hnd : F.Nodup) :
    ∃ F1 F2, F = F1 ++ F2 ∧ ((footLoop c guard pie bs y F fs).1 = .ok → F2 = []) ∧
      Took A0 P0 (X ++ F1) (footLoop c guard pie bs y F fs).2 := by
  induction F generalizing fs X with
  | nil => exact ⟨[], [], rfl, fun _ => rfl, by simpa [footLoop] using h⟩
  | cons f rest ih =>
    have hf : f ∈ fs.pending := hF f List.mem_cons_self
    have h1 := h.takeStep c bs y hf
    rw [List.nodup_cons] at hnd
    rcases footLoop_cons c guard pie bs y f rest fs with ⟨hn, _⟩ | ⟨_, he⟩ | ⟨_, _, _, o, he, ho⟩
    · exact absurd hf hn
    · rw [he]
      obtain ⟨F1, F2, hsplit, hokk, h2⟩ := ih _ h1 (fun g hg => by
        rw [(takeStep_spec c bs y fs f h.ok hf).2.2, h.ok.pnd.mem_erase_iff]
        exact ⟨fun e => hnd.1 (e ▸ hg), hF g (List.mem_cons_of_mem _ hg)⟩) hnd.2
      exact ⟨f :: F1, F2, by rw [hsplit]; rfl, hokk, by simpa using h2⟩
    · rw [he]
      refine ⟨[f], rest, rfl, ?_, h1⟩
      rcases ho with ⟨_, rfl⟩ | ⟨_, rfl⟩
      · intro h; cases h
      · cases pie <;> (intro h; cases h)

theorem filter_ne_self (l : List Fn) (f : Fn) (h : f ∉ l) : l.filter (fun g => g != f) = l := by
  rw [List.filter_eq_self]
  intro a ha
  simp only [bne_iff_ne, ne_eq]
  intro he; exact h (he ▸ ha)

theorem unlayFootnote_spec (c : FCtx) (fs : FState) (f : Fn) (hok : StOk fs) :
    StOk (unlayFootnote c fs f) ∧ act (unlayFootnote c fs f) = (act fs).filter (fun g => g != f) ∧
    (∀ g, g ∈ (unlayFootnote c fs f).pending ↔ g ∈ fs.pending ∨ g = f) := by
  unfold unlayFootnote
  by_cases hp : f ∈ fs.pending
  · rw [if_pos hp]
    refine ⟨hok, (filter_ne_self _ f (fun ha => hok.disj f ha hp)).symm, fun g => ⟨Or.inl, ?_⟩⟩
    rintro (h | rfl)
    · exact h
    · exact hp
  · rw [if_neg hp]
    dsimp only
    have hnd := hok.actnd
    unfold act at hnd
    rw [List.nodup_append] at hnd
    obtain ⟨hcn, hrn, hcr⟩ := hnd
    have hpn : (fs.pending ++ [f]).Nodup := by
      rw [List.nodup_append]
      refine ⟨hok.pnd, by simp, ?_⟩
      intro a ha b hb he
      rw [List.mem_singleton.mp hb] at he
      exact hp (he ▸ ha)
    -- whichever list `f` is erased from, `pending` gains `f` and `act` loses it
    have key : ∀ fs' : FState, fs'.pending = fs.pending ++ [f] → act fs' = (act fs).filter (fun g => g != f) →
        StOk (updateArea c fs').1 ∧ act (updateArea c fs').1 = (act fs).filter (fun g => g != f) ∧
        (∀ g, g ∈ (updateArea c fs').1.pending ↔ g ∈ fs.pending ∨ g = f) := by
      intro fs' h1 h2
      have hact : act (updateArea c fs').1 = (act fs).filter (fun g => g != f) := by
        rw [← h2]; simp [act]
      refine ⟨⟨by simpa [h1] using hpn, ?_, ?_⟩, hact, by intro g; simp [h1]⟩
      · rw [hact]; exact List.Nodup.sublist List.filter_sublist hok.actnd
      · intro g hg
        rw [hact, List.mem_filter] at hg
        simp only [updateArea_pending, h1, List.mem_append, List.mem_singleton, not_or]
        simp only [bne_iff_ne, ne_eq] at hg
        exact ⟨hok.disj g hg.1, hg.2⟩
    apply key
    · split
      · rfl
      · split <;> rfl
    · by_cases hc : f ∈ fs.cur
      · rw [if_pos hc]
        simp only [act, List.filter_append]
        rw [hcn.erase_eq_filter, filter_ne_self _ f (fun h => hcr f hc f h rfl)]
      · rw [if_neg hc]
        by_cases hr : f ∈ fs.reported
        · rw [if_pos hr]
          simp only [act, List.filter_append]
          rw [hrn.erase_eq_filter, filter_ne_self _ f hc]
        · rw [if_neg hr]
          exact (filter_ne_self _ f (by simp [act, hc, hr])).symm

theorem unlayAll_spec (c : FCtx) (G : List Fn) (fs : FState) (hok : StOk fs) :
    StOk (unlayAll c fs G) ∧ act (unlayAll c fs G) = (act fs).filter (fun g => decide (g ∉ G)) ∧
    (∀ g, g ∈ (unlayAll c fs G).pending ↔ g ∈ fs.pending ∨ g ∈ G) := by
  induction G generalizing fs with
  | nil =>
    refine ⟨hok, ?_, by simp [unlayAll]⟩
    simp only [unlayAll, List.not_mem_nil, not_false_eq_true, decide_true]
    exact (List.filter_eq_self.mpr (fun _ _ => rfl)).symm
  | cons f rest ih =>
    obtain ⟨h1, h2, h3⟩ := unlayFootnote_spec c fs f hok
    obtain ⟨i1, i2, i3⟩ := ih (unlayFootnote c fs f) h1
    refine ⟨by simpa [unlayAll] using i1, ?_, ?_⟩
    · simp only [unlayAll]
      rw [i2, h2, List.filter_filter]
      congr 1
      funext g
      by_cases h1 : g = f <;> by_cases h2 : g ∈ rest <;> simp [h1, h2]
    · intro g
      simp only [unlayAll]
      rw [i3 g, h3 g, List.mem_cons, or_assoc]

/-- Of a list without repetition that lies in `P0`, a part `C` behind a part `A` is pending when every member of
`P0` is pending or in `A`. -/
theorem mid_pending {α : Type} (A C R P0 pending : List α)
    (hND : (A ++ (C ++ R)).Nodup) (hP : ∀ g ∈ A ++ (C ++ R), g ∈ P0)
    (hJ : ∀ g ∈ P0, g ∈ pending ∨ g ∈ A) : C.Nodup ∧ ∀ g ∈ C, g ∈ pending := by
  rw [List.nodup_append] at hND
  obtain ⟨_, h2, hd⟩ := hND
  refine ⟨(List.nodup_append.mp h2).1, fun g hg => ?_⟩
  rcases hJ g (hP g (by simp [hg])) with h | h
  · exact h
  · exact absurd rfl (hd g h g (by simp [hg]))

/-- Un-laying-out a list that covers a suffix `S` of `act` and misses the prefix `A` cuts exactly `S`. -/
theorem filter_cut (A S G : List Fn) (hA : ∀ g ∈ A, g ∉ G) (hS : ∀ g ∈ S, g ∈ G) :
    (A ++ S).filter (fun g => decide (g ∉ G)) = A := by
  rw [List.filter_append]
  have h1 : A.filter (fun g => decide (g ∉ G)) = A := by
    rw [List.filter_eq_self]; intro a ha; simpa using hA a ha
  have h2 : S.filter (fun g => decide (g ∉ G)) = [] := by
    rw [List.filter_eq_nil_iff]; intro a ha; simpa using hS a ha
  rw [h1, h2, List.append_nil]

/-- Un-laying-out a list that covers the footnotes `S` taken last and none of those before them leaves the latter. -/
theorem Took.cut {A0 P0 X S : List Fn} {fs : FState} (h : Took A0 P0 (X ++ S) fs) (c : FCtx) (G : List Fn)
    (hA : ∀ g ∈ A0 ++ X, g ∉ G) (hS : ∀ g ∈ S, g ∈ G) : Took A0 P0 X (unlayAll c fs G) := by
  obtain ⟨u1, u2, u3⟩ := unlayAll_spec c G fs h.ok
  refine ⟨u1, by rw [u2, h.hact, ← List.append_assoc]; exact filter_cut _ _ _ hA hS, fun g hg => ?_⟩
  rw [u3 g]
  rcases h.pers g hg with hp | hx
  · exact .inl (.inl hp)
  · exact (List.mem_append.mp hx).elim .inr fun hs => .inl (.inr (hS g hs))

/-- What was taken before the point and what was pending at it are disjoint. -/
theorem Took.disjoint {A0 P0 X : List Fn} {fs : FState} (h : Took A0 P0 X fs) : ∀ g ∈ A0, g ∉ P0 := by
  intro g hg hp
  have hnd := h.ok.actnd
  rw [h.hact, List.nodup_append] at hnd
  rcases h.pers g hp with hpend | hx
  · exact h.ok.disj g (by rw [h.hact]; exact List.mem_append_left _ hg) hpend
  · exact hnd.2.2 g hg g hx rfl

/-- What a layout started at the state reached takes comes after what was taken before it. -/
theorem Took.trans {A0 P0 X Y : List Fn} {fs1 fs2 : FState} (h1 : Took A0 P0 X fs1)
    (h2 : Took (act fs1) fs1.pending Y fs2) : Took A0 P0 (X ++ Y) fs2 :=
  ⟨h2.ok, by rw [h2.hact, h1.hact, List.append_assoc], fun g hg =>
    (h1.pers g hg).elim (fun h => (h2.pers g h).imp_right (List.mem_append_right _))
      fun h => .inr (List.mem_append_left _ h)⟩

/-! ### what survives every footnote method survives whole layouts

A layout touches the footnote state only through `layout_footnote`, `report_footnote` (the footnote loop of a line)
and `unlayout_footnote` (`remove_placeholders`). -/

/-- `P` survives the three footnote methods of the layout context, called with footnotes of non-negative height. -/
structure Stable (c : FCtx) (P : FState → Prop) : Prop where
  lay : ∀ fs f, 0 ≤ f.height → P fs → P (layoutFootnote c fs f).1
  report : ∀ fs f, 0 ≤ f.height → P fs → P (reportFootnote c fs f)
  unlay : ∀ fs f, P fs → P (unlayFootnote c fs f)

mutual
/-- Footnote bodies have non-negative heights. -/
def HeightsOk : FootBox → Prop
  | .para _ _ _ _ calls => ∀ cl ∈ calls, 0 ≤ (cl.m : Rat) * cl.h
  | .block _ _ kids => HeightsOkList kids
def HeightsOkList : List FootBox → Prop
  | [] => True
  | b :: bs => HeightsOk b ∧ HeightsOkList bs
end

theorem mem_lineFns {st calls i f} :
    f ∈ lineFns st calls i ↔ ∃ cl ∈ calls, cl.line = i ∧ mkFn st cl = f := by
  simp [lineFns, and_assoc]

theorem lineFns_height (st : PStyle) (calls : List Call) (i : Nat) (h : ∀ cl ∈ calls, 0 ≤ (cl.m : Rat) * cl.h) :
    ∀ f ∈ lineFns st calls i, 0 ≤ f.height := by
  intro f hf; obtain ⟨cl, hc, _, rfl⟩ := mem_lineFns.1 hf; exact h cl hc

section
variable {c : FCtx} {P : FState → Prop} (hP : Stable c P)
include hP

theorem unlayAll_stable (G : List Fn) (fs : FState) (h : P fs) : P (unlayAll c fs G) := by
  induction G generalizing fs with
  | nil => exact h
  | cons f rest ih => exact ih _ (hP.unlay fs f h)

theorem stable_of_unlay (fs x : FState) (hx : ∃ G, x = unlayAll c fs G) (h : P fs) : P x := by
  obtain ⟨G, rfl⟩ := hx
  exact unlayAll_stable hP G fs h

theorem takeStep_stable (bs y : Rat) (fs : FState) (f : Fn) (hf : 0 ≤ f.height) (h : P fs) :
    P (takeStep c bs y fs f) := by
  unfold takeStep
  split
  · exact hP.report _ f hf (hP.lay fs f hf h)
  · exact hP.lay fs f hf h

theorem footLoop_stable (guard pie : Bool) (bs y : Rat) (F : List Fn) (fs : FState) (hF : ∀ f ∈ F, 0 ≤ f.height)
    (h : P fs) : P (footLoop c guard pie bs y F fs).2 :=
  footLoop_preserves c guard pie bs y P F (fun fs f hf => takeStep_stable hP bs y fs f (hF f hf)) fs h

theorem lineLoopF_stable (st : PStyle) (calls : List Call) (b : BoxSt) (n : Nat) (lineH : Rat)
    (pie : Bool) (bs : Rat) (fuel i : Nat) (y : Rat) (s : LineLoop) (fs : FState)
    (hcalls : ∀ cl ∈ calls, 0 ≤ (cl.m : Rat) * cl.h) (h : P fs) :
    P (lineLoopF c st calls b n lineH pie bs fuel i y s fs).2 := by
  fun_induction lineLoopF c st calls b n lineH pie bs fuel i y s fs with
  | case1 i y s fs => exact h
  | case2 fuel i y s fs resume newPosY dbd offset overflow hov abort stop r lines' hb =>
    exact unlayAll_stable hP _ fs h
  | case3 fuel i y s fs resume newPosY dbd offset overflow hov shift newPosY' lineY mt' fs' hfl ih =>
    have := footLoop_stable hP (!s.lines.isEmpty || !pie) pie bs (newPosY' + offset) (lineFns st calls i) fs
      (lineFns_height st calls i hcalls) h
    rw [hfl] at this
    exact ih this
  | case4 fuel i y s fs resume newPosY dbd offset overflow hov shift newPosY' mt' fs' hfl abort stop r lines' hb =>
    have := footLoop_stable hP (!s.lines.isEmpty || !pie) pie bs (newPosY' + offset) (lineFns st calls i) fs
      (lineFns_height st calls i hcalls) h
    rw [hfl] at this
    exact unlayAll_stable hP _ fs' this
  | case5 fuel i y s fs resume newPosY dbd offset overflow hov shift newPosY' mt' fs' hfl =>
    have := footLoop_stable hP (!s.lines.isEmpty || !pie) pie bs (newPosY' + offset) (lineFns st calls i) fs
      (lineFns_height st calls i hcalls) h
    rw [hfl] at this
    exact this

end

/-! The containers and the children loop only un-lay-out. -/

theorem finishParaF_fs (c : FCtx) (st : PStyle) (calls : List Call) (p : Prep) (pie : Bool) (id idx n : Nat)
    (r : LineResult) (fs : FState) : ∃ G, (finishParaF c st calls p pie id idx n r fs).fs = unlayAll c fs G := by
  unfold finishParaF
  dsimp only
  by_cases hab : r.abort = true
  · rw [if_pos hab]; exact ⟨_, rfl⟩
  · rw [if_neg hab]
    generalize (if r.stop = true then _ else none : Option Resume) = resume
    by_cases hd : dropped st pie resume = true
    · rw [if_pos hd]; exact ⟨_, rfl⟩
    · rw [if_neg hd]; exact ⟨[], rfl⟩

theorem finishBlockF_fs (c : FCtx) (st : PStyle) (rest : List FootBox) (p : Prep) (pie : Bool) (id idx : Nat)
    (out : KidsOutcome) (fs : FState) : ∃ G, (finishBlockF c st rest p pie id idx out fs).fs = unlayAll c fs G := by
  unfold finishBlockF
  cases out with
  | aborted page s => exact ⟨_, rfl⟩
  | stopped resume s =>
    dsimp only
    split
    · exact ⟨_, rfl⟩
    · exact ⟨[], rfl⟩
  | finished s => exact ⟨[], rfl⟩

theorem firstPassUnlay_eq (c : FCtx) (r : LayoutResult) (fp : FirstPass) (fs : FState) :
    ∃ G, firstPassUnlay c r fp fs = unlayAll c fs G := by
  have hfrag : ∃ G, unlayFrag c fs r.frag = unlayAll c fs G := by
    cases r.frag with
    | none => exact ⟨[], rfl⟩
    | some f => exact ⟨_, rfl⟩
  unfold firstPassUnlay
  split
  · exact hfrag
  · exact ⟨[], rfl⟩
  · exact hfrag

theorem earlierUnlay_eq (c : FCtx) (pb : Brk) (s : KidsLoop) (frag : Option Frag) (fs : FState) :
    ∃ G, earlierUnlay c pb s frag fs = unlayAll c fs G := by
  unfold earlierUnlay
  split
  · exact ⟨[], rfl⟩
  · split
    · split
      · exact ⟨_, rfl⟩
      · exact ⟨[], rfl⟩
    · exact ⟨[], rfl⟩

mutual
theorem boxF_stable {c : FCtx} {P : FState → Prop} (hP : Stable c P) : (box : FootBox) → HeightsOk box →
    ∀ (idx : Nat) (y bs : Rat) (skip : Option Resume) (cb pie : Bool) (adjL : List Rat) (fs : FState), P fs →
    P (layoutBoxF c box idx y bs skip cb pie adjL fs).fs
  | .para id n lineH st calls => by
    intro hh idx y bs skip cb pie adjL fs h
    simp only [HeightsOk] at hh
    simp only [layoutBoxF]
    apply stable_of_unlay hP _ _ (finishParaF_fs _ _ _ _ _ _ _ _ _ _)
    unfold lineboxLayoutF lineboxLoopF
    exact lineLoopF_stable hP _ _ _ _ _ _ _ _ _ _ _ _ hh h
  | .block id st kids => by
    intro hh idx y bs skip cb pie adjL fs h
    simp only [HeightsOk] at hh
    simp only [layoutBoxF]
    exact stable_of_unlay hP _ _ (finishBlockF_fs _ _ _ _ _ _ _ _ _) (kidsF_stable hP kids hh st 0 _ _ pie _ fs h)
theorem kidsF_stable {c : FCtx} {P : FState → Prop} (hP : Stable c P) : (rest : List FootBox) → HeightsOkList rest →
    ∀ (st : PStyle) (index skipIdx : Nat) (bs : Rat) (pie : Bool) (s : KidsLoop) (fs : FState), P fs →
    P (layoutKidsF c st rest index skipIdx bs pie s fs).2
  | [] => by
    intro _ st index skipIdx bs pie s fs h
    simpa [layoutKidsF] using h
  | child :: rest => by
    intro hh st index skipIdx bs pie s fs h
    simp only [HeightsOkList] at hh
    unfold layoutKidsF
    split
    · exact kidsF_stable hP rest hh.2 st (index + 1) skipIdx bs pie s fs h
    · dsimp only
      split
      · exact h
      · have hR := boxF_stable hP child hh.1 index s.posY bs s.skip st.isRoot (pie && s.newChildren.isEmpty) s.cur fs h
        generalize layoutBoxF c child index s.posY bs s.skip st.isRoot (pie && s.newChildren.isEmpty) s.cur fs = R1
          at hR ⊢
        split
        · rename_i frag posY hfp
          rw [hfp]
          have h1 := stable_of_unlay hP _ _ (firstPassUnlay_eq c R1.r (.keep frag posY) R1.fs) hR
          split
          · exact stable_of_unlay hP _ _ (earlierUnlay_eq _ _ _ _ _) h1
          · exact kidsF_stable hP rest hh.2 st (index + 1) skipIdx bs pie _ _ h1
        · rename_i bs' hfp
          rw [hfp]
          have h1 := stable_of_unlay hP _ _ (firstPassUnlay_eq c R1.r (.redo bs') R1.fs) hR
          have hR2 := boxF_stable hP child hh.1 index s.posY bs' s.skip st.isRoot (pie && s.newChildren.isEmpty)
            (s.setCur R1.r.adjL s.curIsL).cur (firstPassUnlay c R1.r (.redo bs') R1.fs) h1
          generalize layoutBoxF c child index s.posY bs' s.skip st.isRoot (pie && s.newChildren.isEmpty)
            (s.setCur R1.r.adjL s.curIsL).cur (firstPassUnlay c R1.r (.redo bs') R1.fs) = R2 at hR2 ⊢
          split
          · exact stable_of_unlay hP _ _ (earlierUnlay_eq _ _ _ _ _) hR2
          · exact kidsF_stable hP rest hh.2 st (index + 1) skipIdx bs pie _ _ hR2
end

end Wp.PMF
