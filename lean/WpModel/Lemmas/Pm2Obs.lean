/-
The abstraction the Python harness applies to a render for the C04 break checker (`BreakTrace.badObs`): one
observation per pair of adjacent sibling boxes that both show text — the break values meeting between them, the
last page showing a word of the first, the first page showing a word of the second, and the side of that page.
-/
import WpModel.Model.BreakTrace
import WpModel.Lemmas.Pm2Words
import WpModel.Lemmas.Pm2First

namespace Wp.PM
open Wp

def adjPairs : List PBox → List (PBox × PBox)
  | a :: b :: rest => (a, b) :: adjPairs (b :: rest)
  | _ => []

mutual
/-- Every pair of adjacent siblings of the tree. -/
def sibPairs : PBox → List (PBox × PBox)
  | .para _ _ _ _ => []
  | .block _ _ kids => adjPairs kids ++ sibPairsList kids
def sibPairsList : List PBox → List (PBox × PBox)
  | [] => []
  | b :: bs => sibPairs b ++ sibPairsList bs
end

theorem adjPairs_get (kids : List PBox) (a b : PBox) (h : (a, b) ∈ adjPairs kids) :
    ∃ j, kids[j]? = some a ∧ kids[j + 1]? = some b := by
  fun_induction adjPairs kids with
  | case1 x y rest ih =>
    rcases List.mem_cons.mp h with e | h
    · cases e; exact ⟨0, rfl, rfl⟩
    · obtain ⟨j, h1, h2⟩ := ih h
      exact ⟨j + 1, h1, h2⟩
  | case2 => cases h

mutual
theorem sibPairs_sibAt : (box : PBox) → ∀ a b, (a, b) ∈ sibPairs box → ∃ π j, SibAt box π j a b
  | .para _ _ _ _ => by intro a b h; simp [sibPairs] at h
  | .block id st kids => by
    intro a b h
    simp only [sibPairs, List.mem_append] at h
    rcases h with h | h
    · obtain ⟨j, h1, h2⟩ := adjPairs_get kids a b h
      exact ⟨[], j, by simp [SibAt, h1, h2]⟩
    · obtain ⟨i, k, hk, π, j, hs⟩ := sibPairsList_sibAt kids a b h
      exact ⟨i :: π, j, by simp only [SibAt]; exact ⟨k, hk, hs⟩⟩
theorem sibPairsList_sibAt : (bs : List PBox) → ∀ a b, (a, b) ∈ sibPairsList bs →
    ∃ (i : Nat) (k : PBox), bs[i]? = some k ∧ ∃ π j, SibAt k π j a b
  | [] => by intro a b h; simp [sibPairsList] at h
  | x :: xs => by
    intro a b h
    simp only [sibPairsList, List.mem_append] at h
    rcases h with h | h
    · exact ⟨0, x, by simp, sibPairs_sibAt x a b h⟩
    · obtain ⟨i, k, hk, hs⟩ := sibPairsList_sibAt xs a b h
      exact ⟨i + 1, k, by simpa using hk, hs⟩
end

/-- The observation for one pair, if both boxes show text. -/
def obsOfPair (d : Doc) (pages : List Page) (ab : PBox × PBox) : Option BreakTrace.Obs :=
  match (Trace.pagesOf (allWords ab.1) (pageWordsOf pages)).getLast?,
        (Trace.pagesOf (allWords ab.2) (pageWordsOf pages)).head? with
  | some pa, some pb =>
    some { values := valuesBetween ab.1 ab.2, pageA := pa, pageB := pb,
           rightB := (pages[pb]?.map (fun p => p.type.right)).getD false, ltr := d.rootLtr }
  | _, _ => none

def obsOf (d : Doc) (pages : List Page) : List BreakTrace.Obs :=
  (sibPairs d.root).filterMap (obsOfPair d pages)

theorem mem_pagesOf {ws : List Nat} {pw : List (List Nat)} {i : Nat} :
    i ∈ Trace.pagesOf ws pw ↔ ∃ page, pw[i]? = some page ∧ ∃ w ∈ page, w ∈ ws := by
  unfold Trace.pagesOf
  simp only [List.mem_map, List.mem_filter, List.any_eq_true, Prod.exists, exists_eq_right]
  constructor
  · rintro ⟨page, hmem, w, hw, hc⟩
    rw [List.mem_zipIdx_iff_getElem?] at hmem
    exact ⟨page, hmem, w, hw, by simpa using hc⟩
  · rintro ⟨page, hget, w, hw, hc⟩
    exact ⟨page, by rw [List.mem_zipIdx_iff_getElem?]; exact hget, w, hw, by simpa using hc⟩

theorem pagesOf_sorted (ws : List Nat) (pw : List (List Nat)) :
    List.Pairwise (· < ·) (Trace.pagesOf ws pw) := by
  unfold Trace.pagesOf
  exact (List.pairwise_lt_range' (s := 0) (n := pw.length)).sublist
    (List.zipIdx_map_snd 0 pw ▸ List.filter_sublist.map _)

theorem pagesOf_head_le (ws : List Nat) (pw : List (List Nat)) (h : Nat)
    (hh : (Trace.pagesOf ws pw).head? = some h) : ∀ i ∈ Trace.pagesOf ws pw, h ≤ i := by
  have hs := pagesOf_sorted ws pw
  obtain ⟨t, ht⟩ := List.head?_eq_some_iff.mp hh
  rw [ht] at hs ⊢
  intro i hi
  rcases List.mem_cons.mp hi with rfl | hi
  · exact Nat.le_refl _
  · exact Nat.le_of_lt ((List.pairwise_cons.mp hs).1 i hi)

/-- A page word of `allWords b` is the word of a line of `b` shown by that page. -/
theorem page_word_line {pages : List Page} {i : Nat} {page : List Nat} (b : PBox)
    (hp : (pageWordsOf pages)[i]? = some page) {w : Nat} (hw : w ∈ page) (hb : w ∈ allWords b) :
    ∃ pg l, pages[i]? = some pg ∧ l ∈ fragLines pg.root ∧ l ∈ linesFrom b none := by
  unfold pageWordsOf at hp
  rw [List.getElem?_map] at hp
  cases hpg : pages[i]? with
  | none => rw [hpg] at hp; cases hp
  | some pg =>
    rw [hpg] at hp
    simp only [Option.map_some, Option.some.injEq] at hp
    subst hp
    rw [allWords_eq] at hb
    simp only [List.mem_map] at hw hb
    obtain ⟨l, hl, rfl⟩ := hw
    obtain ⟨l', hl', he⟩ := hb
    have := wordId_inj _ _ _ _ he
    have : l' = l := Prod.ext this.1 this.2
    subst this
    exact ⟨pg, l', rfl, hl, hl'⟩

theorem mem_pagesLines (Ps : List Page) (pg : Page) (l : Nat × Nat) (hpg : pg ∈ Ps) (hl : l ∈ fragLines pg.root) :
    l ∈ pagesLines Ps := by
  rw [pagesLines_eq]
  exact List.mem_flatten.mpr ⟨_, List.mem_map_of_mem hpg, hl⟩

/-- Which side of a boundary a page is on: when the pages `A` and the pages `B` after them have no line in common,
a page showing a line of `A` is among `A` and one showing a line of `B` is among `B`. -/
theorem page_side {A B : List Page} (hdis : ∀ x ∈ pagesLines A, ∀ y ∈ pagesLines B, x ≠ y) {k : Nat} {pg : Page}
    (hk : (A ++ B)[k]? = some pg) {l : Nat × Nat} (hl : l ∈ fragLines pg.root) :
    (l ∈ pagesLines A → k < A.length) ∧ (l ∈ pagesLines B → A.length ≤ k) := by
  rcases Nat.lt_or_ge k A.length with hlt | hge
  · rw [List.getElem?_append_left hlt] at hk
    have hA := mem_pagesLines A pg l (List.mem_of_getElem? hk) hl
    exact ⟨fun _ => hlt, fun hB => absurd rfl (hdis l hA l hB)⟩
  · rw [List.getElem?_append_right hge] at hk
    have hB := mem_pagesLines B pg l (List.mem_of_getElem? hk) hl
    exact ⟨fun hA => absurd rfl (hdis l hA l hB), fun _ => hge⟩

end Wp.PM
