/-
C13 — lemmas about the resource scopes built by `Stream.add_image` / `add_group` / `add_pattern`
(`Model/ImageDedupe.lean::buildList`): every content stream (the page's, a transparency group's, a
tiling pattern's) names in its *own* `/Resources /XObject` every image it paints, whatever was
registered before in the document-wide `images` table.
-/
import WpModel.Model.ImageDedupe


namespace Wp.C13
open Wp Wp.ImageDedupe

mutual
/-- `CoveredList ds xs ps`: the stream on which `ds` is drawn has the resources `xs` (XObject) / `ps`
(Pattern), and every image painted on it is named in `xs`; for every group drawn on it some group entry of `xs`
has resources that cover the group's body (a `Draw.group` carries no key, so which entry is its own is not said: two
groups with equal bodies are covered by one entry); for every pattern some entry of `ps`, likewise. -/
def CoveredList : List Draw → List Node → List Node → Prop
  | [], _, _ => True
  | d :: rest, xs, ps => Covered d xs ps ∧ CoveredList rest xs ps
def Covered : Draw → List Node → List Node → Prop
  | .image id interp _ _, xs, _ => xs.any (Node.isImageNamed (imageName id interp)) = true
  | .group body, xs, _ => ∃ key xs' ps', Node.group key xs' ps' ∈ xs ∧ CoveredList body xs' ps'
  | .pattern body, _, ps => ∃ key xs' ps', Node.pattern key xs' ps' ∈ ps ∧ CoveredList body xs' ps'
end

/-- Coverage only looks at which entries exist: it survives any growth of the two dictionaries. -/
theorem covered_mono (d : Draw) (xs ps xs2 ps2 : List Node) (hx : ∀ n ∈ xs, n ∈ xs2) (hp : ∀ n ∈ ps, n ∈ ps2)
    (h : Covered d xs ps) : Covered d xs2 ps2 := by
  cases d with
  | image id interp ratio alpha =>
    simp only [Covered, List.any_eq_true] at h ⊢
    obtain ⟨n, hn, hp⟩ := h
    exact ⟨n, hx n hn, hp⟩
  | group body =>
    simp only [Covered] at h ⊢
    obtain ⟨key, xs', ps', hm, hc⟩ := h
    exact ⟨key, xs', ps', hx _ hm, hc⟩
  | pattern body =>
    simp only [Covered] at h ⊢
    obtain ⟨key, xs', ps', hm, hc⟩ := h
    exact ⟨key, xs', ps', hp _ hm, hc⟩

theorem coveredList_mono (ds : List Draw) (xs ps xs2 ps2 : List Node) (hx : ∀ n ∈ xs, n ∈ xs2)
    (hp : ∀ n ∈ ps, n ∈ ps2) (h : CoveredList ds xs ps) : CoveredList ds xs2 ps2 := by
  induction ds with
  | nil => simp [CoveredList]
  | cons d rest ih =>
    simp only [CoveredList] at h ⊢
    exact ⟨covered_mono d xs ps xs2 ps2 hx hp h.1, ih h.2⟩

/-- `add_image` / `add_group` / `add_pattern` only ever add entries to the stream's resources. -/
theorem buildOne_grows (d : Draw) (xs ps : List Node) :
    (∀ n ∈ xs, n ∈ (buildOne d xs ps).1) ∧ (∀ n ∈ ps, n ∈ (buildOne d xs ps).2) := by
  cases d with
  | image id interp ratio alpha =>
    simp only [buildOne]
    split
    · exact ⟨fun _ h => h, fun _ h => h⟩
    · exact ⟨fun _ h => List.mem_append_left _ h, fun _ h => h⟩
  | group body => exact ⟨fun _ h => List.mem_append_left _ h, fun _ h => h⟩
  | pattern body => exact ⟨fun _ h => h, fun _ h => List.mem_append_left _ h⟩

theorem buildList_grows (ds : List Draw) : ∀ (xs ps : List Node),
    (∀ n ∈ xs, n ∈ (buildList ds xs ps).1) ∧ (∀ n ∈ ps, n ∈ (buildList ds xs ps).2) := by
  induction ds with
  | nil => intro xs ps; simp [buildList]
  | cons d rest ih =>
    intro xs ps
    simp only [buildList]
    obtain ⟨g1, g2⟩ := buildOne_grows d xs ps
    obtain ⟨h1, h2⟩ := ih (buildOne d xs ps).1 (buildOne d xs ps).2
    exact ⟨fun n hn => h1 n (g1 n hn), fun n hn => h2 n (g2 n hn)⟩

mutual
/-- The resources built while drawing cover the drawing — for the stream itself and, recursively, for
the stream of every group and pattern — from any starting dictionaries. -/
theorem buildList_covers : ∀ (ds : List Draw) (xs ps : List Node),
    CoveredList ds (buildList ds xs ps).1 (buildList ds xs ps).2
  | [], xs, ps => by simp [CoveredList]
  | d :: rest, xs, ps => by
    simp only [buildList, CoveredList]
    obtain ⟨g1, g2⟩ := buildList_grows rest (buildOne d xs ps).1 (buildOne d xs ps).2
    exact ⟨covered_mono d _ _ _ _ g1 g2 (buildOne_covers d xs ps), buildList_covers rest _ _⟩
theorem buildOne_covers : ∀ (d : Draw) (xs ps : List Node),
    Covered d (buildOne d xs ps).1 (buildOne d xs ps).2
  | .image id interp ratio alpha, xs, ps => by
    simp only [buildOne, Covered]
    cases hany : xs.any (Node.isImageNamed (imageName id interp)) <;> simp [hany, Node.isImageNamed]
  | .group body, xs, ps => by
    simp only [buildOne, Covered]
    exact ⟨"x" ++ toString xs.length, _, _, List.mem_append_right _ (List.mem_singleton.mpr rfl),
      buildList_covers body [] []⟩
  | .pattern body, xs, ps => by
    simp only [buildOne, Covered]
    exact ⟨"p" ++ toString ps.length, _, _, List.mem_append_right _ (List.mem_singleton.mpr rfl),
      buildList_covers body [] []⟩
end

end Wp.C13
