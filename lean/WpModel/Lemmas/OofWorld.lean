/-
The world invariant of PM stage 2a: every item that a layout leaves in `absolute_boxes` or registers in
`context.broken_out_of_flow` is a box of the document (`GoodDeep`, inherited from the document) and — for the
registered ones — carries a well-formed resume position. This is what `continuation_segment` /
`next_page_continues` need as hypothesis; with the invariant it holds for every page of every document.
It is the rule of `Lemmas/OofFrame` (`layoutKids_inv`, `remakePage_inv`) for the boxes of a good document and
well-formed positions; what it asks for is that a layout returns a well-formed position (`good_resume_wf`).
-/
import WpModel.Lemmas.OofFrame

namespace Wp.PMO
open Wp Wp.PM

/-- A registered item is fine: a box of a good document, a well-formed resume position. -/
def EOk (e : Broken) : Prop := GoodDeep e.box ∧ WfSkip e.box (some e.resume)

def WOk (w : World) : Prop := (∀ a ∈ w.absL, GoodDeep a.box) ∧ (∀ e ∈ w.broken, EOk e)

def SOk (s : KidsLoop) : Prop := WOk s.w ∧ ∀ e ∈ s.localBroken, EOk e

/-- The resume position a layout returns is well formed (`C01Oof.segment_wf`, at the lemma level). -/
theorem layout_resume_wf (box : OBox) (hg : Good box) (c : Ctx) (idx : Nat) (y bs : Rat)
    (skip : Option Resume) (cb pie : Bool) (adjL : List Rat) (w : World) (hwf : WfSkip box skip) (f : OFrag)
    (h : (layoutBox c box idx y bs skip cb pie adjL w).frag = some f) (ρ : Resume)
    (hρ : (layoutBox c box idx y bs skip cb pie adjL w).resume = some ρ) : WfSkip box (some ρ) := by
  have hs := box_spec box hg c idx y bs skip cb pie adjL w hwf f h
  rw [hρ] at hs
  exact hs.2.2.2

/-- Laid out with `page_is_empty` a box always has a fragment, so the resume position returned is well formed. -/
theorem good_resume_wf (box : OBox) (hg : Good box) (c : Ctx) (idx : Nat) (y bs : Rat) (skip : Option Resume)
    (cb : Bool) (adjL : List Rat) (w : World) (hwf : WfSkip box skip) :
    ∀ ρ, (layoutBox c box idx y bs skip cb true adjL w).resume = some ρ → WfSkip box (some ρ) := by
  intro ρ hρ
  obtain ⟨f, hfr⟩ := box_frag box c idx y bs skip cb adjL w
  exact layout_resume_wf box hg c idx y bs skip cb true adjL w hwf f hfr ρ hρ

theorem kept_good : Kept GoodDeep GoodDeepList WfSkip :=
  ⟨fun _ _ _ h => by simp only [GoodDeep] at h; exact h.2, fun _ _ h => by simpa only [GoodDeepList] using h,
    wfSkip_none, fun box c idx y bs skip cb adjL w ρ hd hwf hρ =>
      good_resume_wf box (good_of_deep box hd) c idx y bs skip cb adjL w hwf ρ hρ⟩

/-- **World invariant, the children loop**: laying out boxes of a good document keeps `absolute_boxes`,
`context.broken_out_of_flow` and the items registered by the container fine. -/
theorem layoutKids_sok : (kids : List OBox) → GoodDeepList kids → ∀ (c : Ctx) (st : OStyle) (b : BoxSt)
    (cwc : Bool) (index skipIdx : Nat) (bs : Rat) (pie : Bool) (s : KidsLoop), SOk s →
    SOk (layoutKids c st b cwc kids index skipIdx bs pie s).loopState := by
  intro kids hd c st b cwc index skipIdx bs pie s hs
  have h := layoutKids_inv (C := fun _ => True) kept_good kids hd c st b cwc index skipIdx bs pie s
    ⟨⟨trivial, hs.1⟩, hs.2⟩
  exact ⟨h.1.2, h.2⟩

theorem eok_of (box : OBox) (hd : GoodDeep box) (ρ : Resume) (h : WfSkip box (some ρ)) (ser idx : Nat)
    (hoof : box.inFlow = false) : EOk { ser := ser, box := box, idx := idx, resume := ρ, oof := hoof } := ⟨hd, h⟩

theorem goodDeep_emptyRoot (b : OBox) (h : GoodDeep b) : GoodDeep (emptyRoot b) := by
  cases b with
  | para id n lh st => simpa [emptyRoot, GoodDeep] using h
  | block id st kids =>
    simp only [GoodDeep] at h
    simp [emptyRoot, GoodDeep, GoodDeepList, h.1]

/-- **World invariant, one page**: what a page of a good document registers for the next page is fine. -/
theorem remakePage_registered_ok (d : Doc) (hd : GoodDeep d.root) (index : Nat) (resume : Option Resume)
    (np : NextPage) (right : Bool) (brokenIn : List Broken) (rootTop : Rat) (p : Page)
    (hin : ∀ e ∈ brokenIn, EOk e) (hp : remakePage d index resume np right brokenIn rootTop = some p) :
    ∀ e ∈ p.broken, EOk e :=
  (remakePage_inv (C := fun _ => True) kept_good d hd (goodDeep_emptyRoot _ hd) trivial index resume np right
    brokenIn rootTop p hin hp).2

/-- **World invariant, whole document**: every page of a good document registers fine items only. -/
theorem makeAllPages_registered_ok (d : Doc) (hd : GoodDeep d.root) : ∀ (fuel index : Nat)
    (resume : Option Resume) (np : NextPage) (right : Bool) (brokenIn : List Broken) (rootTop : Rat)
    (pages : List Page), (∀ e ∈ brokenIn, EOk e) →
    makeAllPages d fuel index resume np right brokenIn rootTop = some pages →
    ∀ p ∈ pages, ∀ e ∈ p.broken, EOk e :=
  makeAllPages_forall d (fun bi => ∀ e ∈ bi, EOk e) (fun p => ∀ e ∈ p.broken, EOk e)
    fun index resume np right bi rt p hin hp =>
      have := remakePage_registered_ok d hd index resume np right bi rt p hin hp
      ⟨this, this⟩

end Wp.PMO
