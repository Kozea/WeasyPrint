/-
Algebra of the transformation matrices.
-/
import WpModel.Model.Transform

namespace Wp.Transform
open Wp Wp.Rounded

theorem M.ext' {p q : M} (ha : p.a = q.a) (hb : p.b = q.b) (hc : p.c = q.c) (hd : p.d = q.d)
    (he : p.e = q.e) (hf : p.f = q.f) : p = q := by
  cases p; cases q; simp_all

theorem M.mul_assoc (p q r : M) : (p.mul q).mul r = p.mul (q.mul r) := by
  apply M.ext' <;> simp only [M.mul] <;> grind

theorem M.det_mul (p q : M) : (p.mul q).det = p.det * q.det := by
  simp only [M.det, M.mul]; grind

/-- Applying a product is applying the factors left to right. -/
theorem M.apply_mul (p q : M) (x y : Rat) :
    (p.mul q).apply x y = q.apply (p.apply x y).1 (p.apply x y).2 := by
  simp only [M.apply, M.mul]
  apply Prod.ext <;> simp only <;> grind

/-- Functions whose matrix has no translation part (scale, rotate, skew, `matrix()` with e = f = 0). -/
def Fn.isLinear : Fn → Bool
  | .scale _ _ => true
  | .linear _ _ _ _ => true
  | .matrix _ _ _ _ e f => e == 0 && f == 0
  | .translate _ _ => false

def Fn.isTranslate : Fn → Bool
  | .translate _ _ => true
  | _ => false

theorem apply_zero_of_linear (bw bh : Rat) (fn : Fn) (h : fn.isLinear = true) :
    (fnMatrix bw bh fn).apply 0 0 = (0, 0) := by
  cases fn with
  | scale sx sy => simp [fnMatrix, M.apply] <;> grind
  | linear a b c d => simp [fnMatrix, M.apply] <;> grind
  | matrix a b c d e f =>
    simp only [Fn.isLinear, Bool.and_eq_true, beq_iff_eq] at h
    simp [fnMatrix, M.apply, h.1, h.2] <;> grind
  | translate x y => simp [Fn.isLinear] at h

theorem fold_apply_zero (bw bh : Rat) (fns : List Fn) (m : M) (h : ∀ fn ∈ fns, fn.isLinear = true) :
    (fns.foldl (fun m fn => (fnMatrix bw bh fn).mul m) m).apply 0 0 = m.apply 0 0 := by
  induction fns generalizing m with
  | nil => rfl
  | cons fn rest ih =>
    simp only [List.foldl_cons]
    rw [ih _ (fun g hg => h g (List.mem_cons_of_mem _ hg)), M.apply_mul,
      apply_zero_of_linear bw bh fn (h fn List.mem_cons_self)]

/-- Sum of the translations of a list of `translate` functions. -/
def shift (bw bh : Rat) : List Fn → Rat × Rat
  | [] => (0, 0)
  | .translate x y :: rest => (percentage x bw + (shift bw bh rest).1, percentage y bh + (shift bw bh rest).2)
  | _ :: rest => shift bw bh rest

theorem M.det_translation (x y : Rat) : (M.translation x y).det = 1 := by
  simp only [M.det, M.translation]; grind

theorem M.translation_mul (a b x y : Rat) :
    (M.translation a b).mul (M.translation x y) = M.translation (x + a) (y + b) := by
  apply M.ext' <;> simp [M.mul, M.translation] <;> grind

theorem fold_translate (bw bh : Rat) (fns : List Fn) (x y : Rat) (h : ∀ fn ∈ fns, fn.isTranslate = true) :
    fns.foldl (fun m fn => (fnMatrix bw bh fn).mul m) (M.translation x y) =
      M.translation (x + (shift bw bh fns).1) (y + (shift bw bh fns).2) := by
  induction fns generalizing x y with
  | nil => simp only [List.foldl_nil, shift, Rat.add_zero]
  | cons fn rest ih =>
    cases fn with
    | translate tx ty =>
      rw [List.foldl_cons, show fnMatrix bw bh (.translate tx ty) =
        M.translation (percentage tx bw) (percentage ty bh) from rfl, M.translation_mul,
        ih _ _ (fun g hg => h g (List.mem_cons_of_mem _ hg)), shift, Rat.add_assoc, Rat.add_assoc]
    | scale _ _ => have := h _ List.mem_cons_self; simp [Fn.isTranslate] at this
    | matrix _ _ _ _ _ _ => have := h _ List.mem_cons_self; simp [Fn.isTranslate] at this
    | linear _ _ _ _ => have := h _ List.mem_cons_self; simp [Fn.isTranslate] at this

theorem fold_det (bw bh : Rat) (fns : List Fn) (m : M) :
    (fns.foldl (fun m fn => (fnMatrix bw bh fn).mul m) m).det =
      fns.foldl (fun p fn => (fnMatrix bw bh fn).det * p) m.det := by
  induction fns generalizing m with
  | nil => rfl
  | cons fn rest ih => simp only [List.foldl_cons, ih, M.det_mul]

end Wp.Transform
