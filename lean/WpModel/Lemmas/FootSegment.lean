/-
Line conservation + progress post-condition of the footnote model's `layoutBoxF` / `layoutKidsF`
(stage-1 `BoxPost` / `KidsPost` on the erased boxes): whatever the footnote state does, the lines a layout keeps
are a contiguous run from the resume position.
-/
import WpModel.Lemmas.SegmentBlock
import WpModel.Lemmas.FootTurn
import WpModel.Lemmas.FootState

namespace Wp.PMF
open Wp Wp.PM

theorem guard_or (e pie : Bool) (h : (!e || !pie) = true) : e = false ∨ pie = false := by
  cases e <;> cases pie <;> simp_all

/-- The lines kept by the line loop are a run from `k`: all the remaining lines when the loop runs to its end, a
proper non-empty prefix when it breaks the paragraph without cancelling it. -/
theorem lineLoopF_lines (c : FCtx) (st : PStyle) (calls : List Call) (b : BoxSt) (n : Nat) (lineH : Rat)
    (pie : Bool) (bs : Rat) (k : Nat) (fuel i : Nat) (y : Rat) (s : LineLoop) (fs : FState)
    (h0 : RunFrom k i s.lines) :
    ∃ m, (outLines (lineLoopF c st calls b n lineH pie bs fuel i y s fs).1).map Prod.fst = List.range' k m ∧
      (∀ s', (lineLoopF c st calls b n lineH pie bs fuel i y s fs).1 = .done s' → m = (i - k) + fuel) ∧
      (∀ stop r s', (lineLoopF c st calls b n lineH pie bs fuel i y s fs).1 = .broke false stop r s' →
        fuel = n - i → 1 ≤ st.orphans → stop = true ∧ 1 ≤ m ∧ k + m < n) := by
  fun_induction lineLoopF c st calls b n lineH pie bs fuel i y s fs with
  | case1 i y s fs => exact ⟨i - k, h0.2, (fun _ _ => rfl), fun _ _ _ h => by cases h⟩
  | case2 fuel i y s fs resume newPosY dbd offset overflow hov abort stop r lines' hb =>
    obtain ⟨m, _, hl, hstop⟩ := breakLine_run st n i k s.lines pie s.skip resume h0
    rw [hb] at hl hstop
    refine ⟨m, hl, (fun _ h => by cases h), ?_⟩
    intro stop' r' s' h hn ho
    cases h
    refine hstop rfl (by omega) ho ?_
    exact guard_or _ _ (Bool.and_eq_true _ _ ▸ hov).1
  | case3 fuel i y s fs resume newPosY dbd offset overflow hov shift newPosY' lineY mt' fs' hfl ih =>
    obtain ⟨m, hl, hd, hb⟩ := ih (runFrom_snoc k i s.lines lineY h0)
    exact ⟨m, hl, fun s' h => by rw [hd s' h]; have := h0.1; omega, fun stop r s' h hn => hb stop r s' h (by omega)⟩
  | case4 fuel i y s fs resume newPosY dbd offset overflow hov shift newPosY' mt' fs' hfl abort stop r lines' hb =>
    obtain ⟨m, _, hl, hstop⟩ := breakLine_run st n i k s.lines pie s.skip resume h0
    rw [hb] at hl hstop
    refine ⟨m, hl, (fun _ h => by cases h), ?_⟩
    intro stop' r' s' h hn ho
    cases h
    refine hstop rfl (by omega) ho ?_
    exact guard_or _ _ (footLoop_stops c (!s.lines.isEmpty || !pie) pie bs (newPosY' + offset) (lineFns st calls i) fs
      (fun h => by rw [hfl] at h; cases h)).1
  | case5 fuel i y s fs resume newPosY dbd offset overflow hov shift newPosY' mt' fs' hfl =>
    exact ⟨i - k, h0.2, (fun _ h => by cases h), fun _ _ _ h => by cases h⟩

theorem lineResultOf_lines (n : Nat) (o : LineOutcome) : (lineResultOf n o).lines = outLines o := by
  cases o <;> rfl

theorem lineboxLayoutF_lines (c : FCtx) (st : PStyle) (calls : List Call) (b : BoxSt) (n : Nat) (lineH : Rat)
    (pie : Bool) (adj : List Rat) (bs posY : Rat) (skip : Option Resume) (dbd : Bool) (fs : FState) :
    (lineboxLayoutF c st calls b n lineH pie adj bs posY skip dbd fs).1.lines =
      outLines (lineboxLoopF c st calls b n lineH pie adj bs posY skip dbd fs).1 :=
  lineResultOf_lines n _

/-- `_linebox_layout` with footnotes: same post-condition as stage-1 `linebox_spec`. -/
theorem lineboxF_spec (c : FCtx) (st : PStyle) (calls : List Call) (b : BoxSt) (n : Nat) (lineH : Rat) (pie : Bool)
    (adj : List Rat) (bs posY : Rat) (skip : Option Resume) (dbd : Bool) (fs : FState) (ho : 1 ≤ st.orphans)
    (ha : (lineboxLayoutF c st calls b n lineH pie adj bs posY skip dbd fs).1.abort = false) :
    LinesRun n (skipLine skip) (lineboxLayoutF c st calls b n lineH pie adj bs posY skip dbd fs).1 := by
  obtain ⟨m, hl, hdone, hbroke⟩ := lineLoopF_lines c st calls b n lineH pie bs (skipLine skip) (n - skipLine skip)
    (skipLine skip) (lineStart adj posY)
    { lines := [], posY := lineStart adj posY, skip := skip, mt := b.mt, dbd := dbd } fs (runFrom_start _)
  refine lineResult_spec n (skipLine skip) (lineboxLoopF c st calls b n lineH pie adj bs posY skip dbd fs).1 _ rfl
    (fun s h => ?_) (fun stp r s h => ?_) ha
  · rw [show (lineLoopF _ _ _ _ _ _ _ _ _ _ _ _ _).1 = _ from h, hdone s h] at hl
    simpa [outLines] using hl
  · rw [show (lineLoopF _ _ _ _ _ _ _ _ _ _ _ _ _).1 = _ from h] at hl
    obtain ⟨hstp, hm1, hmn⟩ := hbroke stp r s h rfl ho
    exact ⟨hstp, m, hm1, hmn, hl⟩

@[simp] theorem finishParaF_r (c : FCtx) (st : PStyle) (calls : List Call) (p : Prep) (pie : Bool) (id idx n : Nat)
    (r : LineResult) (fs : FState) :
    (finishParaF c st calls p pie id idx n r fs).r = finishPara (ctxOf c fs) st p pie id idx n r := by
  unfold finishParaF
  dsimp only
  split
  · rfl
  · split <;> split <;> rfl

@[simp] theorem finishBlockF_r (c : FCtx) (st : PStyle) (rest : List FootBox) (p : Prep) (pie : Bool) (id idx : Nat)
    (out : KidsOutcome) (fs : FState) :
    (finishBlockF c st rest p pie id idx out fs).r = finishBlock (ctxOf c fs) st p pie id idx out := by
  unfold finishBlockF
  cases out with
  | aborted page s => rfl
  | stopped resume s => dsimp only; split <;> rfl
  | finished s => rfl

/-- `Good` (no fixed height, orphans / widows ≥ 1) of the underlying stage-1 box. -/
def GoodF (b : FootBox) : Prop := Good b.erase

theorem paraF_spec (id n : Nat) (lineH : Rat) (st : PStyle) (calls : List Call)
    (hg : Good (.para id n lineH st))
    (c : FCtx) (idx : Nat) (y bs : Rat) (skip : Option Resume) (cb pie : Bool) (adjL : List Rat) (fs : FState) :
    BoxPost (.para id n lineH st) skip
      (layoutBoxF c (.para id n lineH st calls) idx y bs skip cb pie adjL fs).r.frag
      (layoutBoxF c (.para id n lineH st calls) idx y bs skip cb pie adjL fs).r.resume := by
  simp only [layoutBoxF, finishParaF_r]
  exact boxPost_of_T _ (good_noFixed _ hg) _ _ _ (finishPara_postT id n lineH st _ _ pie idx skip false _
    (lineboxF_spec _ _ _ _ _ _ _ _ _ _ _ _ _ hg.2.1))

theorem eraseList_dropKids (kids : List FootBox) (k : Nat) : eraseList (dropKids kids k) = (eraseList kids).drop k := by
  induction kids generalizing k with
  | nil => cases k <;> simp [dropKids, eraseList]
  | cons b bs ih =>
    cases k with
    | zero => simp [dropKids]
    | succ k => simp [dropKids, eraseList, ih]

/-- The fragment kept for a child satisfies the post-condition of the child's layouts. -/
theorem kidResultF_post (c : FCtx) (st : PStyle) (child : FootBox) (index : Nat) (bs : Rat) (pie : Bool) (s : KidsLoop)
    (fs : FState)
    (hbox : ∀ (bs : Rat) (cur : List Rat) (fs : FState),
      BoxPost child.erase s.skip
        (layoutBoxF c child index s.posY bs s.skip st.isRoot (pie && s.newChildren.isEmpty) cur fs).r.frag
        (layoutBoxF c child index s.posY bs s.skip st.isRoot (pie && s.newChildren.isEmpty) cur fs).r.resume) :
    BoxPost child.erase s.skip (kidResultF c st child index bs pie s fs).1.1
      (kidResultF c st child index bs pie s fs).1.2.1.resume := by
  fun_cases kidResultF c st child index bs pie s fs
  next hfp =>
    rcases firstPass_keep hfp with h | h <;> rw [h]
    · exact boxPost_none _ _ _
    · exact hbox _ _ _
  · exact hbox _ _ _

mutual
/-- **Segment + progress post-condition of `block_level_layout` with footnotes**: whatever the footnote state
does to the page bottom, the fragment holds a contiguous run of lines from the skip position, the resume
position is strictly later, nothing is lost. -/
theorem boxF_spec : (box : FootBox) → Good box.erase → ∀ (c : FCtx) (idx : Nat) (y bs : Rat) (skip : Option Resume)
    (cb pie : Bool) (adjL : List Rat) (fs : FState),
    BoxPost box.erase skip (layoutBoxF c box idx y bs skip cb pie adjL fs).r.frag
      (layoutBoxF c box idx y bs skip cb pie adjL fs).r.resume
  | .para id n lineH st calls => by
    intro hg c idx y bs skip cb pie adjL fs
    exact paraF_spec id n lineH st calls hg c idx y bs skip cb pie adjL fs
  | .block id st kids => by
    intro hg c idx y bs skip cb pie adjL fs
    simp only [FootBox.erase, Good] at hg
    simp only [layoutBoxF, finishBlockF_r, FootBox.erase]
    apply finishBlock_post _ _ _ _ _ _ _ _ _ hg.1
    generalize prepare (ctxOf c fs) st y bs skip cb pie adjL = p
    have := kidsF_spec kids hg.2 c st [] (skipIdxOf skip) (subSkipOf skip) 0 (skipIdxOf skip) p.bs pie
      { newChildren := [], posY := p.posY, adjL := p.adjL, cur := p.cur, curIsL := p.curIsL,
        nextPage := { brk := none, page := none }, skip := subSkipOf skip } fs
      (by simp [GoodList]) (by simp [FullFrom]) (by intro _; exact ⟨rfl, rfl⟩) (by intro h; simp; omega)
      (by simp)
    simpa using this
theorem kidsF_spec : (rest : List FootBox) → GoodList (eraseList rest) → ∀ (c : FCtx) (st : PStyle) (B : List PBox)
    (i0 : Nat) (sub0 : Option Resume) (index skipIdx : Nat) (bs : Rat) (pie : Bool) (s : KidsLoop) (fs : FState),
    GoodList B → FullFrom s.newChildren B i0 sub0 →
    (index < skipIdx → B = [] ∧ i0 = skipIdx) → (skipIdx ≤ index → index = i0 + B.length) →
    s.skip = (if B = [] then sub0 else none) →
    KidsPost (B ++ (eraseList rest).drop (skipIdx - index)) i0 sub0
      (layoutKidsF c st rest index skipIdx bs pie s fs).1
  | [] => by
    intro _ c st B i0 sub0 index skipIdx bs pie s fs hgB hinv _ _ _
    simp only [layoutKidsF, eraseList, List.drop_nil, List.append_nil, KidsPost]
    exact hinv
  | child :: rest => by
    intro hg c st B i0 sub0 index skipIdx bs pie s fs hgB hinv hlt hge hskip
    simp only [eraseList, GoodList] at hg
    simp only [eraseList]
    rw [layoutKidsF_turn]
    by_cases hc : index < skipIdx
    · rw [if_pos hc]
      obtain ⟨hB, hi0⟩ := hlt hc
      rw [Seg.drop_skipped hc]
      exact kidsF_spec rest hg.2 c st B i0 sub0 (index + 1) skipIdx bs pie s fs hgB hinv
        (fun _ => ⟨hB, hi0⟩) (by intro _; subst hB; simp; omega) hskip
    · rw [if_neg hc]
      have hidx := hge (by omega)
      have hd : skipIdx - index = 0 := by omega
      have hd' : skipIdx - (index + 1) = 0 := by omega
      rw [hd, List.drop_zero]
      unfold kidStepF
      dsimp only
      by_cases hm : (meetBreak s child.erase).2 = true
      · -- forced break before `child`
        rw [if_pos hm, hidx]
        apply stop_before_spec _ _ _ _ _ hinv
        intro he
        rw [meetBreak_nil s child.erase he] at hm
        cases hm
      · rw [if_neg hm]
        have hnc := kidResultF_newChildren c st child index bs pie s fs
        have hsk := kidResultF_skip c st child index bs pie s fs
        have hpost := kidResultF_post c st child index bs pie s fs fun _ _ _ => boxF_spec child hg.1 _ _ _ _ _ _ _ _ _
        generalize kidResultF c st child index bs pie s fs = x at hnc hsk hpost ⊢
        have hcs := conclude_spec index pie (meetBreak s child.erase).1 child.erase x.1.2.2 x.1.1 x.1.2.1.resume B
          (eraseList rest) i0 sub0 hgB (hnc ▸ hinv) hidx (hskip ▸ hpost)
        generalize hck : concludeKid index pie _ _ _ _ _ = ck at hcs ⊢
        rcases ck with ⟨_ | out, s3⟩
        · have := kidsF_spec rest hg.2 c st (B ++ [child.erase]) i0 sub0 (index + 1) skipIdx bs pie s3 x.2
            (goodList_append _ _ hgB (by simp [GoodList, hg.1])) (hcs.2 s3 rfl).1 (by intro _; omega)
            (by intro _; simp; omega) (by simp [(hcs.2 s3 rfl).2, hsk])
          simpa [hd'] using this
        · exact hcs.1 out s3 rfl
end

end Wp.PMF
