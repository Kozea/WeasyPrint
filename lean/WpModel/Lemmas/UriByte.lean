/-
`isUriByte` (`Model/Resources.lean`) holds of ASCII bytes only; used where percent-encoded text is decoded again.
-/
import WpModel.Model.ResourcesUrl
import WpModel.Lemmas.Basic.Char

namespace Wp.Res

/-- The bytes `iri_to_uri` leaves alone are ASCII. -/
theorem isUriByte_lt {b : Nat} (h : isUriByte b = true) : b < 128 := by
  unfold isUriByte at h
  rw [Bool.and_eq_true, decide_eq_true_eq] at h
  exact h.1

/-- The punctuation the proofs need and the hexadecimal digits are legal in a URI.  Evaluating `isUriByte` on a
non-alphanumeric byte decodes the string literal of safe characters, which is slow in the kernel; it is done once, here. -/
theorem punct_hex_uri : (∀ c ∈ ['%', '+', '-', '.', ':'], isUriByte c.toNat = true) ∧
    ∀ k : Fin 16, isUriByte (hexUpper k.val).toNat = true := by
  decide +kernel

/-- Percent-encoding writes only bytes that are legal in a URI (unreserved, reserved, or `%`). -/
theorem quoteByte_uri (b : Nat) : ∀ ch ∈ quoteByte b, isUriByte ch.toNat = true := by
  fun_cases quoteByte b
  · next h =>
    rw [List.forall_mem_singleton, Char.toNat_ofNat_of_lt (isUriByte_lt h)]
    exact h
  · exact List.forall_mem_cons.mpr ⟨punct_hex_uri.1 _ List.mem_cons_self, List.forall_mem_cons.mpr ⟨punct_hex_uri.2 ⟨_, Nat.mod_lt _ (by decide)⟩,
      List.forall_mem_singleton.mpr (punct_hex_uri.2 ⟨_, Nat.mod_lt _ (by decide)⟩)⟩⟩

end Wp.Res
