/-
Post-condition of `layoutBox` / `layoutKids` for every document (fixed heights allowed): mutual structural
induction over `PBox` / `List PBox`.
-/
import WpModel.Lemmas.LossyPara
import WpModel.Lemmas.Pm2Step

namespace Wp.PM
open Wp

/-- One fragment per processed child. -/
def AlignT (fs : List Frag) (B : List PBox) (i0 : Nat) (sub0 : Option Resume) (fl : Bool) : Prop :=
  PartFromT fs B i0 sub0 fl ∧ fs.length = B.length

/-- Post-condition of the children loop (`fl` = the block or an ancestor has a fixed height). -/
def KidsPostT (all : List PBox) (i0 : Nat) (sub0 : Option Resume) (fl : Bool) : KidsOutcome → Prop
  | .finished s' => AlignT s'.newChildren all i0 sub0 fl
  | .aborted _ _ => True
  | .stopped ρ s' => ∃ m, ρ.isSome = true ∧ skipIdxOf ρ = i0 + m ∧ PartFromT s'.newChildren all i0 sub0 true ∧
      SandT fl (fragLinesList s'.newChildren) (linesFromKids all m (subSkipOf ρ)) (freeFromKids all m (subSkipOf ρ))
        (linesFromKids all 0 sub0) (freeFromKids all 0 sub0) ∧
      posKids all 0 sub0 < posKids all m (subSkipOf ρ)

theorem alignT_free (fs : List Frag) (B : List PBox) (i0 : Nat) (sub0 : Option Resume) (fl : Bool)
    (h : AlignT fs B i0 sub0 fl) : fl = false → (freeFromKids B 0 sub0).Sublist (fragLinesList fs) :=
  fun hf => partT_free.2 hf h.1

theorem stop_before_specT (B R : List PBox) (i0 : Nat) (sub0 : Option Resume) (fl : Bool) (s' : KidsLoop)
    (hinv : AlignT s'.newChildren B i0 sub0 fl) (hne : s'.newChildren ≠ []) :
    KidsPostT (B ++ R) i0 sub0 fl (.stopped (some (.node (i0 + B.length) none)) s') := by
  have hB : 0 < B.length := by
    rw [← hinv.2]; exact List.length_pos_iff.mpr hne
  refine ⟨B.length, rfl, rfl, partFromT_extend _ _ _ _ _ _ hinv.1, ?_, ?_⟩
  · simp only [subSkipOf_node]
    rw [linesFromKids_append_length, freeFromKids_append_length, linesFromKids_append_lt _ _ _ _ hB,
      freeFromKids_append_lt _ _ _ _ hB]
    have := sandT_whole_append fl (fragLinesList s'.newChildren) (linesFromKids B 0 sub0) (freeFromKids B 0 sub0) []
      (linesFromKids R 0 none) (freeFromKids R 0 none) _ _ (alignT_free _ _ _ _ _ hinv)
      (partT_sub.2 hinv.1) (sandT_rest fl _ _)
    simpa using this
  · rw [posKids_append_lt _ _ _ _ hB]
    simp only [subSkipOf_node]
    rw [posKids_append_length]
    have := posKids_lt B 0 sub0 hB
    omega

theorem conclude_specT (index : Nat) (pie : Bool) (pb : Brk) (child : PBox) (s : KidsLoop)
    (frag : Option Frag) (resume : Option Resume) (B rest : List PBox) (i0 : Nat) (sub0 : Option Resume) (fl : Bool)
    (hgB : WellFormedList B) (hinv : AlignT s.newChildren B i0 sub0 fl) (hidx : index = i0 + B.length)
    (hchild : BoxPostT child (if B = [] then sub0 else none) fl frag resume) :
    (∀ out s3, concludeKid index pie pb child s frag resume = (some out, s3) →
      KidsPostT (B ++ child :: rest) i0 sub0 fl out) ∧
    (∀ s3, concludeKid index pie pb child s frag resume = (none, s3) →
      AlignT s3.newChildren (B ++ [child]) i0 sub0 fl ∧ s3.skip = s.skip) := by
  cases frag with
  | none =>
    constructor
    · intro out s3 h
      rcases concludeKid_stops h with
        ⟨_, ⟨kept, r', hfound, rfl⟩ | rfl | ⟨hne, rfl⟩⟩ | ⟨_, _, hf, _⟩
      · -- an earlier break
        obtain ⟨m, sub', rfl, hm, hshape, hsand, hpos⟩ := findEarlierGo_specT _ _ _ _ _ hgB hinv.1 kept r' hfound
        have h0 : 0 < B.length := by omega
        refine ⟨m, rfl, rfl, partFromT_extend _ _ _ _ _ _ hshape, ?_, ?_⟩
        · simp only [subSkipOf_node]
          rw [linesFromKids_append_lt _ _ _ _ hm, linesFromKids_append_lt _ _ _ _ h0,
            freeFromKids_append_lt _ _ _ _ hm, freeFromKids_append_lt _ _ _ _ h0]
          exact sandT_frame fl _ _ _ _ _ _ _ hsand
        · simp only [subSkipOf_node]
          rw [posKids_append_lt _ _ _ _ hm, posKids_append_lt _ _ _ _ h0]
          exact hpos
      · trivial
      · rw [hidx]
        exact stop_before_specT _ _ _ _ _ _ hinv hne
      · cases hf
    · intro s3 h
      obtain ⟨_, hf, _⟩ := conclude_continue h
      cases hf
  | some f =>
    have hc := hchild f rfl
    cases resume with
    | some r' =>
      simp only at hc
      obtain ⟨hshape, hsand, hp⟩ := hc
      constructor
      · intro out s3 h
        simp only [concludeKid, Prod.mk.injEq, Option.some.injEq] at h
        obtain ⟨rfl, rfl⟩ := h
        refine ⟨B.length, rfl, by rw [hidx]; rfl, ?_, ?_, ?_⟩
        · have := partFromT_snoc _ B i0 sub0 true (f.withIdx index) child (partT_mono.2 hinv.1) hinv.2
            (partT_withIdx _ _ _ _ _ hshape) (by simp [hidx])
          have := partFromT_extend _ _ rest _ _ _ this
          simpa using this
        · simp only [subSkipOf_node]
          rw [fragLinesList_append, linesFromKids_append_zero, freeFromKids_append_zero]
          rw [linesFromKids_append_length, freeFromKids_append_length]
          simp only [fragLinesList, fragLines_withIdx, List.append_nil, linesFromKids, freeFromKids]
          exact sandT_whole_append fl _ _ _ _ _ _ _ _ (alignT_free _ _ _ _ _ hinv) (partT_sub.2 hinv.1)
            (sandT_frame fl _ _ _ _ _ _ _ hsand)
        · simp only [subSkipOf_node]
          rw [posKids_append_length]
          have := posKids_append_zero B child rest sub0
          simp only [posKids]
          omega
      · intro s3 h
        simp [concludeKid] at h
    | none =>
      simp only at hc
      constructor
      · intro out s3 h
        simp [concludeKid] at h
      · intro s3 h
        simp only [concludeKid, Prod.mk.injEq, true_and] at h
        subst h
        refine ⟨⟨?_, by simp [hinv.2]⟩, rfl⟩
        apply partFromT_snoc _ _ _ _ _ _ _ hinv.1 hinv.2 (partT_withIdx _ _ _ _ _ hc)
        simp [hidx]

theorem finishBlock_postT (c : Ctx) (st : PStyle) (p : Prep) (pie : Bool) (id idx : Nat) (out : KidsOutcome)
    (kids : List PBox) (skip : Option Resume) (fl : Bool)
    (hout : KidsPostT (kids.drop (skipIdxOf skip)) (skipIdxOf skip) (subSkipOf skip) (fl || fixedSt st) out) :
    BoxPostT (.block id st kids) skip fl (finishBlock c st p pie id idx out).frag
      (finishBlock c st p pie id idx out).resume := by
  intro f hf
  cases out with
  | aborted page s => simp [finishBlock, abortResult] at hf
  | stopped resume s =>
    simp only [finishBlock] at hf ⊢
    obtain ⟨⟨g, rfl⟩, hr⟩ := finishContainer_frag hf
    rw [hr]
    obtain ⟨m, hsome, hidx, hshape, hsand, hpos⟩ := hout
    cases resume with
    | none => simp at hsome
    | some ρ =>
      rcases forgetIfFixed_cases st p.b s.posY (some ρ) with h | h
      · rw [h]
        simp only
        refine ⟨by simp only [PartT, Bool.true_or]; exact hshape, ?_, ?_⟩
        · exact sandT_block id st kids skip _ m fl _ hidx hsand
        · exact pos_block id st kids skip _ m hidx hpos
      · rw [h.1]
        simp only [PartT, h.2, Bool.or_true]
        exact hshape
  | finished s =>
    simp only [finishBlock] at hf ⊢
    obtain ⟨⟨g, rfl⟩, hr⟩ := finishContainer_frag hf
    rw [hr]
    simp only [PartT]
    exact hout.1

mutual
/-- **Post-condition of `block_level_layout` for every box** with `orphans, widows ≥ 1` — fixed heights
allowed — every context, position, skip stack. -/
theorem box_specT : (box : PBox) → WellFormed box → ∀ (c : Ctx) (idx : Nat) (y bs : Rat) (skip : Option Resume)
    (cb pie : Bool) (adjL : List Rat) (fl : Bool),
    BoxPostT box skip fl (layoutBox c box idx y bs skip cb pie adjL).frag
      (layoutBox c box idx y bs skip cb pie adjL).resume
  | .para id n lineH st => by
    intro hg c idx y bs skip cb pie adjL fl
    exact para_specT id n lineH st hg c idx y bs skip cb pie adjL fl
  | .block id st kids => by
    intro hg c idx y bs skip cb pie adjL fl
    simp only [WellFormed] at hg
    simp only [layoutBox]
    apply finishBlock_postT
    exact kids_specT kids hg c st (fl || fixedSt st) [] (skipIdxOf skip) (subSkipOf skip) 0 (skipIdxOf skip) _ pie _
      trivial ⟨.inr rfl, rfl⟩ (fun _ => ⟨rfl, rfl⟩) (fun h => (Nat.le_zero.mp h).symm ▸ rfl) (if_pos rfl).symm
/-- The children loop, at any turn: `B` are the boxes of the children placed so far, `i0` the index of the first of
them, `sub0` the position inside it the layout was asked to start at. Either the loop is still passing over
children (`index < skipIdx`: nothing placed, it will start at `i0 = skipIdx`) or it has placed `B` from `i0` on and
is at child `i0 + B.length`; a skip stack is handed to the next child only while nothing is placed. -/
theorem kids_specT : (rest : List PBox) → WellFormedList rest → ∀ (c : Ctx) (st : PStyle) (fl : Bool)
    (B : List PBox) (i0 : Nat) (sub0 : Option Resume) (index skipIdx : Nat) (bs : Rat) (pie : Bool) (s : KidsLoop),
    WellFormedList B → AlignT s.newChildren B i0 sub0 fl →
    (index < skipIdx → B = [] ∧ i0 = skipIdx) → (skipIdx ≤ index → index = i0 + B.length) →
    s.skip = (if B = [] then sub0 else none) →
    KidsPostT (B ++ rest.drop (skipIdx - index)) i0 sub0 fl (layoutKids c st rest index skipIdx bs pie s)
  | [] => by
    intro _ c st fl B i0 sub0 index skipIdx bs pie s _ hinv _ _ _
    simp only [layoutKids, List.drop_nil, List.append_nil, KidsPostT]
    exact hinv
  | child :: rest => by
    intro hg c st fl B i0 sub0 index skipIdx bs pie s hgB hinv hlt hge hskip
    simp only [WellFormedList] at hg
    by_cases hc : index < skipIdx
    · rw [layoutKids_skip hc]
      obtain ⟨hB, hi0⟩ := hlt hc
      rw [Seg.drop_skipped hc]
      exact kids_specT rest hg.2 c st fl B i0 sub0 (index + 1) skipIdx bs pie s hgB hinv
        (fun _ => ⟨hB, hi0⟩) (fun h => by rw [hB, hi0]; exact Nat.le_antisymm hc h) hskip
    · have hsk := Nat.le_of_not_lt hc
      rw [layoutKids_cons hc]
      have hidx := hge hsk
      rw [Nat.sub_eq_zero_of_le hsk, List.drop_zero]
      split
      · -- forced break before `child`
        rename_i hforced
        rw [hidx]
        apply stop_before_specT _ _ _ _ _ _ hinv
        intro he
        rw [meetBreak_nil s child he] at hforced
        cases hforced
      · obtain ⟨bs', adj, hR, hfr, hnc, _, hskip2, _⟩ := kidResult_spec c st child index bs pie s
        -- naming the triple keeps the goal readable; `rcases` on the `kidResult` term itself gets nowhere
        generalize kidResult c st child index bs pie s = kr at hR hfr hnc hskip2 ⊢
        obtain ⟨frag, R, s2⟩ := kr
        simp only at hR hfr hnc hskip2 ⊢
        have hchild : BoxPostT child (if B = [] then sub0 else none) fl frag R.resume := by
          rcases hfr with h | h
          · rw [h]; exact boxPostT_none _ _ _ _
          · rw [h, hR, ← hskip]; exact box_specT child hg.1 _ _ _ _ _ _ _ _ _
        have hinv2 : AlignT s2.newChildren B i0 sub0 fl := by rw [hnc]; exact hinv
        split
        · rename_i out s3 heq
          exact (conclude_specT _ _ _ _ _ _ _ B rest i0 sub0 fl hgB hinv2 hidx hchild).1 out s3 heq
        · rename_i s3 heq
          have hcs := (conclude_specT _ _ _ _ _ _ _ B rest i0 sub0 fl hgB hinv2 hidx hchild).2 s3 heq
          have hsk' : skipIdx ≤ index + 1 := Nat.le_succ_of_le hsk
          have := kids_specT rest hg.2 c st fl (B ++ [child]) i0 sub0 (index + 1) skipIdx bs pie s3
            (wfList_append _ _ hgB ⟨hg.1, trivial⟩) hcs.1 (fun h => absurd hsk' (Nat.not_le_of_lt h))
            (fun _ => by rw [hidx, List.length_append, List.length_singleton, Nat.add_assoc])
            (by rw [hcs.2, hskip2, if_neg (List.append_ne_nil_of_right_ne_nil B (List.cons_ne_nil child []))])
          rwa [Nat.sub_eq_zero_of_le hsk', List.drop_zero, List.append_assoc] at this
end

end Wp.PM
