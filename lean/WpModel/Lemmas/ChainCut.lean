/-
The chain of continued boxes (C03, "a fragmented box's own bottom padding/border also fits"; C05 box-decoration-break):
whenever `block_level_layout` returns a box together with a resume position, that box and every box on the chain of
last children the resume position descends into - the boxes that are continued on the next page - have lost their
bottom margin, padding and border, unless they clone their decorations. Holds through every path of the layout:
the children loop, the second layout with a larger bottom space, fixed heights, and `find_earlier_page_break`
(`Frag.cutEnd`, as /repo does after 24ce8bf). No hypothesis on the document.
-/
import WpModel.Lemmas.Pm2Break

namespace Wp.PM
open Wp

/-- "No bottom decoration of its own left, or it is cloned" (used geometry of a fragment). -/
def EndCutGeo (st : PStyle) (g : Geo) : Prop := st.clone = true ∨ (g.mb = 0 ∧ g.pb = 0 ∧ g.bb = 0)

mutual
/-- `ChainCut f r`: `f` is a fragment continued at `r`; it and every box on the chain of last children that `r`
descends into has lost its bottom decoration. -/
def ChainCut : Frag → Resume → Prop
  | .para _ _ st _ g _, _ => EndCutGeo st g
  | .block _ _ st g kids, r =>
    EndCutGeo st g ∧ (match r with
      | .node _ (some r') => ChainCutLast kids r'
      | _ => True)
def ChainCutLast : List Frag → Resume → Prop
  | [], _ => True
  | f :: rest, r => match rest with
    | [] => ChainCut f r
    | _ :: _ => ChainCutLast rest r
end

theorem chainCutLast_snoc (xs : List Frag) (f : Frag) (r : Resume) :
    ChainCutLast (xs ++ [f]) r ↔ ChainCut f r :=
  Iff.of_eq (lastBy_snoc (ChainCutLast · r) (ChainCut · r) (fun _ => rfl) (fun _ _ _ => rfl) xs f)

theorem chainCutLast_cons (x : Frag) {xs : List Frag} (r : Resume) (h : xs ≠ []) :
    ChainCutLast (x :: xs) r ↔ ChainCutLast xs r :=
  Iff.of_eq (lastBy_append (ChainCutLast · r) (fun _ _ _ => rfl) [x] xs h)

theorem chainCut_withIdx (f : Frag) (i : Nat) (r : Resume) : ChainCut (f.withIdx i) r ↔ ChainCut f r := by
  cases f <;> simp [Frag.withIdx, ChainCut]

theorem endCutGeo_cutBottom (st : PStyle) (g : Geo) : EndCutGeo st (g.cutBottom st) := by
  unfold EndCutGeo Geo.cutBottom
  cases h : st.clone <;> simp

/-- What `findEarlierGo` returning `(kept, r)` guarantees: if `r` descends into a child, that child is the last of
`kept` and its chain is cut. `FragOk`: the same for `findEarlierFrag`; `OutOk`: for the outcome of the children loop. -/
def GoOk (kept : List Frag) (r : Resume) : Prop :=
  match r with
  | .node _ (some r') => ChainCutLast kept r'
  | _ => True

def FragOk (x' : Frag) (r1 : Resume) : Prop :=
  match x' with
  | .block _ _ _ _ kids => GoOk kids r1
  | .para _ _ _ _ _ _ => True

theorem chainCut_cutEnd (x' : Frag) (r1 : Resume) (h : FragOk x' r1) : ChainCut x'.cutEnd r1 := by
  cases x' with
  | para id idx st n g lines => simp only [Frag.cutEnd, ChainCut]; exact endCutGeo_cutBottom st g
  | block id idx st g kids =>
    simp only [Frag.cutEnd, ChainCut]
    refine ⟨endCutGeo_cutBottom st g, ?_⟩
    simp only [FragOk, GoOk] at h
    exact h

theorem findEarlierGo_ne_nil (fs : List Frag) (kept : List Frag) (r : Resume)
    (h : (findEarlierGo fs).found = some (kept, r)) : kept ≠ [] := by
  cases fs with
  | nil => simp [findEarlierGo] at h
  | cons x xs =>
    rcases findEarlierGo_cons_found x xs kept r h with ⟨_, _, rfl⟩ | ⟨_, ⟨_, _, rfl, _⟩ | ⟨_, _, _, rfl, _⟩⟩ <;>
      exact List.cons_ne_nil _ _

mutual
theorem findEarlierGo_chain : (fs : List Frag) → ∀ kept r, (findEarlierGo fs).found = some (kept, r) → GoOk kept r
  | [] => by intro kept r h; simp [findEarlierGo] at h
  | x :: xs => by
    intro kept r h
    rcases findEarlierGo_cons_found x xs kept r h with
      ⟨kept0, hfound, rfl⟩ | ⟨_, ⟨p, _, rfl, rfl⟩ | ⟨x', r1, hfe, rfl, rfl⟩⟩
    · have ih := findEarlierGo_chain xs kept0 r hfound
      unfold GoOk at ih ⊢
      split
      · rw [chainCutLast_cons _ _ (findEarlierGo_ne_nil xs kept0 _ hfound)]; exact ih
      · trivial
    · trivial
    · exact chainCut_cutEnd x' r1 (findEarlierFrag_chain x x' r1 hfe)
theorem findEarlierFrag_chain : (x : Frag) → ∀ x' r, findEarlierFrag x = some (x', r) → FragOk x' r
  | .para id idx st n g lines => by
    intro x' r h
    simp only [findEarlierFrag] at h
    obtain ⟨_, _, _, rfl, _⟩ := findEarlierPara_take h
    trivial
  | .block id idx st g kids => by
    intro x' r h
    simp only [findEarlierFrag] at h
    split at h
    · rename_i kids' r0 hfound
      simp only [Option.some.injEq, Prod.mk.injEq] at h
      obtain ⟨rfl, rfl⟩ := h
      simp only [FragOk]
      exact findEarlierGo_chain kids kids' r0 hfound
    · cases h
end

theorem finishTail_endCut (c : Ctx) (st : PStyle) (b : BoxSt) (bs : Rat) (cwc dbd : Bool) (r : Resume)
    (posY : Rat) (adjL cur : List Rat) (curIsL hasKids : Bool) :
    EndCutGeo st (finishTail c st b bs cwc dbd (some r) posY adjL cur curIsL hasKids).geo := by
  cases hc : st.clone with
  | true => exact .inl hc
  | false =>
    -- the geometry is `geoOf nb _` with `nb` the box after `remove_decoration(end=True)`
    unfold finishTail
    simp only [hc]
    exact .inr ⟨rfl, rfl, rfl⟩

def OutOk : KidsOutcome → Prop
  | .stopped (some (.node _ (some r'))) s => ChainCutLast s.newChildren r'
  | _ => True

theorem outOk_stopped (r : Resume) (s : KidsLoop) : OutOk (.stopped (some r) s) ↔ GoOk s.newChildren r := by
  cases r with
  | line k => exact Iff.rfl
  | node i sub =>
    cases sub with
    | none => exact Iff.rfl
    | some r' => exact Iff.rfl

theorem concludeKid_chain {index : Nat} {pie : Bool} {pb : Brk} {child : PBox} {s : KidsLoop}
    {frag : Option Frag} {resume : Option Resume}
    (hf : ∀ f r', frag = some f → resume = some r' → ChainCut f r') :
    ∀ out s3, concludeKid index pie pb child s frag resume = (some out, s3) → OutOk out := by
  intro out s3 h
  rcases conclude_stop h with
    ⟨_, ⟨kept, r', hfound, rfl⟩ | ⟨rfl, _⟩ | ⟨_, rfl⟩⟩ | ⟨f, r', hfr, hres, rfl⟩
  · exact (outOk_stopped r' _).mpr (findEarlierGo_chain _ _ _ hfound)
  · trivial
  · trivial
  · simp only [OutOk]
    rw [chainCutLast_snoc, chainCut_withIdx]
    exact hf f r' hfr hres

mutual
/-- Every box that `block_level_layout` returns together with a resume position has lost its bottom decoration
(or clones it), and so has every box on the chain of last children the resume position descends into. -/
theorem box_chain : (box : PBox) → ∀ (c : Ctx) (idx : Nat) (y bs : Rat) (skip : Option Resume) (cb pie : Bool)
    (adjL : List Rat) (f : Frag) (r : Resume),
    (layoutBox c box idx y bs skip cb pie adjL).frag = some f →
    (layoutBox c box idx y bs skip cb pie adjL).resume = some r → ChainCut f r
  | .para id n lineH st => by
    intro c idx y bs skip cb pie adjL f r hf hr
    simp only [layoutBox, finishPara] at hf hr
    split at hf
    · simp [abortResult] at hf
    · rename_i hab
      rw [if_neg hab] at hr
      obtain ⟨rfl, hres, _⟩ := finishContainer_geo hf
      rw [hres] at hr
      simp only [ChainCut]
      rw [hr]
      exact finishTail_endCut ..
  | .block id st kids => by
    intro c idx y bs skip cb pie adjL f r hf hr
    simp only [layoutBox] at hf hr
    generalize prepare c st y bs skip cb pie adjL = p at hf hr
    have hk := kids_chain kids c st 0 (skipIdxOf skip) p.bs pie
      ⟨[], p.posY, p.adjL, p.cur, p.curIsL, ⟨none, none⟩, subSkipOf skip⟩
    revert hf hr hk
    generalize layoutKids c st kids 0 (skipIdxOf skip) p.bs pie _ = out
    intro hf hr hk
    cases out with
    | aborted page s => simp [finishBlock, abortResult] at hf
    | finished s =>
      simp only [finishBlock] at hf hr
      obtain ⟨_, hres, _⟩ := finishContainer_geo hf
      rw [hres] at hr; cases hr
    | stopped resume s =>
      simp only [finishBlock] at hf hr
      obtain ⟨rfl, hres, _⟩ := finishContainer_geo hf
      rw [hres] at hr
      have hresume := forgetIfFixed_some hr
      subst hresume
      simp only [ChainCut]
      refine ⟨?_, (outOk_stopped r s).mp hk⟩
      rw [hr]
      exact finishTail_endCut ..
theorem kids_chain : (rest : List PBox) → ∀ (c : Ctx) (st : PStyle) (index skipIdx : Nat) (bs : Rat) (pie : Bool)
    (s : KidsLoop), OutOk (layoutKids c st rest index skipIdx bs pie s)
  | [] => by
    intro c st index skipIdx bs pie s
    rw [layoutKids]
    trivial
  | child :: rest => by
    intro c st index skipIdx bs pie s
    by_cases hc : index < skipIdx
    · rw [layoutKids_skip hc]
      exact kids_chain rest c st (index + 1) skipIdx bs pie s
    · rw [layoutKids_cons hc]
      split
      · trivial
      · obtain ⟨bs', adj, hR, hfr, _⟩ := kidResult_spec c st child index bs pie s
        split
        · rename_i out s3 heq
          refine concludeKid_chain (fun f r' hf hr' => ?_) out s3 heq
          rcases hfr with h | h
          · rw [h] at hf; cases hf
          · rw [h, hR] at hf
            rw [hR] at hr'
            exact box_chain child _ _ _ _ _ _ _ _ f r' hf hr'
        · rename_i s3 heq
          exact kids_chain rest c st (index + 1) skipIdx bs pie s3
end

end Wp.PM
