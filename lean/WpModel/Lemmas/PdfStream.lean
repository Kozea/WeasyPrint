/-
Lemmas about one stream of Model/PdfStream: what a call can and cannot change (`Ext`, `Kept`, the inversions of the
calls that branch), and the bracket invariant that links the API-level bracket stack to the emitted operators
(used by `C16.balanced`).  Core Lean only.
-/
import WpModel.Lemmas.ContentCheck

namespace Wp.Pdf

theorem emitAll_eq (s : SState) (os : List Op) : s.emitAll os = { s with rops := os.reverse ++ s.rops } := by
  induction os generalizing s with
  | nil => rfl
  | cons o os ih =>
    simp only [SState.emitAll, List.foldl_cons] at ih ⊢
    rw [ih (s.emit o)]
    simp [SState.emit]

theorem cfg_cons (o : Op) (r : List Op) : cfg (o :: r) = (cfg r).bind (opStep o) := rfl

theorem cfg_free_cons (o : Op) (r : List Op) (st : List Fr) (h : cfg r = some st) (hf : o.tc = .free) :
    cfg (o :: r) = some st := by
  simp [cfg_cons, h, opStep, hf, tokStep]

theorem cfg_free_append (os r : List Op) (st : List Fr) (h : cfg r = some st) (hf : ∀ o ∈ os, o.tc = .free) :
    cfg (os ++ r) = some st := by
  induction os with
  | nil => simpa
  | cons o os ih =>
    rw [List.cons_append]
    exact cfg_free_cons o _ st (ih (fun x hx => hf x (List.mem_cons_of_mem _ hx))) (hf o List.mem_cons_self)

/-- `s'` is `s` plus operators that do not touch the bracket structure (caches may differ). -/
structure Ext (s s' : SState) : Prop where
  mark_eq : s'.mark = s.mark
  ctm_eq : s'.ctm = s.ctm
  res_eq : s'.res = s.res
  id_eq : s'.id = s.id
  ops : ∃ os, s'.rops = os ++ s.rops ∧ ∀ o ∈ os, o.tc = .free

theorem Ext.refl (s : SState) : Ext s s := ⟨rfl, rfl, rfl, rfl, [], by simp, by simp⟩

theorem Ext.trans {a b c : SState} (h1 : Ext a b) (h2 : Ext b c) : Ext a c := by
  obtain ⟨m1, c1, r1, i1, os1, e1, f1⟩ := h1
  obtain ⟨m2, c2, r2, i2, os2, e2, f2⟩ := h2
  refine ⟨m2.trans m1, c2.trans c1, r2.trans r1, i2.trans i1, os2 ++ os1, by rw [e2, e1, List.append_assoc], ?_⟩
  intro o ho
  rcases List.mem_append.mp ho with h | h
  · exact f2 o h
  · exact f1 o h

theorem Ext.emit_free (s : SState) (o : Op) (hf : o.tc = .free) : Ext s (s.emit o) :=
  ⟨rfl, rfl, rfl, rfl, [o], rfl, by simpa using hf⟩

/-- Only caches differ. -/
theorem Ext.of_same (s s' : SState) (hm : s'.mark = s.mark) (hc : s'.ctm = s.ctm) (hres : s'.res = s.res)
    (hid : s'.id = s.id) (hr : s'.rops = s.rops) : Ext s s' :=
  ⟨hm, hc, hres, hid, [], by simpa using hr, by simp⟩

theorem Ext.emitAll_free (s : SState) (os : List Op) (hf : ∀ o ∈ os, o.tc = .free) : Ext s (s.emitAll os) := by
  rw [emitAll_eq]
  exact ⟨rfl, rfl, rfl, rfl, os.reverse, rfl, fun o ho => hf o (List.mem_reverse.mp ho)⟩

theorem setAlphaStroke_ext (r : Res) (s : SState) (α : Num) : Ext s (setAlphaStroke r s α).1 := by
  unfold setAlphaStroke
  split
  · exact Ext.trans (Ext.of_same s { s with alphaS := some (GKey.A α) } rfl rfl rfl rfl rfl) (Ext.emit_free _ _ rfl)
  · exact Ext.refl s

theorem setAlphaFill_ext (r : Res) (s : SState) (α : Num) : Ext s (setAlphaFill r s α).1 := by
  unfold setAlphaFill
  split
  · exact Ext.trans (Ext.of_same s { s with alphaF := some (GKey.a α) } rfl rfl rfl rfl rfl) (Ext.emit_free _ _ rfl)
  · exact Ext.refl s

theorem alphaStrokePart_ext (r : Res) (s : SState) (α : Num) (stroke : Bool) :
    Ext s (alphaStrokePart r s α stroke).1 := by
  unfold alphaStrokePart
  split
  · exact setAlphaStroke_ext r s α
  · exact Ext.refl s

theorem setAlpha_ext (r : Res) (s : SState) (α : Num) (stroke : Bool) (fill : Option Bool) :
    Ext s (setAlpha r s α stroke fill).1 := by
  unfold setAlpha
  split
  · exact Ext.trans (alphaStrokePart_ext r s α stroke) (setAlphaFill_ext _ _ α)
  · exact alphaStrokePart_ext r s α stroke

/-- Colour-setting operators: `rg` / `RG`, `cs` / `CS`, `scn` / `SCN` without a pattern name. -/
def Op.isColour : Op → Bool
  | .rgb .. | .cs .. | .scn _ none _ => true
  | _ => false

theorem colourOps_isColour (c : Colour) (stroke : Bool) : ∀ o ∈ colourOps c stroke, o.isColour = true := by
  intro o ho
  unfold colourOps at ho
  split at ho <;> simp at ho <;> rcases ho with rfl | rfl <;> rfl

theorem isColour_spec {o : Op} (h : o.isColour = true) : o.tc = .free ∧ o.isPaint = false ∧ o ≠ .q ∧ o ≠ .ET := by
  cases o <;> first | cases h | skip
  all_goals exact ⟨rfl, rfl, nofun, nofun⟩

theorem colourOps_free (c : Colour) (stroke : Bool) : ∀ o ∈ colourOps c stroke, o.tc = .free :=
  fun o ho => (isColour_spec (colourOps_isColour c stroke o ho)).1

theorem setColorOnly_ext (s : SState) (c : Colour) (stroke : Bool) : Ext s (setColorOnly s c stroke) := by
  unfold setColorOnly
  split <;> split
  · exact Ext.refl s
  · exact Ext.trans (Ext.of_same s { s with colS := some c.key } rfl rfl rfl rfl rfl)
      (Ext.emitAll_free _ _ (colourOps_free c stroke))
  · exact Ext.refl s
  · exact Ext.trans (Ext.of_same s { s with colF := some c.key } rfl rfl rfl rfl rfl)
      (Ext.emitAll_free _ _ (colourOps_free c stroke))

theorem setColor_ext (r : Res) (s : SState) (c : Colour) (stroke : Bool) : Ext s (setColor r s c stroke).1 := by
  unfold setColor
  exact Ext.trans (setAlpha_ext r s c.alpha stroke none) (setColorOnly_ext _ c stroke)

theorem setState_ext (r : Res) (s : SState) (d : ExtG) : Ext s (setState r s d).1 := by
  unfold setState
  exact Ext.emit_free _ _ rfl

theorem softMaskState_ext (r : Res) (s : SState) : Ext s (softMaskState r s).1 :=
  Ext.trans (setState_ext r s softMaskDict) (Ext.of_same _ _ rfl rfl rfl rfl rfl)

theorem ok_pair_inv {ε α β} {p : α × β} {a : α} {b : β} (h : (Except.ok p : Except ε (α × β)) = .ok (a, b)) :
    a = p.1 ∧ b = p.2 := by
  cases h; exact ⟨rfl, rfl⟩

theorem stepS_push_ok {r r' : Res} {s s' : SState} (h : stepS r s .push = .ok (s', r')) :
    ∃ top rest, s.ctm = top :: rest ∧ s' = { s with ctm := top :: top :: rest }.emit .q ∧ r = r' := by
  cases hc : s.ctm with
  | nil => simp only [stepS, hc] at h; cases h
  | cons top rest => simp only [stepS, hc] at h; cases h; exact ⟨top, rest, rfl, rfl, rfl⟩

theorem stepS_transform_ok {r r' : Res} {s s' : SState} {a b c d e f : Num}
    (h : stepS r s (.transform a b c d e f) = .ok (s', r')) :
    ∃ top rest, s.ctm = top :: rest ∧
      s' = { s with ctm := Mat.mul ⟨a.val, b.val, c.val, d.val, e.val, f.val⟩ top :: rest }.emit (.cm a b c d e f) ∧
      r = r' := by
  cases hc : s.ctm with
  | nil => simp only [stepS, hc] at h; cases h
  | cons top rest => simp only [stepS, hc] at h; cases h; exact ⟨top, rest, rfl, rfl, rfl⟩

theorem popOps_ctm (s : SState) : (popOps s).ctm = s.ctm := by
  unfold popOps; split <;> rfl

/-- `pop_state` returns only when `_ctm_stack` has an entry above the base, and then with that entry removed. -/
theorem popState_ok (s s' : SState) (h : popState s = .ok s') :
    ∃ a b rest, s.ctm = a :: b :: rest ∧ s' = { clearCaches (popOps s) with ctm := b :: rest } := by
  revert h
  fun_cases popState s <;> intro h <;> cases h
  next a rest hne hc =>
    cases rest with
    | nil => exact absurd rfl hne
    | cons b rest => exact ⟨a, b, rest, popOps_ctm s ▸ hc, rfl⟩

theorem stepS_pop_ok {r r' : Res} {s s' : SState} (h : stepS r s .pop = .ok (s', r')) :
    ∃ a b rest, s.ctm = a :: b :: rest ∧ s' = { clearCaches (popOps s) with ctm := b :: rest } ∧ r = r' := by
  simp only [stepS, Except.map] at h
  cases hp : popState s with
  | error e => rw [hp] at h; cases h
  | ok sp =>
    rw [hp] at h; cases h
    obtain ⟨a, b, rest, hc, e⟩ := popState_ok s s' hp
    exact ⟨a, b, rest, hc, e, rfl⟩

/-- `set_font_size`: nothing on a cache hit, else `Tf` and the new cache entry. -/
theorem stepS_setFont_ok {r r' : Res} {s s' : SState} {f : String} {sz : Num}
    (h : stepS r s (.setFont f sz) = .ok (s', r')) :
    r = r' ∧ ((s.font = some (f, sz.val) ∧ s = s') ∨
      (s.font ≠ some (f, sz.val) ∧ s' = { s with font := some (f, sz.val) }.emit (.Tf f sz))) := by
  simp only [stepS] at h
  split at h
  · rename_i hhit; cases h; exact ⟨rfl, .inl ⟨by simpa using hhit, rfl⟩⟩
  · rename_i hhit; cases h; exact ⟨rfl, .inr ⟨by simpa using hhit, rfl⟩⟩

/-- `end_marked_content`: nothing without `_mark`, else `EMC`. -/
theorem stepS_endMarked_ok {r r' : Res} {s s' : SState} (h : stepS r s .endMarked = .ok (s', r')) :
    r = r' ∧ ((s.mark = false ∧ s = s') ∨ (s.mark = true ∧ s' = s.emit .EMC)) := by
  simp only [stepS] at h
  cases hm : s.mark <;> rw [hm] at h <;> cases h
  · exact ⟨rfl, .inl ⟨rfl, rfl⟩⟩
  · exact ⟨rfl, .inr ⟨rfl, rfl⟩⟩

/-- The stream stays the same stream (dictionary, id, `_mark`) and a non-empty `_ctm_stack` stays non-empty. -/
structure Kept (s s' : SState) : Prop where
  res_eq : s'.res = s.res
  id_eq : s'.id = s.id
  mark_eq : s'.mark = s.mark
  ctm_ne : s.ctm ≠ [] → s'.ctm ≠ []

theorem Ext.kept {s s' : SState} (h : Ext s s') : Kept s s' :=
  ⟨h.res_eq, h.id_eq, h.mark_eq, fun hne => h.ctm_eq ▸ hne⟩

theorem Kept.of_eq {s s' : SState} (hr : s'.res = s.res) (hi : s'.id = s.id) (hm : s'.mark = s.mark)
    (hc : s'.ctm = s.ctm) : Kept s s' :=
  ⟨hr, hi, hm, fun hne => hc ▸ hne⟩

theorem beginText_kept (s : SState) : Kept s (beginText s) := by
  unfold beginText; split <;> exact .of_eq rfl rfl rfl rfl

theorem beginMarked_kept (s : SState) (et : String) (mcid : Bool) (tag : Option String) :
    Kept s (beginMarked s et mcid tag) := by
  unfold beginMarked
  split
  · exact .of_eq rfl rfl rfl rfl
  · split <;> (rw [emitAll_eq]; exact .of_eq rfl rfl rfl rfl)

theorem popOps_kept (s : SState) : Kept s (popOps s) := by
  unfold popOps; split <;> exact .of_eq rfl rfl rfl rfl

theorem stepS_kept {r r' : Res} {s s' : SState} {c : Call} (h : stepS r s c = .ok (s', r')) : Kept s s' := by
  cases c with
  | push =>
    obtain ⟨top, rest, _, rfl, _⟩ := stepS_push_ok h
    exact ⟨rfl, rfl, rfl, fun _ => List.cons_ne_nil _ _⟩
  | pop =>
    obtain ⟨a, b, rest, _, rfl, _⟩ := stepS_pop_ok h
    have hk := popOps_kept s
    exact ⟨hk.res_eq, hk.id_eq, hk.mark_eq, fun _ => List.cons_ne_nil _ _⟩
  | transform a b c d e f =>
    obtain ⟨top, rest, _, rfl, _⟩ := stepS_transform_ok h
    exact ⟨rfl, rfl, rfl, fun _ => List.cons_ne_nil _ _⟩
  | beginText => cases h; exact beginText_kept s
  | endText => cases h; exact .of_eq rfl rfl rfl rfl
  | setColor col stroke => obtain ⟨rfl, _⟩ := ok_pair_inv h; exact (setColor_ext r s col stroke).kept
  | setFont f sz =>
    obtain ⟨_, ⟨_, rfl⟩ | ⟨_, rfl⟩⟩ := stepS_setFont_ok h
    · exact .of_eq rfl rfl rfl rfl
    · exact .of_eq rfl rfl rfl rfl
  | setAlpha α stroke fill => obtain ⟨rfl, _⟩ := ok_pair_inv h; exact (setAlpha_ext r s α stroke fill).kept
  | setState d => obtain ⟨rfl, _⟩ := ok_pair_inv h; exact (setState_ext r s d).kept
  | softMaskState => obtain ⟨rfl, _⟩ := ok_pair_inv h; exact (softMaskState_ext r s).kept
  | setBlendMode mode => obtain ⟨rfl, _⟩ := ok_pair_inv h; exact (setState_ext r s _).kept
  | beginMarked et mcid tag => cases h; exact beginMarked_kept s et mcid tag
  | endMarked =>
    obtain ⟨_, ⟨_, rfl⟩ | ⟨_, rfl⟩⟩ := stepS_endMarked_ok h
    · exact .of_eq rfl rfl rfl rfl
    · exact .of_eq rfl rfl rfl rfl
  -- the other calls append one operator
  | _ => cases h; exact .of_eq rfl rfl rfl rfl

/-- The emitted operators have exactly the API-level bracket stack open (marked-content frames are invisible when
`_mark` is off), and `_ctm_stack` has one entry per open `q` plus the base. -/
structure Inv (s : SState) (st : List Fr) : Prop where
  cfg_eq : cfg s.rops = some (vis s.mark st)
  ctm_len : s.ctm.length = 1 + st.count .q

/-- A stream that has emitted nothing and has only the base entry on `_ctm_stack` has nothing open. -/
theorem Inv.fresh {s : SState} (hr : s.rops = []) (hc : s.ctm.length = 1) : Inv s [] :=
  ⟨by rw [hr]; cases s.mark <;> rfl, by simpa using hc⟩

theorem Inv.ext {s s' : SState} {st : List Fr} (hi : Inv s st) (he : Ext s s') : Inv s' st := by
  obtain ⟨hm, hc, _, _, os, ho, hf⟩ := he
  refine ⟨?_, by rw [hc]; exact hi.ctm_len⟩
  rw [ho, hm]
  exact cfg_free_append os s.rops _ hi.cfg_eq hf

theorem vis_cons_M_off (st : List Fr) : vis false (.M :: st) = vis false st := by
  simp [vis]

theorem vis_cons_q (m : Bool) (st : List Fr) : vis m (.q :: st) = .q :: vis m st := by
  cases m <;> simp [vis]

theorem vis_cons_T (m : Bool) (st : List Fr) : vis m (.T :: st) = .T :: vis m st := by
  cases m <;> simp [vis]

theorem vis_on (st : List Fr) : vis true st = st := by simp [vis]

theorem inText_vis (m : Bool) (st : List Fr) : inText (vis m st) = inText st := by
  cases m
  · simp only [vis, inText]
    induction st with
    | nil => rfl
    | cons f fs ih => cases f <;> simp_all
  · simp [vis]

/-- Undo one bracket step: the stack before a token that was accepted. -/
theorem cfg_tail_of_q (r : List Op) (st : List Fr) (h : cfg (.q :: r) = some (.q :: st)) : cfg r = some st := by
  rw [cfg_cons] at h
  cases hr : cfg r with
  | none => rw [hr] at h; simp at h
  | some x =>
    rw [hr] at h
    simp only [Option.bind_some, opStep, Op.tc, tokStep] at h
    split at h <;> simp_all

theorem cfg_tail_of_ET (r : List Op) (st : List Fr) (h : cfg (.ET :: r) = some st) : cfg r = some (.T :: st) := by
  rw [cfg_cons] at h
  cases hr : cfg r with
  | none => rw [hr] at h; simp at h
  | some x =>
    rw [hr] at h
    simp only [Option.bind_some, opStep, Op.tc, tokStep] at h
    split at h <;> simp_all

theorem cfg_emit (s : SState) (o : Op) (st st' : List Fr) (h : cfg s.rops = some st)
    (hs : tokStep o.tc st = some st') : cfg (s.emit o).rops = some st' := by
  simp [SState.emit, cfg_cons, h, opStep, hs]

theorem Inv.emit {s : SState} {st st' : List Fr} (o : Op) (hi : Inv s st)
    (hs : tokStep o.tc (vis s.mark st) = some (vis s.mark st')) (hq : st'.count .q = st.count .q) :
    Inv (s.emit o) st' :=
  ⟨cfg_emit s o _ _ hi.cfg_eq hs, by rw [hq]; exact hi.ctm_len⟩

theorem ctm_ne_nil {s : SState} {st : List Fr} (hi : Inv s st) : ∃ top rest, s.ctm = top :: rest := by
  have := hi.ctm_len
  cases hc : s.ctm with
  | nil => rw [hc] at this; simp at this; omega
  | cons a b => exact ⟨a, b, rfl⟩

theorem push_inv (r : Res) (s : SState) (st : List Fr) (hi : Inv s st) (hnt : inText st = false) :
    ∃ s' r', stepS r s .push = .ok (s', r') ∧ Inv s' (.q :: st) := by
  obtain ⟨top, rest, hc⟩ := ctm_ne_nil hi
  refine ⟨{ s with ctm := top :: top :: rest }.emit .q, r, by simp [stepS, hc], ?_, ?_⟩
  · show cfg (.q :: s.rops) = some (vis s.mark (.q :: st))
    rw [cfg_cons, hi.cfg_eq, vis_cons_q]
    simp [opStep, Op.tc, tokStep, inText_vis, hnt]
  · have := hi.ctm_len
    rw [hc] at this
    simp [SState.emit] at this ⊢; omega

theorem popOps_spec (s : SState) (st : List Fr) (h : cfg s.rops = some (.q :: st)) :
    cfg (popOps s).rops = some st := by
  unfold popOps
  split
  · rename_i rest heq
    rw [heq] at h
    exact cfg_tail_of_q _ _ h
  · exact cfg_emit _ _ _ _ h (by simp [Op.tc, tokStep])

theorem pop_inv (r : Res) (s : SState) (st : List Fr) (hi : Inv s (.q :: st)) :
    ∃ s' r', stepS r s .pop = .ok (s', r') ∧ Inv s' st := by
  have hcfg : cfg s.rops = some (.q :: vis s.mark st) := by rw [hi.cfg_eq, vis_cons_q]
  have h1 := popOps_spec s _ hcfg
  have hlen : s.ctm.length = 2 + st.count .q := by
    have := hi.ctm_len; simp at this; omega
  have hc2 : (clearCaches (popOps s)).ctm = s.ctm := popOps_ctm s
  match hc : s.ctm with
  | [] => rw [hc] at hlen; simp only [List.length_nil] at hlen; omega
  | [_] => rw [hc] at hlen; simp only [List.length_cons, List.length_nil] at hlen; omega
  | a :: b :: rest =>
    refine ⟨{ clearCaches (popOps s) with ctm := b :: rest }, r, ?_, ?_, ?_⟩
    · simp [stepS, popState, hc2, hc, Except.map]
    · show cfg (popOps s).rops = some (vis (popOps s).mark st)
      rw [(popOps_kept s).mark_eq]; exact h1
    · rw [hc] at hlen; simp at hlen ⊢; omega


/-- Operator classes that leave the bracket stack as it is. -/
def TC.neutral : TC → Bool
  | .graphics | .textOnly | .free => true
  | _ => false

/-- Appending an operator that only asks to be inside / outside a text object. -/
theorem Inv.emit_neutral {s : SState} {st st' : List Fr} (o : Op) (hi : Inv s st) (hn : o.tc.neutral = true)
    (h : tokStep o.tc st = some st') : Inv (s.emit o) st' := by
  have key : st = st' ∧ tokStep o.tc (vis s.mark st) = some (vis s.mark st) := by
    generalize o.tc = t at hn h
    cases t <;> first | cases hn | skip
    · obtain ⟨hnt, e⟩ := not_inText_of_guard h
      exact ⟨e, by simp only [tokStep, inText_vis, hnt]; rfl⟩
    · obtain ⟨hnt, e⟩ := inText_of_guard h
      exact ⟨e, by simp only [tokStep, inText_vis, hnt]; rfl⟩
    · exact ⟨Option.some.inj h, rfl⟩
  obtain ⟨rfl, hs⟩ := key
  exact Inv.emit o hi hs rfl

theorem RawClass.tc_neutral (c : RawClass) : c.tc.neutral = true := by cases c <;> rfl

/-- The API-level rule for a pass-through pydyf method is the checker's rule for the class of its operator. -/
theorem apiStep_rawTok (st : List Fr) (c : RawClass) (token : String) :
    apiStep st (.rawTok c token) = tokStep c.tc st := by cases c <;> rfl

theorem apiStep_raw (st : List Fr) (k : Raw) (args : List Num) (flag : Bool) (text : String) :
    apiStep st (.raw k args flag text) = tokStep k.cls.tc st := apiStep_rawTok st k.cls ""

theorem transform_inv (r : Res) (s : SState) (st : List Fr) (a b c d e f : Num) (hi : Inv s st)
    (hnt : inText st = false) :
    ∃ s' r', stepS r s (.transform a b c d e f) = .ok (s', r') ∧ Inv s' st := by
  obtain ⟨top, rest, hc⟩ := ctm_ne_nil hi
  refine ⟨{ s with ctm := Mat.mul ⟨a.val, b.val, c.val, d.val, e.val, f.val⟩ top :: rest }.emit (.cm a b c d e f), r,
    by simp [stepS, hc], ?_, ?_⟩
  · show cfg (.cm a b c d e f :: s.rops) = some (vis s.mark st)
    rw [cfg_cons, hi.cfg_eq]
    simp [opStep, Op.tc, tokStep, inText_vis, hnt]
  · have := hi.ctm_len
    rw [hc] at this
    simpa [SState.emit] using this

theorem beginText_inv (s : SState) (st : List Fr) (hi : Inv s st) (hnt : inText st = false) :
    Inv (beginText s) (.T :: st) := by
  unfold beginText
  split
  · rename_i rest heq
    refine ⟨?_, ?_⟩
    · have := hi.cfg_eq
      rw [heq] at this
      show cfg rest = some (vis s.mark (.T :: st))
      rw [vis_cons_T]; exact cfg_tail_of_ET _ _ this
    · simpa [List.count_cons] using hi.ctm_len
  · exact Inv.emit .BT hi (by simp [Op.tc, tokStep, inText_vis, hnt, vis_cons_T]) (by simp)

theorem endText_inv (s : SState) (st : List Fr) (hi : Inv s (.T :: st)) :
    Inv ({ s with oldFont := s.font, font := none }.emit .ET) st := by
  have hi' : Inv { s with oldFont := s.font, font := none } (.T :: st) := ⟨hi.cfg_eq, hi.ctm_len⟩
  exact Inv.emit .ET hi' (by simp [Op.tc, tokStep, vis_cons_T]) (by simp)

theorem beginMarked_inv (s : SState) (st : List Fr) (et : String) (mcid : Bool) (tag : Option String)
    (hi : Inv s st) : Inv (beginMarked s et mcid tag) (.M :: st) := by
  unfold beginMarked
  cases hm : s.mark
  · simp only [Bool.not_false, if_true]
    refine ⟨?_, by simpa [List.count_cons] using hi.ctm_len⟩
    rw [hm, vis_cons_M_off, ← hm]; exact hi.cfg_eq
  · simp only [Bool.not_true, Bool.false_eq_true, if_false]
    have hcfg := hi.cfg_eq
    rw [hm, vis_on] at hcfg
    -- `BDC` with a property list or `BMC`: either opens one marked-content frame
    split <;> exact ⟨by simp [SState.emitAll, SState.emit, cfg_cons, hcfg, opStep, Op.tc, tokStep, hm, vis_on],
      by simpa [SState.emitAll, SState.emit, List.count_cons] using hi.ctm_len⟩

theorem endMarked_inv (r : Res) (s : SState) (st : List Fr) (hi : Inv s (.M :: st)) :
    ∃ s' r', stepS r s .endMarked = .ok (s', r') ∧ Inv s' st := by
  simp only [stepS]
  cases hm : s.mark
  · simp only [Bool.not_false, if_true]
    refine ⟨s, r, rfl, ?_, by simpa [List.count_cons] using hi.ctm_len⟩
    have := hi.cfg_eq
    rw [hm, vis_cons_M_off] at this
    rw [hm]; exact this
  · simp only [Bool.not_true, Bool.false_eq_true, if_false]
    exact ⟨s.emit .EMC, r, rfl, Inv.emit .EMC hi (by simp [Op.tc, tokStep, hm, vis_on]) (by simp)⟩

/-- **One API call preserves the bracket invariant** (and cannot raise) when it is legal at the API level. -/
theorem stepS_inv (r : Res) (s : SState) (c : Call) (st st' : List Fr) (hi : Inv s st)
    (ha : apiStep st c = some st') : ∃ s' r', stepS r s c = .ok (s', r') ∧ Inv s' st' := by
  cases c with
  | push =>
    obtain ⟨hnt, rfl⟩ := not_inText_of_guard ha
    exact push_inv r s st hi hnt
  | pop =>
    obtain ⟨rfl⟩ : st = .q :: st' := by
      cases st with
      | nil => cases ha
      | cons f rest => cases f <;> cases ha; rfl
    exact pop_inv r s _ hi
  | transform a b c d e f =>
    obtain ⟨hnt, rfl⟩ := not_inText_of_guard ha
    exact transform_inv r s st a b c d e f hi hnt
  | beginText =>
    obtain ⟨hnt, rfl⟩ := not_inText_of_guard ha
    exact ⟨beginText s, r, rfl, beginText_inv s st hi hnt⟩
  | endText =>
    obtain ⟨rfl⟩ : st = .T :: st' := by
      cases st with
      | nil => cases ha
      | cons f rest => cases f <;> cases ha; rfl
    exact ⟨_, r, rfl, endText_inv s _ hi⟩
  | setColor col stroke => cases ha; exact ⟨_, _, rfl, hi.ext (setColor_ext r s col stroke)⟩
  | setFont f sz =>
    cases ha
    simp only [stepS]
    split
    · exact ⟨s, r, rfl, hi⟩
    · exact ⟨_, r, rfl, hi.ext (Ext.trans (Ext.of_same s { s with font := some (f, sz.val) } rfl rfl rfl rfl rfl)
        (Ext.emit_free _ _ rfl))⟩
  | setAlpha α stroke fill => cases ha; exact ⟨_, _, rfl, hi.ext (setAlpha_ext r s α stroke fill)⟩
  | setState d => cases ha; exact ⟨_, _, rfl, hi.ext (setState_ext r s d)⟩
  | softMaskState => cases ha; exact ⟨_, _, rfl, hi.ext (softMaskState_ext r s)⟩
  | setBlendMode mode => cases ha; exact ⟨_, _, rfl, hi.ext (setState_ext r s { kind := "blend:" ++ mode })⟩
  | beginMarked et mcid tag => cases ha; exact ⟨_, r, rfl, beginMarked_inv s st et mcid tag hi⟩
  | endMarked =>
    obtain ⟨rfl⟩ : st = .M :: st' := by
      cases st with
      | nil => cases ha
      | cons f rest => cases f <;> cases ha; rfl
    exact endMarked_inv r s _ hi
  | raw k args flag text =>
    rw [apiStep_raw] at ha
    exact ⟨_, r, rfl, hi.emit_neutral (.raw k.cls _) k.cls.tc_neutral ha⟩
  | rawTok c token =>
    rw [apiStep_rawTok] at ha
    exact ⟨_, r, rfl, hi.emit_neutral (.raw c token) c.tc_neutral ha⟩
  -- `Do`, `sh`, `cs`, `scn`: one operator of a fixed class
  | _ => exact ⟨_, r, rfl, hi.emit_neutral _ rfl ha⟩

theorem runS_inv (calls : List Call) (r : Res) (s : SState) (st st' : List Fr) (hi : Inv s st)
    (ha : apiRun st calls = some st') : ∃ s' r', runS r s calls = .ok (s', r') ∧ Inv s' st' := by
  induction calls generalizing r s st with
  | nil => cases ha; exact ⟨s, r, rfl, hi⟩
  | cons c cs ih =>
    simp only [apiRun] at ha
    cases h1 : apiStep st c with
    | none => rw [h1] at ha; cases ha
    | some stm =>
      rw [h1] at ha
      obtain ⟨sm, rm, hs, him⟩ := stepS_inv r s c st stm hi h1
      obtain ⟨s', r', hr, hi'⟩ := ih rm sm stm him ha
      exact ⟨s', r', by simp only [runS, hs, hr], hi'⟩

end Wp.Pdf
