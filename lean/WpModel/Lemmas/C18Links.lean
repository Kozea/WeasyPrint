/-
`resolve_links`: its first loop keeps the first anchor of each name (`pageAnchors_eq`: it is `KeepFirst.firsts`), its second
is a filter; `sorted(pdf_names, key=key_bytes)` is `InsertionSort.sort` on keys compared as code-point lists, which is the
order of the library (`nameLt_iff`).  Core Lean only.
-/
import WpModel.Model.Outline
import WpModel.Lemmas.C18PdfString
import WpModel.Lemmas.InsertionSort
import WpModel.Lemmas.KeepFirst
import WpModel.Lemmas.PdfNames

namespace Wp.C18
open Wp Wp.Outline Wp.PdfStr Wp.InsertionSort Wp.KeepFirst

/-! ### first loop: named destinations -/

/-- The first loop of `resolve_links` on one page keeps the first anchor of each name. -/
theorem pageAnchors_eq (as : List Anchor) : ∀ seen,
    pageAnchors as seen = (firsts (·.name) as seen, seen ++ (firsts (·.name) as seen).map (·.name)) := by
  induction as with
  | nil => intro seen; simp [pageAnchors, firsts]
  | cons a as ih =>
    intro seen
    simp only [pageAnchors, firsts]
    split
    · exact ih seen
    · rw [ih]; simp

theorem pageAnchors_seen (as : List Anchor) (seen : List String) :
    (pageAnchors as seen).2 = seen ++ (pageAnchors as seen).1.map (·.name) := by
  rw [pageAnchors_eq]

theorem pageAnchors_sublist (as : List Anchor) (seen : List String) : List.Sublist (pageAnchors as seen).1 as := by
  rw [pageAnchors_eq]; exact firsts_sublist _ as seen

theorem pageAnchors_nodup (as : List Anchor) (seen : List String) :
    ((pageAnchors as seen).1.map (·.name)).Nodup ∧ ∀ n ∈ (pageAnchors as seen).1.map (·.name), n ∉ seen := by
  rw [pageAnchors_eq]
  exact ⟨firsts_nodup _ as seen, fun n hn => ((mem_firsts_keys _ as seen n).mp hn).2⟩

theorem pageAnchors_complete (as : List Anchor) (seen : List String) : ∀ a ∈ as, a.name ∈ (pageAnchors as seen).2 := by
  intro a ha
  rw [pageAnchors_eq, List.mem_append, mem_firsts_keys]
  by_cases h : a.name ∈ seen
  · exact .inl h
  · exact .inr ⟨List.mem_map_of_mem ha, h⟩

theorem pageAnchors_first (as : List Anchor) (seen : List String) (n : String) (hn : n ∉ seen) :
    (pageAnchors as seen).1.find? (fun a => a.name == n) = as.find? (fun a => a.name == n) := by
  rw [pageAnchors_eq]; exact firsts_find _ as seen n hn

/-- Threading `anchors` through the pages is deduplicating the concatenation. -/
theorem allAnchors_flatten (pages : List LPage) :
    ∀ (seen : List String), (allAnchors pages seen).1.flatten = (pageAnchors (pages.flatMap (·.anchors)) seen).1 ∧
      (allAnchors pages seen).2 = (pageAnchors (pages.flatMap (·.anchors)) seen).2 := by
  intro seen
  fun_induction allAnchors pages seen with
  | case1 => simp [pageAnchors]
  | case2 p rest seen r r' ih =>
    simp only [List.flatMap_cons, List.flatten_cons, r', r, ih]
    simp only [pageAnchors_eq, firsts_append, List.map_append, List.append_assoc, and_self]

theorem allAnchors_length (pages : List LPage) :
    ∀ (seen : List String), (allAnchors pages seen).1.length = pages.length := by
  intro seen
  fun_induction allAnchors pages seen with
  | case1 => rfl
  | case2 => simpa

theorem allAnchors_sublist (pages : List LPage) :
    ∀ (seen : List String) (i : Nat) (hi : i < pages.length) (h2 : i < (allAnchors pages seen).1.length),
      List.Sublist ((allAnchors pages seen).1[i]) (pages[i]).anchors := by
  intro seen
  fun_induction allAnchors pages seen with
  | case1 => intro i hi; simp at hi
  | case2 p rest seen r r' ih =>
    intro i hi h2
    cases i with
    | zero => exact pageAnchors_sublist _ _
    | succ i => exact ih i (by simpa using hi) _

/-! ### second loop: links -/

theorem pageLinks_eq_filter (names : List String) (ls : List Link) :
    pageLinks names ls = ls.filter (fun l => !(l.type == "internal") || names.contains l.target) := by
  fun_induction pageLinks names ls <;>
    simp_all only [List.filter, Bool.not_eq_eq_eq_not, Bool.not_true, Bool.not_false, Bool.false_or,
      Bool.true_or]

/-! ### name order -/

/-- `nameLt` (`str.__lt__` on code-point lists) is the lexicographic order of the library. -/
theorem nameLt_iff : ∀ (a b : List Nat), nameLt a b = true ↔ a < b := by
  intro a b
  fun_induction nameLt a b with
  | case5 x xs y ys h1 h2 => simp [List.cons_lt_cons_iff, h1]; omega
  | case6 x xs y ys h1 h2 ih => simp [ih, show x = y by omega]
  | _ => simp [*, List.cons_lt_cons_iff]

/-- Sorted by name, strictly. -/
def StrictSorted : List (List Nat × Nat) → Prop
  | [] => True
  | [_] => True
  | x :: y :: rest => nameLt x.1 y.1 = true ∧ StrictSorted (y :: rest)

theorem StrictSorted.of_pairwise {l : List (List Nat × Nat)} (h : l.Pairwise fun a b => a.1 < b.1) : StrictSorted l :=
  adjacent_of_pairwise StrictSorted trivial (fun _ => trivial) (fun _ _ _ hxy hr => ⟨(nameLt_iff _ _).mpr hxy, hr⟩) h

/-- A `(name, destination)` pair with the name as `keyBytes` orders it: the key bytes and the destination. -/
def withKey (e : List Nat × Nat) : List Nat × Nat := (keyBytes e.1, e.2)

/-! ### `sorted(…, key=…)` on keys of code points

`sortNames` here and `sortSpecs` (attachments) are `InsertionSort.sort` for the test "the key of the element is
smaller" (`keyTest`): the new element goes in front of equal keys, and it comes earlier in the input, so the sort
is stable.  In order means `k a ≤ k b` in the order of the library (`nameLt_iff`). -/

/-- The test of an insertion by the key `k`. -/
def keyTest {α} (k : α → List Nat) (t x : α) : Bool := nameLt (k t) (k x)

theorem sort_keyTest_sorted {α} (k : α → List Nat) (l : List α) : (sort (keyTest k) l).Pairwise fun a b => k a ≤ k b :=
  have after : ∀ t x, keyTest k t x = false → k x ≤ k t := fun t x h h' => by
    rw [keyTest, (nameLt_iff _ _).mpr h'] at h; cases h
  sort_sorted (fun _ _ h => List.le_of_lt ((nameLt_iff _ _).mp h)) after
    (fun _ _ _ => List.le_trans) l

theorem sort_keyTest_strict {α} (k : α → List Nat) (l : List α) (hnd : (l.map k).Nodup) :
    (sort (keyTest k) l).Pairwise fun a b => k a < k b :=
  strict_of_nodup k (sort_keyTest_sorted k l) (((sort_perm l).map k).nodup_iff.mpr hnd)
    fun _ _ hle hne => (List.le_iff_lt_or_eq.mp hle).resolve_right hne

theorem sortNames_eq (l : List (List Nat × Nat)) : sortNames l = sort (keyTest fun e => keyBytes e.1) l :=
  eq_sort sortNames (eq_ins insertName (fun _ => rfl) (fun _ _ _ => rfl)) rfl (fun _ _ => rfl) l

theorem sortNames_perm (l : List (List Nat × Nat)) : (sortNames l).Perm l := by
  rw [sortNames_eq]; exact sort_perm l

/-- The array written by `generate_pdf` is strictly increasing in the byte order of its keys as soon as
the keys are distinct. -/
theorem sortNames_strict (l : List (List Nat × Nat)) (hnd : (l.map (fun e => keyBytes e.1)).Nodup) :
    (sortNames l).Pairwise fun a b => keyBytes a.1 < keyBytes b.1 := by
  rw [sortNames_eq]; exact sort_keyTest_strict _ l hnd

theorem sortNames_sorted (l : List (List Nat × Nat)) (hnd : (l.map (fun e => keyBytes e.1)).Nodup) :
    StrictSorted ((sortNames l).map withKey) :=
  .of_pairwise (List.pairwise_map.mpr (sortNames_strict l hnd))

/-! ### the key bytes -/

theorem keyBytes_ascii (name : List Nat) (h : ∀ c ∈ name, c < 128) : keyBytes name = name := by
  unfold keyBytes
  rw [if_pos]
  simpa using h

/-- Distinct names are written as distinct keys (names are sequences of Unicode scalar values). -/
theorem keyBytes_injective (a b : List Nat) (ha : ∀ c ∈ a, Scalar c) (hb : ∀ c ∈ b, Scalar c)
    (h : keyBytes a = keyBytes b) : a = b :=
  PdfNames.keyBytes_inj a b (List.all_eq_true.mpr fun c hc => (PdfNames.scalar_iff c).mpr (ha c hc))
    (List.all_eq_true.mpr fun c hc => (PdfNames.scalar_iff c).mpr (hb c hc)) h

theorem keys_nodup (l : List (List Nat × Nat)) (hnd : (l.map (·.1)).Nodup) (hs : ∀ e ∈ l, ∀ c ∈ e.1, Scalar c) :
    (l.map (fun e => keyBytes e.1)).Nodup :=
  List.pairwise_map.mpr ((List.pairwise_map.mp hnd).imp_of_mem fun ha hb hne e =>
    hne (keyBytes_injective _ _ (hs _ ha) (hs _ hb) e))

end Wp.C18
