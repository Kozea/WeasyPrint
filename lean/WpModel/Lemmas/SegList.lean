/-
Reading a list of children from a position on: child `k` at a state `s`, the later children at the initial
state `z`. `fromAt` concatenates what the children hold (the lines from a resume position on), `posAt` counts
what lies before the position. `linesFromKids` / `freeFromKids` / `posKids` of stage 1, of the out-of-flow stage
and of the column stage are instances (`linesFromKids_eq`, … in each stage; the footnote stage reads lines off the
erased stage-1 box); the arithmetic of `++`, `drop`, `take` is done here.
Core Lean only.
-/

namespace Wp.Seg

variable {α σ β : Type}

/-- What the children from position `k` on hold: `ℓ b s` for child `k`, `ℓ b z` for the later ones. -/
def fromAt (ℓ : α → σ → List β) (z : σ) : List α → Nat → σ → List β
  | [], _, _ => []
  | b :: bs, 0, s => ℓ b s ++ fromAt ℓ z bs 0 z
  | _ :: bs, k + 1, s => fromAt ℓ z bs k s

/-- Units before position `k`, child `k` being at `s`: `sz b` for every earlier child, `ps b s` for child `k`. -/
def posAt (sz : α → Nat) (ps : α → σ → Nat) : List α → Nat → σ → Nat
  | [], _, _ => 0
  | b :: _, 0, s => ps b s
  | b :: bs, k + 1, s => sz b + posAt sz ps bs k s

/-- Passing over a child before the position the loop is to start at. -/
theorem drop_skipped {index skipIdx : Nat} (h : index < skipIdx) (child : α) (rest : List α) :
    (child :: rest).drop (skipIdx - index) = rest.drop (skipIdx - (index + 1)) := by
  have h1 : skipIdx - index = (skipIdx - (index + 1)) + 1 := by
    rw [Nat.sub_add_eq, Nat.sub_add_cancel (Nat.sub_pos_of_lt h)]
  rw [h1, List.drop_succ_cons]

section fromAt
variable (ℓ : α → σ → List β) (z : σ)

theorem fromAt_nil (k : Nat) (s : σ) : fromAt ℓ z [] k s = [] := by
  cases k <;> rfl

theorem fromAt_drop (kids : List α) (k0 m : Nat) (s : σ) :
    fromAt ℓ z kids (k0 + m) s = fromAt ℓ z (kids.drop k0) m s := by
  induction kids generalizing k0 with
  | nil => rw [List.drop_nil, fromAt_nil, fromAt_nil]
  | cons b bs ih =>
    cases k0 with
    | zero => rw [Nat.zero_add, List.drop_zero]
    | succ k0 => rw [Nat.add_right_comm, List.drop_succ_cons, fromAt, ih]

theorem fromAt_get {kids : List α} {m : Nat} {x : α} (h : kids[m]? = some x) (s : σ) :
    fromAt ℓ z kids m s = ℓ x s ++ fromAt ℓ z kids (m + 1) z := by
  induction kids generalizing m with
  | nil => cases h
  | cons b bs ih =>
    cases m with
    | zero => cases h; rfl
    | succ m => exact ih h

theorem fromAt_append_len (B R : List α) (k : Nat) (s : σ) :
    fromAt ℓ z (B ++ R) (B.length + k) s = fromAt ℓ z R k s := by
  rw [fromAt_drop, List.drop_left]

theorem fromAt_append_lt (B R : List α) (m : Nat) (s : σ) (h : m < B.length) :
    fromAt ℓ z (B ++ R) m s = fromAt ℓ z B m s ++ fromAt ℓ z R 0 z := by
  induction B generalizing m s with
  | nil => exact absurd h (Nat.not_lt_zero _)
  | cons b B ih =>
    cases m with
    | zero =>
      rw [List.cons_append, fromAt, fromAt, List.append_assoc]
      cases B with
      | nil => rw [List.nil_append, fromAt_nil, List.nil_append]
      | cons b' B' => rw [ih 0 z (Nat.succ_pos _)]
    | succ m => exact ih m s (Nat.lt_of_succ_lt_succ h)

/-- Reading from the start across `B ++ R`: `R` starts at `s` only if `B` is empty. -/
theorem fromAt_append_zero (B R : List α) (s : σ) :
    fromAt ℓ z (B ++ R) 0 s = fromAt ℓ z B 0 s ++ fromAt ℓ z R 0 (if B = [] then s else z) := by
  cases B with
  | nil => rw [List.nil_append, fromAt_nil, List.nil_append, if_pos rfl]
  | cons b B => rw [fromAt_append_lt _ _ _ _ _ _ (Nat.succ_pos _), if_neg (List.cons_ne_nil _ _)]

end fromAt

section posAt
variable (sz : α → Nat) (ps : α → σ → Nat)

theorem posAt_nil (k : Nat) (s : σ) : posAt sz ps [] k s = 0 := by
  cases k <;> rfl

theorem posAt_drop (kids : List α) (k0 m : Nat) (s : σ) :
    posAt sz ps kids (k0 + m) s = ((kids.take k0).map sz).sum + posAt sz ps (kids.drop k0) m s := by
  induction kids generalizing k0 with
  | nil => simp [posAt_nil]
  | cons b bs ih =>
    cases k0 with
    | zero => simp
    | succ k0 =>
      rw [Nat.add_right_comm, List.drop_succ_cons, List.take_succ_cons, posAt, ih, List.map_cons, List.sum_cons,
        Nat.add_assoc]

theorem posAt_append_len (B R : List α) (k : Nat) (s : σ) :
    posAt sz ps (B ++ R) (B.length + k) s = (B.map sz).sum + posAt sz ps R k s := by
  rw [posAt_drop, List.take_left, List.drop_left]

theorem posAt_append_lt (B R : List α) (m : Nat) (s : σ) (h : m < B.length) :
    posAt sz ps (B ++ R) m s = posAt sz ps B m s := by
  induction B generalizing m with
  | nil => exact absurd h (Nat.not_lt_zero _)
  | cons b B ih =>
    cases m with
    | zero => rfl
    | succ m => rw [List.cons_append, posAt, posAt, ih m (Nat.lt_of_succ_lt_succ h)]

theorem posAt_lt (hps : ∀ b s, ps b s < sz b) (B : List α) (m : Nat) (s : σ) (h : m < B.length) :
    posAt sz ps B m s < (B.map sz).sum := by
  induction B generalizing m with
  | nil => exact absurd h (Nat.not_lt_zero _)
  | cons b B ih =>
    rw [List.map_cons, List.sum_cons]
    cases m with
    | zero => exact Nat.lt_of_lt_of_le (hps b s) (Nat.le_add_right _ _)
    | succ m => exact Nat.add_lt_add_left (ih m (Nat.lt_of_succ_lt_succ h)) _

/-- The start position of `B ++ child :: rest` is not after `child` at the state it would be started with. -/
theorem posAt_append_zero (hps : ∀ b s, ps b s < sz b) (z : σ) (B : List α) (child : α) (rest : List α) (s : σ) :
    posAt sz ps (B ++ child :: rest) 0 s ≤ (B.map sz).sum + ps child (if B = [] then s else z) := by
  cases B with
  | nil => simp [posAt]
  | cons b B =>
    rw [posAt_append_lt _ _ _ _ _ _ (Nat.succ_pos _)]
    exact Nat.le_trans (Nat.le_of_lt (posAt_lt sz ps hps (b :: B) 0 s (Nat.succ_pos _))) (Nat.le_add_right _ _)

end posAt

/-- One fragment per box, fragment `j` at index `i + j`, the first related at `s`, the later ones at `z`. -/
def alignedAt {φ : Type} (R : φ → α → σ → Prop) (idx : φ → Nat) (z : σ) : List φ → List α → Nat → σ → Prop
  | [], bs, _, _ => bs = []
  | _ :: _, [], _, _ => False
  | f :: fs, b :: bs, i, s => R f b s ∧ idx f = i ∧ alignedAt R idx z fs bs (i + 1) z

section alignedAt
variable {φ : Type} {R : φ → α → σ → Prop} {idx : φ → Nat} {z : σ}

theorem alignedAt_length : ∀ {fs : List φ} {bs : List α} {i : Nat} {s : σ}, alignedAt R idx z fs bs i s →
    fs.length = bs.length
  | [], _, _, _, h => by simp only [alignedAt] at h; simp [h]
  | _ :: _, [], _, _, h => by simp [alignedAt] at h
  | _ :: _, _ :: _, _, _, h => by
    simp only [alignedAt] at h
    simp [alignedAt_length h.2.2]

theorem alignedAt_snoc {fs : List φ} {B : List α} {i : Nat} {s : σ} {f : φ} {b : α}
    (h : alignedAt R idx z fs B i s) (hf : R f b (if B = [] then s else z)) (hi : idx f = i + B.length) :
    alignedAt R idx z (fs ++ [f]) (B ++ [b]) i s := by
  induction fs generalizing B i s with
  | nil =>
    simp only [alignedAt] at h
    subst h
    simp only [List.nil_append, alignedAt]
    simp at hf hi
    exact ⟨hf, hi, trivial⟩
  | cons x xs ih =>
    cases B with
    | nil => simp [alignedAt] at h
    | cons b0 B =>
      simp only [alignedAt] at h
      simp only [List.cons_append, alignedAt]
      refine ⟨h.1, h.2.1, ih h.2.2 ?_ ?_⟩
      · simp at hf
        split <;> exact hf
      · simp at hi; omega

end alignedAt

end Wp.Seg
