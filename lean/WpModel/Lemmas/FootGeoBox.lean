/-
Lines fit, whole layouts of the footnote model: every line of every paragraph fragment returned by `layoutBoxF`
ends above `pageH − bottom_space` unless it is the first line of the first content of an empty page, for every
`@footnote` style (`page_bottom ≤ pageH` at every moment, by `PbInv.le`; no hypothesis on the area since 2efefde).
One turn of the children loop is stated for a page context `K` read off the footnote state (`kidStepF_fits`, over the
stage-1 lemma `concludeKid_fits`), the children already placed having to fit under `K g` for every state `g`: that is
met by a `K` that ignores the state (here the fixed `ctxH c`) or by a first child (`boxF_chain`), not in between.
-/
import WpModel.Lemmas.FootGeo
import WpModel.Lemmas.Geometry
import WpModel.Lemmas.FootTurn

namespace Wp.PMF
open Wp Wp.PM

/-- The stage-1 context whose page bottom is the bottom of the page box (no footnote area). -/
def ctxH (c : FCtx) : Ctx := { pageBottom := c.pageH, currentPage := c.currentPage, forcedBreak := c.forcedBreak }

/-- The lines kept by `_linebox_layout` with footnotes fit under the page bottom, the first one excepted when the
page was empty. -/
theorem lineboxLayoutF_placed (c : FCtx) (st : PStyle) (calls : List Call) (b : BoxSt) (n : Nat) (lineH : Rat)
    (pie : Bool) (adj : List Rat) (bs posY : Rat) (skip : Option Resume) (dbd : Bool) (fs : FState) (id : Nat)
    (hcalls : ∀ cl ∈ calls, 0 ≤ (cl.m : Rat) * cl.h) (hdeco : 0 ≤ b.bb + b.pb)
    (hinv : PbInv c fs) :
    LinesOk (ctxH c) bs
      (paraPlaced pie id lineH (lineboxLayoutF c st calls b n lineH pie adj bs posY skip dbd fs).1.lines) := by
  rw [lineboxLayoutF_lines]
  unfold lineboxLoopF
  obtain ⟨m, hcont, _⟩ := lineLoopF_lines c st calls b n lineH pie bs (skipLine skip) (n - skipLine skip)
    (skipLine skip) (lineStart adj posY)
    { lines := [], posY := lineStart adj posY, skip := skip, mt := b.mt, dbd := dbd } fs (runFrom_start _)
  exact paraPlaced_fit ((ctxH c).overflowsPage bs) lineH pie id _ m _
    (lineLoopF_fits c st calls b n lineH pie bs (skipLine skip) _ _ _ _ fs hcalls hdeco hinv (fun _ => rfl) (by simp))
    hcont

theorem layoutBoxF_frag_deco (c : FCtx) (box : FootBox) (idx : Nat) (y bs : Rat) (skip : Option Resume)
    (cb pie : Bool) (adjL : List Rat) (fs : FState) (f : Frag)
    (h : (layoutBoxF c box idx y bs skip cb pie adjL fs).r.frag = some f) :
    (f.geo.pb = box.st.pb ∧ f.geo.bb = box.st.bb) ∨ (f.geo.pb = 0 ∧ f.geo.bb = 0) := by
  cases box with
  | para id n lineH st calls =>
    simp only [layoutBoxF, finishParaF_r, finishPara] at h
    split at h
    · simp [abortResult] at h
    · obtain ⟨rfl, _⟩ := finishContainer_geo h
      simp only [Frag.geo, FootBox.st]
      refine (finishTail_pb_bb _ _ _ _ _ _ _ _ _ _ _ _).imp (fun h => ?_) (fun h => h)
      simpa using h
  | block id st kids =>
    simp only [layoutBoxF, finishBlockF_r] at h
    obtain ⟨resume, cur, curIsL, he, _⟩ := finishBlock_eq _ _ _ _ _ _ _ _ h
    rw [he] at h
    obtain ⟨rfl, _⟩ := finishContainer_geo h
    simp only [Frag.geo, FootBox.st]
    refine (finishTail_pb_bb _ _ _ _ _ _ _ _ _ _ _ _).imp (fun h => ?_) (fun h => h)
    simpa using h

theorem st_erase (b : FootBox) : b.erase.st = b.st := by cases b <;> rfl

/-- The second layout of a child runs with a bottom space at least that of the first: it adds the bottom padding and
border of the first fragment, which are those of the child's style or 0. -/
theorem redo_bs_le (c : FCtx) (child : FootBox) (hd : DecoOk child.erase) (idx : Nat) (y bs : Rat)
    (skip : Option Resume) (cb pie : Bool) (adjL : List Rat) (fs : FState) (ctx : Ctx) (pienc : Bool) (posY bs' : Rat)
    (hfp : firstPass ctx bs pienc posY (layoutBoxF c child idx y bs skip cb pie adjL fs).r = .redo bs') : bs ≤ bs' := by
  obtain ⟨f1, hf1, rfl⟩ := firstPass_redo hfp
  have := Geo.deco_nonneg (layoutBoxF_frag_deco c child idx y bs skip cb pie adjL fs f1 hf1)
    (st_erase child ▸ (DecoOk.st child.erase hd).1)
  grind

theorem eraseList_getElem (bs : List FootBox) (j : Nat) : (eraseList bs)[j]? = bs[j]?.map FootBox.erase := by
  induction bs generalizing j with
  | nil => simp [eraseList]
  | cons b bs ih => cases j <;> simp [eraseList, ih]

theorem eraseList_getElem_head (child : FootBox) (rest all : List FootBox) (index : Nat)
    (hall : ∀ j, (child :: rest)[j]? = all[index + j]?) : (eraseList all)[index]? = some child.erase := by
  rw [eraseList_getElem, (List.getElem?_cons_window hall).1]; rfl

section turn
/- One turn of the children loop, for an invariant `S` of the footnote state that the three footnote methods keep
and a page context `K fs` read off the footnote state against which lines are tested: lines that fit keep fitting when
footnotes are un-laid-out (`hK`: the page bottom only moves down then). `kidStepF_fits` asks the lines of the children
already placed to fit under `K g` for every state `g` (`hs`): with a `K` that depends on the state this holds only when
all of them are exempt, so such a `K` is served for a first child only. -/
variable {c : FCtx} {S : FState → Prop} (hS : Stable c S) (K : FState → Ctx)
  (hK : ∀ fs x, (∃ G, x = unlayAll c fs G) → S fs → ∀ bs L, LinesOk (K fs) bs L → LinesOk (K x) bs L)
  (st : PStyle) (child : FootBox) (hd : DecoOk child.erase) (hh : HeightsOk child)
  (index : Nat) (bs : Rat) (pie : Bool) (s : KidsLoop) (fs : FState) (hinv : S fs)
  (hbox : ∀ bs' adj fs', S fs' → ∀ f,
    (layoutBoxF c child index s.posY bs' s.skip st.isRoot (pie && s.newChildren.isEmpty) adj fs').r.frag = some f →
    LinesOk (K (layoutBoxF c child index s.posY bs' s.skip st.isRoot (pie && s.newChildren.isEmpty) adj fs').fs) bs'
      (placedLines f (pie && s.newChildren.isEmpty) child.erase))
include hS hK hd hh hinv hbox

/-- One visited child: the fragment kept for it fits when every layout of the child does, under the loop's bottom
space (the second layout only runs with a larger one); the invariant survives. -/
theorem kidResultF_fits :
    (∀ f, (kidResultF c st child index bs pie s fs).1.1 = some f →
      LinesOk (K (kidResultF c st child index bs pie s fs).2) bs
        (placedLines f (pie && s.newChildren.isEmpty) child.erase)) ∧
    S (kidResultF c st child index bs pie s fs).2 := by
  have hR := hbox bs s.cur fs hinv
  have hinvR := boxF_stable hS child hh index s.posY bs s.skip st.isRoot (pie && s.newChildren.isEmpty) s.cur fs hinv
  have hle1 := redo_bs_le c child hd index s.posY bs s.skip st.isRoot (pie && s.newChildren.isEmpty) s.cur fs
  fun_cases kidResultF c st child index bs pie s fs
  next R r _ fp _ _ _ hfp =>
    -- first pass kept (or discarded) the child
    have hun := firstPassUnlay_eq c r fp R.fs
    refine ⟨fun f hf => ?_, stable_of_unlay hS _ _ hun hinvR⟩
    rcases firstPass_keep hfp with h | h
    · rw [h] at hf; cases hf
    · rw [h] at hf
      exact hK _ _ hun hinvR bs _ (hR f hf)
  next R r _ fp _ bs' hfp _ _ _ _ =>
    -- second layout with a larger bottom space
    have hinv1 := stable_of_unlay hS _ _ (firstPassUnlay_eq c r fp R.fs) hinvR
    exact ⟨fun f hf => linesOk_mono _ bs bs' _ (hle1 _ _ _ _ hfp) (hbox bs' _ _ hinv1 f hf),
      boxF_stable hS child hh index s.posY bs' s.skip st.isRoot _ _ _ hinv1⟩

/-- One turn of the children loop keeps the placed lines fitting. -/
theorem kidStepF_fits (all : List FootBox) (hchild : (eraseList all)[index]? = some child.erase)
    (hs : ∀ g, LinesOk (K g) bs (placedLinesList s.newChildren pie (eraseList all))) :
    (∀ out s' fs', kidStepF c st index bs pie child s fs = ((some out, s'), fs') →
      LinesOk (K fs') bs (placedLinesList out.state.newChildren pie (eraseList all))) ∧
    (∀ s' fs', kidStepF c st index bs pie child s fs = ((none, s'), fs') →
      LinesOk (K fs') bs (placedLinesList s'.newChildren pie (eraseList all)) ∧ S fs') := by
  obtain ⟨hfrag, hinvx⟩ := kidResultF_fits hS K hK st child hd hh index bs pie s fs hinv hbox
  have hck := concludeKid_fits (K (kidResultF c st child index bs pie s fs).2) bs (eraseList all) index pie
    (meetBreak s child.erase).1 child.erase
    (kidResultF c st child index bs pie s fs).1.2.2 (kidResultF c st child index bs pie s fs).1.1
    (kidResultF c st child index bs pie s fs).1.2.1.resume hchild
    (by rw [kidResultF_newChildren]; exact hs _) (by rw [kidResultF_newChildren]; exact hfrag)
  fun_cases kidStepF c st index bs pie child s fs
  · exact ⟨fun out s' fs' h => (by cases h; exact hs _), fun _ _ h => nomatch h⟩
  next heq =>
    exact ⟨fun out' s' fs' h => (by cases h; exact hK _ _ (earlierUnlay_eq _ _ _ _ _) hinvx bs _ (hck.1 _ _ heq)),
      fun _ _ h => nomatch h⟩
  next heq => exact ⟨fun _ _ _ h => (nomatch h), fun s' fs' h => (by cases h; exact ⟨hck.2 _ heq, hinvx⟩)⟩

end turn

mutual
/-- **Every placed line of a layout with footnotes fits** above `pageH − bs`, except the first line of the first
content when the layout started on an empty page. -/
theorem boxF_fits : (box : FootBox) → DecoOk box.erase → HeightsOk box → ∀ (c : FCtx) (idx : Nat) (y bs : Rat)
    (skip : Option Resume) (cb pie : Bool) (adjL : List Rat) (fs : FState), PbInv c fs →
    ∀ f, (layoutBoxF c box idx y bs skip cb pie adjL fs).r.frag = some f →
      LinesOk (ctxH c) bs (placedLines f pie box.erase)
  | .para id n lineH st calls => by
    intro hd hh c idx y bs skip cb pie adjL fs hinv
    simp only [FootBox.erase, DecoOk] at hd
    simp only [HeightsOk] at hh
    simp only [layoutBoxF]
    intro f hf
    simp only [finishParaF_r] at hf
    obtain ⟨g, rfl⟩ := finishPara_frag hf
    simp only [placedLines, FootBox.erase]
    apply linesOk_mono _ bs _ _ (prepare_bs_le (ctxOf c fs) st y bs skip cb pie adjL hd)
    apply lineboxLayoutF_placed _ _ _ _ _ _ _ _ _ _ _ _ _ _ hh _ hinv
    simp only [prepare_bb, prepare_pb]
    have := hd.1
    grind
  | .block id st kids => by
    intro hd hh c idx y bs skip cb pie adjL fs hinv
    simp only [FootBox.erase, DecoOk] at hd
    simp only [HeightsOk] at hh
    simp only [layoutBoxF]
    intro f hf
    simp only [finishBlockF_r] at hf
    obtain ⟨g, rfl⟩ := finishBlock_frag hf
    simp only [placedLines, FootBox.erase]
    apply linesOk_mono _ bs _ _ (prepare_bs_le (ctxOf c fs) st y bs skip cb pie adjL hd.1)
    exact (kidsF_fits kids hd.2 hh c st kids 0 _ _ pie _ fs hinv (by intro j; simp)
      (by simp [placedLinesList, linesOk_nil])).1
theorem kidsF_fits : (rest : List FootBox) → DecoOkList (eraseList rest) → HeightsOkList rest → ∀ (c : FCtx)
    (st : PStyle) (all : List FootBox) (index skipIdx : Nat) (bs : Rat) (pie : Bool) (s : KidsLoop) (fs : FState),
    PbInv c fs →
    (∀ j, rest[j]? = all[index + j]?) →
    LinesOk (ctxH c) bs (placedLinesList s.newChildren pie (eraseList all)) →
    LinesOk (ctxH c) bs (placedLinesList (layoutKidsF c st rest index skipIdx bs pie s fs).1.state.newChildren pie
      (eraseList all)) ∧
    PbInv c (layoutKidsF c st rest index skipIdx bs pie s fs).2
  | [] => by
    intro _ _ c st all index skipIdx bs pie s fs hinv _ hs
    exact ⟨by simpa [layoutKidsF, KidsOutcome.state] using hs, by simpa [layoutKidsF] using hinv⟩
  | child :: rest => by
    intro hd hh c st all index skipIdx bs pie s fs hinv hall hs
    refine ⟨?_, kidsF_inv _ hh c st index skipIdx bs pie s fs hinv⟩
    simp only [eraseList, DecoOkList] at hd
    simp only [HeightsOkList] at hh
    have hrest := (List.getElem?_cons_window hall).2
    have hchild := eraseList_getElem_head child rest all index hall
    rw [layoutKidsF_turn]
    split
    · exact (kidsF_fits rest hd.2 hh.2 c st all (index + 1) skipIdx bs pie s fs hinv hrest hs).1
    · have hstep := kidStepF_fits (pbInv_stable c) (fun _ => ctxH c) (fun _ _ _ _ _ _ h => h) st child hd.1 hh.1
        index bs pie s fs hinv
        (fun bs' adj fs' hinv' => boxF_fits child hd.1 hh.1 c index s.posY bs' s.skip st.isRoot _ adj fs' hinv')
        all hchild (fun _ => hs)
      split
      · rename_i out s' fs' heq
        exact hstep.1 out s' fs' heq
      · rename_i s' fs' heq
        obtain ⟨hs', hinv'⟩ := hstep.2 s' fs' heq
        exact (kidsF_fits rest hd.2 hh.2 c st all (index + 1) skipIdx bs pie s' fs' hinv' hrest hs').1
end

end Wp.PMF
