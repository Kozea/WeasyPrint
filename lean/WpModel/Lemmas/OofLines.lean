/-
The paragraph part of the extended model: `lineLoop` with floats to avoid numbers its lines exactly as
the stage-1 loop does (the positions change, the bookkeeping does not).
-/
import WpModel.Lemmas.OofDefs
import WpModel.Lemmas.ParaLines
import WpModel.Lemmas.SegmentPara

namespace Wp.PMO
open Wp Wp.PM

/-- The out-of-flow stage puts each line where `avoid_collisions` finds room beside the floats. -/
theorem lineLoop_eq_G (c : Ctx) (st : PStyle) (b : BoxSt) (n : Nat) (lineH : Rat) (pie : Bool)
    (bs : Rat) (shapes : List Shape) (fuel i : Nat) (y : Rat) (s : LineLoop) :
    lineLoop c st b n lineH pie bs shapes fuel i y s =
      lineLoopG (c.overflowsPage bs) (avoidLine shapes lineH) st b n lineH pie fuel i y s := by
  induction fuel generalizing i y s with
  | zero => rfl
  | succ fuel ih => simp only [lineLoop, lineLoopG, ih]

/-- `_linebox_layout` with floats: same numbering statement as stage 1. -/
theorem linebox_spec (c : Ctx) (st : PStyle) (b : BoxSt) (n : Nat) (lineH : Rat) (pie : Bool)
    (adj : List Rat) (bs posY : Rat) (skip : Option Resume) (dbd : Bool) (shapes : List Shape)
    (ho : 1 ≤ st.orphans)
    (ha : (lineboxLayout c st b n lineH pie adj bs posY skip dbd shapes).abort = false) :
    LinesRun n (skipLine skip) (lineboxLayout c st b n lineH pie adj bs posY skip dbd shapes) :=
  lineResultG_spec (c.overflowsPage bs) (avoidLine shapes lineH) st b n lineH pie (skipLine skip) (lineStart adj posY)
    { lines := [], posY := lineStart adj posY, skip := skip, mt := b.mt, dbd := dbd } rfl ho _
    (by rw [lineboxLayout, lineboxLoop, lineLoop_eq_G]; rfl) ha

end Wp.PMO
