/-
`draw_background_image` (Model/BackgroundDraw) keeps the document invariant `WorldOK` (every name an operator uses is a
key of the dictionary of the stream that emits it) and only grows the dictionaries.
-/
import WpModel.Model.BackgroundDraw
import WpModel.Lemmas.PdfWorld
namespace Wp.Pdf

/-- Stream `h` has key `k` in the XObject dictionary it writes to. -/
def HasXAt (w : World) (h : Nat) (k : XKey) : Prop :=
  ∃ s r, w.streams[h]? = some s ∧ w.res[s.res]? = some r ∧ r.hasX k = true

theorem HasXAt.mono {w w' : World} {h : Nat} {k : XKey} (hx : HasXAt w h k) (hm : Mono w w') : HasXAt w' h k := by
  obtain ⟨s, r, hs, hr, hk⟩ := hx
  obtain ⟨s', hs', e⟩ := hm.streams h s hs
  obtain ⟨r', hr', hle⟩ := hm.res s.res r hr
  exact ⟨s', r', hs', e ▸ hr', hle.x k hk⟩

theorem HasXAt.scoped {w : World} {h : Nat} {k : XKey} (hx : HasXAt w h k) : (WCall.on h (.drawX k)).scoped w := by
  intro s r hs hr
  obtain ⟨s0, r0, hs0, hr0, hk⟩ := hx
  rw [hs] at hs0; cases hs0
  rw [hr] at hr0; cases hr0
  exact hk

theorem addGroup_hasX (w w' : World) (h : Nat) (k : XKey) (hk : nextGroupKey w h = some k)
    (hstep : w.addGroup h = .ok w') : HasXAt w' h k := by
  obtain ⟨s, r, hs, hr, hs', hr', _⟩ := addGroup_spec hstep
  have : k = XKey.x r.xobj.length := by simp [nextGroupKey, hs, hr] at hk; exact hk.symm
  exact ⟨s, _, hs', hr', by rw [hasX_iff]; simp [this]⟩

theorem patternCount_spec {w : World} {h n : Nat} (hc : patternCount w h = some n) :
    ∃ s r, w.streams[h]? = some s ∧ w.res[s.res]? = some r ∧ r.pattern.length = n := by
  revert hc
  fun_cases patternCount w h with
  | case1 | case2 => nofun
  | case3 s hs r hr => exact fun hc => ⟨s, r, hs, hr, Option.some.inj hc⟩

theorem Mono.pattern {w w' : World} (hm : Mono w w') {h n : Nat} (hc : patternCount w h = some n) :
    ∀ (s : SState) (r : Res), w'.streams[h]? = some s → w'.res[s.res]? = some r → n ≤ r.pattern.length := by
  obtain ⟨s0, r0, hs0, hr0, rfl⟩ := patternCount_spec hc
  obtain ⟨s', hs', e⟩ := hm.streams h s0 hs0
  obtain ⟨r', hr', hle⟩ := hm.res s0.res r0 hr0
  intro s r hs hr
  rw [hs'] at hs; cases hs
  rw [e, hr'] at hr; cases hr
  exact hle.pat

theorem addPattern_count (w w' : World) (h n : Nat) (hstep : w.step (.addPattern h) = .ok w')
    (hc : patternCount w h = some n) : patternCount w' h = some (n + 1) := by
  obtain ⟨s0, r0, hs0, hr0, rfl⟩ := patternCount_spec hc
  simp only [World.step] at hstep
  rw [hs0] at hstep; simp only [hr0] at hstep
  simp at hstep; subst hstep
  have hhlt : h < w.streams.length := (List.getElem?_eq_some_iff.mp hs0).1
  have hjlt : s0.res < w.res.length := (List.getElem?_eq_some_iff.mp hr0).1
  simp [patternCount, List.getElem?_append_left hhlt, hs0, List.getElem?_append_left, hjlt]

/-- What the theorem asks of `layer.image.draw`: from any later state, whatever it does keeps the invariant and only
grows dictionaries. -/
def ImgOKFrom (w : World) (img : List GItem) : Prop :=
  ∀ w1 w2, WorldOK w1 → Mono w w1 → runItems w1 img = .ok w2 → WorldOK w2 ∧ Mono w1 w2

theorem background_image_ok (w : World) (h : Nat) (p : BgProps) (img : List GItem) (hw : WorldOK w)
    (hImg : ImgOKFrom w img) : Keeps w (drawBackgroundImage w h p img) := by
  unfold drawBackgroundImage
  split
  · exact Keeps.ok hw
  · split
    · -- no-repeat: [clip], group, transform, image, Do
      refine Keeps.thenDo (Keeps.stageIf hw _ ?_) fun wa _ oka ma => ?_
      · exact (Keeps.on hw (trivial_scoped _ _ _ fun _ => by trivial)).thenDo fun _ _ o1 _ =>
          (Keeps.on o1 (trivial_scoped _ _ _ fun _ => by trivial)).thenDo fun _ _ o2 _ =>
          Keeps.on o2 (trivial_scoped _ _ _ fun _ => by trivial)
      split
      · exact Keeps.error _
      · rename_i key hkey
        refine (Keeps.step oka (.addGroup h) trivial).thenDo fun w1 h1 ok1 m1 => ?_
        have hx1 := addGroup_hasX wa w1 h key hkey h1
        refine (Keeps.on ok1 (trivial_scoped _ _ _ fun _ => by trivial)).thenDo fun w2 _ ok2 m2 => ?_
        refine Keeps.thenDo (fun w3 => hImg w2 w3 ok2 (ma.trans (m1.trans m2))) fun w3 _ ok3 m3 => ?_
        exact Keeps.on ok3 (hx1.mono (m2.trans m3)).scoped
    · -- repeated: pattern, group in the pattern, stacked(image, Do, cs, scn, re, f)
      split
      · exact Keeps.error _
      · rename_i pid hpid
        refine (Keeps.step hw (.addPattern h) trivial).thenDo fun w1 h1 ok1 m1 => ?_
        have c1 := addPattern_count w w1 h pid h1 hpid
        split
        · exact Keeps.error _
        · rename_i key hkey
          refine (Keeps.step ok1 (.addGroup w.streams.length) trivial).thenDo fun w2 h2 ok2 m2 => ?_
          have hx2 := addGroup_hasX w1 w2 _ key hkey h2
          refine (Keeps.on ok2 (trivial_scoped _ _ _ fun _ => by trivial)).thenDo fun w3 _ ok3 m3 => ?_
          refine Keeps.thenDo (fun w4 => hImg w3 w4 ok3 (m1.trans (m2.trans m3))) fun w4 _ ok4 m4 => ?_
          refine (Keeps.on ok4 (hx2.mono (m3.trans m4)).scoped).thenDo fun w5 _ ok5 m5 => ?_
          refine (Keeps.on ok5 (trivial_scoped _ _ _ fun _ => by trivial)).thenDo fun w6 _ ok6 m6 => ?_
          refine (Keeps.on ok6 fun s r hs hr => ?_).thenDo
            fun _ _ ok7 _ => (Keeps.on ok7 (trivial_scoped _ _ _ fun _ => by trivial)).thenDo
            fun _ _ ok8 _ => (Keeps.on ok8 (trivial_scoped _ _ _ fun _ => by trivial)).thenDo
            fun _ _ ok9 _ => Keeps.on ok9 (trivial_scoped _ _ _ fun _ => by trivial)
          have := (m2.trans (m3.trans (m4.trans (m5.trans m6)))).pattern c1 s r hs hr
          show pid < r.pattern.length
          omega

end Wp.Pdf
