/-
The walk of `find_earlier_page_break` over the placed children (`findEarlierGo`), one child at a time.
-/
import WpModel.Model.Paginate

namespace Wp.PM
open Wp

/-- While nothing is found, `previous_in_flow` is the child just examined. -/
theorem findEarlierGo_prev (fs : List Frag) (h : (findEarlierGo fs).found = none) :
    (findEarlierGo fs).prev = fs.head? := by
  cases fs with
  | nil => rfl
  | cons x xs =>
    rw [findEarlierGo] at h ⊢
    dsimp only at h ⊢
    split at h
    · cases h
    · split at h
      · cases h
      · split
        · split <;> rfl
        · rfl

/-- What the walk does on `x :: xs`: a break found among the later siblings is kept; otherwise the break goes
right after `x` if the values meeting there allow it; otherwise inside `x` if `x` allows and has one; otherwise
nothing is found and `x` is the child the next step looks back at. -/
theorem findEarlierGo_cons (x : Frag) (xs : List Frag) :
    (∃ kept r, (findEarlierGo xs).found = some (kept, r) ∧
      (findEarlierGo (x :: xs)).found = some (x :: kept, r)) ∨
    ((findEarlierGo xs).found = none ∧
      ((∃ p, xs.head? = some p ∧ avoidsPage (breakBetweenFrags x (some p)) = false ∧
          (findEarlierGo (x :: xs)).found = some ([x], .node p.idx none)) ∨
       ((∀ p, xs.head? = some p → avoidsPage (breakBetweenFrags x (some p)) = true) ∧
        (findEarlierGo (x :: xs)).prev = some x ∧
        ((∃ x' r1, avoidsPage x.st.brkInside = false ∧ findEarlierFrag x = some (x', r1) ∧
            (findEarlierGo (x :: xs)).found = some ([x'.cutEnd], .node x.idx (some r1))) ∨
         ((avoidsPage x.st.brkInside = true ∨ findEarlierFrag x = none) ∧
            (findEarlierGo (x :: xs)).found = none))))) := by
  -- what the walk does once no break goes after `x`
  have inside : ∀ s : EarlierState,
      s = (if (!avoidsPage x.st.brkInside) = true then
            match findEarlierFrag x with
            | some (x', r) => { found := some ([x'.cutEnd], .node x.idx (some r)), prev := some x }
            | none => { found := none, prev := some x }
          else { found := none, prev := some x }) →
      s.prev = some x ∧
        ((∃ x' r1, avoidsPage x.st.brkInside = false ∧ findEarlierFrag x = some (x', r1) ∧
            s.found = some ([x'.cutEnd], .node x.idx (some r1))) ∨
         ((avoidsPage x.st.brkInside = true ∨ findEarlierFrag x = none) ∧ s.found = none)) := by
    intro s hs
    cases hin : avoidsPage x.st.brkInside with
    | true => rw [hin] at hs; subst hs; exact ⟨rfl, .inr ⟨.inl rfl, rfl⟩⟩
    | false =>
      rw [hin] at hs
      cases hfe : findEarlierFrag x with
      | none => rw [hfe] at hs; subst hs; exact ⟨rfl, .inr ⟨.inr rfl, rfl⟩⟩
      | some xr => rw [hfe] at hs; subst hs; exact ⟨rfl, .inl ⟨xr.1, xr.2, rfl, rfl, rfl⟩⟩
  rw [findEarlierGo]
  dsimp only
  split
  · rename_i kept r hfound
    exact .inl ⟨kept, r, hfound, rfl⟩
  · rename_i hnone
    refine .inr ⟨hnone, ?_⟩
    rw [findEarlierGo_prev xs hnone]
    cases hh : xs.head? with
    | some p =>
      dsimp only
      cases hav : avoidsPage (breakBetweenFrags x (some p)) with
      | false => exact .inl ⟨p, rfl, hav, rfl⟩
      | true => exact .inr ⟨fun p' hp' => Option.some.inj hp' ▸ hav, inside _ rfl⟩
    | none => exact .inr ⟨fun _ hp' => (nomatch hp'), inside _ rfl⟩

end Wp.PM
