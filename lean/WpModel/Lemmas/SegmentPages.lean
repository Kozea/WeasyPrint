/-
From `layoutBox` to pages: what `remakePage` / `makeAllPages` do to the lines and to the position.
-/
import WpModel.Lemmas.SegmentBlock
import WpModel.Lemmas.LossyPages

namespace Wp.PM
open Wp

theorem boxPost_lines (box : PBox) (skip : Option Resume) (frag : Option Frag) (resume : Option Resume)
    (f : Frag) (h : BoxPost box skip frag resume) (hf : frag = some f) :
    fragLines f ++ restOut box resume = linesFrom box skip := by
  have := h f hf
  cases resume with
  | none =>
    simp only at this
    simp [restOut, full_lines.1 this]
  | some r => exact this.1

theorem boxPost_progress (box : PBox) (skip : Option Resume) (frag : Option Frag) (r : Resume)
    (f : Frag) (h : BoxPost box skip frag (some r)) (hf : frag = some f) :
    pos box skip < pos box (some r) := (h f hf).2

theorem good_emptyRoot (b : PBox) (h : Good b) : Good (emptyRoot b) := by
  cases b with
  | para id n lh st => simpa [emptyRoot, Good] using h
  | block id st kids =>
    simp only [Good] at h
    simp [emptyRoot, Good, GoodList, h.1]

theorem remakePage_lines (d : Doc) (hg : Good d.root) (index : Nat) (resume : Option Resume) (np : NextPage)
    (right : Bool) (p : Page) (hp : remakePage d index resume np right = some p) :
    (p.type.blank = true → fragLines p.root = [] ∧ p.resume = resume ∧ p.nextPage = np) ∧
    (p.type.blank = false →
      fragLines p.root ++ restOut d.root p.resume = linesFrom d.root resume ∧
      ∀ r, p.resume = some r → pos d.root resume < pos d.root (some r)) := by
  obtain ⟨h1, h2⟩ := remakePage_linesT d (wf_drop_aux _ hg) index resume np right p hp
  refine ⟨h1, fun hb => ?_⟩
  obtain ⟨hs, hpos⟩ := h2 hb
  rw [restFree_good _ hg, freeFrom_noFixed _ (good_noFixed _ hg)] at hs
  exact ⟨sandT_eq _ _ _ hs, hpos⟩

theorem makeAllPages_lines (d : Doc) (hg : Good d.root) : ∀ (fuel index : Nat) (resume : Option Resume)
    (np : NextPage) (right : Bool) (pages : List Page),
    (resume = none → isBlank (requestedSide d.rootLtr np.brk) right = false) →
    makeAllPages d fuel index resume np right = some pages →
    pagesLines pages = linesFrom d.root resume := by
  intro fuel index resume np right pages hstart h
  have hs := makeAllPages_linesT d (wf_drop_aux _ hg) fuel index resume np right pages hstart h
  rw [freeFrom_noFixed _ (good_noFixed _ hg)] at hs
  simpa using sandT_eq _ _ _ hs

end Wp.PM
