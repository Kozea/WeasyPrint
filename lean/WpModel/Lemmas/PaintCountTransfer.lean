/-
From a grammar on the *laid-out* box tree (blocks, lines, inline
boxes, atomic inlines, tables with row groups / rows / cells; anything may be positioned, floated or
create a context) to `okCtx` of what the dispatcher builds, and from the items due on the box tree
(`dueN`) to `expN` of the built structure.  With `PaintCount.lean`: paint-once for whole pages, every
item kind.
-/
import WpModel.Lemmas.PaintCount
import WpModel.Lemmas.PaintOnceTransfer

namespace Wp.Stacking
open Wp Wp.Gen

theorem okCtxL_iff (l : List Node) : okCtxL l ↔ ∀ n ∈ l, okCtx n :=
  List.listLift_iff (by rw [okCtxL]; trivial) (fun _ _ => by rw [okCtxL]) l

theorem okCtxL_of : ListOf okCtx okCtxL := ⟨okCtxL_iff⟩

theorem okCtx_mkCtx_node (a : Attrs) (ks own blocks floats bc : List Node)
    (hroot : rootPainted a) (hx : a.kind.dilText = false) (hr : a.kind.drawReplaced = false)
    (hb : blocks = (Node.regionL ks).filter Node.isBlockLevel)
    (hc : bc = (Node.regionL ks).filter Node.isBlockOrCell)
    (hown : okCtxL own) (hfl : okCtxL floats)
    (hbody : (a.kind.drawInline = true ∧ lastIsLine ks = false ∧ okInlineL ks) ∨
      (a.kind.drawInline = false ∧
        ((okFlowL ks ∧ lastIsLine ks = false) ∨ (lastIsLine ks = true ∧ okInlineL ks)))) :
    okCtx (mkCtx (.node a ks) own blocks floats bc) := by
  obtain ⟨hn, hz, hp⟩ := okCtxL_of.init hown
  simp only [init_lists, okCtx]
  exact ⟨hroot, hx, hr, hb, hc, hn, hz, hp, hfl, hbody⟩

/-- A childless box that roots a context (it leaves the tree, or is an atomic inline): its decoration is
painted by point 2 and it is not a text box. -/
def leafUnitOK (a : Attrs) : Prop :=
  a.kind.drawOwnDecoration = true ∧ a.kind.drawInline = false ∧ a.kind.dilText = false

theorem okCtx_mkCtx_leaf (a : Attrs) (own : List Node) (h : leafUnitOK a)
    (hown : okCtxL own) : okCtx (mkCtx (.leaf a) own [] [] []) := by
  obtain ⟨hn, hz, hp⟩ := okCtxL_of.init hown
  simp only [init_lists, okCtx]
  exact ⟨h.1, h.2.1, h.2.2, trivial, trivial, hn, hz, hp, okCtxL_of.nil⟩

mutual
def hInline : Box → Prop
  | .ph b => hInline b
  | .leaf a =>
    if leavesTree a || a.kind.dispStackingClass then
      leafUnitOK a ∧ (leavesTree a = false → a.kind.dilAllowed = true)
    else
      a.kind.dispBlockLevel = false ∧ a.kind.dispCell = false ∧ a.kind.drawTable = false ∧
      a.kind.dilInlineOrLine = false ∧ a.kind.dilTextChild = a.kind.dilText ∧
      ((a.kind.dilText = true ∧ noDeco a ∧ a.kind.drawReplaced = false ∧ a.kind.dilInlineReplaced = false) ∨
       (a.kind.dilText = false ∧ a.kind.dilInlineReplaced = true ∧ a.kind.drawReplaced = true))
  | .node a kids =>
    if leavesTree a || a.kind.dispStackingClass then
      rootPainted a ∧ (leavesTree a = false → a.kind.dilAllowed = true) ∧ a.kind.dilText = false ∧
      a.kind.drawReplaced = false ∧
      ((a.kind.drawInline = true ∧ lastIsLine (listS kids).1 = false ∧ hInlineL kids) ∨
       (a.kind.drawInline = false ∧
         ((hFlowL kids ∧ lastIsLine (listS kids).1 = false) ∨
          (lastIsLine (listS kids).1 = true ∧ hInlineL kids))))
    else
      a.kind.dispBlockLevel = false ∧ a.kind.dispCell = false ∧ a.kind.drawTable = false ∧
      a.kind.dilInlineOrLine = true ∧ a.kind.dilTextChild = false ∧ a.kind.dilText = false ∧
      a.kind.drawReplaced = false ∧ hInlineL kids
def hInlineL : List Box → Prop
  | [] => True
  | b :: bs => hInline b ∧ hInlineL bs
def hFlow : Box → Prop
  | .ph b => hFlow b
  | .leaf a =>
    if leavesTree a then leafUnitOK a
    else a.kind.dispStackingClass = false ∧ a.kind.dispBlockLevel = true ∧ a.kind.dispCell = false ∧
      a.kind.drawTable = false ∧ a.kind.dilText = false
  | .node a kids =>
    if leavesTree a then
      rootPainted a ∧ a.kind.dilText = false ∧ a.kind.drawReplaced = false ∧
      ((a.kind.drawInline = true ∧ lastIsLine (listS kids).1 = false ∧ hInlineL kids) ∨
       (a.kind.drawInline = false ∧
         ((hFlowL kids ∧ lastIsLine (listS kids).1 = false) ∨
          (lastIsLine (listS kids).1 = true ∧ hInlineL kids))))
    else
      a.kind.dispStackingClass = false ∧ a.kind.dispBlockLevel = true ∧ a.kind.dispCell = false ∧
      a.kind.dilText = false ∧ a.kind.drawReplaced = false ∧
      ((a.kind.drawTable = true ∧ lastIsLine (listS kids).1 = false ∧ hGroups kids) ∨
       (a.kind.drawTable = false ∧
         ((hFlowL kids ∧ lastIsLine (listS kids).1 = false) ∨
          (lastIsLine (listS kids).1 = true ∧ hInlineL kids))))
def hFlowL : List Box → Prop
  | [] => True
  | b :: bs => hFlow b ∧ hFlowL bs
/-- A row group (or, if it leaves the tree, a context whose root must be of a painted class — which a
row group is not: known finding). -/
def hGroup : Box → Prop
  | .ph b => hGroup b
  | .leaf a => leavesTree a = true ∧ leafUnitOK a
  | .node a kids =>
    if leavesTree a then
      rootPainted a ∧ a.kind.dilText = false ∧ a.kind.drawReplaced = false ∧
      ((a.kind.drawInline = true ∧ lastIsLine (listS kids).1 = false ∧ hInlineL kids) ∨
       (a.kind.drawInline = false ∧
         ((hFlowL kids ∧ lastIsLine (listS kids).1 = false) ∨
          (lastIsLine (listS kids).1 = true ∧ hInlineL kids))))
    else
      a.kind.dispStackingClass = false ∧ a.kind.dispBlockLevel = false ∧ a.kind.dispCell = false ∧
      a.kind.drawTable = false ∧ a.kind.dilText = false ∧ a.kind.drawReplaced = false ∧
      a.border = none ∧ hRows kids
def hGroups : List Box → Prop
  | [] => True
  | b :: bs => hGroup b ∧ hGroups bs
def hRow : Box → Prop
  | .ph b => hRow b
  | .leaf a => leavesTree a = true ∧ leafUnitOK a
  | .node a kids =>
    if leavesTree a then
      rootPainted a ∧ a.kind.dilText = false ∧ a.kind.drawReplaced = false ∧
      ((a.kind.drawInline = true ∧ lastIsLine (listS kids).1 = false ∧ hInlineL kids) ∨
       (a.kind.drawInline = false ∧
         ((hFlowL kids ∧ lastIsLine (listS kids).1 = false) ∨
          (lastIsLine (listS kids).1 = true ∧ hInlineL kids))))
    else
      a.kind.dispStackingClass = false ∧ a.kind.dispBlockLevel = false ∧ a.kind.dispCell = false ∧
      a.kind.drawTable = false ∧ a.kind.dilText = false ∧ a.kind.drawReplaced = false ∧
      a.border = none ∧ hCells kids
def hRows : List Box → Prop
  | [] => True
  | b :: bs => hRow b ∧ hRows bs
def hCell : Box → Prop
  | .ph b => hCell b
  | .leaf a => leavesTree a = true ∧ leafUnitOK a
  | .node a kids =>
    if leavesTree a then
      rootPainted a ∧ a.kind.dilText = false ∧ a.kind.drawReplaced = false ∧
      ((a.kind.drawInline = true ∧ lastIsLine (listS kids).1 = false ∧ hInlineL kids) ∨
       (a.kind.drawInline = false ∧
         ((hFlowL kids ∧ lastIsLine (listS kids).1 = false) ∨
          (lastIsLine (listS kids).1 = true ∧ hInlineL kids))))
    else
      a.kind.dispStackingClass = false ∧ a.kind.dispBlockLevel = false ∧ a.kind.dispCell = true ∧
      a.kind.drawReplaced = false ∧
      ((hFlowL kids ∧ lastIsLine (listS kids).1 = false) ∨
       (lastIsLine (listS kids).1 = true ∧ hInlineL kids))
def hCells : List Box → Prop
  | [] => True
  | b :: bs => hCell b ∧ hCells bs
end

def optInline : Option Node → Prop
  | none => True
  | some n => okInline n
def optFlow : Option Node → Prop
  | none => True
  | some n => okFlow n
def optGroup : Option Node → Prop
  | none => True
  | some n => okGroups [n]
def optRow : Option Node → Prop
  | none => True
  | some n => okRows [n]
def optCell : Option Node → Prop
  | none => True
  | some n => okCells [n]

structure TrL (l : List Box) : Prop where
  inl : hInlineL l → Keeps okInlineL okCtxL (listS l)
  flow : hFlowL l → Keeps okFlowL okCtxL (listS l)
  grp : hGroups l → Keeps okGroups okCtxL (listS l)
  row : hRows l → Keeps okRows okCtxL (listS l)
  cell : hCells l → Keeps okCells okCtxL (listS l)

structure Tr (b : Box) : Prop where
  inl : hInline b → Keeps optInline okCtxL (dispatchS b)
  flow : hFlow b → Keeps optFlow okCtxL (dispatchS b)
  grp : hGroup b → Keeps optGroup okCtxL (dispatchS b)
  row : hRow b → Keeps optRow okCtxL (dispatchS b)
  cell : hCell b → Keeps optCell okCtxL (dispatchS b)

/-- An atomic inline standing in a line: `draw_inline_level` accepts its class. -/
theorem optInline_mkCtx {self : Node} {blocks floats bc : List Node} (ha : ctxAllowed self = true)
    (h : okCtx (mkCtx self [] blocks floats bc)) : optInline (some (mkCtx self [] blocks floats bc)) := by
  rw [mkCtx] at h ⊢
  rw [optInline, okInline]
  exact ⟨ha, h⟩

/-- A child of the page box (root element, margin boxes): always the root of a context. -/
def hRoot : Box → Prop
  | .leaf a => leafUnitOK a
  | .node a kids =>
    rootPainted a ∧ a.kind.dilText = false ∧ a.kind.drawReplaced = false ∧
    ((a.kind.drawInline = true ∧ lastIsLine (listS kids).1 = false ∧ hInlineL kids) ∨
     (a.kind.drawInline = false ∧
       ((hFlowL kids ∧ lastIsLine (listS kids).1 = false) ∨
        (lastIsLine (listS kids).1 = true ∧ hInlineL kids))))
  | .ph _ => False

/-- The context around a parent box over the grammar is well-formed whatever well-formed child contexts it
is given, and so is what its children appended. -/
theorem okCtx_node_of {a : Attrs} {kids : List Box} (ih : TrL kids) (h : hRoot (.node a kids)) :
    (∀ own, okCtxL own → okCtx (mkCtx (.node a (listS kids).1) own (listS kids).2.blocks
      (listS kids).2.floats (listS kids).2.bc)) ∧ okCtxL (listS kids).2.cc := by
  obtain ⟨hroot, hx, hr, hbody⟩ := h
  obtain ⟨hb, hc, hf⟩ := body_of ih.flow ih.inl hbody
  exact ⟨fun own ho => okCtx_mkCtx_node a _ own _ _ _ hroot hx hr (blocks_listS kids).1
    (blocks_listS kids).2 ho hf hb, hc⟩

/-- A parent box that leaves the tree: its context is well-formed, nothing stays in the tree (so any
`opt` that holds of `none` holds of what `_dispatch` returns). -/
theorem unit_node {opt : Option Node → Prop} (hnone : opt none) (a : Attrs) (kids : List Box) (ih : TrL kids)
    (hl : leavesTree a = true) (h : hRoot (.node a kids)) :
    Keeps opt okCtxL (dispatchS (.node a kids)) := by
  rw [dispatchS]
  exact okCtxL_of.leaves_coreS hnone a _ _ hl (okCtx_node_of ih h).1 (okCtx_node_of ih h).2

theorem unit_leaf {opt : Option Node → Prop} (hnone : opt none) (a : Attrs) (hl : leavesTree a = true)
    (h : leafUnitOK a) :
    Keeps opt okCtxL (dispatchS (.leaf a)) := by
  rw [dispatchS]
  exact okCtxL_of.leaves_coreS hnone a (.leaf a) {} hl
    (fun own ho => okCtx_mkCtx_leaf a own h ho) okCtxL_of.nil

mutual
theorem tr_box : ∀ (b : Box), Tr b
  | .ph b => by
    have ih := tr_box b
    refine ⟨?_, ?_, ?_, ?_, ?_⟩
    · intro h; rw [hInline] at h; rw [dispatchS]; exact ih.inl h
    · intro h; rw [hFlow] at h; rw [dispatchS]; exact ih.flow h
    · intro h; rw [hGroup] at h; rw [dispatchS]; exact ih.grp h
    · intro h; rw [hRow] at h; rw [dispatchS]; exact ih.row h
    · intro h; rw [hCell] at h; rw [dispatchS]; exact ih.cell h
  | .leaf a => by
    refine ⟨?_, ?_, ?_, ?_, ?_⟩
    · intro h
      rw [hInline] at h
      by_cases hu : (leavesTree a || a.kind.dispStackingClass) = true
      · simp only [hu, ↓reduceIte] at h
        rw [dispatchS]
        exact okCtxL_of.unit_coreS trivial a (.leaf a) {} hu
          (fun hl => optInline_mkCtx (by simpa [ctxAllowed, Node.attrs?] using h.2 hl))
          (fun own ho => okCtx_mkCtx_leaf a own h.1 ho) okCtxL_of.nil
      · simp only [hu, Bool.false_eq_true, ↓reduceIte] at h
        simp only [Bool.or_eq_true, not_or, Bool.not_eq_true] at hu
        rw [dispatchS]
        refine coreS_stays a (.leaf a) {} hu.1 hu.2 ?_ okCtxL_of.nil okCtxL_of.nil
        simp only [optInline, okInline]
        exact h
    · intro h
      rw [hFlow] at h
      by_cases hu : leavesTree a = true
      · simp only [hu, ↓reduceIte] at h
        exact unit_leaf trivial a hu h
      · simp only [hu, Bool.false_eq_true, ↓reduceIte] at h
        simp only [Bool.not_eq_true] at hu
        rw [dispatchS]
        refine coreS_stays a (.leaf a) {} hu h.1 ?_ okCtxL_of.nil okCtxL_of.nil
        simp only [optFlow, okFlow]
        exact ⟨h.2.1, h.2.2.1, h.2.2.2.1, h.2.2.2.2⟩
    · intro h
      rw [hGroup] at h
      exact unit_leaf trivial a h.1 h.2
    · intro h
      rw [hRow] at h
      exact unit_leaf trivial a h.1 h.2
    · intro h
      rw [hCell] at h
      exact unit_leaf trivial a h.1 h.2
  | .node a kids => by
    have ih := tr_list kids
    refine ⟨?_, ?_, ?_, ?_, ?_⟩
    · intro h
      rw [hInline] at h
      rw [dispatchS]
      by_cases hu : (leavesTree a || a.kind.dispStackingClass) = true
      · simp only [hu, ↓reduceIte] at h
        obtain ⟨hw, hc⟩ := okCtx_node_of (a := a) ih ⟨h.1, h.2.2⟩
        exact okCtxL_of.unit_coreS trivial a (.node a (listS kids).1) (listS kids).2 hu
          (fun hl => optInline_mkCtx (by simpa [ctxAllowed, Node.attrs?] using h.2.1 hl)) hw hc
      · simp only [hu, Bool.false_eq_true, ↓reduceIte] at h
        simp only [Bool.or_eq_true, not_or, Bool.not_eq_true] at hu
        obtain ⟨hb, hc, ht, hio, htc, hx, hr, hk⟩ := h
        obtain ⟨w, c, f⟩ := ih.inl hk
        refine coreS_stays a (.node a (listS kids).1) (listS kids).2 hu.1 hu.2 ?_ c f
        simp only [optInline, okInline]
        exact ⟨hb, hc, ht, hio, htc, hx, hr, w⟩
    · intro h
      rw [hFlow] at h
      by_cases hu : leavesTree a = true
      · simp only [hu, ↓reduceIte] at h
        exact unit_node trivial a kids ih hu h
      · simp only [hu, Bool.false_eq_true, ↓reduceIte] at h
        simp only [Bool.not_eq_true] at hu
        obtain ⟨hs, hbl, hc, hx, hr, hbody⟩ := h
        rw [dispatchS]
        rcases hbody with ⟨ht, hl, hg⟩ | ⟨ht, hb⟩
        · obtain ⟨w, c, f⟩ := ih.grp hg
          refine coreS_stays a (.node a (listS kids).1) (listS kids).2 hu hs ?_ c f
          simp only [optFlow, okFlow]
          exact ⟨hbl, hc, hx, hr, Or.inl ⟨ht, hl, w⟩⟩
        · obtain ⟨w, c, f⟩ := flow_body_of ih.flow ih.inl hb
          refine coreS_stays a (.node a (listS kids).1) (listS kids).2 hu hs ?_ c f
          simp only [optFlow, okFlow]
          exact ⟨hbl, hc, hx, hr, Or.inr ⟨ht, w⟩⟩
    · intro h
      rw [hGroup] at h
      by_cases hu : leavesTree a = true
      · simp only [hu, ↓reduceIte] at h
        exact unit_node trivial a kids ih hu h
      · simp only [hu, Bool.false_eq_true, ↓reduceIte] at h
        simp only [Bool.not_eq_true] at hu
        obtain ⟨hs, hbl, hc, ht, hx, hr, hbd, hk⟩ := h
        rw [dispatchS]
        obtain ⟨w, c, f⟩ := ih.row hk
        refine coreS_stays a (.node a (listS kids).1) (listS kids).2 hu hs ?_ c f
        simp only [optGroup, okGroups]
        exact ⟨⟨hbl, hc, ht, hx, hr, hbd, w⟩, trivial⟩
    · intro h
      rw [hRow] at h
      by_cases hu : leavesTree a = true
      · simp only [hu, ↓reduceIte] at h
        exact unit_node trivial a kids ih hu h
      · simp only [hu, Bool.false_eq_true, ↓reduceIte] at h
        simp only [Bool.not_eq_true] at hu
        obtain ⟨hs, hbl, hc, ht, hx, hr, hbd, hk⟩ := h
        rw [dispatchS]
        obtain ⟨w, c, f⟩ := ih.cell hk
        refine coreS_stays a (.node a (listS kids).1) (listS kids).2 hu hs ?_ c f
        simp only [optRow, okRows]
        exact ⟨⟨hbl, hc, ht, hx, hr, hbd, w⟩, trivial⟩
    · intro h
      rw [hCell] at h
      by_cases hu : leavesTree a = true
      · simp only [hu, ↓reduceIte] at h
        exact unit_node trivial a kids ih hu h
      · simp only [hu, Bool.false_eq_true, ↓reduceIte] at h
        simp only [Bool.not_eq_true] at hu
        obtain ⟨hs, hbl, hc, hr, hbody⟩ := h
        rw [dispatchS]
        obtain ⟨w, c, f⟩ := flow_body_of ih.flow ih.inl hbody
        refine coreS_stays a (.node a (listS kids).1) (listS kids).2 hu hs ?_ c f
        simp only [optCell, okCells]
        exact ⟨⟨hbl, hc, hr, w⟩, trivial⟩
theorem tr_list : ∀ (l : List Box), TrL l
  | [] => ⟨fun _ => by simp [Keeps, listS, okInlineL, okCtxL], fun _ => by simp [Keeps, listS, okFlowL, okCtxL],
           fun _ => by simp [Keeps, listS, okGroups, okCtxL], fun _ => by simp [Keeps, listS, okRows, okCtxL],
           fun _ => by simp [Keeps, listS, okCells, okCtxL]⟩
  | b :: bs => by
    have h1 := tr_box b
    have h2 := tr_list bs
    refine ⟨?_, ?_, ?_, ?_, ?_⟩
    · intro h
      rw [hInlineL] at h
      exact listS_cons_keeps b bs (fun n l hn hl => by rw [okInlineL]; exact ⟨hn, hl⟩) okCtxL_of.append
        (h1.inl h.1) (h2.inl h.2)
    · intro h
      rw [hFlowL] at h
      exact listS_cons_keeps b bs (fun n l hn hl => by rw [okFlowL]; exact ⟨hn, hl⟩) okCtxL_of.append
        (h1.flow h.1) (h2.flow h.2)
    · intro h
      rw [hGroups] at h
      exact listS_cons_keeps b bs (fun n l hn hl => (okGroups_cons n l).mpr ⟨hn, hl⟩) okCtxL_of.append
        (h1.grp h.1) (h2.grp h.2)
    · intro h
      rw [hRows] at h
      exact listS_cons_keeps b bs (fun n l hn hl => (okRows_cons n l).mpr ⟨hn, hl⟩) okCtxL_of.append
        (h1.row h.1) (h2.row h.2)
    · intro h
      rw [hCells] at h
      exact listS_cons_keeps b bs (fun n l hn hl => (okCells_cons n l).mpr ⟨hn, hl⟩) okCtxL_of.append
        (h1.cell h.1) (h2.cell h.2)
end

mutual
/-- Items a laid-out subtree is due: every box its own (a cell according to `empty-cells` and the
`border-collapse` `tc` of its table, a table with its columns and collapsed borders), nothing at or
below a singular transform. -/
def dueN (s : Sel) (tc : Bool) : Box → Nat
  | .ph b => dueN s tc b
  | .leaf a =>
    if a.matrix = .singular then 0
    else if leavesTree a || a.kind.dispStackingClass then s.plainOwn a else s.nodeOwn tc a
  | .node a kids =>
    if a.matrix = .singular then 0
    else if leavesTree a || a.kind.dispStackingClass then s.plainOwn a + dueL s false kids
    else s.nodeOwn tc a + dueL s (if a.kind.drawTable then a.collapse else tc) kids
def dueL (s : Sel) (tc : Bool) : List Box → Nat
  | [] => 0
  | b :: bs => dueN s tc b + dueL s tc bs
end

def optExpN (s : Sel) (tc : Bool) : Option Node → Nat
  | none => 0
  | some n => expN s tc n

theorem expL_append (s : Sel) (tc : Bool) (l m : List Node) :
    expL s tc (l ++ m) = expL s tc l + expL s tc m := by
  induction l with
  | nil => simp [expL]
  | cons x xs ih => simp [expL, ih, Nat.add_assoc]

theorem expL_eq_sum (s : Sel) (tc : Bool) (l : List Node) : expL s tc l = (l.map (expN s tc)).sum := by
  induction l with
  | nil => rfl
  | cons x xs ih => rw [expL, ih, List.map_cons, List.sum_cons]

theorem expL_toList (s : Sel) (tc : Bool) (o : Option Node) : expL s tc o.toList = optExpN s tc o := by
  cases o
  · rfl
  · exact Nat.add_zero _

theorem expL_init (s : Sel) (tc : Bool) (own : List Node) :
    expL s tc (sortZ (own.filter (fun n => decide (n.zIndex < 0)))) +
    expL s tc (own.filter (fun n => decide (n.zIndex = 0))) +
    expL s tc (sortZ (own.filter (fun n => decide (0 < n.zIndex)))) = expL s tc own := by
  simp only [expL_eq_sum]
  exact sum_map_init _ own

theorem expN_mkCtx_node (s : Sel) (tc : Bool) (a : Attrs) (ks own blocks floats bc : List Node) :
    expN s tc (mkCtx (.node a ks) own blocks floats bc) =
      if a.matrix = .singular then 0
      else s.plainOwn a + expL s false ks + expL s false own + expL s false floats := by
  have := expL_init s false own
  simp only [init_lists, expN]
  split
  · rfl
  · omega

/-- The `+ 0` makes this the `hctx` of `dueN_coreS` with `kc := 0` by unification. -/
theorem expN_mkCtx_leaf (s : Sel) (tc : Bool) (a : Attrs) (own blocks floats bc : List Node) :
    expN s tc (mkCtx (.leaf a) own blocks floats bc) =
      if a.matrix = .singular then 0
      else s.plainOwn a + 0 + expL s false own + expL s false floats := by
  have := expL_init s false own
  simp only [init_lists, expN]
  split
  · rfl
  · omega

/-- `expN` of a context does not read the table flag. -/
theorem expN_ctx_tc (s : Sel) (tc tc' : Bool) (box : Node) (neg zero pos blocks floats bc : List Node)
    (z : Int) :
    expN s tc (.ctx box neg zero pos blocks floats bc z) =
      expN s tc' (.ctx box neg zero pos blocks floats bc z) := by
  cases box <;> simp [expN]

/-- One `_dispatch` step keeps the items due.  `self` is the box with its dispatched children; they
are due `kc` when the box roots a context and `kt` when it stays in the tree. -/
theorem dueN_coreS (s : Sel) (tc : Bool) (a : Attrs) (self : Node) (inner : Delta) (kc kt : Nat)
    (hs : a.matrix = .singular → definesContext a = true)
    (hctx : ∀ own blocks floats bc, expN s tc (mkCtx self own blocks floats bc) =
      if a.matrix = .singular then 0
      else s.plainOwn a + kc + expL s false own + expL s false floats)
    (htree : expN s tc self = s.nodeOwn tc a + kt) :
    optExpN s tc (coreS a self inner).1 + expL s false (coreS a self inner).2.cc +
      expL s false (coreS a self inner).2.floats =
    if a.matrix = .singular then 0
    else if leavesTree a || a.kind.dispStackingClass then
      s.plainOwn a + kc + expL s false inner.cc + expL s false inner.floats
    else s.nodeOwn tc a + kt + expL s false inner.cc + expL s false inner.floats := by
  have := sum_coreS (expN s tc) (expN s false) a self inner (s.plainOwn a + kc)
    (fun x => if a.matrix = .singular then 0 else x)
    (fun h x => if_neg (fun h' => by rw [hs h'] at h; cases h))
    (fun own bl fl bc => by
      rw [mkCtx, expN_ctx_tc s false tc, ← mkCtx, hctx, expL_eq_sum, expL_eq_sum])
    (fun own bl fl bc => by rw [mkCtx, expN_ctx_tc s tc false])
  simp only [← expL_eq_sum, expL_toList, htree] at this
  rw [this]
  split
  · rfl
  · split <;> rfl

mutual
theorem due_dispatchS (s : Sel) : ∀ (b : Box) (tc : Bool), singOK b →
    optExpN s tc (dispatchS b).1 + expL s false (dispatchS b).2.cc +
      expL s false (dispatchS b).2.floats = dueN s tc b
  | .ph b, tc, h => by
    rw [singOK] at h; rw [dispatchS, dueN]; exact due_dispatchS s b tc h
  | .leaf a, tc, h => by
    rw [singOK] at h
    rw [dispatchS, dueN_coreS s tc a _ _ 0 0 h (expN_mkCtx_leaf s tc a) rfl, dueN]
    rfl
  | .node a kids, tc, h => by
    rw [singOK] at h
    rw [dispatchS, dueN_coreS s tc a _ _ _ _ h.1 (expN_mkCtx_node s tc a _) (by rw [expN]), dueN]
    by_cases hs : a.matrix = .singular
    · rw [if_pos hs, if_pos hs]
    · rw [if_neg hs, if_neg hs]
      by_cases hu : (leavesTree a || a.kind.dispStackingClass) = true
      · rw [if_pos hu, if_pos hu, ← due_listS s kids false h.2]
        simp only [Nat.add_assoc]
      · rw [if_neg hu, if_neg hu, ← due_listS s kids _ h.2]
        simp only [Nat.add_assoc]
theorem due_listS (s : Sel) : ∀ (l : List Box) (tc : Bool), singOKL l →
    expL s tc (listS l).1 + expL s false (listS l).2.cc + expL s false (listS l).2.floats = dueL s tc l
  | [], tc, _ => rfl
  | b :: bs, tc, h => by
    rw [singOKL] at h
    have h1 := due_dispatchS s b tc h.1
    have h2 := due_listS s bs tc h.2
    rw [listS_cons, dueL]
    simp only [Delta.append, expL_append, expL_toList]
    omega
end

/-- What a child of the page is due. -/
def dueRoot (s : Sel) : Box → Nat
  | .leaf a => if a.matrix = .singular then 0 else s.plainOwn a
  | .node a kids => if a.matrix = .singular then 0 else s.plainOwn a + dueL s false kids
  | .ph _ => 0

theorem okCtx_fromBoxS (b : Box) (h : hRoot b) : okCtx (fromBoxS b) := by
  cases b with
  | leaf a =>
    rw [hRoot] at h
    simpa [fromBoxS, childrenS] using okCtx_mkCtx_leaf a [] h okCtxL_of.nil
  | node a kids =>
    obtain ⟨hw, hc⟩ := okCtx_node_of (tr_list kids) h
    simpa [fromBoxS, childrenS] using hw _ hc
  | ph b => rw [hRoot] at h; exact h.elim

theorem expN_fromBoxS (s : Sel) (tc : Bool) (b : Box) (h : singOK b) :
    expN s tc (fromBoxS b) = dueRoot s b := by
  cases b with
  | leaf a =>
    simp only [fromBoxS, childrenS, expN_mkCtx_leaf, dueRoot]
    rfl
  | node a kids =>
    rw [singOK] at h
    have := due_listS s kids false h.2
    simp only [fromBoxS, childrenS, expN_mkCtx_node, dueRoot]
    split
    · rfl
    · omega
  | ph b => rfl

end Wp.Stacking
