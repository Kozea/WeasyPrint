/-
Helper lemmas for C18: composing `make_bookmark_tree` with `add_outlines`.  Core Lean only.
-/
import WpModel.Lemmas.C18Bookmarks
import WpModel.Lemmas.C18Outlines

namespace Wp.C18
open Wp Wp.Outline Wp.Anchors

mutual
theorem pagesOk_of_flat (refs : List Nat) : ∀ (t : BTree) (d : Nat),
    (∀ x ∈ flat d t, (pageReference refs x.2.2.1.page).isOk = true) → pagesOk refs t = true
  | .node l tg kids st, d, h => by
    simp only [pagesOk, Bool.and_eq_true]
    refine ⟨h (d, (l, tg, st)) (by simp [flat]), pagesOkList_of_flat refs kids (d + 1) ?_⟩
    intro x hx; exact h x (by simp [flat, hx])
theorem pagesOkList_of_flat (refs : List Nat) : ∀ (ts : List BTree) (d : Nat),
    (∀ x ∈ flatList d ts, (pageReference refs x.2.2.1.page).isOk = true) → pagesOkList refs ts = true
  | [], _, _ => rfl
  | t :: ts, d, h => by
    simp only [pagesOkList, Bool.and_eq_true]
    exact ⟨pagesOk_of_flat refs t d (fun x hx => h x (by simp [flatList, hx])),
      pagesOkList_of_flat refs ts d (fun x hx => h x (by simp [flatList, hx]))⟩
end

mutual
/-- The outline dictionaries, in object-number order, carry the labels of the tree in pre-order. -/
theorem GoodNode_titles {refs : List Nat} {parent prev nxt : Option Nat} {num : Nat} :
    ∀ (t : BTree) (n : ONode) (d : Nat), GoodNode refs parent prev nxt num t n →
      (flattenNode n).map (·.title) = (flat d t).map (·.2.1)
  | .node title target kids state, .mk o okids, d, h => by
    obtain ⟨-, htitle, hkids⟩ := GoodNode_kids h
    simp only [flattenNode, flat, List.map_cons, htitle, GoodList_titles kids okids (d + 1) hkids]
theorem GoodList_titles {refs : List Nat} {parent prev : Option Nat} {num : Nat} :
    ∀ (ts : List BTree) (ns : List ONode) (d : Nat), GoodList refs parent prev num ts ns →
      (flattenNodes ns).map (·.title) = (flatList d ts).map (·.2.1)
  | [], [], _, _ => rfl
  | [], _ :: _, _, h => by simp [GoodList] at h
  | _ :: _, [], _, h => by simp [GoodList] at h
  | t :: ts, n :: ns, d, h => by
    rw [GoodList] at h
    simp only [flattenNodes, flatList, List.map_append, GoodNode_titles t n d h.1, GoodList_titles ts ns d h.2]
end

theorem pageReference_ok (refs : List Nat) (i : Nat) (h : i < refs.length) :
    (pageReference refs (i : Int)).isOk = true := by
  unfold pageReference
  simp only []
  have h1 : ¬ ((i : Int) < 0) := by omega
  rw [if_neg h1, if_neg (by omega)]
  simp only [Int.toNat_natCast]
  rw [List.getElem?_eq_getElem h]
  rfl

theorem docEntries_pages (scale : Rat) (tp : Bool) (pages : List BPage) :
    ∀ (n : Nat), ∀ e ∈ docEntries scale tp n pages, ∃ i, n ≤ i ∧ i < n + pages.length ∧ e.target.page = (i : Int) := by
  induction pages with
  | nil => intro n e he; simp [docEntries] at he
  | cons p rest ih =>
    intro n e he
    simp only [docEntries, List.mem_append, List.mem_map] at he
    rcases he with ⟨b, _, hb⟩ | he
    · exact ⟨n, by omega, by simp, by rw [← hb]; rfl⟩
    · obtain ⟨i, h1, h2, h3⟩ := ih (n + 1) e he
      exact ⟨i, by omega, by simp only [List.length_cons]; omega, h3⟩

end Wp.C18
