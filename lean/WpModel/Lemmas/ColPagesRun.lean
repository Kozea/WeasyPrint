/-
`PMC.makeAllPages` is the page loop `PageLoop.run` of `remake_page`; the loop's errors are `assert root_box`
(`none`) and the exception of a layout (`some e`).
-/
import WpModel.Model.PaginateCol
import WpModel.Lemmas.PageLoop

namespace Wp.PMC
open Wp Wp.PM Wp.PageLoop

/-- `make_all_pages`' state: `(index, resume_at, next_page, right_page)`. -/
abbrev PState := Nat × Option Resume × NextPage × Bool

/-- One turn of `make_all_pages`: `remake_page`, and the state it hands over unless the document is done. -/
def pageStep (d : CDoc) : PState → Except (Option String) (CPage × Option PState)
  | (index, resume, np, right) =>
    match remakePage d index resume np right with
    | .assertFail => .error none
    | .raised e => .error (some e)
    | .ok p => .ok (p, p.resume.map fun r => (index + 1, some r, p.nextPage, !right))

/-- The loop's outcome as `make_all_pages` returns it. -/
def ofOut : Out (Option String) CPage → PagesOut
  | .ok ps => .ok ps
  | .fail none => .assertFail
  | .fail (some e) => .raised e
  | .fuel => .fuel

theorem makeAllPages_eq_run (d : CDoc) : ∀ (fuel index : Nat) (resume : Option Resume) (np : NextPage) (right : Bool),
    makeAllPages d fuel index resume np right = ofOut (run (pageStep d) fuel (index, resume, np, right)) := by
  intro fuel
  induction fuel with
  | zero => intros; rfl
  | succ fuel ih =>
    intro index resume np right
    rw [makeAllPages, run, pageStep]
    cases remakePage d index resume np right with
    | assertFail => rfl
    | raised e => rfl
    | ok p =>
      cases hr : p.resume with
      | none => simp only [hr]; rfl
      | some r =>
        simp only [hr, Option.map_some, ih]
        rcases run (pageStep d) fuel (index + 1, some r, p.nextPage, !right) with _ | (_ | _) | _ <;> rfl

theorem makeAllPages_eq_ok {d : CDoc} {fuel index : Nat} {resume : Option Resume} {np : NextPage} {right : Bool}
    {pages : List CPage} :
    makeAllPages d fuel index resume np right = .ok pages ↔
      run (pageStep d) fuel (index, resume, np, right) = .ok pages := by
  rw [makeAllPages_eq_run]
  rcases run (pageStep d) fuel (index, resume, np, right) with _ | (_ | _) | _ <;> simp [ofOut]

theorem pageStep_ok {d : CDoc} {index : Nat} {resume : Option Resume} {np : NextPage} {right : Bool} {p : CPage}
    {o : Option PState} (h : pageStep d (index, resume, np, right) = .ok (p, o)) :
    remakePage d index resume np right = .ok p ∧
      o = p.resume.map fun r => (index + 1, some r, p.nextPage, !right) := by
  rw [pageStep] at h
  cases hq : remakePage d index resume np right with
  | assertFail => rw [hq] at h; cases h
  | raised e => rw [hq] at h; cases h
  | ok q => rw [hq] at h; cases h; exact ⟨rfl, rfl⟩

end Wp.PMC
