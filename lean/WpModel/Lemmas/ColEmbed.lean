/-
Stage 2c ⊇ stage 1: the embedding of the stage-1 grammar (`PBox`) into the extended grammar (`ColBox`) and the
proof that every layout function of `Model/PaginateCol.lean` agrees, on embedded inputs, with the function of
`Model/Paginate.lean` it was copied from. At the end, the column stage's children loop one child at a time
(`kidResult`, `layoutKids_cons`), which the layout's embedding and the stage's own lemmas both start from.
-/
import WpModel.Model.PaginateCol
import WpModel.Lemmas.ColSeg

namespace Wp.PMC
open Wp Wp.PM

mutual
def embed : PBox → ColBox
  | .para id n lineH st => .para id n lineH st
  | .block id st kids => .block id st (embedList kids)
def embedList : List PBox → List ColBox
  | [] => []
  | b :: bs => embed b :: embedList bs
end

mutual
def embedFrag : Frag → CFrag
  | .para id idx st n g lines => .para id idx st n g lines
  | .block id idx st g kids => .block id idx st g (embedFragList kids)
def embedFragList : List Frag → List CFrag
  | [] => []
  | f :: fs => embedFrag f :: embedFragList fs
end

/-- The stage-1 context: not inside columns, finite bottom space. -/
def cOf (c : Ctx) : CCtx :=
  { pageBottom := c.pageBottom, currentPage := c.currentPage, forcedBreak := c.forcedBreak,
    inColumn := false, inf := false }

def embedResult (r : PM.LayoutResult) : LayoutResult :=
  { frag := r.frag.map embedFrag, resume := r.resume, nextPage := r.nextPage, adj := r.adj,
    collapsingThrough := r.collapsingThrough, adjL := r.adjL, err := none }

def embedLoop (s : PM.KidsLoop) : KidsLoop :=
  { newChildren := embedFragList s.newChildren, posY := s.posY, adjL := s.adjL, cur := s.cur, curIsL := s.curIsL,
    nextPage := s.nextPage, skip := s.skip }

def embedOutcome : PM.KidsOutcome → KidsOutcome
  | .finished s => .finished (embedLoop s)
  | .aborted p s => .aborted p (embedLoop s)
  | .stopped r s => .stopped r (embedLoop s)

def embedPage (p : PM.Page) : CPage :=
  { type := p.type, root := embedFrag p.root, resume := p.resume, nextPage := p.nextPage }

def embedDoc (d : PM.Doc) : CDoc := { pageH := d.pageH, rootLtr := d.rootLtr, root := embed d.root }

theorem embedList_eq_map (l : List PBox) : embedList l = l.map embed := by
  induction l with
  | nil => rfl
  | cons b bs ih => simp [embedList, ih]

theorem embedFragList_eq_map (l : List Frag) : embedFragList l = l.map embedFrag := by
  induction l with
  | nil => rfl
  | cons b bs ih => simp [embedFragList, ih]

@[simp] theorem embedFragList_append (a b : List Frag) :
    embedFragList (a ++ b) = embedFragList a ++ embedFragList b := by
  simp [embedFragList_eq_map]

@[simp] theorem embedFragList_isEmpty (l : List Frag) : (embedFragList l).isEmpty = l.isEmpty := by
  cases l <;> simp [embedFragList]

@[simp] theorem embedFragList_eq_nil (l : List Frag) : embedFragList l = [] ↔ l = [] := by
  cases l <;> simp [embedFragList]

theorem embedFragList_getLast? (l : List Frag) : (embedFragList l).getLast? = l.getLast?.map embedFrag := by
  simp [embedFragList_eq_map]

@[simp] theorem embed_st (b : PBox) : (embed b).st = b.st := by
  cases b <;> simp [embed, ColBox.st, PBox.st]

@[simp] theorem embedFrag_st (f : Frag) : (embedFrag f).st = f.st := by
  cases f <;> simp [embedFrag, CFrag.st, Frag.st]
@[simp] theorem embedFrag_geo (f : Frag) : (embedFrag f).geo = f.geo := by
  cases f <;> simp [embedFrag, CFrag.geo, Frag.geo]
@[simp] theorem embedFrag_idx (f : Frag) : (embedFrag f).idx = f.idx := by
  cases f <;> simp [embedFrag, CFrag.idx, Frag.idx]
@[simp] theorem embedFrag_withIdx (f : Frag) (i : Nat) : (embedFrag f).withIdx i = embedFrag (f.withIdx i) := by
  cases f <;> simp [embedFrag, CFrag.withIdx, Frag.withIdx]
@[simp] theorem embedFrag_isColumn (f : Frag) : (embedFrag f).isColumn = false := by
  cases f <;> simp [embedFrag, CFrag.isColumn]

@[simp] theorem cOf_base (c : Ctx) : (cOf c).base = c := by cases c; rfl
@[simp] theorem cOf_overflowsPage (c : Ctx) (bs y : Rat) : (cOf c).overflowsPage bs y = c.overflowsPage bs y := by
  simp [cOf, CCtx.overflowsPage, Ctx.overflowsPage]
@[simp] theorem cOf_avoidsB (c : Ctx) (v : Brk) : (cOf c).avoidsB v = avoidsPage v := by
  simp [cOf, CCtx.avoidsB, avoidsPage]
@[simp] theorem cOf_forcesB (c : Ctx) (v : Brk) : (cOf c).forcesB v = forcesPage v := by
  simp [cOf, CCtx.forcesB, forcesPage]
@[simp] theorem cOf_inColumn (c : Ctx) : (cOf c).inColumn = false := rfl
@[simp] theorem cOf_inf (c : Ctx) : (cOf c).inf = false := rfl
@[simp] theorem cOf_pageBottom (c : Ctx) : (cOf c).pageBottom = c.pageBottom := rfl

/-! ### break chains and page values -/

mutual
theorem fragAfterChain_embed : (f : Frag) → fragAfterChain (embedFrag f) = PM.fragAfterChain f
  | .para _ _ _ _ _ _ => by simp [embedFrag, fragAfterChain, PM.fragAfterChain]
  | .block _ _ _ _ kids => by
    simp [embedFrag, fragAfterChain, PM.fragAfterChain, fragAfterChainLast_embed kids]
theorem fragAfterChainLast_embed : (fs : List Frag) →
    fragAfterChainLast (embedFragList fs) = PM.fragAfterChainLast fs
  | [] => by simp [embedFragList, fragAfterChainLast, PM.fragAfterChainLast]
  | [f] => by simp [embedFragList, fragAfterChainLast, PM.fragAfterChainLast, fragAfterChain_embed f]
  | f :: g :: rest => by
    have := fragAfterChainLast_embed (g :: rest)
    simp only [embedFragList] at this ⊢
    simp only [fragAfterChainLast, PM.fragAfterChainLast]
    simpa [fragAfterChainLast, PM.fragAfterChainLast] using this
end

mutual
theorem boxBeforeChain_embed : (b : PBox) → boxBeforeChain (embed b) = PM.boxBeforeChain b
  | .para _ _ _ _ => by simp [embed, boxBeforeChain, PM.boxBeforeChain]
  | .block _ _ kids => by simp [embed, boxBeforeChain, PM.boxBeforeChain, boxBeforeChainFirst_embed kids]
theorem boxBeforeChainFirst_embed : (bs : List PBox) →
    boxBeforeChainFirst (embedList bs) = PM.boxBeforeChainFirst bs
  | [] => by simp [embedList, boxBeforeChainFirst, PM.boxBeforeChainFirst]
  | b :: _ => by simp [embedList, boxBeforeChainFirst, PM.boxBeforeChainFirst, boxBeforeChain_embed b]
end

mutual
theorem fragBeforeChain_embed : (f : Frag) → fragBeforeChain (embedFrag f) = PM.fragBeforeChain f
  | .para _ _ _ _ _ _ => by simp [embedFrag, fragBeforeChain, PM.fragBeforeChain]
  | .block _ _ _ _ kids => by
    simp [embedFrag, fragBeforeChain, PM.fragBeforeChain, fragBeforeChainFirst_embed kids]
theorem fragBeforeChainFirst_embed : (fs : List Frag) →
    fragBeforeChainFirst (embedFragList fs) = PM.fragBeforeChainFirst fs
  | [] => by simp [embedFragList, fragBeforeChainFirst, PM.fragBeforeChainFirst]
  | f :: _ => by simp [embedFragList, fragBeforeChainFirst, PM.fragBeforeChainFirst, fragBeforeChain_embed f]
end

@[simp] theorem breakBetween_embed (f : Frag) (b : PBox) :
    breakBetween (embedFrag f) (embed b) = PM.breakBetween f b := by
  simp [breakBetween, PM.breakBetween, fragAfterChain_embed, boxBeforeChain_embed]

@[simp] theorem breakBetweenFrags_embed (f : Frag) (a : Option Frag) :
    breakBetweenFrags (embedFrag f) (a.map embedFrag) = PM.breakBetweenFrags f a := by
  cases a <;> simp [breakBetweenFrags, PM.breakBetweenFrags, fragAfterChain_embed, fragBeforeChain_embed]

mutual
theorem boxPageStart_embed : (b : PBox) → boxPageStart (embed b) = PM.boxPageStart b
  | .para _ _ _ _ => by simp [embed, boxPageStart, PM.boxPageStart]
  | .block _ _ kids => by simp [embed, boxPageStart, PM.boxPageStart, boxPageStartFirst_embed kids]
theorem boxPageStartFirst_embed : (bs : List PBox) →
    boxPageStartFirst (embedList bs) = PM.boxPageStartFirst bs
  | [] => by simp [embedList, boxPageStartFirst, PM.boxPageStartFirst]
  | b :: _ => by simp [embedList, boxPageStartFirst, PM.boxPageStartFirst, boxPageStart_embed b]
end

mutual
theorem fragPageEnd_embed : (f : Frag) → fragPageEnd (embedFrag f) = PM.fragPageEnd f
  | .para _ _ _ _ _ _ => by simp [embedFrag, fragPageEnd, PM.fragPageEnd]
  | .block _ _ _ _ kids => by simp [embedFrag, fragPageEnd, PM.fragPageEnd, fragPageEndLast_embed kids]
theorem fragPageEndLast_embed : (fs : List Frag) →
    fragPageEndLast (embedFragList fs) = PM.fragPageEndLast fs
  | [] => by simp [embedFragList, fragPageEndLast, PM.fragPageEndLast]
  | [f] => by simp [embedFragList, fragPageEndLast, PM.fragPageEndLast, fragPageEnd_embed f]
  | f :: g :: rest => by
    have := fragPageEndLast_embed (g :: rest)
    simp only [embedFragList] at this ⊢
    simp only [fragPageEndLast, PM.fragPageEndLast]
    simpa [fragPageEndLast, PM.fragPageEndLast] using this
end

attribute [simp] boxPageStart_embed fragPageEnd_embed fragPageEndLast_embed

/-! ### paragraphs -/

theorem lineLoop_embed (c : Ctx) (st : PStyle) (b : BoxSt) (n : Nat) (lineH : Rat) (pie : Bool) (bs : Rat) :
    ∀ (fuel i : Nat) (y : Rat) (s : LineLoop),
      lineLoop (cOf c) st b n lineH pie bs fuel i y s = PM.lineLoop c st b n lineH pie bs fuel i y s := by
  intro fuel i y s
  rw [lineLoop_eq_G, PM.lineLoop_eq_G, funext (cOf_overflowsPage c bs)]

theorem lineboxLoop_embed (c : Ctx) (st : PStyle) (b : BoxSt) (n : Nat) (lineH : Rat) (pie : Bool)
    (adj : List Rat) (bs posY : Rat) (skip : Option Resume) (dbd : Bool) :
    lineboxLoop (cOf c) st b n lineH pie adj bs posY skip dbd =
      PM.lineboxLoop c st b n lineH pie adj bs posY skip dbd := by
  simp [lineboxLoop, PM.lineboxLoop, lineLoop_embed]

@[simp] theorem lineboxLayout_embed (c : Ctx) (st : PStyle) (b : BoxSt) (n : Nat) (lineH : Rat) (pie : Bool)
    (adj : List Rat) (bs posY : Rat) (skip : Option Resume) (dbd : Bool) :
    lineboxLayout (cOf c) st b n lineH pie adj bs posY skip dbd =
      PM.lineboxLayout c st b n lineH pie adj bs posY skip dbd := by
  unfold lineboxLayout PM.lineboxLayout
  rw [lineboxLoop_embed]
  cases PM.lineboxLoop c st b n lineH pie adj bs posY skip dbd <;> rfl

/-! ### `find_earlier_page_break` -/

@[simp] theorem cutEnd_embed (f : Frag) : (embedFrag f).cutEnd = embedFrag f.cutEnd := by
  cases f <;> simp [embedFrag, CFrag.cutEnd, Frag.cutEnd]

def embedEarlier (s : PM.EarlierState) : EarlierState :=
  { found := s.found.map (fun p => (embedFragList p.1, p.2)), prev := s.prev.map embedFrag }

def embedEarlierIn (o : Option (Frag × Resume)) : Option (CFrag × Resume) :=
  o.map (fun p => (embedFrag p.1, p.2))

theorem findEarlierPara_embed (id idx : Nat) (st : PStyle) (n : Nat) (g : Geo) (lines : List (Nat × Rat)) :
    findEarlierPara id idx st n g lines =
      (PM.findEarlierPara id idx st n g lines).map (fun p => (embedFrag p.1, p.2)) := by
  unfold findEarlierPara PM.findEarlierPara
  by_cases h1 : lines.isEmpty = true
  · rw [if_pos h1, if_pos h1]; rfl
  · rw [if_neg h1, if_neg h1]
    dsimp only
    by_cases h2 : (lines.length : Int) - (st.widows : Int) < (st.orphans : Int)
    · rw [if_pos h2, if_pos h2]; rfl
    · rw [if_neg h2, if_neg h2]
      cases (List.take ((lines.length : Int) - (st.widows : Int)).toNat lines).getLast? with
      | none => rfl
      | some p => rfl

mutual
theorem findEarlierGo_embed : (fs : List Frag) →
    findEarlierGo false (embedFragList fs) = embedEarlier (PM.findEarlierGo fs)
  | [] => by simp [embedFragList, findEarlierGo, PM.findEarlierGo, embedEarlier]
  | x :: xs => by
    have ih := findEarlierGo_embed xs
    have ihx := findEarlierFrag_embed x
    simp only [embedFragList, findEarlierGo, PM.findEarlierGo, ih]
    cases hs : PM.findEarlierGo xs with
    | mk found prev =>
      cases found with
      | some p => simp [embedEarlier, embedFragList]
      | none =>
        cases prev with
        | none =>
          simp only [embedEarlier, Option.map_none, embedFrag_isColumn, embedFrag_st]
          simp only [ihx]
          by_cases hav : avoidsPage x.st.brkInside = true
          · simp [avoidsPage] at hav; simp [hav, avoidsPage]
          · simp only [avoidsPage] at hav
            simp only [Bool.not_eq_true] at hav
            simp only [hav, avoidsPage]
            cases PM.findEarlierFrag x with
            | none => simp [embedEarlierIn]
            | some p => obtain ⟨f, r⟩ := p; simp [embedEarlierIn, embedFragList]
        | some p =>
          simp only [embedEarlier, Option.map_none, Option.map_some, embedFrag_isColumn, embedFrag_st]
          have hb := breakBetweenFrags_embed x (some p)
          simp only [Option.map_some] at hb
          simp only [hb, ihx, avoidsPage]
          by_cases hpb : avoids false (PM.breakBetweenFrags x (some p)) = true
          · simp only [hpb]
            by_cases hav : avoids false x.st.brkInside = true
            · simp [hav]
            · simp only [Bool.not_eq_true] at hav
              simp only [hav]
              cases PM.findEarlierFrag x with
              | none => simp [embedEarlierIn]
              | some q => obtain ⟨f, r⟩ := q; simp [embedEarlierIn, embedFragList]
          · simp only [Bool.not_eq_true] at hpb
            simp [hpb, embedFragList]
theorem findEarlierFrag_embed : (x : Frag) →
    findEarlierFrag false (embedFrag x) = embedEarlierIn (PM.findEarlierFrag x)
  | .para id idx st n g lines => by
    simp only [embedFrag, findEarlierFrag, PM.findEarlierFrag, findEarlierPara_embed, embedEarlierIn]
  | .block id idx st g kids => by
    have ih := findEarlierGo_embed kids
    simp only [embedFrag, findEarlierFrag, PM.findEarlierFrag, ih]
    cases hs : (PM.findEarlierGo kids).found with
    | none => simp [embedEarlier, hs, embedEarlierIn]
    | some p => obtain ⟨k, r⟩ := p; simp [embedEarlier, hs, embedEarlierIn, embedFrag]
end

theorem findEarlierList_embed (fs : List Frag) :
    findEarlierList false (embedFragList fs) =
      (PM.findEarlierList fs).map (fun p => (embedFragList p.1, p.2)) := by
  simp only [findEarlierList, PM.findEarlierList, findEarlierGo_embed, embedEarlier]

/-! ### block containers -/

@[simp] theorem prepareC_embed (c : Ctx) (st : PStyle) (y bs : Rat) (skip : Option Resume) (cbIsRoot pie : Bool)
    (adjL : List Rat) : prepareC false c st y bs skip cbIsRoot pie adjL = prepare c st y bs skip cbIsRoot pie adjL := by
  unfold prepareC prepare
  simp only [Bool.or_false]

@[simp] theorem finishTailC_embed (c : Ctx) (st : PStyle) (b : BoxSt) (bs : Rat) (cwc dbd : Bool)
    (resume : Option Resume) (posY : Rat) (adjL cur : List Rat) (curIsL hasKids : Bool) :
    finishTailC false (cOf c) st b bs cwc dbd resume posY adjL cur curIsL hasKids =
      finishTail c st b bs cwc dbd resume posY adjL cur curIsL hasKids := by
  unfold finishTailC finishTail
  simp only [Bool.or_false, cOf, Bool.false_eq_true, if_false]
  rfl

theorem noneResult_embed (page : Option String) (adjL : List Rat) :
    noneResult page adjL = embedResult (abortResult page adjL) := by
  simp [noneResult, abortResult, embedResult]

theorem finishContainer_embed (c : Ctx) (st : PStyle) (b : BoxSt) (isStart pie : Bool) (bs : Rat) (cwc dbd : Bool)
    (resume : Option Resume) (posY : Rat) (adjL cur : List Rat) (curIsL : Bool) (np : NextPage) (hasKids : Bool)
    (pageEnd : String) (mk : Geo → Frag) :
    finishContainer false (cOf c) st b pie bs cwc dbd resume posY adjL cur curIsL np hasKids pageEnd
        (fun g => embedFrag (mk g)) =
      embedResult (PM.finishContainer c st b isStart pie bs cwc dbd resume posY adjL cur curIsL np hasKids pageEnd mk) := by
  unfold finishContainer PM.finishContainer
  simp only [cOf_avoidsB, finishTailC_embed]
  split
  · simp [noneResult, embedResult]
  · simp only [embedResult, Option.map_some]
    cases np.page <;> rfl

theorem finishPara_embed (c : Ctx) (st : PStyle) (p : Prep) (pie : Bool) (id idx n : Nat) (r : LineResult) :
    finishPara (cOf c) st p pie id idx n r = embedResult (PM.finishPara c st p pie id idx n r) := by
  unfold finishPara PM.finishPara
  dsimp only
  split
  · exact noneResult_embed _ _
  · exact finishContainer_embed c st _ p.isStart pie p.bs p.cwc _ _ r.posY p.adjL [] false _ _ st.page
      (fun g => Frag.para id idx st n g r.lines)

@[simp] theorem pageEndOf_embed (st : PStyle) (kids : List Frag) :
    pageEndOf st (embedFragList kids) = PM.pageEndOf st kids := by
  simp [pageEndOf, PM.pageEndOf]

theorem finishBlock_embed (c : Ctx) (st : PStyle) (p : Prep) (pie : Bool) (id idx : Nat) (out : PM.KidsOutcome) :
    finishBlock false (cOf c) st p pie (embedOutcome out) (fun g ks => .block id idx st g ks) =
      embedResult (PM.finishBlock c st p pie id idx out) := by
  cases out with
  | finished s =>
    simp only [embedOutcome, finishBlock, PM.finishBlock, embedLoop, embedFragList_isEmpty, pageEndOf_embed]
    exact finishContainer_embed c st p.b p.isStart pie p.bs p.cwc p.dbd none s.posY s.adjL s.cur s.curIsL s.nextPage
      _ _ (fun g => Frag.block id idx st g s.newChildren)
  | aborted page s =>
    simp only [embedOutcome, finishBlock, PM.finishBlock, embedLoop]
    exact noneResult_embed _ _
  | stopped r s =>
    simp only [embedOutcome, finishBlock, PM.finishBlock, embedLoop, embedFragList_isEmpty, pageEndOf_embed]
    exact finishContainer_embed c st p.b p.isStart pie p.bs p.cwc p.dbd _ s.posY s.adjL [] false s.nextPage
      _ _ (fun g => Frag.block id idx st g s.newChildren)

theorem meetBreak_embed (c : Ctx) (s : PM.KidsLoop) (child : PBox) :
    meetBreak (cOf c) (embedLoop s) (embed child) = PM.meetBreak s child := by
  unfold meetBreak PM.meetBreak
  simp only [embedLoop, embedFragList_getLast?]
  cases s.newChildren.getLast? with
  | none => rfl
  | some l => simp

def embedFirstPass : PM.FirstPass → FirstPass
  | .keep f y => .keep (f.map embedFrag) y
  | .redo bs => .redo bs

theorem firstPass_embed (c : Ctx) (bs : Rat) (pienc : Bool) (posY : Rat) (r : PM.LayoutResult) :
    firstPass (cOf c) bs pienc posY (embedResult r) = embedFirstPass (PM.firstPass c bs pienc posY r) := by
  unfold firstPass
  fun_cases PM.firstPass c bs pienc posY r <;>
    simp +zetaDelta only [embedResult, embedFirstPass, embedFrag_geo, cOf_overflowsPage, Option.map_some,
      Option.map_none, *] <;> rfl

@[simp] theorem setCur_embed (s : PM.KidsLoop) (l : List Rat) (isL : Bool) :
    (embedLoop s).setCur l isL = embedLoop (s.setCur l isL) := by
  unfold KidsLoop.setCur PM.KidsLoop.setCur
  split <;> simp [embedLoop]

@[simp] theorem appendCur_embed (s : PM.KidsLoop) (m : Rat) :
    (embedLoop s).appendCur m = embedLoop (s.appendCur m) := by
  unfold KidsLoop.appendCur PM.KidsLoop.appendCur
  cases h : s.curIsL <;> simp [embedLoop, h]

theorem adoptAdj_embed (s : PM.KidsLoop) (had : Bool) (adj : AdjOut) (frag : Option Frag) :
    (embedLoop s).adoptAdj had adj (frag.map embedFrag) = embedLoop (s.adoptAdj had adj frag) := by
  unfold KidsLoop.adoptAdj PM.KidsLoop.adoptAdj
  split
  · rfl
  · cases adj <;> cases frag <;> simp

theorem concludeKid_embed (c : Ctx) (index : Nat) (pie : Bool) (pb : Brk) (child : PBox) (s : PM.KidsLoop)
    (frag : Option Frag) (resume : Option Resume) :
    concludeKid (cOf c) index pie pb (embed child) (embedLoop s) (frag.map embedFrag) resume =
      ((PM.concludeKid index pie pb child s frag resume).1.map embedOutcome,
       embedLoop (PM.concludeKid index pie pb child s frag resume).2) := by
  unfold concludeKid PM.concludeKid
  cases frag with
  | none =>
    simp only [Option.map_none, cOf_avoidsB, cOf_inColumn]
    have hl : (embedLoop s).newChildren = embedFragList s.newChildren := rfl
    rw [hl, findEarlierList_embed]
    by_cases hav : avoidsPage pb = true
    · simp only [hav, if_true]
      cases PM.findEarlierList s.newChildren with
      | some p =>
        obtain ⟨k, r⟩ := p
        simp [embedOutcome, embedLoop]
      | none =>
        simp only [Option.map_none, Bool.true_and]
        cases pie <;> by_cases hn : s.newChildren = [] <;> simp [embedOutcome, embedLoop, hn]
    · simp only [Bool.not_eq_true] at hav
      simp only [hav, Bool.false_eq_true, if_false, Bool.false_and]
      by_cases hn : s.newChildren = [] <;> simp [embedOutcome, embedLoop, hn]
  | some f =>
    simp only [Option.map_some]
    cases resume with
    | none => simp [embedLoop, embedFragList]
    | some r => simp [embedLoop, embedOutcome, embedFragList]

/-! ### `block_level_layout` -/

theorem embedResult_err (r : PM.LayoutResult) : (embedResult r).err = none := rfl

@[simp] theorem embedResult_frag (r : PM.LayoutResult) : (embedResult r).frag = r.frag.map embedFrag := rfl
@[simp] theorem embedResult_adj (r : PM.LayoutResult) : (embedResult r).adj = r.adj := rfl
@[simp] theorem embedResult_adjL (r : PM.LayoutResult) : (embedResult r).adjL = r.adjL := rfl
@[simp] theorem embedResult_nextPage (r : PM.LayoutResult) : (embedResult r).nextPage = r.nextPage := rfl
@[simp] theorem embedResult_resume (r : PM.LayoutResult) : (embedResult r).resume = r.resume := rfl

@[simp] theorem embedLoop_posY (s : PM.KidsLoop) : (embedLoop s).posY = s.posY := rfl
@[simp] theorem embedLoop_skip (s : PM.KidsLoop) : (embedLoop s).skip = s.skip := rfl
@[simp] theorem embedLoop_cur (s : PM.KidsLoop) : (embedLoop s).cur = s.cur := rfl
@[simp] theorem embedLoop_curIsL (s : PM.KidsLoop) : (embedLoop s).curIsL = s.curIsL := rfl
@[simp] theorem embedLoop_isEmpty (s : PM.KidsLoop) : (embedLoop s).newChildren.isEmpty = s.newChildren.isEmpty :=
  embedFragList_isEmpty s.newChildren

/-! ### one turn of the children loop -/

/-- What `_in_flow_layout` makes of one child: the fragment kept for it, the `block_level_layout` result it comes
from (the first layout, or the second one with a larger bottom space) and the loop state handed to `concludeKid`;
or the exception of the layout. -/
def kidResult (c : CCtx) (st : PStyle) (child : ColBox) (idx : Nat) (bs : Rat) (pie : Bool) (s : KidsLoop) :
    Except String (Option CFrag × LayoutResult × KidsLoop) :=
  let pienc := pie && s.newChildren.isEmpty
  let r := layoutBox c child idx s.posY bs s.skip st.isRoot pienc s.cur
  match r.err with
  | some e => .error e
  | none =>
  let s1 := s.setCur r.adjL s.curIsL
  match firstPass c bs pienc s.posY r with
  | .keep frag posY =>
    .ok (frag, r, { s1.adoptAdj r.frag.isSome r.adj frag with posY := posY, nextPage := r.nextPage, skip := none })
  | .redo bs' =>
    let r2 := layoutBox c child idx s.posY bs' s.skip st.isRoot pienc s1.cur
    match r2.err with
    | some e => .error e
    | none =>
    let s1' := s1.setCur r2.adjL s1.curIsL
    let posY := match r2.frag with
      | some f2 => f2.geo.borderBoxY + f2.geo.borderHeight
      | none => s.posY
    .ok (r2.frag, r2, { s1'.adoptAdj true r2.adj r2.frag with posY := posY, nextPage := r2.nextPage, skip := none })

/-- One visited child of the loop. -/
theorem layoutKids_cons {c : CCtx} {st : PStyle} {child : ColBox} {rest : List ColBox} {flags : List Bool}
    {index skipIdx base : Nat} {bs : Rat} {pie : Bool} {s : KidsLoop} (h : ¬ index < skipIdx)
    (hf : flags.head? ≠ some true) :
    layoutKids c st (child :: rest) flags index skipIdx base bs pie s =
      if (meetBreak c s child).2 then
        .stopped (some (.node (index - base) none))
          { s with nextPage := { brk := some (meetBreak c s child).1, page := some (boxPageStart child) } }
      else
        match kidResult c st child (index - base) bs pie s with
        | .error e => .raised e
        | .ok (frag, r, s2) =>
          match concludeKid c (index - base) pie (meetBreak c s child).1 child s2 frag r.resume with
          | (some out, _) => out
          | (none, s3) => layoutKids c st rest flags.tail (index + 1) skipIdx base bs pie s3 := by
  rw [layoutKids]
  simp only [h, hf, ↓reduceIte]
  split
  · rfl
  · fun_cases kidResult c st child (index - base) bs pie s <;> simp +zetaDelta only [*] <;> rfl

end Wp.PMC
