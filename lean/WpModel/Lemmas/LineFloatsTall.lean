/-
Lemmas for the second pass of `get_next_linebox` (`Model/LineFloatsInline.tallLoop`): through every
re-layout the line is placed at or below the position asked for.  Core Lean only.
-/
import WpModel.Lemmas.LineFloatsInline
namespace Wp.LFIL
open Wp Wp.Py Wp.LB Wp.Floats Wp.IR Wp.C09L

theorem tallLoop_below (shapes : List Shape) (p : IR.Para) (lineH : Rat) (skip' : Option Skip) (first : Bool) :
    ∀ (n : Nat) (px py avail cand : Rat) (l : IR.OutLine),
      LFI.tallLoop shapes p lineH skip' first n px py avail cand = .ok (some l) → py ≤ l.y
  | 0, _, _, _, _, _, h => by cases h
  | n + 1, px, py, avail, cand, l, h => by
    unfold LFI.tallLoop at h
    obtain ⟨lo, _, h⟩ := Except.bind_eq_ok h
    split at h
    · cases h; exact Rat.le_refl
    · obtain ⟨rl, _, h⟩ := Except.bind_eq_ok h
      obtain ⟨place2, _, h⟩ := Except.bind_eq_ok h
      obtain ⟨r, _, h⟩ := Except.bind_eq_ok h
      split at h
      · cases h; exact Rat.le_refl
      · obtain ⟨place3, hp3, h⟩ := Except.bind_eq_ok h
        split at h
        · cases h; exact Rat.le_refl
        · -- laid out again where `avoid_collisions` moved the real line: not above
          have hy : py ≤ place3.y := (LFL.avoid_line shapes py _ _ _ rfl place3 hp3).1
          have ih := tallLoop_below shapes p lineH skip' first n _ _ _ _ l h
          exact Rat.le_trans hy ih

theorem nextLineTall_below (shapes : List Shape) (p : IR.Para) (strut lineH : Rat) (skip : Option Skip) (y : Rat)
    (first : Bool) (l : IR.OutLine) (h : LFI.nextLineTall shapes p strut lineH skip y first = .ok (some l)) :
    y ≤ l.y := by
  unfold LFI.nextLineTall at h
  obtain ⟨sr, _, h⟩ := Except.bind_eq_ok h
  cases sr with
  | cont => cases h
  | skip skip' =>
    obtain ⟨wh, _, h⟩ := Except.bind_eq_ok h
    obtain ⟨place, hpl, h⟩ := Except.bind_eq_ok h
    have hy : y ≤ place.y := (LFL.avoid_line shapes y _ _ _ rfl place hpl).1
    have := tallLoop_below shapes p lineH _ first _ _ _ _ _ l h
    exact Rat.le_trans hy this

end Wp.LFIL
