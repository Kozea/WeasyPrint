/-
`add_outlines`: what every field of every outline dictionary has to be (`GoodNode` / `GoodList`), that `addOutline(List)`
meets it, and what follows from it (sibling links, parents, numbers in pre-order); totality.  Core Lean only.
-/
import WpModel.Model.Outline

namespace Wp.C18
open Wp Wp.Outline

mutual
/-- Number of nodes of a bookmark subtree. -/
def size : BTree → Nat
  | .node _ _ kids _ => 1 + sizeList kids
def sizeList : List BTree → Nat
  | [] => 0
  | t :: ts => size t + sizeList ts
end

mutual
/-- Number of outline entries a subtree shows in the viewer: itself, and its visible descendants when
it is open. -/
def visNode : BTree → Int
  | .node _ _ kids state => if state == "closed" then 1 else 1 + visList kids
def visList : List BTree → Int
  | [] => 0
  | t :: ts => visNode t + visList ts
end

/-- Object number of the last of the siblings `ts` when they are numbered in pre-order from `num`. -/
def lastTop (num : Nat) : List BTree → Option Nat
  | [] => none
  | [_] => some num
  | t :: t' :: ts => lastTop (num + size t) (t' :: ts)

theorem lastTop_cons_ne_none : ∀ (ts : List BTree) (t : BTree) (n : Nat), lastTop n (t :: ts) ≠ none
  | [], _, _ => by simp [lastTop]
  | t' :: ts, _, _ => by simp only [lastTop]; exact lastTop_cons_ne_none ts t' _

mutual
/-- Complete specification of one outline dictionary and its descendants: `n` is the outline of `t`,
has object number `num`, the given `Parent` / `Prev` / `Next`, and everything below it is numbered in
pre-order from `num + 1`. -/
def GoodNode (refs : List Nat) (parent prev nxt : Option Nat) (num : Nat) : BTree → ONode → Prop
  | .node title target kids state, .mk o okids =>
    o.num = num ∧ o.title = title ∧ pageReference refs target.page = .ok o.pageRef ∧
    o.x = target.x ∧ o.y = target.y ∧
    o.count = (if state == "closed" then -(visList kids) else visList kids) ∧
    o.prev = prev ∧ o.next = nxt ∧ o.parent = parent ∧
    o.first = (if kids.isEmpty then none else some (num + 1)) ∧
    o.last = lastTop (num + 1) kids ∧
    GoodList refs (some num) none (num + 1) kids okids
/-- Siblings numbered in pre-order from `num`; the first has `prev` as `Prev`, each `Next` is the
number of the following sibling, the last has none. -/
def GoodList (refs : List Nat) (parent prev : Option Nat) (num : Nat) : List BTree → List ONode → Prop
  | [], [] => True
  | t :: ts, n :: ns =>
    GoodNode refs parent prev (if ts.isEmpty then none else some (num + size t)) num t n ∧
    GoodList refs parent (some num) (num + size t) ts ns
  | [], _ :: _ => False
  | _ :: _, [] => False
end

theorem GoodList_nil {refs : List Nat} {parent prev : Option Nat} {num : Nat} {ns : List ONode}
    (h : GoodList refs parent prev num [] ns) : ns = [] := by
  cases ns with
  | nil => rfl
  | cons n ns => simp [GoodList] at h

theorem GoodList_cons {refs : List Nat} {parent prev : Option Nat} {num : Nat} {t : BTree} {ts : List BTree}
    {ns : List ONode} (h : GoodList refs parent prev num (t :: ts) ns) :
    ∃ n ns', ns = n :: ns' ∧
      GoodNode refs parent prev (if ts.isEmpty then none else some (num + size t)) num t n ∧
      GoodList refs parent (some num) (num + size t) ts ns' := by
  cases ns with
  | nil => simp [GoodList] at h
  | cons n ns' => rw [GoodList] at h; exact ⟨n, ns', rfl, h⟩

theorem GoodNode_fields {refs : List Nat} {parent prev nxt : Option Nat} {num : Nat} {t : BTree} {n : ONode}
    (h : GoodNode refs parent prev nxt num t n) :
    n.outline.num = num ∧ n.outline.prev = prev ∧ n.outline.next = nxt ∧ n.outline.parent = parent := by
  cases t with
  | node title target kids state =>
    cases n with
    | mk o okids =>
      rw [GoodNode] at h
      exact ⟨h.1, h.2.2.2.2.2.2.1, h.2.2.2.2.2.2.2.1, h.2.2.2.2.2.2.2.2.1⟩

theorem GoodNode_kids {refs : List Nat} {parent prev nxt : Option Nat} {num : Nat} {title : String} {target : Target}
    {kids : List BTree} {state : String} {o : Outline} {okids : List ONode}
    (h : GoodNode refs parent prev nxt num (.node title target kids state) (.mk o okids)) :
    o.num = num ∧ o.title = title ∧ GoodList refs (some num) none (num + 1) kids okids := by
  rw [GoodNode] at h; exact ⟨h.1, h.2.1, h.2.2.2.2.2.2.2.2.2.2.2⟩

theorem GoodList_headNum {refs : List Nat} {parent prev : Option Nat} {num : Nat} {ts : List BTree}
    {ns : List ONode} (h : GoodList refs parent prev num ts ns) :
    headNum ns = if ts.isEmpty then none else some num := by
  cases ts with
  | nil => rw [GoodList_nil h]; rfl
  | cons t ts =>
    obtain ⟨n, ns', rfl, hn, _⟩ := GoodList_cons h
    simp [headNum, (GoodNode_fields hn).1]

theorem GoodList_lastNum {refs : List Nat} {parent : Option Nat} {ts : List BTree} :
    ∀ {num : Nat} {prev : Option Nat} {ns : List ONode}, GoodList refs parent prev num ts ns →
      lastNum ns = lastTop num ts := by
  induction ts with
  | nil => intro num prev ns h; rw [GoodList_nil h]; rfl
  | cons t ts ih =>
    intro num prev ns h
    obtain ⟨n, ns', rfl, hn, hrest⟩ := GoodList_cons h
    cases ts with
    | nil => rw [GoodList_nil hrest]; simp [lastNum, lastTop, (GoodNode_fields hn).1]
    | cons t' ts =>
      obtain ⟨n', ns'', rfl, _, _⟩ := GoodList_cons hrest
      simp only [lastNum, lastTop]
      exact ih hrest

theorem GoodNode_setNext {refs : List Nat} {parent prev : Option Nat} {num : Nat} {t : BTree}
    {o : Outline} {okids : List ONode} (nxt : Option Nat)
    (h : GoodNode refs parent prev none num t (.mk o okids)) :
    GoodNode refs parent prev nxt num t (.mk { o with next := nxt } okids) := by
  cases t with
  | node title target kids state =>
    rw [GoodNode] at h ⊢
    obtain ⟨h1, h2, h3, h4, h5, h6, h7, _, h9, h10, h11, h12⟩ := h
    exact ⟨h1, h2, h3, h4, h5, h6, h7, rfl, h9, h10, h11, h12⟩

mutual
theorem addOutline_good (refs : List Nat) (parent prev : Option Nat) (next : Nat) :
    ∀ (t : BTree) (n : ONode) (c : Int) (next' : Nat),
      addOutline refs parent prev next t = .ok (n, c, next') →
      GoodNode refs parent prev none next t n ∧ c = visNode t ∧ next' = next + size t
  | .node title target kids state, n, c, next', h => by
    simp only [addOutline] at h
    cases hp : pageReference refs target.page with
    | error e => rw [hp] at h; simp at h
    | ok pref =>
      rw [hp] at h
      simp only [] at h
      cases hk : addOutlineList refs (some next) none (next + 1) kids with
      | error e => rw [hk] at h; simp at h
      | ok r =>
        obtain ⟨okids, cc, nx⟩ := r
        rw [hk] at h
        simp only [Except.ok.injEq, Prod.mk.injEq] at h
        obtain ⟨hn, hc, hnx⟩ := h
        obtain ⟨hg, hcc, hnx'⟩ := addOutlineList_good refs (some next) none (next + 1) kids okids cc nx hk
        subst hn
        refine ⟨?_, ?_, ?_⟩
        · rw [GoodNode]
          refine ⟨rfl, rfl, hp, rfl, rfl, ?_, rfl, rfl, rfl, ?_, ?_, hg⟩
          · rw [hcc]; split <;> simp
          · rw [GoodList_headNum hg]
          · rw [GoodList_lastNum hg]
        · rw [← hc, hcc]; simp only [visNode]
        · rw [← hnx, hnx']; simp only [size]; omega
theorem addOutlineList_good (refs : List Nat) (parent prev : Option Nat) (next : Nat) :
    ∀ (ts : List BTree) (ns : List ONode) (c : Int) (next' : Nat),
      addOutlineList refs parent prev next ts = .ok (ns, c, next') →
      GoodList refs parent prev next ts ns ∧ c = visList ts ∧ next' = next + sizeList ts
  | [], ns, c, next', h => by
    simp only [addOutlineList, Except.ok.injEq, Prod.mk.injEq] at h
    obtain ⟨h1, h2, h3⟩ := h
    subst h1 h2 h3
    simp [GoodList, visList, sizeList]
  | t :: ts, ns, c, next', h => by
    simp only [addOutlineList] at h
    cases ht : addOutline refs parent prev next t with
    | error e => rw [ht] at h; simp at h
    | ok r =>
      obtain ⟨n, c1, nx1⟩ := r
      obtain ⟨hg1, hc1, hnx1⟩ := addOutline_good refs parent prev next t n c1 nx1 ht
      cases n with
      | mk o okids =>
        rw [ht] at h
        simp only [] at h
        have hnum : o.num = next := (GoodNode_fields hg1).1
        cases hr : addOutlineList refs parent (some o.num) nx1 ts with
        | error e => rw [hr] at h; simp at h
        | ok r2 =>
          obtain ⟨nodes, c2, nx2⟩ := r2
          rw [hr] at h
          simp only [Except.ok.injEq, Prod.mk.injEq] at h
          obtain ⟨hns, hc, hnx⟩ := h
          obtain ⟨hg2, hc2, hnx2⟩ := addOutlineList_good refs parent (some o.num) nx1 ts nodes c2 nx2 hr
          subst hns
          rw [hnum, hnx1] at hg2
          refine ⟨?_, ?_, ?_⟩
          · simp only [GoodList]
            refine ⟨?_, hg2⟩
            have hh := GoodList_headNum hg2
            have := GoodNode_setNext (headNum nodes) hg1
            rw [hh] at this ⊢
            exact this
          · rw [← hc, hc1, hc2]; simp only [visList]
          · rw [← hnx, hnx2, hnx1]; simp only [sizeList]; omega
end

/-- Siblings form a doubly linked list: `Prev` of the first is `p`, each `Next` is the number of the
following sibling whose `Prev` is this one's number, the last has no `Next`. -/
def Linked : Option Nat → List ONode → Prop
  | _, [] => True
  | p, n :: ns => n.outline.prev = p ∧ n.outline.next = headNum ns ∧ Linked (some n.outline.num) ns

theorem GoodList_linked {refs : List Nat} {parent : Option Nat} {ts : List BTree} :
    ∀ {num : Nat} {prev : Option Nat} {ns : List ONode}, GoodList refs parent prev num ts ns → Linked prev ns := by
  induction ts with
  | nil => intro num prev ns h; rw [GoodList_nil h]; trivial
  | cons t ts ih =>
    intro num prev ns h
    obtain ⟨n, ns', rfl, hn, hrest⟩ := GoodList_cons h
    obtain ⟨h1, h2, h3, _⟩ := GoodNode_fields hn
    refine ⟨h2, ?_, ?_⟩
    · rw [h3, GoodList_headNum hrest]
    · rw [h1]; exact ih hrest

theorem GoodList_parent {refs : List Nat} {parent : Option Nat} {ts : List BTree} :
    ∀ {num : Nat} {prev : Option Nat} {ns : List ONode}, GoodList refs parent prev num ts ns →
      ∀ n ∈ ns, n.outline.parent = parent := by
  induction ts with
  | nil => intro num prev ns h; rw [GoodList_nil h]; intro n hn; cases hn
  | cons t ts ih =>
    intro num prev ns h
    obtain ⟨n, ns', rfl, hn, hrest⟩ := GoodList_cons h
    intro m hm
    rcases List.mem_cons.mp hm with e | e
    · rw [e]; exact (GoodNode_fields hn).2.2.2
    · exact ih hrest m e

theorem GoodList_length {refs : List Nat} {parent : Option Nat} {ts : List BTree} :
    ∀ {num : Nat} {prev : Option Nat} {ns : List ONode}, GoodList refs parent prev num ts ns →
      ns.length = ts.length := by
  induction ts with
  | nil => intro num prev ns h; rw [GoodList_nil h]; rfl
  | cons t ts ih =>
    intro num prev ns h
    obtain ⟨n, ns', rfl, _, hrest⟩ := GoodList_cons h
    simp [ih hrest]

theorem GoodList_setParent {refs : List Nat} {parent : Option Nat} (p : Nat) {ts : List BTree} :
    ∀ {num : Nat} {prev : Option Nat} {ns : List ONode}, GoodList refs parent prev num ts ns →
      GoodList refs (some p) prev num ts (ns.map (setParent p)) := by
  induction ts with
  | nil => intro num prev ns h; rw [GoodList_nil h]; trivial
  | cons t ts ih =>
    intro num prev ns h
    obtain ⟨n, ns', rfl, hn, hrest⟩ := GoodList_cons h
    rw [List.map_cons, GoodList]
    refine ⟨?_, ih hrest⟩
    cases t with
    | node title target kids state =>
      cases n with
      | mk o okids =>
        rw [GoodNode] at hn
        rw [setParent, GoodNode]
        obtain ⟨a1, a2, a3, a4, a5, a6, a7, a8, _, a10, a11, a12⟩ := hn
        exact ⟨a1, a2, a3, a4, a5, a6, a7, a8, rfl, a10, a11, a12⟩

mutual
/-- The dictionaries are created in pre-order: their object numbers are consecutive. -/
theorem GoodNode_numbers {refs : List Nat} {parent prev nxt : Option Nat} {num : Nat} :
    ∀ (t : BTree) (n : ONode), GoodNode refs parent prev nxt num t n →
      (flattenNode n).map (·.num) = List.range' num (size t)
  | .node title target kids state, .mk o okids, h => by
    obtain ⟨hnum, -, hkids⟩ := GoodNode_kids h
    simp only [flattenNode, List.map_cons, size, GoodList_numbers kids okids hkids, hnum]
    rw [Nat.add_comm 1, List.range'_succ]
theorem GoodList_numbers {refs : List Nat} {parent prev : Option Nat} {num : Nat} :
    ∀ (ts : List BTree) (ns : List ONode), GoodList refs parent prev num ts ns →
      (flattenNodes ns).map (·.num) = List.range' num (sizeList ts)
  | [], [], _ => by simp [flattenNodes, sizeList]
  | [], _ :: _, h => by simp [GoodList] at h
  | _ :: _, [], h => by simp [GoodList] at h
  | t :: ts, n :: ns, h => by
    rw [GoodList] at h
    have h1 := GoodNode_numbers t n h.1
    have h2 := GoodList_numbers ts ns h.2
    simp only [flattenNodes, List.map_append, h1, h2, sizeList]
    rw [List.range'_append_1]
end

mutual
/-- Every bookmark points to an existing page. -/
def pagesOk (refs : List Nat) : BTree → Bool
  | .node _ target kids _ => (pageReference refs target.page).isOk && pagesOkList refs kids
def pagesOkList (refs : List Nat) : List BTree → Bool
  | [] => true
  | t :: ts => pagesOk refs t && pagesOkList refs ts
end

mutual
theorem addOutline_total (refs : List Nat) (parent prev : Option Nat) (next : Nat) :
    ∀ (t : BTree), pagesOk refs t = true → ∃ r, addOutline refs parent prev next t = .ok r
  | .node title target kids state, h => by
    simp only [pagesOk, Bool.and_eq_true] at h
    simp only [addOutline]
    cases hp : pageReference refs target.page with
    | error e => rw [hp] at h; simp [Except.isOk, Except.toBool] at h
    | ok pref =>
      simp only []
      obtain ⟨r, hr⟩ := addOutlineList_total refs (some next) none (next + 1) kids h.2
      rw [hr]
      exact ⟨_, rfl⟩
theorem addOutlineList_total (refs : List Nat) (parent prev : Option Nat) (next : Nat) :
    ∀ (ts : List BTree), pagesOkList refs ts = true → ∃ r, addOutlineList refs parent prev next ts = .ok r
  | [], _ => ⟨_, rfl⟩
  | t :: ts, h => by
    simp only [pagesOkList, Bool.and_eq_true] at h
    simp only [addOutlineList]
    obtain ⟨⟨n, c, nx⟩, hr⟩ := addOutline_total refs parent prev next t h.1
    rw [hr]
    cases n with
    | mk o okids =>
      simp only []
      obtain ⟨⟨ns, c2, nx2⟩, hr2⟩ := addOutlineList_total refs parent (some o.num) nx ts h.2
      rw [hr2]
      exact ⟨_, rfl⟩
end

end Wp.C18
