/-
C03 geometry for multi-column containers, the other half of the exemption "first line of a column box": when the
container itself is laid out with `page_is_empty = False` (something was placed on the page before it), EVERY
column box of its fragment — the first group included — is laid out with `page_is_empty = False`, so all their
lines end above the bottom space.  (`afterSpan lh kids true` = the lines of all column boxes, none exempt.)
-/
import WpModel.Lemmas.ColGeoStrict

namespace Wp.PMC
open Wp Wp.PM

/-- **A container that is not the first content of its page**: every line of every column box of its fragment
ends above the bottom space — no exemption for the first line of any column. -/
theorem container_not_first_fits (lh : Nat → Rat) (id : Nat) (st : PStyle) (cs : ColSpec) (flags : List Bool)
    (kids : List ColBox) (hd : DecoOk (.columns id st cs flags kids)) (hl : LhOk lh (.columns id st cs flags kids))
    (c : CCtx) (idx : Nat) (y bs : Rat) (skip : Option Resume) (cb : Bool) (adjL : List Rat) (f : CFrag)
    (hf : (layoutBox c (.columns id st cs flags kids) idx y bs skip cb false adjL).frag = some f) :
    LinesOk c bs (afterSpan lh f.kids true) := by
  obtain ⟨g, l, rfl⟩ := layoutBox_columns_frag c id st cs flags kids idx y bs skip cb false adjL f hf
  exact (afterSpan_true lh l true false false (fun _ => rfl)).linesFit _
    (box_fits lh _ hd hl c idx y bs skip cb false adjL _ hf).1

end Wp.PMC
