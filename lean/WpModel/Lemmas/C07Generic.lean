/-
C07 — the `generic_expander` wrapper (`checkItems`, `fillOne`, `genericFill`), a loop that concatenates what each item
yields, `comma_separated_list`, and lookups in the generated name tables that the kernel evaluates fast.
-/
import WpModel.Model.Declarations
import WpModel.Lemmas.Basic.List
import WpModel.Lemmas.Basic.Except

namespace Wp.C07
open Wp Wp.Decl

theorem checkItems_cons {α : Type} (expanded seen : List String) (n : String) (t : α)
    (rest : List (String × α)) :
    checkItems expanded seen ((n, t) :: rest) =
      if n ∉ expanded then .error .assertion
      else if n ∈ seen then .error .invalid
      else checkItems expanded (n :: seen) rest := by
  rw [checkItems]
  by_cases he : n ∈ expanded <;> by_cases hs : n ∈ seen <;> simp [he, hs] <;> rfl

theorem checkItems_ok_iff {α : Type} (expanded : List String) (items : List (String × α)) (seen : List String) :
    checkItems expanded seen items = .ok () ↔
      (∀ n ∈ items.map Prod.fst, n ∈ expanded) ∧ (items.map Prod.fst).Nodup ∧
      ∀ n ∈ items.map Prod.fst, n ∉ seen := by
  fun_induction checkItems expanded seen items with
  | case1 => exact ⟨fun _ => ⟨nofun, List.nodup_nil, nofun⟩, fun _ => rfl⟩
  | case2 seen n t rest he =>
    exact ⟨nofun, fun h => absurd (List.contains_iff_mem.mpr (h.1 n List.mem_cons_self)) (by simpa using he)⟩
  | case3 seen n t rest he hs =>
    exact ⟨nofun, fun h => absurd (List.contains_iff_mem.mp hs) (h.2.2 n List.mem_cons_self)⟩
  | case4 seen n t rest he hs ih =>
    have he' : n ∈ expanded := by simpa using he
    have hs' : n ∉ seen := by simpa using hs
    rw [ih, List.map_cons, List.nodup_cons, List.forall_mem_cons, List.forall_mem_cons]
    constructor
    · rintro ⟨h1, h2, h3⟩
      exact ⟨⟨he', h1⟩, ⟨fun hm => h3 n hm List.mem_cons_self, h2⟩, hs',
        fun m hm hms => h3 m hm (List.mem_cons_of_mem _ hms)⟩
    · rintro ⟨⟨_, h1⟩, ⟨h2, h3⟩, _, h4⟩
      refine ⟨h1, h3, fun m hm hms => ?_⟩
      rcases List.mem_cons.mp hms with rfl | hms
      · exact h2 hm
      · exact h4 m hm hms

/-- When every yielded name is one of the declared names, the only way the collecting loop fails is
`InvalidValues` ("got multiple … values"). -/
theorem checkItems_invalid {α : Type} (expanded : List String) (items : List (String × α)) (seen : List String)
    (h1 : ∀ n ∈ items.map Prod.fst, n ∈ expanded) :
    checkItems expanded seen items = .ok () ∨ checkItems expanded seen items = .error .invalid := by
  fun_induction checkItems expanded seen items with
  | case1 => exact .inl rfl
  | case2 seen n t rest he => exact absurd (List.contains_iff_mem.mpr (h1 n (by simp))) (by simpa using he)
  | case3 => exact .inr rfl
  | case4 seen n t rest he hs ih => exact ih fun m hm => h1 m (by simp [hm])
/-- What one longhand of the wrapper gets: `initial` when the expander did not yield it, else the validated token. -/
theorem fillOne_ok {α β : Type} (name : String) (items : List (String × α)) (validate : String → α → R β)
    (n : String) (r : String × OutV β) (h : fillOne name items validate n = .ok r) :
    match items.lookup n with
    | none => r = (actualName name n, .kw "initial")
    | some t => ∃ b, validate (actualName name n) t = .ok b ∧ r = (actualName name n, .val b) := by
  unfold fillOne at h
  split <;> rename_i hl <;> simp only [hl] at h
  · cases h; rfl
  · obtain ⟨b, hv, h⟩ := Except.bind_eq_ok h
    cases h; exact ⟨b, hv, rfl⟩

theorem fillOne_fst {α β : Type} (name : String) (items : List (String × α))
    (validate : String → α → R β) (n : String) (r : String × OutV β)
    (h : fillOne name items validate n = .ok r) : r.1 = actualName name n := by
  have := fillOne_ok name items validate n r h
  split at this
  · rw [this]
  · obtain ⟨b, -, rfl⟩ := this; rfl

theorem mapM_fill_names {α β : Type} (name : String) (items : List (String × α))
    (validate : String → α → R β) :
    ∀ (expanded : List String) (out : Longhands β),
      expanded.mapM (fillOne name items validate) = .ok out →
      out.map Prod.fst = expanded.map (actualName name) :=
  fun _ _ h => (List.mapM_eq_ok_rel2 h).map_eq _ _ fun n r hr => fillOne_fst name items validate n r hr

theorem generic_plain_ok {α β : Type} (expanded : List String) (name : String) (raw : Raw α)
    (validate : String → α → R β) (out : Longhands β)
    (h : genericFill expanded name .plain raw validate = .ok out) :
    checkItems expanded [] raw.items = .ok () ∧ raw.ends = none ∧
      expanded.mapM (fillOne name raw.items validate) = .ok out := by
  obtain ⟨u, hc, h⟩ := Except.bind_eq_ok h
  cases he : raw.ends with
  | some f => rw [he] at h; cases h
  | none => rw [he] at h; exact ⟨hc, rfl, h⟩

theorem genericFill_dup_invalid {α β : Type} (expanded : List String) (name : String) (raw : Raw α)
    (validate : String → α → R β) (hin : ∀ n ∈ raw.items.map Prod.fst, n ∈ expanded)
    (hdup : ¬ (raw.items.map Prod.fst).Nodup) :
    genericFill expanded name .plain raw validate = .error .invalid := by
  unfold genericFill
  simp only
  rcases checkItems_invalid expanded raw.items [] hin with hc | hc
  · exact absurd ((checkItems_ok_iff expanded raw.items []).mp hc).2.1 hdup
  · rw [hc]; rfl

theorem lookup_perm {α : Type} {l l' : List (String × α)} (hp : l.Perm l')
    (hn : (l.map Prod.fst).Nodup) (n : String) : l.lookup n = l'.lookup n := by
  induction hp with
  | nil => rfl
  | cons x _ ih =>
    obtain ⟨a, b⟩ := x
    simp only [List.map_cons, List.nodup_cons] at hn
    simp only [List.lookup_cons, ih hn.2]
  | swap x y l =>
    obtain ⟨a, b⟩ := x
    obtain ⟨c, d⟩ := y
    simp only [List.map_cons, List.nodup_cons, List.mem_cons, not_or] at hn
    simp only [List.lookup_cons]
    by_cases h1 : n = c
    · have e1 : (n == c) = true := by simp [h1]
      have e2 : (n == a) = false := by
        simp only [beq_eq_false_iff_ne, ne_eq]
        intro e
        exact hn.1.1 (h1.symm.trans e)
      simp only [e1, e2]
    · have e1 : (n == c) = false := by simp [h1]
      simp only [e1]
  | trans h1 _ ih1 ih2 =>
    rw [ih1 hn, ih2 ((h1.map Prod.fst).nodup_iff.mp hn)]

/-- The generic wrapper does not depend on the order in which the wrapped expander yields its items. -/
theorem genericFill_perm {α β : Type} (expanded : List String) (name : String) (raw raw' : Raw α)
    (validate : String → α → R β) (he : raw.ends = none) (he' : raw'.ends = none)
    (hp : raw.items.Perm raw'.items) (hin : ∀ n ∈ raw.items.map Prod.fst, n ∈ expanded) :
    genericFill expanded name .plain raw validate = genericFill expanded name .plain raw' validate := by
  have hpn := hp.map Prod.fst
  have hin' : ∀ n ∈ raw'.items.map Prod.fst, n ∈ expanded := fun n hn => hin n (hpn.mem_iff.mpr hn)
  by_cases hnd : (raw.items.map Prod.fst).Nodup
  · have hnd' := hpn.nodup_iff.mp hnd
    have hc := (checkItems_ok_iff expanded raw.items []).mpr ⟨hin, hnd, by simp⟩
    have hc' := (checkItems_ok_iff expanded raw'.items []).mpr ⟨hin', hnd', by simp⟩
    have hf : fillOne name raw.items validate = fillOne name raw'.items validate := by
      funext n
      simp only [fillOne, lookup_perm hp hnd n]
    unfold genericFill
    simp only [hc, hc', he, he', hf]
  · rw [genericFill_dup_invalid expanded name raw validate hin hnd,
      genericFill_dup_invalid expanded name raw' validate hin' (fun h => hnd (hpn.nodup_iff.mpr h))]

theorem genericFill_ends_invalid {α β : Type} (expanded : List String) (name : String) (raw : Raw α)
    (validate : String → α → R β) (he : raw.ends = some .invalid)
    (hin : ∀ n ∈ raw.items.map Prod.fst, n ∈ expanded) :
    genericFill expanded name .plain raw validate = .error .invalid := by
  unfold genericFill
  simp only
  rcases checkItems_invalid expanded raw.items [] hin with hc | hc
  · rw [hc, he]; rfl
  · rw [hc]; rfl

theorem genericFill_congr {α β : Type} (expanded : List String) (name : String) (raw raw' : Raw α)
    (validate : String → α → R β) (he : raw.ends = raw'.ends) (hv : raw.ends = none ∨ raw.ends = some .invalid)
    (hp : raw.ends = none → raw.items.Perm raw'.items)
    (hin : ∀ p ∈ raw.items, p.1 ∈ expanded) (hin' : ∀ p ∈ raw'.items, p.1 ∈ expanded) :
    genericFill expanded name .plain raw validate = genericFill expanded name .plain raw' validate := by
  rcases hv with h | h
  · exact genericFill_perm _ _ _ _ _ h (he ▸ h) (hp h) (List.forall_mem_map.mpr hin)
  · rw [genericFill_ends_invalid _ _ _ _ h (List.forall_mem_map.mpr hin),
      genericFill_ends_invalid _ _ _ _ (he ▸ h) (List.forall_mem_map.mpr hin')]

/-! ### A loop that concatenates what each item yields (`preprocess_declarations`, `preprocess_descriptors`)

Everything the funnel theorems say of the list follows from the two equations of the loop. -/

section ConcatLoop
variable {δ γ : Type} (one : δ → R (List γ)) (all : List δ → R (List γ)) (hnil : all [] = pure [])
  (hcons : ∀ d rest, all (d :: rest) = do let a ← one d; let b ← all rest; pure (a ++ b))
include hcons

theorem concatLoop_filter (p : δ → Bool) (hp : ∀ d, p d = false → one d = pure []) (ds : List δ) :
    all ds = all (ds.filter p) := by
  induction ds with
  | nil => rfl
  | cons d rest ih =>
    cases h : p d with
    | false =>
      rw [List.filter_cons_of_neg (by simp [h]), hcons, hp d h, ← ih, pure_bind]
      simp only [List.nil_append, bind_pure]
    | true => rw [List.filter_cons_of_pos h, hcons, hcons, ih]

include hnil

theorem concatLoop_append (a b : List δ) : all (a ++ b) = (do let x ← all a; let y ← all b; pure (x ++ y)) := by
  induction a with
  | nil => simp only [List.nil_append, hnil, pure_bind, bind_pure]
  | cons d rest ih => simp only [List.cons_append, hcons, ih, bind_assoc, pure_bind, List.append_assoc]

theorem concatLoop_insert (a b : List δ) (d : δ) (h : one d = pure []) : all (a ++ d :: b) = all (a ++ b) := by
  simp only [concatLoop_append one all hnil hcons a, hcons, h, pure_bind, List.nil_append, bind_pure]

theorem concatLoop_ok (out : δ → List γ) (ds : List δ) (h : ∀ d ∈ ds, one d = .ok (out d)) :
    all ds = .ok (ds.flatMap out) := by
  induction ds with
  | nil => exact hnil
  | cons d rest ih =>
    rw [hcons, ih (fun x hx => h x (List.mem_cons_of_mem _ hx)), List.flatMap_cons, h d List.mem_cons_self]
    rfl

theorem concatLoop_error : ∀ (ds : List δ) (f : Fail), all ds = .error f → ∃ d ∈ ds, one d = .error f
  | [], f, h => by rw [hnil] at h; cases h
  | d :: rest, f, h => by
    rw [hcons] at h
    cases hp : one d with
    | error g => rw [hp] at h; cases h; exact ⟨d, List.mem_cons_self, hp⟩
    | ok l =>
      rw [hp] at h
      cases hr : all rest with
      | ok r => rw [hr] at h; cases h
      | error g =>
        rw [hr] at h
        cases h
        obtain ⟨x, hx, hx'⟩ := concatLoop_error rest _ hr
        exact ⟨x, List.mem_cons_of_mem _ hx, hx'⟩

end ConcatLoop

/-- `comma_separated_list(function)` (css/validation/properties.py), from the two equations of its loop: the value
is accepted when every part is, and is the list of what the parts give. -/
theorem commaList_some {α β : Type} (one : α → Option β) (all : List α → Option (List β)) (hnil : all [] = some [])
    (hcons : ∀ p rest, all (p :: rest) = (one p).bind fun a => (all rest).map (a :: ·)) :
    ∀ (parts : List α) (out : List β), all parts = some out ↔ parts.map one = out.map some
  | [], out => by rw [hnil]; cases out <;> simp
  | p :: rest, out => by
    rw [hcons]
    cases out with
    | nil => cases one p <;> simp
    | cons b bs =>
      cases hp : one p with
      | none => simp [hp]
      | some a =>
        simp only [Option.bind_some, Option.map_eq_some_iff, List.map_cons, List.cons.injEq, hp, Option.some.injEq]
        constructor
        · rintro ⟨as, h, rfl, rfl⟩
          exact ⟨rfl, (commaList_some one all hnil hcons rest as).mp h⟩
        · rintro ⟨rfl, h⟩
          exact ⟨bs, (commaList_some one all hnil hcons rest bs).mpr h, rfl, rfl⟩

/-! ### Looking a name up in a table, for the sweeps over the generated registries

`List.contains` on a sorted table of two hundred strings compares with half of them on average, and string comparison
is what the kernel is slow at.  A search tree over the table (built by halving, so by evaluation, whatever the table
has become) needs eight.  Only soundness is proved: a table that is not sorted, or longer than the depth allows, makes
lookups fail, not lie. -/

inductive STree where
  | leaf
  | node (l : STree) (x : String) (r : STree)

def cmpBytes : List UInt8 → List UInt8 → Ordering
  | [], [] => .eq
  | [], _ :: _ => .lt
  | _ :: _, [] => .gt
  | a :: as, b :: bs => if a.toNat < b.toNat then .lt else if b.toNat < a.toNat then .gt else cmpBytes as bs

/-- The first argument bounds the depth. -/
def STree.ofList : Nat → List String → STree
  | 0, _ => .leaf
  | f + 1, l =>
    match l.drop (l.length / 2) with
    | [] => .leaf
    | x :: r => .node (ofList f (l.take (l.length / 2))) x (ofList f r)

def STree.find (x : String) : STree → Bool
  | .leaf => false
  | .node l y r =>
    match cmpBytes x.toByteArray.data.toList y.toByteArray.data.toList with
    | .lt => l.find x
    | .gt => r.find x
    | .eq => x == y

theorem STree.find_sound (x : String) : ∀ (f : Nat) (l : List String), (STree.ofList f l).find x = true → x ∈ l
  | 0, _, h => nomatch h
  | f + 1, l, h => by
    unfold STree.ofList at h
    split at h
    · cases h
    · rename_i y r hd
      have hy : y :: r ⊆ l := fun z hz => List.mem_of_mem_drop (hd ▸ hz)
      unfold STree.find at h
      split at h
      · exact List.mem_of_mem_take (STree.find_sound x f _ h)
      · exact hy (List.mem_cons_of_mem _ (STree.find_sound x f _ h))
      · exact hy (eq_of_beq h ▸ List.mem_cons_self)

/-- Membership in an unsorted table: the byte lengths are compared first, which spares most comparisons of names
that share a long prefix. -/
def memFast (x : String) (l : List String) : Bool := l.any fun y => x.utf8ByteSize == y.utf8ByteSize && x == y

theorem mem_of_memFast {x : String} {l : List String} (h : memFast x l = true) : x ∈ l := by
  simp only [memFast, List.any_eq_true, Bool.and_eq_true, beq_iff_eq] at h
  obtain ⟨y, hy, -, rfl⟩ := h
  exact hy

/-- `List.lookup` with the same shortcut. -/
def lookupFast {β : Type} (k : String) : List (String × β) → Option β
  | [] => none
  | (a, b) :: l => if k.utf8ByteSize == a.utf8ByteSize && k == a then some b else lookupFast k l

theorem lookupFast_eq {β : Type} (k : String) : ∀ l : List (String × β), lookupFast k l = l.lookup k
  | [] => rfl
  | (a, b) :: l => by
    rw [lookupFast, List.lookup_cons, lookupFast_eq k l]
    cases h : k == a
    · simp
    · simp [eq_of_beq h]

end Wp.C07
