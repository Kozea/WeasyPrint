/-
Footnote conservation, paragraph level: what the line loop of `_linebox_layout` does to the footnote state.

Invariant of the loop at line `i` (lines `k … i-1` kept so far):
  act fs = A0 ++ (footnotes called on the lines kept),    every footnote of `P0` is pending or among them
where `A0` is `act` on entry and `P0` the footnotes pending on entry.
-/
import WpModel.Lemmas.FootState
import WpModel.Lemmas.FootSegment

namespace Wp.PMF
open Wp Wp.PM

/-- Footnotes called on the lines `is` of a paragraph, in line order. -/
def idxFns (st : PStyle) (calls : List Call) : List Nat → List Fn
  | [] => []
  | i :: is => lineFns st calls i ++ idxFns st calls is

theorem idxFns_append (st : PStyle) (calls : List Call) (a b : List Nat) :
    idxFns st calls (a ++ b) = idxFns st calls a ++ idxFns st calls b := by
  induction a with
  | nil => rfl
  | cons x xs ih => simp [idxFns, ih]

theorem lineFnsList_eq (st : PStyle) (calls : List Call) (ls : List (Nat × Rat)) :
    lineFnsList st calls ls = idxFns st calls (ls.map Prod.fst) := by
  induction ls with
  | nil => rfl
  | cons l ls ih => simp [lineFnsList, idxFns, ih]

theorem idxFns_mem (st : PStyle) (calls : List Call) (is : List Nat) (g : Fn) :
    g ∈ idxFns st calls is ↔ ∃ i ∈ is, g ∈ lineFns st calls i := by
  induction is with
  | nil => simp [idxFns]
  | cons x xs ih => simp [idxFns, ih]

theorem idxFns_sub (st : PStyle) (calls : List Call) (a b : List Nat) (h : ∀ i ∈ a, i ∈ b) (g : Fn)
    (hg : g ∈ idxFns st calls a) : g ∈ idxFns st calls b := by
  rw [idxFns_mem] at hg ⊢
  obtain ⟨i, hi, hgi⟩ := hg
  exact ⟨i, h i hi, hgi⟩

theorem lineFns_policy (st : PStyle) (calls : List Call) (i : Nat) (h : ∀ c ∈ calls, c.policy ≠ .block) :
    ∀ f ∈ lineFns st calls i, f.policy ≠ .block := by
  intro f hf; obtain ⟨c, hc, _, rfl⟩ := mem_lineFns.1 hf; exact h c hc

/-- `range' k (n-k)` cut at a kept prefix of length `m`, the dropped lines, line `i`, and the rest. -/
theorem range_split (k m i n : Nat) (hm : k + m ≤ i) (hi : i < n) :
    List.range' k (n - k) =
      List.range' k m ++ (List.range' (k + m) (i - (k + m)) ++ ([i] ++ List.range' (i + 1) (n - (i + 1)))) := by
  have e1 : n - k = m + ((i - (k + m)) + (1 + (n - (i + 1)))) := by omega
  rw [e1, ← List.range'_append (s := k) (m := m) (step := 1)]
  congr 1
  rw [← List.range'_append (s := k + 1 * m) (m := i - (k + m)) (step := 1)]
  simp only [Nat.one_mul]
  congr 1
  have e2 : k + m + (i - (k + m)) = i := by omega
  rw [e2, ← List.range'_append (s := i) (m := 1) (step := 1)]
  simp

theorem range_kept (k m i : Nat) (hm : k + m ≤ i) :
    List.range' k (i - k) = List.range' k m ++ List.range' (k + m) (i - (k + m)) := by
  rw [List.range'_append_1]
  congr 1
  omega

/-- The state after the current line `i` is abandoned at a page break: `fs1` holds the footnotes of the
lines `k … i-1` and a prefix `F1` of those of line `i`; `_break_line` keeps the first `m` lines. -/
theorem break_state (c : FCtx) (st : PStyle) (calls : List Call) (n k i m : Nat) (lines : List (Nat × Rat))
    (fs1 : FState) (A0 P0 F1 F2 : List Fn)
    (hs : lines.map Prod.fst = List.range' k (i - k)) (hk : k ≤ i) (hi : i < n) (hm : m ≤ lines.length)
    (hND : (idxFns st calls (List.range' k (n - k))).Nodup)
    (hP : ∀ g ∈ idxFns st calls (List.range' k (n - k)), g ∈ P0)
    (hF : lineFns st calls i = F1 ++ F2)
    (hT : Took A0 P0 (idxFns st calls (List.range' k (i - k)) ++ F1) fs1) :
    Took A0 P0 (lineFnsList st calls (lines.take m)) (breakLineUnlay c st calls i lines (lines.take m) fs1) := by
  have hlen : lines.length = i - k := by
    have := congrArg List.length hs
    simpa using this
  have hkm : k + m ≤ i := by omega
  have htake : (lines.take m).map Prod.fst = List.range' k m := by
    rw [List.map_take, hs]; exact List.take_range'_of_length_ge (by omega)
  have hdrop : (lines.drop (lines.take m).length).map Prod.fst = List.range' (k + m) (i - (k + m)) := by
    have hl : (lines.take m).length = m := by rw [List.length_take]; omega
    rw [hl, List.map_drop, hs, range_kept k m i hkm, List.drop_left' (by simp)]
  rw [range_split k m i n hkm hi, idxFns_append, idxFns_append, idxFns_append] at hND hP
  simp only [idxFns, List.append_nil] at hND hP
  rw [range_kept k m i hkm, idxFns_append, List.append_assoc] at hT
  unfold breakLineUnlay
  rw [lineFnsList_eq, htake, lineFnsList_eq, hdrop]
  -- the footnotes un-laid-out are called on lines after the `m` kept ones
  refine hT.cut c _ (fun g hg hG => ?_) (fun g hg => ?_)
  · have hG' : g ∈ idxFns st calls (List.range' (k + m) (i - (k + m))) ++
        (lineFns st calls i ++ idxFns st calls (List.range' (i + 1) (n - (i + 1)))) := by
      simp only [List.mem_append] at hG ⊢
      exact hG.imp_right .inl
    rcases List.mem_append.mp hg with hg | hg
    · exact hT.disjoint g hg (hP g (List.mem_append_right _ hG'))
    · exact (List.nodup_append.mp hND).2.2 g hg g hG' rfl
  · simp only [List.mem_append] at hg ⊢
    exact hg.imp_right fun h => by rw [hF]; simp [h]

/-- Line `i` (not kept yet) has its footnotes pending. -/
theorem line_pending (st : PStyle) (calls : List Call) (n k i : Nat) (P0 : List Fn) (fs : FState)
    (hk : k ≤ i) (hi : i < n)
    (hND : (idxFns st calls (List.range' k (n - k))).Nodup)
    (hP : ∀ g ∈ idxFns st calls (List.range' k (n - k)), g ∈ P0)
    (hJ : ∀ g ∈ P0, g ∈ fs.pending ∨ g ∈ idxFns st calls (List.range' k (i - k))) :
    (∀ f ∈ lineFns st calls i, f ∈ fs.pending) ∧ (lineFns st calls i).Nodup := by
  have hsplit := range_split k (i - k) i n (by omega) hi
  have e : i - (k + (i - k)) = 0 := by omega
  rw [e] at hsplit
  simp only [List.range'_zero, List.nil_append] at hsplit
  rw [hsplit, idxFns_append, idxFns_append] at hND hP
  simp only [idxFns, List.append_nil] at hND hP
  exact (mid_pending _ _ _ _ _ hND hP hJ).symm

def outAbort : LineOutcome → Bool
  | .done _ => false
  | .broke a _ _ _ => a

theorem lineFns_sub_calls (st : PStyle) (calls : List Call) (i : Nat) (g : Fn) (h : g ∈ lineFns st calls i) :
    g ∈ calls.map (mkFn st) := by
  obtain ⟨cl, hc, _, rfl⟩ := mem_lineFns.1 h; exact List.mem_map_of_mem hc

/-- **State invariant of the line loop** (any `footnote-policy`): on exit the state holds, after what it held on
entry, exactly the footnotes called on the lines kept — followed, when `footnote-policy: block` cancels the
paragraph, by the footnotes `X` of the abandoned line taken so far (the caller un-lays-out every call of the
paragraph). -/
theorem lineLoopF_state (c : FCtx) (st : PStyle) (calls : List Call) (b : BoxSt) (n : Nat) (lineH : Rat)
    (pie : Bool) (bs : Rat) (k : Nat) (fuel i : Nat) (y : Rat) (s : LineLoop) (fs : FState) (A0 P0 : List Fn)
    (hk : k ≤ i) (hs : s.lines.map Prod.fst = List.range' k (i - k)) (hn : fuel = n - i)
    (hND : (idxFns st calls (List.range' k (n - k))).Nodup)
    (hP : ∀ g ∈ idxFns st calls (List.range' k (n - k)), g ∈ P0)
    (hT : Took A0 P0 (idxFns st calls (List.range' k (i - k))) fs) :
    ∃ X : List Fn,
    Took A0 P0 (lineFnsList st calls (outLines (lineLoopF c st calls b n lineH pie bs fuel i y s fs).1) ++ X)
      (lineLoopF c st calls b n lineH pie bs fuel i y s fs).2 ∧
    (∀ g ∈ X, g ∈ calls.map (mkFn st)) ∧
    (outAbort (lineLoopF c st calls b n lineH pie bs fuel i y s fs).1 = false → X = []) := by
  fun_induction lineLoopF c st calls b n lineH pie bs fuel i y s fs with
  | case1 i y s fs =>
    simp only [outLines, lineFnsList_eq, hs]
    exact ⟨[], by simpa using hT, by simp, fun _ => rfl⟩
  | case2 fuel i y s fs resume newPosY dbd offset overflow hov abort stop r lines' hb =>
    obtain ⟨m, hm, hl⟩ := breakLine_lines st n i s.lines pie s.skip resume
    rw [hb] at hl
    simp only at hl
    subst hl
    simp only [outLines]
    have := break_state c st calls n k i m s.lines fs A0 P0 [] (lineFns st calls i) hs hk (by omega)
      hm hND hP rfl (by simpa using hT)
    exact ⟨[], by simpa using this, by simp, fun _ => rfl⟩
  | case3 fuel i y s fs resume newPosY dbd offset overflow hov shift newPosY' lineY mt' fs' hfl ih =>
    obtain ⟨hFp, hFn⟩ := line_pending st calls n k i P0 fs hk (by omega) hND hP hT.pers
    obtain ⟨F1, F2, hsplit, hokk, h2⟩ :=
      footLoop_spec c (!s.lines.isEmpty || !pie) pie bs (newPosY' + offset) (lineFns st calls i) fs hT hFp hFn
    rw [hfl] at hokk h2
    have hF2 : F2 = [] := hokk rfl
    subst hF2
    simp only [List.append_nil] at hsplit
    subst hsplit
    have hr := List.range'_sub_succ hk
    apply ih (by omega) (by rw [List.map_append, hs, hr]; rfl) (by omega)
    rw [hr, idxFns_append]
    simpa [idxFns] using h2
  | case4 fuel i y s fs resume newPosY dbd offset overflow hov shift newPosY' mt' fs' hfl abort stop r lines' hb =>
    obtain ⟨hFp, hFn⟩ := line_pending st calls n k i P0 fs hk (by omega) hND hP hT.pers
    obtain ⟨F1, F2, hsplit, _, h2⟩ :=
      footLoop_spec c (!s.lines.isEmpty || !pie) pie bs (newPosY' + offset) (lineFns st calls i) fs hT hFp hFn
    rw [hfl] at h2
    obtain ⟨m, hm, hl⟩ := breakLine_lines st n i s.lines pie s.skip resume
    rw [hb] at hl
    simp only at hl
    subst hl
    simp only [outLines]
    have := break_state c st calls n k i m s.lines fs' A0 P0 F1 F2 hs hk (by omega) hm hND hP hsplit h2
    exact ⟨[], by simpa using this, by simp, fun _ => rfl⟩
  | case5 fuel i y s fs resume newPosY dbd offset overflow hov shift newPosY' mt' fs' hfl =>
    -- `footnote-policy: block` cancels the paragraph: the lines kept so far and the footnotes `F1` of line `i`
    -- taken so far stay laid out (until `block_container_layout` un-lays-out the whole paragraph)
    obtain ⟨hFp, hFn⟩ := line_pending st calls n k i P0 fs hk (by omega) hND hP hT.pers
    obtain ⟨F1, F2, hsplit, _, h2⟩ :=
      footLoop_spec c (!s.lines.isEmpty || !pie) pie bs (newPosY' + offset) (lineFns st calls i) fs hT hFp hFn
    rw [hfl] at h2
    simp only [outLines, lineFnsList_eq, hs]
    exact ⟨F1, h2, fun g hg => lineFns_sub_calls st calls i g (by rw [hsplit]; simp [hg]), by simp [outAbort]⟩

end Wp.PMF
