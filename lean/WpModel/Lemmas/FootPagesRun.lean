/-
`PMF.makeAllPagesF` is the page loop `PageLoop.run` of `remake_page`; it stops when nothing is left to resume and
no footnote is postponed.
-/
import WpModel.Model.PaginateFoot
import WpModel.Lemmas.PageLoop

namespace Wp.PMF
open Wp Wp.PM Wp.PageLoop

/-- `make_all_pages`' state: `(index, resume_at, next_page, right_page, pending, reported_footnotes)`. -/
abbrev PState := Nat × Option Resume × NextPage × Bool × List Fn × List Fn

/-- One turn of `make_all_pages`: `remake_page`, and the state it hands over unless it was the last page. -/
def pageStepF (d : FDoc) : PState → Except Unit (FPage × Option PState) :=
  stepOf (fun s => remakePageF d s.1 s.2.1 s.2.2.1 s.2.2.2.1 s.2.2.2.2.1 s.2.2.2.2.2)
    (fun s p => if p.page.resume.isNone && p.reported.isEmpty then none
      else some (s.1 + 1, p.page.resume, p.page.nextPage, !s.2.2.2.1, p.pending, p.reported))

theorem makeAllPagesF_eq_run (d : FDoc) (fuel index : Nat) (resume : Option Resume) (np : NextPage)
    (right : Bool) (pending reported : List Fn) :
    makeAllPagesF d fuel index resume np right pending reported =
      (run (pageStepF d) fuel (index, resume, np, right, pending, reported)).pages? :=
  eq_run_pages (f := fun n s => makeAllPagesF d n s.1 s.2.1 s.2.2.1 s.2.2.2.1 s.2.2.2.2.1 s.2.2.2.2.2) (fun _ => rfl)
    (fun n s => by
      show makeAllPagesF d (n + 1) s.1 s.2.1 s.2.2.1 s.2.2.2.1 s.2.2.2.2.1 s.2.2.2.2.2 = _
      rw [makeAllPagesF]
      cases remakePageF d s.1 s.2.1 s.2.2.1 s.2.2.2.1 s.2.2.2.2.1 s.2.2.2.2.2 with
      | none => rfl
      | some p =>
        dsimp only
        split
        · rfl
        · dsimp only
          cases makeAllPagesF d n (s.1 + 1) p.page.resume p.page.nextPage (!s.2.2.2.1) p.pending p.reported <;> rfl)
    fuel (index, resume, np, right, pending, reported)

theorem makeAllPagesF_eq_some {d : FDoc} {fuel index : Nat} {resume : Option Resume} {np : NextPage} {right : Bool}
    {pending reported : List Fn} {pages : List FPage} :
    makeAllPagesF d fuel index resume np right pending reported = some pages ↔
      run (pageStepF d) fuel (index, resume, np, right, pending, reported) = .ok pages := by
  rw [makeAllPagesF_eq_run, Out.pages?_eq_some]

end Wp.PMF
