/- Lemmas about Model/PdfNames: Python's order on sequences; `sorted`, with or without a key, sorts and permutes; where
sorting the written forms `(name)` sorts the names; distinct names have distinct key bytes (through the UTF-16 round
trip of Lemmas/Utf16).  Core Lean only. -/
import WpModel.Model.PdfNames
import WpModel.Lemmas.Utf16
import WpModel.Lemmas.InsertionSort
namespace Wp.PdfNames
open InsertionSort

/-- Python's order on sequences of integers is Lean's lexicographic order on lists. -/
theorem lexLt_iff : ∀ (a b : List Nat), lexLt a b = true ↔ a < b
  | [], [] => by simp [lexLt]
  | [], _ :: _ => by simp [lexLt]
  | _ :: _, [] => by simp [lexLt]
  | x :: xs, y :: ys => by rw [lexLt, List.cons_lt_cons_iff, ← lexLt_iff xs ys]; simp

theorem lexLe_iff (a b : List Nat) : lexLe a b = true ↔ a ≤ b := by
  rw [lexLe, Bool.not_eq_true', ← Bool.not_eq_true, lexLt_iff]
  exact List.not_lt

theorem lexLt_irrefl (a : List Nat) : lexLt a a = false :=
  Bool.eq_false_iff.mpr fun h => List.lt_irrefl a ((lexLt_iff a a).mp h)

theorem lexLt_trans (a b c : List Nat) (h1 : lexLt a b = true) (h2 : lexLt b c = true) : lexLt a c = true :=
  (lexLt_iff a c).mpr (List.lt_trans ((lexLt_iff a b).mp h1) ((lexLt_iff b c).mp h2))

theorem lexLe_of_lt (a b : List Nat) (h : lexLt a b = true) : lexLe a b = true :=
  (lexLe_iff a b).mpr (List.le_of_lt ((lexLt_iff a b).mp h))

theorem sortedBy_cons (le : List Nat → List Nat → Bool) (a : List Nat) (l : List (List Nat)) :
    sortedBy le (a :: l) = true ↔ (∀ b, l.head? = some b → le a b = true) ∧ sortedBy le l = true := by
  cases l with
  | nil => simp [sortedBy]
  | cons b rest => simp [sortedBy]

theorem insertName_head (x : PyStr) (l : List PyStr) (b : PyStr) (h : (insertName x l).head? = some b) :
    b = x ∨ l.head? = some b := by
  cases l with
  | nil => simp [insertName] at h; exact Or.inl h.symm
  | cons y ys =>
    simp only [insertName] at h
    split at h
    · simp at h; exact Or.inl h.symm
    · simp at h; right; simp [h]

/-- Adjacent order follows from pairwise order. -/
theorem sortedBy_of_pairwise {le : List Nat → List Nat → Bool} {l : List (List Nat)}
    (h : l.Pairwise fun a b => le a b = true) : sortedBy le l = true :=
  adjacent_of_pairwise (sortedBy le · = true) rfl (fun _ => rfl)
    (fun _ _ _ hxy hr => by rw [sortedBy, hxy, hr]; rfl) h

/-! `sorted(xs, key=key)` is the insertion sort of Lemmas/InsertionSort that puts a name after those whose key is not
greater. -/

theorem insertBy_eq_ins (key : PyStr → List Nat) (x : PyStr) (l : List PyStr) :
    insertBy key x l = ins (fun t x => !decide (lexLt (key x) (key t) = true)) x l :=
  eq_ins_stop (fun x y => lexLt (key x) (key y) = true) (insertBy key) (fun _ => rfl) (fun _ _ _ => rfl) x l

theorem pySortedBy_eq_sort (key : PyStr → List Nat) (l : List PyStr) :
    pySortedBy key l = sort (fun t x => !decide (lexLt (key x) (key t) = true)) l :=
  eq_sort (pySortedBy key) (insertBy_eq_ins key) rfl (fun _ _ => rfl) l

theorem insertBy_perm (key : PyStr → List Nat) (x : PyStr) (l : List PyStr) : (insertBy key x l).Perm (x :: l) :=
  insertBy_eq_ins key x l ▸ ins_perm x l

theorem pySortedBy_perm (key : PyStr → List Nat) (l : List PyStr) : (pySortedBy key l).Perm l :=
  pySortedBy_eq_sort key l ▸ sort_perm l

/-- **The keys of `sorted(xs, key=key)` are in order**, whatever the key. -/
theorem pySortedBy_sorted (key : PyStr → List Nat) (l : List PyStr) :
    (pySortedBy key l).Pairwise fun a b => lexLe (key a) (key b) = true := by
  rw [pySortedBy_eq_sort]
  refine sort_sorted (fun t x h => by simpa [lexLe] using h) (fun t x h => lexLe_of_lt _ _ (by simpa using h)) ?_ l
  intro a b c hab hbc
  rw [lexLe_iff] at hab hbc ⊢
  exact List.le_trans hab hbc

theorem insertBy_eq_insertName (key : PyStr → List Nat) (x : PyStr) (l : List PyStr) (hx : key x = x)
    (hl : ∀ y ∈ l, key y = y) : insertBy key x l = insertName x l := by
  induction l with
  | nil => rfl
  | cons y ys ih =>
    simp only [insertBy, insertName, hx, hl y List.mem_cons_self, ih (fun z hz => hl z (List.mem_cons_of_mem _ hz))]

/-- Sorting by a key that leaves every name as it is (the identity; `key_bytes` on ASCII names) is `sorted()`. -/
theorem pySortedBy_eq_pySorted (key : PyStr → List Nat) (l : List PyStr) (h : ∀ y ∈ l, key y = y) :
    pySortedBy key l = pySorted l := by
  induction l with
  | nil => rfl
  | cons x xs ih =>
    have hxs := fun y hy => h y (List.mem_cons_of_mem _ hy)
    simp only [pySortedBy, pySorted, ← ih hxs]
    exact insertBy_eq_insertName key x _ (h x List.mem_cons_self)
      (fun y hy => hxs y ((pySortedBy_perm key xs).mem_iff.mp hy))

theorem insertName_perm (x : PyStr) (l : List PyStr) : (insertName x l).Perm (x :: l) :=
  insertBy_eq_insertName (fun n => n) x l rfl (fun _ _ => rfl) ▸ insertBy_perm _ x l

theorem pySorted_perm (l : List PyStr) : (pySorted l).Perm l :=
  pySortedBy_eq_pySorted (fun n => n) l (fun _ _ => rfl) ▸ pySortedBy_perm _ l

theorem pySorted_all (p : PyStr → Bool) (l : List PyStr) (h : l.all p = true) : (pySorted l).all p = true := by
  rw [(pySorted_perm l).all_eq]
  exact h

theorem map_keyBytes_ascii (l : List PyStr) (h : l.all isAscii = true) : l.map keyBytes = l := by
  induction l with
  | nil => rfl
  | cons x xs ih =>
    simp only [List.all_cons, Bool.and_eq_true] at h
    simp [keyBytes, h.1, ih h.2]

theorem map_insertBy (key : PyStr → List Nat) (x : PyStr) (l : List PyStr) :
    (insertBy key x l).map key = insertName (key x) (l.map key) := by
  induction l with
  | nil => rfl
  | cons y ys ih =>
    simp only [insertBy, List.map_cons, insertName]
    split
    · rfl
    · simp [ih]

theorem map_pySortedBy (key : PyStr → List Nat) (l : List PyStr) :
    (pySortedBy key l).map key = pySorted (l.map key) := by
  induction l with
  | nil => rfl
  | cons x xs ih => simp only [pySortedBy, pySorted, List.map_cons, map_insertBy, ih]

theorem pySortedBy_ascii (l : List PyStr) (h : l.all isAscii = true) : pySortedBy keyBytes l = pySorted l :=
  pySortedBy_eq_pySorted keyBytes l (fun y hy => if_pos (List.all_eq_true.mp h y hy))

/-- No byte that pydyf escapes and none at or below `)`: the closing parenthesis sorts before every byte of the name. -/
def plainName (s : List Nat) : Bool := s.all (fun b => 41 < b && b != 92)

theorem plainName_cons (b : Nat) (bs : List Nat) :
    plainName (b :: bs) = true ↔ (41 < b ∧ b ≠ 92) ∧ plainName bs = true := by
  simp [plainName]

theorem escape_plain (s : List Nat) (h : plainName s = true) :
    s.flatMap (fun b => if b = 92 ∨ b = 40 ∨ b = 41 then [92, b] else [b]) = s := by
  induction s with
  | nil => rfl
  | cons b bs ih =>
    rw [plainName_cons] at h
    have hb : ¬ (b = 92 ∨ b = 40 ∨ b = 41) := by omega
    simp only [List.flatMap_cons, hb, if_false, ih h.2]
    rfl

theorem litData_plain (s : List Nat) (h : plainName s = true) : litData s = 40 :: (s ++ [41]) := by
  unfold litData
  rw [escape_plain s h]
  rfl

theorem lexLt_terminated (s t : List Nat) (hs : plainName s = true) (ht : plainName t = true) :
    lexLt (s ++ [41]) (t ++ [41]) = lexLt s t := by
  fun_induction lexLt s t with
  | case1 => simp [lexLt]
  | case2 b bs => rw [plainName_cons] at ht; simp [lexLt, ht.1.1]
  | case3 a as =>
    rw [plainName_cons] at hs
    have h1 : ¬ a < 41 := by omega
    have h2 : ¬ a = 41 := by omega
    simp [lexLt, h1, h2]
  | case4 a as b bs ih =>
    rw [plainName_cons] at hs ht
    simp only [List.cons_append, lexLt]
    rw [ih hs.2 ht.2]

theorem lexLe_litData (s t : List Nat) (hs : plainName s = true) (ht : plainName t = true) :
    lexLe (litData s) (litData t) = lexLe s t := by
  rw [litData_plain s hs, litData_plain t ht]
  simp only [lexLe, lexLt, Nat.lt_irrefl, decide_false, beq_self_eq_true, Bool.true_and, Bool.false_or]
  rw [lexLt_terminated t s ht hs]

/-- Unicode scalar values: what a Python `str` that can be encoded holds (no lone surrogates). -/
def scalar (c : Nat) : Bool := c < 0x110000 && !(0xD800 ≤ c && c ≤ 0xDFFF)
def validStr (s : PyStr) : Bool := s.all scalar

/-- The two bytes of a 16-bit unit, big end first. -/
def be2 (u : Nat) : List Nat := [u / 256, u % 256]

/-- `str.encode('utf-16-be')` is the UTF-16 units of Model/Utf16, each written as two bytes. -/
theorem utf16be_eq (c : Nat) : utf16be c = (Utf16.encode c).flatMap be2 := by
  unfold utf16be Utf16.encode
  split <;> rfl

theorem flatMap_utf16be_eq (s : PyStr) : s.flatMap utf16be = (Utf16.encodeAll s).flatMap be2 := by
  induction s with
  | nil => rfl
  | cons c cs ih =>
    simp only [Utf16.encodeAll, List.flatMap_cons, List.flatMap_append] at ih ⊢
    rw [ih, utf16be_eq]

/-- 16-bit units are determined by their bytes. -/
theorem flatMap_be2_inj (a b : List Nat) (ha : ∀ u ∈ a, u < 0x10000) (hb : ∀ u ∈ b, u < 0x10000)
    (h : a.flatMap be2 = b.flatMap be2) : a = b := by
  induction a generalizing b with
  | nil => cases b with
    | nil => rfl
    | cons v vs => cases h
  | cons u us ih =>
    cases b with
    | nil => cases h
    | cons v vs =>
      simp only [List.flatMap_cons, be2, List.cons_append, List.nil_append, List.cons.injEq] at h
      have hu := ha u List.mem_cons_self
      have hv := hb v List.mem_cons_self
      have e : u = v := by omega
      rw [e, ih vs (fun x hx => ha x (List.mem_cons_of_mem _ hx)) (fun x hx => hb x (List.mem_cons_of_mem _ hx)) h.2.2]

theorem scalar_iff (c : Nat) : scalar c = true ↔ Utf16.Scalar c := by
  simp only [scalar, Utf16.Scalar, Bool.and_eq_true, decide_eq_true_eq, Bool.not_eq_true', Bool.and_eq_false_iff,
    decide_eq_false_iff_not]
  omega

theorem flatMap_utf16be_inj (s t : PyStr) (hs : validStr s = true) (ht : validStr t = true)
    (h : s.flatMap utf16be = t.flatMap utf16be) : s = t := by
  have sc : ∀ {l : PyStr}, validStr l = true → ∀ c ∈ l, Utf16.Scalar c := fun hl c hc =>
    (scalar_iff c).mp (List.all_eq_true.mp hl c hc)
  have units : ∀ {l : PyStr}, validStr l = true → ∀ u ∈ Utf16.encodeAll l, u < 0x10000 := by
    intro l hl u hu
    obtain ⟨c, hc, huc⟩ := List.mem_flatMap.mp hu
    exact Utf16.encode_lt c (sc hl c hc).1 u huc
  rw [flatMap_utf16be_eq, flatMap_utf16be_eq] at h
  -- the same units on both sides, and a reader's decoding gives the text back
  rw [← Utf16.decode_encodeAll s (sc hs), ← Utf16.decode_encodeAll t (sc ht),
    flatMap_be2_inj _ _ (units hs) (units ht) h]

theorem keyBytes_inj (s t : PyStr) (hs : validStr s = true) (ht : validStr t = true)
    (h : keyBytes s = keyBytes t) : s = t := by
  unfold keyBytes at h
  by_cases a : isAscii s = true <;> by_cases b : isAscii t = true <;> simp only [a, b, if_true] at h
  · exact h
  · subst h
    simp [isAscii] at a
  · subst h
    simp [isAscii] at b
  · exact flatMap_utf16be_inj s t hs ht (by simpa using h)

theorem lexLt_of_le_of_ne (a b : List Nat) (h : lexLe a b = true) (hne : a ≠ b) : lexLt a b = true :=
  (lexLt_iff a b).mpr ((List.le_iff_lt_or_eq.mp ((lexLe_iff a b).mp h)).resolve_right hne)

theorem map_keyBytes_nodup (l : List PyStr) (hn : l.Nodup) (hv : ∀ x ∈ l, validStr x = true) :
    (l.map keyBytes).Nodup := by
  induction l with
  | nil => simp
  | cons a rest ih =>
    have hn' := List.nodup_cons.mp hn
    simp only [List.map_cons, List.nodup_cons, List.mem_map, not_exists, not_and]
    refine ⟨?_, ih hn'.2 (fun x hx => hv x (List.mem_cons_of_mem _ hx))⟩
    intro x hx heq
    have := keyBytes_inj x a (hv x (List.mem_cons_of_mem _ hx)) (hv a List.mem_cons_self) heq
    exact hn'.1 (this ▸ hx)

end Wp.PdfNames
