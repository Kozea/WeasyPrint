/-
Geometry of PM stage 2c: every line of a layout fits above `pageBottom − bottomSpace`, unless it is the first line of
content placed while the page was empty.  One induction over the layout (`box_fits`) proves this of `trueLines`, the
collector that marks a line exempt exactly when `page_is_empty` can have been true for it (`columns_layout` clears
the flag after the first spanning block or group; the columns of one group share it).  The weaker collectors of the
statements about documents are compared with it structurally: `placedLines` (exempts the first line of every column
box) here, `afterSpan` and `strictLines` in `ColGeoStrict` / `ColGeoPage`.  The paragraph part is the generic line
loop of `Lemmas/LineLoop.lean`.

Line heights are not recorded in paragraph fragments: they are read through `lh : id ↦ line height`, which
must agree with the source (`LhOk`, a hypothesis throughout; no theorem builds such an `lh` from a document).
-/
import WpModel.Lemmas.ColSegBlock
import WpModel.Lemmas.Geometry
import WpModel.Lemmas.Basic.Rat

namespace Wp.PMC
open Wp Wp.PM

/-! ### the overflow test -/

theorem overflowsPage_eq (c : CCtx) (bs y : Rat) :
    c.overflowsPage bs y = (c.inf || c.base.overflowsPage bs y) := rfl

theorem not_overflowsPage_of_le (c : CCtx) (bs y y' : Rat) (h : y ≤ y') (ho : c.overflowsPage bs y' = false) :
    c.overflowsPage bs y = false := by
  rw [overflowsPage_eq, Bool.or_eq_false_iff] at ho ⊢
  exact ⟨ho.1, PM.not_overflowsPage_of_le c.base bs y y' h ho.2⟩

theorem not_overflowsPage_of_space_le (c : CCtx) (bs bs' y : Rat) (h : bs ≤ bs')
    (ho : c.overflowsPage bs' y = false) : c.overflowsPage bs y = false := by
  rw [overflowsPage_eq, Bool.or_eq_false_iff] at ho ⊢
  exact ⟨ho.1, PM.not_overflowsPage_of_space_le c.base bs bs' y h ho.2⟩

theorem overflowsPage_inColumn (c : CCtx) (b : Bool) (bs y : Rat) :
    ({ c with inColumn := b } : CCtx).overflowsPage bs y = c.overflowsPage bs y := rfl

/-! ### placed lines of a fragment tree -/

mutual
/-- All lines of the fragment `f`, laid out with `page_is_empty = pie`; `page_is_empty` stays true only along
first-placed children, and is taken to be true at the top of every column box. -/
def placedLines (lh : Nat → Rat) : CFrag → Bool → List PlacedLine
  | .para id _ _ _ _ lines, pie => paraPlaced pie id (lh id) lines
  | .block _ _ _ _ kids, pie => placedList lh kids pie
  | .cols _ _ _ _ kids, pie => placedList lh kids pie
  | .column _ _ _ _ kids, _ => placedList lh kids true
def placedList (lh : Nat → Rat) : List CFrag → Bool → List PlacedLine
  | [], _ => []
  | f :: rest, pie => placedLines lh f pie ++ placedList lh rest false
end

mutual
/-- All lines of the fragment `f`, laid out with `page_is_empty = pie`, each marked exempt only if it is the first
line of content placed while the page was empty: among the children of a box `page_is_empty` stays true for the
first child, and through a leading run of column boxes (the columns of one group are all laid out with the
`page_is_empty` of the group; after a group or a spanning block the flag is cleared). -/
def trueLines (lh : Nat → Rat) : CFrag → Bool → List PlacedLine
  | .para id _ _ _ _ lines, pie => paraPlaced pie id (lh id) lines
  | .block _ _ _ _ kids, pie => trueList lh kids pie pie
  | .cols _ _ _ _ kids, pie => trueList lh kids pie pie
  | .column _ _ _ _ kids, pie => trueList lh kids pie pie
/-- `q`: `page_is_empty` for a column box here (only column boxes came before); `e`: for another child here
(nothing came before). -/
def trueList (lh : Nat → Rat) : List CFrag → Bool → Bool → List PlacedLine
  | [], _, _ => []
  | f :: rest, q, e => trueLines lh f (if f.isColumn then q else e) ++ trueList lh rest (q && f.isColumn) false
end

def LinesOk (c : CCtx) (bs : Rat) (L : List PlacedLine) : Prop :=
  ∀ p ∈ L, p.exempt = true ∨ c.overflowsPage bs p.bottom = false

theorem linesOk_nil (c : CCtx) (bs : Rat) : LinesOk c bs [] := linesFit_nil _

theorem linesOk_append (c : CCtx) (bs : Rat) (A B : List PlacedLine) :
    LinesOk c bs (A ++ B) ↔ LinesOk c bs A ∧ LinesOk c bs B := linesFit_append _ A B

theorem linesOk_mono (c : CCtx) (bs bs' : Rat) (L : List PlacedLine) (h : bs ≤ bs') (hL : LinesOk c bs' L) :
    LinesOk c bs L := linesFit_mono L (fun _ => not_overflowsPage_of_space_le c bs bs' _ h) hL

theorem linesOk_sub (c : CCtx) (bs : Rat) (A B : List PlacedLine) (h : ∀ p ∈ A, p ∈ B) (hB : LinesOk c bs B) :
    LinesOk c bs A := linesFit_sub _ A B h hB

theorem linesOk_inColumn (c : CCtx) (b : Bool) (bs : Rat) (L : List PlacedLine) :
    LinesOk { c with inColumn := b } bs L ↔ LinesOk c bs L := Iff.rfl

mutual
/-- A larger `page_is_empty` only exempts more. -/
theorem trueLines_weaker (lh : Nat → Rat) : (f : CFrag) → ∀ (p q : Bool), (q = true → p = true) →
    PieWeaker (trueLines lh f p) (trueLines lh f q)
  | .para id _ _ _ _ lines, p, q, h => by simp only [trueLines]; exact paraPlaced_weaker p q h _ _ _
  | .block _ _ _ _ kids, p, q, h | .cols _ _ _ _ kids, p, q, h | .column _ _ _ _ kids, p, q, h => by
    simp only [trueLines]; exact trueList_weaker lh kids p p q q h h
theorem trueList_weaker (lh : Nat → Rat) : (fs : List CFrag) → ∀ (q e q' e' : Bool), (q' = true → q = true) →
    (e' = true → e = true) → PieWeaker (trueList lh fs q e) (trueList lh fs q' e')
  | [], _, _, _, _, _, _ => PieWeaker.nil _
  | f :: rest, q, e, q', e', hq, he => by
    simp only [trueList]
    refine PieWeaker.append (trueLines_weaker lh f _ _ ?_) (trueList_weaker lh rest _ _ _ _ ?_ (fun h => h))
    · split <;> assumption
    · cases f.isColumn <;> simp_all
end

theorem linesOk_trueLines_anyPie (lh : Nat → Rat) (c : CCtx) (bs : Rat) (f : CFrag) (pie pie' : Bool)
    (hp : pie = true → pie' = true) (h : LinesOk c bs (trueLines lh f pie)) :
    LinesOk c bs (trueLines lh f pie') :=
  (trueLines_weaker lh f pie' pie hp).linesFit _ h

/-! ### the lines a paragraph keeps fit -/

theorem lineboxLayout_placed (c : CCtx) (st : PStyle) (b : BoxSt) (n : Nat) (lineH : Rat) (pie : Bool)
    (adj : List Rat) (bs posY : Rat) (skip : Option Resume) (dbd : Bool) (id : Nat) (hdeco : 0 ≤ b.bb + b.pb) :
    LinesOk c bs (paraPlaced pie id lineH (lineboxLayout c st b n lineH pie adj bs posY skip dbd).lines) := by
  have hl : (lineboxLayout c st b n lineH pie adj bs posY skip dbd).lines =
      outLines (lineboxLoop c st b n lineH pie adj bs posY skip dbd) := by
    unfold lineboxLayout
    split <;> rename_i heq <;> rw [heq] <;> rfl
  rw [hl, lineboxLoop, lineLoop_eq_G]
  exact lineLoopG_placed _ st b n lineH pie (not_overflowsPage_of_le c bs) hdeco id _ _ _ _ rfl

/-! ### `withIdx`, heights, `find_earlier_page_break` -/

@[simp] theorem isColumn_cutEnd (f : CFrag) : f.cutEnd.isColumn = f.isColumn := by cases f <;> rfl

@[simp] theorem trueLines_withIdx (lh : Nat → Rat) (f : CFrag) (i : Nat) (pie : Bool) :
    trueLines lh (f.withIdx i) pie = trueLines lh f pie := by
  cases f <;> simp [CFrag.withIdx, trueLines]

@[simp] theorem trueLines_withGeo (lh : Nat → Rat) (f : CFrag) (g : Geo) (pie : Bool) :
    trueLines lh (f.withGeo g) pie = trueLines lh f pie := by
  cases f <;> simp [CFrag.withGeo, trueLines]

@[simp] theorem trueLines_cutEnd (lh : Nat → Rat) (f : CFrag) (pie : Bool) :
    trueLines lh f.cutEnd pie = trueLines lh f pie := by
  cases f <;> simp [CFrag.cutEnd, trueLines]

theorem trueList_append (lh : Nat → Rat) (xs ys : List CFrag) (q e : Bool) :
    trueList lh (xs ++ ys) q e =
      trueList lh xs q e ++ trueList lh ys (q && xs.all CFrag.isColumn) (e && xs.isEmpty) := by
  induction xs generalizing q e with
  | nil => simp [trueList]
  | cons x xs ih =>
    simp only [List.cons_append, trueList, ih, List.append_assoc, List.all_cons, List.isEmpty_cons, Bool.and_false,
      Bool.false_and, Bool.and_assoc]

theorem trueList_map_setColHeight (lh : Nat → Rat) (h : Rat) (l : List CFrag) (q e : Bool) :
    trueList lh (l.map (setColHeight h)) q e = trueList lh l q e := by
  induction l generalizing q e with
  | nil => rfl
  | cons f fs ih => simp [trueList, ih, setColHeight]

theorem trueList_addTrailing (lh : Nat → Rat) (diff : Rat) (l : List CFrag) (q e : Bool) :
    trueList lh (addTrailing diff l).1 q e = trueList lh l q e := by
  induction l generalizing q e with
  | nil => simp [addTrailing]
  | cons f fs ih =>
    simp only [addTrailing]
    split <;> simp [trueList, ih, setColHeight]

theorem linesOk_trueList_snoc (lh : Nat → Rat) (c : CCtx) (bs : Rat) (l : List CFrag) (f : CFrag) (p q e : Bool)
    (hl : LinesOk c bs (trueList lh l q e)) (hf : LinesOk c bs (trueLines lh f p))
    (hp : p = true → l = [] ∧ q = true ∧ e = true) : LinesOk c bs (trueList lh (l ++ [f]) q e) := by
  rw [trueList_append, linesOk_append]
  refine ⟨hl, ?_⟩
  simp only [trueList, List.append_nil]
  refine linesOk_trueLines_anyPie lh c bs f p _ (fun h => ?_) hf
  obtain ⟨rfl, rfl, rfl⟩ := hp h
  split <;> rfl

/-- Column boxes laid out with `page_is_empty = p`, at a place where column boxes get at least that. -/
theorem linesOk_trueList_columns (lh : Nat → Rat) (c : CCtx) (bs : Rat) (p q : Bool) (hp : p = true → q = true) :
    (m : List CFrag) → (∀ f ∈ m, f.isColumn = true ∧ LinesOk c bs (trueLines lh f p)) → ∀ e,
    LinesOk c bs (trueList lh m q e)
  | [], _, _ => linesOk_nil c bs
  | f :: rest, hm, e => by
    have hf := hm f (by simp)
    simp only [trueList, hf.1, if_true, Bool.and_true]
    rw [linesOk_append]
    exact ⟨linesOk_trueLines_anyPie lh c bs f p q hp hf.2,
      linesOk_trueList_columns lh c bs p q hp rest (fun g hg => hm g (by simp [hg])) false⟩

/-- A break found inside a paragraph keeps a prefix of its lines. -/
theorem findEarlierPara_take (id idx : Nat) (st : PStyle) (n : Nat) (g : Geo) (lines : List (Nat × Rat))
    (x' : CFrag) (r : Resume) (h : findEarlierPara id idx st n g lines = some (x', r)) :
    ∃ m, x' = .para id idx st n g (lines.take m) := by
  rw [findEarlierPara_embed] at h
  obtain ⟨⟨y, r'⟩, hp, he⟩ := Option.map_eq_some_iff.mp h
  obtain ⟨_, _, _, rfl, _⟩ := PM.findEarlierPara_take hp
  cases he
  exact ⟨_, rfl⟩

/-- The ways the walk finds a break on `x :: xs`: among the later siblings; or, `x` not being a column box, right
after `x` or inside `x`. -/
theorem findEarlierGo_cons_found (inCol : Bool) (x : CFrag) (xs kept : List CFrag) (r : Resume)
    (h : (findEarlierGo inCol (x :: xs)).found = some (kept, r)) :
    (∃ kept0, (findEarlierGo inCol xs).found = some (kept0, r) ∧ kept = x :: kept0) ∨
    ((findEarlierGo inCol xs).found = none ∧ x.isColumn = false ∧
      (kept = [x] ∨ ∃ x' r1, findEarlierFrag inCol x = some (x', r1) ∧ kept = [x'.cutEnd])) := by
  generalize hl : x :: xs = l at h
  revert h
  fun_cases findEarlierGo inCol l <;> intro h <;> cases hl <;> try cases h
  next hf => exact .inl ⟨_, hf, rfl⟩
  next hn => rw [hn] at h; cases h
  next hcol _ hn _ _ _ => exact .inr ⟨hn, by simpa using hcol, .inl rfl⟩
  next hcol _ hfe _ hn _ _ _ => exact .inr ⟨hn, by simpa using hcol, .inr ⟨_, _, hfe, rfl⟩⟩

theorem placedLines_column (lh : Nat → Rat) (f : CFrag) (h : f.isColumn = true) (p : Bool) :
    placedLines lh f p = placedList lh f.kids true := by
  cases f <;> first | (simp [CFrag.isColumn] at h; done) | simp [placedLines, CFrag.kids]

@[simp] theorem placedLines_withGeo (lh : Nat → Rat) (f : CFrag) (g : Geo) (pie : Bool) :
    placedLines lh (f.withGeo g) pie = placedLines lh f pie := by
  cases f <;> simp [CFrag.withGeo, placedLines]

@[simp] theorem placedLines_withIdx (lh : Nat → Rat) (f : CFrag) (i : Nat) (pie : Bool) :
    placedLines lh (f.withIdx i) pie = placedLines lh f pie := by
  cases f <;> simp [CFrag.withIdx, placedLines]

theorem placedList_addTrailing (lh : Nat → Rat) (diff : Rat) (l : List CFrag) (pie : Bool) :
    placedList lh (addTrailing diff l).1 pie = placedList lh l pie := by
  induction l generalizing pie with
  | nil => simp [addTrailing]
  | cons f fs ih =>
    simp only [addTrailing]
    split <;> simp [placedList, ih, setColHeight]

theorem placedList_append (lh : Nat → Rat) (xs ys : List CFrag) (pie : Bool) :
    placedList lh (xs ++ ys) pie = placedList lh xs pie ++ placedList lh ys (pie && xs.isEmpty) := by
  induction xs generalizing pie with
  | nil => simp [placedList]
  | cons x xs ih =>
    simp only [List.cons_append, placedList, ih false, List.append_assoc]
    simp

theorem placedList_map_setColHeight (lh : Nat → Rat) (h : Rat) (l : List CFrag) (pie : Bool) :
    placedList lh (l.map (setColHeight h)) pie = placedList lh l pie := by
  induction l generalizing pie with
  | nil => rfl
  | cons f fs ih => simp [placedList, ih, setColHeight]

theorem placedList_singleton (lh : Nat → Rat) (f : CFrag) (pie : Bool) :
    placedList lh [f] pie = placedLines lh f pie := by
  simp [placedList]

@[simp] theorem placedLines_cutEnd (lh : Nat → Rat) (f : CFrag) (pie : Bool) :
    placedLines lh f.cutEnd pie = placedLines lh f pie := by
  cases f <;> simp [CFrag.cutEnd, placedLines]

mutual
theorem findEarlierGo_placed (lh : Nat → Rat) (inCol : Bool) : (fs : List CFrag) →
    ∀ (kept : List CFrag) (r : Resume),
    (findEarlierGo inCol fs).found = some (kept, r) →
    ∀ pie, ∀ p ∈ placedList lh kept pie, p ∈ placedList lh fs pie
  | [] => by
    intro kept r h
    simp [findEarlierGo] at h
  | x :: xs => by
    intro kept r h pie p hp
    rcases findEarlierGo_cons_found inCol x xs kept r h with
      ⟨kept0, hfound, rfl⟩ | ⟨_, _, rfl | ⟨x', r1, hfe, rfl⟩⟩
    · simp only [placedList, List.mem_append] at hp ⊢
      exact hp.imp_right (findEarlierGo_placed lh inCol xs kept0 r hfound false p)
    · simp only [placedList, List.mem_append, List.append_nil] at hp ⊢
      exact .inl hp
    · simp only [placedList, List.mem_append, List.append_nil, placedLines_cutEnd] at hp ⊢
      exact .inl (findEarlierFrag_placed lh inCol x x' r1 hfe _ p hp)
theorem findEarlierFrag_placed (lh : Nat → Rat) (inCol : Bool) : (x : CFrag) → ∀ (x' : CFrag) (r : Resume),
    findEarlierFrag inCol x = some (x', r) →
    ∀ pie, ∀ p ∈ placedLines lh x' pie, p ∈ placedLines lh x pie
  | .para id idx st n g lines => by
    intro x' r h
    simp only [findEarlierFrag] at h
    obtain ⟨m, rfl⟩ := findEarlierPara_take id idx st n g lines x' r h
    exact fun pie => paraPlaced_take _ _ _ _ _
  | .block id idx st g kids => by
    intro x' r h
    simp only [findEarlierFrag] at h
    split at h
    · rename_i kids' r0 hfound
      simp only [Option.some.injEq, Prod.mk.injEq] at h
      obtain ⟨rfl, rfl⟩ := h
      intro pie
      simp only [placedLines]
      exact findEarlierGo_placed lh inCol kids kids' r0 hfound pie
    · cases h
  | .cols _ _ _ _ _ | .column _ _ _ _ _ => by
    intro x' r h
    simp [findEarlierFrag] at h
end

mutual
theorem findEarlierGo_true (lh : Nat → Rat) (inCol : Bool) : (fs : List CFrag) →
    ∀ (kept : List CFrag) (r : Resume), (findEarlierGo inCol fs).found = some (kept, r) →
    ∀ q e, ∀ p ∈ trueList lh kept q e, p ∈ trueList lh fs q e
  | [] => by
    intro kept r h
    simp [findEarlierGo] at h
  | x :: xs => by
    intro kept r h q e p hp
    rcases findEarlierGo_cons_found inCol x xs kept r h with
      ⟨kept0, hfound, rfl⟩ | ⟨_, hcol, rfl | ⟨x', r1, hfe, rfl⟩⟩
    · simp only [trueList, List.mem_append] at hp ⊢
      exact hp.imp_right (findEarlierGo_true lh inCol xs kept0 r hfound _ _ p)
    · simp only [trueList, List.mem_append, List.append_nil] at hp ⊢
      exact .inl hp
    · obtain ⟨hx', hsub⟩ := findEarlierFrag_true lh inCol x x' r1 hfe
      simp only [trueList, List.mem_append, List.append_nil, isColumn_cutEnd, hx', hcol, trueLines_cutEnd] at hp ⊢
      exact .inl (hsub _ p hp)
theorem findEarlierFrag_true (lh : Nat → Rat) (inCol : Bool) : (x : CFrag) → ∀ (x' : CFrag) (r : Resume),
    findEarlierFrag inCol x = some (x', r) →
    x'.isColumn = false ∧ ∀ pie, ∀ p ∈ trueLines lh x' pie, p ∈ trueLines lh x pie
  | .para id idx st n g lines => by
    intro x' r h
    simp only [findEarlierFrag] at h
    obtain ⟨m, rfl⟩ := findEarlierPara_take id idx st n g lines x' r h
    exact ⟨rfl, fun pie => paraPlaced_take _ _ _ _ _⟩
  | .block id idx st g kids => by
    intro x' r h
    simp only [findEarlierFrag] at h
    split at h
    · rename_i kids' r0 hfound
      simp only [Option.some.injEq, Prod.mk.injEq] at h
      obtain ⟨rfl, rfl⟩ := h
      refine ⟨rfl, fun pie => ?_⟩
      simp only [trueLines]
      exact findEarlierGo_true lh inCol kids kids' r0 hfound pie pie
    · cases h
  | .cols _ _ _ _ _ | .column _ _ _ _ _ => by
    intro x' r h
    simp [findEarlierFrag] at h
end

theorem findEarlierList_true (lh : Nat → Rat) (inCol : Bool) (fs kept : List CFrag) (r : Resume)
    (h : findEarlierList inCol fs = some (kept, r)) :
    ∀ q e, ∀ p ∈ trueList lh kept q e, p ∈ trueList lh fs q e :=
  findEarlierGo_true lh inCol fs _ _ h

/-! ### used geometry of a returned fragment -/

/-- The frame of the used geometry, as in stage 1 (`PM.finishTail_geo_box`): the box at `tailY`, without its bottom
decorations when it is fragmented and they are not cloned. -/
theorem finishTailC_geo_box (isCol : Bool) (c : CCtx) (st : PStyle) (b : BoxSt) (bs : Rat)
    (cwc dbd : Bool) (resume : Option Resume) (posY : Rat) (adjL cur : List Rat) (curIsL hasKids : Bool) :
    ∃ h, (finishTailC isCol c st b bs cwc dbd resume posY adjL cur curIsL hasKids).geo =
      geoOf (if !st.clone && resume.isSome then { b with y := tailY b cwc adjL, mb := 0, pb := 0, bb := 0 }
        else { b with y := tailY b cwc adjL }) h := by
  unfold finishTailC
  rw [tailY_box]
  extract_lets fragmented b1
  -- the two tuples of the margin bookkeeping do not reach the frame
  split
  split
  exact ⟨_, rfl⟩

theorem finishTailC_pb_bb (isCol : Bool) (c : CCtx) (st : PStyle) (b : BoxSt) (bs : Rat)
    (cwc dbd : Bool) (resume : Option Resume) (posY : Rat) (adjL cur : List Rat) (curIsL hasKids : Bool) :
    let g := (finishTailC isCol c st b bs cwc dbd resume posY adjL cur curIsL hasKids).geo
    (g.pb = b.pb ∧ g.bb = b.bb) ∨ (g.pb = 0 ∧ g.bb = 0) := by
  obtain ⟨h, hg⟩ := finishTailC_geo_box isCol c st b bs cwc dbd resume posY adjL cur curIsL hasKids
  rw [hg]
  split
  · exact .inr ⟨rfl, rfl⟩
  · exact .inl ⟨rfl, rfl⟩

/-- A column box is prepared like a stage-1 box that counts as a root: it establishes a formatting context, so it
does not collapse with its children. -/
theorem prepareC_eq (isCol : Bool) (c : Ctx) (st : PStyle) (y bs : Rat) (skip : Option Resume) (cb pie : Bool)
    (adjL : List Rat) :
    prepareC isCol c st y bs skip cb pie adjL =
      prepare c { st with isRoot := st.isRoot || isCol } y bs skip cb pie adjL := by
  unfold prepareC prepare
  simp only [Bool.or_assoc]

@[simp] theorem prepareC_pb (isCol : Bool) (c : Ctx) (st : PStyle) (y bs : Rat) (skip : Option Resume) (cb pie : Bool)
    (adjL : List Rat) : (prepareC isCol c st y bs skip cb pie adjL).b.pb = st.pb := by
  rw [prepareC_eq]; exact prepare_pb ..

@[simp] theorem prepareC_bb (isCol : Bool) (c : Ctx) (st : PStyle) (y bs : Rat) (skip : Option Resume) (cb pie : Bool)
    (adjL : List Rat) : (prepareC isCol c st y bs skip cb pie adjL).b.bb = st.bb := by
  rw [prepareC_eq]; exact prepare_bb ..

theorem prepareC_bs_le (isCol : Bool) (c : Ctx) (st : PStyle) (y bs : Rat) (skip : Option Resume) (cb pie : Bool)
    (adjL : List Rat) (h : st.DecoOk) : bs ≤ (prepareC isCol c st y bs skip cb pie adjL).bs := by
  rw [prepareC_eq]
  exact prepare_bs_le c _ y bs skip cb pie adjL h

/-! ### hypotheses: decorations not negative, line heights as in the source -/

mutual
/-- `PStyle.DecoOk` (stage 1) in every paragraph and block; for a container only `padding-bottom + border-bottom ≥ 0`
(CSS has no negative paddings or borders).  Nothing is asked of the container's `margin-bottom`: `block_box_layout`
lays a finished container out a second time only with a *larger* bottom space (`columns_bottom_space > 0`). -/
def DecoOk : ColBox → Prop
  | .para _ _ _ st => st.DecoOk
  | .block _ st kids => st.DecoOk ∧ DecoOkList kids
  | .columns _ st _ _ kids => 0 ≤ st.pb + st.bb ∧ DecoOkList kids
def DecoOkList : List ColBox → Prop
  | [] => True
  | b :: bs => DecoOk b ∧ DecoOkList bs
end

mutual
/-- `lh` gives every paragraph of the subtree its line height. -/
def LhOk (lh : Nat → Rat) : ColBox → Prop
  | .para id _ lineH _ => lh id = lineH
  | .block _ _ kids => LhOkList lh kids
  | .columns _ _ _ _ kids => LhOkList lh kids
def LhOkList (lh : Nat → Rat) : List ColBox → Prop
  | [] => True
  | b :: bs => LhOk lh b ∧ LhOkList lh bs
end

theorem DecoOk.pbbb : (box : ColBox) → DecoOk box → 0 ≤ box.st.pb + box.st.bb
  | .para _ _ _ _ => by intro h; unfold DecoOk at h; exact h.1
  | .block _ _ _ => by intro h; unfold DecoOk at h; exact h.1.1
  | .columns _ _ _ _ _ => by intro h; unfold DecoOk at h; exact h.1

/-! ### the children loop -/

def KidsOutcome.children : KidsOutcome → List CFrag
  | .finished s => s.newChildren
  | .aborted _ s => s.newChildren
  | .stopped _ s => s.newChildren
  | .raised _ => []

/-- An invariant of the list of children through the loop of `block_container_layout`: it is kept by
`find_earlier_page_break` and by appending the fragment of a `block_level_layout` call on a child with a bottom
space at least the loop's (`hgeo`: the second layout of a child only ever gets a larger bottom space). -/
theorem layoutKids_inv (c : CCtx) (st : PStyle) (bs : Rat) (pie : Bool) (I : List CFrag → Prop) (h0 : I [])
    (hearlier : ∀ l kept r, findEarlierList c.inColumn l = some (kept, r) → I l → I kept) :
    (rest : List ColBox) →
    (∀ child ∈ rest, ∀ idx y sk cb pie' adj f1, (layoutBox c child idx y bs sk cb pie' adj).frag = some f1 →
      0 ≤ f1.geo.pb + f1.geo.bb) →
    (∀ child ∈ rest, ∀ l idx y bs' sk cb adj f, bs ≤ bs' → I l →
      (layoutBox c child idx y bs' sk cb (pie && l.isEmpty) adj).frag = some f → I (l ++ [f.withIdx idx])) →
    ∀ (flags : List Bool) (index skipIdx base : Nat) (s : KidsLoop), I s.newChildren →
      I (layoutKids c st rest flags index skipIdx base bs pie s).children
  | [], _, _, flags, index, skipIdx, base, s, hs => by simpa [layoutKids, KidsOutcome.children] using hs
  | child :: rest, hgeo, hchild, flags, index, skipIdx, base, s, hs => by
    have ih := layoutKids_inv c st bs pie I h0 hearlier rest (fun b hb => hgeo b (List.mem_cons_of_mem _ hb))
      (fun b hb => hchild b (List.mem_cons_of_mem _ hb)) flags.tail (index + 1) skipIdx base
    by_cases hc : index < skipIdx
    · rw [layoutKids, if_pos hc]
      exact ih s hs
    · by_cases hfl : flags.head? = some true
      · rw [layoutKids, if_neg hc, if_pos hfl]
        exact hs
      · rw [layoutKids_cons hc hfl]
        split
        · exact hs
        · split
          · exact h0
          · rename_i frag r s2 hk
            obtain ⟨bs', adj, hr, hbs, hfr, hnc, _⟩ := kidResult_spec _ _ _ _ _ _ _ _ _ _ hk
            rw [← hnc] at hs
            cases frag with
            | none =>
              obtain ⟨out, heq, hout⟩ :=
                concludeKid_none c (index - base) pie (meetBreak c s child).1 child s2 r.resume
              rw [heq]
              rcases hout with ⟨kept, r', hfound, rfl⟩ | ⟨page, rfl⟩ | ⟨_, rfl⟩
              · exact hearlier _ _ _ hfound hs
              · exact hs
              · exact hs
            | some f =>
              have hle : bs ≤ bs' := by
                rcases hbs with rfl | ⟨f1, hf1, rfl⟩
                · exact Rat.le_refl
                · have := hgeo child (by simp) _ _ _ _ _ _ f1 hf1
                  grind
              have hnew : I (s2.newChildren ++ [f.withIdx (index - base)]) := by
                rcases hfr with h | h
                · cases h
                · rw [hr] at h
                  rw [hnc] at hs ⊢
                  exact hchild child (by simp) _ _ _ bs' _ _ adj f hle hs h.symm
              rw [concludeKid_some]
              cases r.resume with
              | none => exact ih _ hnew
              | some r' => exact hnew

theorem finishBlock_frag (isCol : Bool) (c : CCtx) (st : PStyle) (p : Prep) (pie : Bool) (out : KidsOutcome)
    (mk : Geo → List CFrag → CFrag) (f : CFrag) (h : (finishBlock isCol c st p pie out mk).frag = some f) :
    ∃ g, f = mk g out.children ∧ ((g.pb = p.b.pb ∧ g.bb = p.b.bb) ∨ (g.pb = 0 ∧ g.bb = 0)) := by
  cases out with
  | raised e => simp [finishBlock, raisedResult] at h
  | aborted page s => simp [finishBlock, noneResult] at h
  | stopped resume s =>
    simp only [finishBlock] at h
    have := (finishContainer_geo h).1
    exact ⟨_, this, finishTailC_pb_bb _ _ _ _ _ _ _ _ _ _ _ _ _⟩
  | finished s =>
    simp only [finishBlock] at h
    have := (finishContainer_geo h).1
    exact ⟨_, this, finishTailC_pb_bb _ _ _ _ _ _ _ _ _ _ _ _ _⟩

theorem finishPara_frag' (c : CCtx) (st : PStyle) (p : Prep) (pie : Bool) (id idx n : Nat) (R : LineResult)
    (f : CFrag) (h : (finishPara c st p pie id idx n R).frag = some f) :
    ∃ g, f = .para id idx st n g R.lines ∧ ((g.pb = p.b.pb ∧ g.bb = p.b.bb) ∨ (g.pb = 0 ∧ g.bb = 0)) := by
  unfold finishPara at h
  dsimp only at h
  split at h
  · simp [noneResult] at h
  · have := (finishContainer_geo h).1
    refine ⟨_, this, ?_⟩
    have := finishTailC_pb_bb false c st { p.b with mt := R.mt } p.bs p.cwc (p.dbd || R.resume.isNone)
      (if R.stop = true then forgetIfFixed st { p.b with mt := R.mt } R.posY R.resume else none) R.posY p.adjL [] false
      (!R.lines.isEmpty)
    simpa using this

/-! ### `columns_layout` -/

theorem realLoop_bs (env : ColEnv) (c : CCtx) (a : Nat) (y : Rat) (cs : ColSpec) (opie hd : Bool) (obs : Rat) :
    ∀ (fuel i : Nat) (s : RealOut), obs ≤ s.bs → obs ≤ (realLoop env c a y cs opie hd obs fuel i s).bs := by
  intro fuel i s h
  fun_induction realLoop env c a y cs opie hd obs fuel i s
  case case4 => exact Rat.le_refl
  case case6 ih => exact ih h
  all_goals exact h

/-- An invariant of the list of real columns of a group: kept when the fragment of a column box, laid out with
the bottom space and the `page_is_empty` of the loop, is appended. -/
theorem realLoop_inv (env : ColEnv) (c : CCtx) (a : Nat) (y : Rat) (cs : ColSpec) (opie hd : Bool) (obs bsIn : Rat)
    (I : List CFrag → Prop) (h0 : I [])
    (hcol : ∀ l x σ f, I l → (env.layCol c a x y bsIn σ opie).frag = some f → I (l ++ [f])) :
    ∀ (fuel i : Nat) (s : RealOut), s.bs = bsIn → I s.columns →
      I (realLoop env c a y cs opie hd obs fuel i s).columns := by
  intro fuel i s hb h
  fun_induction realLoop env c a y cs opie hd obs fuel i s <;> subst hb
  case case3 => exact h0
  case case4 f hf _ _ => exact hcol _ _ _ f h hf
  case case5 f hf _ _ _ => exact hcol _ _ _ f h hf
  case case6 f hf _ _ _ ih => exact ih rfl (hcol _ _ _ f h hf)
  all_goals exact h

/-- An invariant `I page_is_empty children` of the loop over `columns_and_blocks`: it is kept when the fragment of
a spanning child, laid out with the original bottom space, is appended, and when the real columns of a group are
(their bottom space is at least the original one); after either, `page_is_empty` is false. -/
theorem colsLoop_inv (env : ColEnv) (c : CCtx) (cs : ColSpec) (hd : Bool) (obs : Rat) (last fuel : Nat)
    (I : Bool → List CFrag → Prop)
    (hspan : ∀ pie l i y sk adj f, I pie l → (env.laySpan c i y obs sk pie adj).frag = some f → I false (l ++ [f]))
    (hgroup : ∀ pie l a y (s0 : RealOut), I pie l → s0.columns = [] → obs ≤ s0.bs →
      I false (l ++ (realLoop env c a y cs pie hd obs fuel 0 s0).columns.map
        (setColHeight (realLoop env c a y cs pie hd obs fuel 0 s0).maxColH))) :
    ∀ (items : List ColItem) (s : ColsState), obs ≤ s.bs → I s.pie s.newChildren →
      ∃ pie', I pie' (colsLoop env c cs hd obs last fuel items s).newChildren := by
  intro items s hbs hI
  fun_induction colsLoop env c cs hd obs last fuel items s
  case case4 f hf _ _ => exact ⟨_, hspan _ _ _ _ _ _ f hI hf⟩
  case case5 f hf _ _ ih => exact ih hbs (hspan _ _ _ _ _ _ f hI hf)
  case case8 => exact ⟨_, hgroup _ _ _ _ _ hI rfl (Rat.le_trans hbs (Rat.le_ite_gt _ _).2)⟩
  case case9 bs _ _ _ _ ih =>
    have hle : obs ≤ bs := Rat.le_trans hbs (Rat.le_ite_gt _ _).2
    exact ih (realLoop_bs env c _ _ cs _ hd obs fuel 0 _ hle) (hgroup _ _ _ _ _ hI rfl hle)
  all_goals exact ⟨_, hI⟩

theorem colsFinish_frag (id idx : Nat) (st : PStyle) (nkids : Nat) (mt y contentY : Rat) (adjL : List Rat)
    (s : ColsState) (f : CFrag) (h : (colsFinish id idx st nkids mt y contentY adjL s).frag = some f) :
    ∃ g diff, f = .cols id idx st g (addTrailing diff s.newChildren).1 ∧ g.mb = st.mb ∧ g.pb = st.pb ∧ g.bb = st.bb := by
  revert h
  fun_cases colsFinish id idx st nkids mt y contentY adjL s <;> intro h <;> cases h
  exact ⟨_, _, rfl, rfl, rfl, rfl⟩

/-- The children of the fragment returned by `columns_layout` satisfy every invariant of its loop that holds of
the empty list (the trailing columns are stretched afterwards). -/
theorem columnsLayout_inv (env : ColEnv) (c : CCtx) (id idx : Nat) (st : PStyle) (cs : ColSpec) (flags : List Bool)
    (nkids fuel : Nat) (mt y0 bs0 : Rat) (skip : Option Resume) (pie : Bool) (adjL : List Rat)
    (I : Bool → List CFrag → Prop)
    (hspan : ∀ p l i y sk adj f, I p l →
      (env.laySpan { c with inColumn := true } i y bs0 sk p adj).frag = some f → I false (l ++ [f]))
    (hgroup : ∀ p l a y (s0 : RealOut), I p l → s0.columns = [] → bs0 ≤ s0.bs →
      I false (l ++ (realLoop env { c with inColumn := true } a y cs p st.height.isSome bs0 fuel 0 s0).columns.map
        (setColHeight (realLoop env { c with inColumn := true } a y cs p st.height.isSome bs0 fuel 0 s0).maxColH)))
    (h0 : I pie []) (f : CFrag)
    (h : (columnsLayout env c id idx st cs flags nkids fuel mt y0 bs0 skip pie adjL).frag = some f) :
    ∃ p l g diff, f = .cols id idx st g (addTrailing diff l).1 ∧ I p l ∧ g.mb = st.mb ∧ g.pb = st.pb ∧
      g.bb = st.bb := by
  unfold columnsLayout at h
  split at h
  · simp [raisedResult] at h
  · dsimp only at h
    obtain ⟨g, diff, rfl, h1, h2, h3⟩ := colsFinish_frag _ _ _ _ _ _ _ _ _ _ h
    have hbs : ∀ cy, bs0 ≤ (colsInit nkids cy (match st.height with
        | some h => if c.pageBottom - cy - h > bs0 then c.pageBottom - cy - h else bs0
        | none => bs0) skip pie).bs := by
      intro cy
      simp only [colsInit]
      split
      · exact (Rat.le_ite_gt _ _).2
      · exact Rat.le_refl
    obtain ⟨p, hI⟩ := colsLoop_inv env _ cs _ bs0 _ fuel I hspan hgroup _ _ (hbs _) h0
    exact ⟨p, _, g, diff, rfl, hI, h1, h2, h3⟩

/-- `block_level_layout` of a multi-column container returns a container fragment. -/
theorem layoutBox_columns_frag (c : CCtx) (id : Nat) (st : PStyle) (cs : ColSpec) (flags : List Bool)
    (kids : List ColBox) (idx : Nat) (y bs : Rat) (skip : Option Resume) (cb pie : Bool) (adjL : List Rat) (f : CFrag)
    (hf : (layoutBox c (.columns id st cs flags kids) idx y bs skip cb pie adjL).frag = some f) :
    ∃ g l, f = .cols id idx st g l := by
  rw [layoutBox_columns] at hf
  obtain ⟨mt, bs', _, heq⟩ := columnsBoxLayout_frag hf
  rw [heq] at hf
  obtain ⟨_, l, g, diff, rfl, _⟩ := columnsLayout_inv _ c id idx st cs flags kids.length (sizeKids kids + 1) mt y bs'
    skip pie adjL (fun _ _ => True) (fun _ _ _ _ _ _ _ _ _ => trivial) (fun _ _ _ _ _ _ _ _ => trivial) trivial f hf
  exact ⟨g, _, rfl⟩

theorem columnStyle_decoOk (st : PStyle) : (columnStyle st).DecoOk := by
  constructor
  · simp only [columnStyle]; decide +kernel
  · intro h; simp [columnStyle] at h

/-! ### every layout of a box: the induction -/

/-- Every line of a layout of `box` fits above `pageBottom − bs`, except the first line of content placed while the
page was empty (`trueLines`); the bottom padding and border of the returned fragment are those of the box, or 0. -/
def BoxFits (lh : Nat → Rat) (box : ColBox) : Prop :=
  ∀ (c : CCtx) (idx : Nat) (y bs : Rat) (skip : Option Resume) (cb pie : Bool) (adjL : List Rat) (f : CFrag),
    (layoutBox c box idx y bs skip cb pie adjL).frag = some f →
    LinesOk c bs (trueLines lh f pie) ∧
      ((f.geo.pb = box.st.pb ∧ f.geo.bb = box.st.bb) ∨ (f.geo.pb = 0 ∧ f.geo.bb = 0))

theorem BoxFits.deco_nonneg {lh : Nat → Rat} {box : ColBox} (h : BoxFits lh box) (hd : 0 ≤ box.st.pb + box.st.bb)
    (c : CCtx) (idx : Nat) (y bs : Rat) (skip : Option Resume) (cb pie : Bool) (adjL : List Rat) (f : CFrag)
    (hf : (layoutBox c box idx y bs skip cb pie adjL).frag = some f) : 0 ≤ f.geo.pb + f.geo.bb :=
  Geo.deco_nonneg (h c idx y bs skip cb pie adjL f hf).2 hd

/-- The children loop (of a block, or of a column box) places lines that fit. -/
theorem kids_fits (lh : Nat → Rat) (rest : List ColBox) (hk : ∀ b ∈ rest, 0 ≤ b.st.pb + b.st.bb ∧ BoxFits lh b)
    (c : CCtx) (st : PStyle) (flags : List Bool) (index skipIdx base : Nat) (bs : Rat) (pie : Bool) (s : KidsLoop)
    (hs : LinesOk c bs (trueList lh s.newChildren pie pie)) :
    LinesOk c bs (trueList lh (layoutKids c st rest flags index skipIdx base bs pie s).children pie pie) := by
  refine layoutKids_inv c st bs pie (fun l => LinesOk c bs (trueList lh l pie pie)) (linesOk_nil c bs) ?_ rest ?_ ?_
    flags index skipIdx base s hs
  · intro l kept r hfound hl
    exact linesOk_sub c bs _ _ (findEarlierList_true lh _ _ _ _ hfound pie pie) hl
  · intro child hc idx y sk cb pie' adj f1 hf1
    exact (hk child hc).2.deco_nonneg (hk child hc).1 c idx y bs sk cb pie' adj f1 hf1
  · intro child hc l idx y bs' sk cb adj f hle hl hf
    refine linesOk_trueList_snoc lh c bs l _ (pie && l.isEmpty) pie pie hl ?_ (fun h => ?_)
    · rw [trueLines_withIdx]
      exact linesOk_mono c bs bs' _ hle ((hk child hc).2 c idx y bs' sk cb _ adj f hf).1
    · simp only [Bool.and_eq_true, List.isEmpty_iff] at h
      exact ⟨h.2, h.1, h.1⟩

theorem layoutNth_frag (c : CCtx) : (kids : List ColBox) → ∀ (i : Nat) (y bs : Rat) (skip : Option Resume)
    (cb pie : Bool) (adjL : List Rat) (f : CFrag), (layoutNth c kids i y bs skip cb pie adjL).frag = some f →
    ∃ b ∈ kids, (layoutBox c b 0 y bs skip cb pie adjL).frag = some f
  | [], i, y, bs, skip, cb, pie, adjL, f, hf => by simp [layoutNth, raisedResult] at hf
  | b :: rest, 0, y, bs, skip, cb, pie, adjL, f, hf => by
    simp only [layoutNth] at hf
    exact ⟨b, by simp, hf⟩
  | b :: rest, i + 1, y, bs, skip, cb, pie, adjL, f, hf => by
    simp only [layoutNth] at hf
    obtain ⟨b', hb', h⟩ := layoutNth_frag c rest i y bs skip cb pie adjL f hf
    exact ⟨b', List.mem_cons_of_mem _ hb', h⟩

/-- A column box of a container: its lines fit under the `page_is_empty` it was given. -/
theorem boxEnv_col (lh : Nat → Rat) (id : Nat) (st : PStyle) (flags : List Bool) (kids : List ColBox) (cb : Bool)
    (hk : ∀ b ∈ kids, 0 ≤ b.st.pb + b.st.bb ∧ BoxFits lh b) (c : CCtx) (a : Nat) (x y bs : Rat) (σ : Option Resume)
    (pie : Bool) (f : CFrag) (hf : ((boxEnv id st flags kids cb).layCol c a x y bs σ pie).frag = some f) :
    f.isColumn = true ∧ LinesOk c bs (trueLines lh f pie) := by
  dsimp only [boxEnv] at hf
  obtain ⟨g, rfl, _⟩ := finishBlock_frag _ _ _ _ _ _ _ _ hf
  refine ⟨rfl, ?_⟩
  simp only [trueLines]
  apply linesOk_mono c bs _ _
    (prepareC_bs_le true c.base (columnStyle st) y bs σ false pie [] (columnStyle_decoOk st))
  exact kids_fits lh kids hk c (columnStyle st) _ 0 _ a _ pie _ (linesOk_nil c _)

/-- The real columns of a group are column boxes whose lines fit above the bottom space they were given, under the
`page_is_empty` of the group. -/
theorem realLoop_fits (lh : Nat → Rat) (id : Nat) (st : PStyle) (flags : List Bool) (kids : List ColBox) (cb : Bool)
    (hk : ∀ b ∈ kids, 0 ≤ b.st.pb + b.st.bb ∧ BoxFits lh b) (c : CCtx) (a : Nat) (y : Rat) (cs : ColSpec)
    (opie hd : Bool) (obs : Rat) (fuel : Nat) (s : RealOut) (hs : s.columns = []) :
    ∀ f ∈ (realLoop (boxEnv id st flags kids cb) c a y cs opie hd obs fuel 0 s).columns,
      f.isColumn = true ∧ LinesOk c s.bs (trueLines lh f opie) := by
  refine realLoop_inv _ c a y cs opie hd obs s.bs
    (fun l => ∀ f ∈ l, f.isColumn = true ∧ LinesOk c s.bs (trueLines lh f opie))
    (fun f hf => nomatch hf) ?_ fuel 0 s rfl (by rw [hs]; exact fun f hf => nomatch hf)
  intro l x σ f0 hl hf0 f hf
  rcases List.mem_append.mp hf with h1 | h1
  · exact hl f h1
  · rw [List.mem_singleton.mp h1]
    exact boxEnv_col lh id st flags kids cb hk c a x y s.bs σ opie f0 hf0

/-- Every line of the fragment `columns_layout` returns for a container fits above the bottom space it was
given. -/
theorem columnsLayout_fits (lh : Nat → Rat) (id : Nat) (st : PStyle) (flags : List Bool) (kids : List ColBox)
    (cb : Bool) (hk : ∀ b ∈ kids, 0 ≤ b.st.pb + b.st.bb ∧ BoxFits lh b) (c : CCtx) (idx : Nat) (cs : ColSpec)
    (nkids fuel : Nat) (mt y0 bs0 : Rat) (skip : Option Resume) (pie : Bool) (adjL : List Rat) (f : CFrag)
    (h : (columnsLayout (boxEnv id st flags kids cb) c id idx st cs flags nkids fuel mt y0 bs0 skip pie adjL).frag
      = some f) :
    LinesOk c bs0 (trueLines lh f pie) ∧ f.geo.mb = st.mb ∧ f.geo.pb = st.pb ∧ f.geo.bb = st.bb := by
  -- while the loop's `page_is_empty` is true nothing has been placed and the container's own flag is true
  have key := columnsLayout_inv _ c id idx st cs flags nkids fuel mt y0 bs0 skip pie adjL
    (fun p l => (p = true → l = [] ∧ pie = true) ∧ LinesOk c bs0 (trueList lh l pie pie)) ?_ ?_
    ⟨fun h => ⟨rfl, h⟩, linesOk_nil _ _⟩ f h
  · obtain ⟨p, l, g, diff, rfl, hI, h1, h2, h3⟩ := key
    exact ⟨by simp only [trueLines, trueList_addTrailing]; exact hI.2, h1, h2, h3⟩
  · intro p l i y sk adj f hI hf
    obtain ⟨b, hb, hbf⟩ := layoutNth_frag _ kids i y bs0 sk cb p adj f hf
    refine ⟨fun h => (nomatch h), linesOk_trueList_snoc lh c bs0 l f p pie pie hI.2
      ((linesOk_inColumn c true bs0 _).mp ((hk b hb).2 _ 0 y bs0 sk cb p adj f hbf).1) (fun hp => ?_)⟩
    obtain ⟨h1, h2⟩ := hI.1 hp
    exact ⟨h1, h2, h2⟩
  · intro p l a y s0 hI hc hle
    refine ⟨fun h => (nomatch h), ?_⟩
    rw [trueList_append, linesOk_append, trueList_map_setColHeight]
    refine ⟨hI.2, linesOk_trueList_columns lh c bs0 p _ (fun hp => ?_) _ (fun f hf => ?_) _⟩
    · obtain ⟨h1, h2⟩ := hI.1 hp
      simp [h1, h2]
    · obtain ⟨h1, h2⟩ := realLoop_fits lh id st flags kids cb hk _ a y cs p _ bs0 fuel s0 hc f hf
      exact ⟨h1, linesOk_mono c bs0 s0.bs _ hle ((linesOk_inColumn c true s0.bs _).mp h2)⟩

mutual
/-- **Every line of a layout fits** above `pageBottom − bs`, except the first line of content placed while the page
was empty: the first line of the layout when it started on an empty page, and then the first line of each column
box of the leading group. -/
theorem box_fits (lh : Nat → Rat) : (box : ColBox) → DecoOk box → LhOk lh box → BoxFits lh box
  | .para id n lineH st => by
    intro hd hl c idx y bs skip cb pie adjL f hf
    unfold DecoOk at hd
    unfold LhOk at hl
    simp only [layoutBox] at hf
    obtain ⟨g, rfl, hg⟩ := finishPara_frag' _ _ _ _ _ _ _ _ _ hf
    constructor
    · simp only [trueLines, hl]
      apply linesOk_mono c bs _ _ (prepareC_bs_le false c.base st y bs skip cb pie adjL hd)
      apply lineboxLayout_placed
      simp only [prepareC_bb, prepareC_pb]
      have := hd.1
      grind
    · simpa [CFrag.geo, ColBox.st] using hg
  | .block id st kids => by
    intro hd hl c idx y bs skip cb pie adjL f hf
    unfold DecoOk at hd
    unfold LhOk at hl
    simp only [layoutBox] at hf
    obtain ⟨g, rfl, hg⟩ := finishBlock_frag _ _ _ _ _ _ _ _ hf
    constructor
    · simp only [trueLines]
      apply linesOk_mono c bs _ _ (prepareC_bs_le false c.base st y bs skip cb pie adjL hd.1)
      exact kids_fits lh kids (boxes_fits lh kids hd.2 hl) c st [] 0 (skipIdxOf skip) 0 _ pie _ (linesOk_nil c _)
    · simpa [CFrag.geo, ColBox.st] using hg
  | .columns id st cs flags kids => by
    intro hd hl c idx y bs skip cb pie adjL f hf
    unfold DecoOk at hd
    unfold LhOk at hl
    rw [layoutBox_columns] at hf
    obtain ⟨mt, bs', hle, heq⟩ := columnsBoxLayout_frag hf
    rw [heq] at hf
    have := columnsLayout_fits lh id st flags kids cb (boxes_fits lh kids hd.2 hl) c idx cs kids.length
      (sizeKids kids + 1) mt y bs' skip pie adjL f hf
    exact ⟨linesOk_mono c bs bs' _ hle this.1, Or.inl (by simpa [ColBox.st] using this.2.2)⟩
theorem boxes_fits (lh : Nat → Rat) : (kids : List ColBox) → DecoOkList kids → LhOkList lh kids →
    ∀ b ∈ kids, 0 ≤ b.st.pb + b.st.bb ∧ BoxFits lh b
  | [] => by intro _ _ b hb; simp at hb
  | x :: xs => by
    intro hd hl b hb
    unfold DecoOkList at hd
    unfold LhOkList at hl
    rcases List.mem_cons.mp hb with h | h
    · rw [h]; exact ⟨DecoOk.pbbb x hd.1, box_fits lh x hd.1 hl.1⟩
    · exact boxes_fits lh xs hd.2 hl.2 b h
end

mutual
/-- `placedLines` exempts at least what `trueLines` does: it takes `page_is_empty` to be true at the top of every
column box. -/
theorem placedLines_true (lh : Nat → Rat) : (f : CFrag) → ∀ (p q : Bool), (f.isColumn = false → q = true → p = true) →
    PieWeaker (placedLines lh f p) (trueLines lh f q)
  | .para id _ _ _ _ lines, p, q, h => by
    simp only [placedLines, trueLines]; exact paraPlaced_weaker p q (h rfl) _ _ _
  | .block _ _ _ _ kids, p, q, h | .cols _ _ _ _ kids, p, q, h => by
    simp only [placedLines, trueLines]; exact placedList_true lh kids p q q (h rfl)
  | .column _ _ _ _ kids, p, q, h => by
    simp only [placedLines, trueLines]; exact placedList_true lh kids true q q (fun _ => rfl)
theorem placedList_true (lh : Nat → Rat) : (fs : List CFrag) → ∀ (p q e : Bool), (e = true → p = true) →
    PieWeaker (placedList lh fs p) (trueList lh fs q e)
  | [], _, _, _, _ => PieWeaker.nil _
  | f :: rest, p, q, e, h => by
    simp only [placedList, trueList]
    refine PieWeaker.append (placedLines_true lh f _ _ ?_) (placedList_true lh rest _ _ _ (fun h => h))
    intro hc
    rw [hc]
    exact h
end

/-- Every placed line of a layout fits, except the first line of the first content when the layout started on an
empty page, and the first line of a column box. -/
theorem box_placed_fits (lh : Nat → Rat) (box : ColBox) (hd : DecoOk box) (hl : LhOk lh box) (c : CCtx) (idx : Nat)
    (y bs : Rat) (skip : Option Resume) (cb pie : Bool) (adjL : List Rat) (f : CFrag)
    (hf : (layoutBox c box idx y bs skip cb pie adjL).frag = some f) : LinesOk c bs (placedLines lh f pie) :=
  (placedLines_true lh f pie pie (fun _ h => h)).linesFit _ (box_fits lh box hd hl c idx y bs skip cb pie adjL f hf).1

end Wp.PMC
