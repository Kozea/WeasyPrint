/-
Well-formedness of a footnote document as the user states it (unique paragraph ids, calls on existing lines,
stage-1 `NoFixedHeight` / `WellFormed`) implies the bundled `FootOk` that the conservation proof uses; with calls
in line order, the footnotes of all lines are the calls in call order.
-/
import WpModel.Lemmas.FootConservePages

namespace Wp.PMF
open Wp Wp.PM

mutual
/-- Ids of the paragraphs of a subtree. -/
def paraIds : FootBox → List Nat
  | .para id _ _ _ _ => [id]
  | .block _ _ kids => paraIdsList kids
def paraIdsList : List FootBox → List Nat
  | [] => []
  | b :: bs => paraIds b ++ paraIdsList bs
end

/-- Paragraph ids are unique (what the harness guarantees: ids are a running counter). -/
def UniqueParaIds (b : FootBox) : Prop := (paraIds b).Nodup

mutual
/-- Every call is on an existing line and calls are written in line order. -/
def CallsOk : FootBox → Prop
  | .para _ n _ _ calls => (∀ c ∈ calls, c.line < n) ∧ calls.Pairwise (fun a b => a.line ≤ b.line)
  | .block _ _ kids => CallsOkList kids
def CallsOkList : List FootBox → Prop
  | [] => True
  | b :: bs => CallsOk b ∧ CallsOkList bs
end

mutual
theorem callTable_ids : (b : FootBox) → ∀ e ∈ callTable b, e.1 ∈ paraIds b
  | .para id _ _ _ calls => by
    intro e he
    simp only [callTable, List.mem_map] at he
    obtain ⟨c, _, rfl⟩ := he
    simp [paraIds]
  | .block _ _ kids => by
    intro e he
    simp only [callTable] at he
    simp only [paraIds]
    exact callTableList_ids kids e he
theorem callTableList_ids : (bs : List FootBox) → ∀ e ∈ callTableList bs, e.1 ∈ paraIdsList bs
  | [] => by intro e he; simp [callTableList] at he
  | b :: bs => by
    intro e he
    simp only [callTableList, List.mem_append] at he
    simp only [paraIdsList, List.mem_append]
    rcases he with h | h
    · exact Or.inl (callTable_ids b e h)
    · exact Or.inr (callTableList_ids bs e h)
end

theorem tblFns_single (tbl : List (Nat × Nat × Fn)) (id i : Nat) :
    tblFns tbl [(id, i)] = (tbl.filter (fun e => e.1 == id && e.2.1 == i)).map (fun e => e.2.2) := by
  simp [tblFns]

theorem tblFns_single_notin (tbl : List (Nat × Nat × Fn)) (id i : Nat) (h : ∀ e ∈ tbl, e.1 ≠ id) :
    tblFns tbl [(id, i)] = [] := by
  rw [tblFns_single]
  simp only [List.map_eq_nil_iff, List.filter_eq_nil_iff]
  intro e he
  simp [h e he]

theorem tblFns_single_append (a b : List (Nat × Nat × Fn)) (id i : Nat) :
    tblFns (a ++ b) [(id, i)] = tblFns a [(id, i)] ++ tblFns b [(id, i)] := by
  simp [tblFns_single, List.filter_append]

theorem tblFns_single_para (id n : Nat) (lineH : Rat) (st : PStyle) (calls : List Call) (i : Nat) :
    tblFns (callTable (.para id n lineH st calls)) [(id, i)] = lineFns st calls i := by
  rw [tblFns_single]
  simp only [callTable, lineFns]
  induction calls with
  | nil => rfl
  | cons c cs ih =>
    simp only [List.map_cons, List.filter_cons, beq_self_eq_true, Bool.true_and]
    split <;> simp [ih]

mutual
theorem footOk_of (pre post : List (Nat × Nat × Fn)) : (b : FootBox) → NoFixedHeight b.erase → WellFormed b.erase →
    CallsOk b → (paraIds b).Nodup → (∀ e ∈ pre ++ post, e.1 ∉ paraIds b) →
    FootOk (pre ++ callTable b ++ post) b
  | .para id n lineH st calls => by
    intro hN hW hC _ hctx
    simp only [FootBox.erase, NoFixedHeight] at hN
    simp only [FootBox.erase, WellFormed] at hW
    simp only [CallsOk] at hC
    simp only [FootOk]
    refine ⟨hN, hW.1, hW.2, fun c hc => hC.1 c hc, ?_⟩
    intro i
    rw [tblFns_single_append, tblFns_single_append, tblFns_single_para]
    have h1 : tblFns pre [(id, i)] = [] := by
      apply tblFns_single_notin
      intro e he heq
      exact hctx e (by simp [he]) (by simp [paraIds, heq])
    have h2 : tblFns post [(id, i)] = [] := by
      apply tblFns_single_notin
      intro e he heq
      exact hctx e (by simp [he]) (by simp [paraIds, heq])
    simp [h1, h2]
  | .block id st kids => by
    intro hN hW hC hU hctx
    simp only [FootBox.erase, NoFixedHeight] at hN
    simp only [FootBox.erase, WellFormed] at hW
    simp only [CallsOk] at hC
    simp only [paraIds] at hU hctx
    simp only [FootOk, callTable]
    exact ⟨hN.1, footOkList_of pre post kids hN.2 hW hC hU hctx⟩
theorem footOkList_of (pre post : List (Nat × Nat × Fn)) : (bs : List FootBox) → NoFixedHeightList (eraseList bs) →
    WellFormedList (eraseList bs) → CallsOkList bs → (paraIdsList bs).Nodup →
    (∀ e ∈ pre ++ post, e.1 ∉ paraIdsList bs) → FootOkList (pre ++ callTableList bs ++ post) bs
  | [] => by intro _ _ _ _ _; simp [FootOkList]
  | b :: bs => by
    intro hN hW hC hU hctx
    simp only [eraseList, NoFixedHeightList] at hN
    simp only [eraseList, WellFormedList] at hW
    simp only [CallsOkList] at hC
    simp only [paraIdsList] at hU hctx
    rw [List.nodup_append] at hU
    simp only [FootOkList, callTableList]
    constructor
    · have e1 : pre ++ (callTable b ++ callTableList bs) ++ post = pre ++ callTable b ++ (callTableList bs ++ post) := by
        simp
      rw [e1]
      apply footOk_of pre (callTableList bs ++ post) b hN.1 hW.1 hC.1 hU.1
      intro e he hin
      simp only [List.mem_append] at he
      rcases he with h | h | h
      · exact hctx e (by simp [h]) (by simp [hin])
      · exact hU.2.2 e.1 hin e.1 (callTableList_ids bs e h) rfl
      · exact hctx e (by simp [h]) (by simp [hin])
    · have e2 : pre ++ (callTable b ++ callTableList bs) ++ post = (pre ++ callTable b) ++ callTableList bs ++ post := by
        simp
      rw [e2]
      apply footOkList_of (pre ++ callTable b) post bs hN.2 hW.2 hC.2 hU.2.1
      intro e he hin
      simp only [List.mem_append] at he
      rcases he with (h | h) | h
      · exact hctx e (by simp [h]) (by simp [hin])
      · exact hU.2.2 e.1 (callTable_ids b e h) e.1 hin rfl
      · exact hctx e (by simp [h]) (by simp [hin])
end

/-- The bundled hypothesis of the conservation proof, from what a user can check on the document. -/
theorem footOk_root (b : FootBox) (hN : NoFixedHeight b.erase) (hW : WellFormed b.erase)
    (hC : CallsOk b) (hU : UniqueParaIds b) : FootOk (callTable b) b := by
  have := footOk_of [] [] b hN hW hC hU (by simp)
  simpa using this

/-! ### calls in line order -/

theorem sorted_split (calls : List Call) (a : Nat) (hs : calls.Pairwise (fun x y => x.line ≤ y.line))
    (hge : ∀ c ∈ calls, a ≤ c.line) :
    calls = calls.filter (fun c => c.line == a) ++ calls.filter (fun c => !(c.line == a)) := by
  induction calls with
  | nil => rfl
  | cons c cs ih =>
    rw [List.pairwise_cons] at hs
    by_cases hc : c.line = a
    · have := ih hs.2 (fun x hx => hge x (by simp [hx]))
      simp only [List.filter_cons, hc, beq_self_eq_true, ↓reduceIte, Bool.not_true, Bool.false_eq_true,
        List.cons_append]
      rw [← this]
    · have hgt : a < c.line := by
        have := hge c (by simp)
        omega
      have hnone : (c :: cs).filter (fun x => x.line == a) = [] := by
        rw [List.filter_eq_nil_iff]
        intro x hx
        simp only [List.mem_cons] at hx
        rcases hx with rfl | hx
        · simp [hc]
        · have := hs.1 x hx
          simp only [beq_iff_eq]
          omega
      have hall : (c :: cs).filter (fun x => !(x.line == a)) = c :: cs := by
        rw [List.filter_eq_self]
        intro x hx
        simp only [List.mem_cons] at hx
        rcases hx with rfl | hx
        · simp [hc]
        · have := hs.1 x hx
          simp only [Bool.not_eq_true', beq_eq_false_iff_ne, ne_eq]
          omega
      rw [hnone, hall, List.nil_append]

theorem idxFns_congr (st : PStyle) (c1 c2 : List Call) (is : List Nat)
    (h : ∀ i ∈ is, lineFns st c1 i = lineFns st c2 i) : idxFns st c1 is = idxFns st c2 is := by
  induction is with
  | nil => rfl
  | cons i is ih =>
    simp only [idxFns]
    rw [h i (by simp), ih (fun j hj => h j (by simp [hj]))]

theorem idxFns_sorted (st : PStyle) : ∀ (n a : Nat) (calls : List Call),
    calls.Pairwise (fun x y => x.line ≤ y.line) → (∀ c ∈ calls, a ≤ c.line ∧ c.line < a + n) →
    idxFns st calls (List.range' a n) = calls.map (mkFn st) := by
  intro n
  induction n with
  | zero =>
    intro a calls _ hr
    cases calls with
    | nil => rfl
    | cons c cs => have := hr c (by simp); omega
  | succ n ih =>
    intro a calls hs hr
    rw [List.range'_succ]
    simp only [idxFns]
    have hsplit := sorted_split calls a hs (fun c hc => (hr c hc).1)
    have h1 : lineFns st calls a = (calls.filter (fun c => c.line == a)).map (mkFn st) := rfl
    have h2 : idxFns st calls (List.range' (a + 1) n) =
        idxFns st (calls.filter (fun c => !(c.line == a))) (List.range' (a + 1) n) := by
      apply idxFns_congr
      intro i hi
      simp only [List.mem_range'_1] at hi
      simp only [lineFns, List.filter_filter]
      congr 1
      apply List.filter_congr
      intro c _
      by_cases hci : c.line = i
      · simp [hci]
        omega
      · simp [hci]
    rw [h1, h2, ih (a + 1) (calls.filter (fun c => !(c.line == a))) (hs.sublist List.filter_sublist) (by
      intro c hc
      simp only [List.mem_filter, Bool.not_eq_true', beq_eq_false_iff_ne, ne_eq] at hc
      have := hr c hc.1
      omega)]
    rw [← List.map_append, ← hsplit]

mutual
/-- With calls written in line order, the footnotes of the lines of a subtree, in line order, are its calls in
call order. -/
theorem tblFns_all (tbl : List (Nat × Nat × Fn)) : (b : FootBox) → FootOk tbl b → CallsOk b →
    tblFns tbl (linesFrom b.erase none) = boxFns b
  | .para id n lineH st calls => by
    intro hok hC
    simp only [FootOk] at hok
    simp only [CallsOk] at hC
    simp only [FootBox.erase, boxFns]
    rw [linesFrom_para_none, tblFns_para tbl id st calls hok.2.2.2.2]
    exact idxFns_sorted st n 0 calls hC.2 (fun c hc => ⟨Nat.zero_le _, by simpa using hC.1 c hc⟩)
  | .block id st kids => by
    intro hok hC
    simp only [FootOk] at hok
    simp only [CallsOk] at hC
    simp only [FootBox.erase, boxFns, linesFrom, skipIdxOf_none, subSkipOf_none]
    exact tblFnsList_all tbl kids hok.2 hC
theorem tblFnsList_all (tbl : List (Nat × Nat × Fn)) : (bs : List FootBox) → FootOkList tbl bs → CallsOkList bs →
    tblFns tbl (linesFromKids (eraseList bs) 0 none) = boxFnsList bs
  | [] => by intro _ _; simp [eraseList, linesFromKids, tblFns, boxFnsList]
  | b :: bs => by
    intro hok hC
    simp only [FootOkList] at hok
    simp only [CallsOkList] at hC
    simp only [eraseList, linesFromKids, tblFns_append, boxFnsList]
    rw [tblFns_all tbl b hok.1 hC.1, tblFnsList_all tbl bs hok.2 hC.2]
end

end Wp.PMF
