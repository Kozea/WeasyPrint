/-
Which exceptions `Stream` can raise: `_ctm_stack` stays non-empty, so the only one is the assertion of an unmatched
`pop_state`.  Core Lean only.
-/
import WpModel.Lemmas.PdfStream
namespace Wp.Pdf

theorem stepS_error (r : Res) (s : SState) (c : Call) (e : PyErr) (hne : s.ctm ≠ [])
    (h : stepS r s c = .error e) : e = .assertFailed "pop_state:_ctm_stack" ∧ c = .pop := by
  revert h
  fun_cases stepS r s c <;> intro h
  any_goals cases h
  · next hc => exact absurd hc hne
  · refine ⟨?_, rfl⟩
    revert h
    fun_cases popState s <;> intro h <;> cases h
    · next hc => exact absurd (popOps_ctm s ▸ hc) hne
    · rfl
  · next hc => exact absurd hc hne

theorem runS_error (calls : List Call) (r : Res) (s : SState) (e : PyErr) (hne : s.ctm ≠ [])
    (h : runS r s calls = .error e) : e = .assertFailed "pop_state:_ctm_stack" := by
  fun_induction runS r s calls with
  | case1 => cases h
  | case2 r s c cs s' r' hs ih => exact ih ((stepS_kept hs).ctm_ne hne) h
  | case3 r s c cs e' hs => cases h; exact (stepS_error r s c e hne hs).1

end Wp.Pdf
