/-
From `layoutBoxF` to pages of the footnote model: what `remakePageF` / `makeAllPagesF` do to the lines.
-/
import WpModel.Lemmas.SegmentPages
import WpModel.Lemmas.FootSegment
import WpModel.Lemmas.FootPagesRun

namespace Wp.PMF
open Wp Wp.PM

theorem erase_emptyRootF (b : FootBox) : (emptyRootF b).erase = emptyRoot b.erase := by
  cases b <;> simp [emptyRootF, FootBox.erase, emptyRoot, eraseList]

/-- `remake_page` read off its definition: the page comes from the layout of the root box (emptied for a blank page)
in the state `pageStart`. -/
theorem remakePageF_some (d : FDoc) (index : Nat) (resume : Option Resume) (np : NextPage) (right : Bool)
    (pending reported : List Fn) (p : FPage) (hp : remakePageF d index resume np right pending reported = some p) :
    ∃ R f, R = layoutBoxF (pageCtxOf d index resume np right reported)
        (if isBlankF d resume np right reported then emptyRootF d.root else d.root) 0 0 0 resume false true []
        (pageStart d (pageCtxOf d index resume np right reported) pending reported) ∧
      R.r.frag = some f ∧
      p = { page := { type := { right := right, blank := isBlankF d resume np right reported,
                                name := pageNameF d resume np right reported, index := index },
                      root := f, resume := if isBlankF d resume np right reported then resume else R.r.resume,
                      nextPage := if isBlankF d resume np right reported then np else R.r.nextPage },
            area := areaOut (pageCtxOf d index resume np right reported).area d.pageH R.fs.cur, cur := R.fs.cur,
            pending := R.fs.pending, reported := R.fs.reported } := by
  unfold remakePageF at hp
  dsimp only at hp
  split at hp
  · cases hp
  · rename_i f hfrag
    exact ⟨_, f, rfl, hfrag, (Option.some.inj hp).symm⟩

/-- Blank pages keep the resume position; pages with content are a layout of the root box. -/
theorem remakePageF_spec (d : FDoc) (index : Nat) (resume : Option Resume) (np : NextPage) (right : Bool)
    (pending reported : List Fn) (p : FPage) (hp : remakePageF d index resume np right pending reported = some p) :
    p.page.type.blank = isBlankF d resume np right reported ∧
    (p.page.type.blank = true → p.page.resume = resume ∧ p.page.nextPage = np ∧
      ∃ c fs, (layoutBoxF c (emptyRootF d.root) 0 0 0 resume false true [] fs).r.frag = some p.page.root) ∧
    (p.page.type.blank = false →
      ∃ c fs, (layoutBoxF c d.root 0 0 0 resume false true [] fs).r.frag = some p.page.root ∧
        p.page.resume = (layoutBoxF c d.root 0 0 0 resume false true [] fs).r.resume) := by
  obtain ⟨R, f, hR, hfrag, rfl⟩ := remakePageF_some d index resume np right pending reported p hp
  refine ⟨rfl, ?_, ?_⟩
  · intro hb
    have hb' : isBlankF d resume np right reported = true := hb
    rw [hR, hb', if_pos rfl] at hfrag
    exact ⟨if_pos hb', if_pos hb', _, _, hfrag⟩
  · intro hb
    have hb' : isBlankF d resume np right reported = false := hb
    have hR' := hR
    rw [hb', if_neg Bool.false_ne_true] at hR'
    refine ⟨_, _, by rw [← hR']; exact hfrag, ?_⟩
    show (if isBlankF d resume np right reported = true then resume else R.r.resume) = _
    rw [hb', if_neg Bool.false_ne_true, hR']

theorem remakePageF_lines (d : FDoc) (hg : Good d.root.erase) (index : Nat) (resume : Option Resume) (np : NextPage)
    (right : Bool) (pending reported : List Fn) (p : FPage)
    (hp : remakePageF d index resume np right pending reported = some p) :
    (p.page.type.blank = true → fragLines p.page.root = [] ∧ p.page.resume = resume ∧ p.page.nextPage = np) ∧
    (p.page.type.blank = false →
      fragLines p.page.root ++ restOut d.root.erase p.page.resume = linesFrom d.root.erase resume ∧
      ∀ r, p.page.resume = some r → pos d.root.erase resume < pos d.root.erase (some r)) := by
  obtain ⟨_, h1, h2⟩ := remakePageF_spec d index resume np right pending reported p hp
  constructor
  · intro hb
    obtain ⟨hr, hn, c, fs, hf⟩ := h1 hb
    refine ⟨?_, hr, hn⟩
    have hs := boxF_spec (emptyRootF d.root) (by rw [erase_emptyRootF]; exact good_emptyRoot _ hg)
      c 0 0 0 resume false true [] fs
    have := boxPost_lines _ _ _ _ _ hs hf
    rw [erase_emptyRootF, linesFrom_emptyRoot] at this
    exact (List.append_eq_nil_iff.mp this).1
  · intro hb
    obtain ⟨c, fs, hf, hr⟩ := h2 hb
    have hs := boxF_spec d.root hg c 0 0 0 resume false true [] fs
    rw [hr]
    refine ⟨boxPost_lines _ _ _ _ _ hs hf, ?_⟩
    intro r hr'
    rw [hr'] at hs
    exact boxPost_progress _ _ _ _ _ hs hf

def pagesLinesF : List FPage → List (Nat × Nat)
  | [] => []
  | p :: ps => fragLines p.page.root ++ pagesLinesF ps

/-- What is still to be shown when `make_all_pages` is about to make a page: `resume_at = None` means
"everything" on the first page and "nothing" once footnotes are the only thing left. -/
def remaining (d : FDoc) (resume : Option Resume) (reported : List Fn) : List (Nat × Nat) :=
  if resume = none ∧ reported ≠ [] then [] else linesFrom d.root.erase resume

/-- A page with content is made only while there are lines left. -/
theorem remaining_of_not_blank (d : FDoc) (resume : Option Resume) (np : NextPage) (right : Bool) (reported : List Fn)
    (hb : isBlankF d resume np right reported = false) : remaining d resume reported = linesFrom d.root.erase resume := by
  unfold remaining
  split
  · rename_i hc
    have : (!reported.isEmpty && resume.isNone) = true := by simp [hc.1, hc.2]
    simp [isBlankF, this] at hb
  · rfl

theorem page_remaining (d : FDoc) (hg : Good d.root.erase) (index : Nat) (resume : Option Resume) (np : NextPage)
    (right : Bool) (pending reported : List Fn) (p : FPage)
    (hstart : resume = none → reported = [] → isBlank (requestedSide d.rootLtr np.brk) right = false)
    (hp : remakePageF d index resume np right pending reported = some p) :
    (p.page.resume = none → p.reported = [] → fragLines p.page.root = remaining d resume reported) ∧
    (¬(p.page.resume = none ∧ p.reported = []) →
      fragLines p.page.root ++ remaining d p.page.resume p.reported = remaining d resume reported) := by
  obtain ⟨hbl, _, _⟩ := remakePageF_spec d index resume np right pending reported p hp
  obtain ⟨l1, l2⟩ := remakePageF_lines d hg index resume np right pending reported p hp
  cases hb : p.page.type.blank with
  | true =>
    obtain ⟨hl, hr, hn⟩ := l1 hb
    have hcase : resume ≠ none ∨ (resume = none ∧ reported ≠ []) := by
      by_cases he : resume = none
      · right
        refine ⟨he, fun hrep => ?_⟩
        have := hstart he hrep
        rw [hb] at hbl
        simp [isBlankF, this, hrep] at hbl
      · left; exact he
    constructor
    · intro h1 h2
      rcases hcase with hc | hc
      · rw [hr] at h1; exact absurd h1 hc
      · simp [hl, remaining, hc.1, hc.2]
    · intro hnl
      rw [hl, hr]
      rcases hcase with hc | hc
      · simp [remaining, hc]
      · have hrep : p.reported ≠ [] := by
          intro he; exact hnl ⟨by rw [hr]; exact hc.1, he⟩
        simp [remaining, hc.1, hc.2, hrep]
  | false =>
    obtain ⟨hl, _⟩ := l2 hb
    rw [remaining_of_not_blank d resume np right reported (hbl ▸ hb)]
    constructor
    · intro h1 _
      rw [h1] at hl
      simpa [restOut] using hl
    · intro hnl
      cases hres : p.page.resume with
      | none =>
        have hrep : p.reported ≠ [] := fun he => hnl ⟨hres, he⟩
        rw [hres] at hl
        simpa [remaining, hrep, restOut] using hl
      | some r =>
        rw [hres] at hl
        simpa [remaining, restOut] using hl

/-- Induction over the pages `make_all_pages` makes: the last page (nothing left, nothing postponed), or a page followed
by the pages made from what it hands over. -/
theorem makeAllPagesF_induct (d : FDoc)
    (motive : Nat → Option Resume → NextPage → Bool → List Fn → List Fn → List FPage → Prop)
    (last : ∀ index resume np right pending reported p,
      remakePageF d index resume np right pending reported = some p → p.page.resume = none → p.reported = [] →
      motive index resume np right pending reported [p])
    (more : ∀ index resume np right pending reported p ps,
      remakePageF d index resume np right pending reported = some p → ¬(p.page.resume = none ∧ p.reported = []) →
      motive (index + 1) p.page.resume p.page.nextPage (!right) p.pending p.reported ps →
      motive index resume np right pending reported (p :: ps))
    (fuel index : Nat) (resume : Option Resume) (np : NextPage) (right : Bool) (pending reported : List Fn)
    (pages : List FPage) (h : makeAllPagesF d fuel index resume np right pending reported = some pages) :
    motive index resume np right pending reported pages := by
  refine PageLoop.run_induct (fun s ps => motive s.1 s.2.1 s.2.2.1 s.2.2.2.1 s.2.2.2.2.1 s.2.2.2.2.2 ps) ?_ ?_ fuel _ pages
    (makeAllPagesF_eq_some.mp h)
  · intro ⟨i, r, n, b, pe, re⟩ p hs
    obtain ⟨hp, ho⟩ := PageLoop.stepOf_ok hs
    split at ho
    · rename_i hstop
      simp only [Bool.and_eq_true, Option.isNone_iff_eq_none, List.isEmpty_iff] at hstop
      exact last i r n b pe re p hp hstop.1 hstop.2
    · cases ho
  · intro ⟨i, r, n, b, pe, re⟩ p s' ps hs ih
    obtain ⟨hp, ho⟩ := PageLoop.stepOf_ok hs
    split at ho
    · cases ho
    · rename_i hcont
      simp only [Bool.and_eq_true, Option.isNone_iff_eq_none, List.isEmpty_iff] at hcont
      cases ho
      exact more i r n b pe re p ps hp hcont ih

theorem makeAllPagesF_ne_nil (d : FDoc) (fuel index : Nat) (resume : Option Resume) (np : NextPage) (right : Bool)
    (pending reported : List Fn) (pages : List FPage)
    (h : makeAllPagesF d fuel index resume np right pending reported = some pages) : pages ≠ [] :=
  PageLoop.run_ne_nil (makeAllPagesF_eq_some.mp h)

theorem makeAllPagesF_forall (d : FDoc) (I : List Fn → Prop) (Q : FPage → Prop)
    (hstep : ∀ index resume np right pending reported p, I reported →
      remakePageF d index resume np right pending reported = some p → Q p ∧ I p.reported)
    (fuel index : Nat) (resume : Option Resume) (np : NextPage) (right : Bool) (pending reported : List Fn)
    (pages : List FPage) (hI : I reported)
    (h : makeAllPagesF d fuel index resume np right pending reported = some pages) : ∀ p ∈ pages, Q p := by
  refine PageLoop.run_forall (step := pageStepF d) (fun s => I s.2.2.2.2.2) Q ?_
    fuel _ pages (makeAllPagesF_eq_some.mp h) hI
  intro s p o hI hs
  obtain ⟨hp, ho⟩ := PageLoop.stepOf_ok hs
  obtain ⟨hQ, hI'⟩ := hstep _ _ _ _ _ _ p hI hp
  exact ⟨hQ, fun s' hs' => Option.some.inj (Option.ite_none_left_eq_some.mp (ho.symm.trans hs')).2 ▸ hI'⟩

theorem makeAllPagesF_lines (d : FDoc) (hg : Good d.root.erase) : ∀ (fuel index : Nat) (resume : Option Resume)
    (np : NextPage) (right : Bool) (pending reported : List Fn) (pages : List FPage),
    (resume = none → reported = [] → isBlank (requestedSide d.rootLtr np.brk) right = false) →
    makeAllPagesF d fuel index resume np right pending reported = some pages →
    pagesLinesF pages = remaining d resume reported := by
  intro fuel index resume np right pending reported pages hstart h
  revert hstart
  refine makeAllPagesF_induct d (fun _ resume np right _ reported pages =>
    (resume = none → reported = [] → isBlank (requestedSide d.rootLtr np.brk) right = false) →
      pagesLinesF pages = remaining d resume reported) ?_ ?_ fuel index resume np right pending reported pages h
  · intro index resume np right pending reported p hp hres hrep hstart
    rw [← (page_remaining d hg index resume np right pending reported p hstart hp).1 hres hrep]
    exact List.append_nil _
  · intro index resume np right pending reported p ps hp hnl ih hstart
    rw [← (page_remaining d hg index resume np right pending reported p hstart hp).2 hnl,
      ← ih (fun h1 h2 => absurd ⟨h1, h2⟩ hnl)]
    rfl

end Wp.PMF
