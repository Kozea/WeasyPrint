/-
Lemmas for the lines-next-to-floats model (`Model/LineFloats`): what `avoid_collisions` (C11's model
and lemmas, imported unchanged) gives a line box, the position of the line `get_next_linebox`
returns, stacking of the lines of a paragraph next to floats, and the refinement "no float = the
plain paragraph of `Model/LineBreak`".  Core Lean only.
-/
import WpModel.Model.LineFloats
import WpModel.Lemmas.LineBreak
import WpModel.Lemmas.FloatPlace

namespace Wp.LFL
open Wp Wp.Py Wp.LB Wp.Floats Wp.C09L Wp.LineIter

/-- the placement `avoid_collisions` gives a line box (ltr): not above the requested position, and the
width left starts at the returned x and lies between the edges of the containing block -/
theorem avoid_line (shapes : List Shape) (y w h : Rat) (cb : CB) (hl : cb.rtl = false) (pl : Placement)
    (ha : avoidCollisions shapes (LF.lineABox y w h) cb false = .ok pl) :
    y ≤ pl.y ∧ cb.cx ≤ pl.x ∧ pl.x + pl.avail ≤ cb.cx + cb.w ∧
    ∃ res, avoidLoop (shapes.length + 1) shapes w h cb.cx (cb.cx + cb.w) y = some res ∧
      pl.y = res.y ∧ pl.x = res.l ∧ pl.avail = res.r - res.l := by
  obtain ⟨res, hres, h1, h2, h3⟩ := C11.avoid_collisions_result shapes (LF.lineABox y w h) cb false pl ha
  simp [LF.lineABox, hl, Rat.add_zero, Rat.sub_zero] at hres h1 h2 h3
  obtain ⟨hy, hl0, hr0⟩ := C11.avoid_result_bounds _ _ _ _ _ _ _ res hres
  refine ⟨by grind, by grind, by grind, res, hres, h2, h3, h1⟩

def cbOf (p : Para) : CB := { cx := p.cbx, w := p.width, rtl := false }

/-- A line of `get_next_linebox` next to floats comes from the first placement (with the min-content width and,
when there are floats, the strut height) and from `split_text_box` in the width left there: it is at the
height of that placement, resumes where the split does, and is a phantom box or one line-height high. -/
theorem nextLine_ok (shapes : List Shape) (p : Para) (skip : Option Nat) (y : Rat) (first : Bool) (l : OutLine)
    (h : LF.nextLine shapes p skip y first = .ok (some l)) :
    ∃ index w0 h0 place avail s,
      skipFirstWhitespace p.st.ws p.text (skip.getD 0) = some index ∧
      (shapes.isEmpty = false → h0 = LF.strutHeight p) ∧
      avoidCollisions shapes (LF.lineABox y w0 h0) (cbOf p) false = .ok place ∧
      splitTextBox p.st p.text avail index true = .ok s ∧
      l.y = place.y ∧ l.resume = s.resume ∧ (l.h = 0 ∨ l.h = p.lineHeight) := by
  unfold LF.nextLine at h
  split at h
  · cases h
  · rename_i index hidx
    obtain ⟨wh, hwh, h⟩ := Except.bind_eq_ok h
    obtain ⟨place, hp, h⟩ := Except.bind_eq_ok h
    obtain ⟨s, hs, h⟩ := Except.bind_eq_ok h
    refine ⟨index, wh.1, wh.2, place, _, s, hidx, ?_, hp, hs, ?_⟩
    · intro hne
      rw [hne, if_neg Bool.false_ne_true] at hwh
      obtain ⟨w, _, hw⟩ := Except.map_eq_ok hwh
      rw [← hw]
    · by_cases hph : (s.child.isNone && !s.preserved) = true
      · rw [if_pos hph] at h
        cases h; exact ⟨rfl, rfl, Or.inl rfl⟩
      · rw [if_neg hph] at h
        obtain ⟨place2, _, h⟩ := Except.bind_eq_ok h
        obtain ⟨l', hl', h⟩ := Except.map_eq_ok h
        cases h
        split at hl'
        · have := emptyLine_y _ _ _ _ _ hl'
          exact this
        · have := textLine_y _ _ _ _ _ _ _ hl'
          exact ⟨this.1, this.2.1, Or.inr this.2.2⟩

/-- the line `get_next_linebox` returns next to floats: not above the requested position, one used
line-height high (or a phantom line box), and `resume_at` strictly beyond `skip_stack` -/
theorem nextLine_spec (shapes : List Shape) (p : Para) (skip : Option Nat) (y : Rat) (first : Bool) (l : OutLine)
    (h : LF.nextLine shapes p skip y first = .ok (some l)) :
    y ≤ l.y ∧ (l.h = 0 ∨ l.h = p.lineHeight) ∧ ∀ r, l.resume = some r → skip.getD 0 < r := by
  obtain ⟨index, w0, h0, place, _, s, hidx, _, hp, hs, hy, hres, hh⟩ := nextLine_ok shapes p skip y first l h
  exact ⟨hy ▸ (avoid_line shapes y w0 h0 (cbOf p) rfl place hp).1, hh, hres ▸ (splitTextBox_after_skip hidx hs).1⟩

/-- lines that follow each other downwards: each starts at or below the bottom of the one before -/
def StackedBelow : Rat → List OutLine → Prop
  | _, [] => True
  | y, l :: ls => y ≤ l.y ∧ StackedBelow (l.y + l.h) ls

theorem iterLines_eq (shapes : List Shape) (p : Para) :
    ∀ fuel, LF.iterLines shapes p fuel = iter (LF.nextLine shapes p) (·.resume) (fun l => l.y + l.h) fuel :=
  eq_iter (fun _ _ _ => rfl) fun fuel skip y first => by
    simp only [LF.iterLines, round]
    rcases LF.nextLine shapes p skip y first with e | _ | l <;> try rfl
    dsimp only
    cases l.resume <;> rfl

/-- next to floats the lines follow each other downwards, and each is one line-height high or a phantom
line box -/
theorem iterLines_lines (shapes : List Shape) (p : Para) (fuel : Nat) (skip : Option Nat) (y : Rat)
    (first : Bool) (ls : List OutLine) (h : LF.iterLines shapes p fuel skip y first = some (.ok ls)) :
      StackedBelow y ls ∧ ∀ l ∈ ls, l.h = 0 ∨ l.h = p.lineHeight := by
  rw [iterLines_eq] at h
  exact ⟨iter_rule (C := StackedBelow) (fun _ => trivial)
      (fun skip y first l _ hn ih => ⟨(nextLine_spec shapes p skip y first l hn).1, ih⟩) h,
    iter_forall (fun skip y first l hn => (nextLine_spec shapes p skip y first l hn).2.1) h⟩

theorem nextLine_beyond (shapes : List Shape) (p : Para) (skip : Option Nat) (y : Rat) (first : Bool) (l : OutLine)
    (hs : p.text.length < skip.getD 0) (h : LF.nextLine shapes p skip y first = .ok (some l)) : l.resume = none := by
  obtain ⟨index, _, _, _, _, s, hidx, _, _, hs', _, hres, _⟩ := nextLine_ok shapes p skip y first l h
  exact hres ▸ (splitTextBox_after_skip hidx hs').2 hs

theorem avoid_no_shapes (y w h cx cw : Rat) :
    avoidCollisions [] (LF.lineABox y w h) { cx := cx, w := cw, rtl := false } false = .ok ⟨cx, y, cw⟩ := by
  have hw : cx + cw - cx = cw := by grind
  simp [avoidCollisions, LF.lineABox, ABox.isFloated, avoidLoop, colliding, bounds, leftBounds, rightBounds,
    Rat.add_zero, Rat.sub_zero, hw]

theorem nextLine_no_float (p : Para) (hl : p.align.rtl = false) (skip : Option Nat) (y : Rat) (first : Bool) :
    LF.nextLine [] p skip y first = LB.nextLine p skip y first := by
  unfold LF.nextLine LB.nextLine
  cases skipFirstWhitespace p.st.ws p.text (skip.getD 0) with
  | none => rfl
  | some index =>
    simp only [List.isEmpty_nil, if_true, hl, Bool.false_eq_true, if_false, avoid_no_shapes, Except.bind]
    cases splitTextBox p.st p.text
        (.fin ((p.cbx + p.width) * Gen.LineBreak.fudge - (p.cbx + if first then p.indent else 0))) index true with
    | error e => rfl
    | ok s =>
      simp only
      cases hc : s.child with
      | some c => rfl
      | none =>
        cases hpr : s.preserved with
        | true => rfl
        | false => simp only [emptyLine, hpr, Option.isNone_none, Bool.not_false, Bool.and_self, if_true,
            Except.map]

theorem iterLines_no_float (p : Para) (hl : p.align.rtl = false) (fuel : Nat) :
    LF.iterLines [] p fuel = LB.iterLines p fuel := by
  rw [iterLines_eq, C09L.iterLines_eq, funext fun s => funext fun y => funext (nextLine_no_float p hl s y)]

end Wp.LFL
