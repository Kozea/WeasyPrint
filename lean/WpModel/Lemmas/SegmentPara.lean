/-
Post-condition `BoxPost` of `layoutBox` (conservation + progress); what `finishContainer`, `finishBlock` and
`finishPara` return and when `forgetIfFixed` drops a resume position; the lines `_linebox_layout` keeps (`LinesRun`;
`lineResult_spec`, `lineResultG_spec`, which every stage's `linebox_spec` reads).
-/
import WpModel.Lemmas.Segment

namespace Wp.PM
open Wp

/-- What a layout returning a fragment guarantees: when nothing is left (`resume = none`) the fragment is
the complete rest of the box; otherwise fragment + rest = what was asked, and the resume position is
strictly later than the skip position. -/
def BoxPost (box : PBox) (skip : Option Resume) (frag : Option Frag) (resume : Option Resume) : Prop :=
  ∀ f, frag = some f → match resume with
    | none => Full f box skip
    | some ρ => fragLines f ++ linesFrom box (some ρ) = linesFrom box skip ∧ pos box skip < pos box (some ρ)

/-- The fragment returned by `finishContainer` carries the geometry computed by `finishTail`. -/
theorem finishContainer_geo {c : Ctx} {st : PStyle} {b : BoxSt} {isStart pie : Bool} {bs : Rat}
    {cwc dbd : Bool} {resume : Option Resume} {posY : Rat} {adjL cur : List Rat} {curIsL : Bool}
    {np : NextPage} {hasKids : Bool} {pageEnd : String} {mk : Geo → Frag} {f : Frag}
    (h : (finishContainer c st b isStart pie bs cwc dbd resume posY adjL cur curIsL np hasKids pageEnd mk).frag
      = some f) :
    f = mk (finishTail c st b bs cwc dbd resume posY adjL cur curIsL hasKids).geo ∧
    (finishContainer c st b isStart pie bs cwc dbd resume posY adjL cur curIsL np hasKids pageEnd mk).resume
      = resume ∧
    (finishContainer c st b isStart pie bs cwc dbd resume posY adjL cur curIsL np hasKids pageEnd mk).collapsingThrough
      = (finishTail c st b bs cwc dbd resume posY adjL cur curIsL hasKids).through := by
  unfold finishContainer at h ⊢
  split
  · rename_i hc; rw [if_pos hc] at h; cases h
  · rename_i hc; rw [if_neg hc] at h
    simp only [Option.some.injEq] at h
    exact ⟨h.symm, rfl, rfl⟩

theorem finishContainer_frag {c : Ctx} {st : PStyle} {b : BoxSt} {isStart pie : Bool} {bs : Rat}
    {cwc dbd : Bool} {resume : Option Resume} {posY : Rat} {adjL cur : List Rat} {curIsL : Bool}
    {np : NextPage} {hasKids : Bool} {pageEnd : String} {mk : Geo → Frag} {f : Frag}
    (h : (finishContainer c st b isStart pie bs cwc dbd resume posY adjL cur curIsL np hasKids pageEnd mk).frag
      = some f) :
    (∃ g, f = mk g) ∧
    (finishContainer c st b isStart pie bs cwc dbd resume posY adjL cur curIsL np hasKids pageEnd mk).resume
      = resume :=
  have := finishContainer_geo h
  ⟨⟨_, this.1⟩, this.2.1⟩

theorem forgetIfFixed_none (st : PStyle) (b : BoxSt) (posY : Rat) (r : Option Resume) (h : st.height = none) :
    forgetIfFixed st b posY r = r := by
  unfold forgetIfFixed; rw [h]

/-- A resume position is dropped only by a box with a fixed height whose content has passed its bottom. -/
theorem forgetIfFixed_or (st : PStyle) (b : BoxSt) (posY : Rat) (r : Option Resume) :
    forgetIfFixed st b posY r = r ∨ (forgetIfFixed st b posY r = none ∧
      ∃ ht, st.height = some ht ∧ overflows (b.y + (ht + b.pt + b.pb + b.bt + b.bb)) posY = true) := by
  unfold forgetIfFixed
  split
  · rename_i ht hh
    split
    · rename_i ho; exact .inr ⟨rfl, ht, hh, ho⟩
    · exact .inl rfl
  · exact .inl rfl

theorem forgetIfFixed_some {st : PStyle} {b : BoxSt} {posY : Rat} {resume : Option Resume} {r : Resume}
    (h : forgetIfFixed st b posY resume = some r) : resume = some r := by
  rcases forgetIfFixed_or st b posY resume with e | ⟨e, _⟩ <;> rw [e] at h
  · exact h
  · cases h

def KidsOutcome.state : KidsOutcome → KidsLoop
  | .finished s => s
  | .aborted _ s => s
  | .stopped _ s => s

def outResume : KidsOutcome → Option Resume
  | .stopped ρ _ => ρ
  | _ => none

/-- When `finishBlock` returns a fragment, it is `finishContainer` on the final loop state. -/
theorem finishBlock_eq (c : Ctx) (st : PStyle) (p : Prep) (pie : Bool) (id idx : Nat) (out : KidsOutcome)
    (f : Frag) (h : (finishBlock c st p pie id idx out).frag = some f) :
    ∃ resume cur curIsL, finishBlock c st p pie id idx out =
        finishContainer c st p.b p.isStart pie p.bs p.cwc p.dbd resume out.state.posY out.state.adjL cur curIsL
          out.state.nextPage (!out.state.newChildren.isEmpty) (pageEndOf st out.state.newChildren)
          (fun g => .block id idx st g out.state.newChildren) ∧
      (st.height = none → resume = outResume out) := by
  cases out with
  | aborted page s => cases h
  | stopped resume s => exact ⟨_, [], false, rfl, forgetIfFixed_none _ _ _ _⟩
  | finished s => exact ⟨none, s.cur, s.curIsL, rfl, fun _ => rfl⟩

theorem finishBlock_frag {c : Ctx} {st : PStyle} {p : Prep} {pie : Bool} {id idx : Nat} {out : KidsOutcome}
    {f : Frag} (h : (finishBlock c st p pie id idx out).frag = some f) :
    ∃ g, f = .block id idx st g out.state.newChildren := by
  obtain ⟨resume, cur, curIsL, he, _⟩ := finishBlock_eq c st p pie id idx out f h
  rw [he] at h
  exact ⟨_, (finishContainer_geo h).1⟩

theorem finishPara_fragT (c : Ctx) (st : PStyle) (p : Prep) (pie : Bool) (id idx n : Nat) (R : LineResult)
    (f : Frag) (h : (finishPara c st p pie id idx n R).frag = some f) :
    R.abort = false ∧ (∃ g, f = .para id idx st n g R.lines) ∧
    ∃ b posY, (finishPara c st p pie id idx n R).resume =
      if R.stop then forgetIfFixed st b posY R.resume else none := by
  unfold finishPara at h ⊢
  dsimp only at h ⊢
  cases ha : R.abort with
  | true => rw [ha] at h; simp [abortResult] at h
  | false =>
    rw [ha] at h
    simp only [Bool.false_eq_true, ↓reduceIte] at h ⊢
    obtain ⟨hg, hr⟩ := finishContainer_frag h
    exact ⟨trivial, hg, _, _, hr⟩

theorem finishPara_frag {c : Ctx} {st : PStyle} {p : Prep} {pie : Bool} {id idx n : Nat} {R : LineResult}
    {f : Frag} (h : (finishPara c st p pie id idx n R).frag = some f) :
    ∃ g, f = .para id idx st n g R.lines :=
  (finishPara_fragT c st p pie id idx n R f h).2.1

/-- What `_linebox_layout` guarantees of the lines of its result `R`, for a paragraph of `n` lines resumed at line
`k`: all the remaining lines; or, stopped, a run of at least one line short of `n`, to be resumed at the next line. -/
def LinesRun (n k : Nat) (R : LineResult) : Prop :=
  (R.stop = false → R.lines.map Prod.fst = List.range' k (n - k)) ∧
  (R.stop = true → ∃ m, 1 ≤ m ∧ k + m < n ∧ R.lines.map Prod.fst = List.range' k m ∧
    R.resume = some (.node 0 (some (.line (k + m)))))

/-- What `_linebox_layout` returns, from what its line loop did: `R` packages the outcome `o` of a loop started at
line `k` that places all remaining lines when it runs to the end and, when it breaks without giving the paragraph
up, stops after a run of at least one line, short of `n`. -/
theorem lineResult_spec (n k : Nat) (o : LineOutcome) (R : LineResult)
    (hR : R = match o with
      | .done s => { abort := false, stop := false, resume := lastLineResume n s.lines none, posY := s.posY,
                     lines := s.lines, mt := s.mt, dbd := s.dbd }
      | .broke a st' r s => { abort := a, stop := st', resume := lastLineResume n s.lines r, posY := s.posY,
                              lines := s.lines, mt := s.mt, dbd := s.dbd })
    (hdone : ∀ s, o = .done s → s.lines.map Prod.fst = List.range' k (n - k))
    (hbroke : ∀ stop r s, o = .broke false stop r s →
      stop = true ∧ ∃ m, 1 ≤ m ∧ k + m < n ∧ s.lines.map Prod.fst = List.range' k m)
    (ha : R.abort = false) : LinesRun n k R := by
  subst hR
  cases o with
  | done s => exact ⟨fun _ => hdone s rfl, nofun⟩
  | broke a stp r s =>
    cases ha
    obtain ⟨rfl, m, hm1, hmn, hl⟩ := hbroke stp r s rfl
    exact ⟨nofun, fun _ => ⟨m, hm1, hmn, hl, lastLineResume_run n _ m s.lines r hm1 hmn hl⟩⟩

/-- … for the loop `lineLoopG` started at line `k` with no line kept: every stage's `_linebox_layout`. -/
theorem lineResultG_spec (ov : Rat → Bool) (place : Rat → Rat) (st : PStyle) (b : BoxSt) (n : Nat) (lineH : Rat)
    (pie : Bool) (k : Nat) (y : Rat) (s0 : LineLoop) (hs0 : s0.lines = []) (ho : 1 ≤ st.orphans) (R : LineResult)
    (hR : R = match lineLoopG ov place st b n lineH pie (n - k) k y s0 with
      | .done s => { abort := false, stop := false, resume := lastLineResume n s.lines none, posY := s.posY,
                     lines := s.lines, mt := s.mt, dbd := s.dbd }
      | .broke a st' r s => { abort := a, stop := st', resume := lastLineResume n s.lines r, posY := s.posY,
                              lines := s.lines, mt := s.mt, dbd := s.dbd })
    (ha : R.abort = false) : LinesRun n k R :=
  lineResult_spec n k _ R hR
    (fun s h => by simpa using lineLoopG_done ov place st b n lineH pie k _ _ _ _ s (hs0 ▸ runFrom_start k) h)
    (fun stp r s h => by
      obtain ⟨m, _, hl, hrest⟩ := lineLoopG_broke_run ov place st b n lineH pie k _ _ _ _ s false stp r
        (hs0 ▸ runFrom_start k) h
      obtain ⟨hstp, hm1, hmn⟩ := hrest rfl rfl ho
      exact ⟨hstp, m, hm1, hmn, hl⟩) ha

theorem linebox_spec (c : Ctx) (st : PStyle) (b : BoxSt) (n : Nat) (lineH : Rat) (pie : Bool)
    (adj : List Rat) (bs posY : Rat) (skip : Option Resume) (dbd : Bool) (ho : 1 ≤ st.orphans)
    (ha : (lineboxLayout c st b n lineH pie adj bs posY skip dbd).abort = false) :
    LinesRun n (skipLine skip) (lineboxLayout c st b n lineH pie adj bs posY skip dbd) :=
  lineResultG_spec (c.overflowsPage bs) id st b n lineH pie (skipLine skip) (lineStart adj posY)
    { lines := [], posY := lineStart adj posY, skip := skip, mt := b.mt, dbd := dbd } rfl ho _
    (by rw [lineboxLayout, lineboxLoop, lineLoop_eq_G]; rfl) ha

end Wp.PM
