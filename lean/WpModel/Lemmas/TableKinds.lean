/-
Rule 3.2 of the anonymous-table fix-ups (CSS 2.1 §17.2.1; Model/AnonBoxes.lean `tbc` step 3): *which*
anonymous table is generated around misparented table parts.
-/
import WpModel.Lemmas.Tables

namespace Wp.Bx
open KBox

/-- The anonymous table wrapper rule 3.2 generates in a parent `box`: an anonymous inline-block holding
an inline-table when the parent is an inline box, an anonymous block holding a table otherwise. -/
def Rule32Wrapper (box : KBox) (o : KBox) : Prop :=
  IsWrapper o ∧ o.st.anon = true ∧
  o.kind = (if box.isA .InlineBox = true then BoxKind.InlineBlockBox else .BlockBox) ∧
  ∃ t ∈ o.kids, t.kind = (if box.isA .InlineBox = true then BoxKind.InlineTableBox else .TableBox)

theorem anonFrom_isA (cls : BoxKind) (p : KBox) (ks : List KBox) (c : BoxClass) :
    (anonFrom cls p ks).isA c = Gen.isSub cls c := rfl

/-- `table_boxes_children` on a fresh anonymous (inline-)table: a wrapper of the matching class. -/
theorem tbc_anon_table (wt : BoxKind) (hwt : wt = .TableBox ∨ wt = .InlineTableBox) (box : KBox) :
    ∀ n l w, tbc n (anonFrom wt box []) l = .ok w →
      IsWrapper w ∧ w.st.anon = true ∧
      w.kind = (if wt = .InlineTableBox then BoxKind.InlineBlockBox else .BlockBox) ∧ ∃ t ∈ w.kids, t.kind = wt := by
  intro n l w h
  obtain ⟨c3, sh, _⟩ := tbc_table n (anonFrom wt box []) l w (by rw [anonFrom_kind]; exact hwt) h
  obtain ⟨top, table, bottom, hk, htk, _⟩ := sh.parts
  refine ⟨sh.wrapper, sh.anon, ?_, table, by rw [hk]; simp, by rw [htk, anonFrom_kind]⟩
  rw [sh.kind, anonFrom_isA]
  rcases hwt with rfl | rfl <;> rfl

/-- A box that is no table part is of none of the classes `table_boxes_children` tests first. -/
theorem not_table_part_isSub (k : BoxKind)
    (hk : k ∉ [BoxKind.TableBox, .InlineTableBox, .TableRowGroupBox, .TableRowBox, .TableColumnGroupBox,
      .TableColumnBox]) :
    Gen.isSub k .TableColumnBox = false ∧ Gen.isSub k .TableColumnGroupBox = false ∧
    Gen.isSub k .TableBox = false ∧ Gen.isSub k .TableRowGroupBox = false ∧ Gen.isSub k .TableRowBox = false := by
  cases k <;> first | exact ⟨rfl, rfl, rfl, rfl, rfl⟩ | exact absurd hk (by decide)

/-- Only table parts are proper parents. -/
theorem not_table_part_parent (k : BoxKind)
    (hk : k ∉ [BoxKind.TableBox, .InlineTableBox, .TableRowGroupBox, .TableRowBox, .TableColumnGroupBox,
      .TableColumnBox]) (j : BoxKind) : (Gen.properParents j).contains k = false := by
  have hsub : ∀ p ∈ Gen.properParents j, p ∈ [BoxKind.TableBox, .InlineTableBox, .TableRowGroupBox, .TableRowBox,
      .TableColumnGroupBox, .TableColumnBox] := by
    cases j <;> decide
  cases hc : (Gen.properParents j).contains k
  · rfl
  · exact absurd (hsub k (List.contains_iff_mem.mp hc)) hk

/-- Rule 3.2 for every parent that is not itself a table part: the children are the given ones that are
no internal table boxes, and anonymous table wrappers whose class follows the parent: inline-block ⊃
inline-table inside an inline box, block ⊃ table anywhere else (block, inline-block, cell, caption,
flex, grid …). -/
theorem tbc_other_kinds (n : Nat) (box : KBox) (children : List KBox) (r : KBox)
    (hk : box.kind ∉ [BoxKind.TableBox, .InlineTableBox, .TableRowGroupBox, .TableRowBox,
      .TableColumnGroupBox, .TableColumnBox])
    (h : tbc n box children = .ok r) :
    ∃ ks, r = box.withKids ks ∧
      ∀ o ∈ ks, (o ∈ children ∧ Gen.internalTableOrCaption o.kind = false) ∨ Rule32Wrapper box o := by
  have e := not_table_part_isSub box.kind hk
  have hpp := not_table_part_parent box.kind hk
  obtain ⟨n, c1, c2, c3, rfl, h1, h2, h3, hr⟩ := tbc_cases h
  rw [e.2.2.1] at hr
  cases hr
  refine ⟨c3, rfl, ?_⟩
  have hsub := (preKids_sublist box children (fun h => by rw [e.2.1] at h; cases h)).subset
  unfold tbcStep1 at h1
  rw [if_neg (by rw [e.2.2.1]; decide), if_neg (by rw [e.2.2.2.1]; decide)] at h1
  cases h1
  unfold tbcStep2 at h2
  rw [if_neg (by rw [e.2.2.2.2]; decide)] at h2
  have hc2 : ∀ o ∈ c2, (o ∈ children ∧ o.isA .TableCellBox = false) ∨ o.kind = .TableRowBox := by
    intro o ho
    rcases wrapImproper_cases (·.kind = .TableRowBox) box _ (fun _ _ _ hw => tbc_anon_kind rfl hw) n _ _ [] c2 h2 o ho
      with ⟨hm, ht⟩ | hw
    · exact Or.inl ⟨hsub hm, by simpa using ht⟩
    · exact Or.inr hw
  have key : ∀ (wt : BoxKind), (wt = .TableBox ∨ wt = .InlineTableBox) →
      wrapImproper n box c2 wt (fun c => !Gen.properTableChild c.kind) [] = .ok c3 →
      ∀ o ∈ c3, (o ∈ children ∧ Gen.internalTableOrCaption o.kind = false) ∨
        (IsWrapper o ∧ o.st.anon = true ∧
          o.kind = (if wt = .InlineTableBox then BoxKind.InlineBlockBox else .BlockBox) ∧ ∃ t ∈ o.kids, t.kind = wt) := by
    intro wt hwt h3 o ho
    rcases wrapImproper_cases _ box wt (tbc_anon_table wt hwt box) n _ _ [] c3 h3 o ho with ⟨hm, ht⟩ | hw
    · have hnp : Gen.properTableChild o.kind = false := by simpa using ht
      rcases hc2 o hm with ⟨hin, hcell⟩ | hrow
      · left
        refine ⟨hin, ?_⟩
        rw [internal_iff, hnp]
        cases hk : (o.kind == BoxKind.TableCellBox)
        · rfl
        · have : o.kind = .TableCellBox := by simpa using hk
          rw [(isA_cell_iff o).2 this] at hcell
          cases hcell
      · rw [hrow] at hnp
        exact absurd hnp (by decide)
    · exact Or.inr hw
  unfold tbcStep3 at h3
  intro o ho
  unfold Rule32Wrapper
  by_cases hin : Gen.isSub box.kind .InlineBox = true
  · rw [if_pos hin] at h3
    rw [show box.isA .InlineBox = true from hin]
    simpa using key .InlineTableBox (Or.inr rfl) h3 o ho
  · rw [if_neg hin] at h3
    have hf : (fun c : KBox => !Gen.properTableChild c.kind || (Gen.properParents c.kind).contains box.kind) =
        (fun c : KBox => !Gen.properTableChild c.kind) := by
      funext c
      rw [hpp c.kind, Bool.or_false]
    rw [hf] at h3
    rw [show box.isA .InlineBox = false by simpa [KBox.isA] using hin]
    simpa using key .TableBox (Or.inl rfl) h3 o ho

end Wp.Bx
