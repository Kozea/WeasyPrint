/-
The UTF-16 units of `Model/Utf16` are 16-bit values and read back
as the text they were written for.
-/
import WpModel.Model.Utf16

namespace Wp.Utf16
open Wp

/-- A Unicode scalar value: below U+110000 and not a surrogate. -/
def Scalar (cp : Nat) : Prop := cp < 0x110000 ∧ ¬ (0xD800 ≤ cp ∧ cp < 0xE000)

theorem encode_lt (cp : Nat) (h : cp < 0x110000) : ∀ u ∈ encode cp, u < 0x10000 := by
  intro u hu
  unfold encode at hu
  split at hu
  · simp at hu; omega
  · simp at hu; omega

private theorem decode_encode_cons (cp : Nat) (h : Scalar cp) (rest : List Nat) :
    decode (encode cp ++ rest) = cp :: decode rest := by
  unfold encode
  split
  · rename_i hlt
    cases rest with
    | nil => simp [decode]
    | cons r rs =>
      have : ¬ (0xD800 ≤ cp ∧ cp < 0xDC00 ∧ 0xDC00 ≤ r ∧ r < 0xE000) := by
        intro hh; exact h.2 ⟨hh.1, by omega⟩
      simp [decode, this]
  · rename_i hge
    have h1 := h.1
    have : 0xD800 ≤ 0xD800 + (cp - 0x10000) / 0x400 ∧ 0xD800 + (cp - 0x10000) / 0x400 < 0xDC00 ∧
        0xDC00 ≤ 0xDC00 + (cp - 0x10000) % 0x400 ∧ 0xDC00 + (cp - 0x10000) % 0x400 < 0xE000 := by
      omega
    simp only [List.cons_append, List.nil_append, decode, this, and_self, ↓reduceIte, List.cons.injEq, and_true]
    omega

/-- **Round trip for texts**: the units written for a text of scalar values read back as that text. -/
theorem decode_encodeAll (cps : List Nat) (h : ∀ cp ∈ cps, Scalar cp) : decode (encodeAll cps) = cps := by
  induction cps with
  | nil => rfl
  | cons c cs ih =>
    have hc := h c (by simp)
    simp only [encodeAll, List.flatMap_cons]
    rw [decode_encode_cons c hc _]
    have := ih (fun cp hcp => h cp (by simp [hcp]))
    simp only [encodeAll] at this
    rw [this]

end Wp.Utf16
