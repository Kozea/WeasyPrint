/-
`make_bookmark_tree`: the stack of skipped levels read as the levels of the open bookmarks (`anc`), on which one step is
"close every level ≥ the new one, then open it" (`popGE`, `adjust_spec`); the invariant `Inv`; the tree read in
pre-order with depths (`flat`), which determines it.  Core Lean only.
-/
import WpModel.Model.Outline

namespace Wp.C18
open Wp Wp.Outline Wp.Anchors

/-! ### the skipped-levels stack -/

/-- `len(skipped_levels) + sum(skipped_levels)`: the source level of the deepest open bookmark. -/
def lvl (sk : List Int) : Int := (sk.length : Int) + isum sk

theorem lvl_nil : lvl [] = 0 := by simp [lvl, isum]
theorem lvl_cons (s : Int) (sk : List Int) : lvl (s :: sk) = lvl sk + 1 + s := by
  simp [lvl, isum]; omega

def NonNeg (sk : List Int) : Prop := ∀ s ∈ sk, 0 ≤ s

theorem NonNeg.tail {s : Int} {sk : List Int} (h : NonNeg (s :: sk)) : NonNeg sk := (List.forall_mem_cons.mp h).2

theorem NonNeg.head {s : Int} {sk : List Int} (h : NonNeg (s :: sk)) : 0 ≤ s := (List.forall_mem_cons.mp h).1

theorem NonNeg.cons {s : Int} {sk : List Int} (h : NonNeg sk) (hs : 0 ≤ s) : NonNeg (s :: sk) :=
  List.forall_mem_cons.mpr ⟨hs, h⟩

theorem lvl_nonneg {sk : List Int} (h : NonNeg sk) : 0 ≤ lvl sk := by
  induction sk with
  | nil => simp [lvl_nil]
  | cons s sk ih => rw [lvl_cons]; have := ih h.tail; have := h.head; omega

theorem lvl_pos {s : Int} {sk : List Int} (h : NonNeg (s :: sk)) : lvl sk < lvl (s :: sk) := by
  rw [lvl_cons]; have := h.head; omega

/-- Levels of the open bookmarks, deepest first. -/
def anc : List Int → List Int
  | [] => []
  | s :: sk => lvl (s :: sk) :: anc sk

theorem anc_length (sk : List Int) : (anc sk).length = sk.length := by
  induction sk with
  | nil => rfl
  | cons s sk ih => simp [anc, ih]

/-- The specification of the stack discipline: close every open bookmark whose level is not smaller
than the new one. -/
def popGE (level : Int) : List Int → List Int
  | [] => []
  | a :: rest => if level ≤ a then popGE level rest else a :: rest

theorem popGE_anc_of_lt {level : Int} {l : List Int} (h : lvl l < level) : popGE level (anc l) = anc l := by
  cases l with
  | nil => rfl
  | cons a l => simp only [anc, popGE]; rw [if_neg (by omega)]

theorem popGE_length_le (level : Int) (m : List Int) : (popGE level m).length ≤ m.length := by
  fun_induction popGE level m with
  | case1 => exact Nat.le_refl _
  | case2 a rest _ ih => exact Nat.le_succ_of_le ih
  | case3 => exact Nat.le_refl _

theorem popGE_popGE {a b : Int} (h : a ≤ b) (m : List Int) : popGE a (popGE b m) = popGE a m := by
  fun_induction popGE b m with
  | case1 => rfl
  | case2 y m hy ih => rw [popGE, if_pos (Int.le_trans h hy)]; exact ih
  | case3 => rfl

/-- `popLoop` conserves `temp + lvl` and closes exactly the open bookmarks of level above `level`. -/
theorem popLoop_spec (prev level : Int) :
    ∀ (sk : List Int) (temp : Int), NonNeg sk → temp + lvl sk = level + prev → 0 ≤ level →
      ∃ t r, popLoop prev temp sk = .ok (t, r) ∧ t + lvl r = level + prev ∧ prev ≤ t ∧ NonNeg r ∧
        popGE (level + 1) (anc sk) = anc r := by
  intro sk temp
  fun_induction popLoop prev temp sk with
  | case1 temp hlt => intro _ heq _; rw [lvl_nil] at heq; omega
  | case2 temp hlt => intro hnn heq _; exact ⟨temp, [], rfl, heq, by omega, hnn, rfl⟩
  | case3 temp s rest hlt ih =>
    intro hnn heq hl
    obtain ⟨t, r, hr, hc, hp, hn, hanc⟩ := ih hnn.tail (by rw [lvl_cons] at heq; omega) hl
    -- `level < lvl (s :: rest)`: the head is closed
    exact ⟨t, r, hr, hc, hp, hn, by simp only [anc, popGE]; rw [if_pos (by omega)]; exact hanc⟩
  | case4 temp s rest hlt =>
    intro hnn heq _
    exact ⟨temp, s :: rest, rfl, heq, by omega, hnn, popGE_anc_of_lt (by omega)⟩

/-- Opening a bookmark above every open one: the pushed skip count makes up the difference of levels. -/
theorem push_spec {l : List Int} {level s : Int} (hn : NonNeg l) (hlt : lvl l < level)
    (hs : s = level - lvl l - 1) :
    NonNeg (s :: l) ∧ lvl (s :: l) = level ∧ anc (s :: l) = level :: popGE level (anc l) := by
  have hlvl : lvl (s :: l) = level := by rw [lvl_cons]; omega
  exact ⟨hn.cons (by omega), hlvl, by rw [anc, hlvl, popGE_anc_of_lt hlt]⟩

/-- The new `skipped_levels`: never fails on a level ≥ 1, keeps the invariant, and its open levels are
the old ones with every level ≥ the new one closed, plus the new one. -/
theorem adjust_spec (level prev : Int) (sk : List Int) (hnn : NonNeg sk) (hprev : prev = lvl sk)
    (hl : 1 ≤ level) :
    ∃ sk', adjust level prev sk = .ok sk' ∧ NonNeg sk' ∧ lvl sk' = level ∧
      anc sk' = level :: popGE level (anc sk) := by
  unfold adjust
  by_cases hgt : level > prev
  · rw [if_pos hgt]
    exact ⟨_, rfl, push_spec hnn (by omega) (by omega)⟩
  · rw [if_neg hgt]
    obtain ⟨t, r, hr, hc, hp, hn, hanc⟩ := popLoop_spec prev level sk level hnn (by omega) (by omega)
    rw [hr, ← popGE_popGE (Int.le_add_one (Int.le_refl level)) (anc sk), hanc]
    simp only []
    by_cases h1 : t > prev
    · -- `lvl r < level`: too many skips removed, some are added back
      rw [if_pos h1]
      exact ⟨_, rfl, push_spec hn (by omega) (by omega)⟩
    · -- `lvl r = level`: the head of `r` is the bookmark the new one replaces
      rw [if_neg h1]
      have hlr : lvl r = level := by omega
      refine ⟨r, rfl, hn, hlr, ?_⟩
      cases r with
      | nil => rw [lvl_nil] at hlr; omega
      | cons a r => rw [anc, hlr, popGE, if_pos (Int.le_refl _), popGE_anc_of_lt (by have := lvl_pos hn; omega)]

/-! ### the zipper of open children lists -/

/-- A bookmark as the pre-order lists it: `(label, target, state)`. -/
abbrev Item := String × Target × String

mutual
/-- Pre-order of a subtree with depths (top level = `d`). -/
def flat (d : Nat) : BTree → List (Nat × Item)
  | .node label target kids state => (d, (label, target, state)) :: flatList (d + 1) kids
def flatList (d : Nat) : List BTree → List (Nat × Item)
  | [] => []
  | t :: ts => flat d t ++ flatList d ts
end

theorem flatList_append (d : Nat) (as bs : List BTree) :
    flatList d (as ++ bs) = flatList d as ++ flatList d bs := by
  induction as with
  | nil => simp [flatList]
  | cons a as ih => simp [flatList, ih]

theorem flatList_singleton (d : Nat) (t : BTree) : flatList d [t] = flat d t := by
  simp [flatList]

/-- Pre-order of everything reachable from `last_by_depth` (frames: deepest first, root list last). -/
def preFrames : List Frame → List (Nat × Item)
  | [] => []
  | f :: rest =>
    preFrames rest ++ (if rest.isEmpty then [] else [(rest.length, (f.label, f.target, f.state))]) ++
      flatList (rest.length + 1) f.kids

theorem closeOne_length (fs : List Frame) (h : 2 ≤ fs.length) : (closeOne fs).length = fs.length - 1 := by
  match fs, h with
  | f :: g :: rest, _ => simp [closeOne]

theorem closeOne_pre (fs : List Frame) : preFrames (closeOne fs) = preFrames fs := by
  match fs with
  | [] => rfl
  | [f] => rfl
  | f :: g :: rest =>
    simp only [closeOne, preFrames, flatList_append, flatList_singleton, flat, List.length_cons,
      List.isEmpty_cons, List.append_assoc]
    simp

theorem closeN_length (n : Nat) (fs : List Frame) (h : n < fs.length) :
    (closeN n fs).length = fs.length - n := by
  induction n generalizing fs with
  | zero => simp [closeN]
  | succ n ih =>
    simp only [closeN]
    rw [ih (closeOne fs) (by rw [closeOne_length fs (by omega)]; omega), closeOne_length fs (by omega)]
    omega

theorem closeN_pre (n : Nat) (fs : List Frame) : preFrames (closeN n fs) = preFrames fs := by
  induction n generalizing fs with
  | zero => rfl
  | succ n ih => simp only [closeN]; rw [ih, closeOne_pre]

theorem rootOf_pre (fs : List Frame) (h : 1 ≤ fs.length) : flatList 1 (rootOf fs) = preFrames fs := by
  unfold rootOf
  have hl := closeN_length (fs.length - 1) fs (by omega)
  have hp := closeN_pre (fs.length - 1) fs
  match hc : closeN (fs.length - 1) fs with
  | [] => rw [hc] at hl; simp at hl; omega
  | [f] => rw [hc] at hp; simp [preFrames] at hp; simpa using hp
  | f :: g :: rest => rw [hc] at hl; simp at hl; omega

/-! ### one step, many steps -/

/-- Invariant of the state between bookmarks. -/
structure Inv (st : BState) : Prop where
  nonneg : NonNeg st.skipped
  prev : st.prev = lvl st.skipped
  frames : st.frames.length = st.skipped.length + 1

theorem Inv.init : Inv BState.init :=
  ⟨(by intro x hx; cases hx), (by simp [BState.init, lvl_nil]), rfl⟩

def entryItem (e : Entry) : Item := (e.label, e.target, e.state)

theorem stepEntry_spec (st : BState) (e : Entry) (hinv : Inv st) (hl : 1 ≤ e.level) :
    ∃ st', stepEntry st e = .ok st' ∧ Inv st' ∧
      anc st'.skipped = e.level :: popGE e.level (anc st.skipped) ∧
      preFrames st'.frames =
        preFrames st.frames ++ [((popGE e.level (anc st.skipped)).length + 1, entryItem e)] := by
  obtain ⟨sk', hadj, hnn', hlvl', hanc⟩ := adjust_spec e.level st.prev st.skipped hinv.nonneg hinv.prev hl
  -- the new depth is one more than the number of levels left open
  have hsk : sk'.length = (popGE e.level (anc st.skipped)).length + 1 := by rw [← anc_length, hanc]; rfl
  have hle := popGE_length_le e.level (anc st.skipped)
  rw [anc_length] at hle
  have hdepth : depthOf e.level sk' = .ok sk'.length := by
    unfold depthOf
    have h1 : e.level - isum sk' = (sk'.length : Int) := by unfold lvl at hlvl'; omega
    simp only [h1]
    rw [if_neg (by simp), if_neg (by omega)]
    simp
  have hfl := hinv.frames
  -- of the frames left open only their number and their pre-order matter
  obtain ⟨fs, hfs, hlen, hpre⟩ : ∃ fs, closeN (st.frames.length - sk'.length) st.frames = fs ∧
      fs.length = sk'.length ∧ preFrames fs = preFrames st.frames :=
    ⟨_, rfl, by rw [closeN_length _ _ (by omega)]; omega, closeN_pre _ _⟩
  refine ⟨⟨sk', ⟨e.label, e.target, e.state, []⟩ :: fs, e.level⟩, ?_,
    ⟨hnn', hlvl'.symm, congrArg (· + 1) hlen⟩, hanc, ?_⟩
  · unfold stepEntry; rw [hadj]; simp only []; rw [hdepth]; simp only [place]; rw [if_neg (by omega), hfs]
  · cases fs with
    | nil => exact absurd hlen (by simp; omega)
    | cons f fs =>
      rw [preFrames, hpre, hlen, hsk]
      simp [flatList, entryItem]

/-- Depths assigned to a list of levels by the stack discipline, starting from open levels `a`. -/
def specDepths : List Int → List Int → List Nat
  | _, [] => []
  | a, l :: ls => ((popGE l a).length + 1) :: specDepths (l :: popGE l a) ls

theorem runEntries_spec (es : List Entry) :
    ∀ (st : BState), Inv st → (∀ e ∈ es, 1 ≤ e.level) →
      ∃ st', runEntries st es = .ok st' ∧ Inv st' ∧
        preFrames st'.frames = preFrames st.frames ++
          (specDepths (anc st.skipped) (es.map (·.level))).zip (es.map entryItem) := by
  induction es with
  | nil => intro st hinv _; exact ⟨st, rfl, hinv, by simp [specDepths]⟩
  | cons e es ih =>
    intro st hinv hl
    obtain ⟨st1, h1, hinv1, hanc1, hpre1⟩ := stepEntry_spec st e hinv (hl e (by simp))
    obtain ⟨st2, h2, hinv2, hpre2⟩ := ih st1 hinv1 (fun x hx => hl x (by simp [hx]))
    refine ⟨st2, ?_, hinv2, ?_⟩
    · simp only [runEntries]; rw [h1]; exact h2
    · rw [hpre2, hpre1, hanc1]
      simp [specDepths]

theorem runEntries_append (es fs : List Entry) (st : BState) :
    runEntries st (es ++ fs) = match runEntries st es with
      | .error err => .error err
      | .ok st' => runEntries st' fs := by
  induction es generalizing st with
  | nil => simp [runEntries]
  | cons e es ih =>
    simp only [List.cons_append, runEntries]
    cases stepEntry st e with
    | error err => rfl
    | ok st1 => exact ih st1

/-- All entries of a document, in order (`enumerate(self.pages)` from `n`). -/
def docEntries (scale : Rat) (tp : Bool) : Nat → List BPage → List Entry
  | _, [] => []
  | n, p :: rest =>
    p.bookmarks.map (toEntry (n : Int) (bookmarkMatrix scale tp p.height)) ++ docEntries scale tp (n + 1) rest

/-- Threading the state through the pages is running the loop body over the concatenation. -/
theorem runPages_eq (scale : Rat) (tp : Bool) (pages : List BPage) :
    ∀ (st : BState) (n : Nat), runPages scale tp st n pages = runEntries st (docEntries scale tp n pages) := by
  induction pages with
  | nil => intro st n; rfl
  | cons p rest ih =>
    intro st n
    simp only [runPages, docEntries, makePageBookmarkTree, runEntries_append]
    cases runEntries st (p.bookmarks.map (toEntry (n : Int) (bookmarkMatrix scale tp p.height))) with
    | error err => rfl
    | ok st1 => exact ih st1 (n + 1)

theorem docEntries_map {β : Type} (g : Entry → β) (g' : Bookmark → β) (hg : ∀ n m b, g (toEntry n m b) = g' b)
    (scale : Rat) (tp : Bool) (pages : List BPage) (n : Nat) :
    (docEntries scale tp n pages).map g = (pages.flatMap (·.bookmarks)).map g' := by
  induction pages generalizing n with
  | nil => rfl
  | cons p rest ih => simp [docEntries, ih, hg, Function.comp_def]

theorem docEntries_levels (scale : Rat) (tp : Bool) (pages : List BPage) (n : Nat) :
    (docEntries scale tp n pages).map (·.level) = (pages.flatMap (·.bookmarks)).map (·.level) :=
  docEntries_map _ _ (fun _ _ _ => rfl) scale tp pages n

/-! ### the annotated pre-order determines the forest -/

/-- `rest` is empty or starts at a depth smaller than `d`. -/
def Below (d : Nat) (rest : List (Nat × Item)) : Prop := ∀ x xs, rest = x :: xs → x.1 < d

theorem flat_cons (d : Nat) (t : BTree) : ∃ it tl, flat d t = (d, it) :: tl := by
  cases t with
  | node l tg kids st => exact ⟨(l, tg, st), flatList (d + 1) kids, by simp [flat]⟩

mutual
theorem flat_inj : ∀ (t u : BTree) (d : Nat) (r r' : List (Nat × Item)), Below (d + 1) r → Below (d + 1) r' →
    flat d t ++ r = flat d u ++ r' → t = u ∧ r = r'
  | .node l tg kids st, .node l' tg' kids' st', d, r, r', hb, hb', h => by
    simp only [flat, List.cons_append, List.cons.injEq, Prod.mk.injEq, true_and] at h
    obtain ⟨⟨h1, h2, h3⟩, h4⟩ := h
    obtain ⟨hk, hr⟩ := flatList_inj kids kids' (d + 1) r r' hb hb' h4
    subst h1 h2 h3 hk
    exact ⟨rfl, hr⟩
theorem flatList_inj : ∀ (ts us : List BTree) (d : Nat) (r r' : List (Nat × Item)), Below d r → Below d r' →
    flatList d ts ++ r = flatList d us ++ r' → ts = us ∧ r = r'
  | [], [], _, r, r', _, _, h => by simpa [flatList] using h
  | [], u :: us, d, r, r', hb, _, h => by
    exfalso
    obtain ⟨it, tl, hu⟩ := flat_cons d u
    simp only [flatList, List.nil_append, hu, List.cons_append] at h
    have := hb _ _ h
    simp at this
  | t :: ts, [], d, r, r', _, hb', h => by
    exfalso
    obtain ⟨it, tl, ht⟩ := flat_cons d t
    simp only [flatList, List.nil_append, ht, List.cons_append] at h
    have := hb' _ _ h.symm
    simp at this
  | t :: ts, u :: us, d, r, r', hb, hb', h => by
    simp only [flatList, List.append_assoc] at h
    have hbelow : ∀ (vs : List BTree) (q : List (Nat × Item)), Below d q → Below (d + 1) (flatList d vs ++ q) := by
      intro vs q hq x xs hx
      cases vs with
      | nil => simp only [flatList, List.nil_append] at hx; have := hq x xs hx; omega
      | cons v vs =>
        obtain ⟨it, tl, hv⟩ := flat_cons d v
        simp only [flatList, hv, List.cons_append, List.cons.injEq] at hx
        rw [← hx.1]; simp
    obtain ⟨h1, h2⟩ := flat_inj t u d _ _ (hbelow ts r hb) (hbelow us r' hb') h
    obtain ⟨h3, h4⟩ := flatList_inj ts us d r r' hb hb' h2
    subst h1 h3
    exact ⟨rfl, h4⟩
end

theorem flatList_injective (d : Nat) (ts us : List BTree) (h : flatList d ts = flatList d us) : ts = us := by
  have := flatList_inj ts us d [] [] (by intro x xs hx; cases hx) (by intro x xs hx; cases hx) (by simpa using h)
  exact this.1

mutual
/-- A subtree with its targets erased: labels, states and nesting only. -/
def shape : BTree → BTree
  | .node l _ kids st => .node l ⟨0, 0, 0⟩ (shapeList kids) st
def shapeList : List BTree → List BTree
  | [] => []
  | t :: ts => shape t :: shapeList ts
end

def eraseTarget (x : Nat × Item) : Nat × Item := (x.1, x.2.1, ⟨0, 0, 0⟩, x.2.2.2)

mutual
theorem flat_shape : ∀ (t : BTree) (d : Nat), flat d (shape t) = (flat d t).map eraseTarget
  | .node l tg kids st, d => by
    simp only [shape, flat, List.map_cons, eraseTarget, flatList_shape kids (d + 1)]
theorem flatList_shape : ∀ (ts : List BTree) (d : Nat), flatList d (shapeList ts) = (flatList d ts).map eraseTarget
  | [], _ => rfl
  | t :: ts, d => by
    simp only [shapeList, flatList, List.map_append, flat_shape t d, flatList_shape ts d]
end

end Wp.C18
