/-
The `while True` loop of `avoid_collisions`: measure, termination, induction principle, exit condition.
-/
import WpModel.Lemmas.Floats
import WpModel.Lemmas.Basic.List

namespace Wp.Floats

/-- Number of shapes whose bottom is below `y`: the loop's measure. -/
def loopMeasure (shapes : List Shape) (y : Rat) : Nat :=
  (shapes.filter (fun s => decide (s.bottom > y))).length

theorem loopMeasure_le (shapes : List Shape) (y : Rat) : loopMeasure shapes y ≤ shapes.length := by
  unfold loopMeasure; exact List.length_filter_le _ _

/-- "The box does not fit at `y`": the condition under which the loop tries to move down. -/
def blockedAt (shapes : List Shape) (w h l0 r0 y : Rat) : Bool :=
  let b := bounds (colliding shapes y h) l0 r0
  b.constrained && Gen.blockedTest w b.r b.l

theorem mem_colliding {shapes : List Shape} {y h : Rat} {s : Shape} :
    s ∈ colliding shapes y h ↔ s ∈ shapes ∧ collides s y h = true := by
  simp [colliding]

theorem mem_lowerPositions {col : List Shape} {y q : Rat} :
    q ∈ lowerPositions col y ↔ (∃ s ∈ col, s.bottom = q) ∧ q > y := by
  simp only [lowerPositions, Gen.lowerTest, List.mem_map, List.mem_filter, decide_eq_true_eq]
  constructor
  · rintro ⟨s, ⟨h1, h2⟩, h3⟩
    exact ⟨⟨s, h1, h3⟩, by rw [← h3]; exact h2⟩
  · rintro ⟨⟨s, h1, h3⟩, h2⟩
    exact ⟨s, ⟨h1, by rw [← h3] at h2; exact h2⟩, h3⟩

theorem no_lower_position {shapes : List Shape} {y h : Rat} (hl : lowerPositions (colliding shapes y h) y = []) :
    ∀ s ∈ shapes, collides s y h = true → s.bottom ≤ y := by
  intro s hs hc
  refine Rat.not_lt.mp fun hgt => ?_
  have : s.bottom ∈ lowerPositions (colliding shapes y h) y :=
    mem_lowerPositions.mpr ⟨⟨s, mem_colliding.mpr ⟨hs, hc⟩, rfl⟩, hgt⟩
  rw [hl] at this
  cases this

/-- The next position chosen by `continue`. -/
theorem next_position {shapes : List Shape} {h y p : Rat} {ps : List Rat}
    (hl : lowerPositions (colliding shapes y h) y = p :: ps) :
    (∃ s ∈ shapes, collides s y h = true ∧ s.bottom = minList p ps) ∧ minList p ps > y ∧
    (∀ s ∈ shapes, collides s y h = true → s.bottom > y → minList p ps ≤ s.bottom) := by
  have hmem : minList p ps ∈ lowerPositions (colliding shapes y h) y := by
    rw [hl]; exact minList_mem p ps
  rcases mem_lowerPositions.mp hmem with ⟨⟨s, hs, hb⟩, hgt⟩
  refine ⟨⟨s, (mem_colliding.mp hs).1, (mem_colliding.mp hs).2, hb⟩, hgt, ?_⟩
  intro s' hs' hc' hb'
  have : s'.bottom ∈ lowerPositions (colliding shapes y h) y :=
    mem_lowerPositions.mpr ⟨⟨s', mem_colliding.mpr ⟨hs', hc'⟩, rfl⟩, hb'⟩
  rw [hl] at this
  exact minList_le p ps _ this

theorem measure_decreases {shapes : List Shape} {h y p : Rat} {ps : List Rat}
    (hl : lowerPositions (colliding shapes y h) y = p :: ps) :
    loopMeasure shapes (minList p ps) < loopMeasure shapes y := by
  rcases next_position hl with ⟨⟨s, hs, _, hb⟩, hgt, _⟩
  unfold loopMeasure
  refine List.length_filter_lt_of_imp ?_ hs ?_ ?_
  · intro a _ ha
    simp at ha ⊢
    grind
  · simp; rw [hb]; exact hgt
  · simp [hb]

theorem avoidLoop_succ (fuel : Nat) (shapes : List Shape) (w h l0 r0 y : Rat) :
    avoidLoop (fuel + 1) shapes w h l0 r0 y =
      (let col := colliding shapes y h
       let b := bounds col l0 r0
       if b.constrained && Gen.blockedTest w b.r b.l then
         match lowerPositions col y with
         | [] => some ⟨y, b.l, b.r⟩
         | p :: ps => avoidLoop fuel shapes w h l0 r0 (minList p ps)
       else some ⟨y, b.l, b.r⟩) := by
  rfl

theorem avoidLoop_fuel (f1 f2 : Nat) (shapes : List Shape) (w h l0 r0 y : Rat)
    (h1 : loopMeasure shapes y < f1) (h2 : loopMeasure shapes y < f2) :
    (avoidLoop f1 shapes w h l0 r0 y).isSome = true ∧
    avoidLoop f1 shapes w h l0 r0 y = avoidLoop f2 shapes w h l0 r0 y := by
  induction f1 generalizing y f2 with
  | zero => omega
  | succ n ih =>
    cases f2 with
    | zero => omega
    | succ m =>
      rw [avoidLoop_succ, avoidLoop_succ]
      simp only
      split
      · split
        · exact ⟨rfl, rfl⟩
        · rename_i p ps hl
          have := measure_decreases hl
          apply ih <;> omega
      · exact ⟨rfl, rfl⟩

/-- Induction principle over the positions visited by the loop: `P` holds at the start and is
preserved by every `continue`; then it holds at the result, together with the exit condition. -/
theorem avoidLoop_induct (P : Rat → Prop) (shapes : List Shape) (w h l0 r0 : Rat)
    (hstep : ∀ y p ps, P y → blockedAt shapes w h l0 r0 y = true →
      lowerPositions (colliding shapes y h) y = p :: ps → P (minList p ps))
    (fuel : Nat) (y : Rat) (res : LoopRes) (h0 : P y)
    (hres : avoidLoop fuel shapes w h l0 r0 y = some res) :
    P res.y ∧
    res.l = (bounds (colliding shapes res.y h) l0 r0).l ∧
    res.r = (bounds (colliding shapes res.y h) l0 r0).r ∧
    (blockedAt shapes w h l0 r0 res.y = false ∨
      lowerPositions (colliding shapes res.y h) res.y = []) := by
  fun_induction avoidLoop fuel shapes w h l0 r0 y with
  | case1 => cases hres
  | case2 => rename_i hb hl; cases hres; exact ⟨h0, rfl, rfl, .inr hl⟩
  | case3 =>
    rename_i hb p ps hl ih
    exact ih hstep (hstep _ p ps h0 (by simpa [blockedAt] using hb) hl) hres
  | case4 => rename_i hb; cases hres; exact ⟨h0, rfl, rfl, .inl (by simpa [blockedAt] using hb)⟩

theorem avoidLoop_exit {fuel : Nat} {shapes : List Shape} {w h l0 r0 y : Rat} {res : LoopRes}
    (hres : avoidLoop fuel shapes w h l0 r0 y = some res) :
    res.l = (bounds (colliding shapes res.y h) l0 r0).l ∧
    res.r = (bounds (colliding shapes res.y h) l0 r0).r ∧
    (blockedAt shapes w h l0 r0 res.y = false ∨
      lowerPositions (colliding shapes res.y h) res.y = []) :=
  (avoidLoop_induct (fun _ => True) shapes w h l0 r0 (fun _ _ _ _ _ _ => trivial) fuel y res trivial hres).2

end Wp.Floats
