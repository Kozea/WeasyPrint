/-
Paint-once for backgrounds.

Part 1 (no hypothesis on the tree): for a *coherent* context — `blocks` / `blocks_and_cells` are the
block-level boxes / cells of its own pruned tree in tree order, which is what the dispatcher builds
(`blocks_dispatchS` / `blocks_listS`) — points 4 and 7 of `draw_stacking_context` are tree recursions
(`flow4L`, `flow7L`).

Part 2: on the block / line / inline / inline-block grammar (no table boxes in flow), when every
context root is of a class whose decoration is painted (point 2, point 6) the background of every box
of the structure is painted exactly once, and not at all below a singular transform.  Counting is
done with the selector of backgrounds, `roleSel .bg i` (`cntBg_eq_cnt`), and the lemmas of `Sel`.
-/
import WpModel.Lemmas.StackingPartition
import WpModel.Model.PaintOrder
import WpModel.Lemmas.PaintEnv
import WpModel.Lemmas.PaintSel

namespace Wp.Stacking
open Wp Wp.Gen

mutual
/-- Point 4 restricted to the subtree of one entry of a children list. -/
def flow4 : Node → Env → List Item
  | .leaf a, e => if a.kind.dispBlockLevel then drawBlock (.leaf a) e else []
  | .node a kids, e =>
    (if a.kind.dispBlockLevel then drawBlock (.node a kids) e else []) ++ flow4L kids e
  | .ph _, _ => []
  | .ctx .., _ => []
def flow4L : List Node → Env → List Item
  | [], _ => []
  | n :: ns, e => flow4 n e ++ flow4L ns e
end

mutual
/-- Point 7 (the part over `blocks_and_cells`) restricted to the subtree of one entry. -/
def flow7 (pov : Bool) : Node → Env → List Item
  | .leaf a, e =>
    if a.kind.dispBlockLevel || a.kind.dispCell then point7With a [] (fun _ => []) e else []
  | .node a kids, e =>
    (if a.kind.dispBlockLevel || a.kind.dispCell then point7With a kids (inlList pov kids) e else []) ++
      flow7L pov kids e
  | .ph _, _ => []
  | .ctx .., _ => []
def flow7L (pov : Bool) : List Node → Env → List Item
  | [], _ => []
  | n :: ns, e => flow7 pov n e ++ flow7L pov ns e
end

theorem point7List_append (pov : Bool) (l m : List Node) (e : Env) :
    point7List pov (l ++ m) e = point7List pov l e ++ point7List pov m e := by
  induction l with
  | nil => simp [point7List]
  | cons x xs ih =>
    rw [List.cons_append, point7List_cons, point7List_cons pov x xs, ih, List.append_assoc]

mutual
theorem flow4_region : ∀ (n : Node) (e : Env),
    (n.region.filter Node.isBlockLevel).flatMap (drawBlock · e) = flow4 n e
  | .leaf a, e => by
    by_cases h : a.kind.dispBlockLevel = true <;>
      simp [Node.region, Node.isBlockLevel, flow4, h]
  | .node a kids, e => by
    have ih := flow4L_region kids e
    by_cases h : a.kind.dispBlockLevel = true <;>
      simp [Node.region, Node.isBlockLevel, flow4, h, ih]
  | .ph _, e => by simp [Node.region, flow4]
  | .ctx .., e => by simp [Node.region, flow4]
theorem flow4L_region : ∀ (l : List Node) (e : Env),
    ((Node.regionL l).filter Node.isBlockLevel).flatMap (drawBlock · e) = flow4L l e
  | [], e => by simp [Node.regionL, flow4L]
  | n :: ns, e => by
    simp [Node.regionL, flow4L, List.filter_append, List.flatMap_append, flow4_region n e,
      flow4L_region ns e]
end

mutual
theorem flow7_region (pov : Bool) : ∀ (n : Node) (e : Env),
    point7List pov (n.region.filter Node.isBlockOrCell) e = flow7 pov n e
  | .leaf a, e => by
    by_cases h : (a.kind.dispBlockLevel || a.kind.dispCell) = true <;>
      simp [Node.region, Node.isBlockOrCell, flow7, h, point7List]
  | .node a kids, e => by
    have ih := flow7L_region pov kids e
    by_cases h : (a.kind.dispBlockLevel || a.kind.dispCell) = true
    · simp only [Node.region, List.filter_cons, Node.isBlockOrCell, h, ↓reduceIte, flow7]
      rw [point7List, ih]
    · simp only [Node.region, List.filter_cons, Node.isBlockOrCell, h, Bool.false_eq_true,
        ↓reduceIte, flow7, List.nil_append]
      exact ih
  | .ph _, e => by simp [Node.region, flow7, point7List]
  | .ctx .., e => by simp [Node.region, flow7, point7List]
theorem flow7L_region (pov : Bool) : ∀ (l : List Node) (e : Env),
    point7List pov ((Node.regionL l).filter Node.isBlockOrCell) e = flow7L pov l e
  | [], e => by simp [Node.regionL, flow7L, point7List]
  | n :: ns, e => by
    simp [Node.regionL, flow7L, List.filter_append, point7List_append, flow7_region pov n e,
      flow7L_region pov ns e]
end

def isBg (i : Nat) : Item → Bool
  | .paint .bg j _ _ => j == i
  | _ => false

/-- How many times the background of box `i` is painted by a display list. -/
def cntBg (i : Nat) (l : List Item) : Nat := l.countP (isBg i)

@[simp] theorem cntBg_nil (i : Nat) : cntBg i [] = 0 := rfl
@[simp] theorem cntBg_append (i : Nat) (l m : List Item) : cntBg i (l ++ m) = cntBg i l + cntBg i m := by
  simp [cntBg, List.countP_append]

/-- The box ids whose background colour is painted: `box.background` with a non-transparent colour. -/
def bgOf (a : Attrs) : List Nat :=
  match a.bg with
  | some (some _) => [a.id]
  | _ => []

/-- `cntBg i` counts what the selector of the backgrounds of box `i` picks. -/
theorem cntBg_eq_cnt (i : Nat) (l : List Item) : cntBg i l = (C17.roleSel .bg i).cnt l := by
  refine List.countP_congr (fun it _ => ?_)
  cases it with
  | paint r j c f => cases r <;> exact Iff.rfl
  | raise x => exact Iff.rfl

/-! The selector of backgrounds counts the painted colour of a box and nothing else. -/

theorem roleSel_bg_deco (i : Nat) (a : Attrs) : (C17.roleSel .bg i).deco a = (bgOf a).count i := by
  have hbd : (C17.roleSel .bg i).border a = 0 := by simp [C17.roleSel]
  unfold Sel.deco bgOf
  rw [hbd]
  rcases a.bg with _ | _ | c
  · rw [Sel.bg_none]; rfl
  · rw [Sel.bg_transparent]; rfl
  · by_cases h : a.id = i <;> simp [C17.roleSel, C17.isColour, h]

theorem roleSel_bg_text (i : Nat) (a : Attrs) : (C17.roleSel .bg i).text a = 0 := by
  simp [C17.roleSel]

theorem roleSel_bg_repl (i : Nat) (a : Attrs) : (C17.roleSel .bg i).repl a = 0 := by
  simp [C17.roleSel]

theorem roleSel_bg_outline (i : Nat) (a : Attrs) : (C17.roleSel .bg i).outline a = 0 := by
  simp [C17.roleSel]

theorem roleSel_bg_raise (i : Nat) (x : PyErr) : (C17.roleSel .bg i).cnt [.raise x] = 0 := rfl

theorem cntBg_ownOutline (i : Nat) (a : Attrs) (e : Env) : cntBg i (ownOutline a e) = 0 := by
  rw [cntBg_eq_cnt, Sel.cnt_ownOutline, roleSel_bg_outline]

mutual
theorem cntBg_outline_node (i : Nat) : ∀ (n : Node) (e : Env), cntBg i (outlineList [n] e) = 0
  | .leaf a, e => by simp [outlineList, cntBg_ownOutline]
  | .node a kids, e => by simp [outlineList, cntBg_ownOutline, cntBg_outlineList i kids e]
  | .ph _, e => by simp [outlineList]
  | .ctx .., e => by simp [outlineList]
theorem cntBg_outlineList (i : Nat) : ∀ (l : List Node) (e : Env), cntBg i (outlineList l e) = 0
  | [], e => by simp [outlineList]
  | n :: ns, e => by
    rw [outlineList_cons]; simp [cntBg_outline_node i n e, cntBg_outlineList i ns e]
end

theorem roleSel_bg_outlineList (i : Nat) (l : List Node) (e : Env) :
    (C17.roleSel .bg i).cnt (outlineList l e) = 0 :=
  cntBg_eq_cnt i _ ▸ cntBg_outlineList i l e

mutual
/-- Box ids whose background is due, at the tree positions of a dispatched structure; nothing below
a context whose box has a singular transform. -/
def expBg : Node → List Nat
  | .leaf a => bgOf a
  | .node a kids => bgOf a ++ expBgL kids
  | .ph _ => []
  | .ctx (.leaf a) neg zero pos _ floats _ _ =>
    if a.matrix = .singular then []
    else bgOf a ++ (expBgL neg ++ (expBgL zero ++ (expBgL pos ++ expBgL floats)))
  | .ctx (.node a kids) neg zero pos _ floats _ _ =>
    if a.matrix = .singular then []
    else bgOf a ++ (expBgL kids ++ (expBgL neg ++ (expBgL zero ++ (expBgL pos ++ expBgL floats))))
  | .ctx (.ph _) .. => []
  | .ctx (.ctx ..) .. => []
def expBgL : List Node → List Nat
  | [] => []
  | n :: ns => expBg n ++ expBgL ns
end

/-- Hypothesis on context roots: the own decoration is painted by exactly one of point 2 / point 6
(false for table parts: known finding `context-root-loses-decoration`). -/
def rootPainted (a : Attrs) : Prop :=
  (a.kind.drawOwnDecoration = true ∧ a.kind.drawInline = false) ∨
  (a.kind.drawOwnDecoration = false ∧ a.kind.drawInline = true ∧ a.kind.dilInlineOrLine = true)

/-- A painted root that is an inline box is painted by point 6 alone. -/
theorem rootPainted.of_inline {a : Attrs} (h : rootPainted a) (h6 : a.kind.drawInline = true) :
    a.kind.drawOwnDecoration = false ∧ a.kind.dilInlineOrLine = true := by
  rcases h with ⟨_, h⟩ | ⟨h2, _, hio⟩
  · rw [h] at h6; cases h6
  · exact ⟨h2, hio⟩

/-- Any other painted root is painted by point 2. -/
theorem rootPainted.of_not_inline {a : Attrs} (h : rootPainted a) (h6 : a.kind.drawInline = false) :
    a.kind.drawOwnDecoration = true := by
  rcases h with ⟨h2, _⟩ | ⟨_, h, _⟩
  · exact h2
  · rw [h] at h6; cases h6

mutual
/-- Inline-level content of a line: text and replaced leaves, inline boxes, atomic contexts. -/
def wfInline : Node → Prop
  | .leaf a => a.kind.dispBlockLevel = false ∧ a.kind.dispCell = false ∧
      (a.kind.dilTextChild = true → bgOf a = [])
  | .node a kids => a.kind.dispBlockLevel = false ∧ a.kind.dispCell = false ∧
      a.kind.dilInlineOrLine = true ∧ a.kind.dilTextChild = false ∧ wfInlineL kids
  | .ph _ => False
  | .ctx box neg zero pos blocks floats bc z =>
    ctxAllowed box = true ∧ wfCtx (.ctx box neg zero pos blocks floats bc z)
-- on a context `wfInline` calls `wfCtx` on the same node: the second component orders the two
termination_by n => (sizeOf n, 1)
decreasing_by
  · simp_wf; exact Prod.Lex.left _ _ (by simp +arith)
  · simp_wf; exact Prod.Lex.right _ Nat.zero_lt_one
def wfInlineL : List Node → Prop
  | [] => True
  | n :: ns => wfInline n ∧ wfInlineL ns
termination_by n => (sizeOf n, 0)
decreasing_by all_goals (simp_wf; exact Prod.Lex.left _ _ (by simp +arith))
/-- A box in block flow: block-level, not a table; its children are blocks or lines. -/
def wfFlow : Node → Prop
  | .leaf a => a.kind.dispBlockLevel = true ∧ a.kind.drawTable = false
  | .node a kids => a.kind.dispBlockLevel = true ∧ a.kind.drawTable = false ∧ a.kind.drawReplaced = false ∧
      ((wfFlowL kids ∧ lastIsLine kids = false) ∨ (lastIsLine kids = true ∧ wfInlineL kids))
  | .ph _ => False
  | .ctx .. => False
termination_by n => (sizeOf n, 0)
decreasing_by all_goals (simp_wf; exact Prod.Lex.left _ _ (by simp +arith))
def wfFlowL : List Node → Prop
  | [] => True
  | n :: ns => wfFlow n ∧ wfFlowL ns
termination_by n => (sizeOf n, 0)
decreasing_by all_goals (simp_wf; exact Prod.Lex.left _ _ (by simp +arith))
/-- A context: painted root class, coherent `blocks` / `blocks_and_cells`, well-formed lists. -/
def wfCtx : Node → Prop
  | .ctx (.leaf a) neg zero pos blocks floats bc _ =>
    rootPainted a ∧ blocks = [] ∧ bc = [] ∧
    wfCtxL neg ∧ wfCtxL zero ∧ wfCtxL pos ∧ wfCtxL floats
  | .ctx (.node a kids) neg zero pos blocks floats bc _ =>
    rootPainted a ∧ a.kind.drawReplaced = false ∧
    blocks = (Node.regionL kids).filter Node.isBlockLevel ∧
    bc = (Node.regionL kids).filter Node.isBlockOrCell ∧
    wfCtxL neg ∧ wfCtxL zero ∧ wfCtxL pos ∧ wfCtxL floats ∧
    ((a.kind.drawInline = true ∧ lastIsLine kids = false ∧ wfInlineL kids) ∨
     (a.kind.drawInline = false ∧
        ((wfFlowL kids ∧ lastIsLine kids = false) ∨ (lastIsLine kids = true ∧ wfInlineL kids))))
  | .ctx (.ph _) .. => False
  | .ctx (.ctx ..) .. => False
  | .leaf _ => False
  | .node _ _ => False
  | .ph _ => False
termination_by n => (sizeOf n, 0)
decreasing_by all_goals (simp_wf; exact Prod.Lex.left _ _ (by simp +arith))
def wfCtxL : List Node → Prop
  | [] => True
  | n :: ns => wfCtx n ∧ wfCtxL ns
termination_by n => (sizeOf n, 0)
decreasing_by all_goals (simp_wf; exact Prod.Lex.left _ _ (by simp +arith))
end

/-- What is proved about a list of nodes, according to the role the list plays (`s` the selector of the
backgrounds of box `i`). -/
structure OnceL (s : Sel) (pov : Bool) (i : Nat) (l : List Node) : Prop where
  inl : wfInlineL l → ∀ e,
    s.cnt (inlKids pov l e) = (expBgL l).count i ∧ s.cnt (inlList pov l e) = (expBgL l).count i ∧
    s.cnt (flow4L l e) = 0 ∧ s.cnt (flow7L pov l e) = 0
  flow : wfFlowL l → ∀ e, s.cnt (flow4L l e) + s.cnt (flow7L pov l e) = (expBgL l).count i
  ctx : wfCtxL l → ∀ e, s.cnt (paintList pov l e) = (expBgL l).count i

theorem flow_node_count {s : Sel} {pov : Bool} {i : Nat} (a : Attrs) {kids : List Node} (ih : OnceL s pov i kids)
    (hr : a.kind.drawReplaced = false)
    (h : (wfFlowL kids ∧ lastIsLine kids = false) ∨ (lastIsLine kids = true ∧ wfInlineL kids)) (e : Env) :
    s.cnt (flow4L kids e) + s.cnt (point7With a kids (inlList pov kids) e) + s.cnt (flow7L pov kids e) =
      (expBgL kids).count i := by
  rw [s.cnt_point7With a kids _ e hr]
  rcases h with ⟨hf, hl⟩ | ⟨hl, hi⟩
  · have := ih.flow hf e
    simp [hl]; omega
  · obtain ⟨_, h2, h3, h4⟩ := ih.inl hi e
    simp [hl, h2, h3, h4]

mutual
theorem once_node (pov : Bool) (i : Nat) : ∀ (n : Node), OnceL (C17.roleSel .bg i) pov i [n]
  | .leaf a => by
    refine ⟨?_, ?_, ?_⟩
    · intro h e
      simp only [wfInlineL, wfInline, and_true] at h
      obtain ⟨hb, hc, ht⟩ := h
      refine ⟨?_, ?_, ?_, ?_⟩
      · simp only [inlKids, expBgL, expBg, List.append_nil]
        by_cases htc : a.kind.dilTextChild = true
        · simp [htc, Sel.cnt_drawText, roleSel_bg_text, ht htc]
        · simp [htc, Sel.cnt_inlBoxWith, roleSel_bg_deco, roleSel_bg_text, roleSel_bg_repl, roleSel_bg_raise]
      · simp [inlList, expBgL, expBg, Sel.cnt_inlBoxWith, roleSel_bg_deco, roleSel_bg_text, roleSel_bg_repl, roleSel_bg_raise]
      · simp [flow4L, flow4, hb]
      · simp [flow7L, flow7, hb, hc]
    · intro h e
      simp only [wfFlowL, wfFlow, and_true] at h
      obtain ⟨hb, ht⟩ := h
      simp [flow4L, flow4, flow7L, flow7, hb, ht, drawBlock, Sel.cnt_decoration, roleSel_bg_deco, Sel.cnt_point7With_leaf,
        roleSel_bg_repl, expBgL, expBg]
    · intro h; simp [wfCtxL, wfCtx] at h
  | .node a kids => by
    have ih := once_list pov i kids
    refine ⟨?_, ?_, ?_⟩
    · intro h e
      simp only [wfInlineL, wfInline, and_true] at h
      obtain ⟨hb, hc, hio, ht, hk⟩ := h
      obtain ⟨h1, h2, h3, h4⟩ := ih.inl hk e
      refine ⟨?_, ?_, ?_, ?_⟩
      · simp [inlKids, expBgL, expBg, ht, Sel.cnt_inlBoxWith, roleSel_bg_deco, hio, h1, List.count_append]
      · simp [inlList, expBgL, expBg, Sel.cnt_inlBoxWith, roleSel_bg_deco, hio, h1, List.count_append]
      · simp [flow4L, flow4, hb, h3]
      · simp [flow7L, flow7, hb, hc, h4]
    · intro h e
      simp only [wfFlowL, wfFlow, and_true] at h
      obtain ⟨hb, ht, hr, hk⟩ := h
      have := flow_node_count a ih hr hk e
      simp only [flow4L, flow4, flow7L, flow7, hb, ht, drawBlock, Bool.true_or, ↓reduceIte,
        Bool.false_eq_true, List.append_nil, Sel.cnt_append, Sel.cnt_decoration, roleSel_bg_deco, expBgL, expBg,
        List.count_append]
      omega
    · intro h; simp [wfCtxL, wfCtx] at h
  | .ph _ => by
    refine ⟨?_, ?_, ?_⟩
    · intro h; simp [wfInlineL, wfInline] at h
    · intro h; simp [wfFlowL, wfFlow] at h
    · intro h; simp [wfCtxL, wfCtx] at h
  | .ctx box neg zero pos blocks floats bc z => by
    have hctx : wfCtx (.ctx box neg zero pos blocks floats bc z) → ∀ e,
        (C17.roleSel .bg i).cnt (paint pov (.ctx box neg zero pos blocks floats bc z) e) =
          (expBg (.ctx box neg zero pos blocks floats bc z)).count i := by
      have hneg := once_list pov i neg
      have hzero := once_list pov i zero
      have hpos := once_list pov i pos
      have hfl := once_list pov i floats
      match box with
      | .leaf a =>
        intro h e
        simp only [wfCtx] at h
        obtain ⟨hroot, hbl, hbc, wn, wz, wp, wf⟩ := h
        subst hbl; subst hbc
        rw [paint, Sel.cnt_paintBodyWith _ _ _ _ _ _ _ _ _ _ _ _ (fun h6 => (hroot.of_inline h6).2), expBg]
        by_cases hs : a.matrix = .singular
        · simp [hs]
        · simp only [hs, ↓reduceIte, List.flatMap_nil, Sel.cnt_nil, Sel.cnt_append, Sel.cnt_point7With_leaf,
            point7List, hneg.ctx wn, hzero.ctx wz, hpos.ctx wp, hfl.ctx wf, List.count_append, roleSel_bg_deco, roleSel_bg_repl, roleSel_bg_outline,
            ite_self]
          rcases hroot with ⟨h2, h6⟩ | ⟨h2, h6, hio⟩
          · simp [h2, h6]; omega
          · simp [h2, h6]; omega
      | .node a kids =>
        have ih := once_list pov i kids
        intro h e
        simp only [wfCtx] at h
        obtain ⟨hroot, hr, hbl, hbc, wn, wz, wp, wf, hbody⟩ := h
        subst hbl; subst hbc
        rw [paint, Sel.cnt_paintBodyWith _ _ _ _ _ _ _ _ _ _ _ _ (fun h6 => (hroot.of_inline h6).2), expBg]
        by_cases hs : a.matrix = .singular
        · simp [hs]
        · simp only [hs, ↓reduceIte, Sel.cnt_append, flow4L_region, flow7L_region, hneg.ctx wn,
            hzero.ctx wz, hpos.ctx wp, hfl.ctx wf, List.count_append, roleSel_bg_deco, roleSel_bg_outline, roleSel_bg_outlineList]
          rcases hbody with ⟨h6, hl, hk⟩ | ⟨h6, hk⟩
          · -- an inline box roots the context: point 6 paints it and its inline content
            obtain ⟨h2, hio⟩ := hroot.of_inline h6
            obtain ⟨h1, _, h3, h4⟩ := ih.inl hk (innerEnv a pov e)
            rw [Sel.cnt_point7With _ a kids _ _ hr]
            simp [h2, h6, hl, h1, h3, h4]; omega
          · have h2 := hroot.of_not_inline h6
            have := flow_node_count a ih hr hk (innerEnv a pov e)
            simp [h2, h6]; omega
      | .ph _ => intro h; simp [wfCtx] at h
      | .ctx .. => intro h; simp [wfCtx] at h
    refine ⟨?_, ?_, ?_⟩
    · intro h e
      simp only [wfInlineL, wfInline, and_true] at h
      obtain ⟨ha, hw⟩ := h
      have := hctx hw e
      refine ⟨?_, ?_, ?_, ?_⟩
      · simp [inlKids, ha, expBgL, this]
      · simp [inlList, ha, expBgL, this]
      · simp [flow4L, flow4]
      · simp [flow7L, flow7]
    · intro h; simp [wfFlowL, wfFlow] at h
    · intro h e
      simp only [wfCtxL, and_true] at h
      simp [paintList, expBgL, hctx h e]
theorem once_list (pov : Bool) (i : Nat) : ∀ (l : List Node), OnceL (C17.roleSel .bg i) pov i l
  | [] => ⟨fun _ _ => by simp [inlKids, inlList, flow4L, flow7L, expBgL],
           fun _ _ => by simp [flow4L, flow7L, expBgL],
           fun _ _ => by simp [paintList, expBgL]⟩
  | n :: l => by
    have h1 := once_node pov i n
    have h2 := once_list pov i l
    refine ⟨?_, ?_, ?_⟩
    · intro h e
      simp only [wfInlineL] at h
      obtain ⟨a1, a2, a3, a4⟩ := h1.inl (by simp [wfInlineL, h.1]) e
      obtain ⟨b1, b2, b3, b4⟩ := h2.inl h.2 e
      simp only [expBgL, List.append_nil, flow4L, flow7L] at a1 a2 a3 a4
      refine ⟨?_, ?_, ?_, ?_⟩
      · rw [inlKids_cons]; simp [expBgL, List.count_append, a1, b1]
      · rw [inlList_cons]; simp [expBgL, List.count_append, a2, b2]
      · simp [flow4L, a3, b3]
      · simp [flow7L, a4, b4]
    · intro h e
      simp only [wfFlowL] at h
      have a := h1.flow (by simp [wfFlowL, h.1]) e
      have b := h2.flow h.2 e
      simp only [expBgL, List.append_nil, flow4L, flow7L] at a
      simp only [flow4L, flow7L, expBgL, Sel.cnt_append, List.count_append]
      omega
    · intro h e
      simp only [wfCtxL] at h
      have a := h1.ctx (by simp [wfCtxL, h.1]) e
      have b := h2.ctx h.2 e
      simp only [expBgL, List.append_nil, paintList] at a
      simp only [paintList, expBgL, Sel.cnt_append, List.count_append]
      omega
end

end Wp.Stacking
