/-
Embedding of the stage-1 pagination model into the footnote model: a stage-1 document, read as a
footnote document without any call, is paginated identically.
-/
import WpModel.Lemmas.FootTurn
import WpModel.Lemmas.Pm2Step
import WpModel.Lemmas.PagesRun
import WpModel.Lemmas.FootPagesRun

namespace Wp.PMF
open Wp Wp.PM

mutual
/-- A stage-1 box as a footnote box: paragraphs carry no call. -/
def embed : PBox → FootBox
  | .para id n lineH st => .para id n lineH st []
  | .block id st kids => .block id st (embedList kids)
def embedList : List PBox → List FootBox
  | [] => []
  | b :: bs => embed b :: embedList bs
end

mutual
theorem erase_embed : (b : PBox) → (embed b).erase = b
  | .para _ _ _ _ => by simp [embed, FootBox.erase]
  | .block _ _ kids => by simp [embed, FootBox.erase, eraseList_embedList kids]
theorem eraseList_embedList : (bs : List PBox) → eraseList (embedList bs) = bs
  | [] => by simp [embedList, eraseList]
  | b :: bs => by simp [embedList, eraseList, erase_embed b, eraseList_embedList bs]
end

mutual
theorem boxFns_embed : (b : PBox) → boxFns (embed b) = []
  | .para _ _ _ _ => by simp [embed, boxFns]
  | .block _ _ kids => by simp [embed, boxFns, boxFnsList_embedList kids]
theorem boxFnsList_embedList : (bs : List PBox) → boxFnsList (embedList bs) = []
  | [] => by simp [embedList, boxFnsList]
  | b :: bs => by simp [embedList, boxFnsList, boxFns_embed b, boxFnsList_embedList bs]
end

mutual
theorem callTable_embed : (b : PBox) → callTable (embed b) = []
  | .para _ _ _ _ => by simp [embed, callTable]
  | .block _ _ kids => by simp [embed, callTable, callTableList_embedList kids]
theorem callTableList_embedList : (bs : List PBox) → callTableList (embedList bs) = []
  | [] => by simp [embedList, callTableList]
  | b :: bs => by simp [embedList, callTableList, callTable_embed b, callTableList_embedList bs]
end

theorem boxFnsList_dropKids_embed (bs : List PBox) (k : Nat) : boxFnsList (dropKids (embedList bs) k) = [] := by
  induction bs generalizing k with
  | nil => cases k <;> simp [embedList, dropKids, boxFnsList]
  | cons b bs ih =>
    cases k with
    | zero => simp only [dropKids]; exact boxFnsList_embedList (b :: bs)
    | succ k => simp only [embedList, dropKids]; exact ih k

theorem tblFns_nil (ls : List (Nat × Nat)) : tblFns [] ls = [] := by
  induction ls with
  | nil => rfl
  | cons l ls ih => simp [tblFns, ih]

theorem lineFnsList_nil (st : PStyle) (ls : List (Nat × Rat)) : lineFnsList st [] ls = [] := by
  induction ls with
  | nil => rfl
  | cons l ls ih => simp [lineFnsList, lineFns, ih]

@[simp] theorem unlayAll_nil (c : FCtx) (fs : FState) : unlayAll c fs [] = fs := rfl

theorem pair_ite {α β : Type} (c : Prop) [Decidable c] (a b : α) (x : β) :
    (if c then (a, x) else (b, x)) = (if c then a else b, x) := by
  split <;> rfl

theorem lineLoopF_embed (c : FCtx) (st : PStyle) (b : BoxSt) (n : Nat) (lineH : Rat) (pie : Bool) (bs : Rat)
    (fuel i : Nat) (y : Rat) (s : LineLoop) (fs : FState) :
    lineLoopF c st [] b n lineH pie bs fuel i y s fs = (lineLoop (ctxOf c fs) st b n lineH pie bs fuel i y s, fs) := by
  induction fuel generalizing i y s with
  | zero => simp [lineLoopF, lineLoop]
  | succ fuel ih =>
    unfold lineLoopF lineLoop
    simp only [lineFns, List.filter_nil, List.map_nil, footLoop, breakLineUnlay, lineFnsList_nil,
      List.append_nil, unlayAll_nil, ih, pair_ite]

theorem lineboxLayoutF_embed (c : FCtx) (st : PStyle) (b : BoxSt) (n : Nat) (lineH : Rat) (pie : Bool)
    (adj : List Rat) (bs posY : Rat) (skip : Option Resume) (dbd : Bool) (fs : FState) :
    lineboxLayoutF c st [] b n lineH pie adj bs posY skip dbd fs =
      (lineboxLayout (ctxOf c fs) st b n lineH pie adj bs posY skip dbd, fs) := by
  unfold lineboxLayoutF lineboxLoopF lineboxLayout lineboxLoop
  rw [lineLoopF_embed]
  simp only [Prod.mk.injEq, and_true]
  split <;> simp_all [lineResultOf]

theorem finishParaF_embed (c : FCtx) (st : PStyle) (p : Prep) (pie : Bool) (id idx n : Nat) (r : LineResult)
    (fs : FState) :
    finishParaF c st [] p pie id idx n r fs = ⟨finishPara (ctxOf c fs) st p pie id idx n r, fs⟩ := by
  unfold finishParaF
  simp only [List.map_nil, unlayAll_nil, lineFnsList_nil, List.append_nil]
  split
  · rfl
  · simp only [ite_self]

theorem finishBlockF_embed (c : FCtx) (st : PStyle) (kids : List PBox) (k : Nat) (p : Prep) (pie : Bool)
    (id idx : Nat) (out : KidsOutcome) (fs : FState) (ht : c.tbl = []) :
    finishBlockF c st (dropKids (embedList kids) k) p pie id idx out fs =
      ⟨finishBlock (ctxOf c fs) st p pie id idx out, fs⟩ := by
  unfold finishBlockF
  cases out with
  | aborted page s => simp [boxFnsList_dropKids_embed, ht, tblFns_nil]
  | stopped resume s =>
    simp only [boxFnsList_dropKids_embed, ht, tblFns_nil, List.append_nil, unlayAll_nil, ite_self]
  | finished s => rfl

theorem unlayFrag_nil (c : FCtx) (fs : FState) (f : Option Frag) (ht : c.tbl = []) : unlayFrag c fs f = fs := by
  cases f <;> simp [unlayFrag, ht, tblFns_nil]

theorem firstPassUnlay_nil (c : FCtx) (r : LayoutResult) (fp : FirstPass) (fs : FState) (ht : c.tbl = []) :
    firstPassUnlay c r fp fs = fs := by
  unfold firstPassUnlay
  split <;> simp [unlayFrag_nil, ht]

theorem earlierUnlay_nil (c : FCtx) (pb : Brk) (s : KidsLoop) (frag : Option Frag) (fs : FState)
    (ht : c.tbl = []) : earlierUnlay c pb s frag fs = fs := by
  unfold earlierUnlay
  split
  · rfl
  · split
    · split <;> simp [ht, tblFns_nil]
    · rfl

/-- One turn of the children loop on an embedded child is stage 1's turn, the footnote state untouched, given that
the child's own layouts are stage 1's. -/
theorem kidStepF_embed (c : FCtx) (st : PStyle) (index : Nat) (bs : Rat) (pie : Bool) (child : PBox) (s : KidsLoop)
    (fs : FState) (ht : c.tbl = [])
    (hbox : ∀ y bs skip cb pie adjL fs, c.tbl = [] → layoutBoxF c (embed child) index y bs skip cb pie adjL fs =
      ⟨layoutBox (ctxOf c fs) child index y bs skip cb pie adjL, fs⟩) :
    kidStepF c st index bs pie (embed child) s fs = (kidStep (ctxOf c fs) st index bs pie child s, fs) := by
  have hk : kidResultF c st (embed child) index bs pie s fs = (kidResult (ctxOf c fs) st child index bs pie s, fs) := by
    unfold kidResultF kidResult
    simp only [hbox _ _ _ _ _ _ _ ht, firstPassUnlay_nil _ _ _ _ ht]
    generalize layoutBox (ctxOf c fs) child index s.posY bs s.skip st.isRoot (pie && s.newChildren.isEmpty) s.cur = r
    cases firstPass (ctxOf c fs) bs (pie && s.newChildren.isEmpty) s.posY r <;> rfl
  unfold kidStepF kidStep
  simp only [erase_embed, hk, earlierUnlay_nil _ _ _ _ _ ht]
  split
  · rfl
  · generalize concludeKid _ _ _ _ _ _ _ = x
    rcases x with ⟨_ | out, s3⟩ <;> rfl

mutual
theorem layoutBoxF_embed : (b : PBox) → ∀ (c : FCtx) (idx : Nat) (y bs : Rat) (skip : Option Resume)
    (cb pie : Bool) (adjL : List Rat) (fs : FState), c.tbl = [] →
    layoutBoxF c (embed b) idx y bs skip cb pie adjL fs =
      ⟨layoutBox (ctxOf c fs) b idx y bs skip cb pie adjL, fs⟩
  | .para id n lineH st => by
    intro c idx y bs skip cb pie adjL fs _
    simp only [embed, layoutBoxF, layoutBox, lineboxLayoutF_embed, finishParaF_embed]
  | .block id st kids => by
    intro c idx y bs skip cb pie adjL fs ht
    simp only [embed, layoutBoxF, layoutBox]
    rw [layoutKidsF_embed kids c st _ _ _ _ _ fs ht]
    exact finishBlockF_embed c st kids _ _ _ _ _ _ fs ht
theorem layoutKidsF_embed : (kids : List PBox) → ∀ (c : FCtx) (st : PStyle) (index skipIdx : Nat) (bs : Rat)
    (pie : Bool) (s : KidsLoop) (fs : FState), c.tbl = [] →
    layoutKidsF c st (embedList kids) index skipIdx bs pie s fs =
      (layoutKids (ctxOf c fs) st kids index skipIdx bs pie s, fs)
  | [] => by
    intro c st index skipIdx bs pie s fs _
    simp [embedList, layoutKidsF, layoutKids]
  | child :: rest => by
    intro c st index skipIdx bs pie s fs ht
    rw [embedList, layoutKidsF_turn, layoutKids_turn,
      kidStepF_embed c st index bs pie child s fs ht (layoutBoxF_embed child c index)]
    split
    · exact layoutKidsF_embed rest c st _ _ _ _ _ fs ht
    · rcases kidStep (ctxOf c fs) st index bs pie child s with ⟨_ | out, s3⟩
      · exact layoutKidsF_embed rest c st _ _ _ _ _ fs ht
      · rfl
end

/-- A stage-1 document as a footnote document (any `@footnote` area style: it is never used). -/
def embedDoc (a : AreaStyle) (d : Doc) : FDoc :=
  { pageH := d.pageH, rootLtr := d.rootLtr, root := embed d.root, area := a }

/-- A stage-1 page as a page of the footnote model: no footnote area, nothing pending or postponed. -/
def embedPage (p : Page) : FPage := { page := p, area := none, cur := [], pending := [], reported := [] }

theorem emptyRootF_embed (b : PBox) : emptyRootF (embed b) = embed (emptyRoot b) := by
  cases b <;> simp [embed, emptyRootF, emptyRoot, embedList]

theorem remakePageF_embed (a : AreaStyle) (d : Doc) (index : Nat) (resume : Option Resume) (np : NextPage)
    (right : Bool) :
    remakePageF (embedDoc a d) index resume np right [] [] = (remakePage d index resume np right).map embedPage := by
  unfold remakePageF remakePage
  have ht : (pageCtxOf (embedDoc a d) index resume np right []).tbl = [] := by
    simp [pageCtxOf, pageCtx, embedDoc, callTable_embed]
  have hroot : (if isBlankF (embedDoc a d) resume np right [] = true then emptyRootF (embedDoc a d).root
      else (embedDoc a d).root) =
      embed (if isBlank (requestedSide d.rootLtr np.brk) right = true then emptyRoot d.root else d.root) := by
    simp only [isBlankF, embedDoc, List.isEmpty_nil, Bool.not_true, Bool.false_and, Bool.or_false]
    split <;> simp [emptyRootF_embed]
  simp only [hroot, pageStart, placeReported, layoutBoxF_embed _ _ _ _ _ _ _ _ _ _ ht]
  simp only [isBlankF, embedDoc, List.isEmpty_nil, Bool.not_true, Bool.false_and, Bool.or_false, ctxOf, pageCtx,
    pageCtxOf, pageNameF]
  split <;> simp_all [embedPage, areaOut]
  split
  · rfl
  · cases np.page <;> rfl

theorem makeAllPagesF_embed (a : AreaStyle) (d : Doc) (fuel index : Nat) (resume : Option Resume) (np : NextPage)
    (right : Bool) :
    makeAllPagesF (embedDoc a d) fuel index resume np right [] [] =
      (makeAllPages d fuel index resume np right).map (List.map embedPage) := by
  rw [makeAllPagesF_eq_run, makeAllPages_eq_run]
  refine PageLoop.run_map_stepOf (fun s : PM.PState => (s.1, s.2.1, s.2.2.1, s.2.2.2, [], [])) embedPage ?_ ?_
    fuel (index, resume, np, right)
  · intro ⟨i, r, n, b⟩
    exact remakePageF_embed a d i r n b
  · intro ⟨i, r, n, b⟩ p
    cases hr : p.resume <;> simp [embedPage, hr]

end Wp.PMF
