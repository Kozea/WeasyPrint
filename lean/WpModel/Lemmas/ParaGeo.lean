/-
Geometry of the paragraph part of PM: placed lines fit on the page (unless first on an empty page),
and are stacked by `lineH`.
-/
import WpModel.Lemmas.ParaLines

namespace Wp.PM
open Wp

theorem overflows_mono (b y y' : Rat) (h : y ≤ y') (ho : overflows b y = true) : overflows b y' = true := by
  unfold overflows at *
  simp only [decide_eq_true_eq] at *
  grind

/-- A lower page bottom only makes more positions overflow (the fudge factor `1 + 10⁻⁹` is positive). -/
theorem overflows_anti (b b' y : Rat) (h : b ≤ b') (ho : overflows b y = false) : overflows b' y = false := by
  unfold overflows at *
  simp only [decide_eq_false_iff_not] at *
  grind

theorem not_overflowsPage_of_space_le (c : Ctx) (bs bs' y : Rat) (h : bs ≤ bs')
    (ho : c.overflowsPage bs' y = false) : c.overflowsPage bs y = false :=
  overflows_anti _ _ y (by grind) ho

theorem overflowsPage_of_space_le (c : Ctx) (bs bs' y : Rat) (h : bs ≤ bs')
    (ho : c.overflowsPage bs y = true) : c.overflowsPage bs' y = true := by
  cases hy : c.overflowsPage bs' y with
  | true => rfl
  | false => rw [not_overflowsPage_of_space_le c bs bs' y h hy] at ho; cases ho

theorem not_overflowsPage_of_le (c : Ctx) (bs y y' : Rat) (h : y ≤ y') (ho : c.overflowsPage bs y' = false) :
    c.overflowsPage bs y = false := by
  cases hy : c.overflowsPage bs y with
  | false => rfl
  | true =>
    unfold Ctx.overflowsPage at *
    have := overflows_mono _ _ _ h hy
    rw [this] at ho
    cases ho

/-- The lines `_linebox_layout` keeps fit, the first one excepted when the page was empty. -/
theorem lineboxLayout_fits (c : Ctx) (st : PStyle) (b : BoxSt) (n : Nat) (lineH : Rat) (pie : Bool)
    (adj : List Rat) (bs posY : Rat) (skip : Option Resume) (dbd : Bool) (hdeco : 0 ≤ b.bb + b.pb) :
    ∀ p ∈ (lineboxLayout c st b n lineH pie adj bs posY skip dbd).lines,
      LineFitsG (c.overflowsPage bs) lineH pie (skipLine skip) p := by
  rw [lineboxLayout_lines, lineboxLoop, lineLoop_eq_G]
  exact lineLoopG_fits id st b n lineH pie (not_overflowsPage_of_le c bs) (skipLine skip) _ _ _ _ hdeco (fun _ => rfl)
    (by simp)

/-- Lines are stacked by `lineH`: the line numbered `j` (other than the first of this call, which may
have been translated by the tall-first-line rule) sits at `y0 + (j − k)·lineH`. -/
theorem lineLoop_stack (c : Ctx) (st : PStyle) (b : BoxSt) (n : Nat) (lineH : Rat) (pie : Bool) (bs : Rat)
    (k : Nat) (y0 : Rat) (fuel i : Nat) (y : Rat) (s : LineLoop) (hdeco : 0 ≤ b.bb + b.pb)
    (hfirst : s.lines = [] → i = k)
    (hy : y = y0 + ((i : Rat) - (k : Rat)) * lineH)
    (hs : ∀ p ∈ s.lines, p.1 ≠ k → p.2 = y0 + ((p.1 : Rat) - (k : Rat)) * lineH) :
    ∀ p ∈ outLines (lineLoop c st b n lineH pie bs fuel i y s),
      p.1 ≠ k → p.2 = y0 + ((p.1 : Rat) - (k : Rat)) * lineH := by
  fun_induction lineLoop c st b n lineH pie bs fuel i y s with
  | case1 i y s => simpa [outLines] using hs
  | case2 fuel i y s resume newPosY dbd offset overflow hov abort stop r lines' hb =>
    intro p hp
    simp only [outLines] at hp
    have hsub := breakLine_lines_sub st n i s.lines pie s.skip resume
    rw [hb] at hsub
    exact hs p (hsub p hp)
  | case3 fuel i y s resume newPosY dbd offset overflow hov shift newPosY' lineY mt' ih =>
    apply ih
    · intro h; simp at h
    · rw [hy]; push_cast; grind
    · intro p hp hne
      rcases List.mem_append.mp hp with hp | hp
      · exact hs p hp hne
      · simp only [List.mem_singleton] at hp
        subst hp
        -- only the first line of the call can be translated (tall first line on an empty page)
        obtain ⟨_, _, hl, _⟩ : _ ∧ newPosY' = newPosY ∧ lineY = y ∧ 0 ≤ offset :=
          line_test (not_overflowsPage_of_le c bs) y lineH s.mt (b.bb + b.pb) dbd pie s.lines hdeco hov
            (fun hfl => hne (hfirst hfl.1))
        show lineY = _
        rw [hl, hy]

end Wp.PM
