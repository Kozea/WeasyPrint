/-
One turn of the footnote model's children loop (`PMF.layoutKidsF`) as a function of the loop state and the
footnote state, in the form of `PM.kidStep` / `PM.layoutKids_turn`.
-/
import WpModel.Model.PaginateFoot
import WpModel.Lemmas.Pm2Step

namespace Wp.PMF
open Wp Wp.PM

/-- What `_in_flow_layout` makes of one child: the fragment kept for it, the `block_level_layout` result it comes
from (first layout, or the second one with a larger bottom space), the loop state handed to `concludeKid`, and the
footnote state after the child. -/
def kidResultF (c : FCtx) (st : PStyle) (child : FootBox) (index : Nat) (bs : Rat) (pie : Bool) (s : KidsLoop)
    (fs : FState) : (Option Frag × LayoutResult × KidsLoop) × FState :=
  let pienc := pie && s.newChildren.isEmpty
  let R := layoutBoxF c child index s.posY bs s.skip st.isRoot pienc s.cur fs
  let r := R.r
  let s1 := s.setCur r.adjL s.curIsL
  let fp := firstPass (ctxOf c R.fs) bs pienc s.posY r
  let fs1 := firstPassUnlay c r fp R.fs
  match fp with
  | .keep frag posY =>
    ((frag, r, { s1.adoptAdj r.frag.isSome r.adj frag with posY := posY, nextPage := r.nextPage, skip := none }), fs1)
  | .redo bs' =>
    let R2 := layoutBoxF c child index s.posY bs' s.skip st.isRoot pienc s1.cur fs1
    let r2 := R2.r
    let s1' := s1.setCur r2.adjL s1.curIsL
    let posY := match r2.frag with
      | some f2 => f2.geo.borderBoxY + f2.geo.borderHeight
      | none => s.posY
    ((r2.frag, r2, { s1'.adoptAdj true r2.adj r2.frag with posY := posY, nextPage := r2.nextPage, skip := none }), R2.fs)

theorem kidResultF_newChildren (c : FCtx) (st : PStyle) (child : FootBox) (index : Nat) (bs : Rat) (pie : Bool)
    (s : KidsLoop) (fs : FState) : (kidResultF c st child index bs pie s fs).1.2.2.newChildren = s.newChildren := by
  fun_cases kidResultF c st child index bs pie s fs <;> simp +zetaDelta

theorem kidResultF_skip (c : FCtx) (st : PStyle) (child : FootBox) (index : Nat) (bs : Rat) (pie : Bool)
    (s : KidsLoop) (fs : FState) : (kidResultF c st child index bs pie s fs).1.2.2.skip = none := by
  fun_cases kidResultF c st child index bs pie s fs <;> rfl

/-- The first content of an empty page is kept when the child's layout yields a fragment. -/
theorem kidResultF_first (c : FCtx) (st : PStyle) (child : FootBox) (index : Nat) (bs : Rat) (s : KidsLoop)
    (fs : FState) (hne : s.newChildren.isEmpty = true)
    (hbox : (layoutBoxF c child index s.posY bs s.skip st.isRoot true s.cur fs).r.frag.isSome = true) :
    (kidResultF c st child index bs true s fs).1.1.isSome = true := by
  unfold kidResultF
  simp only [hne, Bool.true_and]
  obtain ⟨f, y, hk, _⟩ := firstPass_keeps
    (ctxOf c (layoutBoxF c child index s.posY bs s.skip st.isRoot true s.cur fs).fs) bs s.posY _ hbox
  rw [hk]
  rfl

/-- One turn of the children loop on a child that is not skipped: the outcome if the loop ends here, the loop
state, the footnote state. -/
def kidStepF (c : FCtx) (st : PStyle) (index : Nat) (bs : Rat) (pie : Bool) (child : FootBox) (s : KidsLoop)
    (fs : FState) : (Option KidsOutcome × KidsLoop) × FState :=
  let mb := meetBreak s child.erase
  if mb.2 then
    ((some (.stopped (some (.node index none))
      { s with nextPage := { brk := some mb.1, page := some (boxPageStart child.erase) } }), s), fs)
  else
    let x := kidResultF c st child index bs pie s fs
    match concludeKid index pie mb.1 child.erase x.1.2.2 x.1.1 x.1.2.1.resume with
    | (some out, s3) => ((some out, s3), earlierUnlay c mb.1 x.1.2.2 x.1.1 x.2)
    | (none, s3) => ((none, s3), x.2)

/-- The children loop, one more child: skipped, or visited by a turn that ends the loop or hands its states on. -/
theorem layoutKidsF_turn (c : FCtx) (st : PStyle) (child : FootBox) (rest : List FootBox) (index skipIdx : Nat)
    (bs : Rat) (pie : Bool) (s : KidsLoop) (fs : FState) :
    layoutKidsF c st (child :: rest) index skipIdx bs pie s fs =
      if index < skipIdx then layoutKidsF c st rest (index + 1) skipIdx bs pie s fs
      else match kidStepF c st index bs pie child s fs with
        | ((some out, _), fs') => (out, fs')
        | ((none, s'), fs') => layoutKidsF c st rest (index + 1) skipIdx bs pie s' fs' := by
  rw [layoutKidsF]
  split
  · rfl
  · unfold kidStepF kidResultF
    -- naming the intermediate results keeps the terms small
    extract_lets +onlyGivenNames mb pienc R r s1 fp fs1
    split
    · rfl
    · dsimp only
      clear_value fp
      cases fp with
      | keep frag posY =>
        dsimp only
        generalize concludeKid _ _ _ _ _ _ _ = x
        rcases x with ⟨_ | out, s3⟩ <;> rfl
      | redo bs' =>
        dsimp only
        generalize concludeKid _ _ _ _ _ _ _ = x
        rcases x with ⟨_ | out, s3⟩ <;> rfl

end Wp.PMF
