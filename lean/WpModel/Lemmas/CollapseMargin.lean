/-
Laws of `collapse_margin` (`collapseMargin`): largest non-negative + smallest non-positive margin, seeds 0.
-/
import WpModel.Model.Paginate
import WpModel.Lemmas.MaxMin
namespace Wp.PM
open Wp Wp.MaxMin

/-- The largest non-negative margin (0 when there is none). -/
def maxPos (ms : List Rat) : Rat := ms.foldl max 0
/-- The smallest non-positive margin (0 when there is none). -/
def minNeg (ms : List Rat) : Rat := ms.foldl min 0

private theorem foldl_pos_eq (ms : List Rat) (a : Rat) (ha : 0 ≤ a) :
    ms.foldl (fun a m => if m ≥ 0 ∧ m > a then m else a) a = ms.foldl max a := by
  induction ms generalizing a with
  | nil => rfl
  | cons m ms ih =>
    simp only [List.foldl_cons]
    have : (if m ≥ 0 ∧ m > a then m else a) = max a m := by split <;> grind
    rw [this]
    exact ih _ (by grind)

private theorem foldl_neg_eq (ms : List Rat) (a : Rat) (ha : a ≤ 0) :
    ms.foldl (fun a m => if m ≤ 0 ∧ m < a then m else a) a = ms.foldl min a := by
  induction ms generalizing a with
  | nil => rfl
  | cons m ms ih =>
    simp only [List.foldl_cons]
    have : (if m ≤ 0 ∧ m < a then m else a) = min a m := by split <;> grind
    rw [this]
    exact ih _ (by grind)

theorem collapseMargin_eq (ms : List Rat) : collapseMargin ms = maxPos ms + minNeg ms := by
  unfold collapseMargin maxPos minNeg
  simp only
  rw [foldl_pos_eq _ _ Rat.le_refl, foldl_neg_eq _ _ Rat.le_refl]

theorem maxPos_le_iff (ms : List Rat) (b : Rat) : maxPos ms ≤ b ↔ 0 ≤ b ∧ ∀ m ∈ ms, m ≤ b :=
  lub_max.foldl_le_iff ms 0 b

theorem le_minNeg_iff (ms : List Rat) (b : Rat) : b ≤ minNeg ms ↔ b ≤ 0 ∧ ∀ m ∈ ms, b ≤ m :=
  lub_min.foldl_le_iff ms 0 b

theorem maxPos_nonneg (ms : List Rat) : 0 ≤ maxPos ms := lub_max.seed_le_foldl ms 0

@[simp] theorem maxPos_nil : maxPos [] = 0 := rfl
@[simp] theorem minNeg_nil : minNeg [] = 0 := rfl

theorem maxPos_append (a b : List Rat) : maxPos (a ++ b) = max (maxPos a) (maxPos b) :=
  lub_max.foldl_append a b 0

theorem maxPos_perm {a b : List Rat} (h : a.Perm b) : maxPos a = maxPos b :=
  lub_max.foldl_of_mem_iff 0 fun _ => h.mem_iff

theorem maxPos_ge (ms : List Rat) : ∀ m ∈ ms, m ≤ maxPos ms := lub_max.le_foldl ms 0

theorem maxPos_mem (ms : List Rat) : maxPos ms = 0 ∨ maxPos ms ∈ ms := lub_max.foldl_mem ms 0

theorem minNeg_eq_neg (ms : List Rat) : minNeg ms = -maxPos (ms.map (-·)) := by
  have h : ∀ a : Rat, ms.foldl min a = -(ms.map (-·)).foldl max (-a) := by
    induction ms with
    | nil => intro a; simp only [List.map_nil, List.foldl_nil]; grind
    | cons m ms ih =>
      intro a
      have : -min a m = max (-a) (-m) := by grind
      rw [List.map_cons, List.foldl_cons, List.foldl_cons, ih, this]
  exact h 0

theorem minNeg_nonpos (ms : List Rat) : minNeg ms ≤ 0 := lub_min.seed_le_foldl ms 0

theorem minNeg_append (a b : List Rat) : minNeg (a ++ b) = min (minNeg a) (minNeg b) :=
  lub_min.foldl_append a b 0

theorem minNeg_perm {a b : List Rat} (h : a.Perm b) : minNeg a = minNeg b :=
  lub_min.foldl_of_mem_iff 0 fun _ => h.mem_iff

theorem minNeg_le (ms : List Rat) : ∀ m ∈ ms, minNeg ms ≤ m := lub_min.le_foldl ms 0

theorem minNeg_mem (ms : List Rat) : minNeg ms = 0 ∨ minNeg ms ∈ ms := lub_min.foldl_mem ms 0

theorem collapseMargin_append (a b : List Rat) :
    collapseMargin (a ++ b) = max (maxPos a) (maxPos b) + min (minNeg a) (minNeg b) := by
  rw [collapseMargin_eq, maxPos_append, minNeg_append]

theorem collapseMargin_perm {a b : List Rat} (h : a.Perm b) : collapseMargin a = collapseMargin b := by
  rw [collapseMargin_eq, collapseMargin_eq, maxPos_perm h, minNeg_perm h]

theorem minNeg_of_nonneg (ms : List Rat) (h : ∀ m ∈ ms, 0 ≤ m) : minNeg ms = 0 :=
  Rat.le_antisymm (minNeg_nonpos ms) ((le_minNeg_iff ms 0).mpr ⟨Rat.le_refl, h⟩)

theorem maxPos_of_nonpos (ms : List Rat) (h : ∀ m ∈ ms, m ≤ 0) : maxPos ms = 0 :=
  Rat.le_antisymm ((maxPos_le_iff ms 0).mpr ⟨Rat.le_refl, h⟩) (maxPos_nonneg ms)

theorem collapseMargin_of_nonneg (ms : List Rat) (h : ∀ m ∈ ms, 0 ≤ m) : collapseMargin ms = maxPos ms := by
  rw [collapseMargin_eq, minNeg_of_nonneg ms h]; grind

theorem collapseMargin_of_nonpos (ms : List Rat) (h : ∀ m ∈ ms, m ≤ 0) : collapseMargin ms = minNeg ms := by
  rw [collapseMargin_eq, maxPos_of_nonpos ms h]; grind

theorem collapseMargin_nonneg (ms : List Rat) (h : ∀ m ∈ ms, 0 ≤ m) : 0 ≤ collapseMargin ms := by
  rw [collapseMargin_of_nonneg ms h]; exact maxPos_nonneg ms

@[simp] theorem collapseMargin_nil : collapseMargin [] = 0 := by
  rw [collapseMargin_eq]; simp only [maxPos_nil, minNeg_nil]; grind

theorem collapseMargin_singleton (m : Rat) : collapseMargin [m] = m := by
  rw [collapseMargin_eq]
  show max 0 m + min 0 m = m
  grind

end Wp.PM
