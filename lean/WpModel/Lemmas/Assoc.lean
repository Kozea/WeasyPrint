/-
Python dictionaries are modelled, file by file, as association lists in which a store to an existing key keeps its
position (`get` returns the first match, `set` replaces it in place or appends).  Each model has its own `get`/`set`
pair; this module proves the laws once, over the defining equations of any such pair, so that a model instantiates
them with `rfl` for each equation (`simp only [get, beq_iff_eq]` where the model tests keys with `==`).  Core only.
-/

namespace Wp

/-- Reading after a store, from what `set` does at a matching and at a non-matching head. -/
theorem assoc_get_set_of {κ ν : Type} [DecidableEq κ] (get : List (κ × ν) → κ → Option ν)
    (set : List (κ × ν) → κ → ν → List (κ × ν))
    (get_nil : ∀ k, get [] k = none)
    (get_cons : ∀ k' v rest k, get ((k', v) :: rest) k = if k' = k then some v else get rest k)
    (set_nil : ∀ k v, set [] k v = [(k, v)])
    (set_same : ∀ k v' rest v, set ((k, v') :: rest) k v = (k, v) :: rest)
    (set_ne : ∀ k' v' rest k v, k' ≠ k → set ((k', v') :: rest) k v = (k', v') :: set rest k v)
    (d : List (κ × ν)) (k k' : κ) (v : ν) :
    get (set d k v) k' = if k = k' then some v else get d k' := by
  induction d with
  | nil => rw [set_nil, get_cons, get_nil]
  | cons e rest ih =>
    obtain ⟨k2, v2⟩ := e
    rw [get_cons]
    by_cases h : k2 = k
    · subst h
      rw [set_same, get_cons]
      split <;> rfl
    · rw [set_ne _ _ _ _ _ h, get_cons, ih]
      split
      next h1 => rw [if_neg (fun h2 => h (h1.trans h2.symm))]
      next => rfl

/-- Reading after a store, for a `set` that writes the new key into the replaced pair. -/
theorem assoc_get_set {κ ν : Type} [DecidableEq κ] (get : List (κ × ν) → κ → Option ν)
    (set : List (κ × ν) → κ → ν → List (κ × ν))
    (get_nil : ∀ k, get [] k = none)
    (get_cons : ∀ k' v rest k, get ((k', v) :: rest) k = if k' = k then some v else get rest k)
    (set_nil : ∀ k v, set [] k v = [(k, v)])
    (set_cons : ∀ k' v' rest k v,
      set ((k', v') :: rest) k v = if k' = k then (k, v) :: rest else (k', v') :: set rest k v)
    (d : List (κ × ν)) (k k' : κ) (v : ν) :
    get (set d k v) k' = if k = k' then some v else get d k' :=
  assoc_get_set_of get set get_nil get_cons set_nil (fun _ _ _ _ => (set_cons ..).trans (if_pos rfl))
    (fun _ _ _ _ _ h => (set_cons ..).trans (if_neg h)) d k k' v

/-- The same for a `set` that keeps the key found in the list. -/
theorem assoc_get_set_keep {κ ν : Type} [DecidableEq κ] (get : List (κ × ν) → κ → Option ν)
    (set : List (κ × ν) → κ → ν → List (κ × ν))
    (get_nil : ∀ k, get [] k = none)
    (get_cons : ∀ k' v rest k, get ((k', v) :: rest) k = if k' = k then some v else get rest k)
    (set_nil : ∀ k v, set [] k v = [(k, v)])
    (set_cons : ∀ k' v' rest k v,
      set ((k', v') :: rest) k v = if k' = k then (k', v) :: rest else (k', v') :: set rest k v)
    (d : List (κ × ν)) (k k' : κ) (v : ν) :
    get (set d k v) k' = if k = k' then some v else get d k' :=
  assoc_get_set_of get set get_nil get_cons set_nil (fun _ _ _ _ => (set_cons ..).trans (if_pos rfl))
    (fun _ _ _ _ _ h => (set_cons ..).trans (if_neg h)) d k k' v

theorem assoc_get_append {κ ν : Type} [DecidableEq κ] (get : List (κ × ν) → κ → Option ν)
    (get_nil : ∀ k, get [] k = none)
    (get_cons : ∀ k' v rest k, get ((k', v) :: rest) k = if k' = k then some v else get rest k)
    (a b : List (κ × ν)) (k : κ) : get (a ++ b) k = (get a k).orElse fun _ => get b k := by
  induction a with
  | nil => rw [List.nil_append, get_nil]; rfl
  | cons e rest ih =>
    obtain ⟨k2, v2⟩ := e
    rw [List.cons_append, get_cons, get_cons, ih]
    split <;> rfl

end Wp
