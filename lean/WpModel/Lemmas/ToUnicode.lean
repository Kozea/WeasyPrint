/-
Mapping glyphs back through the recorded table.
-/
import WpModel.Model.ToUnicode
import WpModel.Lemmas.Assoc

namespace Wp.ToUnicode
open Wp

theorem lookup_append (m n : CMap) (g : Nat) :
    lookup (m ++ n) g = match lookup m g with | some t => some t | none => lookup n g := by
  rw [assoc_get_append lookup (fun _ => rfl) (fun _ _ _ _ => rfl)]
  cases lookup m g <;> rfl

/-- Recording never changes what an already known glyph maps to, and a new glyph maps to its text. -/
theorem lookup_record (m : CMap) (g : Nat) (t : List Nat) (g' : Nat) :
    lookup (record m g t) g' =
      match lookup m g' with
      | some t' => some t'
      | none => if g = g' then some t else none := by
  unfold record
  cases hg : lookup m g with
  | some t0 =>
    cases hg' : lookup m g' with
    | some t' => rfl
    | none =>
      by_cases h : g = g'
      · subst h; rw [hg] at hg'; cases hg'
      · simp [h]
  | none =>
    simp only [lookup_append, lookup]

theorem lookup_record_some (m : CMap) (g : Nat) (t t' : List Nat) (g' : Nat) (h : lookup m g' = some t') :
    lookup (record m g t) g' = some t' := by
  rw [lookup_record, h]

theorem lookup_recordAll_some (m : CMap) (pairs : List (Nat × List Nat)) (g : Nat) (t : List Nat)
    (h : lookup m g = some t) : lookup (recordAll m pairs) g = some t := by
  induction pairs generalizing m with
  | nil => exact h
  | cons p ps ih => exact ih (record m p.1 p.2) (lookup_record_some m p.1 p.2 t g h)

theorem decode_append (m : CMap) (a b : List Nat) :
    decode m (a ++ b) = match decode m a, decode m b with
      | some x, some y => some (x ++ y)
      | _, _ => none := by
  induction a with
  | nil => cases h : decode m b <;> simp [decode, h]
  | cons g gs ih =>
    simp only [List.cons_append, decode, ih]
    cases lookup m g <;> cases decode m gs <;> cases decode m b <;> simp [List.append_assoc]

/-- The relation glyph ↦ cluster text of the drawn runs is a function, and agrees with the table so far. -/
def Functional (m : CMap) (pairs : List (Nat × List Nat)) : Prop :=
  (∀ p ∈ pairs, ∀ t, lookup m p.1 = some t → t = p.2) ∧
  (∀ p ∈ pairs, ∀ q ∈ pairs, p.1 = q.1 → p.2 = q.2)

theorem functional_tail (m : CMap) (p : Nat × List Nat) (ps : List (Nat × List Nat))
    (h : Functional m (p :: ps)) : Functional (record m p.1 p.2) ps := by
  obtain ⟨h1, h2⟩ := h
  refine ⟨?_, fun a ha b hb => h2 a (List.mem_cons_of_mem _ ha) b (List.mem_cons_of_mem _ hb)⟩
  intro q hq t ht
  rw [lookup_record] at ht
  cases hm : lookup m q.1 with
  | some t' =>
    rw [hm] at ht
    simp only [Option.some.injEq] at ht
    rw [← ht]
    exact h1 q (List.mem_cons_of_mem _ hq) t' hm
  | none =>
    rw [hm] at ht
    by_cases hg : p.1 = q.1
    · simp only [hg, ↓reduceIte, Option.some.injEq] at ht
      rw [← ht]
      exact h2 p List.mem_cons_self q (List.mem_cons_of_mem _ hq) hg
    · simp [hg] at ht

/-- After the runs were recorded, every drawn glyph maps to the text of its cluster. -/
theorem lookup_recordAll (m : CMap) (pairs : List (Nat × List Nat)) (h : Functional m pairs) :
    ∀ p ∈ pairs, lookup (recordAll m pairs) p.1 = some p.2 := by
  induction pairs generalizing m with
  | nil => intro p hp; cases hp
  | cons q qs ih =>
    intro p hp
    have htail := functional_tail m q qs h
    rcases List.mem_cons.mp hp with rfl | hp
    · -- the head: recorded now (or already known with the same text)
      have : lookup (record m p.1 p.2) p.1 = some p.2 := by
        rw [lookup_record]
        cases hm : lookup m p.1 with
        | some t => simp [h.1 p List.mem_cons_self t hm]
        | none => simp
      exact lookup_recordAll_some _ qs _ _ this
    · exact ih _ htail p hp

theorem decode_of_lookup (m : CMap) (pairs : List (Nat × List Nat))
    (h : ∀ p ∈ pairs, lookup m p.1 = some p.2) :
    decode m (pairs.map (·.1)) = some (pairs.flatMap (·.2)) := by
  induction pairs with
  | nil => rfl
  | cons p ps ih =>
    simp only [List.map_cons, decode, h p List.mem_cons_self,
      ih (fun q hq => h q (List.mem_cons_of_mem _ hq)), List.flatMap_cons]

end Wp.ToUnicode
