/-
Post-condition of `layoutBox` / `layoutKids` of the extended model (conservation of the in-flow lines,
progress, well-formed resume positions): mutual structural induction over `OBox` / `List OBox`, through
placeholders, floats (added, refused, broken), clearance, `find_earlier_page_break`.
-/
import WpModel.Lemmas.OofLines
import WpModel.Lemmas.OofEarlier

namespace Wp.PMO
open Wp Wp.PM

theorem linesFromKids_append_length (B R : List OBox) (s : Option Resume) :
    linesFromKids (B ++ R) B.length s = linesFromKids R 0 s := linesFromKids_append_len B R 0 s
theorem posKids_append_length (B R : List OBox) (s : Option Resume) :
    posKids (B ++ R) B.length s = sizeList B + posKids R 0 s := posKids_append_len B R 0 s
theorem wfSkipKids_append_length (B R : List OBox) (s : Option Resume) :
    WfSkipKids (B ++ R) B.length s ↔ WfSkipKids R 0 s := wfSkipKids_append_len B R 0 s

/-- What a layout returning a fragment guarantees. `pie` = the `page_is_empty` flag it was given: progress
is strict then; otherwise the position does not go back (a box whose first float does not fit comes back
empty, with a resume position equal to its skip position). -/
def BoxPost (box : OBox) (skip : Option Resume) (pie : Bool) (frag : Option OFrag) (resume : Option Resume) : Prop :=
  ∀ f, frag = some f → match resume with
    | none => Full f box skip
    | some ρ => fragLines f ++ linesFrom box (some ρ) = linesFrom box skip ∧
        pos box skip ≤ pos box (some ρ) ∧ (pie = true → pos box skip < pos box (some ρ)) ∧ WfSkip box (some ρ)

/-- The bottom padding and border `finishTail` gives the fragment: those of the box, or none (the box is cut
and its decoration not cloned). -/
theorem finishTail_pb_bb (c : Ctx) (st : OStyle) (b : BoxSt) (bs : Rat)
    (cwc dbd : Bool) (resume : Option Resume) (posY : Rat) (adjL cur : List Rat) (curIsL hasKids : Bool)
    (shapes : List Shape) :
    let g := (finishTail c st b bs cwc dbd resume posY adjL cur curIsL hasKids shapes).geo
    (g.pb = b.pb ∧ g.bb = b.bb) ∨ (g.pb = 0 ∧ g.bb = 0) := by
  unfold finishTail
  extract_lets +onlyGivenNames fragmented b' x nb
  have hb' : b'.pb = b.pb ∧ b'.bb = b.bb := by
    unfold b'
    split <;> exact ⟨rfl, rfl⟩
  have hnb : (nb.pb = b.pb ∧ nb.bb = b.bb) ∨ (nb.pb = 0 ∧ nb.bb = 0) := by
    unfold nb
    split
    · exact Or.inr ⟨rfl, rfl⟩
    · exact Or.inl hb'
  -- the two tuples of intermediate results do not reach the geometry `geoOf nb _`
  split
  split
  exact hnb

theorem finishContainer_frag {c : Ctx} {st : OStyle} {b : BoxSt} {pie : Bool} {bs : Rat} {cwc dbd : Bool}
    {resume : Option Resume} {posY : Rat} {adjL cur : List Rat} {curIsL : Bool} {np : NextPage} {hasKids : Bool}
    {pageEnd : String} {kids : List OFrag} {lb : List Broken} {w : World} {mk : Geo → OFrag} {f : OFrag}
    (h : (finishContainer c st b pie bs cwc dbd resume posY adjL cur curIsL np hasKids pageEnd kids lb w mk).frag
      = some f) :
    (∃ g, f = mk g ∧ ((g.pb = b.pb ∧ g.bb = b.bb) ∨ (g.pb = 0 ∧ g.bb = 0))) ∧
    (finishContainer c st b pie bs cwc dbd resume posY adjL cur curIsL np hasKids pageEnd kids lb w mk).resume
      = resume := by
  unfold finishContainer at h ⊢
  split
  · rename_i hc; rw [if_pos hc] at h; cases h
  · rename_i hc; rw [if_neg hc] at h
    exact ⟨⟨_, (Option.some.inj h).symm, finishTail_pb_bb c st b bs cwc dbd resume posY adjL cur curIsL hasKids _⟩, rfl⟩

@[simp] theorem prepare_pb (c : Ctx) (st : OStyle) (y bs : Rat) (skip : Option Resume) (cb pie : Bool)
    (adjL : List Rat) (sh : List Shape) : (prepare c st y bs skip cb pie adjL sh).b.pb = st.pb := by
  unfold prepare
  simp only [apply_ite Prep.b, apply_ite BoxSt.pb, ite_self]

@[simp] theorem prepare_bb (c : Ctx) (st : OStyle) (y bs : Rat) (skip : Option Resume) (cb pie : Bool)
    (adjL : List Rat) (sh : List Shape) : (prepare c st y bs skip cb pie adjL sh).b.bb = st.bb := by
  unfold prepare
  simp only [apply_ite Prep.b, apply_ite BoxSt.bb, ite_self]

theorem prepare_bs (c : Ctx) (st : OStyle) (y bs : Rat) (skip : Option Resume) (cb pie : Bool)
    (adjL : List Rat) (sh : List Shape) :
    (prepare c st y bs skip cb pie adjL sh).bs = if st.clone then bs + (st.pb + st.bb + st.mb) else bs := by
  unfold prepare
  simp only [apply_ite Prep.bs, apply_ite BoxSt.pb, apply_ite BoxSt.bb, apply_ite BoxSt.mb, ite_self]

@[simp] theorem seenByCaller_frag (p : Prep) (r : LayoutResult) : (p.seenByCaller r).frag = r.frag := by
  unfold Prep.seenByCaller; split <;> rfl

@[simp] theorem seenByCaller_resume (p : Prep) (r : LayoutResult) : (p.seenByCaller r).resume = r.resume := by
  unfold Prep.seenByCaller; split <;> rfl

theorem finishPara_frag {c : Ctx} {st : OStyle} {p : Prep} {pie : Bool} {id idx n : Nat} {R : LineResult}
    {w : World} {f : OFrag} (h : (finishPara c st p pie id idx n R w).frag = some f) :
    R.abort = false ∧
    (∃ g, f = .para 0 id idx st n g R.lines ∧ ((g.pb = p.b.pb ∧ g.bb = p.b.bb) ∨ (g.pb = 0 ∧ g.bb = 0))) ∧
    (st.height = none → (finishPara c st p pie id idx n R w).resume = if R.stop then R.resume else none) := by
  unfold finishPara at h ⊢
  dsimp only at h ⊢
  cases ha : R.abort with
  | true => rw [ha] at h; cases h
  | false =>
    rw [ha] at h
    simp only [Bool.false_eq_true, ↓reduceIte] at h ⊢
    obtain ⟨hg, hr⟩ := finishContainer_frag h
    refine ⟨trivial, hg, fun hh => ?_⟩
    rw [hr, forgetIfFixed_none _ _ _ _ hh]

def KidsOutcome.state : KidsOutcome → KidsLoop
  | .finished s => s
  | .aborted _ s => s
  | .stopped _ s => s

theorem finishBlock_frag {c : Ctx} {st : OStyle} {p : Prep} {pie : Bool} {id idx : Nat} {out : KidsOutcome}
    {f : OFrag} (h : (finishBlock c st p pie id idx out).frag = some f) :
    ∃ g, f = .block 0 id idx st g out.state.newChildren ∧
      ((g.pb = p.b.pb ∧ g.bb = p.b.bb) ∨ (g.pb = 0 ∧ g.bb = 0)) := by
  cases out with
  | aborted page s => cases h
  | stopped resume s => exact (finishContainer_frag h).1
  | finished s => exact (finishContainer_frag h).1

theorem para_spec (id n : Nat) (lineH : Rat) (st : OStyle) (hg : Good (.para id n lineH st))
    (c : Ctx) (idx : Nat) (y bs : Rat) (skip : Option Resume) (cb pie : Bool) (adjL : List Rat) (w : World) :
    BoxPost (.para id n lineH st) skip pie
      (layoutBox c (.para id n lineH st) idx y bs skip cb pie adjL w).frag
      (layoutBox c (.para id n lineH st) idx y bs skip cb pie adjL w).resume := by
  simp only [Good] at hg
  obtain ⟨hh, ho, hw⟩ := hg
  intro f hf
  simp only [layoutBox, seenByCaller_frag, seenByCaller_resume] at hf ⊢
  obtain ⟨hab, ⟨g, rfl, _⟩, hres⟩ := finishPara_frag hf
  rw [hres hh]
  obtain ⟨h1, h2⟩ := linebox_spec _ _ _ _ _ _ _ _ _ _ _ _ ho hab
  split
  · rename_i hnone
    split at hnone
    · rename_i hstop
      obtain ⟨m, _, _, _, hr⟩ := h2 hstop
      rw [hr] at hnone; cases hnone
    · rename_i hstop
      simp only [Full, paraStart, true_and]
      exact h1 (by simpa using hstop)
  · rename_i ρ hsome
    split at hsome
    · rename_i hstop
      obtain ⟨m, hm1, hmn, hl, hr⟩ := h2 hstop
      rw [hr] at hsome
      simp only [Option.some.injEq] at hsome
      subst hsome
      obtain ⟨hlines, hlt⟩ := para_cut id n lineH st skip m hm1 hmn _ hl
      exact ⟨hlines, Nat.le_of_lt hlt, fun _ => hlt, by simp [WfSkip]⟩
    · cases hsome

/-- Post-condition of the children loop, relative to the boxes `all` at positions `i0, i0+1, …`. -/
def KidsPost (all : List OBox) (i0 : Nat) (sub0 : Option Resume) (pie : Bool) : KidsOutcome → Prop
  | .finished s' => FullFrom s'.newChildren all i0 sub0
  | .aborted _ _ => True
  | .stopped ρ s' => ∃ m, ρ.isSome = true ∧ skipIdxOf ρ = i0 + m ∧
      fragLinesList s'.newChildren ++ linesFromKids all m (subSkipOf ρ) = linesFromKids all 0 sub0 ∧
      posKids all 0 sub0 ≤ posKids all m (subSkipOf ρ) ∧
      (pie = true → posKids all 0 sub0 < posKids all m (subSkipOf ρ)) ∧
      WfSkipKids all m (subSkipOf ρ)

/-- Stopping before the child at position `i0 + B.length`, at least one child being laid out. -/
theorem stop_before_spec (B R : List OBox) (i0 : Nat) (sub0 : Option Resume) (pie : Bool) (s' : KidsLoop)
    (hinv : FullFrom s'.newChildren B i0 sub0) (hne : s'.newChildren ≠ []) :
    KidsPost (B ++ R) i0 sub0 pie (.stopped (some (.node (i0 + B.length) none)) s') := by
  have hlen := fullFrom_length _ _ _ _ hinv
  have hB : 0 < B.length := by
    rw [← hlen]; exact List.length_pos_iff.mpr hne
  have hlt : posKids (B ++ R) 0 sub0 < posKids (B ++ R) B.length none := by
    rw [posKids_append_lt _ _ _ _ hB]
    rw [posKids_append_length]
    have := posKids_lt B 0 sub0 hB
    omega
  refine ⟨B.length, rfl, rfl, ?_, Nat.le_of_lt hlt, fun _ => hlt, wfSkipKids_none _ _⟩
  rw [full_lines.2 hinv, linesFromKids_append_lt _ _ _ _ hB]
  simp only [subSkipOf_node]
  rw [linesFromKids_append_length]

/-- An earlier break found among the laid-out children `B`, seen from `B ++ R`. -/
theorem earlier_spec (B R : List OBox) (i0 : Nat) (sub0 : Option Resume) (pie : Bool) (s' : KidsLoop)
    (kept : List OFrag) (r' : Resume) (hgB : GoodList B) (hinv : FullFrom s'.newChildren B i0 sub0)
    (hfound : (findEarlierGo s'.newChildren).found = some (kept, r')) (w : World) :
    KidsPost (B ++ R) i0 sub0 pie (.stopped (some r') { s' with newChildren := kept, w := w }) := by
  obtain ⟨m, sub', rfl, hm, hlines, hpos, hwf⟩ := findEarlierGo_spec _ _ _ _ hgB hinv kept r' hfound
  have h0 : 0 < B.length := by omega
  have hlt : posKids (B ++ R) 0 sub0 < posKids (B ++ R) m sub' := by
    rw [posKids_append_lt _ _ _ _ hm, posKids_append_lt _ _ _ _ h0]
    exact hpos
  refine ⟨m, rfl, rfl, ?_, Nat.le_of_lt hlt, fun _ => hlt, ?_⟩
  · simp only [subSkipOf_node]
    rw [linesFromKids_append_lt _ _ _ _ hm, linesFromKids_append_lt _ _ _ _ h0, ← List.append_assoc, hlines]
  · simp only [subSkipOf_node]
    exact (wfSkipKids_append_lt B R m sub' hm).mpr hwf

theorem conclude_spec (index : Nat) (pie : Bool) (pb : Brk) (child : OBox) (s : KidsLoop)
    (frag : Option OFrag) (resume : Option Resume) (B rest : List OBox) (i0 : Nat) (sub0 : Option Resume)
    (pe : Bool) (hgB : GoodList B) (hinv : FullFrom s.newChildren B i0 sub0) (hidx : index = i0 + B.length)
    (hcin : child.inFlow = true) (hfin : ∀ f, frag = some f → f.inFlow = true)
    (hpe : B = [] → pie = true → pe = true)
    (hchild : BoxPost child (if B = [] then sub0 else none) pe frag resume) :
    StepTo (KidsPost (B ++ child :: rest) i0 sub0 pie)
      (fun s3 => FullFrom s3.newChildren (B ++ [child]) i0 sub0 ∧ s3.skip = s.skip)
      (concludeKid index pie pb child s frag resume) := by
  cases frag with
  | none =>
    apply stepTo_concludeKid_none
    · intro kept r' hfound
      exact earlier_spec B (child :: rest) i0 sub0 pie s kept r' hgB hinv hfound _
    · intro _; trivial
    · intro _; trivial
    · intro hne
      rw [hidx]
      exact stop_before_spec _ _ _ _ _ _ hinv hne
  | some f =>
    have hc := hchild f rfl
    have hf := hfin f rfl
    apply stepTo_concludeKid_some
    · intro r' hr
      subst hr
      obtain ⟨hl, hle, hlt, hwf⟩ := hc
      have hlen := posKids_append_length B (child :: rest) (some r')
      have hz := posKids_append_zero B child rest sub0 hcin
      refine ⟨B.length, rfl, by rw [hidx]; rfl, ?_, ?_, ?_, ?_⟩
      · simp only [subSkipOf_node]
        rw [fragLinesList_append, full_lines.2 hinv, linesFromKids_append_zero, linesFromKids_append_length]
        simp only [fragLinesList, fragLines_withIdx, inFlow_withIdx, hf, hcin, if_true, List.append_nil,
          linesFromKids, List.append_assoc]
        rw [← List.append_assoc (fragLines f), hl]
      · simp only [subSkipOf_node]
        rw [hlen]
        simp only [posKids, hcin, if_true]
        omega
      · intro hp
        simp only [subSkipOf_node]
        rw [hlen]
        simp only [posKids, hcin, if_true]
        cases B with
        | nil =>
          have := hlt (hpe rfl hp)
          simp at hz this ⊢
          simp only [posKids, hcin, if_true]
          simpa [sizeList] using this
        | cons b0 B' =>
          have h1 := posKids_lt (b0 :: B') 0 sub0 (by simp)
          rw [posKids_append_lt _ _ _ _ (by simp)]
          omega
      · simp only [subSkipOf_node]
        rw [wfSkipKids_append_length]
        simpa only [WfSkipKids, hcin, if_true] using hwf
    · intro hr
      subst hr
      refine ⟨?_, rfl⟩
      apply fullFrom_snoc _ _ _ _ _ _ hinv (by simp [hf, hcin]) (fun _ => full_withIdx _ _ _ _ hc)
      simp [hidx]

/-! ### translations do not change what a fragment holds -/

mutual
theorem full_translate : (f : OFrag) → (b : OBox) → (σ : Option Resume) → (dy : Rat) → Full f b σ →
    Full (f.translate dy) b σ
  | .para _ _ _ _ _ _ lines, b, σ, dy => by
    intro h
    cases b with
    | block _ _ _ => simp [Full] at h
    | para id' n' lh st' =>
      simp only [OFrag.translate, Full] at h ⊢
      refine ⟨h.1, h.2.1, h.2.2.1, ?_⟩
      rw [List.map_map]
      exact h.2.2.2
  | .block _ _ _ _ _ fs, b, σ, dy => by
    intro h
    cases b with
    | para _ _ _ _ => simp [Full] at h
    | block id' st' kids =>
      simp only [OFrag.translate, Full] at h ⊢
      exact fullFrom_translate fs _ _ _ dy h
  | .ph _ _ _ _, b, σ, dy => by intro h; simp [Full] at h
theorem fullFrom_translate : (fs : List OFrag) → (bs : List OBox) → (i : Nat) → (sub : Option Resume) →
    (dy : Rat) → FullFrom fs bs i sub → FullFrom (translateList dy fs) bs i sub
  | [], bs, i, sub, dy => by intro h; simpa [translateList, FullFrom] using h
  | f :: fs, bs, i, sub, dy => by
    intro h
    cases bs with
    | nil => simp [FullFrom] at h
    | cons b bs =>
      simp only [FullFrom] at h
      simp only [translateList, FullFrom, idx_translate, inFlow_translate]
      exact ⟨h.1, h.2.1, fun hb => full_translate f b sub dy (h.2.2.1 hb), fullFrom_translate fs bs _ _ dy h.2.2.2⟩
end

mutual
theorem fragLines_translate : (f : OFrag) → (dy : Rat) → fragLines (f.translate dy) = fragLines f
  | .para _ _ _ _ _ _ lines, dy => by simp [OFrag.translate, fragLines, List.map_map, Function.comp_def]
  | .block _ _ _ _ _ fs, dy => by simp [OFrag.translate, fragLines, fragLinesList_translate fs dy]
  | .ph _ _ _ _, dy => by simp [OFrag.translate, fragLines]
theorem fragLinesList_translate : (fs : List OFrag) → (dy : Rat) →
    fragLinesList (translateList dy fs) = fragLinesList fs
  | [], dy => rfl
  | f :: fs, dy => by
    simp [translateList, fragLinesList, fragLines_translate f dy, fragLinesList_translate fs dy]
end

mutual
theorem translate_zero : (f : OFrag) → f.translate 0 = f
  | .para _ _ _ _ _ _ lines => by
    simp only [OFrag.translate, Rat.add_zero]
    congr 1
    exact List.map_id'' (fun l => rfl) lines
  | .block _ _ _ _ _ kids => by simp only [OFrag.translate, Rat.add_zero, translateList_zero kids]
  | .ph _ _ _ _ => by simp [OFrag.translate, Rat.add_zero]
theorem translateList_zero : (fs : List OFrag) → translateList 0 fs = fs
  | [] => rfl
  | f :: fs => by simp only [translateList, translate_zero f, translateList_zero fs]
end

theorem translateList_eq_nil (dy : Rat) (fs : List OFrag) : translateList dy fs = [] ↔ fs = [] := by
  cases fs <;> simp [translateList]

theorem preFlow_skip (c : Ctx) (b : BoxSt) (cwc pie : Bool) (child : OBox) (s : KidsLoop) :
    (preFlow c b cwc pie child s).skip = s.skip := by
  fun_cases preFlow c b cwc pie child s <;> rfl

theorem preFlow_localBroken (c : Ctx) (b : BoxSt) (cwc pie : Bool) (child : OBox) (s : KidsLoop) :
    (preFlow c b cwc pie child s).localBroken = s.localBroken := by
  fun_cases preFlow c b cwc pie child s <;> rfl

theorem preFlow_children (c : Ctx) (b : BoxSt) (cwc pie : Bool) (child : OBox) (s : KidsLoop) :
    ∃ dy, (preFlow c b cwc pie child s).newChildren = translateList dy s.newChildren := by
  fun_cases preFlow c b cwc pie child s <;> first | exact ⟨_, rfl⟩ | exact ⟨0, (translateList_zero _).symm⟩

/-! ### out-of-flow children -/

theorem placeAbs_spec (index : Nat) (child : OBox) (s : KidsLoop) (B : List OBox) (i0 : Nat)
    (sub0 : Option Resume) (hinv : FullFrom s.newChildren B i0 sub0) (hidx : index = i0 + B.length)
    (hc : child.inFlow = false) :
    FullFrom (placeAbs index child hc s).newChildren (B ++ [child]) i0 sub0 ∧
      (placeAbs index child hc s).skip = s.skip := by
  refine ⟨?_, rfl⟩
  simp only [placeAbs]
  apply fullFrom_snoc _ _ _ _ _ _ hinv
  · simp [OFrag.inFlow, hc]
  · intro h; rw [hc] at h; cases h
  · simp [OFrag.idx, hidx]

theorem floatDone_frag {shapes0 : List Shape} {r : LayoutResult} {f : OFrag} {ser : Nat} {w : World}
    (h : floatDone shapes0 r = (some (f, ser), w)) :
    ∃ f0, r.frag = some f0 ∧ f.inFlow = f0.inFlow ∧ f.isPh = f0.isPh ∧ f.isAbs = f0.isAbs ∧
      fragLines f = fragLines f0 := by
  obtain ⟨f0, dy, hf0, rfl, _⟩ := floatDone_some h
  refine ⟨f0, hf0, by simp, by simp, by simp, ?_⟩
  obtain ⟨g, dy', hg, rfl | ⟨dy'', rfl⟩⟩ := placeFloat_translate shapes0 f0 <;>
    simp [hg, fragLines_translate]

theorem floatStep_spec (c : Ctx) (index : Nat) (pie : Bool) (bs : Rat) (child : OBox) (s : KidsLoop)
    (r : LayoutResult) (B rest : List OBox) (i0 : Nat) (sub0 : Option Resume)
    (hgB : GoodList B) (hinv : FullFrom s.newChildren B i0 sub0) (hidx : index = i0 + B.length)
    (hc : child.inFlow = false) (hrf : ∀ f, r.frag = some f → f.inFlow = false) :
    StepTo (KidsPost (B ++ child :: rest) i0 sub0 pie)
      (fun s3 => FullFrom s3.newChildren (B ++ [child]) i0 sub0 ∧ s3.skip = s.skip)
      (floatStep c index pie bs child hc s r) := by
  apply stepTo_floatStep
  · intro w _; trivial
  · intro f ser w hfd
    obtain ⟨f0, hf0, hfl, _⟩ := floatDone_frag hfd
    refine ⟨⟨?_, rfl⟩, ?_, ?_⟩
    · apply fullFrom_snoc _ _ _ _ _ _ hinv
      · simp [hfl, hrf f0 hf0, hc]
      · intro h; rw [hc] at h; cases h
      · simp [hidx]
    · intro kept r' _ hfound
      exact earlier_spec B (child :: rest) i0 sub0 pie s kept r' hgB hinv hfound _
    · intro hor
      by_cases hne : s.newChildren = []
      · -- nothing laid out yet (and the page is not empty): the box comes back empty
        have hB : B = [] := by
          have := fullFrom_length _ _ _ _ hinv
          rw [hne] at this
          simpa using this.symm
        subst hB
        have hpie : pie = false := hor.resolve_right (fun h => h hne)
        subst hpie
        refine ⟨0, rfl, by simp [hidx], ?_, ?_, by simp, wfSkipKids_none _ _⟩
        · simp [hne, fragLinesList, linesFromKids, hc]
        · simp [posKids, hc]
      · rw [hidx]
        exact stop_before_spec _ _ _ _ _ _ hinv hne

/-- The fragment a layout returns is a fragment of the box: its kind, id and style, the index given, no serial;
its bottom padding and border are those of the box, or none. -/
theorem layoutBox_frag_shape {c : Ctx} {box : OBox} {idx : Nat} {y bs : Rat} {skip : Option Resume}
    {cb pie : Bool} {adjL : List Rat} {w : World} {f : OFrag}
    (h : (layoutBox c box idx y bs skip cb pie adjL w).frag = some f) :
    ∃ g, ((g.pb = box.st.pb ∧ g.bb = box.st.bb) ∨ (g.pb = 0 ∧ g.bb = 0)) ∧
      match box with
      | .para id n _ st => ∃ lines, f = .para 0 id idx st n g lines
      | .block id st _ => ∃ kids, f = .block 0 id idx st g kids := by
  cases box with
  | para id n lineH st =>
    simp only [layoutBox, seenByCaller_frag] at h
    obtain ⟨_, ⟨g, rfl, hg⟩, _⟩ := finishPara_frag h
    exact ⟨g, by simpa [OBox.st] using hg, _, rfl⟩
  | block id st kids =>
    simp only [layoutBox, seenByCaller_frag] at h
    obtain ⟨g, rfl, hg⟩ := finishBlock_frag h
    exact ⟨g, by simpa [OBox.st] using hg, _, rfl⟩

theorem layoutBox_frag_inFlow {c : Ctx} {box : OBox} {idx : Nat} {y bs : Rat} {skip : Option Resume}
    {cb pie : Bool} {adjL : List Rat} {w : World} {f : OFrag}
    (h : (layoutBox c box idx y bs skip cb pie adjL w).frag = some f) : f.inFlow = box.inFlow := by
  obtain ⟨g, _, hs⟩ := layoutBox_frag_shape h
  cases box with
  | para id n lineH st => obtain ⟨l, rfl⟩ := hs; rfl
  | block id st kids => obtain ⟨l, rfl⟩ := hs; rfl

theorem layoutBox_frag_deco {c : Ctx} {box : OBox} {idx : Nat} {y bs : Rat} {skip : Option Resume}
    {cb pie : Bool} {adjL : List Rat} {w : World} {f : OFrag}
    (h : (layoutBox c box idx y bs skip cb pie adjL w).frag = some f) :
    (f.geo.pb = box.st.pb ∧ f.geo.bb = box.st.bb) ∨ (f.geo.pb = 0 ∧ f.geo.bb = 0) := by
  obtain ⟨g, hg, hs⟩ := layoutBox_frag_shape h
  cases box with
  | para id n lineH st => obtain ⟨l, rfl⟩ := hs; exact hg
  | block id st kids => obtain ⟨l, rfl⟩ := hs; exact hg

theorem finishBlock_post (c : Ctx) (st : OStyle) (p : Prep) (pie : Bool) (id idx : Nat) (out : KidsOutcome)
    (kids : List OBox) (skip : Option Resume) (hh : st.height = none)
    (hout : KidsPost (kids.drop (skipIdxOf skip)) (skipIdxOf skip) (subSkipOf skip) pie out) :
    BoxPost (.block id st kids) skip pie (finishBlock c st p pie id idx out).frag
      (finishBlock c st p pie id idx out).resume := by
  intro f hf
  cases out with
  | aborted page s => simp [finishBlock, abortResult] at hf
  | stopped resume s =>
    simp only [finishBlock] at hf ⊢
    obtain ⟨⟨g, rfl, _⟩, hr⟩ := finishContainer_frag hf
    rw [hr, forgetIfFixed_none _ _ _ _ hh]
    obtain ⟨m, hsome, hidx, hlines, hle, hlt, hwf⟩ := hout
    cases resume with
    | none => simp at hsome
    | some ρ =>
      simp only
      have hd := posKids_drop kids (skipIdxOf skip) 0 (subSkipOf skip)
      simp only [Nat.add_zero] at hd
      refine ⟨?_, ?_, ?_, ?_⟩
      · simp only [fragLines, linesFrom]
        rw [hidx, linesFromKids_drop, hlines]
        exact (linesFromKids_drop _ _ 0 _).symm
      · simp only [pos]
        rw [hidx, posKids_drop, hd]
        omega
      · intro hp
        have := hlt hp
        simp only [pos]
        rw [hidx, posKids_drop, hd]
        omega
      · simp only [WfSkip]
        rw [hidx]
        exact (wfSkipKids_drop kids (skipIdxOf skip) m _).mpr hwf
  | finished s =>
    simp only [finishBlock] at hf ⊢
    obtain ⟨⟨g, rfl, _⟩, hr⟩ := finishContainer_frag hf
    rw [hr]
    simp only [Full]
    exact hout

theorem meetBreak_nil (s : KidsLoop) (child : OBox) (h : s.newChildren = []) : (meetBreak s child).2 = false := by
  unfold meetBreak; simp [h, lastInFlow]

theorem kidStep_spec (c : Ctx) (st : OStyle) (b : BoxSt) (cwc : Bool) (index : Nat) (bs : Rat) (pie : Bool)
    (child : OBox) (s : KidsLoop) (B post : List OBox) (i0 : Nat) (sub0 : Option Resume) (hgB : GoodList B)
    (hbox : child.inFlow = true → ∀ (idx : Nat) (y bs : Rat) (skip : Option Resume) (cb pie : Bool)
      (adjL : List Rat) (w : World), WfSkip child skip →
      BoxPost child skip pie (layoutBox c child idx y bs skip cb pie adjL w).frag
        (layoutBox c child idx y bs skip cb pie adjL w).resume)
    (hinv : FullFrom s.newChildren B i0 sub0) (hidx : index = i0 + B.length)
    (hskip : s.skip = if B = [] then sub0 else none)
    (hwf : WfSkipKids (child :: post) 0 (if B = [] then sub0 else none)) :
    StepTo (KidsPost (B ++ child :: post) i0 sub0 pie)
      (fun s' => FullFrom s'.newChildren (B ++ [child]) i0 sub0 ∧ s'.skip = none)
      (kidStep c st b cwc index bs pie child s) := by
  -- a sub-stack only below an in-flow child
  have hsn : child.inFlow = false → s.skip = none := by
    intro hcf
    rw [hskip]
    simpa only [WfSkipKids, hcf, Bool.false_eq_true, if_false] using hwf
  apply stepTo_kidStep
  · intro hcf _
    obtain ⟨h1, h2⟩ := placeAbs_spec index child s B i0 sub0 hinv hidx hcf
    exact ⟨h1, h2.trans (hsn hcf)⟩
  · intro hcf _
    refine (floatStep_spec c index pie bs child s _ B post i0 sub0 hgB hinv hidx hcf ?_).mono (fun _ h => h)
      (fun s3 h => ⟨h.1, h.2.trans (hsn hcf)⟩)
    intro f hf
    rw [layoutBox_frag_inFlow hf, hcf]
  · intro _ hforced
    rw [hidx]
    apply stop_before_spec _ _ _ _ _ _ hinv
    intro he
    rw [meetBreak_nil s child he] at hforced
    cases hforced
  · intro hpos _
    have hcin := (inFlow_of_pos child).mpr hpos
    obtain ⟨hnc, _, hsk⟩ := flowLaid_state c st b cwc index bs pie child s
    obtain ⟨dy, hdy⟩ := preFlow_children c { b with y := s.boxY } cwc pie child s
    have hsk0 := preFlow_skip c { b with y := s.boxY } cwc pie child s
    have hwfchild : WfSkip child s.skip := by
      rw [hskip]
      simpa only [WfSkipKids, hcin, if_true] using hwf
    refine (conclude_spec _ _ _ _ _ _ _ B post i0 sub0
      (pienc pie (preFlow c { b with y := s.boxY } cwc pie child s)) hgB ?_ hidx hcin ?_ ?_ ?_).mono
      (fun _ h => h) (fun s3 h => ⟨h.1, h.2.trans hsk⟩)
    · rw [hnc, hdy]
      exact fullFrom_translate _ _ _ _ dy hinv
    · intro f hf
      obtain ⟨bs', adjL', w', hfr, _, _⟩ := flowLaid_frag rfl hf
      rw [layoutBox_frag_inFlow hfr, hcin]
    · intro hB hp
      have hnil : s.newChildren = [] := by
        have := fullFrom_length _ _ _ _ hinv
        rw [hB] at this
        simpa using this
      unfold pienc
      rw [hdy, hnil]
      simp [hp, translateList]
    · intro f hf
      obtain ⟨bs', adjL', w', hfr, hres, _⟩ := flowLaid_frag rfl hf
      rw [hres, ← hskip, ← hsk0]
      exact hbox hcin _ _ _ _ _ _ _ _ (by rw [hsk0]; exact hwfchild) f hfr

mutual
/-- **Segment + progress post-condition of `block_level_layout`** in the extended model, for every box
whose own flow has no fixed heights and `orphans, widows ≥ 1`, every context, position, world, and every
well-formed skip stack. -/
theorem box_spec : (box : OBox) → Good box → ∀ (c : Ctx) (idx : Nat) (y bs : Rat) (skip : Option Resume)
    (cb pie : Bool) (adjL : List Rat) (w : World), WfSkip box skip →
    BoxPost box skip pie (layoutBox c box idx y bs skip cb pie adjL w).frag
      (layoutBox c box idx y bs skip cb pie adjL w).resume
  | .para id n lineH st => by
    intro hg c idx y bs skip cb pie adjL w _
    exact para_spec id n lineH st hg c idx y bs skip cb pie adjL w
  | .block id st kids => by
    intro hg c idx y bs skip cb pie adjL w hwf
    simp only [Good] at hg
    simp only [WfSkip] at hwf
    simp only [layoutBox, seenByCaller_frag, seenByCaller_resume]
    generalize prepare c st y bs skip cb pie adjL w.shapes = p
    apply finishBlock_post _ _ _ _ _ _ _ _ _ hg.1
    have := kids_spec kids hg.2 c st p.b p.cwc [] (skipIdxOf skip) (subSkipOf skip) 0 (skipIdxOf skip) p.bs pie
      { newChildren := [], posY := p.posY, boxY := p.b.y, adjL := p.adjL, cur := p.cur, curIsL := p.curIsL,
        nextPage := { brk := none, page := none }, skip := subSkipOf skip, localBroken := [], w := w }
      (by simp [GoodList]) (by simp [FullFrom]) (by intro _; exact ⟨rfl, rfl⟩) (by intro h; simp; omega)
      (by simp) (by
        have := (wfSkipKids_drop kids (skipIdxOf skip) 0 (subSkipOf skip)).mp (by simpa using hwf)
        simpa using this)
    simpa using this
theorem kids_spec : (rest : List OBox) → GoodList rest → ∀ (c : Ctx) (st : OStyle) (b : BoxSt) (cwc : Bool)
    (B : List OBox) (i0 : Nat) (sub0 : Option Resume) (index skipIdx : Nat) (bs : Rat) (pie : Bool) (s : KidsLoop),
    GoodList B → FullFrom s.newChildren B i0 sub0 →
    (index < skipIdx → B = [] ∧ i0 = skipIdx) → (skipIdx ≤ index → index = i0 + B.length) →
    s.skip = (if B = [] then sub0 else none) →
    WfSkipKids (B ++ rest.drop (skipIdx - index)) 0 sub0 →
    KidsPost (B ++ rest.drop (skipIdx - index)) i0 sub0 pie (layoutKids c st b cwc rest index skipIdx bs pie s)
  | [] => by
    intro _ c st b cwc B i0 sub0 index skipIdx bs pie s hgB hinv _ _ _ _
    simp only [layoutKids, List.drop_nil, List.append_nil, KidsPost]
    exact hinv
  | child :: rest => by
    intro hg c st b cwc B i0 sub0 index skipIdx bs pie s hgB hinv hlt hge hskip hwf
    simp only [GoodList] at hg
    refine layoutKids_step (fun s' => FullFrom s'.newChildren (B ++ [child]) i0 sub0 ∧ s'.skip = none) ?_ ?_
    · intro hc
      obtain ⟨hB, hi0⟩ := hlt hc
      rw [Seg.drop_skipped hc] at hwf ⊢
      exact kids_spec rest hg.2 c st b cwc B i0 sub0 (index + 1) skipIdx bs pie s hgB hinv
        (fun _ => ⟨hB, hi0⟩) (by intro _; subst hB; simp; omega) hskip hwf
    · intro hc
      have hd : skipIdx - index = 0 := by omega
      have hd' : skipIdx - (index + 1) = 0 := by omega
      rw [hd, List.drop_zero] at hwf ⊢
      -- what the skip stack says about the first visited child
      have hwfc : WfSkipKids (child :: rest) 0 (if B = [] then sub0 else none) := by
        by_cases hB : B = []
        · subst hB; simpa using hwf
        · simp only [hB, if_false]; exact wfSkipKids_none _ _
      refine ⟨kidStep_spec c st b cwc index bs pie child s B rest i0 sub0 hgB
        (fun hcin => box_spec child (hg.1 hcin) c) hinv (hge hc) hskip hwfc, ?_⟩
      intro s3 ⟨h3, hs3⟩
      have := kids_spec rest hg.2 c st b cwc (B ++ [child]) i0 sub0 (index + 1) skipIdx bs pie s3
        ((goodList_iff _).mpr (forall_mem_snoc ((goodList_iff _).mp hgB) hg.1)) h3 (by intro _; omega)
        (by intro _; simp; omega) (by simp [hs3]) (by simpa [hd'] using hwf)
      simpa [hd'] using this
end

end Wp.PMO
