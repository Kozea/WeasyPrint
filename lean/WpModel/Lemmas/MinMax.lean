/-
The min/max decorators of `min_max.py` (`handle_min_max_width`, `handle_min_max_height`) for an arbitrary wrapped
function, over their common text `handleMinMaxGen`:

  `minmax_passes_gen`  the control flow as a relation (any wrapped function)
  `minmax_gen`         min ≤ size (≤ max when min ≤ max) for a wrapped function that keeps a specified size
  `minmax_normal`      the closed form for a wrapped function that changes only the size, the margins and
                       `position_x` (`Solves`: proved of `block_level_width`, `solves_blw`, and of `float_width`,
                       `solves_float`, which the inline-block width reaches through `minmax_congr`; of the nine
                       functions /repo decorates the model has those three and `page_width` / `page_height`, for
                       which only `KeepsSize` is proved): the tentative pass, and — if `min-*` / `max-*` object to
                       its size `t` — one more pass from the original box at the size `cssClamp t min max`
-/
import WpModel.Model.BoxModel
import WpModel.Lemmas.Basic.Except

namespace Wp.C05Shrink
open Wp Wp.BoxModel

/-- CSS 2.1 §10.4 on a tentative width `t`: `max-width` first, `min-width` last (so the minimum wins). -/
def cssClamp (t minW : Rat) (maxW : Ext) : Rat :=
  let t' := match maxW with
    | .fin m => if t > m then m else t
    | _ => t
  if t' < minW then minW else t'

theorem cssClamp_of_not_gt (t minW : Rat) (maxW : Ext) (h : maxW.ltRat t = false) :
    cssClamp t minW maxW = if t < minW then minW else t := by
  unfold cssClamp
  cases maxW with
  | fin m =>
    have : ¬ t > m := by simpa [Ext.ltRat] using h
    simp only [if_neg this]
  | ninf => simp [Ext.ltRat] at h
  | inf => rfl
  | nan => rfl

theorem cssClamp_of_gt (t minW m : Rat) (h : t > m) :
    cssClamp t minW (.fin m) = if m < minW then minW else m := by
  simp only [cssClamp, if_pos h]

theorem cssClamp_of_fits {t minW : Rat} {maxW : Ext} (h : maxW.ltRat t = false ∧ ¬ t < minW) :
    cssClamp t minW maxW = t := by
  rw [cssClamp_of_not_gt _ _ _ h.1, if_neg h.2]

theorem cssClamp_mem (t minW : Rat) (maxW : Ext) (h : ¬ (maxW.ltRat t = false ∧ ¬ t < minW)) (hmax : maxW ≠ .ninf) :
    cssClamp t minW maxW = minW ∨ maxW = .fin (cssClamp t minW maxW) := by
  cases hc : maxW.ltRat t with
  | false =>
    rw [cssClamp_of_not_gt _ _ _ hc]
    by_cases hlt : t < minW
    · exact Or.inl (if_pos hlt)
    · exact absurd ⟨hc, hlt⟩ h
  | true =>
    cases maxW with
    | fin m =>
      rw [cssClamp_of_gt _ _ _ (by simpa [Ext.ltRat] using hc)]
      split
      · exact Or.inl rfl
      · exact Or.inr rfl
    | ninf => exact absurd rfl hmax
    | inf => cases hc
    | nan => cases hc

end Wp.C05Shrink

namespace Wp.C05
open Wp Wp.BoxModel Wp.C05Shrink

/-- What the min/max wrappers need from the wrapped function: a specified size is kept, and the
constraints are not touched.  (`block_level_width`, `page_width_or_height` and the identity satisfy it.) -/
structure KeepsSize (f : ABox → Except BErr ABox) : Prop where
  size : ∀ b b' w, f b = .ok b' → b.w = some w → b'.w = some w
  bounds : ∀ b b', f b = .ok b' → b'.minW = b.minW ∧ b'.maxW = b.maxW

theorem widthOf_ok {b : ABox} {w : Rat} (h : widthOf b = .ok w) : b.w = some w := by
  unfold widthOf at h
  cases hw : b.w <;> simp_all

theorem widthOf_some {b : ABox} {w : Rat} (h : b.w = some w) : widthOf b = .ok w := by
  simp [widthOf, h]

private theorem extAsLen_ok {x : Ext} {v : Len} (h : extAsLen x = .ok v) :
    ∃ m, x = .fin m ∧ v = some m := by
  cases x <;> simp [extAsLen] at h
  exact ⟨_, rfl, h.symm⟩

/-- `box.position_x = position_x` of `handle_min_max_width` (`restore = true`); `handle_min_max_height`
and a box without `position_x` write nothing back (`restore = false`). -/
def resetX : Bool → Rat → ABox → ABox
  | true, x, b => { b with posX := x }
  | false, _, b => b

/-- The common text of the two decorators of `min_max.py`, the `position_x` bookkeeping being the
parameter (a proof device: the model functions are the literal ones of `Model/BoxModel.lean`). -/
def handleMinMaxGen (restore : Bool) (function : ABox → Except BErr ABox) (box : ABox) : Except BErr ABox := do
  let computedMargins := (box.ml, box.mr)
  let positionX := box.posX
  let box ← function box
  let width ← widthOf box
  let box ← (if box.maxW.ltRat width then do
      let w ← extAsLen box.maxW
      function (resetX restore positionX { box with w := w, ml := computedMargins.1, mr := computedMargins.2 })
    else pure box)
  let width ← widthOf box
  let box ← (if width < box.minW then
      function (resetX restore positionX
        { box with w := some box.minW, ml := computedMargins.1, mr := computedMargins.2 })
    else pure box)
  pure box

theorem resetX_fields (rs : Bool) (x : Rat) (b : ABox) :
    (resetX rs x b).w = b.w ∧ (resetX rs x b).ml = b.ml ∧ (resetX rs x b).mr = b.mr ∧
    (resetX rs x b).pl = b.pl ∧ (resetX rs x b).pr = b.pr ∧ (resetX rs x b).bl = b.bl ∧
    (resetX rs x b).br = b.br ∧ (resetX rs x b).minW = b.minW ∧ (resetX rs x b).maxW = b.maxW ∧
    (resetX rs x b).isColumn = b.isColumn := by
  cases rs <;> simp [resetX]

theorem resetX_w (rs : Bool) (x : Rat) (b : ABox) : (resetX rs x b).w = b.w := by cases rs <;> rfl
theorem resetX_minW (rs : Bool) (x : Rat) (b : ABox) : (resetX rs x b).minW = b.minW := by cases rs <;> rfl
theorem resetX_maxW (rs : Bool) (x : Rat) (b : ABox) : (resetX rs x b).maxW = b.maxW := by cases rs <;> rfl

/-- The control flow of the wrappers, as a relation: first pass `b1`; if its width exceeds the maximum a
second pass from (`max`, the *computed* margins, the original `position_x` when it is restored); if the
width is then below the minimum another pass from (`min`, the computed margins, the original
`position_x`). -/
theorem minmax_passes_gen (rs : Bool) (f : ABox → Except BErr ABox) (b r : ABox)
    (h : handleMinMaxGen rs f b = .ok r) :
    ∃ b1 w1 b2 w2, f b = .ok b1 ∧ b1.w = some w1 ∧
      ((b1.maxW.ltRat w1 = true ∧
          ∃ m, b1.maxW = .fin m ∧
            f (resetX rs b.posX { b1 with w := some m, ml := b.ml, mr := b.mr }) = .ok b2) ∨
       (b1.maxW.ltRat w1 = false ∧ b2 = b1)) ∧
      b2.w = some w2 ∧
      ((w2 < b2.minW ∧ f (resetX rs b.posX { b2 with w := some b2.minW, ml := b.ml, mr := b.mr }) = .ok r) ∨
       (¬ w2 < b2.minW ∧ r = b2)) := by
  simp only [handleMinMaxGen, Except.bind_eq_ok_iff, pure, Except.pure] at h
  obtain ⟨b1, h1, w1, hw1, b2, h2, w2, hw2, h3⟩ := h
  refine ⟨b1, w1, b2, w2, h1, widthOf_ok hw1, ?_, widthOf_ok hw2, ?_⟩
  · split at h2
    · rw [Except.bind_eq_ok_iff] at h2
      obtain ⟨v, hv, h2⟩ := h2
      obtain ⟨m, hm, rfl⟩ := extAsLen_ok hv
      exact Or.inl ⟨‹_›, m, hm, h2⟩
    · exact Or.inr ⟨Bool.eq_false_iff.mpr ‹_›, (Except.ok.inj h2).symm⟩
  · split at h3
    · exact Or.inl ⟨‹_›, h3⟩
    · exact Or.inr ⟨‹_›, (Except.ok.inj h3).symm⟩

/-- The wrapper only ever calls the wrapped function on boxes that carry the *computed* margins of the
original box: two functions that agree on those are interchangeable under the wrapper. -/
theorem minmax_congr (f g : ABox → Except BErr ABox) (z : ABox)
    (hfg : ∀ x : ABox, x.ml = z.ml → x.mr = z.mr → f x = g x) :
    handleMinMaxWidth f z = handleMinMaxWidth g z := by
  unfold handleMinMaxWidth
  have h0 := hfg z rfl rfl
  have h1 : ∀ (b1 : ABox) (v : Len), f { b1 with w := v, ml := z.ml, mr := z.mr, posX := z.posX } =
      g { b1 with w := v, ml := z.ml, mr := z.mr, posX := z.posX } := fun b1 v => hfg _ rfl rfl
  simp only [h0, h1]

/-- (c) min/max hold after either wrapper, with or without the `position_x` bookkeeping. -/
theorem minmax_gen (rs : Bool) (f : ABox → Except BErr ABox) (hf : KeepsSize f) (b r : ABox)
    (h : handleMinMaxGen rs f b = .ok r) :
    ∃ w, r.w = some w ∧ b.minW ≤ w ∧ (∀ m, b.maxW = .fin m → b.minW ≤ m → w ≤ m) ∧
      r.minW = b.minW ∧ r.maxW = b.maxW := by
  obtain ⟨b1, w1, b2, w2, h1, hw1, hmax, hw2, hmin⟩ := minmax_passes_gen rs f b r h
  obtain ⟨hb1min, hb1max⟩ := hf.bounds _ _ h1
  -- after the max-width pass: the constraints are those of `b`, the width is within the maximum
  have h2 : b2.minW = b.minW ∧ b2.maxW = b.maxW ∧ ∀ m, b.maxW = .fin m → w2 ≤ m := by
    rcases hmax with ⟨_, m, hm, h2⟩ | ⟨hnlt, rfl⟩
    · obtain ⟨e1, e2⟩ := hf.bounds _ _ h2
      simp only [resetX_minW, resetX_maxW] at e1 e2
      have hm2 := hf.size _ _ m h2 (by rw [resetX_w])
      rw [hw2] at hm2; cases hm2
      refine ⟨e1.trans hb1min, e2.trans hb1max, fun m' hm' => ?_⟩
      rw [← hb1max, hm] at hm'; cases hm'; exact Rat.le_refl
    · rw [hw1] at hw2; cases hw2
      refine ⟨hb1min, hb1max, fun m hm => ?_⟩
      rw [← hb1max] at hm; rw [hm] at hnlt
      exact Rat.not_lt.mp (by simpa [Ext.ltRat] using hnlt)
  obtain ⟨e1, e2, hle⟩ := h2
  rcases hmin with ⟨_, h3⟩ | ⟨hge, rfl⟩
  · obtain ⟨e3, e4⟩ := hf.bounds _ _ h3
    simp only [resetX_minW, resetX_maxW] at e3 e4
    exact ⟨b2.minW, hf.size _ _ _ h3 (by rw [resetX_w]), e1 ▸ Rat.le_refl, fun m _ hmin => e1 ▸ hmin,
      e3.trans e1, e4.trans e2⟩
  · exact ⟨w2, hw2, e1 ▸ Rat.not_lt.mp hge, fun m hm _ => hle m hm, e1, e2⟩

/-- `f`, run from `b` with the size replaced by `w'`, returns `g w'`; a specified size is kept; and what a further
pass of the wrapper starts from is `b` again: `g w'` differs from `b` at most in the size, the margins and — under
`handle_min_max_width`, which restores it — `position_x`. -/
structure Solves (rs : Bool) (f : ABox → Except BErr ABox) (b : ABox) (g : Len → ABox) : Prop where
  run : ∀ w', f { b with w := w' } = .ok (g w')
  keep : ∀ v, (g (some v)).w = some v
  frame : ∀ w' v, resetX rs b.posX { g w' with w := v, ml := b.ml, mr := b.mr } = { b with w := v }

theorem Solves.minW {rs f b g} (hs : Solves rs f b g) (w' : Len) : (g w').minW = b.minW := by
  have := congrArg ABox.minW (hs.frame w' none)
  rwa [resetX_minW] at this

theorem Solves.maxW {rs f b g} (hs : Solves rs f b g) (w' : Len) : (g w').maxW = b.maxW := by
  have := congrArg ABox.maxW (hs.frame w' none)
  rwa [resetX_maxW] at this

/-- **Closed form of the min/max wrappers** around a function that only solves for the size: the tentative pass,
and — if `min-*` / `max-*` object to its size `t` — one more pass from the original box at the size
`cssClamp t min max`.  (`max-*: -inf`, which no CSS value produces, is the one way to fail.) -/
theorem minmax_normal {rs : Bool} {f : ABox → Except BErr ABox} {b : ABox} {g : Len → ABox}
    (hs : Solves rs f b g) {t : Rat} (ht : (g b.w).w = some t) :
    handleMinMaxGen rs f b =
      if b.maxW = .ninf then .error (.unsupported "min_max:non-finite-max") else
      .ok (if b.maxW.ltRat t = false ∧ ¬ t < b.minW then g b.w
           else g (some (cssClamp t b.minW b.maxW))) := by
  have e0 : f b = .ok (g b.w) := hs.run b.w
  -- every further pass starts from `b` with another size
  have step : ∀ w' v, f (resetX rs b.posX { g w' with w := v, ml := b.ml, mr := b.mr }) = .ok (g v) :=
    fun w' v => by rw [hs.frame]; exact hs.run v
  unfold handleMinMaxGen
  simp only [e0, widthOf_some ht, bind, Except.bind, step, pure, Except.pure]
  have hmx := hs.maxW b.w
  by_cases hc : b.maxW.ltRat t = true
  · rw [if_pos (hmx ▸ hc), hmx]
    cases hm : b.maxW with
    | ninf => rfl
    | inf => rw [hm] at hc; cases hc
    | nan => rw [hm] at hc; cases hc
    | fin m =>
      have hgt : t > m := by rw [hm] at hc; simpa [Ext.ltRat] using hc
      -- `step` before `Solves.minW`: rewriting `min` inside the restarted box would hide it from `step`
      simp only [extAsLen, widthOf_some (hs.keep m), step, reduceCtorEq, if_false]
      rw [hs.minW, show (if (Ext.fin m).ltRat t = false ∧ ¬ t < b.minW then g b.w
            else g (some (cssClamp t b.minW (.fin m)))) = g (some (if m < b.minW then b.minW else m)) by
        rw [if_neg (fun h => by rw [← hm, hc] at h; cases h.1), cssClamp_of_gt _ _ _ hgt]]
      split <;> rfl
  · have hc' : b.maxW.ltRat t = false := Bool.eq_false_iff.mpr hc
    rw [if_neg (hmx ▸ hc), if_neg (fun hn => by rw [hn] at hc; exact hc rfl)]
    simp only [widthOf_some ht, step]
    rw [hs.minW]
    by_cases hlt : t < b.minW
    · rw [if_pos hlt, if_neg (fun h => h.2 hlt), cssClamp_of_not_gt _ _ _ hc', if_pos hlt]
    · rw [if_neg hlt, if_pos ⟨hc', hlt⟩]

end Wp.C05
