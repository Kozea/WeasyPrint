/-
Lemmas for `Model/LineFloatsInline` (nested inline boxes next to floats): with no float it is, line for
line, the plain nested-inline paragraph of `Model/InlineRun`; every line starts at or below the bottom
of the one before.  Core Lean only.
-/
import WpModel.Model.LineFloatsInline
import WpModel.Lemmas.LineFloats

namespace Wp.LFIL
open Wp Wp.Py Wp.LB Wp.Floats Wp.IR Wp.C09L Wp.LineIter

/-- **refinement, one line**: with no excluded shape `get_next_linebox` next to floats is the plain
`get_next_linebox` of `Model/InlineRun`. -/
theorem nextLine_no_float (p : IR.Para) (skip : Option Skip) (y : Rat) (first : Bool) :
    LFI.nextLine [] p skip y first = IR.nextLine p skip y first := by
  unfold LFI.nextLine IR.nextLine
  simp only [LFI.tentative, List.isEmpty_nil, if_true, LFL.avoid_no_shapes, Except.ok_bind]
  rfl

theorem ir_iterLines_eq (p : IR.Para) :
    ∀ fuel, IR.iterLines p fuel = iter (IR.nextLine p) (·.resume) (fun l => l.y + l.h) fuel :=
  eq_iter (fun _ _ _ => rfl) fun fuel skip y first => by
    simp only [IR.iterLines, round]
    rcases IR.nextLine p skip y first with e | _ | l <;> try rfl
    dsimp only
    cases l.resume <;> rfl

theorem iterLines_eq (shapes : List Shape) (p : IR.Para) :
    ∀ fuel, LFI.iterLines shapes p fuel = iter (LFI.nextLine shapes p) (·.resume) (fun l => l.y + l.h) fuel :=
  eq_iter (fun _ _ _ => rfl) fun fuel skip y first => by
    simp only [LFI.iterLines, round]
    rcases LFI.nextLine shapes p skip y first with e | _ | l <;> try rfl
    dsimp only
    cases l.resume <;> rfl

theorem iterLinesTall_eq (shapes : List Shape) (p : IR.Para) (strut lineH : Rat) :
    ∀ fuel, LFI.iterLinesTall shapes p strut lineH fuel =
      iter (LFI.nextLineTall shapes p strut lineH) (·.resume) (fun l => l.y + l.h) fuel :=
  eq_iter (fun _ _ _ => rfl) fun fuel skip y first => by
    simp only [LFI.iterLinesTall, round]
    rcases LFI.nextLineTall shapes p strut lineH skip y first with e | _ | l <;> try rfl
    dsimp only
    cases l.resume <;> rfl

theorem iterLines_no_float (p : IR.Para) (fuel : Nat) : LFI.iterLines [] p fuel = IR.iterLines p fuel := by
  rw [iterLines_eq, ir_iterLines_eq, funext fun s => funext fun y => funext (nextLine_no_float p s y)]

/-- each line is placed where `avoid_collisions` put the tentative line box: at or below `y` -/
theorem nextLine_below (shapes : List Shape) (p : IR.Para) (skip : Option Skip) (y : Rat) (first : Bool)
    (l : IR.OutLine) (h : LFI.nextLine shapes p skip y first = .ok (some l)) :
    y ≤ l.y := by
  unfold LFI.nextLine at h
  obtain ⟨sr, _, h⟩ := Except.bind_eq_ok h
  cases sr with
  | cont => cases h
  | skip skip' =>
    obtain ⟨wh, _, h⟩ := Except.bind_eq_ok h
    obtain ⟨place, ha, h⟩ := Except.bind_eq_ok h
    have hy : y ≤ place.y := (LFL.avoid_line shapes y wh.1 wh.2 _ rfl place ha).1
    obtain ⟨lo, _, h⟩ := Except.bind_eq_ok h
    split at h
    · cases h; exact hy
    · obtain ⟨rl, _, h⟩ := Except.bind_eq_ok h
      obtain ⟨place2, _, h⟩ := Except.bind_eq_ok h
      obtain ⟨r, _, h⟩ := Except.map_eq_ok h
      cases h; exact hy

/-- lines stacked downwards from `y`: each starts at or below the end of the previous one -/
def StackedBelow : Rat → List IR.OutLine → Prop
  | _, [] => True
  | y, l :: ls => y ≤ l.y ∧ StackedBelow (l.y + l.h) ls

end Wp.LFIL
