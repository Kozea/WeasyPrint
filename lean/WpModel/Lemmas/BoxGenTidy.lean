/-
`element_to_box` (Model/BoxGen.lean) builds tidy trees: text lives in text boxes, which are leaves.
This is the precondition of the text theorems of Lemmas/Pipeline.lean and Lemmas/TableText.lean.
-/
import WpModel.Lemmas.BoxGenRun
import WpModel.Lemmas.Pipeline

namespace Wp.Bx
open KBox

mutual
theorem pw_tidy : ∀ (b : KBox) (f : Bool), Tidy b → Tidy (pw b f).1
  | .mk k st el inst text kids cols, f, h => by
    have hp := tidy_parts h
    unfold pw
    split
    · rename_i ht
      split
      · exact h
      · unfold Tidy; exact ⟨fun _ => hp.1 ht, (fun hf => by rw [ht] at hf; cases hf), hp.2.2⟩
    · rename_i ht
      have hnt : Gen.isSub k .TextBox = false := by simpa using ht
      exact tidy_of _ hnt (hp.2.1 hnt) (pwKids_tidy kids f hp.2.2)
theorem pwKids_tidy : ∀ (l : List KBox) (f : Bool), TidyL l → TidyL (pwKids l f).1
  | [], _, _ => by simp [pwKids, TidyL]
  | c :: cs, f, h => by
    unfold TidyL at h
    unfold pwKids
    split
    · exact ⟨pw_tidy c f h.1, pwKids_tidy cs _ h.2⟩
    · exact ⟨h.1, pwKids_tidy cs _ h.2⟩
end

mutual
theorem ptt_tidy : ∀ (b : KBox), Tidy b → Tidy (ptt b)
  | .mk k st el inst text kids cols, h => by
    have hp := tidy_parts h
    unfold ptt
    split
    · rename_i ht
      unfold Tidy; exact ⟨fun _ => hp.1 ht, (fun hf => by rw [ht] at hf; cases hf), hp.2.2⟩
    · rename_i ht
      have hnt : Gen.isSub k .TextBox = false := by simpa using ht
      split
      · exact tidy_of _ hnt (hp.2.1 hnt) (pttKids_tidy kids hp.2.2)
      · exact h
theorem pttKids_tidy : ∀ (l : List KBox), TidyL l → TidyL (pttKids l)
  | [], _ => by simp [pttKids, TidyL]
  | c :: cs, h => by
    unfold TidyL at h
    unfold pttKids
    refine ⟨?_, pttKids_tidy cs h.2⟩
    split
    · exact ptt_tidy c h.1
    · exact h.1
end

/-- `process_whitespace` changes neither class, style nor element of the box it is called on. -/
theorem pw_proj (b : KBox) (f : Bool) : (pw b f).1.kind = b.kind ∧ (pw b f).1.st = b.st ∧ (pw b f).1.el = b.el := by
  fun_cases pw b f <;> exact ⟨rfl, rfl, rfl⟩

theorem ptt_proj (b : KBox) : (ptt b).kind = b.kind ∧ (ptt b).st = b.st ∧ (ptt b).el = b.el := by
  fun_cases ptt b <;> exact ⟨rfl, rfl, rfl⟩

theorem withKids_el (b : KBox) (ks : List KBox) : (b.withKids ks).el = b.el := by
  obtain ⟨k, st, el, inst, text, kids, cols⟩ := b
  rfl

theorem textBoxFrom_tidy (p : KBox) (t : Text) : Tidy (textBoxFrom p t) := by
  unfold textBoxFrom Tidy
  exact ⟨fun _ => rfl, (fun hf => by cases hf), trivial⟩

theorem contentToBoxes_tidy (q : Quotes) (c : Content) (p : KBox) (d : Nat) (out : List KBox) (d' : Nat)
    (h : contentToBoxes q c p d = .ok (out, d')) : TidyL out := by
  revert h
  fun_cases contentToBoxes q c p d <;> intro h <;> cases h
  · trivial
  · split
    · trivial
    · exact ⟨textBoxFrom_tidy _ _, trivial⟩

theorem boxKind_not_text (d : List String) (k : BoxKind) (h : boxTypeFromDisplay d = some k) :
    Gen.isSub k .TextBox = false := by
  unfold boxTypeFromDisplay at h
  cases hf : Gen.displayTableAst.find? (fun e => e.1 == d.take 2) with
  | none => rw [hf] at h; cases h
  | some e =>
    rw [hf] at h
    simp only [Option.map_some, Option.some.injEq] at h
    have hm := List.mem_of_find?_eq_some hf
    subst h
    have : ∀ e ∈ Gen.displayTableAst, Gen.isSub e.2 .TextBox = false := by decide
    exact this e hm

theorem markerToBox_tidy (m : MarkerSpec) (attrs : El) (o : Bool) (d : Nat) (out : List KBox) (d' : Nat)
    (h : markerToBox m attrs o d = .ok (out, d')) : TidyL out := by
  revert h
  fun_cases markerToBox m attrs o d <;> intro h <;> cases h
  case case1 | case4 => trivial
  all_goals
    rename_i hch
    have hcs : TidyL ‹List KBox› := by
      simp +zetaDelta only at hch
      split at hch
      · split at hch
        · cases hch
        · rename_i hc2
          cases hch
          exact contentToBoxes_tidy _ _ _ _ _ _ hc2
      · split at hch
        · cases hch
          exact ⟨(tidy_withStyle _ _).2 (textBoxFrom_tidy _ _), trivial⟩
        · cases hch; trivial
  next => exact ⟨(tidy_withStyle _ _).2 (tidy_anon _ _ _ rfl hcs), trivial⟩
  next => exact ⟨tidy_anon _ _ _ rfl hcs, trivial⟩

theorem elMarkers_tidy {disp : List String} {marker : Option MarkerSpec} {attrs : El} {outside : Bool} {depth : Nat}
    {ms : List KBox} {d1 : Nat} (h : elMarkers disp marker attrs outside depth = .ok (ms, d1)) : TidyL ms := by
  unfold elMarkers at h
  split at h
  · split at h
    · exact markerToBox_tidy _ _ _ _ _ _ h
    · cases h
  · cases h; trivial

theorem beforeAfter_tidy (p : Option Pseudo) (m : Option MarkerSpec) (attrs : El) (d : Nat) (out : List KBox) (d' : Nat)
    (h : beforeAfterToBox p m attrs d = .ok (out, d')) : TidyL out := by
  revert h
  fun_cases beforeAfterToBox p m attrs d <;> intro h <;> cases h
  case case7 k hk _ markers ms _ hm cs hc =>
    have hms : TidyL ms := elMarkers_tidy (disp := blockify _ _ _ false) (outside := _) hm
    refine ⟨tidy_of _ (boxKind_not_text _ k hk) rfl ?_, trivial⟩
    show TidyL (ms ++ cs)
    rw [tidyL_append]
    exact ⟨hms, contentToBoxes_tidy _ _ _ _ _ _ hc⟩
  all_goals trivial

theorem addChild_tidy (parent : KBox) (acc boxes : List KBox) (tail : Text) (ha : TidyL acc) (hb : TidyL boxes) :
    TidyL (addChild parent acc boxes tail) := by
  have hacc : TidyL (boxes.reverse ++ acc) := by
    rw [tidyL_append]
    exact ⟨tidyL_sub hb (fun c hc => List.mem_reverse.mp hc), ha⟩
  fun_cases addChild parent acc boxes tail
  case case1 => exact hacc
  case case2 last rest e ht =>
    have hl : TidyL (last :: rest) := by rw [← e]; exact hacc
    have hp := tidy_parts hl.1
    exact ⟨tidy_mk (fun _ => hp.1 ht) (fun hf => by cases ht.symm.trans hf) hp.2.2, hl.2⟩
  case case3 => exact ⟨textBoxFrom_tidy _ _, hacc⟩
  case case4 => exact ⟨textBoxFrom_tidy _ _, trivial⟩

theorem elFinish_proj (outside : Bool) (ms : List KBox) (box : KBox) (kids : List KBox) :
    (elFinish outside ms box kids).kind = box.kind ∧ (elFinish outside ms box kids).st = box.st ∧
    (elFinish outside ms box kids).el = box.el := by
  have h : (ptt (pw (box.withKids kids) false).1).kind = box.kind ∧
      (ptt (pw (box.withKids kids) false).1).st = box.st ∧ (ptt (pw (box.withKids kids) false).1).el = box.el := by
    rw [(ptt_proj _).1, (ptt_proj _).2.1, (ptt_proj _).2.2, (pw_proj _ _).1, (pw_proj _ _).2.1, (pw_proj _ _).2.2,
      (withKids_proj _ _).1, (withKids_proj _ _).2.1, withKids_el]
    exact ⟨rfl, rfl, rfl⟩
  unfold elFinish
  simp only
  split
  · rw [(withKids_proj _ _).1, (withKids_proj _ _).2.1, withKids_el]; exact h
  · exact h

mutual
/-- Every box `element_to_box` returns is tidy. -/
theorem elementToBox_tidy : ∀ (root : Bool) (d : Dom) (depth : Nat) (out : List KBox) (depth' : Nat),
    elementToBox root d depth = .ok (out, depth') → TidyL out
  | root, .el es attrs marker before after text kids tail, depth, out, depth', h => by
    obtain ⟨disp, hd⟩ : ∃ d, blockify es.display es.float es.position root = d := ⟨_, rfl⟩
    rcases elementToBox_cases hd h with ⟨_, rfl, _⟩ | ⟨_, k, ms, d1, bs, d2, accRev, d3, as, hk, hm, hb, hk3, ha, rfl⟩
    · trivial
    · have hacc0 : TidyL (bs.reverse ++ ms.reverse) := by
        rw [tidyL_append]
        exact ⟨tidyL_sub (beforeAfter_tidy _ _ _ _ _ _ hb) (fun c hc => List.mem_reverse.mp hc),
          tidyL_sub (elMarkers_tidy hm) (fun c hc => List.mem_reverse.mp hc)⟩
      have hkids := elementKids_tidy _ kids _ d2 accRev d3
        (by
          split
          · exact hacc0
          · exact ⟨textBoxFrom_tidy _ _, hacc0⟩) hk3
      have hnt := boxKind_not_text _ k hk
      have hall : TidyL (accRev.reverse ++ as) :=
        (tidyL_append _ _).2 ⟨tidyL_sub hkids (fun c hc => List.mem_reverse.mp hc), beforeAfter_tidy _ _ _ _ _ _ ha⟩
      have h2 := ptt_tidy _ (pw_tidy _ false (tidy_of ((elBox es disp k attrs).withKids (accRev.reverse ++ as)) hnt rfl hall))
      refine ⟨?_, trivial⟩
      unfold elFinish
      simp only
      split
      · refine tidy_withKids' _ _ h2 (fun hk0 => (tidyL_append _ _).2 ⟨hk0, textBoxFrom_tidy _ _, trivial⟩) (Or.inr ?_)
        unfold KBox.isA
        rw [(ptt_proj _).1, (pw_proj _ _).1]; exact hnt
      · exact h2
theorem elementKids_tidy : ∀ (parent : KBox) (ds : List Dom) (acc : List KBox) (depth : Nat) (out : List KBox)
    (depth' : Nat), TidyL acc → elementKids parent ds acc depth = .ok (out, depth') → TidyL out
  | parent, [], acc, depth, out, depth', ha, h => by
    unfold elementKids at h; cases h; exact ha
  | parent, d :: ds, acc, depth, out, depth', ha, h => by
    unfold elementKids at h
    split at h
    · cases h
    · rename_i boxes d1 hb
      exact elementKids_tidy parent ds _ d1 out depth'
        (addChild_tidy parent acc boxes d.tail ha (elementToBox_tidy false d depth boxes d1 hb)) h
end

end Wp.Bx
