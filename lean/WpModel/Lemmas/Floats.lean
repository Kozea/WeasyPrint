/-
`maxList` / `minList` (Python's `max(xs)` / `min(xs)` on a non-empty list): above / below every element, and
one of them.  Instances of `Lemmas/MaxMin`.  Core Lean only.
-/
import WpModel.Model.Floats
import WpModel.Lemmas.MaxMin

namespace Wp.Floats
open Wp.MaxMin

theorem maxList_ge (x : Rat) (xs : List Rat) : ∀ a ∈ x :: xs, a ≤ maxList x xs := lub_max.le_foldl_cons xs x

theorem maxList_mem (x : Rat) (xs : List Rat) : maxList x xs ∈ x :: xs := lub_max.foldl_mem_cons xs x

theorem minList_le (x : Rat) (xs : List Rat) : ∀ a ∈ x :: xs, minList x xs ≤ a := lub_min.le_foldl_cons xs x

theorem minList_mem (x : Rat) (xs : List Rat) : minList x xs ∈ x :: xs := lub_min.foldl_mem_cons xs x

end Wp.Floats
