/-
The bounds computed by one loop iteration of `avoid_collisions`.
-/
import WpModel.Lemmas.FloatLoop

namespace Wp.Floats
open Wp.MaxMin

theorem mem_leftBounds {col : List Shape} {q : Rat} :
    q ∈ leftBounds col ↔ ∃ s ∈ col, s.side = .left ∧ s.rightEdge = q := by
  simp [leftBounds, and_assoc]

theorem mem_rightBounds {col : List Shape} {q : Rat} :
    q ∈ rightBounds col ↔ ∃ s ∈ col, s.side = .right ∧ s.x = q := by
  simp [rightBounds, and_assoc]

theorem bounds_l_eq (col : List Shape) (l0 r0 : Rat) : (bounds col l0 r0).l = (leftBounds col).foldl max l0 := by
  unfold bounds
  cases leftBounds col with
  | nil => rfl
  | cons b bs =>
    have := lub_max.seed_le_foldl bs b
    rw [List.foldl_cons, lub_max.foldl_seed bs (max l0 b) b (Rat.le_max_right ..)]
    show max (bs.foldl max b) l0 = _
    grind

theorem bounds_l_ge_init (col : List Shape) (l0 r0 : Rat) : l0 ≤ (bounds col l0 r0).l :=
  bounds_l_eq col l0 r0 ▸ lub_max.seed_le_foldl _ l0

theorem bounds_l_ge (col : List Shape) (l0 r0 : Rat) (s : Shape) (hs : s ∈ col) (hl : s.side = .left) :
    s.rightEdge ≤ (bounds col l0 r0).l :=
  bounds_l_eq col l0 r0 ▸ lub_max.le_foldl _ l0 _ (mem_leftBounds.mpr ⟨s, hs, hl, rfl⟩)

theorem bounds_l_mem (col : List Shape) (l0 r0 : Rat) :
    (bounds col l0 r0).l = l0 ∨ ∃ s ∈ col, s.side = .left ∧ s.rightEdge = (bounds col l0 r0).l := by
  rw [bounds_l_eq]
  exact (lub_max.foldl_mem _ l0).imp id mem_leftBounds.mp

theorem bounds_r_eq (col : List Shape) (l0 r0 : Rat) : (bounds col l0 r0).r = (rightBounds col).foldl min r0 := by
  unfold bounds
  cases rightBounds col with
  | nil => rfl
  | cons b bs =>
    have := lub_min.seed_le_foldl bs b
    rw [List.foldl_cons, lub_min.foldl_seed bs (min r0 b) b (Std.min_le_right ..)]
    show min (bs.foldl min b) r0 = _
    grind

theorem bounds_r_le_init (col : List Shape) (l0 r0 : Rat) : (bounds col l0 r0).r ≤ r0 :=
  bounds_r_eq col l0 r0 ▸ lub_min.seed_le_foldl _ r0

theorem bounds_r_le (col : List Shape) (l0 r0 : Rat) (s : Shape) (hs : s ∈ col) (hl : s.side = .right) :
    (bounds col l0 r0).r ≤ s.x :=
  bounds_r_eq col l0 r0 ▸ lub_min.le_foldl _ r0 _ (mem_rightBounds.mpr ⟨s, hs, hl, rfl⟩)

theorem bounds_r_mem (col : List Shape) (l0 r0 : Rat) :
    (bounds col l0 r0).r = r0 ∨ ∃ s ∈ col, s.side = .right ∧ s.x = (bounds col l0 r0).r := by
  rw [bounds_r_eq]
  exact (lub_min.foldl_mem _ r0).imp id mem_rightBounds.mp

/-- `left_bounds or right_bounds` is true exactly when some shape collides (a shape is a left or a
right float). -/
theorem bounds_constrained (col : List Shape) (l0 r0 : Rat) :
    (bounds col l0 r0).constrained = true ↔ col ≠ [] := by
  show (!(leftBounds col).isEmpty || !(rightBounds col).isEmpty) = true ↔ _
  cases col with
  | nil => exact ⟨nofun, fun h => absurd rfl h⟩
  | cons s rest =>
    refine ⟨fun _ => List.cons_ne_nil _ _, fun _ => ?_⟩
    cases hs : s.side <;> simp [leftBounds, rightBounds, hs]

/-- The box does not fit at `y`: some shape collides there and the room between the bounds is too small. -/
theorem blockedAt_iff (shapes : List Shape) (w h l0 r0 y : Rat) :
    blockedAt shapes w h l0 r0 y = true ↔ colliding shapes y h ≠ [] ∧
      w > (bounds (colliding shapes y h) l0 r0).r - (bounds (colliding shapes y h) l0 r0).l := by
  simp only [blockedAt, Gen.blockedTest, Bool.and_eq_true, decide_eq_true_eq, bounds_constrained]

end Wp.Floats
