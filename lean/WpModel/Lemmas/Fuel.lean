/-
Fuel sufficiency for `block_in_inline` (Model/AnonBoxes.lean): the `while True` loop of the source and
the mutual recursion around it end within a number of steps linear in the size of the tree, so the
fuel the model gives (`biiFuel b = 6·size b + 16`) is never exhausted.
-/
import WpModel.Lemmas.Boxes

namespace Wp.Bx
open KBox

mutual
/-- Steps `block_in_inline(box)` may need. -/
def needA : KBox → Nat
  | .mk _ _ _ _ _ kids _ => 2 + sumH kids
/-- Steps `_inner_block_in_inline(box, …)` may need. -/
def needI : KBox → Nat
  | .mk _ _ _ _ _ kids _ => 2 + sumG kids
/-- Steps spent on the blocks found below `box` through inline boxes: one loop iteration and one
`block_in_inline` each. -/
def blkW : KBox → Nat
  | .mk _ _ _ _ _ kids _ => sumB kids
def sumH : List KBox → Nat
  | [] => 0
  | c :: cs => (1 + (if Gen.isSub c.kind .LineBox then 2 + needI c + blkW c else needA c)) + sumH cs
def sumG : List KBox → Nat
  | [] => 0
  | c :: cs =>
    (if isBlk c then 1 else 1 + (if Gen.isSub c.kind .InlineBox then needI c else needA c)) + sumG cs
def sumB : List KBox → Nat
  | [] => 0
  | c :: cs => (if isBlk c then 1 + needA c else if Gen.isSub c.kind .InlineBox then blkW c else 0) + sumB cs
end

mutual
/-- Number of boxes of a tree (children only). -/
def sz : KBox → Nat
  | .mk _ _ _ _ _ kids _ => 1 + szL kids
def szL : List KBox → Nat
  | [] => 0
  | c :: cs => sz c + szL cs
end

theorem sz_pos (b : KBox) : 1 ≤ sz b := by
  obtain ⟨k, st, el, inst, text, kids, cols⟩ := b
  simp [sz]

mutual
theorem need_linear : ∀ (b : KBox), needA b + 2 ≤ 5 * sz b ∧ needI b + blkW b + 3 ≤ 5 * sz b
  | .mk k st el inst text kids cols => by
    obtain ⟨h1, h2⟩ := sums_linear kids
    simp only [needA, needI, blkW, sz]
    omega
theorem sums_linear : ∀ (l : List KBox), sumH l ≤ 5 * szL l ∧ sumG l + sumB l ≤ 5 * szL l
  | [] => by simp [sumH, sumG, sumB, szL]
  | c :: cs => by
    obtain ⟨a1, a2⟩ := need_linear c
    obtain ⟨b1, b2⟩ := sums_linear cs
    have hp := sz_pos c
    simp only [sumH, sumG, sumB, szL]
    refine ⟨?_, ?_⟩
    · split <;> omega
    · by_cases hb : isBlk c = true
      · simp only [hb, if_true]; omega
      · simp only [hb, Bool.false_eq_true, if_false]
        split <;> omega
end

/-! ### the blocks still to be found after a resume position

`bwAt` / `kidsBw` / `resumeBw` are `textAt` / `kidsText` / `resumeText` of Lemmas/Boxes.lean with `sumB` in place of
`leafTextL`, and `inner_bwAt` goes through the rules of `bii_run` as `bii_leafText` does. -/

/-- Weight of the blocks reachable (through inline boxes) after position `stack` in `box`. -/
def bwAt : KBox → List Nat → Nat
  | box, [] => sumB box.kids
  | box, i :: tl =>
    match tl, box.kids.drop i with
    | [], ks => sumB ks
    | _ :: _, c :: rest => bwAt c tl + sumB rest
    | _ :: _, [] => 0

def kidsBw (kids : List KBox) (stack : List Nat) : Nat :=
  match stack, kids with
  | [], ks => sumB ks
  | _ :: _, c :: rest => bwAt c stack + sumB rest
  | _ :: _, [] => 0

def resumeBw (kids : List KBox) (idx : Nat) (res : List Nat) : Nat :=
  match res with
  | [] => 0
  | j :: tl => kidsBw (kids.drop (j - idx)) tl

theorem bwAt_cons (box : KBox) (i : Nat) (tl : List Nat) : bwAt box (i :: tl) = kidsBw (box.kids.drop i) tl := by
  cases tl with
  | nil => simp [bwAt, kidsBw]
  | cons t ts =>
    cases h : box.kids.drop i with
    | nil => simp [bwAt, kidsBw, h]
    | cons c rest => simp [bwAt, kidsBw, h]

theorem bwAt_nil (box : KBox) : bwAt box [] = sumB box.kids := by simp [bwAt]

theorem kidsBw_nil (kids : List KBox) : kidsBw kids [] = sumB kids := by cases kids <;> simp [kidsBw]

theorem blkW_eq (c : KBox) : blkW c = sumB c.kids := by
  obtain ⟨k, st, el, inst, text, kids, cols⟩ := c; simp [blkW, KBox.kids]

theorem kidsBw_inline (c : KBox) (cs : List KBox) (stack : List Nat) (hb : isBlk c = false)
    (hi : c.isA .InlineBox = true) : kidsBw (c :: cs) stack = bwAt c stack + sumB cs := by
  cases stack with
  | nil =>
    have hi' : Gen.isSub c.kind .InlineBox = true := hi
    simp [kidsBw, sumB, hb, hi', bwAt_nil, blkW_eq]
  | cons i tl => simp [kidsBw]

theorem resumeBw_shift (c : KBox) (cs : List KBox) (idx j : Nat) (tl : List Nat) (h : idx + 1 ≤ j) :
    resumeBw (c :: cs) idx (j :: tl) = resumeBw cs (idx + 1) (j :: tl) := by
  simp only [resumeBw]
  have : j - idx = (j - (idx + 1)) + 1 := by omega
  rw [this, List.drop_succ_cons]

/-- What `_inner_block_in_inline` does to the weight of the blocks still to be found: nothing is left
when it finds none, and a block it finds is paid for (one loop iteration and its own `block_in_inline`)
out of what lay after `stack`, the rest lying after the new resume position. -/
theorem inner_bwAt (n : Nat) (box : KBox) (stack : List Nat) (box' : KBox) (blk : Option KBox) (resume : List Nat) :
    inner n box stack = .ok (box', blk, resume) →
    match blk with
    | none => bwAt box stack = 0
    | some b => (1 + needA b) + bwAt box resume = bwAt box stack ∧ resume ≠ [] := by
  intro h
  rcases (bii_run (Pb := fun _ _ => True) (Pk := fun _ _ _ => True) (Pl := fun _ _ _ _ _ => True)
    (Pi := fun box stack _ blk resume => match blk with
      | none => bwAt box stack = 0
      | some b => (1 + needA b) + bwAt box resume = bwAt box stack ∧ resume ≠ [])
    (Pn := fun kids idx stack _ r => match r with
      | .found _ b res => (1 + needA b) + resumeBw kids idx res = kidsBw kids stack ∧ ∃ j tl, res = j :: tl ∧ idx ≤ j
      | .done _ => kidsBw kids stack = 0)
    (n_nil := by intro idx stack acc; cases stack <;> simp [kidsBw, sumB])
    (n_block := by
      intro c cs idx acc hb
      exact ⟨by simp [resumeBw, kidsBw, sumB, hb], idx + 1, [], rfl, by omega⟩)
    (n_split := by
      intro c cs idx stack acc c' blk res hb hinl ⟨h1, hne⟩
      refine ⟨?_, idx, res, rfl, Nat.le_refl _⟩
      rw [kidsBw_inline c cs stack hb hinl, ← h1]
      simp only [resumeBw, Nat.sub_self, List.drop_zero]
      cases res with
      | nil => exact absurd rfl hne
      | cons r rs => simp [kidsBw]; omega)
    (n_inline := by
      intro c cs idx stack acc c' res r hb hinl h0 this
      simp only at h0
      rw [kidsBw_inline c cs stack hb hinl, h0]
      cases r with
      | found ks' b res =>
        simp only at this ⊢
        obtain ⟨t1, j, tl, rfl, hj⟩ := this
        refine ⟨?_, j, tl, rfl, by omega⟩
        rw [resumeBw_shift c cs idx j tl hj, t1, kidsBw_nil]; omega
      | done ks' =>
        simp only at this ⊢
        rw [kidsBw_nil] at this; omega)
    (n_box := by
      intro c cs idx acc c' r hb hinl _ _ this
      have hi' : Gen.isSub c.kind .InlineBox = false := hinl
      have hk : kidsBw (c :: cs) [] = sumB cs := by simp [kidsBw, sumB, hb, hi']
      rw [hk]
      cases r with
      | found ks' b res =>
        simp only at this ⊢
        obtain ⟨t1, j, tl, rfl, hj⟩ := this
        refine ⟨?_, j, tl, rfl, by omega⟩
        rw [resumeBw_shift c cs idx j tl hj, t1, kidsBw_nil]
      | done ks' =>
        simp only at this ⊢
        rw [kidsBw_nil] at this; exact this)
    (i_found := by
      intro box stack ks blk res this
      cases stack with
      | nil =>
        simp only [List.headD_nil, List.tail_nil, List.drop_zero, kidsBw_nil] at this
        obtain ⟨t1, j, tl, rfl, _⟩ := this
        refine ⟨?_, by simp⟩
        rw [bwAt_cons, bwAt_nil]
        simpa [resumeBw] using t1
      | cons i tl =>
        simp only [List.headD_cons, List.tail_cons] at this
        obtain ⟨t1, j, tl', rfl, hj⟩ := this
        refine ⟨?_, by simp⟩
        rw [bwAt_cons, bwAt_cons]
        simp only [resumeBw, List.drop_drop] at t1
        have : i + (j - i) = j := by omega
        rw [this] at t1
        exact t1)
    (i_done := by
      intro box stack ks this
      cases stack with
      | nil => simpa [bwAt_nil, kidsBw_nil] using this
      | cons i tl => simp only [List.headD_cons, List.tail_cons] at this; simp only; rw [bwAt_cons]; exact this)
    (by intros; trivial) (by intros; trivial) (by intros; trivial) (by intros; trivial) (by intros; trivial)
    (by intros; trivial) (by intros; trivial) n).2.2.2.1 box stack box' blk resume h with ⟨_, _, h⟩
  exact h

/-- The run did not stop for lack of fuel. -/
def NoFuel {α : Type} (r : Except BErr α) : Prop := r ≠ .error .fuel

theorem sumG_drop (l : List KBox) (k : Nat) : sumG (l.drop k) ≤ sumG l := by
  induction l generalizing k with
  | nil => simp
  | cons c cs ih =>
    cases k with
    | zero => simp
    | succ k =>
      simp only [List.drop_succ_cons, sumG]
      have := ih k
      omega

theorem needI_eq (b : KBox) : needI b = 2 + sumG b.kids := by
  obtain ⟨k, st, el, inst, text, kids, cols⟩ := b; simp [needI, KBox.kids]

theorem needA_eq (b : KBox) : needA b = 2 + sumH b.kids := by
  obtain ⟨k, st, el, inst, text, kids, cols⟩ := b; simp [needA, KBox.kids]

/-- Fuel `n` is enough for each of the five functions once it covers the budget on the left.  A call costs one unit and
the empty list that ends a loop over children one more (the `2 +` of `needA` / `needI`).  A line is entered once per
block found in it: each turn pays `1 + needA block` out of `bwAt line stack` (`inner_bwAt`), the last one `needI line`. -/
structure BiiFuel (n : Nat) : Prop where
  bii : ∀ (b : KBox), needA b ≤ n → NoFuel (bii n b)
  kids : ∀ (parent : KBox) (kids : List KBox), 1 + sumH kids ≤ n → NoFuel (biiKids n parent kids)
  line : ∀ (parent line : KBox) (stack : List Nat) (emitted : Bool),
    1 + needI line + bwAt line stack ≤ n → NoFuel (biiLine n parent line stack emitted)
  inner : ∀ (box : KBox) (stack : List Nat), needI box ≤ n → NoFuel (inner n box stack)
  innerKids : ∀ (kids : List KBox) (idx : Nat) (stack : List Nat) (acc : List KBox),
    1 + sumG kids ≤ n → NoFuel (innerKids n kids idx stack acc)

theorem biiFuelOk : ∀ n, BiiFuel n := by
  intro n
  induction n using Nat.strongRecOn with | _ n ih => ?_
  refine ⟨?_, ?_, ?_, ?_, ?_⟩
  · intro b hn
    rw [needA_eq] at hn
    fun_cases bii n b <;> intro hf <;> cases hf
    next => omega
    next he => exact (ih _ (Nat.lt_succ_self _)).kids b b.kids (by omega) he
  · intro parent kids hn
    fun_cases biiKids n parent kids <;> intro hf <;> cases hf
    next => omega
    all_goals
      have IH := ih _ (Nat.lt_succ_self _)
      simp only [sumH] at hn
    next c cs hline _ he =>
      have hl : Gen.isSub c.kind .LineBox = true := hline
      simp only [hl, if_true] at hn
      exact IH.line parent c [] false (by rw [bwAt_nil, ← blkW_eq]; omega) he
    next c cs _ _ _ _ he => exact IH.kids parent cs (by omega) he
    next c cs hline he =>
      have hl : Gen.isSub c.kind .LineBox = false := Bool.eq_false_iff.mpr hline
      simp only [hl, Bool.false_eq_true, if_false] at hn
      exact IH.bii c (by omega) he
    next c cs _ _ _ he => exact IH.kids parent cs (by omega) he
  · intro parent line stack emitted hn
    fun_cases biiLine n parent line stack emitted <;> intro hf <;> cases hf
    next => omega
    all_goals have IH := ih _ (Nat.lt_succ_self _)
    next he => exact IH.inner line stack (by omega) he
    all_goals
      rename_i hin he
      have hd := inner_bwAt _ line stack _ _ _ hin
      simp only at hd
    next => exact IH.bii _ (by omega) he
    next => exact IH.line parent line _ true (by omega) he
  · intro box stack hn
    rw [needI_eq] at hn
    fun_cases inner n box stack <;> intro hf <;> cases hf
    next => omega
    next skip _ _ he =>
      have := sumG_drop box.kids skip
      exact (ih _ (Nat.lt_succ_self _)).innerKids _ _ _ [] (by omega) he
  · intro kids idx stack acc hn
    fun_cases innerKids n kids idx stack acc <;> intro hf
    -- every return but the two tail calls is a value or an error
    any_goals cases hf
    next => omega
    all_goals
      have IH := ih _ (Nat.lt_succ_self _)
      simp only [sumG] at hn
    next c cs hblk hinl he =>
      have hb : isBlk c = false := Bool.eq_false_iff.mpr hblk
      have hi : Gen.isSub c.kind .InlineBox = true := hinl
      simp only [hb, hi, Bool.false_eq_true, if_false, if_true] at hn
      exact IH.inner c stack (by omega) he
    next c cs hblk _ _ _ _ =>
      have hb : isBlk c = false := Bool.eq_false_iff.mpr hblk
      simp only [hb, Bool.false_eq_true, if_false] at hn
      exact IH.innerKids cs (idx + 1) [] _ (by omega) hf
    next c cs hblk hinl _ he =>
      have hb : isBlk c = false := Bool.eq_false_iff.mpr hblk
      have hi : Gen.isSub c.kind .InlineBox = false := Bool.eq_false_iff.mpr hinl
      simp only [hb, hi, Bool.false_eq_true, if_false] at hn
      exact IH.bii c (by omega) he
    next c cs hblk _ _ _ _ =>
      have hb : isBlk c = false := Bool.eq_false_iff.mpr hblk
      simp only [hb, Bool.false_eq_true, if_false] at hn
      exact IH.innerKids cs (idx + 1) [] _ (by omega) hf

mutual
theorem sz_le_size : ∀ (b : KBox), sz b ≤ b.size
  | .mk k st el inst text kids cols => by
    have := szL_le_size kids
    simp only [sz, KBox.size]; omega
theorem szL_le_size : ∀ (l : List KBox), szL l ≤ KBox.sizeList l
  | [] => by simp [szL, KBox.sizeList]
  | c :: cs => by
    have := sz_le_size c
    have := szL_le_size cs
    simp only [szL, KBox.sizeList]; omega
end

/-- The fuel `create_anonymous_boxes` gives `block_in_inline` is never exhausted: the `while True`
loop over `_inner_block_in_inline` ends (each iteration finds a block strictly further on). -/
theorem bii_terminates (b : KBox) : bii (biiFuel b) b ≠ .error .fuel := by
  apply (biiFuelOk _).bii
  have := (need_linear b).1
  have := sz_le_size b
  unfold biiFuel
  omega

end Wp.Bx
