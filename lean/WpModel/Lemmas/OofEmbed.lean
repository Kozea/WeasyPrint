/-
Embedding of the stage-1 grammar (`PM.PBox`) into the stage-2a grammar (`PMO.OBox`, every box static,
no `clear`): the extended layout functions compute, on embedded documents, the embedding of what the
stage-1 functions compute. Hence every stage-1 theorem transfers to the static fragment of stage 2a.
-/
import WpModel.Lemmas.OofDefs
import WpModel.Lemmas.OofLines
import WpModel.Lemmas.Pm2Step

namespace Wp.PMO
open Wp Wp.PM

def embedSt (st : PStyle) : OStyle := { toPStyle := st, pos := .static, clear := false }

mutual
def embed : PBox → OBox
  | .para id n lineH st => .para id n lineH (embedSt st)
  | .block id st kids => .block id (embedSt st) (embedList kids)
def embedList : List PBox → List OBox
  | [] => []
  | b :: bs => embed b :: embedList bs
end

mutual
def embedFrag : Frag → OFrag
  | .para id idx st n g lines => .para 0 id idx (embedSt st) n g lines
  | .block id idx st g kids => .block 0 id idx (embedSt st) g (embedFragList kids)
def embedFragList : List Frag → List OFrag
  | [] => []
  | f :: fs => embedFrag f :: embedFragList fs
end

def embedDoc (d : PM.Doc) : Doc := { pageH := d.pageH, rootLtr := d.rootLtr, root := embed d.root }

/-- The page of the extended model that corresponds to a stage-1 page; `top` = the `rootTop` value
threaded by `make_all_pages` (unused on documents without out-of-flow boxes). -/
def embedPage (top : Rat) (p : PM.Page) : Page :=
  { type := p.type, root := embedFrag p.root, resume := p.resume, nextPage := p.nextPage, broken := [],
    rootTop := top, crash := false }

def nextTop (top : Rat) (p : PM.Page) : Rat :=
  if p.type.blank then top else p.root.geo.mt + p.root.geo.bt + p.root.geo.pt

def embedPages : Rat → List PM.Page → List Page
  | _, [] => []
  | top, p :: ps => embedPage (nextTop top p) p :: embedPages (nextTop top p) ps

@[simp] theorem embedSt_toPStyle (st : PStyle) : (embedSt st).toPStyle = st := rfl
@[simp] theorem embedSt_pos (st : PStyle) : (embedSt st).pos = .static := rfl
@[simp] theorem embedSt_clear (st : PStyle) : (embedSt st).clear = false := rfl
@[simp] theorem embedSt_bfc (st : PStyle) : (embedSt st).bfc = false := rfl

@[simp] theorem embed_st (b : PBox) : (embed b).st = embedSt b.st := by
  cases b <;> simp [embed, OBox.st, PBox.st]

@[simp] theorem embed_inFlow (b : PBox) : (embed b).inFlow = true := by
  simp [OBox.inFlow]

@[simp] theorem embedFrag_inFlow (f : Frag) : (embedFrag f).inFlow = true := by
  cases f <;> simp [embedFrag, OFrag.inFlow]

@[simp] theorem embedFrag_isPh (f : Frag) : (embedFrag f).isPh = false := by
  cases f <;> simp [embedFrag, OFrag.isPh]

@[simp] theorem embedFrag_isAbs (f : Frag) : (embedFrag f).isAbs = false := by
  cases f <;> simp [embedFrag, OFrag.isAbs]

@[simp] theorem embedFrag_geo (f : Frag) : (embedFrag f).geo = f.geo := by
  cases f <;> simp [embedFrag, OFrag.geo, Frag.geo]

@[simp] theorem embedFrag_idx (f : Frag) : (embedFrag f).idx = f.idx := by
  cases f <;> simp [embedFrag, OFrag.idx, Frag.idx]

@[simp] theorem embedFrag_withIdx (f : Frag) (i : Nat) : (embedFrag f).withIdx i = embedFrag (f.withIdx i) := by
  cases f <;> simp [embedFrag, OFrag.withIdx, Frag.withIdx]

@[simp] theorem embedFrag_brkInside (f : Frag) : (embedFrag f).brkInside = f.st.brkInside := by
  cases f <;> simp [embedFrag, OFrag.brkInside, Frag.st]

@[simp] theorem embedFragList_append (a b : List Frag) :
    embedFragList (a ++ b) = embedFragList a ++ embedFragList b := by
  induction a with
  | nil => simp [embedFragList]
  | cons x xs ih => simp [embedFragList, ih]

@[simp] theorem embedFragList_isEmpty (a : List Frag) : (embedFragList a).isEmpty = a.isEmpty := by
  cases a <;> simp [embedFragList]

theorem embedFragList_eq_map (a : List Frag) : embedFragList a = a.map embedFrag := by
  induction a with
  | nil => rfl
  | cons x xs ih => simp [embedFragList, ih]

/-! ### no floats: nothing to avoid, no clearance -/

@[simp] theorem avoidLine_nil (h y : Rat) : avoidLine [] h y = y := by
  simp [avoidLine, avoidY, minRat]

@[simp] theorem getClearance_nil (clear : Bool) (hyp : Rat) : getClearance [] clear hyp = none := rfl

@[simp] theorem getClearance_noclear (shapes : List Shape) (hyp : Rat) : getClearance shapes false hyp = none := by
  unfold getClearance
  induction shapes with
  | nil => rfl
  | cons s ss ih => simpa using ih

theorem lineLoop_nil (c : Ctx) (st : PStyle) (b : BoxSt) (n : Nat) (lineH : Rat) (pie : Bool) (bs : Rat)
    (fuel i : Nat) (y : Rat) (s : LineLoop) :
    lineLoop c st b n lineH pie bs [] fuel i y s = PM.lineLoop c st b n lineH pie bs fuel i y s := by
  rw [lineLoop_eq_G, PM.lineLoop_eq_G, funext (avoidLine_nil lineH)]; rfl

theorem lineboxLayout_nil (c : Ctx) (st : PStyle) (b : BoxSt) (n : Nat) (lineH : Rat) (pie : Bool)
    (adj : List Rat) (bs posY : Rat) (skip : Option Resume) (dbd : Bool) :
    lineboxLayout c st b n lineH pie adj bs posY skip dbd [] =
      PM.lineboxLayout c st b n lineH pie adj bs posY skip dbd := by
  have h : lineboxLoop c st b n lineH pie adj bs posY skip dbd [] =
      PM.lineboxLoop c st b n lineH pie adj bs posY skip dbd := by
    simp [lineboxLoop, PM.lineboxLoop, lineLoop_nil]
  unfold lineboxLayout PM.lineboxLayout
  rw [h]
  cases PM.lineboxLoop c st b n lineH pie adj bs posY skip dbd <;> rfl

/-! ### break chains, page values, last in-flow child -/

mutual
theorem fragAfterChain_embed : (f : Frag) → fragAfterChain (embedFrag f) = PM.fragAfterChain f
  | .para _ _ _ _ _ _ => by simp [embedFrag, fragAfterChain, PM.fragAfterChain, embedSt]
  | .block _ _ _ _ kids => by
    simp [embedFrag, fragAfterChain, PM.fragAfterChain, fragAfterChainLast_embed kids, embedSt]
theorem fragAfterChainLast_embed : (fs : List Frag) →
    fragAfterChainLast (embedFragList fs) = PM.fragAfterChainLast fs
  | [] => rfl
  | f :: rest => by
    cases rest with
    | nil => simp [embedFragList, fragAfterChainLast, PM.fragAfterChainLast, fragAfterChain_embed f]
    | cons r rs =>
      have := fragAfterChainLast_embed (r :: rs)
      simp only [embedFragList, fragAfterChainLast, PM.fragAfterChainLast] at this ⊢
      exact this
end

mutual
theorem boxBeforeChain_embed : (b : PBox) → boxBeforeChain (embed b) = PM.boxBeforeChain b
  | .para _ _ _ _ => by simp [embed, boxBeforeChain, PM.boxBeforeChain, embedSt]
  | .block _ _ kids => by
    simp [embed, boxBeforeChain, PM.boxBeforeChain, boxBeforeChainFirst_embed kids, embedSt]
theorem boxBeforeChainFirst_embed : (bs : List PBox) →
    boxBeforeChainFirst (embedList bs) = PM.boxBeforeChainFirst bs
  | [] => rfl
  | b :: _ => by simp [embedList, boxBeforeChainFirst, PM.boxBeforeChainFirst, boxBeforeChain_embed b]
end

mutual
theorem fragBeforeChain_embed : (f : Frag) → fragBeforeChain (embedFrag f) = PM.fragBeforeChain f
  | .para _ _ _ _ _ _ => by simp [embedFrag, fragBeforeChain, PM.fragBeforeChain, embedSt]
  | .block _ _ _ _ kids => by
    simp [embedFrag, fragBeforeChain, PM.fragBeforeChain, fragBeforeChainFirst_embed kids, embedSt]
theorem fragBeforeChainFirst_embed : (fs : List Frag) →
    fragBeforeChainFirst (embedFragList fs) = PM.fragBeforeChainFirst fs
  | [] => rfl
  | f :: _ => by simp [embedFragList, fragBeforeChainFirst, PM.fragBeforeChainFirst, fragBeforeChain_embed f]
end

mutual
theorem boxPageStart_embed : (b : PBox) → boxPageStart (embed b) = PM.boxPageStart b
  | .para _ _ _ _ => by simp [embed, boxPageStart, PM.boxPageStart, embedSt]
  | .block _ _ kids => by
    simp [embed, boxPageStart, PM.boxPageStart, boxPageStartFirst_embed kids, embedSt]
theorem boxPageStartFirst_embed : (bs : List PBox) →
    boxPageStartFirst (embedList bs) = PM.boxPageStartFirst bs
  | [] => rfl
  | b :: _ => by simp [embedList, boxPageStartFirst, PM.boxPageStartFirst, boxPageStart_embed b]
end

@[simp] theorem hasInFlow_embed (fs : List Frag) : hasInFlow (embedFragList fs) = !fs.isEmpty := by
  cases fs <;> simp [hasInFlow, embedFragList]

mutual
theorem fragPageEnd_embed : (f : Frag) → fragPageEnd (embedFrag f) = PM.fragPageEnd f
  | .para _ _ _ _ _ _ => by simp [embedFrag, fragPageEnd, PM.fragPageEnd, embedSt]
  | .block _ _ _ _ kids => by
    simp [embedFrag, fragPageEnd, PM.fragPageEnd, fragPageEndLast_embed kids, embedSt]
theorem fragPageEndLast_embed : (fs : List Frag) →
    fragPageEndLast (embedFragList fs) = PM.fragPageEndLast fs
  | [] => rfl
  | f :: rest => by
    cases rest with
    | nil => simp [embedFragList, fragPageEndLast, PM.fragPageEndLast, fragPageEnd_embed f, hasInFlow]
    | cons r rs =>
      have ih := fragPageEndLast_embed (r :: rs)
      have h : hasInFlow (embedFragList (r :: rs)) = true := by simp
      calc fragPageEndLast (embedFragList (f :: r :: rs))
          = fragPageEndLast (embedFragList (r :: rs)) := by
            rw [show embedFragList (f :: r :: rs) = embedFrag f :: embedFragList (r :: rs) from rfl,
              fragPageEndLast, if_pos h]
        _ = PM.fragPageEndLast (r :: rs) := ih
        _ = PM.fragPageEndLast (f :: r :: rs) := by simp [PM.fragPageEndLast]
end

theorem lastInFlow_embed (fs : List Frag) : lastInFlow (embedFragList fs) = fs.getLast?.map embedFrag := by
  induction fs with
  | nil => rfl
  | cons f rest ih =>
    simp only [embedFragList, lastInFlow, ih]
    cases rest with
    | nil => simp
    | cons r rs =>
      cases h : (r :: rs).getLast? with
      | none => simp at h
      | some l => simp [List.getLast?_cons_cons, h]

theorem breakBetween_embed (l : Frag) (child : PBox) :
    breakBetween (some (embedFrag l)) (embed child) = PM.breakBetween l child := by
  simp [breakBetween, PM.breakBetween, fragAfterChain_embed, boxBeforeChain_embed]

theorem breakBetweenFrags_embed (x : Frag) (p : Option Frag) :
    breakBetweenFrags (embedFrag x) (p.map embedFrag) = PM.breakBetweenFrags x p := by
  cases p <;> simp [breakBetweenFrags, PM.breakBetweenFrags, fragAfterChain_embed, fragBeforeChain_embed]

/-! ### `find_earlier_page_break` -/

def embedFound (x : Option (List Frag × Resume)) : Option (List OFrag × Resume) :=
  x.map fun kr => (embedFragList kr.1, kr.2)

def embedFoundFrag (x : Option (Frag × Resume)) : Option (OFrag × Resume) :=
  x.map fun kr => (embedFrag kr.1, kr.2)

theorem findEarlierPara_embed (id idx : Nat) (st : PStyle) (n : Nat) (g : Geo) (lines : List (Nat × Rat)) :
    findEarlierPara 0 id idx (embedSt st) n g lines =
      embedFoundFrag (PM.findEarlierPara id idx st n g lines) := by
  unfold findEarlierPara PM.findEarlierPara embedFoundFrag
  by_cases h0 : lines.isEmpty = true
  · simp [h0]
  · simp only [h0, Bool.false_eq_true, if_false, embedSt]
    by_cases h : ((lines.length : Int) - (st.widows : Int)) < (st.orphans : Int)
    · simp [h]
    · simp only [h, if_false]
      rcases (List.take ((lines.length : Int) - (st.widows : Int)).toNat lines).getLast? with _ | ⟨i, y⟩ <;>
        simp [embedFrag, embedSt]

@[simp] theorem cutEnd_embed (f : Frag) : (embedFrag f).cutEnd = embedFrag f.cutEnd := by
  cases f <;> simp [embedFrag, OFrag.cutEnd, Frag.cutEnd, embedSt]

mutual
theorem findEarlierGo_embed : (fs : List Frag) →
    (findEarlierGo (embedFragList fs)).found = embedFound (PM.findEarlierGo fs).found ∧
    (findEarlierGo (embedFragList fs)).prev = (PM.findEarlierGo fs).prev.map embedFrag ∧
    (findEarlierGo (embedFragList fs)).nxt = fs.head?.map Frag.idx
  | [] => by simp [embedFragList, findEarlierGo, PM.findEarlierGo, embedFound]
  | x :: xs => by
    obtain ⟨hf, hp, hn⟩ := findEarlierGo_embed xs
    have hx := findEarlierFrag_embed x
    simp only [embedFragList, findEarlierGo, PM.findEarlierGo, List.head?_cons, Option.map_some]
    rw [hf]
    cases hs : (PM.findEarlierGo xs).found with
    | some kr =>
      obtain ⟨kept, r⟩ := kr
      simp [embedFound, embedFragList, hp]
    | none =>
      have hprev := PM.findEarlierGo_prev xs hs
      simp only [embedFound, Option.map_none, embedFrag_inFlow, Bool.not_true, Bool.false_eq_true, if_false]
      rw [hp, breakBetweenFrags_embed, hn, hprev]
      cases xs with
      | nil =>
        simp only [List.head?_nil, Option.map_none, embedFrag_brkInside, embedFrag_idx]
        split
        · rw [hx]
          cases PM.findEarlierFrag x <;> simp [embedFoundFrag, embedFragList]
        · simp
      | cons y ys =>
        simp only [List.head?_cons, Option.map_some, embedFrag_brkInside, embedFrag_idx]
        by_cases ha : avoidsPage (PM.breakBetweenFrags x (some y)) = true
        · simp only [ha, Bool.not_true, Bool.false_eq_true, if_false]
          by_cases hb : avoidsPage x.st.brkInside = true
          · simp [hb]
          · simp only [hb, Bool.not_false, if_true]
            rw [hx]
            cases PM.findEarlierFrag x <;> simp [embedFoundFrag, embedFragList]
        · simp [ha, embedFragList]
theorem findEarlierFrag_embed : (f : Frag) →
    findEarlierFrag (embedFrag f) = embedFoundFrag (PM.findEarlierFrag f)
  | .para id idx st n g lines => by
    simp only [embedFrag, findEarlierFrag, PM.findEarlierFrag]
    exact findEarlierPara_embed id idx st n g lines
  | .block id idx st g kids => by
    simp only [embedFrag, findEarlierFrag, PM.findEarlierFrag]
    rw [(findEarlierGo_embed kids).1]
    cases (PM.findEarlierGo kids).found <;> simp [embedFound, embedFoundFrag, embedFrag]
end

theorem findEarlierList_embed (fs : List Frag) :
    findEarlierList (embedFragList fs) = embedFound (PM.findEarlierList fs) :=
  (findEarlierGo_embed fs).1

/-! ### containers -/

def embedResult (r : PM.LayoutResult) : LayoutResult :=
  { frag := r.frag.map embedFrag, resume := r.resume, nextPage := r.nextPage, adj := r.adj,
    collapsingThrough := r.collapsingThrough, adjL := r.adjL, clearance := none, w := World.empty }

def embedPrep (p : PM.Prep) (callerAdjL : List Rat) : Prep :=
  { b := p.b, bs := p.bs, adjL := p.adjL, cwc := p.cwc, cur := p.cur, curIsL := p.curIsL, posY := p.posY,
    dbd := p.dbd, isStart := p.isStart, clearance := none, callerAdjL := callerAdjL }

def embedLoop (boxY : Rat) (s : PM.KidsLoop) : KidsLoop :=
  { newChildren := embedFragList s.newChildren, posY := s.posY, boxY := boxY, adjL := s.adjL, cur := s.cur,
    curIsL := s.curIsL, nextPage := s.nextPage, skip := s.skip, localBroken := [], w := World.empty }

def embedOutcome (boxY : Rat) : PM.KidsOutcome → KidsOutcome
  | .finished s => .finished (embedLoop boxY s)
  | .aborted page s => .aborted page (embedLoop boxY s)
  | .stopped r s => .stopped r (embedLoop boxY s)

theorem embedResult_frag (r : PM.LayoutResult) : (embedResult r).frag = r.frag.map embedFrag := rfl
theorem embedResult_resume (r : PM.LayoutResult) : (embedResult r).resume = r.resume := rfl
theorem embedResult_nextPage (r : PM.LayoutResult) : (embedResult r).nextPage = r.nextPage := rfl
theorem embedResult_adj (r : PM.LayoutResult) : (embedResult r).adj = r.adj := rfl
theorem embedResult_adjL (r : PM.LayoutResult) : (embedResult r).adjL = r.adjL := rfl
theorem embedResult_clearance (r : PM.LayoutResult) : (embedResult r).clearance = none := rfl
theorem embedResult_w (r : PM.LayoutResult) : (embedResult r).w = World.empty := rfl

theorem embedLoop_posY (y : Rat) (s : PM.KidsLoop) : (embedLoop y s).posY = s.posY := rfl
theorem embedLoop_skip (y : Rat) (s : PM.KidsLoop) : (embedLoop y s).skip = s.skip := rfl
theorem embedLoop_cur (y : Rat) (s : PM.KidsLoop) : (embedLoop y s).cur = s.cur := rfl
theorem embedLoop_curIsL (y : Rat) (s : PM.KidsLoop) : (embedLoop y s).curIsL = s.curIsL := rfl
theorem embedLoop_world (y : Rat) (s : PM.KidsLoop) : (embedLoop y s).w = World.empty := rfl

@[simp] theorem World.empty_remove (sers : List Nat) : World.empty.remove sers = World.empty := rfl
@[simp] theorem World.empty_shift (sers : List Nat) (dy : Rat) : World.empty.shift sers dy = World.empty := rfl
@[simp] theorem World.empty_removeDropped (a b : List OFrag) : World.empty.removeDropped a b = World.empty := rfl
@[simp] theorem World.empty_shapes : World.empty.shapes = [] := rfl

theorem prepare_embed (c : Ctx) (st : PStyle) (y bs : Rat) (skip : Option Resume) (cb pie : Bool)
    (adjL : List Rat) :
    prepare c (embedSt st) y bs skip cb pie adjL [] = embedPrep (PM.prepare c st y bs skip cb pie adjL) adjL := by
  unfold prepare PM.prepare
  simp only [getClearance_nil, embedSt_bfc, Bool.or_false, embedSt_toPStyle, embedSt_clear]
  rw [apply_ite (fun p => embedPrep p adjL)]
  rfl

theorem finishTail_embed (c : Ctx) (st : PStyle) (b : BoxSt) (bs : Rat) (cwc dbd : Bool)
    (resume : Option Resume) (posY : Rat) (adjL cur : List Rat) (curIsL hasKids : Bool) :
    finishTail c (embedSt st) b bs cwc dbd resume posY adjL cur curIsL hasKids [] =
      PM.finishTail c st b bs cwc dbd resume posY adjL cur curIsL hasKids := by
  unfold finishTail PM.finishTail
  simp only [getClearance_nil, Option.isNone_none, Bool.and_true, embedSt_bfc, Bool.or_false,
    embedSt_toPStyle, embedSt_clear]
  rfl

@[simp] theorem fragSersList_remove_empty (ks : List OFrag) : World.empty.remove (fragSersList ks) = World.empty := rfl

theorem finishContainer_embed (c : Ctx) (st : PStyle) (b : BoxSt) (isStart pie : Bool) (bs : Rat) (cwc dbd : Bool)
    (resume : Option Resume) (posY : Rat) (adjL cur : List Rat) (curIsL : Bool) (np : NextPage)
    (hasKids : Bool) (pageEnd : String) (kids : List OFrag) (mk : Geo → Frag) :
    finishContainer c (embedSt st) b pie bs cwc dbd resume posY adjL cur curIsL np hasKids pageEnd kids []
        World.empty (fun g => embedFrag (mk g)) =
      embedResult (PM.finishContainer c st b isStart pie bs cwc dbd resume posY adjL cur curIsL np hasKids
        pageEnd mk) := by
  unfold finishContainer PM.finishContainer
  simp only [embedSt_toPStyle, finishTail_embed, World.empty_shapes]
  split
  · rfl
  · rcases np with ⟨brk, page⟩
    cases page <;> simp [embedResult, World.empty]

theorem finishPara_embed (c : Ctx) (st : PStyle) (p : PM.Prep) (pie : Bool) (id idx n : Nat) (r : LineResult)
    (callerAdjL : List Rat) :
    finishPara c (embedSt st) (embedPrep p callerAdjL) pie id idx n r World.empty =
      embedResult (PM.finishPara c st p pie id idx n r) := by
  unfold finishPara PM.finishPara
  simp only [embedPrep, embedSt_toPStyle]
  split
  · rfl
  · exact finishContainer_embed c st _ p.isStart pie p.bs p.cwc _ _ r.posY p.adjL [] false _ _ st.page []
      (fun g => Frag.para id idx st n g r.lines)

theorem pageEndOf_embed (st : PStyle) (kids : List Frag) :
    pageEndOf (embedSt st) (embedFragList kids) = PM.pageEndOf st kids := by
  simp [pageEndOf, PM.pageEndOf, fragPageEndLast_embed]

theorem finishBlock_embed (c : Ctx) (st : PStyle) (p : PM.Prep) (pie : Bool) (id idx : Nat)
    (out : PM.KidsOutcome) (callerAdjL : List Rat) :
    finishBlock c (embedSt st) (embedPrep p callerAdjL) pie id idx (embedOutcome p.b.y out) =
      embedResult (PM.finishBlock c st p pie id idx out) := by
  cases out with
  | aborted page s => rfl
  | stopped resume s =>
    simp only [embedOutcome, finishBlock, PM.finishBlock, embedLoop, embedPrep, embedSt_toPStyle,
      hasInFlow_embed, pageEndOf_embed]
    exact finishContainer_embed c st _ p.isStart pie p.bs p.cwc p.dbd _ s.posY s.adjL [] false s.nextPage _ _ _
      (fun g => Frag.block id idx st g s.newChildren)
  | finished s =>
    simp only [embedOutcome, finishBlock, PM.finishBlock, embedLoop, embedPrep, hasInFlow_embed, pageEndOf_embed]
    exact finishContainer_embed c st _ p.isStart pie p.bs p.cwc p.dbd none s.posY s.adjL s.cur s.curIsL s.nextPage _ _ _
      (fun g => Frag.block id idx st g s.newChildren)

/-! ### the children loop -/

@[simp] theorem embedLoop_setCur (y : Rat) (s : PM.KidsLoop) (l : List Rat) (b : Bool) :
    (embedLoop y s).setCur l b = embedLoop y (s.setCur l b) := by
  unfold KidsLoop.setCur PM.KidsLoop.setCur embedLoop
  split <;> rfl

@[simp] theorem embedLoop_appendCur (y : Rat) (s : PM.KidsLoop) (m : Rat) :
    (embedLoop y s).appendCur m = embedLoop y (s.appendCur m) := by
  unfold KidsLoop.appendCur PM.KidsLoop.appendCur embedLoop
  split <;> simp_all

@[simp] theorem embedLoop_adoptAdj (y : Rat) (s : PM.KidsLoop) (h : Bool) (a : AdjOut) (f : Option Frag) :
    (embedLoop y s).adoptAdj h a (f.map embedFrag) = embedLoop y (s.adoptAdj h a f) := by
  unfold KidsLoop.adoptAdj PM.KidsLoop.adoptAdj
  split
  · rfl
  · cases a <;> cases f <;> simp

theorem meetBreak_embed (y : Rat) (s : PM.KidsLoop) (child : PBox) :
    meetBreak (embedLoop y s) (embed child) = PM.meetBreak s child := by
  unfold meetBreak PM.meetBreak
  simp only [embedLoop, lastInFlow_embed]
  cases s.newChildren.getLast? with
  | none => rfl
  | some l => simp [breakBetween_embed, fragPageEnd_embed, boxPageStart_embed]

theorem embedFragList_all_isPh (l : List Frag) : (embedFragList l).all OFrag.isPh = l.isEmpty := by
  cases l <;> simp [embedFragList]

theorem embedFragList_all_isAbs (l : List Frag) : (embedFragList l).all OFrag.isAbs = l.isEmpty := by
  cases l <;> simp [embedFragList]

theorem pienc_embed (pie : Bool) (y : Rat) (s : PM.KidsLoop) :
    pienc pie (embedLoop y s) = (pie && s.newChildren.isEmpty) := by
  simp [pienc, embedLoop, embedFragList_all_isPh]

theorem preFlow_embed (c : Ctx) (b : BoxSt) (cwc pie : Bool) (child : PBox) (y : Rat) (s : PM.KidsLoop) :
    preFlow c b cwc pie (embed child) (embedLoop y s) = embedLoop y s := by
  unfold preFlow
  split
  · rfl
  · rename_i h
    have hl : s.newChildren = [] := by
      simp only [embedLoop, lastInFlow_embed, Bool.or_eq_true, not_or] at h
      have h1 := h.1
      cases hn : s.newChildren with
      | nil => rfl
      | cons a as =>
        rw [hn] at h1
        cases hg : (a :: as).getLast? with
        | none => simp at hg
        | some l => simp [hg] at h1
    simp [embedLoop, hl, embedFragList, translateList, fragSersList]

def embedFirstPass : PM.FirstPass → FirstPass
  | .keep f y => .keep (f.map embedFrag) y
  | .redo bs => .redo bs

theorem firstPass_embed (c : Ctx) (bs : Rat) (pe : Bool) (posY : Rat) (r : PM.LayoutResult) :
    firstPass c bs pe posY (embedResult r) = embedFirstPass (PM.firstPass c bs pe posY r) := by
  unfold firstPass
  fun_cases PM.firstPass c bs pe posY r <;>
    simp +zetaDelta only [embedResult, embedFirstPass, embedFrag_geo, Option.map_some, Option.map_none, *] <;> rfl

@[simp] theorem dropFrag_empty (a b : Option OFrag) : dropFrag World.empty a b = World.empty := by
  unfold dropFrag; split <;> rfl

@[simp] theorem clearancePosY_none (f : Option OFrag) (y : Rat) : clearancePosY none f y = y := by
  unfold clearancePosY; split <;> simp_all

def embedConclude (y : Rat) (x : Option PM.KidsOutcome × PM.KidsLoop) : Option KidsOutcome × KidsLoop :=
  (x.1.map (embedOutcome y), embedLoop y x.2)

theorem concludeKid_embed (index : Nat) (pie : Bool) (pb : Brk) (child : PBox) (y : Rat) (s : PM.KidsLoop)
    (frag : Option Frag) (resume : Option Resume) :
    concludeKid index pie pb (embed child) (embedLoop y s) (frag.map embedFrag) resume =
      embedConclude y (PM.concludeKid index pie pb child s frag resume) := by
  unfold concludeKid PM.concludeKid embedConclude
  cases frag with
  | none =>
    simp only [Option.map_none]
    by_cases ha : avoidsPage pb = true
    · simp only [ha, if_true, embedLoop, findEarlierList_embed]
      cases PM.findEarlierList s.newChildren with
      | some kr => simp [embedFound, embedOutcome, embedLoop]
      | none =>
        simp only [embedFound, Option.map_none, Bool.true_and, boxPageStart_embed]
        by_cases hp : pie = true
        · simp only [hp, Bool.not_true, Bool.false_eq_true, if_false, embedFragList_all_isAbs]
          cases hn : s.newChildren with
          | nil => simp [embedFragList, embedOutcome, embedLoop, hn, fragSersList]
          | cons a as => simp [embedFragList, embedOutcome, embedLoop, hn]
        · simp [hp, embedOutcome, embedLoop]
    · simp only [ha, Bool.false_eq_true, if_false, Bool.false_and, boxPageStart_embed, embedLoop,
        embedFragList_all_isAbs]
      cases hn : s.newChildren with
      | nil => simp [embedFragList, embedOutcome, embedLoop, hn, fragSersList]
      | cons a as => simp [embedFragList, embedOutcome, embedLoop, hn]
  | some f =>
    simp only [Option.map_some]
    cases resume with
    | some r => simp [embedOutcome, embedLoop, embedFragList]
    | none => simp [embedLoop, embedFragList]

@[simp] theorem seenByCaller_embed (p : PM.Prep) (l : List Rat) (r : LayoutResult) :
    (embedPrep p l).seenByCaller r = r := rfl

theorem embedLoop_w (y : Rat) (s : PM.KidsLoop) : { embedLoop y s with w := World.empty } = embedLoop y s := rfl

/-- One turn of the children loop on an embedded child is the embedding of stage 1's turn, given that the child's
own layouts commute with the embedding. -/
theorem kidStep_embed (c : Ctx) (st : PStyle) (b : BoxSt) (cwc : Bool) (index : Nat) (bs : Rat) (pie : Bool)
    (child : PBox) (boxY : Rat) (s : PM.KidsLoop)
    (hbox : ∀ y bs skip cb pie adjL, layoutBox c (embed child) index y bs skip cb pie adjL World.empty =
      embedResult (PM.layoutBox c child index y bs skip cb pie adjL)) :
    kidStep c (embedSt st) b cwc index bs pie (embed child) (embedLoop boxY s) =
      embedConclude boxY (PM.kidStep c st index bs pie child s) := by
  -- `_in_flow_layout` up to its end
  have hflow : flowLaid c (embedSt st) b cwc index bs pie (embed child) (embedLoop boxY s) =
      (embedLoop boxY (PM.kidResult c st child index bs pie s).2.2,
       (PM.kidResult c st child index bs pie s).1.map embedFrag,
       (PM.kidResult c st child index bs pie s).2.1.resume) := by
    unfold flowLaid PM.kidResult
    simp only [preFlow_embed, pienc_embed, embedSt_toPStyle, embedLoop_posY, embedLoop_skip, embedLoop_cur,
      embedLoop_world, embedLoop_curIsL, hbox, firstPass_embed]
    generalize PM.layoutBox c child index s.posY bs s.skip st.isRoot (pie && s.newChildren.isEmpty) s.cur = r'
    cases hfp : PM.firstPass c bs (pie && s.newChildren.isEmpty) s.posY r' with
    | keep frag posY =>
      simp only [embedFirstPass, embedResult_w, embedResult_adjL, embedResult_adj, embedResult_clearance,
        embedResult_nextPage, embedResult_resume,
        show (embedResult r').frag.isSome = r'.frag.isSome from by simp [embedResult],
        embedLoop_setCur, embedLoop_w, dropFrag_empty, clearancePosY_none, embedLoop_adoptAdj]
      rfl
    | redo bs' =>
      simp only [embedFirstPass, embedResult_w, embedResult_adjL, embedResult_frag, embedLoop_setCur, embedLoop_w,
        dropFrag_empty]
      -- instantiated: rewriting every projection would take apart the `{ embedLoop boxY _ with … }` of the result
      simp only [embedLoop_cur boxY (s.setCur r'.adjL s.curIsL), embedLoop_curIsL boxY (s.setCur r'.adjL s.curIsL), hbox]
      generalize PM.layoutBox c child index s.posY bs' s.skip st.isRoot (pie && s.newChildren.isEmpty)
        (s.setCur r'.adjL s.curIsL).cur = r2
      rcases r2 with ⟨f2o, res2, np2, adj2, ct2, adjL2⟩
      simp only [embedResult, embedLoop_w, clearancePosY_none, embedLoop_adoptAdj]
      cases f2o with
      | none => rfl
      | some f2 => simp only [Option.map_some, embedFrag_geo]; rfl
  rw [kidStep, dif_neg (by simp), dif_neg (by simp)]
  simp only [meetBreak_embed]
  unfold PM.kidStep
  split
  · simp [embedConclude, embedOutcome, embedLoop, boxPageStart_embed]
  · rw [hflow]
    exact concludeKid_embed ..

mutual
/-- `block_level_layout` of an embedded box in a world without out-of-flow state is the embedding of the
stage-1 result. -/
theorem layoutBox_embed : (box : PBox) → ∀ (c : Ctx) (idx : Nat) (y bs : Rat) (skip : Option Resume)
    (cb pie : Bool) (adjL : List Rat),
    layoutBox c (embed box) idx y bs skip cb pie adjL World.empty =
      embedResult (PM.layoutBox c box idx y bs skip cb pie adjL)
  | .para id n lineH st => by
    intro c idx y bs skip cb pie adjL
    simp only [embed, layoutBox, PM.layoutBox, World.empty_shapes, prepare_embed, seenByCaller_embed,
      embedSt_toPStyle]
    rw [show (embedPrep (PM.prepare c st y bs skip cb pie adjL) adjL).b = (PM.prepare c st y bs skip cb pie adjL).b
      from rfl]
    simp only [embedPrep, lineboxLayout_nil]
    exact finishPara_embed c st _ pie id idx n _ adjL
  | .block id st kids => by
    intro c idx y bs skip cb pie adjL
    simp only [embed, layoutBox, PM.layoutBox, World.empty_shapes, prepare_embed, seenByCaller_embed]
    generalize PM.prepare c st y bs skip cb pie adjL = p
    have hk := layoutKids_embed kids c st p.b p.cwc 0 (skipIdxOf skip) p.bs pie
      { newChildren := [], posY := p.posY, adjL := p.adjL, cur := p.cur, curIsL := p.curIsL,
        nextPage := { brk := none, page := none }, skip := subSkipOf skip } p.b.y
    simp only [embedLoop, embedFragList] at hk
    simp only [embedPrep]
    rw [hk]
    exact finishBlock_embed c st _ pie id idx _ adjL
theorem layoutKids_embed : (kids : List PBox) → ∀ (c : Ctx) (st : PStyle) (b : BoxSt) (cwc : Bool)
    (index skipIdx : Nat) (bs : Rat) (pie : Bool) (s : PM.KidsLoop) (boxY : Rat),
    layoutKids c (embedSt st) b cwc (embedList kids) index skipIdx bs pie (embedLoop boxY s) =
      embedOutcome boxY (PM.layoutKids c st kids index skipIdx bs pie s)
  | [] => by
    intro c st b cwc index skipIdx bs pie s boxY
    simp [embedList, layoutKids, PM.layoutKids, embedOutcome]
  | child :: rest => by
    intro c st b cwc index skipIdx bs pie s boxY
    rw [embedList, layoutKids_turn, PM.layoutKids_turn,
      kidStep_embed c st b cwc index bs pie child boxY s (layoutBox_embed child c index)]
    split
    · exact layoutKids_embed rest c st b cwc (index + 1) skipIdx bs pie s boxY
    · rcases PM.kidStep c st index bs pie child s with ⟨_ | out, s3⟩
      · exact layoutKids_embed rest c st b cwc (index + 1) skipIdx bs pie s3 boxY
      · rfl
end

/-! ### pages -/

mutual
theorem substAbs_embed : (f : Frag) → substAbs [] (embedFrag f) = embedFrag f
  | .para _ _ _ _ _ _ => by simp [embedFrag, substAbs]
  | .block _ _ _ _ kids => by simp [embedFrag, substAbs, substAbsList_embed kids]
theorem substAbsList_embed : (fs : List Frag) → substAbsList [] (embedFragList fs) = embedFragList fs
  | [] => rfl
  | f :: fs => by simp [embedFragList, substAbsList, substAbs_embed f, substAbsList_embed fs]
end

theorem finishRoot_embed (h : Len) (f : Frag) : finishRoot h [] (substAbsList [] []) (embedFrag f) = embedFrag f := by
  cases f <;> simp [embedFrag, finishRoot, substAbsList]

theorem emptyRoot_embed (b : PBox) : emptyRoot (embed b) = embed (PM.emptyRoot b) := by
  cases b <;> simp [embed, emptyRoot, PM.emptyRoot, embedList]

theorem remakePage_embed (d : PM.Doc) (index : Nat) (resume : Option Resume) (np : NextPage) (right : Bool)
    (top : Rat) :
    remakePage (embedDoc d) index resume np right [] top =
      (PM.remakePage d index resume np right).map (fun p => embedPage (nextTop top p) p) := by
  unfold remakePage PM.remakePage
  simp only [embedDoc, List.foldl_nil, emptyRoot_embed]
  rw [show (if isBlank (requestedSide d.rootLtr np.brk) right = true then embed (PM.emptyRoot d.root)
      else embed d.root) = embed (if isBlank (requestedSide d.rootLtr np.brk) right = true then PM.emptyRoot d.root
      else d.root) from by split <;> rfl]
  rw [layoutBox_embed]
  generalize PM.layoutBox _ _ 0 0 0 resume false true [] = r
  rcases r with ⟨fo, res, npn, adj, ct, adjL⟩
  cases fo with
  | none => simp [embedResult]
  | some f =>
    simp only [embedResult, Option.map_some, World.empty, List.foldl_nil, substAbs_embed, finishRoot_embed,
      embedPage, nextTop, embedFrag_geo]
    rcases np with ⟨nb, npg⟩
    cases npg <;> split <;> simp_all

/-- Walked on the fuel, not through `PageLoop.run_map`: the page map `embedPage` takes the root top handed from page
to page (`nextTop top p`), which is no function of the stage-1 state. -/
theorem makeAllPages_embed (d : PM.Doc) : ∀ (fuel index : Nat) (resume : Option Resume) (np : NextPage)
    (right : Bool) (top : Rat),
    makeAllPages (embedDoc d) fuel index resume np right [] top =
      (PM.makeAllPages d fuel index resume np right).map (embedPages top)
  | 0, _, _, _, _, _ => rfl
  | fuel + 1, index, resume, np, right, top => by
    unfold makeAllPages PM.makeAllPages
    rw [remakePage_embed]
    cases PM.remakePage d index resume np right with
    | none => rfl
    | some p =>
      simp only [Option.map_some, embedPage]
      cases hr : p.resume with
      | none => simp [embedPages, embedPage, hr]
      | some ρ =>
        simp only []
        rw [makeAllPages_embed d fuel (index + 1) (some ρ) p.nextPage (!right) (nextTop top p)]
        cases PM.makeAllPages d fuel (index + 1) (some ρ) p.nextPage (!right) with
        | none => rfl
        | some ps => simp [embedPages, embedPage, hr]

/-- **Embedding theorem.** On a stage-1 document (embedded: every box static, no `clear`) the extended
pagination computes exactly the embedding of the stage-1 pagination — same pages, same fragments, same
geometry, same resume positions, no out-of-flow state. -/
theorem paginate_embed (d : PM.Doc) (fuel : Nat) :
    paginate (embedDoc d) fuel = (PM.paginate d fuel).map (embedPages 0) := by
  unfold paginate PM.paginate
  have h1 : firstRight (embedDoc d) = PM.firstRight d := by
    simp only [firstRight, PM.firstRight, embedDoc, embed_st, embedSt_toPStyle]
    cases d.root.st.brkBefore <;> rfl
  have h2 : boxPageStart (embedDoc d).root = PM.boxPageStart d.root := boxPageStart_embed d.root
  rw [h1, h2]
  exact makeAllPages_embed d fuel 0 none _ _ 0

end Wp.PMO
