/-
Fuel sufficiency for `table_boxes_children` / `wrap_improper` / `wrap_table`
(Model/AnonBoxes.lean): the rules re-applied to fresh wrappers nest at most four wrappers deep
(table → row → cell → table → row group), each level walking its children once, so the fuel the
model gives (`tableFuel m = 8·(m + 8)` for `m` children) is never exhausted.  The bounds, for `m` children, from the
inside out: a row group or column group of rows / columns `m + 2`, `wrap_table` `2m + 5`, a table `2m + 7`, an anonymous
cell `3m + 9`, a row `4m + 11`, any box `5·(m + groupSpan box) + 14`.  `inline_in_block` and `element_to_box` use no
fuel at all, whence `createAnonymousBoxes_nofuel` and `buildFormattingStructure_nofuel`.
-/
import WpModel.Lemmas.Tables
import WpModel.Lemmas.Fuel
import WpModel.Lemmas.BoxGenRun

namespace Wp.Bx
open KBox

/-- `wrap_improper` with enough fuel for its own walk (`children.length + 1`) and `G` on top of it, which every
call of `table_boxes_children` on a wrapper then still has; the lists handed to those calls are non-empty, drawn
from `pool`, fail the test and have at most `M` members (the cap that makes the budgets `k·m + c` close). -/
theorem wI_nofuel (G M : Nat) (box : KBox) (wt : BoxKind) (test : KBox → Bool) (pool : List KBox)
    (hcall : ∀ (l : List KBox) (k : Nat), G ≤ k → l ≠ [] → l.length ≤ M → (∀ c ∈ l, c ∈ pool ∧ test c = false) →
      NoFuel (tbc k (anonFrom wt box []) l)) :
    ∀ (children improper : List KBox) (n : Nat), children.length + 1 + G ≤ n →
      children.length + improper.length ≤ M →
      (∀ c ∈ children, c ∈ pool) → (∀ c ∈ improper, c ∈ pool ∧ test c = false) →
      NoFuel (wrapImproper n box children wt test improper) := by
  intro children improper n
  induction n using Nat.strongRecOn generalizing children improper with | _ n ih => ?_
  intro hn hM hc hi
  fun_cases wrapImproper n box children wt test improper <;> intro hf
  -- the returns that are a value or another error go; the fuel error and the calls stay
  any_goals cases hf
  next => omega
  next hne he =>
    exact hcall improper.reverse _ (by simp at hn; omega) (by simpa using hne) (by simpa using hM)
      (fun c hc => hi c (List.mem_reverse.mp hc)) he
  all_goals
    simp only [List.length_cons] at hn hM
    have hcs := (List.forall_mem_cons.1 hc).2
  next htest hne he =>
    exact hcall improper.reverse _ (by omega) (by simpa using hne) (by simp; omega)
      (fun d hd => hi d (List.mem_reverse.mp hd)) he
  next he => exact ih _ (Nat.lt_succ_self _) _ [] (by omega) (by simp; omega) hcs (by simp) he
  next he => exact ih _ (Nat.lt_succ_self _) _ [] (by omega) (by simp; omega) hcs (by simp) he
  next c cs htest =>
    exact ih _ (Nat.lt_succ_self _) _ (c :: improper) (by omega) (by simp; omega) hcs
      (List.forall_mem_cons.2 ⟨⟨hc _ List.mem_cons_self, by simpa using htest⟩, hi⟩) hf

/-- The form in which it is called: all children are the pool, no improper child pending. -/
theorem wI_nofuel0 (G M : Nat) (box : KBox) (wt : BoxKind) (test : KBox → Bool) (children : List KBox) (n : Nat)
    (hcall : ∀ (l : List KBox) (k : Nat), G ≤ k → l ≠ [] → l.length ≤ M →
      (∀ c ∈ l, c ∈ children ∧ test c = false) → NoFuel (tbc k (anonFrom wt box []) l))
    (hn : children.length + 1 + G ≤ n) (hM : children.length ≤ M) :
    NoFuel (wrapImproper n box children wt test []) :=
  wI_nofuel G M box wt test children hcall children [] n hn (by simpa using hM) (fun _ hc => hc) nofun

/-- The output is not longer than the input (one wrapper per run of improper children). -/
theorem wI_length (n : Nat) (box : KBox) (children : List KBox) (wt : BoxKind) (test : KBox → Bool)
    (improper out : List KBox) (h : wrapImproper n box children wt test improper = .ok out) :
    out.length ≤ children.length + (if improper.isEmpty then 0 else 1) := by
  refine wrapImproper_run (N := n)
    (P := fun children improper out => out.length ≤ children.length + (if improper.isEmpty then 0 else 1))
    (Nat.le_refl _) ?_ ?_ ?_ ?_ n children improper out (Nat.le_refl _) h
  · intro m improper w _ hne _
    cases improper with
    | nil => exact absurd rfl hne
    | cons _ _ => exact Nat.le_refl _
  · intro m c cs improper w rest _ _ hne _ ih
    cases improper with
    | nil => exact absurd rfl hne
    | cons _ _ => simpa using ih
  · intro c cs rest _ ih
    simpa using ih
  · intro c cs improper out _ ih
    simp only [List.isEmpty_cons, Bool.false_eq_true, if_false, List.length_cons] at ih ⊢
    split <;> omega

theorem wI_length0 (n : Nat) (box : KBox) (children : List KBox) (wt : BoxKind) (test : KBox → Bool)
    (out : List KBox) (h : wrapImproper n box children wt test [] = .ok out) : out.length ≤ children.length := by
  simpa using wI_length n box children wt test [] out h

theorem bind_fuel {α β : Type} {x : Except BErr α} {f : α → Except BErr β}
    (h : (match x with | .error e => (Except.error e : Except BErr β) | .ok v => f v) = .error .fuel) :
    x = .error .fuel ∨ ∃ v, x = .ok v ∧ f v = .error .fuel := by
  cases x with
  | error e => simp only at h; cases h; exact Or.inl rfl
  | ok v => exact Or.inr ⟨v, rfl, h⟩

/-! ### the states in which `table_boxes_children` is re-entered -/

theorem wrapImproper_pass (box : KBox) (wt : BoxKind) (test : KBox → Bool) (children : List KBox) (n : Nat)
    (hn : children.length + 1 ≤ n) (h : ∀ c ∈ children, test c = true) :
    wrapImproper n box children wt test [] = .ok children := by
  rw [wrapImproper_all box wt test children n h, if_pos hn]

theorem tbcStep1_ok (n : Nat) (box : KBox) (c0 : List KBox) (hn : c0.length + 1 ≤ n)
    (h : ∀ c ∈ c0, (Gen.isSub box.kind .TableBox = true → Gen.properTableChild c.kind = true) ∧
      (Gen.isSub box.kind .TableRowGroupBox = true → c.isA .TableRowBox = true)) :
    tbcStep1 n box c0 = .ok c0 := by
  unfold tbcStep1
  split
  · rename_i hk
    exact wrapImproper_pass _ _ _ c0 n hn (fun c hc => (h c hc).1 hk)
  · split
    · rename_i hk
      exact wrapImproper_pass _ _ _ c0 n hn (fun c hc => (h c hc).2 hk)
    · rfl

theorem tbcCore_ok (n : Nat) (box : KBox) (c0 : List KBox) (hn : c0.length + 1 ≤ n)
    (h1 : ∀ c ∈ c0, (Gen.isSub box.kind .TableBox = true → Gen.properTableChild c.kind = true) ∧
      (Gen.isSub box.kind .TableRowGroupBox = true → c.isA .TableRowBox = true))
    (h2 : ∀ c ∈ c0, c.isA .TableCellBox = Gen.isSub box.kind .TableRowBox)
    (hk : Gen.isSub box.kind .InlineBox = false)
    (h3 : ∀ c ∈ c0, (!Gen.properTableChild c.kind || (Gen.properParents c.kind).contains box.kind) = true) :
    tbcCore n box c0 =
      if Gen.isSub box.kind .TableBox then wrapTable n box c0 else .ok (box.withKids c0) := by
  unfold tbcCore
  rw [tbcStep1_ok n box c0 hn h1]
  simp only [tbcStep2_all n box c0 h2, tbcStep3_all n box c0 hk h3, if_pos hn]

theorem tbcStep1_length (n : Nat) (box : KBox) (c0 c1 : List KBox) (h : tbcStep1 n box c0 = .ok c1) :
    c1.length ≤ c0.length := by
  unfold tbcStep1 at h
  split at h
  · exact wI_length0 _ _ _ _ _ _ h
  · split at h
    · exact wI_length0 _ _ _ _ _ _ h
    · cases h; exact Nat.le_refl _

theorem tbcStep2_length (n : Nat) (box : KBox) (c0 c1 : List KBox) (h : tbcStep2 n box c0 = .ok c1) :
    c1.length ≤ c0.length := by
  unfold tbcStep2 at h
  split at h <;> exact wI_length0 _ _ _ _ _ _ h

theorem tbcStep3_length (n : Nat) (box : KBox) (c0 c1 : List KBox) (h : tbcStep3 n box c0 = .ok c1) :
    c1.length ≤ c0.length := by
  unfold tbcStep3 at h
  split at h <;> exact wI_length0 _ _ _ _ _ _ h

/-- A row group whose children are all rows, a column group whose children are all columns (at least one):
no rule applies. -/
theorem tbc_nofuel_group (n : Nat) (box : KBox) (l : List KBox) (bk ck : BoxKind)
    (hp : (bk = .TableRowGroupBox ∧ ck = .TableRowBox) ∨ (bk = .TableColumnGroupBox ∧ ck = .TableColumnBox))
    (hk : box.kind = bk) (hl : ∀ c ∈ l, c.kind = ck) (hne : l ≠ []) (hn : l.length + 2 ≤ n) :
    NoFuel (tbc n box l) := by
  obtain ⟨c0, hc0⟩ := List.exists_mem_of_ne_nil l hne
  cases n with
  | zero => omega
  | succ n =>
    rcases hp with ⟨rfl, rfl⟩ | ⟨rfl, rfl⟩
    all_goals
      have hs := preKids_sublist box l fun h => ⟨c0, hc0, by
        unfold KBox.isA; rw [hl c0 hc0]; rw [hk] at h; revert h; decide⟩
      have hlen := hs.length_le
      have hc : ∀ c ∈ preKids box l, c.kind = _ := fun c h => hl c (hs.subset h)
      rw [tbc_succ, tbcCore_ok n box _ (by omega), hk]
      · exact nofun
      · exact fun c h => by unfold KBox.isA; rw [hc c h, hk]; decide
      · exact fun c h => by unfold KBox.isA; rw [hc c h, hk]; rfl
      · rw [hk]; rfl
      · exact fun c h => by rw [hc c h, hk]; rfl

theorem rowCells_nofuel (l : List KBox) : rowCells l ≠ .error .fuel := by
  fun_induction rowCells l with
  | case1 | case2 | case4 => exact nofun
  | case3 c cs _ e he ih => exact fun h => ih (he.trans h)

theorem groupCells_nofuel (l : List KBox) : groupCells l ≠ .error .fuel := by
  fun_induction groupCells l with
  | case1 | case2 => exact nofun
  | case3 r rs e he _ => exact fun h => by cases h; exact rowCells_nofuel _ he
  | case4 r rs e he _ ih => exact fun h => ih (he.trans h)

theorem tableCells_nofuel (l : List KBox) : tableCells l ≠ .error .fuel := by
  fun_induction tableCells l with
  | case1 | case2 => exact nofun
  | case3 g gs e he _ => exact fun h => by cases h; exact groupCells_nofuel _ he
  | case4 g gs e he _ ih => exact fun h => ih (he.trans h)

theorem sort_nofuel (l : List KBox) : sortTableKids l ≠ .error .fuel := by
  fun_induction sortTableKids l
  case case2 c cs e he ih => exact fun h => ih (he.trans h)
  all_goals exact nofun

/-- `wrap_table` on `m` children: the column groups and row groups it creates need no further rule. -/
theorem wrapTable_nofuel (n : Nat) (box : KBox) (children : List KBox) (hn : 2 * children.length + 5 ≤ n) :
    NoFuel (wrapTable n box children) := by
  fun_cases wrapTable n box children <;> intro hf <;> cases hf
  next => omega
  next he => exact sort_nofuel _ he
  case case5 he => exact tableCells_nofuel _ he
  all_goals
    rename_i hsort he
    obtain ⟨scols, srows, _⟩ := sortTableKids_spec children _ _ _ hsort
    have hlen := (sortTableKids_perm hsort).1.length_eq
    simp only [List.length_append] at hlen
  next =>
    refine wI_nofuel0 (children.length + 2) children.length box .TableColumnGroupBox
      (fun c : KBox => c.isA .TableColumnGroupBox) _ _ ?_ (by omega) (by omega) he
    intro l k hk hne hlM hl
    refine tbc_nofuel_group k _ l _ _ (Or.inr ⟨rfl, rfl⟩) rfl ?_ hne (by omega)
    intro c hc
    obtain ⟨hp, ht⟩ := hl c hc
    rcases (scols c hp).2 with h1 | h1
    · exact h1
    · rw [(isA_colgroup_iff c).2 h1] at ht; cases ht
  next =>
    refine wI_nofuel0 (children.length + 2) children.length box .TableRowGroupBox
      (fun c : KBox => c.isA .TableRowGroupBox) _ _ ?_ (by omega) (by omega) he
    intro l k hk hne hlM hl
    refine tbc_nofuel_group k _ l _ _ (Or.inl ⟨rfl, rfl⟩) rfl ?_ hne (by omega)
    intro c hc
    obtain ⟨hp, ht⟩ := hl c hc
    rcases (srows c hp).2 with h1 | h1
    · exact h1
    · rw [(isA_rowgroup_iff c).2 h1] at ht; cases ht

/-- A table whose children are all proper table children: rules 2.1 / 3.1 / 3.2 wrap nothing. -/
theorem tbc_nofuel_table (n : Nat) (box : KBox) (l : List KBox)
    (hk : box.kind = .TableBox ∨ box.kind = .InlineTableBox)
    (hl : ∀ c ∈ l, Gen.properTableChild c.kind = true) (hn : 2 * l.length + 7 ≤ n) : NoFuel (tbc n box l) := by
  cases n with
  | zero => omega
  | succ n =>
    have e : Gen.isSub box.kind .TableBox = true ∧ Gen.isSub box.kind .TableColumnBox = false ∧
        Gen.isSub box.kind .TableColumnGroupBox = false ∧ Gen.isSub box.kind .TableRowGroupBox = false ∧
        Gen.isSub box.kind .TableRowBox = false ∧ Gen.isSub box.kind .InlineBox = false := by
      rcases hk with hk | hk <;> rw [hk] <;> exact ⟨rfl, rfl, rfl, rfl, rfl, rfl⟩
    have hs := preKids_sublist box l (fun h => by rw [e.2.2.1] at h; cases h)
    have hlen := hs.length_le
    have hprop : ∀ c ∈ preKids box l, Gen.properTableChild c.kind = true := fun c hc => hl c (hs.subset hc)
    rw [tbc_succ, tbcCore_ok n box _ (by omega), if_pos e.1]
    · exact wrapTable_nofuel n box _ (by omega)
    · exact fun c hc => ⟨fun _ => hprop c hc, fun h => by rw [e.2.2.2.1] at h; cases h⟩
    · intro c hc
      rw [not_cell_of_proper c (hprop c hc), e.2.2.2.2.1]
    · exact e.2.2.2.2.2
    · intro c hc
      have := proper_parents_table c.kind (hprop c hc)
      rcases hk with hk | hk
      · rw [hk, this.1, Bool.or_true]
      · rw [hk, this.2, Bool.or_true]

theorem tbcStep3_nofuel (n m : Nat) (box : KBox) (c0 : List KBox) (hm : c0.length ≤ m)
    (hn : 3 * m + 8 ≤ n) : NoFuel (tbcStep3 n box c0) := by
  intro hf
  unfold tbcStep3 at hf
  split at hf
  · refine wI_nofuel0 (2 * m + 7) m box .InlineTableBox _ c0 n ?_ (by omega) hm hf
    intro l k hk _ hl hl'
    refine tbc_nofuel_table k _ l (Or.inr rfl) ?_ (by omega)
    intro c hc
    simpa using (hl' c hc).2
  · refine wI_nofuel0 (2 * m + 7) m box .TableBox _ c0 n ?_ (by omega) hm hf
    intro l k hk _ hl hl'
    refine tbc_nofuel_table k _ l (Or.inl rfl) ?_ (by omega)
    intro c hc
    have := (hl' c hc).2
    simp only [Bool.or_eq_false_iff, Bool.not_eq_false'] at this
    exact this.1

/-- An anonymous cell, made of the non-cells of a row: its proper table children go into one more
table. -/
theorem tbc_nofuel_cell (n : Nat) (box : KBox) (l : List KBox) (hk : box.kind = .TableCellBox)
    (hl : ∀ c ∈ l, c.isA .TableCellBox = false) (hn : 3 * l.length + 9 ≤ n) : NoFuel (tbc n box l) := by
  cases n with
  | zero => omega
  | succ n =>
    have hs := preKids_sublist box l (fun h => absurd h (by rw [hk]; decide))
    have hsub := fun c (hc : c ∈ preKids box l) => hs.subset hc
    have hlen := hs.length_le
    rw [tbc_succ]
    generalize preKids box l = c0 at hsub hlen
    unfold tbcCore
    rw [tbcStep1_ok n box c0 (by omega) (fun c _ => ⟨fun h => absurd h (by rw [hk]; decide),
      fun h => absurd h (by rw [hk]; decide)⟩)]
    simp only [tbcStep2_all n box c0 (fun c hc => by rw [hl c (hsub c hc), hk]; rfl),
      if_pos (show c0.length + 1 ≤ n by omega)]
    intro hf
    split at hf
    · rename_i e h3
      cases hf
      exact tbcStep3_nofuel n l.length box c0 hlen (by omega) h3
    · rw [if_neg (by rw [hk]; decide)] at hf
      cases hf

/-- A row with any children: its non-cells go into anonymous cells. -/
theorem tbc_nofuel_row (n : Nat) (box : KBox) (l : List KBox) (hk : box.kind = .TableRowBox)
    (hn : 4 * l.length + 11 ≤ n) : NoFuel (tbc n box l) := by
  cases n with
  | zero => omega
  | succ n =>
    have hs := preKids_sublist box l (fun h => absurd h (by rw [hk]; decide))
    have hsub := fun c (hc : c ∈ preKids box l) => hs.subset hc
    have hlen := hs.length_le
    rw [tbc_succ]
    generalize preKids box l = c0 at hsub hlen
    unfold tbcCore
    rw [tbcStep1_ok n box c0 (by omega) (fun c _ => ⟨fun h => absurd h (by rw [hk]; decide),
      fun h => absurd h (by rw [hk]; decide)⟩)]
    intro hf
    simp only at hf
    split at hf
    · rename_i e h2
      cases hf
      unfold tbcStep2 at h2
      rw [if_pos (by rw [hk]; rfl)] at h2
      refine wI_nofuel0 (3 * l.length + 9) l.length box .TableCellBox _ c0 n ?_ (by omega) (by omega) h2
      intro l' k hk' _ hlen hl'
      exact tbc_nofuel_cell k _ l' rfl (fun c hc => (hl' c hc).2) (by omega)
    · rename_i c2 h2
      have hlen2 := tbcStep2_length n box c0 c2 h2
      unfold tbcStep2 at h2
      rw [if_pos (by rw [hk]; rfl)] at h2
      have hcells := wrapImproper_kinds (· = .TableCellBox) h2 rfl rfl fun c => (isA_cell_iff c).1
      rw [tbcStep3_all n box c2 (by rw [hk]; rfl) (fun c hc => by rw [hcells c hc, hk]; rfl),
        if_pos (by omega)] at hf
      simp only at hf
      rw [if_neg (by rw [hk]; decide)] at hf
      cases hf

theorem preKids_length (box : KBox) (l : List KBox) :
    (preKids box l).length ≤ l.length + groupSpan box := by
  have h1 : (rule1Kids box l).length ≤ l.length + groupSpan box := by
    fun_cases rule1Kids box l
    case case3 => exact Nat.le_trans (List.length_filter_le _ _) (Nat.le_add_right _ _)
    all_goals simp
  unfold preKids
  refine Nat.le_trans (rule14_sublist none _).length_le ?_
  split
  · exact Nat.le_trans (rule13_sublist _).length_le h1
  · exact h1

theorem tbcStep1_nofuel (n m : Nat) (box : KBox) (c0 : List KBox) (hm : c0.length ≤ m)
    (hn : 5 * m + 12 ≤ n) : NoFuel (tbcStep1 n box c0) := by
  intro hf
  unfold tbcStep1 at hf
  have hcall : ∀ (test : KBox → Bool) (l : List KBox) (k : Nat), 4 * m + 11 ≤ k → l ≠ [] → l.length ≤ m →
      (∀ c ∈ l, c ∈ c0 ∧ test c = false) → NoFuel (tbc k (anonFrom .TableRowBox box []) l) := by
    intro _ l k hk _ hl _
    exact tbc_nofuel_row k _ l rfl (by omega)
  split at hf
  · exact wI_nofuel0 (4 * m + 11) m box .TableRowBox _ c0 n (hcall _) (by omega) hm hf
  · split at hf
    · exact wI_nofuel0 (4 * m + 11) m box .TableRowBox _ c0 n (hcall _) (by omega) hm hf
    · cases hf

theorem tbcStep2_nofuel (n m : Nat) (box : KBox) (c0 : List KBox) (hm : c0.length ≤ m)
    (hn : 5 * m + 12 ≤ n) : NoFuel (tbcStep2 n box c0) := by
  intro hf
  unfold tbcStep2 at hf
  split at hf
  · refine wI_nofuel0 (3 * m + 9) m box .TableCellBox _ c0 n ?_ (by omega) hm hf
    intro l k hk _ hl hl'
    exact tbc_nofuel_cell k _ l rfl (fun c hc => (hl' c hc).2) (by omega)
  · refine wI_nofuel0 (4 * m + 11) m box .TableRowBox _ c0 n ?_ (by omega) hm hf
    intro l k hk _ hl _
    exact tbc_nofuel_row k _ l rfl (by omega)

/-- **Fuel sufficiency for `table_boxes_children`**: `5·m + 14` steps are enough for a box whose
children (after rule 1.2, which may create `span` columns) number at most `m`. -/
theorem tbc_nofuel (n : Nat) (box : KBox) (l : List KBox)
    (hn : 5 * (l.length + groupSpan box) + 14 ≤ n) : NoFuel (tbc n box l) := by
  cases n with
  | zero => omega
  | succ n =>
    rw [tbc_succ]
    have h0 := preKids_length box l
    generalize preKids box l = c0 at h0
    generalize hm : l.length + groupSpan box = m at h0 hn
    intro hf
    unfold tbcCore at hf
    split at hf
    · rename_i e h1
      cases hf
      exact tbcStep1_nofuel n m box c0 h0 (by omega) h1
    · rename_i c1 h1
      have l1 := tbcStep1_length n box c0 c1 h1
      split at hf
      · rename_i e h2
        cases hf
        exact tbcStep2_nofuel n m box c1 (by omega) (by omega) h2
      · rename_i c2 h2
        have l2 := tbcStep2_length n box c1 c2 h2
        split at hf
        · rename_i e h3
          cases hf
          exact tbcStep3_nofuel n m box c2 (by omega) (by omega) h3
        · rename_i c3 h3
          have l3 := tbcStep3_length n box c2 c3 h3
          split at hf
          · exact wrapTable_nofuel n box c3 (by omega) hf
          · cases hf

theorem tableFuel_enough (m : Nat) : 5 * m + 14 ≤ tableFuel m := by unfold tableFuel; omega

mutual
/-- **`anonymous_table_boxes` never runs out of fuel.** -/
theorem atb_nofuel : ∀ (b : KBox), NoFuel (atb b)
  | .mk k st el inst text kids cols => by
    intro hf
    unfold atb at hf
    split at hf
    · cases hf
    · split at hf
      · rename_i e he
        cases hf
        exact atbKids_nofuel kids he
      · exact tbc_nofuel _ _ _ (tableFuel_enough _) hf
theorem atbKids_nofuel : ∀ (l : List KBox), NoFuel (atbKids l)
  | [] => by intro hf; unfold atbKids at hf; cases hf
  | c :: cs => by
    intro hf
    unfold atbKids at hf
    split at hf
    · cases hf
    · rename_i e he
      cases hf
      exact atb_nofuel c he
    · rename_i e he _
      cases hf
      exact atbKids_nofuel cs he
end


/-! ### `inline_in_block` uses no fuel at all -/

theorem groupLines_nofuel (parent : KBox) : ∀ (l line acc : List KBox), NoFuel (groupLines parent l line acc) := by
  intro l line acc
  fun_induction groupLines parent l line acc
  case case1 | case2 | case3 | case4 => exact nofun
  -- every other return is a recursive call
  all_goals assumption

mutual
theorem iib_nofuel : ∀ (force : Bool) (b : KBox), NoFuel (iib force b)
  | force, .mk k st el inst text kids cols => by
    intro hf
    unfold iib at hf
    simp only [] at hf
    by_cases hc : (kids.isEmpty || st.run) = true
    · rw [if_pos hc] at hf
      cases hf
    rw [if_neg hc] at hf
    cases hr : iibKids false kids with
    | error e =>
      rw [hr] at hf
      cases hf
      exact iibKids_nofuel false kids hr
    | ok r =>
      rw [hr] at hf
      simp only at hf
      by_cases hb : (!Gen.isSub k .BlockContainerBox) = true
      · rw [if_pos hb] at hf
        cases hf
      · rw [if_neg hb] at hf
        split at hf
        · rename_i e he
          cases hf
          exact groupLines_nofuel _ _ _ _ he
        · cases hf
theorem iibKids_nofuel : ∀ (t : Bool) (l : List KBox), NoFuel (iibKids t l)
  | t, [] => by intro hf; unfold iibKids at hf; cases hf
  | t, c :: cs => by
    intro hf
    unfold iibKids at hf
    split at hf
    · exact iibKids_nofuel _ cs hf
    · split at hf
      · rename_i e he
        cases hf
        exact iib_nofuel t c he
      · split at hf
        · rename_i e he
          cases hf
          exact iibKids_nofuel false cs he
        · cases hf
end

/-- **`create_anonymous_boxes` never runs out of fuel**: every loop of the model that stands for a
Python `while` / recursion on fresh boxes ends within the fuel the model provides. -/
theorem createAnonymousBoxes_nofuel (b : KBox) : NoFuel (createAnonymousBoxes b) := by
  fun_cases createAnonymousBoxes b
  case case1 =>
    rename_i he
    exact fun h => by cases h; exact atb_nofuel b he
  case case2 =>
    rename_i he
    exact fun h => by cases h; exact iib_nofuel _ _ he
  case case3 => exact bii_terminates _


/-! ### box generation uses no fuel either -/

theorem quoteAt_nofuel (qs : List Text) (d : Nat) : NoFuel (quoteAt qs d) := by
  fun_cases quoteAt qs d <;> exact nofun

theorem quoteText_nofuel (q : Quotes) (o i : Bool) (d : Nat) : NoFuel (quoteText q o i d) := by
  fun_cases quoteText q o i d
  case case2 | case4 => exact quoteAt_nofuel _ _
  all_goals exact nofun

theorem contentText_nofuel (q : Quotes) : ∀ (l : List CItem) (acc : Text) (d : Nat), NoFuel (contentText q l acc d) := by
  intro l acc d
  fun_induction contentText q l acc d
  case case1 => exact nofun
  case case3 =>
    rename_i he
    exact fun h => by cases h; exact quoteText_nofuel _ _ _ _ he
  all_goals assumption

theorem contentToBoxes_nofuel (q : Quotes) (c : Content) (parent : KBox) (d : Nat) :
    NoFuel (contentToBoxes q c parent d) := by
  fun_cases contentToBoxes q c parent d
  case case2 =>
    rename_i he
    exact fun h => by cases h; exact contentText_nofuel _ _ _ _ he
  all_goals exact nofun

theorem markerToBox_nofuel (m : MarkerSpec) (attrs : El) (o : Bool) (d : Nat) :
    NoFuel (markerToBox m attrs o d) := by
  fun_cases markerToBox m attrs o d <;> intro hf <;> cases hf
  next children he =>
    simp only [children] at he
    split at he
    · split at he
      · rename_i he'
        cases he
        exact contentToBoxes_nofuel _ _ _ _ he'
      · cases he
    · split at he <;> cases he

theorem elMarkers_nofuel (disp : List String) (marker : Option MarkerSpec) (attrs : El) (outside : Bool) (depth : Nat) :
    NoFuel (elMarkers disp marker attrs outside depth) := by
  fun_cases elMarkers disp marker attrs outside depth
  case case1 => exact markerToBox_nofuel _ _ _ _
  all_goals exact nofun

theorem beforeAfterToBox_nofuel (p : Option Pseudo) (marker : Option MarkerSpec) (attrs : El) (d : Nat) :
    NoFuel (beforeAfterToBox p marker attrs d) := by
  fun_cases beforeAfterToBox p marker attrs d
  case case5 =>
    rename_i he
    exact fun h => by cases h; exact elMarkers_nofuel (blockify _ _ _ false) _ _ _ _ he
  case case6 =>
    rename_i he
    exact fun h => by cases h; exact contentToBoxes_nofuel _ _ _ _ he
  all_goals exact nofun

mutual
theorem elementToBox_nofuel : ∀ (root : Bool) (d : Dom) (depth : Nat), NoFuel (elementToBox root d depth)
  | root, .el es attrs marker before after text kids tail, depth => by
    intro hf
    unfold elementToBox at hf
    simp only at hf
    split at hf
    · cases hf
    · split at hf
      · cases hf
      · split at hf
        · rename_i e he
          cases hf
          exact elMarkers_nofuel (blockify _ _ _ root) _ _ _ _ he
        · split at hf
          · rename_i e he
            cases hf
            exact beforeAfterToBox_nofuel _ _ _ _ he
          · split at hf
            · rename_i e he
              cases hf
              exact elementKids_nofuel _ kids _ _ he
            · split at hf
              · rename_i e he
                cases hf
                exact beforeAfterToBox_nofuel _ _ _ _ he
              · cases hf
theorem elementKids_nofuel : ∀ (parent : KBox) (ds : List Dom) (acc : List KBox) (depth : Nat),
    NoFuel (elementKids parent ds acc depth)
  | parent, [], acc, depth => by intro hf; unfold elementKids at hf; cases hf
  | parent, d :: ds, acc, depth => by
    intro hf
    unfold elementKids at hf
    split at hf
    · rename_i e he
      cases hf
      exact elementToBox_nofuel false d depth he
    · exact elementKids_nofuel parent ds _ _ hf
end

/-- **`build_formatting_structure` never runs out of fuel.** -/
theorem buildFormattingStructure_nofuel (d : Dom) : NoFuel (buildFormattingStructure d) := by
  fun_cases buildFormattingStructure d
  case case1 =>
    rename_i he
    exact fun h => by cases h; exact elementToBox_nofuel _ _ _ he
  case case2 => exact createAnonymousBoxes_nofuel _
  case case3 => exact nofun

end Wp.Bx
