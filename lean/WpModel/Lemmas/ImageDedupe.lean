/-
C13 — definitions and lemmas for `Model/ImageDedupe.lean` (C13.embedded_once): the traversal of `_use_references`
creates one image XObject per distinct placeholder name, in first-occurrence order, and every image reference
points to the object created for its name; the names in the `Resources` tree built by `add_image` / `add_group` /
`add_pattern` are those of the drawing; every drawn name has a registry entry, whose `dpi_ratios` are the ratios
requested for it, and each XObject is asked for with their maximum.
-/
import WpModel.Model.ImageDedupe
import WpModel.Lemmas.KeepFirst
import WpModel.Lemmas.Assoc
import Mathlib.Tactic.Linarith


namespace Wp.C13
open Wp Wp.ImageDedupe
open Wp.KeepFirst (firsts)

/-- Names of the image placeholders met by the traversal, in order. -/
def imageNames : List Ev → List String
  | [] => []
  | .image n :: rest => n :: imageNames rest
  | _ :: rest => imageNames rest

/-- Names of the image XObjects among the appended objects. -/
def imageObjNames : List Obj → List String
  | [] => []
  | .image n _ _ :: rest => n :: imageObjNames rest
  | _ :: rest => imageObjNames rest

theorem imageObjNames_append (a b : List Obj) : imageObjNames (a ++ b) = imageObjNames a ++ imageObjNames b := by
  induction a with
  | nil => rfl
  | cons o rest ih => cases o <;> simp [imageObjNames, ih]

theorem lookup_none_iff (name : String) (made : List (String × Nat)) :
    lookup name made = none ↔ name ∉ made.map Prod.fst := by
  induction made with
  | nil => simp [lookup]
  | cons p rest ih =>
    obtain ⟨k, v⟩ := p
    by_cases h : k = name
    · subst h; simp [lookup]
    · have h' : ¬ name = k := fun e => h e.symm
      simp [lookup, h, h', ih]

theorem lookup_append (name : String) (a b : List (String × Nat)) :
    lookup name (a ++ b) = (lookup name a).orElse fun _ => lookup name b :=
  assoc_get_append (fun d k => lookup k d) (fun _ => rfl) (fun k' v rest k => by simp [lookup]) a b name

/-- Every image reference points to the object created for its name. -/
def RefsOk (st : St) : Prop := ∀ name k, (true, name, k) ∈ st.refs → lookup name st.made = some k

theorem step_image_seen (imgs : List Entry) (st st1 : St) (name : String) (n : Nat)
    (hl : lookup name st.made = some n) (h : step imgs st (.image name) = some st1) :
    st1.made = st.made ∧ st1.objs = st.objs ∧ st1.refs = st.refs ++ [(true, name, n)] := by
  simp [step, hl] at h; subst h; simp

/-- A name not made yet: its entry is looked up, it is numbered `st.next` and referenced, and its XObject — asked for
with the largest of the entry's ratios — and, with alpha, its mask are appended. -/
theorem step_image_new (imgs : List Entry) (st st1 : St) (name : String)
    (hl : lookup name st.made = none) (h : step imgs st (.image name) = some st1) :
    ∃ e r rs, findEntry name imgs = some e ∧ e.ratios = r :: rs ∧
      st1.made = st.made ++ [(name, st.next)] ∧ st1.refs = st.refs ++ [(true, name, st.next)] ∧
      st1.objs = st.objs ++ Obj.image name e.interpolate (maxOf r rs) :: (if e.alpha then [Obj.mask name] else []) := by
  simp only [step, hl] at h
  rcases he : findEntry name imgs with _ | e
  · simp [he] at h
  · rcases hr : e.ratios with _ | ⟨r, rs⟩
    · simp [he, hr] at h
    · refine ⟨e, r, rs, rfl, hr, ?_⟩
      simp only [he, hr] at h
      split_ifs at h with ha <;> obtain rfl := Option.some.inj h <;> simp [ha]

theorem step_other (imgs : List Entry) (st st1 : St) (ev : Ev) (hev : ∀ n, ev ≠ .image n)
    (h : step imgs st ev = some st1) :
    st1.made = st.made ∧ imageObjNames st1.objs = imageObjNames st.objs ∧
    (∀ name k, (true, name, k) ∈ st1.refs → (true, name, k) ∈ st.refs) := by
  cases ev with
  | image n => exact absurd rfl (hev n)
  | _ => simp [step] at h; subst h; simp [imageObjNames_append, imageObjNames]

/-- The names made, and the image objects, grow by the first occurrences among the names met that were not made before
(`seen` = the names made so far: each step moves one name from the input to `seen`). -/
theorem run_made (imgs : List Entry) (evs : List Ev) (st st' : St) (h : run imgs evs st = some st') :
    st'.made.map Prod.fst = st.made.map Prod.fst ++ firsts id (imageNames evs) (st.made.map Prod.fst) ∧
    imageObjNames st'.objs = imageObjNames st.objs ++ firsts id (imageNames evs) (st.made.map Prod.fst) ∧
    (RefsOk st → RefsOk st') := by
  fun_induction run imgs evs st with
  | case1 st => cases h; simp [imageNames, firsts]
  | case3 ev rest st hs => cases h
  | case2 ev rest st st1 hs ih =>
      obtain ⟨i1, i2, i3⟩ := ih h
      cases ev with
      | image name =>
        rcases hl : lookup name st.made with _ | n
        · obtain ⟨e, _, _, _, _, m1, m3, ho⟩ := step_image_new imgs st st1 name hl hs
          have m2 : imageObjNames st1.objs = imageObjNames st.objs ++ [name] := by
            rw [ho, imageObjNames_append]; cases e.alpha <;> rfl
          have hnot : name ∉ st.made.map Prod.fst := (lookup_none_iff name st.made).mp hl
          refine ⟨?_, ?_, fun hok => i3 ?_⟩
          · rw [i1, m1]; simp [imageNames, firsts, hnot]
          · rw [i2, m2, m1]; simp [imageNames, firsts, hnot]
          · intro nm k hmem
            rw [m3] at hmem; rw [m1]
            rcases List.mem_append.mp hmem with hm | hm
            · rw [lookup_append, hok nm k hm]; rfl
            · simp at hm; obtain ⟨rfl, rfl⟩ := hm
              rw [lookup_append, hl]; simp [lookup]
        · obtain ⟨m1, m2, m3⟩ := step_image_seen imgs st st1 name n hl hs
          have hin : name ∈ st.made.map Prod.fst := by
            by_contra hc
            rw [(lookup_none_iff name st.made).mpr hc] at hl; cases hl
          refine ⟨?_, ?_, fun hok => i3 ?_⟩
          · rw [i1, m1]; simp [imageNames, firsts, hin]
          · rw [i2, m2, m1]; simp [imageNames, firsts, hin]
          · intro nm k hmem
            rw [m3] at hmem; rw [m1]
            rcases List.mem_append.mp hmem with hm | hm
            · exact hok nm k hm
            · simp at hm; obtain ⟨rfl, rfl⟩ := hm; exact hl
      | _ =>
        obtain ⟨m1, m2, m3⟩ := step_other imgs st st1 _ (by intro n; simp) hs
        refine ⟨by rw [i1, m1]; simp [imageNames], by rw [i2, m2, m1]; simp [imageNames], fun hok => i3 ?_⟩
        intro nm k hmem; rw [m1]; exact hok nm k (m3 nm k hmem)

theorem imageName_injective (id1 id2 : String) (b1 b2 : Bool)
    (h : imageName id1 b1 = imageName id2 b2) : id1 = id2 ∧ b1 = b2 := by
  unfold imageName at h
  have h' := congrArg String.toList h
  simp only [String.toList_append] at h'
  have hlen : ∀ b : Bool, (if b then "1" else "0").toList.length = 1 := by intro b; cases b <;> rfl
  have h2 := List.append_inj' h' (by rw [hlen, hlen])
  obtain ⟨h3, h4⟩ := h2
  have h5 := List.append_cancel_left h3
  refine ⟨String.toList_inj.mp h5, ?_⟩
  cases b1 <;> cases b2 <;> simp_all

mutual
/-- Names of the image placeholders of a `Resources` tree, in traversal order. -/
def nodeNamesList : List Node → List String
  | [] => []
  | n :: rest => nodeNames n ++ nodeNamesList rest
def nodeNames : Node → List String
  | .image name => [name]
  | .group _ xs ps => nodeNamesList xs ++ nodeNamesList ps
  | .pattern _ xs ps => nodeNamesList xs ++ nodeNamesList ps
end

mutual
/-- Names of all image draws of a drawing, in execution order. -/
def drawNamesList : List Draw → List String
  | [] => []
  | d :: rest => drawNames d ++ drawNamesList rest
def drawNames : Draw → List String
  | .image id interp _ _ => [imageName id interp]
  | .group body => drawNamesList body
  | .pattern body => drawNamesList body
end

theorem imageNames_append (a b : List Ev) : imageNames (a ++ b) = imageNames a ++ imageNames b := by
  induction a with
  | nil => rfl
  | cons e rest ih => cases e <;> simp [imageNames, ih]

mutual
theorem imageNames_flattenList : ∀ ns : List Node, imageNames (flattenList ns) = nodeNamesList ns
  | [] => by simp [flattenList, imageNames, nodeNamesList]
  | n :: rest => by
    simp [flattenList, nodeNamesList, imageNames_append, imageNames_flattenNode n, imageNames_flattenList rest]
theorem imageNames_flattenNode : ∀ n : Node, imageNames (flattenNode n) = nodeNames n
  | .image name => by simp [flattenNode, imageNames, nodeNames]
  | .group key xs ps => by
    simp [flattenNode, imageNames, nodeNames, imageNames_append, imageNames_flattenList xs, imageNames_flattenList ps]
  | .pattern key xs ps => by
    simp [flattenNode, imageNames, nodeNames, imageNames_append, imageNames_flattenList xs, imageNames_flattenList ps]
end

theorem nodeNamesList_append (a b : List Node) : nodeNamesList (a ++ b) = nodeNamesList a ++ nodeNamesList b := by
  induction a with
  | nil => simp [nodeNamesList]
  | cons n rest ih => simp [nodeNamesList, ih]

theorem any_isImageNamed (name : String) (xs : List Node) (h : xs.any (Node.isImageNamed name) = true) :
    name ∈ nodeNamesList xs := by
  induction xs with
  | nil => simp at h
  | cons n rest ih =>
    simp only [List.any_cons, Bool.or_eq_true] at h
    simp only [nodeNamesList, List.mem_append]
    rcases h with h | h
    · left
      cases n with
      | image m => simp [Node.isImageNamed] at h; subst h; simp [nodeNames]
      | group _ _ _ => simp [Node.isImageNamed] at h
      | pattern _ _ _ => simp [Node.isImageNamed] at h
    · exact Or.inr (ih h)

mutual
theorem buildList_names : ∀ (ds : List Draw) (xs ps : List Node) (n : String),
    n ∈ nodeNamesList (buildList ds xs ps).1 ++ nodeNamesList (buildList ds xs ps).2 ↔
    (n ∈ nodeNamesList xs ++ nodeNamesList ps) ∨ n ∈ drawNamesList ds
  | [], xs, ps, n => by simp [buildList, drawNamesList]
  | d :: rest, xs, ps, n => by
    simp only [buildList, drawNamesList]
    rw [buildList_names rest _ _ n, buildOne_names d xs ps n, List.mem_append (s := drawNames d), or_assoc]
theorem buildOne_names : ∀ (d : Draw) (xs ps : List Node) (n : String),
    n ∈ nodeNamesList (buildOne d xs ps).1 ++ nodeNamesList (buildOne d xs ps).2 ↔
    (n ∈ nodeNamesList xs ++ nodeNamesList ps) ∨ n ∈ drawNames d
  | .image id interp ratio alpha, xs, ps, n => by
    simp only [buildOne, drawNames]
    by_cases hany : xs.any (Node.isImageNamed (imageName id interp)) = true
    · -- an old key keeps its place: the name is already among those of `xs`
      have := any_isImageNamed _ xs hany
      simp only [hany, if_true, List.mem_append, List.mem_singleton]
      exact ⟨Or.inl, fun h => h.elim (fun h => h) (fun h => Or.inl (h ▸ this))⟩
    · rw [if_neg hany]
      simp only [nodeNamesList_append, nodeNamesList, nodeNames, List.mem_append, List.mem_singleton, List.append_nil]
      exact or_right_comm
  | .group body, xs, ps, n => by
    have ih := buildList_names body [] [] n
    simp only [nodeNamesList, List.append_nil, List.mem_append, List.not_mem_nil, false_or] at ih
    simp only [buildOne, drawNames, nodeNamesList_append, nodeNamesList, nodeNames, List.mem_append, List.append_nil]
    rw [ih]
    exact or_right_comm
  | .pattern body, xs, ps, n => by
    have ih := buildList_names body [] [] n
    simp only [nodeNamesList, List.append_nil, List.mem_append, List.not_mem_nil, false_or] at ih
    simp only [buildOne, drawNames, nodeNamesList_append, nodeNamesList, nodeNames, List.mem_append, List.append_nil]
    rw [ih, or_assoc]
end

/-- `images[name]` exists and its `dpi_ratios` set is not empty. -/
def HasEntry (n : String) (imgs : List Entry) : Prop := ∃ e, findEntry n imgs = some e ∧ e.ratios ≠ []

theorem findEntry_eq_find? (n : String) (imgs : List Entry) : findEntry n imgs = imgs.find? (·.name == n) := by
  induction imgs with
  | nil => rfl
  | cons e rest ih => simp only [findEntry, List.find?_cons, ih]; cases e.name == n <;> rfl

theorem any_iff_findEntry (n : String) (imgs : List Entry) :
    imgs.any (·.name == n) = true ↔ ∃ e, findEntry n imgs = some e := by
  rw [findEntry_eq_find?, ← Option.isSome_iff_exists, List.find?_isSome, List.any_eq_true]

theorem findEntry_name (n : String) (imgs : List Entry) (e : Entry) (h : findEntry n imgs = some e) : e.name = n := by
  rw [findEntry_eq_find?] at h
  exact eq_of_beq (List.find?_some (p := fun x : Entry => x.name == n) h)

theorem findEntry_none (n : String) (imgs : List Entry) (h : ¬ imgs.any (·.name == n) = true) :
    findEntry n imgs = none := by
  rw [findEntry_eq_find?, List.find?_eq_none]
  exact fun x hx hn => h (List.any_eq_true.mpr ⟨x, hx, hn⟩)

/-- `self._images[image_name]['dpi_ratios'].add(ratio)` on one entry. -/
def bump (name : String) (ratio : Rat) (e : Entry) : Entry :=
  if e.name == name then { e with ratios := e.ratios ++ [ratio] } else e

theorem bump_name (name : String) (ratio : Rat) (e : Entry) : (bump name ratio e).name = e.name := by
  unfold bump; split_ifs <;> rfl

theorem findEntry_map_bump (n name : String) (ratio : Rat) (imgs : List Entry) :
    findEntry n (imgs.map (bump name ratio)) = (findEntry n imgs).map (bump name ratio) := by
  rw [findEntry_eq_find?, findEntry_eq_find?, List.find?_map]
  simp only [Function.comp_def, bump_name]

theorem register_eq (imgs : List Entry) (id : String) (interp : Bool) (ratio : Rat) (alpha : Bool) :
    register imgs id interp ratio alpha =
      if imgs.any (·.name == imageName id interp) then imgs.map (bump (imageName id interp) ratio)
      else imgs ++ [⟨imageName id interp, id, interp, alpha, [ratio]⟩] := rfl

theorem findEntry_append (n : String) (a b : List Entry) :
    findEntry n (a ++ b) = (findEntry n a).orElse (fun _ => findEntry n b) := by
  rw [findEntry_eq_find?, findEntry_eq_find?, findEntry_eq_find?, List.find?_append]
  cases List.find? (·.name == n) a <;> rfl

theorem run_total (imgs : List Entry) (evs : List Ev) (st : St)
    (h : ∀ n ∈ imageNames evs, HasEntry n imgs) : ∃ st', run imgs evs st = some st' := by
  fun_induction run imgs evs st with
  | case1 st => exact ⟨st, rfl⟩
  | case2 ev rest st st1 hs ih =>
    refine ih fun n hn => h n ?_
    cases ev <;> simp [imageNames, hn]
  | case3 ev rest st hs =>
    -- a step fails only on an image whose entry is missing or empty
    cases ev with
    | image name =>
      obtain ⟨e, he, hr⟩ := h name (by simp [imageNames])
      rcases hl : lookup name st.made with _ | n
      · rcases hrs : e.ratios with _ | ⟨r, rs⟩
        · exact absurd hrs hr
        · by_cases ha : e.alpha <;> simp [step, hl, he, hrs, ha] at hs
      · simp [step, hl] at hs
    | _ => simp [step] at hs

mutual
/-- The dpi ratios requested for the image named `n`, in drawing order. -/
def ratiosOfList (n : String) : List Draw → List Rat
  | [] => []
  | d :: rest => ratiosOf n d ++ ratiosOfList n rest
def ratiosOf (n : String) : Draw → List Rat
  | .image id interp ratio _ => if imageName id interp = n then [ratio] else []
  | .group body => ratiosOfList n body
  | .pattern body => ratiosOfList n body
end

/-- `images[name]['dpi_ratios']` (empty when the name is not registered). -/
def entryRatios (n : String) (imgs : List Entry) : List Rat :=
  match findEntry n imgs with
  | some e => e.ratios
  | none => []

theorem entryRatios_register (n : String) (imgs : List Entry) (id : String) (interp : Bool) (ratio : Rat) (alpha : Bool) :
    entryRatios n (register imgs id interp ratio alpha) =
      entryRatios n imgs ++ (if imageName id interp = n then [ratio] else []) := by
  rw [register_eq]
  unfold entryRatios
  by_cases hany : imgs.any (·.name == imageName id interp) = true
  · simp only [hany, if_true, findEntry_map_bump]
    rcases hf : findEntry n imgs with _ | e
    · have hne : ¬ imageName id interp = n := by
        rintro rfl
        obtain ⟨e, he⟩ := (any_iff_findEntry _ imgs).mp hany
        rw [he] at hf; cases hf
      simp [hne]
    · have hn : e.name = n := findEntry_name n imgs e hf
      by_cases hnn : imageName id interp = n
      · simp [bump, hn, hnn]
      · have : ¬ e.name = imageName id interp := by rw [hn]; exact fun h => hnn h.symm
        simp [bump, this, hnn]
  · have hf : imgs.any (·.name == imageName id interp) = false := by simpa using hany
    have hnone := findEntry_none (imageName id interp) imgs hany
    simp only [hf, Bool.false_eq_true, if_false, findEntry_append]
    by_cases hnn : imageName id interp = n
    · subst hnn; simp [hnone, findEntry]
    · rcases findEntry n imgs with _ | e <;> simp [findEntry, hnn]

mutual
theorem entryRatios_registerAll : ∀ (n : String) (ds : List Draw) (imgs : List Entry),
    entryRatios n (registerAll ds imgs) = entryRatios n imgs ++ ratiosOfList n ds
  | n, [], imgs => by simp [registerAll, ratiosOfList]
  | n, d :: rest, imgs => by
    simp only [registerAll, ratiosOfList]
    rw [entryRatios_registerAll n rest, entryRatios_registerOne n d imgs, List.append_assoc]
theorem entryRatios_registerOne : ∀ (n : String) (d : Draw) (imgs : List Entry),
    entryRatios n (registerOne d imgs) = entryRatios n imgs ++ ratiosOf n d
  | n, .image id interp ratio alpha, imgs => by
    simp only [registerOne, ratiosOf]; exact entryRatios_register n imgs id interp ratio alpha
  | n, .group body, imgs => by simp only [registerOne, ratiosOf]; exact entryRatios_registerAll n body imgs
  | n, .pattern body, imgs => by simp only [registerOne, ratiosOf]; exact entryRatios_registerAll n body imgs
end

theorem hasEntry_iff (n : String) (imgs : List Entry) : HasEntry n imgs ↔ entryRatios n imgs ≠ [] := by
  unfold HasEntry entryRatios
  rcases findEntry n imgs with _ | e
  · exact ⟨fun ⟨_, h, _⟩ => (nomatch h), fun h => absurd rfl h⟩
  · exact ⟨fun ⟨_, h, hr⟩ => Option.some.inj h ▸ hr, fun h => ⟨e, rfl, h⟩⟩

mutual
theorem ratiosOfList_ne_nil : ∀ (n : String) (ds : List Draw), n ∈ drawNamesList ds → ratiosOfList n ds ≠ []
  | n, [], h => nomatch h
  | n, d :: rest, h => by
    simp only [drawNamesList, List.mem_append] at h
    simp only [ratiosOfList, ne_eq, List.append_eq_nil_iff, not_and_or]
    exact h.imp (ratiosOf_ne_nil n d) (ratiosOfList_ne_nil n rest)
theorem ratiosOf_ne_nil : ∀ (n : String) (d : Draw), n ∈ drawNames d → ratiosOf n d ≠ []
  | n, .image id interp ratio alpha, h => by
    simp only [drawNames, List.mem_singleton] at h
    simp [ratiosOf, h]
  | n, .group body, h => ratiosOfList_ne_nil n body h
  | n, .pattern body, h => ratiosOfList_ne_nil n body h
end

/-! A name has an entry as soon as a ratio is recorded for it, so what the registry holds for the drawn names follows
from `entryRatios_registerOne` / `entryRatios_registerAll`. -/

theorem registerOne_hasEntry : ∀ (d : Draw) (imgs : List Entry),
    (∀ n, HasEntry n imgs → HasEntry n (registerOne d imgs)) ∧
    (∀ n ∈ drawNames d, HasEntry n (registerOne d imgs)) := by
  intro d imgs
  simp only [hasEntry_iff, entryRatios_registerOne, ne_eq, List.append_eq_nil_iff, not_and_or]
  exact ⟨fun n h => Or.inl h, fun n h => Or.inr (ratiosOf_ne_nil n d h)⟩

theorem registerAll_hasEntry (ds : List Draw) (imgs : List Entry) (n : String) (h : n ∈ drawNamesList ds) :
    HasEntry n (registerAll ds imgs) := by
  rw [hasEntry_iff, entryRatios_registerAll]
  exact fun e => ratiosOfList_ne_nil n ds h (List.append_eq_nil_iff.mp e).2

theorem imageNames_events (draws : List Draw) (n : String) :
    n ∈ imageNames (events (buildList draws [] []).1 (buildList draws [] []).2) ↔ n ∈ drawNamesList draws := by
  have := buildList_names draws [] [] n
  simp only [nodeNamesList, List.append_nil, List.not_mem_nil, false_or] at this
  rw [events, imageNames_append, imageNames_flattenList, imageNames_flattenList]
  exact this

/-- `_use_references` on a whole document succeeds; the image objects it appends are the first occurrences of the image
names in the order of the traversal, `made` lists the same names in the same order, and the references are right. -/
theorem document_objs (draws : List Draw) (base : Nat) :
    ∃ st, document draws base = some st ∧
      imageObjNames st.objs = firsts id (imageNames (events (buildList draws [] []).1 (buildList draws [] []).2)) [] ∧
      st.made.map Prod.fst = imageObjNames st.objs ∧ RefsOk st := by
  obtain ⟨st, hst⟩ := run_total (registerAll draws []) _ ⟨base, [], [], []⟩
    fun n hn => registerAll_hasEntry draws [] n ((imageNames_events draws n).mp hn)
  obtain ⟨m1, m2, m3⟩ := run_made _ _ _ st hst
  simp only [List.map_nil, List.nil_append, imageObjNames] at m1 m2
  exact ⟨st, hst, m2, by rw [m1, m2], m3 (by intro _ _ h; simp at h)⟩

/-- Every image XObject was asked for with the largest dpi ratio registered for its name. -/
def RatiosOk (imgs : List Entry) (objs : List Obj) : Prop :=
  ∀ n b r, Obj.image n b r ∈ objs → ∃ r0 rs, entryRatios n imgs = r0 :: rs ∧ r = maxOf r0 rs

theorem step_ratios (imgs : List Entry) (st st1 : St) (ev : Ev) (h : step imgs st ev = some st1)
    (hok : RatiosOk imgs st.objs) : RatiosOk imgs st1.objs := by
  cases ev with
  | image name =>
    rcases hl : lookup name st.made with _ | n
    · obtain ⟨e, r, rs, he, hr, _, _, ho⟩ := step_image_new imgs st st1 name hl h
      intro n' b' r' hmem
      rw [ho, List.mem_append, List.mem_cons] at hmem
      rcases hmem with hm | hm | hm
      · exact hok n' b' r' hm
      · cases hm; exact ⟨r, rs, by simp [entryRatios, he, hr], rfl⟩
      · split_ifs at hm <;> simp at hm
    · rw [(step_image_seen imgs st st1 name n hl h).2.1]; exact hok
  | _ =>
    simp [step] at h; subst h
    intro n b r hmem; simp at hmem; exact hok n b r hmem

theorem run_ratios (imgs : List Entry) (evs : List Ev) (st st' : St) (h : run imgs evs st = some st')
    (hok : RatiosOk imgs st.objs) : RatiosOk imgs st'.objs := by
  fun_induction run imgs evs st with
  | case1 st => cases h; exact hok
  | case2 ev rest st st1 hs ih => exact ih h (step_ratios imgs st st1 ev hs hok)
  | case3 ev rest st hs => cases h

end Wp.C13
