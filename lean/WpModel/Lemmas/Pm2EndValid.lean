/-
For documents without fixed heights: a layout that returns no resume position returns a fragment that ends
like its box (`EndOk`: same `break-after` chain, same last page name — so `meetBreak` on the fragment reads the
source values), and a layout that returns a resume position returns a valid one.
-/
import WpModel.Lemmas.Pm2Break
import WpModel.Lemmas.SegmentBlock
import WpModel.Lemmas.KidsLoop

namespace Wp.PM
open Wp

/-- Shape, resume position and pending break of what `finishBlock` returns (no fixed height). -/
theorem finishBlock_shape {c : Ctx} {st : PStyle} {p : Prep} {pie : Bool} {id idx : Nat} {out : KidsOutcome}
    {f : Frag} (hh : st.height = none) (h : (finishBlock c st p pie id idx out).frag = some f) :
    (∃ g, f = .block id idx st g out.state.newChildren) ∧
    (finishBlock c st p pie id idx out).resume = outResume out ∧
    (∀ pg, out.state.nextPage.page = some pg → (finishBlock c st p pie id idx out).nextPage = out.state.nextPage) := by
  obtain ⟨resume, cur, curIsL, he, hres⟩ := finishBlock_eq c st p pie id idx out f h
  refine ⟨finishBlock_frag h, ?_, ?_⟩
  · rw [he] at h ⊢
    rw [(finishContainer_geo h).2.1, hres hh]
  · intro pg hpg
    rw [he] at h ⊢
    unfold finishContainer at h ⊢
    split
    · rename_i hc; rw [if_pos hc] at h; cases h
    · simp only [hpg]

/-- What the children loop guarantees about the end of the children and about the resume position. -/
def KidsEV (all fin : List PBox) : KidsOutcome → Prop
  | .finished s' => EndOkLast s'.newChildren fin
  | .aborted _ _ => True
  | .stopped ρ _ => ValidKids all (skipIdxOf ρ) (subSkipOf ρ)

theorem validKids_at (pre B : List PBox) (child : PBox) (rest : List PBox) (index i0 : Nat) (sub : Option Resume)
    (hpre : pre.length = i0) (hidx : index = i0 + B.length) (hv : Valid child sub) :
    ValidKids (pre ++ (B ++ child :: rest)) index sub := by
  rw [hidx, ← hpre, validKids_append]
  have := (validKids_append B (child :: rest) 0 sub).mpr (by simpa [ValidKids] using hv)
  simpa using this

/-- `box_ev` for one box, as the children loop of its parent assumes it. -/
def BoxEV (box : PBox) : Prop :=
  Good box → ∀ (c : Ctx) (idx : Nat) (y bs : Rat) (skip : Option Resume) (cb pie : Bool) (adjL : List Rat),
    Valid box skip → ∀ f, (layoutBox c box idx y bs skip cb pie adjL).frag = some f →
      ((layoutBox c box idx y bs skip cb pie adjL).resume = none → EndOk f box) ∧
      (∀ ρ, (layoutBox c box idx y bs skip cb pie adjL).resume = some ρ → Valid box (some ρ))

/-- The ways a visited child ends the loop: the layout is given up, goes back to an earlier break (a valid position
among the placed children), stops before the child, or the child is placed and continued. -/
theorem Placed.stops {s : KidsLoop} {B : List PBox} {i0 : Nat} {sub0 : Option Resume} {index : Nat}
    (h : Placed s B i0 sub0 index) (c : Ctx) (st : PStyle) (child : PBox) (rest : List PBox) (bs : Rat) (pie : Bool)
    (pb : Brk) (hv : ∀ x, (B ++ child :: rest).head? = some x → Valid x sub0) (out : KidsOutcome) (s3 : KidsLoop)
    (heq : concludeKid index pie pb child (kidResult c st child index bs pie s).2.2
      (kidResult c st child index bs pie s).1 (kidResult c st child index bs pie s).2.1.resume = (some out, s3)) :
    (∃ page s', out = .aborted page s') ∨
    (∃ m sub s', out = .stopped (some (.node (i0 + m) sub)) s' ∧ ValidKids B m sub) ∨
    (∃ s', out = .stopped (some (.node index none)) s') ∨
    (∃ f r', (kidResult c st child index bs pie s).1 = some f ∧
      (kidResult c st child index bs pie s).2.1.resume = some r' ∧
      out = .stopped (some (.node index (some r')))
        { (kidResult c st child index bs pie s).2.2 with
          newChildren := (kidResult c st child index bs pie s).2.2.newChildren ++ [f.withIdx index] }) := by
  rcases conclude_stop heq with
    ⟨_, ⟨kept, r', hfound, rfl⟩ | ⟨rfl, _⟩ | ⟨_, rfl⟩⟩ | ⟨f, r', hf, hr, rfl⟩
  · obtain ⟨_, _, _, _, hnc, _⟩ := kidResult_spec c st child index bs pie s
    rw [hnc] at hfound
    obtain ⟨m, sub', rfl, hm⟩ := findEarlierGo_valid _ _ _ _ h.full
      (fun b hb => hv b (by cases B with | nil => cases hb | cons _ _ => exact hb)) kept r' hfound
    exact .inr (.inl ⟨m, sub', _, rfl, hm⟩)
  · exact .inl ⟨_, _, rfl⟩
  · exact .inr (.inr (.inl ⟨_, rfl⟩))
  · exact .inr (.inr (.inr ⟨f, r', hf, hr, rfl⟩))

/-- A child after which the loop goes on was placed whole and the pending resume position is untouched;
nothing is asked of the children placed before it beyond `FullFrom`. -/
theorem conclude_goes_on {index : Nat} {pie : Bool} {pb : Brk} {child : PBox} {s s3 : KidsLoop}
    {frag : Option Frag} {resume : Option Resume} {B : List PBox} {i0 : Nat} {sub0 : Option Resume}
    (hinv : FullFrom s.newChildren B i0 sub0) (hidx : index = i0 + B.length)
    (hchild : BoxPost child (if B = [] then sub0 else none) frag resume)
    (h : concludeKid index pie pb child s frag resume = (none, s3)) :
    FullFrom s3.newChildren (B ++ [child]) i0 sub0 ∧ s3.skip = s.skip := by
  obtain ⟨f, rfl, rfl, rfl⟩ := conclude_continue h
  exact ⟨fullFrom_snoc _ _ _ _ _ _ hinv (full_withIdx _ _ _ _ (hchild f rfl)) (by simp [hidx]), rfl⟩

/-- One visited child that no forced break precedes: the `block_level_layout` call its result comes from, and
the state of the loop if it goes on (the last placed fragment then ends like its box if it did before). -/
theorem Placed.visit {s : KidsLoop} {B : List PBox} {i0 : Nat} {sub0 : Option Resume} {index : Nat}
    (h : Placed s B i0 sub0 index) (c : Ctx) (st : PStyle) (child : PBox) (rest : List PBox) (bs : Rat) (pie : Bool)
    (pb : Brk) (hg : Good child) (hev : BoxEV child) (hv : ∀ x, (B ++ child :: rest).head? = some x → Valid x sub0) :
    Valid child s.skip ∧
    (∀ f ρ, (kidResult c st child index bs pie s).1 = some f →
      (kidResult c st child index bs pie s).2.1.resume = some ρ → Valid child (some ρ)) ∧
    ∀ s3, concludeKid index pie pb child (kidResult c st child index bs pie s).2.2
        (kidResult c st child index bs pie s).1 (kidResult c st child index bs pie s).2.1.resume = (none, s3) →
      Placed s3 (B ++ [child]) i0 sub0 (index + 1) ∧
        (EndOkLast s.newChildren B → EndOkLast s3.newChildren (B ++ [child])) := by
  obtain ⟨bs', adj, hR, hfr, hnc, _, hsk, _⟩ := kidResult_spec c st child index bs pie s
  generalize kidResult c st child index bs pie s = kr at hR hfr hnc hsk ⊢
  obtain ⟨frag, R, s2⟩ := kr
  simp only at hR hfr hnc hsk ⊢
  have hvchild : Valid child s.skip := by
    rw [h.skip_eq]
    split
    · rename_i hB; subst hB; exact hv child rfl
    · exact valid_none child
  have hinv2 : FullFrom s2.newChildren B i0 sub0 := by rw [hnc]; exact h.full
  have hbev : ∀ f, frag = some f → (R.resume = none → EndOk f child) ∧ ∀ ρ, R.resume = some ρ → Valid child (some ρ) := by
    intro f hf
    rcases hfr with e | e
    · rw [e] at hf; cases hf
    · rw [e, hR] at hf
      rw [hR]
      exact hev hg _ _ _ _ _ _ _ _ hvchild f hf
  refine ⟨hvchild, fun f ρ hf hρ => (hbev f hf).2 ρ hρ, fun s3 heq => ?_⟩
  have hchild : BoxPost child (if B = [] then sub0 else none) frag R.resume := by
    rcases hfr with e | e
    · rw [e]; exact boxPost_none _ _ _
    · rw [e, hR, ← h.skip_eq]; exact box_spec child hg _ _ _ _ _ _ _ _
  have hcs := conclude_goes_on hinv2 h.index_eq hchild heq
  obtain ⟨f, hf, hrn, hs3⟩ := conclude_continue heq
  have hfe : EndOk f child := (hbev f hf).1 hrn
  refine ⟨⟨hcs.1, ?_, ?_⟩, fun _ => ?_⟩
  · rw [h.index_eq, List.length_append, List.length_singleton, Nat.add_assoc]
  · rw [hcs.2, hsk, if_neg (List.append_ne_nil_of_right_ne_nil B (List.cons_ne_nil child []))]
  · rw [hs3, hnc]
    apply endOkLast_snoc
    unfold EndOk at hfe ⊢
    rwa [fragAfterChain_withIdx, fragPageEnd_withIdx]

theorem Placed.kids_ev (c : Ctx) (st : PStyle) (bs : Rat) (pie : Bool) (i0 : Nat) (sub0 : Option Resume)
    (pre : List PBox) (hpre : pre.length = i0) :
    (rest : List PBox) → GoodList rest → (∀ k ∈ rest, BoxEV k) → ∀ (B : List PBox) (index : Nat) (s : KidsLoop),
    Placed s B i0 sub0 index → EndOkLast s.newChildren B → (∀ x, (B ++ rest).head? = some x → Valid x sub0) →
    KidsEV (pre ++ (B ++ rest)) (B ++ rest) (layoutKids c st rest index i0 bs pie s)
  | [] => by
    intro _ _ B index s _ hend _
    simpa [layoutKids, KidsEV] using hend
  | child :: rest => by
    intro hg hev B index s hp hend hv
    rw [layoutKids_cons hp.not_skipped]
    split
    · exact validKids_at pre B child rest index i0 none hpre hp.index_eq (valid_none child)
    · obtain ⟨_, hres, hnext⟩ :=
        hp.visit c st child rest bs pie (meetBreak s child).1 hg.1 (hev child List.mem_cons_self) hv
      split
      · rename_i out s3 heq
        rcases hp.stops c st child rest bs pie _ hv out s3 heq with ⟨_, _, rfl⟩ | ⟨m, sub, _, rfl, hm⟩ | ⟨_, rfl⟩ | ⟨f, r', hf, hr, rfl⟩
        · trivial
        · simp only [KidsEV, skipIdxOf_node, subSkipOf_node]
          rw [← hpre, validKids_append]
          exact validKids_append_left _ hm
        · exact validKids_at pre B child rest index i0 none hpre hp.index_eq (valid_none child)
        · exact validKids_at pre B child rest index i0 (some r') hpre hp.index_eq (hres f r' hf hr)
      · rename_i s3 heq
        have happ : (B ++ [child]) ++ rest = B ++ child :: rest := List.append_assoc B [child] rest
        rw [← happ] at hv ⊢
        exact Placed.kids_ev c st bs pie i0 sub0 pre hpre rest hg.2 (fun k hk => hev k (List.mem_cons_of_mem _ hk))
          (B ++ [child]) (index + 1) s3 (hnext s3 heq).1 ((hnext s3 heq).2 hend) hv

/-- **`EndOk` / valid resume positions of `block_level_layout`** (no fixed heights, `orphans, widows ≥ 1`,
valid skip position). -/
theorem box_ev : ∀ box, BoxEV box := by
  refine PBox.induct ?_ ?_
  · intro id n lineH st _ c idx y bs skip cb pie adjL _ f hf
    simp only [layoutBox] at hf
    obtain ⟨g, rfl⟩ := finishPara_frag hf
    exact ⟨fun _ => ⟨rfl, rfl⟩, fun _ _ => by simp [Valid]⟩
  · intro id st kids ih hg c idx y bs skip cb pie adjL hv f hf
    simp only [Good] at hg
    simp only [layoutBox] at hf ⊢
    generalize prepare c st y bs skip cb pie adjL = p at hf ⊢
    obtain ⟨⟨g, rfl⟩, hres, _⟩ := finishBlock_shape hg.1 hf
    rw [hres]
    cases kids with
    | nil =>
      simp only [layoutKids, outResume, KidsOutcome.state, true_implies]
      exact ⟨⟨rfl, rfl⟩, by intro ρ h; cases h⟩
    | cons k0 ks =>
    have hvk : ValidKids (k0 :: ks) (skipIdxOf skip) (subSkipOf skip) := by
      simp only [Valid] at hv
      exact hv.resolve_left (List.cons_ne_nil _ _)
    have hlt := validKids_lt hvk
    generalize hs0 : KidsLoop.mk [] p.posY p.adjL p.cur p.curIsL _ (subSkipOf skip) = s0 at hf hres ⊢
    have hnc : s0.newChildren = [] := by rw [← hs0]
    have hsk : s0.skip = subSkipOf skip := by rw [← hs0]
    have hk := Placed.kids_ev c st p.bs pie (skipIdxOf skip) (subSkipOf skip) ((k0 :: ks).take (skipIdxOf skip))
      (by rw [List.length_take]; omega) ((k0 :: ks).drop (skipIdxOf skip)) (goodList_drop _ _ hg.2)
      (fun k hk => ih k (List.mem_of_mem_drop hk)) [] _ s0 (hsk ▸ placed_start _ _ hnc) (hnc ▸ endOkLast_nil)
      (validKids_head_drop hvk)
    have hstart := layoutKids_start c st p.bs pie s0 (skipIdxOf skip) (k0 :: ks) 0
    rw [Nat.zero_add] at hstart
    rw [← hstart, List.nil_append, List.take_append_drop] at hk
    have hpost := kids_spec (k0 :: ks) hg.2 c st [] (skipIdxOf skip) (subSkipOf skip) 0 (skipIdxOf skip)
      p.bs pie s0 trivial (hnc ▸ rfl) (fun _ => ⟨rfl, rfl⟩) (fun h => (Nat.le_zero.mp h).symm ▸ rfl) hsk
    generalize layoutKids c st (k0 :: ks) 0 (skipIdxOf skip) _ pie _ = out at hk hf hres hpost ⊢
    cases out with
    | aborted page s => simp [finishBlock, abortResult] at hf
    | finished s' =>
      simp only [KidsEV] at hk
      simp only [outResume, KidsOutcome.state, true_implies]
      refine ⟨?_, by intro ρ h; cases h⟩
      unfold EndOk
      simp only [fragAfterChain, boxAfterChain, fragPageEnd, boxPageEnd]
      have hne : (k0 :: ks).drop (skipIdxOf skip) ≠ [] := by
        intro he
        have := congrArg List.length he
        simp at this; simp at hlt; omega
      have h1 := boxAfterChainLast_append ((k0 :: ks).take (skipIdxOf skip)) _ hne
      have h2 := boxPageEndLast_append ((k0 :: ks).take (skipIdxOf skip)) _ hne
      rw [List.take_append_drop] at h1 h2
      rw [hk.1, hk.2, ← h1, ← h2]
      exact ⟨rfl, rfl⟩
    | stopped ρ s' =>
      simp only [KidsEV] at hk
      simp only [outResume]
      refine ⟨fun h => ?_, fun ρ' h => ?_⟩
      · subst h
        obtain ⟨m, hsome, _⟩ := hpost
        simp at hsome
      · subst h
        simp only [Valid]
        right; exact hk

/-- `Placed.kids_ev` for any call of the loop (`index`, `skipIdx`, `B`, `i0` as in `kids_spec`). -/
theorem kids_ev : (rest : List PBox) → GoodList rest → ∀ (c : Ctx) (st : PStyle) (pre B : List PBox) (i0 : Nat)
    (sub0 : Option Resume) (index skipIdx : Nat) (bs : Rat) (pie : Bool) (s : KidsLoop),
    GoodList B → FullFrom s.newChildren B i0 sub0 → EndOkLast s.newChildren B →
    (index < skipIdx → B = [] ∧ i0 = skipIdx) → (skipIdx ≤ index → index = i0 + B.length) →
    s.skip = (if B = [] then sub0 else none) → pre.length = i0 →
    (∀ b, B.head? = some b → Valid b sub0) →
    (B = [] → ∀ child, (rest.drop (skipIdx - index)).head? = some child → Valid child sub0) →
    KidsEV (pre ++ (B ++ rest.drop (skipIdx - index))) (B ++ rest.drop (skipIdx - index))
      (layoutKids c st rest index skipIdx bs pie s) := by
  intro rest hg c st pre B i0 sub0 index skipIdx bs pie s hgB hinv hend hlt hge hskip hpre hBv hcv
  rw [layoutKids_normal c st bs pie rest B index skipIdx i0 s hlt hge]
  exact Placed.kids_ev c st bs pie i0 sub0 pre hpre _ (goodList_drop rest _ hg) (fun k _ => box_ev k) B _ s
    ⟨hinv, rfl, hskip⟩ hend (by cases B with | nil => exact hcv rfl | cons _ _ => exact hBv)

end Wp.PM
