/-
Helper lemmas for the `Props/C10*.lean` files: sums of rational lists, the
selection sums of `distribute_excess_width`, pointwise order of lists.
-/
import Mathlib.Tactic.Linarith
import Mathlib.Tactic.Ring
import WpModel.Model.TableWidths
import WpModel.Lemmas.Basic.Rat
import WpModel.Lemmas.Basic.List

namespace Wp.Table

@[simp] theorem sumR_nil : sumR [] = 0 := rfl
@[simp] theorem sumR_cons (x : Rat) (xs : List Rat) : sumR (x :: xs) = x + sumR xs := rfl

theorem sumR_append (a b : List Rat) : sumR (a ++ b) = sumR a + sumR b := by
  induction a with
  | nil => simp
  | cons x xs ih => simp [ih]; ring

theorem sumR_map_add (l : List Rat) (c : Rat) :
    sumR (l.map (· + c)) = sumR l + (l.length : Rat) * c := by
  induction l with
  | nil => simp
  | cons x xs ih => simp [ih]; ring

theorem sumR_map_const_add (l : List Rat) (c : Rat) :
    sumR (l.map (c + ·)) = sumR l + (l.length : Rat) * c := by
  rw [show (c + ·) = (· + c) from funext fun x => add_comm c x, sumR_map_add]

theorem sumR_nonneg (l : List Rat) (h : ∀ x ∈ l, 0 ≤ x) : 0 ≤ sumR l := by
  induction l with
  | nil => simp
  | cons x xs ih =>
    simp only [sumR_cons]
    have h1 := h x (by simp)
    have h2 := ih (fun y hy => h y (by simp [hy]))
    linarith

theorem sumR_take_succ (l : List Rat) (i : Nat) (h : i < l.length) :
    sumR (l.take (i + 1)) = sumR (l.take i) + l[i] := by
  rw [List.take_succ_eq_append_getElem h, sumR_append]; simp

theorem sumR_take_add_drop (l : List Rat) (i : Nat) : sumR (l.take i) + sumR (l.drop i) = sumR l := by
  rw [← sumR_append, List.take_append_drop]

theorem sumR_take_drop (cw : List Rat) (g k : Nat) :
    sumR ((cw.drop g).take k) = sumR (cw.take (g + k)) - sumR (cw.take g) := by
  rw [List.take_add, sumR_append]; ring

theorem sumR_take_mono (cw : List Rat) (hnn : ∀ w ∈ cw, 0 ≤ w) (a b : Nat) (hab : a ≤ b) :
    sumR (cw.take a) ≤ sumR (cw.take b) := by
  -- the first `b` widths are the first `a` of them and non-negative further ones
  have h := sumR_take_add_drop (cw.take b) a
  rw [List.take_take, Nat.min_eq_left hab] at h
  have := sumR_nonneg ((cw.take b).drop a)
    (fun v hv => hnn v (List.mem_of_mem_take (List.mem_of_mem_drop hv)))
  linarith

/-- Python's `max(xs)` as a fold from the first element is above every element. -/
theorem le_foldl_pyMax (y : Rat) (ys : List Rat) :
    ∀ x ∈ y :: ys, x ≤ ys.foldl (fun a b => if b > a then b else a) y :=
  List.forall_mem_cons.mpr (List.foldl_bound (r := fun a b : Rat => a ≤ b) (g := id) (fun _ => Rat.le_refl) Rat.le_trans
    (fun a b : Rat => (Rat.le_ite_gt b a).2) (fun a b : Rat => (Rat.le_ite_gt b a).1) ys y)

/-- `a ≤ b` pointwise (same length). -/
def LeList : List Rat → List Rat → Prop
  | [], [] => True
  | x :: xs, y :: ys => x ≤ y ∧ LeList xs ys
  | _, _ => False

theorem LeList.length_eq : ∀ {a b : List Rat}, LeList a b → a.length = b.length
  | [], [], _ => rfl
  | _ :: _, _ :: _, h => congrArg (· + 1) (LeList.length_eq h.2)
  | [], _ :: _, h => h.elim
  | _ :: _, [], h => h.elim

theorem LeList.sum_le : ∀ {a b : List Rat}, LeList a b → sumR a ≤ sumR b
  | [], [], _ => by simp
  | x :: xs, y :: ys, h => by
    have := LeList.sum_le h.2
    simp only [sumR_cons]; linarith [h.1]
  | [], _ :: _, h => h.elim
  | _ :: _, [], h => h.elim

theorem LeList.eq_of_sum_eq : ∀ {a b : List Rat}, LeList a b → sumR a = sumR b → a = b
  | [], [], _, _ => rfl
  | x :: xs, y :: ys, h, hs => by
    have hle := LeList.sum_le h.2
    simp only [sumR_cons] at hs
    have hxy : x = y := by linarith [h.1]
    have : sumR xs = sumR ys := by linarith
    rw [hxy, LeList.eq_of_sum_eq h.2 this]
  | [], _ :: _, h, _ => h.elim
  | _ :: _, [], h, _ => h.elim

theorem LeList.refl : ∀ (a : List Rat), LeList a a
  | [] => trivial
  | _ :: xs => ⟨le_refl _, LeList.refl xs⟩

theorem LeList.trans : ∀ {a b c : List Rat}, LeList a b → LeList b c → LeList a c
  | [], [], [], _, _ => trivial
  | _ :: _, _ :: _, _ :: _, h1, h2 => ⟨le_trans h1.1 h2.1, LeList.trans h1.2 h2.2⟩
  | [], [], _ :: _, _, h2 => h2.elim
  | [], _ :: _, _, h1, _ => h1.elim
  | _ :: _, [], _, h1, _ => h1.elim
  | _ :: _, _ :: _, [], _, h2 => h2.elim

theorem LeList.map {α} (l : List α) (f g : α → Rat) (h : ∀ x ∈ l, f x ≤ g x) :
    LeList (l.map f) (l.map g) := by
  induction l with
  | nil => trivial
  | cons x xs ih =>
    exact ⟨h x (by simp), ih (fun y hy => h y (by simp [hy]))⟩

theorem selSum_mul (sel : Sel) (f : ACol → Rat) (r : Rat) (i : Nat) (cols : List ACol) :
    selSum sel (fun c => f c * r) i cols = selSum sel f i cols * r := by
  induction cols generalizing i with
  | nil => simp [selSum]
  | cons c cs ih =>
    simp only [selSum, ih]
    split <;> ring

theorem selSum_const (sel : Sel) (v : Rat) (i : Nat) (cols : List ACol) :
    selSum sel (fun _ => v) i cols = (selCount sel i cols : Rat) * v := by
  induction cols generalizing i with
  | nil => simp [selSum, selCount]
  | cons c cs ih =>
    simp only [selSum, selCount, ih]
    split <;> push_cast <;> ring

theorem selSum_nonneg (sel : Sel) (f : ACol → Rat) (i : Nat) (cols : List ACol)
    (hpos : ∀ j c, sel j c = true → 0 < f c) : 0 ≤ selSum sel f i cols := by
  induction cols generalizing i with
  | nil => exact le_refl _
  | cons c cs ih =>
    simp only [selSum]
    split
    · exact add_nonneg (hpos i c ‹_›).le (ih _)
    · exact add_nonneg (le_refl _) (ih _)

theorem selSum_pos (sel : Sel) (f : ACol → Rat) (i : Nat) (cols : List ACol)
    (hpos : ∀ j c, sel j c = true → 0 < f c) (hne : selCount sel i cols ≠ 0) :
    0 < selSum sel f i cols := by
  induction cols generalizing i with
  | nil => exact absurd rfl hne
  | cons c cs ih =>
    simp only [selSum, selCount] at hne ⊢
    by_cases hc : sel i c = true
    · rw [if_pos hc]
      exact add_pos_of_pos_of_nonneg (hpos i c hc) (selSum_nonneg sel f _ cs hpos)
    · rw [if_neg hc, zero_add]
      rw [if_neg hc, Nat.zero_add] at hne
      exact ih _ hne

/-- A non-empty group inside a larger one makes the larger one non-empty. -/
theorem selCount_mono (sel sel' : Sel) (himp : ∀ j c, sel j c = true → sel' j c = true)
    (i : Nat) (cols : List ACol) (h : selCount sel i cols ≠ 0) : selCount sel' i cols ≠ 0 := by
  fun_induction selCount sel i cols with
  | case1 => exact h
  | case2 i c cs ih =>
    rw [selCount]
    by_cases hc : sel i c = true
    · rw [if_pos (himp i c hc)]
      omega
    · rw [if_neg hc, Nat.zero_add] at h
      have := ih h
      omega

/-- A selection that takes some column counts at least one. -/
theorem selCount_ne_zero_of (sel : Sel) (cols : List ACol) (i : Nat) :
    ∀ (j : Nat) (hj : j < cols.length), sel (i + j) cols[j] = true → selCount sel i cols ≠ 0 := by
  fun_induction selCount sel i cols with
  | case1 => nofun
  | case2 i c cs ih =>
    intro j hj hs
    cases j with
    | zero => simp [show sel i c = true from hs]
    | succ k =>
      have := ih k (Nat.lt_of_succ_lt_succ hj) (by rwa [show i + 1 + k = i + (k + 1) by omega])
      omega

theorem sumR_addSel (sel : Sel) (f : ACol → Rat) (i : Nat) (cols : List ACol) (cw : List Rat)
    (hlen : cw.length = cols.length) :
    sumR (addSel sel f i cols cw) = sumR cw + selSum sel f i cols := by
  fun_induction addSel sel f i cols cw with
  | case1 => rw [List.eq_nil_of_length_eq_zero hlen]; simp [selSum]
  | case2 => cases hlen
  | case3 i c cs w ws ih =>
    simp only [selSum, sumR_cons, ih (Nat.succ.inj hlen)]
    split <;> ring

theorem length_addSel (sel : Sel) (f : ACol → Rat) (i : Nat) (cols : List ACol) (cw : List Rat) :
    (addSel sel f i cols cw).length = cw.length := by
  fun_induction addSel sel f i cols cw with
  | case1 => rfl
  | case2 => rfl
  | case3 i c cs w ws ih => exact congrArg (· + 1) ih

theorem getElem_addSel (sel : Sel) (f : ACol → Rat) (i : Nat) (cols : List ACol) (cw : List Rat)
    (j : Nat) (hj : j < cols.length) (hlen : cw.length = cols.length) :
    (addSel sel f i cols cw)[j]? =
      some (if sel (i + j) cols[j] then cw[j]'(hlen ▸ hj) + f cols[j] else cw[j]'(hlen ▸ hj)) := by
  fun_induction addSel sel f i cols cw generalizing j with
  | case1 => cases hj
  | case2 => cases hlen
  | case3 i c cs w ws ih =>
    cases j with
    | zero => rfl
    | succ k =>
      rw [List.getElem?_cons_succ, ih k (Nat.lt_of_succ_lt_succ hj) (Nat.succ.inj hlen),
        show i + 1 + k = i + (k + 1) by omega]
      rfl

end Wp.Table
