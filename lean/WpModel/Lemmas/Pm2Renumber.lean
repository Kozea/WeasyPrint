/-
Layout does not depend on box ids: renumbering the boxes of a document with any function `f` commutes with
`layoutBox`, `layoutKids`, `find_earlier_page_break`, `remake_page` and `make_all_pages`.
-/
import WpModel.Lemmas.Pm2Step
import WpModel.Lemmas.PagesRun

namespace Wp.PM
open Wp

mutual
def PBox.mapIds (f : Nat → Nat) : PBox → PBox
  | .para id n lh st => .para (f id) n lh st
  | .block id st kids => .block (f id) st (mapIdsBoxes f kids)
def mapIdsBoxes (f : Nat → Nat) : List PBox → List PBox
  | [] => []
  | b :: bs => PBox.mapIds f b :: mapIdsBoxes f bs
end

mutual
def Frag.mapIds (f : Nat → Nat) : Frag → Frag
  | .para id idx st n g lines => .para (f id) idx st n g lines
  | .block id idx st g kids => .block (f id) idx st g (mapIdsFrags f kids)
def mapIdsFrags (f : Nat → Nat) : List Frag → List Frag
  | [] => []
  | x :: xs => Frag.mapIds f x :: mapIdsFrags f xs
end

def LayoutResult.mapIds (f : Nat → Nat) (r : LayoutResult) : LayoutResult :=
  { r with frag := r.frag.map (Frag.mapIds f) }

def KidsLoop.mapIds (f : Nat → Nat) (s : KidsLoop) : KidsLoop :=
  { s with newChildren := mapIdsFrags f s.newChildren }

def KidsOutcome.mapIds (f : Nat → Nat) : KidsOutcome → KidsOutcome
  | .finished s => .finished (s.mapIds f)
  | .aborted p s => .aborted p (s.mapIds f)
  | .stopped r s => .stopped r (s.mapIds f)

def Page.mapIds (f : Nat → Nat) (p : Page) : Page := { p with root := p.root.mapIds f }

def Doc.mapIds (f : Nat → Nat) (d : Doc) : Doc := { d with root := d.root.mapIds f }

variable (f : Nat → Nat)

@[simp] theorem PBox.st_mapIds (b : PBox) : (b.mapIds f).st = b.st := by cases b <;> rfl
@[simp] theorem Frag.st_mapIds (x : Frag) : (x.mapIds f).st = x.st := by cases x <;> rfl
@[simp] theorem Frag.geo_mapIds (x : Frag) : (x.mapIds f).geo = x.geo := by cases x <;> rfl
@[simp] theorem Frag.idx_mapIds (x : Frag) : (x.mapIds f).idx = x.idx := by cases x <;> rfl
@[simp] theorem Frag.withIdx_mapIds (x : Frag) (i : Nat) : (x.mapIds f).withIdx i = (x.withIdx i).mapIds f := by
  cases x <;> rfl

theorem mapIdsFrags_eq_map (xs : List Frag) : mapIdsFrags f xs = xs.map (Frag.mapIds f) := by
  induction xs with
  | nil => rfl
  | cons x xs ih => rw [mapIdsFrags, ih, List.map_cons]

theorem mapIdsFrags_append (xs ys : List Frag) : mapIdsFrags f (xs ++ ys) = mapIdsFrags f xs ++ mapIdsFrags f ys := by
  simp only [mapIdsFrags_eq_map, List.map_append]

@[simp] theorem mapIdsFrags_isEmpty (xs : List Frag) : (mapIdsFrags f xs).isEmpty = xs.isEmpty := by
  rw [mapIdsFrags_eq_map, List.isEmpty_map]

theorem mapIdsFrags_getLast? (xs : List Frag) : (mapIdsFrags f xs).getLast? = xs.getLast?.map (Frag.mapIds f) := by
  rw [mapIdsFrags_eq_map, List.getLast?_map]

theorem mapIdsFrags_head? (xs : List Frag) : (mapIdsFrags f xs).head? = xs.head?.map (Frag.mapIds f) := by
  rw [mapIdsFrags_eq_map, List.head?_map]

mutual
theorem fragAfterChain_mapIds : (x : Frag) → fragAfterChain (x.mapIds f) = fragAfterChain x
  | .para _ _ _ _ _ _ => rfl
  | .block id idx st g kids => by
    simp only [Frag.mapIds, fragAfterChain]
    rw [fragAfterChainLast_mapIds kids]
theorem fragAfterChainLast_mapIds : (xs : List Frag) → fragAfterChainLast (mapIdsFrags f xs) = fragAfterChainLast xs
  | [] => rfl
  | x :: rest => by
    cases rest with
    | nil => simp only [mapIdsFrags, fragAfterChainLast]; exact fragAfterChain_mapIds x
    | cons y ys =>
      have := fragAfterChainLast_mapIds (y :: ys)
      simp only [mapIdsFrags, fragAfterChainLast] at this ⊢
      exact this
end

mutual
theorem fragBeforeChain_mapIds : (x : Frag) → fragBeforeChain (x.mapIds f) = fragBeforeChain x
  | .para _ _ _ _ _ _ => rfl
  | .block id idx st g kids => by
    simp only [Frag.mapIds, fragBeforeChain]
    rw [fragBeforeChainFirst_mapIds kids]
theorem fragBeforeChainFirst_mapIds : (xs : List Frag) →
    fragBeforeChainFirst (mapIdsFrags f xs) = fragBeforeChainFirst xs
  | [] => rfl
  | x :: _ => by simp only [mapIdsFrags, fragBeforeChainFirst]; exact fragBeforeChain_mapIds x
end

mutual
theorem boxBeforeChain_mapIds : (b : PBox) → boxBeforeChain (b.mapIds f) = boxBeforeChain b
  | .para _ _ _ _ => rfl
  | .block id st kids => by
    simp only [PBox.mapIds, boxBeforeChain]
    rw [boxBeforeChainFirst_mapIds kids]
theorem boxBeforeChainFirst_mapIds : (bs : List PBox) →
    boxBeforeChainFirst (mapIdsBoxes f bs) = boxBeforeChainFirst bs
  | [] => rfl
  | b :: _ => by simp only [mapIdsBoxes, boxBeforeChainFirst]; exact boxBeforeChain_mapIds b
end

mutual
theorem boxPageStart_mapIds : (b : PBox) → boxPageStart (b.mapIds f) = boxPageStart b
  | .para _ _ _ _ => rfl
  | .block id st kids => by
    simp only [PBox.mapIds, boxPageStart]
    rw [boxPageStartFirst_mapIds kids]
theorem boxPageStartFirst_mapIds : (bs : List PBox) →
    boxPageStartFirst (mapIdsBoxes f bs) = boxPageStartFirst bs
  | [] => rfl
  | b :: _ => by simp only [mapIdsBoxes, boxPageStartFirst]; exact boxPageStart_mapIds b
end

mutual
theorem fragPageEnd_mapIds : (x : Frag) → fragPageEnd (x.mapIds f) = fragPageEnd x
  | .para _ _ _ _ _ _ => rfl
  | .block id idx st g kids => by
    simp only [Frag.mapIds, fragPageEnd]
    rw [fragPageEndLast_mapIds kids]
theorem fragPageEndLast_mapIds : (xs : List Frag) → fragPageEndLast (mapIdsFrags f xs) = fragPageEndLast xs
  | [] => rfl
  | x :: rest => by
    cases rest with
    | nil => simp only [mapIdsFrags, fragPageEndLast]; exact fragPageEnd_mapIds x
    | cons y ys =>
      have := fragPageEndLast_mapIds (y :: ys)
      simp only [mapIdsFrags, fragPageEndLast] at this ⊢
      exact this
end

theorem breakBetween_mapIds (x : Frag) (b : PBox) : breakBetween (x.mapIds f) (b.mapIds f) = breakBetween x b := by
  unfold breakBetween
  rw [fragAfterChain_mapIds, boxBeforeChain_mapIds]

theorem breakBetweenFrags_mapIds (x p : Frag) :
    breakBetweenFrags (x.mapIds f) (some (p.mapIds f)) = breakBetweenFrags x (some p) := by
  unfold breakBetweenFrags
  dsimp only
  rw [fragAfterChain_mapIds, fragBeforeChain_mapIds]

theorem meetBreak_mapIds (s : KidsLoop) (child : PBox) :
    meetBreak (s.mapIds f) (child.mapIds f) = meetBreak s child := by
  unfold meetBreak KidsLoop.mapIds
  simp only [mapIdsFrags_getLast?]
  cases s.newChildren.getLast? with
  | none => rfl
  | some l =>
    simp only [Option.map_some]
    rw [breakBetween_mapIds, fragPageEnd_mapIds, boxPageStart_mapIds]

theorem pageEndOf_mapIds (st : PStyle) (xs : List Frag) : pageEndOf st (mapIdsFrags f xs) = pageEndOf st xs := by
  unfold pageEndOf
  rw [fragPageEndLast_mapIds]

theorem cutEnd_mapIds (x : Frag) : (x.mapIds f).cutEnd = (x.cutEnd).mapIds f := by
  cases x <;> simp [Frag.mapIds, Frag.cutEnd]

def EarlierState.mapIds (f : Nat → Nat) (s : EarlierState) : EarlierState :=
  { found := s.found.map (fun kr => (mapIdsFrags f kr.1, kr.2)), prev := s.prev.map (Frag.mapIds f) }

theorem findEarlierPara_mapIds (id idx : Nat) (st : PStyle) (n : Nat) (g : Geo) (lines : List (Nat × Rat)) :
    findEarlierPara (f id) idx st n g lines =
      (findEarlierPara id idx st n g lines).map (fun xr => (xr.1.mapIds f, xr.2)) := by
  unfold findEarlierPara
  split
  · rfl
  · dsimp only
    split
    · rfl
    · split <;> rfl

mutual
theorem findEarlierGo_mapIds : (xs : List Frag) →
    findEarlierGo (mapIdsFrags f xs) = (findEarlierGo xs).mapIds f
  | [] => rfl
  | x :: xs => by
    have ih := findEarlierGo_mapIds xs
    have hfrag := findEarlierFrag_mapIds x
    simp only [mapIdsFrags]
    rw [findEarlierGo, findEarlierGo, ih]
    generalize findEarlierGo xs = s
    obtain ⟨found, prev⟩ := s
    cases found with
    | some kr =>
      obtain ⟨kept, r⟩ := kr
      simp [EarlierState.mapIds, mapIdsFrags]
    | none =>
      cases prev with
      | some p =>
        simp only [EarlierState.mapIds, Option.map_none, Option.map_some, breakBetweenFrags_mapIds, Frag.st_mapIds,
          Frag.idx_mapIds]
        by_cases hav : avoidsPage (breakBetweenFrags x (some p)) = true
        · simp only [hav, Bool.not_true, Bool.false_eq_true, ↓reduceIte]
          by_cases hin : avoidsPage x.st.brkInside = true
          · simp [hin]
          · simp only [hin, Bool.not_false, ↓reduceIte]
            rw [hfrag]
            cases findEarlierFrag x with
            | none => simp
            | some xr => simp [mapIdsFrags, cutEnd_mapIds]
        · simp [hav, mapIdsFrags]
      | none =>
        simp only [EarlierState.mapIds, Option.map_none, Frag.st_mapIds, Frag.idx_mapIds]
        by_cases hin : avoidsPage x.st.brkInside = true
        · simp [hin]
        · simp only [hin, Bool.not_false, ↓reduceIte]
          rw [hfrag]
          cases findEarlierFrag x with
          | none => simp
          | some xr => simp [mapIdsFrags, cutEnd_mapIds]
theorem findEarlierFrag_mapIds : (x : Frag) →
    findEarlierFrag (x.mapIds f) = (findEarlierFrag x).map (fun xr => (xr.1.mapIds f, xr.2))
  | .para id idx st n g lines => by
    simp only [Frag.mapIds, findEarlierFrag]
    exact findEarlierPara_mapIds f id idx st n g lines
  | .block id idx st g kids => by
    simp only [Frag.mapIds, findEarlierFrag]
    rw [findEarlierGo_mapIds kids]
    simp only [EarlierState.mapIds]
    cases (findEarlierGo kids).found with
    | none => rfl
    | some kr => rfl
end

theorem findEarlierList_mapIds (xs : List Frag) :
    findEarlierList (mapIdsFrags f xs) = (findEarlierList xs).map (fun kr => (mapIdsFrags f kr.1, kr.2)) := by
  unfold findEarlierList
  rw [findEarlierGo_mapIds]
  rfl

@[simp] theorem KidsLoop.mapIds_newChildren (s : KidsLoop) : (s.mapIds f).newChildren = mapIdsFrags f s.newChildren := rfl
@[simp] theorem KidsLoop.mapIds_posY (s : KidsLoop) : (s.mapIds f).posY = s.posY := rfl
@[simp] theorem KidsLoop.mapIds_adjL (s : KidsLoop) : (s.mapIds f).adjL = s.adjL := rfl
@[simp] theorem KidsLoop.mapIds_cur (s : KidsLoop) : (s.mapIds f).cur = s.cur := rfl
@[simp] theorem KidsLoop.mapIds_curIsL (s : KidsLoop) : (s.mapIds f).curIsL = s.curIsL := rfl
@[simp] theorem KidsLoop.mapIds_nextPage (s : KidsLoop) : (s.mapIds f).nextPage = s.nextPage := rfl
@[simp] theorem KidsLoop.mapIds_skip (s : KidsLoop) : (s.mapIds f).skip = s.skip := rfl

theorem setCur_mapIds (s : KidsLoop) (l : List Rat) (b : Bool) : (s.mapIds f).setCur l b = (s.setCur l b).mapIds f := by
  unfold KidsLoop.setCur; split <;> rfl

theorem appendCur_mapIds (s : KidsLoop) (m : Rat) : (s.mapIds f).appendCur m = (s.appendCur m).mapIds f := by
  cases h : s.curIsL <;> simp [KidsLoop.appendCur, KidsLoop.mapIds, h]

theorem adoptAdj_mapIds (s : KidsLoop) (had : Bool) (adj : AdjOut) (frag : Option Frag) :
    (s.mapIds f).adoptAdj had adj (frag.map (Frag.mapIds f)) = (s.adoptAdj had adj frag).mapIds f := by
  unfold KidsLoop.adoptAdj
  split
  · rfl
  · cases adj <;> cases frag <;> simp [setCur_mapIds, appendCur_mapIds]

def FirstPass.mapIds (f : Nat → Nat) : FirstPass → FirstPass
  | .keep frag y => .keep (frag.map (Frag.mapIds f)) y
  | .redo b => .redo b

theorem firstPass_mapIds (c : Ctx) (bs : Rat) (pienc : Bool) (posY : Rat) (r : LayoutResult) :
    firstPass c bs pienc posY (r.mapIds f) = (firstPass c bs pienc posY r).mapIds f := by
  fun_cases firstPass c bs pienc posY r <;>
    simp +zetaDelta only [firstPass, LayoutResult.mapIds, FirstPass.mapIds, Option.map_some, Option.map_none,
      Frag.geo_mapIds, *, Bool.false_eq_true, ↓reduceIte]

theorem concludeKid_mapIds (index : Nat) (pie : Bool) (pb : Brk) (child : PBox) (s : KidsLoop)
    (frag : Option Frag) (resume : Option Resume) :
    concludeKid index pie pb (child.mapIds f) (s.mapIds f) (frag.map (Frag.mapIds f)) resume =
      ((concludeKid index pie pb child s frag resume).1.map (KidsOutcome.mapIds f),
       (concludeKid index pie pb child s frag resume).2.mapIds f) := by
  cases frag with
  | none =>
    simp only [Option.map_none, concludeKid, KidsLoop.mapIds_newChildren, findEarlierList_mapIds,
      mapIdsFrags_isEmpty, boxPageStart_mapIds]
    by_cases hav : avoidsPage pb = true
    · simp only [hav, ↓reduceIte, Bool.true_and]
      cases findEarlierList s.newChildren with
      | some kr => obtain ⟨kept, r'⟩ := kr; rfl
      | none =>
        simp only [Option.map_none]
        cases pie <;> cases s.newChildren.isEmpty <;> rfl
    · simp only [hav, Bool.false_eq_true, ↓reduceIte, Bool.false_and]
      cases s.newChildren.isEmpty <;> rfl
  | some x =>
    cases resume with
    | some r' =>
      simp only [Option.map_some, concludeKid, KidsOutcome.mapIds, KidsLoop.mapIds, Frag.withIdx_mapIds,
        mapIdsFrags_append, mapIdsFrags]
    | none =>
      simp only [Option.map_some, concludeKid, Option.map_none, KidsLoop.mapIds, Frag.withIdx_mapIds,
        mapIdsFrags_append, mapIdsFrags]

theorem finishContainer_mapIds {c : Ctx} {st : PStyle} {b : BoxSt} {isStart pie : Bool} {bs : Rat}
    {cwc dbd : Bool} {resume : Option Resume} {posY : Rat} {adjL cur : List Rat} {curIsL : Bool}
    {np : NextPage} {hasKids : Bool} {pageEnd : String} (mk : Geo → Frag) :
    finishContainer c st b isStart pie bs cwc dbd resume posY adjL cur curIsL np hasKids pageEnd
        (fun g => (mk g).mapIds f) =
      (finishContainer c st b isStart pie bs cwc dbd resume posY adjL cur curIsL np hasKids pageEnd mk).mapIds f := by
  unfold finishContainer
  split <;> rfl

theorem finishPara_mapIds (c : Ctx) (st : PStyle) (p : Prep) (pie : Bool) (id idx n : Nat) (r : LineResult) :
    finishPara c st p pie (f id) idx n r = (finishPara c st p pie id idx n r).mapIds f := by
  unfold finishPara
  dsimp only
  split
  · rfl
  · exact finishContainer_mapIds f (fun g => Frag.para id idx st n g r.lines)

theorem finishBlock_mapIds (c : Ctx) (st : PStyle) (p : Prep) (pie : Bool) (id idx : Nat) (out : KidsOutcome) :
    finishBlock c st p pie (f id) idx (out.mapIds f) = (finishBlock c st p pie id idx out).mapIds f := by
  cases out with
  | aborted page s => rfl
  | stopped resume s =>
    simp only [KidsOutcome.mapIds, finishBlock, KidsLoop.mapIds_posY, KidsLoop.mapIds_adjL,
      KidsLoop.mapIds_nextPage, KidsLoop.mapIds_newChildren, mapIdsFrags_isEmpty, pageEndOf_mapIds]
    exact finishContainer_mapIds f
      (fun g => Frag.block id idx st g s.newChildren)
  | finished s =>
    simp only [KidsOutcome.mapIds, finishBlock, KidsLoop.mapIds_posY, KidsLoop.mapIds_adjL,
      KidsLoop.mapIds_nextPage, KidsLoop.mapIds_newChildren, mapIdsFrags_isEmpty, pageEndOf_mapIds,
      KidsLoop.mapIds_cur, KidsLoop.mapIds_curIsL]
    exact finishContainer_mapIds f
      (fun g => Frag.block id idx st g s.newChildren)

@[simp] theorem LayoutResult.mapIds_resume (r : LayoutResult) : (r.mapIds f).resume = r.resume := rfl
@[simp] theorem LayoutResult.mapIds_nextPage (r : LayoutResult) : (r.mapIds f).nextPage = r.nextPage := rfl
@[simp] theorem LayoutResult.mapIds_adj (r : LayoutResult) : (r.mapIds f).adj = r.adj := rfl
@[simp] theorem LayoutResult.mapIds_adjL (r : LayoutResult) : (r.mapIds f).adjL = r.adjL := rfl
@[simp] theorem LayoutResult.mapIds_frag (r : LayoutResult) : (r.mapIds f).frag = r.frag.map (Frag.mapIds f) := rfl
@[simp] theorem LayoutResult.mapIds_through (r : LayoutResult) : (r.mapIds f).collapsingThrough = r.collapsingThrough := rfl

theorem kidResult_mapIds (c : Ctx) (st : PStyle) (child : PBox) (index : Nat) (bs : Rat) (pie : Bool) (s : KidsLoop)
    (ih : ∀ (y bs : Rat) (skip : Option Resume) (cb pie : Bool) (adjL : List Rat),
      layoutBox c (child.mapIds f) index y bs skip cb pie adjL = (layoutBox c child index y bs skip cb pie adjL).mapIds f) :
    kidResult c st (child.mapIds f) index bs pie (s.mapIds f) =
      ((kidResult c st child index bs pie s).1.map (Frag.mapIds f),
       (kidResult c st child index bs pie s).2.1.mapIds f,
       (kidResult c st child index bs pie s).2.2.mapIds f) := by
  unfold kidResult
  simp only [KidsLoop.mapIds_newChildren, mapIdsFrags_isEmpty, KidsLoop.mapIds_posY, KidsLoop.mapIds_skip,
    KidsLoop.mapIds_cur, KidsLoop.mapIds_curIsL, ih, firstPass_mapIds, LayoutResult.mapIds_adjL, setCur_mapIds]
  cases hfp : firstPass c bs (pie && s.newChildren.isEmpty) s.posY
      (layoutBox c child index s.posY bs s.skip st.isRoot (pie && s.newChildren.isEmpty) s.cur) with
  | keep frag posY =>
    simp only [FirstPass.mapIds, LayoutResult.mapIds_frag, LayoutResult.mapIds_adj, LayoutResult.mapIds_nextPage,
      Option.isSome_map, adoptAdj_mapIds]
    rfl
  | redo bs' =>
    simp only [FirstPass.mapIds, KidsLoop.mapIds_cur, KidsLoop.mapIds_curIsL,
      LayoutResult.mapIds_frag, LayoutResult.mapIds_adj, LayoutResult.mapIds_nextPage,
      adoptAdj_mapIds]
    cases (layoutBox c child index s.posY bs' s.skip st.isRoot (pie && s.newChildren.isEmpty)
        (s.setCur (layoutBox c child index s.posY bs s.skip st.isRoot (pie && s.newChildren.isEmpty) s.cur).adjL
          s.curIsL).cur).frag with
    | none => rfl
    | some x => simp only [Option.map_some, Frag.geo_mapIds]; rfl

mutual
theorem layoutBox_mapIds : (box : PBox) → ∀ (c : Ctx) (idx : Nat) (y bs : Rat) (skip : Option Resume)
    (cb pie : Bool) (adjL : List Rat),
    layoutBox c (box.mapIds f) idx y bs skip cb pie adjL = (layoutBox c box idx y bs skip cb pie adjL).mapIds f
  | .para id n lineH st => by
    intro c idx y bs skip cb pie adjL
    simp only [PBox.mapIds, layoutBox]
    exact finishPara_mapIds f _ _ _ _ _ _ _ _
  | .block id st kids => by
    intro c idx y bs skip cb pie adjL
    simp only [PBox.mapIds, layoutBox]
    generalize prepare c st y bs skip cb pie adjL = p
    have := layoutKids_mapIds kids c st 0 (skipIdxOf skip) p.bs pie
      ⟨[], p.posY, p.adjL, p.cur, p.curIsL, ⟨none, none⟩, subSkipOf skip⟩
    simp only [KidsLoop.mapIds, mapIdsFrags] at this
    rw [this]
    exact finishBlock_mapIds f _ _ _ _ _ _ _
theorem layoutKids_mapIds : (rest : List PBox) → ∀ (c : Ctx) (st : PStyle) (index skipIdx : Nat) (bs : Rat)
    (pie : Bool) (s : KidsLoop),
    layoutKids c st (mapIdsBoxes f rest) index skipIdx bs pie (s.mapIds f) =
      (layoutKids c st rest index skipIdx bs pie s).mapIds f
  | [] => by
    intro c st index skipIdx bs pie s
    simp [mapIdsBoxes, layoutKids, KidsOutcome.mapIds]
  | child :: rest => by
    intro c st index skipIdx bs pie s
    simp only [mapIdsBoxes]
    by_cases hc : index < skipIdx
    · rw [layoutKids_skip hc, layoutKids_skip hc]
      exact layoutKids_mapIds rest c st (index + 1) skipIdx bs pie s
    · rw [layoutKids_cons hc, layoutKids_cons hc]
      rw [meetBreak_mapIds, boxPageStart_mapIds]
      split
      · rfl
      · rw [kidResult_mapIds f c st child index bs pie s
          (fun y bs skip cb pie adjL => layoutBox_mapIds child c index y bs skip cb pie adjL)]
        simp only [LayoutResult.mapIds_resume]
        rw [concludeKid_mapIds]
        cases hck : concludeKid index pie (meetBreak s child).1 child (kidResult c st child index bs pie s).2.2
            (kidResult c st child index bs pie s).1 (kidResult c st child index bs pie s).2.1.resume with
        | mk o s3 =>
          cases o with
          | some out => rfl
          | none =>
            simp only [Option.map_none]
            exact layoutKids_mapIds rest c st (index + 1) skipIdx bs pie s3
end

theorem emptyRoot_mapIds (b : PBox) : emptyRoot (b.mapIds f) = (emptyRoot b).mapIds f := by
  cases b <;> simp [emptyRoot, PBox.mapIds, mapIdsBoxes]

theorem remakePage_mapIds (d : Doc) (index : Nat) (resume : Option Resume) (np : NextPage) (right : Bool) :
    remakePage (d.mapIds f) index resume np right = (remakePage d index resume np right).map (Page.mapIds f) := by
  unfold remakePage
  simp only [Doc.mapIds, emptyRoot_mapIds]
  by_cases hb : isBlank (requestedSide d.rootLtr np.brk) right = true
  · simp only [hb, ↓reduceIte, layoutBox_mapIds, LayoutResult.mapIds_frag]
    cases (layoutBox { pageBottom := d.pageH, currentPage := index + 1, forcedBreak := forcedBreakOf np }
        (emptyRoot d.root) 0 0 0 resume false true []).frag with
    | none => rfl
    | some x => rfl
  · simp only [hb, Bool.false_eq_true, ↓reduceIte, layoutBox_mapIds, LayoutResult.mapIds_frag,
      LayoutResult.mapIds_resume, LayoutResult.mapIds_nextPage]
    cases (layoutBox { pageBottom := d.pageH, currentPage := index + 1, forcedBreak := forcedBreakOf np }
        d.root 0 0 0 resume false true []).frag with
    | none => rfl
    | some x => rfl

theorem makeAllPages_mapIds (d : Doc) : ∀ (fuel index : Nat) (resume : Option Resume) (np : NextPage) (right : Bool),
    makeAllPages (d.mapIds f) fuel index resume np right =
      (makeAllPages d fuel index resume np right).map (List.map (Page.mapIds f)) := by
  intro fuel index resume np right
  rw [makeAllPages_eq_run, makeAllPages_eq_run]
  refine PageLoop.run_map_stepOf id (Page.mapIds f) ?_ ?_ fuel (index, resume, np, right)
  · intro ⟨i, r, n, b⟩; exact remakePage_mapIds f d i r n b
  · intro ⟨i, r, n, b⟩ p
    show Option.map _ p.resume = _
    cases p.resume <;> rfl

end Wp.PM
