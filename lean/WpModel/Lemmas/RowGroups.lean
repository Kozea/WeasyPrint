/-
Conservation of row groups in `wrap_table` (Model/AnonBoxes.lean `splitGroups`, `wrapTable`; CSS 2.1 §17.2): the first
`table-header-group`, the first `table-footer-group` and the other row groups are the row groups of the table, each
once (`splitGroups_perm`).  The order itself (`orderedGroups`: header first, footer last, the others in document
order) and what identifies a group through the writing of grid positions (`groupKey`, `setGroups_key`) are in
Lemmas/Tables.lean.
-/
import WpModel.Lemmas.Tables
import WpModel.Lemmas.Basic.List
namespace Wp.Bx
open KBox

/-- Conservation: the first header group, the first footer group and the remaining groups are the
groups of the table, each exactly once. -/
theorem splitGroups_perm (gs : List KBox) :
    ((gs.find? isHeaderGroup).toList ++ (gs.eraseP isHeaderGroup).eraseP isFooterGroup ++
      (gs.find? isFooterGroup).toList).Perm gs := by
  have h1 := List.eraseP_perm isHeaderGroup gs
  have h2 := List.eraseP_perm isFooterGroup (gs.eraseP isHeaderGroup)
  rw [List.find?_eraseP_disjoint isHeaderGroup isFooterGroup header_not_footer gs] at h2
  refine List.Perm.trans ?_ h1
  rw [List.append_assoc]
  exact List.Perm.append_left _ (List.perm_append_comm.trans h2)

end Wp.Bx
