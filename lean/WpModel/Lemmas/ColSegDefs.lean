/-
Definitions for the conservation / progress theorems of PM stage 2c (C01Col, C03Col): the stage-1 notions of
`Lemmas/SegmentDefs.lean` over the extended box and fragment types.
-/
import WpModel.Model.PaginateCol
import WpModel.Lemmas.SegmentDefs

namespace Wp.PMC
open Wp Wp.PM

mutual
/-- (paragraph id, line number) of every line shown by a fragment, in tree order (columns left to right). -/
def fragLines : CFrag → List (Nat × Nat)
  | .para id _ _ _ _ lines => lines.map (fun l => (id, l.1))
  | .block _ _ _ _ kids => fragLinesList kids
  | .cols _ _ _ _ kids => fragLinesList kids
  | .column _ _ _ _ kids => fragLinesList kids
def fragLinesList : List CFrag → List (Nat × Nat)
  | [] => []
  | f :: fs => fragLines f ++ fragLinesList fs
end

mutual
/-- Lines of the box at / after a resume position. A container is resumed like a block: `node i sub` = child
`i` of the container resumed at `sub`, then the later children. -/
def linesFrom : ColBox → Option Resume → List (Nat × Nat)
  | .para id n _ _, σ => paraLines id (paraStart σ) n
  | .block _ _ kids, σ => linesFromKids kids (skipIdxOf σ) (subSkipOf σ)
  | .columns _ _ _ _ kids, σ => linesFromKids kids (skipIdxOf σ) (subSkipOf σ)
def linesFromKids : List ColBox → Nat → Option Resume → List (Nat × Nat)
  | [], _, _ => []
  | b :: bs, 0, sub => linesFrom b sub ++ linesFromKids bs 0 none
  | _ :: bs, k + 1, sub => linesFromKids bs k sub
end

def restOut (box : ColBox) : Option Resume → List (Nat × Nat)
  | none => []
  | some r => linesFrom box (some r)

/-! ### position measure (`sizeBox`, `sizeKids` of the model are the units) -/

mutual
def pos : ColBox → Option Resume → Nat
  | .para _ n _ _, σ => min (paraStart σ) n
  | .block _ _ kids, σ => posKids kids (skipIdxOf σ) (subSkipOf σ)
  | .columns _ _ _ _ kids, σ => posKids kids (skipIdxOf σ) (subSkipOf σ)
def posKids : List ColBox → Nat → Option Resume → Nat
  | [], _, _ => 0
  | b :: _, 0, sub => pos b sub
  | b :: bs, k + 1, sub => sizeBox b + posKids bs k sub
end

mutual
/-- The hypotheses of the conservation theorems, in one recursion: no paragraph or block has a fixed `height`
(`fixed-height-forgets-overflow`; the container itself may have one) and `orphans, widows ≥ 1`.  Nothing is asked
of the `column-span` flags: spanning children are covered since the repairs b24b457 and d7e3d63. -/
def Good : ColBox → Prop
  | .para _ _ _ st => st.height = none ∧ 1 ≤ st.orphans ∧ 1 ≤ st.widows
  | .block _ st kids => st.height = none ∧ GoodList kids
  | .columns _ _ _ _ kids => GoodList kids
def GoodList : List ColBox → Prop
  | [] => True
  | b :: bs => Good b ∧ GoodList bs
end

mutual
/-- No box of the subtree other than a container has a fixed `height`. -/
def NoFixedHeight : ColBox → Prop
  | .para _ _ _ st => st.height = none
  | .block _ st kids => st.height = none ∧ NoFixedHeightList kids
  | .columns _ _ _ _ kids => NoFixedHeightList kids
def NoFixedHeightList : List ColBox → Prop
  | [] => True
  | b :: bs => NoFixedHeight b ∧ NoFixedHeightList bs
end

mutual
def WellFormed : ColBox → Prop
  | .para _ _ _ st => 1 ≤ st.orphans ∧ 1 ≤ st.widows
  | .block _ _ kids => WellFormedList kids
  | .columns _ _ _ _ kids => WellFormedList kids
def WellFormedList : List ColBox → Prop
  | [] => True
  | b :: bs => WellFormed b ∧ WellFormedList bs
end

mutual
theorem good_of : (b : ColBox) → NoFixedHeight b → WellFormed b → Good b
  | .para _ _ _ _ => by
    intro h1 h2
    unfold NoFixedHeight at h1; unfold WellFormed at h2; unfold Good
    exact ⟨h1, h2⟩
  | .block _ _ kids => by
    intro h1 h2
    unfold NoFixedHeight at h1; unfold WellFormed at h2; unfold Good
    exact ⟨h1.1, goodList_of kids h1.2 h2⟩
  | .columns _ _ _ _ kids => by
    intro h1 h2
    unfold NoFixedHeight at h1; unfold WellFormed at h2; unfold Good
    exact goodList_of kids h1 h2
theorem goodList_of : (bs : List ColBox) → NoFixedHeightList bs → WellFormedList bs → GoodList bs
  | [] => by intro _ _; unfold GoodList; trivial
  | b :: bs => by
    intro h1 h2
    unfold NoFixedHeightList at h1; unfold WellFormedList at h2; unfold GoodList
    exact ⟨good_of b h1.1 h2.1, goodList_of bs h1.2 h2.2⟩
end

def allColumns : List CFrag → Prop
  | [] => True
  | f :: fs => f.isColumn = true ∧ allColumns fs

/-! ### "the fragment is the complete rest of the box" -/

mutual
/-- `Full f b σ`: `f` is what the layout of `b` resumed at `σ` gives when it runs to the end of `b`.
Paragraphs and blocks as in stage 1 (structurally); a container fragment holds column boxes and spanning
blocks, whose lines are the lines of the children from the resume position on (`find_earlier_page_break` never
looks into a container, so nothing more is needed of it). -/
def Full : CFrag → ColBox → Option Resume → Prop
  | .para id _ st n _ lines, b, σ =>
    match b with
    | .para id' n' _ st' => id = id' ∧ n = n' ∧ st = st' ∧
        lines.map Prod.fst = List.range' (paraStart σ) (n' - paraStart σ)
    | _ => False
  | .block _ _ _ _ fs, b, σ =>
    match b with
    | .block _ _ kids => FullFrom fs (kids.drop (skipIdxOf σ)) (skipIdxOf σ) (subSkipOf σ)
    | _ => False
  | .cols _ _ _ _ fs, b, σ =>
    match b with
    | .columns _ _ _ _ kids => fragLinesList fs = linesFromKids kids (skipIdxOf σ) (subSkipOf σ)
    | _ => False
  | .column _ _ _ _ _, _, _ => False
def FullFrom : List CFrag → List ColBox → Nat → Option Resume → Prop
  | [], bs, _, _ => bs = []
  | f :: fs, bs, i, sub =>
    match bs with
    | [] => False
    | b :: bs' => Full f b sub ∧ f.idx = i ∧ FullFrom fs bs' (i + 1) none
end

end Wp.PMC
