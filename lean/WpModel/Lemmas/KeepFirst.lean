/-
"Keep the first of each key": the loop `for a in as: if key(a) not in seen: seen.add(key(a)); keep a`, which the
models write several times (`resolve_links`, `gather_anchors`, the `watch_elements` pass, the destinations of the
DOM).  Each of them is `firsts` (one equation, next to its users); what the loop does is proved here once.
Core Lean only.
-/

namespace Wp.KeepFirst

variable {α κ : Type} [BEq κ] (k : α → κ)

/-- The elements of `as` whose key is neither in `seen` nor carried by an earlier element. -/
def firsts : List α → List κ → List α
  | [], _ => []
  | a :: as, seen => if seen.contains (k a) then firsts as seen else a :: firsts as (seen ++ [k a])

theorem firsts_sublist (as : List α) (seen : List κ) : List.Sublist (firsts k as seen) as := by
  fun_induction firsts k as seen with
  | case1 => exact List.Sublist.slnil
  | case2 _ _ _ _ ih => exact List.Sublist.cons _ ih
  | case3 _ _ _ _ ih => exact List.Sublist.cons_cons _ ih

/-- Splitting the input: the second part runs with the keys kept from the first added to `seen`. -/
theorem firsts_append (as bs : List α) : ∀ seen,
    firsts k (as ++ bs) seen = firsts k as seen ++ firsts k bs (seen ++ (firsts k as seen).map k) := by
  induction as with
  | nil => intro seen; simp [firsts]
  | cons a as ih =>
    intro seen
    simp only [List.cons_append, firsts]
    split
    · exact ih seen
    · rw [ih]; simp

variable [LawfulBEq κ]

/-- Only the set of keys in `seen` matters, not their order. -/
theorem firsts_congr (as : List α) : ∀ seen seen', (∀ n, n ∈ seen ↔ n ∈ seen') →
    firsts k as seen = firsts k as seen' := by
  induction as with
  | nil => intro _ _ _; rfl
  | cons a as ih =>
    intro seen seen' h
    have hc : seen.contains (k a) = seen'.contains (k a) :=
      Bool.eq_iff_iff.mpr (by rw [List.contains_iff_mem, List.contains_iff_mem]; exact h (k a))
    have hs := ih (seen ++ [k a]) (seen' ++ [k a]) fun n => by
      rw [List.mem_append, List.mem_append, h n]
    simp only [firsts, hc, hs, ih _ _ h]

theorem mem_firsts_keys (as : List α) (seen : List κ) (n : κ) :
    n ∈ (firsts k as seen).map k ↔ n ∈ as.map k ∧ n ∉ seen := by
  fun_induction firsts k as seen with
  | case1 => simp
  | case2 a as seen h ih =>
    have ha : k a ∈ seen := List.contains_iff_mem.mp h
    rw [ih, List.map_cons, List.mem_cons]
    exact ⟨fun ⟨h1, h2⟩ => ⟨.inr h1, h2⟩, fun ⟨h1, h2⟩ => ⟨h1.resolve_left (fun e => h2 (e ▸ ha)), h2⟩⟩
  | case3 a as seen h ih =>
    have ha : k a ∉ seen := fun hm => h (List.contains_iff_mem.mpr hm)
    simp only [List.map_cons, List.mem_cons, ih, List.mem_append, not_or]
    by_cases e : n = k a
    · subst e; simp [ha]
    · simp [e]

theorem firsts_nodup (as : List α) : ∀ seen, ((firsts k as seen).map k).Nodup := by
  induction as with
  | nil => intro seen; exact List.nodup_nil
  | cons a as ih =>
    intro seen
    simp only [firsts]
    split
    · exact ih seen
    · rw [List.map_cons, List.nodup_cons]
      exact ⟨fun hm => ((mem_firsts_keys k as _ _).mp hm).2 (by simp), ih _⟩

theorem firsts_find (as : List α) : ∀ seen n, n ∉ seen →
    (firsts k as seen).find? (fun a => k a == n) = as.find? (fun a => k a == n) := by
  induction as with
  | nil => intro seen n _; rfl
  | cons a as ih =>
    intro seen n hn
    simp only [firsts]
    split
    · rename_i h
      have hne : (k a == n) = false := by
        apply Bool.eq_false_iff.mpr
        intro he
        exact hn (eq_of_beq he ▸ List.contains_iff_mem.mp h)
      rw [List.find?_cons, hne]; exact ih seen n hn
    · simp only [List.find?_cons]
      cases he : k a == n with
      | true => rfl
      | false =>
        apply ih
        intro hm
        rcases List.mem_append.mp hm with h1 | h1
        · exact hn h1
        · rw [List.mem_singleton.mp h1] at he; simp at he

end Wp.KeepFirst
