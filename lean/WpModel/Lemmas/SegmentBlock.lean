/-
Post-condition of `layoutBox` / `layoutKids` (conservation + progress) for boxes without fixed heights:
`box_spec` / `kids_spec` are `box_specT` / `kids_specT` with nothing lossy. `conclude_spec`, `stop_before_spec`,
`finishBlock_post` (one turn of the loop, the end of a block) are stated with `BoxPost` of the child, which is all
the footnote stage can give for an erased child.
-/
import WpModel.Lemmas.LossyBlock
import WpModel.Lemmas.SegmentEarlier

namespace Wp.PM
open Wp

/-- Post-condition of the children loop, relative to the boxes `all` at positions `i0, i0+1, …`
(the first one resumed at `sub0`). -/
def KidsPost (all : List PBox) (i0 : Nat) (sub0 : Option Resume) : KidsOutcome → Prop
  | .finished s' => FullFrom s'.newChildren all i0 sub0
  | .aborted _ _ => True
  | .stopped ρ s' => ∃ m, ρ.isSome = true ∧ skipIdxOf ρ = i0 + m ∧
      fragLinesList s'.newChildren ++ linesFromKids all m (subSkipOf ρ) = linesFromKids all 0 sub0 ∧
      posKids all 0 sub0 < posKids all m (subSkipOf ρ)

/-- Stopping before the child at position `i0 + B.length`, at least one child being laid out. -/
theorem stop_before_spec (B R : List PBox) (i0 : Nat) (sub0 : Option Resume) (s' : KidsLoop)
    (hinv : FullFrom s'.newChildren B i0 sub0) (hne : s'.newChildren ≠ []) :
    KidsPost (B ++ R) i0 sub0 (.stopped (some (.node (i0 + B.length) none)) s') := by
  have hlen := fullFrom_length _ _ _ _ hinv
  have hB : 0 < B.length := by
    rw [← hlen]; exact List.length_pos_iff.mpr hne
  refine ⟨B.length, rfl, rfl, ?_, ?_⟩
  · rw [full_lines.2 hinv, linesFromKids_append_lt _ _ _ _ hB]
    simp only [subSkipOf_node]
    rw [linesFromKids_append_length]
  · rw [posKids_append_lt _ _ _ _ hB]
    simp only [subSkipOf_node]
    rw [posKids_append_length]
    have := posKids_lt B 0 sub0 hB
    omega

theorem conclude_spec (index : Nat) (pie : Bool) (pb : Brk) (child : PBox) (s : KidsLoop)
    (frag : Option Frag) (resume : Option Resume) (B rest : List PBox) (i0 : Nat) (sub0 : Option Resume)
    (hgB : GoodList B) (hinv : FullFrom s.newChildren B i0 sub0) (hidx : index = i0 + B.length)
    (hchild : BoxPost child (if B = [] then sub0 else none) frag resume) :
    (∀ out s3, concludeKid index pie pb child s frag resume = (some out, s3) →
      KidsPost (B ++ child :: rest) i0 sub0 out) ∧
    (∀ s3, concludeKid index pie pb child s frag resume = (none, s3) →
      FullFrom s3.newChildren (B ++ [child]) i0 sub0 ∧ s3.skip = s.skip) := by
  constructor
  · intro out s3 h
    rcases conclude_stop h with
      ⟨_, ⟨kept, r', hfound, rfl⟩ | ⟨rfl, _⟩ | ⟨hne, rfl⟩⟩ | ⟨f, r', rfl, rfl, rfl⟩
    · -- an earlier break
      obtain ⟨m, sub', rfl, hm, hlines, hpos⟩ := findEarlierGo_spec _ _ _ _ hgB hinv kept r' hfound
      have h0 : 0 < B.length := by omega
      refine ⟨m, rfl, rfl, ?_, ?_⟩
      · simp only [subSkipOf_node]
        rw [linesFromKids_append_lt _ _ _ _ hm, linesFromKids_append_lt _ _ _ _ h0, ← List.append_assoc, hlines]
      · simp only [subSkipOf_node]
        rw [posKids_append_lt _ _ _ _ hm, posKids_append_lt _ _ _ _ h0]
        exact hpos
    · trivial
    · rw [hidx]
      apply stop_before_spec _ _ _ _ _ hinv
      intro he; rw [he] at hne; cases hne
    · obtain ⟨hl, hp⟩ := hchild f rfl
      refine ⟨B.length, rfl, by rw [hidx]; rfl, ?_, ?_⟩
      · simp only [subSkipOf_node]
        rw [fragLinesList_append, full_lines.2 hinv, linesFromKids_append_zero, linesFromKids_append_length]
        simp only [fragLinesList, fragLines_withIdx, List.append_nil, linesFromKids, List.append_assoc]
        rw [← List.append_assoc (fragLines f), hl]
      · simp only [subSkipOf_node]
        rw [posKids_append_length]
        have := posKids_append_zero B child rest sub0
        simp only [posKids]
        omega
  · intro s3 h
    obtain ⟨f, rfl, rfl, rfl⟩ := conclude_continue h
    refine ⟨?_, rfl⟩
    apply fullFrom_snoc _ _ _ _ _ _ hinv (full_withIdx _ _ _ _ (hchild f rfl))
    simp [hidx]

theorem boxPost_none (box : PBox) (skip resume : Option Resume) : BoxPost box skip none resume := by
  intro f h; cases h

theorem finishBlock_post (c : Ctx) (st : PStyle) (p : Prep) (pie : Bool) (id idx : Nat) (out : KidsOutcome)
    (kids : List PBox) (skip : Option Resume) (hh : st.height = none)
    (hout : KidsPost (kids.drop (skipIdxOf skip)) (skipIdxOf skip) (subSkipOf skip) out) :
    BoxPost (.block id st kids) skip (finishBlock c st p pie id idx out).frag
      (finishBlock c st p pie id idx out).resume := by
  intro f hf
  cases out with
  | aborted page s => simp [finishBlock, abortResult] at hf
  | stopped resume s =>
    simp only [finishBlock] at hf ⊢
    obtain ⟨⟨g, rfl⟩, hr⟩ := finishContainer_frag hf
    rw [hr, forgetIfFixed_none _ _ _ _ hh]
    obtain ⟨m, hsome, hidx, hlines, hpos⟩ := hout
    cases resume with
    | none => simp at hsome
    | some ρ =>
      simp only
      constructor
      · simp only [fragLines, linesFrom]
        rw [hidx, linesFromKids_drop, hlines]
        exact (linesFromKids_eq_drop kids _ _).symm
      · simp only [pos]
        rw [hidx, posKids_drop, posKids_eq_drop kids (skipIdxOf skip)]
        omega
  | finished s =>
    simp only [finishBlock] at hf ⊢
    obtain ⟨⟨g, rfl⟩, hr⟩ := finishContainer_frag hf
    rw [hr]
    simp only [Full]
    exact hout

/-- For a box without fixed heights the general post-condition (at `fl = false`) is `BoxPost`. -/
theorem boxPost_of_T (box : PBox) (hg : NoFixedHeight box) (skip : Option Resume) (frag : Option Frag)
    (resume : Option Resume) (h : BoxPostT box skip false frag resume) : BoxPost box skip frag resume := by
  intro f hf
  have := h f hf
  cases resume with
  | none => exact partT_full.1 hg rfl this
  | some ρ => exact ⟨sandT_good box hg _ _ _ this.2.1, this.2.2⟩

theorem kidsPost_of_T (all : List PBox) (hg : NoFixedHeightList all) (i0 : Nat) (sub0 : Option Resume) (out : KidsOutcome)
    (h : KidsPostT all i0 sub0 false out) : KidsPost all i0 sub0 out := by
  cases out with
  | finished s' => exact partT_full.2 hg rfl h.1
  | aborted _ _ => trivial
  | stopped ρ s' =>
    obtain ⟨m, h1, h2, _, hs, hp⟩ := h
    exact ⟨m, h1, h2, sandT_goodList all hg _ _ _ _ _ hs, hp⟩

/-- **Segment + progress post-condition of `block_level_layout`**, for every box without fixed heights
and with `orphans, widows ≥ 1`, every context, position, skip stack: `box_specT` with nothing lossy. -/
theorem box_spec : (box : PBox) → Good box → ∀ (c : Ctx) (idx : Nat) (y bs : Rat) (skip : Option Resume)
    (cb pie : Bool) (adjL : List Rat),
    BoxPost box skip (layoutBox c box idx y bs skip cb pie adjL).frag
      (layoutBox c box idx y bs skip cb pie adjL).resume :=
  fun box hg c idx y bs skip cb pie adjL =>
    boxPost_of_T box (good_noFixed box hg) _ _ _ (box_specT box (wf_drop_aux box hg) c idx y bs skip cb pie adjL false)

theorem kids_spec : (rest : List PBox) → GoodList rest → ∀ (c : Ctx) (st : PStyle) (B : List PBox) (i0 : Nat)
    (sub0 : Option Resume) (index skipIdx : Nat) (bs : Rat) (pie : Bool) (s : KidsLoop),
    GoodList B → FullFrom s.newChildren B i0 sub0 →
    (index < skipIdx → B = [] ∧ i0 = skipIdx) → (skipIdx ≤ index → index = i0 + B.length) →
    s.skip = (if B = [] then sub0 else none) →
    KidsPost (B ++ rest.drop (skipIdx - index)) i0 sub0 (layoutKids c st rest index skipIdx bs pie s) :=
  fun rest hg c st B i0 sub0 index skipIdx bs pie s hgB hinv hlt hge hskip =>
    kidsPost_of_T _ (goodList_noFixed _ (goodList_append _ _ hgB (goodList_drop _ _ hg))) _ _ _
      (kids_specT rest (wfList_drop_aux rest hg) c st false B i0 sub0 index skipIdx bs pie s (wfList_drop_aux B hgB)
        ⟨full_partT.2 _ hinv, fullFrom_length _ _ _ _ hinv⟩ hlt hge hskip)

end Wp.PM
