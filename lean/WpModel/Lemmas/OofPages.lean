/-
From `layoutBox` to pages in the extended model: the in-flow lines of the page's final root fragment
(continuations prepended, placeholders replaced by the laid-out absolute boxes) are those of the raw root
fragment; what `remakePage` / `makeAllPages` do to the in-flow lines and to the position.
-/
import WpModel.Lemmas.OofBlock
import WpModel.Lemmas.OofPagesRun

namespace Wp.PMO
open Wp Wp.PM

theorem boxPost_lines {box : OBox} {skip : Option Resume} {pie : Bool} {frag : Option OFrag}
    {resume : Option Resume} {f : OFrag} (h : BoxPost box skip pie frag resume) (hf : frag = some f) :
    fragLines f ++ restOut box resume = linesFrom box skip := by
  have := h f hf
  cases resume with
  | none =>
    simp only at this
    simp [restOut, full_lines.1 this]
  | some r => exact this.1

/-! ### the final root fragment -/

mutual
theorem substAbs_lines (res : List (Nat × OFrag)) (hres : ∀ p ∈ res, p.2.inFlow = false) :
    (f : OFrag) → fragLines (substAbs res f) = fragLines f ∨ f.inFlow = false
  | .para _ _ _ _ _ _ _ => by simp [substAbs]
  | .block _ _ _ _ _ kids => by
    left
    simp only [substAbs, fragLines]
    exact substAbsList_lines res hres kids
  | .ph _ _ _ _ => by right; rfl
theorem substAbs_inFlow (res : List (Nat × OFrag)) (hres : ∀ p ∈ res, p.2.inFlow = false) :
    (f : OFrag) → (substAbs res f).inFlow = f.inFlow
  | .para _ _ _ _ _ _ _ => by simp [substAbs]
  | .block _ _ _ _ _ kids => by simp [substAbs, OFrag.inFlow]
  | .ph ser _ _ _ => by
    simp only [substAbs]
    cases hl : res.lookup ser with
    | none => rfl
    | some f =>
      exact hres (ser, f) (List.mem_of_lookup_eq_some hl)
theorem substAbsList_lines (res : List (Nat × OFrag)) (hres : ∀ p ∈ res, p.2.inFlow = false) :
    (fs : List OFrag) → fragLinesList (substAbsList res fs) = fragLinesList fs
  | [] => rfl
  | f :: fs => by
    simp only [substAbsList, fragLinesList, substAbs_inFlow res hres f, substAbsList_lines res hres fs]
    rcases substAbs_lines res hres f with h | h
    · rw [h]
    · simp [h]
end

theorem substAbs_inFlow_of_notPh (res : List (Nat × OFrag)) (f : OFrag) (h : f.isPh = false) :
    (substAbs res f).inFlow = f.inFlow := by
  cases f with
  | para _ _ _ _ _ _ _ => rfl
  | block _ _ _ _ _ _ => rfl
  | ph _ _ _ _ => simp [OFrag.isPh] at h

theorem substAbs_isPh_of_notPh (res : List (Nat × OFrag)) (f : OFrag) (h : f.isPh = false) :
    (substAbs res f).isPh = false := by
  cases f with
  | para _ _ _ _ _ _ _ => rfl
  | block _ _ _ _ _ _ => rfl
  | ph _ _ _ _ => simp [OFrag.isPh] at h

theorem substAbs_lines_of_notPh (res : List (Nat × OFrag)) (hres : ∀ p ∈ res, p.2.inFlow = false) (f : OFrag)
    (h : f.isPh = false) : fragLines (substAbs res f) = fragLines f := by
  cases f with
  | para _ _ _ _ _ _ _ => simp [substAbs]
  | block _ _ _ _ _ kids =>
    simp only [substAbs, fragLines]
    exact substAbsList_lines res hres kids
  | ph _ _ _ _ => simp [OFrag.isPh] at h

theorem fragLinesList_oof (fs : List OFrag) (h : ∀ f ∈ fs, f.inFlow = false) : fragLinesList fs = [] := by
  induction fs with
  | nil => rfl
  | cons f fs ih =>
    simp only [fragLinesList]
    rw [h f (by simp), ih (fun g hg => h g (by simp [hg]))]
    simp

theorem finishRoot_lines (height : Len) (shapes : List Shape) (conts : List OFrag) (f : OFrag)
    (h : ∀ g ∈ conts, g.inFlow = false) : fragLines (finishRoot height shapes conts f) = fragLines f := by
  cases f with
  | para _ _ _ _ _ _ _ => rfl
  | ph _ _ _ _ => rfl
  | block ser id idx st g kids =>
    simp only [finishRoot, fragLines, fragLinesList_append, fragLinesList_oof conts h, List.nil_append]

theorem finalRoot_lines (height : Len) (shapes : List Shape) (conts : List OFrag) (res : List (Nat × OFrag))
    (f : OFrag) (hc : ∀ g ∈ conts, g.inFlow = false) (hres : ∀ p ∈ res, p.2.inFlow = false)
    (hroot : f.isPh = false) :
    fragLines (finishRoot height shapes conts (substAbs res f)) = fragLines f := by
  rw [finishRoot_lines _ _ _ _ hc, substAbs_lines_of_notPh res hres f hroot]

/-- A layout never returns a bare placeholder. -/
theorem layoutBox_frag_isPh {c : Ctx} {box : OBox} {idx : Nat} {y bs : Rat} {skip : Option Resume}
    {cb pie : Bool} {adjL : List Rat} {w : World} {f : OFrag}
    (h : (layoutBox c box idx y bs skip cb pie adjL w).frag = some f) : f.isPh = false := by
  obtain ⟨g, _, hs⟩ := layoutBox_frag_shape h
  cases box with
  | para id n lineH st => obtain ⟨l, rfl⟩ := hs; rfl
  | block id st kids => obtain ⟨l, rfl⟩ := hs; rfl

/-- The root of a block box is laid out as a block fragment (so `make_page` can put the continuations in front
of its children). -/
theorem layoutBox_block_frag {c : Ctx} {id : Nat} {st : OStyle} {kids : List OBox} {idx : Nat} {y bs : Rat}
    {skip : Option Resume} {cb pie : Bool} {adjL : List Rat} {w : World} {f : OFrag}
    (h : (layoutBox c (.block id st kids) idx y bs skip cb pie adjL w).frag = some f) :
    ∃ g ks, f = .block 0 id idx st g ks := by
  obtain ⟨g, _, hs⟩ := layoutBox_frag_shape h
  exact ⟨g, hs⟩

/-! ### continuations and the page's absolute boxes are out of the flow -/

/-- `absolute_box_layout` (with the nested absolutely positioned boxes laid out and put in place of their
placeholders) returns a fragment of the box itself: what `block_container_layout` returned, or that fragment
with laid-out boxes in place of placeholders. -/
theorem layoutAbs_frag {c : Ctx} {fuel : Nat} {box : OBox} {idx : Nat} {y : Rat} {skip : Option Resume} {w : World}
    {f : OFrag} (h : (layoutAbs c fuel box idx y skip w).frag = some f) :
    ∃ f0 res, (layoutBox c box idx y 0 skip false true [] { w with shapes := [], absL := [] }).frag = some f0 ∧
      (f = f0 ∨ f = substAbs res f0) ∧ f0.isPh = false := by
  cases fuel with
  | zero =>
    rw [layoutAbs] at h
    exact ⟨f, [], h, Or.inl rfl, layoutBox_frag_isPh h⟩
  | succ n =>
    rw [layoutAbs] at h
    simp only [Option.map_eq_some_iff] at h
    obtain ⟨f0, hf0, rfl⟩ := h
    exact ⟨f0, _, hf0, Or.inr rfl, layoutBox_frag_isPh hf0⟩

theorem layoutAbs_frag_inFlow {c : Ctx} {fuel : Nat} {box : OBox} {idx : Nat} {y : Rat} {skip : Option Resume}
    {w : World} {f : OFrag} (h : (layoutAbs c fuel box idx y skip w).frag = some f) : f.inFlow = box.inFlow := by
  obtain ⟨f0, res, hf0, hf, hph⟩ := layoutAbs_frag h
  rcases hf with rfl | rfl
  · exact layoutBox_frag_inFlow hf0
  · rw [substAbs_inFlow_of_notPh res f0 hph]
    exact layoutBox_frag_inFlow hf0

/-- The step of the loop `for child_placeholder in absolute_boxes: absolute_layout(…)` of `absolute_block`. -/
def nestedAbsStep (c : Ctx) (fuel : Nat) (acc : World × List (Nat × OFrag)) (e : AbsEntry) :
    World × List (Nat × OFrag) :=
  let rn := layoutAbs c fuel e.box e.idx e.y none acc.1
  match rn.frag with
  | none => ({ rn.w with crash := true }, acc.2)
  | some f =>
    let broken : List Broken := match rn.resume with
      | some ρ => [{ ser := e.ser, box := e.box, idx := e.idx, resume := ρ, oof := e.oof }]
      | none => []
    ({ rn.w with broken := rn.w.broken ++ broken }, acc.2 ++ [(e.ser, f)])

theorem layoutAbs_succ (c : Ctx) (fuel : Nat) (box : OBox) (idx : Nat) (y : Rat) (skip : Option Resume) (w : World) :
    layoutAbs c (fuel + 1) box idx y skip w =
      (let r := layoutBox c box idx y 0 skip false true [] { w with shapes := [], absL := [] }
       let wa := r.w.absL.foldl (nestedAbsStep c fuel) ({ r.w with absL := [] }, [])
       { r with frag := r.frag.map (substAbs wa.2), w := { wa.1 with shapes := w.shapes, absL := w.absL } }) := by
  rw [layoutAbs]
  rfl

/-- A nested box put in place of its placeholder is out of the flow. -/
theorem nestedAbsStep_oof (c : Ctx) (fuel : Nat) (acc : World × List (Nat × OFrag)) (e : AbsEntry)
    (h : ∀ p ∈ acc.2, p.2.inFlow = false) : ∀ p ∈ (nestedAbsStep c fuel acc e).2, p.2.inFlow = false := by
  unfold nestedAbsStep
  dsimp only
  split
  · exact h
  · rename_i f hf
    exact forall_mem_snoc h (by rw [layoutAbs_frag_inFlow hf, e.oof])

theorem nestedAbsFold_oof (c : Ctx) (fuel : Nat) (es : List AbsEntry) (acc : World × List (Nat × OFrag))
    (h : ∀ p ∈ acc.2, p.2.inFlow = false) :
    ∀ p ∈ (es.foldl (nestedAbsStep c fuel) acc).2, p.2.inFlow = false :=
  List.foldlRecOn (motive := fun acc => ∀ p ∈ acc.2, p.2.inFlow = false) es _ h fun acc h e _ => nestedAbsStep_oof c fuel acc e h

theorem layoutAbs_resume (c : Ctx) (fuel : Nat) (box : OBox) (idx : Nat) (y : Rat) (skip : Option Resume) (w : World) :
    (layoutAbs c fuel box idx y skip w).resume =
      (layoutBox c box idx y 0 skip false true [] { w with shapes := [], absL := [] }).resume := by
  cases fuel with
  | zero => rw [layoutAbs]
  | succ n => rw [layoutAbs_succ]

/-- The in-flow lines of an absolutely positioned box are those of its `block_container_layout`: the nested
boxes laid out in place of their placeholders are out of its flow. -/
theorem layoutAbs_lines {c : Ctx} {fuel : Nat} {box : OBox} {idx : Nat} {y : Rat} {skip : Option Resume} {w : World}
    {f : OFrag} (h : (layoutAbs c fuel box idx y skip w).frag = some f) :
    ∃ f0, (layoutBox c box idx y 0 skip false true [] { w with shapes := [], absL := [] }).frag = some f0 ∧
      fragLines f = fragLines f0 := by
  cases fuel with
  | zero => rw [layoutAbs] at h; exact ⟨f, h, rfl⟩
  | succ n =>
    rw [layoutAbs_succ] at h
    simp only [Option.map_eq_some_iff] at h
    obtain ⟨f0, hf0, rfl⟩ := h
    exact ⟨f0, hf0, substAbs_lines_of_notPh _ (nestedAbsFold_oof c n _ (_, []) (fun p hp => by simp at hp)) f0
      (layoutBox_frag_isPh hf0)⟩

theorem contStep_oof (c : Ctx) (rootTop : Rat) (acc : World × List OFrag) (e : Broken)
    (h : ∀ g ∈ acc.2, g.inFlow = false) : ∀ g ∈ (contStep c rootTop acc e).2, g.inFlow = false := by
  fun_cases contStep c rootTop acc e
  · exact h
  · next hfd _ =>
    obtain ⟨f0, hf0, hfl, _⟩ := floatDone_frag hfd
    exact forall_mem_snoc h (by rw [hfl, layoutBox_frag_inFlow hf0, e.oof])
  · exact h
  · exact forall_mem_snoc h (by rw [layoutAbs_frag_inFlow ‹_›, e.oof])

theorem contFold_oof (c : Ctx) (rootTop : Rat) (es : List Broken) (acc : World × List OFrag)
    (h : ∀ g ∈ acc.2, g.inFlow = false) : ∀ g ∈ (es.foldl (contStep c rootTop) acc).2, g.inFlow = false :=
  List.foldlRecOn (motive := fun acc => ∀ g ∈ acc.2, g.inFlow = false) es _ h fun acc h e _ => contStep_oof c rootTop acc e h

theorem substAbsList_oof (res : List (Nat × OFrag)) (hres : ∀ p ∈ res, p.2.inFlow = false) :
    ∀ (gs : List OFrag), (∀ g ∈ gs, g.inFlow = false) → ∀ g ∈ substAbsList res gs, g.inFlow = false
  | [], _ => by simp [substAbsList]
  | g :: gs, h => by
    intro g' hg'
    simp only [substAbsList, List.mem_cons] at hg'
    rcases hg' with rfl | hg'
    · rw [substAbs_inFlow res hres]; exact h g List.mem_cons_self
    · exact substAbsList_oof res hres gs (fun x hx => h x (List.mem_cons_of_mem _ hx)) g' hg'

theorem absFold_oof (c : Ctx) (es : List AbsEntry) (acc : World × List (Nat × OFrag))
    (h : ∀ p ∈ acc.2, p.2.inFlow = false) : ∀ p ∈ (es.foldl (absStep c) acc).2, p.2.inFlow = false :=
  List.foldlRecOn (motive := fun acc => ∀ p ∈ acc.2, p.2.inFlow = false) es _ h fun acc h e _ => nestedAbsStep_oof c (boxDepth e.box) acc e h

/-- What `make_page` puts into the root fragment besides its own flow: the continuations in front of its children,
the laid-out absolute boxes in place of their placeholders. -/
theorem page_oof (c : Ctx) (rootTop : Rat) (brokenIn : List Broken) (es : List AbsEntry) (w : World) :
    (∀ g ∈ substAbsList (es.foldl (absStep c) (w, [])).2 (brokenIn.foldl (contStep c rootTop) (World.empty, [])).2,
      g.inFlow = false) ∧
    ∀ p ∈ (es.foldl (absStep c) (w, [])).2, p.2.inFlow = false :=
  have h := absFold_oof c es (w, []) (fun q hq => by simp at hq)
  ⟨substAbsList_oof _ h _ (contFold_oof c rootTop brokenIn (World.empty, []) (fun g hg => by simp at hg)), h⟩

/-! ### continuations are real fragments, never bare placeholders -/

theorem layoutAbs_frag_isPh {c : Ctx} {fuel : Nat} {box : OBox} {idx : Nat} {y : Rat} {skip : Option Resume}
    {w : World} {f : OFrag} (h : (layoutAbs c fuel box idx y skip w).frag = some f) : f.isPh = false := by
  obtain ⟨f0, res, _, hf, hph⟩ := layoutAbs_frag h
  rcases hf with rfl | rfl
  · exact hph
  · exact substAbs_isPh_of_notPh res f0 hph

theorem contStep_notPh (c : Ctx) (rootTop : Rat) (acc : World × List OFrag) (e : Broken)
    (h : ∀ g ∈ acc.2, g.isPh = false) : ∀ g ∈ (contStep c rootTop acc e).2, g.isPh = false := by
  fun_cases contStep c rootTop acc e
  · exact h
  · next hfd _ =>
    obtain ⟨f0, hf0, _, hfl, _⟩ := floatDone_frag hfd
    exact forall_mem_snoc h (by rw [hfl]; exact layoutBox_frag_isPh hf0)
  · exact h
  · exact forall_mem_snoc h (layoutAbs_frag_isPh ‹_›)

/-! ### blank pages lay out an emptied root -/

theorem good_emptyRoot (b : OBox) (h : Good b) : Good (emptyRoot b) := by
  cases b with
  | para id n lh st => simpa [emptyRoot, Good] using h
  | block id st kids =>
    simp only [Good] at h
    simp [emptyRoot, Good, GoodList, h.1]

theorem linesFrom_emptyRoot (b : OBox) (σ : Option Resume) : linesFrom (emptyRoot b) σ = [] := by
  cases b with
  | para id n lh st => simp [emptyRoot, linesFrom, paraLines]
  | block id st kids => simp [emptyRoot, linesFrom, linesFromKids]

theorem wfSkip_emptyRoot (b : OBox) (σ : Option Resume) : WfSkip (emptyRoot b) σ := by
  cases b with
  | para id n lh st => simp [emptyRoot, WfSkip]
  | block id st kids => simp [emptyRoot, WfSkip, WfSkipKids]

/-- `remake_page` in closed form: the continuations `wc`, the root layout `r` in their world, the absolutely
positioned boxes `wa`, and the page built from them. -/
theorem remakePage_some (d : Doc) (index : Nat) (resume : Option Resume) (np : NextPage) (right : Bool)
    (brokenIn : List Broken) (rootTop : Rat) (p : Page)
    (hp : remakePage d index resume np right brokenIn rootTop = some p) :
    ∃ blank c wc r f wa, blank = isBlank (requestedSide d.rootLtr np.brk) right ∧
      c = ({ pageBottom := d.pageH, currentPage := index + 1, forcedBreak := forcedBreakOf np } : Ctx) ∧
      wc = brokenIn.foldl (contStep c rootTop) (World.empty, []) ∧
      r = layoutBox c (if blank then emptyRoot d.root else d.root) 0 0 0 resume false true [] wc.1 ∧
      r.frag = some f ∧
      wa = r.w.absL.foldl (absStep c) ({ r.w with absL := [] }, []) ∧
      p = { type := { right := right, blank := blank,
                      name := if blank then "" else (match np.page with | some n => n | none => ""), index := index },
            root := finishRoot d.root.st.height r.w.shapes (substAbsList wa.2 wc.2) (substAbs wa.2 f),
            resume := if blank then resume else r.resume, nextPage := if blank then np else r.nextPage,
            broken := wa.1.broken, rootTop := if blank then rootTop else f.geo.mt + f.geo.bt + f.geo.pt,
            crash := wa.1.crash } := by
  unfold remakePage at hp
  dsimp only at hp
  split at hp
  · cases hp
  · rename_i f hfrag
    cases hp
    exact ⟨_, _, _, _, f, _, rfl, rfl, rfl, rfl, hfrag, rfl, rfl⟩

/-- What `remake_page` does, read off its definition: the raw root fragment `f` comes from one
`layoutBox` call on the (emptied, if blank) root with `page_is_empty = true`; the page's root has the same
in-flow lines. -/
theorem remakePage_spec (d : Doc) (index : Nat) (resume : Option Resume) (np : NextPage) (right : Bool)
    (brokenIn : List Broken) (rootTop : Rat) (p : Page)
    (hp : remakePage d index resume np right brokenIn rootTop = some p) :
    p.type.blank = isBlank (requestedSide d.rootLtr np.brk) right ∧
    (p.type.blank = true → p.resume = resume ∧ p.nextPage = np ∧
      ∃ c w f, (layoutBox c (emptyRoot d.root) 0 0 0 resume false true [] w).frag = some f ∧
        fragLines p.root = fragLines f) ∧
    (p.type.blank = false →
      ∃ c w f, (layoutBox c d.root 0 0 0 resume false true [] w).frag = some f ∧
        fragLines p.root = fragLines f ∧
        p.resume = (layoutBox c d.root 0 0 0 resume false true [] w).resume) := by
  obtain ⟨blank, c, wc, r, f, wa, rfl, rfl, rfl, rfl, hfrag, rfl, rfl⟩ :=
    remakePage_some d index resume np right brokenIn rootTop p hp
  refine ⟨rfl, ?_, ?_⟩
  · intro hb
    simp only at hb
    simp only [hb, ↓reduceIte] at hfrag ⊢
    exact ⟨trivial, trivial, _, _, f, hfrag,
      finalRoot_lines _ _ _ _ f (page_oof _ _ _ _ _).1 (page_oof _ rootTop brokenIn _ _).2 (layoutBox_frag_isPh hfrag)⟩
  · intro hb
    simp only at hb
    simp only [hb, Bool.false_eq_true, ↓reduceIte] at hfrag ⊢
    exact ⟨_, _, f, hfrag,
      finalRoot_lines _ _ _ _ f (page_oof _ _ _ _ _).1 (page_oof _ rootTop brokenIn _ _).2 (layoutBox_frag_isPh hfrag), rfl⟩

/-- In-flow lines and position of one page. -/
theorem remakePage_lines (d : Doc) (hg : Good d.root) (index : Nat) (resume : Option Resume) (np : NextPage)
    (right : Bool) (brokenIn : List Broken) (rootTop : Rat) (p : Page) (hwf : WfSkip d.root resume)
    (hp : remakePage d index resume np right brokenIn rootTop = some p) :
    (p.type.blank = true → fragLines p.root = [] ∧ p.resume = resume ∧ p.nextPage = np) ∧
    (p.type.blank = false →
      fragLines p.root ++ restOut d.root p.resume = linesFrom d.root resume ∧
      WfSkip d.root p.resume ∧
      ∀ r, p.resume = some r → pos d.root resume < pos d.root (some r)) := by
  obtain ⟨_, h1, h2⟩ := remakePage_spec d index resume np right brokenIn rootTop p hp
  constructor
  · intro hb
    obtain ⟨hr, hn, c, w, f, hf, hl⟩ := h1 hb
    refine ⟨?_, hr, hn⟩
    have hs := box_spec (emptyRoot d.root) (good_emptyRoot _ hg) c 0 0 0 resume false true [] w
      (wfSkip_emptyRoot _ _)
    have := boxPost_lines hs hf
    rw [linesFrom_emptyRoot] at this
    rw [hl]
    exact (List.append_eq_nil_iff.mp this).1
  · intro hb
    obtain ⟨c, w, f, hf, hl, hr⟩ := h2 hb
    have hs := box_spec d.root hg c 0 0 0 resume false true [] w hwf
    rw [hr, hl]
    refine ⟨boxPost_lines hs hf, ?_, ?_⟩
    · cases hres : (layoutBox c d.root 0 0 0 resume false true [] w).resume with
      | none => exact wfSkip_none _
      | some r =>
        have := hs f hf
        rw [hres] at this
        exact this.2.2.2
    · intro r hr'
      have := hs f hf
      rw [hr'] at this
      exact this.2.2.1 rfl

/-! ### `make_all_pages`, one page at a time -/

theorem makeAllPages_some {d : Doc} {fuel index : Nat} {resume : Option Resume} {np : NextPage} {right : Bool}
    {brokenIn : List Broken} {rootTop : Rat} {pages : List Page}
    (h : makeAllPages d (fuel + 1) index resume np right brokenIn rootTop = some pages) :
    ∃ p, remakePage d index resume np right brokenIn rootTop = some p ∧
      ((p.resume = none ∧ pages = [p]) ∨ ∃ ps, p.resume.isSome = true ∧
        makeAllPages d fuel (index + 1) p.resume p.nextPage (!right) p.broken p.rootTop = some ps ∧
        pages = p :: ps) := by
  obtain ⟨_, p, hm, ⟨hs, rfl⟩ | ⟨_, ps, hs, hps, rfl⟩⟩ := PageLoop.run_ok (makeAllPages_eq_some.mp h)
  · obtain ⟨hp, ho⟩ := PageLoop.stepOf_ok hs
    exact ⟨p, hp, .inl ⟨Option.map_eq_none_iff.mp ho.symm, rfl⟩⟩
  · obtain ⟨hp, ho⟩ := PageLoop.stepOf_ok hs
    obtain ⟨r, hr, rfl⟩ := Option.map_eq_some_iff.mp ho.symm
    cases hm
    exact ⟨p, hp, .inr ⟨ps, by rw [hr]; rfl, hr ▸ makeAllPages_eq_some.mpr hps, rfl⟩⟩

theorem makeAllPages_forall (d : Doc) (I : List Broken → Prop) (P : Page → Prop)
    (hstep : ∀ index resume np right brokenIn rootTop p, I brokenIn →
      remakePage d index resume np right brokenIn rootTop = some p → P p ∧ I p.broken) :
    ∀ (fuel index : Nat) (resume : Option Resume) (np : NextPage) (right : Bool) (brokenIn : List Broken)
      (rootTop : Rat) (pages : List Page), I brokenIn →
      makeAllPages d fuel index resume np right brokenIn rootTop = some pages → ∀ p ∈ pages, P p :=
  fun fuel index resume np right brokenIn rootTop pages hI h =>
    PageLoop.run_forall (fun s : PState => I s.2.2.2.2.1) P
      (fun s p o hI hs => by
        obtain ⟨hp, ho⟩ := PageLoop.stepOf_ok hs
        obtain ⟨hP, hI'⟩ := hstep _ _ _ _ _ _ p hI hp
        refine ⟨hP, fun s' hs' => ?_⟩
        obtain ⟨r', _, rfl⟩ := Option.map_eq_some_iff.mp (ho.symm.trans hs')
        exact hI')
      fuel _ pages (makeAllPages_eq_some.mp h) hI

def pagesLines : List Page → List (Nat × Nat)
  | [] => []
  | p :: ps => fragLines p.root ++ pagesLines ps

theorem pagesLines_eq (pages : List Page) :
    pagesLines pages = (pages.map (fun p => fragLines p.root)).flatten := by
  induction pages with
  | nil => rfl
  | cons p ps ih => simp [pagesLines, ih]

theorem makeAllPages_lines (d : Doc) (hg : Good d.root) : ∀ (fuel index : Nat) (resume : Option Resume)
    (np : NextPage) (right : Bool) (brokenIn : List Broken) (rootTop : Rat) (pages : List Page),
    (resume = none → isBlank (requestedSide d.rootLtr np.brk) right = false) →
    WfSkip d.root resume →
    makeAllPages d fuel index resume np right brokenIn rootTop = some pages →
    pagesLines pages = linesFrom d.root resume := by
  intro fuel
  induction fuel with
  | zero => intro index resume np right bi rt pages _ _ h; simp [makeAllPages] at h
  | succ fuel ih =>
    intro index resume np right bi rt pages hstart hwf h
    obtain ⟨p, hp, hrest⟩ := makeAllPages_some h
    obtain ⟨hbl, _, _⟩ := remakePage_spec d index resume np right bi rt p hp
    obtain ⟨l1, l2⟩ := remakePage_lines d hg index resume np right bi rt p hwf hp
    cases hb : p.type.blank with
    | true =>
      obtain ⟨hl, hr, hn⟩ := l1 hb
      have hrs : resume ≠ none := by
        intro he
        have := hstart he
        rw [← hbl, hb] at this
        cases this
      rcases hrest with ⟨hnone, _⟩ | ⟨ps, _, hps, rfl⟩
      · rw [hr] at hnone; exact absurd hnone hrs
      · simp only [pagesLines, hl, List.nil_append]
        rw [hr] at hps
        exact ih (index + 1) resume p.nextPage (!right) _ _ ps (fun he => absurd he hrs) hwf hps
    | false =>
      obtain ⟨hl, hw, _⟩ := l2 hb
      rcases hrest with ⟨hnone, rfl⟩ | ⟨ps, hsome, hps, rfl⟩
      · rw [hnone] at hl
        simpa [pagesLines, restOut] using hl
      · simp only [pagesLines]
        rw [ih (index + 1) p.resume p.nextPage (!right) _ _ ps
          (fun he => by rw [he] at hsome; cases hsome) hw hps]
        obtain ⟨r, hr⟩ := Option.isSome_iff_exists.mp hsome
        rw [hr] at hl ⊢
        exact hl

end Wp.PMO
