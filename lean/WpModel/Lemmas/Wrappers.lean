/-
"Every table box sits in a table wrapper" as an invariant of the flex / grid pass of
Model/AnonBoxes.lean (`flex_boxes` / `grid_boxes`, `flex_children` / `grid_children`): the anonymous
block put in place of an inline-block item copies `is_table_wrapper`, so the wrapper of an
`inline-table` item stays a wrapper.
-/
import WpModel.Lemmas.Pipeline

namespace Wp.Bx
open KBox

/-- No child is a table box. -/
def NoTableKid (kids : List KBox) : Prop := ∀ c ∈ kids, c.isA .TableBox = false

mutual
/-- Outside running elements, a table box occurs only as a child of a table wrapper. -/
def Wrapped : KBox → Prop
  | .mk _ st _ inst _ kids _ => (st.run = false → inst.wrapper = false → NoTableKid kids) ∧ WrappedL kids
def WrappedL : List KBox → Prop
  | [] => True
  | c :: cs => Wrapped c ∧ WrappedL cs
end

theorem wrapped_parts {b : KBox} (h : Wrapped b) :
    (b.st.run = false → b.inst.wrapper = false → NoTableKid b.kids) ∧ WrappedL b.kids := by
  obtain ⟨k, st, el, inst, text, kids, cols⟩ := b
  unfold Wrapped at h
  exact h

theorem wrapped_mk {b : KBox} (h1 : b.st.run = false → b.inst.wrapper = false → NoTableKid b.kids)
    (h2 : WrappedL b.kids) : Wrapped b := by
  obtain ⟨k, st, el, inst, text, kids, cols⟩ := b
  unfold Wrapped
  exact ⟨h1, h2⟩

theorem wrapped_withInst (b : KBox) (i : Inst) (h : i.wrapper = b.inst.wrapper) :
    Wrapped (b.withInst i) ↔ Wrapped b := by
  obtain ⟨k, st, el, inst, text, kids, cols⟩ := b
  simp only [KBox.inst] at h
  unfold withInst Wrapped
  rw [h]

theorem noTableKid_cons (c : KBox) (cs : List KBox) :
    NoTableKid (c :: cs) ↔ c.isA .TableBox = false ∧ NoTableKid cs := by
  unfold NoTableKid
  simp

theorem inlineLevel_not_table : ∀ k, Gen.isSub k .InlineLevelBox = true → Gen.isSub k .TableBox = false := by
  decide

theorem noTableKid_append (a b : List KBox) : NoTableKid (a ++ b) ↔ NoTableKid a ∧ NoTableKid b :=
  List.forall_mem_append

theorem wrappedL_append (a b : List KBox) : WrappedL (a ++ b) ↔ WrappedL a ∧ WrappedL b := by
  simp only [List.listLift_iff (XL := WrappedL) (X := Wrapped) trivial (fun _ _ => Iff.rfl), List.forall_mem_append]

theorem itemMark_wrapped (grid : Bool) (b : KBox) :
    (itemMark grid b).isA .TableBox = b.isA .TableBox ∧ (Wrapped (itemMark grid b) ↔ Wrapped b) := by
  obtain ⟨i, e, hi⟩ := itemMark_eq grid b
  rw [e]
  exact ⟨isA_withInst b i _, wrapped_withInst b i hi⟩

/-- The loop body keeps every table box inside its wrapper and adds no table box of its own. -/
theorem itemOf_wrapped (grid : Bool) (c : KBox) (h : Wrapped c) :
    WrappedL (itemOf grid c) ∧ (c.isA .TableBox = false → NoTableKid (itemOf grid c)) := by
  have hp := wrapped_parts h
  unfold itemOf
  split
  · exact ⟨trivial, fun _ _ hx => by cases hx⟩
  · split
    · -- an inline-block item: an anonymous block with the same children, style and wrapper flag
      refine ⟨⟨(itemMark_wrapped grid _).2.2 (wrapped_mk hp.1 hp.2), trivial⟩, fun _ => ?_⟩
      rw [noTableKid_cons, (itemMark_wrapped grid _).1]
      exact ⟨rfl, fun _ hx => by cases hx⟩
    · split
      · -- another inline-level item: the one child of an anonymous block
        rename_i hil
        have hnt : c.isA .TableBox = false := inlineLevel_not_table _ hil
        refine ⟨⟨(itemMark_wrapped grid _).2.2 (wrapped_mk (fun _ _ => ?_) ⟨?_, trivial⟩), trivial⟩, fun _ => ?_⟩
        · show NoTableKid [_]
          rw [noTableKid_cons]
          refine ⟨?_, fun _ hx => by cases hx⟩
          split
          · rw [isA_withInst]
            exact hnt
          · exact hnt
        · split
          · refine (wrapped_withInst _ _ ?_).2 h
            rfl
          · exact h
        · rw [noTableKid_cons, (itemMark_wrapped grid _).1]
          exact ⟨rfl, fun _ hx => by cases hx⟩
      · -- a block-level item stays
        exact ⟨⟨h, trivial⟩, fun hn => (noTableKid_cons c []).2 ⟨hn, fun _ hx => by cases hx⟩⟩

/-- `flex_children` / `grid_children`: every item is still `Wrapped`, and no table box appears among
the items when there was none among the children. -/
theorem itemChildren_wrapped (grid : Bool) (l : List KBox) (h : WrappedL l) :
    WrappedL (itemChildren grid l) ∧ (NoTableKid l → NoTableKid (itemChildren grid l)) := by
  induction l with
  | nil => exact ⟨trivial, fun hn => hn⟩
  | cons c cs ih =>
    unfold WrappedL at h
    obtain ⟨ih1, ih2⟩ := ih h.2
    obtain ⟨i, e, hi⟩ := itemHead_eq grid c
    obtain ⟨w1, w2⟩ := itemOf_wrapped grid (itemHead grid c) (by rw [e, wrapped_withInst c i hi]; exact h.1)
    rw [itemChildren_cons, wrappedL_append, noTableKid_append, noTableKid_cons]
    refine ⟨⟨w1, ih1⟩, fun hn => ⟨w2 ?_, ih2 hn.2⟩⟩
    rw [e, isA_withInst]
    exact hn.1

mutual
/-- `flex_boxes` / `grid_boxes` keep every table box inside its wrapper. -/
theorem fgb_wrapped : ∀ (grid : Bool) (b : KBox), Wrapped b → Wrapped (fgb grid b)
  | grid, .mk k st el inst text kids cols, h => by
    unfold fgb
    split
    · exact h
    · unfold Wrapped at h
      obtain ⟨k1, k2⟩ := fgbKids_wrapped grid kids h.2
      simp only
      by_cases hcont : (if grid = true then Gen.isSub k .GridContainerBox else Gen.isSub k .FlexContainerBox) = true
      · rw [if_pos hcont]
        obtain ⟨i1, i2⟩ := itemChildren_wrapped grid (fgbKids grid kids) k1
        unfold Wrapped
        exact ⟨fun hr hw => i2 (k2 (h.1 hr hw)), i1⟩
      · rw [if_neg hcont]
        unfold Wrapped
        exact ⟨fun hr hw => k2 (h.1 hr hw), k1⟩
theorem fgbKids_wrapped : ∀ (grid : Bool) (l : List KBox), WrappedL l →
    WrappedL (fgbKids grid l) ∧ (NoTableKid l → NoTableKid (fgbKids grid l))
  | _, [], _ => ⟨by simp [fgbKids, WrappedL], fun _ => by simp [fgbKids, NoTableKid]⟩
  | grid, c :: cs, h => by
    unfold WrappedL at h
    have a := fgb_wrapped grid c h.1
    obtain ⟨b1, b2⟩ := fgbKids_wrapped grid cs h.2
    unfold fgbKids
    refine ⟨by unfold WrappedL; exact ⟨a, b1⟩, fun hn => ?_⟩
    rw [noTableKid_cons] at hn ⊢
    refine ⟨?_, b2 hn.2⟩
    obtain ⟨k, st, el, inst, text, kids, cols⟩ := c
    unfold fgb
    split
    · exact hn.1
    · exact hn.1
end

end Wp.Bx
