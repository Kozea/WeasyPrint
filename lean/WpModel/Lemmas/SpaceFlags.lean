/-
The collapsed spaces `inline_in_block` remembers as break opportunities (Model/AnonBoxes.lean `iib` /
`iibKids`): an empty text box that ends a box hands its `leading_collapsible_space` over to the box as
`trailing_collapsible_space`.
-/
import WpModel.Lemmas.Boxes
import WpModel.Lemmas.Threading

namespace Wp.Bx
open KBox

/-- A text box emptied by `process_whitespace` whose space collapsed with a preceding one. -/
def CollapsedSpace (t : KBox) : Prop := t.isA .TextBox = true ∧ t.text = [] ∧ t.inst.lcs = true

/-- The first loop of `inline_in_block`: when the last child is a collapsed space, the loop ends with
`trailing_collapsible_space = True`, whatever precedes. -/
theorem iibKids_trailing (t : KBox) (ht : CollapsedSpace t) : ∀ (ks : List KBox) (tr : Bool)
    (children : List KBox) (trailing : Bool), iibKids tr (ks ++ [t]) = .ok (children, trailing) → trailing = true
  | [], tr, children, trailing, h => by
    obtain ⟨h1, h2, h3⟩ := ht
    simp only [KBox.isA] at h1
    simp only [List.nil_append] at h
    unfold iibKids at h
    simp only [h1, h2, List.isEmpty_nil, Bool.and_self, if_true, h3, Bool.true_or] at h
    unfold iibKids at h
    cases h
    rfl
  | c :: cs, tr, children, trailing, h => by
    rcases iibKids_cons_cases (cs := cs ++ [t]) h with ⟨_, h'⟩ | ⟨_, _, rest, _, hrest, _⟩
    · exact iibKids_trailing t ht cs _ children trailing h'
    · exact iibKids_trailing t ht cs false rest trailing hrest

/-! ## a white-space-only run after a collapsible space -/

def AllSpTab (t : Text) : Prop := ∀ c ∈ t, isSpTab c = true

theorem spTab_cases {c : Nat} (h : isSpTab c = true) : c = 32 ∨ c = 9 := by
  simpa [isSpTab, Ch.sp, Ch.tab] using h

theorem tabSubGo_spTab : ∀ (t : Text) (pend : List Nat), AllSpTab t → tabSubGo t pend false = pend.reverse ++ t
  | [], pend, _ => by simp [tabSubGo]
  | c :: cs, pend, h => by
    have hc := h c List.mem_cons_self
    have ih := tabSubGo_spTab cs (c :: pend) (fun d hd => h d (List.mem_cons_of_mem _ hd))
    unfold tabSubGo
    simp only [hc, if_true, Bool.false_eq_true, if_false, ih, List.reverse_cons, List.append_assoc,
      List.singleton_append]

theorem nlToSpace_spTab (t : Text) (h : AllSpTab t) : nlToSpace t = t := by
  unfold nlToSpace
  have : ∀ c ∈ t, (if (c == Ch.lf) = true then Ch.sp else c) = c := by
    intro c hc
    rcases spTab_cases (h c hc) with rfl | rfl <;> simp [Ch.lf]
  calc t.map (fun c => if (c == Ch.lf) = true then Ch.sp else c) = t.map id := List.map_congr_left this
    _ = t := List.map_id t

theorem spaceSubGo_spTab_run : ∀ (t : Text), AllSpTab t → spaceSubGo t true = []
  | [], _ => rfl
  | c :: cs, h => by
    unfold spaceSubGo
    simp only [h c List.mem_cons_self, if_true]
    exact spaceSubGo_spTab_run cs (fun d hd => h d (List.mem_cons_of_mem _ hd))

/-- A non-empty run of spaces and tabs collapses to one space under every collapsing `white-space`. -/
theorem collapsed_spTab (ws : WS) (t : Text) (hne : t ≠ []) (h : AllSpTab t) : collapsed ws t = [Ch.sp] := by
  unfold collapsed lineFeed tabSub
  rw [lineFeedGo_id t fun c hc => by rcases spTab_cases (h c hc) with rfl | rfl <;> decide, tabSubGo_spTab t [] h]
  simp only [List.reverse_nil, List.nil_append, nlToSpace_spTab t h, ite_self]
  unfold spaceSub
  cases t with
  | nil => exact absurd rfl hne
  | cons c cs =>
    unfold spaceSubGo
    simp only [h c List.mem_cons_self, if_true, Bool.false_eq_true, if_false]
    rw [spaceSubGo_spTab_run cs (fun d hd => h d (List.mem_cons_of_mem _ hd))]

/-- … and after a collapsible space nothing of it is left: the text box is emptied and flagged. -/
theorem processText_spTab (ws : WS) (hws : spaceCollapse ws = true) (t : Text) (hne : t ≠ []) (h : AllSpTab t) :
    processText ws t true = ⟨[], true, true⟩ := by
  rw [processText_collapse ws hws t true, collapsed_spTab ws t hne h]
  rfl

end Wp.Bx
