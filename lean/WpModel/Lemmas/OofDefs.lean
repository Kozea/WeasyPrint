/-
Definitions for the conservation / progress theorems of the extended pagination model (stage 2a):
in-flow lines of fragments and boxes, position measure, well-formed skip stacks, "complete rest".
Out-of-flow children (placeholders, floats) are units of the children sequence but hold no in-flow line.
Then the children loop of `block_container_layout` taken one child at a time (`kidStep`, `layoutKids_step`), with
the case lemmas of its parts: every induction over a layout goes through these.
-/
import WpModel.Model.PaginateOof
import WpModel.Lemmas.SegmentDefs

namespace Wp.PMO
open Wp Wp.PM

mutual
/-- (paragraph id, line number) of every line of the fragment's own flow, in tree order: the lines of
out-of-flow descendants (floats, laid-out absolute boxes) are *not* included. -/
def fragLines : OFrag → List (Nat × Nat)
  | .para _ id _ _ _ _ lines => lines.map (fun l => (id, l.1))
  | .block _ _ _ _ _ kids => fragLinesList kids
  | .ph _ _ _ _ => []
def fragLinesList : List OFrag → List (Nat × Nat)
  | [] => []
  | f :: fs => (if f.inFlow then fragLines f else []) ++ fragLinesList fs
end

mutual
/-- Lines of the box's own flow at / after a resume position. -/
def linesFrom : OBox → Option Resume → List (Nat × Nat)
  | .para id n _ _, σ => paraLines id (paraStart σ) n
  | .block _ _ kids, σ => linesFromKids kids (skipIdxOf σ) (subSkipOf σ)
def linesFromKids : List OBox → Nat → Option Resume → List (Nat × Nat)
  | [], _, _ => []
  | b :: bs, 0, sub => (if b.inFlow then linesFrom b sub else []) ++ linesFromKids bs 0 none
  | _ :: bs, k + 1, sub => linesFromKids bs k sub
end

def restOut (box : OBox) : Option Resume → List (Nat × Nat)
  | none => []
  | some r => linesFrom box (some r)

/-! ### position measure: one unit per line, per box, per out-of-flow child -/

mutual
def size : OBox → Nat
  | .para _ n _ _ => n + 1
  | .block _ _ kids => sizeList kids + 1
def sizeList : List OBox → Nat
  | [] => 0
  | b :: bs => (if b.inFlow then size b else 1) + sizeList bs
end

mutual
def pos : OBox → Option Resume → Nat
  | .para _ n _ _, σ => min (paraStart σ) n
  | .block _ _ kids, σ => posKids kids (skipIdxOf σ) (subSkipOf σ)
def posKids : List OBox → Nat → Option Resume → Nat
  | [], _, _ => 0
  | b :: _, 0, sub => if b.inFlow then pos b sub else 0
  | b :: bs, k + 1, sub => (if b.inFlow then size b else 1) + posKids bs k sub
end

/-! ### well-formed skip stacks: a sub-stack only below an in-flow child -/

mutual
def WfSkip : OBox → Option Resume → Prop
  | .para _ _ _ _, _ => True
  | .block _ _ kids, σ => WfSkipKids kids (skipIdxOf σ) (subSkipOf σ)
def WfSkipKids : List OBox → Nat → Option Resume → Prop
  | [], _, _ => True
  | b :: _, 0, sub => if b.inFlow then WfSkip b sub else sub = none
  | _ :: bs, k + 1, sub => WfSkipKids bs k sub
end

mutual
/-- No fixed `height`, `orphans, widows ≥ 1`, for the box and its in-flow descendants (what happens
inside out-of-flow children does not matter to the flow). -/
def Good : OBox → Prop
  | .para _ _ _ st => st.height = none ∧ 1 ≤ st.orphans ∧ 1 ≤ st.widows
  | .block _ st kids => st.height = none ∧ GoodList kids
def GoodList : List OBox → Prop
  | [] => True
  | b :: bs => (b.inFlow = true → Good b) ∧ GoodList bs
end

mutual
/-- The same for every box of the tree, out-of-flow ones included. -/
def GoodDeep : OBox → Prop
  | .para _ _ _ st => st.height = none ∧ 1 ≤ st.orphans ∧ 1 ≤ st.widows
  | .block _ st kids => st.height = none ∧ GoodDeepList kids
def GoodDeepList : List OBox → Prop
  | [] => True
  | b :: bs => GoodDeep b ∧ GoodDeepList bs
end

mutual
theorem good_of_deep : (b : OBox) → GoodDeep b → Good b
  | .para _ _ _ _ => by intro h; simpa [GoodDeep, Good] using h
  | .block _ _ kids => by
    intro h
    simp only [GoodDeep] at h
    simp only [Good]
    exact ⟨h.1, goodList_of_deep kids h.2⟩
theorem goodList_of_deep : (bs : List OBox) → GoodDeepList bs → GoodList bs
  | [] => by intro _; simp [GoodList]
  | b :: bs => by
    intro h
    simp only [GoodDeepList] at h
    simp only [GoodList]
    exact ⟨fun _ => good_of_deep b h.1, goodList_of_deep bs h.2⟩
end

/-! ### "the fragment is the complete rest of the box" -/

mutual
def Full : OFrag → OBox → Option Resume → Prop
  | .para _ id _ st n _ lines, b, σ =>
    match b with
    | .para id' n' _ st' => id = id' ∧ n = n' ∧ st = st' ∧
        lines.map Prod.fst = List.range' (paraStart σ) (n' - paraStart σ)
    | .block _ _ _ => False
  | .block _ _ _ _ _ fs, b, σ =>
    match b with
    | .block _ _ kids => FullFrom fs (kids.drop (skipIdxOf σ)) (skipIdxOf σ) (subSkipOf σ)
    | .para _ _ _ _ => False
  | .ph _ _ _ _, _, _ => False
/-- `FullFrom fs bs i sub`: one fragment per box of `bs` (positions `i, i+1, …`): a complete fragment for
an in-flow box (the first one resumed at `sub`), an out-of-flow fragment (placeholder or float) for an
out-of-flow box. -/
def FullFrom : List OFrag → List OBox → Nat → Option Resume → Prop
  | [], bs, _, _ => bs = []
  | f :: fs, bs, i, sub =>
    match bs with
    | [] => False
    | b :: bs' => f.idx = i ∧ f.inFlow = b.inFlow ∧ (b.inFlow = true → Full f b sub) ∧ FullFrom fs bs' (i + 1) none
end

/-! ### the children loop, one child at a time

`layoutKids` visits a child in one of four ways (placeholder, float, forced break, `_in_flow_layout`), and
either ends there with an outcome or goes on with a new loop state. `kidStep` is that one turn, `StepTo` what
a proof says about it, `layoutKids_step` the rule for one more child. -/

theorem inFlow_false_of_pos {b : OBox} (h : b.st.pos ≠ .static) : b.inFlow = false := by
  simp [OBox.inFlow, h]

theorem inFlow_of_pos (b : OBox) : b.inFlow = true ↔ b.st.pos = .static := by
  simp [OBox.inFlow]

/-- What `_in_flow_layout` holds when it reaches its end: the loop state, the child's fragment if it is
kept, and the child's resume position. -/
def flowLaid (c : Ctx) (st : OStyle) (b : BoxSt) (cwc : Bool) (index : Nat) (bs : Rat) (pie : Bool)
    (child : OBox) (s : KidsLoop) : KidsLoop × Option OFrag × Option Resume :=
  let s0 := preFlow c { b with y := s.boxY } cwc pie child s
  let pe := pienc pie s0
  let r := layoutBox c child index s.posY bs s0.skip st.isRoot pe s0.cur s0.w
  let s1 := { s0.setCur r.adjL s0.curIsL with w := r.w }
  match firstPass c bs pe s0.posY r with
  | .keep frag posY =>
    ({ s1.adoptAdj r.frag.isSome r.adj frag with
       posY := clearancePosY r.clearance frag posY, nextPage := r.nextPage, skip := none,
       w := dropFrag r.w r.frag frag }, frag, r.resume)
  | .redo bs' =>
    let r2 := layoutBox c child index s.posY bs' s0.skip st.isRoot pe s1.cur (dropFrag r.w r.frag none)
    let s1' := { s1.setCur r2.adjL s1.curIsL with w := r2.w }
    let posY := match r2.frag with
      | some f2 => f2.geo.borderBoxY + f2.geo.borderHeight
      | none => s0.posY
    ({ s1'.adoptAdj true r2.adj r2.frag with
       posY := clearancePosY r2.clearance r2.frag posY, nextPage := r2.nextPage, skip := none }, r2.frag, r2.resume)

/-- One turn of the children loop on a child that is not skipped: the outcome if the loop ends here, and
the loop state. -/
def kidStep (c : Ctx) (st : OStyle) (b : BoxSt) (cwc : Bool) (index : Nat) (bs : Rat) (pie : Bool)
    (child : OBox) (s : KidsLoop) : Option KidsOutcome × KidsLoop :=
  if ha : child.st.pos = .abs then (none, placeAbs index child (inFlow_false_of_pos (by simp [ha])) s)
  else if hf : child.st.pos = .float then
    floatStep c index pie bs child (inFlow_false_of_pos (by simp [hf])) s
      (layoutBox c child index (floatY s.w.shapes child.st.clear (s.posY + collapseMargin s.cur)) bs none
        false true [] { s.w with shapes := [] })
  else if (meetBreak s child).2 then
    (some (.stopped (some (.node index none))
      { s with nextPage := { brk := some (meetBreak s child).1, page := some (boxPageStart child) } }), s)
  else
    let x := flowLaid c st b cwc index bs pie child s
    concludeKid index pie (meetBreak s child).1 child x.1 x.2.1 x.2.2

/-- The children loop after one turn: it ends with the turn's outcome, or goes on from the turn's state. -/
def afterStep (x : Option KidsOutcome × KidsLoop) (k : KidsLoop → KidsOutcome) : KidsOutcome :=
  match x with
  | (some out, _) => out
  | (none, s') => k s'

theorem layoutKids_turn (c : Ctx) (st : OStyle) (b : BoxSt) (cwc : Bool) (child : OBox) (rest : List OBox)
    (index skipIdx : Nat) (bs : Rat) (pie : Bool) (s : KidsLoop) :
    layoutKids c st b cwc (child :: rest) index skipIdx bs pie s =
      if index < skipIdx then layoutKids c st b cwc rest (index + 1) skipIdx bs pie s
      else afterStep (kidStep c st b cwc index bs pie child s)
        (layoutKids c st b cwc rest (index + 1) skipIdx bs pie) := by
  rw [layoutKids]
  split
  · rfl
  · split
    · rename_i hpos
      rw [kidStep, dif_pos hpos]
      rfl
    · rename_i hpos
      rw [kidStep, dif_neg (by simp [hpos]), dif_pos hpos]
      rfl
    · rename_i hpos
      rw [kidStep, dif_neg (by simp [hpos]), dif_neg (by simp [hpos])]
      unfold flowLaid
      -- naming the intermediate results keeps the terms small: substituted, each occurs hundreds of times
      extract_lets +onlyGivenNames mb s0 pe r s1 s1'
      split
      · rfl
      · generalize firstPass c bs pe s0.posY r = fp
        cases fp <;> rfl

/-- A turn of the loop ends it with an outcome satisfying `Post`, or leaves a state satisfying `Next`. -/
def StepTo (Post : KidsOutcome → Prop) (Next : KidsLoop → Prop) (x : Option KidsOutcome × KidsLoop) : Prop :=
  match x.1 with
  | some out => Post out
  | none => Next x.2

theorem StepTo.mono {Post Post' : KidsOutcome → Prop} {Next Next' : KidsLoop → Prop}
    {x : Option KidsOutcome × KidsLoop} (h : StepTo Post Next x) (hp : ∀ out, Post out → Post' out)
    (hn : ∀ s, Next s → Next' s) : StepTo Post' Next' x := by
  rcases x with ⟨_ | out, s⟩
  · exact hn s h
  · exact hp out h

/-- The children loop, one more child: skipped, or visited by a turn that ends the loop with an outcome
satisfying `Post`, or leaves a state `Next` from which the rest of the loop reaches `Post`. -/
theorem layoutKids_step {Post : KidsOutcome → Prop} (Next : KidsLoop → Prop) {c : Ctx} {st : OStyle} {b : BoxSt}
    {cwc : Bool} {child : OBox} {rest : List OBox} {index skipIdx : Nat} {bs : Rat} {pie : Bool} {s : KidsLoop}
    (hskip : index < skipIdx → Post (layoutKids c st b cwc rest (index + 1) skipIdx bs pie s))
    (hvisit : skipIdx ≤ index → StepTo Post Next (kidStep c st b cwc index bs pie child s) ∧
      ∀ s', Next s' → Post (layoutKids c st b cwc rest (index + 1) skipIdx bs pie s')) :
    Post (layoutKids c st b cwc (child :: rest) index skipIdx bs pie s) := by
  rw [layoutKids_turn]
  split
  · rename_i h
    exact hskip h
  · rename_i h
    obtain ⟨hst, hnext⟩ := hvisit (Nat.le_of_not_lt h)
    revert hst
    rcases kidStep c st b cwc index bs pie child s with ⟨_ | out, s'⟩
    · exact hnext s'
    · exact id

theorem stepTo_kidStep {Post : KidsOutcome → Prop} {Next : KidsLoop → Prop} (c : Ctx) (st : OStyle) (b : BoxSt)
    (cwc : Bool) (index : Nat) (bs : Rat) (pie : Bool) (child : OBox) (s : KidsLoop)
    (habs : ∀ hc, child.st.pos = .abs → Next (placeAbs index child hc s))
    (hfloat : ∀ hc, child.st.pos = .float → StepTo Post Next (floatStep c index pie bs child hc s
      (layoutBox c child index (floatY s.w.shapes child.st.clear (s.posY + collapseMargin s.cur)) bs none
        false true [] { s.w with shapes := [] })))
    (hforced : child.st.pos = .static → (meetBreak s child).2 = true →
      Post (.stopped (some (.node index none))
        { s with nextPage := { brk := some (meetBreak s child).1, page := some (boxPageStart child) } }))
    (hflow : child.st.pos = .static → (meetBreak s child).2 = false →
      StepTo Post Next (concludeKid index pie (meetBreak s child).1 child
        (flowLaid c st b cwc index bs pie child s).1 (flowLaid c st b cwc index bs pie child s).2.1
        (flowLaid c st b cwc index bs pie child s).2.2)) :
    StepTo Post Next (kidStep c st b cwc index bs pie child s) := by
  fun_cases kidStep c st b cwc index bs pie child s
  · exact habs _ ‹_›
  · exact hfloat _ ‹_›
  all_goals
    have hs : child.st.pos = .static := by
      cases hp : child.st.pos <;> first | rfl | contradiction
  · exact hforced hs ‹_›
  · next hm _ => exact hflow hs (by simpa using hm)

/-! ### the end of `_in_flow_layout`, by cases -/

theorem stepTo_concludeKid_some {Post : KidsOutcome → Prop} {Next : KidsLoop → Prop} {index : Nat} {pie : Bool}
    {pb : Brk} {child : OBox} {s : KidsLoop} {f : OFrag} {resume : Option Resume}
    (hstop : ∀ r', resume = some r' → Post (.stopped (some (.node index (some r')))
      { s with newChildren := s.newChildren ++ [f.withIdx index] }))
    (hnext : resume = none → Next { s with newChildren := s.newChildren ++ [f.withIdx index] }) :
    StepTo Post Next (concludeKid index pie pb child s (some f) resume) := by
  cases resume with
  | some r' => exact hstop r' rfl
  | none => exact hnext rfl

/-- Without a fragment for the child the loop ends: at an earlier break, by giving up the box, or before the
child. -/
theorem stepTo_concludeKid_none {Post : KidsOutcome → Prop} {Next : KidsLoop → Prop} {index : Nat} {pie : Bool}
    {pb : Brk} {child : OBox} {s : KidsLoop} {resume : Option Resume}
    (hearlier : ∀ kept r', findEarlierList s.newChildren = some (kept, r') →
      Post (.stopped (some r') { s with newChildren := kept, w := s.w.removeDropped s.newChildren kept }))
    (habort : pie = false → Post (.aborted (boxPageStart child) s))
    (hallAbs : s.newChildren.all OFrag.isAbs = true → Post (.aborted (boxPageStart child)
      { s with newChildren := [], w := s.w.remove (fragSersList s.newChildren) }))
    (hbefore : s.newChildren ≠ [] → Post (.stopped (some (.node index none)) s)) :
    StepTo Post Next (concludeKid index pie pb child s none resume) := by
  generalize hfr : (none : Option OFrag) = fr
  fun_cases concludeKid index pie pb child s fr resume
  all_goals try cases hfr
  · next hx => exact hearlier _ _ (Option.ite_none_right_eq_some.1 hx).2
  · next h => exact habort (by cases pie <;> simp_all)
  all_goals
    rename_i s' h
    cases hall : s.newChildren.all OFrag.isAbs <;> simp +zetaDelta only [hall, if_true, Bool.false_eq_true, if_false] at h ⊢
  · exact hbefore (by intro he; simp [he] at h)
  · simp at h
  · exact absurd hall (by simp [List.isEmpty_iff.mp (by simpa using h)])
  · exact hallAbs hall

/-! ### floats, by cases -/

theorem floatDone_none {shapes0 : List Shape} {r : LayoutResult} {w : World}
    (h : floatDone shapes0 r = (none, w)) : r.frag = none ∧ w = { r.w with shapes := shapes0, crash := true } := by
  unfold floatDone at h
  split at h
  · rename_i hf
    exact ⟨hf, (Prod.mk.inj h).2.symm⟩
  · cases h

theorem floatDone_some {shapes0 : List Shape} {r : LayoutResult} {f : OFrag} {ser : Nat} {w : World}
    (h : floatDone shapes0 r = (some (f, ser), w)) :
    ∃ f0 dy, r.frag = some f0 ∧ f = (placeFloat shapes0 f0).withSer r.w.next ∧ ser = r.w.next ∧
      w.absL = (r.w.shift (fragSers f0) dy).absL ∧ w.broken = r.w.broken ∧ w.crash = r.w.crash := by
  unfold floatDone at h
  split at h
  · cases h
  · rename_i f0 hf0
    simp only [Prod.mk.injEq, Option.some.injEq] at h
    obtain ⟨⟨rfl, rfl⟩, rfl⟩ := h
    exact ⟨f0, _, hf0, rfl, rfl, rfl, rfl, rfl⟩

theorem stepTo_floatStep {Post : KidsOutcome → Prop} {Next : KidsLoop → Prop} (c : Ctx) (index : Nat) (pie : Bool)
    (bs : Rat) (child : OBox) (hc : child.inFlow = false) (s : KidsLoop) (r : LayoutResult)
    (hnone : ∀ w, floatDone s.w.shapes r = (none, w) → Post (.aborted "" { s with w := w }))
    (hsome : ∀ f ser w, floatDone s.w.shapes r = (some (f, ser), w) →
      Next { s with newChildren := s.newChildren ++ [f.withIdx index], w := w,
                    localBroken := s.localBroken ++ (match r.resume with
                      | some ρ => [{ ser := ser, box := child, idx := 0, resume := ρ, oof := hc }]
                      | none => []) } ∧
      (∀ kept r', s.newChildren ≠ [] → findEarlierList s.newChildren = some (kept, r') →
        Post (.stopped (some r')
          { s with newChildren := kept, w := (w.remove (fragSers f)).removeDropped s.newChildren kept })) ∧
      ((pie = false ∨ s.newChildren ≠ []) →
        Post (.stopped (some (.node index none)) { s with w := w.remove (fragSers f) }))) :
    StepTo Post Next (floatStep c index pie bs child hc s r) := by
  fun_cases floatStep c index pie bs child hc s r
  · exact hnone _ ‹_›
  · exact (hsome _ _ _ ‹_›).1
  · next hx =>
    obtain ⟨hcond, hx⟩ := Option.ite_none_right_eq_some.1 hx
    exact (hsome _ _ _ ‹_›).2.1 _ _ (by intro he; simp [he] at hcond) hx
  · exact (hsome _ _ _ ‹_›).2.2 ((Bool.eq_false_or_eq_true pie).symm.imp_right fun hp he =>
      ‹¬_› (by simp +zetaDelta [he, hp]))

/-! ### `firstPass` -/

theorem firstPass_keep (c : Ctx) (bs : Rat) (pienc : Bool) (posY : Rat) (r : LayoutResult)
    (frag : Option OFrag) (y : Rat) (h : firstPass c bs pienc posY r = .keep frag y) :
    frag = none ∨ frag = r.frag := by
  revert h
  fun_cases firstPass c bs pienc posY r <;> intro h <;> cases h
  · exact .inl rfl
  · next hf _ => exact .inr hf.symm
  · exact .inl rfl
  · next hf _ _ _ _ _ => exact .inr hf.symm

theorem firstPass_redo (c : Ctx) (bs : Rat) (pienc : Bool) (posY : Rat) (r : LayoutResult) (bs' : Rat)
    (h : firstPass c bs pienc posY r = .redo bs') :
    ∃ f, r.frag = some f ∧ bs' = bs + (f.geo.pb + f.geo.bb) := by
  revert h
  fun_cases firstPass c bs pienc posY r <;> intro h <;> cases h
  next f hf _ _ _ _ _ => exact ⟨f, hf, rfl⟩

/-! ### what `_in_flow_layout` hands on -/

@[simp] theorem setCur_newChildren' (s : KidsLoop) (l : List Rat) (b : Bool) :
    (s.setCur l b).newChildren = s.newChildren := by
  cases b <;> rfl
@[simp] theorem setCur_w (s : KidsLoop) (l : List Rat) (b : Bool) : (s.setCur l b).w = s.w := by
  cases b <;> rfl
@[simp] theorem setCur_lb (s : KidsLoop) (l : List Rat) (b : Bool) : (s.setCur l b).localBroken = s.localBroken := by
  cases b <;> rfl

@[simp] theorem appendCur_newChildren' (s : KidsLoop) (m : Rat) :
    (s.appendCur m).newChildren = s.newChildren := by
  unfold KidsLoop.appendCur; split <;> rfl
@[simp] theorem appendCur_w (s : KidsLoop) (m : Rat) : (s.appendCur m).w = s.w := by
  unfold KidsLoop.appendCur; split <;> rfl
@[simp] theorem appendCur_lb (s : KidsLoop) (m : Rat) : (s.appendCur m).localBroken = s.localBroken := by
  unfold KidsLoop.appendCur; split <;> rfl

@[simp] theorem adoptAdj_newChildren' (s : KidsLoop) (h : Bool) (a : AdjOut) (f : Option OFrag) :
    (s.adoptAdj h a f).newChildren = s.newChildren := by
  cases h <;> cases a <;> cases f <;> simp [KidsLoop.adoptAdj]
@[simp] theorem adoptAdj_w (s : KidsLoop) (h : Bool) (a : AdjOut) (f : Option OFrag) : (s.adoptAdj h a f).w = s.w := by
  cases h <;> cases a <;> cases f <;> simp [KidsLoop.adoptAdj]
@[simp] theorem adoptAdj_lb (s : KidsLoop) (h : Bool) (a : AdjOut) (f : Option OFrag) :
    (s.adoptAdj h a f).localBroken = s.localBroken := by
  cases h <;> cases a <;> cases f <;> simp [KidsLoop.adoptAdj]

theorem flowLaid_state (c : Ctx) (st : OStyle) (b : BoxSt) (cwc : Bool) (index : Nat) (bs : Rat) (pie : Bool)
    (child : OBox) (s : KidsLoop) :
    (flowLaid c st b cwc index bs pie child s).1.newChildren =
      (preFlow c { b with y := s.boxY } cwc pie child s).newChildren ∧
    (flowLaid c st b cwc index bs pie child s).1.localBroken =
      (preFlow c { b with y := s.boxY } cwc pie child s).localBroken ∧
    (flowLaid c st b cwc index bs pie child s).1.skip = none := by
  unfold flowLaid
  extract_lets s0 pe r s1 s1'
  generalize firstPass c bs pe s0.posY r = fp
  cases fp <;> simp [s1', s1, s0]

/-- The fragment `_in_flow_layout` keeps, and the resume position with it, come from a layout of the child at
the same position, skip stack and `page_is_empty` flag — with the bottom space given, or after a first layout
whose fragment `f1` did not fit, with that increased by the bottom padding and border of `f1`. -/
theorem flowLaid_frag {c : Ctx} {st : OStyle} {b : BoxSt} {cwc : Bool} {index : Nat} {bs : Rat} {pie : Bool}
    {child : OBox} {s s0 : KidsLoop} (hs0 : s0 = preFlow c { b with y := s.boxY } cwc pie child s) {f : OFrag}
    (h : (flowLaid c st b cwc index bs pie child s).2.1 = some f) :
    ∃ bs' adjL' w',
      (layoutBox c child index s.posY bs' s0.skip st.isRoot (pienc pie s0) adjL' w').frag = some f ∧
      (flowLaid c st b cwc index bs pie child s).2.2 =
        (layoutBox c child index s.posY bs' s0.skip st.isRoot (pienc pie s0) adjL' w').resume ∧
      (bs' = bs ∨ ∃ f1, (layoutBox c child index s.posY bs s0.skip st.isRoot (pienc pie s0) s0.cur s0.w).frag
          = some f1 ∧ bs' = bs + (f1.geo.pb + f1.geo.bb)) := by
  subst hs0
  generalize hres : (flowLaid c st b cwc index bs pie child s).2.2 = resume
  have hx : (flowLaid c st b cwc index bs pie child s).2 = (some f, resume) := by rw [← h, ← hres]
  clear h hres
  unfold flowLaid at hx
  extract_lets s0 pe r s1 s1' at hx
  generalize hfp : firstPass c bs pe s0.posY r = fp at hx
  cases fp with
  | keep frag posY =>
    simp only [Prod.mk.injEq] at hx
    rcases firstPass_keep _ _ _ _ _ _ _ hfp with h | h
    · rw [h] at hx; cases hx.1
    · exact ⟨bs, _, _, h ▸ hx.1, hx.2.symm, Or.inl rfl⟩
  | redo bs' =>
    simp only [Prod.mk.injEq] at hx
    obtain ⟨f1, hf1, hbs'⟩ := firstPass_redo _ _ _ _ _ _ hfp
    exact ⟨bs', _, _, hx.1, hx.2.symm, Or.inr ⟨f1, hf1, hbs'⟩⟩

theorem flowLaid_world {W : World → Prop} (hrem : ∀ w l, W w → W (w.remove l))
    (hshift : ∀ w l dy, W w → W (w.shift l dy)) (c : Ctx) (st : OStyle) (b : BoxSt) (cwc : Bool) (index : Nat)
    (bs : Rat) (pie : Bool) (child : OBox) (s : KidsLoop)
    (hbox : ∀ bs' sk cb pe adjL w, W w → W (layoutBox c child index s.posY bs' sk cb pe adjL w).w)
    (hs : W s.w) : W (flowLaid c st b cwc index bs pie child s).1.w := by
  have hdrop : ∀ w a b', W w → W (dropFrag w a b') := by
    intro w a b' hw
    unfold dropFrag
    split
    · exact hrem _ _ hw
    · exact hw
  have h0 b' : W (preFlow c b' cwc pie child s).w := by
    fun_cases preFlow c b' cwc pie child s <;> first | exact hs | exact hshift _ _ _ hs
  unfold flowLaid
  extract_lets s0 pe r s1
  have hr : W r.w := hbox _ _ _ _ _ _ (h0 _)
  generalize firstPass c bs pe s0.posY r = fp
  cases fp with
  | keep frag posY => exact hdrop _ _ _ hr
  | redo bs' =>
    simp only [adoptAdj_w]
    exact hbox _ _ _ _ _ _ (hdrop _ _ _ hr)

end Wp.PMO
