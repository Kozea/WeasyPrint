/-
Selectors.  A selector `Sel` says how many of the items it is
interested in each primitive of the drawing code emits (`draw_background`, `draw_border`, `draw_text`,
one outline, one replaced box, the collapsed borders of a table); the count of a display list is then
computed primitive by primitive, up to a whole page (`Sel.cnt_drawPage`).  `roleSel r i` selects the
items of role `r` of box `i`.
-/
import WpModel.Lemmas.StackingSpec
import WpModel.Lemmas.StackingSort
import WpModel.Model.PaintOrder

namespace Wp.Stacking
open Wp Wp.Gen

/-- What a primitive contributes to the count of interest. -/
structure Sel where
  pick : Item → Bool
  bg : Role → Nat → Option (Option Nat) → Nat
  border : Attrs → Nat
  text : Attrs → Nat
  outline : Attrs → Nat
  repl : Attrs → Nat
  collapsed : Attrs → Nat
  h_bg : ∀ role id b cb e, (drawBackground role id b cb e).countP pick = bg role id b
  h_border : ∀ a e, (drawBorder a e).countP pick = border a
  h_text : ∀ a e, (drawText a e).countP pick = text a
  h_outline : ∀ a e, (ownOutline a e).countP pick = outline a
  h_repl : ∀ a e, (drawReplaced a e).countP pick = repl a
  h_collapsed : ∀ a e, [Item.paint .collapsedBorders a.id 0 e].countP pick = collapsed a

namespace Sel
variable (s : Sel)

def cnt (l : List Item) : Nat := l.countP s.pick

@[simp] theorem cnt_nil : s.cnt [] = 0 := rfl
@[simp] theorem cnt_append (l m : List Item) : s.cnt (l ++ m) = s.cnt l + s.cnt m := by
  simp [cnt, List.countP_append]

theorem cnt_flatMap {α} (l : List α) (f : α → List Item) :
    s.cnt (l.flatMap f) = (l.map (fun x => s.cnt (f x))).sum := List.countP_flatMap

theorem bg_none (role : Role) (id : Nat) : s.bg role id none = 0 := by
  rw [← s.h_bg role id none true {}]; rfl

theorem bg_transparent (role : Role) (id : Nat) : s.bg role id (some none) = 0 := by
  rw [← s.h_bg role id (some none) true {}]; rfl

theorem border_none (a : Attrs) (h : a.border = none) : s.border a = 0 := by
  rw [← s.h_border a {}]
  unfold drawBorder
  split
  · rfl
  · simp [h]

theorem cnt_drawBackground (role : Role) (id : Nat) (b : Option (Option Nat)) (cb : Bool) (e : Env) :
    s.cnt (drawBackground role id b cb e) = s.bg role id b := s.h_bg role id b cb e
theorem cnt_drawBorder (a : Attrs) (e : Env) : s.cnt (drawBorder a e) = s.border a := s.h_border a e
theorem cnt_drawText (a : Attrs) (e : Env) : s.cnt (drawText a e) = s.text a := s.h_text a e
theorem cnt_ownOutline (a : Attrs) (e : Env) : s.cnt (ownOutline a e) = s.outline a := s.h_outline a e
theorem cnt_drawReplaced (a : Attrs) (e : Env) : s.cnt (drawReplaced a e) = s.repl a := s.h_repl a e
theorem cnt_collapsed (a : Attrs) (e : Env) :
    s.cnt [Item.paint .collapsedBorders a.id 0 e] = s.collapsed a := s.h_collapsed a e

def deco (a : Attrs) : Nat := s.bg .bg a.id a.bg + s.border a

theorem cnt_decoration (a : Attrs) (e : Env) : s.cnt (decoration a e) = s.deco a := by
  simp [decoration, deco, cnt_drawBackground, cnt_drawBorder]

/-- Backgrounds of the column groups and columns of a table. -/
def cols (t : Attrs) : Nat :=
  (t.colGroups.map (fun g =>
    s.bg .colBg g.id g.bg + (g.cols.map (fun c => s.bg .colBg c.1 c.2)).sum)).sum

theorem cnt_columnBackgrounds (t : Attrs) (e : Env) : s.cnt (columnBackgrounds t e) = s.cols t := by
  unfold columnBackgrounds cols
  rw [cnt_flatMap]
  congr 1
  apply List.map_congr_left
  intro g _
  rw [cnt_append, cnt_flatMap]
  simp [cnt_drawBackground]

/-- What a box that is neither a cell nor a table is due. -/
def plainOwn (a : Attrs) : Nat :=
  s.deco a + (if a.kind.dilText then s.text a else 0) + (if a.kind.drawReplaced then s.repl a else 0) +
    s.outline a

/-- What a cell is due inside a table whose `border-collapse` is `tc`: `empty-cells: hide` hides the
background and border of an empty cell in the separated model; collapsed borders belong to the table. -/
def cellOwn (tc : Bool) (a : Attrs) : Nat :=
  (if tc || a.emptyCellsShow || !a.cellEmpty then s.bg .bg a.id a.bg else 0) +
  (if tc then 0 else if a.emptyCellsShow || !a.cellEmpty then s.border a else 0) + s.outline a

/-- What a table box is due: background, column backgrounds, its border or its collapsed borders. -/
def tableOwn (t : Attrs) : Nat :=
  s.bg .bg t.id t.bg + s.cols t + (if t.collapse then s.collapsed t else s.border t) + s.outline t

def nodeOwn (tc : Bool) (a : Attrs) : Nat :=
  if a.kind.dispCell then s.cellOwn tc a else if a.kind.drawTable then s.tableOwn a else s.plainOwn a

theorem nodeOwn_plain (tc : Bool) {a : Attrs} (hc : a.kind.dispCell = false)
    (ht : a.kind.drawTable = false) : s.nodeOwn tc a = s.plainOwn a := by
  simp [nodeOwn, hc, ht]


theorem cnt_inlBoxWith (a : Attrs) (k : Env → List Item) (e : Env) :
    s.cnt (inlBoxWith a k e) = s.deco a +
      (if a.kind.dilInlineOrLine then s.cnt (k e) else if a.kind.dilInlineReplaced then s.repl a
       else if a.kind.dilText then s.text a
       else s.cnt [.raise (.assertFailed "draw_inline_level.TextBox")]) := by
  unfold inlBoxWith
  rw [cnt_append, cnt_decoration]
  by_cases h1 : a.kind.dilInlineOrLine = true
  · simp [h1]
  · by_cases h2 : a.kind.dilInlineReplaced = true
    · simp [h1, h2, cnt_drawReplaced]
    · by_cases h3 : a.kind.dilText = true <;> simp [h1, h2, h3, cnt_drawText]

theorem cnt_point7With (a : Attrs) (kids : List Node) (k : Env → List Item) (e : Env)
    (hr : a.kind.drawReplaced = false) :
    s.cnt (point7With a kids k e) = if lastIsLine kids then s.cnt (k e) else 0 := by
  unfold point7With
  by_cases h : lastIsLine kids = true <;> simp [hr, h]

theorem cnt_point7With_leaf (a : Attrs) (k : Env → List Item) (e : Env) :
    s.cnt (point7With a [] k e) = if a.kind.drawReplaced then s.repl a else 0 := by
  by_cases hr : a.kind.drawReplaced = true <;> simp [point7With, hr, cnt_drawReplaced, lastIsLine]

theorem cnt_drawTable (t : Attrs) (groups : List Node) (e : Env) :
    s.cnt (drawTable t groups e) =
      s.bg .bg t.id t.bg + s.cols t + s.cnt (groups.flatMap (groupBackgrounds t e)) +
      (if t.collapse then s.collapsed t else s.border t + s.cnt (groups.flatMap (groupBorders e))) := by
  unfold drawTable drawTableBackgrounds drawTableBorders
  by_cases hc : t.collapse = true
  · simp [hc, cnt_columnBackgrounds, cnt_drawBackground, cnt_collapsed]; omega
  · simp [hc, cnt_columnBackgrounds, cnt_drawBackground, cnt_drawBorder]; omega

theorem cnt_paintBodyWith (pov : Bool) (a : Attrs)
    (neg blocks floats ik pt7 zero pos outl : Env → List Item) (env : Env)
    (h6 : a.kind.drawInline = true → a.kind.dilInlineOrLine = true) :
    s.cnt (paintBodyWith pov a neg blocks floats ik pt7 zero pos outl env) =
      if a.matrix = .singular then 0 else
        (if a.kind.drawOwnDecoration then s.deco a else 0) +
        s.cnt (neg (innerEnv a pov env)) + s.cnt (blocks (innerEnv a pov env)) +
        s.cnt (floats (innerEnv a pov env)) +
        (if a.kind.drawInline then s.deco a + s.cnt (ik (innerEnv a pov env)) else 0) +
        s.cnt (pt7 (innerEnv a pov env)) + s.cnt (zero (innerEnv a pov env)) +
        s.cnt (pos (innerEnv a pov env)) + s.outline a + s.cnt (outl (ctxEnv a pov env)) := by
  unfold paintBodyWith
  by_cases hs : a.matrix = .singular
  · simp [hs]
  · simp only [hs, ↓reduceIte, cnt_append, cnt_ownOutline]
    have h2 : s.cnt (if a.kind.drawOwnDecoration = true then decoration a (ctxEnv a pov env) else []) =
        (if a.kind.drawOwnDecoration = true then s.deco a else 0) := by
      split <;> simp [cnt_decoration]
    have h6' : ∀ e1, s.cnt (if a.kind.drawInline = true then inlBoxWith a ik e1 else []) =
        (if a.kind.drawInline = true then s.deco a + s.cnt (ik e1) else 0) := by
      intro e1
      by_cases hd : a.kind.drawInline = true
      · simp [hd, s.cnt_inlBoxWith a ik e1, h6 hd]
      · simp [hd]
    rw [h2, h6']
    simp only [innerEnv]
    omega

/-- A list of contexts painted one after the other, each counted by `m`. -/
theorem cnt_paintList_of (pov : Bool) (m : Node → Nat) (l : List Node)
    (h : ∀ c ∈ l, ∀ e, s.cnt (paint pov c e) = m c) (e : Env) :
    s.cnt (paintList pov l e) = (l.map m).sum := by
  induction l with
  | nil => rfl
  | cons c cs ih =>
    rw [paintList, cnt_append, h c (by simp), ih (fun c' hc' => h c' (by simp [hc'])),
      List.map_cons, List.sum_cons]

/-- `draw_page` for children whose contexts are counted by `m`, whatever they look like: the page's
own items (its decoration is painted by `draw_page` itself, not by points 2 / 6) and the children's.
`__init__` only regroups the children's contexts (`sum_map_init`). -/
theorem cnt_drawPage (page : Attrs) (canvas : Option (Option Nat)) (kids : List Box) (m : Box → Nat)
    (hp2 : page.kind.drawOwnDecoration = false) (hp6 : page.kind.drawInline = false)
    (hpm : page.matrix ≠ .singular)
    (h : ∀ b ∈ kids, ∀ e, s.cnt (paint page.overflowVisible (fromBoxS b) e) = m b) :
    s.cnt (drawPage page canvas kids) =
      s.bg .bg page.id page.bg + s.bg .canvas page.id canvas + s.border page +
        (if page.kind.drawReplaced then s.repl page else 0) + s.outline page + (kids.map m).sum := by
  have hsum := sum_map_init (fun c => s.cnt (paint page.overflowVisible c {})) (kids.map fromBoxS)
  have hall : ∀ (l : List Node), (∀ c ∈ l, c ∈ kids.map fromBoxS) → ∀ e,
      s.cnt (paintList page.overflowVisible l e) =
        (l.map (fun c => s.cnt (paint page.overflowVisible c {}))).sum := fun l hl e =>
    s.cnt_paintList_of _ _ l (fun c hc e' => by
      obtain ⟨b, hb, rfl⟩ := List.mem_map.mp (hl c hc)
      rw [h b hb, h b hb]) e
  have hkids : ((kids.map fromBoxS).map (fun c => s.cnt (paint page.overflowVisible c {}))).sum =
      (kids.map m).sum := by
    rw [List.map_map]
    exact congrArg List.sum (List.map_congr_left (fun b hb => h b hb {}))
  unfold drawPage
  rw [fromPage_eq]
  simp only [fromPageS, init_lists, paint, cnt_append, cnt_drawBackground, cnt_drawBorder]
  rw [s.cnt_paintBodyWith _ _ _ _ _ _ _ _ _ _ _ (by simp [hp6])]
  simp only [hpm, ↓reduceIte, hp2, hp6, Bool.false_eq_true, List.flatMap_nil, cnt_nil,
    cnt_append, cnt_point7With_leaf, point7List, outlineList, paintList,
    hall _ (fun c hc => (List.mem_filter.mp ((sortZ_perm _).mem_iff.mp hc)).1),
    hall _ (fun c hc => (List.mem_filter.mp hc).1)]
  omega

end Sel

end Wp.Stacking

namespace Wp.C17
open Wp Wp.Stacking Wp.Gen

def pickRole (r : Role) (i : Nat) : Item → Bool
  | .paint r' j _ _ => decide (r' = r) && decide (j = i)
  | .raise _ => false

def isColour : Option (Option Nat) → Bool
  | some (some _) => true
  | _ => false

/-- How many `r`-items of box `i` each primitive emits. -/
def roleSel (r : Role) (i : Nat) : Sel where
  pick := pickRole r i
  bg := fun role id b => if role = r ∧ id = i ∧ isColour b = true then 1 else 0
  border := fun a =>
    if r = .border ∧ a.id = i ∧ a.visible = true ∧ a.border.isSome = true then
      (if a.borderSides = 4 then 1 else a.borderSides) else 0
  text := fun a => if r = .text ∧ a.id = i ∧ a.visible = true then 1 else 0
  outline := fun a =>
    if r = .outline ∧ a.id = i ∧ a.visible = true ∧ a.outline.isSome = true then 4 else 0
  repl := fun a => if r = .replaced ∧ a.id = i ∧ a.visible = true then 1 else 0
  collapsed := fun a => if r = .collapsedBorders ∧ a.id = i then 1 else 0
  h_bg := by
    intro role id b cb e
    unfold drawBackground
    cases b with
    | none => simp [isColour]
    | some b' =>
      cases b' with
      | none => simp [isColour]
      | some c =>
        by_cases h1 : role = r <;> by_cases h2 : id = i <;> simp [pickRole, isColour, h1, h2]
  h_border := by
    intro a e
    unfold drawBorder
    by_cases hv : a.visible = true
    · cases hb : a.border with
      | none => simp [hv]
      | some c =>
        by_cases h1 : r = .border
        · by_cases h2 : a.id = i
          · by_cases h4 : a.borderSides = 4
            · simp [hv, h1, h2, h4, pickRole]
            · simp [hv, h1, h2, h4, pickRole, List.countP_replicate]
          · by_cases h4 : a.borderSides = 4 <;>
              simp [hv, h1, h2, h4, pickRole, List.countP_replicate]
        · have h1' : ¬ Role.border = r := fun h => h1 h.symm
          by_cases h4 : a.borderSides = 4 <;>
            simp [hv, h1, h1', h4, pickRole, List.countP_replicate]
    · simp [hv]
  h_text := by
    intro a e
    unfold drawText
    by_cases hv : a.visible = true
    · by_cases h1 : r = .text
      · by_cases h2 : a.id = i <;> simp [hv, h1, h2, pickRole]
      · have h1' : ¬ Role.text = r := fun h => h1 h.symm
        simp [hv, h1, h1', pickRole]
    · simp [hv]
  h_outline := by
    intro a e
    unfold ownOutline
    cases ho : a.outline with
    | none => simp
    | some c =>
      by_cases hv : a.visible = true
      · by_cases h1 : r = .outline
        · by_cases h2 : a.id = i <;> simp [hv, h1, h2, pickRole]
        · have h1' : ¬ Role.outline = r := fun h => h1 h.symm
          simp [hv, h1, h1', pickRole]
      · simp [hv]
  h_repl := by
    intro a e
    unfold drawReplaced
    by_cases hv : a.visible = true
    · by_cases h1 : r = .replaced
      · by_cases h2 : a.id = i <;> simp [hv, h1, h2, pickRole]
      · have h1' : ¬ Role.replaced = r := fun h => h1 h.symm
        simp [hv, h1, h1', pickRole]
    · simp [hv]
  h_collapsed := by
    intro a e
    by_cases h1 : r = .collapsedBorders
    · by_cases h2 : a.id = i <;> simp [h1, h2, pickRole]
    · have h1' : ¬ Role.collapsedBorders = r := fun h => h1 h.symm
      simp [h1, h1', pickRole]

end Wp.C17
