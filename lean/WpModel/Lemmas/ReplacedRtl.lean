/-
C13 — `block_level_width.without_min_max` (`blwCore`) in closed form: the used width, the used margins of CSS 2.1
10.3.3 (`usedMargins`) and the rtl shift (repair 165e254) as one equation for every box, `blwCore_eq`, and its readings
for a known width.
-/
import WpModel.Model.Replaced
import Mathlib.Tactic.Ring

namespace Wp.C13
open Wp Wp.Replaced

theorem blwOverflow_of_width (b : RBox) (cb : Cb) (w : Rat) (hw : b.width = some w) :
    blwOverflow b cb =
      if b.pb + w + b.marginLeft.getD 0 + b.marginRight.getD 0 > cb.width then
        { b with marginLeft := some (b.marginLeft.getD 0), marginRight := some (b.marginRight.getD 0) }
      else b := by
  simp only [blwOverflow, hw]

/-! What each of the four steps leaves alone: none touches the limits, only the third sets a width. -/

theorem blwMargins_width (b : RBox) (cb : Cb) (w : Rat) : (blwMargins b cb w).width = b.width := by
  unfold blwMargins; rcases b.marginLeft with _ | ml <;> rcases b.marginRight with _ | mr <;> rfl

theorem blwAutoWidth_width (b : RBox) (cb : Cb) : ∃ w, (blwAutoWidth b cb).width = some w := by
  unfold blwAutoWidth
  rcases h : b.width with _ | w
  · exact ⟨_, rfl⟩
  · exact ⟨w, h⟩

theorem blwOverflow_fields (b : RBox) (cb : Cb) :
    (blwOverflow b cb).width = b.width ∧ (blwOverflow b cb).minWidth = b.minWidth ∧
    (blwOverflow b cb).maxWidth = b.maxWidth := by
  unfold blwOverflow
  rcases h : b.width with _ | w
  · simp [h]
  · simp only []; split_ifs <;> simp [h]

theorem blwOverConstrained_fields (b : RBox) (cb : Cb) :
    (blwOverConstrained b cb).width = b.width ∧ (blwOverConstrained b cb).minWidth = b.minWidth ∧
    (blwOverConstrained b cb).maxWidth = b.maxWidth := by
  unfold blwOverConstrained
  rcases h : b.width with _ | w <;> rcases b.marginLeft with _ | ml <;> rcases b.marginRight with _ | mr <;>
    simp [h]
  split_ifs <;> simp [h]

theorem blwAutoWidth_fields (b : RBox) (cb : Cb) :
    (∀ w, b.width = some w → (blwAutoWidth b cb).width = some w) ∧
    (blwAutoWidth b cb).minWidth = b.minWidth ∧ (blwAutoWidth b cb).maxWidth = b.maxWidth := by
  unfold blwAutoWidth
  rcases h : b.width with _ | w <;> simp [h]

theorem blwMargins_fields (b : RBox) (cb : Cb) (w : Rat) :
    (blwMargins b cb w).minWidth = b.minWidth ∧ (blwMargins b cb w).maxWidth = b.maxWidth := by
  unfold blwMargins; rcases b.marginLeft with _ | ml <;> rcases b.marginRight with _ | mr <;> simp

/-- An over-constrained box (width and both margins given): `block_level_width.without_min_max` leaves
everything but `position_x`, which moves by the unused space in rtl (not for a column box). -/
theorem blwCore_overconstrained (b : RBox) (cb : Cb) (w ml mr : Rat)
    (hw : b.width = some w) (hml : b.marginLeft = some ml) (hmr : b.marginRight = some mr) :
    blwCore b cb = if cb.rtl && !b.isColumn then { b with positionX := b.positionX + (cb.width - b.pb - w - mr - ml) } else b := by
  have h1 : blwOverflow b cb = b := by
    rw [blwOverflow_of_width b cb w hw]
    split_ifs
    · rw [hml, hmr, Option.getD_some, Option.getD_some, ← hml, ← hmr]
    · rfl
  have h2 : blwOverConstrained b cb = if cb.rtl && !b.isColumn then { b with positionX := b.positionX + (cb.width - b.pb - w - mr - ml) } else b := by
    simp only [blwOverConstrained, hw, hml, hmr]
  rw [blwCore, h1, h2]
  split_ifs <;> simp only [blwAutoWidth, blwMargins, hw, hml, hmr]

theorem blwOverflow_idem (b : RBox) (cb : Cb) : blwOverflow (blwOverflow b cb) cb = blwOverflow b cb := by
  rcases hw : b.width with _ | w
  · simp only [blwOverflow, hw]
  · rw [blwOverflow_of_width b cb w hw]
    split_ifs with hov
    · exact (blwOverflow_of_width { b with marginLeft := some (b.marginLeft.getD 0), marginRight := some (b.marginRight.getD 0) }
        cb w hw).trans (if_pos hov)
    · rw [blwOverflow_of_width b cb w hw, if_neg hov]

theorem blwCore_overflow (b : RBox) (cb : Cb) : blwCore (blwOverflow b cb) cb = blwCore b cb := by
  rw [blwCore, blwCore, blwOverflow_idem]

/-- The box after `block_level_width.without_min_max` on `b` with its width replaced by `x`. -/
def shifted (b : RBox) (cb : Cb) (ml mr x : Rat) : RBox :=
  { b with width := some x,
           positionX := if cb.rtl && !b.isColumn then b.positionX + (cb.width - b.pb - x - mr - ml) else b.positionX }

theorem blwCore_with_width (b : RBox) (cb : Cb) (ml mr x : Rat)
    (hml : b.marginLeft = some ml) (hmr : b.marginRight = some mr) :
    blwCore { b with width := some x } cb = shifted b cb ml mr x := by
  rw [blwCore_overconstrained { b with width := some x } cb x ml mr rfl hml hmr]
  unfold shifted
  split_ifs <;> rfl

/-- CSS 2.1 10.3.3 with a known width, as a function: the used `(margin-left, margin-right)` from the space
`P` taken by paddings and borders, the width `w`, the containing block width and the computed margins
(`none` = `auto`). -/
def usedMargins (P w cbw : Rat) (ml mr : Len) : Rat × Rat :=
  if P + w + ml.getD 0 + mr.getD 0 > cbw then (ml.getD 0, mr.getD 0)
  else match ml, mr with
    | none, none => ((cbw - P - w) / 2, (cbw - P - w) / 2)
    | none, some r => (cbw - P - w - r, r)
    | some l, none => (l, cbw - P - w - l)
    | some l, some r => (l, r)

/-- The width `block_level_width.without_min_max` ends with: the given one, or what the margins (`auto` = 0),
paddings and borders leave of the containing block. -/
def blwWidth (b : RBox) (cb : Cb) : Rat :=
  b.width.getD (cb.width - (b.pb + b.marginLeft.getD 0 + b.marginRight.getD 0))

theorem blwWidth_some {b : RBox} {w : Rat} (cb : Cb) (h : b.width = some w) : blwWidth b cb = w := by
  rw [blwWidth, h]; rfl

theorem blwWidth_none {b : RBox} (cb : Cb) (h : b.width = none) :
    blwWidth b cb = cb.width - (b.pb + b.marginLeft.getD 0 + b.marginRight.getD 0) := by
  rw [blwWidth, h]; rfl

/-- An `auto` width takes all the slack, so 10.3.3 leaves the `auto` margins 0. -/
theorem usedMargins_fill (P cbw : Rat) (ml mr : Len) :
    usedMargins P (cbw - (P + ml.getD 0 + mr.getD 0)) cbw ml mr = (ml.getD 0, mr.getD 0) := by
  unfold usedMargins
  rw [if_neg (by rw [gt_iff_lt, not_lt]; apply le_of_eq; ring)]
  rcases ml with _ | l <;> rcases mr with _ | r <;> simp only [Option.getD_none, Option.getD_some]
  · exact Prod.ext (by ring) (by ring)
  · exact Prod.ext (by ring) rfl
  · exact Prod.ext rfl (by ring)

/-- `block_level_width.without_min_max` in closed form, for every box: the width is `blwWidth`, the horizontal margins
are those of 10.3.3 (`usedMargins`) for it, and in rtl `position_x` moves by the space they leave, which is zero unless
the box is over-constrained (too wide, or width and both margins given). -/
theorem blwCore_eq (b : RBox) (cb : Cb) :
    blwCore b cb =
      { b with
        width := some (blwWidth b cb)
        marginLeft := some (usedMargins b.pb (blwWidth b cb) cb.width b.marginLeft b.marginRight).1,
        marginRight := some (usedMargins b.pb (blwWidth b cb) cb.width b.marginLeft b.marginRight).2,
        positionX :=
          if cb.rtl && !b.isColumn then
            b.positionX + (cb.width - b.pb - blwWidth b cb
              - (usedMargins b.pb (blwWidth b cb) cb.width b.marginLeft b.marginRight).2
              - (usedMargins b.pb (blwWidth b cb) cb.width b.marginLeft b.marginRight).1)
          else b.positionX } := by
  rcases hw : b.width with _ | w
  · -- `auto` width: no step but the third does anything, and the margins leave no space
    rw [blwWidth_none cb hw,
      usedMargins_fill]
    simp only [blwCore, blwOverflow, blwOverConstrained, blwAutoWidth, blwMargins, hw]
    rw [show cb.width - b.pb - (cb.width - (b.pb + b.marginLeft.getD 0 + b.marginRight.getD 0))
      - b.marginRight.getD 0 - b.marginLeft.getD 0 = 0 by ring, add_zero, ite_self]
  rw [blwWidth_some cb hw, ← hw]
  by_cases hov : b.pb + w + b.marginLeft.getD 0 + b.marginRight.getD 0 > cb.width
  · -- too wide: `auto` margins are 0, which over-constrains the box
    have hu : usedMargins b.pb w cb.width b.marginLeft b.marginRight =
        (b.marginLeft.getD 0, b.marginRight.getD 0) := if_pos hov
    rw [hu, ← blwCore_overflow, blwOverflow_of_width b cb w hw, if_pos hov,
      blwCore_overconstrained { b with marginLeft := some (b.marginLeft.getD 0), marginRight := some (b.marginRight.getD 0) }
        cb w (b.marginLeft.getD 0) (b.marginRight.getD 0) hw rfl rfl]
    split_ifs <;> rfl
  · have hu : usedMargins b.pb w cb.width b.marginLeft b.marginRight = _ := if_neg hov
    rw [hu]
    rcases hml : b.marginLeft with _ | ml <;> rcases hmr : b.marginRight with _ | mr
    case some.some =>
      rw [blwCore_overconstrained b cb w ml mr hw hml hmr]
      split_ifs <;> simp only [← hml, ← hmr]
    -- an `auto` margin takes up the slack: `position_x` stays
    all_goals
      rw [blwCore, blwOverflow_of_width b cb w hw, if_neg hov]
      simp only [blwOverConstrained, blwAutoWidth, blwMargins, hw, hml, hmr]
    · rw [show cb.width - b.pb - w - (cb.width - b.pb - w) / 2 - (cb.width - b.pb - w) / 2 = 0 by ring,
        add_zero, ite_self]
    · rw [show cb.width - b.pb - w - mr - (cb.width - b.pb - w - mr) = 0 by ring, add_zero, ite_self]
    · rw [show cb.width - b.pb - w - (cb.width - b.pb - w - ml) - ml = 0 by ring, add_zero, ite_self]

/-- With a known width, `block_level_width.without_min_max` only settles the horizontal margins and `position_x`. -/
theorem blwCore_of_width (b : RBox) (cb : Cb) (w : Rat) (hw : b.width = some w) :
    blwCore b cb =
      { b with
        marginLeft := some (usedMargins b.pb w cb.width b.marginLeft b.marginRight).1,
        marginRight := some (usedMargins b.pb w cb.width b.marginLeft b.marginRight).2,
        positionX :=
          if cb.rtl && !b.isColumn then
            b.positionX + (cb.width - b.pb - w - (usedMargins b.pb w cb.width b.marginLeft b.marginRight).2
              - (usedMargins b.pb w cb.width b.marginLeft b.marginRight).1)
          else b.positionX } := by
  rw [blwCore_eq, blwWidth_some cb hw, ← hw]

end Wp.C13
