/-
`_w3c_date_to_pdf` on structured dates: a `W3C` date with its text (`print`), the groups the regular expression finds in it,
its PDF form and the instant it denotes; the converter maps groups to the PDF form (`groups_pdf`), the expression finds the
groups in the printed text (`match_print`), and the PDF form reads back as the instant (`parse_pdf`).  Core Lean only.
-/
import WpModel.Model.Dates

namespace Wp.C18
open Wp Wp.Dates

/-! ### structured W3C dates (https://www.w3.org/TR/NOTE-datetime) and their text -/

inductive Zone where
  | utc
  | offset (neg : Bool) (hh mm : Nat)
  deriving Repr, DecidableEq

/-- `hh:mm[:ss[.s+]]TZD`: seconds with the digits of the fraction (`[]` = no fraction). -/
structure Clock where
  hh : Nat
  mm : Nat
  ss : Option (Nat × List Nat)
  zone : Zone
  deriving Repr, DecidableEq

/-- The six formats: YYYY, YYYY-MM, YYYY-MM-DD, and the three complete forms. -/
inductive W3C where
  | y (year : Nat)
  | ym (year month : Nat)
  | ymd (year month day : Nat)
  | full (year month day : Nat) (c : Clock)
  deriving Repr, DecidableEq

def d2 (n : Nat) : Str := [digitChar (n / 10), digitChar (n % 10)]
def d4 (n : Nat) : Str :=
  [digitChar (n / 1000), digitChar (n / 100 % 10), digitChar (n / 10 % 10), digitChar (n % 10)]

def Zone.wf : Zone → Prop
  | .utc => True
  | .offset _ hh mm => hh ≤ 23 ∧ mm ≤ 59

def Clock.wf (c : Clock) : Prop :=
  c.hh ≤ 23 ∧ c.mm ≤ 59 ∧ c.zone.wf ∧
  match c.ss with
  | none => True
  | some (s, frac) => s ≤ 59 ∧ ∀ k ∈ frac, k < 10

/-- Field ranges (those of the regular expression: a superset of the valid calendar dates). -/
def W3C.wf : W3C → Prop
  | .y year => year < 10000
  | .ym year month => year < 10000 ∧ month ≤ 12
  | .ymd year month day => year < 10000 ∧ month ≤ 12 ∧ day ≤ 31
  | .full year month day c => year < 10000 ∧ month ≤ 12 ∧ day ≤ 31 ∧ c.wf

def Zone.print : Zone → Str
  | .utc => ['Z']
  | .offset neg hh mm => (if neg then '-' else '+') :: (d2 hh ++ ':' :: d2 mm)

def printFrac (frac : List Nat) : Str :=
  match frac with
  | [] => []
  | k :: ks => '.' :: (k :: ks).map digitChar

def Clock.print (c : Clock) : Str :=
  'T' :: (d2 c.hh ++ ':' :: (d2 c.mm ++
    (match c.ss with
     | none => []
     | some (s, frac) => ':' :: (d2 s ++ printFrac frac)) ++ c.zone.print))

def W3C.print : W3C → Str
  | .y year => d4 year
  | .ym year month => d4 year ++ '-' :: d2 month
  | .ymd year month day => d4 year ++ '-' :: (d2 month ++ '-' :: d2 day)
  | .full year month day c => d4 year ++ '-' :: (d2 month ++ '-' :: (d2 day ++ c.print))

def Zone.hourGroup (dflt : Option Str) : Zone → Option Str
  | .utc => dflt
  | .offset neg hh _ => some ((if neg then '-' else '+') :: d2 hh)

def Zone.minuteGroup (dflt : Option Str) : Zone → Option Str
  | .utc => dflt
  | .offset _ _ mm => some (d2 mm)

/-- What `W3C_DATE_RE` captures. -/
def W3C.groups : W3C → Groups
  | .y year => { year := some (d4 year) }
  | .ym year month => { year := some (d4 year), month := some (d2 month) }
  | .ymd year month day => { year := some (d4 year), month := some (d2 month), day := some (d2 day) }
  | .full year month day c =>
    { year := some (d4 year), month := some (d2 month), day := some (d2 day),
      hour := some (d2 c.hh), minute := some (d2 c.mm),
      second := c.ss.map (fun s => d2 s.1),
      tzHour := c.zone.hourGroup none,
      tzMinute := c.zone.minuteGroup none }

/-! ### PDF dates (ISO 32000-1 7.9.4): `D:YYYYMMDDHHmmSSOHH'mm` -/

structure PdfDate where
  year : Nat
  month : Nat := 1
  day : Nat := 1
  hh : Nat := 0
  mm : Nat := 0
  ss : Nat := 0
  zone : Option Zone := none
  deriving Repr, DecidableEq

def Zone.pdf : Zone → Str
  | .utc => ['Z']
  | .offset neg hh mm => (if neg then '-' else '+') :: (d2 hh ++ '\'' :: d2 mm)

/-- The PDF date string expected for a W3C date: missing seconds are written `00`, the fraction is
dropped, the time zone keeps its sign, hours and minutes. -/
def W3C.pdf : W3C → Str
  | .y year => 'D' :: ':' :: d4 year
  | .ym year month => 'D' :: ':' :: (d4 year ++ d2 month)
  | .ymd year month day => 'D' :: ':' :: (d4 year ++ d2 month ++ d2 day)
  | .full year month day c =>
    'D' :: ':' :: (d4 year ++ d2 month ++ d2 day ++ d2 c.hh ++ d2 c.mm ++
      d2 (match c.ss with | none => 0 | some (s, _) => s) ++ c.zone.pdf)

/-- The instant a W3C date denotes, with the defaults of both notations (month, day = 1; h, m, s = 0). -/
def W3C.normal : W3C → PdfDate
  | .y year => { year := year }
  | .ym year month => { year := year, month := month }
  | .ymd year month day => { year := year, month := month, day := day }
  | .full year month day c =>
    { year := year, month := month, day := day, hh := c.hh, mm := c.mm,
      ss := (match c.ss with | none => 0 | some (s, _) => s), zone := some c.zone }

def num2 (a b : Char) : Option Nat :=
  if isDig a && isDig b then some ((a.toNat - 48) * 10 + (b.toNat - 48)) else none

def num4 (a b c d : Char) : Option Nat :=
  match num2 a b, num2 c d with
  | some x, some y => some (x * 100 + y)
  | _, _ => none

def parseZone : Str → Option (Option Zone)
  | [] => some none
  | ['Z'] => some (some .utc)
  | [s, a, b, '\'', c, d] =>
    if s == '+' || s == '-' then
      match num2 a b, num2 c d with
      | some h, some m => some (some (.offset (s == '-') h m))
      | _, _ => none
    else none
  | [s, a, b, '\'', c, d, '\''] =>
    if s == '+' || s == '-' then
      match num2 a b, num2 c d with
      | some h, some m => some (some (.offset (s == '-') h m))
      | _, _ => none
    else none
  | _ => none

/-- A reader of PDF date strings (every prefix form of the grammar). -/
def parsePdfDate : Str → Option PdfDate
  | 'D' :: ':' :: y1 :: y2 :: y3 :: y4 :: rest =>
    match num4 y1 y2 y3 y4 with
    | none => none
    | some year =>
      match rest with
      | [] => some { year := year }
      | [a, b] => (num2 a b).map fun mo => { year := year, month := mo }
      | [a, b, c, d] =>
        match num2 a b, num2 c d with
        | some mo, some da => some { year := year, month := mo, day := da }
        | _, _ => none
      | a :: b :: c :: d :: e :: f :: g :: h :: i :: j :: z =>
        match num2 a b, num2 c d, num2 e f, num2 g h, num2 i j, parseZone z with
        | some mo, some da, some hh, some mi, some se, some zone =>
          some { year := year, month := mo, day := da, hh := hh, mm := mi, ss := se, zone := zone }
        | _, _, _, _, _, _ => none
      | _ => none
  | _ => none

theorem dig_isDig : ∀ k, k < 10 → isDig (digitChar k) = true := by decide +kernel
theorem dig_notWs : ∀ k, k < 10 → isWs (digitChar k) = false := by decide +kernel
theorem dig_val : ∀ k, k < 10 → (digitChar k).toNat - 48 = k := by decide +kernel
theorem dig_natDigit : ∀ k, k < 10 → Nat.digitChar k = digitChar k := by decide +kernel
theorem dig_le_five : ∀ k, k ≤ 5 → ('0' ≤ digitChar k && digitChar k ≤ '5') = true := by decide +kernel

theorem dig_ne : ∀ k, k < 10 → digitChar k ≠ '-' ∧ digitChar k ≠ '+' := by decide +kernel

theorem d2_dig : ∀ n, n < 100 → isDig (digitChar (n / 10)) = true ∧ isDig (digitChar (n % 10)) = true :=
  fun n hn => ⟨dig_isDig _ (Nat.div_lt_of_lt_mul hn), dig_isDig _ (Nat.mod_lt n (by decide))⟩

theorem d2_month : ∀ m, m ≤ 12 → isMonth (digitChar (m / 10)) (digitChar (m % 10)) = true := by decide +kernel
theorem d2_day : ∀ m, m ≤ 31 → isDay (digitChar (m / 10)) (digitChar (m % 10)) = true := by decide +kernel
theorem d2_hour : ∀ m, m ≤ 23 → isHour (digitChar (m / 10)) (digitChar (m % 10)) = true := by decide +kernel

theorem d2_sixty (m : Nat) (hm : m ≤ 59) : isSixty (digitChar (m / 10)) (digitChar (m % 10)) = true := by
  unfold isSixty
  rw [dig_le_five (m / 10) (by omega), dig_isDig _ (Nat.mod_lt m (by decide))]
  rfl

theorem pad2_lt (n : Nat) (hn : n < 100) : pad2 n = d2 n := by
  unfold pad2 d2
  by_cases h : n < 10
  · rw [Nat.toDigits_of_lt_base h, Nat.div_eq_of_lt h, Nat.mod_eq_of_lt h, dig_natDigit n h]
    rfl
  · have hq : n / 10 < 10 := Nat.div_lt_of_lt_mul hn
    rw [Nat.toDigits_of_base_le (by decide) (Nat.le_of_not_lt h), Nat.toDigits_of_lt_base hq, dig_natDigit _ hq,
      dig_natDigit _ (Nat.mod_lt n (by decide))]
    rfl

theorem num2_digits (x y : Nat) (hx : x < 10) (hy : y < 10) : num2 (digitChar x) (digitChar y) = some (x * 10 + y) := by
  unfold num2
  rw [dig_isDig x hx, dig_isDig y hy, dig_val x hx, dig_val y hy]
  rfl

theorem d2_num2 (n : Nat) (hn : n < 100) : num2 (digitChar (n / 10)) (digitChar (n % 10)) = some n := by
  rw [num2_digits _ _ (Nat.div_lt_of_lt_mul hn) (Nat.mod_lt n (by decide)), Nat.div_add_mod']

theorem d2_val (n : Nat) (hn : n < 100) : digitsVal [digitChar (n / 10), digitChar (n % 10)] 0 = some n := by
  have h := d2_dig n hn
  have hq : n / 10 < 10 := Nat.div_lt_of_lt_mul hn
  simp only [digitsVal, h.1, h.2, if_true, dig_val _ hq, dig_val _ (Nat.mod_lt n (by decide)), Nat.zero_mul,
    Nat.zero_add, Nat.div_add_mod']

/-! ### `_w3c_date_to_pdf` on the groups -/

theorem pyInt_pos (h : Nat) (hh : h < 100) : pyInt ('+' :: [digitChar (h / 10), digitChar (h % 10)]) = .ok (h : Int) := by
  simp only [pyInt, d2_val h hh]
theorem pyInt_neg (h : Nat) (hh : h < 100) : pyInt ('-' :: [digitChar (h / 10), digitChar (h % 10)]) = .ok (-(h : Int)) := by
  simp only [pyInt, d2_val h hh]
theorem pyInt_plain (h : Nat) (hh : h < 100) : pyInt [digitChar (h / 10), digitChar (h % 10)] = .ok (h : Int) := by
  have hne := dig_ne (h / 10) (Nat.div_lt_of_lt_mul hh)
  rw [pyInt.eq_3 _ _ (fun _ _ e _ => hne.2 e) (fun _ _ e _ => hne.1 e), d2_val h hh]

theorem fmt_nat (n : Nat) (hn : n < 100) : fmt02d (n : Int) = [digitChar (n / 10), digitChar (n % 10)] := by
  unfold fmt02d
  rw [if_neg (by omega)]
  simp [pad2_lt n hn, d2]

/-- The loop over the keys on a complete date: every group is there but, possibly, the seconds, which are
then written `00` (`found` is already true). -/
theorem dateLoop_full (year month day : Nat) (c : Clock) :
    dateLoop (W3C.full year month day c).groups Gen.dateKeys true [] =
      d4 year ++ d2 month ++ d2 day ++ d2 c.hh ++ d2 c.mm ++ d2 (match c.ss with | none => 0 | some (s, _) => s) := by
  obtain ⟨hh, mm, ss, zone⟩ := c
  cases ss with
  | none => simp [Gen.dateKeys, dateLoop, Groups.get, W3C.groups, d2, d4, Gen.dateOneKeys, pad2_lt]
  | some s => simp [Gen.dateKeys, dateLoop, Groups.get, W3C.groups, d2, d4]

/-- The three asserts hold and `int()` reads both time-zone groups back. -/
theorem tzSuffix_full (year month day : Nat) (c : Clock) (hz : c.zone.wf) :
    tzSuffix (W3C.full year month day c).groups = .ok c.zone.pdf := by
  obtain ⟨hh, mm, ss, zone⟩ := c
  cases zone with
  | utc => rfl
  | offset neg th tm =>
    obtain ⟨h1, h2⟩ : th < 100 ∧ tm < 100 := by simp only [Zone.wf] at hz; omega
    cases neg <;>
      simp [tzSuffix, W3C.groups, Zone.hourGroup, Zone.minuteGroup, truthy, d2, Zone.pdf, pyInt_pos th h1,
        pyInt_neg th h1, pyInt_plain tm h2, fmt_nat th h1, fmt_nat tm h2]

theorem groups_pdf (d : W3C) (hw : d.wf) : groupsToPdf d.groups = .ok d.pdf := by
  cases d with
  | y year => simp [W3C.groups, groupsToPdf, dateLoop, Gen.dateKeys, Groups.get, truthy, tzSuffix, W3C.pdf, d4]
  | ym year month =>
    simp [W3C.groups, groupsToPdf, dateLoop, Gen.dateKeys, Groups.get, truthy, tzSuffix, W3C.pdf, d4, d2]
  | ymd year month day =>
    simp [W3C.groups, groupsToPdf, dateLoop, Gen.dateKeys, Groups.get, truthy, tzSuffix, W3C.pdf, d4, d2]
  | full year month day c =>
    unfold groupsToPdf
    rw [tzSuffix_full year month day c hw.2.2.2.2.2.1,
      show truthy (W3C.full year month day c).groups.hour = true from rfl, dateLoop_full]
    simp only [W3C.pdf, List.append_assoc]

/-! ### reading the PDF date back -/

/-- The first two digits of `n < 10000` are those of `n / 100`, the last two those of `n % 100`. -/
theorem num4_d4 (n : Nat) (hn : n < 10000) :
    num4 (digitChar (n / 1000)) (digitChar (n / 100 % 10)) (digitChar (n / 10 % 10)) (digitChar (n % 10)) = some n := by
  have h1 := d2_num2 (n / 100) (Nat.div_lt_of_lt_mul hn)
  have h2 := d2_num2 (n % 100) (Nat.mod_lt n (by decide))
  rw [show n / 100 / 10 = n / 1000 from Nat.div_div_eq_div_mul n 100 10] at h1
  rw [show n % 100 / 10 = n / 10 % 10 from Nat.mod_mul_right_div_self n 10 10,
    Nat.mod_mod_of_dvd n (by decide : 10 ∣ 100)] at h2
  unfold num4
  rw [h1, h2]
  exact congrArg some (Nat.div_add_mod' n 100)

theorem parseZone_pdf (z : Zone) (hz : z.wf) : parseZone z.pdf = some (some z) := by
  cases z with
  | utc => rfl
  | offset neg th tm =>
    obtain ⟨h1, h2⟩ : th < 100 ∧ tm < 100 := by simp only [Zone.wf] at hz; omega
    cases neg <;> simp [Zone.pdf, d2, parseZone, d2_num2 th h1, d2_num2 tm h2]

theorem parse_pdf (d : W3C) (hw : d.wf) : parsePdfDate d.pdf = some d.normal := by
  cases d with
  | y year => simp [W3C.pdf, d4, parsePdfDate, num4_d4 year hw, W3C.normal]
  | ym year month =>
    simp [W3C.pdf, d4, d2, parsePdfDate, num4_d4 year hw.1, W3C.normal, d2_num2 month (by have := hw.2; omega)]
  | ymd year month day =>
    simp [W3C.pdf, d4, d2, parsePdfDate, num4_d4 year hw.1, W3C.normal, d2_num2 month (by have := hw.2.1; omega),
      d2_num2 day (by have := hw.2.2; omega)]
  | full year month day c =>
    obtain ⟨hh, mm, ss, zone⟩ := c
    obtain ⟨hy, hm, hd, h1, h2, h3, h4⟩ := hw
    simp only [] at h1 h2 h3 h4
    -- the seconds written are below 100 whether they were given or not
    obtain ⟨sv, hsv, hss⟩ : ∃ sv, sv < 100 ∧ (match ss with | none => 0 | some (s, _) => s) = sv := by
      cases ss with
      | none => exact ⟨0, by decide, rfl⟩
      | some sf => exact ⟨sf.1, by have := h4.1; omega, rfl⟩
    simp only [W3C.pdf, W3C.normal, hss]
    simp [d4, d2, parsePdfDate, num4_d4 year hy, d2_num2 month (by omega), d2_num2 day (by omega),
      d2_num2 hh (by omega), d2_num2 mm (by omega), d2_num2 sv hsv, parseZone_pdf zone h3]

/-! ### the regular expression on printed dates -/

theorem skipWs_append (pre s : Str) (h : allWs pre = true) : skipWs (pre ++ s) = skipWs s := by
  induction pre with
  | nil => rfl
  | cons c cs ih =>
    simp only [allWs, Bool.and_eq_true] at h
    simp only [List.cons_append, skipWs, h.1, if_true]
    exact ih h.2

theorem ws_ne {c : Char} {s : Str} (h : allWs (c :: s) = true) :
    c ≠ '-' ∧ c ≠ 'T' := by
  simp only [allWs, Bool.and_eq_true, isWs, Bool.or_eq_true, beq_iff_eq] at h
  rcases h.1 with (((h | h) | h) | h) | h <;> subst h <;> decide

theorem matchMonth_ws (g : Groups) (post : Str) (h : allWs post = true) : matchMonth g post = some g := by
  unfold matchMonth
  split
  · exact absurd rfl (ws_ne h).1
  · simp [h]

theorem matchDay_ws (g : Groups) (post : Str) (h : allWs post = true) : matchDay g post = some g := by
  unfold matchDay
  split
  · exact absurd rfl (ws_ne h).1
  · simp [h]

theorem matchTime_ws (g : Groups) (post : Str) (h : allWs post = true) : matchTime g post = some g := by
  unfold matchTime
  split
  · exact absurd rfl (ws_ne h).2
  · simp [h]

theorem dropDigits_frac (frac : List Nat) (t : Str) (hf : ∀ k ∈ frac, k < 10)
    (ht : ∀ c rest, t = c :: rest → isDig c = false) : dropDigits (frac.map digitChar ++ t) = t := by
  induction frac with
  | nil =>
    cases t with
    | nil => rfl
    | cons c rest => simp [dropDigits, ht c rest rfl]
  | cons k ks ih =>
    simp only [List.map_cons, List.cons_append, dropDigits, dig_isDig k (hf k (by simp)), if_true]
    exact ih (fun x hx => hf x (by simp [hx]))

theorem matchTz_print (g : Groups) (z : Zone) (hz : z.wf) (post : Str) (h : allWs post = true) :
    matchTz g (z.print ++ post) = some { g with
      tzHour := z.hourGroup g.tzHour, tzMinute := z.minuteGroup g.tzMinute } := by
  cases z with
  | utc => simp [Zone.print, matchTz, h, Zone.hourGroup, Zone.minuteGroup]
  | offset neg hh mm =>
    simp only [Zone.wf] at hz
    have h1 := d2_hour hh hz.1
    have h2 := d2_sixty mm hz.2
    cases neg <;> simp [Zone.print, matchTz, d2, h, h1, h2, Zone.hourGroup, Zone.minuteGroup]

/-- A printed zone starts with `Z`, `+` or `-`: the optional seconds and fraction cannot begin there. -/
theorem zone_head (z : Zone) (post : Str) :
    ∀ c rest, z.print ++ post = c :: rest → isDig c = false ∧ c ≠ ':' ∧ c ≠ '.' := by
  intro c rest h
  cases z with
  | utc => simp [Zone.print] at h; rw [← h.1]; decide
  | offset neg hh mm => cases neg <;> (simp [Zone.print] at h; rw [← h.1]; decide)

theorem matchSecond_print (g : Groups) (hg : g.second = none) (c : Clock) (hw : c.wf) (post : Str) (h : allWs post = true) :
    matchSecond g ((match c.ss with
       | none => []
       | some (s, frac) => ':' :: (d2 s ++ printFrac frac)) ++ c.zone.print ++ post) =
      some { g with
        second := c.ss.map (fun s => d2 s.1),
        tzHour := c.zone.hourGroup g.tzHour, tzMinute := c.zone.minuteGroup g.tzMinute } := by
  obtain ⟨hh, mm, ss, zone⟩ := c
  obtain ⟨_, _, hz, hs⟩ := hw
  simp only [] at hz hs ⊢
  cases ss with
  | none =>
    simp only [List.nil_append, Option.map_none]
    have : matchSecond g (zone.print ++ post) = matchTz g (zone.print ++ post) := by
      unfold matchSecond
      split
      · rename_i a b rest heq
        exact absurd rfl (zone_head zone post _ _ heq).2.1
      · rfl
    rw [this, matchTz_print g zone hz post h, hg]
  | some sf =>
    obtain ⟨s, frac⟩ := sf
    simp only [] at hs
    have h6 := d2_sixty s hs.1
    cases frac with
    | nil =>
      simp only [printFrac, List.append_nil, d2, List.cons_append, List.nil_append, matchSecond, h6, if_true,
        Option.map_some]
      -- no fraction: the rest is the zone
      have hz2 := matchTz_print { g with second := some [digitChar (s / 10), digitChar (s % 10)] } zone hz post h
      split
      · rename_i c' rest' heq
        exact absurd rfl (zone_head zone post _ _ heq).2.2
      · rw [hz2]
    | cons k ks =>
      have hk : isDig (digitChar k) = true := dig_isDig k (hs.2 k (by simp))
      simp only [printFrac, d2, List.cons_append, List.nil_append, List.append_assoc, matchSecond, h6, if_true,
        Option.map_some, List.map_cons, hk]
      rw [dropDigits_frac ks (zone.print ++ post) (fun x hx => hs.2 x (by simp [hx]))
        (fun c rest e => (zone_head zone post c rest e).1)]
      exact matchTz_print { g with second := some [digitChar (s / 10), digitChar (s % 10)] } zone hz post h

theorem matchTime_print (g : Groups) (hg : g.second = none) (c : Clock) (hw : c.wf) (post : Str) (h : allWs post = true) :
    matchTime g (c.print ++ post) = some { g with
        hour := some (d2 c.hh), minute := some (d2 c.mm),
        second := c.ss.map (fun s => d2 s.1),
        tzHour := c.zone.hourGroup g.tzHour, tzMinute := c.zone.minuteGroup g.tzMinute } := by
  have h1 := d2_hour c.hh hw.1
  have h2 := d2_sixty c.mm hw.2.1
  have := matchSecond_print { g with hour := some (d2 c.hh), minute := some (d2 c.mm) } hg c hw post h
  simp only [Clock.print, d2, List.cons_append, List.nil_append, List.append_assoc, matchTime, h1, h2, Bool.and_self, if_true] at this ⊢
  exact this

theorem match_print (d : W3C) (hw : d.wf) (pre post : Str) (hpre : allWs pre = true) (hpost : allWs post = true) :
    matchW3C (pre ++ d.print ++ post) = some d.groups := by
  have hy : ∀ year, year < 10000 → ∀ rest, matchW3C (pre ++ (d4 year ++ rest)) = matchMonth { year := some (d4 year) } rest := by
    intro year hyr rest
    have k : year / 1000 < 10 := Nat.div_lt_of_lt_mul hyr
    have m : ∀ x, x % 10 < 10 := fun x => Nat.mod_lt x (by decide)
    unfold matchW3C
    rw [skipWs_append pre _ hpre]
    simp only [d4, List.cons_append, List.nil_append, skipWs, dig_notWs _ k, Bool.false_eq_true, if_false, dig_isDig _ k,
      dig_isDig _ (m _), Bool.and_self, if_true]
  cases d with
  | y year =>
    simp only [W3C.print, List.append_assoc, W3C.groups]
    rw [hy year hw, matchMonth_ws _ post hpost]
  | ym year month =>
    simp only [W3C.print, List.append_assoc, W3C.groups, List.cons_append]
    rw [hy year hw.1]
    simp only [d2, List.cons_append, List.nil_append, matchMonth, d2_month month hw.2, if_true]
    rw [matchDay_ws _ post hpost]
  | ymd year month day =>
    simp only [W3C.print, List.append_assoc, W3C.groups, List.cons_append]
    rw [hy year hw.1]
    simp only [d2, List.cons_append, List.nil_append, matchMonth, d2_month month hw.2.1, if_true, matchDay, d2_day day hw.2.2]
    rw [matchTime_ws _ post hpost]
  | full year month day c =>
    simp only [W3C.print, List.append_assoc, W3C.groups, List.cons_append]
    rw [hy year hw.1]
    simp only [d2, List.cons_append, List.nil_append, matchMonth, d2_month month hw.2.1, if_true, matchDay, d2_day day hw.2.2.1]
    have := matchTime_print { year := some (d4 year), month := some (d2 month), day := some (d2 day) } rfl c hw.2.2.2 post hpost
    simp only [d2] at this
    rw [this]

end Wp.C18
