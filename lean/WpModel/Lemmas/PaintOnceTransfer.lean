/-
From a grammar on the *laid-out* box tree to the well-formedness
of what the dispatcher builds, and from the backgrounds due on the box tree to `expBg` of the built
structure.  Together with `PaintOnce.lean`: paint-once for whole pages.
-/
import WpModel.Lemmas.PaintOnce
import WpModel.Lemmas.Basic.List

namespace Wp.Stacking
open Wp Wp.Gen

/-- `W` holds of a list when `C` holds of every entry (`wfCtxL` for `wfCtx`, `okCtxL` for `okCtx`). -/
structure ListOf (C : Node → Prop) (W : List Node → Prop) : Prop where
  iff : ∀ l, W l ↔ ∀ n ∈ l, C n

/-- What a `_dispatch` result keeps: what stays in the tree satisfies `P`, the contexts appended to
`child_contexts` and to `floats` satisfy `W`. -/
abbrev Keeps {α : Type} (P : α → Prop) (W : List Node → Prop) (r : α × Delta) : Prop :=
  P r.1 ∧ W r.2.cc ∧ W r.2.floats

namespace ListOf
variable {C : Node → Prop} {W : List Node → Prop} (o : ListOf C W)
include o

theorem nil : W [] := (o.iff []).mpr (fun _ h => nomatch h)

theorem cons {n : Node} {l : List Node} (h1 : C n) (h2 : W l) : W (n :: l) :=
  (o.iff _).mpr (fun m hm => by
    rcases List.mem_cons.mp hm with rfl | h
    · exact h1
    · exact (o.iff l).mp h2 m h)

theorem append {l m : List Node} (h1 : W l) (h2 : W m) : W (l ++ m) :=
  (o.iff _).mpr (fun n hn => (List.mem_append.mp hn).elim ((o.iff l).mp h1 n) ((o.iff m).mp h2 n))

theorem of_subset {l m : List Node} (hs : ∀ n ∈ m, n ∈ l) (h : W l) : W m :=
  (o.iff _).mpr (fun n hn => (o.iff l).mp h n (hs n hn))

/-- The three lists `__init__` makes of the child contexts. -/
theorem init {own : List Node} (h : W own) :
    W (sortZ (own.filter (fun n => decide (n.zIndex < 0)))) ∧
    W (own.filter (fun n => decide (n.zIndex = 0))) ∧
    W (sortZ (own.filter (fun n => decide (0 < n.zIndex)))) :=
  ⟨o.of_subset (fun _ hn => (List.mem_filter.mp ((sortZ_perm _).mem_iff.mp hn)).1) h,
   o.of_subset (fun _ hn => (List.mem_filter.mp hn).1) h,
   o.of_subset (fun _ hn => (List.mem_filter.mp ((sortZ_perm _).mem_iff.mp hn)).1) h⟩

/-- The branches of `_dispatch` that build a context, for any notion `C` of a well-formed context:
the context goes to `child_contexts` or `floats`, or (an atomic inline) stays in the tree. -/
theorem unit_coreS {opt : Option Node → Prop} (hnone : opt none) (a : Attrs) (self : Node) (inner : Delta)
    (hu : (leavesTree a || a.kind.dispStackingClass) = true)
    (hsome : leavesTree a = false → C (mkCtx self [] inner.blocks inner.floats inner.bc) →
      opt (some (mkCtx self [] inner.blocks inner.floats inner.bc)))
    (hw : ∀ own, W own → C (mkCtx self own inner.blocks inner.floats inner.bc))
    (hcc : W inner.cc) :
    Keeps opt W (coreS a self inner) := by
  have hnil := hw [] o.nil
  refine coreS_cases a self inner (fun h1 e => ?_) (fun h1 h2 e => ?_) (fun h1 h2 h3 e => ?_)
    (fun h1 h2 h3 h4 e => ?_) (fun h1 h2 h3 h4 e => ?_) <;> rw [e]
  · exact ⟨hnone, o.cons (hw _ hcc) o.nil, o.nil⟩
  · exact ⟨hnone, o.cons hnil hcc, o.nil⟩
  · exact ⟨hnone, hcc, o.cons hnil o.nil⟩
  · exact ⟨hsome (by simp [leavesTree, h1, h2, h3]) hnil, hcc, o.nil⟩
  · simp [leavesTree, h1, h2, h3, h4] at hu

/-- A box that leaves the tree: nothing stays, so any `opt` that holds of `none` holds of the result. -/
theorem leaves_coreS {opt : Option Node → Prop} (hnone : opt none) (a : Attrs) (self : Node) (inner : Delta)
    (hl : leavesTree a = true)
    (hw : ∀ own, W own → C (mkCtx self own inner.blocks inner.floats inner.bc))
    (hcc : W inner.cc) :
    Keeps opt W (coreS a self inner) :=
  o.unit_coreS hnone a self inner (by simp [hl]) (fun h => by rw [hl] at h; cases h) hw hcc

end ListOf

/-- The plain branch of `_dispatch`: the box stays in the tree and hands on what its children appended. -/
theorem coreS_stays {opt : Option Node → Prop} {W : List Node → Prop} (a : Attrs) (self : Node)
    (inner : Delta) (hl : leavesTree a = false) (hs : a.kind.dispStackingClass = false)
    (h : opt (some self)) (hc : W inner.cc) (hf : W inner.floats) :
    Keeps opt W (coreS a self inner) := by
  simp only [leavesTree, Bool.or_eq_false_iff] at hl
  simp only [coreS, hl.1.1, hl.1.2, hl.2, hs, Bool.false_eq_true, ↓reduceIte]
  exact ⟨h, hc, hf⟩

/-- The loop of `_dispatch_children`: a result that is not `None` is kept in front of the others, the
appended contexts and floats are concatenated. -/
theorem listS_cons_keeps {opt : Option Node → Prop} {ok W : List Node → Prop} (b : Box) (bs : List Box)
    (hcons : ∀ n l, opt (some n) → ok l → ok (n :: l)) (happ : ∀ {l m}, W l → W m → W (l ++ m))
    (h1 : Keeps opt W (dispatchS b))
    (h2 : Keeps ok W (listS bs)) :
    Keeps ok W (listS (b :: bs)) := by
  rw [listS]
  refine ⟨?_, happ h1.2.1 h2.2.1, happ h1.2.2 h2.2.2⟩
  cases hd : (dispatchS b).1 with
  | none => exact h2.1
  | some n => exact hcons n _ (hd ▸ h1.1) h2.1

/-- The children condition of a block container (blocks, or lines of inline content), carried from the
laid-out children (`gF` / `gI`) to the dispatched ones (`nF` / `nI`); `R` is what else the children give
(what they appended is well-formed). -/
theorem flow_body_of {gF gI nF nI R : Prop} {l : Bool} (hflow : gF → nF ∧ R) (hinl : gI → nI ∧ R)
    (h : (gF ∧ l = false) ∨ (l = true ∧ gI)) : ((nF ∧ l = false) ∨ (l = true ∧ nI)) ∧ R :=
  h.elim (fun ⟨hk, hl⟩ => ⟨Or.inl ⟨(hflow hk).1, hl⟩, (hflow hk).2⟩)
    (fun ⟨hl, hk⟩ => ⟨Or.inr ⟨hl, (hinl hk).1⟩, (hinl hk).2⟩)

/-- The same for the children of a context root, which may also be an inline box (`d`). -/
theorem body_of {gF gI nF nI R : Prop} {d l : Bool} (hflow : gF → nF ∧ R) (hinl : gI → nI ∧ R)
    (h : (d = true ∧ l = false ∧ gI) ∨ (d = false ∧ ((gF ∧ l = false) ∨ (l = true ∧ gI)))) :
    ((d = true ∧ l = false ∧ nI) ∨ (d = false ∧ ((nF ∧ l = false) ∨ (l = true ∧ nI)))) ∧ R :=
  h.elim (fun ⟨h6, hl, hk⟩ => ⟨Or.inl ⟨h6, hl, (hinl hk).1⟩, (hinl hk).2⟩)
    (fun ⟨h6, hb⟩ => ⟨Or.inr ⟨h6, (flow_body_of hflow hinl hb).1⟩, (flow_body_of hflow hinl hb).2⟩)

theorem wfCtxL_iff (l : List Node) : wfCtxL l ↔ ∀ n ∈ l, wfCtx n :=
  List.listLift_iff (by rw [wfCtxL]; trivial) (fun _ _ => by rw [wfCtxL]) l

theorem wfCtxL_of : ListOf wfCtx wfCtxL := ⟨wfCtxL_iff⟩

theorem wfInlineL_append {l m : List Node} (h1 : wfInlineL l) (h2 : wfInlineL m) : wfInlineL (l ++ m) := by
  induction l with
  | nil => simpa using h2
  | cons x xs ih =>
    rw [wfInlineL] at h1
    rw [List.cons_append, wfInlineL]
    exact ⟨h1.1, ih h1.2⟩

/-- `__init__` around a parent box builds a well-formed context from well-formed parts. -/
theorem wfCtx_mkCtx_node (a : Attrs) (ks own blocks floats bc : List Node)
    (hroot : rootPainted a) (hr : a.kind.drawReplaced = false)
    (hb : blocks = (Node.regionL ks).filter Node.isBlockLevel)
    (hc : bc = (Node.regionL ks).filter Node.isBlockOrCell)
    (hown : wfCtxL own) (hfl : wfCtxL floats)
    (hbody : (a.kind.drawInline = true ∧ lastIsLine ks = false ∧ wfInlineL ks) ∨
      (a.kind.drawInline = false ∧
        ((wfFlowL ks ∧ lastIsLine ks = false) ∨ (lastIsLine ks = true ∧ wfInlineL ks)))) :
    wfCtx (mkCtx (.node a ks) own blocks floats bc) := by
  obtain ⟨hn, hz, hp⟩ := wfCtxL_of.init hown
  simp only [init_lists, wfCtx]
  exact ⟨hroot, hr, hb, hc, hn, hz, hp, hfl, hbody⟩

theorem wfCtx_mkCtx_leaf (a : Attrs) (own : List Node) (hroot : rootPainted a) (hown : wfCtxL own) :
    wfCtx (mkCtx (.leaf a) own [] [] []) := by
  obtain ⟨hn, hz, hp⟩ := wfCtxL_of.init hown
  simp only [init_lists, wfCtx]
  exact ⟨hroot, trivial, trivial, hn, hz, hp, wfCtxL_of.nil⟩

mutual
/-- A box standing in a line or an inline box. -/
def gInline : Box → Prop
  | .ph b => gInline b
  | .leaf a =>
    if leavesTree a || a.kind.dispStackingClass then
      rootPainted a ∧ (leavesTree a = false → a.kind.dilAllowed = true)
    else a.kind.dispBlockLevel = false ∧ a.kind.dispCell = false ∧
      (a.kind.dilTextChild = true → bgOf a = [])
  | .node a kids =>
    if leavesTree a || a.kind.dispStackingClass then
      rootPainted a ∧ (leavesTree a = false → a.kind.dilAllowed = true) ∧ a.kind.drawReplaced = false ∧
      ((a.kind.drawInline = true ∧ lastIsLine (listS kids).1 = false ∧ gInlineL kids) ∨
       (a.kind.drawInline = false ∧
         ((gFlowL kids ∧ lastIsLine (listS kids).1 = false) ∨
          (lastIsLine (listS kids).1 = true ∧ gInlineL kids))))
    else a.kind.dispBlockLevel = false ∧ a.kind.dispCell = false ∧ a.kind.dilInlineOrLine = true ∧
      a.kind.dilTextChild = false ∧ gInlineL kids
def gInlineL : List Box → Prop
  | [] => True
  | b :: bs => gInline b ∧ gInlineL bs
/-- A box standing in a block container (or flex / grid container) children list. -/
def gFlow : Box → Prop
  | .ph b => gFlow b
  | .leaf a =>
    if leavesTree a then rootPainted a
    else a.kind.dispStackingClass = false ∧ a.kind.dispBlockLevel = true ∧ a.kind.drawTable = false
  | .node a kids =>
    if leavesTree a then
      rootPainted a ∧ a.kind.drawReplaced = false ∧
      ((a.kind.drawInline = true ∧ lastIsLine (listS kids).1 = false ∧ gInlineL kids) ∨
       (a.kind.drawInline = false ∧
         ((gFlowL kids ∧ lastIsLine (listS kids).1 = false) ∨
          (lastIsLine (listS kids).1 = true ∧ gInlineL kids))))
    else a.kind.dispStackingClass = false ∧ a.kind.dispBlockLevel = true ∧ a.kind.drawTable = false ∧
      a.kind.drawReplaced = false ∧
      ((gFlowL kids ∧ lastIsLine (listS kids).1 = false) ∨
       (lastIsLine (listS kids).1 = true ∧ gInlineL kids))
def gFlowL : List Box → Prop
  | [] => True
  | b :: bs => gFlow b ∧ gFlowL bs
end

/-- What the grammar gives about the children loop, and (`Transfer`) about one `_dispatch` result. -/
structure TransferL (l : List Box) : Prop where
  inl : gInlineL l → Keeps wfInlineL wfCtxL (listS l)
  flow : gFlowL l → Keeps wfFlowL wfCtxL (listS l)

def optWfInline : Option Node → Prop
  | none => True
  | some n => wfInline n

def optWfFlow : Option Node → Prop
  | none => True
  | some n => wfFlow n

structure Transfer (b : Box) : Prop where
  inl : gInline b → Keeps optWfInline wfCtxL (dispatchS b)
  flow : gFlow b → Keeps optWfFlow wfCtxL (dispatchS b)

/-- An atomic inline standing in a line: `draw_inline_level` accepts its class. -/
theorem optWfInline_mkCtx {self : Node} {blocks floats bc : List Node} (ha : ctxAllowed self = true)
    (h : wfCtx (mkCtx self [] blocks floats bc)) : optWfInline (some (mkCtx self [] blocks floats bc)) := by
  rw [mkCtx] at h ⊢
  rw [optWfInline, wfInline]
  exact ⟨ha, h⟩

/-- A child of the page box (root element, margin boxes): always a context of its own. -/
def gRoot : Box → Prop
  | .leaf a => rootPainted a
  | .node a kids =>
    rootPainted a ∧ a.kind.drawReplaced = false ∧
    ((a.kind.drawInline = true ∧ lastIsLine (listS kids).1 = false ∧ gInlineL kids) ∨
     (a.kind.drawInline = false ∧
       ((gFlowL kids ∧ lastIsLine (listS kids).1 = false) ∨
        (lastIsLine (listS kids).1 = true ∧ gInlineL kids))))
  | .ph _ => False

/-- The context around a parent box over the grammar is well-formed whatever well-formed child contexts it
is given, and so is what its children appended. -/
theorem wfCtx_node_of {a : Attrs} {kids : List Box} (ih : TransferL kids) (h : gRoot (.node a kids)) :
    (∀ own, wfCtxL own → wfCtx (mkCtx (.node a (listS kids).1) own (listS kids).2.blocks
      (listS kids).2.floats (listS kids).2.bc)) ∧ wfCtxL (listS kids).2.cc := by
  obtain ⟨hroot, hr, hbody⟩ := h
  obtain ⟨hb, hc, hf⟩ := body_of ih.flow ih.inl hbody
  exact ⟨fun own ho => wfCtx_mkCtx_node a _ own _ _ _ hroot hr (blocks_listS kids).1
    (blocks_listS kids).2 ho hf hb, hc⟩

mutual
theorem transfer_box : ∀ (b : Box), Transfer b
  | .ph b => by
    have ih := transfer_box b
    refine ⟨?_, ?_⟩
    · intro h; rw [gInline] at h; rw [dispatchS]; exact ih.inl h
    · intro h; rw [gFlow] at h; rw [dispatchS]; exact ih.flow h
  | .leaf a => by
    refine ⟨?_, ?_⟩
    · intro h
      rw [gInline] at h
      rw [dispatchS]
      by_cases hu : (leavesTree a || a.kind.dispStackingClass) = true
      · simp only [hu, ↓reduceIte] at h
        exact wfCtxL_of.unit_coreS trivial a (.leaf a) {} hu
          (fun hl => optWfInline_mkCtx (by simpa [ctxAllowed, Node.attrs?] using h.2 hl))
          (fun own ho => wfCtx_mkCtx_leaf a own h.1 ho) wfCtxL_of.nil
      · simp only [hu, Bool.false_eq_true, ↓reduceIte] at h
        simp only [Bool.or_eq_true, not_or, Bool.not_eq_true] at hu
        refine coreS_stays a (.leaf a) {} hu.1 hu.2 ?_ wfCtxL_of.nil wfCtxL_of.nil
        simp only [optWfInline, wfInline]
        exact h
    · intro h
      rw [gFlow] at h
      rw [dispatchS]
      by_cases hu : leavesTree a = true
      · simp only [hu, ↓reduceIte] at h
        exact wfCtxL_of.leaves_coreS trivial a (.leaf a) {} hu
          (fun own ho => wfCtx_mkCtx_leaf a own h ho) wfCtxL_of.nil
      · simp only [hu, Bool.false_eq_true, ↓reduceIte] at h
        simp only [Bool.not_eq_true] at hu
        refine coreS_stays a (.leaf a) {} hu h.1 ?_ wfCtxL_of.nil wfCtxL_of.nil
        simp only [optWfFlow, wfFlow]
        exact ⟨h.2.1, h.2.2⟩
  | .node a kids => by
    have ih := transfer_list kids
    refine ⟨?_, ?_⟩
    · intro h
      rw [gInline] at h
      rw [dispatchS]
      by_cases hu : (leavesTree a || a.kind.dispStackingClass) = true
      · simp only [hu, ↓reduceIte] at h
        obtain ⟨hw, hc⟩ := wfCtx_node_of (a := a) ih ⟨h.1, h.2.2⟩
        exact wfCtxL_of.unit_coreS trivial a (.node a (listS kids).1) (listS kids).2 hu
          (fun hl => optWfInline_mkCtx (by simpa [ctxAllowed, Node.attrs?] using h.2.1 hl)) hw hc
      · simp only [hu, Bool.false_eq_true, ↓reduceIte] at h
        simp only [Bool.or_eq_true, not_or, Bool.not_eq_true] at hu
        obtain ⟨w, c, f⟩ := ih.inl h.2.2.2.2
        refine coreS_stays a (.node a (listS kids).1) (listS kids).2 hu.1 hu.2 ?_ c f
        simp only [optWfInline, wfInline]
        exact ⟨h.1, h.2.1, h.2.2.1, h.2.2.2.1, w⟩
    · intro h
      rw [gFlow] at h
      rw [dispatchS]
      by_cases hu : leavesTree a = true
      · simp only [hu, ↓reduceIte] at h
        exact wfCtxL_of.leaves_coreS trivial a (.node a (listS kids).1) (listS kids).2 hu
          (wfCtx_node_of ih h).1 (wfCtx_node_of ih h).2
      · simp only [hu, Bool.false_eq_true, ↓reduceIte] at h
        simp only [Bool.not_eq_true] at hu
        obtain ⟨hs, hbl, ht, hr, hbody⟩ := h
        obtain ⟨w, c, f⟩ := flow_body_of ih.flow ih.inl hbody
        refine coreS_stays a (.node a (listS kids).1) (listS kids).2 hu hs ?_ c f
        simp only [optWfFlow, wfFlow]
        exact ⟨hbl, ht, hr, w⟩
theorem transfer_list : ∀ (l : List Box), TransferL l
  | [] => ⟨fun _ => by simp [Keeps, listS, wfInlineL, wfCtxL], fun _ => by simp [Keeps, listS, wfFlowL, wfCtxL]⟩
  | b :: bs => by
    have h1 := transfer_box b
    have h2 := transfer_list bs
    refine ⟨?_, ?_⟩
    · intro h
      rw [gInlineL] at h
      exact listS_cons_keeps b bs (fun n l hn hl => by rw [wfInlineL]; exact ⟨hn, hl⟩) wfCtxL_of.append
        (h1.inl h.1) (h2.inl h.2)
    · intro h
      rw [gFlowL] at h
      exact listS_cons_keeps b bs (fun n l hn hl => by rw [wfFlowL]; exact ⟨hn, hl⟩) wfCtxL_of.append
        (h1.flow h.1) (h2.flow h.2)
end

mutual
/-- Boxes of a laid-out tree whose background colour is due: all those with a painted colour, except
below (and including) a box with a singular transform. -/
def Box.expBg : Box → List Nat
  | .leaf a => if a.matrix = .singular then [] else bgOf a
  | .node a kids => if a.matrix = .singular then [] else bgOf a ++ Box.expBgL kids
  | .ph b => b.expBg
def Box.expBgL : List Box → List Nat
  | [] => []
  | b :: bs => b.expBg ++ Box.expBgL bs
end

mutual
/-- A singular `transformation_matrix` only occurs with `transform`, which creates a real context. -/
def singOK : Box → Prop
  | .leaf a => a.matrix = .singular → definesContext a = true
  | .node a kids => (a.matrix = .singular → definesContext a = true) ∧ singOKL kids
  | .ph b => singOK b
def singOKL : List Box → Prop
  | [] => True
  | b :: bs => singOK b ∧ singOKL bs
end

theorem singOKL_iff (l : List Box) : singOKL l ↔ ∀ b ∈ l, singOK b :=
  List.listLift_iff (by rw [singOKL]; trivial) (fun _ _ => by rw [singOKL]) l

theorem count_Box_expBgL (l : List Box) (i : Nat) :
    (Box.expBgL l).count i = (l.map (fun b => b.expBg.count i)).sum := by
  induction l with
  | nil => rfl
  | cons x xs ih => rw [Box.expBgL, List.count_append, ih, List.map_cons, List.sum_cons]

def optExp : Option Node → List Nat
  | none => []
  | some n => expBg n

theorem expBgL_append (l m : List Node) : expBgL (l ++ m) = expBgL l ++ expBgL m := by
  induction l with
  | nil => simp [expBgL]
  | cons x xs ih => simp [expBgL, ih, List.append_assoc]

theorem count_expBgL (l : List Node) (i : Nat) :
    (expBgL l).count i = (l.map (fun n => (expBg n).count i)).sum := by
  induction l with
  | nil => rfl
  | cons x xs ih => rw [expBgL, List.count_append, ih, List.map_cons, List.sum_cons]

theorem expBgL_toList (o : Option Node) : expBgL o.toList = optExp o := by
  cases o
  · rfl
  · exact List.append_nil _

/-- The three sorted / filtered lists of `__init__` hold the same backgrounds as the children. -/
theorem count_expBgL_init (own : List Node) (i : Nat) :
    (expBgL (sortZ (own.filter (fun n => decide (n.zIndex < 0))))).count i +
    (expBgL (own.filter (fun n => decide (n.zIndex = 0)))).count i +
    (expBgL (sortZ (own.filter (fun n => decide (0 < n.zIndex))))).count i = (expBgL own).count i := by
  simp only [count_expBgL]
  exact sum_map_init _ own

theorem count_expBg_mkCtx_node (a : Attrs) (ks own blocks floats bc : List Node) (i : Nat) :
    (expBg (mkCtx (.node a ks) own blocks floats bc)).count i =
      if a.matrix = .singular then 0
      else (expBg (.node a ks)).count i + (expBgL own).count i + (expBgL floats).count i := by
  have := count_expBgL_init own i
  simp only [init_lists, expBg]
  split
  · rfl
  · simp only [List.count_append]; omega

theorem count_expBg_mkCtx_leaf (a : Attrs) (own blocks floats bc : List Node) (i : Nat) :
    (expBg (mkCtx (.leaf a) own blocks floats bc)).count i =
      if a.matrix = .singular then 0
      else (expBg (.leaf a)).count i + (expBgL own).count i + (expBgL floats).count i := by
  have := count_expBgL_init own i
  simp only [init_lists, expBg]
  split
  · rfl
  · simp only [List.count_append]; omega

/-- One `_dispatch` step keeps the backgrounds due; `self` is the box with its dispatched children. -/
theorem count_exp_coreS (a : Attrs) (self : Node) (inner : Delta) (i : Nat)
    (hs : a.matrix = .singular → definesContext a = true)
    (hself : ∀ own blocks floats bc, (expBg (mkCtx self own blocks floats bc)).count i =
      if a.matrix = .singular then 0
      else (expBg self).count i + (expBgL own).count i + (expBgL floats).count i) :
    (optExp (coreS a self inner).1).count i + (expBgL (coreS a self inner).2.cc).count i +
      (expBgL (coreS a self inner).2.floats).count i =
    if a.matrix = .singular then 0
    else (expBg self).count i + (expBgL inner.cc).count i + (expBgL inner.floats).count i := by
  have := sum_coreS (fun n => (expBg n).count i) (fun n => (expBg n).count i) a self inner
    ((expBg self).count i) (fun x => if a.matrix = .singular then 0 else x)
    (fun h x => if_neg (fun h' => by rw [hs h'] at h; cases h))
    (fun own bl fl bc => by rw [hself, count_expBgL, count_expBgL]) (fun _ _ _ _ => rfl)
  simpa only [← count_expBgL, expBgL_toList, ite_self] using this

mutual
theorem count_exp_dispatchS : ∀ (b : Box) (i : Nat), singOK b →
    (optExp (dispatchS b).1).count i + (expBgL (dispatchS b).2.cc).count i +
      (expBgL (dispatchS b).2.floats).count i = b.expBg.count i
  | .ph b, i, h => by
    rw [singOK] at h; rw [dispatchS, Box.expBg]; exact count_exp_dispatchS b i h
  | .leaf a, i, h => by
    rw [singOK] at h
    rw [dispatchS, count_exp_coreS a _ _ i h (count_expBg_mkCtx_leaf a · · · · i), Box.expBg, expBg]
    split
    · rfl
    · rfl
  | .node a kids, i, h => by
    rw [singOK] at h
    have ih := count_exp_listS kids i h.2
    rw [dispatchS, count_exp_coreS a _ _ i h.1 (count_expBg_mkCtx_node a _ · · · · i), Box.expBg, expBg]
    by_cases hs : a.matrix = .singular
    · rw [if_pos hs, if_pos hs]; rfl
    · rw [if_neg hs, if_neg hs]
      simp only [List.count_append]; omega
theorem count_exp_listS : ∀ (l : List Box) (i : Nat), singOKL l →
    (expBgL (listS l).1).count i + (expBgL (listS l).2.cc).count i +
      (expBgL (listS l).2.floats).count i = (Box.expBgL l).count i
  | [], i, _ => rfl
  | b :: bs, i, h => by
    rw [singOKL] at h
    have h1 := count_exp_dispatchS b i h.1
    have h2 := count_exp_listS bs i h.2
    rw [listS_cons, Box.expBgL]
    simp only [Delta.append, expBgL_append, expBgL_toList, List.count_append]
    omega
end

theorem wfCtx_fromBoxS (b : Box) (h : gRoot b) : wfCtx (fromBoxS b) := by
  cases b with
  | leaf a =>
    rw [gRoot] at h
    simpa [fromBoxS, childrenS] using wfCtx_mkCtx_leaf a [] h wfCtxL_of.nil
  | node a kids =>
    obtain ⟨hw, hc⟩ := wfCtx_node_of (transfer_list kids) h
    simpa [fromBoxS, childrenS] using hw _ hc
  | ph b => rw [gRoot] at h; exact h.elim

theorem count_expBg_fromBoxS (b : Box) (h : singOK b) (hr : gRoot b) (i : Nat) :
    (expBg (fromBoxS b)).count i = b.expBg.count i := by
  cases b with
  | leaf a =>
    simp only [fromBoxS, childrenS, count_expBg_mkCtx_leaf, Box.expBg, expBg]
    split
    · rfl
    · rfl
  | node a kids =>
    rw [singOK] at h
    have := count_exp_listS kids i h.2
    simp only [fromBoxS, childrenS, count_expBg_mkCtx_node, Box.expBg, expBg]
    split
    · rfl
    · simp only [List.count_append]; omega
  | ph b => rw [gRoot] at hr; exact hr.elim

end Wp.Stacking
