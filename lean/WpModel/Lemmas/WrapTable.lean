/-
`wrap_table` (Model/AnonBoxes.lean `wrapTable`) in parts: the table box and the wrapper it builds, the order it gives the
row groups, and one theorem saying what a call that returned did.  The lemmas about `wrapTable` reason from these instead
of unfolding its body.
-/
import WpModel.Model.AnonBoxes

namespace Wp.Bx
open KBox

/-- The table box as `wrap_table` leaves it: row groups, `column_groups`, and `float` / `position` handed to the wrapper. -/
def wtTable (box : KBox) (rowGroups columnGroups : List KBox) : KBox :=
  ((box.withKids rowGroups).withCols columnGroups).withStyle
    { box.st with
      flt := if Gen.wrapperTakesFloat then false else box.st.flt
      foot := if Gen.wrapperTakesFloat then false else box.st.foot
      abs := if Gen.wrapperTakesPosition then false else box.st.abs
      run := if Gen.wrapperTakesPosition then false else box.st.run }

/-- The anonymous wrapper `wrap_table` returns: the top captions, the table, the bottom captions. -/
def wtWrapper (box : KBox) (captions : List KBox) (table : KBox) : KBox :=
  let w := anonFrom (if box.isA .InlineTableBox then BoxKind.InlineBlockBox else BoxKind.BlockBox) box
    (captions.filter isTopCaption ++ [table] ++ captions.filter (fun c => !isTopCaption c))
  (w.withStyle { w.st with
      flt := if Gen.wrapperTakesFloat then box.st.flt else w.st.flt
      foot := if Gen.wrapperTakesFloat then box.st.foot else w.st.foot
      abs := if Gen.wrapperTakesPosition then box.st.abs else w.st.abs
      run := if Gen.wrapperTakesPosition then box.st.run else w.st.run }).withInst { w.inst with wrapper := true }

/-- The row groups in the order `wrap_table` gives them: header, bodies, footer. -/
def wtGroups (rowGroups0 : List KBox) : List KBox :=
  (splitGroups rowGroups0 none none []).1.toList ++ (splitGroups rowGroups0 none none []).2.2.reverse ++
    (splitGroups rowGroups0 none none []).2.1.toList

/-- Everything a call of `wrap_table` that returned did. -/
theorem wrapTable_cases {n : Nat} {box : KBox} {children : List KBox} {w : KBox}
    (h : wrapTable n box children = .ok w) :
    ∃ m columns rows caps columnGroups rowGroups0 cells out, n = m + 1 ∧
      sortTableKids children = .ok (columns, rows, caps) ∧
      wrapImproper m box columns .TableColumnGroupBox (fun c => c.isA .TableColumnGroupBox) [] = .ok columnGroups ∧
      wrapImproper m box rows .TableRowGroupBox (fun c => c.isA .TableRowGroupBox) [] = .ok rowGroups0 ∧
      tableCells (wtGroups rowGroups0) = .ok cells ∧
      TableGrid.placeTable (columnGroups.map (fun g => (⟨g.kids.length, groupSpan g⟩ : TableGrid.ColGroupIn))) cells = .ok out ∧
      w = wtWrapper box caps (wtTable box (setGroups (wtGroups rowGroups0) out.groups)
        (setColGroups columnGroups out.colGroups)) := by
  revert h
  fun_cases wrapTable n box children <;> intro h <;> cases h
  next hsplit _ _ hcells _ _ hout _ _ _ _ hcg hrg _ _ _ _ _ _ _ hsort =>
    exact ⟨_, _, _, _, _, _, _, _, rfl, hsort, hcg, hrg, by unfold wtGroups; rw [hsplit]; exact hcells, hout,
      by unfold wtGroups; rw [hsplit]; rfl⟩

theorem wtWrapper_kids (box : KBox) (caps : List KBox) (t : KBox) :
    (wtWrapper box caps t).kids = caps.filter isTopCaption ++ [t] ++ caps.filter (fun c => !isTopCaption c) := by
  simp [wtWrapper, KBox.withInst, KBox.withStyle, KBox.kids, anonFrom]

theorem wtWrapper_kind (box : KBox) (caps : List KBox) (t : KBox) :
    (wtWrapper box caps t).kind = if box.isA .InlineTableBox = true then .InlineBlockBox else .BlockBox := rfl

theorem wtTable_proj (box : KBox) (rg cg : List KBox) :
    (wtTable box rg cg).kind = box.kind ∧ (wtTable box rg cg).kids = rg ∧ (wtTable box rg cg).cols = cg := by
  obtain ⟨k, st, el, inst, text, kids, cols⟩ := box
  exact ⟨rfl, rfl, rfl⟩

end Wp.Bx
