/-
Attachments: what `write_pdf_attachment` writes for a list (`writeAll_summary`), the sorted `/EmbeddedFiles` array
(`sortSpecs` is `InsertionSort.sort`), and the URL cache of `add_annotations` (`CacheOk`: an entry is a file exactly when the
URL can be read; `FilesOk`: no URL twice).  Core Lean only.
-/
import WpModel.Model.C18Attach
import WpModel.Lemmas.C18Links

namespace Wp.C18
open Wp Wp.Anchors Wp.Attach Wp.Outline Wp.InsertionSort

/-! ### document-level attachments -/

/-- What a readable attachment must become: file name, description, size. -/
def attSummary (a : Att) : Option (String × String × Nat) :=
  a.size.map fun n => (chooseFilename a, a.description.getD "", n)

theorem writeAll_summary (g : List (String × String)) (atts : List Att) :
    ∀ (next : Nat), ((writeAll g next atts).1.map fun f => (f.filename, f.desc, f.size)) = atts.filterMap attSummary ∧
      (writeAll g next atts).2 = next + 2 * (atts.filterMap attSummary).length ∧
      ((writeAll g next atts).1.map fun f => f.spec) =
        (List.range (atts.filterMap attSummary).length).map (fun i => next + 2 * i + 1) := by
  induction atts with
  | nil => intro next; simp [writeAll]
  | cons a rest ih =>
    intro next
    cases hs : a.size with
    | none =>
      have : attSummary a = none := by simp [attSummary, hs]
      simp only [writeAll, writeAttachment, hs, List.filterMap_cons, this]
      exact ih next
    | some n =>
      have : attSummary a = some (chooseFilename a, a.description.getD "", n) := by simp [attSummary, hs]
      obtain ⟨h1, h2, h3⟩ := ih (next + 2)
      simp only [writeAll, writeAttachment, hs, List.filterMap_cons, this, List.map_cons, h1, h2, List.length_cons]
      refine ⟨trivial, by omega, ?_⟩
      rw [h3, List.range_succ_eq_map]
      simp only [List.map_cons, List.map_map]
      congr 1
      apply List.map_congr_left
      intro i _
      simp only [Function.comp]; omega

/-! ### the `/EmbeddedFiles` name array (sorted since 186e86a) -/

/-- Non-decreasing in the key `k` (equal keys may repeat: two attachments may have one name). -/
def SortedBy (k : FileSpec → List Nat) : List FileSpec → Prop
  | [] => True
  | [_] => True
  | x :: y :: rest => nameLt (k y) (k x) = false ∧ SortedBy k (y :: rest)

theorem SortedBy.of_pairwise {k : FileSpec → List Nat} {l : List FileSpec} (h : l.Pairwise fun a b => k a ≤ k b) :
    SortedBy k l :=
  adjacent_of_pairwise (SortedBy k) trivial (fun _ => trivial)
    (fun _ _ _ hxy hr => ⟨Bool.eq_false_iff.mpr fun hlt => hxy ((nameLt_iff _ _).mp hlt), hr⟩) h

/-- The sort key of the code: the bytes of `/F` (what a PDF reader compares unless the file name holds a carriage
return, which it reads as a line feed). -/
def rawKey (cpsOf : String → List Nat) (f : FileSpec) : List Nat := fKey (cpsOf f.filename)

theorem insertSpec_eq (cpsOf : String → List Nat) (x : FileSpec) (l : List FileSpec) :
    insertSpec cpsOf x l = ins (keyTest (rawKey cpsOf)) x l :=
  eq_ins (insertSpec cpsOf) (fun _ => rfl) (fun _ _ _ => rfl) x l

theorem sortSpecs_eq (cpsOf : String → List Nat) (l : List FileSpec) :
    sortSpecs cpsOf l = sort (keyTest (rawKey cpsOf)) l :=
  eq_sort (sortSpecs cpsOf) (insertSpec_eq cpsOf) rfl (fun _ _ => rfl) l

theorem sortSpecs_perm (cpsOf : String → List Nat) (l : List FileSpec) : (sortSpecs cpsOf l).Perm l := by
  rw [sortSpecs_eq]; exact sort_perm l

theorem sortSpecs_sorted (cpsOf : String → List Nat) (l : List FileSpec) :
    SortedBy (rawKey cpsOf) (sortSpecs cpsOf l) := by
  rw [sortSpecs_eq]; exact .of_pairwise (sort_keyTest_sorted _ l)

/-! ### link-level attachments -/

theorem Cache.get?_append (c t : Cache) (u : String) : (c ++ t).get? u = (c.get? u).or (t.get? u) := by
  unfold Cache.get?
  rw [List.find?_append]
  cases c.find? (fun e => e.1 == u) <;> rfl

theorem Cache.get?_append_new (c : Cache) (u : String) (v : Option Nat) (h : c.get? u = none) :
    (c ++ [(u, v)]).get? u = some v := by
  rw [Cache.get?_append, h]
  simp [Cache.get?]

/-- The cache agrees with the fetcher: a URL is cached as a file exactly when it can be read. -/
def CacheOk (fetch : String → Att) (c : Cache) : Prop :=
  ∀ u v, c.get? u = some v → v.isSome = (fetch u).size.isSome

theorem CacheOk.append_new {fetch : String → Att} {c : Cache} {u : String} {v : Option Nat} (hok : CacheOk fetch c)
    (hv : v.isSome = (fetch u).size.isSome) : CacheOk fetch (c ++ [(u, v)]) := by
  intro u' v' huv
  rw [Cache.get?_append] at huv
  cases hc : c.get? u' with
  | some w => rw [hc] at huv; exact hok u' v' (hc.trans huv)
  | none =>
    rw [hc] at huv
    by_cases hu : u = u'
    · subst hu
      simp only [Cache.get?, Option.none_or, List.find?_cons, beq_self_eq_true, Option.map_some,
        Option.some.injEq] at huv
      exact huv ▸ hv
    · simp [Cache.get?, hu] at huv

theorem annotStep_spec (g : List (String × String)) (fetch : String → Att) (m : Matrix) (st : AnnotState)
    (l : AttLink) (hok : CacheOk fetch st.cache) :
    let r := annotStep g fetch m st l
    (∃ t, r.1.cache = st.cache ++ t) ∧ CacheOk fetch r.1.cache ∧
    (∃ v, r.1.cache.get? l.target = some v ∧
      (r.2.map fun a => (a.fs, a.rect)) = v.map fun fs => (fs, annotRect m l.rect)) ∧
    ((fetch l.target).size.isSome = r.2.isSome) := by
  unfold annotStep
  cases hc : st.cache.get? l.target with
  | some v =>
    simp only [hc]
    have hv := hok _ _ hc
    cases v with
    | none => exact ⟨⟨[], by simp⟩, hok, ⟨none, hc, rfl⟩, by simpa using hv.symm⟩
    | some fs => exact ⟨⟨[], by simp⟩, hok, ⟨some fs, hc, rfl⟩, by simpa using hv.symm⟩
  | none =>
    simp only []
    cases hs : (fetch l.target).size with
    | none =>
      simp only [writeAttachment, hs, Cache.get?_append_new st.cache l.target none hc]
      exact ⟨⟨_, rfl⟩, hok.append_new (by simp [hs]), ⟨none, rfl, rfl⟩, rfl⟩
    | some n =>
      simp only [writeAttachment, hs, Cache.get?_append_new st.cache l.target (some (st.next + 1)) hc]
      exact ⟨⟨_, rfl⟩, hok.append_new (by simp [hs]), ⟨some (st.next + 1), rfl, rfl⟩, rfl⟩

theorem addAnnotations_spec (g : List (String × String)) (fetch : String → Att) (m : Matrix) (links : List AttLink) :
    ∀ (st : AnnotState), CacheOk fetch st.cache →
      let r := addAnnotations g fetch m st links
      (∃ t, r.1.cache = st.cache ++ t) ∧ CacheOk fetch r.1.cache ∧
      (r.2.map fun a => (a.fs, a.rect)) = links.filterMap (fun l =>
        match r.1.cache.get? l.target with
        | some (some fs) => some (fs, annotRect m l.rect)
        | _ => none) ∧
      r.2.length = (links.filter fun l => (fetch l.target).size.isSome).length := by
  induction links with
  | nil => intro st hok; exact ⟨⟨[], by simp [addAnnotations]⟩, hok, rfl, rfl⟩
  | cons l rest ih =>
    intro st hok
    obtain ⟨⟨t1, ht1⟩, hok1, ⟨v, hv1, hv2⟩, hlen1⟩ := annotStep_spec g fetch m st l hok
    obtain ⟨⟨t2, ht2⟩, hok2, hmap, hlen2⟩ := ih (annotStep g fetch m st l).1 hok1
    simp only [addAnnotations]
    refine ⟨⟨t1 ++ t2, by rw [ht2, ht1, List.append_assoc]⟩, hok2, ?_, ?_⟩
    · -- the entry for `l.target` made by this step is still the one found at the end
      have hfinal : (addAnnotations g fetch m (annotStep g fetch m st l).1 rest).1.cache.get? l.target = some v := by
        rw [ht2, Cache.get?_append, hv1]; rfl
      simp only [List.filterMap_cons, hfinal]
      cases hr : (annotStep g fetch m st l).2 with
      | none =>
        rw [hr] at hv2
        cases v with
        | none => simpa using hmap
        | some fs => simp at hv2
      | some a =>
        rw [hr] at hv2
        cases v with
        | none => simp at hv2
        | some fs =>
          simp only [Option.map_some, Option.some.injEq] at hv2
          simp only [List.map_cons, hv2, hmap]
    · simp only [List.filter_cons]
      cases hr : (annotStep g fetch m st l).2 with
      | none =>
        rw [hr] at hlen1
        have : (fetch l.target).size.isSome = false := by simpa using hlen1
        simp [this, hlen2]
      | some a =>
        rw [hr] at hlen1
        have : (fetch l.target).size.isSome = true := by simpa using hlen1
        simp [this, hlen2]

/-! ### each URL is embedded at most once -/

theorem Cache.get?_none_not_mem (c : Cache) (u : String) (h : c.get? u = none) : u ∉ c.map (·.1) := by
  unfold Cache.get? at h
  rw [Option.map_eq_none_iff, List.find?_eq_none] at h
  intro hm
  obtain ⟨e, he, heu⟩ := List.mem_map.mp hm
  exact h e he (by simp [heu])

/-- The embedded files are exactly the successful cache entries, and no URL is cached twice. -/
def FilesOk (st : AnnotState) : Prop :=
  st.files.map (·.spec) = st.cache.filterMap (·.2) ∧ (st.cache.map (·.1)).Nodup

theorem annotStep_files (g : List (String × String)) (fetch : String → Att) (m : Matrix) (st : AnnotState)
    (l : AttLink) (h : FilesOk st) : FilesOk (annotStep g fetch m st l).1 := by
  obtain ⟨h1, h2⟩ := h
  unfold annotStep
  cases hc : st.cache.get? l.target with
  | some v =>
    simp only [hc]
    cases v <;> exact ⟨h1, h2⟩
  | none =>
    have hnd : ∀ v : Option Nat, ((st.cache ++ [(l.target, v)]).map (·.1)).Nodup := by
      intro v
      rw [List.map_append, List.nodup_append]
      refine ⟨h2, by simp, ?_⟩
      intro a ha b hb e
      simp only [List.map_cons, List.map_nil, List.mem_cons, List.not_mem_nil, or_false] at hb
      exact Cache.get?_none_not_mem _ _ hc (hb ▸ e ▸ ha)
    simp only []
    cases hs : (fetch l.target).size with
    | none =>
      simp only [writeAttachment, hs, Cache.get?_append_new st.cache l.target none hc]
      exact ⟨by simp [h1], hnd none⟩
    | some n =>
      simp only [writeAttachment, hs, Cache.get?_append_new st.cache l.target (some (st.next + 1)) hc]
      exact ⟨by simp [h1], hnd _⟩

theorem addAnnotations_files (g : List (String × String)) (fetch : String → Att) (m : Matrix) (links : List AttLink) :
    ∀ (st : AnnotState), FilesOk st → FilesOk (addAnnotations g fetch m st links).1 := by
  induction links with
  | nil => intro st h; exact h
  | cons l rest ih => intro st h; simp only [addAnnotations]; exact ih _ (annotStep_files g fetch m st l h)

end Wp.C18
