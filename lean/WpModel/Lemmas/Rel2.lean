/-
Two lists related element by element: what a `map`, a successful `mapExcept` or one pass over the tracks of a grid
or the items of a flex line leaves between its input and its output.  Core Lean only.
-/

namespace Wp.C12

/-- two lists related element by element (`List.Forall₂` is not in core Lean) -/
inductive Rel2 {α β} (R : α → β → Prop) : List α → List β → Prop
  | nil : Rel2 R [] []
  | cons {a b l l'} : R a b → Rel2 R l l' → Rel2 R (a :: l) (b :: l')

theorem Rel2.mem_right {α β} {R : α → β → Prop} {l : List α} {l' : List β} (h : Rel2 R l l') :
    ∀ y ∈ l', ∃ x ∈ l, R x y := by
  induction h with
  | nil => intro y hy; cases hy
  | cons hxy _ ih =>
    intro y hy
    rcases List.mem_cons.mp hy with rfl | hy
    · exact ⟨_, List.mem_cons_self, hxy⟩
    · obtain ⟨x, hx, hr⟩ := ih y hy
      exact ⟨x, List.mem_cons_of_mem _ hx, hr⟩

theorem Rel2.mem_left {α β} {R : α → β → Prop} {l : List α} {l' : List β} (h : Rel2 R l l') :
    ∀ x ∈ l, ∃ y ∈ l', R x y := by
  induction h with
  | nil => intro x hx; cases hx
  | cons hxy _ ih =>
    intro x hx
    rcases List.mem_cons.mp hx with rfl | hx
    · exact ⟨_, List.mem_cons_self, hxy⟩
    · obtain ⟨y, hy, hr⟩ := ih x hx
      exact ⟨y, List.mem_cons_of_mem _ hy, hr⟩

theorem Rel2.map_eq {α β γ} {R : α → β → Prop} {l : List α} {l' : List β} (ga : α → γ) (gb : β → γ)
    (hg : ∀ x y, R x y → gb y = ga x) (h : Rel2 R l l') : l'.map gb = l.map ga := by
  induction h with
  | nil => rfl
  | cons hxy _ ih => rw [List.map_cons, List.map_cons, hg _ _ hxy, ih]

theorem Rel2.map_right {α β γ} {R : α → β → Prop} {R' : α → γ → Prop} {l : List α} {l' : List β} (g : β → γ)
    (hg : ∀ x y, R x y → R' x (g y)) (h : Rel2 R l l') : Rel2 R' l (l'.map g) := by
  induction h with
  | nil => exact .nil
  | cons hxy _ ih => exact .cons (hg _ _ hxy) ih

theorem Rel2.of_map {α β} {R : α → β → Prop} (g : α → β) (hg : ∀ x, R x (g x)) (l : List α) : Rel2 R l (l.map g) := by
  induction l with
  | nil => exact .nil
  | cons x xs ih => exact .cons (hg x) ih

theorem Rel2.getElem {α β} {R : α → β → Prop} {l : List α} {l' : List β} (h : Rel2 R l l') :
    ∀ (i : Nat) (h2 : i < l'.length), ∃ h1 : i < l.length, R l[i] l'[i] := by
  induction h with
  | nil => intro i h2; exact absurd h2 (Nat.not_lt_zero _)
  | cons hab _ ih =>
    intro i h2
    cases i with
    | zero => exact ⟨Nat.zero_lt_succ _, hab⟩
    | succ j =>
      obtain ⟨h1, hr⟩ := ih j (Nat.lt_of_succ_lt_succ h2)
      exact ⟨Nat.succ_lt_succ h1, hr⟩

theorem Rel2.mem_flatten {α β} {R : α → List β → Prop} {l : List α} {pss : List (List β)}
    (h : Rel2 R l pss) (p : β) (hp : p ∈ pss.flatten) : ∃ a ∈ l, ∃ ps, R a ps ∧ p ∈ ps := by
  obtain ⟨ps, hps, hin⟩ := List.mem_flatten.mp hp
  obtain ⟨a, ha, hr⟩ := h.mem_right ps hps
  exact ⟨a, ha, ps, hr, hin⟩

theorem Rel2.flatten_map {α β γ} {R : α → List β → Prop} {l : List α} {pss : List (List β)}
    (h : Rel2 R l pss) (g : β → γ) (K : α → List γ) (hR : ∀ a ps, R a ps → ps.map g = K a) :
    pss.flatten.map g = l.flatMap K := by
  rw [List.map_flatten, h.map_eq K (List.map g) hR, List.flatMap_def]

end Wp.C12
