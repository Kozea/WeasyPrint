/-
`PM.makeAllPages` is the page loop `PageLoop.run` of `remake_page`.
-/
import WpModel.Model.Paginate
import WpModel.Lemmas.PageLoop

namespace Wp.PM
open Wp.PageLoop

/-- `make_all_pages`' state: `(index, resume_at, next_page, right_page)`. -/
abbrev PState := Nat × Option Resume × NextPage × Bool

/-- One turn of `make_all_pages`: `remake_page`, and the state it hands over unless the document is done. -/
def pageStep (d : Doc) : PState → Except Unit (Page × Option PState) :=
  stepOf (fun s => remakePage d s.1 s.2.1 s.2.2.1 s.2.2.2)
    (fun s p => p.resume.map fun r => (s.1 + 1, some r, p.nextPage, !s.2.2.2))

theorem makeAllPages_eq_run (d : Doc) (fuel index : Nat) (resume : Option Resume) (np : NextPage) (right : Bool) :
    makeAllPages d fuel index resume np right = (run (pageStep d) fuel (index, resume, np, right)).pages? :=
  eq_run_pages (f := fun n s => makeAllPages d n s.1 s.2.1 s.2.2.1 s.2.2.2) (fun _ => rfl) (fun n s => by
    show makeAllPages d (n + 1) s.1 s.2.1 s.2.2.1 s.2.2.2 = _
    rw [makeAllPages]
    cases remakePage d s.1 s.2.1 s.2.2.1 s.2.2.2 with
    | none => rfl
    | some p =>
      dsimp only
      cases hr : p.resume with
      | none => rfl
      | some r => simp only [Option.map_some]; cases makeAllPages d n (s.1 + 1) (some r) p.nextPage !s.2.2.2 <;> rfl)
    fuel (index, resume, np, right)

theorem makeAllPages_eq_some {d : Doc} {fuel index : Nat} {resume : Option Resume} {np : NextPage} {right : Bool}
    {pages : List Page} :
    makeAllPages d fuel index resume np right = some pages ↔
      run (pageStep d) fuel (index, resume, np, right) = .ok pages := by
  rw [makeAllPages_eq_run, Out.pages?_eq_some]

end Wp.PM
