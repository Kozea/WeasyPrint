/-
C13 — lemmas for `Model/PngChunks.lean` (the IDAT extraction of `RasterImage._get_png_data`).
-/
import WpModel.Model.PngChunks
import Mathlib.Tactic.Linarith


namespace Wp.C13
open Wp Wp.PngChunks

/-- `struct.unpack('!I', …)` reads back what the encoder wrote, for every length a chunk can have. -/
theorem be32_lenBytes (n : Nat) (h : n < 4294967296) :
    be32 (n / 16777216 % 256) (n / 65536 % 256) (n / 256 % 256) (n % 256) = n := by
  unfold be32; omega

/-- A well-formed chunk: four type bytes, four CRC bytes, a length that fits the length field. -/
def Chunk.WF (c : Chunk) : Prop := c.type.length = 4 ∧ c.crc.length = 4 ∧ c.data.length < 4294967296

theorem encodeAll_length (chunks : List Chunk) : chunks.length ≤ (encodeAll chunks).length := by
  induction chunks with
  | nil => simp [encodeAll]
  | cons c rest ih => simp [encodeAll, Chunk.encode, lenBytes]; omega

/-- One iteration of the loop consumes exactly one well-formed chunk and keeps its data iff it is an IDAT. -/
theorem loop_step (fuel : Nat) (c : Chunk) (hc : Chunk.WF c) (tail acc : List Nat) :
    loop (fuel + 1) (c.encode ++ tail) acc =
      loop fuel tail (acc ++ (if c.type == idat then c.data else [])) := by
  obtain ⟨ht, hcrc, hlen⟩ := hc
  have e1 : (c.type ++ (c.data ++ (c.crc ++ tail))).take 4 = c.type := by
    rw [List.take_append_of_le_length (by omega)]; exact List.take_of_length_le (by omega)
  have e2 : (c.type ++ (c.data ++ (c.crc ++ tail))).drop 4 = c.data ++ (c.crc ++ tail) := by
    rw [← ht]; exact List.drop_left
  have e3 : (c.data ++ (c.crc ++ tail)).take c.data.length = c.data := List.take_left
  have e4 : (c.data ++ (c.crc ++ tail)).drop c.data.length = c.crc ++ tail := List.drop_left
  have e5 : (c.crc ++ tail).drop 4 = tail := by rw [← hcrc]; exact List.drop_left
  simp only [Chunk.encode, lenBytes, List.append_assoc, List.cons_append, List.nil_append, loop,
    be32_lenBytes _ hlen, e1, e2, e3, e4, e5]
  cases c.type == idat <;> simp

theorem loop_chunks : ∀ (chunks : List Chunk) (fuel : Nat) (acc : List Nat),
    (∀ c ∈ chunks, Chunk.WF c) → chunks.length ≤ fuel →
    loop fuel (encodeAll chunks) acc = .ok (acc ++ idatPayload chunks)
  | [], fuel, acc, _, _ => by cases fuel <;> simp [encodeAll, loop, idatPayload]
  | c :: rest, 0, acc, _, hf => by simp at hf
  | c :: rest, fuel + 1, acc, hwf, hf => by
    simp only [encodeAll, idatPayload]
    rw [loop_step fuel c (hwf c (by simp)) (encodeAll rest) acc,
      loop_chunks rest fuel _ (fun c' hc' => hwf c' (by simp [hc'])) (by simpa using hf)]
    simp [List.append_assoc]

end Wp.C13
