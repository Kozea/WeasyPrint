/-
The cache simulation of Lemmas/PdfCache extended to the raw setters that bypass the caches (`set_color_space`,
`set_color_special`, a bare `set_state` with `ca` / `CA`), under the discipline the drawing code follows: after such a
call no cache-reading setter (`set_color`, `set_alpha`) is called before the next `pop_state` (which clears the caches
and restores the graphics state).  Core Lean only.
-/
import WpModel.Lemmas.PdfCache
namespace Wp.Pdf

/-- The stream with the four colour / alpha caches emptied (`_current_font`, `_old_font` are kept). -/
def SState.forget (s : SState) : SState := { s with colF := none, colS := none, alphaF := none, alphaS := none }

theorem Sim.forget {cols : List Colour} {r : Res} {sc sn : SState} (h : Sim cols r sc sn) :
    Sim cols r sc.forget sn :=
  ⟨h.g, h.p, h.ctm, h.mark, h.marked, (fun _ hk => by cases hk), (fun _ hk => by cases hk),
    (fun _ hk => by cases hk), (fun _ hk => by cases hk), h.font, h.old⟩

theorem forget_forget (s : SState) : s.forget.forget = s.forget := rfl

theorem forget_emit (s : SState) (o : Op) : (s.emit o).forget = s.forget.emit o := rfl

theorem forget_emitAll (s : SState) (os : List Op) : (s.emitAll os).forget = s.forget.emitAll os := by
  rw [emitAll_eq, emitAll_eq]; rfl

theorem forget_clearCaches (s : SState) : (clearCaches s).forget = clearCaches s.forget := rfl

theorem popOps_forget (s : SState) : (popOps s).forget = popOps s.forget := by
  unfold popOps
  show (match s.rops with | .q :: rest => { s with rops := rest } | _ => s.emit .Q).forget =
    (match s.rops with | .q :: rest => { s.forget with rops := rest } | _ => s.forget.emit .Q)
  split <;> rfl

theorem clearCaches_forget_eq (s : SState) : clearCaches s.forget = clearCaches s := rfl

/-- `pop_state` does not look at the colour / alpha caches and empties them. -/
theorem popState_forget (s : SState) : popState s.forget = popState s := by
  have h : clearCaches (popOps s.forget) = clearCaches (popOps s) := by
    rw [← popOps_forget, clearCaches_forget_eq]
  unfold popState
  rw [h]

/-- A call that does not read the colour / alpha caches does the same, up to those caches, on the stream with the
caches emptied. -/
theorem stepS_forget_eq (r : Res) (s : SState) (c : Call) (hr : c.reader = false) :
    (stepS r s.forget c).map (fun p => (p.1.forget, p.2)) = (stepS r s c).map (fun p => (p.1.forget, p.2)) := by
  cases c with
  | setColor col st => cases hr
  | setAlpha α st fl => cases hr
  | pop => simp only [stepS, popState_forget]
  | push | transform => simp only [stepS, SState.forget]; cases s.ctm <;> rfl
  | beginText => simp only [stepS, beginText, SState.forget]; split <;> rfl
  | setFont f sz =>
    simp only [stepS, SState.forget]
    by_cases hb : (s.font == some (f, sz.val)) = true <;> simp only [hb, if_true] <;> rfl
  | beginMarked et mcid tag =>
    simp only [stepS, beginMarked, SState.forget]
    by_cases hm : (!s.mark) = true <;> simp only [hm, if_true]
    · rfl
    · cases mcid <;> rfl
  | endMarked =>
    simp only [stepS, SState.forget]
    by_cases hm : (!s.mark) = true <;> simp only [hm, if_true] <;> rfl
  -- the other calls append one operator, whatever the caches hold
  | _ => rfl

theorem stepS_forget (r : Res) (s : SState) (c : Call) (hr : c.reader = false) (s' : SState) (r' : Res)
    (h : stepS r s c = .ok (s', r')) : ∃ s'', stepS r s.forget c = .ok (s'', r') ∧ s''.forget = s'.forget := by
  have e := stepS_forget_eq r s c hr
  rw [h] at e
  cases hf : stepS r s.forget c with
  | error x => rw [hf] at e; cases e
  | ok p =>
    rw [hf] at e
    obtain ⟨h1, h2⟩ := Prod.mk.inj (Except.ok.inj e)
    subst h2; exact ⟨p.1, rfl, h1⟩

theorem applyG_font (d : ExtG) (g : GS) : (applyG d g).font = g.font := by
  unfold applyG; cases d.ca <;> cases d.CA <;> rfl

/-- Both emissions append the same operator; the caches of the cached side are empty, so they claim nothing. -/
theorem Sim.emit_any_forgotten {cols : List Colour} {r r' : Res} {sc sn : SState} (h : Sim cols r sc.forget sn)
    (o : Op) (hq : o ≠ .q) (hE : o ≠ .ET) (hkeep : ∀ st : GStk, (applyOp o st).1.font = st.1.font) :
    Sim cols r' (sc.forget.emit o) (sn.emit o) := by
  refine ⟨?_, ?_, h.ctm, h.mark, h.marked, (fun _ hk => by cases hk), (fun _ hk => by cases hk),
    (fun _ hk => by cases hk), (fun _ hk => by cases hk), ?_, ?_⟩
  · simp only [SState.emit, G_cons, h.g]
  · simp only [SState.emit, paints_cons, h.g, h.p]
  · intro f hf
    have := h.font f hf
    have hcur : (curG (o :: sc.forget.rops)).font = (curG sc.forget.rops).font := by
      simp only [curG, G_cons]; exact hkeep _
    simpa [SState.emit, hcur] using this
  · exact old_vacuous o _ _ hq hE

/-- A raw setter (`set_color_space`, `set_color_special`, bare `set_state`) from a state whose caches are empty. -/
theorem step_dirty_sim (cols : List Colour) {r : Res} {sc sn : SState} (h : Sim cols r sc.forget sn) (c : Call)
    (hd : c.dirtying = true) (sc' : SState) (r' : Res) (hstep : stepS r sc c = .ok (sc', r')) :
    ∃ sn', stepNaive r sn c = .ok (sn', r') ∧ Sim cols r' sc'.forget sn' := by
  cases c with
  | setState d =>
    cases hstep
    exact ⟨_, rfl, h.emit_any_forgotten _ nofun nofun (fun st => applyG_font d st.1)⟩
  | setColorSpace sp st =>
    cases hstep
    exact ⟨_, rfl, h.emit_any_forgotten _ nofun nofun (fun _ => by cases st <;> rfl)⟩
  | setColorSpecial p st os =>
    cases hstep
    exact ⟨_, rfl, h.emit_any_forgotten _ nofun nofun (fun _ => by cases st <;> rfl)⟩
  | _ => cases hd

/-- The invariant of the scoped run: clean → full simulation; dirty → simulation of the stream with emptied caches. -/
def SimD (cols : List Colour) (r : Res) (dirty : Bool) (sc sn : SState) : Prop :=
  if dirty then Sim cols r sc.forget sn else Sim cols r sc sn

theorem SimD.weak {cols : List Colour} {r : Res} {dirty : Bool} {sc sn : SState} (h : SimD cols r dirty sc sn) :
    Sim cols r sc.forget sn := by
  unfold SimD at h
  split at h
  · exact h
  · exact h.forget

theorem run_sim_scoped (cols : List Colour) (hcons : Consistent cols) (calls : List Call) (dirty : Bool)
    (hok : scopedOK dirty calls = true) (hcols : ∀ col st, Call.setColor col st ∈ calls → col ∈ cols)
    {r : Res} {sc sn : SState} (h : SimD cols r dirty sc sn) (sc' : SState) (r' : Res)
    (hrun : runS r sc calls = .ok (sc', r')) :
    ∃ sn', runNaive r sn calls = .ok (sn', r') ∧ Sim cols r' sc'.forget sn' := by
  induction calls generalizing r sc sn dirty with
  | nil =>
    simp [runS] at hrun
    obtain ⟨rfl, rfl⟩ := hrun
    exact ⟨sn, rfl, h.weak⟩
  | cons c cs ih =>
    simp only [runS] at hrun
    split at hrun
    · rename_i sm rm hstep
      simp only [scopedOK] at hok
      -- one call: the flag moves as `scopedOK` moves it, and the invariant follows
      obtain ⟨d, snm, hn, hsim, hok⟩ : ∃ d snm, stepNaive r sn c = .ok (snm, rm) ∧ SimD cols rm d sm snm ∧
          scopedOK d cs = true := by
        by_cases hd : c.dirtying = true
        · -- a raw setter: the stream is dirty from here on
          rw [if_pos hd] at hok
          obtain ⟨snm, hn, hsim⟩ := step_dirty_sim cols h.weak c hd sm rm hstep
          exact ⟨true, snm, hn, hsim, hok⟩
        · rw [if_neg hd] at hok
          have hsafe : c.cacheSafe = true := by simpa [Call.dirtying] using hd
          cases dirty with
          | false =>
            obtain ⟨snm, hn, hsim⟩ := step_sim cols hcons (show Sim cols r sc sn from h) c hsafe
              (fun col st e => hcols col st (e ▸ List.mem_cons_self)) sm rm hstep
            exact ⟨false, snm, hn, hsim, hok⟩
          | true =>
            simp only [if_true] at hok
            have hw : Sim cols r sc.forget sn := h
            by_cases hpop : c = .pop
            · subst hpop
              -- `pop_state` ignores and clears the caches: full simulation again
              have hstep' : stepS r sc.forget .pop = .ok (sm, rm) := by
                simp only [stepS] at hstep ⊢
                rw [popState_forget]; exact hstep
              obtain ⟨snm, hn, hsim⟩ := step_sim cols hcons hw .pop rfl (fun _ _ e => by cases e) sm rm hstep'
              exact ⟨false, snm, hn, hsim, hok⟩
            · have hok' : c.reader = false ∧ scopedOK true cs = true := by
                rw [← Bool.not_eq_true', ← Bool.and_eq_true]
                cases c <;> first | exact absurd rfl hpop | exact hok
              obtain ⟨sm', hstep', hfg⟩ := stepS_forget r sc c hok'.1 sm rm hstep
              obtain ⟨snm, hn, hsim⟩ := step_sim cols hcons hw c hsafe
                (fun col st e => by subst e; simp [Call.reader] at hok') sm' rm hstep'
              exact ⟨true, snm, hn, show Sim cols rm sm.forget snm from hfg ▸ hsim.forget, hok'.2⟩
      obtain ⟨sn', hn', hsim'⟩ := ih d hok (fun col st hx => hcols col st (List.mem_cons_of_mem _ hx)) hsim hrun
      exact ⟨sn', by simp [runNaive, hn, hn'], hsim'⟩
    · simp at hrun

end Wp.Pdf
