/-
The trace checkers (`Model/Trace`, `Model/BreakTrace`, `Model/TableNames`) report the positions of the elements
they reject, `(xs.zipIdx.filter p).map Prod.snd` with a `p` that looks at the element only. What an empty report
means is the same for all of them.
-/

namespace Wp

/-- The report is empty iff every element is accepted (`hp`: what `p` rejects is what `ok` does not accept). -/
theorem rejected_nil_iff {α : Type} (p : α × Nat → Bool) (ok : α → Bool) (hp : ∀ x i, p (x, i) = !ok x)
    (xs : List α) : (xs.zipIdx.filter p).map Prod.snd = [] ↔ ∀ x ∈ xs, ok x = true := by
  rw [List.map_eq_nil_iff, List.filter_eq_nil_iff]
  constructor
  · intro h x hx
    obtain ⟨i, hlt, hget⟩ := List.mem_iff_getElem.mp hx
    have hm : (x, i) ∈ xs.zipIdx := List.mem_zipIdx_iff_getElem?.mpr (by simp [hget, hlt])
    have := h _ hm
    rw [hp x i] at this
    simpa using this
  · intro h x hx
    rw [hp x.1 x.2, h x.1 (List.fst_mem_of_mem_zipIdx hx)]
    exact Bool.false_ne_true

end Wp
