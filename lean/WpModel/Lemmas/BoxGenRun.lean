/-
`element_to_box` (Model/BoxGen.lean) in parts: the childless box it makes first (`elBox`), the marker step
it shares with `before_after_to_box` (`elMarkers`), its last step (`elFinish`), and what a successful
call consists of (`elementToBox_cases`).  Imports only the model.
-/
import WpModel.Model.BoxGen

namespace Wp.Bx
open KBox

/-- The childless box `element_to_box` / `before_after_to_box` make first (`make_box`). -/
def elBox (es : EStyle) (disp : List String) (k : BoxKind) (attrs : El) : KBox :=
  .mk k (mkStyle es disp) attrs (initInst k attrs) [] [] []

/-- `if 'list-item' in display: marker_to_box(…)`, as both `element_to_box` and `before_after_to_box` run it. -/
def elMarkers (disp : List String) (marker : Option MarkerSpec) (attrs : El) (outside : Bool) (depth : Nat) :
    Except BErr (List KBox × Nat) :=
  if disp.contains "list-item" then
    match marker with
    | some m => markerToBox m attrs outside depth
    | none => .error .keyError
  else .ok ([], depth)

/-- The end of `element_to_box`: children set, `process_whitespace`, `process_text_transform`, and the
zero-width space of a list item that holds only its outside marker. -/
def elFinish (outside : Bool) (ms : List KBox) (box : KBox) (kids : List KBox) : KBox :=
  let b := ptt (pw (box.withKids kids) false).1
  if !ms.isEmpty && b.kids.length == 1 && outside then b.withKids (b.kids ++ [textBoxFrom b Gen.markerFiller]) else b

/-- Everything a successful call of `element_to_box` did; `disp` is the computed display. -/
theorem elementToBox_cases {root : Bool} {es : EStyle} {attrs : El} {marker : Option MarkerSpec}
    {before after : Option Pseudo} {text : Text} {kids : List Dom} {tail : Text} {depth : Nat}
    {out : List KBox} {depth' : Nat} {disp : List String} (hd : blockify es.display es.float es.position root = disp)
    (h : elementToBox root (.el es attrs marker before after text kids tail) depth = .ok (out, depth')) :
    (disp = ["none"] ∧ out = [] ∧ depth' = depth) ∨
    (disp ≠ ["none"] ∧ ∃ k ms d1 bs d2 accRev d3 as,
      boxTypeFromDisplay disp = some k ∧
      elMarkers disp marker attrs es.listOutside depth = .ok (ms, d1) ∧
      beforeAfterToBox before marker attrs d1 = .ok (bs, d2) ∧
      elementKids (elBox es disp k attrs) kids
        (if text.isEmpty then bs.reverse ++ ms.reverse
         else textBoxFrom (elBox es disp k attrs) text :: (bs.reverse ++ ms.reverse)) d2 = .ok (accRev, d3) ∧
      beforeAfterToBox after marker attrs d3 = .ok (as, depth') ∧
      out = [elFinish es.listOutside ms (elBox es disp k attrs) (accRev.reverse ++ as)]) := by
  unfold elementToBox at h
  simp only [hd] at h
  by_cases hn : (disp == ["none"]) = true
  · rw [if_pos hn] at h
    cases h
    exact Or.inl ⟨by simpa using hn, rfl, rfl⟩
  · rw [if_neg hn] at h
    refine Or.inr ⟨by simpa using hn, ?_⟩
    cases hk : boxTypeFromDisplay disp with
    | none => rw [hk] at h; cases h
    | some k =>
      rw [hk] at h
      simp only at h
      split at h
      · cases h
      · rename_i ms d1 hm
        split at h
        · cases h
        · rename_i bs d2 hb
          split at h
          · cases h
          · rename_i accRev d3 hk3
            split at h
            · cases h
            · rename_i as d4 ha
              cases h
              exact ⟨k, ms, d1, bs, d2, accRev, d3, as, rfl, hm, hb, hk3, ha, rfl⟩

theorem beforeAfter_none (m : Option MarkerSpec) (attrs : El) (d : Nat) :
    beforeAfterToBox none m attrs d = .ok ([], d) := by
  unfold beforeAfterToBox; rfl

theorem elMarkers_some (disp : List String) (m : MarkerSpec) (attrs : El) (outside : Bool) (depth : Nat) :
    elMarkers disp (some m) attrs outside depth =
      if disp.contains "list-item" then markerToBox m attrs outside depth else .ok ([], depth) := rfl

/-- An element without markers, `::before` and `::after`: its box is the finished `elBox` around what
`elementKids` collected, starting from the element's own text. -/
theorem elementToBox_plain {root : Bool} {es : EStyle} {attrs : El} {marker : Option MarkerSpec}
    {text : Text} {kids : List Dom} {tail : Text} {depth : Nat} {out : List KBox} {depth' : Nat} {disp : List String}
    (hd : blockify es.display es.float es.position root = disp) (hli : disp.contains "list-item" = false)
    (h : elementToBox root (.el es attrs marker none none text kids tail) depth = .ok (out, depth')) :
    (disp = ["none"] ∧ out = [] ∧ depth' = depth) ∨
    ∃ k accRev, boxTypeFromDisplay disp = some k ∧
      elementKids (elBox es disp k attrs) kids
        (if text.isEmpty then [] else [textBoxFrom (elBox es disp k attrs) text]) depth = .ok (accRev, depth') ∧
      out = [ptt (pw ((elBox es disp k attrs).withKids accRev.reverse) false).1] := by
  rcases elementToBox_cases hd h with h0 | ⟨_, k, ms, d1, bs, d2, accRev, d3, as, hk, hm, hb, hk3, ha, rfl⟩
  · exact Or.inl h0
  · unfold elMarkers at hm
    rw [if_neg (by rw [hli]; exact Bool.false_ne_true)] at hm
    rw [beforeAfter_none] at hb ha
    cases hm; cases hb; cases ha
    exact Or.inr ⟨k, accRev, hk, hk3, by simp [elFinish]⟩

end Wp.Bx
