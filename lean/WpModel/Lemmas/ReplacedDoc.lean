/-
C13 — lemmas for the document-level composition `Model/ReplacedDoc.lean` (computed style of an `<img>` →
`resolve_percentages` → `inline_replaced_box_layout`).
-/
import WpModel.Lemmas.Replaced
import WpModel.Model.ReplacedDoc


namespace Wp.C13
open Wp Wp.Replaced

/-- The horizontal fields resolve against the width of the containing block, whatever its height. -/
theorem resolvePercentages_horizontal (c : CssBox) (cbw : Rat) (cbh : Len) (px : Rat) :
    (resolvePercentages c cbw cbh px).width = c.width.map (fun d => percentage d cbw) ∧
    (resolvePercentages c cbw cbh px).minWidth = (match c.minWidth with | some d => percentage d cbw | none => 0) ∧
    (resolvePercentages c cbw cbh px).maxWidth = c.maxWidth.map (fun d => percentage d cbw) ∧
    (resolvePercentages c cbw cbh px).marginLeft = c.marginLeft.map (fun d => percentage d cbw) ∧
    (resolvePercentages c cbw cbh px).marginRight = c.marginRight.map (fun d => percentage d cbw) := by
  cases cbh <;> exact ⟨rfl, rfl, rfl, rfl, rfl⟩

/-- Every sizing property at its initial value: `resolve_percentages` leaves both sizes `auto`, the minima 0
and the maxima infinite, whatever the containing block. -/
theorem resolve_auto (c : CssBox) (cbw : Rat) (cbh : Len) (px : Rat)
    (hw : c.width = none) (hh : c.height = none) (hminw : c.minWidth = none) (hminh : c.minHeight = none)
    (hmaxw : c.maxWidth = none) (hmaxh : c.maxHeight = none) :
    (resolvePercentages c cbw cbh px).width = none ∧ (resolvePercentages c cbw cbh px).height = none ∧
    (resolvePercentages c cbw cbh px).minWidth = 0 ∧ (resolvePercentages c cbw cbh px).minHeight = 0 ∧
    (resolvePercentages c cbw cbh px).maxWidth = none ∧ (resolvePercentages c cbw cbh px).maxHeight = none := by
  cases cbh <;> simp [resolvePercentages, hw, hh, hminw, hminh, hmaxw, hmaxh]

theorem replacedBoxHeight_keeps_width (i : Intr) (b b' : RBox) (h : replacedBoxHeight i b = .ok b') :
    b'.width = b.width :=
  -- each run is `rbhCore`, which only sets the height; a reset keeps the width
  Axis.decorate_induct (ax := .vertical) (·.width = b.width)
    (fun b1 h1 => by obtain ⟨_, rfl, _⟩ := rbhCore_ok i b b1 h1; rfl)
    (fun b1 v b2 p h2 => by obtain ⟨_, rfl, _⟩ := rbhCore_ok i _ b2 h2; exact p)
    ((withMinMaxHeight_eq _ b).symm.trans h)

/-- `inline_replaced_box_width_height` with a specified size: the used width is clamped. -/
theorem irwh_bounds (i : Intr) (cb : Cb) (b0 b' : RBox) (h : inlineReplacedWH false i cb b0 = .ok b') :
    ∃ w, b'.width = some w ∧ b0.minWidth ≤ w ∧ (w = b0.minWidth ∨ ∀ m, b0.maxWidth = some m → w ≤ m) := by
  simp only [inlineReplacedWH, Bool.false_eq_true, if_false] at h
  obtain ⟨b1, h1, h⟩ := Except.bind_eq_ok h
  obtain ⟨_, _, _, w, _, _, hw⟩ := withMinMaxWidth_clamp _ (rbw_widthFn i cb) b0 b1 h1
  exact ⟨_, by rw [replacedBoxHeight_keeps_width i b1 b' h, hw], clamp_bounds w _ _⟩

theorem irl_bounds (i : Intr) (cb : Cb) (b b' : RBox) (h : inlineReplacedBoxLayout false i cb b = .ok b') :
    ∃ w, b'.width = some w ∧ b.minWidth ≤ w ∧ (w = b.minWidth ∨ ∀ m, b.maxWidth = some m → w ≤ m) :=
  irwh_bounds i cb { b with
    marginTop := some (b.marginTop.getD 0), marginRight := some (b.marginRight.getD 0),
    marginBottom := some (b.marginBottom.getD 0), marginLeft := some (b.marginLeft.getD 0) } b' h

theorem avoidCollisionsNoFloats_ok (b : RBox) (cx : Rat) (cb : Cb) (py w ml mr mt : Rat)
    (hw : b.width = some w) (hml : b.marginLeft = some ml) (hmr : b.marginRight = some mr)
    (hmt : b.marginTop = some mt) :
    avoidCollisionsNoFloats b cx cb py =
      .ok ((if cb.rtl then cx + cb.width - mr - (w + b.paddingLeft + b.paddingRight + b.borderLeft + b.borderRight)
            else cx + ml) - ml, py + mt - mt) := by
  simp only [avoidCollisionsNoFloats, hw, hml, hmr, hmt, num, bind, Except.bind, pure, Except.pure]

end Wp.C13
