/-
C13 — lemmas for `Model/ImageId.lean` (which requests of one image cache share a `RasterImage.id`).
-/
import WpModel.Model.ImageId

namespace Wp.C13
open Wp Wp.ImageId

theorem firstSame_spec (reqs : List Key) (k : Key) (hk : k ∈ reqs) :
    ∃ h : firstSame reqs k < reqs.length, reqs[firstSame reqs k] = k := by
  have hex : ∃ x ∈ reqs, (fun k' => k' == k) x = true := ⟨k, hk, by simp⟩
  have hlt : firstSame reqs k < reqs.length := List.findIdx_lt_length_of_exists hex
  refine ⟨hlt, ?_⟩
  have h2 := List.findIdx_getElem (p := fun k' => k' == k) (xs := reqs) (w := hlt)
  exact eq_of_beq h2

end Wp.C13
