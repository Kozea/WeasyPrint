/-
From the cut lemma to pages: some page of the pagination hands over exactly the resume position "start of `b`"
with the resolved break value; position of the lines of `a` and `b` in the document.
-/
import WpModel.Lemmas.Pm2Cut
import WpModel.Lemmas.SegmentPages
import WpModel.Props.C04

namespace Wp.PM
open Wp

/-- A non-blank page started before the boundary ends before it or exactly at it. -/
theorem remakePage_cut (d : Doc) (hg : Good d.root) (π : List Nat) (j : Nat) (a b : PBox)
    (hs : SibAt d.root π j a b) (hm : meets a b = true) (index : Nat) (resume : Option Resume) (np : NextPage)
    (right : Bool) (p : Page) (hp : remakePage d index resume np right = some p) (hb : p.type.blank = false)
    (hv : Valid d.root resume) (hbef : Before resume π j) :
    ∃ r, p.resume = some r ∧ Valid d.root (some r) ∧
      (Before (some r) π j ∨ (r = resAt π j ∧ p.nextPage = cutPage a b)) := by
  obtain ⟨c, hf, hr, hn⟩ := (remakePage_spec d index resume np right p hp).2.2 hb
  obtain ⟨r, hres, hcase⟩ := box_cut d.root hg c 0 0 0 resume false true [] π j a b hv hs hm hbef p.root hf
  refine ⟨r, by rw [hr, hres], ?_, ?_⟩
  · exact (box_ev d.root hg c 0 0 0 resume false true [] hv p.root hf).2 r hres
  · rw [hn]; exact hcase

/-- **Some page ends exactly at the boundary.** -/
theorem pages_reach (d : Doc) (hg : Good d.root) (π : List Nat) (j : Nat) (a b : PBox)
    (hs : SibAt d.root π j a b) (hm : meets a b = true) :
    ∀ (fuel index : Nat) (resume : Option Resume) (np : NextPage) (right : Bool) (pages : List Page),
    Valid d.root resume → Before resume π j →
    (resume = none → isBlank (requestedSide d.rootLtr np.brk) right = false) →
    makeAllPages d fuel index resume np right = some pages →
    ∃ P1 p P2 fuel', pages = P1 ++ p :: P2 ∧ p.type.blank = false ∧
      p.resume = some (resAt π j) ∧ p.nextPage = cutPage a b ∧
      makeAllPages d fuel' (p.type.index + 1) p.resume p.nextPage (!p.type.right) = some P2 := by
  intro fuel
  induction fuel with
  | zero => intro index resume np right pages _ _ _ h; simp [makeAllPages] at h
  | succ fuel ih =>
    intro index resume np right pages hv hbef hstart h
    obtain ⟨p, hp, hrest⟩ := makeAllPages_some h
    obtain ⟨hright, hindex, hbl, _, hkeep⟩ := C04.remakePage_type hp
    cases hb : p.type.blank with
    | true =>
      obtain ⟨hr, hn⟩ := hkeep hb
      have hrs : resume ≠ none := by
        intro he
        have := hstart he
        rw [← hbl, hb] at this
        cases this
      rcases hrest with ⟨hnone, _⟩ | ⟨r, ps, _, hps, rfl⟩
      · rw [hr] at hnone; exact absurd hnone hrs
      · rw [hr] at hps
        obtain ⟨P1, q, P2, fuel', rfl, h1, h2, h3, h4⟩ :=
          ih (index + 1) resume p.nextPage (!right) ps hv hbef (fun he => absurd he hrs) hps
        exact ⟨p :: P1, q, P2, fuel', rfl, h1, h2, h3, h4⟩
    | false =>
      obtain ⟨r, hr, hvr, hcase⟩ := remakePage_cut d hg π j a b hs hm index resume np right p hp hb hv hbef
      rcases hrest with ⟨hnone, _⟩ | ⟨r', ps, _, hps, rfl⟩
      · rw [hr] at hnone; cases hnone
      · rcases hcase with hbef' | ⟨hexact, hnp⟩
        · rw [hr] at hps
          obtain ⟨P1, q, P2, fuel', rfl, h1, h2, h3, h4⟩ :=
            ih (index + 1) (some r) p.nextPage (!right) ps hvr hbef' (fun he => by cases he) hps
          exact ⟨p :: P1, q, P2, fuel', rfl, h1, h2, h3, h4⟩
        · refine ⟨[], p, ps, fuel, rfl, hb, by rw [hr, hexact], hnp, ?_⟩
          rw [hindex, hright]; exact hps

theorem linesFromKids_at {kids : List PBox} {m : Nat} {x : PBox} (sub : Option Resume) (h : kids[m]? = some x) :
    linesFromKids kids m sub = linesFrom x sub ++ linesFromKids kids (m + 1) none := by
  rw [linesFromKids_eq, linesFromKids_eq]
  exact Seg.fromAt_get _ _ h sub

theorem linesFromKids_prefix (kids : List PBox) (m : Nat) :
    ∃ pre, linesFromKids kids 0 none = pre ++ linesFromKids kids m none := by
  refine ⟨linesFromKids (kids.take m) 0 none, ?_⟩
  have h := linesFromKids_append_zero (kids.take m) (kids.drop m) none
  rwa [List.take_append_drop, ite_self, ← linesFromKids_eq_drop] at h

/-- The lines of the document: something, then the lines of `a`, then what the resume position "start of `b`"
designates, which begins with the lines of `b`. -/
theorem linesFrom_split (π : List Nat) (box : PBox) (j : Nat) (a b : PBox) (hs : SibAt box π j a b) :
    ∃ pre post, linesFrom box none = pre ++ linesFrom a none ++ linesFrom box (some (resAt π j)) ∧
      linesFrom box (some (resAt π j)) = linesFrom b none ++ post := by
  fun_induction SibAt box π j a b with
  | case1 id st kids j a b =>
    obtain ⟨pre, hpre⟩ := linesFromKids_prefix kids j
    refine ⟨pre, linesFromKids kids (j + 1 + 1) none, ?_, ?_⟩
    · simp only [linesFrom, skipIdxOf_none, subSkipOf_none, resAt, skipIdxOf_node, subSkipOf_node]
      rw [hpre, linesFromKids_at none hs.1, List.append_assoc]
    · simp only [linesFrom, resAt, skipIdxOf_node, subSkipOf_node]
      exact linesFromKids_at none hs.2
  | case2 id st kids i π j a b ih =>
    obtain ⟨k, hk, hsk⟩ := hs
    obtain ⟨pre', post', h1, h2⟩ := ih k hsk
    obtain ⟨pre, hpre⟩ := linesFromKids_prefix kids i
    refine ⟨pre ++ pre', post' ++ linesFromKids kids (i + 1) none, ?_, ?_⟩
    · simp only [linesFrom, skipIdxOf_none, subSkipOf_none, resAt, skipIdxOf_node, subSkipOf_node]
      rw [hpre, linesFromKids_at none hk, linesFromKids_at _ hk, h1]
      simp only [List.append_assoc]
    · simp only [linesFrom, resAt, skipIdxOf_node, subSkipOf_node]
      rw [linesFromKids_at _ hk, h2, List.append_assoc]
  | case3 => exact hs.elim

theorem pagesLines_append (A B : List Page) : pagesLines (A ++ B) = pagesLines A ++ pagesLines B := by
  simp only [pagesLines_eq, List.map_append, List.flatten_append]

end Wp.PM
