/-
The line loop of stage 1 (`lineLoop`, `lineboxLayout`): instances of the facts of `Lemmas/LineLoop.lean`.
-/
import WpModel.Lemmas.LineLoop

namespace Wp.PM
open Wp

theorem lineboxLayout_lines (c : Ctx) (st : PStyle) (b : BoxSt) (n : Nat) (lineH : Rat) (pie : Bool)
    (adj : List Rat) (bs posY : Rat) (skip : Option Resume) (dbd : Bool) :
    (lineboxLayout c st b n lineH pie adj bs posY skip dbd).lines =
      outLines (lineboxLoop c st b n lineH pie adj bs posY skip dbd) := by
  unfold lineboxLayout
  split <;> rename_i heq <;> rw [heq] <;> rfl

/-- The lines `_linebox_layout` keeps are numbered consecutively from the resume position, and are not more than the
paragraph has left. -/
theorem lineboxLayout_run (c : Ctx) (st : PStyle) (b : BoxSt) (n : Nat) (lineH : Rat) (pie : Bool)
    (adj : List Rat) (bs posY : Rat) (skip : Option Resume) (dbd : Bool) :
    ∃ m, m ≤ n - skipLine skip ∧
      (lineboxLayout c st b n lineH pie adj bs posY skip dbd).lines.map Prod.fst = List.range' (skipLine skip) m := by
  rw [lineboxLayout_lines, lineboxLoop, lineLoop_eq_G]
  obtain ⟨m, hm, hl⟩ := lineLoopG_contiguous _ _ st b n lineH pie (skipLine skip) (n - skipLine skip) (skipLine skip)
    (lineStart adj posY) { lines := [], posY := lineStart adj posY, skip := skip, mt := b.mt, dbd := dbd }
    (runFrom_start _)
  exact ⟨m, by omega, hl⟩

theorem lineLoop_done (c : Ctx) (st : PStyle) (b : BoxSt) (n : Nat) (lineH : Rat) (pie : Bool) (bs : Rat)
    (k : Nat) (fuel i : Nat) (y : Rat) (s s' : LineLoop)
    (h0 : RunFrom k i s.lines)
    (h : lineLoop c st b n lineH pie bs fuel i y s = .done s') :
    s'.lines.map Prod.fst = List.range' k ((i - k) + fuel) :=
  lineLoopG_done _ _ st b n lineH pie k fuel i y s s' h0 (lineLoop_eq_G .. ▸ h)

/-- `_break_line` on a page that is not empty: either the paragraph is aborted (pushed whole to the
next page) or at least `orphans` lines stay and at least `widows` lines go. The loop is entered at line `i`
with the lines `k … i − 1` kept. -/
theorem lineLoop_break_orphans_widows (c : Ctx) (st : PStyle) (b : BoxSt) (n : Nat) (lineH : Rat) (bs : Rat)
    (k : Nat) (fuel i : Nat) (y : Rat) (s s' : LineLoop) (stop : Bool) (r : Option Resume)
    (h0 : RunFrom k i s.lines) (hn : i + fuel = n) (hw : 1 ≤ st.widows)
    (h : lineLoop c st b n lineH false bs fuel i y s = .broke false stop r s') :
    s'.lines.length ≥ st.orphans ∧ n - (k + s'.lines.length) ≥ st.widows := by
  obtain ⟨i', lines, skip, h1, h2, ⟨_, hl⟩, _, hb⟩ :=
    lineLoopG_broke _ _ st b n lineH false k fuel i y s s' false stop r h0 (lineLoop_eq_G .. ▸ h)
  have hl : lines.length = i' - k := by simpa using congrArg List.length hl
  have hw' := le_add_widowsNeeded st n i' (by omega) hw
  rw [breakLine_eq] at hb
  split at hb
  · cases hb
  · rename_i hfit
    have hfit' : st.orphans + widowsNeeded st n i' ≤ lines.length := Nat.le_of_not_lt fun h => hfit ⟨rfl, h⟩
    simp only [Prod.mk.injEq] at hb
    rw [← hb.2.2.2]
    split
    · rw [List.length_take]; omega
    · omega

end Wp.PM
