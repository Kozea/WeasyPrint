/-
The children loop of `block_container_layout` (`layoutKids`) as statements about it see it.
A call of the loop is given by the children still to visit, the number `index` of the first of them and `skipIdx`,
the child the layout resumes at; children before `skipIdx` are passed over. `layoutKids_normal` turns every call
into one that passes over nothing, and `Placed` says what such a running loop has done so far. `PBox.induct` lets
a statement about the loop take the corresponding statement about each child's own layout as a hypothesis.
-/
import WpModel.Lemmas.SegmentDefs

namespace Wp.PM
open Wp

/-- The children before `skipIdx` are passed over. -/
theorem layoutKids_start (c : Ctx) (st : PStyle) (bs : Rat) (pie : Bool) (s : KidsLoop) :
    ∀ (k : Nat) (kids : List PBox) (index : Nat),
      layoutKids c st kids index (index + k) bs pie s = layoutKids c st (kids.drop k) (index + k) (index + k) bs pie s
  | 0, _, _ => rfl
  | k + 1, [], _ => by rw [List.drop_nil]; simp only [layoutKids]
  | k + 1, x :: xs, index => by
    rw [layoutKids, if_pos (Nat.lt_add_of_pos_right (Nat.succ_pos k)), List.drop_succ_cons]
    have h := layoutKids_start c st bs pie s k xs (index + 1)
    rwa [Nat.add_right_comm index 1 k] at h

/-- Once the loop has reached `skipIdx` that number is not looked at any more. -/
theorem layoutKids_running (c : Ctx) (st : PStyle) (bs : Rat) (pie : Bool) :
    ∀ (rest : List PBox) (index k k' : Nat) (s : KidsLoop), k ≤ index → k' ≤ index →
      layoutKids c st rest index k bs pie s = layoutKids c st rest index k' bs pie s
  | [], _, _, _, _, _, _ => by simp only [layoutKids]
  | child :: rest, index, k, k', s, h, h' => by
    have ih := fun s3 => layoutKids_running c st bs pie rest (index + 1) k k' s3
      (Nat.le_succ_of_le h) (Nat.le_succ_of_le h')
    rw [layoutKids, layoutKids, if_neg (Nat.not_lt.mpr h), if_neg (Nat.not_lt.mpr h')]
    simp only [ih]

/-- What statements about the loop assume of `index` and `skipIdx` (`B` the children placed so far, `i0` the first
of them): either the loop is still passing over children and will start at `i0 = skipIdx`, or it has placed `B`
from `i0` on. Then it is the loop that runs on `rest.drop (skipIdx - index)` from child `i0 + B.length`. -/
theorem layoutKids_normal (c : Ctx) (st : PStyle) (bs : Rat) (pie : Bool) (rest B : List PBox)
    (index skipIdx i0 : Nat) (s : KidsLoop)
    (hlt : index < skipIdx → B = [] ∧ i0 = skipIdx) (hge : skipIdx ≤ index → index = i0 + B.length) :
    layoutKids c st rest index skipIdx bs pie s =
      layoutKids c st (rest.drop (skipIdx - index)) (i0 + B.length) i0 bs pie s := by
  by_cases hc : index < skipIdx
  · obtain ⟨hB, rfl⟩ := hlt hc
    obtain ⟨k, rfl⟩ := Nat.exists_eq_add_of_le (Nat.le_of_lt hc)
    rw [hB, List.length_nil, Nat.add_zero, Nat.add_sub_cancel_left]
    exact layoutKids_start c st bs pie s k rest index
  · have hle := Nat.le_of_not_lt hc
    rw [Nat.sub_eq_zero_of_le hle, List.drop_zero, ← hge hle]
    exact layoutKids_running c st bs pie rest index skipIdx i0 s hle (hge hle ▸ Nat.le_add_right _ _)

mutual
/-- Induction over a box tree with the hypothesis for every child. -/
theorem PBox.induct {P : PBox → Prop} (para : ∀ id n lh st, P (.para id n lh st))
    (block : ∀ id st kids, (∀ k ∈ kids, P k) → P (.block id st kids)) : (b : PBox) → P b
  | .para id n lh st => para id n lh st
  | .block id st kids => block id st kids (PBox.induct_list para block kids)
theorem PBox.induct_list {P : PBox → Prop} (para : ∀ id n lh st, P (.para id n lh st))
    (block : ∀ id st kids, (∀ k ∈ kids, P k) → P (.block id st kids)) : (bs : List PBox) → ∀ k ∈ bs, P k
  | [] => fun _ h => nomatch h
  | b :: bs => fun k h =>
    (List.mem_cons.mp h).elim (fun e => e ▸ PBox.induct para block b) (PBox.induct_list para block bs k)
end

/-- State of the children loop started at child `i0` (resumed at `sub0`) once the children `B` have been placed
and child number `index` is next. -/
structure Placed (s : KidsLoop) (B : List PBox) (i0 : Nat) (sub0 : Option Resume) (index : Nat) : Prop where
  full : FullFrom s.newChildren B i0 sub0
  index_eq : index = i0 + B.length
  skip_eq : s.skip = if B = [] then sub0 else none

theorem Placed.not_skipped {s : KidsLoop} {B : List PBox} {i0 : Nat} {sub0 : Option Resume} {index : Nat}
    (h : Placed s B i0 sub0 index) : ¬ index < i0 :=
  Nat.not_lt.mpr (h.index_eq ▸ Nat.le_add_right i0 B.length)

theorem placed_start (s : KidsLoop) (i0 : Nat) (hs : s.newChildren = []) : Placed s [] i0 s.skip i0 where
  full := by rw [hs]; rfl
  index_eq := rfl
  skip_eq := (if_pos rfl).symm

end Wp.PM
