/-
Body text does not run into the footnote area (C03 with footnotes), paragraph level.

`context.page_bottom` is a *function of the footnotes currently in the area* (`pbOf`; exact since repairs 8db5909
and 84e5b27: the area is never fragmented, an empty area takes no room). Taking a footnote lowers it, postponing or
un-laying-out one raises it back (`pbOf_mono`, needs non-negative footnote heights only since repair 2efefde).  The footnote loop
of a line therefore ends either with `page_bottom` at least where it was, or with the line itself fitting above the
new `page_bottom` (`footLoop_bottom`); since the lines of a paragraph are stacked, every line kept by
`_linebox_layout` — the first line of an empty page excepted — ends above `page_bottom` *as it is when the
paragraph is done*, i.e. above the footnote area that holds the footnotes called so far (`lineLoopF_fits_final`,
`para_fits_final`).  `pbX_stable`: the exact bookkeeping holds through whole layouts.  `boxF_chain`: the same line
property for whole layouts of single-child chains of boxes (no sibling boxes, so no stacking argument is needed).
-/
import WpModel.Lemmas.FootGeoBox

namespace Wp.PMF
open Wp Wp.PM

/-- `context.page_bottom` when the footnote area holds `cur`. -/
def pbOf (c : FCtx) (cur : List Fn) : Rat :=
  if cur.isEmpty then c.pageH else c.pageH - max0 (areaLayout c.area c.pageH cur).marginHeight

/-- The exact bookkeeping: `page_bottom` is `pbOf` of the current footnotes. -/
def PbX (c : FCtx) (fs : FState) : Prop := PbInv c fs ∧ fs.pageBottom = pbOf c fs.cur

theorem updateArea_pbx (c : FCtx) (fs fs0 : FState) (h0 : PbInv c fs0) (ha : fs.areaH = fs0.areaH)
    (hp : fs.pageBottom = fs0.pageBottom) :
    (updateArea c fs).1.pageBottom = pbOf c (updateArea c fs).1.cur := by
  rw [updateArea_cur, updateArea_eq c fs fs0 h0 ha hp]
  unfold updateAreaFrom pbOf
  split <;> rfl

theorem layoutFootnote_pbx (c : FCtx) (fs : FState) (f : Fn) (h : PbX c fs) (hf : 0 ≤ f.height) :
    PbX c (layoutFootnote c fs f).1 :=
  ⟨layoutFootnote_inv c fs f h.1 hf, updateArea_pbx c _ fs h.1 rfl rfl⟩

theorem reportFootnote_pbx (c : FCtx) (fs : FState) (f : Fn) (h : PbX c fs) (hf : 0 ≤ f.height) :
    PbX c (reportFootnote c fs f) :=
  ⟨reportFootnote_inv c fs f h.1 hf, updateArea_pbx c _ fs h.1 rfl rfl⟩

theorem unlayFootnote_pbx (c : FCtx) (fs : FState) (f : Fn) (h : PbX c fs) : PbX c (unlayFootnote c fs f) := by
  refine ⟨unlayFootnote_inv c fs f h.1, ?_⟩
  unfold unlayFootnote
  split
  · exact h.2
  · dsimp only
    split
    · exact updateArea_pbx c _ fs h.1 rfl rfl
    · split <;> exact updateArea_pbx c _ fs h.1 rfl rfl

theorem pbX_stable (c : FCtx) : Stable c (PbX c) :=
  ⟨fun fs f hf h => layoutFootnote_pbx c fs f h hf, fun fs f hf h => reportFootnote_pbx c fs f h hf,
    fun fs f h => unlayFootnote_pbx c fs f h⟩

theorem kidsF_pbx : (rest : List FootBox) → HeightsOkList rest → ∀ (c : FCtx)
    (st : PStyle) (index skipIdx : Nat) (bs : Rat) (pie : Bool) (s : KidsLoop) (fs : FState),
    PbX c fs → PbX c (layoutKidsF c st rest index skipIdx bs pie s fs).2 :=
  fun rest hh c st index skipIdx bs pie s fs h => kidsF_stable (pbX_stable c) rest hh st index skipIdx bs pie s fs h

/-! ### `pbOf` depends on the footnotes through their total height only, and is antitone in it -/

theorem sumHeights_erase (l : List Fn) (f : Fn) (h : f ∈ l) : sumHeights (l.erase f) = sumHeights l - f.height := by
  induction l with
  | nil => cases h
  | cons x xs ih =>
    by_cases hx : x = f
    · subst hx; simp only [List.erase_cons_head, sumHeights]; grind
    · have hm : f ∈ xs := by
        rcases List.mem_cons.mp h with h | h
        · exact absurd h.symm hx
        · exact h
      rw [List.erase_cons_tail (by simpa using hx)]
      simp only [sumHeights, ih hm]
      grind

theorem sumHeights_append (a b : List Fn) : sumHeights (a ++ b) = sumHeights a + sumHeights b := by
  induction a with
  | nil => simp only [List.nil_append, sumHeights]; grind
  | cons x xs ih => simp only [List.cons_append, sumHeights, ih]; grind

/-- Height of the laid-out area as a function of the total height of its footnotes. -/
def areaH (a : AreaStyle) (s : Rat) : Rat :=
  let capped := match a.maxH with | none => s | some m => if s ≤ m then s else m
  if capped ≥ 0 then capped else 0

theorem areaLayout_h (a : AreaStyle) (pageH : Rat) (cur : List Fn) :
    (areaLayout a pageH cur).h = areaH a (sumHeights cur) := by
  unfold areaLayout areaH
  rfl

theorem max0_mono (x y : Rat) (h : x ≤ y) : max0 x ≤ max0 y := by
  unfold max0; split <;> split <;> grind

theorem areaH_mono (a : AreaStyle) (s s' : Rat) (h : s ≤ s') : areaH a s ≤ areaH a s' := by
  unfold areaH
  apply max0_mono
  cases a.maxH with
  | none => exact h
  | some m => dsimp only; split <;> split <;> grind

theorem areaH_nonneg (a : AreaStyle) (s : Rat) : 0 ≤ areaH a s := by
  unfold areaH; dsimp only
  exact max0_nonneg _

theorem pbOf_empty (c : FCtx) (cur : List Fn) (h : cur.isEmpty = true) : pbOf c cur = c.pageH := by
  unfold pbOf; rw [if_pos h]

theorem pbOf_eq (c : FCtx) (cur : List Fn) (hne : cur ≠ []) :
    pbOf c cur = c.pageH - max0 (c.area.marginHeight (areaH c.area (sumHeights cur))) := by
  unfold pbOf
  rw [if_neg (by simpa using hne)]
  rfl

theorem pbOf_le_pageH (c : FCtx) (cur : List Fn) : pbOf c cur ≤ c.pageH := by
  by_cases hne : cur = []
  · subst hne; simp [pbOf]
  · rw [pbOf_eq c cur hne]
    have := max0_nonneg (c.area.marginHeight (areaH c.area (sumHeights cur)))
    grind

/-- Fewer footnotes (by total height), or none at all: a lower-or-equal area, a higher-or-equal page bottom. -/
theorem pbOf_mono (c : FCtx) (cur cur' : List Fn)
    (hs : sumHeights cur' ≤ sumHeights cur) (he : cur = [] → cur' = []) : pbOf c cur ≤ pbOf c cur' := by
  by_cases hne' : cur' = []
  · subst hne'
    rw [pbOf_empty c [] rfl]; exact pbOf_le_pageH c cur
  · have hne : cur ≠ [] := fun h => hne' (he h)
    rw [pbOf_eq c cur hne, pbOf_eq c cur' hne']
    have h1 := areaH_mono c.area _ _ hs
    have h2 : c.area.marginHeight (areaH c.area (sumHeights cur')) ≤
        c.area.marginHeight (areaH c.area (sumHeights cur)) := by
      simp only [AreaStyle.marginHeight]; grind
    have := max0_mono _ _ h2
    grind

theorem pbOf_congr (c : FCtx) (cur cur' : List Fn) (hs : sumHeights cur' = sumHeights cur)
    (he : cur = [] ↔ cur' = []) : pbOf c cur = pbOf c cur' := by
  by_cases hne : cur = []
  · rw [hne, he.mp hne]
  · have hne' : cur' ≠ [] := fun h => hne (he.mpr h)
    rw [pbOf_eq c cur hne, pbOf_eq c cur' hne', hs]

/-! ### what the state changes do to `page_bottom` -/

theorem fits_of_pb_le (c : FCtx) (g g' : FState) (bs y : Rat) (h : g.pageBottom ≤ g'.pageBottom)
    (ho : (ctxOf c g).overflowsPage bs y = false) : (ctxOf c g').overflowsPage bs y = false := by
  simp only [Ctx.overflowsPage, ctxOf] at ho ⊢
  exact overflows_anti _ _ _ (by grind) ho

/-- Postponing the footnote just laid out gives `page_bottom` its previous value back. -/
theorem report_restores (c : FCtx) (fs : FState) (f : Fn) (h : PbX c fs) (hf : 0 ≤ f.height) :
    (reportFootnote c (layoutFootnote c fs f).1 f).pageBottom = fs.pageBottom := by
  have h2 := (reportFootnote_pbx c _ f (layoutFootnote_pbx c fs f h hf) hf).2
  rw [h2, h.2, reportFootnote_cur, layoutFootnote_cur]
  symm
  apply pbOf_congr
  · rw [sumHeights_erase _ f (by simp), sumHeights_append]
    simp only [sumHeights]
    grind
  · constructor
    · intro he; rw [he]; simp
    · intro he
      have hl := congrArg List.length he
      rw [List.length_erase_of_mem (by simp)] at hl
      simp only [List.length_append, List.length_singleton, List.length_nil] at hl
      exact List.eq_nil_of_length_eq_zero (by omega)

/-- Un-laying-out never lowers `page_bottom`. -/
theorem unlayFootnote_pb_mono (c : FCtx) (fs : FState) (f : Fn) (h : PbX c fs) :
    fs.pageBottom ≤ (unlayFootnote c fs f).pageBottom := by
  have h2 := (unlayFootnote_pbx c fs f h).2
  rw [h2, h.2]
  unfold unlayFootnote
  split
  · exact Rat.le_refl
  · dsimp only
    rw [updateArea_cur]
    split
    · rename_i hc
      apply pbOf_mono c
      · rw [sumHeights_erase _ f hc]
        have := h.1.1 f hc
        grind
      · intro he; rw [he] at hc; cases hc
    · split <;> exact Rat.le_refl

theorem unlayAll_pb_mono (c : FCtx) (G : List Fn) (fs : FState) (h : PbX c fs) :
    fs.pageBottom ≤ (unlayAll c fs G).pageBottom := by
  induction G generalizing fs with
  | nil => exact Rat.le_refl
  | cons f rest ih =>
    have h1 := unlayFootnote_pb_mono c fs f h
    have h2 := ih _ (unlayFootnote_pbx c fs f h)
    simp only [unlayAll]
    exact Rat.le_trans h1 h2

theorem pb_mono_of_unlay (c : FCtx) (fs x : FState) (hx : ∃ G, x = unlayAll c fs G) (h : PbX c fs) :
    fs.pageBottom ≤ x.pageBottom := by
  obtain ⟨G, rfl⟩ := hx
  exact unlayAll_pb_mono c G fs h

theorem takeStep_bottom (c : FCtx) (bs y : Rat) (fs : FState) (f : Fn) (h : PbX c fs) (hf : 0 ≤ f.height) :
    fs.pageBottom ≤ (takeStep c bs y fs f).pageBottom ∨
      (ctxOf c (takeStep c bs y fs f)).overflowsPage bs y = false := by
  unfold takeStep
  split
  · left; rw [report_restores c fs f h hf]; exact Rat.le_refl
  · rename_i hov
    simp only [tookOver, Bool.or_eq_true, not_or, Bool.not_eq_true] at hov
    exact Or.inr hov.2

/-- **The footnote loop of a line and `page_bottom`**: it ends with `page_bottom` at least where it was (every
footnote of the line postponed), or with the line fitting above the new `page_bottom` (the last footnote kept was
accepted with the line above it, and nothing kept afterwards). -/
theorem footLoop_bottom (c : FCtx) (guard pie : Bool) (bs y : Rat) (F : List Fn) (fs : FState) (h : PbX c fs)
    (hF : ∀ f ∈ F, 0 ≤ f.height) :
    fs.pageBottom ≤ (footLoop c guard pie bs y F fs).2.pageBottom ∨
      (ctxOf c (footLoop c guard pie bs y F fs).2).overflowsPage bs y = false := by
  induction F generalizing fs with
  | nil => exact Or.inl Rat.le_refl
  | cons f rest ih =>
    have hf := hF f List.mem_cons_self
    have hr : ∀ g ∈ rest, 0 ≤ g.height := fun g hg => hF g (List.mem_cons_of_mem _ hg)
    have ht := takeStep_bottom c bs y fs f h hf
    rcases footLoop_cons c guard pie bs y f rest fs with ⟨_, he⟩ | ⟨_, he⟩ | ⟨_, _, _, o, he, _⟩
    · rw [he]; exact ih fs h hr
    · rw [he]
      rcases ih _ (takeStep_stable (pbX_stable c) bs y fs f hf h) hr with i | i
      · rcases ht with t | t
        · exact Or.inl (Rat.le_trans t i)
        · exact Or.inr (fits_of_pb_le c _ _ bs y i t)
      · exact Or.inr i
    · rw [he]; exact ht

theorem lineFitsF_mono (c : FCtx) (g g' : FState) (bs lineH : Rat) (pie : Bool) (k : Nat) (p : Nat × Rat)
    (h : g.pageBottom ≤ g'.pageBottom) (hp : LineFitsG ((ctxOf c g).overflowsPage bs) lineH pie k p) :
    LineFitsG ((ctxOf c g').overflowsPage bs) lineH pie k p :=
  hp.imp_right (fits_of_pb_le c g g' bs _ h)

/-- The invariant of the line loop with footnotes, at a state `fs` and with the next line starting at `y`: exact
bookkeeping; the lines kept fit above `page_bottom` *as it is in `fs`*; and they end above `y` (the first line of an
empty page excepted both times). -/
def KeptFit (c : FCtx) (bs lineH : Rat) (pie : Bool) (k : Nat) (y : Rat) (L : List (Nat × Rat)) (fs : FState) : Prop :=
  PbX c fs ∧ (∀ p ∈ L, LineFitsG ((ctxOf c fs).overflowsPage bs) lineH pie k p) ∧
    ∀ p ∈ L, (pie = true ∧ p.1 = k) ∨ p.2 + lineH ≤ y

theorem KeptFit.sub {c : FCtx} {bs lineH : Rat} {pie : Bool} {k : Nat} {y : Rat} {L L' : List (Nat × Rat)}
    {fs : FState} (h : KeptFit c bs lineH pie k y L fs) (hsub : ∀ p ∈ L', p ∈ L) : KeptFit c bs lineH pie k y L' fs :=
  ⟨h.1, fun p hp => h.2.1 p (hsub p hp), fun p hp => h.2.2 p (hsub p hp)⟩

/-- Un-laying-out footnotes only raises `page_bottom`. -/
theorem KeptFit.unlay {c : FCtx} {bs lineH : Rat} {pie : Bool} {k : Nat} {y : Rat} {L : List (Nat × Rat)}
    {fs : FState} (h : KeptFit c bs lineH pie k y L fs) (G : List Fn) :
    KeptFit c bs lineH pie k y L (unlayAll c fs G) :=
  ⟨unlayAll_stable (pbX_stable c) G fs h.1,
    fun p hp => lineFitsF_mono c _ _ bs lineH pie k p (unlayAll_pb_mono c G fs h.1) (h.2.1 p hp), h.2.2⟩

/-- The footnote loop of a line whose bottom is `Y' ≥ y`: `page_bottom` ends at least where it was, or with that
line — hence the lines above it — fitting above it. -/
theorem KeptFit.footLoop {c : FCtx} {bs lineH : Rat} {pie : Bool} {k : Nat} {y : Rat} {L : List (Nat × Rat)}
    {fs : FState} (h : KeptFit c bs lineH pie k y L fs) (guard : Bool) (Y' : Rat) (F : List Fn)
    (hF : ∀ f ∈ F, 0 ≤ f.height) (hYY : L ≠ [] → y ≤ Y') :
    KeptFit c bs lineH pie k y L (footLoop c guard pie bs Y' F fs).2 := by
  refine ⟨footLoop_stable (pbX_stable c) _ _ _ _ _ _ hF h.1, fun p hp => ?_, h.2.2⟩
  rcases footLoop_bottom c guard pie bs Y' F fs h.1 hF with hb | hb
  · exact lineFitsF_mono c _ _ bs lineH pie k p hb (h.2.1 p hp)
  · refine (h.2.2 p hp).imp_right fun hle => ?_
    exact not_overflowsPage_of_le _ bs _ _ (Rat.le_trans hle (hYY fun hn => by rw [hn] at hp; cases hp)) hb

/-- The footnote loop of a line that passed the overflow test, run at the line's bottom (with the bottom decoration
`d` when the line may be the last of its box). -/
theorem KeptFit.line {c : FCtx} {bs lineH : Rat} {pie : Bool} {k : Nat} {y : Rat} {L : List (Nat × Rat)}
    {fs : FState} (h : KeptFit c bs lineH pie k y L fs) (mt d : Rat) (dbd guard : Bool) (F : List Fn)
    (hF : ∀ f ∈ F, 0 ≤ f.height) (hd : 0 ≤ d) (hlh : 0 ≤ lineH)
    (hov : ¬((!L.isEmpty || !pie) && (ctxOf c fs).overflowsPage bs (y + lineH + (if dbd = true then d else 0))) = true) :
    KeptFit c bs lineH pie k y L
      (PMF.footLoop c guard pie bs
        ((if (pie && (ctxOf c fs).overflowsPage bs (y + lineH)) = true then y + lineH - mt else y + lineH) +
          (if dbd = true then d else 0)) F fs).2 :=
  h.footLoop guard _ F hF fun hne => by
    obtain ⟨_, h2, _, hoff⟩ := line_test (not_overflowsPage_of_le (ctxOf c fs) bs) y lineH mt d dbd pie L hd hov (fun h => hne h.1)
    rw [h2]; grind

/-- **Lines of a paragraph end above the footnote area** (C03 with footnotes): every line kept by
`_linebox_layout` — the first line of an empty page excepted — fits above `context.page_bottom` *as it is when the
loop ends*, whatever footnotes were laid out, postponed or un-laid-out on the way. -/
theorem lineLoopF_fits_final (c : FCtx) (st : PStyle) (calls : List Call) (b : BoxSt) (n : Nat) (lineH : Rat)
    (pie : Bool) (bs : Rat) (k : Nat) (fuel i : Nat) (y : Rat) (s : LineLoop) (fs : FState)
    (hcalls : ∀ cl ∈ calls, 0 ≤ (cl.m : Rat) * cl.h) (hdeco : 0 ≤ b.bb + b.pb) (hlh : 0 ≤ lineH)
    (hfirst : s.lines = [] → i = k) (h : KeptFit c bs lineH pie k y s.lines fs) :
    ∀ p ∈ outLines (lineLoopF c st calls b n lineH pie bs fuel i y s fs).1,
      LineFitsG ((ctxOf c (lineLoopF c st calls b n lineH pie bs fuel i y s fs).2).overflowsPage bs) lineH pie k p := by
  have hsub := fun i (s : LineLoop) resume => breakLine_lines_sub st n i s.lines pie s.skip resume
  fun_induction lineLoopF c st calls b n lineH pie bs fuel i y s fs with
  | case1 i y s fs => exact h.2.1
  | case2 fuel i y s fs resume newPosY dbd offset overflow hov abort stop r lines' hb =>
    have := hsub i s resume
    rw [hb] at this
    exact ((h.sub this).unlay _).2.1
  | case3 fuel i y s fs resume newPosY dbd offset overflow hov shift newPosY' lineY mt' fs' hfl ih =>
    -- when a line is already kept, or the page is not empty, the current line fits and is not shifted
    have hplain : ¬(s.lines = [] ∧ pie = true) →
        (ctxOf c fs).overflowsPage bs newPosY = false ∧ newPosY' = newPosY ∧ lineY = y ∧ 0 ≤ offset :=
      line_test (not_overflowsPage_of_le (ctxOf c fs) bs) y lineH s.mt (b.bb + b.pb) dbd pie s.lines hdeco hov
    have hfb := footLoop_bottom c (!s.lines.isEmpty || !pie) pie bs (newPosY' + offset) (lineFns st calls i) fs h.1
      (lineFns_height st calls i hcalls)
    have h' := h.line s.mt _ dbd (!s.lines.isEmpty || !pie) _ (lineFns_height st calls i hcalls) hdeco hlh hov
    rw [hfl] at h' hfb
    refine ih (fun h => by simp at h) ⟨h'.1, fun p hp => ?_, fun p hp => ?_⟩
    · rcases List.mem_append.mp hp with hp | hp
      · exact h'.2.1 p hp
      · rw [List.mem_singleton.mp hp]
        by_cases hfl' : s.lines = [] ∧ pie = true
        · exact Or.inl ⟨hfl'.2, hfirst hfl'.1⟩
        · obtain ⟨h1, h2, h3, hoff⟩ := hplain hfl'
          right
          show (ctxOf c fs').overflowsPage bs (lineY + lineH) = false
          rw [h3]
          rcases hfb with hb | hb
          · exact fits_of_pb_le c fs fs' bs _ hb h1
          · rw [h2] at hb
            exact not_overflowsPage_of_le _ bs _ _ (by show y + lineH ≤ y + lineH + offset; grind) hb
    · rcases List.mem_append.mp hp with hp | hp
      · exact (h'.2.2 p hp).imp_right fun hle => by grind
      · rw [List.mem_singleton.mp hp]
        by_cases hfl' : s.lines = [] ∧ pie = true
        · exact Or.inl ⟨hfl'.2, hfirst hfl'.1⟩
        · obtain ⟨_, _, h3, _⟩ := hplain hfl'
          right
          show lineY + lineH ≤ y + lineH
          rw [h3]; exact Rat.le_refl
  | case4 fuel i y s fs resume newPosY dbd offset overflow hov shift newPosY' mt' fs' hfl abort stop r lines' hb =>
    have h' := h.line s.mt _ dbd (!s.lines.isEmpty || !pie) _ (lineFns_height st calls i hcalls) hdeco hlh hov
    rw [hfl] at h'
    have := hsub i s resume
    rw [hb] at this
    exact ((h'.sub this).unlay _).2.1
  | case5 fuel i y s fs resume newPosY dbd offset overflow hov shift newPosY' mt' fs' hfl =>
    have h' := h.line s.mt _ dbd (!s.lines.isEmpty || !pie) _ (lineFns_height st calls i hcalls) hdeco hlh hov
    rw [hfl] at h'
    exact h'.2.1

theorem linesOk_pb_mono (c : FCtx) (g g' : FState) (bs : Rat) (L : List PlacedLine)
    (h : g.pageBottom ≤ g'.pageBottom) (hL : LinesOk (ctxOf c g) bs L) : LinesOk (ctxOf c g') bs L :=
  linesFit_mono L (fun _ => fits_of_pb_le c g g' bs _ h) hL

theorem lineboxLayoutF_fits_final (c : FCtx) (st : PStyle) (calls : List Call) (b : BoxSt) (n : Nat) (lineH : Rat)
    (pie : Bool) (adj : List Rat) (bs posY : Rat) (skip : Option Resume) (dbd : Bool) (fs : FState) (id : Nat)
    (hcalls : ∀ cl ∈ calls, 0 ≤ (cl.m : Rat) * cl.h) (hdeco : 0 ≤ b.bb + b.pb) (hlh : 0 ≤ lineH) (hx : PbX c fs) :
    PbX c (lineboxLayoutF c st calls b n lineH pie adj bs posY skip dbd fs).2 ∧
    LinesOk (ctxOf c (lineboxLayoutF c st calls b n lineH pie adj bs posY skip dbd fs).2) bs
      (paraPlaced pie id lineH (lineboxLayoutF c st calls b n lineH pie adj bs posY skip dbd fs).1.lines) := by
  rw [lineboxLayoutF_lines]
  unfold lineboxLayoutF lineboxLoopF
  obtain ⟨m, hcont, _⟩ := lineLoopF_lines c st calls b n lineH pie bs (skipLine skip) (n - skipLine skip)
    (skipLine skip) (lineStart adj posY)
    { lines := [], posY := lineStart adj posY, skip := skip, mt := b.mt, dbd := dbd } fs (runFrom_start _)
  exact ⟨lineLoopF_stable (pbX_stable c) st calls b n lineH pie bs _ _ _ _ fs hcalls hx,
    paraPlaced_fit _ lineH pie id _ m _
      (lineLoopF_fits_final c st calls b n lineH pie bs (skipLine skip) _ _ _ _ fs hcalls hdeco hlh (fun _ => rfl)
        ⟨hx, by simp, by simp⟩) hcont⟩

/-- **A paragraph and the footnotes it calls** (`block_level_layout` of a paragraph): every line of the fragment
returned — the first line excepted when the paragraph started an empty page — ends above `context.page_bottom` as
the layout leaves it, i.e. above the footnote area holding every footnote taken so far on the page. -/
theorem para_fits_final (id n : Nat) (lineH : Rat) (st : PStyle) (calls : List Call) (hd : st.DecoOk)
    (hh : ∀ cl ∈ calls, 0 ≤ (cl.m : Rat) * cl.h) (hlh : 0 ≤ lineH) (c : FCtx) (idx : Nat)
    (y bs : Rat) (skip : Option Resume) (cb pie : Bool) (adjL : List Rat) (fs : FState) (hx : PbX c fs) (f : Frag)
    (hf : (layoutBoxF c (.para id n lineH st calls) idx y bs skip cb pie adjL fs).r.frag = some f) :
    ∀ l ∈ placedLines f pie (.para id n lineH st), l.exempt = true ∨
      (ctxOf c (layoutBoxF c (.para id n lineH st calls) idx y bs skip cb pie adjL fs).fs).overflowsPage bs l.bottom
        = false := by
  simp only [layoutBoxF] at hf ⊢
  generalize hp : prepare (ctxOf c fs) st y bs skip cb pie adjL = p at hf ⊢
  have hbs : bs ≤ p.bs := by rw [← hp]; exact prepare_bs_le (ctxOf c fs) st y bs skip cb pie adjL hd
  have hdeco : 0 ≤ p.b.bb + p.b.pb := by
    rw [← hp]; simp only [prepare_bb, prepare_pb]; have := hd.1; grind
  obtain ⟨hxo, hfit⟩ := lineboxLayoutF_fits_final c st calls p.b n lineH pie p.cur p.bs p.posY (subSkipOf skip) p.dbd
    fs id hh hdeco hlh hx
  generalize lineboxLayoutF c st calls p.b n lineH pie p.cur p.bs p.posY (subSkipOf skip) p.dbd fs = lr
    at hf hxo hfit ⊢
  simp only [finishParaF_r] at hf
  obtain ⟨g, rfl⟩ := finishPara_frag hf
  exact linesOk_pb_mono c _ _ bs _ (pb_mono_of_unlay c _ _ (finishParaF_fs c st calls p pie id idx n lr.1 lr.2) hxo)
    (linesOk_mono _ bs p.bs _ hbs hfit)

theorem placeReported_pbx (c : FCtx) (L : List Fn) (i : Nat) (fs : FState) (h : PbX c fs)
    (hL : ∀ f ∈ L, 0 ≤ f.height) : PbX c (placeReported c L i fs) := by
  induction L generalizing i fs with
  | nil => exact h
  | cons f rest ih =>
    have hf := hL f (by simp)
    have h0 : PbX c { fs with pending := fs.pending ++ [f] } := h
    have h1 := layoutFootnote_pbx c _ f h0 hf
    unfold placeReported
    dsimp only
    split
    · have h2 := reportFootnote_pbx c _ f h1 hf
      exact ⟨⟨h2.1.1, h2.1.2.1, fun g hg => hL g hg⟩, h2.2⟩
    · exact ih _ _ h1 (fun g hg => hL g (by simp [hg]))

/-! ### whole layouts of single-child chains: no sibling, so no stacking argument is needed -/

mutual
/-- Every block of the subtree has at most one child (a chain of boxes around one paragraph). -/
def Single : FootBox → Prop
  | .para _ _ _ _ _ => True
  | .block _ _ kids => kids.length ≤ 1 ∧ SingleList kids
def SingleList : List FootBox → Prop
  | [] => True
  | b :: bs => Single b ∧ SingleList bs
end

mutual
/-- Lines have non-negative heights. -/
def LineHOk : FootBox → Prop
  | .para _ _ lineH _ _ => 0 ≤ lineH
  | .block _ _ kids => LineHOkList kids
def LineHOkList : List FootBox → Prop
  | [] => True
  | b :: bs => LineHOk b ∧ LineHOkList bs
end

mutual
/-- **Body text does not run into the footnote area, whole layouts of single-child chains**: every line of the
fragment returned by `block_level_layout` — the first line excepted when the layout started an empty page — ends
above `context.page_bottom` as the layout leaves it (the footnote area holding every footnote taken so far), through
nested blocks with any decorations, the second layout with a larger bottom space and `find_earlier_page_break`. -/
theorem boxF_chain : (box : FootBox) → Single box → DecoOk box.erase → HeightsOk box → LineHOk box →
    ∀ (c : FCtx) (idx : Nat) (y bs : Rat) (skip : Option Resume) (cb pie : Bool) (adjL : List Rat) (fs : FState),
    PbX c fs →
    ∀ f, (layoutBoxF c box idx y bs skip cb pie adjL fs).r.frag = some f →
      LinesOk (ctxOf c (layoutBoxF c box idx y bs skip cb pie adjL fs).fs) bs (placedLines f pie box.erase)
  | .para id n lineH st calls => by
    intro _ hd hh hl c idx y bs skip cb pie adjL fs hx
    simp only [FootBox.erase, DecoOk] at hd
    simp only [HeightsOk] at hh
    simp only [LineHOk] at hl
    intro f hf
    exact para_fits_final id n lineH st calls hd hh hl c idx y bs skip cb pie adjL fs hx f hf
  | .block id st kids => by
    intro hs hd hh hl c idx y bs skip cb pie adjL fs hx
    simp only [Single] at hs
    simp only [FootBox.erase, DecoOk] at hd
    simp only [HeightsOk] at hh
    simp only [LineHOk] at hl
    simp only [layoutBoxF]
    have hbs := prepare_bs_le (ctxOf c fs) st y bs skip cb pie adjL hd.1
    generalize prepare (ctxOf c fs) st y bs skip cb pie adjL = p at hbs ⊢
    have hk := kidsF_chain kids hs.1 hs.2 hd.2 hh hl c st kids 0 (skipIdxOf skip) p.bs pie
      { newChildren := [], posY := p.posY, adjL := p.adjL, cur := p.cur, curIsL := p.curIsL,
        nextPage := { brk := none, page := none }, skip := subSkipOf skip } fs hx rfl (by intro j; simp)
    intro f hf
    simp only [finishBlockF_r] at hf
    obtain ⟨g, rfl⟩ := finishBlock_frag hf
    simp only [placedLines, FootBox.erase]
    apply linesOk_pb_mono c _ _ bs _ (pb_mono_of_unlay c _ _ (finishBlockF_fs _ _ _ _ _ _ _ _ _) hk.1)
    apply linesOk_mono _ bs _ _ hbs
    exact hk.2
theorem kidsF_chain : (rest : List FootBox) → rest.length ≤ 1 → SingleList rest → DecoOkList (eraseList rest) →
    HeightsOkList rest → LineHOkList rest → ∀ (c : FCtx) (st : PStyle) (all : List FootBox) (index skipIdx : Nat)
    (bs : Rat) (pie : Bool) (s : KidsLoop) (fs : FState), PbX c fs → s.newChildren = [] →
    (∀ j, rest[j]? = all[index + j]?) →
    PbX c (layoutKidsF c st rest index skipIdx bs pie s fs).2 ∧
    LinesOk (ctxOf c (layoutKidsF c st rest index skipIdx bs pie s fs).2) bs
      (placedLinesList (layoutKidsF c st rest index skipIdx bs pie s fs).1.state.newChildren pie (eraseList all))
  | [] => by
    intro _ _ _ _ _ c st all index skipIdx bs pie s fs hx hnil _
    simp only [layoutKidsF, KidsOutcome.state, hnil, placedLinesList]
    exact ⟨hx, linesOk_nil _ bs⟩
  | child :: rest => by
    intro hlen hs hd hh hl c st all index skipIdx bs pie s fs hx hnil hall
    refine ⟨kidsF_pbx _ hh c st index skipIdx bs pie s fs hx, ?_⟩
    have hrest : rest = [] := by
      cases rest with
      | nil => rfl
      | cons a b => simp at hlen
    subst hrest
    simp only [SingleList] at hs
    simp only [eraseList, DecoOkList] at hd
    simp only [HeightsOkList] at hh
    simp only [LineHOkList] at hl
    have hchild := eraseList_getElem_head child [] all index hall
    have hs0 : ∀ g : FState, LinesOk (ctxOf c g) bs (placedLinesList s.newChildren pie (eraseList all)) := by
      intro g; rw [hnil]; exact linesOk_nil _ bs
    rw [layoutKidsF_turn]
    split
    · simp only [layoutKidsF, KidsOutcome.state, hnil, placedLinesList]
      exact linesOk_nil _ bs
    · have hstep := kidStepF_fits (pbX_stable c) (ctxOf c)
        (fun g x hx h bs L => linesOk_pb_mono c g x bs L (pb_mono_of_unlay c g x hx h)) st child hd.1 hh.1 index bs
        pie s fs hx
        (fun bs' adj fs' hx' => boxF_chain child hs.1 hd.1 hh.1 hl.1 c index s.posY bs' s.skip st.isRoot _ adj fs' hx')
        all hchild hs0
      split
      · rename_i out s' fs' heq
        exact hstep.1 out s' fs' heq
      · rename_i s' fs' heq
        simp only [layoutKidsF, KidsOutcome.state]
        exact (hstep.2 s' fs' heq).1
end

end Wp.PMF
