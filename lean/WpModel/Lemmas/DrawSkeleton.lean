/-
Lemmas about Model/DrawSkeleton: the effect of drawing on the multi-stream world (`Eff`), stage composition, and the
mutual induction showing that `draw_stacking_context` is stack-neutral and creates only balanced streams.
Core Lean only.
-/
import WpModel.Model.DrawSkeleton
import WpModel.Lemmas.PdfStream
import WpModel.Lemmas.PdfWorld
namespace Wp.Pdf

/-- Stream `i` exists, has exactly the API-level stack `st` open, and writes to an existing dictionary. -/
def StkAt (w : World) (i : Nat) (st : List Fr) : Prop :=
  ∃ s, w.streams[i]? = some s ∧ Inv s st ∧ s.res < w.res.length

theorem StkAt.lt {w : World} {i : Nat} {st : List Fr} (h : StkAt w i st) : i < w.streams.length := by
  obtain ⟨s, hs, _⟩ := h
  exact (List.getElem?_eq_some_iff.mp hs).1

theorem StkAt.mono {w w' : World} {i : Nat} {st : List Fr} (h : StkAt w i st)
    (hs : w'.streams[i]? = w.streams[i]?) (hr : w.res.length ≤ w'.res.length) : StkAt w' i st := by
  obtain ⟨s, h1, h2, h3⟩ := h
  exact ⟨s, by rw [hs, h1], h2, Nat.lt_of_lt_of_le h3 hr⟩

/-- Effect of drawing on target stream `t`: other existing streams untouched, `t` ends with stack `st'`, every stream
created meanwhile is balanced. -/
structure Eff (w w' : World) (t : Nat) (st' : List Fr) : Prop where
  slen : w.streams.length ≤ w'.streams.length
  rlen : w.res.length ≤ w'.res.length
  frame : ∀ i, i < w.streams.length → i ≠ t → w'.streams[i]? = w.streams[i]?
  target : StkAt w' t st'
  fresh : ∀ i, w.streams.length ≤ i → i < w'.streams.length → StkAt w' i []

theorem Eff.refl {w : World} {t : Nat} {st : List Fr} (h : StkAt w t st) : Eff w w t st :=
  ⟨Nat.le_refl _, Nat.le_refl _, fun _ _ _ => rfl, h, fun i h1 h2 => absurd h2 (by omega)⟩

/-- Two stages on the same target. -/
theorem Eff.trans {w w1 w2 : World} {t : Nat} {a b : List Fr} (ht : t < w.streams.length)
    (h1 : Eff w w1 t a) (h2 : Eff w1 w2 t b) : Eff w w2 t b := by
  refine ⟨Nat.le_trans h1.slen h2.slen, Nat.le_trans h1.rlen h2.rlen, ?_, h2.target, ?_⟩
  · intro i hi hne
    rw [h2.frame i (Nat.lt_of_lt_of_le hi h1.slen) hne, h1.frame i hi hne]
  · intro i hi1 hi2
    by_cases hlt : i < w1.streams.length
    · exact (h1.fresh i hi1 hlt).mono (h2.frame i hlt (by omega)) h2.rlen
    · exact h2.fresh i (by omega) hi2

/-- A stage on `t`, then a stage on a stream `u` created by the first one that ends balanced. -/
theorem Eff.trans_other {w w1 w2 : World} {t u : Nat} {a : List Fr} (ht : t < w.streams.length)
    (hu : w.streams.length ≤ u) (hu1 : u < w1.streams.length) (h1 : Eff w w1 t a) (h2 : Eff w1 w2 u []) :
    Eff w w2 t a := by
  have htu : t ≠ u := by omega
  refine ⟨Nat.le_trans h1.slen h2.slen, Nat.le_trans h1.rlen h2.rlen, ?_, ?_, ?_⟩
  · intro i hi hne
    rw [h2.frame i (Nat.lt_of_lt_of_le hi h1.slen) (by omega), h1.frame i hi hne]
  · exact h1.target.mono (h2.frame t h1.target.lt htu) h2.rlen
  · intro i hi1 hi2
    by_cases hiu : i = u
    · subst hiu; exact h2.target
    · by_cases hlt : i < w1.streams.length
      · exact (h1.fresh i hi1 hlt).mono (h2.frame i hlt hiu) h2.rlen
      · exact h2.fresh i (by omega) hi2

/-- `add_group` on stream `h`: one new balanced stream, `h` untouched. -/
theorem addGroup_eff (w : World) (h : Nat) (st : List Fr) (hs : StkAt w h st) :
    ∃ w', w.addGroup h = .ok w' ∧ Eff w w' h st ∧ w'.streams.length = w.streams.length + 1 := by
  obtain ⟨s, hget, hinv, hres⟩ := hs
  have hhlt : h < w.streams.length := (List.getElem?_eq_some_iff.mp hget).1
  obtain ⟨r, hr⟩ : ∃ r, w.res[s.res]? = some r := ⟨w.res[s.res], by simp [hres]⟩
  refine ⟨_, by simp only [World.addGroup, hget, hr]; rfl, ?_, by simp⟩
  refine ⟨by simp, by simp, ?_, ?_, ?_⟩
  · intro i hi _
    simp [List.getElem?_append_left hi]
  · exact ⟨s, by simp [List.getElem?_append_left hhlt, hget], hinv, by simp; omega⟩
  · intro i h1 h2
    simp at h2
    have : i = w.streams.length := by omega
    subst this
    refine ⟨freshStream s w.res.length (some (XKey.x r.xobj.length).render), by simp,
      Inv.fresh rfl rfl, ?_⟩
    simp [freshStream]


theorem thenDo_ok (x : Except PyErr World) (f : Stage) (w : World) (h : x = .ok w) : (x |>> f) = f w := by
  subst h; rfl

/-- Sequencing two stages whose effects are described by predicates on the world. -/
theorem comp {P Q : World → Prop} (x : Except PyErr World) (f : Stage)
    (h1 : ∃ w1, x = .ok w1 ∧ P w1) (h2 : ∀ w1, P w1 → ∃ w2, f w1 = .ok w2 ∧ Q w2) :
    ∃ w2, (x |>> f) = .ok w2 ∧ Q w2 := by
  obtain ⟨w1, hx, hp⟩ := h1
  rw [thenDo_ok x f w1 hx]
  exact h2 w1 hp

/-- A stage on the target stream: from stack `a` to stack `b`. -/
def StageEff (f : Stage) (t : Nat) (a b : List Fr) : Prop :=
  ∀ w, StkAt w t a → ∃ w', f w = .ok w' ∧ Eff w w' t b

theorem StageEff.seq {f g : Stage} {t : Nat} {a b c : List Fr} (h1 : StageEff f t a b) (h2 : StageEff g t b c) :
    StageEff (fun w => f w |>> g) t a c := by
  intro w hs
  obtain ⟨w1, e1, f1⟩ := h1 w hs
  obtain ⟨w2, e2, f2⟩ := h2 w1 f1.target
  exact ⟨w2, by simp only [thenDo_ok _ _ _ e1, e2], Eff.trans hs.lt f1 f2⟩

/-- One API call on stream `h`, legal at the API level. -/
theorem StageEff.call (h : Nat) (c : Call) (st st' : List Fr) (ha : apiStep st c = some st') :
    StageEff (fun w => w.onCall h c) h st st' := by
  intro w hs
  obtain ⟨s, hget, hinv, hres⟩ := hs
  have hhlt : h < w.streams.length := (List.getElem?_eq_some_iff.mp hget).1
  obtain ⟨r, hr⟩ : ∃ r, w.res[s.res]? = some r := ⟨w.res[s.res], by simp [hres]⟩
  obtain ⟨s', r', hstep, hinv'⟩ := stepS_inv r s c st st' hinv ha
  refine ⟨{ w with streams := w.streams.set h s', res := w.res.set s.res r' }, ?_, ?_⟩
  · simp [World.onCall, hget, hr, hstep]
  · refine ⟨by simp, by simp, ?_, ?_, ?_⟩
    · intro i _ hne
      simp [Ne.symm hne]
    · refine ⟨s', by simp [hhlt], hinv', ?_⟩
      rw [(stepS_kept hstep).res_eq]; simpa using hres
    · intro i h1 h2
      simp at h2; omega

theorem StageEff.id (t : Nat) (a : List Fr) : StageEff (fun w => .ok w) t a a :=
  fun w hs => ⟨w, rfl, Eff.refl hs⟩

theorem StageEff.stageIf (b : Bool) {f : Stage} {t : Nat} {a : List Fr} (h : StageEff f t a a) :
    StageEff (stageIf b f) t a a := by
  intro w hs
  unfold Wp.Pdf.stageIf
  split
  · exact h w hs
  · exact ⟨w, rfl, Eff.refl hs⟩

theorem clipEnd_eff (t : Nat) (a : List Fr) (hnt : inText a = false) : StageEff (clipEnd t) t a a := by
  unfold clipEnd
  exact StageEff.seq (StageEff.call t _ a a (by simp [apiStep, Call.graphicsOnly, hnt]))
    (StageEff.call t _ a a (by simp [apiStep, Call.graphicsOnly, hnt]))

theorem transformStage_eff (t : Nat) (tr : Transform) (a : List Fr) (hnt : inText a = false) :
    StageEff (transformStage t tr) t a a := by
  cases tr with
  | none => exact StageEff.id t a
  | singular => exact StageEff.id t a
  | regular x1 x2 x3 x4 x5 x6 =>
    exact StageEff.call t _ a a (by simp [apiStep, Call.graphicsOnly, hnt])

theorem absClipStage_eff (t : Nat) (re : Option String) (a : List Fr) (hnt : inText a = false) :
    StageEff (absClipStage t re) t a a := by
  cases re with
  | none => exact StageEff.id t a
  | some s =>
    exact StageEff.seq (StageEff.call t _ a a (by simp [apiStep, Call.graphicsOnly, hnt])) (clipEnd_eff t a hnt)

theorem finishCtx_eff (t : Nat) (st : List Fr) : StageEff (finishCtx t) t (.M :: .q :: st) st := by
  unfold finishCtx
  exact StageEff.seq (StageEff.call t _ _ (.q :: st) (by simp [apiStep])) (StageEff.call t _ _ st (by simp [apiStep]))

theorem drawGroupOn_eff (t : Nat) (o : Num) (k : XKey) (a : List Fr) (hnt : inText a = false) :
    StageEff (drawGroupOn t o (some k)) t a a := by
  unfold drawGroupOn
  have hq : inText (.q :: a) = false := by simpa [inText] using hnt
  exact StageEff.seq (StageEff.call t .push a (.q :: a) (by simp [apiStep, hnt]))
    (StageEff.seq (StageEff.call t (.setAlpha o true (some true)) (.q :: a) (.q :: a)
      (by simp [apiStep, Call.graphicsOnly, Call.textOnly]))
    (StageEff.seq (StageEff.call t (.drawX k) (.q :: a) (.q :: a) (by simp [apiStep, Call.graphicsOnly, hq]))
    (StageEff.call t .pop (.q :: a) a (by simp [apiStep]))))


/-- API-level effect, on the current stream, of what `draw_stacking_context` delegates: calls on the current stream,
and nested stacking contexts (which leave it as they found it and need it outside a text object). -/
def itemsApi : List Fr → List Item → Option (List Fr)
  | st, [] => some st
  | st, .onCur c :: is => (apiStep st c).bind (fun st' => itemsApi st' is)
  | st, .ctx _ :: is => if inText st then none else itemsApi st is
  | _, _ => none

/-- The delegated drawing leaves the current stream as it found it, from any state outside a text object. -/
def Neutral (is : List Item) : Prop := ∀ st, inText st = false → itemsApi st is = some st

mutual
  /-- Items whose calls are all on the current stream (nested contexts included, recursively). -/
  def itemOK : Item → Prop
    | .onCur _ => True
    | .ctx c => ctxOK c
    | .call _ => False
    | .ctxOn _ _ => False
  def itemsOK : List Item → Prop
    | [] => True
    | i :: is => itemOK i ∧ itemsOK is
  def ctxOK : Ctx → Prop
    | .mk _ rcb pre cb inner post =>
      (itemsOK rcb ∧ itemsOK pre ∧ itemsOK cb ∧ itemsOK inner ∧ itemsOK post) ∧
      (Neutral rcb ∧ Neutral pre ∧ Neutral cb ∧ Neutral inner ∧ Neutral post)
end

theorem inText_cons_q (st : List Fr) : inText (.q :: st) = inText st := by simp [inText]
theorem inText_cons_M (st : List Fr) : inText (.M :: st) = inText st := by simp [inText]
theorem inText_cons_T (st : List Fr) : inText (.T :: st) = true := by simp [inText]

/-- Points 2–10 on the current stream. -/
theorem middle_eff (cur : Nat) (t : Transform) (clip : Bool) (pre cb inner post : List Item) (a : List Fr)
    (hnt : inText a = false)
    (hpre : StageEff (fun w => drawItems w cur pre) cur a a)
    (hcb : StageEff (fun w => drawItems w cur cb) cur (.q :: a) (.q :: a))
    (hinner : StageEff (fun w => drawItems w cur inner) cur (.q :: a) (.q :: a))
    (hpost : StageEff (fun w => drawItems w cur post) cur a a) :
    StageEff (fun w => transformStage cur t w |>> fun w => drawItems w cur pre |>> fun w => w.onCall cur .push |>>
      fun w => stageIf clip (fun w => drawItems w cur cb |>> clipEnd cur) w |>>
      fun w => drawItems w cur inner |>> fun w => w.onCall cur .pop |>> fun w => drawItems w cur post) cur a a := by
  have hq : inText (.q :: a) = false := by rw [inText_cons_q]; exact hnt
  exact StageEff.seq (transformStage_eff cur t a hnt)
    (StageEff.seq hpre
    (StageEff.seq (StageEff.call cur .push a (.q :: a) (by simp [apiStep, hnt]))
    (StageEff.seq (StageEff.stageIf clip (StageEff.seq hcb (clipEnd_eff cur _ hq)))
    (StageEff.seq hinner
    (StageEff.seq (StageEff.call cur .pop (.q :: a) a (by simp [apiStep])) hpost)))))

/-- `stacked`, `begin_marked_content`, viewport clip, clip rectangle. -/
theorem head_eff (orig : Nat) (p : CtxProps) (rcb : List Item) (st : List Fr) (hnt : inText st = false)
    (hrcb : StageEff (fun w => drawItems w orig rcb) orig (.M :: .q :: st) (.M :: .q :: st)) :
    StageEff (fun w => w.onCall orig .push |>> fun w => w.onCall orig (.beginMarked p.tag true none) |>>
      fun w => stageIf p.rootClip (fun w => drawItems w orig rcb |>> clipEnd orig) w |>>
      absClipStage orig p.absClip) orig st (.M :: .q :: st) := by
  have hm : inText (.M :: .q :: st) = false := by rw [inText_cons_M, inText_cons_q]; exact hnt
  exact StageEff.seq (StageEff.call orig .push st (.q :: st) (by simp [apiStep, hnt]))
    (StageEff.seq (StageEff.call orig _ (.q :: st) (.M :: .q :: st) (by simp [apiStep]))
    (StageEff.seq (StageEff.stageIf p.rootClip (StageEff.seq hrcb (clipEnd_eff orig _ hm)))
      (absClipStage_eff orig p.absClip _ hm)))


theorem stageIf_true (f : Stage) (w : World) : stageIf true f w = f w := rfl
theorem stageIf_false (f : Stage) (w : World) : stageIf false f w = .ok w := rfl
theorem stageIf_true' (f : Stage) : stageIf true f = f := rfl

/-- The `match` of `draw_stacking_context` on the transform, off the singular branch. -/
theorem Transform.match_regular {α} (t : Transform) (a : α) (b : Transform → α) :
    t ≠ .singular → (match t with | .singular => a | t => b t) = b t := by
  cases t <;> first | (intro; rfl) | exact fun ht => absurd rfl ht

theorem nextGroupKey_some {w : World} {h : Nat} {st : List Fr} (hs : StkAt w h st) :
    ∃ k, nextGroupKey w h = some k := by
  obtain ⟨s, hget, _, hres⟩ := hs
  unfold nextGroupKey
  rw [hget]
  simp only
  have : ∃ r, w.res[s.res]? = some r := ⟨w.res[s.res], by simp [hres]⟩
  obtain ⟨r, hr⟩ := this
  rw [hr]
  exact ⟨_, rfl⟩

/-- After the head: opacity group switch, transform or early return, points 2–10, drawing the group, closing. -/
theorem body_eff (w4 : World) (orig : Nat) (p : CtxProps) (pre cb inner post : List Item) (st : List Fr) (cur : Nat)
    (hcur : cur = if opacityLt1 p.opacity then w4.streams.length else orig) (hnt : inText st = false)
    (t4 : StkAt w4 orig (.M :: .q :: st))
    (hpre : ∀ c a, inText a = false → StageEff (fun w => drawItems w c pre) c a a)
    (hcb : ∀ c a, inText a = false → StageEff (fun w => drawItems w c cb) c a a)
    (hinner : ∀ c a, inText a = false → StageEff (fun w => drawItems w c inner) c a a)
    (hpost : ∀ c a, inText a = false → StageEff (fun w => drawItems w c post) c a a) :
    ∃ w', (stageIf (opacityLt1 p.opacity) (fun w => w.addGroup orig) w4 |>> fun w =>
      match p.transform with
      | .singular => finishCtx orig w
      | t =>
        (transformStage cur t w |>> fun w => drawItems w cur pre |>> fun w => w.onCall cur .push |>>
          fun w => stageIf p.clip (fun w => drawItems w cur cb |>> clipEnd cur) w |>>
          fun w => drawItems w cur inner |>> fun w => w.onCall cur .pop |>> fun w => drawItems w cur post) |>>
        stageIf (opacityLt1 p.opacity) (drawGroupOn orig p.opacity (nextGroupKey w4 orig)) |>>
        finishCtx orig) = .ok w' ∧ Eff w4 w' orig st := by
  subst hcur
  have hm : inText (.M :: .q :: st) = false := by rw [inText_cons_M, inText_cons_q]; exact hnt
  have hq0 : inText ([.q] : List Fr) = false := by simp [inText]
  have hnil : inText ([] : List Fr) = false := by simp [inText]
  have h4 : orig < w4.streams.length := t4.lt
  have hfin := finishCtx_eff orig st
  cases hop : opacityLt1 p.opacity
  · -- no opacity group: everything on `orig`
    simp only [stageIf_false, Bool.false_eq_true, if_false]
    rw [thenDo_ok _ _ w4 rfl]
    by_cases hsing : p.transform = .singular
    · rw [hsing]
      exact hfin w4 t4
    · rw [Transform.match_regular _ _ _ hsing]
      have hmid := middle_eff orig p.transform p.clip pre cb inner post _ hm (hpre orig _ hm)
        (hcb orig _ (by rw [inText_cons_q]; exact hm)) (hinner orig _ (by rw [inText_cons_q]; exact hm)) (hpost orig _ hm)
      exact (StageEff.seq (StageEff.seq hmid (StageEff.id orig _)) hfin) w4 t4
  · -- opacity < 1: points 2–10 go to a new group stream
    simp only [stageIf_true, stageIf_true', if_true]
    obtain ⟨k, hk⟩ := nextGroupKey_some t4
    obtain ⟨w5, hg, e5, hlen5⟩ := addGroup_eff w4 orig _ t4
    rw [thenDo_ok _ _ w5 hg, hk]
    have hgs : StkAt w5 w4.streams.length [] := e5.fresh _ (Nat.le_refl _) (by omega)
    by_cases hsing : p.transform = .singular
    · rw [hsing]
      obtain ⟨w', h1, e1⟩ := hfin w5 e5.target
      exact ⟨w', h1, Eff.trans h4 e5 e1⟩
    · rw [Transform.match_regular _ _ _ hsing]
      obtain ⟨w6, h6, e6⟩ := middle_eff w4.streams.length p.transform p.clip pre cb inner post [] hnil (hpre _ _ hnil)
        (hcb _ _ hq0) (hinner _ _ hq0) (hpost _ _ hnil) w5 hgs
      have e46 : Eff w4 w6 orig (.M :: .q :: st) :=
        Eff.trans_other h4 (Nat.le_refl _) (by omega) e5 e6
      obtain ⟨w', h1, e1⟩ := (StageEff.seq (drawGroupOn_eff orig p.opacity k _ hm) hfin) w6 e46.target
      refine ⟨w', ?_, Eff.trans h4 e46 e1⟩
      simp only [thenDo_ok _ _ w6 h6]
      exact h1


mutual
  /-- Delegated drawing on the current stream has its API-level effect and creates only balanced streams. -/
  theorem items_stage : ∀ (is : List Item), itemsOK is → ∀ (cur : Nat) (st st' : List Fr),
      itemsApi st is = some st' → StageEff (fun w => drawItems w cur is) cur st st'
    | [], _, cur, st, st', ha => by
      simp only [itemsApi, Option.some.injEq] at ha
      subst ha
      intro w hs
      exact ⟨w, by show drawItems w cur [] = .ok w; rw [drawItems], Eff.refl hs⟩
    | .onCur c :: is, hok, cur, st, st', ha => by
      simp only [itemsApi] at ha
      cases h1 : apiStep st c with
      | none => rw [h1] at ha; simp at ha
      | some stm =>
        rw [h1] at ha
        have ih := items_stage is hok.2 cur stm st' (by simpa using ha)
        have := StageEff.seq (StageEff.call cur c st stm h1) ih
        intro w hs
        obtain ⟨w', e1, f1⟩ := this w hs
        exact ⟨w', by show drawItems w cur (.onCur c :: is) = .ok w'; rw [drawItems, drawItem]; exact e1, f1⟩
    | .ctx c :: is, hok, cur, st, st', ha => by
      simp only [itemsApi] at ha
      cases hnt : inText st with
      | true => rw [hnt] at ha; simp at ha
      | false =>
        rw [hnt] at ha
        have ih := items_stage is hok.2 cur st st' (by simpa using ha)
        have hc := ctx_stage c hok.1 cur st hnt
        have := StageEff.seq hc ih
        intro w hs
        obtain ⟨w', e1, f1⟩ := this w hs
        exact ⟨w', by show drawItems w cur (.ctx c :: is) = .ok w'; rw [drawItems, drawItem]; exact e1, f1⟩
    | .call _ :: _, hok, _, _, _, _ => absurd hok.1 (by simp [itemOK])
    | .ctxOn _ _ :: _, hok, _, _, _, _ => absurd hok.1 (by simp [itemOK])

  /-- `draw_stacking_context(stream, ctx)` — outer `stacked`, marked content, viewport clip, clip rectangle, opacity group
  switch, regular transform or the singular-transform early return (the marked-content sequence is closed on the original
  stream), point 2, inner `stacked` with the overflow clip, points 3–9 with arbitrarily nested stacking contexts, outline,
  drawing the group, `end_marked_content` — called on a stream with API-level bracket stack `st` outside a text object,
  for every tree whose delegated drawing consists of calls on the current stream that leave it as they found it (`ctxOK`):
  does not raise; leaves that stream with exactly the stack `st` (so its emitted operators stay well bracketed); does not
  touch any other existing stream; every stream created meanwhile — one group stream per context with opacity < 1, at any
  depth — ends balanced.  Holds with and without `_mark`, for every combination of opacity, transform kind and clips. -/
  theorem ctx_stage : ∀ (c : Ctx), ctxOK c → ∀ (orig : Nat) (st : List Fr), inText st = false →
      StageEff (fun w => drawCtx w orig c) orig st st
    | .mk p rcb pre cb inner post, hok, orig, st, hnt => by
      obtain ⟨⟨o1, o2, o3, o4, o5⟩, n1, n2, n3, n4, n5⟩ := hok
      have hm : inText (.M :: .q :: st) = false := by rw [inText_cons_M, inText_cons_q]; exact hnt
      have hrcb := items_stage rcb o1 orig _ _ (n1 _ hm)
      have hpre : ∀ cur a, inText a = false → StageEff (fun w => drawItems w cur pre) cur a a :=
        fun cur a ha => items_stage pre o2 cur a a (n2 a ha)
      have hcb : ∀ cur a, inText a = false → StageEff (fun w => drawItems w cur cb) cur a a :=
        fun cur a ha => items_stage cb o3 cur a a (n3 a ha)
      have hinner : ∀ cur a, inText a = false → StageEff (fun w => drawItems w cur inner) cur a a :=
        fun cur a ha => items_stage inner o4 cur a a (n4 a ha)
      have hpost : ∀ cur a, inText a = false → StageEff (fun w => drawItems w cur post) cur a a :=
        fun cur a ha => items_stage post o5 cur a a (n5 a ha)
      intro w hs
      obtain ⟨w4, h4, e4⟩ := head_eff orig p rcb st hnt hrcb w hs
      obtain ⟨w', h', e'⟩ := body_eff w4 orig p pre cb inner post st _ rfl hnt e4.target hpre hcb hinner hpost
      refine ⟨w', ?_, Eff.trans hs.lt e4 e'⟩
      show drawCtx w orig (.mk p rcb pre cb inner post) = .ok w'
      rw [drawCtx, thenDo_ok _ _ w4 h4]
      exact h'
end

end Wp.Pdf
