/-
Helper lemmas for C18: `urllib.parse.unquote` undoes the percent-encoding of `iri_to_uri`
(UTF-8 bytes, `%XX`).  Core Lean only.
-/
import WpModel.Model.C18LinkAttr
import WpModel.Lemmas.C18PdfString
import WpModel.Lemmas.UriByte
import WpModel.Lemmas.Basic.Char

namespace Wp.C18
open Wp Wp.LinkAttr

theorem char_scalar (c : Char) : Scalar c.toNat := by
  unfold Scalar
  rcases c.valid with h | h
  · have : c.toNat < 55296 := h
    omega
  · have h1 : 57343 < c.toNat := h.1
    have h2 : c.toNat < 1114112 := h.2
    omega

/-- The UTF-8 encoding of a character is made of the base-64 digits of its scalar value `n` under a
length marker.  The range of `n` fixes the number of bytes and, for three and four bytes, the range of the
second one after the lead bytes `E0`, `ED` (no overlong form, no surrogate) and `F0`, `F4` (no overlong
form, at most U+10FFFF). -/
theorem utf8_shape (c : Char) :
    (c.toNat < 128 ∧ Wp.Res.utf8 c = [c.toNat]) ∨
    (∃ q r, 2 ≤ q ∧ q < 32 ∧ r < 64 ∧ c.toNat = q * 64 + r ∧ Wp.Res.utf8 c = [192 + q, 128 + r]) ∨
    (∃ p q r, p < 16 ∧ q < 64 ∧ r < 64 ∧ (p = 0 → 32 ≤ q) ∧ (p = 13 → q < 32) ∧
      c.toNat = p * 4096 + q * 64 + r ∧ Wp.Res.utf8 c = [224 + p, 128 + q, 128 + r]) ∨
    (∃ o p q r, o < 5 ∧ p < 64 ∧ q < 64 ∧ r < 64 ∧ (o = 0 → 16 ≤ p) ∧ (o = 4 → p < 16) ∧
      c.toNat = o * 262144 + p * 4096 + q * 64 + r ∧ Wp.Res.utf8 c = [240 + o, 128 + p, 128 + q, 128 + r]) := by
  obtain ⟨hmax, hsur⟩ := char_scalar c
  unfold Wp.Res.utf8
  simp only []
  generalize c.toNat = n at hmax hsur ⊢
  -- the digits get names, so that what is left for `omega` is linear
  have e0 := Nat.div_add_mod' n 64
  have e1 := Nat.div_add_mod' (n / 64) 64
  have e2 := Nat.div_add_mod' (n / 64 / 64) 64
  have r0 := Nat.mod_lt n (show 0 < 64 by decide)
  have r1 := Nat.mod_lt (n / 64) (show 0 < 64 by decide)
  have r2 := Nat.mod_lt (n / 64 / 64) (show 0 < 64 by decide)
  rw [show n / 4096 = n / 64 / 64 from (Nat.div_div_eq_div_mul n 64 64).symm,
    show n / 262144 = n / 64 / 64 / 64 by rw [Nat.div_div_eq_div_mul, Nat.div_div_eq_div_mul]]
  generalize n % 64 = d0 at e0 r0 ⊢
  generalize n / 64 % 64 = d1 at e1 r1 ⊢
  generalize n / 64 / 64 % 64 = d2 at e2 r2 ⊢
  generalize n / 64 / 64 / 64 = a3 at e2 ⊢
  generalize n / 64 / 64 = a2 at e1 e2 ⊢
  generalize n / 64 = a1 at e0 e1 ⊢
  by_cases h1 : n < 128
  · exact .inl ⟨h1, if_pos h1⟩
  · rw [if_neg h1]
    by_cases h2 : n < 2048
    · have g : 2 ≤ a1 ∧ a1 < 32 := by omega
      exact .inr (.inl ⟨a1, d0, g.1, g.2, r0, e0.symm, if_pos h2⟩)
    · rw [if_neg h2]
      by_cases h3 : n < 65536
      · have hn : n = a2 * 4096 + d1 * 64 + d0 := by rw [← e0, ← e1, Nat.add_mul, Nat.mul_assoc]
        have g : a2 < 16 ∧ (a2 = 0 → 32 ≤ d1) ∧ (a2 = 13 → d1 < 32) := by
          clear e0 e1 e2 r2 hmax h1  -- `omega` is slow on what it does not need
          omega
        exact .inr (.inr (.inl ⟨a2, d1, d0, g.1, r1, r0, g.2.1, g.2.2, hn, if_pos h3⟩))
      · have hn : n = a3 * 262144 + d2 * 4096 + d1 * 64 + d0 := by
          rw [← e0, ← e1, ← e2, Nat.add_mul, Nat.add_mul, Nat.add_mul, Nat.mul_assoc, Nat.mul_assoc, Nat.mul_assoc]
        have g : a3 < 5 ∧ (a3 = 0 → 16 ≤ d2) ∧ (a3 = 4 → d2 < 16) := by
          clear e0 e1 e2 hsur h1 h2
          omega
        exact .inr (.inr (.inr ⟨a3, d2, d1, d0, g.1, r2, r1, r0, g.2.1, g.2.2, hn, if_neg h3⟩))

theorem utf8Decode_one (b : Nat) (rest : List Nat) (h1 : b < 128) : utf8Decode (b :: rest) = b :: utf8Decode rest := by
  rw [utf8Decode.eq_def]
  simp only [if_pos h1]

theorem isCont_of (x : Nat) (h : x < 64) : isCont (128 + x) = true := by
  simp only [isCont, Bool.and_eq_true, decide_eq_true_eq]; omega

theorem second_ok (b c lo hi l u : Nat) (hlo : b = lo → l ≤ c) (hhi : b = hi → c < u) (hc : isCont c = true) :
    ((if b == lo then l else 128) ≤ c && c < (if b == hi then u else 192)) = true := by
  simp only [isCont, Bool.and_eq_true, decide_eq_true_eq] at hc
  simp only [Bool.and_eq_true, decide_eq_true_eq, beq_iff_eq]
  constructor
  · by_cases e : b = lo
    · rw [if_pos e]; exact hlo e
    · rw [if_neg e]; exact hc.1
  · by_cases e : b = hi
    · rw [if_pos e]; exact hhi e
    · rw [if_neg e]; exact hc.2

theorem utf8Decode_two (q r : Nat) (rest : List Nat) (hq : 2 ≤ q) (hq' : q < 32) (hr : r < 64) :
    utf8Decode ((192 + q) :: (128 + r) :: rest) = (q * 64 + r) :: utf8Decode rest := by
  have h : ¬ 192 + q < 128 ∧ ¬ 192 + q < 194 ∧ 192 + q < 224 := by omega
  rw [utf8Decode.eq_def]
  simp only [if_neg h.1, if_neg h.2.1, if_pos h.2.2, isCont_of r hr, if_true, Nat.add_sub_cancel_left]

theorem utf8Decode_three (p q r : Nat) (rest : List Nat) (hp : p < 16) (hq : q < 64) (hr : r < 64)
    (hlo : p = 0 → 32 ≤ q) (hhi : p = 13 → q < 32) :
    utf8Decode ((224 + p) :: (128 + q) :: (128 + r) :: rest) = (p * 4096 + q * 64 + r) :: utf8Decode rest := by
  have h : ¬ 224 + p < 128 ∧ ¬ 224 + p < 194 ∧ ¬ 224 + p < 224 ∧ 224 + p < 240 := by omega
  have hc := second_ok (224 + p) (128 + q) 224 237 160 160 (fun e => Nat.add_le_add_left (hlo (Nat.add_left_cancel (k := 0) e)) 128)
    (fun e => Nat.add_lt_add_left (hhi (Nat.add_left_cancel (k := 13) e)) 128) (isCont_of q hq)
  rw [utf8Decode.eq_def]
  simp only [if_neg h.1, if_neg h.2.1, if_neg h.2.2.1, if_pos h.2.2.2, hc, isCont_of r hr, if_true,
    Nat.add_sub_cancel_left]

theorem utf8Decode_four (o p q r : Nat) (rest : List Nat) (ho : o < 5) (hp : p < 64) (hq : q < 64) (hr : r < 64)
    (hlo : o = 0 → 16 ≤ p) (hhi : o = 4 → p < 16) :
    utf8Decode ((240 + o) :: (128 + p) :: (128 + q) :: (128 + r) :: rest) =
      (o * 262144 + p * 4096 + q * 64 + r) :: utf8Decode rest := by
  have h : ¬ 240 + o < 128 ∧ ¬ 240 + o < 194 ∧ ¬ 240 + o < 224 ∧ ¬ 240 + o < 240 ∧ 240 + o < 245 := by omega
  have hc := second_ok (240 + o) (128 + p) 240 244 144 144 (fun e => Nat.add_le_add_left (hlo (Nat.add_left_cancel (k := 0) e)) 128)
    (fun e => Nat.add_lt_add_left (hhi (Nat.add_left_cancel (k := 4) e)) 128) (isCont_of p hp)
  rw [utf8Decode.eq_def]
  simp only [if_neg h.1, if_neg h.2.1, if_neg h.2.2.1, if_neg h.2.2.2.1, if_pos h.2.2.2.2, hc, isCont_of q hq,
    isCont_of r hr, if_true, Nat.add_sub_cancel_left]

theorem utf8Decode_utf8 (c : Char) (rest : List Nat) :
    utf8Decode (Wp.Res.utf8 c ++ rest) = c.toNat :: utf8Decode rest := by
  rcases utf8_shape c with ⟨h, e⟩ | ⟨q, r, hq, hq', hr, hn, e⟩ | ⟨p, q, r, hp, hq, hr, hlo, hhi, hn, e⟩ |
    ⟨o, p, q, r, ho, hp, hq, hr, hlo, hhi, hn, e⟩
  · rw [e]; exact utf8Decode_one _ rest h
  · rw [e, hn]; exact utf8Decode_two q r rest hq hq' hr
  · rw [e, hn]; exact utf8Decode_three p q r rest hp hq hr hlo hhi
  · rw [e, hn]; exact utf8Decode_four o p q r rest ho hp hq hr hlo hhi

/-- `bytes.decode('utf-8')` of the UTF-8 encoding of a string is the string. -/
theorem utf8Decode_flatMap (s : List Char) : utf8Decode (s.flatMap Wp.Res.utf8) = s.map Char.toNat := by
  induction s with
  | nil => rw [List.flatMap_nil, utf8Decode.eq_def]; rfl
  | cons c rest ih => rw [List.flatMap_cons, utf8Decode_utf8, ih]; rfl

/-! ### `%XX` -/

theorem unquoteBytes_plain (c : Char) (rest : List Char) (hc : c ≠ '%') :
    unquoteBytes (c :: rest) = c.toNat :: unquoteBytes rest := by
  rw [unquoteBytes.eq_def]
  split
  · rename_i h; cases h
  · rename_i a b r h
    injection h with h1 h2
    exact absurd h1 hc
  · rename_i c' r' hne h
    injection h with h1 h2
    subst h1; subst h2; rfl

theorem hexVal_hexUpper : ∀ n, n < 16 → hexVal? (Wp.Res.hexUpper n) = some n := by decide +kernel

theorem unquoteBytes_pct (h l : Nat) (hh : h < 16) (hl : l < 16) (rest : List Char) :
    unquoteBytes ('%' :: Wp.Res.hexUpper h :: Wp.Res.hexUpper l :: rest) = (h * 16 + l) :: unquoteBytes rest := by
  rw [unquoteBytes.eq_def]
  simp only [hexVal_hexUpper h hh, hexVal_hexUpper l hl]

theorem unquoteBytes_quoteByte (b : Nat) (hb : b < 256) (h37 : b ≠ 37) (rest : List Char) :
    unquoteBytes (Wp.Res.quoteByte b ++ rest) = b :: unquoteBytes rest := by
  unfold Wp.Res.quoteByte
  by_cases hu : Wp.Res.isUriByte b = true
  · rw [if_pos hu]
    have hlt := Wp.Res.isUriByte_lt hu
    have hne : Char.ofNat b ≠ '%' := by
      intro e
      have := congrArg Char.toNat e
      rw [Char.toNat_ofNat_of_lt hlt] at this
      exact h37 this
    have := unquoteBytes_plain (Char.ofNat b) rest hne
    rw [show [Char.ofNat b] ++ rest = Char.ofNat b :: rest from rfl, this]
    rw [Char.toNat_ofNat_of_lt hlt]
  · rw [if_neg hu]
    have := unquoteBytes_pct (b / 16 % 16) (b % 16) (Nat.mod_lt _ (by decide)) (Nat.mod_lt _ (by decide)) rest
    rw [show ['%', Wp.Res.hexUpper (b / 16 % 16), Wp.Res.hexUpper (b % 16)] ++ rest =
      '%' :: Wp.Res.hexUpper (b / 16 % 16) :: Wp.Res.hexUpper (b % 16) :: rest from rfl, this]
    have e : b / 16 % 16 * 16 + b % 16 = b := by omega
    rw [e]

theorem unquoteBytes_flatMap (bs : List Nat) (h : ∀ b ∈ bs, b < 256 ∧ b ≠ 37) :
    unquoteBytes (bs.flatMap Wp.Res.quoteByte) = bs := by
  induction bs with
  | nil => rw [List.flatMap_nil, unquoteBytes.eq_def]
  | cons b rest ih =>
    rw [List.flatMap_cons, unquoteBytes_quoteByte b (h b (by simp)).1 (h b (by simp)).2,
      ih (fun x hx => h x (List.mem_cons_of_mem _ hx))]

theorem utf8_bytes (c : Char) (hc : c ≠ '%') : ∀ b ∈ Wp.Res.utf8 c, b < 256 ∧ b ≠ 37 := by
  have h37 : c.toNat ≠ 37 := by
    intro e
    apply hc
    rw [← Char.ofNat_toNat c, e]
  intro b hb
  rcases utf8_shape c with ⟨h, e⟩ | ⟨q, r, -, hq, hr, -, e⟩ | ⟨p, q, r, hp, hq, hr, -, -, -, e⟩ |
    ⟨o, p, q, r, ho, hp, hq, hr, -, -, -, e⟩
  all_goals
    rw [e] at hb
    simp only [List.mem_cons, List.not_mem_nil, or_false] at hb
    omega

theorem quoteByte_ascii (b : Nat) : ∀ ch ∈ Wp.Res.quoteByte b, ch.toNat < 128 :=
  fun ch h => Wp.Res.isUriByte_lt (Wp.Res.quoteByte_uri b ch h)

/-! ### `unquote` on an ASCII string -/

theorem plain_ascii (q : List Char) (hq : ∀ ch ∈ q, ch.toNat < 128) (hp : ∀ ch ∈ q, ch ≠ '%') :
    utf8Decode (unquoteBytes q) = q.map Char.toNat := by
  induction q with
  | nil => rw [unquoteBytes.eq_def, utf8Decode.eq_def]; rfl
  | cons c rest ih =>
    rw [unquoteBytes_plain c rest (hp c (by simp)), utf8Decode_one _ _ (hq c (by simp)),
      ih (fun x hx => hq x (List.mem_cons_of_mem _ hx)) (fun x hx => hp x (List.mem_cons_of_mem _ hx))]
    rfl

theorem map_ofNat_toNat (s : List Char) : (s.map Char.toNat).map Char.ofNat = s := by
  induction s with
  | nil => rfl
  | cons c rest ih => simp only [List.map_cons, Char.ofNat_toNat, ih]

theorem asciiRun_all (q : List Char) (hq : ∀ ch ∈ q, ch.toNat < 128) : asciiRun q = (q, []) := by
  unfold asciiRun
  induction q with
  | nil => rfl
  | cons c rest ih =>
    have hc : decide (c.toNat < 128) = true := by simpa using hq c (by simp)
    have := ih (fun x hx => hq x (List.mem_cons_of_mem _ hx))
    simp only [Prod.mk.injEq] at this
    simp only [List.takeWhile_cons, List.dropWhile_cons, hc, if_true, this.1, this.2]

theorem unquoteParts_nil (n : Nat) : unquoteParts n [] = [] := by
  cases n <;> rfl

/-- On a pure ASCII string `unquote` is: `%XX` → bytes, then UTF-8 decoding. -/
theorem unquote_ascii (q : List Char) (hq : ∀ ch ∈ q, ch.toNat < 128) :
    LinkAttr.unquote q = (utf8Decode (unquoteBytes q)).map Char.ofNat := by
  unfold LinkAttr.unquote
  by_cases hc : q.contains '%' = true
  · simp only [hc, Bool.not_true, Bool.false_eq_true, if_false]
    cases q with
    | nil => simp at hc
    | cons c rest =>
      have hlt : c.toNat < 128 := hq c (by simp)
      show unquoteParts ((c :: rest).length + 1) (c :: rest) = _
      unfold unquoteParts
      simp only [hlt, if_true, asciiRun_all (c :: rest) hq, unquoteParts_nil, List.append_nil]
  · have hc' : q.contains '%' = false := by simpa using hc
    simp only [hc', Bool.not_false, if_true]
    have hp : ∀ ch ∈ q, ch ≠ '%' := by
      intro ch hch e
      subst e
      have : q.contains '%' = true := List.contains_iff_mem.mpr hch
      rw [hc'] at this; cases this
    rw [plain_ascii q hq hp, map_ofNat_toNat]

end Wp.C18
