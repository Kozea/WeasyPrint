/-
Stacking of in-flow children in PM (C05): with non-negative margins, every placed child starts at or below
the bottom of the border box of the previous placed child that advanced the position (children that
collapse through are empty and do not advance it) — through nested blocks, the relayout with a larger bottom
space and `find_earlier_page_break`.
-/
import WpModel.Lemmas.Geometry

namespace Wp.PM
open Wp

def AllNN (l : List Rat) : Prop := ∀ m ∈ l, 0 ≤ m

theorem allNN_nil : AllNN [] := by intro m hm; cases hm

theorem allNN_snoc (a : List Rat) (m : Rat) (ha : AllNN a) (hm : 0 ≤ m) : AllNN (a ++ [m]) := by
  intro x hx
  rcases List.mem_append.mp hx with h | h
  · exact ha x h
  · rw [List.mem_singleton.mp h]; exact hm

mutual
/-- Every top and bottom margin of the subtree is non-negative. -/
def NonNegMargins : PBox → Prop
  | .para _ _ _ st => 0 ≤ st.mt ∧ 0 ≤ st.mb
  | .block _ st kids => (0 ≤ st.mt ∧ 0 ≤ st.mb) ∧ NonNegMarginsList kids
def NonNegMarginsList : List PBox → Prop
  | [] => True
  | b :: bs => NonNegMargins b ∧ NonNegMarginsList bs
end

theorem NonNegMargins.st : (box : PBox) → NonNegMargins box → 0 ≤ box.st.mt ∧ 0 ≤ box.st.mb
  | .para _ _ _ _ => by intro h; unfold NonNegMargins at h; exact h
  | .block _ _ _ => by intro h; unfold NonNegMargins at h; exact h.1

def Geo.borderBottom (g : Geo) : Rat := g.borderBoxY + g.borderHeight

/-- No line / no child. -/
def Frag.isEmpty : Frag → Bool
  | .para _ _ _ _ _ lines => lines.isEmpty
  | .block _ _ _ _ kids => kids.isEmpty

/-- Walking the placed children from the position `y`: each border box starts at or below the current
position; the position then becomes the bottom of that border box — or stays, for an empty child (one that
collapsed through). The walk ends at position `y'`. -/
def stackedTo : Rat → List Frag → Rat → Prop
  | y, [], y' => y' = y
  | y, f :: fs, y' => y ≤ f.geo.borderBoxY ∧
      (stackedTo f.geo.borderBottom fs y' ∨ (f.isEmpty = true ∧ stackedTo y fs y'))

/-- The same without the final position. -/
def stackedFrom : Rat → List Frag → Prop
  | _, [] => True
  | y, f :: fs => y ≤ f.geo.borderBoxY ∧
      (stackedFrom f.geo.borderBottom fs ∨ (f.isEmpty = true ∧ stackedFrom y fs))

theorem stackedTo_from : (fs : List Frag) → ∀ (y y' : Rat), stackedTo y fs y' → stackedFrom y fs
  | [] => by intro y y' _; trivial
  | f :: fs => by
    intro y y' h
    simp only [stackedTo] at h
    simp only [stackedFrom]
    refine ⟨h.1, ?_⟩
    rcases h.2 with h2 | h2
    · left; exact stackedTo_from fs _ _ h2
    · right; exact ⟨h2.1, stackedTo_from fs _ _ h2.2⟩

/-- In a stacked list, a child that is not empty ends at or above the top of the next one. -/
theorem stacked_adjacent : (fs : List Frag) → ∀ (y : Rat), stackedFrom y fs → ∀ (i : Nat) (f g : Frag),
    fs[i]? = some f → fs[i + 1]? = some g → f.isEmpty = true ∨ f.geo.borderBottom ≤ g.geo.borderBoxY
  | [] => by intro y _ i f g hf; simp at hf
  | x :: xs => by
    intro y h i f g hf hg
    simp only [stackedFrom] at h
    cases i with
    | zero =>
      simp only [List.getElem?_cons_zero, Option.some.injEq] at hf
      subst hf
      simp only [Nat.zero_add, List.getElem?_cons_succ] at hg
      cases xs with
      | nil => simp at hg
      | cons z zs =>
        simp only [List.getElem?_cons_zero, Option.some.injEq] at hg
        subst hg
        rcases h.2 with h2 | h2
        · right; simp only [stackedFrom] at h2; exact h2.1
        · left; exact h2.1
    | succ i =>
      simp only [List.getElem?_cons_succ] at hf hg
      rcases h.2 with h2 | h2
      · exact stacked_adjacent xs _ h2 i f g hf hg
      · exact stacked_adjacent xs _ h2.2 i f g hf hg

/-- Appending a placed child: the position moves to the bottom of its border box, or stays if it is empty. -/
theorem stackedTo_snoc : (fs : List Frag) → ∀ (y p p' : Rat) (f : Frag), stackedTo y fs p →
    p ≤ f.geo.borderBoxY → (p' = f.geo.borderBottom ∨ (f.isEmpty = true ∧ p' = p)) →
    stackedTo y (fs ++ [f]) p'
  | [] => by
    intro y p p' f h hp hp'
    simp only [stackedTo] at h
    subst h
    simp only [List.nil_append, stackedTo]
    exact ⟨hp, hp'⟩
  | x :: xs => by
    intro y p p' f h hp hp'
    simp only [stackedTo] at h
    simp only [List.cons_append, stackedTo]
    refine ⟨h.1, ?_⟩
    rcases h.2 with h2 | h2
    · left; exact stackedTo_snoc xs _ _ _ f h2 hp hp'
    · right; exact ⟨h2.1, stackedTo_snoc xs _ _ _ f h2.2 hp hp'⟩

mutual
/-- The children of every block fragment of the tree are stacked. -/
def FragStacked : Frag → Prop
  | .para _ _ _ _ _ _ => True
  | .block _ _ _ _ kids => (∃ y, stackedFrom y kids) ∧ KidsStacked kids
def KidsStacked : List Frag → Prop
  | [] => True
  | f :: fs => FragStacked f ∧ KidsStacked fs
end

theorem kidsStacked_snoc (fs : List Frag) (f : Frag) (h : KidsStacked fs) (hf : FragStacked f) :
    KidsStacked (fs ++ [f]) := by
  induction fs with
  | nil => simp only [List.nil_append, KidsStacked]; exact ⟨hf, trivial⟩
  | cons x xs ih =>
    simp only [KidsStacked] at h
    simp only [List.cons_append, KidsStacked]
    exact ⟨h.1, ih h.2⟩

@[simp] theorem geo_withIdx (f : Frag) (i : Nat) : (f.withIdx i).geo = f.geo := by cases f <;> rfl
@[simp] theorem isEmpty_withIdx (f : Frag) (i : Nat) : (f.withIdx i).isEmpty = f.isEmpty := by cases f <;> rfl
theorem fragStacked_withIdx (f : Frag) (i : Nat) (h : FragStacked f) : FragStacked (f.withIdx i) := by
  cases f <;> simp_all [Frag.withIdx, FragStacked]

/-! ### `find_earlier_page_break` keeps the stacking -/

/-- `find_earlier_page_break` keeps the top of the border box of the paragraph it cuts. -/
theorem findEarlierPara_geo (id idx : Nat) (st : PStyle) (n : Nat) (g : Geo) (lines : List (Nat × Rat))
    (x' : Frag) (r : Resume) (h : findEarlierPara id idx st n g lines = some (x', r)) :
    x'.geo.borderBoxY = g.borderBoxY ∧ FragStacked x' := by
  obtain ⟨_, _, _, rfl, _⟩ := findEarlierPara_take h
  exact ⟨rfl, by simp [FragStacked]⟩

mutual
theorem findEarlierGo_stacked : (fs : List Frag) → ∀ (kept : List Frag) (r : Resume),
    (findEarlierGo fs).found = some (kept, r) → KidsStacked fs →
    KidsStacked kept ∧ ∀ y, stackedFrom y fs → stackedFrom y kept
  | [] => by
    intro kept r h
    simp [findEarlierGo] at h
  | x :: xs => by
    intro kept r h hk
    simp only [KidsStacked] at hk
    -- a list that keeps the top of the border box of its first child is stacked from wherever the whole list was
    have head : ∀ x' : Frag, x'.geo.borderBoxY = x.geo.borderBoxY → ∀ y, stackedFrom y (x :: xs) → stackedFrom y [x'] :=
      fun x' hg y hy => by
        simp only [stackedFrom] at hy ⊢
        rw [hg]
        exact ⟨hy.1, Or.inl trivial⟩
    rcases findEarlierGo_cons x xs with ⟨kept0, r0, hfound, e⟩ | ⟨_, ⟨p, _, _, e⟩ | ⟨_, _, ⟨x', r1, _, hfe, e⟩ | ⟨_, e⟩⟩⟩
    · obtain ⟨rfl, rfl⟩ : x :: kept0 = kept ∧ r0 = r := by simpa using e.symm.trans h
      obtain ⟨ih1, ih2⟩ := findEarlierGo_stacked xs kept0 r0 hfound hk.2
      refine ⟨by simp only [KidsStacked]; exact ⟨hk.1, ih1⟩, ?_⟩
      intro y hy
      simp only [stackedFrom] at hy ⊢
      refine ⟨hy.1, ?_⟩
      rcases hy.2 with h2 | h2
      · left; exact ih2 _ h2
      · right; exact ⟨h2.1, ih2 _ h2.2⟩
    · obtain ⟨rfl, _⟩ : [x] = kept ∧ _ := by simpa using e.symm.trans h
      exact ⟨by simp only [KidsStacked]; exact ⟨hk.1, trivial⟩, head x rfl⟩
    · obtain ⟨rfl, _⟩ : [x'.cutEnd] = kept ∧ _ := by simpa using e.symm.trans h
      obtain ⟨hgeo, hst⟩ := findEarlierFrag_stacked x x' r1 hfe hk.1
      -- the kept box is `x'.cutEnd` (/repo 24ce8bf): `x'` without its bottom decoration — same top of the
      -- border box, same children
      have hst' : FragStacked x'.cutEnd := by
        cases x' <;> exact hst
      have hgeo' : x'.cutEnd.geo.borderBoxY = x.geo.borderBoxY := by
        rw [← hgeo]
        cases x' <;> simp only [Frag.cutEnd, Frag.geo, Geo.cutBottom, Geo.borderBoxY] <;> split <;> rfl
      exact ⟨by simp only [KidsStacked]; exact ⟨hst', trivial⟩, head _ hgeo'⟩
    · rw [e] at h; cases h
theorem findEarlierFrag_stacked : (x : Frag) → ∀ (x' : Frag) (r : Resume), findEarlierFrag x = some (x', r) →
    FragStacked x → x'.geo.borderBoxY = x.geo.borderBoxY ∧ FragStacked x'
  | .para id idx st n g lines => by
    intro x' r h _
    simp only [findEarlierFrag] at h
    exact findEarlierPara_geo id idx st n g lines x' r h
  | .block id idx st g kids => by
    intro x' r h hx
    simp only [FragStacked] at hx
    simp only [findEarlierFrag] at h
    split at h
    · rename_i kids' r0 hfound
      simp only [Option.some.injEq, Prod.mk.injEq] at h
      obtain ⟨rfl, rfl⟩ := h
      obtain ⟨h1, h2⟩ := findEarlierGo_stacked kids kids' r0 hfound hx.2
      obtain ⟨y, hy⟩ := hx.1
      exact ⟨rfl, by simp only [FragStacked]; exact ⟨⟨y, h2 y hy⟩, h1⟩⟩
    · cases h
end

/-! ### the margins that `prepare`, `finishTail`, `finishContainer` and the loop steps hand on -/

theorem prepare_mt_cases (c : Ctx) (st : PStyle) (y bs : Rat) (skip : Option Resume) (cb pie : Bool)
    (adjL : List Rat) :
    (prepare c st y bs skip cb pie adjL).b.mt = st.mt ∨ (prepare c st y bs skip cb pie adjL).b.mt = 0 :=
  -- `iteInduction` on whole records: splitting the unfolded function would split every conditional in it
  have hb := iteInduction (motive := fun b : BoxSt => b.mt = st.mt ∨ b.mt = 0) (fun _ => Or.inr rfl)
    (fun _ => iteInduction (motive := fun m : Rat => m = st.mt ∨ m = 0) (fun _ => Or.inr rfl) (fun _ => Or.inl rfl))
  iteInduction (motive := fun p : Prep => p.b.mt = st.mt ∨ p.b.mt = 0) (fun _ => hb) (fun _ => hb)

theorem prepare_cur (c : Ctx) (st : PStyle) (y bs : Rat) (skip : Option Resume) (cb pie : Bool)
    (adjL : List Rat) :
    (prepare c st y bs skip cb pie adjL).cur = (prepare c st y bs skip cb pie adjL).adjL ∨
    (prepare c st y bs skip cb pie adjL).cur = [] :=
  iteInduction (motive := fun p : Prep => p.cur = p.adjL ∨ p.cur = []) (fun _ => Or.inl rfl) (fun _ => Or.inr rfl)

theorem prepare_allNN (c : Ctx) (st : PStyle) (y bs : Rat) (skip : Option Resume) (cb pie : Bool)
    (adjL : List Rat) (hadj : AllNN adjL) (hmt : 0 ≤ st.mt) :
    AllNN (prepare c st y bs skip cb pie adjL).adjL ∧ AllNN (prepare c st y bs skip cb pie adjL).cur := by
  have h1 : AllNN (prepare c st y bs skip cb pie adjL).adjL := by
    rw [prepare_adjL]
    apply allNN_snoc _ _ hadj
    rcases prepare_mt_cases c st y bs skip cb pie adjL with h | h <;> rw [h]
    · exact hmt
    · exact Rat.le_refl
  refine ⟨h1, ?_⟩
  rcases prepare_cur c st y bs skip cb pie adjL with h | h <;> rw [h]
  · exact h1
  · exact allNN_nil

/-- The returned `adjoining_margins`: the loop's list (the shared object when it was one), or a new empty list. -/
theorem finishTail_adj (c : Ctx) (st : PStyle) (b : BoxSt) (bs : Rat)
    (cwc dbd : Bool) (resume : Option Resume) (posY : Rat) (adjL cur : List Rat) (curIsL hasKids : Bool) :
    (finishTail c st b bs cwc dbd resume posY adjL cur curIsL hasKids).adj =
      (if curIsL then .alias else .fresh cur) ∨
    (finishTail c st b bs cwc dbd resume posY adjL cur curIsL hasKids).adj = .fresh [] := by
  unfold finishTail
  generalize (if cwc = true then ({ b with y := b.y + collapseMargin adjL - b.mt } : BoxSt) else b) = b'
  dsimp only
  by_cases h2 : (decide (b'.bb ≠ 0) || decide (b'.pb ≠ 0) || st.isRoot) = true
  · simp only [h2, if_true]
    exact Or.inr rfl
  · simp only [h2, Bool.false_eq_true, if_false]
    cases hasKids <;> simp only [Bool.not_false, Bool.not_true, Bool.false_eq_true, if_true, if_false]
    · split
      · exact Or.inl rfl
      · exact Or.inr rfl
    · split
      · exact Or.inr rfl
      · exact Or.inl rfl

theorem finishTail_mb (c : Ctx) (st : PStyle) (b : BoxSt) (bs : Rat)
    (cwc dbd : Bool) (resume : Option Resume) (posY : Rat) (adjL cur : List Rat) (curIsL hasKids : Bool) :
    (finishTail c st b bs cwc dbd resume posY adjL cur curIsL hasKids).geo.mb = b.mb ∨
    (finishTail c st b bs cwc dbd resume posY adjL cur curIsL hasKids).geo.mb = 0 := by
  rw [finishTail_geo]
  dsimp only [geoOf]
  split
  · exact Or.inr rfl
  · exact Or.inl rfl

theorem finishTail_through (c : Ctx) (st : PStyle) (b : BoxSt) (bs : Rat)
    (cwc dbd : Bool) (resume : Option Resume) (posY : Rat) (adjL cur : List Rat) (curIsL hasKids : Bool)
    (h : (finishTail c st b bs cwc dbd resume posY adjL cur curIsL hasKids).through = true) :
    hasKids = false := by
  rw [finishTail_through_eq] at h
  cases hasKids
  · rfl
  · cases h

/-- What `finishContainer` returns besides the fragment. -/
theorem finishContainer_post (c : Ctx) (st : PStyle) (b : BoxSt) (isStart pie : Bool) (bs : Rat)
    (cwc dbd : Bool) (resume : Option Resume) (posY : Rat) (adjL cur : List Rat) (curIsL : Bool)
    (np : NextPage) (hasKids : Bool) (pageEnd : String) (mk : Geo → Frag) :
    let res := finishContainer c st b isStart pie bs cwc dbd resume posY adjL cur curIsL np hasKids pageEnd mk
    (∀ l, res.adj = .fresh l → l = cur ∨ l = []) ∧
    (∀ f, res.frag = some f →
      f = mk (finishTail c st b bs cwc dbd resume posY adjL cur curIsL hasKids).geo ∧
      (res.collapsingThrough = true → hasKids = false)) := by
  dsimp only
  constructor
  · intro l h
    unfold finishContainer at h
    split at h
    · simp only [AdjOut.fresh.injEq] at h; right; exact h.symm
    · rcases finishTail_adj c st b bs cwc dbd resume posY adjL cur curIsL hasKids with e | e
      · have h := e.symm.trans h
        split at h
        · cases h
        · exact Or.inl (AdjOut.fresh.inj h).symm
      · exact Or.inr (AdjOut.fresh.inj (e.symm.trans h)).symm
  · intro f h
    obtain ⟨h1, _, h3⟩ := finishContainer_geo h
    refine ⟨h1, ?_⟩
    intro ht
    rw [h3] at ht
    exact finishTail_through _ _ _ _ _ _ _ _ _ _ _ _ ht

theorem setCur_allNN (s : KidsLoop) (l : List Rat) (isL : Bool) (hl : AllNN l) (ha : AllNN s.adjL) :
    AllNN (s.setCur l isL).cur ∧ AllNN (s.setCur l isL).adjL := by
  unfold KidsLoop.setCur
  split
  · exact ⟨hl, hl⟩
  · exact ⟨hl, ha⟩

theorem appendCur_allNN (s : KidsLoop) (m : Rat) (hm : 0 ≤ m) (hc : AllNN s.cur) (ha : AllNN s.adjL) :
    AllNN (s.appendCur m).cur ∧ AllNN (s.appendCur m).adjL := by
  unfold KidsLoop.appendCur
  split
  · exact ⟨allNN_snoc _ _ hc hm, allNN_snoc _ _ hc hm⟩
  · exact ⟨allNN_snoc _ _ hc hm, ha⟩

theorem adoptAdj_allNN (s : KidsLoop) (had : Bool) (adj : AdjOut) (frag : Option Frag)
    (hc : AllNN s.cur) (ha : AllNN s.adjL) (hadj : ∀ l, adj = .fresh l → AllNN l)
    (hf : ∀ f, frag = some f → 0 ≤ f.geo.mb) :
    AllNN (s.adoptAdj had adj frag).cur ∧ AllNN (s.adoptAdj had adj frag).adjL := by
  unfold KidsLoop.adoptAdj
  split
  · exact ⟨hc, ha⟩
  · cases adj with
    | alias =>
      cases frag with
      | none => exact ⟨hc, ha⟩
      | some f => exact appendCur_allNN _ _ (hf f rfl) hc ha
    | fresh l =>
      have h1 := setCur_allNN s l false (hadj l rfl) ha
      cases frag with
      | none => exact h1
      | some f => exact appendCur_allNN _ _ (hf f rfl) h1.1 h1.2


/-! ### the invariant through the children loop -/

/-- Loop invariant: the children placed so far are stacked from `y0` up to the current position, and the
margin lists only hold non-negative margins. -/
def KInv (y0 : Rat) (s : KidsLoop) : Prop :=
  stackedTo y0 s.newChildren s.posY ∧ KidsStacked s.newChildren ∧ AllNN s.cur ∧ AllNN s.adjL

/-- What the children loop returns.  The margins collected after the last child matter only when the loop ran to
the end: for a loop that stopped or aborted `finishBlock` hands on none of them. -/
def KPost (y0 : Rat) (out : KidsOutcome) : Prop :=
  stackedFrom y0 out.state.newChildren ∧ KidsStacked out.state.newChildren ∧ AllNN out.state.adjL ∧
  (∀ s', out = .finished s' → AllNN s'.cur)

/-- What `layoutBox` guarantees under non-negative margins. -/
def BoxStackPost (y : Rat) (res : LayoutResult) : Prop :=
  AllNN res.adjL ∧ (∀ l, res.adj = .fresh l → AllNN l) ∧
  ∀ f, res.frag = some f → 0 ≤ f.geo.mb ∧ y ≤ f.geo.borderBoxY ∧ FragStacked f ∧
    (res.collapsingThrough = true → f.isEmpty = true)

/-- The part of `BoxStackPost` that does not depend on the position handed by the parent. -/
def BoxStackPost' (res : LayoutResult) : Prop :=
  AllNN res.adjL ∧ (∀ l, res.adj = .fresh l → AllNN l) ∧
  ∀ f, res.frag = some f → 0 ≤ f.geo.mb ∧ FragStacked f ∧ (res.collapsingThrough = true → f.isEmpty = true)

theorem concludeKid_stack (y0 posY0 : Rat) (index : Nat) (pie : Bool) (pb : Brk) (child : PBox) (s : KidsLoop)
    (frag : Option Frag) (resume : Option Resume)
    (hst : stackedTo y0 s.newChildren posY0) (hks : KidsStacked s.newChildren)
    (hcur : AllNN s.cur) (hadj : AllNN s.adjL)
    (hf : ∀ f, frag = some f → FragStacked f ∧ posY0 ≤ f.geo.borderBoxY ∧
      (s.posY = f.geo.borderBottom ∨ (f.isEmpty = true ∧ s.posY = posY0)))
    (k : KidsLoop → KidsOutcome) (hk : ∀ s3, KInv y0 s3 → KPost y0 (k s3)) :
    KPost y0 (match concludeKid index pie pb child s frag resume with
      | (some out, _) => out
      | (none, s3) => k s3) := by
  -- a kept fragment goes below the children placed so far
  have placed : ∀ f, frag = some f → stackedTo y0 (s.newChildren ++ [f.withIdx index]) s.posY ∧
      KidsStacked (s.newChildren ++ [f.withIdx index]) := fun f hfr =>
    let ⟨hfs, hle, hpos⟩ := hf f hfr
    ⟨stackedTo_snoc s.newChildren y0 posY0 s.posY (f.withIdx index) hst (by simpa using hle) (by simpa using hpos),
      kidsStacked_snoc _ _ hks (fragStacked_withIdx f index hfs)⟩
  split
  · rename_i out s3 h
    rcases concludeKid_stops h with
      ⟨_, ⟨kept, r', hfound, rfl⟩ | rfl | ⟨_, rfl⟩⟩ | ⟨f, r', hfr, _, rfl⟩
    · obtain ⟨h1, h2⟩ := findEarlierGo_stacked _ _ _ hfound hks
      exact ⟨h2 _ (stackedTo_from _ _ _ hst), h1, hadj, by intro _ h; cases h⟩
    · exact ⟨stackedTo_from _ _ _ hst, hks, hadj, by intro _ h; cases h⟩
    · exact ⟨stackedTo_from _ _ _ hst, hks, hadj, by intro _ h; cases h⟩
    · exact ⟨stackedTo_from _ _ _ (placed f hfr).1, (placed f hfr).2, hadj, by intro _ h; cases h⟩
  · rename_i s3 h
    obtain ⟨f, hfr, _, rfl⟩ := conclude_continue h
    exact hk _ ⟨(placed f hfr).1, (placed f hfr).2, hcur, hadj⟩


theorem finishContainer_stackpost (c : Ctx) (st : PStyle) (b : BoxSt) (isStart pie : Bool) (bs : Rat)
    (cwc dbd : Bool) (resume : Option Resume) (posY : Rat) (adjL cur : List Rat) (curIsL : Bool)
    (np : NextPage) (hasKids : Bool) (pageEnd : String) (mk : Geo → Frag)
    (hadj : AllNN adjL) (hcur : AllNN cur) (hmb : 0 ≤ b.mb)
    (hmk : ∀ g, (mk g).geo = g ∧ FragStacked (mk g) ∧ (hasKids = false → (mk g).isEmpty = true)) :
    BoxStackPost' (finishContainer c st b isStart pie bs cwc dbd resume posY adjL cur curIsL np hasKids pageEnd mk) := by
  obtain ⟨h1, h2⟩ := finishContainer_post c st b isStart pie bs cwc dbd resume posY adjL cur curIsL np hasKids pageEnd mk
  refine ⟨by rw [finishContainer_adjL]; exact hadj, ?_, ?_⟩
  · intro l hl
    rcases h1 l hl with rfl | rfl
    · exact hcur
    · exact allNN_nil
  · intro f hf
    obtain ⟨hfe, hth⟩ := h2 f hf
    obtain ⟨hg, hs, he⟩ := hmk (finishTail c st b bs cwc dbd resume posY adjL cur curIsL hasKids).geo
    rw [hfe]
    refine ⟨?_, hs, fun ht => he (hth ht)⟩
    rw [hg]
    rcases finishTail_mb c st b bs cwc dbd resume posY adjL cur curIsL hasKids with h | h <;> rw [h]
    · exact hmb
    · exact Rat.le_refl

theorem abortResult_stackpost (page : Option String) {adjL : List Rat} (h : AllNN adjL) :
    BoxStackPost' (abortResult page adjL) :=
  ⟨h, by intro l hl; simp only [abortResult, AdjOut.fresh.injEq] at hl; rw [← hl]; exact allNN_nil,
    by intro f hf; cases hf⟩

theorem finishBlock_stackpost (c : Ctx) (st : PStyle) (p : Prep) (pie : Bool) (id idx : Nat) (out : KidsOutcome)
    (y0 : Rat) (hout : KPost y0 out) (hmb : 0 ≤ p.b.mb) : BoxStackPost' (finishBlock c st p pie id idx out) := by
  obtain ⟨h1, h2, h3, h4⟩ := hout
  have hmk : ∀ g, (Frag.block id idx st g out.state.newChildren).geo = g ∧
      FragStacked (.block id idx st g out.state.newChildren) ∧
      ((!out.state.newChildren.isEmpty) = false → (Frag.block id idx st g out.state.newChildren).isEmpty = true) :=
    fun g => ⟨rfl, by simp only [FragStacked]; exact ⟨⟨y0, h1⟩, h2⟩, fun he => by simpa [Frag.isEmpty] using he⟩
  cases out with
  | aborted page s =>
    exact abortResult_stackpost _ h3
  | stopped resume s => exact finishContainer_stackpost _ _ _ _ _ _ _ _ _ _ _ _ _ _ _ _ _ h3 allNN_nil hmb hmk
  | finished s => exact finishContainer_stackpost _ _ _ _ _ _ _ _ _ _ _ _ _ _ _ _ _ h3 (h4 s rfl) hmb hmk

theorem finishPara_stackpost (c : Ctx) (st : PStyle) (p : Prep) (pie : Bool) (id idx n : Nat) (r : LineResult)
    (hadj : AllNN p.adjL) (hmb : 0 ≤ p.b.mb) : BoxStackPost' (finishPara c st p pie id idx n r) := by
  unfold finishPara
  dsimp only
  split
  · exact abortResult_stackpost _ hadj
  · refine finishContainer_stackpost _ _ _ _ _ _ _ _ _ _ _ _ _ _ _ _ _ hadj allNN_nil ?_ ?_
    · exact hmb
    · intro g
      refine ⟨rfl, by simp [FragStacked], ?_⟩
      intro he; simpa [Frag.isEmpty] using he

/-- From the position-independent part to `BoxStackPost`: the border box starts at or below the position handed
by the parent. -/
theorem boxStackPost_of (c : Ctx) (box : PBox) (idx : Nat) (y bs : Rat) (skip : Option Resume)
    (cb pie : Bool) (adjL : List Rat) (hn : 0 ≤ box.st.mt)
    (h : BoxStackPost' (layoutBox c box idx y bs skip cb pie adjL)) :
    BoxStackPost y (layoutBox c box idx y bs skip cb pie adjL) := by
  obtain ⟨h1, h2, h3⟩ := h
  refine ⟨h1, h2, ?_⟩
  intro f hf
  obtain ⟨ha, hb, hc⟩ := h3 f hf
  refine ⟨ha, ?_, hb, hc⟩
  obtain ⟨htop, hmt⟩ := layoutBox_border_top c box idx y bs skip cb pie adjL f hf
  have hcm := collapseMargin_nonneg _ h1
  rw [htop]
  split
  · grind
  · rcases hmt with hmt | ⟨_, ⟨id, n, lh, st, rfl⟩, hmt⟩
    · rw [hmt]; grind
    · -- a translated first line: the removed top margin is one of the collapsed margins
      rw [hmt]
      rw [layoutBox_adjL_frozen c _ idx y bs skip cb pie adjL (Bool.eq_false_iff.mpr ‹_›)] at hcm h1 ⊢
      have hmem : (prepare c st y bs skip cb pie adjL).b.mt ∈ (prepare c st y bs skip cb pie adjL).adjL := by
        rw [prepare_adjL]; simp
      have := maxPos_ge _ _ hmem
      rw [collapseMargin_of_nonneg _ h1]
      simp only [PBox.st]
      grind


mutual
theorem box_stack : (box : PBox) → NonNegMargins box → ∀ (c : Ctx) (idx : Nat) (y bs : Rat)
    (skip : Option Resume) (cb pie : Bool) (adjL : List Rat), AllNN adjL →
    BoxStackPost y (layoutBox c box idx y bs skip cb pie adjL)
  | .para id n lineH st => by
    intro hn c idx y bs skip cb pie adjL hadj
    unfold NonNegMargins at hn
    apply boxStackPost_of c (.para id n lineH st) idx y bs skip cb pie adjL hn.1
    simp only [layoutBox]
    apply finishPara_stackpost
    · exact (prepare_allNN c st y bs skip cb pie adjL hadj hn.1).1
    · rw [prepare_mb]; exact hn.2
  | .block id st kids => by
    intro hn c idx y bs skip cb pie adjL hadj
    unfold NonNegMargins at hn
    apply boxStackPost_of c (.block id st kids) idx y bs skip cb pie adjL hn.1.1
    simp only [layoutBox]
    apply finishBlock_stackpost _ _ _ _ _ _ _ (prepare c st y bs skip cb pie adjL).posY
    · apply kids_stack kids hn.2
      obtain ⟨h1, h2⟩ := prepare_allNN c st y bs skip cb pie adjL hadj hn.1.1
      exact ⟨by simp [stackedTo], by simp [KidsStacked], h2, h1⟩
    · rw [prepare_mb]; exact hn.1.2
theorem kids_stack : (rest : List PBox) → NonNegMarginsList rest → ∀ (c : Ctx) (st : PStyle) (y0 : Rat)
    (index skipIdx : Nat) (bs : Rat) (pie : Bool) (s : KidsLoop), KInv y0 s →
    KPost y0 (layoutKids c st rest index skipIdx bs pie s)
  | [] => by
    intro _ c st y0 index skipIdx bs pie s hinv
    obtain ⟨h1, h2, h3, h4⟩ := hinv
    simp only [layoutKids, KPost, KidsOutcome.state]
    exact ⟨stackedTo_from _ _ _ h1, h2, h4, by intro s' hs'; cases hs'; exact h3⟩
  | child :: rest => by
    intro hn c st y0 index skipIdx bs pie s hinv
    unfold NonNegMarginsList at hn
    obtain ⟨h1, h2, h3, h4⟩ := hinv
    unfold layoutKids
    split
    · exact kids_stack rest hn.2 c st y0 _ _ _ _ s ⟨h1, h2, h3, h4⟩
    · dsimp only
      split
      · exact ⟨stackedTo_from _ _ _ h1, h2, h4, by intro s' hs'; cases hs'⟩
      · have hr := box_stack child hn.1 c index s.posY bs s.skip st.isRoot (pie && s.newChildren.isEmpty) s.cur h3
        -- `r`: the first layout of the child
        generalize layoutBox c child index s.posY bs s.skip st.isRoot (pie && s.newChildren.isEmpty) s.cur = r at hr ⊢
        obtain ⟨hr1, hr2, hr3⟩ := hr
        have hs1 := setCur_allNN s r.adjL s.curIsL hr1 h4
        split
        · -- first pass kept (or discarded) the child
          rename_i frag posY hfp
          have hfrag : ∀ f, frag = some f → FragStacked f ∧ s.posY ≤ f.geo.borderBoxY ∧
              (posY = f.geo.borderBottom ∨ (f.isEmpty = true ∧ posY = s.posY)) := by
            intro f hf
            rcases firstPass_posY _ _ _ _ _ _ _ hfp with ⟨hnone, _⟩ | ⟨f', hf', hrf, hcase⟩
            · rw [hnone] at hf; cases hf
            · rw [hf'] at hf
              simp only [Option.some.injEq] at hf
              subst hf
              obtain ⟨_, hb, hc, hd⟩ := hr3 f' hrf
              refine ⟨hc, hb, ?_⟩
              rcases hcase with ⟨ht, hp⟩ | ⟨_, hp⟩
              · right; exact ⟨hd ht, hp⟩
              · left; exact hp
          have hmb : ∀ f, frag = some f → 0 ≤ f.geo.mb := by
            intro f hf
            rcases firstPass_keep hfp with h | h
            · rw [h] at hf; cases hf
            · rw [h] at hf; exact (hr3 f hf).1
          have hs2 := adoptAdj_allNN _ r.frag.isSome _ frag hs1.1 hs1.2 hr2 hmb
          refine concludeKid_stack y0 s.posY index pie _ child _ frag _ ?_ ?_ ?_ ?_ ?_ _ ?_
          · simpa using h1
          · simpa using h2
          · exact hs2.1
          · exact hs2.2
          · exact hfrag
          · exact fun s3 => kids_stack rest hn.2 c st y0 _ _ _ _ s3
        · -- second layout with a larger bottom space
          rename_i bs' hfp
          have hr' := box_stack child hn.1 c index s.posY bs' s.skip st.isRoot (pie && s.newChildren.isEmpty)
            (s.setCur r.adjL s.curIsL).cur hs1.1
          obtain ⟨hq1, hq2, hq3⟩ := hr'
          have hs1' := setCur_allNN _ _ (s.setCur r.adjL s.curIsL).curIsL hq1 hs1.2
          have hs2 := adoptAdj_allNN _ true _ _ hs1'.1 hs1'.2 hq2 (fun f hf => (hq3 f hf).1)
          refine concludeKid_stack y0 s.posY index pie _ child _ _ _ ?_ ?_ ?_ ?_ ?_ _ ?_
          · simpa using h1
          · simpa using h2
          · exact hs2.1
          · exact hs2.2
          · intro f hf
            obtain ⟨_, hb, hc, _⟩ := hq3 f hf
            refine ⟨hc, hb, Or.inl ?_⟩
            simp only [hf]; rfl
          · exact fun s3 => kids_stack rest hn.2 c st y0 _ _ _ _ s3
end

end Wp.PM
