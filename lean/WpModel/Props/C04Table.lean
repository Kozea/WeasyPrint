/-
C04 on tables (Model/TableBreaks.lean, Model/BreakConserve.lean): the break-before / break-after written on a
table element is the value in force between the table - captions included - and its siblings, for every content
of the table; it never acts inside the table; accepted observations of rendered documents honour it; and
honouring an avoided break loses nothing.
-/
import WpModel.Model.TableBreaks
import WpModel.Model.BreakConserve
import WpModel.Props.C04
import WpModel.Props.C04Trace
import WpModel.Props.C01Trace

namespace Wp.C04Table
open Wp Wp.TableBreaks

/-- The chain walked down from the table wrapper starts with the table element's own break-before, whatever
the captions, groups and rows are (`wrap_table` moved it to the wrapper). -/
theorem beforeChain_wrapTable (t : TableE) : ∃ rest, beforeChain (wrapTable t) = t.before :: rest := by
  unfold wrapTable
  refine ⟨beforeChainFirst (captionBoxes true t.parts ++ [tableBox t] ++ captionBoxes false t.parts), ?_⟩
  rw [beforeChain]; simp

theorem afterChain_wrapTable (t : TableE) : ∃ rest, afterChain (wrapTable t) = t.after :: rest := by
  unfold wrapTable
  refine ⟨afterChainLast (captionBoxes true t.parts ++ [tableBox t] ++ captionBoxes false t.parts), ?_⟩
  rw [afterChain]; simp

/-- The value written on the table element meets at the boundary before the table, for every previous sibling. -/
theorem table_before_meets (a : Elem) (t : TableE) : t.before ∈ meetingValues (toBox a) (toBox (.table t)) := by
  obtain ⟨rest, h⟩ := beforeChain_wrapTable t
  simp [meetingValues, toBox, h]

theorem table_after_meets (t : TableE) (b : Elem) : t.after ∈ meetingValues (toBox (.table t)) (toBox b) := by
  obtain ⟨rest, h⟩ := afterChain_wrapTable t
  simp [meetingValues, toBox, h]

/-- **A forcing break-before on a table element forces the break before the whole table** (caption or not, header
or not, empty or not), in and out of columns: the value `block_level_page_break` returns between any previous
sibling and the table forces. -/
theorem forced_before_table (c : Bool) (a : Elem) (t : TableE) (h : forces c t.before = true) :
    forces c (breakBetween a (.table t)) = true :=
  C04.forced_wins c _ ⟨t.before, table_before_meets a t, h⟩

theorem forced_after_table (c : Bool) (t : TableE) (b : Elem) (h : forces c t.after = true) :
    forces c (breakBetween (.table t) b) = true :=
  C04.forced_wins c _ ⟨t.after, table_after_meets t b, h⟩

/-- A side written on the table element is the value resolved before a table that has no top caption and no row or
row group (the rest of its chain is then `[auto]`).  A later box of the chain (a top caption, or the first group / row
of a table without top caption) that carries a side itself would win: `C04.last_side_wins`. -/
theorem table_side_alone (a : Elem) (t : TableE) (hs : C04.isSide t.before = true)
    (hcap : captionBoxes true t.parts = []) (hgroups : sortGroups (wrapRows t.parts []) = []) :
    breakBetween a (.table t) = t.before := by
  unfold breakBetween pageBreakBetween meetingValues
  have hb : beforeChain (toBox (.table t)) = [t.before, .auto] := by
    simp [toBox, wrapTable, hcap, tableBox, hgroups, beforeChain, beforeChainFirst]
  rw [hb]
  have := C04.last_side_wins ((afterChain (toBox a)).reverse) [.auto] t.before hs
    (by intro v hv; simp at hv; subst hv; decide)
  simpa using this

/-- The break values asked inside the table (captions | grid, groups, rows) do not depend on the values written on
the table element itself: a forced break-before on the table never splits the caption from the rows. -/
theorem inside_independent (t : TableE) (b a : Brk) :
    insideTable { t with before := b, after := a } = insideTable t := rfl

/-- Non-vacuity: `<table style="break-before:page"><caption>…<tr>…<tr>…` after a paragraph: `page` before the
table, `auto` everywhere inside. -/
example : let t : TableE := ⟨.page, .auto, [.caption true .auto .auto, .row ⟨.auto, .auto⟩, .row ⟨.auto, .auto⟩]⟩
    breakBetween (.para .auto .auto) (.table t) = .page ∧ insideTable t = [.auto, .auto] := by decide

/-- Header first, footer last, whatever the document order; bare rows share one anonymous group. -/
example : (sortGroups (wrapRows [.group .footer .left .auto [], .row ⟨.avoid, .auto⟩, .row ⟨.auto, .auto⟩,
    .group .header .right .auto []] [])).map (fun | .mk _ b _ _ => b) = [.right, .auto, .left] := by decide

/-- A table box ends the descent of `page_values`: its start and end names are its own `page`. -/
theorem pageValues_table (fl : Bool) (p : String) (kids : List PBox) :
    pageValues (.mk true fl p kids) = (p, p) := by
  simp [pageValues]

/-- A box without in-flow children has its own name at both ends. -/
theorem pageValues_leaf (fl : Bool) (p : String) : pageValues (.mk false fl p []) = (p, p) := by
  simp [pageValues, firstLast]

/-- `block_level_page_name` is `None` exactly when the end name of the first equals the start name of the second. -/
theorem pageNameBetween_none (a b : PBox) : pageNameBetween a b = none ↔ (pageValues a).2 = (pageValues b).1 := by
  unfold pageNameBetween
  by_cases h : (pageValues a).2 = (pageValues b).1 <;> simp [h]

example : pageNameBetween (.mk false true "" [.mk false true "a" [], .mk false false "b" []])
    (.mk false true "" [.mk true true "c" [.mk false true "d" []]]) = some "c" := by decide

theorem boundaryOk_forced {ltr roomy : Bool} {vs : List Brk} {pa pb : Nat} {rb af : Bool}
    (hf : forces false (resolve vs) = true) (h : boundaryOk ltr roomy vs pa pb rb af = true) : pa < pb := by
  unfold boundaryOk at h
  simp only [hf, ↓reduceIte, Bool.and_eq_true, decide_eq_true_eq] at h
  exact h.1

/-- **Soundness of the page checker**: when the observation of a rendered [sibling][table][sibling] is accepted and
a value forcing a page break is written as break-before on the table element, the previous sibling ends on an
earlier page than the first page showing any part of the table (top captions included). -/
theorem tableObs_sound (prev next : Elem) (t : TableE) (o : TableObs) (h : tableObsBad prev t next o = [])
    (hf : forces false t.before = true) : o.prevLast < o.tableFirst := by
  unfold tableObsBad at h
  simp only [List.append_eq_nil_iff] at h
  exact boundaryOk_forced (forced_before_table false prev t hf) (by simpa [toBox] using h.1.1)

theorem tableObs_sound_after (prev next : Elem) (t : TableE) (o : TableObs) (h : tableObsBad prev t next o = [])
    (hf : forces false t.after = true) : o.tableLast < o.nextFirst := by
  unfold tableObsBad at h
  simp only [List.append_eq_nil_iff] at h
  exact boundaryOk_forced (forced_after_table false t next hf) (by simpa [toBox] using h.1.2)

/-- Non-vacuity: the observation of a caption left on the page of the previous sibling (the table's `page` value
read on the table box instead of the wrapper) is rejected at boundary 0 and at boundary 2; the right one passes. -/
example : let t : TableE := ⟨.page, .auto, [.caption true .auto .auto, .row ⟨.auto, .auto⟩]⟩
    tableObsBad (.para .auto .auto) t (.para .auto .auto)
      ⟨true, true, 0, 0, true, 1, 1, false, some 0, some 1, true, false⟩ = [0, 2] ∧
    tableObsBad (.para .auto .auto) t (.para .auto .auto)
      ⟨true, true, 0, 1, false, 1, 1, false, some 1, some 1, true, true⟩ = [] := by decide

/-- **Honouring an avoided break loses nothing**: on an accepted document every word of every in-flow and
out-of-flow group is rendered exactly once, in source order, and every avoided break between two siblings is
honoured unless the first was the first content of its page. -/
theorem avoid_conserve_sound (gs : List Trace.Group) (pages : List (List Nat)) (os : List BreakTrace.AvoidObs)
    (h : BreakConserve.accepted gs pages os = true) :
    (∀ g ∈ gs, (g.kind = 0 ∨ g.kind = 1) → g.words.Nodup →
      (∀ w ∈ g.words, pages.flatten.count w = 1) ∧ g.words.Sublist pages.flatten) ∧
    (∀ o ∈ os, avoids false (resolve o.values) = true → o.pageA = o.pageB ∨ o.aFirst = true) := by
  unfold BreakConserve.accepted BreakConserve.check at h
  simp only [Bool.and_eq_true, List.isEmpty_iff] at h
  exact ⟨fun g hg => (C01Trace.conserve_sound gs pages h.1 g hg).1, C04Trace.avoid_obs_sound os h.2⟩

/-- Non-vacuity: a float between the second and third block that appears on no page is rejected; rendered once on
the second page it is accepted. -/
example : BreakConserve.accepted [⟨0, [1, 2, 3, 4, 5]⟩, ⟨1, [6]⟩] [[1, 2], [3, 4, 5]] [⟨[.avoid, .auto], 1, 1, true⟩]
      = false ∧
    BreakConserve.accepted [⟨0, [1, 2, 3, 4, 5]⟩, ⟨1, [6]⟩] [[1, 2], [6, 3, 4, 5]] [⟨[.avoid, .auto], 1, 1, true⟩]
      = true := by decide

end Wp.C04Table
