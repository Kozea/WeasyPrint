/-
C15 — `_standardize_page_based_counters`: theorems about `Model/PageStd.lean`.
-/
import WpModel.Model.PageStd

namespace Wp.C15
open Wp.PageStd

private theorem justify_no_pages (v : Option Pairs) : "pages" ∉ (justify v).1.map Prod.fst := by
  cases v with
  | none => simp [justify]
  | some l =>
    simp only [justify, List.mem_map, not_exists, not_and]
    intro p hp
    have := (List.mem_filter.mp hp).2
    simpa using this

/-- **C15.standardize_drops_pages** — after the call no counter property of the style names `pages`: neither a
page nor a margin box can reset, set or increment the total page count. -/
theorem standardize_drops_pages (p : CProps) (isPage : Bool) :
    "pages" ∉ ((standardize p isPage).set.getD []).map Prod.fst ∧
    "pages" ∉ ((standardize p isPage).reset.getD []).map Prod.fst ∧
    "pages" ∉ ((standardize p isPage).incr.getD []).map Prod.fst := by
  refine ⟨justify_no_pages p.set, justify_no_pages p.reset, ?_⟩
  simp only [standardize, Option.getD_some]
  split
  · intro h
    simp only [List.map_cons, List.mem_cons] at h
    rcases h with h | h
    · exact absurd h (by decide)
    · exact justify_no_pages p.incr h
  · exact justify_no_pages p.incr

/-- In @margin context the call only drops `pages` (and turns `auto` into the empty tuple). -/
theorem standardize_margin (p : CProps) :
    standardize p false = ⟨some (justify p.set).1, some (justify p.reset).1, some (justify p.incr).1⟩ := by
  simp [standardize]

private def touches (l : Pairs) : Bool := l.any (fun p => p.1 = "page")

private theorem touches_justify (v : Option Pairs) : touches (justify v).1 = (justify v).2 := by
  cases v with
  | none => simp [justify, touches]
  | some l =>
    simp only [justify, touches, List.any_filter]
    congr 1
    funext q
    by_cases hq : q.1 = "page" <;> simp [hq]

/-- **C15.standardize_page_counts** — in @page context the resulting style always manipulates the `page`
counter: by the style's own declarations, or by the added `counter-increment: page 1`. -/
theorem standardize_page_counts (p : CProps) :
    (touches ((standardize p true).set.getD []) || touches ((standardize p true).reset.getD []) ||
      touches ((standardize p true).incr.getD [])) = true := by
  simp only [standardize, Option.getD_some, touches_justify]
  cases h1 : (justify p.set).2 <;> cases h2 : (justify p.reset).2 <;> cases h3 : (justify p.incr).2 <;>
    simp [touches]
  · have := touches_justify p.incr
    rw [h3] at this
    simpa [touches] using this

private theorem justify_clean (l : Pairs) (h : "pages" ∉ l.map Prod.fst) : justify (some l) = (l, touches l) := by
  have : l.filter (fun p => p.1 ≠ "pages") = l := by
    apply List.filter_eq_self.mpr
    intro q hq
    have : q.1 ≠ "pages" := fun e => h (List.mem_map.mpr ⟨q, hq, e⟩)
    simpa using this
  simp only [justify, this]
  rfl

private theorem std_fix (S R I : Pairs) (hS : "pages" ∉ S.map Prod.fst) (hR : "pages" ∉ R.map Prod.fst)
    (hI : "pages" ∉ I.map Prod.fst) (isPage : Bool)
    (hc : isPage = true → (touches S || touches R || touches I) = true) :
    standardize ⟨some S, some R, some I⟩ isPage = ⟨some S, some R, some I⟩ := by
  simp only [standardize, justify_clean S hS, justify_clean R hR, justify_clean I hI]
  cases isPage with
  | false => simp
  | true => simp [hc rfl]

/-- **C15.standardize_idempotent** — the function is applied to its own output whenever a page is made again
(the style object is shared): the second call changes nothing; in particular the page increment is added once. -/
theorem standardize_idempotent (p : CProps) (isPage : Bool) :
    standardize (standardize p isPage) isPage = standardize p isPage := by
  obtain ⟨h1, h2, h3⟩ := standardize_drops_pages p isPage
  have hq : standardize p isPage = ⟨some ((standardize p isPage).set.getD []),
      some ((standardize p isPage).reset.getD []), some ((standardize p isPage).incr.getD [])⟩ := by
    simp [standardize]
  rw [hq]
  refine std_fix _ _ _ ?_ ?_ ?_ isPage ?_
  · simpa only [standardize, Option.getD_some] using h1
  · simpa only [standardize, Option.getD_some] using h2
  · simpa only [standardize, Option.getD_some] using h3
  · intro hb; subst hb
    simpa [standardize] using standardize_page_counts p

example : standardize ⟨some [], some [("pages", 3), ("c", 1)], none⟩ true =
    ⟨some [], some [("c", 1)], some [("page", 1)]⟩ := by decide +kernel
example : standardize ⟨some [("page", 7)], some [], some [("pages", 1), ("d", 2)]⟩ true =
    ⟨some [("page", 7)], some [], some [("d", 2)]⟩ := by decide +kernel
example : standardize ⟨some [], some [], none⟩ false = ⟨some [], some [], some []⟩ := by decide +kernel

end Wp.C15
