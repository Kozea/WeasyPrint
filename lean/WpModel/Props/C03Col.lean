/-
C03 (progress) and the termination half of C02 for PM stage 2c (multi-column containers).

`pos box σ` = units of the box consumed before the resume position `σ` (one unit per line, one per box:
`sizeBox`).  For ALL documents of the extended grammar without fixed heights on blocks / paragraphs and with
`orphans, widows ≥ 1` — `column-span: all` children of any shape included:
* `layout_progress`: a layout that returns a fragment and a resume position returns a strictly later
  position — also for a container, whose resume position is computed from the last real column;
* `page_progress`: a non-blank page finishes the document or hands over a strictly later position;
* `paginate_bounded`: `make_all_pages` never needs more than `2·size + 2` pages (the fuel of the model
  never runs out) and produces at most `2·size` pages.
With spanning children page progress was false before the repair b24b457 of /repo (a page that showed nothing new:
`Witness.C01Col.group_resumed_span_once`); with b24b457 and d7e3d63 nothing is asked of spanning children
(`Lemmas/ColSegBlock.colsLoop_spec`).
-/
import WpModel.Lemmas.ColSegPages
import WpModel.Lemmas.ColPagesRun

namespace Wp.C03Col
open Wp Wp.PM Wp.PMC

theorem pos_lt_size (box : ColBox) (σ : Option Resume) : PMC.pos box σ < sizeBox box := PMC.pos_lt_size box σ

/-- **Strict progress of `block_level_layout`**, extended grammar. -/
theorem layout_progress (box : ColBox) (hN : PMC.NoFixedHeight box) (hW : PMC.WellFormed box)
    (c : CCtx) (idx : Nat) (y bs : Rat) (skip : Option Resume) (cb pie : Bool) (adjL : List Rat) (f : CFrag)
    (r : Resume)
    (hf : (PMC.layoutBox c box idx y bs skip cb pie adjL).frag = some f)
    (hr : (PMC.layoutBox c box idx y bs skip cb pie adjL).resume = some r) :
    PMC.pos box skip < PMC.pos box (some r) := by
  have := PMC.box_spec box (PMC.good_of box hN hW) c idx y bs skip cb pie adjL
  rw [hr] at this
  exact PMC.boxPost_progress _ _ _ _ _ this hf

/-- **Strict progress of pages**, extended grammar. -/
theorem page_progress (d : CDoc) (hN : PMC.NoFixedHeight d.root) (hW : PMC.WellFormed d.root)
    (index : Nat) (resume : Option Resume) (np : NextPage) (right : Bool) (p : CPage)
    (hp : PMC.remakePage d index resume np right = .ok p) (hnb : p.type.blank = false) :
    p.resume = none ∨ PMC.pos d.root resume < PMC.pos d.root p.resume := by
  obtain ⟨_, h2⟩ := PMC.remakePage_lines d (PMC.good_of _ hN hW) index resume np right p hp
  cases hr : p.resume with
  | none => left; rfl
  | some r => right; exact (h2 hnb).2 r hr

/-- A blank page changes nothing and is followed by a non-blank page. -/
theorem blank_then_nonblank (d : CDoc) (index : Nat) (resume : Option Resume) (np : NextPage) (right : Bool)
    (p : CPage) (hp : PMC.remakePage d index resume np right = .ok p) (hb : p.type.blank = true) :
    p.resume = resume ∧ p.nextPage = np ∧
    ∀ p', PMC.remakePage d (index + 1) p.resume p.nextPage (!right) = .ok p' → p'.type.blank = false := by
  obtain ⟨hbl, h1, _⟩ := PMC.remakePage_spec d index resume np right p hp
  obtain ⟨hr, hn, _⟩ := h1 hb
  refine ⟨hr, hn, ?_⟩
  intro p' hp'
  obtain ⟨hbl', _, _⟩ := PMC.remakePage_spec d (index + 1) p.resume p.nextPage (!right) p' hp'
  rw [hbl', hn]
  apply isBlank_flip
  rw [← hbl]; exact hb

/-! ### the number of pages is bounded -/

def pagesNeeded (d : CDoc) (resume : Option Resume) (np : NextPage) (right : Bool) : Nat :=
  PageLoop.twoSided (sizeBox d.root) (PMC.pos d.root resume) (isBlank (requestedSide d.rootLtr np.brk) right)

def PagesOut.isFuel : PagesOut → Bool
  | .fuel => true
  | _ => false

/-- **`make_all_pages` never runs out of fuel**: with at least `pagesNeeded` units it returns pages (at most that
many), or stops on `assert root_box` / an exception — from every page-maker state. -/
theorem makeAllPages_bounded (d : CDoc) (hN : PMC.NoFixedHeight d.root) (hW : PMC.WellFormed d.root)
    (fuel index : Nat) (resume : Option Resume) (np : NextPage) (right : Bool)
    (h : pagesNeeded d resume np right ≤ fuel) :
    PagesOut.isFuel (PMC.makeAllPages d fuel index resume np right) = false ∧
    ∀ pages, PMC.makeAllPages d fuel index resume np right = .ok pages →
      pages.length ≤ pagesNeeded d resume np right := by
  rw [PMC.makeAllPages_eq_run]
  have key := PageLoop.run_bounded (step := PMC.pageStep d) (fun _ => True)
    (fun s : PMC.PState => pagesNeeded d s.2.1 s.2.2.1 s.2.2.2) (fun _ => True) (fun _ _ _ _ => trivial)
    ?_ ?_ fuel (index, resume, np, right) trivial h
  · rcases key with ⟨ps, hps, hl⟩ | ⟨e, he, _⟩
    · rw [hps]; exact ⟨rfl, fun pages hp => by cases hp; exact hl⟩
    · rw [he]; cases e <;> exact ⟨rfl, fun _ hp => by cases hp⟩
  · intro ⟨i, r, n, b⟩ _
    exact PageLoop.twoSided_pos _ (PMC.pos_lt_size d.root r)
  · intro ⟨i, r, n, b⟩ p s' _ hs
    obtain ⟨hp, ho⟩ := PMC.pageStep_ok hs
    obtain ⟨r', hr, rfl⟩ := Option.map_eq_some_iff.mp ho.symm
    obtain ⟨hbl, hb1, _⟩ := PMC.remakePage_spec d i r n b p hp
    exact ⟨trivial, twoSided_page hbl (fun hb => by rw [← hr, (hb1 hb).1, (hb1 hb).2.1]; exact ⟨rfl, rfl⟩)
      (fun hb => ((PMC.remakePage_lines d (PMC.good_of _ hN hW) i r n b p hp).2 hb).2 r' hr)
      (PMC.pos_lt_size d.root (some r'))⟩

/-- **Pagination is bounded**: `2·size + 2` units of fuel are always enough and a paginated document has at most
`2·size` pages. -/
theorem paginate_bounded (d : CDoc) (hN : PMC.NoFixedHeight d.root) (hW : PMC.WellFormed d.root) :
    PagesOut.isFuel (paginateCol d (2 * sizeBox d.root + 2)) = false ∧
    ∀ pages, paginateCol d (2 * sizeBox d.root + 2) = .ok pages → pages.length ≤ 2 * sizeBox d.root := by
  unfold paginateCol
  have hn : pagesNeeded d none { brk := none, page := some (PMC.boxPageStart d.root) } (PMC.firstRight d) ≤
      2 * sizeBox d.root :=
    twoSided_start ..
  obtain ⟨h1, h2⟩ := makeAllPages_bounded d hN hW (2 * sizeBox d.root + 2) 0 none
    { brk := none, page := some (PMC.boxPageStart d.root) } (PMC.firstRight d) (by omega)
  exact ⟨h1, fun pages hp => by have := h2 pages hp; omega⟩

/-! Non-vacuity: `C01Col.exDoc`-like document (size 19): 3 pages, positions 0 → 5 → 14 → end. -/
def exSt : PStyle :=
  { mt := 0, mb := 0, pt := 0, pb := 0, bt := 0, bb := 0, height := none, minH := 0, maxH := none,
    brkBefore := .auto, brkAfter := .auto, brkInside := .auto, clone := false, page := "", orphans := 1, widows := 1,
    isRoot := false }

def exDoc : CDoc :=
  { pageH := 40, rootLtr := true,
    root := .block 9 { exSt with isRoot := true } [.block 8 exSt
      [.para 1 2 10 exSt,
       .columns 4 { exSt with mt := 5 } { count := 2, balance := true, ltr := true, width := 192 } [false, false]
         [.para 2 6 10 exSt, .para 3 2 10 { exSt with mt := 4 }],
       .para 5 2 10 exSt]] }

example : PMC.NoFixedHeight exDoc.root ∧ PMC.WellFormed exDoc.root ∧ sizeBox exDoc.root = 19 := by
  refine ⟨?_, ?_, by decide⟩ <;>
  simp [exDoc, exSt, PMC.NoFixedHeight, PMC.NoFixedHeightList, PMC.WellFormed, PMC.WellFormedList]

example : (match paginateCol exDoc 42 with
    | .ok ps => ps.map (fun (p : CPage) => PMC.pos exDoc.root p.resume)
    | _ => []) = [5, 14, 0] := by
  decide +kernel

/-! Non-vacuity with spanning children (`C01Col.exSpan`, size 20): a group, a spanning block with two paragraphs
cut by the page, a group: positions 0 → 7 → 14 → end. -/
def exSpan : CDoc :=
  { pageH := 40, rootLtr := true,
    root := .block 9 { exSt with isRoot := true } [.block 8 exSt
      [.columns 7 exSt { count := 2, balance := true, ltr := true, width := 192 } [false, true, false]
        [.para 6 2 10 exSt,
         .block 5 exSt [.para 1 2 10 exSt, .para 2 4 10 exSt],
         .para 3 4 10 exSt]]] }

example : PMC.NoFixedHeight exSpan.root ∧ PMC.WellFormed exSpan.root ∧ sizeBox exSpan.root = 20 := by
  refine ⟨?_, ?_, by decide⟩ <;>
  simp [exSpan, exSt, PMC.NoFixedHeight, PMC.NoFixedHeightList, PMC.WellFormed, PMC.WellFormedList]

example : (match paginateCol exSpan 42 with
    | .ok ps => ps.map (fun (p : CPage) => PMC.pos exSpan.root p.resume)
    | _ => []) = [7, 14, 0] := by
  decide +kernel

end Wp.C03Col
