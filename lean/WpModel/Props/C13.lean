/-
C13 — Replaced content: sizing rules, painted rectangle, embedded once.
Every statement is about the hand models of `layout/replaced.py`, `layout/min_max.py`,
`layout/background.py`, `pdf/stream.py::add_image`, `pdf/__init__.py::_use_references`,
`images.py::RasterImage.draw`, `draw/__init__.py::draw_replacedbox`, tied to the source by the exact
correspondence of `py/props/c13.py` and by `Gen/ReplacedConsts` (regenerated each run).
-/
import WpModel.Lemmas.Replaced
import WpModel.Lemmas.ImageDedupe
import WpModel.Lemmas.ReplacedBg
import WpModel.Model.ReplacedBg
import WpModel.Model.ImageDraw
import WpModel.Model.RasterEmbed
import WpModel.Model.ReplacedDoc
import WpModel.Lemmas.ReplacedDoc
import WpModel.Lemmas.ReplacedRtl
import WpModel.Gen.ImageInherited
import WpModel.Model.CanvasBg
import WpModel.Lemmas.ImageId


namespace Wp.C13
open Wp Wp.Replaced

/-! ## C13.used_size — CSS 2.1 10.3.2 / 10.6.2 -/

/-- `RasterImage.get_intrinsic_size`: the intrinsic size is the pixel size divided by
`image-resolution`, and its quotient is the pixel ratio. -/
theorem raster_intrinsic (pw ph res : Rat) (hres : res ≠ 0) (hph : ph ≠ 0) :
    rasterIntrinsic pw ph res (pw / ph) = .ok ⟨some (pw / res), some (ph / res), some (pw / ph)⟩ ∧
    (pw / res) / (ph / res) = pw / ph := by
  refine ⟨rasterIntrinsic_ok pw ph res _ hres, ?_⟩
  field_simp

/-- The box has both sizes `auto`, the image a known intrinsic width `iw` with the consistent ratio `iw / ih`, both
positive, and no limit of the box is violated at `iw × ih`. -/
structure SizedAuto (i : Intr) (b : RBox) (iw ih : Rat) : Prop where
  hw : b.width = none
  hh : b.height = none
  hiw : i.w = some iw
  hr : i.ratio = some (iw / ih)
  piw : 0 < iw
  pih : 0 < ih
  hvw : viol iw b.minWidth (capMax b.minWidth b.maxWidth) = .ok
  hvh : viol ih b.minHeight (capMax b.minHeight b.maxHeight) = .ok

/-- A raster image of positive size at a positive resolution, in a box with every sizing property initial. -/
theorem SizedAuto.of_initial {b : RBox} {pw ph res : Rat} (hpw : 0 < pw) (hph : 0 < ph) (hres : 0 < res)
    (hw : b.width = none) (hh : b.height = none) (hminw : b.minWidth = 0) (hminh : b.minHeight = 0)
    (hmaxw : b.maxWidth = none) (hmaxh : b.maxHeight = none) :
    SizedAuto ⟨some (pw / res), some (ph / res), some (pw / ph)⟩ b (pw / res) (ph / res) :=
  ⟨hw, hh, rfl, congrArg some (raster_intrinsic pw ph res hres.ne' hph.ne').2.symm, div_pos hpw hres, div_pos hph hres,
    viol_unbounded hmaxw (hminw.le.trans (div_pos hpw hres).le), viol_unbounded hmaxh (hminh.le.trans (div_pos hph hres).le)⟩

/-- Both `width` and `height` auto, intrinsic width, height and (consistent) ratio known, no
min/max violated: the used size is the intrinsic size. -/
theorem used_size_intrinsic (i : Intr) (cb : Cb) (b : RBox) (iw ih : Rat) (h : SizedAuto i b iw ih) :
    ∃ b', inlineReplacedWH true i cb b = .ok b' ∧ b'.width = some iw ∧ b'.height = some ih := by
  rw [inlineReplacedWH_auto i cb b _ _ (rbwCore_point1 i cb b iw h.hw h.hh h.hiw)
    (rbhCore_of_ratio i { b with width := some iw } iw ih rfl h.hh h.hr h.piw.ne' h.pih.ne')]
  exact ⟨_, minMaxAutoReplaced_no_violation _ iw ih rfl rfl h.hvw h.hvh, rfl, rfl⟩

example : ∃ b', inlineReplacedWH true ⟨some 40, some 20, some (40 / 20)⟩ ⟨100, false⟩
    ⟨none, none, some 0, some 0, some 0, some 0, 0, 0, 0, 0, 0, none, 0, none, 0, false⟩ = .ok b' ∧
    b'.width = some 40 ∧ b'.height = some 20 :=
  used_size_intrinsic _ _ _ 40 20 ⟨rfl, rfl, rfl, rfl, by norm_num, by norm_num,
    by simp [viol, capMax, gtMax], by simp [viol, capMax, gtMax]⟩

/-- Nothing known about the image and nothing specified: 300 × 150 (the literals of the source,
`Gen.replacedDefaultWidth/Height`). -/
theorem used_size_default (cb : Cb) (b : RBox) (hw : b.width = none) (hh : b.height = none)
    (hvw : viol Gen.replacedDefaultWidth b.minWidth (capMax b.minWidth b.maxWidth) = .ok)
    (hvh : viol Gen.replacedDefaultHeight b.minHeight (capMax b.minHeight b.maxHeight) = .ok) :
    ∃ b', inlineReplacedWH true ⟨none, none, none⟩ cb b = .ok b' ∧
      b'.width = some Gen.replacedDefaultWidth ∧ b'.height = some Gen.replacedDefaultHeight := by
  rw [inlineReplacedWH_auto _ cb b _ _ (rbwCore_point5 ⟨none, none, none⟩ cb b hw rfl rfl)
    (rbhCore_default ⟨none, none, none⟩ { b with width := some Gen.replacedDefaultWidth } _ rfl hh rfl rfl)]
  exact ⟨_, minMaxAutoReplaced_no_violation _ _ _ rfl rfl hvw hvh, rfl, rfl⟩

theorem default_size_is_300_150 : Gen.replacedDefaultWidth = 300 ∧ Gen.replacedDefaultHeight = 150 := by
  constructor <;> rfl

/-- Exactly one dimension auto and a ratio: `width = height · ratio` (width auto), resp.
`height = width / ratio` (height auto), i.e. `width / height = ratio`. -/
theorem used_size_one_auto_keeps_ratio (i : Intr) (cb : Cb) (b : RBox) (x r : Rat)
    (hr : i.ratio = some r) (hr0 : r ≠ 0) :
    (b.width = none → b.height = some x →
      rbwCore i cb b = .ok { b with width := some (x * r) } ∧ (x ≠ 0 → x * r / x = r)) ∧
    (b.width = some x → b.height = none →
      rbhCore i b = .ok { b with height := some (x / r) } ∧ (x ≠ 0 → x / (x / r) = r)) := by
  refine ⟨fun hw hh => ⟨rbwCore_point2b i cb b x r hw hh hr, fun hx => by field_simp⟩,
    fun hw hh => ⟨rbhCore_ratio i b x r hw hh hr hr0, fun hx => by field_simp⟩⟩

example : rbwCore ⟨none, none, some 2⟩ ⟨100, false⟩
    ⟨none, some 30, some 0, some 0, some 0, some 0, 0, 0, 0, 0, 0, none, 0, none, 0, false⟩ =
    .ok ⟨some (30 * 2), some 30, some 0, some 0, some 0, some 0, 0, 0, 0, 0, 0, none, 0, none, 0, false⟩ :=
  ((used_size_one_auto_keeps_ratio ⟨none, none, some 2⟩ _ _ 30 2 rfl (by norm_num)).1 rfl rfl).1

/-- The remaining rows of the 10.3.2 table, as equations of the model (`rbwCore`): point 1
(intrinsic width), point 2 (height · ratio), point 4, point 5; point 3 is `used_size_ratio_only`. -/
theorem used_width_table (i : Intr) (cb : Cb) (b : RBox) (hw : b.width = none) :
    (∀ iw, b.height = none → i.w = some iw → rbwCore i cb b = .ok { b with width := some iw }) ∧
    (∀ ih r, b.height = none → i.w = none → i.ratio = some r → i.h = some ih →
      rbwCore i cb b = .ok { b with width := some (ih * r) }) ∧
    (∀ iw, i.ratio = none → i.w = some iw → rbwCore i cb b = .ok { b with width := some iw }) ∧
    (i.ratio = none → i.w = none → rbwCore i cb b = .ok { b with width := some Gen.replacedDefaultWidth }) :=
  ⟨fun iw hh hi => rbwCore_point1 i cb b iw hw hh hi,
   fun ih r hh hi hr hih => rbwCore_point2a i cb b ih r hw hh hi hr hih,
   fun iw hr hi => rbwCore_point4 i cb b iw hw hr hi,
   fun hr hi => rbwCore_point5 i cb b hw hr hi⟩

/-- 10.6.2 as equations of `rbhCore` (the used width is already a number, as in every caller). -/
theorem used_height_table (i : Intr) (b : RBox) (w : Rat) (hw : b.width = some w) (hh : b.height = none) :
    (∀ r, i.ratio = some r → r ≠ 0 → rbhCore i b = .ok { b with height := some (w / r) }) ∧
    (∀ ih, i.ratio = none → i.h = some ih → rbhCore i b = .ok { b with height := some ih }) ∧
    (i.ratio = none → i.h = none → rbhCore i b = .ok { b with height := some Gen.replacedDefaultHeight }) :=
  ⟨fun r hr hr0 => rbhCore_ratio i b w r hw hh hr hr0,
   fun ih hr hih => rbhCore_intrinsic i b w ih hw hh hr hih,
   fun hr hih => rbhCore_default i b w hw hh hr hih⟩

/-- Point 3 of 10.3.2 (only a ratio is known, both sizes auto): the width comes from the
block-level width equation applied to the containing block the caller passes.  Every caller passes
the containing block of the box: the in-flow ones (`atomic_box`, `block_replaced_box_layout`, floats)
directly, `absolute_replaced` as the tuple `(cb_width, cb_height)` since repair a8f8a59 (finding
`abs-replaced-ratio-only-width`, fixed) — see `abs_replaced_uses_containing_block_width` below. -/
theorem used_size_ratio_only (i : Intr) (cb : Cb) (b : RBox) (r : Rat)
    (hw : b.width = none) (hh : b.height = none) (hi : i.w = none) (hr : i.ratio = some r) (hih : i.h = none) :
    rbwCore i cb b = blockLevelWidth b cb ∧
    (b.marginLeft = some 0 → b.marginRight = some 0 → b.pb = 0 → b.minWidth ≤ cb.width → b.maxWidth = none →
      ∃ b', rbwCore i cb b = .ok b' ∧ b'.width = some cb.width) := by
  refine ⟨rbwCore_point3 i cb b r hw hh hi hr hih, fun hml hmr hpb hmin hmax => ?_⟩
  rw [rbwCore_point3 i cb b r hw hh hi hr hih]
  have hcore : (blwCore b cb).width = some cb.width := by
    rw [blwCore_eq, blwWidth_none cb hw, hml, hmr, hpb]
    exact congrArg some (by simp)
  -- the tentative width is that of the containing block, and clamping leaves it alone
  obtain ⟨b', hb'⟩ := blockLevelWidth_total b cb
  obtain ⟨_, _, b1, v, h1, hv, hw'⟩ := withMinMaxWidth_clamp _ (blw_widthFn cb) b b' hb'
  obtain rfl := Except.ok.inj h1
  obtain rfl := Option.some.inj (hcore.symm.trans hv)
  exact ⟨b', hb', by rw [hw', hmax]; exact congrArg some (max_eq_left hmin)⟩

/-- `absolute_replaced` sizes the box exactly as the in-flow inline case does against a containing
block of width `cb_width` (ltr): the position `(cb_x, cb_y)` and the height of the containing block
play no part in the used size.  In particular a ratio-only image (SVG with a `viewBox` only), both
sizes auto, no margins / paddings / borders, gets the width of its containing block wherever that
block lies (CSS 2.1 10.3.8 → 10.3.2). -/
theorem abs_replaced_uses_containing_block_width (sa : Bool) (i : Intr) (cbX cbY cbW cbH : Rat) (b : RBox) :
    absoluteReplacedWH sa i cbX cbY cbW cbH b = inlineReplacedWH sa i ⟨cbW, false⟩ b ∧
    (∀ cbX' cbY' cbH', absoluteReplacedWH sa i cbX' cbY' cbW cbH' b = absoluteReplacedWH sa i cbX cbY cbW cbH b) ∧
    (∀ r, b.width = none → b.height = none → i.w = none → i.h = none → i.ratio = some r →
      b.marginLeft = some 0 → b.marginRight = some 0 → b.pb = 0 → b.minWidth ≤ cbW → b.maxWidth = none →
      ∃ b', rbwCore i ⟨cbW, false⟩ b = .ok b' ∧ b'.width = some cbW) :=
  ⟨rfl, fun _ _ _ => rfl, fun r hw hh hi hih hr hml hmr hpb hmin hmax =>
    (used_size_ratio_only i ⟨cbW, false⟩ b r hw hh hi hr hih).2 hml hmr hpb hmin hmax⟩

/-- Regression for the fixed finding `abs-replaced-ratio-only-width`: containing block at x = 40 (and at
x = 0), 200 wide: the used size is 200 x 100. -/
example :
    (absoluteReplacedWH true ⟨none, none, some 2⟩ 40 0 200 300
      ⟨none, none, some 0, some 0, some 0, some 0, 0, 0, 0, 0, 0, none, 0, none, 0, false⟩).toOption.map
        (fun b => (b.width, b.height)) = some (some 200, some 100) ∧
    (absoluteReplacedWH true ⟨none, none, some 2⟩ 0 0 200 300
      ⟨none, none, some 0, some 0, some 0, some 0, 0, 0, 0, 0, 0, none, 0, none, 0, false⟩).toOption.map
        (fun b => (b.width, b.height)) = some (some 200, some 100) := by
  constructor <;> decide +kernel

/-- A specified (or resolved) width outside `[min-width, max-width]` is clamped: the used width of
`replaced_box_width` lies in `[min, max(min, max)]`; likewise `replaced_box_height`. -/
theorem used_size_within_min_max (i : Intr) (cb : Cb) (b b' : RBox) :
    (replacedBoxWidth i cb b = .ok b' →
      ∃ w, b'.width = some w ∧ b.minWidth ≤ w ∧ (w = b.minWidth ∨ ∀ m, b.maxWidth = some m → w ≤ m)) ∧
    (replacedBoxHeight i b = .ok b' →
      ∃ h, b'.height = some h ∧ b.minHeight ≤ h ∧ (h = b.minHeight ∨ ∀ m, b.maxHeight = some m → h ≤ m)) :=
  ⟨fun h => let ⟨_, _, _, w, _, _, hw⟩ := withMinMaxWidth_clamp _ (rbw_widthFn i cb) b b' h; ⟨_, hw, clamp_bounds w _ _⟩,
   fun h => let ⟨_, _, _, v, _, _, hv⟩ := withMinMaxHeight_clamp _ (rbh_heightFn i) b b' h; ⟨_, hv, clamp_bounds v _ _⟩⟩

/-- `replaced_box_width` never raises; `replaced_box_height` and the whole inline layout succeed as
soon as the ratio is not zero (a zero ratio divides by zero: `box.width / ratio`). -/
theorem used_size_total (i : Intr) (cb : Cb) (b : RBox) :
    (∃ b', replacedBoxWidth i cb b = .ok b') ∧
    (i.ratio ≠ some 0 → ∀ sa, ∃ b', inlineReplacedBoxLayout sa i cb b = .ok b') := by
  refine ⟨replacedBoxWidth_total i cb b, fun hr sa => ?_⟩
  unfold inlineReplacedBoxLayout inlineReplacedWH
  generalize { b with marginTop := _, marginRight := _, marginBottom := _, marginLeft := _ } = b0
  cases sa
  · -- specified sizes: decorated functions
    obtain ⟨b1, h1⟩ := replacedBoxWidth_total i cb b0
    obtain ⟨_, _, _, _, _, _, hw1⟩ := withMinMaxWidth_clamp _ (rbw_widthFn i cb) b0 b1 h1
    obtain ⟨b2, h2⟩ := replacedBoxHeight_total i hr b1 _ hw1
    exact ⟨b2, by simp [bind, Except.bind, h1, h2]⟩
  · -- both auto: cores, then the 10.4 table
    obtain ⟨b1, w, h1, _, _, hw1⟩ := rbwCore_total i cb b0
    obtain ⟨b2, h, h2, hh2, hw2⟩ := rbhCore_total i hr b1 w hw1
    obtain ⟨r, hr'⟩ := minmax_total_with Gen.minMaxEpsWidth Gen.minMaxEpsHeight
      (ne_of_gt epsW_pos) (ne_of_gt epsH_pos) w h b2.minWidth b2.minHeight b2.maxWidth b2.maxHeight
    refine ⟨{ b2 with width := some r.1, height := some r.2 }, ?_⟩
    simp [bind, Except.bind, h1, h2, minMaxAutoReplaced, hw2, hh2, num, mmarCore, hr', pure, Except.pure]

/-! ## C13.document — from the computed style of an `<img>` to its used size

The function-level theorems above, composed as the layout composes the functions (`Model/ReplacedDoc.lean`:
`resolve_percentages`, then `inline_replaced_box_layout`); the same composition is compared with rendered
documents by the `documents` section (`docimg` lines). -/

/-- **Intrinsic size divided by `image-resolution` by default**: an inline `<img>` showing a raster image
of `pw × ph` pixels, every sizing property at its initial value (`width`, `height` auto, no min / max), in
any containing block and with any margins, paddings and borders, is `pw / res × ph / res`. -/
theorem doc_image_default_size (c : CssBox) (cb : Cb) (cbh : Len) (cx py pw ph res : Rat)
    (hpw : 0 < pw) (hph : 0 < ph) (hres : 0 < res)
    (hw : c.width = none) (hh : c.height = none) (hminw : c.minWidth = none) (hminh : c.minHeight = none)
    (hmaxw : c.maxWidth = none) (hmaxh : c.maxHeight = none) :
    ∃ b x y, docImage false c cb cbh cx py pw ph res (pw / ph) = .ok (b, x, y) ∧
      b.width = some (pw / res) ∧ b.height = some (ph / res) := by
  obtain ⟨r1, r2, r3, r4, r5, r6⟩ := resolve_auto c cb.width cbh cx hw hh hminw hminh hmaxw hmaxh
  obtain ⟨b', hb', hw', hh'⟩ := used_size_intrinsic ⟨some (pw / res), some (ph / res), some (pw / ph)⟩ cb
    { resolvePercentages c cb.width cbh cx with
      marginTop := some ((resolvePercentages c cb.width cbh cx).marginTop.getD 0),
      marginRight := some ((resolvePercentages c cb.width cbh cx).marginRight.getD 0),
      marginBottom := some ((resolvePercentages c cb.width cbh cx).marginBottom.getD 0),
      marginLeft := some ((resolvePercentages c cb.width cbh cx).marginLeft.getD 0) }
    (pw / res) (ph / res) (.of_initial hpw hph hres r1 r2 r3 r4 r5 r6)
  refine ⟨b', b'.positionX, py, ?_, hw', hh'⟩
  simp only [docImage, rasterIntrinsic_ok pw ph res (pw / ph) (ne_of_gt hres), docImageI, inlineReplacedBoxLayout, hw,
    hh, Option.isNone_none, Bool.and_self, Bool.false_eq_true, if_false, hb', bind, Except.bind, pure, Except.pure]

example : ∃ b x y, docImage false ⟨none, none, none, none, none, none, some (.px 3), none, none, none, .px 1, .pct 10, 2, 0⟩
    ⟨200, false⟩ none 0 0 8 4 2 (8 / 4) = .ok (b, x, y) ∧ b.width = some (8 / 2) ∧ b.height = some (4 / 2) :=
  doc_image_default_size _ _ _ _ _ 8 4 2 (by norm_num) (by norm_num) (by norm_num) rfl rfl rfl rfl rfl rfl

/-! ### a block-level image: the used margins of 10.3.3 and the placement -/

/-- What 10.3.3 asks of the used margins, for all inputs: a given margin is kept; when the box fits and a margin
is `auto`, the equation `margin-left + P + width + margin-right = containing width` holds with non-negative
auto margins, equal when both are auto (the image is centred); when it does not fit, `auto` margins are 0. -/
theorem used_margins_spec (P w cbw : Rat) (ml mr : Len) :
    (∀ m, ml = some m → (usedMargins P w cbw ml mr).1 = m) ∧
    (∀ m, mr = some m → (usedMargins P w cbw ml mr).2 = m) ∧
    (P + w + ml.getD 0 + mr.getD 0 ≤ cbw → (ml = none ∨ mr = none) →
      (usedMargins P w cbw ml mr).1 + P + w + (usedMargins P w cbw ml mr).2 = cbw ∧
      (ml = none → 0 ≤ (usedMargins P w cbw ml mr).1) ∧ (mr = none → 0 ≤ (usedMargins P w cbw ml mr).2) ∧
      (ml = none → mr = none → (usedMargins P w cbw ml mr).1 = (usedMargins P w cbw ml mr).2 ∧
        (usedMargins P w cbw ml mr).1 = (cbw - P - w) / 2)) ∧
    (cbw < P + w + ml.getD 0 + mr.getD 0 → usedMargins P w cbw ml mr = (ml.getD 0, mr.getD 0)) := by
  unfold usedMargins
  refine ⟨fun m hm => ?_, fun m hm => ?_, fun hfit hauto => ?_, fun hov => if_pos hov⟩
  · subst hm
    split_ifs
    · rfl
    · cases mr <;> rfl
  · subst hm
    split_ifs
    · rfl
    · cases ml <;> rfl
  · rw [if_neg (not_lt.mpr hfit)]
    rcases ml with _ | l <;> rcases mr with _ | r <;> simp only [Option.getD] at hfit
    · exact ⟨by ring, fun _ => by linarith, fun _ => by linarith, fun _ _ => ⟨rfl, rfl⟩⟩
    · exact ⟨by ring, fun _ => by linarith, nofun, fun _ => nofun⟩
    · exact ⟨by ring, nofun, fun _ => by linarith, nofun⟩
    · rcases hauto with h | h <;> cases h

/-- The sizing part of `block_replaced_box_layout` for an image whose intrinsic width and (consistent) ratio are
known, both sizes auto and no min/max violated: the used size is the intrinsic size, and the margins are those of
10.3.3 for the *intrinsic* width, computed from the margins the box came with (the intermediate run of the width
equation leaves no trace). -/
theorem block_sizing_margins (i : Intr) (cb : Cb) (b : RBox) (iw ih : Rat) (h : SizedAuto i b iw ih) :
    ∃ b', blockReplacedSizing true i cb b = .ok b' ∧ b'.width = some iw ∧ b'.height = some ih ∧
      b'.marginLeft = some (usedMargins b.pb iw cb.width b.marginLeft b.marginRight).1 ∧
      b'.marginRight = some (usedMargins b.pb iw cb.width b.marginLeft b.marginRight).2 ∧
      b'.marginTop = b.marginTop ∧ b'.pb = b.pb := by
  -- the first run of the width equation: only its `position_x` survives the reset of the margins
  obtain ⟨ml1, mr1, px1, e1⟩ : ∃ ml mr px, blwCore { b with width := some iw } cb =
      { b with width := some iw, marginLeft := some ml, marginRight := some mr, positionX := px } :=
    ⟨_, _, _, blwCore_of_width _ cb iw rfl⟩
  have e2 : rbhCore i (blwCore { b with width := some iw } cb) = .ok
      { b with width := some iw, height := some ih, marginLeft := some ml1, marginRight := some mr1,
               positionX := px1 } := by
    rw [e1]
    exact rbhCore_of_ratio i
      { b with width := some iw, marginLeft := some ml1, marginRight := some mr1, positionX := px1 }
      iw ih rfl h.hh h.hr h.piw.ne' h.pih.ne'
  have e3 := minMaxAutoReplaced_no_violation
    { b with width := some iw, height := some ih, marginLeft := some ml1, marginRight := some mr1, positionX := px1 }
    iw ih rfl rfl h.hvw h.hvh
  simp only [blockReplacedSizing, brwCore, if_true, bind, Except.bind, pure, Except.pure,
    rbwCore_point1 i cb b iw h.hw h.hh h.hiw, e2, e3]
  rw [blwCore_of_width _ cb iw rfl]
  exact ⟨_, rfl, rfl, rfl, rfl, rfl, rfl, rfl⟩

/-- `block_replaced_box_layout` without floats, under the hypotheses of `block_sizing_margins`: the box also gets its
place — in an ltr containing block its margin box starts at the content edge `cx` of the containing block, in an rtl one
it ends at the opposite content edge. -/
theorem block_layout_intrinsic (i : Intr) (cb : Cb) (cx py : Rat) (b : RBox) (iw ih mt : Rat)
    (h : SizedAuto i b iw ih) (hmt : b.marginTop = some mt) :
    ∃ b' x y, blockReplacedBoxLayout true i cb cx py b = .ok (b', x, y) ∧
      b'.width = some iw ∧ b'.height = some ih ∧
      b'.marginLeft = some (usedMargins b.pb iw cb.width b.marginLeft b.marginRight).1 ∧
      b'.marginRight = some (usedMargins b.pb iw cb.width b.marginLeft b.marginRight).2 ∧
      b'.positionX = x ∧
      (cb.rtl = false → x = cx) ∧
      (cb.rtl = true → ∀ ml mr, b'.marginLeft = some ml → b'.marginRight = some mr →
        x + ml + (iw + b.pb) + mr = cx + cb.width) := by
  obtain ⟨b', hb', hw', hh', hml, hmr, hmt', hpb⟩ := block_sizing_margins i cb b iw ih h
  obtain ⟨x, y, hxy, hx⟩ : ∃ x y, avoidCollisionsNoFloats b' cx cb py = .ok (x, y) ∧ x = _ :=
    ⟨_, _, avoidCollisionsNoFloats_ok b' cx cb py _ _ _ _ hw' hml hmr (hmt'.trans hmt), rfl⟩
  refine ⟨{ b' with positionX := x }, x, y, ?_, hw', hh', hml, hmr, rfl, fun hltr => ?_,
    fun hrtl ml mr hml' hmr' => ?_⟩
  · simp only [blockReplacedBoxLayout, hb', hxy, bind, Except.bind, pure, Except.pure]
  · rw [hx, hltr, if_neg Bool.false_ne_true]
    ring
  · obtain rfl := Option.some.inj (hml.symm.trans hml')
    obtain rfl := Option.some.inj (hmr.symm.trans hmr')
    have hpb' : b'.paddingLeft + b'.paddingRight + b'.borderLeft + b'.borderRight = b.pb := hpb
    rw [hx, hrtl, if_pos rfl]
    linarith

/-- A `display: block` `<img>` with `width` and `height` auto: `docImage` is `block_replaced_box_layout` on the resolved
box (auto vertical margins 0) with the intrinsic size of the raster image. -/
theorem docImage_block_auto (c : CssBox) (cb : Cb) (cbh : Len) (cx py pw ph res ratio : Rat) (hres : res ≠ 0)
    (hw : c.width = none) (hh : c.height = none) :
    docImage true c cb cbh cx py pw ph res ratio =
      blockReplacedBoxLayout true ⟨some (pw / res), some (ph / res), some ratio⟩ cb cx py
        { resolvePercentages c cb.width cbh cx with
          marginTop := some ((resolvePercentages c cb.width cbh cx).marginTop.getD 0),
          marginBottom := some ((resolvePercentages c cb.width cbh cx).marginBottom.getD 0) } := by
  simp only [docImage, rasterIntrinsic_ok pw ph res ratio hres, docImageI, hw, hh, Option.isNone_none,
    Bool.and_self, if_true, bind, Except.bind]

/-- **Where a block-level image goes** (CSS 2.1 10.3.4 → 10.3.3, and the placement of `block_replaced_box_layout`
without floats): a `display: block` `<img>` of `pw × ph` px with initial sizing properties gets the used margins
of 10.3.3 for the width `pw / res`; in an ltr containing block its margin box starts at the content edge of the
containing block, in an rtl one it ends at the opposite content edge. -/
theorem doc_block_image_margins (c : CssBox) (cb : Cb) (cbh : Len) (cx py pw ph res : Rat)
    (hpw : 0 < pw) (hph : 0 < ph) (hres : 0 < res)
    (hw : c.width = none) (hh : c.height = none) (hminw : c.minWidth = none) (hminh : c.minHeight = none)
    (hmaxw : c.maxWidth = none) (hmaxh : c.maxHeight = none) :
    ∃ b x y, docImage true c cb cbh cx py pw ph res (pw / ph) = .ok (b, x, y) ∧
      b.width = some (pw / res) ∧ b.height = some (ph / res) ∧
      b.marginLeft = some (usedMargins (resolvePercentages c cb.width cbh cx).pb (pw / res) cb.width
        (resolvePercentages c cb.width cbh cx).marginLeft (resolvePercentages c cb.width cbh cx).marginRight).1 ∧
      b.marginRight = some (usedMargins (resolvePercentages c cb.width cbh cx).pb (pw / res) cb.width
        (resolvePercentages c cb.width cbh cx).marginLeft (resolvePercentages c cb.width cbh cx).marginRight).2 ∧
      b.positionX = x ∧
      (cb.rtl = false → x = cx) ∧
      (cb.rtl = true → ∀ ml mr, b.marginLeft = some ml → b.marginRight = some mr →
        x + ml + (pw / res + (resolvePercentages c cb.width cbh cx).pb) + mr = cx + cb.width) := by
  obtain ⟨r1, r2, r3, r4, r5, r6⟩ := resolve_auto c cb.width cbh cx hw hh hminw hminh hmaxw hmaxh
  rw [docImage_block_auto c cb cbh cx py pw ph res _ (ne_of_gt hres) hw hh]
  generalize resolvePercentages c cb.width cbh cx = rb at *
  exact block_layout_intrinsic _ cb cx py _ (pw / res) (ph / res) _ (.of_initial hpw hph hres r1 r2 r3 r4 r5 r6) rfl

/-- **Intrinsic size divided by `image-resolution` by default — for a block-level image too**: a
`display: block` `<img>` showing a raster image of `pw × ph` pixels, every sizing property at its initial value,
in any containing block (ltr or rtl) and with any margins, paddings and borders, is laid out
`pw / res × ph / res` by `block_level_layout` → `block_replaced_box_layout` (no floats around). -/
theorem doc_block_image_default_size (c : CssBox) (cb : Cb) (cbh : Len) (cx py pw ph res : Rat)
    (hpw : 0 < pw) (hph : 0 < ph) (hres : 0 < res)
    (hw : c.width = none) (hh : c.height = none) (hminw : c.minWidth = none) (hminh : c.minHeight = none)
    (hmaxw : c.maxWidth = none) (hmaxh : c.maxHeight = none) :
    ∃ b x y, docImage true c cb cbh cx py pw ph res (pw / ph) = .ok (b, x, y) ∧
      b.width = some (pw / res) ∧ b.height = some (ph / res) := by
  obtain ⟨b, x, y, hdoc, hbw, hbh, _⟩ :=
    doc_block_image_margins c cb cbh cx py pw ph res hpw hph hres hw hh hminw hminh hmaxw hmaxh
  exact ⟨b, x, y, hdoc, hbw, hbh⟩

/-- Non-vacuity: a block `<img>` of 8 × 4 px at 2dppx with `margin-left: auto` in a 200px rtl containing block. -/
example : (docImage true ⟨none, none, none, none, none, none, none, some (.px 3), none, none, .px 1, .pct 10, 2, 0⟩
    ⟨200, true⟩ none 0 0 8 4 2 (8 / 4)).toOption.map (fun r => (r.1.width, r.1.height)) = some (some 4, some 2) := by
  decide +kernel

/-- **`margin: auto` centres a block-level image**: a `display: block` `<img>` of `pw × ph` px with initial sizing
properties and `margin-left: auto; margin-right: auto`, whose border box fits in the containing block, has equal
used margins `(cb_width − paddings − borders − pw / res) / 2` (not negative), and its margin box spans the content
box of the containing block exactly (`position_x` is its content edge) — in ltr and in rtl alike: the border box
starts that margin away from the edge. -/
theorem doc_block_image_centered (c : CssBox) (cb : Cb) (cbh : Len) (cx py pw ph res : Rat)
    (hpw : 0 < pw) (hph : 0 < ph) (hres : 0 < res)
    (hw : c.width = none) (hh : c.height = none) (hminw : c.minWidth = none) (hminh : c.minHeight = none)
    (hmaxw : c.maxWidth = none) (hmaxh : c.maxHeight = none)
    (hml : c.marginLeft = none) (hmr : c.marginRight = none)
    (hfit : (resolvePercentages c cb.width cbh cx).pb + pw / res ≤ cb.width) :
    ∃ b x y, docImage true c cb cbh cx py pw ph res (pw / ph) = .ok (b, x, y) ∧
      b.width = some (pw / res) ∧ b.height = some (ph / res) ∧
      b.marginLeft = some ((cb.width - (resolvePercentages c cb.width cbh cx).pb - pw / res) / 2) ∧
      b.marginRight = some ((cb.width - (resolvePercentages c cb.width cbh cx).pb - pw / res) / 2) ∧
      0 ≤ (cb.width - (resolvePercentages c cb.width cbh cx).pb - pw / res) / 2 ∧
      x = cx := by
  obtain ⟨b, x, y, hdoc, hbw, hbh, hbl, hbr, hpx, hltr, hrtl⟩ :=
    doc_block_image_margins c cb cbh cx py pw ph res hpw hph hres hw hh hminw hminh hmaxw hmaxh
  obtain ⟨_, _, _, m1, m2⟩ := resolvePercentages_horizontal c cb.width cbh cx
  rw [m1, m2, hml, hmr, Option.map_none] at hbl hbr
  obtain ⟨_, _, hs, _⟩ := used_margins_spec (resolvePercentages c cb.width cbh cx).pb (pw / res) cb.width none none
  obtain ⟨heq, h0, _, hc⟩ := hs (by simpa using hfit) (Or.inl rfl)
  obtain ⟨hsame, hval⟩ := hc rfl rfl
  rw [hval] at hbl
  rw [← hsame, hval] at hbr
  refine ⟨b, x, y, hdoc, hbw, hbh, hbl, hbr, by rw [← hval]; exact h0 rfl, ?_⟩
  rcases hd : cb.rtl with _ | _
  · exact hltr hd
  · have := hrtl hd _ _ hbl hbr
    linarith

/-- Non-vacuity: an 8 × 4 px block image at 2dppx, `margin: 0 auto`, 1px + 10% padding and a 2px left border in a
200px containing block (ltr, then rtl): used width 4, both margins (200 − 23 − 4) / 2, `position_x` = the content
edge 7 of the containing block. -/
example : (docImage true ⟨none, none, none, none, none, none, none, none, none, none, .px 1, .pct 10, 2, 0⟩
      ⟨200, false⟩ none 7 0 8 4 2 (8 / 4)).toOption.map (fun r => (r.1.width, r.1.marginLeft, r.1.marginRight, r.2.1)) =
      some (some 4, some (173 / 2), some (173 / 2), 7) ∧
    (docImage true ⟨none, none, none, none, none, none, none, none, none, none, .px 1, .pct 10, 2, 0⟩
      ⟨200, true⟩ none 7 0 8 4 2 (8 / 4)).toOption.map (fun r => (r.1.width, r.1.marginLeft, r.1.marginRight, r.2.1)) =
      some (some 4, some (173 / 2), some (173 / 2), 7) := by
  constructor <;> decide +kernel

/-- …and a given `margin-right: 30px` with `margin-left: auto` in rtl: the left margin takes the rest and the margin
box ends at the right content edge (7 + 200). -/
example : (docImage true ⟨none, none, none, none, none, none, none, some (.px 30), none, none, .px 0, .px 0, 0, 0⟩
      ⟨200, true⟩ none 7 0 8 4 2 (8 / 4)).toOption.map (fun r => (r.1.marginLeft, r.1.marginRight, r.2.1)) =
    some (some 166, some 30, 7) := by
  decide +kernel

/-- **No declared `image-resolution` can make the intrinsic size divide by zero or come out negative**
(repair d011d54; finding `image-resolution-zero-division`, filed under C07): the validator keeps a
resolution only when it is positive, so the computed value is positive for every declaration (valid,
zero, negative, wrong unit, not a dimension), `RasterImage.get_intrinsic_size` succeeds, and a
`pw × ph` image with positive sides has a positive intrinsic size.  This discharges the hypothesis
`0 < res` of `doc_image_default_size` for every document. -/
theorem image_resolution_positive (declared : Option (Rat × Option Rat)) (pw ph ratio : Rat) :
    0 < computedResolution declared ∧
    (∀ v f r, imageResolutionValid v f = some r → 0 < r ∧ ∃ f', f = some f' ∧ r = v * f') ∧
    (∃ i, rasterIntrinsic pw ph (computedResolution declared) ratio = .ok i ∧
      (0 < pw → 0 < ph → ∃ w h, i.w = some w ∧ i.h = some h ∧ 0 < w ∧ 0 < h)) := by
  have hvalid : ∀ v f r, imageResolutionValid v f = some r → 0 < r ∧ ∃ f', f = some f' ∧ r = v * f' := by
    intro v f r h
    unfold imageResolutionValid at h
    rcases f with _ | f'
    · simp at h
    · simp only at h
      split_ifs at h with hp
      · obtain rfl := Option.some.inj h
        exact ⟨hp, f', rfl, rfl⟩
  have hpos : 0 < computedResolution declared := by
    unfold computedResolution
    rcases declared with _ | ⟨v, f⟩
    · norm_num
    · show 0 < (imageResolutionValid v f).getD 1
      rcases hv : imageResolutionValid v f with _ | r
      · simp
      · simpa using (hvalid v f r hv).1
  refine ⟨hpos, hvalid, ?_⟩
  exact ⟨_, rasterIntrinsic_ok pw ph _ ratio (ne_of_gt hpos), fun hpw hph =>
    ⟨_, _, rfl, rfl, div_pos hpw hpos, div_pos hph hpos⟩⟩

/-- Regression inputs of the fixed finding: `image-resolution: 0dppx` and `-1dppx` are dropped (the image is
laid out at the initial 1dppx), `2dppx` and `192dpi` (factor 1/96) are kept, `2px` is not a resolution. -/
example : computedResolution (some (0, some 1)) = 1 ∧ computedResolution (some (-1, some 1)) = 1 ∧
    computedResolution (some (2, some 1)) = 2 ∧ computedResolution (some (192, some (1 / 96))) = 2 ∧
    computedResolution (some (2, none)) = 1 := by
  refine ⟨?_, ?_, ?_, ?_, ?_⟩ <;> decide +kernel

/-- Percentages: `width`, `min-width`, `max-width`, horizontal margins and paddings of an image resolve
against the *width* of the containing block; a percentage `height` against its height and to `auto` when
that height is `auto` (CSS 2.1 10.5). -/
theorem doc_percentages (c : CssBox) (cbw px : Rat) (cbh : Len) (v : Rat) :
    (c.width = some (.pct v) → (resolvePercentages c cbw cbh px).width = some (cbw * v / 100)) ∧
    (c.height = some (.pct v) → cbh = none → (resolvePercentages c cbw cbh px).height = none) ∧
    (∀ ch, c.height = some (.pct v) → cbh = some ch → (resolvePercentages c cbw cbh px).height = some (ch * v / 100)) ∧
    (c.maxWidth = some (.pct v) → (resolvePercentages c cbw cbh px).maxWidth = some (cbw * v / 100)) ∧
    (c.width = some (.px v) → (resolvePercentages c cbw cbh px).width = some v) := by
  obtain ⟨hwidth, _, hmax, _⟩ := resolvePercentages_horizontal c cbw cbh px
  refine ⟨fun h => ?_, fun h hc => ?_, fun ch h hc => ?_, fun h => ?_, fun h => ?_⟩
  · rw [hwidth, h]; rfl
  · subst hc; show (match c.height with | some (.px v) => some v | _ => none) = none; rw [h]
  · subst hc; show c.height.map (fun d => percentage d ch) = _; rw [h]; rfl
  · rw [hmax, h]; rfl
  · rw [hwidth, h]; rfl

/-- **A specified size is clamped by `min-width` / `max-width` resolved against the containing block's width**,
for the whole pipeline from the computed style (percentages included) to the used width. -/
theorem doc_image_within_min_max (c : CssBox) (cb : Cb) (cbh : Len) (cx py pw ph res ratio : Rat)
    (b : RBox) (x y : Rat) (hspec : (c.width.isNone && c.height.isNone) = false)
    (h : docImage false c cb cbh cx py pw ph res ratio = .ok (b, x, y)) :
    let minW : Rat := match c.minWidth with | some d => percentage d cb.width | none => 0
    let maxW : MaxLen := c.maxWidth.map (fun d => percentage d cb.width)
    ∃ w, b.width = some w ∧ minW ≤ w ∧ (w = minW ∨ ∀ m, maxW = some m → w ≤ m) := by
  intro minW maxW
  obtain ⟨i, _, h⟩ := Except.bind_eq_ok h
  simp only [docImageI, hspec, Bool.false_eq_true, if_false] at h
  obtain ⟨b1, h1, h⟩ := Except.bind_eq_ok h
  cases h
  obtain ⟨_, hmin, hmax, _⟩ := resolvePercentages_horizontal c cb.width cbh cx
  have := irl_bounds i cb _ b h1
  rwa [hmin, hmax] at this

example : (docImage false ⟨some (.pct 100), none, none, none, some (.pct 25), none, none, none, none, none, .px 0, .px 0, 0, 0⟩
    ⟨200, false⟩ none 0 0 8 4 1 (8 / 4)).toOption.map (fun r => (r.1.width, r.1.height)) = some (some 50, some 25) := by
  decide +kernel

/-- **An over-constrained rtl block is shifted exactly once, by the space its *used* width leaves** — also when
`min-width` / `max-width` clamp the width and `handle_min_max_width` runs `block_level_width` again (repair
165e254; before it each re-run shifted the already shifted box). -/
theorem blw_rtl_shift_once (b : RBox) (cb : Cb) (w ml mr : Rat)
    (hw : b.width = some w) (hml : b.marginLeft = some ml) (hmr : b.marginRight = some mr) (b' : RBox)
    (h : blockLevelWidth b cb = .ok b') :
    ∃ w', b' = shifted b cb ml mr w' := by
  -- a re-run starts from the saved margins and `position_x`, i.e. from `b` with the clamped width
  have hf : ∀ y, blwCore { b with width := some y } cb = shifted b cb ml mr y :=
    fun y => blwCore_with_width b cb ml mr y hml hmr
  refine Axis.decorate_induct (ax := .horizontal) (fun b1 => ∃ w', b1 = shifted b cb ml mr w') ?_ ?_
    ((withMinMaxWidth_eq _ b).symm.trans h)
  · intro b1 h1
    exact ⟨w, (Except.ok.inj h1).symm.trans (by rw [← hf w, ← hw])⟩
  · rintro _ v b2 ⟨x, rfl⟩ h2
    exact ⟨v, (Except.ok.inj h2).symm.trans (hf v)⟩

/-- `width: 200px; max-width: 50px; margin: 0` in a 100px rtl containing block, box at x = 0: the used width is
50 and the box is moved by 100 − 50 = 50, once (it was −100 + 50 = −50 before the repair). -/
example : (blockLevelWidth ⟨some 200, none, some 0, some 0, some 0, some 0, 0, 0, 0, 0, 0, some 50, 0, none, 0, false⟩
    ⟨100, true⟩).toOption.map (fun b => (b.width, b.positionX)) = some (some 50, 50) := by decide +kernel

/-! ## C13.minmax_table — CSS 2.1 10.4, `min_max_auto_replaced` -/

/-- The used size after `min_max_auto_replaced` lies in `[min, max(min, max)]` on both axes
(positive sizes; for a zero size the code substitutes `1e-6` and may exceed a zero maximum by it). -/
theorem minmax_table_within (w h minW minH : Rat) (maxW maxH : MaxLen) (hw : 0 < w) (hh : 0 < h)
    (w' h' : Rat) (hres : mmarCore w h minW minH maxW maxH = .ok (w', h')) :
    (minW ≤ w' ∧ ∀ m, capMax minW maxW = some m → w' ≤ m) ∧
    (minH ≤ h' ∧ ∀ m, capMax minH maxH = some m → h' ≤ m) :=
  minmax_within_with _ _ w h minW minH maxW maxH hw hh w' h' hres

example : mmarCore 200 100 0 0 (some 50) none = .ok (50, 25) := by decide +kernel

/-- No violation: unchanged.  Exactly one constraint violated: that dimension goes to the violated
bound and the ratio is preserved (`w'·h = h'·w`) unless the other dimension is stopped by its own
opposite bound. -/
theorem minmax_table_ratio (w h minW minH : Rat) (maxW maxH : MaxLen) (hw : 0 < w) (hh : 0 < h)
    (w' h' : Rat) (hres : mmarCore w h minW minH maxW maxH = .ok (w', h')) :
    (viol w minW (capMax minW maxW) = .ok → viol h minH (capMax minH maxH) = .ok → w' = w ∧ h' = h) ∧
    (viol w minW (capMax minW maxW) = .max → viol h minH (capMax minH maxH) = .ok →
      capMax minW maxW = some w' ∧ (w' * h = h' * w ∨ h' = minH)) ∧
    (viol w minW (capMax minW maxW) = .min → viol h minH (capMax minH maxH) = .ok →
      w' = minW ∧ (w' * h = h' * w ∨ capMax minH maxH = some h')) ∧
    (viol w minW (capMax minW maxW) = .ok → viol h minH (capMax minH maxH) = .max →
      capMax minH maxH = some h' ∧ (w' * h = h' * w ∨ w' = minW)) ∧
    (viol w minW (capMax minW maxW) = .ok → viol h minH (capMax minH maxH) = .min →
      h' = minH ∧ (w' * h = h' * w ∨ capMax minW maxW = some w')) :=
  minmax_ratio_with _ _ w h minW minH maxW maxH hw.ne' hh.ne' w' h' hres

/-- `min_max_auto_replaced` never divides by zero and never fails, for any numbers. -/
theorem minmax_table_total (w h minW minH : Rat) (maxW maxH : MaxLen) :
    ∃ r, mmarCore w h minW minH maxW maxH = .ok r :=
  minmax_total_with _ _ (ne_of_gt epsW_pos) (ne_of_gt epsH_pos) w h minW minH maxW maxH

/-- The `violations == (…)` chain of the source (regenerated each run) has exactly the eight
non-trivial cases of the 10.4 table, each once: removing or duplicating a case breaks this proof. -/
theorem minmax_table_cases_generated :
    (∀ vw vh : Viol, (vw, vh) ≠ (.ok, .ok) → (vw.css, vh.css) ∈ Gen.violationCases) ∧
    Gen.violationCases.length = 8 ∧ ("", "") ∉ Gen.violationCases := by
  refine ⟨?_, by decide, by decide⟩
  intro vw vh h
  cases vw <;> cases vh <;> first | exact absurd rfl h | decide

/-! ## C13.default_sizing / C13.contain_cover — css-images-3 concrete object size -/

/-- `contain`: inside the constraint rectangle, touching it on one axis, ratio kept; `cover`: covers it,
touching on one axis, ratio kept; without a ratio both are the rectangle itself. -/
theorem contain_cover (cw ch : Rat) :
    (∀ r w h, 0 < r → containSizing cw ch (some r) = .ok (w, h) →
      w ≤ cw ∧ h ≤ ch ∧ (w = cw ∨ h = ch) ∧ w = h * r) ∧
    (∀ r w h, 0 < r → coverSizing cw ch (some r) = .ok (w, h) →
      cw ≤ w ∧ ch ≤ h ∧ (w = cw ∨ h = ch) ∧ w = h * r) ∧
    (∀ cover, constraintSizing cw ch none cover = .ok (cw, ch)) ∧
    (∀ r cover, r ≠ 0 → ∃ p, constraintSizing cw ch (some r) cover = .ok p) :=
  ⟨fun r w h hr => contain_fits cw ch r w h hr, fun r w h hr => cover_covers cw ch r w h hr,
   fun cover => constraint_no_ratio cw ch cover, fun r cover hr => constraint_total cw ch r hr cover⟩

example : containSizing 100 30 (some 2) = .ok (60, 30) ∧ coverSizing 100 30 (some 2) = .ok (100, 50) := by
  constructor <;> decide +kernel

/-- `default_image_sizing`: both specified → as specified; one specified → the other through the
ratio (else the intrinsic dimension, else the default); none specified → the intrinsic size if
any dimension is known (completed through the ratio), else `contain` in the default box. -/
theorem default_sizing (i : Intr) (dw dh : Rat) :
    (∀ w h, defaultImageSizing i (some w) (some h) dw dh = .ok (w, h)) ∧
    (∀ w r, i.ratio = some r → r ≠ 0 → defaultImageSizing i (some w) none dw dh = .ok (w, w / r)) ∧
    (∀ h r, i.ratio = some r → defaultImageSizing i none (some h) dw dh = .ok (h * r, h)) ∧
    (∀ iw ih, i.w = some iw → i.h = some ih → defaultImageSizing i none none dw dh = .ok (iw, ih)) ∧
    (i.w = none → i.h = none → defaultImageSizing i none none dw dh = containSizing dw dh i.ratio) := by
  refine ⟨fun w h => rfl, fun w r hr hr0 => ?_, fun h r hr => ?_, fun iw ih hw hh => ?_, fun hw hh => ?_⟩
  · simp [defaultImageSizing, disSpecified, hr, pyDiv_ok hr0, bind, Except.bind, pure, Except.pure]
  · simp [defaultImageSizing, disSpecified, hr]
  · simp [defaultImageSizing, disSpecified, hw, hh]
  · simp [defaultImageSizing, disSpecified, hw, hh]

/-! ## C13.object_fit — `replacedbox_layout` -/

/-- The draw size for each `object-fit` value (`iw × ih`: the intrinsic size, itself the `contain`
size when the image has none). -/
theorem object_fit_size (g : Geom) (ratio : Option Rat) (iw ih : Rat) :
    drawSize g .fill ratio iw ih = .ok (g.width, g.height) ∧
    drawSize g .contain ratio iw ih = containSizing g.width g.height ratio ∧
    drawSize g .cover ratio iw ih = coverSizing g.width g.height ratio ∧
    drawSize g .none ratio iw ih = .ok (iw, ih) ∧
    (∀ cw ch, containSizing g.width g.height ratio = .ok (cw, ch) →
      drawSize g .scaleDown ratio iw ih = .ok (min cw iw, min ch ih)) := by
  refine ⟨rfl, rfl, rfl, rfl, fun cw ch h => ?_⟩
  simp [drawSize, h, bind, Except.bind, pure, Except.pure]

/-- The painted rectangle: the draw size, placed at the `object-position` percentage of the free
space, measured from the named edge, relative to the content box. -/
theorem object_fit_position (g : Geom) (fit : ObjectFit) (pos : Position) (i : Intr) (r : DrawRect)
    (hres : replacedboxLayout g fit pos i = .ok r) :
    (∃ iw ih, layoutIntrinsic g i = .ok (iw, ih) ∧ drawSize g fit i.ratio iw ih = .ok (r.w, r.h)) ∧
    r.x = g.contentBoxX + placeAxis pos.fromRight pos.x (g.width - r.w) ∧
    r.y = g.contentBoxY + placeAxis pos.fromBottom pos.y (g.height - r.h) := by
  obtain ⟨⟨iw, ih⟩, h1, hres⟩ := Except.bind_eq_ok hres
  obtain ⟨⟨dw, dh⟩, h2, hres⟩ := Except.bind_eq_ok hres
  cases hres
  exact ⟨⟨iw, ih, h1, h2⟩, add_comm _ _, add_comm _ _⟩

/-- For `fill`, `contain` and `scale-down`, with percentage positions in `[0, 100]`, the painted
rectangle lies inside the content box. -/
theorem object_fit_inside_content_box (g : Geom) (fit : ObjectFit) (pos : Position) (i : Intr) (r : DrawRect)
    (px py : Rat) (hfit : fit = .fill ∨ fit = .contain ∨ fit = .scaleDown)
    (hratio : ∀ q, i.ratio = some q → 0 < q)
    (hx : pos.x = .pct px) (hy : pos.y = .pct py) (hpx : 0 ≤ px ∧ px ≤ 100) (hpy : 0 ≤ py ∧ py ≤ 100)
    (hres : replacedboxLayout g fit pos i = .ok r) :
    g.contentBoxX ≤ r.x ∧ r.x + r.w ≤ g.contentBoxX + g.width ∧
    g.contentBoxY ≤ r.y ∧ r.y + r.h ≤ g.contentBoxY + g.height := by
  obtain ⟨⟨iw, ih, _, hd⟩, ex, ey⟩ := object_fit_position g fit pos i r hres
  obtain ⟨hw, hh⟩ := drawSize_inside g fit i.ratio iw ih r.w r.h hfit hratio hd
  obtain ⟨ax, bx⟩ := placeAxis_pct_range pos.fromRight px (g.width - r.w) hpx.1 hpx.2 (by linarith)
  obtain ⟨ay, bY⟩ := placeAxis_pct_range pos.fromBottom py (g.height - r.h) hpy.1 hpy.2 (by linarith)
  rw [hx] at ex; rw [hy] at ey
  refine ⟨?_, ?_, ?_, ?_⟩ <;> linarith

example : replacedboxLayout ⟨10, 20, 0, 0, 0, 0, 0, 0, 0, 0, 0, 0, 0, 0, 100, 30⟩ .contain
    ⟨false, .pct 50, false, .pct 50⟩ ⟨some 40, some 20, some 2⟩ = .ok ⟨60, 30, 30, 20⟩ := by
  simp [replacedboxLayout, layoutIntrinsic, drawSize, containSizing, constraintSizing, placeRect, placeAxis,
    percentage, pyDiv, Geom.contentBoxX, Geom.contentBoxY, bind, Except.bind, pure, Except.pure]
  norm_num

/-! ## C13.background_layer — `layout_background_layer` -/

/-- `background-repeat: round`: unless the tile is empty on that axis (nothing is painted then), an
integer number `n ≥ 1` of tiles exactly fills the positioning area on that axis (which `n`:
`background_round_count`) and `background-position` is ignored there.  Full strength since the
repair of `background-round-zero-size` (a zero-sized image skips the arithmetic instead of dividing
by zero; `background_round_total`). -/
theorem background_round (g : Geom) (kind : BoxKind) (pg : Geom) (i : Intr) (size : BgSize) (clip : BoxArea)
    (rx ry : Repeat) (origin : BoxArea) (pos : Position) (fixed : Bool) (pa : Rect) (l : Layer)
    (hres : layoutBackgroundLayer g kind pg (some i) size clip rx ry origin pos fixed = .ok ⟨pa, some l⟩) :
    (rx = .round → l.size.1 = 0 ∨
      ∃ n : Int, 1 ≤ n ∧ l.size.1 * (n : Rat) = l.positioningArea.w ∧ l.position.1 = 0) ∧
    (ry = .round → l.size.2 = 0 ∨
      ∃ n : Int, 1 ≤ n ∧ l.size.2 * (n : Rat) = l.positioningArea.h ∧ l.position.2 = 0) := by
  obtain ⟨positioning, s, p1, p2, h1, h2, h3, h4, rfl⟩ := layer_inv g kind pg i size clip rx ry origin pos fixed pa l hres
  constructor
  · rintro rfl
    obtain ⟨hx1, hx0, _⟩ := roundX_spec ry size positioning.w _ p1 h3
    -- with `round` on x, the later y step leaves the width and the x position alone
    have hkeep : p2.iw = p1.iw ∧ p2.px = p1.px := by
      by_cases hry : ry = .round
      · subst hry
        obtain ⟨_, _, hpx', hiw⟩ := roundY_spec .round size positioning.h p1 p2 h4
        exact ⟨hiw rfl, hpx'⟩
      · have := roundY_not_round .round ry size positioning.h p1 p2 hry h4
        subst this; exact ⟨rfl, rfl⟩
    by_cases h0 : s.1 = 0
    · left
      have : p1 = _ := hx0 h0
      simp only [hkeep.1, this, h0]
    · right
      obtain ⟨n, hn, hfill, hpx⟩ := hx1 h0
      exact ⟨n, hn, by simp only [hkeep.1, hfill], by simp only [hkeep.2, hpx]⟩
  · rintro rfl
    obtain ⟨hy1, hy0, _, _⟩ := roundY_spec rx size positioning.h p1 p2 h4
    by_cases h0 : p1.ih = 0
    · left
      have : p2 = p1 := hy0 h0
      simp only [this, h0]
    · right
      obtain ⟨n, hn, hfill, hpy⟩ := hy1 h0
      exact ⟨n, hn, hfill, hpy⟩

/-- The `round` steps of `layout_background_layer` never raise, whatever the tile size (regression
statement for the repaired `background-round-zero-size`). -/
theorem background_round_total (rx ry : Repeat) (size : BgSize) (pw ph : Rat) (p : Placed) :
    ∃ p1 p2, roundX rx ry size pw p = .ok p1 ∧ roundY rx ry size ph p1 = .ok p2 := by
  obtain ⟨p1, h1⟩ := roundX_total rx ry size pw p
  obtain ⟨p2, h2⟩ := roundY_total rx ry size ph p1
  exact ⟨p1, p2, h1, h2⟩

/-- Regression for `background-round-zero-size`: `background-size: 0 auto` with `round` is laid out
(tile 0 × 0, then not painted) instead of raising ZeroDivisionError. -/
example : (layoutBackgroundLayer ⟨0, 0, 0, 0, 0, 0, 0, 0, 0, 0, 0, 0, 0, 0, 100, 50⟩ .plain
      ⟨0, 0, 0, 0, 0, 0, 0, 0, 0, 0, 0, 0, 0, 0, 100, 50⟩ (some ⟨some 4, some 4, some 1⟩)
      (.explicit (some (.px 0)) none) .borderBox .round .repeat .paddingBox ⟨false, .pct 0, false, .pct 0⟩
      false).toOption.map (fun r => r.layer.map (fun l => l.size)) = some (some (0, 0)) := by decide +kernel

/-- Without `round`, the layer's size is the concrete object size and the position the
`background-position` percentage of the free space, from the named edge. -/
theorem background_no_round (g : Geom) (kind : BoxKind) (pg : Geom) (i : Intr) (size : BgSize) (clip : BoxArea)
    (rx ry : Repeat) (origin : BoxArea) (pos : Position) (fixed : Bool) (pa : Rect) (l : Layer)
    (hrx : rx ≠ .round) (hry : ry ≠ .round)
    (hres : layoutBackgroundLayer g kind pg (some i) size clip rx ry origin pos fixed = .ok ⟨pa, some l⟩) :
    positioningAreaOf g kind pg origin fixed = .ok l.positioningArea ∧
    concreteSize i size l.positioningArea.w l.positioningArea.h = .ok l.size ∧
    l.position = (placeAxis pos.fromRight pos.x (l.positioningArea.w - l.size.1),
                  placeAxis pos.fromBottom pos.y (l.positioningArea.h - l.size.2)) := by
  obtain ⟨positioning, s, p1, p2, h1, h2, h3, h4, rfl⟩ := layer_inv g kind pg i size clip rx ry origin pos fixed pa l hres
  have e1 := roundX_not_round rx ry size positioning.w _ p1 hrx h3
  have e2 := roundY_not_round rx ry size positioning.h p1 p2 hry h4
  subst e2; subst e1
  exact ⟨h1, h2, rfl⟩

/-- The tile count of `round` is at least 1 and, where area / image is at least one half, within one half of it.
Which integer exactly, `max 1 (round (area / image))` with Python's half-to-even `round`, is `roundTiles_eq`. -/
theorem background_round_count (positioning image : Rat) (n : Int) (s : Rat)
    (hres : roundTiles positioning image = .ok (n, s)) :
    1 ≤ n ∧ s * (n : Rat) = positioning ∧
    (1 / 2 ≤ positioning / image →
      (n : Rat) - positioning / image ≤ 1 / 2 ∧ positioning / image - (n : Rat) ≤ 1 / 2) :=
  roundTiles_spec positioning image n s hres

example : roundTiles 100 30 = .ok (3, 100 / 3) := by decide +kernel
example : roundHalfEven (5 / 2) = 2 ∧ roundHalfEven (7 / 2) = 4 ∧ roundHalfEven (-1 / 2) = 0 := by decide +kernel

/-! ## C13.embedded_once — `Stream.add_image`, `_use_references` -/

/-- For any drawing (images, nested groups and patterns, any number of pages sharing the resources):
`_use_references` succeeds, appends exactly one image XObject per distinct name — i.e. per distinct
`(image.id, interpolate)` pair, the naming being injective — (that they come in first-use order is `document_objs`), and
every image entry of every `Resources` dictionary carries the object number recorded for its name (`RefsOk`; that this
number is the position of that image object among the appended objects is not stated). -/
theorem embedded_once (draws : List ImageDedupe.Draw) (base : Nat) :
    (∃ st, ImageDedupe.document draws base = some st ∧
      (imageObjNames st.objs).Nodup ∧
      (∀ n, n ∈ imageObjNames st.objs ↔ n ∈ drawNamesList draws) ∧
      imageObjNames st.objs = st.made.map Prod.fst ∧
      RefsOk st) ∧
    (∀ id1 id2 b1 b2, ImageDedupe.imageName id1 b1 = ImageDedupe.imageName id2 b2 → id1 = id2 ∧ b1 = b2) := by
  refine ⟨?_, imageName_injective⟩
  obtain ⟨st, hst, m2, m1, hok⟩ := document_objs draws base
  refine ⟨st, hst, by rw [m2]; simpa using KeepFirst.firsts_nodup id _ _, fun n => ?_, m1.symm, hok⟩
  rw [m2, ← imageNames_events]
  simpa using KeepFirst.mem_firsts_keys id _ [] n

example : (ImageDedupe.document
    [.image "a" true 1 false, .group [.image "a" true (1/2) false, .image "b" false 1 true], .image "a" true 1 false] 7).map
      (fun st => (imageObjNames st.objs, st.made)) = some (["ia1", "ib0"], [("ia1", 7), ("ib0", 9)]) := by
  decide +kernel

/-! ## C13.draw_ctm — `RasterImage.draw`, `draw_replacedbox` -/

/-- `cm` operators compose: a point of the inner system goes through the later matrix first. -/
theorem cm_andThen_apply (first second : Cm) (u v : Rat) :
    (first.andThen second).apply u v = first.apply (second.apply u v).1 (second.apply u v).2 := by
  simp only [Cm.andThen, Cm.apply, Prod.mk.injEq]
  constructor <;> ring

theorem rasterDraw_spec (id : String) (pw ph : Rat) (dpi : Option Rat) (cw ch c00 c11 : Rat) (auto : Bool)
    (o : ImageOps) (hres : rasterDraw id pw ph dpi cw ch c00 c11 auto = .ok (some o)) :
    o.cm = ⟨cw, 0, 0, -ch, 0, ch⟩ ∧ o.name = ImageDedupe.imageName id auto ∧ o.interpolate = auto ∧
    0 < pw ∧ 0 < ph ∧ (dpi = none → o.ratio = 1) := by
  unfold rasterDraw at hres
  split_ifs at hres with hz
  · simp at hres
  · have hpos : 0 < pw ∧ 0 < ph := by
      simp only [Bool.or_eq_true, decide_eq_true_eq, not_or, not_le] at hz; exact hz
    obtain ⟨ratio, hr, hres⟩ := Except.bind_eq_ok hres
    cases hres
    refine ⟨rfl, rfl, rfl, hpos.1, hpos.2, fun h => ?_⟩
    subst h; exact (Except.ok.inj hr).symm

/-- **C13.draw_ctm.** What `draw_replacedbox` emits maps the unit square of image space onto the
rectangle computed by `replacedbox_layout` (top edge of the image at `y`, y-down page space). -/
theorem draw_ctm (visible : Bool) (g : Geom) (fit : ObjectFit) (pos : Position) (res ratio : Rat)
    (id : String) (pw ph : Rat) (dpi : Option Rat) (c00 c11 : Rat) (auto : Bool) (ops : ReplacedOps)
    (hres : drawReplacedbox visible g fit pos res ratio id pw ph dpi c00 c11 auto = .ok (some ops)) :
    ∃ i r, rasterIntrinsic pw ph res ratio = .ok i ∧ replacedboxLayout g fit pos i = .ok r ∧
      0 < r.w ∧ 0 < r.h ∧
      (ops.translate.andThen ops.image.cm).apply 0 1 = (r.x, r.y) ∧
      (ops.translate.andThen ops.image.cm).apply 1 1 = (r.x + r.w, r.y) ∧
      (ops.translate.andThen ops.image.cm).apply 0 0 = (r.x, r.y + r.h) ∧
      (ops.translate.andThen ops.image.cm).apply 1 0 = (r.x + r.w, r.y + r.h) ∧
      ops.image.name = ImageDedupe.imageName id auto := by
  unfold drawReplacedbox at hres
  split_ifs at hres with hv
  · cases hres
  · obtain ⟨i, hi, hres⟩ := Except.bind_eq_ok hres
    obtain ⟨r, hl, hres⟩ := Except.bind_eq_ok hres
    split_ifs at hres with hsz
    · cases hres
    · have hpos : 0 < r.w ∧ 0 < r.h := by
        simp only [Bool.or_eq_true, decide_eq_true_eq, not_or, not_le] at hsz; exact hsz
      obtain ⟨_ | o, hd, hres⟩ := Except.bind_eq_ok hres <;> cases hres
      obtain ⟨hcm, hname, _⟩ := rasterDraw_spec id pw ph dpi r.w r.h c00 c11 auto o hd
      -- the unit square goes to the `r.w × r.h` box with y flipped, which the translation then moves to `(r.x, r.y)`
      simp only [cm_andThen_apply, hcm]
      simp only [Cm.apply, Prod.mk.injEq]
      refine ⟨i, r, hi, hl, hpos.1, hpos.2, ⟨?_, ?_⟩, ⟨?_, ?_⟩, ⟨?_, ?_⟩, ⟨?_, ?_⟩, hname⟩ <;> ring

/-! ## further clauses: SVG intrinsic size, `space` repeat, `contain` / `cover` backgrounds -/

/-- `SVGImage.get_intrinsic_size`: whenever it reports a width, a height (both non-zero) and a ratio,
they agree (`width / height = ratio`), whether the ratio came from the attributes or from the viewBox. -/
theorem svg_intrinsic_consistent (w h : Option Rat) (vb : Option (Rat × Rat)) (w' h' r : Rat)
    (hres : svgIntrinsic w h vb = .ok ⟨some w', some h', some r⟩) (hw : w' ≠ 0) (hh : h' ≠ 0) :
    w' / h' = r := by
  rcases w with _ | w0 <;> rcases h with _ | h0 <;> rcases vb with _ | ⟨vw, vh⟩ <;>
    simp [svgIntrinsic, truthy, pyDiv, bind, Except.bind, pure, Except.pure] at hres
  · -- neither attribute, viewBox: no dimension is produced
    split_ifs at hres <;> simp at hres
  · -- height only, viewBox
    split_ifs at hres with h1 h2 <;> simp at hres
    obtain ⟨rfl, rfl, rfl⟩ := hres
    field_simp
  · -- width only, viewBox
    split_ifs at hres with h1 h2 h3 <;> simp at hres
    obtain ⟨rfl, rfl, rfl⟩ := hres
    field_simp
  · -- both attributes, no viewBox
    split_ifs at hres with h1 <;> simp at hres
    · obtain ⟨rfl, rfl, rfl⟩ := hres; rfl
    · obtain ⟨rfl, rfl, rfl⟩ := hres; exact absurd ⟨hw, hh⟩ h1
  · -- both attributes, viewBox ignored
    split_ifs at hres with h1 <;> simp at hres
    · obtain ⟨rfl, rfl, rfl⟩ := hres; rfl
    · obtain ⟨rfl, rfl, rfl⟩ := hres; exact absurd ⟨hw, hh⟩ h1

/-- `background-repeat: space` in `draw_background_image`: with `n = ⌊area / tile⌋ ≥ 2` tiles the step
is such that the first tile starts at the area's origin and the last one ends exactly at its end. -/
theorem background_space_fills (image positioning painting position step p : Rat) (himg : 0 < image)
    (hn : 2 ≤ (positioning / image).floor)
    (hres : repeatAxis .space image positioning painting position = .ok (step, p)) :
    p = 0 ∧ image + (((positioning / image).floor : Int) - 1 : Rat) * step = positioning := by
  have hi : image ≠ 0 := ne_of_gt himg
  have hn' : (((positioning / image).floor : Int) : Rat) - 1 ≠ 0 := by
    have : (2 : Rat) ≤ ((positioning / image).floor : Int) := by exact_mod_cast hn
    linarith
  simp [repeatAxis, pyDiv_ok hi, pyDiv_ok hn', hn, bind, Except.bind, pure, Except.pure] at hres
  obtain ⟨rfl, rfl⟩ := hres
  refine ⟨rfl, ?_⟩
  field_simp
  ring

/-- A `contain` (resp. `cover`) background without `round`: the tile fits inside (resp. covers) the
positioning area, touching it on one axis, with the image's ratio. -/
theorem background_contain_cover (g : Geom) (kind : BoxKind) (pg : Geom) (i : Intr) (clip : BoxArea)
    (rx ry : Repeat) (origin : BoxArea) (pos : Position) (fixed : Bool) (pa : Rect) (l : Layer) (r : Rat)
    (hrx : rx ≠ .round) (hry : ry ≠ .round) (hr : i.ratio = some r) (hpos : 0 < r) :
    (layoutBackgroundLayer g kind pg (some i) .contain clip rx ry origin pos fixed = .ok ⟨pa, some l⟩ →
      l.size.1 ≤ l.positioningArea.w ∧ l.size.2 ≤ l.positioningArea.h ∧
      (l.size.1 = l.positioningArea.w ∨ l.size.2 = l.positioningArea.h) ∧ l.size.1 = l.size.2 * r) ∧
    (layoutBackgroundLayer g kind pg (some i) .cover clip rx ry origin pos fixed = .ok ⟨pa, some l⟩ →
      l.positioningArea.w ≤ l.size.1 ∧ l.positioningArea.h ≤ l.size.2 ∧
      (l.size.1 = l.positioningArea.w ∨ l.size.2 = l.positioningArea.h) ∧ l.size.1 = l.size.2 * r) := by
  constructor <;> intro hres
  · obtain ⟨_, h2, _⟩ := background_no_round g kind pg i .contain clip rx ry origin pos fixed pa l hrx hry hres
    simp only [concreteSize, hr] at h2
    exact contain_fits _ _ r _ _ hpos h2
  · obtain ⟨_, h2, _⟩ := background_no_round g kind pg i .cover clip rx ry origin pos fixed pa l hrx hry hres
    simp only [concreteSize, hr] at h2
    exact cover_covers _ _ r _ _ hpos h2

/-! ## non-vacuity: the hypotheses of the theorems above hold on concrete inputs -/

/-- `width: 500px; max-width: 300px` → 300; `height: auto` with ratio 2 → 150. -/
example : ((replacedBoxWidth ⟨some 40, some 20, some 2⟩ ⟨1000, false⟩
      ⟨some 500, none, some 0, some 0, some 0, some 0, 0, 0, 0, 0, 0, some 300, 0, none, 0, false⟩).toOption.bind
    (fun b => (replacedBoxHeight ⟨some 40, some 20, some 2⟩ b).toOption)).map (fun b => (b.width, b.height)) =
    some (some 300, some 150) := by decide +kernel

/-- A 100 × 50 padding box, a 30 × 30 image, `round repeat`: 3 tiles of 100/3 (auto height follows). -/
example : (layoutBackgroundLayer ⟨0, 0, 0, 0, 0, 0, 0, 0, 0, 0, 0, 0, 0, 0, 100, 50⟩ .plain
      ⟨0, 0, 0, 0, 0, 0, 0, 0, 0, 0, 0, 0, 0, 0, 400, 400⟩ (some ⟨some 30, some 30, some 1⟩)
      (.explicit none none) .borderBox .round .repeat .paddingBox ⟨false, .pct 50, false, .pct 50⟩ false).toOption.map
    (fun r => r.layer.map (fun l => (l.size, l.position))) = some (some ((100 / 3, 100 / 3), (0, 10))) := by
  decide +kernel

/-- `space`: a 100-wide area and 30-wide tiles: 3 tiles, step 35 (30 + 2·35 = 100). -/
example : repeatAxis .space 30 100 100 7 = .ok (35, 0) := by decide +kernel

/-- `draw_replacedbox` of a 4 × 2 px image, `object-fit: contain` in a 100 × 30 content box at (10, 20):
translate to (30, 20), then `60 0 0 -30 0 30 cm`. -/
example : (drawReplacedbox true ⟨10, 20, 0, 0, 0, 0, 0, 0, 0, 0, 0, 0, 0, 0, 100, 30⟩ .contain
      ⟨false, .pct 50, false, .pct 50⟩ 1 2 "a" 4 2 none (3 / 4) (-3 / 4) true).toOption.map
    (fun o => o.map (fun o => ((o.translate.e, o.translate.f), (o.image.cm.a, o.image.cm.d, o.image.cm.f)))) =
    some (some ((30, 20), (60, -30, 30))) := by decide +kernel

example : (svgIntrinsic (some 64) none (some (2, 8))).toOption.map (fun i => (i.w, i.h, i.ratio)) =
    some (some 64, some 256, some (2 / 8)) := by decide +kernel

/-! ## C13.embedded_alpha — decisions of `RasterImage.__init__` / `get_x_object` -/

section Embed
open Wp.RasterEmbed

/-- `RasterImage.__init__` in one piece: the image goes the JPEG path iff its format (lost in a conversion) is
JPEG/MPO, it is re-encoded iff there are no source bytes to pass through or an option asks for it, and that fails iff the
encoder of its path cannot write the normalised mode. -/
theorem rasterInit_eq (s : Src) (o : Opts) :
    rasterInit s o =
      let n := normalise s.mode s.transparency
      let fmt := if n.2 then Fmt.other else s.format
      let jpeg := fmt == .jpeg || fmt == .mpo
      let reencoded := !(s.hasData && !s.rotated) || o.optimize || (if jpeg then o.quality else fmt != .png)
      if reencoded && !(if jpeg then jpegWritable n.1 else pngWritable n.1) then
        .error (.osError (if jpeg then "RasterImage.__init__.save(JPEG)" else "RasterImage.__init__.save(PNG)"))
      else .ok ⟨n.1, jpeg, reencoded, n.1 == .CMYK && s.app14⟩ := by
  unfold rasterInit
  simp only []
  generalize normalise s.mode s.transparency = n
  generalize (if n.2 then Fmt.other else s.format) = fmt
  generalize (!(s.hasData && !s.rotated)) = noData
  rcases hj : (fmt == .jpeg || fmt == .mpo) with _ | _
  · simp only [Bool.false_eq_true, if_false]
    cases noData || o.optimize || fmt != .png <;> cases pngWritable n.1 <;> rfl
  · simp only [if_true]
    cases noData || o.optimize || o.quality <;> cases jpegWritable n.1 <;> rfl

theorem rasterInit_ok (s : Src) (o : Opts) (r : Raster) (h : rasterInit s o = .ok r) :
    r.mode = (normalise s.mode s.transparency).1 ∧
    r.jpeg = (!(normalise s.mode s.transparency).2 && (s.format == .jpeg || s.format == .mpo)) ∧
    r.invert = ((normalise s.mode s.transparency).1 == .CMYK && s.app14) := by
  rw [rasterInit_eq] at h
  obtain ⟨_, rfl⟩ := Except.of_ite_error_eq_ok h
  refine ⟨rfl, ?_, rfl⟩
  cases (normalise s.mode s.transparency).2 <;> rfl

theorem embed_ok (s : Src) (o : Opts) (r : Raster) (x : XObject) (h : embed s o = .ok (r, x)) :
    rasterInit s o = .ok r ∧ x = xObject r := by
  unfold embed at h
  rcases hr : rasterInit s o with e | r'
  · rw [hr] at h; cases h
  · rw [hr] at h; cases h; exact ⟨rfl, rfl⟩

theorem normalise_alpha (m : PMode) (t : Bool) :
    ((normalise m t).1 == .RGBA || (normalise m t).1 == .LA) = (t || m == .LA || m == .RGBA) := by
  cases t <;> cases m <;> rfl

theorem normalise_native (m : PMode) (t : Bool)
    (h : t = true ∨ m = .bilevel ∨ m = .L ∨ m = .LA ∨ m = .P ∨ m = .RGB ∨ m = .RGBA ∨ m = .I) :
    ((normalise m t).1 == .L || (normalise m t).1 == .LA || (normalise m t).1 == .RGB ||
      (normalise m t).1 == .RGBA) = true := by
  rcases h with rfl | rfl | rfl | rfl | rfl | rfl | rfl | rfl
  · rfl
  all_goals cases t <;> rfl

theorem normalise_kept (m : PMode) (h : m = .L ∨ m = .RGB ∨ m = .CMYK) : normalise m false = (m, false) := by
  rcases h with rfl | rfl | rfl <;> rfl

/-- **An image with an alpha channel or transparency information gets an `/SMask`; one without does
not.**  For every image that Pillow's decoders can produce (`JPEG`/`MPO` files decode to `L`, `RGB` or
`CMYK`) except palette-with-alpha (`PA`: Pillow opens no PNG file in that mode and other formats in it are refused, see
`Witness.unwritable_mode_not_loaded`; the model itself does embed a `PA` source of format `png`, without `/SMask`, so `hpa`
is needed), whatever the options and the orientation, whenever the image is embedded at all. -/
theorem embed_smask_iff_alpha (s : Src) (o : Opts) (r : Raster) (x : XObject)
    (h : embed s o = .ok (r, x)) (hpa : s.mode ≠ .PA)
    (hjpeg : s.format = .jpeg ∨ s.format = .mpo → s.mode = .L ∨ s.mode = .RGB ∨ s.mode = .CMYK) :
    x.smask = hasAlpha s := by
  obtain ⟨hr, rfl⟩ := embed_ok s o r x h
  obtain ⟨hm, hj, _⟩ := rasterInit_ok s o r hr
  have hpa' : (s.mode == .PA) = false := beq_eq_false_iff_ne.mpr hpa
  unfold xObject hasAlpha
  rcases hrj : r.jpeg with _ | _
  · -- PNG path: the mask is there iff the normalised mode has alpha
    simp only [Bool.false_eq_true, if_false, hm, normalise_alpha, hpa', Bool.or_false, Bool.or_assoc,
      Bool.or_comm (s.mode == PMode.LA)]
  · -- JPEG path: no conversion happened, so a JPEG/MPO file in one of its three modes, none with alpha
    rw [hrj] at hj
    obtain ⟨hc, hf⟩ := Bool.and_eq_true_iff.mp hj.symm
    have ht : s.transparency = false := by
      rcases ht : s.transparency with _ | _
      · rfl
      · rw [ht] at hc; cases hc
    have hmode := hjpeg (by simpa only [Bool.or_eq_true, beq_iff_eq] using hf)
    rw [ht]
    rcases hmode with hmode | hmode | hmode <;> rw [hmode] <;> rfl

/-- The colour space follows the normalised mode: transparency information, bilevel, palette and
integer images are RGB, `L`/`LA` grey, `CMYK` (JPEG) CMYK. -/
theorem embed_colour_space (s : Src) (o : Opts) (r : Raster) (x : XObject) (h : embed s o = .ok (r, x)) :
    x.colorSpace = colorSpaceOf (normalise s.mode s.transparency).1 ∧
    (x.colors3 = true → x.colorSpace = "/DeviceRGB") := by
  obtain ⟨hr, rfl⟩ := embed_ok s o r x h
  obtain ⟨hm, _, _⟩ := rasterInit_ok s o r hr
  constructor
  · unfold xObject; split_ifs <;> simp [hm]
  · unfold xObject; split_ifs <;> simp
    rintro (h | h) <;> simp [h, colorSpaceOf]

/-- Lossless unless a lossy option was requested: a JPEG file, and a PNG file that needs no mode
conversion, are passed through byte for byte when neither `optimize_images`, `jpeg_quality` nor a
rotation is requested; and every non-JPEG image of a mode other than `I;16` / `CMYK` / `PA` / `F` that
is embedded at all is embedded as a plain 8-bit grey/RGB(+mask) stream (`faithful`), which is what
the decoded-pixel correspondence then checks against Pillow. -/
theorem embed_lossless (s : Src) (o : Opts) (r : Raster) (h : rasterInit s o = .ok r) :
    ((s.format = .jpeg ∨ s.format = .mpo) → s.transparency = false →
      (s.mode = .L ∨ s.mode = .RGB ∨ s.mode = .CMYK) →
      s.hasData = true → s.rotated = false → o.optimize = false → o.quality = false → r.reencoded = false) ∧
    (s.format = .png → s.transparency = false → (s.mode = .L ∨ s.mode = .LA ∨ s.mode = .RGB ∨ s.mode = .RGBA) →
      s.hasData = true → s.rotated = false → o.optimize = false → r.reencoded = false) ∧
    (r.jpeg = false → (s.transparency = true ∨ s.mode = .bilevel ∨ s.mode = .L ∨ s.mode = .LA ∨ s.mode = .P ∨
      s.mode = .RGB ∨ s.mode = .RGBA ∨ s.mode = .I) → faithful r = true) := by
  have hm := (rasterInit_ok s o r h).1
  rw [rasterInit_eq] at h
  have hr := (Except.of_ite_error_eq_ok h).2.symm
  refine ⟨fun hf ht hmode hd hrot hop hq => ?_, fun hf ht hmode hd hrot hop => ?_, fun hjf hmode => ?_⟩
  · -- no conversion, so the file keeps its JPEG format, and nothing asks for new data
    rw [hr, ht, hd, hrot, hop, hq, normalise_kept s.mode hmode]
    rcases hf with hf | hf <;> rw [hf] <;> rfl
  · rw [hr, ht, hd, hrot, hop, hf]
    rcases hmode with hm | hm | hm | hm <;> rw [hm] <;> rfl
  · rw [faithful, hjf, hm]
    exact normalise_native s.mode s.transparency hmode

/-- **The image loader never aborts the rendering on an image Pillow has opened** (repair d7dc388; it is
a function into `Option`, `none` = "Failed to load image", alternative text rendered), and it refuses an
image exactly when the encoder of its path cannot write the normalised mode: the JPEG path for a
JPEG/MPO file that kept its format, the PNG path otherwise — and then only when the data has to be
re-encoded (no source bytes, `optimize_images`, `jpeg_quality`, or a non-PNG source). -/
theorem load_refuses_iff (s : Src) (o : Opts) :
    loadRaster s o = none ↔
      (let n := normalise s.mode s.transparency
       let fmt := if n.2 then Fmt.other else s.format
       let noData := !(s.hasData && !s.rotated)
       if fmt == .jpeg || fmt == .mpo then (noData || o.optimize || o.quality) && !jpegWritable n.1
       else (noData || o.optimize || fmt != .png) && !pngWritable n.1) = true := by
  unfold loadRaster
  rw [rasterInit_eq]
  simp only []
  generalize normalise s.mode s.transparency = n
  generalize (if n.2 then Fmt.other else s.format) = fmt
  cases fmt == .jpeg || fmt == .mpo <;> simp only [Bool.false_eq_true, if_false, if_true] <;> split_ifs with h <;>
    simp only [h, reduceCtorEq]

theorem loadRaster_isSome (s : Src) (o : Opts)
    (hw : (let n := normalise s.mode s.transparency
           let fmt := if n.2 then Fmt.other else s.format
           if fmt == .jpeg || fmt == .mpo then jpegWritable n.1 else pngWritable n.1) = true) :
    (loadRaster s o).isSome = true := by
  unfold loadRaster
  rw [rasterInit_eq]
  simp only [] at hw ⊢
  rw [hw, Bool.not_true, Bool.and_false]
  rfl

/-- Every image whose normalised mode is one of the four that PDF image XObjects carry natively
(`L`, `LA`, `RGB`, `RGBA` — i.e. every PNG / GIF / WEBP / BMP / TIFF of mode `1`, `L`, `LA`, `P`, `RGB`,
`RGBA`, `I`, and anything with transparency information) and which does not come from a JPEG file is
loaded, whatever the options and the orientation; so is every JPEG / MPO of mode `L`, `RGB`, `CMYK`. -/
theorem load_total (s : Src) (o : Opts) :
    ((s.format ≠ .jpeg ∧ s.format ≠ .mpo) →
      (s.transparency = true ∨ s.mode = .bilevel ∨ s.mode = .L ∨ s.mode = .LA ∨ s.mode = .P ∨ s.mode = .RGB ∨
        s.mode = .RGBA ∨ s.mode = .I) → (loadRaster s o).isSome = true) ∧
    ((s.format = .jpeg ∨ s.format = .mpo) → s.transparency = false →
      (s.mode = .L ∨ s.mode = .RGB ∨ s.mode = .CMYK) → (loadRaster s o).isSome = true) := by
  constructor
  · -- PNG path, and `save(format='PNG')` writes the four native modes
    rintro ⟨h1, h2⟩ hm
    have hn := normalise_native s.mode s.transparency hm
    apply loadRaster_isSome
    have hfmt : ∀ c : Bool, ((if c then Fmt.other else s.format) == .jpeg ||
        (if c then Fmt.other else s.format) == .mpo) = false := by
      intro c
      cases c
      · simp only [Bool.false_eq_true, if_false, Bool.or_eq_false_iff, beq_eq_false_iff_ne]
        exact ⟨h1, h2⟩
      · rfl
    simp only [hfmt, Bool.false_eq_true, if_false]
    generalize (normalise s.mode s.transparency).1 = m at hn ⊢
    cases m <;> first | rfl | exact hn
  · -- JPEG path, and `save(format='JPEG')` writes `L`, `RGB` and `CMYK`
    intro hf ht hm
    apply loadRaster_isSome
    rw [ht, normalise_kept s.mode hm]
    rcases hf with hf | hf <;> rw [hf] <;> rcases hm with hm | hm | hm <;> rw [hm] <;> rfl

theorem load_eq_embed (s : Src) (o : Opts) :
    loadEmbed s o = (embed s o).toOption ∧ loadRaster s o = (rasterInit s o).toOption := by
  unfold loadEmbed loadRaster embed
  rcases rasterInit s o with e | r <;> simp [Except.toOption]

example : loadRaster ⟨.CMYK, false, .other, false, false, true⟩ ⟨false, false⟩ = none ∧
    (loadRaster ⟨.CMYK, false, .jpeg, true, false, true⟩ ⟨false, false⟩).isSome = true ∧
    (loadRaster ⟨.P, true, .other, false, true, true⟩ ⟨true, true⟩).isSome = true := by
  refine ⟨?_, ?_, ?_⟩ <;> decide +kernel

example : (embed ⟨.P, true, .png, false, false, true⟩ ⟨false, false⟩).toOption =
    some (⟨.RGBA, false, true, false⟩, ⟨"/DeviceRGB", "/FlateDecode", true, true, false⟩) := by decide +kernel

example : (embed ⟨.CMYK, false, .jpeg, true, false, true⟩ ⟨false, false⟩).toOption =
    some (⟨.CMYK, true, false, true⟩, ⟨"/DeviceCMYK", "/DCTDecode", false, false, true⟩) := by decide +kernel

/-- **An Adobe CMYK JPEG is un-inverted exactly when its file says so, whatever `image-orientation` and the
options did to it.**  The `/Decode [1 0 1 0 1 0 1 0]` array is on the image XObject iff the image goes the JPEG
path, its normalised mode is CMYK and the *opened file* carries an APP14 marker; for a CMYK JPEG/MPO source that is
`/Decode` ⇔ APP14, with `/DCTDecode` and `/DeviceCMYK`; and the decision is a function of what `Image.open`
reports (mode, transparency, format, APP14) alone: rotation, missing source bytes, `optimize_images` and
`jpeg_quality` cannot change it. -/
theorem embed_decode_iff_app14 (s : Src) (o : Opts) (r : Raster) (x : XObject) (h : embed s o = .ok (r, x)) :
    x.decodeInverted = (r.jpeg && (r.mode == .CMYK) && s.app14) ∧
    (s.transparency = false → s.mode = .CMYK → (s.format = .jpeg ∨ s.format = .mpo) →
      x.decodeInverted = s.app14 ∧ x.filter = "/DCTDecode" ∧ x.colorSpace = "/DeviceCMYK") ∧
    (∀ s' : Src, s'.mode = s.mode → s'.transparency = s.transparency → s'.format = s.format → s'.app14 = s.app14 →
      ∀ o' r' x', embed s' o' = .ok (r', x') → x'.decodeInverted = x.decodeInverted) := by
  have key : ∀ (s : Src) (o : Opts) (r : Raster) (x : XObject), embed s o = .ok (r, x) →
      x.decodeInverted = ((!(normalise s.mode s.transparency).2 && (s.format == .jpeg || s.format == .mpo)) &&
        ((normalise s.mode s.transparency).1 == .CMYK) && s.app14) ∧
      r.mode = (normalise s.mode s.transparency).1 ∧
      r.jpeg = (!(normalise s.mode s.transparency).2 && (s.format == .jpeg || s.format == .mpo)) ∧
      x = xObject r := by
    intro s o r x h
    obtain ⟨hr, rfl⟩ := embed_ok s o r x h
    obtain ⟨hm, hj, hi⟩ := rasterInit_ok s o r hr
    refine ⟨?_, hm, hj, rfl⟩
    unfold xObject
    split_ifs with hjp
    · simp [hi, ← hj, hjp]
    · simp [← hj, hjp]
  obtain ⟨hd, hm, hj, hx⟩ := key s o r x h
  refine ⟨by rw [hd, hm, hj], ?_, ?_⟩
  · intro ht hmode hf
    have hn : normalise s.mode s.transparency = (.CMYK, false) := by simp [normalise, ht, hmode]
    have hjpeg : r.jpeg = true := by
      rw [hj, hn]; rcases hf with hf | hf <;> simp [hf]
    refine ⟨by rw [hd, hn]; rcases hf with hf | hf <;> simp [hf], ?_, ?_⟩
    · rw [hx]; simp [xObject, hjpeg]
    · rw [hx]; simp [xObject, hjpeg, hm, hn, colorSpaceOf]
  · intro s' h1 h2 h3 h4 o' r' x' h'
    obtain ⟨hd', _, _, _⟩ := key s' o' r' x' h'
    rw [hd', hd, h1, h2, h3, h4]

/-- Non-vacuity: Pillow's Adobe CMYK JPEG, untouched and rotated with `optimize_images`: `/Decode` both times. -/
example : (embed ⟨.CMYK, false, .jpeg, true, false, true⟩ ⟨false, false⟩).toOption.map (fun p => p.2.decodeInverted) = some true ∧
    (embed ⟨.CMYK, false, .jpeg, true, true, true⟩ ⟨true, false⟩).toOption.map (fun p => p.2.decodeInverted) = some true ∧
    (embed ⟨.CMYK, false, .jpeg, false, true, true⟩ ⟨false, false⟩).toOption.map (fun p => p.2.decodeInverted) = some false := by
  refine ⟨?_, ?_, ?_⟩ <;> decide +kernel

end Embed

/-! ## C13.image_properties_inherited — the regenerated `INHERITED` table -/

/-- Each of the three image properties of css-images-3 §6 (`image-orientation`, `image-rendering`,
`image-resolution`) is in the regenerated `INHERITED` set, as the specification defines them (full strength
since repair 8f3706e; `image-orientation` was the missing one — finding `image-orientation-not-inherited`,
fixed): an image below an element that sets one of them is sized, rotated and sampled with that value. -/
theorem image_properties_inherited_table :
    (∀ p ∈ Gen.imagePropsInherited, p.2 = true) ∧
    Gen.imagePropsInherited.map Prod.fst = ["image_orientation", "image_rendering", "image_resolution"] := by
  constructor
  · decide
  · rfl

/-! ## C13.canvas_background — `layout_backgrounds`: the propagated background keeps its own computed values -/

theorem chooseCanvas_some (isHtml : Bool) (rootStyle : BgStyle) (rootBg : BoxBg) (body : Option (Geom × BgStyle))
    (bodyBg : Option BoxBg) (c : Chosen) (s : BgStyle)
    (h : chooseCanvas isHtml rootStyle rootBg body bodyBg = (c, some s)) :
    (c = .root ∧ s = rootStyle) ∨ (c = .body ∧ isHtml = true ∧ ∃ g, body = some (g, s)) := by
  unfold chooseCanvas at h
  split_ifs at h with h1 h2
  · split at h
    · rename_i g sb bg
      split_ifs at h
      · cases h
      · cases h
        exact Or.inr ⟨rfl, (Bool.and_eq_true_iff.mp h1).1, g, rfl⟩
    · cases h
  · cases h
  · cases h
    exact Or.inl ⟨rfl, rfl⟩

/-- The canvas layers are those of the chosen element's style on the page geometry: the page's own style (its
image-resolution in particular) and the other element's style play no part. -/
theorem canvas_from_chosen_style (pageG : Geom) (bt br bb bl : Rat) (pageStyle : BgStyle) (rootG : Geom)
    (rootStyle : BgStyle) (isHtml : Bool) (body : Option (Geom × BgStyle)) (c : Chosen) (ls : List LayerResult)
    (h : layoutBackgrounds pageG bt br bb bl pageStyle rootG rootStyle isHtml body = .ok (c, ls)) :
    (c = .nobody ∧ ls = []) ∨
    ∃ s, canvasFor pageG bt br bb bl s = .ok ls ∧
      ((c = .root ∧ s = rootStyle) ∨ (c = .body ∧ isHtml = true ∧ ∃ g, body = some (g, s))) := by
  obtain ⟨_, _, h⟩ := Except.bind_eq_ok h
  obtain ⟨rootBg, _, h⟩ := Except.bind_eq_ok h
  -- whatever the layouts of page, root and body gave, the layers are `canvasFor` of the style `chooseCanvas` picked
  rcases body with _ | ⟨g, sb⟩
  all_goals
    obtain ⟨bodyBg, _, h⟩ := Except.bind_eq_ok h
    beta_reduce at h
    generalize hch : chooseCanvas isHtml rootStyle rootBg _ bodyBg = ch at h
    obtain ⟨c0, _ | s⟩ := ch
    · cases h
      exact Or.inl ⟨rfl, rfl⟩
    · obtain ⟨_, hc, h⟩ := Except.bind_eq_ok h
      cases h
      exact Or.inr ⟨s, hc, chooseCanvas_some _ _ _ _ _ _ _ hch⟩

/-- **The canvas background of a raster image is sized with the `image-resolution` of the element it comes
from**: with `background-size: auto`, no `round` axis, a `pw × ph` px image and the (positive) resolution
`s.res` of the propagated element's style, the canvas has one layer whose tile is `pw / s.res × ph / s.res`
— whatever the page's own `image-resolution` — painted over the page's border box. -/
theorem canvas_tile_uses_own_resolution (pageG : Geom) (bt br bb bl : Rat) (s : BgStyle) (pw ph : Rat)
    (himg : s.image = some (pw, ph)) (hvis : s.hidden = false) (hsize : s.size = .explicit none none)
    (hrx : s.rx ≠ .round) (hry : s.ry ≠ .round) (hres : 0 < s.res) (hpw : 0 < pw) (hph : 0 < ph)
    (ls : List LayerResult) (h : canvasFor pageG bt br bb bl s = .ok ls) :
    ∃ l lay, ls = [l] ∧ l.layer = some lay ∧ lay.size = (pw / s.res, ph / s.res) ∧
      boxRectangle pageG .borderBox = .ok l.paintingArea := by
  obtain ⟨border, hb, h⟩ := Except.bind_eq_ok h
  obtain ⟨bg, hbg, h⟩ := Except.bind_eq_ok h
  simp only [layoutBoxBackgrounds, himg, hvis, Bool.false_eq_true, if_false, Option.isNone_some, Bool.and_false,
    Bool.not_true, pyDiv_ok (ne_of_gt hph), rasterIntrinsic_ok pw ph s.res _ (ne_of_gt hres)] at hbg
  obtain ⟨_, ⟨⟩, hbg⟩ := Except.bind_eq_ok hbg
  obtain ⟨_, ⟨⟩, hbg⟩ := Except.bind_eq_ok hbg
  obtain ⟨⟨pa, lay⟩, hlay, hbg⟩ := Except.bind_eq_ok hbg
  cases hbg
  cases h
  rcases lay with _ | lay
  · -- no layer: only for a zero intrinsic size
    rcases layer_none_inv _ _ _ _ _ _ _ _ _ _ _ _ hlay with h0 | h0
    · exact absurd (Option.some.inj h0) (ne_of_gt (div_pos hpw hres))
    · exact absurd (Option.some.inj h0) (ne_of_gt (div_pos hph hres))
  · obtain ⟨_, hc, _⟩ := background_no_round pageG (.page bt br bb bl) pageG _ s.size s.clip s.rx s.ry s.origin s.pos
      s.fixed pa lay hrx hry hlay
    rw [hsize] at hc
    simp [concreteSize, percentageOpt, defaultImageSizing, disSpecified] at hc
    exact ⟨_, lay, rfl, rfl, hc.symm, hb⟩

/-- Non-vacuity: `<body>` with a 8 × 4 px image at 2dppx under an `<html>` without background, page style at
1dppx: the canvas tile is 4 × 2. -/
example : (layoutBackgrounds ⟨0, 0, 0, 0, 0, 0, 0, 0, 0, 0, 0, 0, 0, 0, 100, 50⟩ 0 0 0 0
      ⟨none, false, false, 1, .explicit none none, .borderBox, .repeat, .repeat, .paddingBox, ⟨false, .pct 0, false, .pct 0⟩, false⟩
      ⟨0, 0, 0, 0, 0, 0, 0, 0, 0, 0, 0, 0, 0, 0, 100, 20⟩
      ⟨none, false, false, 1, .explicit none none, .borderBox, .repeat, .repeat, .paddingBox, ⟨false, .pct 0, false, .pct 0⟩, false⟩
      true
      (some (⟨0, 0, 0, 0, 0, 0, 0, 0, 0, 0, 0, 0, 0, 0, 100, 20⟩,
        ⟨some (8, 4), false, false, 2, .explicit none none, .borderBox, .repeat, .repeat, .paddingBox, ⟨false, .pct 0, false, .pct 0⟩, false⟩))).toOption.map
    (fun r => (r.1, r.2.map (fun l => l.layer.map (fun y => y.size)))) = some (.body, [some (4, 2)]) := by
  decide +kernel

/-! ## C13.image_identity — `get_image_from_uri`: one id per distinct (source, orientation, options) -/

open Wp.ImageId in
/-- Two requests of one document get the same image id exactly when they have the same key. -/
theorem same_id_iff_same_key (reqs : List Key) (a b : Key) (ha : a ∈ reqs) (hb : b ∈ reqs) :
    firstSame reqs a = firstSame reqs b ↔ a = b := by
  constructor
  · intro h
    obtain ⟨h1, e1⟩ := firstSame_spec reqs a ha
    obtain ⟨h2, e2⟩ := firstSame_spec reqs b hb
    have : reqs[firstSame reqs a] = reqs[firstSame reqs b] := by simp [h]
    rw [e1, e2] at this
    exact this
  · rintro rfl; rfl

open Wp.ImageId in
/-- Hence two uses are drawn with the same image XObject name `i{id}{interpolate}` exactly when they have the
same key and the same `image-rendering` class — for any injective naming of the keys (`md5`, trusted) —: the
same source under two image-orientations is two images. -/
theorem same_xobject_iff (idOf : Key → String) (hinj : Function.Injective idOf) (a b : Key) (ia ib : Bool) :
    ImageDedupe.imageName (idOf a) ia = ImageDedupe.imageName (idOf b) ib ↔ a = b ∧ ia = ib := by
  constructor
  · intro h
    obtain ⟨h1, h2⟩ := imageName_injective _ _ _ _ h
    exact ⟨hinj h1, h2⟩
  · rintro ⟨rfl, rfl⟩; rfl

open Wp.ImageId in
example : idClasses [⟨0, 0, 0, 0, 0⟩, ⟨0, 2, 0, 0, 0⟩, ⟨0, 0, 0, 0, 0⟩, ⟨1, 0, 0, 0, 0⟩, ⟨0, 2, 0, 0, 96⟩] = [0, 1, 0, 3, 4] := by
  decide +kernel

end Wp.C13
