/-
C16 — "every … shading … it names is defined in the resource dictionary in effect", for the code that registers a
shading in one dictionary and names it in another stream: `Gradient.draw` (Model/GradientDraw).
-/
import WpModel.Lemmas.GradientDraw

namespace Wp.C16
open Wp Wp.Pdf

private theorem opRefOKb_iff (r : Res) (o : Op) : opRefOKb r o = true ↔ opRefOK r o := by
  cases o <;> simp [opRefOKb, opRefOK]
  case scn os p st => cases p <;> simp

/-- The executable check the driver prints (`refs=ok`) is the conclusion of `resources_defined`. -/
theorem badRefs_nil_iff (w : World) (hidx : ∀ (i : Nat) (s : SState), w.streams[i]? = some s → s.res < w.res.length) :
    w.badRefs = [] ↔ ∀ (i : Nat) (s : SState) (r : Res), w.streams[i]? = some s → w.res[s.res]? = some r →
      ∀ o ∈ s.rops, opRefOK r o := by
  unfold World.badRefs
  rw [List.filter_eq_nil_iff]
  constructor
  · intro h i s r hs hr o ho
    have hlt : i < w.streams.length := (List.getElem?_eq_some_iff.mp hs).1
    have := h i (List.mem_range.mpr hlt)
    simp only [hs, hr, Bool.not_eq_true, Bool.not_eq_false'] at this
    exact (opRefOKb_iff r o).mp (List.all_eq_true.mp (by simpa using this) o ho)
  · intro h i hi
    have hlt := List.mem_range.mp hi
    have hs : w.streams[i]? = some w.streams[i] := by simp [hlt]
    have hj := hidx i _ hs
    have hr : w.res[(w.streams[i]).res]? = some w.res[(w.streams[i]).res] := by simp [hj]
    simp only [hs, hr, Bool.not_eq_true, Bool.not_eq_false']
    rw [List.all_eq_true]
    intro o ho
    exact (opRefOKb_iff _ o).mpr (h i _ _ hs hr o ho)

theorem badRefs_nil_of_ok {w : World} (hok : WorldOK w) : w.badRefs = [] :=
  (badRefs_nil_iff w hok.resIdx).mpr hok.good

/-- **gradient_resources_defined**: `Gradient.draw(stream, …)` — solid, opaque or with non-opaque colour stops, linear
or radial, on *any* stream of *any* reachable document state (a stream that already owns shadings, groups, soft masks:
border-image regions painted one after the other, mask-border, a background layer, a marker image) — when it returns,
every `gs`, `Do`, `sh` and pattern operator of every stream of the document, the new soft-mask group
included, still names a key of the resource dictionary of the stream that emits it: the colour shading is named on
`stream` with the id it got in `stream`'s dictionary, the alpha shading is named in the mask group with the id it got in
the *group's* dictionary (the two ids differ as soon as `stream` already held a shading).  Dictionaries only grow. -/
theorem gradient_resources_defined (w w' : World) (h : Nat) (p : GradProps) (hw : WorldOK w)
    (hstep : drawGradient w h p = .ok w') : WorldOK w' ∧ Mono w w' := by
  suffices Keeps w (drawGradient w h p) from this w' hstep
  unfold drawGradient
  split
  · -- solid
    exact (Keeps.on hw (trivial_scoped _ _ _ fun _ => by trivial)).thenDo fun _ _ ok1 _ =>
      (Keeps.on ok1 (trivial_scoped _ _ _ fun _ => by trivial)).thenDo fun _ _ ok2 _ => Keeps.on ok2 (trivial_scoped _ _ _ fun _ => by trivial)
  · split
    · exact Keeps.error _
    · rename_i n hn
      refine (Keeps.step hw (.addShading h) trivial).thenDo fun w1 h1 ok1 _ => ?_
      refine Keeps.thenDo ((Keeps.on ok1 (trivial_scoped _ _ _ fun _ => by trivial)).thenDo fun w2 _ ok2 _ =>
        Keeps.stageIf ok2 _ (alphaStage_ok w2 h p.scaleY ok2)) fun w3 _ ok3 m3 => ?_
      obtain ⟨c, hc, hle⟩ := m3.shading (addShading_count w w1 h n h1 hn)
      exact Keeps.on ok3 (scoped_of_count hc (by omega))

/-- Callers other than `Gradient.draw` pass registered names, along a run of calls and gradients. -/
def ItemsScoped (w : World) : List GItem → Prop
  | [] => True
  | .call c :: rest => c.scoped w ∧ ∀ w', w.step c = .ok w' → ItemsScoped w' rest
  | .grad h p :: rest => ∀ w', drawGradient w h p = .ok w' → ItemsScoped w' rest

theorem runItems_ok_mono (items : List GItem) (w : World) (hw : WorldOK w) (hs : ItemsScoped w items) :
    Keeps w (runItems w items) := by
  induction items generalizing w with
  | nil => exact Keeps.ok hw
  | cons it rest ih =>
    cases it with
    | call c => exact (Keeps.step hw c hs.1).thenDo fun w1 h1 ok1 _ => ih w1 ok1 (hs.2 w1 h1)
    | grad h p =>
      exact Keeps.thenDo (fun w1 => gradient_resources_defined w w1 h p hw) fun w1 h1 ok1 _ => ih w1 ok1 (hs w1 h1)

/-- **document_resources_defined**: `resources_defined` for documents with gradients — after any run of document calls
(whose callers pass registered names) interleaved with any number of `Gradient.draw` on any streams, starting from the
state `generate_pdf` sets up, no stream names an undefined graphics state, XObject, shading or pattern: the executable
check the driver prints for every recorded `write_pdf` (`refs=ok`) cannot fail on the model side, whatever the
gradients (the gradient itself needs no scoping hypothesis: its names are its own). -/
theorem document_resources_defined (mark : Bool) (pages : Nat) (items : List GItem) (w' : World)
    (hs : ItemsScoped (World.init mark pages) items) (hrun : runItems (World.init mark pages) items = .ok w') :
    w'.badRefs = [] :=
  badRefs_nil_of_ok (runItems_ok_mono items _ (init_ok mark pages) hs w' hrun).1

/-- **resources_only_grow**: from *any* document state on (the start of `generate_pdf` or any point of the painting),
along any run of document calls whose callers pass registered names — API calls on any stream, `add_group`,
`add_pattern`, `add_shading`, `add_image`, `set_alpha_state`, `clone`, new pages, the assigned soft-mask content —
every stream stays on the resource dictionary it was created with, and every dictionary only grows: each graphics-state
key, XObject key, shading and pattern defined at that point is still defined at the end ("entries are never removed",
the fact the fresh keys `s{len}` / `x{len}` / `p{len}` and the late `_use_references` pass rely on). -/
theorem resources_only_grow (w w' : World) (calls : List WCall) (hs : ScopedRun w calls)
    (hrun : w.run calls = .ok w') :
    (∀ (i : Nat) (s : SState), w.streams[i]? = some s → ∃ s', w'.streams[i]? = some s' ∧ s'.res = s.res) ∧
    (∀ (j : Nat) (r : Res), w.res[j]? = some r → ∃ r', w'.res[j]? = some r' ∧
      (∀ k, r.hasG k = true → r'.hasG k = true) ∧ (∀ k, r.hasX k = true → r'.hasX k = true) ∧
      r.shading ≤ r'.shading ∧ r.pattern.length ≤ r'.pattern.length) := by
  have hm := World.run_mono calls w w' hs hrun
  refine ⟨hm.streams, ?_⟩
  intro j r hr
  obtain ⟨r', hr', hle⟩ := hm.res j r hr
  exact ⟨r', hr', hle.g, hle.x, hle.sh, hle.pat⟩

/-- Non-vacuity: a page registers a shading and paints it, then a group and a pattern are created: the page keeps
dictionary 0, whose shading is still there at the end. -/
example : ScopedRun (World.init false 1) [.addShading 0, .on 0 (.paintShading 0), .addGroup 0, .addPattern 0] ∧
    (match (World.init false 1).run [.addShading 0, .on 0 (.paintShading 0), .addGroup 0, .addPattern 0] with
     | .ok w => (w.streams.map (·.res), w.res.map (·.shading), w.badRefs)
     | .error _ => ([], [], [0])) = ([0, 1, 2], [1, 0, 0], []) := by
  refine ⟨?_, by decide +kernel⟩
  simp only [ScopedRun, WCall.scoped, Call.scoped]
  refine ⟨trivial, ?_⟩
  intro w1 h1
  simp [World.step, World.init] at h1; subst h1
  refine ⟨?_, ?_⟩
  · intro s r hs hr
    simp at hs; subst hs
    simp at hr; subst hr
    decide
  · intro w2 _
    exact ⟨trivial, fun w3 _ => ⟨trivial, fun _ _ => trivial⟩⟩

/-- Non-vacuity, on the shape of the seeded regression C16-8: the page stream already owns a shading (`s0`); a
translucent gradient is drawn on it.  The colour shading is `s1` on the page, the alpha shading `s0` in the mask group,
and the group's only operator is `/s0 sh` (not `/s1 sh`); every reference is defined. -/
example :
    (match (World.init false 1).step (.addShading 0) |>> fun w => drawGradient w 0 { solid := false, translucent := true, scaleY := .int 1 } with
     | .ok w => (w.streams.map (fun s => s.rops.reverse.map Op.render), w.badRefs)
     | .error _ => ([], [0])) =
    ([["1_0_0_1_0_0_cm", "/s0_gs", "/s1_sh"], ["/s0_sh"]], []) := by decide +kernel

end Wp.C16
