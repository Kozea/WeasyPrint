/-
C05 — soundness of the executable checker of used values (`Model/UsedCheck.lean`, run by the harness on
every box of rendered wide-grammar documents): what `usedOk … = true` means for the clauses `nonneg`, min/max,
`edge`, `equation` (`nodeOk_sound`) and `stack` (`usedOk_no_overlap`); nothing is derived from the `contain` test.
(That the checker accepts what the block-tree model produces is Props/C05Refine.lean.)  Core Lean only.
-/
import WpModel.Model.UsedCheck

namespace Wp.C05Check
open Wp Wp.UsedCheck

theorem near_iff (eps a b : Rat) : near eps a b = true ↔ a - b ≤ eps ∧ b - a ≤ eps := by
  simp [near]

theorem near_self (eps a : Rat) (h : 0 ≤ eps) : near eps a a = true := by
  rw [near_iff]; constructor <;> grind

/-- The clauses of one box as a proposition. -/
structure NodeSpec (eps : Rat) (c : Ctx) (b : UBox) : Prop where
  /-- (a) non-negative sizes -/
  sizes : 0 ≤ b.w ∧ 0 ≤ b.h ∧ 0 ≤ b.pl ∧ 0 ≤ b.pr ∧ 0 ≤ b.pt ∧ 0 ≤ b.pb ∧ 0 ≤ b.bl ∧ 0 ≤ b.br ∧
    0 ≤ b.bt ∧ 0 ≤ b.bb
  /-- (c) min/max width -/
  minW : b.kind = .flow → b.minW ≤ b.w + eps
  maxW : b.kind = .flow → ∀ m, b.maxW = some m → b.minW ≤ m → b.w ≤ m + eps
  /-- (c) min/max height of an unfragmented box -/
  minH : b.kind = .flow → b.whole = true → b.minH ≤ b.h + eps
  maxH : b.kind = .flow → b.whole = true → ∀ m, b.maxH = some m → b.minH ≤ m → b.h ≤ m + eps
  /-- (b)(f) start edge in ltr, end edge in rtl -/
  edgeLtr : b.kind = .flow → c.prtl = false → b.x - c.cx ≤ eps ∧ c.cx - b.x ≤ eps
  edgeRtl : b.kind = .flow → c.prtl = true →
    (b.x + b.outer) - (c.cx + c.pw) ≤ eps ∧ (c.cx + c.pw) - (b.x + b.outer) ≤ eps
  /-- (b) the equation, or evidence of over-constraint -/
  equation : b.kind = .flow →
    (b.outer - c.pw ≤ eps ∧ c.pw - b.outer ≤ eps) ∨ overConstrained eps c b = true

private theorem nodeOk_tests {eps : Rat} {c : Ctx} {b : UBox} (h : nodeOk eps c b = true) :
    nonneg b = true ∧ (b.kind = .flow →
      minMaxW eps b = true ∧ minMaxH eps b = true ∧ edge eps c b = true ∧ equation eps c b = true) := by
  have t : ∀ x : Bool, ¬(!x) = true → x = true := by decide
  unfold nodeOk at h
  revert h
  fun_cases nodeVerdict eps c b <;> intro h <;> cases h
  next h1 h2 => exact ⟨t _ h1, fun hk => by simp [hk] at h2⟩
  next h1 _ h3 h4 h5 h6 => exact ⟨t _ h1, fun _ => ⟨t _ h3, t _ h4, t _ h5, t _ h6⟩⟩

/-- **Soundness, one box.** -/
theorem nodeOk_sound (eps : Rat) (c : Ctx) (b : UBox) (h : nodeOk eps c b = true) : NodeSpec eps c b := by
  obtain ⟨h1, hf⟩ := nodeOk_tests h
  refine ⟨by simpa [nonneg, and_assoc] using h1, fun hk => ?_, fun hk m hm hle => ?_, fun hk hw => ?_,
    fun hk hw m hm hle => ?_, fun hk hp => ?_, fun hk hp => ?_, fun hk => ?_⟩
  · have h2 := (hf hk).1
    simp only [minMaxW, Bool.and_eq_true, decide_eq_true_eq] at h2
    exact h2.1
  · have h2 := (hf hk).1
    simp only [minMaxW, Bool.and_eq_true, hm] at h2
    have := h2.2
    simp only [Bool.or_eq_true, Bool.not_eq_true', decide_eq_false_iff_not, decide_eq_true_eq] at this
    exact this.resolve_left (fun h' => h' hle)
  · have h3 := (hf hk).2.1
    simp only [minMaxH, hw, Bool.not_true, Bool.false_or, Bool.and_eq_true, decide_eq_true_eq] at h3
    exact h3.1
  · have h3 := (hf hk).2.1
    simp only [minMaxH, hw, Bool.not_true, Bool.false_or, Bool.and_eq_true, hm] at h3
    have := h3.2
    simp only [Bool.or_eq_true, Bool.not_eq_true', decide_eq_false_iff_not, decide_eq_true_eq] at this
    exact this.resolve_left (fun h' => h' hle)
  · have h4 := (hf hk).2.2.1
    simp only [edge, hp, Bool.false_eq_true, if_false] at h4
    exact (near_iff _ _ _).mp h4
  · have h4 := (hf hk).2.2.1
    simp only [edge, hp, if_true] at h4
    exact (near_iff _ _ _).mp h4
  · have h5 := (hf hk).2.2.2
    simp only [equation, Bool.or_eq_true] at h5
    exact h5.imp (near_iff _ _ _).mp id

/-- **Soundness, every box of the tree** with the context of its own parent. -/
theorem usedOk_nodes (eps : Rat) (c : Ctx) (t : UTree) (h : usedOk eps c t = true) :
    ∀ p ∈ nodes c t, NodeSpec eps p.1 p.2 := by
  intro p hp
  simp only [usedOk, Bool.and_eq_true, List.all_eq_true] at h
  exact nodeOk_sound eps p.1 p.2 (h.1 p hp)

/-- (f) **children inside the parent's content box, horizontally**: a flow box that passes the checker,
fills its parent (the equation holds) and has non-negative margins has its border box inside the
parent's content box `[cx, cx + pw]` (within the tolerance), in ltr and in rtl. -/
theorem flow_inside_parent (eps : Rat) (c : Ctx) (b : UBox) (h : NodeSpec eps c b) (hk : b.kind = .flow)
    (hml : 0 ≤ b.ml) (hmr : 0 ≤ b.mr) (hfill : b.outer - c.pw ≤ eps ∧ c.pw - b.outer ≤ eps) :
    c.cx - 2 * eps ≤ b.x + b.ml ∧ b.x + b.ml + b.bl + b.pl + b.w + b.pr + b.br ≤ c.cx + c.pw + 2 * eps := by
  cases hp : c.prtl with
  | false =>
    obtain ⟨h1, h2⟩ := h.edgeLtr hk hp
    unfold UBox.outer at hfill
    constructor <;> grind
  | true =>
    obtain ⟨h1, h2⟩ := h.edgeRtl hk hp
    unfold UBox.outer at hfill h1 h2
    constructor <;> grind

/-! ### stacking -/

theorem stackKids_tail (eps : Rat) (pos : Option Rat) (t : UTree) (ts : List UTree)
    (h : (stackKids eps pos (t :: ts)).1 = true) : ∃ pos', (stackKids eps pos' ts).1 = true := by
  generalize hl : t :: ts = l at h
  revert h
  fun_cases stackKids eps pos l <;> intro h <;> cases hl
  all_goals first | exact ⟨_, h⟩ | exact ⟨_, (Bool.and_eq_true _ _ ▸ h).2⟩

theorem stackKids_first (eps p : Rat) (t : UTree) (ts : List UTree)
    (hk : t.box.kind = .flow ∨ t.box.kind = .line) (hn : nonNegMargins t = true)
    (h : (stackKids eps (some p) (t :: ts)).1 = true) : p ≤ t.box.borderTop + eps := by
  unfold stackKids at h
  rcases hk with hk | hk <;> simp only [hk, hn, if_true, Bool.and_eq_true, decide_eq_true_eq] at h <;> exact h.1

theorem stackKids_head_pair (eps : Rat) (pos : Option Rat) (a b : UTree) (rest : List UTree)
    (ha : a.box.kind = .flow ∨ a.box.kind = .line) (hb : b.box.kind = .flow ∨ b.box.kind = .line)
    (hna : nonNegMargins a = true) (hnb : nonNegMargins b = true) (hne : isEmpty a = false)
    (h : (stackKids eps pos (a :: b :: rest)).1 = true) :
    a.box.borderBottom ≤ b.box.borderTop + eps := by
  have h2 : (stackKids eps (some a.box.borderBottom) (b :: rest)).1 = true := by
    unfold stackKids at h
    rcases ha with ha | ha <;>
      simp only [ha, hna, hne, if_true, Bool.false_eq_true, if_false, Bool.and_eq_true] at h <;> exact h.2
  exact stackKids_first eps _ b rest hb hnb h2

/-- (g) **no overlap**: in a list accepted by `stackKids`, two in-flow children (blocks or lines) that are
neighbours in the list of all children and have no negative margins in their subtrees do not overlap: the first
has no content, or its bottom border edge is at or above the top border edge of the second (within the
tolerance).  Two in-flow children with an out-of-flow box between them are tested by `stackKids` as well; of
them nothing is stated. -/
theorem stackKids_adjacent (eps : Rat) : ∀ (kids : List UTree) (pos : Option Rat),
    (stackKids eps pos kids).1 = true → ∀ (i : Nat) (a b : UTree), kids[i]? = some a → kids[i + 1]? = some b →
    (a.box.kind = .flow ∨ a.box.kind = .line) → (b.box.kind = .flow ∨ b.box.kind = .line) →
    nonNegMargins a = true → nonNegMargins b = true →
    isEmpty a = true ∨ a.box.borderBottom ≤ b.box.borderTop + eps
  | [], _ => by intro _ i a b ha; simp at ha
  | x :: xs, pos => by
    intro h i a b ha hb hka hkb hna hnb
    cases i with
    | zero =>
      simp only [List.getElem?_cons_zero, Option.some.injEq] at ha
      subst ha
      cases xs with
      | nil => simp at hb
      | cons y ys =>
        simp only [Nat.zero_add, List.getElem?_cons_succ, List.getElem?_cons_zero, Option.some.injEq] at hb
        subst hb
        cases he : isEmpty x with
        | true => exact Or.inl rfl
        | false => exact Or.inr (stackKids_head_pair eps pos x y ys hka hkb hna hnb he h)
    | succ i =>
      simp only [List.getElem?_cons_succ] at ha hb
      obtain ⟨pos', h'⟩ := stackKids_tail eps pos x xs h
      exact stackKids_adjacent eps xs pos' h' i a b ha hb hka hkb hna hnb

/-- The `stack` half of `kidsOk` for the children of a flow box. -/
theorem kidsOk_stack (eps : Rat) (b : UBox) (kids : List UTree) (hk : b.kind = .flow)
    (h : kidsOk eps (.mk b kids) = true) : (stackKids eps (some b.contentTop) kids).1 = true := by
  unfold kidsOk kidsVerdict at h
  have hk' : (b.kind != Kind.flow) = false := by simp [hk]
  simp only [hk', Bool.false_eq_true, if_false] at h
  cases hs : (stackKids eps (some b.contentTop) kids).1 with
  | true => rfl
  | false => simp [hs] at h

/-- (g) **Soundness of the stacking clause on whole trees**: in every subtree of an accepted tree whose
root is a flow box, in-flow children without negative margins that are neighbours in the list of children
(see `stackKids_adjacent`) do not overlap, and the first one starts at or below the top of the parent's
content box. -/
theorem usedOk_no_overlap (eps : Rat) (c : Ctx) (t : UTree) (h : usedOk eps c t = true)
    (b : UBox) (kids : List UTree) (hs : UTree.mk b kids ∈ subtrees t) (hk : b.kind = .flow) :
    (∀ (i : Nat) (x y : UTree), kids[i]? = some x → kids[i + 1]? = some y →
      (x.box.kind = .flow ∨ x.box.kind = .line) → (y.box.kind = .flow ∨ y.box.kind = .line) →
      nonNegMargins x = true → nonNegMargins y = true →
      isEmpty x = true ∨ x.box.borderBottom ≤ y.box.borderTop + eps) ∧
    (∀ x rest, kids = x :: rest → (x.box.kind = .flow ∨ x.box.kind = .line) → nonNegMargins x = true →
      b.contentTop ≤ x.box.borderTop + eps) := by
  simp only [usedOk, Bool.and_eq_true, List.all_eq_true] at h
  have hst := kidsOk_stack eps b kids hk (h.2 _ hs)
  refine ⟨stackKids_adjacent eps kids _ hst, ?_⟩
  intro x rest e hkx hnx
  subst e
  exact stackKids_first eps _ x rest hkx hnx hst

/-! Non-vacuity: a 100px parent at x = 10 with two children, the second one centred. -/

def exChild (y w ml mr : Rat) (mlA mrA : Bool) : UBox :=
  { x := 10, y := y, w := w, h := 20, ml := ml, mr := mr, mt := 0, mb := 5, pl := 0, pr := 0, pt := 0, pb := 0,
    bl := 0, br := 0, bt := 0, bb := 0, minW := 0, maxW := none, minH := 0, maxH := none,
    mlAuto := mlA, mrAuto := mrA, wAuto := false, hAuto := false, kind := .flow, rtl := false, whole := true }

def exTree : UTree :=
  .mk { exChild 0 100 0 0 false false with h := 50, wAuto := true, hAuto := true }
    [.mk (exChild 0 100 0 0 false false) [], .mk (exChild 25 40 30 30 true true) []]

example : usedOk 0 { cx := 10, pw := 100, prtl := false } exTree = true := by decide +kernel

/-- …and the checker rejects an overlap, a negative height, a box that does not fill its parent. -/
example : firstBad 0 { cx := 10, pw := 100, prtl := false }
    (.mk { exChild 0 100 0 0 false false with h := 50, wAuto := true, hAuto := true }
      [.mk (exChild 0 100 0 0 false false) [], .mk (exChild 15 40 30 30 true true) []]) = some (0, "stack") := by
  decide +kernel

example : firstBad 0 { cx := 10, pw := 100, prtl := false }
    (.mk { exChild 0 100 0 0 false false with h := -3 } []) = some (0, "nonneg") := by decide +kernel

example : firstBad 0 { cx := 10, pw := 100, prtl := false }
    (.mk (exChild 0 40 30 20 true true) []) = some (0, "equation") := by decide +kernel

end Wp.C05Check
