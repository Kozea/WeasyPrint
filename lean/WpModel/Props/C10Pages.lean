/-
C10 — page breaking of tables: theorems about the predictive model `Model/TablePages.lean`
(↔ `group_layout`, `body_groups_layout`, `all_groups_layout`, `table_layout` of
`weasyprint/layout/table.py`; every recorded call of the real `table_layout` on tables with unsplit
rows is compared with the model by the section `doc-pages-predict` of `py/props/c10.py`).

Main results, for every table (any number of groups / rows, any heights, any page geometry):
* `fragment_prefix`  — one call places a prefix of the rows that were still to be placed, in order,
                       and `resume_at` points exactly at the first row not placed;
* `rows_once`        — over any sequence of calls that ends with `resume_at = None`, the rows placed
                       are exactly all the body rows, once each, in order;
* `first_row_placed`, `progress` — a call on an empty page places at least one row, hence
* `pagination_terminates` — on as many empty pages as rows are left, the sequence ends with
                       `resume_at = None`;
* `header_footer_when_fit` — when the header, the footer and the first remaining row fit together,
                       the fragment has both.
-/
import WpModel.Model.TablePages

namespace Wp.C10.Pages
open Wp Wp.TablePages

/-- Rows with their indices from `idx`. -/
def indexed : Nat → List PRow → List (Nat × PRow)
  | _, [] => []
  | idx, r :: rs => (idx, r) :: indexed (idx + 1) rs

private theorem indexed_split (idx k : Nat) (rows : List PRow) :
    indexed idx rows = indexed idx (rows.take k) ++ indexed (idx + k) (rows.drop k) := by
  fun_induction indexed idx rows generalizing k with
  | case1 => simp [indexed]
  | case2 idx r rs ih =>
    cases k with
    | zero => simp [indexed]
    | succ k =>
      simp only [List.take_succ_cons, List.drop_succ_cons, indexed, List.cons_append]
      rw [ih k, show idx + 1 + k = idx + (k + 1) by omega]

section RowLoop
variable {sp pb : Rat} {bs : BSpace} {orig e : Bool} {idx : Nat} {acc : List (Nat × PRow)} {y : Rat}
  {o : RowsOut}

/-- How the row loop treats the next row: it stops in front of it (with nothing kept yet only on an
originally empty page, where the call does not give up), it gives up, or it keeps the row. -/
private theorem rowsLoop_cons {row : PRow} {rest : List PRow}
    (h : rowsLoop sp pb bs orig idx (row :: rest) acc y e = .ok o) :
    (o.placed = acc.reverse ∧ o.resume = some idx ∧ o.gaveUp = false ∧
      (acc = [] → e = false ∧ orig = true)) ∨
    (acc = [] ∧ o.placed = [] ∧ o.resume = none ∧ o.gaveUp = true ∧ e = false ∧ orig = false) ∨
    ((e = true ∨ overflows pb bs (y + row.height + sp) = false) ∧
      rowsLoop sp pb bs orig (idx + 1) rest ((idx, row) :: acc) (y + row.height + sp) false = .ok o) := by
  unfold rowsLoop at h
  simp only at h
  split at h
  · -- forced break: only after a kept row
    rename_i hforced
    obtain rfl := Except.ok.inj h
    refine Or.inl ⟨rfl, rfl, rfl, fun hacc => ?_⟩
    subst hacc
    cases hforced
  · split at h
    · rename_i hcond
      simp only [Bool.and_eq_true, Bool.not_eq_true'] at hcond
      split at h
      · split at h
        · cases h
        · obtain rfl := Except.ok.inj h
          exact Or.inl ⟨rfl, rfl, rfl, fun hacc => nomatch hacc⟩
      · split at h
        · rename_i horig
          obtain rfl := Except.ok.inj h
          exact Or.inl ⟨rfl, rfl, rfl, fun _ => ⟨hcond.1, horig⟩⟩
        · rename_i horig
          obtain rfl := Except.ok.inj h
          exact Or.inr (Or.inl ⟨rfl, rfl, rfl, rfl, hcond.1, Bool.eq_false_iff.mpr horig⟩)
    · rename_i hcond
      refine Or.inr (Or.inr ⟨?_, h⟩)
      cases e with
      | true => exact Or.inl rfl
      | false => exact Or.inr (by simpa using hcond)

/-- The row loop keeps the rows already kept and adds a run of consecutive rows; `resume` is the
index of the first row not kept; giving up only happens before any row is kept. -/
theorem rowsLoop_spec {rows : List PRow} (h : rowsLoop sp pb bs orig idx rows acc y e = .ok o) :
    ∃ k, k ≤ rows.length ∧ o.placed = acc.reverse ++ indexed idx (rows.take k) ∧
      (o.gaveUp = true → acc = [] ∧ k = 0 ∧ o.resume = none) ∧
      (o.gaveUp = false → o.resume = none → k = rows.length) ∧
      (∀ r, o.resume = some r → r = idx + k ∧ k < rows.length) := by
  induction rows generalizing idx acc y e with
  | nil =>
    unfold rowsLoop at h
    obtain rfl := Except.ok.inj h
    exact ⟨0, Nat.le_refl _, (List.append_nil _).symm, fun h => (nomatch h), fun _ _ => rfl,
      fun r h => (nomatch h)⟩
  | cons row rest ih =>
    rcases rowsLoop_cons h with ⟨hp, hr, hg, _⟩ | ⟨rfl, hp, hr, hg, _⟩ | ⟨_, hrec⟩
    · refine ⟨0, Nat.zero_le _, hp.trans (List.append_nil _).symm, fun h => ?_, fun _ h => ?_,
        fun r h => ?_⟩
      · rw [hg] at h; cases h
      · rw [hr] at h; cases h
      · rw [hr] at h
        obtain rfl := Option.some.inj h
        exact ⟨rfl, Nat.succ_pos _⟩
    · refine ⟨0, Nat.zero_le _, hp, fun _ => ⟨rfl, rfl, hr⟩, fun h _ => ?_, fun r h => ?_⟩
      · rw [hg] at h; cases h
      · rw [hr] at h; cases h
    · obtain ⟨k, hk, hp, hg, hn, hr⟩ := ih hrec
      refine ⟨k + 1, Nat.succ_le_succ hk, ?_, fun hgu => ?_, fun hgu hres => ?_, fun r hres => ?_⟩
      · rw [hp, List.reverse_cons, List.append_assoc]
        rfl
      · exact absurd (hg hgu).1 (List.cons_ne_nil _ _)
      · exact congrArg (· + 1) (hn hgu hres)
      · obtain ⟨h1, h2⟩ := hr r hres
        exact ⟨by omega, Nat.succ_lt_succ h2⟩

/-- Once a row is kept the loop never gives up and keeps it. -/
private theorem rowsLoop_acc_nonempty {rows : List PRow} (hacc : acc ≠ [])
    (h : rowsLoop sp pb bs orig idx rows acc y e = .ok o) : o.placed ≠ [] ∧ o.gaveUp = false := by
  obtain ⟨k, _, hp, hg, _, _⟩ := rowsLoop_spec h
  constructor
  · rw [hp]
    exact fun hnil => hacc (List.reverse_eq_nil_iff.mp (List.append_eq_nil_iff.mp hnil).1)
  · cases hgu : o.gaveUp with
    | false => rfl
    | true => exact absurd (hg hgu).1 hacc

/-- A first row that does not overflow (or an empty page) is kept. -/
private theorem rowsLoop_first_kept {row : PRow} {more : List PRow}
    (hfit : e = true ∨ overflows pb bs (y + row.height + sp) = false)
    (h : rowsLoop sp pb bs orig idx (row :: more) [] y e = .ok o) : o.placed ≠ [] ∧ o.gaveUp = false := by
  unfold rowsLoop at h
  have hcond : (!e && overflows pb bs (y + row.height + sp)) = false := by
    rcases hfit with h1 | h1 <;> simp [h1]
  simp only [hcond] at h
  exact rowsLoop_acc_nonempty (List.cons_ne_nil _ _) h

end RowLoop

/-- Rows of group `g` still to be placed from row `s`, with their indices. -/
def groupRemaining (g : PGroup) (s : Nat) : List (Nat × PRow) := indexed s (g.rows.drop s)

/-- What is left of a group after `resume_at`. -/
def groupRest (g : PGroup) : Option Nat → List (Nat × PRow)
  | none => []
  | some r => groupRemaining g r

/-- `group_layout` runs the row loop from the skipped row and either drops the group (the loop gave
up, or it broke on a non-empty page before any row or against `break-inside: avoid`) or keeps what
the loop kept. -/
private theorem groupLayout_ok {sp pb : Rat} {g : PGroup} {y : Rat} {bs : BSpace} {e : Bool}
    {skip : Option Nat} {out : GroupOut} (hres : groupLayout sp pb g y bs e skip = .ok out) :
    ∃ o, rowsLoop sp pb bs e (skip.getD 0) (g.rows.drop (skip.getD 0)) [] y e = .ok o ∧
      ((o.gaveUp = true ∨
          (o.resume.isSome && !e && (avoids false g.inside || o.placed.isEmpty)) = true) ∧
        out = .none o.next ∨
       o.gaveUp = false ∧ ∃ height, out = .some o.placed y height o.resume o.next) := by
  revert hres
  fun_cases groupLayout sp pb g y bs e skip <;> intro h <;> cases h <;> refine ⟨_, ‹_›, ?_⟩
  next hgu => exact .inl ⟨.inl hgu, rfl⟩
  next habort => exact .inl ⟨.inr habort, rfl⟩
  next hgu _ _ _ => exact .inr ⟨Bool.eq_false_iff.mpr hgu, _, rfl⟩

/-- **group_prefix.** `group_layout` keeps a prefix of the rows of the group that were still to be
placed; with `resume_at = {r: None}` the rest starts exactly at `r`, without it the group is done. -/
theorem group_prefix {sp pb : Rat} {g : PGroup} {y : Rat} {bs : BSpace} {e : Bool} {skip : Option Nat}
    {rows : List (Nat × PRow)} {gy h : Rat} {resume : Option Nat} {next : Option Brk}
    (hres : groupLayout sp pb g y bs e skip = .ok (.some rows gy h resume next)) :
    groupRemaining g (skip.getD 0) = rows ++ groupRest g resume ∧
    (∀ r, resume = some r → skip.getD 0 ≤ r ∧ r < g.rows.length) := by
  obtain ⟨o, ho, ⟨_, hout⟩ | ⟨hgu, _, hout⟩⟩ := groupLayout_ok hres
  · cases hout
  · injection hout with h1 _ _ h4 _
    subst h1; subst h4
    obtain ⟨k, hk, hp, _, hn, hr⟩ := rowsLoop_spec ho
    rw [List.reverse_nil, List.nil_append] at hp
    constructor
    · unfold groupRemaining
      rw [indexed_split (skip.getD 0) k (g.rows.drop (skip.getD 0)), ← hp]
      congr 1
      cases hres' : o.resume with
      | none =>
        rw [List.drop_of_length_le (Nat.le_of_eq (hn hgu hres').symm)]
        rfl
      | some r =>
        obtain ⟨e1, _⟩ := hr r hres'
        unfold groupRest groupRemaining
        simp only
        rw [List.drop_drop, e1]
    · intro r hres'
      obtain ⟨e1, e2⟩ := hr r hres'
      rw [List.length_drop] at e2
      exact ⟨by omega, by omega⟩

/-- A group whose remaining rows are not empty is either not kept at all or kept with ≥ 1 row. -/
private theorem groupLayout_rows_nonempty {sp pb : Rat} {g : PGroup} {y : Rat} {bs : BSpace} {e : Bool}
    {skip : Option Nat} (hne : g.rows.drop (skip.getD 0) ≠ [])
    {rows : List (Nat × PRow)} {gy h : Rat} {resume : Option Nat} {next : Option Brk}
    (hres : groupLayout sp pb g y bs e skip = .ok (.some rows gy h resume next)) : rows ≠ [] := by
  obtain ⟨o, ho, ⟨_, hout⟩ | ⟨hgu, _, hout⟩⟩ := groupLayout_ok hres
  · cases hout
  · injection hout with h1
    subst h1
    cases hd : g.rows.drop (skip.getD 0) with
    | nil => exact absurd hd hne
    | cons row more =>
      rw [hd] at ho
      -- the first row is kept, unless the loop gave up or stopped on an originally empty page
      rcases rowsLoop_cons ho with ⟨_, _, _, hacc⟩ | ⟨_, _, _, hg, _⟩ | ⟨_, hrec⟩
      · obtain ⟨he, horig⟩ := hacc rfl
        rw [he] at horig
        cases horig
      · rw [hg] at hgu
        cases hgu
      · exact (rowsLoop_acc_nonempty (List.cons_ne_nil _ _) hrec).1

/-- All body rows `(group, row)` still to be placed, from group `gi` on (first group from row `sr`). -/
def remainingGroups : Nat → List PGroup → Option Nat → List (Nat × Nat)
  | _, [], _ => []
  | gi, g :: rest, sr =>
    (groupRemaining g (sr.getD 0)).map (fun p => (gi, p.1)) ++ remainingGroups (gi + 1) rest none

/-- Rows still to be placed by a call given this skip stack (`none`: from the start of the table); for
what a `resume_at` leaves see `rest`. -/
def remaining (bodies : List PGroup) : Option Resume → List (Nat × Nat)
  | none => remainingGroups 0 bodies none
  | some r => remainingGroups r.group (bodies.drop r.group) r.row

/-- The body rows `(group, row)` of a list of kept groups. -/
def placedRows (gs : List PlacedGroup) : List (Nat × Nat) :=
  gs.flatMap (fun pg => pg.rows.map (fun p => (pg.index, p.1)))

/-- What is left after a fragment. -/
def rest (bodies : List PGroup) : Option Resume → List (Nat × Nat)
  | none => []
  | some r => remaining bodies (some r)

private theorem remaining_eq (bodies : List PGroup) (skip : Option Resume) :
    remaining bodies skip =
      remainingGroups (skipGroup skip) (bodies.drop (skipGroup skip)) (skipRow skip) := by
  cases skip <;> rfl

private theorem placedRows_append (a b : List PlacedGroup) :
    placedRows (a ++ b) = placedRows a ++ placedRows b := by
  simp [placedRows]

private theorem groupsOf_cons (p : PlacedGroup × PGroup) (acc : List (PlacedGroup × PGroup)) :
    groupsOf (p :: acc) = groupsOf acc ++ [p.1] := by
  simp [groupsOf]

private theorem drop_succ_eq {α} (l : List α) (i : Nat) (x : α) (xs : List α) (h : l.drop i = x :: xs) :
    l.drop (i + 1) = xs := by
  have : l.drop (i + 1) = (l.drop i).drop 1 := by rw [List.drop_drop]
  rw [this, h]
  rfl

/-- The first row still to be placed after a skip stack: its group and the row. -/
def firstRemaining (t : PTable) (skip : Option Resume) : Option (PGroup × PRow) :=
  match t.bodies.drop (skipGroup skip) with
  | [] => none
  | g :: _ =>
    match g.rows.drop ((skipRow skip).getD 0) with
    | [] => none
    | row :: _ => some (g, row)

private theorem firstRemaining_some {t : PTable} {skip : Option Resume} {g : PGroup} {row : PRow}
    (h : firstRemaining t skip = some (g, row)) :
    (∃ gs, t.bodies.drop (skipGroup skip) = g :: gs) ∧
    ∃ rows, g.rows.drop ((skipRow skip).getD 0) = row :: rows := by
  revert h
  fun_cases firstRemaining t skip <;> intro h <;> cases h
  exact ⟨⟨_, ‹_›⟩, _, ‹_›⟩

private theorem firstRemaining_of {t : PTable} {skip : Option Resume} {g : PGroup} {gs : List PGroup}
    {row : PRow} {rows : List PRow} (hg : t.bodies.drop (skipGroup skip) = g :: gs)
    (hr : g.rows.drop ((skipRow skip).getD 0) = row :: rows) : firstRemaining t skip = some (g, row) := by
  unfold firstRemaining
  rw [hg]
  simp only
  rw [hr]

private theorem avoidBreaks_first {t : PTable} {skip : Option Resume} {g : PGroup} {row : PRow}
    (hfirst : firstRemaining t skip = some (g, row)) : avoidBreaks t skip = avoids false g.inside := by
  obtain ⟨⟨gs, hdrop⟩, _⟩ := firstRemaining_some hfirst
  unfold avoidBreaks
  rw [hdrop]

section GroupLoop
variable {sp pb : Rat} {bs : BSpace} {idx : Nat} {acc : List (PlacedGroup × PGroup)} {y : Rat} {e : Bool}
  {sr : Option Nat} {o : BodiesOut}

private theorem bodiesLoop_nil (h : bodiesLoop sp pb bs idx [] acc y e sr = .ok o) :
    o.groups = some (groupsOf acc) ∧ o.resume = none := by
  unfold bodiesLoop at h
  obtain rfl := Except.ok.inj h
  exact ⟨rfl, rfl⟩

/-- How the group loop treats the next group: it stops in front of it after earlier groups (forced
break, or the group is not kept), nothing at all is kept, or the group is kept — up to a row, which
ends the loop, or wholly, and the loop goes on. -/
private theorem bodiesLoop_cons {g : PGroup} {more : List PGroup}
    (h : bodiesLoop sp pb bs idx (g :: more) acc y e sr = .ok o) :
    (acc ≠ [] ∧ o.groups = some (groupsOf acc) ∧ o.resume = some ⟨idx, none⟩) ∨
    (acc = [] ∧ o.groups = none ∧ o.resume = none ∧
      ∃ next, groupLayout sp pb g y bs e sr = .ok (.none next)) ∨
    (∃ rows gy height resume next,
      groupLayout sp pb g y bs e sr = .ok (.some rows gy height resume next) ∧
      ((∃ r, resume = some r ∧ o.groups = some (groupsOf ((⟨idx, rows, gy, height⟩, g) :: acc)) ∧
          o.resume = some ⟨idx, some r⟩) ∨
       (resume = none ∧ bodiesLoop sp pb bs (idx + 1) more ((⟨idx, rows, gy, height⟩, g) :: acc)
          (y + height + sp) false none = .ok o))) := by
  unfold bodiesLoop at h
  simp only at h
  split at h
  · rename_i hforced
    obtain rfl := Except.ok.inj h
    refine Or.inl ⟨fun hacc => ?_, rfl, rfl⟩
    subst hacc
    cases hforced
  · split at h
    · cases h
    · rename_i next hgl
      split at h
      · split at h
        · cases h
        · obtain rfl := Except.ok.inj h
          exact Or.inl ⟨List.cons_ne_nil _ _, rfl, rfl⟩
      · obtain rfl := Except.ok.inj h
        exact Or.inr (Or.inl ⟨rfl, rfl, rfl, next, hgl⟩)
    · rename_i rows gy height resume next hgl
      refine Or.inr (Or.inr ⟨rows, gy, height, resume, next, hgl, ?_⟩)
      split at h
      · obtain rfl := Except.ok.inj h
        exact Or.inl ⟨_, rfl, rfl, rfl⟩
      · exact Or.inr ⟨rfl, h⟩

/-- The group loop keeps whole groups, then possibly a prefix of one more, and `resume_at` points at
the first row not kept (or at a whole group). -/
theorem bodiesLoop_spec {all groups : List PGroup} (hdrop : groups = all.drop idx)
    (hsr : acc ≠ [] → sr = none) (h : bodiesLoop sp pb bs idx groups acc y e sr = .ok o)
    {gs : List PlacedGroup} (hgs : o.groups = some gs) :
    placedRows (groupsOf acc) ++ remainingGroups idx groups sr = placedRows gs ++ rest all o.resume := by
  induction groups generalizing idx acc y e sr with
  | nil =>
    obtain ⟨hg, hr⟩ := bodiesLoop_nil h
    obtain rfl := Option.some.inj (hg.symm.trans hgs)
    rw [hr]
    rfl
  | cons g more ih =>
    have hmore : more = all.drop (idx + 1) := (drop_succ_eq all idx g more hdrop.symm).symm
    rcases bodiesLoop_cons h with ⟨hacc, hg, hr⟩ | ⟨_, hg, _⟩ |
      ⟨rows, gy, height, resume, next, hgl, ⟨r, rfl, hg, hr⟩ | ⟨rfl, hrec⟩⟩
    · -- the skip row only applies to the first group of the call, which is never stopped at
      obtain rfl := Option.some.inj (hg.symm.trans hgs)
      rw [hr, hsr hacc]
      simp only [rest, remaining]
      rw [← hdrop]
    · cases hg.symm.trans hgs
    · obtain rfl := Option.some.inj (hg.symm.trans hgs)
      rw [hr, groupsOf_cons, placedRows_append]
      simp only [rest, remaining, remainingGroups]
      rw [← hdrop]
      simp only [remainingGroups, Option.getD_some]
      rw [(group_prefix hgl).1]
      simp [placedRows, groupRest, List.map_append, List.append_assoc]
    · rw [← ih hmore (fun _ => rfl) hrec, groupsOf_cons, placedRows_append]
      simp only [remainingGroups]
      rw [(group_prefix hgl).1]
      simp [placedRows, groupRest, List.append_assoc]

/-- The groups kept before are kept: the result lists them first. -/
private theorem bodiesLoop_groups {groups : List PGroup} (hacc : acc ≠ [])
    (h : bodiesLoop sp pb bs idx groups acc y e sr = .ok o) : ∃ news, o.groups = some (groupsOf acc ++ news) := by
  induction groups generalizing idx acc y e sr with
  | nil => exact ⟨[], by rw [(bodiesLoop_nil h).1, List.append_nil]⟩
  | cons g more ih =>
    rcases bodiesLoop_cons h with ⟨_, hg, _⟩ | ⟨hnil, _⟩ | ⟨_, _, _, _, _, _, ⟨_, _, hg, _⟩ | ⟨_, hrec⟩⟩
    · exact ⟨[], by rw [hg, List.append_nil]⟩
    · exact absurd hnil hacc
    · exact ⟨_, by rw [hg, groupsOf_cons]⟩
    · obtain ⟨news, hn⟩ := ih (List.cons_ne_nil _ _) hrec
      exact ⟨_, by rw [hn, groupsOf_cons, List.append_assoc]⟩

/-- The first group a call keeps is the first one it meets, with at least one of the rows it had left. -/
private theorem bodiesLoop_head {g : PGroup} {more : List PGroup} (hne : g.rows.drop (sr.getD 0) ≠ [])
    (h : bodiesLoop sp pb bs idx (g :: more) [] y e sr = .ok o) {pg : PlacedGroup} {gs : List PlacedGroup}
    (hgs : o.groups = some (pg :: gs)) : pg.rows ≠ [] := by
  rcases bodiesLoop_cons h with ⟨hacc, _⟩ | ⟨_, hg, _⟩ | ⟨rows, gy, height, _, _, hgl, ⟨_, _, hg, _⟩ | ⟨_, hrec⟩⟩
  · exact absurd rfl hacc
  · cases hg.symm.trans hgs
  · obtain ⟨rfl, _⟩ := List.cons.inj (Option.some.inj (hg.symm.trans hgs))
    exact groupLayout_rows_nonempty hne hgl
  · obtain ⟨news, hn⟩ := bodiesLoop_groups (List.cons_ne_nil _ _) hrec
    obtain ⟨rfl, _⟩ := List.cons.inj (Option.some.inj (hn.symm.trans hgs))
    exact groupLayout_rows_nonempty hne hgl

/-- `resume_at` always designates an existing row (or an existing, non-empty group). -/
private theorem bodiesLoop_resume_valid {t : PTable} (hwf : ∀ g ∈ t.bodies, g.rows ≠ [])
    {groups : List PGroup} (hdrop : groups = t.bodies.drop idx)
    (h : bodiesLoop sp pb bs idx groups acc y e sr = .ok o) (r : Resume) (hr : o.resume = some r) :
    ∃ g row, firstRemaining t (some r) = some (g, row) := by
  induction groups generalizing idx acc y e sr with
  | nil =>
    rw [(bodiesLoop_nil h).2] at hr
    cases hr
  | cons g more ih =>
    have hmore : more = t.bodies.drop (idx + 1) := (drop_succ_eq t.bodies idx g more hdrop.symm).symm
    rcases bodiesLoop_cons h with ⟨_, _, hres⟩ | ⟨_, _, hres, _⟩ |
      ⟨rows, gy, height, resume, next, hgl, ⟨r', rfl, _, hres⟩ | ⟨_, hrec⟩⟩
    · -- a whole group is left: it has a first row
      rw [hres] at hr
      obtain rfl := Option.some.inj hr
      cases hrows : g.rows with
      | nil => exact absurd hrows (hwf g (List.mem_of_mem_drop (hdrop ▸ List.mem_cons_self)))
      | cons row rows => exact ⟨g, row, firstRemaining_of hdrop.symm hrows⟩
    · rw [hres] at hr
      cases hr
    · rw [hres] at hr
      obtain rfl := Option.some.inj hr
      obtain ⟨_, hlt⟩ := (group_prefix hgl).2 r' rfl
      cases hd : g.rows.drop r' with
      | nil => exact absurd (List.drop_eq_nil_iff.mp hd) (Nat.not_le.mpr hlt)
      | cons row rows => exact ⟨g, row, firstRemaining_of hdrop.symm hd⟩
    · exact ih hmore hrec

end GroupLoop

/-- `body_groups_layout` places a prefix of the rows that were still to be placed. -/
theorem bodiesLayout_prefix {t : PTable} {pb : Rat} {skip : Option Resume} {y : Rat} {bs : BSpace}
    {e : Bool} {o : BodiesOut} (h : bodiesLayout t pb skip y bs e = .ok o) {gs : List PlacedGroup}
    (hgs : o.groups = some gs) :
    remaining t.bodies skip = placedRows gs ++ rest t.bodies o.resume := by
  unfold bodiesLayout at h
  rw [remaining_eq]
  -- the loop starts with nothing kept: `placedRows (groupsOf [])` is `[]`
  exact bodiesLoop_spec rfl (fun hne => absurd rfl hne) h hgs

private theorem finish_some {hd ft : Bool} {o : BodiesOut} {fh : Rat} {f : Fragment}
    (h : finish hd ft o fh = some f) :
    o.groups = some f.groups ∧ o.resume = f.resume ∧ f.header = hd ∧ f.footer = ft := by
  revert h
  fun_cases finish hd ft o fh <;> intro h <;> cases h
  exact ⟨‹_›, rfl, rfl, rfl⟩

private theorem attemptKept_ok {t : PTable} {pb : Rat} {skip : Option Resume} {pe hd ft : Bool} {y : Rat}
    {bs : BSpace} {e : Bool} {fh : Rat} {r : Option Fragment}
    (h : attemptKept t pb skip pe hd ft y bs e fh = .ok (some r)) :
    ∃ o, bodiesLayout t pb skip y bs e = .ok o ∧ keepAttempt t o pe = true ∧ r = finish hd ft o fh := by
  unfold attemptKept at h
  split at h
  · cases h
  · rename_i o ho
    injection h with h
    split at h
    · exact ⟨o, ho, ‹_›, (Option.some.inj h).symm⟩
    · cases h

/-- Whatever `all_groups_layout` returns is the kept result of one of its attempts with a header or
footer, or the last attempt without either. -/
private theorem tableFragment_ok {t : PTable} {pb : Rat} {skip : Option Resume} {y bs : Rat} {pe : Bool}
    {res : Option Fragment} (h : tableFragment t pb skip y bs pe = .ok res) :
    (∃ hd ft y' bs' e' fh, attemptKept t pb skip pe hd ft y' bs' e' fh = .ok (some res)) ∨
    (∃ o, bodiesLayout t pb skip y (some bs) pe = .ok o ∧ res = finish false false o 0) := by
  have last : ∀ {r : Except PyErr BodiesOut},
      (match r with
       | .error e => .error e
       | .ok o => .ok (finish false false o 0)) = Except.ok res →
      ∃ o, r = .ok o ∧ res = finish false false o 0 := by
    intro r hr
    split at hr
    · cases hr
    · exact ⟨_, rfl, (Except.ok.inj hr).symm⟩
  revert h
  fun_cases tableFragment t pb skip y bs pe <;> intro h <;> first
    | cases h <;> exact .inl ⟨_, _, _, _, _, _, ‹_›⟩
    | exact .inr (last h)

/-- Every fragment produced by `all_groups_layout` is the result of one `body_groups_layout` call on
the same skip stack. -/
theorem tableFragment_from_bodies {t : PTable} {pb : Rat} {skip : Option Resume} {y bs : Rat} {pe : Bool}
    {f : Fragment} (h : tableFragment t pb skip y bs pe = .ok (some f)) :
    ∃ y' bs' e' o, bodiesLayout t pb skip y' bs' e' = .ok o ∧ o.groups = some f.groups ∧
      o.resume = f.resume := by
  rcases tableFragment_ok h with ⟨hd, ft, y', bs', e', fh, hk⟩ | ⟨o, ho, hres⟩
  · obtain ⟨o, ho, _, hres⟩ := attemptKept_ok hk
    obtain ⟨h1, h2, _⟩ := finish_some hres.symm
    exact ⟨y', bs', e', o, ho, h1, h2⟩
  · obtain ⟨h1, h2, _⟩ := finish_some hres.symm
    exact ⟨y, some bs, pe, o, ho, h1, h2⟩

/-- `table_layout` returns the fragment of `all_groups_layout`, or discards it. -/
private theorem tableLayout_some {t : PTable} {pb : Rat} {skip : Option Resume} {y bs : Rat} {pe : Bool}
    {f : Fragment} (h : tableLayout t pb skip y bs pe = .ok (some f)) :
    tableFragment t pb skip y bs pe = .ok (some f) := by
  revert h
  fun_cases tableLayout t pb skip y bs pe <;> intro h <;> cases h
  assumption

/-- The body rows of a fragment. -/
def fragRows (f : Fragment) : List (Nat × Nat) := placedRows f.groups

/-- **fragment_prefix.** One call of `table_layout` places, in order, a prefix of the body rows that
were still to be placed (given by the skip stack), and its `resume_at` designates exactly the rest:
no row is lost, repeated or reordered by a page break. -/
theorem fragment_prefix (t : PTable) (pb : Rat) (skip : Option Resume) (y bs : Rat) (pe : Bool)
    (f : Fragment) (h : tableLayout t pb skip y bs pe = .ok (some f)) :
    remaining t.bodies skip = fragRows f ++ rest t.bodies f.resume := by
  obtain ⟨y', bs', e', o, ho, h1, h2⟩ := tableFragment_from_bodies (tableLayout_some h)
  rw [← h2]
  exact bodiesLayout_prefix ho h1

/-- One attempt to place (the rest of) the table on a page. -/
structure Attempt where
  pageBottom : Rat
  y : Rat
  bottomSpace : Rat
  pageIsEmpty : Bool
  deriving Repr

/-- The page loop around `table_layout`: each attempt either does not place the table (the caller
retries on the next page with the same skip stack) or yields a fragment and the next skip stack;
stops when a fragment has no `resume_at`.  Returns the fragments and whether the table is finished. -/
def paginate (t : PTable) : Option Resume → List Attempt → Except PyErr (List Fragment × Bool)
  | _, [] => .ok ([], false)
  | skip, a :: more =>
    match tableLayout t a.pageBottom skip a.y a.bottomSpace a.pageIsEmpty with
    | .error e => .error e
    | .ok none => paginate t skip more
    | .ok (some f) =>
      match f.resume with
      | none => .ok ([f], true)
      | some r =>
        match paginate t (some r) more with
        | .error e => .error e
        | .ok (fs, done) => .ok (f :: fs, done)

/-- One attempt of the page loop: the table is not placed and the loop goes on with the same skip
stack, or a fragment is placed, which ends the loop or hands its `resume_at` on. -/
private theorem paginate_cons {t : PTable} {skip : Option Resume} {a : Attempt} {more : List Attempt}
    {res : List Fragment × Bool} (h : paginate t skip (a :: more) = .ok res) :
    (tableLayout t a.pageBottom skip a.y a.bottomSpace a.pageIsEmpty = .ok none ∧
      paginate t skip more = .ok res) ∨
    ∃ f, tableLayout t a.pageBottom skip a.y a.bottomSpace a.pageIsEmpty = .ok (some f) ∧
      ((f.resume = none ∧ res = ([f], true)) ∨
       ∃ r fs, f.resume = some r ∧ paginate t (some r) more = .ok (fs, res.2) ∧ res.1 = f :: fs) := by
  unfold paginate at h
  split at h
  · cases h
  · exact Or.inl ⟨‹_›, h⟩
  · rename_i f hf
    refine Or.inr ⟨f, hf, ?_⟩
    split at h
    · exact Or.inl ⟨‹_›, (Except.ok.inj h).symm⟩
    · rename_i r hres
      split at h
      · cases h
      · rename_i fs done hrec
        obtain rfl := Except.ok.inj h
        exact Or.inr ⟨r, fs, hres, hrec, rfl⟩

/-- **rows_once.** Whatever the pages (heights, what precedes the table, retries with a larger bottom
space …): when the page loop finishes the table, the body rows of its fragments, read in order, are
exactly the rows that were to be placed — every body row once, in document order. -/
theorem rows_once (t : PTable) (attempts : List Attempt) (skip : Option Resume) (fs : List Fragment)
    (h : paginate t skip attempts = .ok (fs, true)) :
    fs.flatMap fragRows = remaining t.bodies skip := by
  induction attempts generalizing skip fs with
  | nil => unfold paginate at h; cases h
  | cons a more ih =>
    rcases paginate_cons h with ⟨_, hrec⟩ | ⟨f, hf, ⟨hres, he⟩ | ⟨r, fs', hres, hrec, rfl⟩⟩
    · exact ih skip fs hrec
    · obtain rfl : fs = [f] := congrArg Prod.fst he
      rw [fragment_prefix t _ skip _ _ _ f hf, hres]
      simp [rest]
    · rw [fragment_prefix t _ skip _ _ _ f hf, hres, List.flatMap_cons, ih (some r) fs' hrec]
      rfl

/-- All body rows of a table, `(group, row)` in document order. -/
def allRows (t : PTable) : List (Nat × Nat) := remaining t.bodies none

/-- When the first remaining row is kept, `body_groups_layout` returns at least one group. -/
private theorem bodiesLayout_first_kept {t : PTable} {pb : Rat} {skip : Option Resume} {y : Rat} {bs : BSpace}
    {e : Bool} {o : BodiesOut} {g : PGroup} {row : PRow} (hfirst : firstRemaining t skip = some (g, row))
    (he : e = true ∨ e = avoids false g.inside)
    (hfit : e = true ∨ overflows pb bs (y + row.height + t.sp) = false)
    (h : bodiesLayout t pb skip y bs e = .ok o) : ∃ pg gs, o.groups = some (pg :: gs) := by
  obtain ⟨⟨gs, hdrop⟩, more, hrows⟩ := firstRemaining_some hfirst
  unfold bodiesLayout at h
  rw [hdrop] at h
  rcases bodiesLoop_cons h with ⟨hacc, _⟩ | ⟨_, _, _, next, hgl⟩ |
    ⟨_, _, _, _, _, _, ⟨_, _, hg, _⟩ | ⟨_, hrec⟩⟩
  · exact absurd rfl hacc
  · -- the group cannot be dropped: its first row is kept, and on a non-empty page it does not avoid breaks
    obtain ⟨ro, hro, ⟨hbad, _⟩ | ⟨_, _, hout⟩⟩ := groupLayout_ok hgl
    · rw [hrows] at hro
      obtain ⟨hpl, hgu⟩ := rowsLoop_first_kept hfit hro
      rcases hbad with hb | hb
      · rw [hgu] at hb; cases hb
      · simp only [Bool.and_eq_true, Bool.or_eq_true, Bool.not_eq_true'] at hb
        rcases hb.2 with ha | ha
        · have : e = true := he.elim id (fun h => h.trans ha)
          rw [this] at hb
          cases hb.1.2
        · exact absurd (List.isEmpty_iff.mp ha) hpl
    · cases hout
  · exact ⟨_, [], hg⟩
  · obtain ⟨news, hn⟩ := bodiesLoop_groups (List.cons_ne_nil _ _) hrec
    exact ⟨_, _, hn.trans (by rw [groupsOf_cons]; rfl)⟩

/-- **header_footer_when_fit.** If the header and the footer can be laid out on this page
(`hfHeight = some`) and the first row still to be placed fits below the header and above the footer
— `y + header + row + spacing ≤ (page_bottom − bottom_space − footer)(1 + 1e-9)` — then
`all_groups_layout` returns a fragment that has both the header and the footer (and a body group). -/
theorem header_footer_when_fit (t : PTable) (pb : Rat) (skip : Option Resume) (y bs : Rat) (pe : Bool)
    (hh fh : Rat) (g : PGroup) (row : PRow)
    (hH : hfHeight t pb t.header y (if pe then some bs else none) = .ok (some hh))
    (hF : hfHeight t pb t.footer y (if pe then some bs else none) = .ok (some fh))
    (hfirst : firstRemaining t skip = some (g, row))
    (hfit : overflows pb (some (bs + fh)) (y + hh + row.height + t.sp) = false)
    (res : Option Fragment) (h : tableFragment t pb skip y bs pe = .ok res) :
    ∃ f, res = some f ∧ f.header = true ∧ f.footer = true ∧ f.groups ≠ [] := by
  unfold tableFragment at h
  simp only [hH, hF] at h
  unfold attemptKept at h
  have hav := avoidBreaks_first hfirst
  cases hb : bodiesLayout t pb skip (y + hh) (addSpace (some bs) fh) (avoidBreaks t skip) with
  | error e => rw [hb] at h; cases h
  | ok o =>
    rw [hb] at h
    obtain ⟨pg, gs, hgs⟩ := bodiesLayout_first_kept hfirst (Or.inr hav) (Or.inr (by simpa [addSpace] using hfit)) hb
    have hkeep : keepAttempt t o pe = true := by
      unfold keepAttempt
      rw [hgs]
      simp
    simp only [hkeep, if_true] at h
    injection h with h
    subst h
    unfold finish
    rw [hgs]
    exact ⟨_, rfl, rfl, rfl, by simp⟩

/-- On an empty page, as long as a body row is left, `table_layout` places a fragment holding at least
one body row, whatever the other row groups are (empty ones included). -/
theorem first_row_placed {t : PTable} {pb : Rat} {skip : Option Resume} {y bs : Rat} {g : PGroup} {row : PRow}
    (hfirst : firstRemaining t skip = some (g, row))
    {res : Option Fragment} (h : tableLayout t pb skip y bs true = .ok res) :
    ∃ f, res = some f ∧ fragRows f ≠ [] := by
  obtain ⟨⟨gs, hdrop⟩, more, hrows⟩ := firstRemaining_some hfirst
  -- at least one group is kept: by the attempt that was kept on this empty page, or by the
  -- last attempt, where the first row is kept whatever its height
  have hsome : ∀ res', tableFragment t pb skip y bs true = .ok res' → ∃ f, res' = some f ∧ f.groups ≠ [] := by
    intro res' hr
    have hfin : ∀ {hd ft : Bool} {o : BodiesOut} {fh : Rat} {pg : PlacedGroup} {gs : List PlacedGroup},
        o.groups = some (pg :: gs) → ∃ f, finish hd ft o fh = some f ∧ f.groups ≠ [] := by
      intro hd ft o fh pg gs hgs
      unfold finish
      rw [hgs]
      exact ⟨_, rfl, List.cons_ne_nil _ _⟩
    rcases tableFragment_ok hr with ⟨hd, ft, y', bs', e', fh, hk⟩ | ⟨o, ho, rfl⟩
    · obtain ⟨o, ho, hkeep, rfl⟩ := attemptKept_ok hk
      have hbodies : hasRows t = true := by
        unfold hasRows
        cases hb : t.bodies with
        | nil => rw [hb, List.drop_nil] at hdrop; cases hdrop
        | cons _ _ => rfl
      unfold keepAttempt at hkeep
      simp only [hbodies, Bool.not_true, Bool.or_false] at hkeep
      split at hkeep
      · exact hfin ‹_›
      · cases hkeep
    · obtain ⟨pg, gs', hgs⟩ := bodiesLayout_first_kept hfirst (Or.inl rfl) (Or.inl rfl) ho
      exact hfin hgs
  unfold tableLayout at h
  cases htf : tableFragment t pb skip y bs true with
  | error e => rw [htf] at h; cases h
  | ok r =>
    obtain ⟨f, rfl, hne⟩ := hsome r htf
    rw [htf] at h
    simp only [Bool.not_true, Bool.and_false, Bool.false_and, Bool.false_eq_true, if_false] at h
    obtain rfl := Except.ok.inj h
    refine ⟨f, rfl, ?_⟩
    -- the fragment comes from one `bodiesLayout` call, and the first group that kept holds a row
    obtain ⟨y', bs', e', o, ho, hg, _⟩ := tableFragment_from_bodies htf
    unfold bodiesLayout at ho
    rw [hdrop] at ho
    cases hgs : f.groups with
    | nil => exact absurd hgs hne
    | cons pg gs' =>
      have hpg := bodiesLoop_head (by rw [hrows]; exact List.cons_ne_nil _ _) ho (hg.trans (congrArg some hgs))
      unfold fragRows placedRows
      rw [hgs]
      intro hnil
      simp only [List.flatMap_cons, List.append_eq_nil_iff, List.map_eq_nil_iff] at hnil
      exact hpg hnil.1

/-- **progress.** On an empty page (`page_is_empty`), as long as a body row is left, `table_layout` places a
fragment holding at least one body row: the page loop makes progress on every fresh page, so it needs at most
one page per row. The hypothesis `hwf` (no row group is empty) is not used: this is `first_row_placed`, which
holds whatever the other row groups are. -/
theorem progress (t : PTable) (pb : Rat) (skip : Option Resume) (y bs : Rat) (g : PGroup) (row : PRow)
    (hfirst : firstRemaining t skip = some (g, row)) (hwf : ∀ g' ∈ t.bodies, g'.rows ≠ [])
    (res : Option Fragment) (h : tableLayout t pb skip y bs true = .ok res) :
    ∃ f, res = some f ∧ fragRows f ≠ [] :=
  first_row_placed hfirst h

private theorem indexed_ne_nil (idx : Nat) (rows : List PRow) (h : rows ≠ []) : indexed idx rows ≠ [] := by
  cases rows with
  | nil => exact absurd rfl h
  | cons r rs => simp [indexed]

/-- After a fragment with `resume_at`, a row is left to be placed. -/
theorem fragment_resume_valid (t : PTable) (hwf : ∀ g ∈ t.bodies, g.rows ≠ []) (pb : Rat)
    (skip : Option Resume) (y bs : Rat) (pe : Bool) (f : Fragment)
    (h : tableLayout t pb skip y bs pe = .ok (some f)) (r : Resume) (hr : f.resume = some r) :
    ∃ g row, firstRemaining t (some r) = some (g, row) := by
  obtain ⟨y', bs', e', o, ho, _, h2⟩ := tableFragment_from_bodies (tableLayout_some h)
  unfold bodiesLayout at ho
  exact bodiesLoop_resume_valid hwf rfl ho r (by rw [h2, hr])

/-- **pagination_terminates.** Laid out on a sequence of empty pages at least as long as the number of
rows still to be placed, the table is finished (`resume_at = None` is reached), whatever the page
heights: every page takes at least one row (`progress`) and no row is placed twice
(`fragment_prefix`).  Together with `rows_once`: the fragments hold every body row exactly once. -/
theorem pagination_terminates (t : PTable) (hwf : ∀ g ∈ t.bodies, g.rows ≠ []) (attempts : List Attempt) :
    ∀ (skip : Option Resume), (∀ a ∈ attempts, a.pageIsEmpty = true) →
      (remaining t.bodies skip).length ≤ attempts.length →
      (∃ g row, firstRemaining t skip = some (g, row)) →
      ∀ res, paginate t skip attempts = .ok res →
        res.2 = true ∧ res.1.flatMap fragRows = remaining t.bodies skip := by
  -- it is enough that the loop finishes: what the fragments hold is then `rows_once`
  suffices hdone : ∀ (skip : Option Resume), (∀ a ∈ attempts, a.pageIsEmpty = true) →
      (remaining t.bodies skip).length ≤ attempts.length →
      (∃ g row, firstRemaining t skip = some (g, row)) →
      ∀ res, paginate t skip attempts = .ok res → res.2 = true by
    intro skip he hlen hfirst res h
    have hd := hdone skip he hlen hfirst res h
    exact ⟨hd, rows_once t attempts skip res.1 (by rw [← hd]; exact h)⟩
  induction attempts with
  | nil =>
    intro skip _ hlen ⟨g, row, hf⟩ res _
    obtain ⟨⟨gs, hd⟩, rows, hr⟩ := firstRemaining_some hf
    -- a first remaining row makes `remaining` non-empty
    rw [remaining_eq, hd] at hlen
    simp [remainingGroups, groupRemaining, hr, indexed] at hlen
  | cons a more ih =>
    intro skip hempty hlen ⟨g, row, hfirst⟩ res h
    have hae : a.pageIsEmpty = true := hempty a List.mem_cons_self
    rcases paginate_cons h with ⟨hnone, _⟩ | ⟨f, hf, ⟨_, he⟩ | ⟨r, fs, hres, hrec, _⟩⟩
    · rw [hae] at hnone
      obtain ⟨_, hf', _⟩ := first_row_placed hfirst hnone
      cases hf'
    · rw [he]
    · have hp := fragment_prefix t _ skip _ _ _ f hf
      have hvalid := fragment_resume_valid t hwf _ skip _ _ _ f hf r hres
      rw [hae] at hf
      obtain ⟨_, hf', hrows⟩ := first_row_placed hfirst hf
      obtain rfl := Option.some.inj hf'
      -- the fragment holds at least one row, so fewer rows are left than pages
      have hlen' : (remaining t.bodies (some r)).length ≤ more.length := by
        rw [hp, hres, List.length_append] at hlen
        have := List.length_pos_iff.mpr hrows
        simp only [rest, List.length_cons] at hlen
        omega
      exact ih (some r) (fun a' ha' => hempty a' (List.mem_cons_of_mem _ ha')) hlen' hvalid (fs, res.2) hrec

/-! ### Non-vacuity: a table with header, footer and five 10px rows on 45px pages -/

private def exRow : PRow := ⟨10, .auto, .auto⟩
private def exTable : PTable :=
  ⟨0, .auto, some ⟨[exRow], .auto, .auto, .auto⟩, some ⟨[exRow], .auto, .auto, .auto⟩,
   [⟨[exRow, exRow, exRow], .auto, .auto, .auto⟩, ⟨[exRow, ⟨10, .page, .auto⟩], .auto, .auto, .auto⟩]⟩
private def exPage : Attempt := ⟨45, 0, 0, true⟩

private def summary (r : Except PyErr (List Fragment × Bool)) : List (Bool × Bool × List (Nat × Nat)) × Bool :=
  match r with
  | .ok (fs, d) => (fs.map (fun f => (f.header, f.footer, fragRows f)), d)
  | .error _ => ([], false)

private def summary1 (r : Except PyErr (Option Fragment)) : List (Bool × Bool × List (Nat × Nat)) :=
  match r with
  | .ok (some f) => [(f.header, f.footer, fragRows f)]
  | _ => []

/-- header + 2 rows + footer per page. -/
example : summary (paginate exTable none [exPage, exPage, exPage, exPage]) =
    ([(true, true, [(0, 0), (0, 1)]), (true, true, [(0, 2), (1, 0)]), (true, true, [(1, 1)])], true) := by
  decide +kernel

example : allRows exTable = [(0, 0), (0, 1), (0, 2), (1, 0), (1, 1)] := by decide +kernel
/-- On a 25px page header + row + footer do not fit: the footer is dropped first. -/
example : summary1 (tableLayout exTable 25 none 0 0 true) = [(true, false, [(0, 0)])] := by
  decide +kernel

end Wp.C10.Pages
