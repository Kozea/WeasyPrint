/-
C19 — state that outlives one call.

  * The `DiskCache` a caller may pass instead of a dict refines `dict` for every sequence of stores in which bytes are
    never stored under a key that holds an object (`disk_refines_dict`); without that discipline it does not
    (`Witness.C19.diskcache_stale_object`).  `get_image_from_uri` keeps the discipline: image objects live under
    `f'{url} {orientation} {options…}'` keys, bytes under `LazyImage` data keys, and the two key families are disjoint
    (`C19.dataKey_ne_keyStr`); so a `DiskCache` that agrees with the dict before a call agrees with it after the call
    (`getImage_on_disk`, one call at a time; `history_on_disk` does not follow the stores of the calls), and what is
    proved about the dict model (`C19.cache_transparent`) holds of it.
  * What `add_links` leaves on the boxes (`box.link_annotation`): `generate_pdf` resets the boxes of the page list first
    (974ea74, known finding `stale-link-annotation`), so a write tags exactly the boxes of its kept links with
    annotations of its own PDF whatever was written before (`write_tags_current`, `write_history_independent`); the same
    page list written twice tags the same boxes (`write_twice_same_boxes`).
  * `RasterImage.get_x_object`: with ratio 1 the image object is not modified (`ratio_one_pure`); a thumbnail call
    replaces the stored data (`Witness.C19.thumbnail_replaces_source`, known finding `dpi-thumbnail-replaces-source`).
  * A render does not depend on how many objects were created before it, up to the names of the objects it creates
    (`render_history_independent`).
-/
import WpModel.Model.DiskCache
import WpModel.Model.WriteState
import WpModel.Model.RenderState
import WpModel.Props.C19

namespace Wp.C19
open Wp Wp.ImageCache Wp.DiskCache

/-- What a dict would answer: the object in memory if there is one, else the file. -/
def Refines (d : Disk) (c : Cache) : Prop :=
  ∀ k, lookup c k = (match lookup d.memory k with
    | some v => some v
    | none => lookup d.files k)

/-- `_memory_cache` never holds bytes and the folder only bytes (by construction of `__setitem__`). -/
def Sorted (d : Disk) : Prop :=
  (∀ k v, lookup d.memory k = some v → isBytes v = false) ∧ (∀ k v, lookup d.files k = some v → isBytes v = true)

theorem refines_empty : Refines DiskCache.empty [] ∧ Sorted DiskCache.empty := by
  refine ⟨fun k => by simp [DiskCache.empty, lookup], ?_, ?_⟩ <;> intro k v h <;> simp [DiskCache.empty, lookup] at h

/-- One store.  Storing bytes under a key that holds an object in memory is the only way to part from a dict. -/
theorem setItem_refines (d : Disk) (c : Cache) (k : String) (v : Entry) (h : Refines d c)
    (hk : isBytes v = true → lookup d.memory k = none) :
    Refines (setItem d k v) (ImageCache.insert c k v) := by
  intro k'
  rw [lookup_insert]
  unfold setItem
  cases hb : isBytes v with
  | true =>
    simp only [if_true]
    rw [lookup_insert]
    by_cases e : k = k'
    · subst e; simp [hk hb]
    · simp only [e, if_false]; exact h k'
  | false =>
    simp only [Bool.false_eq_true, if_false]
    rw [lookup_insert]
    by_cases e : k = k'
    · subst e; simp
    · simp only [e, if_false]; exact h k'

theorem setItem_sorted (d : Disk) (k : String) (v : Entry) (h : Sorted d) : Sorted (setItem d k v) := by
  unfold setItem
  cases hb : isBytes v with
  | true => exact ⟨h.1, fun k' v' hl => (lookup_insert_cases hl).elim (fun e => e.2 ▸ hb) (h.2 k' v')⟩
  | false => exact ⟨fun k' v' hl => (lookup_insert_cases hl).elim (fun e => e.2 ▸ hb) (h.1 k' v'), h.2⟩

/-- Reads and membership tests answer as the dict does (a missing key is an exception in both). -/
theorem getItem_refines (d : Disk) (c : Cache) (h : Refines d c) (k : String) :
    (getItem d k).toOption = (dictGet c k).toOption ∧ DiskCache.contains d k = (lookup c k).isSome := by
  have hk := h k
  unfold getItem dictGet DiskCache.contains
  cases hm : lookup d.memory k with
  | some v => simp [hm] at hk; simp [hk, Except.toOption]
  | none =>
    simp only [hm] at hk
    cases hf : lookup d.files k with
    | some v => simp [hf] at hk; simp [hk, Except.toOption]
    | none => simp [hf] at hk; simp [hk, Except.toOption]

def storeAll (d : Disk) (l : List (String × Entry)) : Disk := l.foldl (fun d e => setItem d e.1 e.2) d

/-- The two key families of the image cache. -/
def WellKinded (k : String) (v : Entry) : Prop :=
  (isBytes v = true → ∃ id dpi, k = dataKey id dpi) ∧ (isBytes v = false → ∃ u o p, k = keyStr u o p)

def CacheWellKinded (c : Cache) : Prop := ∀ k v, lookup c k = some v → WellKinded k v

/-- **disk_refines_dict**: for every sequence of stores that respects the two key families, a `DiskCache` that
agreed with a dict before still agrees after — reads, membership and all. -/
theorem disk_refines_dict (l : List (String × Entry)) (d : Disk) (c : Cache) (h : Refines d c) (hs : Sorted d)
    (hc : CacheWellKinded c) (hl : ∀ e ∈ l, WellKinded e.1 e.2) :
    Refines (storeAll d l) (insertAll c l) ∧ Sorted (storeAll d l) ∧ CacheWellKinded (insertAll c l) := by
  induction l generalizing d c with
  | nil => exact ⟨h, hs, hc⟩
  | cons e rest ih =>
    obtain ⟨k, v⟩ := e
    have hkv : WellKinded k v := hl (k, v) (by simp)
    have hk : isBytes v = true → lookup d.memory k = none := by
      intro hb
      cases hm : lookup d.memory k with
      | none => rfl
      | some w =>
        exfalso
        have hw : isBytes w = false := hs.1 k w hm
        have hcw : lookup c k = some w := by rw [h k, hm]
        obtain ⟨u, o, p, e1⟩ := (hc k w hcw).2 hw
        obtain ⟨id, dpi, e2⟩ := hkv.1 hb
        exact dataKey_ne_keyStr id dpi u o p (e2.symm.trans e1)
    have hc' : CacheWellKinded (ImageCache.insert c k v) := fun k' v' hl' =>
      (lookup_insert_cases hl').elim (fun e => e.1 ▸ e.2 ▸ hkv) (hc k' v')
    simp only [storeAll, insertAll, List.foldl_cons]
    exact ih (setItem d k v) (ImageCache.insert c k v) (setItem_refines d c k v h hk) (setItem_sorted d k v hs) hc'
      (fun e he => hl e (by simp [he]))

/-- The stores of one `get_image_from_uri` call: at most one bytes entry under a data key, then the image under its
`f'{url} {orientation} {options…}'` key — each in its own key family. -/
theorem getImage_stores (f : Fetcher) (opts : Opts) (c : Cache) (url forced : String) (o : Orientation) :
    ∃ l, (getImage f opts c url forced o).cache = insertAll c l ∧ ∀ e ∈ l, WellKinded e.1 e.2 := by
  have himg : ∀ i : Option Img, WellKinded (keyStr url o opts) (.image i) :=
    fun i => ⟨fun h => (by cases h), fun _ => ⟨url, o, opts, rfl⟩⟩
  cases hl : lookup c (keyStr url o opts) with
  | some e => exact ⟨[], by rw [getImage_hit hl]; rfl, by simp⟩
  | none =>
    obtain ⟨val, w, hm, h⟩ := getImage_miss f opts url forced o
    refine ⟨w, by rw [h c hl], ?_⟩
    cases hm with
    | raised e => exact fun _ he => nomatch he
    | image v => exact List.forall_mem_singleton.mpr (himg v)
    | bytes v p =>
      exact List.forall_mem_cons.mpr
        ⟨⟨fun _ => ⟨_, _, rfl⟩, fun h => (by cases h)⟩, List.forall_mem_singleton.mpr (himg v)⟩

/-- **getImage_on_disk**: when `options['cache']` is a `DiskCache` that agrees with a dict, it still agrees after any
`get_image_from_uri` call, whatever the fetcher, the options and the request: the call's stores respect the key
families, so `disk_refines_dict` applies.  With `C19.cache_transparent` (stated on the dict model): a warm `DiskCache`
returns the cold values too. -/
theorem getImage_on_disk (f : Fetcher) (opts : Opts) (d : Disk) (c : Cache) (h : Refines d c) (hs : Sorted d)
    (hc : CacheWellKinded c) (url forced : String) (o : Orientation) :
    ∃ l, (getImage f opts c url forced o).cache = insertAll c l ∧
      Refines (storeAll d l) (getImage f opts c url forced o).cache ∧ Sorted (storeAll d l) ∧
      CacheWellKinded (getImage f opts c url forced o).cache := by
  obtain ⟨l, h1, h2⟩ := getImage_stores f opts c url forced o
  obtain ⟨r1, r2, r3⟩ := disk_refines_dict l d c h hs hc h2
  exact ⟨l, h1, h1 ▸ r1, r2, h1 ▸ r3⟩

/-- For a whole history of calls on a dict that some sorted `DiskCache` refines: the dict after every call is again
refined by some sorted `DiskCache` (the witness is not tied to the stores of the calls; `getImage_on_disk` is the
statement that follows them, one call at a time). -/
theorem history_on_disk (f : Fetcher) (calls : List Call) (d : Disk) (c : Cache) (h : Refines d c)
    (hs : Sorted d) (hc : CacheWellKinded c) :
    ∀ r ∈ runCalls f c calls, ∃ d', Refines d' r.cache ∧ Sorted d' := by
  induction calls generalizing d c with
  | nil => intro r hr; simp [runCalls] at hr
  | cons call rest ih =>
    obtain ⟨l, _, r1, r2, r3⟩ := getImage_on_disk f call.opts d c h hs hc call.url call.forced call.orientation
    intro r hr
    simp only [runCalls, List.mem_cons] at hr
    rcases hr with hr | hr
    · subst hr; exact ⟨_, r1, r2⟩
    · exact ih _ _ r1 r2 r3 r hr

example : Refines (storeAll DiskCache.empty [(keyStr "u" .none ⟨false, none, none⟩, .image none),
      (dataKey "i" none, .bytes (.orig 1))])
    (insertAll [] [(keyStr "u" .none ⟨false, none, none⟩, .image none), (dataKey "i" none, .bytes (.orig 1))]) :=
  (disk_refines_dict _ _ _ refines_empty.1 refines_empty.2 (by intro k v h; simp [lookup] at h) (by
    intro e he
    simp only [List.mem_cons, List.not_mem_nil, or_false] at he
    rcases he with he | he <;> subst he
    · exact ⟨fun h => (by cases h), fun _ => ⟨"u", .none, ⟨false, none, none⟩, rfl⟩⟩
    · exact ⟨fun _ => ⟨"i", none, rfl⟩, fun h => (by cases h)⟩)).1

/-! ## link annotations left on the boxes -/
section links
open Wp.WriteState Wp.CopyPages

theorem annotOf_setAnnot (st : Annots) (box pdf b : Nat) :
    annotOf (setAnnot st box pdf) b = if box = b then some pdf else annotOf st b :=
  assoc_get_set annotOf setAnnot (fun _ => rfl) (fun _ _ _ _ => rfl) (fun _ _ => rfl) (fun _ _ _ _ _ => rfl) st box b pdf

/-- A link that `add_links` annotates: kept by `resolve_links` and not an attachment. -/
def annotated (names : List String) (l : BoxLink) : Bool := kept names l && decide (l.kind ≠ .attachment)

/-- After `add_links`, a box holds an annotation of the current PDF if one of its links is annotated now, and
otherwise exactly what it held before. -/
theorem annotOf_addLinks (pdf : Nat) (names : List String) (links : List BoxLink) (st : Annots) (b : Nat) :
    annotOf (addLinks pdf names st links) b =
      if ∃ l ∈ links, l.box = b ∧ annotated names l = true then some pdf else annotOf st b := by
  fun_induction addLinks pdf names st links with
  | case1 st => simp
  | case2 st l rest ha ih =>
    have ha : annotated names l = true := ha
    simp only [List.mem_cons, or_and_right, exists_or, exists_eq_left]
    rw [ih, annotOf_setAnnot]
    by_cases hr : ∃ l' ∈ rest, l'.box = b ∧ annotated names l' = true
    · simp only [hr, or_true, if_true]
    · by_cases hb : l.box = b <;> simp only [hr, hb, ha, and_self, or_false, if_true, if_false, false_and]
  | case3 st l rest ha ih =>
    have ha : annotated names l = false := Bool.eq_false_iff.mpr ha
    simp only [List.mem_cons, or_and_right, exists_or, exists_eq_left, ha, Bool.false_eq_true, and_false, false_or]
    exact ih

theorem annotOf_clearAnnot (st : Annots) (box b : Nat) :
    annotOf (clearAnnot st box) b = if box = b then none else annotOf st b := by
  unfold clearAnnot
  induction st with
  | nil => exact (ite_self _).symm
  | cons e rest ih =>
    obtain ⟨b', p'⟩ := e
    by_cases h1 : b' = box
    · rw [List.filter_cons_of_neg (by simpa using h1), ih]
      by_cases h2 : box = b
      · rw [if_pos h2, if_pos h2]
      · rw [if_neg h2, if_neg h2, annotOf, if_neg (h1 ▸ h2)]
    · rw [List.filter_cons_of_pos (by simpa using h1), annotOf, annotOf, ih]
      by_cases h3 : b' = b
      · rw [if_pos h3, if_pos h3, if_neg (fun e => h1 (h3.trans e.symm))]
      · rw [if_neg h3, if_neg h3]

/-- After the reset at the head of `generate_pdf`, a box of the page list holds nothing, any other box what it held. -/
theorem annotOf_resetLinks (links : List BoxLink) (st : Annots) (b : Nat) :
    annotOf (resetLinks st links) b = if ∃ l ∈ links, l.box = b then none else annotOf st b := by
  fun_induction resetLinks st links with
  | case1 st => simp
  | case2 st l rest ih =>
    simp only [List.mem_cons, or_and_right, exists_or, exists_eq_left]
    rw [ih, annotOf_clearAnnot]
    by_cases hr : ∃ l' ∈ rest, l'.box = b
    · simp only [hr, or_true, if_true]
    · by_cases hb : l.box = b <;> simp only [hr, hb, or_false, if_true, if_false]

/-- What a box of the page list holds when the pages are painted: an annotation of the PDF being written if one of
its links is annotated now, nothing otherwise — whatever earlier writes left. -/
theorem annotOf_write (pdf : Nat) (names : List String) (links : List BoxLink) (st : Annots) (l : BoxLink)
    (hl : l ∈ links) :
    annotOf (write pdf names links st).2 l.box =
      if ∃ l' ∈ links, l'.box = l.box ∧ annotated names l' = true then some pdf else none := by
  simp only [write]
  rw [annotOf_addLinks, annotOf_resetLinks]
  have : ∃ l' ∈ links, l'.box = l.box := ⟨l, hl, rfl⟩
  simp only [this, if_true]

/-- The tags of a write in closed form: the boxes of the page list's links that have a link annotated now, each with
the PDF being written — no trace of the annotations the boxes held before. -/
theorem write_tags (pdf : Nat) (names : List String) (links : List BoxLink) (st : Annots) :
    (write pdf names links st).1 = links.filterMap (fun l =>
      if ∃ l' ∈ links, l'.box = l.box ∧ annotated names l' = true then some (l.box, pdf) else none) := by
  show tagged (write pdf names links st).2 links = _
  apply List.filterMap_congr
  intro l hl
  rw [annotOf_write pdf names links st l hl]
  split <;> rfl

/-- **write_tags_current** (known finding `stale-link-annotation`, repaired by 974ea74): every `Link` tag of a write
refers to an annotation of the PDF being written, whatever was written before. -/
theorem write_tags_current (pdf : Nat) (names : List String) (links : List BoxLink) (st : Annots) :
    ∀ t ∈ (write pdf names links st).1, t.2 = pdf := by
  intro t ht
  rw [write_tags, List.mem_filterMap] at ht
  obtain ⟨l, _, h⟩ := ht
  split at h <;> cases h
  rfl

/-- **write_history_independent**: the tags of a write are those of the same write on boxes nothing was ever written
from — the painted `Link` structure of a `write_pdf` does not depend on the earlier `write_pdf` calls (of this
`Document`, of a copy sharing its pages) at all. -/
theorem write_history_independent (pdf : Nat) (names : List String) (links : List BoxLink) (st : Annots) :
    (write pdf names links st).1 = (write pdf names links []).1 := by
  rw [write_tags, write_tags]

/-- The same page list written twice (the same `Document`, `write_pdf` called again) tags the same boxes; the second
time all of them refer to the second PDF (`write_tags_current`). -/
theorem write_twice_same_boxes (p1 p2 : Nat) (names : List String) (links : List BoxLink) (st : Annots) :
    ((write p2 names links (write p1 names links st).2).1).map (·.1) = ((write p1 names links st).1).map (·.1) := by
  rw [write_tags, write_tags, List.map_filterMap, List.map_filterMap]
  apply List.filterMap_congr
  intro l _
  split <;> rfl

/-- The tags of the `i`-th write of a history are those of that write made alone on boxes nothing was written from. -/
theorem runWrites_get (pdf : Nat) (st : Annots) (ws : List (List String × List BoxLink)) (i : Nat) :
    (runWrites pdf st ws)[i]? = ws[i]?.map (fun w => (write (pdf + i) w.1 w.2 []).1) := by
  induction ws generalizing pdf st i with
  | nil => rfl
  | cons w0 rest ih =>
    cases i with
    | zero =>
      simp only [runWrites, List.getElem?_cons_zero, Option.map_some, Nat.add_zero,
        write_history_independent pdf w0.1 w0.2 st]
    | succ j => simp only [runWrites, List.getElem?_cons_succ, ih, Nat.add_right_comm pdf 1 j, Nat.add_assoc]

/-- **writes_history_independent** (document level): in any history of `write_pdf` calls over the same boxes — the
`Document` itself written repeatedly, copies of any selections, in any order — the `Link` tags of the `i`-th write are
those of that write made alone on fresh boxes; in particular they all refer to its own PDF.  (This is the function the
`write-state` correspondence section compares with the real `write_pdf` sequence.) -/
theorem writes_history_independent (pdf : Nat) (st : Annots) (ws : List (List String × List BoxLink)) (i : Nat)
    (w : List String × List BoxLink) (hw : ws[i]? = some w) :
    (runWrites pdf st ws)[i]? = some (write (pdf + i) w.1 w.2 []).1 := by
  rw [runWrites_get, hw]; rfl

theorem writes_tags_current (pdf : Nat) (st : Annots) (ws : List (List String × List BoxLink)) (i : Nat)
    (tags : List (Nat × Nat)) (h : (runWrites pdf st ws)[i]? = some tags) : ∀ t ∈ tags, t.2 = pdf + i := by
  rw [runWrites_get] at h
  obtain ⟨w, -, rfl⟩ := Option.map_eq_some_iff.mp h
  exact write_tags_current _ _ _ _

example : (write 1 ["a"] [⟨1, .internal, "a"⟩, ⟨2, .external, "u"⟩] []).1 = [(1, 1), (2, 1)] := by decide

/-- Non-vacuity: whole document, then the copy of its first page, then the whole document again. -/
example :
    let page1 : List BoxLink := [⟨7, .internal, "b"⟩, ⟨8, .external, "u"⟩]
    runWrites 1 [] [(["b"], page1), ([], page1), (["b"], page1)] =
      [[(7, 1), (8, 1)], [(8, 2)], [(7, 3), (8, 3)]] := by decide

/-- Regression example for the repaired `stale-link-annotation` (the input of
`Witness.C19.no_stale_annotation_regression`): page 1 links to an anchor `b` on page 2.  Writing the whole document
(PDF 1) and then the copy of page 1 alone (PDF 2: `b` is not anchored, `resolve_links` drops the link) tags nothing in
PDF 2 — as when the copy is written first. -/
example :
    let page1 := [(⟨7, .internal, "b"⟩ : BoxLink)]
    let full := write 1 ["b"] page1 []
    full.1 = [(7, 1)] ∧ (write 2 [] page1 full.2).1 = [] ∧ (write 2 [] page1 []).1 = [] := by decide

/-! ### tie between the two models of `add_links` (coordinates in `Model/PdfZoom`, box state in `Model/WriteState`) -/

/-- A link of a page: the identity of its box (`WriteState`) and its rectangle (`PdfZoom`). -/
def asLink (l : BoxLink × Rect) : Link := ⟨l.1.kind, l.1.target, l.2⟩

/-- `resolve_links` keeps the same links in both models. -/
theorem keepLink_eq_kept (names : List String) (l : BoxLink × Rect) : keepLink names (asLink l) = kept names l.1 := rfl

/-- **The annotations written for a page are exactly those of the links whose box `add_links` annotates**, in order:
the `/Annots` of `Model/PdfZoom.annots` after `resolve_links` and the `box.link_annotation` stores of
`Model/WriteState.addLinks` select the same links. -/
theorem annots_eq_annotated (m : PdfZoom.Matrix) (names : List String) (ls : List (BoxLink × Rect)) :
    PdfZoom.annots m ((ls.map asLink).filter (keepLink names)) =
      (ls.filter (fun l => annotated names l.1)).map (fun l => ⟨l.1.kind, l.1.target, PdfZoom.linkRect m l.2⟩) := by
  -- the left side filters `ls` twice, by `keepLink` (`keepLink_eq_kept`) and by the kind: the two conjuncts of `annotated`
  simp only [PdfZoom.annots, List.filter_map, List.filter_filter, List.map_map]
  congr 2
  funext l
  exact Bool.and_comm _ _

/-- **A box is tagged `Link` in a PDF iff that PDF holds a link annotation for one of its links** — whatever was
written before: every `OBJR` that `pdfua` emits refers to an annotation object of the same file. -/
theorem tagged_iff_annotated (pdf : Nat) (names : List String) (links : List BoxLink) (st : Annots) (b : Nat) :
    (b, pdf) ∈ (write pdf names links st).1 ↔ ∃ l ∈ links, l.box = b ∧ annotated names l = true := by
  rw [write_tags, List.mem_filterMap]
  constructor
  · rintro ⟨l, _, h⟩
    split at h <;> cases h
    assumption
  · rintro ⟨l, hl, rfl, ha⟩
    exact ⟨l, hl, by rw [if_pos ⟨l, hl, rfl, ha⟩]⟩

example : PdfZoom.annots (PdfZoom.pageMatrix 1 ⟨10, 10, ⟨0, 0, 0, 0⟩, [], [], []⟩)
      (([(⟨1, .internal, "a"⟩, ⟨0, 0, 1, 1⟩), (⟨2, .internal, "zz"⟩, ⟨0, 0, 1, 1⟩),
         (⟨3, .attachment, "f"⟩, ⟨0, 0, 1, 1⟩)].map asLink).filter (keepLink ["a"])) =
    [⟨.internal, "a", ⟨0, 10, 1, 9⟩⟩] := by decide +kernel

end links

/-! ## raster image data across `get_x_object` calls -/
section raster
open Wp.WriteState

/-- With `dpi_ratio == 1` the image object is not modified and the stored data is what is embedded. -/
theorem ratio_one_pure (r : WriteState.Raster) : (getXObject r none).2 = r ∧ (getXObject r none).1.data = r.data := ⟨rfl, rfl⟩

/-- Any number of ratio-1 uses of a fresh image embed the original data at the original size: without the `dpi`
option writing is repeatable for images. -/
theorem fresh_ratio_one_repeatable (w h : Nat) (n : Nat) :
    getXObjects (fresh w h) (List.replicate n none) = List.replicate n ⟨w, h, ⟨0, w, h⟩⟩ := by
  induction n with
  | zero => rfl
  | succ n ih => simp only [List.replicate_succ, getXObjects, getXObject]; exact congrArg _ ih

/-- Every thumbnail call stores a new generation of data: the number of re-encodings the embedded data went through
is the number of thumbnail calls so far — it depends on the history of the object, not on the call. -/
theorem thumbnail_generation (r : WriteState.Raster) (t : Nat × Nat) :
    (getXObject r (some t)).2.data.generation = r.data.generation + 1 ∧
    (getXObject r (some t)).1.data.generation = r.data.generation + 1 := ⟨rfl, rfl⟩

end raster

/-! ## a render does not depend on how many renders came before -/
section shift
open Wp.RenderState

/-- Renaming of identities: everything created from `n` on is moved up by `k`; the caller's objects (below `n`) stay. -/
def sh (n k id : Nat) : Nat := if n ≤ id then id + k else id

def shEv (n k : Nat) : Ev → Ev
  | .alloc kd id => .alloc kd (sh n k id)
  | .readGlobal g => .readGlobal g
  | .writeObj id => .writeObj (sh n k id)
  | .writeFont id => .writeFont (sh n k id)

def shOut (n k : Nat) (o : RenderOut) : RenderOut :=
  { events := o.events.map (shEv n k), next := o.next + k, fontConfig := sh n k o.fontConfig,
    counterStyle := sh n k o.counterStyle, cache := sh n k o.cache, targetCollector := sh n k o.targetCollector,
    styleFor := sh n k o.styleFor, context := sh n k o.context, userSheets := o.userSheets.map (sh n k),
    document := sh n k o.document }

private theorem sh_ge {n k x : Nat} (h : n ≤ x) : sh n k x = x + k := by simp [sh, h]
private theorem sh_add {n k x : Nat} (h : n ≤ x) (j : Nat) : sh n k (x + j) = x + k + j := by
  rw [sh_ge (Nat.le_add_right_of_le h), Nat.add_right_comm]
private theorem sh_lt {n k x : Nat} (h : x < n) : sh n k x = x := by
  have : ¬ n ≤ x := by omega
  simp [sh, this]

private theorem orNew_shift (n k : Nat) (kd : Kind) (b : Nat) (o : Option Nat) (hb : n ≤ b)
    (ho : ∀ id ∈ o, id < n) :
    orNew kd (b + k) o = ((orNew kd b o).1.map (shEv n k), sh n k (orNew kd b o).2.1, (orNew kd b o).2.2 + k) ∧
    b ≤ (orNew kd b o).2.2 := by
  cases o with
  | some id => simp [orNew, sh_lt (ho id rfl)]
  | none => simp [orNew, shEv, sh_ge hb]; omega

private theorem cacheStep_shift (n k b : Nat) (c : CacheOpt) (hb : n ≤ b)
    (hc : ∀ id, (c = .dict id ∨ c = .diskCache id) → id < n) :
    cacheStep (b + k) c = ((cacheStep b c).1.map (shEv n k), sh n k (cacheStep b c).2.1, (cacheStep b c).2.2 + k) ∧
    b ≤ (cacheStep b c).2.2 := by
  cases c with
  | none => simp [cacheStep, shEv, sh_ge hb]; omega
  | dict id => simp [cacheStep, sh_lt (hc id (Or.inl rfl))]
  | diskCache id => simp [cacheStep, sh_lt (hc id (Or.inr rfl))]
  | folder => simp [cacheStep, shEv, sh_ge hb]; omega

private theorem userSheets_shift (n k : Nat) (ss : List Sheet) (b : Nat) (hb : n ≤ b)
    (hs : ∀ id, Sheet.css id ∈ ss → id < n) :
    userSheets (b + k) ss =
      ((userSheets b ss).1.map (shEv n k), (userSheets b ss).2.1.map (sh n k), (userSheets b ss).2.2 + k) ∧
    b ≤ (userSheets b ss).2.2 := by
  fun_induction userSheets b ss with
  | case1 => simp [userSheets]
  | case2 b id rest r ih =>
    obtain ⟨h1, h2⟩ := ih hb (fun id' h => hs id' (by simp [h]))
    simp only [userSheets, h1, r, List.map_cons, sh_lt (hs id (by simp))]
    exact ⟨trivial, h2⟩
  | case3 b rest r ih =>
    obtain ⟨h1, h2⟩ := ih (by omega) (fun id' h => hs id' (by simp [h]))
    have e : b + k + 1 = b + 1 + k := by omega
    simp only [userSheets, e, h1, r, List.map_cons, shEv, sh_ge hb]
    exact ⟨trivial, by omega⟩

/-- **render_history_independent**: the outcome of a render — its events, and every object its `LayoutContext` and
`Document` hold — is the same whatever the number of objects created before it (i.e. whatever renders preceded it in
the process), up to the renaming of the identities it creates itself; the caller's objects are not renamed. -/
theorem render_history_independent (n k : Nat) (i : RenderIn) (hc : ∀ id ∈ callerObjects i, id < n) :
    render (n + k) i = shOut n k (render n i) := by
  have hf : ∀ id ∈ i.fontConfig, id < n := fun id h =>
    hc id (List.mem_append_left _ (List.mem_append_left _ (List.mem_append_left _ (Option.mem_toList.mpr h))))
  have hcs : ∀ id ∈ i.counterStyle, id < n := fun id h =>
    hc id (List.mem_append_left _ (List.mem_append_left _ (List.mem_append_right _ (Option.mem_toList.mpr h))))
  have hk : ∀ id, (i.cache = .dict id ∨ i.cache = .diskCache id) → id < n := by
    intro id h
    refine hc id (List.mem_append_left _ (List.mem_append_right _ ?_))
    rcases h with h | h <;> rw [h] <;> exact List.mem_singleton.mpr rfl
  have hs : ∀ id, Sheet.css id ∈ i.stylesheets.getD [] → id < n := by
    intro id h; apply hc id
    simp only [callerObjects, List.mem_append, List.mem_filterMap]
    exact Or.inr ⟨.css id, h, rfl⟩
  unfold render shOut
  -- step by step: shift the step, then name its result, so that what follows speaks about a variable
  obtain ⟨f1, f2⟩ := orNew_shift n k .fontConfig (n + 1) i.fontConfig (Nat.le_succ n) hf
  simp only [Nat.add_right_comm n k 1, f1]
  generalize orNew .fontConfig (n + 1) i.fontConfig = f at f2 ⊢
  obtain ⟨c1, c2⟩ := orNew_shift n k .counterStyle f.2.2 i.counterStyle (by omega) hcs
  simp only [c1]
  generalize orNew .counterStyle f.2.2 i.counterStyle = c at c2 ⊢
  obtain ⟨k1, k2⟩ := cacheStep_shift n k (c.2.2 + 2) i.cache (by omega) hk
  simp only [Nat.add_right_comm c.2.2 k 2, k1]
  generalize cacheStep (c.2.2 + 2) i.cache = kc at k2 ⊢
  obtain ⟨u1, u2⟩ := userSheets_shift n k (i.stylesheets.getD []) kc.2.2 (by omega) hs
  simp only [u1]
  generalize userSheets kc.2.2 (i.stylesheets.getD []) = us at u2 ⊢
  have g1 : n ≤ c.2.2 := by omega
  have g2 : n ≤ us.2.2 := by omega
  simp only [List.map_append, List.map_cons, List.map_nil, shEv, apply_ite (List.map (shEv n k)),
    sh_ge (Nat.le_refl n), sh_ge g1, sh_ge g2, sh_add g1, sh_add g2, Nat.add_right_comm us.2.2 6 k]

example : ∀ id ∈ callerObjects ⟨some 1, none, .dict 2, some [.css 3, .raw], true⟩, id < 1000 := by decide

end shift

end Wp.C19
