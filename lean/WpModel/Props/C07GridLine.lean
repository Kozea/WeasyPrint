/-
C07 (part 10) — `grid_line` (grid-row-start / -end, grid-column-start / -end): the components of a multi-token value
may come in any order; what is accepted has the shape of the CSS grammar
`auto | <custom-ident> | [ <integer> && <custom-ident>? ] | [ span && [ <integer [1,∞]> || <custom-ident> ] ]`.
-/
import WpModel.Model.GridLineC07

namespace Wp.C07
open Wp Wp.GridLine07

/-- What a token asks of the loop: to set the `span` flag, the integer or the identifier. -/
private inductive Slot where
  | span
  | number (n : Int)
  | ident (v : String)

/-- The slot a token is for; `none` for what the loop refuses outright (`auto`, the integer zero, anything that is
neither an identifier nor an integer). -/
private def slot : GTok → Option Slot
  | .ident lower value => if lower = "auto" then none else if lower = "span" then some .span else some (.ident value)
  | .int n => if n = 0 then none else some (.number n)
  | .other => none

/-- A slot can be filled once. -/
private def fill (s : St) : Slot → Option St
  | .span => if s.span then none else some { s with span := true }
  | .number n => if s.number.isNone then some { s with number := some n } else none
  | .ident v => if s.ident.isNone then some { s with ident := some v } else none

private theorem step_eq_fill (s : St) (t : GTok) : step s t = (slot t).bind (fill s) := by
  cases t with
  | other => rfl
  | int n => by_cases hn : n = 0 <;> simp [step, slot, fill, hn]
  | ident l v => by_cases ha : l = "auto" <;> by_cases hs : l = "span" <;> simp [step, slot, fill, ha, hs]

/-- Different slots are different fields of the state, and the same slot cannot be filled twice in either order. -/
private theorem fill_comm (s : St) (x y : Slot) : (fill s x).bind (fill · y) = (fill s y).bind (fill · x) := by
  obtain ⟨num, id, sp⟩ := s
  cases x <;> cases y
  case span.span => rfl
  case number.number => cases num <;> rfl
  case ident.ident => cases id <;> rfl
  case span.number | number.span => cases num <;> cases sp <;> rfl
  case span.ident | ident.span => cases id <;> cases sp <;> rfl
  case number.ident | ident.number => cases num <;> cases id <;> rfl

/-- Two turns of the loop commute (failure included): the loop only records *whether* it met a `span`, *which*
integer and *which* identifier — one of each at most. -/
theorem grid_line_step_comm (s : St) (a b : GTok) :
    (step s a).bind (fun s' => step s' b) = (step s b).bind (fun s' => step s' a) := by
  simp only [step_eq_fill]
  cases slot a with
  | none => simp only [Option.bind_none, Option.bind_fun_none]
  | some x =>
    cases slot b with
    | none => simp only [Option.bind_none, Option.bind_fun_none]
    | some y => exact fill_comm s x y

private theorem loop_cons (s : St) (t : GTok) (rest : List GTok) :
    loop s (t :: rest) = (step s t).bind (fun s' => loop s' rest) := by
  simp only [loop]
  cases step s t <;> rfl

/-- The loop does not depend on the order of the tokens. -/
theorem grid_line_loop_perm {l1 l2 : List GTok} (h : l1.Perm l2) : ∀ s, loop s l1 = loop s l2 := by
  induction h with
  | nil => intro s; rfl
  | cons t _ ih => intro s; simp only [loop_cons, ih]
  | swap a b l =>
    intro s
    simp only [loop_cons, ← Option.bind_assoc]
    rw [grid_line_step_comm]
  | trans _ _ ih1 ih2 => intro s; rw [ih1 s, ih2 s]

private theorem gridLine_multi : ∀ (toks : List GTok), 2 ≤ toks.length →
    gridLine toks = (loop {} toks).bind finish
  | [], h | [_], h => by simp at h
  | _ :: _ :: _, _ => by simp [gridLine]

/-- **The components of a grid line may be written in any order** (`span 2 a`, `a 2 span`, `2 span a` …): for
values of two or more tokens `grid_line` gives the same answer — the same line, or the same refusal — on every
permutation of the tokens. -/
theorem grid_line_perm {l1 l2 : List GTok} (h : l1.Perm l2) (hl : 2 ≤ l1.length) :
    gridLine l1 = gridLine l2 := by
  rw [gridLine_multi l1 hl, gridLine_multi l2 (by rw [← h.length_eq]; exact hl), grid_line_loop_perm h]

/-- What the loop has recorded comes from the tokens: a non-zero integer token, an identifier token that is neither
`auto` nor `span`. -/
def Recorded (all : List GTok) (s : St) : Prop :=
  (∀ n, s.number = some n → n ≠ 0 ∧ GTok.int n ∈ all) ∧
  (∀ v, s.ident = some v → ∃ l, GTok.ident l v ∈ all ∧ l ≠ "auto" ∧ l ≠ "span")

/-- The token behind a slot. -/
private theorem slot_some (t : GTok) (x : Slot) (h : slot t = some x) :
    match x with
    | .span => True
    | .number n => t = .int n ∧ n ≠ 0
    | .ident v => ∃ l, t = .ident l v ∧ l ≠ "auto" ∧ l ≠ "span" := by
  cases t with
  | other => cases h
  | int n =>
    simp only [slot] at h
    split at h <;> cases h
    exact ⟨rfl, ‹_›⟩
  | ident l v =>
    simp only [slot] at h
    split at h
    · cases h
    · split at h <;> cases h
      · trivial
      · exact ⟨l, rfl, ‹_›, ‹_›⟩

private theorem step_recorded (all : List GTok) (s s' : St) (t : GTok) (ht : t ∈ all) (hs : Recorded all s)
    (h : step s t = some s') : Recorded all s' := by
  obtain ⟨hn, hi⟩ := hs
  rw [step_eq_fill] at h
  obtain ⟨x, hx, hf⟩ := Option.bind_eq_some_iff.mp h
  have hslot := slot_some t x hx
  cases x with
  | span =>
    simp only [fill] at hf
    split at hf <;> cases hf
    exact ⟨hn, hi⟩
  | number n =>
    simp only [fill] at hf
    split at hf <;> cases hf
    exact ⟨fun m hm => by cases hm; exact ⟨hslot.2, hslot.1 ▸ ht⟩, hi⟩
  | ident v =>
    simp only [fill] at hf
    split at hf <;> cases hf
    obtain ⟨l, rfl, ha, hsp⟩ := hslot
    exact ⟨hn, fun w hw => by cases hw; exact ⟨l, ht, ha, hsp⟩⟩

private theorem loop_recorded (all : List GTok) (rest : List GTok) (s s' : St) (hsub : ∀ t ∈ rest, t ∈ all)
    (hs : Recorded all s) (h : loop s rest = some s') : Recorded all s' := by
  fun_induction loop s rest with
  | case1 s => cases h; exact hs
  | case2 s t rest s1 hst ih =>
    exact ih (fun x hx => hsub x (by simp [hx])) (step_recorded all s s1 t (hsub t (by simp)) hs hst) h
  | case3 => cases h

private theorem finish_line (s : St) (sp : Bool) (num : Option Int) (id : Option String)
    (h : finish s = some (.line sp num id)) :
    sp = s.span ∧ num = s.number ∧ id = s.ident ∧ (num.isSome = true ∨ id.isSome = true) ∧
      (∀ n, num = some n → sp = true → 0 ≤ n) ∧ (sp = false → num.isSome = true) := by
  revert h
  fun_cases finish s <;> intro h <;> cases h
  next hs _ hn _ => exact ⟨hs.symm, hn.symm, rfl, Or.inl rfl, fun n hn _ => by cases hn; omega, nofun⟩
  next hs hn hi => exact ⟨hs.symm, hn.symm, rfl, Or.inr hi, nofun, nofun⟩
  next hs _ hn => exact ⟨by simpa using hs, hn.symm, rfl, Or.inl rfl, nofun, fun _ => rfl⟩

/-- **What `grid_line` accepts has the shape of the grammar**: a line names an integer or an identifier (or both);
the integer is a non-zero integer token of the value, positive after `span`; without `span` a value of several tokens
has an integer; the identifier is the value, as written, of an identifier token that is neither `auto` nor `span`.
(`_partial`: the grammar's `<custom-ident>` also excludes the CSS-wide keywords; the code does not — finding
`css-wide-keyword-as-ident`, witness `Witness.C07.grid_line_css_wide_as_ident`.) -/
theorem grid_line_sound_partial (toks : List GTok) (sp : Bool) (num : Option Int) (id : Option String)
    (h : gridLine toks = some (.line sp num id)) :
    (num.isSome = true ∨ id.isSome = true) ∧
    (∀ n, num = some n → n ≠ 0 ∧ GTok.int n ∈ toks ∧ (sp = true → 0 < n)) ∧
    (∀ v, id = some v → ∃ l, GTok.ident l v ∈ toks ∧ l ≠ "auto" ∧ l ≠ "span") ∧
    (sp = false → toks.length ≠ 1 → num.isSome = true) := by
  revert h
  fun_cases gridLine toks <;> intro h
  any_goals cases h
  next l v ha hs =>
    refine ⟨Or.inr rfl, nofun, fun w hw => ?_, fun _ hl => absurd rfl hl⟩
    cases hw
    exact ⟨l, by simp, by simpa using ha, by simpa using hs⟩
  next n hn0 =>
    refine ⟨Or.inl rfl, fun m hm => ?_, nofun, fun _ hl => absurd rfl hl⟩
    cases hm
    exact ⟨by simpa using hn0, by simp, nofun⟩
  next =>
    obtain ⟨s, hl, h⟩ := Option.bind_eq_some_iff.mp h
    obtain ⟨hn, hi⟩ : Recorded toks s :=
      loop_recorded toks toks {} s (fun _ ht => ht) ⟨(fun n hn => by cases hn), (fun v hv => by cases hv)⟩ hl
    obtain ⟨rfl, rfl, rfl, hsome, hpos, hnum⟩ := finish_line s sp num id h
    refine ⟨hsome, fun n hnum' => ?_, hi, fun hsp _ => hnum hsp⟩
    obtain ⟨h0, hmem⟩ := hn n hnum'
    exact ⟨h0, hmem, fun hsp => by have := hpos n hnum' hsp; omega⟩

/-- Completeness for the `span` form: `span`, a positive integer and an identifier, in this or (by `grid_line_perm`)
any order, is that line. -/
theorem grid_line_span_accepted (n : Int) (hn : 0 < n) (l v : String) (ha : l ≠ "auto") (hs : l ≠ "span") :
    gridLine [.ident "span" "span", .int n, .ident l v] = some (.line true (some n) (some v)) := by
  have hn0 : n ≠ 0 := by omega
  have hneg : ¬ n < 0 := by omega
  simp [gridLine, loop, step, finish, hn0, hneg, ha, hs]

/-- Non-vacuity: `span 2 a` = `a span 2` = `2 a span`; `auto`; `a`; `span` alone, `0`, `span -1`, `2 3`, `a b`,
`auto 2` refused. -/
example :
    gridLine [.ident "span" "span", .int 2, .ident "a" "a"] = some (.line true (some 2) (some "a")) ∧
    gridLine [.ident "a" "a", .ident "span" "SPAN", .int 2] = some (.line true (some 2) (some "a")) ∧
    gridLine [.int 2, .ident "a" "A", .ident "span" "span"] = some (.line true (some 2) (some "A")) ∧
    gridLine [.ident "auto" "auto"] = some .auto ∧
    gridLine [.ident "a" "a"] = some (.line false none (some "a")) ∧
    gridLine [.int (-1), .ident "a" "a"] = some (.line false (some (-1)) (some "a")) ∧
    gridLine [.ident "span" "span"] = none ∧ gridLine [.int 0] = none ∧
    gridLine [.ident "span" "span", .int (-1)] = none ∧ gridLine [.int 2, .int 3] = none ∧
    gridLine [.ident "a" "a", .ident "b" "b"] = none ∧ gridLine [.ident "auto" "auto", .int 2] = none ∧
    gridLine [] = none := by decide +kernel

end Wp.C07
