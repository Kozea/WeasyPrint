/-
C06 — relative units `ex` / `ch`: the per-document cache of `character_ratio` is transparent.
Whatever lengths were computed before in the same document, `character_ratio(style, c)` is the
ratio of the style's own font for the character `c` (`ex` against the x-height, `ch` against the
advance of `0`): "relative values compute against the correct reference".
Then `ex` / `ch` in `length` and on the element, the items of `border-image-width`, and the two ASCII
case-insensitive readings: the `media` attribute of `<style>` / `<link>` and the CSS-wide keywords.
-/
import WpModel.Model.RatioCache
import WpModel.Model.CssWide
import WpModel.Props.C06

namespace Wp.C06
open Wp Wp.RatioCache Wp.Cascade Wp.Computed Wp.Style Wp.StyleDoc Wp.Gen.Units

/-- What `_font_style_cache_key` promises: two styles with the same key have the same font, so
Pango measures the same ratios for them. -/
def KeyDetermines (m : Measure) (reqs : List Req) : Prop :=
  ∀ r ∈ reqs, ∀ r' ∈ reqs, r.key = r'.key → ∀ b, m r.style b = m r'.style b

/-- Invariant of the shared cache: an entry of a table is the measurement, for that table's
character, of every style of the document with that key. -/
def CacheOk (m : Measure) (reqs : List Req) (c : Cache) : Prop :=
  (∀ k v, find k c.ex = some v → ∀ r ∈ reqs, r.key = k → m r.style true = v) ∧
  (∀ k v, find k c.ch = some v → ∀ r ∈ reqs, r.key = k → m r.style false = v)

private theorem find_cons {k a : String} {b : Rat} {t : List (String × Rat)} {v : Rat}
    (h : find k ((a, b) :: t) = some v) : (a = k ∧ b = v) ∨ (a ≠ k ∧ find k t = some v) := by
  simp only [find] at h
  by_cases hak : (a == k) = true
  · simp only [hak, if_true, Option.some.injEq] at h
    exact Or.inl ⟨by simpa using hak, h⟩
  · simp only [hak, Bool.false_eq_true, if_false] at h
    exact Or.inr ⟨by simpa using hak, h⟩

private theorem table_insert {m : Measure} {all : List Req} (hk : KeyDetermines m all) {b : Bool}
    {t : List (String × Rat)}
    (ht : ∀ k v, find k t = some v → ∀ r ∈ all, r.key = k → m r.style b = v) {r : Req} (hr : r ∈ all) :
    ∀ k v, find k ((r.key, m r.style b) :: t) = some v → ∀ r' ∈ all, r'.key = k → m r'.style b = v := by
  intro k v hfind r' hr' hkey
  rcases find_cons hfind with ⟨h1, h2⟩ | ⟨_, h2⟩
  · rw [← h2]
    exact hk r' hr' r hr (by rw [hkey, h1]) b
  · exact ht k v h2 r' hr' hkey

private theorem step_spec {m : Measure} {all : List Req} (hk : KeyDetermines m all) {c : Cache}
    (hc : CacheOk m all c) {r : Req} (hr : r ∈ all) :
    (characterRatio m c r).1 = fresh m r ∧ CacheOk m all (characterRatio m c r).2 := by
  unfold characterRatio fresh
  by_cases hbad : (r.character != "x" && r.character != "0") = true
  · simp only [hbad, if_true]
    exact ⟨trivial, hc⟩
  · simp only [hbad, Bool.false_eq_true, if_false]
    by_cases hx : (r.character == "x") = true
    · simp only [hx, if_true]
      cases hf : find r.key c.ex with
      | some v =>
        simp only
        exact ⟨by rw [hc.1 r.key v hf r hr rfl], hc⟩
      | none =>
        simp only
        exact ⟨trivial, table_insert hk hc.1 hr, hc.2⟩
    · simp only [hx, Bool.false_eq_true, if_false]
      cases hf : find r.key c.ch with
      | some v =>
        simp only
        exact ⟨by rw [hc.2 r.key v hf r hr rfl], hc⟩
      | none =>
        simp only
        exact ⟨trivial, hc.1, table_insert hk hc.2 hr⟩

private theorem runSeq_spec (m : Measure) (all : List Req) (hk : KeyDetermines m all) (rs : List Req) (c : Cache)
    (hsub : ∀ r ∈ rs, r ∈ all) (hc : CacheOk m all c) : runSeq m c rs = rs.map (fresh m) := by
  fun_induction runSeq m c rs with
  | case1 => rfl
  | case2 c r rest out ih =>
    have hstep := step_spec hk hc (hsub r List.mem_cons_self)
    rw [List.map_cons, hstep.1, ih (fun x hx => hsub x (List.mem_cons_of_mem _ hx)) hstep.2]

/-- **The cache is transparent.**  For every sequence of `character_ratio` calls made on the styles
of one document (any order, any interleaving of `ex` and `ch`, any number of styles and fonts),
starting from the empty cache of a new document, every call returns the ratio of its own style for
its own character — provided the cache key determines the font (`KeyDetermines`). -/
theorem ratio_cache_transparent (m : Measure) (reqs : List Req) (hk : KeyDetermines m reqs) :
    runSeq m {} reqs = reqs.map (fresh m) :=
  runSeq_spec m reqs hk reqs {} (fun _ h => h)
    ⟨fun _ _ h => (nomatch h), fun _ _ h => nomatch h⟩

/-- … and from any cache left by earlier calls of the same document. -/
theorem ratio_cache_transparent_from (m : Measure) (before after : List Req)
    (hk : KeyDetermines m (before ++ after)) :
    (runSeq m {} (before ++ after)).drop before.length = after.map (fresh m) := by
  rw [ratio_cache_transparent m (before ++ after) hk]
  simp

/-- Consequence for the two units: after any history, `1ex` and `1ch` of the same style are its
x-height ratio and its `0`-advance ratio — never each other's. -/
theorem ex_and_ch_keep_their_references (m : Measure) (history : List Req) (s : Nat) (key : String)
    (hk : KeyDetermines m (history ++ [⟨s, key, "0"⟩, ⟨s, key, "x"⟩])) :
    (runSeq m {} (history ++ [⟨s, key, "0"⟩, ⟨s, key, "x"⟩])).drop history.length
      = [.ok (m s false), .ok (m s true)] := by
  rw [ratio_cache_transparent_from m history _ hk]
  rfl

/-- Non-vacuity, and why the character must be part of the key: with DejaVu Sans' ratios
(x-height 0.54688, advance of `0` 0.63623) the real two-table cache answers `ch` then `ex` of one
style correctly, while a single table keyed by the font properties alone hands the `0`-advance
ratio to the `ex` request. -/
def dejaVu : Measure := fun _ isEx => if isEx then 54688 / 100000 else 63623 / 100000

example : KeyDetermines dejaVu [⟨0, "sans", "0"⟩, ⟨1, "sans", "x"⟩] := by
  intro r _ r' _ _ b; rfl

theorem merged_cache_not_transparent :
    (runSeq dejaVu {} [⟨0, "sans", "0"⟩, ⟨1, "sans", "x"⟩]).map Except.toOption
      = [some (63623 / 100000), some (54688 / 100000)] ∧
    (runSeqMerged dejaVu [] [⟨0, "sans", "0"⟩, ⟨1, "sans", "x"⟩]).map Except.toOption
      = [some (63623 / 100000), some (63623 / 100000)] := by
  decide +kernel

/-- A character other than `x` / `0` fails the assertion and leaves the cache as it is. -/
theorem ratio_bad_character (m : Measure) (c : Cache) (s : Nat) (key ch : String)
    (h1 : ch ≠ "x") (h2 : ch ≠ "0") :
    ∃ site, characterRatio m c ⟨s, key, ch⟩ = (.error (.assertion site), c) := by
  unfold characterRatio
  simp [h1, h2]

/-- On `font-size` itself `ex` and `ch` compute against the *parent's* font size (the `font_size`
argument), with the ratios of the element's own font. -/
theorem length_ex_ch_given (env : Env) (q : Rat) (hq : q ≠ 0) (f : Rat) (po : Bool) :
    length env (.dim q "ex") (some f) po = .ok (px po (q * f * env.exRatio)) ∧
    length env (.dim q "ch") (some f) po = .ok (px po (q * f * env.chRatio)) :=
  ⟨length_ex env q hq (some f) po, length_ch env q hq (some f) po⟩

/-- The two ratios of an element are the ones of its own style (`Elem.ratios`, what
`character_ratio` measures for its font), not those of any other element of the chain. -/
theorem env_ratios_are_own (e : Elem) (parent : ParentGet) (root : Unit → Except CErr Rat)
    (ex ch rx rc : Rat) (hr : e.ratios = some (rx, rc)) :
    (fullEnv e parent root ex ch).exRatio = rx ∧ (fullEnv e parent root ex ch).chRatio = rc := by
  simp [fullEnv, fontEnv, hr]

/-- `width: q ex` on an element: `q × own font size × own x-height ratio` px — and the same with
`ch`.  With `ratio_cache_transparent` (the ratio `length` receives from the per-document cache is
the style's own, whatever was computed before) this is the document-level statement for the two
font-relative units. -/
theorem width_ex_ch_use_own_font (e : Elem) (parent : ParentGet) (root : Unit → Except CErr Rat)
    (ex ch rx rc : Rat) (q : Rat) (hq : q ≠ 0) (hr : e.ratios = some (rx, rc)) :
    (lookup "width" e.cascaded = some (.val (.dim q "ex")) →
      computedKey e parent root ex ch "width" =
        (ownFontSize e parent root ex ch ()).map (fun f => .dim (q * f * rx) "px")) ∧
    (lookup "width" e.cascaded = some (.val (.dim q "ch")) →
      computedKey e parent root ex ch "width" =
        (ownFontSize e parent root ex ch ()).map (fun f => .dim (q * f * rc) "px")) := by
  have hrat := env_ratios_are_own e parent root ex ch rx rc hr
  constructor
  · intro hc
    rw [computedKey_width e parent root ex ch _ hc rfl rfl, ← hrat.1]
    exact length_ex _ q hq none false
  · intro hc
    rw [computedKey_width e parent root ex ch _ hc rfl rfl, ← hrat.2]
    exact length_ch _ q hq none false

-- non-vacuity: 2ex / 2ch at 10px with DejaVu Sans' ratios
example :
    let e : Elem := ⟨[("font_size", .val (.dim 10 "px")), ("width", .val (.dim 2 "ex")),
                      ("text_indent", .val (.dim 2 "ch"))], none, [], some (54688 / 100000, 63623 / 100000)⟩
    (styleAt (1 / 2) (1 / 2) [e] "width").toOption = some (.dim (2 * 10 * (54688 / 100000)) "px") ∧
    (styleAt (1 / 2) (1 / 2) [e] "text_indent").toOption = some (.dim (2 * 10 * (63623 / 100000)) "px") := by
  decide +kernel

/-! ## `border-image-width` / `mask-border-width` (repaired finding border-image-width-not-computed) -/

/-- Every `<length>` item of `border-image-width` goes through `length` — full strength, for every
unit and every position (before commit 26138d1 it was returned as specified:
`Witness.C06.border_image_width_computed` is the regression on the finding's input); numbers and
`auto` are kept. -/
theorem border_image_width_items (env : Env) (q : Rat) (u : String) (rest : List Val) :
    widthItems env (.dim q u :: rest) = (do
      let h ← if u == "none" then pure (Val.num q) else length env (.dim q u)
      let t ← widthItems env rest
      pure (h :: t)) ∧
    widthItems env (.kw "auto" :: rest) = (widthItems env rest).map (Val.kw "auto" :: ·) := by
  constructor
  · simp only [widthItems, Val.isKw, numberUnit]
    cases u == "none" <;> simp [bind, Except.bind, pure, Except.pure]
  · simp only [widthItems, Val.isKw]
    simp [bind, Except.bind, pure, Except.pure, Except.map]

/-- A font-relative item: `q em` ↦ `q × font-size` px, on the four sides when it is the only item. -/
theorem border_image_width_em (env : Env) (q : Rat) (hq : q ≠ 0) (f : Rat) (hf : env.fontSize () = .ok f) :
    borderImageWidth env (.tup [.dim q "em"]) =
      .ok (.tup [.dim (q * f) "px", .dim (q * f) "px", .dim (q * f) "px", .dim (q * f) "px"]) := by
  have hl := length_em env q hq none false
  simp only [refSize, hf] at hl
  have hne : ("em" == "none") = false := by decide
  have hitems : widthItems env [.dim q "em"] = .ok [.dim (q * f) "px"] := by
    rw [(border_image_width_items env q "em" []).1]
    simp [hl, hne, widthItems, Except.map, px, bind, Except.bind, pure, Except.pure]
  unfold borderImageWidth
  simp only [elems, bind, Except.bind, hitems, pure, Except.pure]
  rfl

/-! ## the `media` attribute of `<style>` / `<link>` (repaired finding media-attr-case-sensitive) -/

/-- An absent, empty or blank attribute means `all`. -/
theorem attr_media_default : attrMedia "" = ["all"] ∧ attrMedia "  " = ["all"] ∧ attrMedia "\t\n" = ["all"] := by
  decide +kernel

private theorem toLower_toNat (c : Char) :
    c.toLower.toNat = if 65 ≤ c.toNat ∧ c.toNat ≤ 90 then c.toNat + 32 else c.toNat := by
  unfold Char.toLower
  have ha : 'A'.val.toNat = 65 := by decide
  have hz : 'Z'.val.toNat = 90 := by decide
  have hd : ('a'.val - 'A'.val).toNat = 32 := by decide
  split
  · rename_i h
    simp only [ge_iff_le, UInt32.le_iff_toNat_le, ha, hz] at h
    have h' : 65 ≤ c.toNat ∧ c.toNat ≤ 90 := h
    simp only [h', and_self, if_true]
    show (c.val + ('a'.val - 'A'.val)).toNat = c.val.toNat + 32
    rw [UInt32.toNat_add, hd]
    have : c.val.toNat = c.toNat := rfl
    omega
  · rename_i h
    simp only [ge_iff_le, UInt32.le_iff_toNat_le, ha, hz] at h
    have h' : ¬ (65 ≤ c.toNat ∧ c.toNat ≤ 90) := h
    simp only [h', if_false]

private theorem toLower_idem (c : Char) : c.toLower.toLower = c.toLower := by
  apply Char.toNat_inj.mp
  rw [toLower_toNat, toLower_toNat]
  split <;> (try split) <;> omega

/-- Every media type the model derives from the attribute is lower case: comparing it with the
(lower-case) device media type is an ASCII case-insensitive comparison of what the author wrote. -/
theorem attr_media_is_lower (text : String) :
    ∀ m ∈ attrMedia text, String.ofList (m.toList.map Char.toLower) = m := by
  intro m hm
  unfold attrMedia at hm
  simp only [List.mem_map] at hm
  obtain ⟨part, _, rfl⟩ := hm
  simp [pyLower, List.map_map, Function.comp_def, toLower_idem]

private theorem toUpper_toNat (c : Char) :
    c.toUpper.toNat = if 97 ≤ c.toNat ∧ c.toNat ≤ 122 then c.toNat - 32 else c.toNat := by
  unfold Char.toUpper
  have ha : 'a'.val.toNat = 97 := by decide
  have hz : 'z'.val.toNat = 122 := by decide
  have hd : ('A'.val - 'a'.val).toNat = 2 ^ 32 - 32 := by decide
  split
  · rename_i h
    simp only [UInt32.le_iff_toNat_le, ha, hz] at h
    have h' : 97 ≤ c.toNat ∧ c.toNat ≤ 122 := h
    simp only [h', and_self, if_true]
    show (c.val + ('A'.val - 'a'.val)).toNat = c.val.toNat - 32
    rw [UInt32.toNat_add, hd]
    have : c.val.toNat = c.toNat := rfl
    omega
  · rename_i h
    simp only [UInt32.le_iff_toNat_le, ha, hz] at h
    have h' : ¬ (97 ≤ c.toNat ∧ c.toNat ≤ 122) := h
    simp only [h', if_false]

private def isSpaceNat (n : Nat) : Bool :=
  n == 32 || n == 9 || n == 10 || n == 13 || n == 11 || n == 12 || (28 ≤ n && n ≤ 31)

private theorem beq_char_nat (c d : Char) : (c == d) = (c.toNat == d.toNat) := by
  apply Bool.eq_iff_iff.mpr
  simp [Char.toNat_inj]

private theorem pyIsSpace_nat (c : Char) : pyIsSpace c = isSpaceNat c.toNat := by
  unfold pyIsSpace isSpaceNat
  rw [beq_char_nat c ' ', beq_char_nat c '\t', beq_char_nat c '\n', beq_char_nat c '\r']
  have h1 : ' '.toNat = 32 := by decide
  have h2 : '\t'.toNat = 9 := by decide
  have h3 : '\n'.toNat = 10 := by decide
  have h4 : '\r'.toNat = 13 := by decide
  rw [h1, h2, h3, h4]

private theorem isSpace_toUpper (c : Char) : pyIsSpace c.toUpper = pyIsSpace c := by
  rw [pyIsSpace_nat, pyIsSpace_nat, toUpper_toNat]
  split
  · rename_i h
    have a : isSpaceNat (c.toNat - 32) = false := by
      unfold isSpaceNat; simp; omega
    have b : isSpaceNat c.toNat = false := by
      unfold isSpaceNat; simp; omega
    rw [a, b]
  · rfl

private theorem comma_toUpper (c : Char) : (c.toUpper == ',') = (c == ',') := by
  rw [beq_char_nat, beq_char_nat c, toUpper_toNat]
  have h : ','.toNat = 44 := by decide
  rw [h]
  split
  · rename_i hr
    have a : (c.toNat - 32 == 44) = false := by simp; omega
    have b : (c.toNat == 44) = false := by simp; omega
    rw [a, b]
  · rfl

private theorem toLower_toUpper (c : Char) : c.toUpper.toLower = c.toLower := by
  apply Char.toNat_inj.mp
  rw [toLower_toNat, toLower_toNat, toUpper_toNat]
  split <;> (try split) <;> (try split) <;> omega


/-- ASCII upper-casing of a text (`str.upper()` on ASCII). -/
def up (l : List Char) : List Char := l.map Char.toUpper

private theorem dropWhile_up (l : List Char) : (up l).dropWhile pyIsSpace = up (l.dropWhile pyIsSpace) := by
  rw [up, List.dropWhile_map, show pyIsSpace ∘ Char.toUpper = pyIsSpace from funext isSpace_toUpper]; rfl

private theorem strip_up (l : List Char) : pyStrip (up l) = up (pyStrip l) := by
  unfold pyStrip
  rw [dropWhile_up]
  simp only [up, ← List.map_reverse]
  rw [show List.map Char.toUpper (List.dropWhile pyIsSpace l).reverse = up (List.dropWhile pyIsSpace l).reverse from rfl,
    dropWhile_up]
  simp only [up, List.map_reverse]

private theorem split_up (l : List Char) : pySplitOn ',' (up l) = (pySplitOn ',' l).map up := by
  induction l with
  | nil => rfl
  | cons c rest ih =>
    simp only [up, List.map_cons, pySplitOn, comma_toUpper]
    split
    · simp only [List.map_cons]; rw [← ih]; rfl
    · rw [show List.map Char.toUpper rest = up rest from rfl, ih]
      cases h : pySplitOn ',' rest with
      | nil => rfl
      | cons p ps => rfl

private theorem lower_up (l : List Char) : pyLower (up l) = pyLower l := by
  simp [pyLower, up, List.map_map, Function.comp_def, toLower_toUpper]

/-- **The media attribute is ASCII case-insensitive — for every attribute text.**  Upper-casing
the whole text (any mix of cases therefore) does not change the media list `find_stylesheets`
derives from it: stripping, the `or 'all'` default, the split on commas and the per-item strip
commute with the case change, and `.lower()` (commit b7ca8f6) erases it.  Before that commit the
statement was false (`media="PRINT"`, finding media-attr-case-sensitive). -/
theorem attr_media_case_insensitive (text : String) :
    attrMedia (String.ofList (up text.toList)) = attrMedia text := by
  unfold attrMedia
  simp only [String.toList_ofList, strip_up]
  by_cases he : (pyStrip text.toList).isEmpty = true
  · have : (up (pyStrip text.toList)).isEmpty = true := by
      simpa [up] using he
    simp only [he, this, if_true]
  · have : (up (pyStrip text.toList)).isEmpty = false := by
      simpa [up] using he
    have he' : (pyStrip text.toList).isEmpty = false := by simpa using he
    simp only [he', this, Bool.false_eq_true, if_false, split_up, List.map_map]
    apply List.map_congr_left
    intro part _
    simp only [Function.comp, strip_up, lower_up]

/-- Two attribute texts that differ only in ASCII case select the same sheets, for every device. -/
theorem media_attr_same_up_to_case (a b : String) (h : up a.toList = up b.toList) (device : String) :
    evaluateMediaQuery (attrMedia a) device = evaluateMediaQuery (attrMedia b) device := by
  rw [← attr_media_case_insensitive a, ← attr_media_case_insensitive b, h]

example : up "Screen, Print".toList = up "SCREEN, print".toList := by decide +kernel

/-- **`INHERIT`, `Inherit`, `inherit` are the same declaration — for every ident text.**
Upper-casing the text (any mix of cases therefore) does not change whether it is recognised as a
CSS-wide keyword, nor which one. -/
theorem css_wide_case_insensitive (text : String) :
    CssWide.cssWide (String.ofList (up text.toList)) = CssWide.cssWide text := by
  unfold CssWide.cssWide
  simp only [String.toList_ofList, lower_up]

/-- … so a shorthand or longhand declaration whose whole value is that ident expands to the same
longhand / keyword pairs whatever its case. -/
theorem css_wide_expansion_case_insensitive (longhands : List String) (text : String) :
    CssWide.expansion longhands (String.ofList (up text.toList)) = CssWide.expansion longhands text := by
  unfold CssWide.expansion
  rw [css_wide_case_insensitive]

/-- Examples: `INHERIT`, `Initial` are recognised as their lower-case forms; `inherits` and `unset` are not keywords. -/
theorem css_wide_examples :
    CssWide.cssWide "INHERIT" = some "inherit" ∧ CssWide.cssWide "Initial" = some "initial" ∧
    CssWide.cssWide "inherit" = some "inherit" ∧ CssWide.cssWide "inherits" = none ∧
    CssWide.cssWide "unset" = none ∧
    CssWide.expansion ["border_top_width", "border_top_color", "border_top_style"] "InHeRiT" =
      some [("border_top_width", "inherit"), ("border_top_color", "inherit"), ("border_top_style", "inherit")] := by
  decide +kernel

/-- `media="PRINT"`, `media=" Screen , Print "` select the print device like their lower-case
spellings (the inputs of the repaired finding), and a list without the device does not. -/
theorem attr_media_case_insensitive_examples :
    attrMedia "PRINT" = attrMedia "print" ∧ attrMedia " Screen , Print " = ["screen", "print"] ∧
    evaluateMediaQuery (attrMedia "PRINT") "print" = true ∧
    evaluateMediaQuery (attrMedia "Screen,TV") "print" = false ∧
    evaluateMediaQuery (attrMedia "tv, ALL") "print" = true := by
  decide +kernel

end Wp.C06
