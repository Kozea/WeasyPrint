/-
C03 — content stays on its page and every page makes progress (PM model, DESIGN.md §4 C03).

Progress is proved first for every well-formed document: `C03Pm2.layout_progress_all`, `C03Pm2.page_progress_all`
stand at the head of this file (the rest of `C03Pm2` is `Props/C03Pm2.lean`, which imports this one), and
`C03.layout_progress`, `C03.page_progress` are their cases without fixed heights.
-/
import WpModel.Model.Paginate
import WpModel.Lemmas.SegmentPages
import WpModel.Lemmas.ParaGeo
import WpModel.Lemmas.Pm2Step
import WpModel.Lemmas.LossyPages

namespace Wp.C03Pm2
open Wp Wp.PM

/-- **Strict progress of `block_level_layout`, every box**: a returned resume position is strictly later than
the skip position (forgetting under a fixed height returns *no* resume position, so it cannot stall). -/
theorem layout_progress_all (box : PBox) (hW : WellFormed box) (c : Ctx) (idx : Nat)
    (y bs : Rat) (skip : Option Resume) (cb pie : Bool) (adjL : List Rat) (f : Frag) (r : Resume)
    (hf : (layoutBox c box idx y bs skip cb pie adjL).frag = some f)
    (hr : (layoutBox c box idx y bs skip cb pie adjL).resume = some r) :
    pos box skip < pos box (some r) :=
  (boxPostT_sand _ _ _ _ _ (box_specT box hW c idx y bs skip cb pie adjL false) hf).2 r hr

/-- **Strict progress of pages, every document.** -/
theorem page_progress_all (d : Doc) (hW : WellFormed d.root) (index : Nat)
    (resume : Option Resume) (np : NextPage) (right : Bool) (p : Page)
    (hp : remakePage d index resume np right = some p) (hnb : p.type.blank = false) :
    p.resume = none ∨ pos d.root resume < pos d.root p.resume := by
  obtain ⟨_, h2⟩ := remakePage_linesT d hW index resume np right p hp
  cases hr : p.resume with
  | none => left; rfl
  | some r => right; exact (h2 hnb).2 r hr

end Wp.C03Pm2

namespace Wp.C03
open Wp Wp.PM

/-! ### the overflow test -/

theorem overflows_mono_y (b y y' : Rat) (h : y ≤ y') (ho : overflows b y = true) : overflows b y' = true :=
  PM.overflows_mono b y y' h ho

theorem overflowsPage_mono_space (c : Ctx) (bs bs' y : Rat) (h : bs ≤ bs')
    (ho : c.overflowsPage bs y = true) : c.overflowsPage bs' y = true :=
  overflowsPage_of_space_le c bs bs' y h ho

/-! ### the first content of an empty page is always accepted -/

private theorem linebox_no_abort (c : Ctx) (st : PStyle) (b : BoxSt) (n : Nat) (lineH : Rat)
    (adj : List Rat) (bs posY : Rat) (skip : Option Resume) (dbd : Bool) :
    (lineboxLayout c st b n lineH true adj bs posY skip dbd).abort = false := by
  unfold lineboxLayout
  split
  · rfl
  · rename_i a st' r s heq
    unfold lineboxLoop at heq
    exact lineLoopG_no_abort _ _ st b n lineH (lineLoop_eq_G .. ▸ heq)

@[simp] private theorem setCur_newChildren (s : KidsLoop) (l : List Rat) (b : Bool) :
    (s.setCur l b).newChildren = s.newChildren :=
  setCur_newChildren' s l b

@[simp] private theorem appendCur_newChildren (s : KidsLoop) (m : Rat) :
    (s.appendCur m).newChildren = s.newChildren :=
  appendCur_newChildren' s m

@[simp] private theorem adoptAdj_newChildren (s : KidsLoop) (h : Bool) (a : AdjOut) (f : Option Frag) :
    (s.adoptAdj h a f).newChildren = s.newChildren :=
  adoptAdj_newChildren' s h a f

mutual
private theorem box_some : (box : PBox) → ∀ (c : Ctx) (idx : Nat) (y bs : Rat) (skip : Option Resume)
    (cb : Bool) (adjL : List Rat), (layoutBox c box idx y bs skip cb true adjL).frag.isSome = true
  | .para id n lineH st => by
    intro c idx y bs skip cb adjL
    unfold layoutBox
    exact finishPara_some _ _ _ _ _ _ _ (linebox_no_abort ..)
  | .block id st kids => by
    intro c idx y bs skip cb adjL
    unfold layoutBox
    exact finishBlock_some _ _ _ _ _ _ (fun page s => kids_not_aborted kids _ _ _ _ _ _ page s)
private theorem kids_not_aborted : (kids : List PBox) → ∀ (c : Ctx) (st : PStyle) (index skipIdx : Nat)
    (bs : Rat) (s : KidsLoop) (page : String) (s' : KidsLoop),
    layoutKids c st kids index skipIdx bs true s ≠ .aborted page s'
  | [] => by
    intro c st index skipIdx bs s page s'
    simp [layoutKids]
  | child :: rest => by
    intro c st index skipIdx bs s page s'
    by_cases hc : index < skipIdx
    · rw [layoutKids_skip hc]
      exact kids_not_aborted rest _ _ _ _ _ _ _ _
    · rw [layoutKids_cons hc]
      split
      · simp
      · split
        · rename_i out s3 heq
          intro hcontra
          subst hcontra
          refine conclude_not_aborted _ _ _ _ _ _ ?_ _ _ _ heq
          obtain ⟨_, _, _, _, hnc, _⟩ := kidResult_spec c st child index bs true s
          rw [hnc]
          cases hne : s.newChildren.isEmpty with
          | false => exact .inr rfl
          | true =>
            -- first content of the page: the child is laid out with page_is_empty and is kept
            left
            unfold kidResult
            simp only [hne, Bool.true_and]
            obtain ⟨f, y', hk, _⟩ := firstPass_keeps c bs s.posY _
              (box_some child c index s.posY bs s.skip st.isRoot s.cur)
            rw [hk]
            rfl
        · exact kids_not_aborted rest _ _ _ _ _ _ _ _
end

/-- **The root assertion of `make_page` is unreachable / first content is always accepted**:
laid out with `page_is_empty`, a box always yields a fragment (it is never pushed to a later page).
This is what makes every non-blank page show something. -/
theorem first_content_accepted (box : PBox) (c : Ctx) (idx : Nat) (y bs : Rat) (skip : Option Resume)
    (cb : Bool) (adjL : List Rat) : (layoutBox c box idx y bs skip cb true adjL).frag.isSome = true :=
  box_some box c idx y bs skip cb adjL

/-- `remake_page` never fails its `assert root_box`, for any document, page and resume position. -/
theorem remakePage_total (d : Doc) (index : Nat) (resume : Option Resume) (np : NextPage) (right : Bool) :
    (remakePage d index resume np right).isSome = true := by
  unfold remakePage
  dsimp only
  have key : ∀ (c : Ctx) (b : PBox), (layoutBox c b 0 0 0 resume false true []).frag ≠ none := by
    intro c b h
    have := first_content_accepted b c 0 0 0 resume false []
    rw [h] at this
    simp at this
  split
  · rename_i h; exact absurd h (key _ _)
  · rfl

/-! ### every page makes progress

`pos box σ` = units of the box consumed before the resume position `σ` (one unit per line, one per
box: `size`), read exactly as the layout reads its `skip_stack`. Progress holds for every document with
`orphans, widows ≥ 1`, fixed heights allowed (`layout_progress_all`, `page_progress_all`: a box that forgets
lines under a fixed height returns *no* resume position); `layout_progress` and `page_progress` state it under
the hypotheses of C01. -/

theorem pos_lt_size (box : PBox) (σ : Option Resume) : pos box σ < size box := PM.pos_lt_size box σ

/-- **Strict progress of `block_level_layout`**: whenever a layout returns a fragment and a resume position,
that position is strictly later than the skip position it was given — on an empty page or not, at any
depth (so a box is never returned "fragmented at its own start"). -/
theorem layout_progress (box : PBox) (hN : NoFixedHeight box) (hW : WellFormed box) (c : Ctx) (idx : Nat)
    (y bs : Rat) (skip : Option Resume) (cb pie : Bool) (adjL : List Rat) (f : Frag) (r : Resume)
    (hf : (layoutBox c box idx y bs skip cb pie adjL).frag = some f)
    (hr : (layoutBox c box idx y bs skip cb pie adjL).resume = some r) :
    pos box skip < pos box (some r) :=
  C03Pm2.layout_progress_all box hW c idx y bs skip cb pie adjL f r hf hr

/-- **Strict progress of pages**: a non-blank page either finishes the document or hands a strictly later
resume position to the next page. -/
theorem page_progress (d : Doc) (hN : NoFixedHeight d.root) (hW : WellFormed d.root) (index : Nat)
    (resume : Option Resume) (np : NextPage) (right : Bool) (p : Page)
    (hp : remakePage d index resume np right = some p) (hnb : p.type.blank = false) :
    p.resume = none ∨ pos d.root resume < pos d.root p.resume :=
  C03Pm2.page_progress_all d hW index resume np right p hp hnb

/-- A blank page changes nothing and is followed by a non-blank page (so two consecutive pages always
make progress). -/
theorem blank_then_nonblank (d : Doc) (index : Nat) (resume : Option Resume) (np : NextPage) (right : Bool)
    (p : Page) (hp : remakePage d index resume np right = some p) (hb : p.type.blank = true) :
    p.resume = resume ∧ p.nextPage = np ∧
    ∀ p', remakePage d (index + 1) p.resume p.nextPage (!right) = some p' → p'.type.blank = false := by
  obtain ⟨hbl, h1, _⟩ := remakePage_spec d index resume np right p hp
  obtain ⟨hr, hn, _⟩ := h1 hb
  refine ⟨hr, hn, ?_⟩
  intro p' hp'
  obtain ⟨hbl', _, _⟩ := remakePage_spec d (index + 1) p.resume p.nextPage (!right) p' hp'
  rw [hbl', hn]
  apply isBlank_flip
  rw [← hbl]; exact hb

/-! Non-vacuity: a two-paragraph document on 25px pages; page 2 resumes inside the first paragraph
(position 2 of 9 units) and hands over position 4. -/
def exSt : PStyle where
  mt := 0
  mb := 0
  pt := 0
  pb := 0
  bt := 0
  bb := 0
  height := none
  minH := 0
  maxH := none
  brkBefore := .auto
  brkAfter := .auto
  brkInside := .auto
  clone := false
  page := ""
  orphans := 1
  widows := 1
  isRoot := false

def exDoc : Doc :=
  { pageH := 25, rootLtr := true,
    root := .block 0 { exSt with isRoot := true } [.para 1 3 10 exSt, .para 2 3 10 { exSt with brkBefore := .left }] }

example : NoFixedHeight exDoc.root ∧ WellFormed exDoc.root ∧ size exDoc.root = 9 := by
  simp [exDoc, NoFixedHeight, NoFixedHeightList, WellFormed, WellFormedList, exSt, size, sizeList]

example : (remakePage exDoc 1 (some (.node 0 (some (.node 0 (some (.line 2)))))) { brk := none, page := none } false).map
      (fun p => (p.type.blank, pos exDoc.root (some (.node 0 (some (.node 0 (some (.line 2)))))), pos exDoc.root p.resume)) =
    some (false, 2, 4) := by decide +kernel

example : (paginate exDoc 20).map (fun ps => ps.map (fun p => (p.type.blank, pos exDoc.root p.resume))) =
    some [(false, 2), (false, 4), (true, 4), (false, 6), (false, 0)] := by decide +kernel

end Wp.C03
