/-
C20 — the constant tables of the URL models agree with the source (`Gen/UrlTables.lean`, regenerated each run from
`weasyprint/urls.py` by AST and from `urllib.parse` by import): the set of bytes `iri_to_uri` leaves alone, the pattern
of `UNICODE_SCHEME_RE`, and the scheme lists of `urllib.parse`.  An edit of any of them breaks a proof here.
-/
import WpModel.Model.ResourcesUrl
import WpModel.Gen.UrlTables

namespace Wp.C20.Tables
open Wp Wp.Res

/-- `isUriByte` is exactly "always safe for `quote`, or in the `safe=` argument written in `iri_to_uri`", for every
byte value. -/
theorem uri_bytes_match_source :
    (List.range 256).all (fun b => isUriByte b == (Gen.quoteAlwaysSafe.contains b || Gen.iriSafe.contains b)) = true := by
  rw [List.all_eq_true]
  intro b _
  by_cases h : b < 128
  · -- the ASCII half is a table: evaluated
    have hlow : (List.range 128).all
        (fun b => isUriByte b == (Gen.quoteAlwaysSafe.contains b || Gen.iriSafe.contains b)) = true := by
      decide +kernel
    exact List.all_eq_true.mp hlow b (List.mem_range.mpr h)
  · -- from 128 up `isUriByte` is false at its first test, and neither table reaches that far
    have hno : ∀ l : List Nat, l.all (· < 128) = true → l.contains b = false := fun l hl =>
      Bool.eq_false_iff.mpr fun hc => h (of_decide_eq_true (List.all_eq_true.mp hl b (List.contains_iff_mem.mp hc)))
    rw [isUriByte, decide_eq_false h, hno _ (by decide +kernel), hno _ (by decide +kernel)]
    rfl

/-- The pattern `url_is_absolute` matches with is the one `urlIsAbsolute` implements: a letter, then at least one of
letters, digits, `.`, `+`, `-`, then a colon, at the start of the string. -/
theorem scheme_regex_modelled : Gen.schemeRegex = "^([a-zA-Z][a-zA-Z0-9.+-]+):" := by decide

/-- The scheme lists that steer `urljoin` / `urlparse` are those of the running `urllib.parse`. -/
theorem scheme_lists_match_stdlib :
    Url.usesRelative = Gen.usesRelative ∧ Url.usesNetloc = Gen.usesNetloc ∧ Url.usesParams = Gen.usesParams :=
  ⟨rfl, rfl, rfl⟩

/-- What the pattern means for the model, on examples of each class. -/
example : urlIsAbsolute "http://a/b" = true ∧ urlIsAbsolute "a:b" = false ∧ urlIsAbsolute "1a:b" = false ∧
    urlIsAbsolute "svn+ssh://x" = true ∧ urlIsAbsolute "/a:b" = false ∧ urlIsAbsolute "fi_le:x" = false := by decide +kernel

end Wp.C20.Tables
