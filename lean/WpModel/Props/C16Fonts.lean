/-
C16 — "every font … it names is defined in the resource dictionary in effect": the font bookkeeping between
`draw_first_line`, `Stream.add_font` and `build_fonts_dictionary` (Model/PdfFonts).
-/
import WpModel.Model.PdfFonts
import WpModel.Lemmas.PdfFontsW

namespace Wp.C16
open Wp Wp.Pdf Wp.PdfFonts

private theorem mem_dictKeys (ks : List String) (k : String) : k ∈ dictKeys ks ↔ k ∈ ks := by
  induction ks with
  | nil => simp [dictKeys]
  | cons a as ih =>
    simp only [dictKeys, List.mem_cons, List.mem_filter, ih]
    by_cases e : k = a <;> simp [e]

private theorem dictKeys_nodup (ks : List String) : (dictKeys ks).Nodup := by
  induction ks with
  | nil => simp [dictKeys]
  | cons a as ih =>
    simp only [dictKeys, List.nodup_cons, List.mem_filter]
    refine ⟨?_, ih.filter _⟩
    rintro ⟨_, h⟩
    simp at h

private theorem buildLoop_ok (files : List String) (fonts : List FontInfo) (ks : List String)
    (h : buildLoop files fonts = .ok ks) : ks = fonts.map (·.hash) := by
  fun_induction buildLoop files fonts generalizing ks with
  | case1 => cases h; rfl
  | case2 => cases h
  | case3 f fs _ ih =>
    cases hrec : buildLoop files fs with
    | error e => rw [hrec] at h; cases h
    | ok ks' => rw [hrec] at h; cases h; rw [List.map_cons, ih ks' hrec]

/-- **fonts_defined**: whatever fonts the drawing code registered in `document.fonts` (vector or bitmap, used in form
fields or not, with or without a single glyph drawn), when `build_fonts_dictionary` returns, the `/Font` dictionary has
exactly one key per distinct `font.hash` of the table: every registered font is defined, nothing else is, no key is
repeated. -/
theorem fonts_defined (fonts : List FontInfo) (ks : List String) (h : buildFonts fonts = .ok ks) :
    (∀ f ∈ fonts, f.hash ∈ ks) ∧ (∀ k ∈ ks, ∃ f ∈ fonts, f.hash = k) ∧ ks.Nodup := by
  unfold buildFonts at h
  cases hl : buildLoop (fileHashes fonts []) fonts with
  | error e => rw [hl] at h; simp [Except.map] at h
  | ok ks' =>
    rw [hl] at h
    simp [Except.map] at h
    subst h
    have e := buildLoop_ok _ _ _ hl
    subst e
    refine ⟨?_, ?_, dictKeys_nodup _⟩
    · intro f hf
      rw [mem_dictKeys]
      exact List.mem_map_of_mem hf
    · intro k hk
      rw [mem_dictKeys] at hk
      obtain ⟨f, hf, rfl⟩ := List.mem_map.mp hk
      exact ⟨f, hf, rfl⟩

/-- Fonts with the same `hash` come from the same font description: they agree on being bitmap fonts. -/
def HashConsistent (fonts : List FontInfo) : Prop :=
  ∀ f ∈ fonts, ∀ g ∈ fonts, f.hash = g.hash → f.bitmap = g.bitmap

private theorem mem_fileHashes (fs : List FontInfo) (seen : List String) (f : FontInfo) (hf : f ∈ fs)
    (hs : f.hash ∉ seen) (hc : ∀ g ∈ fs, g.hash = f.hash → g.bitmap = false) : f.hash ∈ fileHashes fs seen := by
  induction fs generalizing seen with
  | nil => cases hf
  | cons g gs ih =>
    have hc' : ∀ x ∈ gs, x.hash = f.hash → x.bitmap = false := fun x hx => hc x (List.mem_cons_of_mem _ hx)
    simp only [fileHashes]
    by_cases e : g.hash = f.hash
    · -- the first font of the group, a vector font: it gets the font file
      simp [hs, hc g List.mem_cons_self e, e]
    · have hf' : f ∈ gs := (List.mem_cons.mp hf).resolve_left (fun h => e (h ▸ rfl))
      have hs' : f.hash ∉ g.hash :: seen := by simp [hs, Ne.symm e]
      split
      · exact ih seen hf' hs hc'
      · split
        · exact ih _ hf' hs' hc'
        · exact List.mem_cons_of_mem _ (ih _ hf' hs' hc')

private theorem buildLoop_total (files : List String) (fonts : List FontInfo)
    (h : ∀ f ∈ fonts, f.bitmap = false → f.hash ∈ files) : ∃ ks, buildLoop files fonts = .ok ks := by
  fun_induction buildLoop files fonts with
  | case1 => exact ⟨[], rfl⟩
  | case2 f fs hv => simp at hv; exact absurd (h f List.mem_cons_self hv.1) (by simpa using hv.2)
  | case3 f fs _ ih =>
    obtain ⟨ks, hks⟩ := ih (fun x hx => h x (List.mem_cons_of_mem _ hx))
    exact ⟨f.hash :: ks, by rw [hks]; rfl⟩

/-- **fonts_total**: `build_fonts_dictionary` cannot fail on `font_references_by_file_hash[font.hash]`: every vector
font finds the font file of its group. -/
theorem fonts_total (fonts : List FontInfo) (hc : HashConsistent fonts) (acroForm : Bool) :
    ∃ ks, fontResourceKeys fonts acroForm = .ok ks := by
  obtain ⟨ks, hks⟩ := buildLoop_total (fileHashes fonts []) fonts (by
    intro f hf hv
    exact mem_fileHashes fonts [] f hf (by simp) (fun g hg e => by rw [hc g hg f hf e]; exact hv))
  refine ⟨if acroForm then dictKeys (dictKeys ks ++ ["ZaDb"]) else dictKeys ks, ?_⟩
  simp [fontResourceKeys, buildFonts, hks, Except.map]

private theorem lookupFont_mem (t : FontTable) (key : Nat) (f : FontInfo) (h : lookupFont t key = some f) :
    f ∈ t.map (·.2) := by
  obtain ⟨e, hf, rfl⟩ := Option.map_eq_some_iff.mp h
  exact List.mem_map_of_mem (List.mem_of_find?_eq_some hf)

private theorem addFont_spec (t : FontTable) (key : Nat) (fresh : FontInfo) :
    (addFont t key fresh).2 ∈ (addFont t key fresh).1.map (·.2) ∧
    ∀ x ∈ t.map (·.2), x ∈ (addFont t key fresh).1.map (·.2) := by
  unfold addFont
  cases h : lookupFont t key with
  | some f => exact ⟨lookupFont_mem t key f h, fun x hx => hx⟩
  | none => exact ⟨by simp, fun x hx => by simp only [List.map_append, List.mem_append]; exact Or.inl hx⟩

private theorem drawRuns_fonts (runs : List Run) (t : FontTable) (prev : Option Nat) (pending : String) :
    (∀ x ∈ t.map (·.2), x ∈ (drawRuns t prev pending runs).1.map (·.2)) ∧
    ∀ h sz, Call.setFont h sz ∈ (drawRuns t prev pending runs).2.1 →
      ∃ f ∈ (drawRuns t prev pending runs).1.map (·.2), f.hash = h := by
  fun_induction drawRuns t prev pending runs with
  | case1 => exact ⟨fun x hx => hx, nofun⟩
  | case2 _ _ _ _ _ ih => exact ih
  | case3 t prev pending r rs _ t' f hadd shown out ih =>
    have hadd' := addFont_spec t r.key r.fresh
    rw [hadd] at hadd'
    refine ⟨fun x hx => ih.1 x (hadd'.2 x hx), ?_⟩
    intro h sz hm
    simp only [List.mem_append, List.mem_cons, List.mem_nil_iff, or_false] at hm
    rcases hm with (hm | hm) | hm
    · simp only [shown] at hm
      split at hm
      · cases hm
      · simp at hm
    · cases hm
      exact ⟨f, ih.1 _ hadd'.1, rfl⟩
    · exact ih.2 h sz hm

/-- **text_fonts_defined**: for every line of text — any sequence of Pango runs, fonts new to the document or already
registered, runs whose glyphs are all empty included — and any state of `document.fonts` before it, every
`set_font_size(font.hash, …)` that `draw_first_line` emits (`Tf`) names a font that is in `document.fonts` when the line
has been drawn (fonts are never removed), hence, by `fonts_defined`, a key of the `/Font` dictionary that
`build_fonts_dictionary` builds from the final table: no `Tf` of the document names an undefined font. -/
theorem text_fonts_defined (t : FontTable) (runs : List Run) (later : List (Nat × FontInfo)) (ks : List String)
    (hk : buildFonts (((drawLine t runs).1 ++ later).map (·.2)) = .ok ks) :
    ∀ h sz, Call.setFont h sz ∈ (drawLine t runs).2 → h ∈ ks := by
  intro h sz hm
  have hd := drawRuns_fonts runs t none ""
  simp only [drawLine, List.mem_append, List.mem_cons, List.mem_nil_iff, or_false] at hm
  rcases hm with hm | hm
  · obtain ⟨f, hf, rfl⟩ := hd.2 h sz hm
    exact (fonts_defined _ ks hk).1 f (by
      simp only [drawLine, List.map_append, List.mem_append]
      exact Or.inl hf)
  · cases hm

/-- Non-vacuity, on the shape of the seeded regression C16-5: text `a` in one font followed by a run holding only a
ZERO WIDTH SPACE in another font (no glyph, so nothing enters that font's `cmap`): both fonts are named by `Tf` and both
are keys of `/Font`. -/
example :
    (drawLine [] [⟨1, 1, { hash := "BAWKYD" }, .int 10, "0041"⟩, ⟨2, 2, { hash := "IKCJUC" }, .int 10, ">-0.0<"⟩]).2 =
      [.setFont "BAWKYD" (.int 10), .raw .showText [] false "0041", .setFont "IKCJUC" (.int 10),
       .raw .showText [] false ">-0.0<"] ∧
    fontResourceKeys ((drawLine [] [⟨1, 1, { hash := "BAWKYD" }, .int 10, "0041"⟩,
      ⟨2, 2, { hash := "IKCJUC" }, .int 10, ">-0.0<"⟩]).1.map (·.2)) true = .ok ["BAWKYD", "IKCJUC", "ZaDb"] := by
  constructor <;> rfl

/-- **w_array_round_trip**: for every glyph width table (glyph ids in strictly increasing order: `sorted(widths)` of a
dict — any gaps, runs, glyph 0, a single glyph, none), building the `/W` array of the CID font does not fail
(`current_widths` is always bound) and a PDF reader that expands its `c [w1 … wn]` groups (PDF 32000-1 9.7.4.3) gets
exactly the table back: every used glyph id with its width, no other glyph id, in order. -/
theorem w_array_round_trip (pairs : List (Nat × Int)) (hs : (pairs.map (·.1)).Pairwise (· < ·)) :
    ∃ items, wArray pairs = .ok items ∧ wDecode items = pairs := by
  obtain ⟨out, ho, hd⟩ := wLoop_spec (pairs.map (·.1)) pairs [] [] (by simp) hs
    ⟨rfl, fun h => absurd rfl h, fun g p hg _ => by simp at hg⟩
  refine ⟨out.flatMap (fun g => [WItem.cid g.1, WItem.widths g.2]), by simp [wArray, ho, Except.map], ?_⟩
  rw [wDecode_groups, hd]; simp

/-- **cid_set_bits**: the `/CIDSet` bit string is a whole number of bytes, long enough for the last glyph id, and bit
`i` (most significant bit of byte 0 first) is set exactly when glyph id `i` is used. -/
theorem cid_set_bits (cids : List Nat) (last : Nat) :
    (cidSetBits cids last).length % 8 = 0 ∧ last < (cidSetBits cids last).length ∧
    ∀ i, i < (cidSetBits cids last).length → (cidSetBits cids last)[i]? = some (cids.contains i) := by
  have hl : (cidSetBits cids last).length = (last + 1 + 7) / 8 * 8 := by simp [cidSetBits]
  refine ⟨by rw [hl]; omega, by rw [hl]; omega, ?_⟩
  intro i hi
  rw [hl] at hi
  simp [cidSetBits, hi]

/-- Examples of both (the functions are tied to `_build_vector_font_dictionary` by the `font-arrays`
correspondence). -/
example : (wArray [(0, 500), (1, 600), (3, 250), (7, 10), (8, 20)]).map wDecode =
    .ok [(0, 500), (1, 600), (3, 250), (7, 10), (8, 20)] := rfl

example : cidSetBits [0, 1, 3, 7, 8] 8 =
    [true, true, false, true, false, false, false, true, true, false, false, false, false, false, false, false] := by
  decide

/-- `undefinedFonts` is what the harness compares with the independent reader's view of the written file. -/
theorem undefined_empty (keys used : List String) (h : ∀ u ∈ used, u ∈ keys) : undefinedFonts keys used = [] := by
  unfold undefinedFonts
  rw [List.filter_eq_nil_iff]
  intro u hu
  simpa using h u hu

end Wp.C16
