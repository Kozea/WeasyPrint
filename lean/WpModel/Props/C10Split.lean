/-
C10 — a table row split by a page break is resumed cell by cell where each cell stopped
(`Model/TableCellSplit.lean` ↔ the `cell_skip_stack` / `resume_at[index_row][index_cell]` bookkeeping
of `group_layout` in `weasyprint/layout/table.py`).  The correspondence section `doc-cell-skips` of
`py/props/c10.py` compares both functions with every `block_container_layout` call made for a table
cell while rendering the generated documents.
-/
import WpModel.Model.TableCellSplit

namespace Wp.C10Split
open Wp Wp.TableSplit

/-- What index `i` is bound to by the cells `rs`, the first of which has index `k`. -/
private theorem lookup_resumeBindings (rs : List (Option Chain)) (k i : Nat) :
    lookup (resumeBindings k rs) i =
      if k ≤ i then (match rs[i - k]? with
                     | some (some (a :: c)) => some (a :: c)
                     | _ => none)
      else none := by
  induction rs generalizing k with
  | nil => simp [resumeBindings, lookup]
  | cons r rs ih =>
    by_cases hki : k = i
    · subst hki
      rw [if_pos (Nat.le_refl k), Nat.sub_self]
      rcases r with _ | _ | ⟨a, c⟩
      · exact (ih (k + 1)).trans (if_neg (Nat.not_succ_le_self k))
      · exact (ih (k + 1)).trans (if_neg (Nat.not_succ_le_self k))
      · exact if_pos rfl
    · -- the binding of this cell, if any, is for another index
      have hstep : lookup (resumeBindings k (r :: rs)) i = lookup (resumeBindings (k + 1) rs) i := by
        rcases r with _ | _ | ⟨a, c⟩
        · rfl
        · rfl
        · exact if_neg hki
      rw [hstep, ih]
      by_cases hle : k ≤ i
      · rw [if_pos (show k + 1 ≤ i by omega), if_pos hle, show i - k = (i - (k + 1)) + 1 by omega]
        rfl
      · rw [if_neg (show ¬ k + 1 ≤ i by omega), if_neg hle]

/-- **split_roundtrip.**  When a row is broken by the page (`resume_at[index_row] = d`, built from the
`cell_resume_at` of its cells), the next fragment resumes every cell exactly where *that* cell
stopped, and a cell that was finished is resumed after its last child (it stays empty): nothing of a
pending cell is dropped, no cell receives the skip stack of another cell.  `i` is the index of the
cell in the row. -/
theorem split_roundtrip (results : List (Option Chain)) (d : RowSkip) (h : rowResume results = some d)
    (i n : Nat) :
    cellSkip (some d) i n =
      match results[i]? with
      | some (some (a :: c)) => some (a :: c)
      | _ => some [n] := by
  unfold rowResume at h
  have hd : d = resumeBindings 0 results := by
    split at h
    · cases h
    · injection h with h; exact h.symm
  have hne : d ≠ [] := by
    intro hnil
    rw [hnil] at hd
    rw [← hd] at h
    simp at h
  have hl := lookup_resumeBindings results 0 i
  simp only [Nat.zero_le, if_true, Nat.sub_zero] at hl
  rw [← hd] at hl
  unfold cellSkip
  cases d with
  | nil => exact absurd rfl hne
  | cons b bs =>
    simp only
    rw [hl]
    rcases hr : results[i]? with _ | (_ | (_ | ⟨a, c⟩)) <;> simp

/-- The row is reported as broken exactly when some cell was: `resume_at` stays `None` iff every
`cell_resume_at` is falsy. -/
theorem resume_none_iff (results : List (Option Chain)) :
    rowResume results = none ↔ ∀ r ∈ results, truthy r = false := by
  have key : ∀ (k : Nat) (rs : List (Option Chain)),
      resumeBindings k rs = [] ↔ ∀ r ∈ rs, truthy r = false := by
    intro k rs
    induction rs generalizing k with
    | nil => simp [resumeBindings]
    | cons r rs ih =>
      rw [List.forall_mem_cons]
      rcases r with _ | _ | ⟨a, c⟩
      · exact (ih (k + 1)).trans (and_iff_right rfl).symm
      · exact (ih (k + 1)).trans (and_iff_right rfl).symm
      · exact ⟨fun h => (nomatch h), fun h => (nomatch h.1)⟩
  unfold rowResume
  rw [← key 0 results]
  split
  · rename_i hnil; simp [hnil]
  · rename_i hne; simp only [reduceCtorEq, false_iff]; exact fun h => hne h

/-- **unplaced_cell_keeps_position** (repair a7ed065; the finding `table-cell-restarts-after-empty-fragment`
is filed under C01).  A continued cell of which nothing more fits on a page reports the position it was
given, so that — by `split_roundtrip` — the next page resumes it exactly there instead of restarting
it; only a cell that had not started reports `{0: None}`. -/
theorem unplaced_cell_keeps_position (skip result : Option Chain) (a : Nat) (c : Chain) :
    cellResume false (some (a :: c)) result = some (a :: c) ∧
    cellResume false none result = some [0] ∧ cellResume false (some []) result = some [0] ∧
    cellResume true skip result = result := by
  refine ⟨rfl, rfl, rfl, rfl⟩

/-- End to end over one empty page: the cell stopped at `a :: c`, places nothing on the next page, and
is resumed on the page after at `a :: c` again (`pre`, `post` = what the cells before and after it
report). -/
theorem empty_page_roundtrip (pre post : List (Option Chain)) (a : Nat) (c : Chain) (result : Option Chain)
    (n : Nat) (d : RowSkip)
    (h : rowResume (pre ++ cellResume false (some (a :: c)) result :: post) = some d) :
    cellSkip (some d) pre.length n = some (a :: c) := by
  rw [split_roundtrip _ d h pre.length n]
  simp [cellResume, truthy]

/-- Without a skip stack (first fragment, or any row after the resumed one: `skip_stack = None`), and
with the empty dict left by an avoided break (`resume_at = {index_row: {}}`), every cell starts at
its beginning. -/
theorem fresh_row_starts (i n : Nat) : cellSkip none i n = none ∧ cellSkip (some []) i n = none := ⟨rfl, rfl⟩

/-- Non-vacuity, and why the key must be the cell's index in the row: in `<td colspan=2>`, `<td>` the
second cell has index 1 and grid column 2.  It stops at child 3; looked up by its index it resumes
there, looked up by its grid column it would be taken for finished (`{len(children): None}`) and
the rest of its content would be dropped. -/
example : rowResume [none, some [3, 0]] = some [(1, [3, 0])] ∧
    cellSkip (some [(1, [3, 0])]) 1 7 = some [3, 0] ∧ cellSkip (some [(1, [3, 0])]) 2 7 = some [7] ∧
    cellSkip (some [(1, [3, 0])]) 0 4 = some [4] := by
  refine ⟨rfl, rfl, rfl, rfl⟩

end Wp.C10Split
