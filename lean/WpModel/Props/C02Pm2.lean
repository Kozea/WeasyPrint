/-
C02 — pagination terminates for *every* document of the PM grammar (fixed heights allowed; only
`orphans, widows ≥ 1`, what the CSS validator accepts), with at most `2 · size` pages; the fuel is irrelevant;
each page is a function of the page-maker state only.
-/
import WpModel.Props.C03Pm2

namespace Wp.C02
open Wp Wp.PM

theorem makeAllPages_fuel_mono (d : Doc) : ∀ (fuel k index : Nat) (resume : Option Resume) (np : NextPage)
    (right : Bool) (pages : List Page), makeAllPages d fuel index resume np right = some pages →
    makeAllPages d (fuel + k) index resume np right = some pages := by
  intro fuel k index resume np right pages h
  obtain ⟨hl, hf⟩ := PageLoop.run_fuel _ _ _ (makeAllPages_eq_some.mp h)
  exact makeAllPages_eq_some.mpr (hf _ (by omega))

end Wp.C02

namespace Wp.C02Pm2
open Wp Wp.PM

/-- **Pagination terminates, every document**: `2 * size + 2` units of fuel are always enough, and there are
at most `2 * size` pages. -/
theorem paginate_terminates_all (d : Doc) (hW : WellFormed d.root) :
    ∃ pages, paginate d (2 * size d.root + 2) = some pages ∧ pages.length ≤ 2 * size d.root := by
  unfold paginate
  have hn := C03Pm2.pagesNeeded_start d
  obtain ⟨pages, hp, hl⟩ := C03Pm2.makeAllPages_terminates_all d hW (2 * size d.root + 2) 0 none
    { brk := none, page := some (boxPageStart d.root) } (firstRight d) (by omega)
  exact ⟨pages, hp, by omega⟩

/-- **The fuel is irrelevant, every document**: any fuel ≥ `2 * size` gives the same pages. -/
theorem paginate_fuel_irrelevant (d : Doc) (hW : WellFormed d.root) (fuel : Nat)
    (hf : 2 * size d.root ≤ fuel) : paginate d fuel = paginate d (2 * size d.root) := by
  unfold paginate
  have hn := C03Pm2.pagesNeeded_start d
  obtain ⟨pages, hp, _⟩ := C03Pm2.makeAllPages_terminates_all d hW (2 * size d.root) 0 none
    { brk := none, page := some (boxPageStart d.root) } (firstRight d) hn
  obtain ⟨hl, hfuel⟩ := PageLoop.run_fuel _ _ _ (makeAllPages_eq_some.mp hp)
  rw [makeAllPages_eq_some.mpr (hfuel fuel (by omega)), hp]

/-- Two successful paginations of the same document agree, whatever their fuels (no hypothesis at all). -/
theorem paginate_fuel_deterministic (d : Doc) (f1 f2 : Nat) (p1 p2 : List Page)
    (h1 : paginate d f1 = some p1) (h2 : paginate d f2 = some p2) : p1 = p2 := by
  unfold paginate at h1 h2
  exact PageLoop.run_deterministic (makeAllPages_eq_some.mp h1) (makeAllPages_eq_some.mp h2)

/-- `remake_page` is a function of the page-maker state `(resume_at, next_page, right_page)` and the page
index only — in PM there is no other state (no `page_maker` history, no caches): making the same page again
(`remake_state`) gives the same page. -/
theorem remakePage_pure (d : Doc) (i i' : Nat) (r r' : Option Resume) (np np' : NextPage) (right right' : Bool)
    (hi : i = i') (hr : r = r') (hn : np = np') (hright : right = right') :
    remakePage d i r np right = remakePage d i' r' np' right' := by
  subst hi hr hn hright; rfl

/-! Non-vacuity: the document of `C03Pm2.lossDoc` (a fixed-height paragraph that forgets three lines). -/
example : WellFormed C03Pm2.lossDoc.root ∧
    (paginate C03Pm2.lossDoc (2 * size C03Pm2.lossDoc.root + 2)).map List.length = some 2 ∧
    (paginate C03Pm2.lossDoc 1).isNone = true := by
  refine ⟨?_, by decide +kernel, by decide +kernel⟩
  simp [C03Pm2.lossDoc, WellFormed, WellFormedList, plainSt]

end Wp.C02Pm2
