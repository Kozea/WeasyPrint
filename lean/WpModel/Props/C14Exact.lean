/-
C14 — `make_margin_boxes` yields **exactly** the margin boxes that have content: each once, in the order of the code
(`Model/PageBoxes.makeMarginBoxes`, tables of `Gen/MarginBoxes.lean`): the clauses "generated twice" and "has content
but was not generated" of the document oracle, for all inputs.  "Only boxes with content"
(`margin_boxes_generated_only`) follows, and with the placement lemmas of `Props/C14` gives `margin_box_rects`.
-/
import WpModel.Props.C14

namespace Wp.C14
open Wp Wp.PageDoc Wp.PageBoxes Wp.PageState Wp.PageSel

private theorem sideYield_kw (row : SideRow) (g : PageGeom) (vo fo : Rat) (x : MBox × Option Rat) (qs : List Placed)
    (h : sideYield row g vo fo x = .ok qs) : qs.map (·.kw) = if x.1.generated then [x.1.kw] else [] := by
  rcases sideYield_ok _ _ _ _ _ _ h with ⟨hg, rfl⟩ | ⟨hg, o, p, _, hp, rfl⟩
  · simp only [hg, List.map_nil, Bool.false_eq_true, ↓reduceIte]
  · simp only [hg, List.map_cons, List.map_nil, ↓reduceIte, (place_side_rect _ _ _ _ _ _ _ hp).1]

private theorem findStyle_kw (styles : List MStyle) (kw : String) : (findStyle styles kw).kw = kw := by
  unfold findStyle
  split
  · rename_i s hs
    have := List.find?_some hs
    simpa using this
  · rfl

private theorem makeBox_kw (s : MStyle) (w h : Rat) :
    (makeBox s w h).kw = s.kw ∧ (makeBox s w h).generated = s.generated := by
  unfold makeBox; split <;> simp_all

/-- The keywords of the three boxes of a side row, in the order of the code. -/
def rowKeywords (row : SideRow) : List String :=
  (if row.vertical then Gen.verticalSuffixes else Gen.horizontalSuffixes).map (fun sfx => "@" ++ row.pre ++ "-" ++ sfx)

theorem allKeywords_eq : allKeywords = Gen.sideTable.flatMap rowKeywords ++ Gen.cornerTable.map (·.kw) := rfl

/-- One row of the side loop yields exactly the boxes of the row that have content, once each, in order. -/
theorem side_boxes_exact (row : SideRow) (g : PageGeom) (styles : List MStyle) (ps : List Placed)
    (h : sideBoxes row g styles = .ok ps) :
    ps.map (·.kw) = (rowKeywords row).filter (fun kw => (findStyle styles kw).generated) := by
  obtain ⟨a, b, c, hboxes, hcase⟩ := sideBoxes_ok row g styles ps h
  -- every box of the row is `makeBox (findStyle styles kw)` for its keyword `kw`
  have hkw : rowKeywords row = [a, b, c].map (·.kw) := by
    rw [← hboxes, List.map_map]
    exact List.map_congr_left fun sfx _ => by simp only [Function.comp, makeBox_kw, findStyle_kw]
  have hgen : ∀ x ∈ [a, b, c], (findStyle styles x.kw).generated = x.generated := by
    intro x hx
    rw [← hboxes] at hx
    obtain ⟨sfx, _, rfl⟩ := List.mem_map.mp hx
    rw [(makeBox_kw _ _ _).1, findStyle_kw, (makeBox_kw _ _ _).2]
  rw [hkw, List.filter_map, List.filter_congr (q := (·.generated)) hgen]
  rcases hcase with ⟨hnone, rfl⟩ | ⟨ra, rb, rc, pss, hpair, rfl⟩
  · simp only [Bool.or_eq_false_iff] at hnone
    simp only [List.filter_cons, hnone.1.1, hnone.1.2, hnone.2, Bool.false_eq_true, ↓reduceIte, List.filter_nil,
      List.map_nil]
  · -- writing the resolved sizes back changes neither keyword nor content
    rw [hpair.flatten_map (·.kw) _ (sideYield_kw row g _ _)]
    simp only [List.flatMap_cons, List.flatMap_nil, List.filter_cons, List.filter_nil, (restoreOf_kw row _ _).2]
    cases a.generated <;> cases b.generated <;> cases c.generated <;>
      simp only [Bool.false_eq_true, ↓reduceIte, List.map_cons, List.map_nil, List.append_nil, List.nil_append,
        List.cons_append, (restoreOf_kw row _ _).1]

/-- A corner box is yielded exactly when it has content. -/
theorem corner_box_exact (row : CornerRow) (g : PageGeom) (styles : List MStyle) (ps : List Placed)
    (h : cornerBox row g styles = .ok ps) :
    ps.map (·.kw) = [row.kw].filter (fun kw => (findStyle styles kw).generated) := by
  rcases cornerBox_ok row g styles ps h with ⟨hg, rfl⟩ | ⟨hg, rv, rh, _, _, rfl⟩
  · rw [(makeBox_kw _ _ _).2] at hg
    simp [hg]
  · rw [(makeBox_kw _ _ _).2] at hg
    simp [hg, makeBox_kw, findStyle_kw]

/-- **`make_margin_boxes` yields exactly the margin boxes that have content — each once, in the order of the code**
(the four side rows, three boxes each, then the four corners): nothing is generated twice, nothing with content is
left out, nothing without content is yielded. -/
theorem make_margin_boxes_exact (g : PageGeom) (styles : List MStyle) (res : List Placed)
    (h : makeMarginBoxes g styles = .ok res) :
    res.map (·.kw) = allKeywords.filter (fun kw => (findStyle styles kw).generated) := by
  obtain ⟨sss, ccs, h1, h2, rfl⟩ := makeMarginBoxes_ok g styles res h
  rw [List.map_append, h1.flatten_map (·.kw) _ (fun row ps hps => side_boxes_exact row g styles ps hps),
    h2.flatten_map (·.kw) _ (fun row ps hps => corner_box_exact row g styles ps hps),
    allKeywords_eq, List.filter_append, List.filter_flatMap, List.map_eq_flatMap, List.filter_flatMap]

/-- The sixteen margin-box keywords of the generated tables are pairwise different. -/
theorem all_keywords_nodup : allKeywords.Nodup := by decide +kernel

/-- No margin box is yielded twice. -/
theorem make_margin_boxes_nodup (g : PageGeom) (styles : List MStyle) (res : List Placed)
    (h : makeMarginBoxes g styles = .ok res) : (res.map (·.kw)).Nodup := by
  rw [make_margin_boxes_exact g styles res h]
  exact all_keywords_nodup.filter _

/-- Completeness: every margin box that has content is yielded. -/
theorem make_margin_boxes_complete (g : PageGeom) (styles : List MStyle) (res : List Placed)
    (h : makeMarginBoxes g styles = .ok res) (kw : String) (hk : kw ∈ allKeywords)
    (hg : (findStyle styles kw).generated = true) : ∃ p ∈ res, p.kw = kw := by
  have : kw ∈ res.map (·.kw) := by
    rw [make_margin_boxes_exact g styles res h]; exact List.mem_filter.mpr ⟨hk, hg⟩
  obtain ⟨p, hp, hpk⟩ := List.mem_map.mp this
  exact ⟨p, hp, hpk⟩

/-- Margin boxes are generated only when they have content: every box `make_margin_boxes` yields
comes from a style whose `content` is not `normal` / `none` (boxes needed only for the layout of
their neighbours are computed, zero-sized, and not yielded). -/
theorem margin_boxes_generated_only (g : PageGeom) (styles : List MStyle) (res : List Placed)
    (h : makeMarginBoxes g styles = .ok res) : ∀ p ∈ res, (findStyle styles p.kw).generated = true := by
  intro p hp
  have : p.kw ∈ res.map (·.kw) := List.mem_map_of_mem hp
  rw [make_margin_boxes_exact g styles res h] at this
  exact (List.mem_filter.mp this).2

/-- **margin_box_rects.**  Every box `make_margin_boxes` yields has content, and is either a corner box
occupying exactly a corner area, or a side box spanning a margin strip exactly in the fixed
dimension and placed at offset 0 (start), ½ (centre) or 1 (end) of the free space in the variable
dimension.  Which corner, strip and offset go with which keyword is said by `cornerBox_ok` and `sideBoxes_ok`, not
here.  The strips / corners are those of css-page-3 §5.3 (`strip`, `cornerArea`), tied to the
tables regenerated from `make_margin_boxes` by `side_table_strips` / `corner_table_areas`. -/
theorem margin_box_rects (g : PageGeom) (styles : List MStyle) (res : List Placed)
    (h : makeMarginBoxes g styles = .ok res) :
    ∀ p ∈ res, (findStyle styles p.kw).generated = true ∧
      ((∃ row ∈ Gen.cornerTable, (p.x, p.y, p.marginWidth, p.marginHeight) = cornerArea g row.kw) ∨
       (∃ row ∈ Gen.sideTable, ∃ off ∈ Gen.offsets,
          if row.vertical then
            p.x = (strip g row.pre).1 ∧ p.marginWidth = (strip g row.pre).2.2.1 ∧
            p.y = (strip g row.pre).2.1 + off * ((strip g row.pre).2.2.2 - p.marginHeight)
          else
            p.y = (strip g row.pre).2.1 ∧ p.marginHeight = (strip g row.pre).2.2.2 ∧
            p.x = (strip g row.pre).1 + off * ((strip g row.pre).2.2.1 - p.marginWidth))) := by
  intro p hp
  refine ⟨margin_boxes_generated_only g styles res h p hp, ?_⟩
  rcases makeMarginBoxes_mem g styles res h p hp with ⟨row, hrow, ps, hs, hin⟩ | ⟨row, hrow, ps, hs, hin⟩
  · right
    obtain ⟨off, hoff, hr⟩ := side_boxes_rect row hrow g styles ps hs p hin
    exact ⟨row, hrow, off, hoff, hr⟩
  · left
    exact ⟨row, hrow, corner_boxes_fill_their_corner g styles row hrow ps hs p hin⟩

/-- Non-vacuity: with content for `@bottom-left` and `@top-left` only (given in that order), the boxes yielded on a
100 × 100 page box with margins 20 are `@top-left`, `@bottom-left`. -/
example : (match makeMarginBoxes ⟨20, 20, 20, 20, 100, 100⟩
    [ { kw := "@bottom-left", generated := true, width := .auto, height := .auto, mt := .px 0, mr := .px 0, mb := .px 0
        ml := .px 0, pt := .px 0, pr := .px 0, pb := .px 0, pl := .px 0, bt := 0, br := 0, bb := 0, bl := 0
        minC := 10, maxC := 30 },
      { kw := "@top-left", generated := true, width := .auto, height := .auto, mt := .px 0, mr := .px 0, mb := .px 0
        ml := .px 0, pt := .px 0, pr := .px 0, pb := .px 0, pl := .px 0, bt := 0, br := 0, bb := 0, bl := 0
        minC := 10, maxC := 30 } ] with
    | .ok res => res.map (·.kw) == ["@top-left", "@bottom-left"]
    | .error _ => false) = true := by decide +kernel

end Wp.C14
