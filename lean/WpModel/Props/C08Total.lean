/-
C08 — box generation is total: `element_to_box` (with `::marker`, `::before`, `::after`, `content:`
strings and quotes) raises nothing for any element tree whose computed styles are values the validators
produce.

`DomOk d`: every element and pseudo-element of `d` has a `display` the `display` validator returns
(`Gen.displayValues`, regenerated from the validator on every run), a `float` / `position` keyword, and a
`quotes` value that is `auto`, `none` or at least one pair; every element has a `::marker` style
(`style_for(element, 'marker')` always exists).
-/
import WpModel.Props.C08
import WpModel.Lemmas.BoxGenTidy
import WpModel.Lemmas.InlineDoc

namespace Wp.C08
open Wp Wp.Bx

/-- A computed style as the validators and `computed_values` can hand it to `element_to_box`. -/
def StyleOk (s : EStyle) : Prop :=
  s.display ∈ Gen.displayValues ∧ s.float ∈ ["none", "left", "right", "footnote"] ∧
  s.position ∈ ["static", "relative", "absolute", "fixed", "running"] ∧ QuotesOk s.quotes

def PseudoOk : Option Pseudo → Prop
  | none => True
  | some p => StyleOk p.st

mutual
def DomOk : Dom → Prop
  | .el st _ marker before after _ kids _ =>
    StyleOk st ∧ (∃ m, marker = some m ∧ StyleOk m.st) ∧ PseudoOk before ∧ PseudoOk after ∧ DomOkL kids
def DomOkL : List Dom → Prop
  | [] => True
  | d :: ds => DomOk d ∧ DomOkL ds
end

private theorem box_type_ok (s : EStyle) (h : StyleOk s) (root : Bool) :
    blockify s.display s.float s.position root = ["none"] ∨
    ∃ k, boxTypeFromDisplay (blockify s.display s.float s.position root) = some k := by
  rcases computed_display_to_box_right s.display h.1 s.float s.position root with h | ⟨k, hk, _⟩
  · exact Or.inl h
  · exact Or.inr ⟨k, hk⟩

private theorem contentToBoxes_total (q : Quotes) (hq : QuotesOk q) (c : Content) (parent : KBox) (depth : Nat) :
    ∃ r, contentToBoxes q c parent depth = .ok r := by
  unfold contentToBoxes
  cases c with
  | inhibit => exact ⟨_, rfl⟩
  | items l =>
    obtain ⟨r, hr⟩ := content_total q hq l [] depth
    simp only [hr]
    exact ⟨_, rfl⟩

theorem marker_to_box_total (m : MarkerSpec) (hm : StyleOk m.st) (attrs : El) (outside : Bool) (depth : Nat) :
    ∃ r, markerToBox m attrs outside depth = .ok r := by
  fun_cases markerToBox m attrs outside depth
  case case2 hnone hk =>
    rcases box_type_ok m.st hm false with h | ⟨k, hk'⟩
    · exact absurd (beq_iff_eq.2 h) hnone
    · cases hk'.symm.trans hk
  case case3 he =>
    simp +zetaDelta only at he
    split at he
    · obtain ⟨r, hr⟩ := contentToBoxes_total m.st.quotes hm.2.2.2 (.items _) _ depth
      rw [hr] at he; cases he
    · split at he <;> cases he
  all_goals exact ⟨_, rfl⟩

private theorem elMarkers_total (disp : List String) (m : MarkerSpec) (hm : StyleOk m.st) (attrs : El)
    (outside : Bool) (depth : Nat) :
    ∃ r, elMarkers disp (some m) attrs outside depth = .ok r := by
  rw [elMarkers_some]
  split
  · exact marker_to_box_total m hm attrs _ depth
  · exact ⟨_, rfl⟩

/-- `before_after_to_box` never fails (the `::marker` of a pseudo-element with `display: list-item` is the
element's). -/
theorem before_after_to_box_total (p : Option Pseudo) (hp : PseudoOk p) (m : MarkerSpec) (hm : StyleOk m.st)
    (attrs : El) (depth : Nat) : ∃ r, beforeAfterToBox p (some m) attrs depth = .ok r := by
  fun_cases beforeAfterToBox p (some m) attrs depth
  case case4 hnone _ _ hk =>
    rcases box_type_ok _ hp false with h | ⟨k, hk'⟩
    · exact absurd (beq_iff_eq.2 h) hnone
    · cases hk'.symm.trans hk
  case case5 he =>
    simp +zetaDelta only at he
    split at he
    · obtain ⟨r, hr⟩ := marker_to_box_total m hm attrs ‹Pseudo›.st.listOutside depth
      rw [hr] at he; cases he
    · cases he
  case case6 he =>
    obtain ⟨r, hr⟩ := contentToBoxes_total ‹Pseudo›.st.quotes hp.2.2.2 (.items _) _ _
    rw [hr] at he; cases he
  all_goals exact ⟨_, rfl⟩

mutual
/-- **`element_to_box` is total** on every well-styled element tree, as the root or not, at any quote
depth: every element generates its boxes (or none for `display: none`), no KeyError for a display without
box class, no IndexError in the quotes. -/
theorem element_to_box_total : ∀ (root : Bool) (d : Dom) (depth : Nat), DomOk d →
    ∃ r, elementToBox root d depth = .ok r
  | root, .el es attrs marker before after text kids tail, depth, h => by
    unfold DomOk at h
    obtain ⟨hs, ⟨m, rfl, hm⟩, hb, ha, hk⟩ := h
    unfold elementToBox
    simp only
    split
    · exact ⟨_, rfl⟩
    · rename_i hnone
      rcases box_type_ok es hs root with h | ⟨k, hk'⟩
      · rw [h] at hnone; exact (hnone (by decide)).elim
      · simp only [hk']
        obtain ⟨⟨ms, d1⟩, hr⟩ := elMarkers_total (blockify es.display es.float es.position root) m hm attrs
          es.listOutside depth
        rw [elMarkers_some] at hr
        simp only [hr]
        obtain ⟨⟨bs, d2⟩, hr2⟩ := before_after_to_box_total before hb m hm attrs d1
        simp only [hr2]
        obtain ⟨⟨accRev, d3⟩, hr3⟩ := element_kids_total
          (KBox.mk k (mkStyle es (blockify es.display es.float es.position root)) attrs (initInst k attrs) [] [] [])
          kids (if text.isEmpty = true then bs.reverse ++ ms.reverse else
            textBoxFrom (KBox.mk k (mkStyle es (blockify es.display es.float es.position root)) attrs
              (initInst k attrs) [] [] []) text :: (bs.reverse ++ ms.reverse)) d2 hk
        simp only [hr3]
        obtain ⟨⟨as, d4⟩, hr4⟩ := before_after_to_box_total after ha m hm attrs d3
        simp only [hr4]
        exact ⟨_, rfl⟩
theorem element_kids_total : ∀ (parent : KBox) (ds : List Dom) (acc : List KBox) (depth : Nat), DomOkL ds →
    ∃ r, elementKids parent ds acc depth = .ok r
  | _, [], _, _, _ => by unfold elementKids; exact ⟨_, rfl⟩
  | parent, d :: ds, acc, depth, h => by
    unfold DomOkL at h
    unfold elementKids
    obtain ⟨⟨boxes, d1⟩, hr⟩ := element_to_box_total false d depth h.1
    simp only [hr]
    exact element_kids_total parent ds _ d1 h.2
end


/-- **Elements generate the boxes their computed display prescribes**: whatever `element_to_box` returns
for an element is nothing when its computed display is `none`, and otherwise exactly one box, of the class
`BOX_TYPE_FROM_DISPLAY` gives for the computed display — a class of the prescribed nature — carrying the
element's `float` / `position` (computed) and attributes; white-space processing, text-transform, markers,
`::before` / `::after` and children change neither. -/
theorem element_to_box_class (root : Bool) (es : EStyle) (attrs : El) (marker : Option MarkerSpec)
    (before after : Option Pseudo) (text : Text) (kids : List Dom) (tail : Text) (depth : Nat)
    (out : List KBox) (depth' : Nat) (hs : StyleOk es)
    (h : elementToBox root (.el es attrs marker before after text kids tail) depth = .ok (out, depth')) :
    (blockify es.display es.float es.position root = ["none"] ∧ out = [] ∧ depth' = depth) ∨
    ∃ b k, out = [b] ∧ b.kind = k ∧ boxTypeFromDisplay (blockify es.display es.float es.position root) = some k ∧
      rightBox ((blockify es.display es.float es.position root).take 2) k = true ∧
      b.st = mkStyle es (blockify es.display es.float es.position root) ∧ b.el = attrs := by
  rcases elementToBox_cases rfl h with h0 | ⟨hn, k, ms, d1, bs, d2, accRev, d3, as, hk, _, _, _, _, rfl⟩
  · exact Or.inl h0
  · rcases computed_display_to_box_right es.display hs.1 es.float es.position root with h0 | ⟨k', hk', hr⟩
    · exact absurd h0 hn
    · rw [hk] at hk'
      cases hk'
      exact Or.inr ⟨_, k, rfl, (elFinish_proj _ _ _ _).1, hk, hr, (elFinish_proj _ _ _ _).2⟩

/-- Hence, on a well-styled document whose root element generates a box, **whatever makes
`build_formatting_structure` fail lies in the anonymous-box fix-ups**, never in box generation: the root box
exists, has the class of the root's computed display, and the failure is `create_anonymous_boxes`' (of which
`build_formatting_structure_errors` lists the kinds and `Witness.C08.running_row_not_fixed` is the one known
instance). -/
theorem build_formatting_structure_fails_only_in_fixups (es : EStyle) (attrs : El) (marker : Option MarkerSpec)
    (before after : Option Pseudo) (text : Text) (kids : List Dom) (tail : Text)
    (hd : DomOk (.el es attrs marker before after text kids tail))
    (hroot : blockify es.display es.float es.position true ≠ ["none"]) (e : BErr)
    (h : buildFormattingStructure (.el es attrs marker before after text kids tail) = .error e) :
    ∃ b depth k, elementToBox true (.el es attrs marker before after text kids tail) 0 = .ok ([b], depth) ∧
      b.kind = k ∧ boxTypeFromDisplay (blockify es.display es.float es.position true) = some k ∧
      createAnonymousBoxes b = .error e := by
  obtain ⟨⟨out, depth⟩, hr⟩ := element_to_box_total true _ 0 hd
  have hs : StyleOk es := by unfold DomOk at hd; exact hd.1
  rcases element_to_box_class true es attrs marker before after text kids tail 0 out depth hs hr with
    ⟨hn, _, _⟩ | ⟨b, k, rfl, hk, hbt, _, _, _⟩
  · exact absurd hn hroot
  · refine ⟨b, depth, k, hr, hk, hbt, ?_⟩
    unfold buildFormattingStructure at h
    rw [hr] at h
    exact h

/-! ## From the function-level white-space theorem to elements

`InlineDom d`: `d` and its descendants are inline elements in normal flow (`display: inline`, no float, static
position) with a collapsing `white-space`, no `text-transform`, no `::before` / `::after`. -/

private theorem pw_parent (k : BoxKind) (st : Style) (el : El) (inst : Inst) (ks : List KBox)
    (hnt : Gen.isSub k .TextBox = false) :
    (pw (.mk k st el inst [] ks []) false).1 = .mk k st el inst [] (pwKids ks false).1 [] := by
  unfold pw
  simp only [hnt, Bool.false_eq_true, if_false]

private theorem ptt_parent (k : BoxKind) (st : Style) (el : El) (inst : Inst) (ks : List KBox)
    (hnt : Gen.isSub k .TextBox = false) (hks : ICPL ks) :
    ptt (.mk k st el inst [] ks []) = .mk k st el inst [] ks [] := by
  unfold ptt
  simp only [hnt, Bool.false_eq_true, if_false, pttKids_icp ks hks]
  split <;> rfl

/-- **The white-space clause on elements.**  An element of *any* display — block, list-less inline-block,
table cell, a float, an absolutely positioned box, the root — whose content is text and inline elements in
normal flow with a collapsing `white-space` (`InlineDomL kids`, and the element's own `white-space`
collapses): the text of the box `element_to_box` returns for it never has two consecutive spaces, whatever
spaces, tabs and newlines the text nodes and tails of its subtree contain and however they are split over
elements — the state "a collapsible space precedes" is threaded through all of them. -/
theorem element_inline_content_no_double_space (root : Bool) (es : EStyle) (attrs : El) (marker : Option MarkerSpec)
    (text : Text) (kids : List Dom) (tail : Text) (depth : Nat) (b : KBox) (depth' : Nat)
    (hplain : spaceCollapse es.ws = true ∧ es.tt = .none ∧ es.hyph = false)
    (hli : (blockify es.display es.float es.position root).contains "list-item" = false)
    (hk : InlineDomL kids)
    (h : elementToBox root (.el es attrs marker none none text kids tail) depth = .ok ([b], depth')) :
    noDoubleSp (leafText b) = true := by
  rcases elementToBox_plain rfl hli h with ⟨_, h0, _⟩ | ⟨k, accRev, hkind, hkids, hb⟩
  · cases h0
  · cases hb
    have hnt := boxKind_not_text _ k hkind
    have hpar : PlainParent (elBox es (blockify es.display es.float es.position root) k attrs) :=
      ⟨hplain.2.1, hplain.2.2, hplain.1⟩
    have hacc := elementKids_inline _ kids _ depth accRev depth' hpar hk (by
      intro c hc
      split at hc
      · cases hc
      · rw [List.mem_singleton] at hc
        subst hc
        exact textBoxFrom_icp _ _ hpar) hkids
    have hicp : ICPL accRev.reverse := (icpl_iff _).2 (fun c hc => hacc c (List.mem_reverse.mp hc))
    simp only [elBox, KBox.withKids]
    rw [pw_parent _ _ _ _ _ hnt, ptt_parent _ _ _ _ _ hnt (pwKids_icp _ false hicp), ← pw_parent _ _ _ _ _ hnt]
    have hifc : IFC (KBox.mk k (mkStyle es (blockify es.display es.float es.position root)) attrs
        (initInst k attrs) [] accRev.reverse []) := by
      unfold IFC
      exact ⟨hnt, rfl, icpl_icl _ hicp⟩
    exact (whitespace_across_boxes_any_container _ false hifc).1

/-! Non-vacuity: `li(list-item, float: left)[ ::marker{display: none}, ::before{display: list-item; content:
open-quote "x"}, "a", span(inline-table) ]` is `DomOk`; it generates one block box holding the pseudo-element's
box, the text and the inline table. -/
private def mk0 : MarkerSpec := ⟨{ display := ["none"] }, .inhibit, some [8226, 32]⟩
private def sampleDom : Dom :=
  .el { display := ["block", "flow", "list-item"], float := "left" } {} (some mk0)
    (some ⟨{ display := ["block", "flow", "list-item"] }, .items [.quote true true, .str [120]]⟩) none [97]
    [.el { display := ["inline", "table"] } {} (some mk0) none none [98] [] []] []

example : DomOk sampleDom := by
  simp only [sampleDom, mk0, DomOk, DomOkL, StyleOk, PseudoOk, QuotesOk]
  refine ⟨⟨by decide, by decide, by decide, trivial⟩, ⟨_, rfl, by decide, by decide, by decide, trivial⟩,
    ⟨by decide, by decide, by decide, trivial⟩, trivial,
    ⟨⟨by decide, by decide, by decide, trivial⟩, ⟨_, rfl, by decide, by decide, by decide, trivial⟩, trivial, trivial,
      trivial⟩, trivial⟩

example : (match elementToBox true sampleDom 0 with
    | .ok (out, depth) => (out.map (fun (b : KBox) => (b.kind, b.st.flt, b.kids.map (fun (c : KBox) => c.kind))), depth)
    | .error _ => ([], 99)) = ([(.BlockBox, true, [.BlockBox, .TextBox, .InlineTableBox])], 1) := by
  decide +kernel

/-! Non-vacuity: `div(float: left)[ "a \t", span[ " b ", em[" "], "\n" ], " c" ]` → `a b c`. -/
private def inl (text : Text) (kids : List Dom) (tail : Text) : Dom :=
  .el { display := ["inline", "flow"] } {} (some mk0) none none text kids tail
private def floatDiv : Dom :=
  .el { display := ["block", "flow"], float := "left" } {} (some mk0) none none [97, 32, 9]
    [inl [32, 98, 32] [inl [32] [] [10]] [32, 99]] []

example : (match floatDiv with | .el _ _ _ _ _ _ kids _ => InlineDomL kids) := by
  simp only [floatDiv, inl, InlineDomL, InlineDom, InlineStyle]
  repeat' constructor
  all_goals first | trivial | rfl | decide

example : (match elementToBox false floatDiv 0 with
    | .ok ([b], _) => (b.kind, b.st.flt, leafText b) | _ => (.TextBox, false, [])) =
    (.BlockBox, true, [97, 32, 98, 32, 99]) := by
  decide +kernel

end Wp.C08
