/-
C03 (geometry) for PM stage 2c: every line of every page ends above the bottom of the page area, unless it is
the first line of the first content placed on an empty page or the first line of a column box — for ALL documents
of the extended grammar (any columns, `column-span: all` children included, any break values, fixed heights,
nested blocks, the second layout with a larger bottom space, `find_earlier_page_break`) whose line heights are a
function of the paragraph id (`LhOk`, below) and whose decorations are not negative: `DecoOk` = stage-1 `PStyle.DecoOk` in paragraphs and blocks, and for a container only
`padding-bottom + border-bottom ≥ 0` (always true in CSS).  Before the repair 94e08d4 of /repo the statement was
false for a container with `margin-bottom + padding-bottom + border-bottom < 0` (the second layout of
`block_box_layout` could shrink the bottom space); `Witness.C01Col.container_negative_margin_fits` is the
regression theorem on the former counterexample.

`container_after_span_fits` is the strict complement for the exemption "first line of a column box": a column box
that follows a spanning block in the same container fragment was laid out with `page_is_empty = False`, so ALL its
lines fit, the first one included (the class of the seeded change C03-2: `columns_layout` no longer clearing
`page_is_empty` after a spanning block).

`paginate_after_span_fits` lifts it to every page of a paginated document (`strictLines`: the whole fragment tree,
`Lemmas/ColGeoPage.lean`), and `afterSpan_not_exempt` shows that the collected lines really carry no exemption
(unless a container is nested inside the column).  The theorem form of the geometry oracle
`pm_col_corr.geometry_violation` ("a line below the page bottom is first on its page, or first in a column of a
group before which nothing was placed") is `paginate_true_fits`, over the collector `PMC.trueLines`; the page
statements over `placedLines` (first line of every column exempt) and `strictLines` (only the columns after a
spanning block, none exempt) follow from it and each say less.

`lh` maps a paragraph id to its line height (paragraph fragments do not record it); `LhOk lh box` says it agrees
with the source: a hypothesis of every statement below. No theorem builds an `lh` from a document (one exists when
paragraphs with the same id have the same line height); the examples use a constant one.
-/
import WpModel.Lemmas.ColGeo
import WpModel.Lemmas.ColGeoStrict
import WpModel.Lemmas.ColGeoFirst
import WpModel.Lemmas.ColGeoPage
import WpModel.Lemmas.ColSegPages

namespace Wp.C03GeoCol
open Wp Wp.PM Wp.PMC

/-- **Line fits, whole layout.** -/
theorem layout_line_fits (lh : Nat → Rat) (box : ColBox) (hd : PMC.DecoOk box) (hl : LhOk lh box) (c : CCtx)
    (idx : Nat) (y bs : Rat) (skip : Option Resume) (cb pie : Bool) (adjL : List Rat) (f : CFrag)
    (hf : (PMC.layoutBox c box idx y bs skip cb pie adjL).frag = some f) :
    ∀ l ∈ PMC.placedLines lh f pie, l.exempt = true ∨ c.overflowsPage bs (l.y + l.lineH) = false :=
  PMC.box_placed_fits lh box hd hl c idx y bs skip cb pie adjL f hf

/-- Each column box of a container, taken alone: its lines fit above the bottom space it was given (at least the
container's), the first one excepted. -/
theorem column_line_fits (lh : Nat → Rat) (kids : List ColBox) (hd : PMC.DecoOkList kids) (hl : LhOkList lh kids)
    (c : CCtx) (st : PStyle) (flags : List Bool) (a skipIdx : Nat) (bs : Rat) (pie : Bool) (s : PMC.KidsLoop)
    (hs : s.newChildren = []) :
    ∀ l ∈ PMC.placedList lh (PMC.layoutKids c st kids flags 0 skipIdx a bs pie s).children true,
      l.exempt = true ∨ c.overflowsPage bs (l.y + l.lineH) = false :=
  (PMC.placedList_true lh _ true pie pie (fun _ => rfl)).linesFit _
    (PMC.kids_fits lh kids (PMC.boxes_fits lh kids hd hl) c st flags 0 skipIdx a bs pie s
      (by rw [hs]; exact PMC.linesOk_nil c bs))

theorem decoOk_emptyRoot (b : ColBox) (h : PMC.DecoOk b) : PMC.DecoOk (PMC.emptyRoot b) := by
  cases b with
  | para id n lh st => simpa [PMC.emptyRoot, PMC.DecoOk] using h
  | block id st kids =>
    simp only [PMC.DecoOk] at h
    simp [PMC.emptyRoot, PMC.DecoOk, PMC.DecoOkList, h.1]
  | columns id st cs flags kids =>
    simp only [PMC.DecoOk] at h
    simp [PMC.emptyRoot, PMC.DecoOk, PMC.DecoOkList, h.1]

theorem lhOk_emptyRoot (lh : Nat → Rat) (b : ColBox) (h : LhOk lh b) : LhOk lh (PMC.emptyRoot b) := by
  cases b with
  | para id n l st => simpa [PMC.emptyRoot, LhOk] using h
  | block id st kids => simp [PMC.emptyRoot, LhOk, LhOkList]
  | columns id st cs flags kids => simp [PMC.emptyRoot, LhOk, LhOkList]

/-- From layouts to pages: lines `L f` that every layout of a box from the top of an empty page keeps above its
bottom space (or exempts) end, on every page of the document, above the page bottom (`pageH`, with the layout's
fudge factor `1 + 10⁻⁹`) or are exempt. -/
theorem pages_fit (lh : Nat → Rat) (d : CDoc) (hd : PMC.DecoOk d.root) (hl : LhOk lh d.root)
    (L : CFrag → List PlacedLine)
    (hL : ∀ box, PMC.DecoOk box → LhOk lh box → ∀ (c : CCtx) (resume : Option Resume) (f : CFrag),
      (PMC.layoutBox c box 0 0 0 resume false true []).frag = some f → PMC.LinesOk c 0 (L f))
    (fuel : Nat) (pages : List CPage) (h : paginateCol d fuel = .ok pages) :
    ∀ p ∈ pages, ∀ l ∈ L p.root, l.exempt = true ∨ l.y + l.lineH ≤ d.pageH * (1 + 1 / 1000000000) := by
  refine PMC.makeAllPages_forall d _ ?_ fuel 0 none _ _ pages h
  intro index resume np right p hp l hlmem
  obtain ⟨c, root, hroot, hb, hi, hf⟩ := PMC.remakePage_root d index resume np right p hp
  have hbox : PMC.DecoOk root ∧ LhOk lh root := by
    rcases hroot with rfl | rfl
    · exact ⟨hd, hl⟩
    · exact ⟨decoOk_emptyRoot _ hd, lhOk_emptyRoot lh _ hl⟩
  rcases hL root hbox.1 hbox.2 c resume p.root hf l hlmem with h | h
  · left; exact h
  · right
    simp only [CCtx.overflowsPage, hi, hb, overflows, PlacedLine.bottom, Bool.false_or,
      decide_eq_false_iff_not] at h
    grind

/-- **The oracle's rule on every page** (`pm_col_corr.geometry_violation`): a line that ends below the page bottom is
the first line placed on its page, or the first line of a column box of a group before which no line was placed
(`trueLines`). The two page statements over `placedLines` and `strictLines` are its instances. -/
theorem paginate_true_fits (lh : Nat → Rat) (d : CDoc) (hd : PMC.DecoOk d.root) (hl : LhOk lh d.root) (fuel : Nat)
    (pages : List CPage) (h : paginateCol d fuel = .ok pages) :
    ∀ p ∈ pages, ∀ l ∈ PMC.trueLines lh p.root true,
      l.exempt = true ∨ l.y + l.lineH ≤ d.pageH * (1 + 1 / 1000000000) :=
  pages_fit lh d hd hl (fun f => PMC.trueLines lh f true)
    (fun box hd hl c resume f hf => (PMC.box_fits lh box hd hl c 0 0 0 resume false true [] f hf).1) fuel pages h

/-- **Line fits, all pages** of a paginated document. -/
theorem paginate_line_fits (lh : Nat → Rat) (d : CDoc) (hd : PMC.DecoOk d.root) (hl : LhOk lh d.root) (fuel : Nat)
    (pages : List CPage) (h : paginateCol d fuel = .ok pages) :
    ∀ p ∈ pages, ∀ l ∈ PMC.placedLines lh p.root true,
      l.exempt = true ∨ l.y + l.lineH ≤ d.pageH * (1 + 1 / 1000000000) :=
  fun p hp l hl' => (PMC.placedLines_true lh p.root true true (fun _ h => h) l hl').elim .inl
    (paginate_true_fits lh d hd hl fuel pages h p hp l)

/-! ### which lines are exempt: the first line of the page, the first line of each column -/

mutual
/-- Number of column boxes in a fragment tree. -/
def columnCount : CFrag → Nat
  | .para _ _ _ _ _ _ => 0
  | .block _ _ _ _ kids => columnCountList kids
  | .cols _ _ _ _ kids => columnCountList kids
  | .column _ _ _ _ kids => 1 + columnCountList kids
def columnCountList : List CFrag → Nat
  | [] => 0
  | f :: fs => columnCount f + columnCountList fs
end

def exemptCount (L : List PlacedLine) : Nat := (L.filter (·.exempt)).length

theorem exemptCount_append (A B : List PlacedLine) : exemptCount (A ++ B) = exemptCount A + exemptCount B := by
  simp [exemptCount]

theorem paraPlaced_exemptCount (pie : Bool) (id : Nat) (lineH : Rat) (lines : List (Nat × Rat)) :
    exemptCount (paraPlaced pie id lineH lines) ≤ (if pie then 1 else 0) := by
  cases lines with
  | nil => simp [paraPlaced, exemptCount]
  | cons a l =>
    cases pie <;> simp [paraPlaced, exemptCount, List.filter_map, Function.comp_def]

mutual
/-- At most one exempt line per column box, plus one for the page when it was empty. -/
theorem placedLines_exemptCount (lh : Nat → Rat) : (f : CFrag) → ∀ (pie : Bool),
    exemptCount (PMC.placedLines lh f pie) ≤ columnCount f + (if pie then 1 else 0)
  | .para id _ _ _ _ lines => by
    intro pie
    simp only [PMC.placedLines, columnCount, Nat.zero_add]
    exact paraPlaced_exemptCount _ _ _ _
  | .block _ _ _ _ kids | .cols _ _ _ _ kids => by
    intro pie; simp only [PMC.placedLines, columnCount]; exact placedList_exemptCount lh kids pie
  | .column _ _ _ _ kids => by
    intro pie
    simp only [PMC.placedLines, columnCount]
    have := placedList_exemptCount lh kids true
    simp only [if_true] at this
    split <;> omega
theorem placedList_exemptCount (lh : Nat → Rat) : (fs : List CFrag) → ∀ (pie : Bool),
    exemptCount (PMC.placedList lh fs pie) ≤ columnCountList fs + (if pie then 1 else 0)
  | [] => by intro pie; simp [PMC.placedList, exemptCount, columnCountList]
  | f :: rest => by
    intro pie
    simp only [PMC.placedList, columnCountList, exemptCount_append]
    have h1 := placedLines_exemptCount lh f pie
    have h2 := placedList_exemptCount lh rest false
    simp only [Bool.false_eq_true, if_false, Nat.add_zero] at h2
    omega
end

/-- On a page without column boxes (in particular every page of a stage-1 document) at most one line — the
first — may cross the page bottom; with `k` column boxes at most `k + 1`. -/
theorem page_exempt_bound (lh : Nat → Rat) (p : CPage) :
    exemptCount (PMC.placedLines lh p.root true) ≤ columnCount p.root + 1 := by
  have := placedLines_exemptCount lh p.root true
  simpa using this

/-! ### non-vacuity: a balanced 2-column container with padding, between paragraphs (three pages) -/

def exSt : PStyle := plainSt

def exDoc : CDoc :=
  { pageH := 40, rootLtr := true,
    root := .block 9 { exSt with isRoot := true } [.block 8 exSt
      [.para 1 3 10 exSt,
       .columns 4 { exSt with mt := 5, pb := 2, bb := 1 } { count := 2, balance := true, ltr := true, width := 192 }
         [false, true, false]
         [.para 2 6 10 exSt, .para 6 1 10 exSt, .para 3 2 10 { exSt with mt := 4 }],
       .para 5 2 10 exSt]] }

example : PMC.DecoOk exDoc.root ∧ LhOk (fun _ => 10) exDoc.root := by
  constructor
  · simp only [exDoc, exSt, PMC.DecoOk, PMC.DecoOkList, PStyle.DecoOk]
    decide +kernel
  · simp [exDoc, LhOk, LhOkList]

/-- (page, paragraph, line, top, exempt) of every placed line: the container has a span child here. -/
example : (match paginateCol exDoc 30 with
    | .ok ps => ps.map (fun (p : CPage) =>
        (PMC.placedLines (fun _ => 10) p.root true).map fun (l : PlacedLine) => (l.para, l.line, l.y, l.exempt))
    | _ => []) =
    [[(1, 0, 0, true), (1, 1, 10, false), (1, 2, 20, false)],
     [(2, 0, 0, true), (2, 1, 10, false), (2, 2, 20, false), (2, 3, 0, true), (2, 4, 10, false), (2, 5, 20, false),
      (6, 0, 30, false)],
     [(3, 0, 4, true), (3, 1, 0, true), (5, 0, 17, false), (5, 1, 27, false)]] := by
  decide +kernel

/-! ### no exemption for the columns that follow a spanning block -/

/-- **Columns after a spanning block fit entirely.** For every `block_level_layout` call on a multi-column
container (any columns, spans, heights, break values; `DecoOk` as above): in the returned fragment, every line of
every column box that comes after a spanning block ends above `pageBottom − bs` — `afterSpan` marks none of them
exempt. -/
theorem container_after_span_fits (lh : Nat → Rat) (id : Nat) (st : PStyle) (cs : ColSpec) (flags : List Bool)
    (kids : List ColBox) (hd : PMC.DecoOk (.columns id st cs flags kids))
    (hl : LhOk lh (.columns id st cs flags kids))
    (c : CCtx) (idx : Nat) (y bs : Rat) (skip : Option Resume) (cb pie : Bool) (adjL : List Rat) (f : CFrag)
    (hf : (PMC.layoutBox c (.columns id st cs flags kids) idx y bs skip cb pie adjL).frag = some f) :
    ∀ l ∈ PMC.afterSpan lh f.kids false, l.exempt = true ∨ c.overflowsPage bs (l.y + l.lineH) = false :=
  PMC.container_after_span_fits lh id st cs flags kids hd hl c idx y bs skip cb pie adjL f hf

/-- Non-vacuity: a group, a spanning block cut by the page, a group (40px pages).  On page 2 the rest of the
spanning block takes 30px; the two columns after it hold one line each, bottom at 40 = the page bottom, and these
lines are not exempt. -/
def exSpan : CDoc :=
  { pageH := 40, rootLtr := true,
    root := .block 9 { exSt with isRoot := true } [.block 8 exSt
      [.columns 7 exSt { count := 2, balance := true, ltr := true, width := 192 } [false, true, false]
        [.para 6 2 10 exSt,
         .block 5 exSt [.para 1 2 10 exSt, .para 2 4 10 exSt],
         .para 3 4 10 exSt]]] }

example : (match paginateCol exSpan 30 with
    | .ok ps => ps.map (fun (p : CPage) =>
        ((p.root.kids.flatMap CFrag.kids).flatMap fun (f : CFrag) => PMC.afterSpan (fun _ => 10) f.kids false).map
          fun (l : PlacedLine) => (l.para, l.line, l.y + l.lineH, l.exempt))
    | _ => []) = [[], [(3, 0, 40, false), (3, 1, 40, false)], []] := by decide +kernel

/-! ### page level: no exemption for the columns that follow a spanning block -/

/-- **Columns after a spanning block fit entirely, whole layout**: `strictLines` collects, over the whole
fragment tree returned by a `block_level_layout` call, the lines of the column boxes that follow a spanning block
in their container; none of them is marked exempt by its column, and all end above `pageBottom − bs`. -/
theorem layout_after_span_fits (lh : Nat → Rat) (box : ColBox) (hd : PMC.DecoOk box) (hl : LhOk lh box) (c : CCtx)
    (idx : Nat) (y bs : Rat) (skip : Option Resume) (cb pie : Bool) (adjL : List Rat) (f : CFrag)
    (hf : (PMC.layoutBox c box idx y bs skip cb pie adjL).frag = some f) :
    ∀ l ∈ PMC.strictLines lh f, l.exempt = true ∨ c.overflowsPage bs (l.y + l.lineH) = false :=
  PMC.box_page lh box hd hl c idx y bs skip cb pie adjL f hf

/-- **All pages of a paginated document**: on every page, every line of every column box that follows a spanning
block in its container ends above the page bottom (with the layout's fudge factor) — the first line of such a
column is NOT exempt (`paginate_line_fits` exempts the first line of every column box; here `exempt` can only come
from a container nested inside such a column). -/
theorem paginate_after_span_fits (lh : Nat → Rat) (d : CDoc) (hd : PMC.DecoOk d.root) (hl : LhOk lh d.root)
    (fuel : Nat) (pages : List CPage) (h : paginateCol d fuel = .ok pages) :
    ∀ p ∈ pages, ∀ l ∈ PMC.strictLines lh p.root,
      l.exempt = true ∨ l.y + l.lineH ≤ d.pageH * (1 + 1 / 1000000000) :=
  fun p hp l hl' => (PMC.strictLines_true lh p.root true l hl').elim .inl
    (paginate_true_fits lh d hd hl fuel pages h p hp l)

/-- Column boxes nested inside the children of the given fragments (containers inside columns). -/
def nestedColumns : List CFrag → Nat
  | [] => 0
  | f :: rest => columnCountList f.kids + nestedColumns rest

/-- **The lines `afterSpan` collects are not exempt**: an exemption can only come from a column box of a container
nested inside the column (at most one line per such nested column box); for a container whose columns hold only
paragraphs and blocks none of the collected lines is exempt. -/
theorem afterSpan_exemptCount (lh : Nat → Rat) : (l : List CFrag) → ∀ (seen : Bool),
    exemptCount (PMC.afterSpan lh l seen) ≤ nestedColumns l
  | [] => by intro seen; simp [PMC.afterSpan, exemptCount, nestedColumns]
  | f :: rest => by
    intro seen
    simp only [PMC.afterSpan, nestedColumns, exemptCount_append]
    have h1 := placedList_exemptCount lh f.kids false
    simp only [Bool.false_eq_true, if_false, Nat.add_zero] at h1
    have h2 := afterSpan_exemptCount lh rest (seen || !f.isColumn)
    split
    · omega
    · simp only [exemptCount, List.filter_nil, List.length_nil] at *
      omega

theorem afterSpan_not_exempt (lh : Nat → Rat) (l : List CFrag) (seen : Bool) (h : nestedColumns l = 0) :
    ∀ p ∈ PMC.afterSpan lh l seen, p.exempt = false := by
  have hc := afterSpan_exemptCount lh l seen
  rw [h] at hc
  intro p hp
  cases he : p.exempt with
  | false => rfl
  | true =>
    have : p ∈ (PMC.afterSpan lh l seen).filter (·.exempt) := List.mem_filter.mpr ⟨hp, he⟩
    have hl : 0 < ((PMC.afterSpan lh l seen).filter (·.exempt)).length := List.length_pos_of_mem this
    simp only [exemptCount] at hc
    omega

/-- Without nested containers nothing is exempt: the lines of a column that follows a spanning block and holds only
paragraphs and blocks are all checked. -/
example : (match paginateCol exSpan 30 with
    | .ok ps => ps.map (fun (p : CPage) =>
        (PMC.strictLines (fun _ => 10) p.root).map fun (l : PlacedLine) => (l.para, l.line, l.y + l.lineH, l.exempt))
    | _ => []) = [[], [(3, 0, 40, false), (3, 1, 40, false)], []] := by decide +kernel

example : PMC.DecoOk exSpan.root ∧ LhOk (fun _ => 10) exSpan.root := by
  constructor
  · simp only [exSpan, exSt, PMC.DecoOk, PMC.DecoOkList, PStyle.DecoOk]
    decide +kernel
  · simp [exSpan, LhOk, LhOkList]

/-! ### a container that is not the first content of its page: no exemption at all -/

/-- **A container laid out with `page_is_empty = False`** (something was placed on the page before it): every line
of every column box of the returned fragment — the first group included — ends above `pageBottom − bs`;
`afterSpan lh kids true` marks none of them exempt (`afterSpan_not_exempt`).  With `container_after_span_fits` this
is the whole of the oracle's rule "the first line of a column may cross the page bottom only if nothing was placed
on the page before its group". -/
theorem container_not_first_fits (lh : Nat → Rat) (id : Nat) (st : PStyle) (cs : ColSpec) (flags : List Bool)
    (kids : List ColBox) (hd : PMC.DecoOk (.columns id st cs flags kids))
    (hl : LhOk lh (.columns id st cs flags kids))
    (c : CCtx) (idx : Nat) (y bs : Rat) (skip : Option Resume) (cb : Bool) (adjL : List Rat) (f : CFrag)
    (hf : (PMC.layoutBox c (.columns id st cs flags kids) idx y bs skip cb false adjL).frag = some f) :
    ∀ l ∈ PMC.afterSpan lh f.kids true, l.exempt = true ∨ c.overflowsPage bs (l.y + l.lineH) = false :=
  PMC.container_not_first_fits lh id st cs flags kids hd hl c idx y bs skip cb adjL f hf

/-- Non-vacuity: a 2-line paragraph, then a container (`margin-top: 5px`) on 40px pages: on page 1 the container
starts at y = 25 with `page_is_empty = False`; its two columns hold one line each, bottom 35, not exempt. -/
def exFirst : CDoc :=
  { pageH := 40, rootLtr := true,
    root := .block 9 { exSt with isRoot := true } [.block 8 exSt
      [.para 1 2 10 exSt,
       .columns 4 { exSt with mt := 5 } { count := 2, balance := true, ltr := true, width := 192 } [false]
         [.para 2 6 10 exSt]]] }

example : (match paginateCol exFirst 30 with
    | .ok ps => (ps.take 1).map (fun (p : CPage) =>
        ((p.root.kids.flatMap CFrag.kids).flatMap fun (f : CFrag) => PMC.afterSpan (fun _ => 10) f.kids true).map
          fun (l : PlacedLine) => (l.para, l.line, l.y + l.lineH, l.exempt))
    | _ => []) = [[(2, 0, 35, false), (2, 1, 35, false)]] := by decide +kernel

end Wp.C03GeoCol
