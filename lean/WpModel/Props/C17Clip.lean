/-
C17 — "clipped by overflow and clip ancestors": the rectangle of the `clip` property.
`outer_clips_apply_to_subtree` (Props/C17Paint) puts `Clip.clipProp id` on the clip stack of every item of
the subtree of an absolutely positioned box with `clip`; this file says which rectangle that is
(`Model/ClipRect.lean`, compared path by path in `scene-geometry`) against CSS 2.1 11.1.2.
-/
import WpModel.Model.ClipRect
namespace Wp.C17
open Wp Wp.ClipRect

/-- **Vertical extent of the `clip` region, full strength**: the rectangle starts at the `top` offset
below the top border edge and ends at the `bottom` offset (`auto` = the border edges), for every value. -/
theorem clip_rect_vertical (bbx bby bw bh : Rat) (c : ClipProp) :
    (clipRect bbx bby bw bh c).2.1 = (cssClipEdges bbx bby bw bh c).2.2.1 ∧
    (clipRect bbx bby bw bh c).2.1 + (clipRect bbx bby bw bh c).2.2.2 = (cssClipEdges bbx bby bw bh c).2.2.2 := by
  refine ⟨rfl, ?_⟩
  simp only [clipRect, cssClipEdges]
  grind

/-- **Horizontal extent (partial: `left` and `right` both lengths, or both `auto`)**: the rectangle is
written from the `right` edge with the negative width `left − right`, so its two vertical edges are the
`left` and `right` offsets from the left border edge.  When exactly one of the two is `auto` the code
substitutes the *other* side's default (`right: auto` → 0, `left: auto` → border width):
`Witness.C17.clip_auto_sides_swapped`, finding `clip-auto-sides-swapped`. -/
theorem clip_rect_horizontal_partial (bbx bby bw bh : Rat) (c : ClipProp)
    (h : c.left.isSome = c.right.isSome) :
    ((clipRect bbx bby bw bh c).1 = (cssClipEdges bbx bby bw bh c).2.1 ∧
      (clipRect bbx bby bw bh c).1 + (clipRect bbx bby bw bh c).2.2.1 = (cssClipEdges bbx bby bw bh c).1) ∨
    ((clipRect bbx bby bw bh c).1 = (cssClipEdges bbx bby bw bh c).1 ∧
      (clipRect bbx bby bw bh c).1 + (clipRect bbx bby bw bh c).2.2.1 = (cssClipEdges bbx bby bw bh c).2.1) := by
  cases hl : c.left <;> cases hr : c.right <;> simp [hl, hr] at h
  · right
    simp only [clipRect, cssClipEdges, hl, hr, Option.getD]
    constructor <;> grind
  · left
    simp only [clipRect, cssClipEdges, hl, hr, Option.getD]
    constructor <;> grind

/-- As regions: with ordered offsets (`left ≤ right`) the edges of the written rectangle are exactly the
CSS edges. -/
theorem clip_rect_region_partial (bbx bby bw bh : Rat) (c : ClipProp) (l r : Rat)
    (hl : c.left = some l) (hr : c.right = some r) (hlr : l ≤ r) :
    xEdges (clipRect bbx bby bw bh c) = (bbx + l, bbx + r) := by
  simp only [xEdges, clipRect, hl, hr, Option.getD]
  by_cases h : l - r < 0
  · simp only [h, ↓reduceIte]
    apply Prod.ext <;> simp only <;> grind
  · simp only [h, ↓reduceIte]
    have : l = r := by grind
    subst this
    apply Prod.ext <;> simp only <;> grind

example : clipRect 50 30 50 40 ⟨some 5, some 30, some 20, some 10⟩ = (80, 35, -20, 15) ∧
    xEdges (clipRect 50 30 50 40 ⟨some 5, some 30, some 20, some 10⟩) = (60, 80) ∧
    cssClipEdges 50 30 50 40 ⟨some 5, some 30, some 20, some 10⟩ = (60, 80, 35, 50) := by
  decide +kernel

example : (⟨some 5, some 30, some 20, some 10⟩ : ClipProp).left.isSome =
    (⟨some 5, some 30, some 20, some 10⟩ : ClipProp).right.isSome := by decide

end Wp.C17
