/-
C10 — "cells of a row share its top and (when not row-spanning) its height": theorems about the row
height algorithm `Model/TableRowHeights.lean` (↔ the "table height algorithm" part of `group_layout`).
-/
import Mathlib.Tactic.Linarith
import Mathlib.Tactic.Ring
import WpModel.Model.TableRowHeights

namespace Wp.C10.Heights
open Wp Wp.RowHeights

/-- **stretch_reaches_bottom.** Whatever `vertical-align` says (top padding, bottom padding, or half
and half), the extra padding makes the cell's border box end exactly at the row bottom. -/
theorem stretch_reaches_bottom (rowBottom : Rat) (p : Placed) :
    (stretch rowBottom p).y + (stretch rowBottom p).borderHeight = rowBottom := by
  unfold stretch
  simp only
  split
  · rename_i h0
    linarith
  · cases hv : p.cell.valign <;> simp only [Placed.borderHeight] <;> ring

/-- `stretch` does not move the cell nor change its content. -/
theorem stretch_keeps (rowBottom : Rat) (p : Placed) :
    (stretch rowBottom p).y = p.y ∧ (stretch rowBottom p).cell = p.cell := by
  unfold stretch
  simp only
  split
  · exact ⟨rfl, rfl⟩
  · cases p.cell.valign <;> exact ⟨rfl, rfl⟩

/-- **row_height.** After a row is processed, every cell ending in it (the row's own non-spanning
cells and the row-spanning cells of earlier rows that end here) has its border box ending at the row
bottom; when a cell ends in the row, the row bottom is `row.y + row.height` — always for a specified
row height, and for an auto height as soon as the bottom is not above the row's top.  Hence a
non-row-spanning cell (which starts at the row's top) is exactly as high as its row. -/
theorem row_height (y : Rat) (row : HRow) (pending : List (Nat × Placed)) (out : RowOut)
    (later : List (Nat × Placed)) (h : rowStep y row pending = .ok (out, later)) :
    out.y = y ∧
    (∀ p ∈ out.ending, p.y + p.borderHeight = out.fallback) ∧
    (out.ending ≠ [] → (row.height ≠ none ∨ y ≤ out.fallback) → out.fallback = y + out.height) ∧
    (∀ p ∈ out.ending, p.y = y → out.ending ≠ [] → (row.height ≠ none ∨ y ≤ out.fallback) →
       p.borderHeight = out.height) := by
  have core : out.y = y ∧ (∀ p ∈ out.ending, p.y + p.borderHeight = out.fallback) ∧
      (out.ending ≠ [] → (row.height ≠ none ∨ y ≤ out.fallback) → out.fallback = y + out.height) := by
    revert h
    fun_cases rowStep y row pending <;> intro h <;> try cases h
    next hx =>
      obtain ⟨rfl, -⟩ := Prod.mk.inj (Except.ok.inj h)
      refine ⟨rfl, ?_, ?_⟩
      · intro p hp
        simp only [List.mem_map] at hp
        obtain ⟨q, _, rfl⟩ := hp
        exact stretch_reaches_bottom _ q
      · intro _ hcond
        cases hh : row.height with
        | none =>
          simp only [hh] at hx hcond
          obtain ⟨rfl, rfl⟩ := Prod.mk.inj hx
          rcases hcond with hc | hc
          · exact absurd rfl hc
          · split
            · ring
            · linarith [not_lt.mp ‹_›]
        | some hv =>
          simp only [hh] at hx
          obtain ⟨rfl, rfl⟩ := Prod.mk.inj hx
          rfl
    next =>
      obtain ⟨rfl, -⟩ := Prod.mk.inj (Except.ok.inj h)
      exact ⟨rfl, fun _ hp => (nomatch hp), fun hne => absurd rfl hne⟩
  obtain ⟨c1, c2, c3⟩ := core
  refine ⟨c1, c2, c3, ?_⟩
  intro p hp hpy hne hcond
  have e1 := c2 p hp
  have e2 := c3 hne hcond
  rw [hpy] at e1
  linarith

example : (rowsFrom 2 0 [⟨none, [⟨1, 1, 2, 10, 2, 1, .middle, 0⟩, ⟨1, 1, 2, 20, 2, 1, .bottom, 0⟩]⟩] []).toOption.map
    (fun outs => outs.map (fun o => (o.height, o.ending.map (fun p => (p.padTop, p.padBottom))))) =
    some [(26, [(7, 7), (2, 2)])] := by decide +kernel

end Wp.C10.Heights
