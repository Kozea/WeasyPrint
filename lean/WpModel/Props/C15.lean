/-
C15 — Counters and cross-references print the right numbers.  Property theorems.  All statements are about the
executable models of
  weasyprint/css/counters.py            (Model/Counters.lean),
  weasyprint/formatting_structure/build.py counter scoping (Model/CounterScope.lean),
  the layout_document / make_all_pages re-pagination control (Model/Repaginate.lean)
which the correspondence harness (py/props/c15.py) runs against the real functions on every check,
and about the UA counter-style table regenerated from the source (Gen/CounterStyles.lean).
-/
import WpModel.Model.Counters
import WpModel.Model.CounterScope
import WpModel.Model.Repaginate
import WpModel.Gen.CounterStyles
import WpModel.Lemmas.CounterColumn
import WpModel.Lemmas.Basic.List

namespace Wp.C15
open Wp.Counters

/-! ## Number systems -/

def decodeNum (k : Nat) (ds : List Nat) : Nat := ds.foldl (fun a d => a * k + d) 0
def decodeAlpha (k : Nat) (ds : List Nat) : Nat := ds.foldl (fun a d => a * k + d + 1) 0

/-- The shape both digit loops have: peel the last digit `r n` off, go on with `q n`. -/
private def digitsAux (q r : Nat → Nat) : Nat → Nat → List Nat → List Nat
  | 0, _, acc => acc
  | fuel + 1, n, acc => if n = 0 then acc else digitsAux q r fuel (q n) (r n :: acc)

private theorem numAux_eq (k : Nat) : ∀ fuel n acc,
    numDigitsAux k fuel n acc = digitsAux (· / k) (· % k) fuel n acc
  | 0, _, _ => rfl
  | fuel + 1, n, acc => by simp only [numDigitsAux, digitsAux, numAux_eq k fuel]

private theorem alphaAux_eq (k : Nat) : ∀ fuel n acc,
    alphaDigitsAux k fuel n acc = digitsAux (fun n => (n - 1) / k) (fun n => (n - 1) % k) fuel n acc
  | 0, _, _ => rfl
  | fuel + 1, n, acc => by simp only [alphaDigitsAux, digitsAux, alphaAux_eq k fuel]

private theorem digitsAux_acc (q r : Nat → Nat) : ∀ fuel n acc,
    digitsAux q r fuel n acc = digitsAux q r fuel n [] ++ acc
  | 0, _, _ => rfl
  | fuel + 1, n, acc => by
    unfold digitsAux
    split
    · rfl
    · rw [digitsAux_acc q r fuel (q n) (r n :: acc), digitsAux_acc q r fuel (q n) [r n], List.append_assoc]
      rfl

private theorem digitsAux_fold (q r : Nat → Nat) (c : Nat → Nat → Nat) (hq : ∀ n, n ≠ 0 → q n < n)
    (hc : ∀ n, n ≠ 0 → c (q n) (r n) = n) : ∀ fuel n, n ≤ fuel → (digitsAux q r fuel n []).foldl c 0 = n
  | 0, n, h => by rw [Nat.le_zero.mp h]; rfl
  | fuel + 1, n, h => by
    unfold digitsAux
    split
    · rename_i h0; rw [h0]; rfl
    · rename_i h0
      have := hq n h0
      rw [digitsAux_acc, List.foldl_append, digitsAux_fold q r c hq hc fuel (q n) (by omega)]
      exact hc n h0

private theorem digitsAux_lt (q r : Nat → Nat) (k : Nat) (hr : ∀ n, n ≠ 0 → r n < k) :
    ∀ fuel n, ∀ d ∈ digitsAux q r fuel n [], d < k
  | 0, _, d, hd => by cases hd
  | fuel + 1, n, d, hd => by
    unfold digitsAux at hd
    split at hd
    · cases hd
    · rename_i h0
      rw [digitsAux_acc] at hd
      rcases List.mem_append.mp hd with h | h
      · exact digitsAux_lt q r k hr fuel _ d h
      · rw [List.mem_singleton.mp h]; exact hr n h0

/-- **C15.numeric_roundtrip** — for a numeric system with `k ≥ 2` symbols the digit list printed for
`n` decodes positionally to `n` (all `n ≥ 0`); together with `numeric_digits_lt` and
`numeric_no_leading_zero` the representation is the canonical base-`k` numeral. -/
theorem numeric_roundtrip (k n : Nat) (hk : 2 ≤ k) : decodeNum k (numDigits k n) = n := by
  unfold decodeNum numDigits
  rw [numAux_eq]
  exact digitsAux_fold _ _ _ (fun n hn => Nat.div_lt_self (Nat.pos_of_ne_zero hn) hk)
    (fun n _ => Nat.div_add_mod' n k) n n (Nat.le_refl n)

theorem numeric_injective (k : Nat) (hk : 2 ≤ k) (m n : Nat) (h : numDigits k m = numDigits k n) : m = n := by
  have hm := numeric_roundtrip k m hk
  have hn := numeric_roundtrip k n hk
  rw [h] at hm; omega

theorem numeric_digits_lt (k n : Nat) (hk : 0 < k) : ∀ d ∈ numDigits k n, d < k := by
  unfold numDigits
  rw [numAux_eq]
  exact digitsAux_lt _ _ k (fun n _ => Nat.mod_lt n hk) n n

private theorem numAux_head (k : Nat) (hk : 2 ≤ k) : ∀ fuel n, n ≤ fuel → n ≠ 0 →
    ∃ d rest, numDigitsAux k fuel n [] = d :: rest ∧ d ≠ 0 := by
  intro fuel
  induction fuel with
  | zero => intro n h hn; omega
  | succ f ih =>
    intro n h hn
    unfold numDigitsAux
    simp only [hn, if_false]
    rw [numAux_eq, digitsAux_acc, ← numAux_eq]
    by_cases hq : n / k = 0
    · have hlt : n < k := by
        rcases Nat.div_eq_zero_iff.mp hq with h | h
        · omega
        · exact h
      refine ⟨n % k, [], ?_, ?_⟩
      · cases f with
        | zero => simp [numDigitsAux]
        | succ f' => simp [numDigitsAux, hq]
      · rw [Nat.mod_eq_of_lt hlt]; exact hn
    · have hle : n / k ≤ f := by have := Nat.div_lt_self (Nat.pos_of_ne_zero hn) hk; omega
      obtain ⟨d, rest, he, hd⟩ := ih (n / k) hle hq
      exact ⟨d, rest ++ [n % k], by rw [he]; simp, hd⟩

/-- No leading zero digit: the first digit of a non-zero value is not the zero symbol. -/
theorem numeric_no_leading_zero (k n : Nat) (hk : 2 ≤ k) (hn : n ≠ 0) :
    ∃ d rest, numDigits k n = d :: rest ∧ d ≠ 0 :=
  numAux_head k hk n n (Nat.le_refl n) hn

theorem numeric_zero (k : Nat) : numDigits k 0 = [] := by simp [numDigits, numDigitsAux]

/-- **C15.alphabetic_bijective** — bijective base-`k`: decoding the printed symbol indices gives `n`
back for every `n ≥ 0` (`n = 0` is the empty string), hence distinct values print distinct lists of symbol indices
(`alphabetic_injective`; the texts can still coincide when one symbol is a repetition of another). -/
theorem alphabetic_roundtrip (k n : Nat) : decodeAlpha k (alphaDigits k n) = n := by
  unfold decodeAlpha alphaDigits
  rw [alphaAux_eq]
  refine digitsAux_fold _ _ _ (fun n hn => ?_) (fun n hn => ?_) n n (Nat.le_refl n)
  · have := Nat.div_le_self (n - 1) k; omega
  · have := Nat.div_add_mod' (n - 1) k; omega

theorem alphabetic_injective (k : Nat) (hk : 1 ≤ k) (m n : Nat) (h : alphaDigits k m = alphaDigits k n) : m = n := by
  have hm := alphabetic_roundtrip k m
  have hn := alphabetic_roundtrip k n
  rw [h] at hm; omega

theorem alphabetic_digits_lt (k n : Nat) (hk : 0 < k) : ∀ d ∈ alphaDigits k n, d < k := by
  unfold alphaDigits
  rw [alphaAux_eq]
  exact digitsAux_lt _ _ k (fun n _ => Nat.mod_lt _ hk) n n

/-! ## Additive system -/

def weightSum (parts : List (Nat × Sym)) : Nat := (parts.map (·.1)).sum

private theorem weightSum_append (a b : List (Nat × Sym)) : weightSum (a ++ b) = weightSum a + weightSum b := by
  simp [weightSum]

private theorem weightSum_replicate (n w : Nat) (s : Sym) : weightSum (List.replicate n (w, s)) = n * w := by
  simp only [weightSum, List.map_replicate, List.sum_replicate_nat]

private theorem additiveLoop_spec : ∀ (tuples : List (Nat × Sym)) (remaining : Nat) (parts out : List (Nat × Sym)),
    additiveLoop tuples remaining parts = some out →
    ∃ extra, out = parts ++ extra ∧ weightSum extra = remaining ∧ (∀ p ∈ extra, p ∈ tuples ∧ p.1 ≠ 0) ∧
      (tuples.Pairwise (fun a b => a.1 ≥ b.1) → extra.Pairwise (fun a b => a.1 ≥ b.1))
  | [], _, _, _, h => by cases h
  | (w, s) :: rest, r, p, o, h => by
    unfold additiveLoop at h
    split at h
    · obtain ⟨e, he, hs, hm, hsrt⟩ := additiveLoop_spec rest r p o h
      exact ⟨e, he, hs, fun q hq => ⟨List.mem_cons_of_mem _ (hm q hq).1, (hm q hq).2⟩,
        fun hp => hsrt (List.pairwise_cons.mp hp).2⟩
    · rename_i hw
      dsimp only at h
      have hmul : w * (r / w) ≤ r := Nat.mul_div_le r w
      have hc : r / w * w = w * (r / w) := Nat.mul_comm _ _
      have hrep : ∀ q ∈ List.replicate (r / w) (w, s), q ∈ (w, s) :: rest ∧ q.1 ≠ 0 :=
        fun q hq => by rw [List.eq_of_mem_replicate hq]; exact ⟨List.mem_cons_self, hw⟩
      have hrsrt : (List.replicate (r / w) (w, s)).Pairwise (fun a b => a.1 ≥ b.1) :=
        List.pairwise_replicate.mpr (Or.inr (Nat.le_refl _))
      split at h
      · cases h
        exact ⟨_, rfl, by rw [weightSum_replicate]; omega, hrep, fun _ => hrsrt⟩
      · obtain ⟨e, he, hs, hm, hsrt⟩ := additiveLoop_spec rest _ _ o h
        refine ⟨List.replicate (r / w) (w, s) ++ e, by rw [he, List.append_assoc], ?_, fun q hq => ?_, fun hp => ?_⟩
        · rw [weightSum_append, weightSum_replicate, hs]; omega
        · rcases List.mem_append.mp hq with hq | hq
          · exact hrep q hq
          · exact ⟨List.mem_cons_of_mem _ (hm q hq).1, (hm q hq).2⟩
        · -- the later parts come from the later, lighter tuples
          refine List.pairwise_append.mpr ⟨hrsrt, hsrt (List.pairwise_cons.mp hp).2, fun a ha b hb => ?_⟩
          rw [List.eq_of_mem_replicate ha]
          exact (List.pairwise_cons.mp hp).1 b (hm b hb).1

/-- additive system: when the greedy loop succeeds, the weights of the emitted symbols add up to the
value (zero weights are skipped: no division by zero exists in the model). -/
theorem additive_sum (tuples : List (Nat × Sym)) (n : Nat) (out : List (Nat × Sym))
    (h : additiveLoop tuples n [] = some out) : weightSum out = n := by
  obtain ⟨e, he, hs, _, _⟩ := additiveLoop_spec tuples n [] out h
  rw [he]; exact hs

/-- Every emitted symbol is one of the style's tuples, with a non-zero weight. -/
theorem additive_parts_from_tuples (tuples : List (Nat × Sym)) (n : Nat) (out : List (Nat × Sym))
    (h : additiveLoop tuples n [] = some out) : ∀ p ∈ out, p ∈ tuples ∧ p.1 ≠ 0 := by
  obtain ⟨e, he, _, hm, _⟩ := additiveLoop_spec tuples n [] out h
  rw [he]; exact hm

/-- Greedy: the first tuple with a non-zero weight is used `⌊n / weight⌋` times, then the loop goes
on with the remainder `n mod weight`. -/
theorem additive_greedy (w : Nat) (s : Sym) (rest : List (Nat × Sym)) (n : Nat) (hw : w ≠ 0) :
    additiveLoop ((w, s) :: rest) n [] =
      if n % w = 0 then some (List.replicate (n / w) (w, s))
      else additiveLoop rest (n % w) (List.replicate (n / w) (w, s)) := by
  have hmod : n - w * (n / w) = n % w := by
    have := Nat.div_add_mod n w; omega
  simp [additiveLoop, hw, hmod]

/-- Weights of the output are non-increasing when the tuples are listed by decreasing weight (what the
descriptor validator enforces). -/
theorem additive_sorted : ∀ (tuples : List (Nat × Sym)) (n : Nat) (parts out : List (Nat × Sym)),
    tuples.Pairwise (fun a b => a.1 ≥ b.1) → parts.Pairwise (fun a b => a.1 ≥ b.1) →
    (∀ p ∈ parts, ∀ t ∈ tuples, p.1 ≥ t.1) →
    additiveLoop tuples n parts = some out → out.Pairwise (fun a b => a.1 ≥ b.1) := by
  intro tuples n parts out hs hp hpt h
  obtain ⟨e, he, _, hm, hsrt⟩ := additiveLoop_spec tuples n parts out h
  rw [he]
  exact List.pairwise_append.mpr ⟨hp, hsrt hs, fun a ha b hb => hpt a ha b (hm b hb).1⟩

/-! ## Step 3: the six systems, index formulas, fallbacks -/

/-! `step3` dispatches on the system name; these are its bodies (`orig` written out), so that no
proof has to walk through the comparisons of the names that come before. -/

theorem step3_cyclic (c : Desc) (fixed : Option Int) (v : Int) (isNeg : Bool) :
    step3 c "cyclic" fixed v isNeg =
      match c.symbols with
      | none => .err .typeError
      | some syms =>
        if syms.length < 1 then .decimal v
        else .initial (symAt syms ((v - 1) % (syms.length : Int)).toNat) := rfl

theorem step3_fixed (c : Desc) (fixed : Option Int) (v : Int) (isNeg : Bool) :
    step3 c "fixed" fixed v isNeg =
      match c.symbols with
      | none => .err .typeError
      | some syms =>
        if syms.length < 1 then .decimal v
        else match fixed with
          | none => .err .typeError
          | some f =>
            if 0 ≤ v - f && v - f < (syms.length : Int) then .initial (symAt syms (v - f).toNat)
            else .fallback v := rfl

theorem step3_symbolic (c : Desc) (fixed : Option Int) (v : Int) (isNeg : Bool) :
    step3 c "symbolic" fixed v isNeg =
      match c.symbols with
      | none => .err .typeError
      | some syms =>
        if syms.length < 1 then .decimal (if isNeg then -v else v)
        else .initial (repeatStr (symAt syms ((v - 1) % (syms.length : Int)).toNat)
          ((v - 1) / (syms.length : Int) + 1)) := rfl

theorem step3_alphabetic (c : Desc) (fixed : Option Int) (v : Int) (isNeg : Bool) :
    step3 c "alphabetic" fixed v isNeg =
      match c.symbols with
      | none => .err .typeError
      | some syms =>
        if syms.length < 2 then .decimal (if isNeg then -v else v)
        else .initial (joinSyms syms (alphaDigits syms.length v.toNat)) := rfl

theorem step3_numeric (c : Desc) (fixed : Option Int) (v : Int) (isNeg : Bool) :
    step3 c "numeric" fixed v isNeg =
      match c.symbols with
      | none => .err .typeError
      | some syms =>
        if syms.length < 2 then .decimal (if isNeg then -v else v)
        else if v = 0 then .initial (symAt syms 0)
        else .initial (joinSyms syms (numDigits syms.length v.natAbs)) := rfl

theorem step3_additive (c : Desc) (fixed : Option Int) (v : Int) (isNeg : Bool) :
    step3 c "additive" fixed v isNeg =
      match c.additive with
      | none => .err .typeError
      | some tuples =>
        if v = 0 then
          match additiveZero tuples none with
          | some s => .initial s
          | none => .fallback (if isNeg then -v else v)
        else if tuples.length < 1 then .decimal (if isNeg then -v else v)
        else match additiveLoop tuples v.toNat [] with
          | some parts => .initial (String.join (parts.map fun p => p.2.text))
          | none => .fallback (if isNeg then -v else v) := rfl

theorem step3_other (c : Desc) (system : String) (fixed : Option Int) (v : Int) (isNeg : Bool)
    (h1 : system ≠ "cyclic") (h2 : system ≠ "fixed") (h3 : system ≠ "symbolic")
    (h4 : system ≠ "alphabetic") (h5 : system ≠ "numeric") (h6 : system ≠ "additive") :
    step3 c system fixed v isNeg = .err .assertion := by
  simp only [step3, h1, h2, h3, h4, h5, h6, if_false]

/-- cyclic: the symbol at index `(n − 1) mod k` (Euclidean: also for n ≤ 0), in range `0 … k−1`. -/
theorem cyclic_formula (c : Desc) (syms : List Sym) (fixed : Option Int) (v : Int) (isNeg : Bool)
    (hs : c.symbols = some syms) (hk : 1 ≤ syms.length) :
    step3 c "cyclic" fixed v isNeg = .initial (symAt syms ((v - 1) % (syms.length : Int)).toNat) ∧
    ((v - 1) % (syms.length : Int)).toNat < syms.length := by
  constructor
  · rw [step3_cyclic, hs]
    exact if_neg (by omega)
  · have hpos : (0 : Int) < (syms.length : Int) := by omega
    have h1 := Int.emod_nonneg (v - 1) (Int.ne_of_gt hpos)
    have h2 := Int.emod_lt_of_pos (v - 1) hpos
    omega

/-- fixed: symbol `n − first` inside the window, the fallback style (with the value) outside. -/
theorem fixed_formula (c : Desc) (syms : List Sym) (first v : Int) (isNeg : Bool)
    (hs : c.symbols = some syms) (hk : 1 ≤ syms.length) :
    step3 c "fixed" (some first) v isNeg =
      if 0 ≤ v - first ∧ v - first < syms.length then .initial (symAt syms (v - first).toNat)
      else .fallback v := by
  rw [step3_fixed, hs]
  simp only [if_neg (show ¬ syms.length < 1 by omega), Bool.and_eq_true, decide_eq_true_eq]

/-- symbolic: the symbol at index `(n − 1) mod k`, repeated `⌊(n − 1) / k⌋ + 1 = ⌈n / k⌉` times. -/
theorem symbolic_formula (c : Desc) (syms : List Sym) (fixed : Option Int) (v : Int) (isNeg : Bool)
    (hs : c.symbols = some syms) (hk : 1 ≤ syms.length) :
    step3 c "symbolic" fixed v isNeg =
      .initial (repeatStr (symAt syms ((v - 1) % (syms.length : Int)).toNat)
        ((v - 1) / (syms.length : Int) + 1)) := by
  rw [step3_symbolic, hs]
  exact if_neg (by omega)

theorem symbolic_repeat_is_ceil (n k : Nat) (hn : 1 ≤ n) (hk : 1 ≤ k) :
    ((n : Int) - 1) / (k : Int) + 1 = ((n + k - 1) / k : Nat) := by
  have h1 : ((n : Int) - 1) = ((n - 1 : Nat) : Int) := by omega
  rw [h1]
  have h2 : ((n - 1 : Nat) : Int) / (k : Int) = (((n - 1) / k : Nat) : Int) := by
    exact (Int.natCast_ediv _ _).symm
  rw [h2]
  have h3 : (n + k - 1) / k = (n - 1) / k + 1 := by
    have : n + k - 1 = (n - 1) + k := by omega
    rw [this, Nat.add_div_right _ (by omega)]
  rw [h3]; omega

/-- alphabetic / numeric: the text is the concatenation of the symbols designated by the digit list
the round-trip theorems speak about. -/
theorem alphabetic_formula (c : Desc) (syms : List Sym) (fixed : Option Int) (v : Int) (isNeg : Bool)
    (hs : c.symbols = some syms) (hk : 2 ≤ syms.length) :
    step3 c "alphabetic" fixed v isNeg = .initial (joinSyms syms (alphaDigits syms.length v.toNat)) := by
  rw [step3_alphabetic, hs]
  exact if_neg (by omega)

theorem numeric_formula (c : Desc) (syms : List Sym) (fixed : Option Int) (v : Int) (isNeg : Bool)
    (hs : c.symbols = some syms) (hk : 2 ≤ syms.length) (hv : v ≠ 0) :
    step3 c "numeric" fixed v isNeg = .initial (joinSyms syms (numDigits syms.length v.natAbs)) := by
  rw [step3_numeric, hs]
  simp only [if_neg (show ¬ syms.length < 2 by omega), if_neg hv]

theorem numeric_zero_formula (c : Desc) (syms : List Sym) (fixed : Option Int) (isNeg : Bool)
    (hs : c.symbols = some syms) (hk : 2 ≤ syms.length) :
    step3 c "numeric" fixed 0 isNeg = .initial (symAt syms 0) := by
  rw [step3_numeric, hs]
  simp only [if_neg (show ¬ syms.length < 2 by omega), if_true]

/-- What step 3 may return for the value `v` of `system`: any representation; on its two recursive exits
`original_value` (the sign put back for the four systems that work on `abs(value)`; cyclic and fixed never
change the value); as exceptions only the `TypeError` of a `None` descriptor and the final `assert`. -/
def step3Allowed (system : String) (v : Int) (isNeg : Bool) : Step3 → Prop
  | .initial _ => True
  | .decimal w | .fallback w => w = if usesNegative system && isNeg then -v else v
  | .err e => e = .typeError ∨ e = .assertion

theorem step3_exits (c : Desc) (system : String) (fixed : Option Int) (v : Int) (isNeg : Bool) :
    step3Allowed system v isNeg (step3 c system fixed v isNeg) := by
  fun_cases step3 c system fixed v isNeg
  all_goals subst_vars
  -- an initial representation; a value handed on; `TypeError`; the final `assert`
  all_goals first | exact trivial | exact rfl | exact .inl rfl | exact .inr rfl

/-- `original_value`: undoing `step3Value` gives back the value `render_value` was called with. -/
private theorem orig_value (system : String) (value : Int) :
    (if usesNegative system && decide (value < 0) then -(step3Value system value)
      else step3Value system value) = value := by
  unfold step3Value
  cases usesNegative system
  · simp only [Bool.false_and, Bool.and_false, Bool.false_eq_true, if_false]
  · simp only [Bool.true_and, Bool.and_true]
    split
    · exact Int.neg_neg value
    · rfl

/-- **C15.decimal_fallback_value** — both recursive exits of step 3 hand on the value `render_value` was called with,
sign restored: an unrepresentable value goes to the fallback style with the original value, and the decimal fallback
taken when a style has too few symbols renders the value the style was asked to render (`fix:` 1bdaf16; the four
sign-using systems used to hand `abs(value)` to decimal, finding `extends-own-symbols-loses-sign`). -/
theorem step3_hands_on_value (c : Desc) (system : String) (fixed : Option Int) (value w : Int)
    (h : step3 c system fixed (step3Value system value) (decide (value < 0)) = .fallback w ∨
      step3 c system fixed (step3Value system value) (decide (value < 0)) = .decimal w) : w = value := by
  have := step3_exits c system fixed (step3Value system value) (decide (value < 0))
  rcases h with h | h <;> rw [h] at this <;> exact Eq.trans this (orig_value system value)

/-- Step 3 raises no IndexError, whatever the symbols: the length test comes before `symbols[0]` is read (`fix:` 1bdaf16,
finding `extends-empty-symbols-index-error`). -/
theorem step3_no_index_error (c : Desc) (system : String) (fixed : Option Int) (v : Int) (isNeg : Bool) :
    step3 c system fixed v isNeg ≠ .err .indexError := by
  intro h
  have := step3_exits c system fixed v isNeg
  rw [h] at this
  rcases this with e | e <;> cases e

/-- Only the four systems named by the specification use the `negative` descriptor. -/
theorem usesNegative_iff (system : String) :
    usesNegative system = true ↔
      system = "symbolic" ∨ system = "alphabetic" ∨ system = "numeric" ∨ system = "additive" := by
  simp [usesNegative, or_assoc]

theorem repeatStr_length (s : String) (n : Int) : (repeatStr s n).length = n.toNat * s.length := by
  unfold repeatStr
  rw [String.length_join]
  induction n.toNat with
  | zero => simp
  | succ k ih => simp [List.replicate_succ, Nat.succ_mul]; omega

theorem repeatStr_nonpos (s : String) (n : Int) (h : ¬ n > 0) : repeatStr s n = "" := by
  have : n.toNat = 0 := by omega
  simp [repeatStr, this]

/-- Steps 4 and 5 in closed form: sign, padding, text, sign.  `s * n` is empty for `n ≤ 0`, so the test `diff > 0`
of step 4 only skips an empty prefix and no case of the padding has to be told apart. -/
theorem padNeg_eq (c : Desc) (useNeg : Bool) (s : String) :
    padNeg c useNeg s =
      (if useNeg then (c.negative.getD (.str "-", .str "")).1.text else "") ++
      (repeatStr (c.pad.getD (0, .str "")).2.text
        (((c.pad.getD (0, .str "")).1 : Int) - s.length -
          (if useNeg then ((c.negative.getD (.str "-", .str "")).1.text.length : Int) +
            (c.negative.getD (.str "-", .str "")).2.text.length else 0)) ++ s) ++
      (if useNeg then (c.negative.getD (.str "-", .str "")).2.text else "") := by
  unfold padNeg
  generalize c.negative.getD (.str "-", .str "") = ng
  generalize c.pad.getD (0, .str "") = pd
  cases useNeg with
  | false =>
    simp only [Bool.false_eq_true, if_false, Int.sub_zero, String.empty_append, String.append_empty]
    split
    · rfl
    · rename_i h; rw [repeatStr_nonpos _ _ h, String.empty_append]
  | true =>
    simp only [if_true]
    split
    · rfl
    · rename_i h; rw [repeatStr_nonpos _ _ h, String.empty_append]

/-- Without the negative sign the result is the padding followed by the initial representation. -/
theorem pad_without_sign (c : Desc) (s : String) :
    ∃ padding, padNeg c false s = padding ++ s := by
  rw [padNeg_eq]
  simp only [Bool.false_eq_true, if_false, String.empty_append, String.append_empty]
  exact ⟨_, rfl⟩

/-- With the sign, the padded representation is wrapped in the two `negative` symbols. -/
theorem negative_wraps (c : Desc) (s : String) :
    ∃ padding, padNeg c true s =
      (c.negative.getD (.str "-", .str "")).1.text ++ (padding ++ s) ++ (c.negative.getD (.str "-", .str "")).2.text := by
  rw [padNeg_eq]
  simp only [if_true]
  exact ⟨_, rfl⟩

/-- `pad`: with a one-character pad symbol the result has exactly `max(pad, natural length)` characters,
the negative sign symbols counted. -/
theorem pad_length (c : Desc) (useNeg : Bool) (s : String) (n : Nat) (p : Sym)
    (hp : c.pad = some (n, p)) (hl : p.text.length = 1) :
    (padNeg c useNeg s).length =
      max n (s.length + (if useNeg then (c.negative.getD (.str "-", .str "")).1.text.length +
        (c.negative.getD (.str "-", .str "")).2.text.length else 0)) := by
  rw [padNeg_eq, hp]
  generalize c.negative.getD (.str "-", .str "") = ng
  cases useNeg <;>
    simp only [Bool.false_eq_true, if_false, if_true, Option.getD_some, String.length_append, repeatStr_length, hl,
      String.length_empty] <;> omega

/-- For any non-empty pad symbol the result is at least `pad` characters long. -/
theorem pad_length_ge (c : Desc) (useNeg : Bool) (s : String) (n : Nat) (p : Sym)
    (hp : c.pad = some (n, p)) (hl : 1 ≤ p.text.length) : n ≤ (padNeg c useNeg s).length := by
  rw [padNeg_eq, hp]
  generalize c.negative.getD (.str "-", .str "") = ng
  cases useNeg <;>
    simp only [Bool.false_eq_true, if_false, if_true, Option.getD_some, String.length_append, repeatStr_length,
      String.length_empty]
  -- `d ≤ d * |pad symbol|` for the number `d` of pad symbols
  · have := Nat.le_mul_of_pos_right ((n : Int) - s.length - 0).toNat hl
    omega
  · have := Nat.le_mul_of_pos_right ((n : Int) - s.length - ((ng.1.text.length : Int) + ng.2.text.length)).toNat hl
    omega

/-- Without a `pad` descriptor nothing is added. -/
theorem no_pad (c : Desc) (s : String) (hp : c.pad = none) : padNeg c false s = s := by
  rw [padNeg_eq, hp, repeatStr_nonpos _ _ (by simp only [Option.getD_none]; omega)]
  simp only [Bool.false_eq_true, if_false, String.empty_append, String.append_empty]

/-! ## `resolve_counter` on a plain style; `render_value`: range, fallback, representable values; `render_marker` -/

private theorem resolveLoop_noext (cs : Styles) (fuel : Nat) (c : Desc) (system : String) (prev : List CName) :
    resolveLoop cs (fuel + 1) c false system prev = .ok (c, prev) := by
  simp [resolveLoop]

private theorem loopFuel_succ (cs : Styles) : loopFuel cs = (2 * cs.length + 3) + 1 := by simp [loopFuel]

theorem extLoop_noext (cs : Styles) (c : Desc) (system : String) (fixed : Option Int) (prev : List CName) :
    renderExtLoop cs (loopFuel cs) c false system fixed prev = .ok (.go c system fixed prev) := by
  rw [loopFuel_succ]; simp [renderExtLoop]

theorem resolveCounter_unknown (cs : Styles) (n : String) (prev : Option (List CName))
    (hl : lookup cs n = none) : resolveCounter cs (.named n) prev = .ok (none, prev) := by
  simp only [resolveCounter, hl]

theorem resolveCounter_seen (cs : Styles) (n : String) (d : Desc) (p : List CName)
    (hl : lookup cs n = some d) (hc : p.contains (.named n) = true) :
    resolveCounter cs (.named n) (some p) = .ok (none, some p) := by
  simp only [resolveCounter, hl, hc, if_true]

theorem resolveCounter_top (cs : Styles) (n : String) (d c : Desc) (p' : List CName)
    (hl : lookup cs n = some d)
    (hr : resolveLoop cs (loopFuel cs) d (sysOf d).1 (sysOf d).2.1 ([] ++ [CName.named n]) = .ok (c, p')) :
    resolveCounter cs (.named n) none = .ok (some c, none) := by
  simp only [resolveCounter, hl, hr]
  rfl

theorem resolveCounter_fresh (cs : Styles) (n : String) (d c : Desc) (p p' : List CName)
    (hl : lookup cs n = some d) (hc : p.contains (.named n) = false)
    (hr : resolveLoop cs (loopFuel cs) d (sysOf d).1 (sysOf d).2.1 (p ++ [CName.named n]) = .ok (c, p')) :
    resolveCounter cs (.named n) (some p) = .ok (some c, some p') := by
  simp only [resolveCounter, hl, hc, hr, Bool.false_eq_true, if_false]
  rfl

theorem resolve_plain (cs : Styles) (n : String) (d : Desc) (h : lookup cs n = some d) (he : (sysOf d).1 = false) :
    resolveCounter cs (.named n) none = .ok (some d, none) := by
  refine resolveCounter_top cs n d d ([] ++ [CName.named n]) h ?_
  rw [he, loopFuel_succ]
  exact resolveLoop_noext cs _ d _ _

theorem step3_numeric_initial (d : Desc) (syms : List Sym) (v : Int) (b : Bool) (fixed : Option Int)
    (hs : d.symbols = some syms) (hl : 2 ≤ syms.length) : ∃ s, step3 d "numeric" fixed v b = .initial s := by
  by_cases hv : v = 0
  · exact ⟨_, hv ▸ numeric_zero_formula d syms fixed b hs hl⟩
  · exact ⟨_, numeric_formula d syms fixed v b hs hl hv⟩

/-- The five systems that read `symbols`, given the symbols they need (one; two for `alphabetic` and
`numeric`): step 3 yields an initial representation or asks for the fallback — no exception, no "wrong number
of symbols → decimal" exit.  `fixed` needs its first value, which the validator always gives it; the other four do
not read `f`. -/
theorem step3_symbols_ok (d : Desc) (n : String) (f : Option Int) (v : Int) (b : Bool)
    (h1 : 1 ≤ (d.symbols.getD []).length)
    (h2 : n = "alphabetic" ∨ n = "numeric" → 2 ≤ (d.symbols.getD []).length)
    (hn : (n = "fixed" ∧ f.isSome = true) ∨ n = "cyclic" ∨ n = "numeric" ∨ n = "alphabetic" ∨ n = "symbolic") :
    (∃ t, step3 d n f v b = .initial t) ∨ (∃ w, step3 d n f v b = .fallback w) := by
  cases hs : d.symbols with
  | none => rw [hs] at h1; cases h1
  | some syms =>
    rw [hs] at h1 h2
    rcases hn with ⟨rfl, hf⟩ | rfl | rfl | rfl | rfl
    · obtain ⟨f, rfl⟩ := Option.isSome_iff_exists.mp hf
      rw [fixed_formula d syms f v b hs h1]
      split
      · exact .inl ⟨_, rfl⟩
      · exact .inr ⟨_, rfl⟩
    · exact .inl ⟨_, (cyclic_formula d syms f v b hs h1).1⟩
    · exact .inl (step3_numeric_initial d syms v b f hs (h2 (.inr rfl)))
    · exact .inl ⟨_, alphabetic_formula d syms f v b hs (h2 (.inl rfl))⟩
    · exact .inl ⟨_, symbolic_formula d syms f v b hs h1⟩

/-- `render_value` once `resolve_counter` returned a style whose system is not `extends` and the
circularity test does not fire: steps 2–6 (`renderTail`) with `previous_types + [counter_name]`. -/
theorem renderValue_resolved (cs : Styles) (fuel : Nat) (value : Int) (name : CName)
    (prev prev' : Option (List CName)) (counter : Desc) (system : String) (fixed : Option Int)
    (hr : resolveCounter cs name prev = .ok (some counter, prev'))
    (hs : sysOf counter = (false, system, fixed)) (hc : isCircular prev' system = false) :
    renderValue cs (fuel + 1) value name prev =
      renderTail (renderValue cs fuel) value counter system fixed (prev'.getD [] ++ [name]) := by
  unfold renderValue
  simp only [hr, hs, hc, Bool.false_eq_true, if_false, extLoop_noext]

/-- **C15.range_fallback** — outside the (automatic or explicit) range the `fallback` style (default
`decimal`) renders the *same value*, with `previous_types` handed on (`render_terminates` shows the
chain ends, also for cyclic fallbacks). -/
theorem range_fallback (recur : Int → CName → Option (List CName) → Except CErr String) (value : Int)
    (counter : Desc) (system : String) (fixed : Option Int) (prev : List CName)
    (h : inRange counter system value = .ok false) :
    renderTail recur value counter system fixed prev =
      recur value (.named (counter.fallback.getD "decimal")) (some prev) := by
  simp [renderTail, h]

/-- The automatic range: `1 …` for alphabetic and symbolic, `0 …` for additive, everything otherwise. -/
theorem auto_range (counter : Desc) (system : String) (v : Int) (h : counter.range = none ∨ counter.range = some .auto) :
    inRange counter system v = .ok (
      if system = "alphabetic" ∨ system = "symbolic" then decide (1 ≤ v)
      else if system = "additive" then decide (0 ≤ v) else true) := by
  have : inRange counter system v = .ok ((autoRange system).1.leInt v && (autoRange system).2.geInt v) := by
    rcases h with h | h <;> simp only [inRange, h]
  rw [this]
  fun_cases autoRange system <;> simp_all [Bound.leInt, Bound.geInt]

/-- The range test fails only with `ValueError`, and only on a tuple holding `'auto'`. -/
private theorem inRanges_cases (v : Int) : ∀ l : List RangeEntry,
    (∃ b, inRanges v l = .ok b) ∨ (inRanges v l = .error .valueError ∧ RangeEntry.autoKw ∈ l)
  | [] => Or.inl ⟨false, rfl⟩
  | .autoKw :: _ => Or.inr ⟨rfl, List.mem_cons_self⟩
  | .pair lo hi :: rest => by
    unfold inRanges
    split
    · exact Or.inl ⟨true, rfl⟩
    · exact (inRanges_cases v rest).imp_right fun h => ⟨h.1, List.mem_cons_of_mem _ h.2⟩

private theorem inRanges_pairs (v : Int) : ∀ (l : List (Bound × Bound)),
    inRanges v (l.map fun p => .pair p.1 p.2) = .ok (l.any fun p => p.1.leInt v && p.2.geInt v) := by
  intro l
  induction l with
  | nil => simp [inRanges]
  | cons p ps ih =>
    simp only [List.map_cons, inRanges, List.any_cons]
    by_cases hp : (p.1.leInt v && p.2.geInt v) = true
    · simp [hp]
    · simp only [hp, Bool.false_eq_true, if_false, Bool.false_or]
      exact ih

/-- An explicit range is a union of closed intervals (`infinite` bounds allowed). -/
theorem explicit_range (counter : Desc) (system : String) (v : Int) (l : List (Bound × Bound))
    (h : counter.range = some (.entries (l.map fun p => .pair p.1 p.2))) :
    inRange counter system v = .ok (l.any fun p => p.1.leInt v && p.2.geInt v) := by
  simp only [inRange, h]
  exact inRanges_pairs v l

/-- The range test succeeds, or raises `ValueError` on a tuple holding `'auto'`. -/
private theorem inRange_cases (c : Desc) (system : String) (v : Int) :
    (∃ b, inRange c system v = .ok b) ∨
      (inRange c system v = .error .valueError ∧ ∃ l, c.range = some (.entries l) ∧ RangeEntry.autoKw ∈ l) := by
  unfold inRange
  match c.range with
  | none | some .auto => exact .inl ⟨_, rfl⟩
  | some (.entries l) => exact (inRanges_cases v l).imp_right fun h => ⟨h.1, l, rfl, h.2⟩

/-- The range test of `render_value` fails only on a tuple holding something that is not a pair.  No
validator produces such a tuple since `fix:` 5be1d36 (`C15.range_test_total` in Props/C15Desc.lean is the
full statement over validated descriptors; before the repair `range: auto` was stored as `('auto',)`). -/
theorem range_test_total_pairs (counter : Desc) (system : String) (v : Int)
    (h : ∀ l, counter.range = some (.entries l) → RangeEntry.autoKw ∉ l) :
    ∃ b, inRange counter system v = .ok b :=
  (inRange_cases counter system v).resolve_right fun ⟨_, l, hr, hm⟩ => h l hr hm

/-- In range and representable: the text is the initial representation, padded and signed. -/
theorem render_representable (recur : Int → CName → Option (List CName) → Except CErr String) (value : Int)
    (counter : Desc) (system : String) (fixed : Option Int) (prev : List CName) (s : String)
    (hin : inRange counter system value = .ok true)
    (h3 : step3 counter system fixed (step3Value system value) (decide (value < 0)) = .initial s) :
    renderTail recur value counter system fixed prev =
      .ok (padNeg counter (decide (value < 0) && usesNegative system) s) := by
  simp [renderTail, hin, h3]

/-- In range but not representable (fixed outside its window, additive remainder): the fallback style
renders the **original** value (`step3_hands_on_value`). -/
theorem unrepresentable_fallback (recur : Int → CName → Option (List CName) → Except CErr String) (value w : Int)
    (counter : Desc) (system : String) (fixed : Option Int) (prev : List CName)
    (hin : inRange counter system value = .ok true)
    (h3 : step3 counter system fixed (step3Value system value) (decide (value < 0)) = .fallback w) :
    renderTail recur value counter system fixed prev =
      recur value (.named (counter.fallback.getD "decimal")) (some prev) := by
  have := step3_hands_on_value counter system fixed value w (.inl h3)
  subst this
  simp [renderTail, hin, h3]

/-- **C15.too_few_symbols_decimal** (since `fix:` 1bdaf16, for every system and every sign): a resolved style
whose algorithm has too few symbols (possible only through `extends`) renders the value exactly as `decimal`
renders **that value** — `render_value(value, 'decimal')`. -/
theorem too_few_symbols_decimal (recur : Int → CName → Option (List CName) → Except CErr String) (value w : Int)
    (counter : Desc) (system : String) (fixed : Option Int) (prev : List CName)
    (hin : inRange counter system value = .ok true)
    (h3 : step3 counter system fixed (step3Value system value) (decide (value < 0)) = .decimal w) :
    renderTail recur value counter system fixed prev = recur value (.named "decimal") none := by
  have := step3_hands_on_value counter system fixed value w (.inr h3)
  subst this
  simp [renderTail, hin, h3]

/-- The negative sign is used exactly when the value is negative and the system is one of the four. -/
theorem sign_used_iff (value : Int) (system : String) :
    (decide (value < 0) && usesNegative system) = true ↔
      value < 0 ∧ (system = "symbolic" ∨ system = "alphabetic" ∨ system = "numeric" ∨ system = "additive") := by
  simp [usesNegative_iff]

/-- **C15.marker** — `render_marker = prefix ++ render_value ++ suffix`, the default suffix being `". "`. -/
theorem marker (cs : Styles) (name : CName) (value : Int) (c : Desc) (p : Option (List CName))
    (hr : resolveCounter cs name none = .ok (some c, p)) :
    renderMarker cs name value =
      (renderValueTop cs value name).map fun t =>
        (c.pfx.getD (.str "")).text ++ t ++ (c.sfx.getD (.str ". ")).text := by
  unfold renderMarker
  simp only [hr, bind, Except.bind]
  cases renderValueTop cs value name <;> rfl

theorem marker_default_suffix (c : Desc) (h : c.sfx = none) : (c.sfx.getD (.str ". ")).text = ". " := by
  simp [h, Sym.text]

/-- End to end for a named style that is not an `extends` style: a top-level `render_value` is steps
2–6 on the style's own descriptors, with `previous_types = [name]` for the fallback. -/
theorem render_plain (cs : Styles) (n : String) (d : Desc) (system : String) (fixed : Option Int) (v : Int)
    (h : lookup cs n = some d) (hs : sysOf d = (false, system, fixed)) :
    renderValueTop cs v (.named n) =
      renderTail (renderValue cs (2 * cs.length + 7)) v d system fixed [.named n] := by
  have hfu : topFuel cs = (2 * cs.length + 7) + 1 := by simp [topFuel]
  unfold renderValueTop
  rw [hfu, renderValue_resolved cs _ v (.named n) none none d system fixed
    (resolve_plain cs n d h (by rw [hs])) hs rfl]
  simp

/-! ## Fallback and `extends` chains terminate -/

/-- Number of table entries whose name is not yet in `previous_types`. -/
def fresh (cs : Styles) (prev : List CName) : Nat :=
  (cs.filter (fun p => !prev.contains (.named p.1))).length

private theorem fresh_le (cs : Styles) (prev : List CName) : fresh cs prev ≤ cs.length :=
  List.length_filter_le _ _

private theorem fresh_mono (cs : Styles) (prev extra : List CName) : fresh cs (prev ++ extra) ≤ fresh cs prev := by
  apply List.length_filter_le_of_imp
  intro x _ hx
  simp only [Bool.not_eq_true', List.contains_eq_mem, List.mem_append, decide_eq_false_iff_not] at hx ⊢
  exact fun h => hx (Or.inl h)

private theorem lookup_mem (cs : Styles) (n : String) (d : Desc) (h : lookup cs n = some d) :
    ∃ p ∈ cs, p.1 = n := by
  fun_induction lookup cs n with
  | case1 => cases h
  | case2 => exact ⟨_, List.mem_cons_self, rfl⟩
  | case3 k e rest hk ih =>
    obtain ⟨p, hp, hpn⟩ := ih h
    exact ⟨p, List.mem_cons_of_mem _ hp, hpn⟩

private theorem fresh_lt (cs : Styles) (prev extra : List CName) (n : String) (d : Desc)
    (h : lookup cs n = some d) (hn : prev.contains (.named n) = false) :
    fresh cs (prev ++ [CName.named n] ++ extra) < fresh cs prev := by
  obtain ⟨p, hp, hpn⟩ := lookup_mem cs n d h
  refine List.length_filter_lt_of_imp ?_ hp ?_ ?_
  · intro x _ hx
    simp only [Bool.not_eq_true', List.contains_eq_mem, List.mem_append, decide_eq_false_iff_not] at hx ⊢
    exact fun h => hx (Or.inl (Or.inl h))
  · rw [hpn]
    have : ¬ CName.named n ∈ prev := by simpa using hn
    simp [this]
  · rw [hpn]; simp

/-- `decimal`, when defined, is not an `extends` style (a consequence of `DecimalTotal`, which `ua_decimal_total`
shows of the UA table). -/
def DecimalPlain (cs : Styles) : Prop := ∀ d, lookup cs "decimal" = some d → (sysOf d).1 = false

private theorem sysOf_with (c : Desc) (s : Option Sys) : sysOf { c with system := s } = sysOf { system := s } := by
  simp [sysOf]

/-- The `while extends` loop of `resolve_counter` ends, and `previous_types` only grows.  A regular state (the
name about to be looked up is new, or is the forced `decimal`) needs `fresh + 2` turns; any other entry state
(the first name may already be in `previous_types`) becomes regular after one turn. -/
private theorem resolveLoop_ok (cs : Styles) (hd : DecimalPlain cs) : ∀ fuel counter ext system prev,
    fresh cs prev + 3 ≤ fuel ∨
      ((ext = true → prev.contains (.named system) = false ∨ system = "decimal") ∧ fresh cs prev + 2 ≤ fuel) →
    ∃ c extra, resolveLoop cs fuel counter ext system prev = .ok (c, prev ++ extra) := by
  intro fuel counter ext system prev hfuel
  fun_induction resolveLoop cs fuel counter ext system prev
  case case1 => omega
  case case2 | case3 => exact ⟨_, [], by rw [List.append_nil]⟩
  -- the two recursive returns (the forced `decimal`; the merged style), each with fuel to spare or at `decimal`
  all_goals
    rename_i fuel counter0 ext system prev0 hext e hl counter prev ext' system' fx hx hcond ih
    have hext : ext = true := by simpa using hext
    -- the fuel left for the next state, which is regular
    have key : fresh cs prev + 2 ≤ fuel ∨ (system = "decimal" ∧ 1 ≤ fuel) := by
      rcases hfuel with h | ⟨hreg, h⟩
      · have hm : fresh cs prev ≤ fresh cs prev0 := fresh_mono cs prev0 [.named system]
        omega
      · rcases hreg hext with hfresh | hdec
        · have hlt : fresh cs prev < fresh cs prev0 := by simpa using fresh_lt cs prev0 [] system e hl hfresh
          omega
        · exact .inr ⟨hdec, by omega⟩
    rcases key with hf | ⟨rfl, hf⟩
  · obtain ⟨c, extra, h⟩ := ih (.inr ⟨fun _ => .inr rfl, hf⟩)
    exact ⟨c, [.named system] ++ extra, by rw [h]; simp [prev]⟩
  · -- forced or natural `decimal`: not an extends style
    simp [show ext' = false from (congrArg Prod.fst hx).symm.trans (hd e hl)] at hcond
  · obtain ⟨c, extra, h⟩ := ih (.inr ⟨fun h' => .inl (by simpa [h'] using hcond), hf⟩)
    exact ⟨c, [.named system] ++ extra, by rw [h]; simp [prev]⟩
  · -- … the loop ends at the next test
    obtain rfl : ext' = false := (congrArg Prod.fst hx).symm.trans (hd e hl)
    cases fuel with
    | zero => omega
    | succ f' => exact ⟨_, [.named "decimal"], by rw [resolveLoop_noext]⟩

/-- The `while extends` loop of `render_value` ends within `fresh + 2` iterations; the
`previous_types` it hands on extend the ones it received. -/
private theorem extLoop_ok (cs : Styles) : ∀ fuel counter ext system fixed prev,
    fresh cs prev + 2 ≤ fuel →
    renderExtLoop cs fuel counter ext system fixed prev = .ok .decimal ∨
    ∃ c s f extra, renderExtLoop cs fuel counter ext system fixed prev = .ok (.go c s f (prev ++ extra)) := by
  intro fuel counter ext system fixed prev hfuel
  fun_induction renderExtLoop cs fuel counter ext system fixed prev with
  | case1 => omega
  | case2 => exact .inr ⟨_, _, _, [], by rw [List.append_nil]⟩
  | case3 | case4 => exact .inl rfl
  | case5 fuel _ _ _ _ prev _ _ _ _ ext' system' _ _ hnot ih =>
    have hnot : prev.contains (.named system') = false := by simpa using hnot
    cases hl2 : lookup cs system' with
    | some e2 =>
      have hlt := fresh_lt cs prev [] _ e2 hl2 hnot
      simp only [List.append_nil] at hlt
      rcases ih (by omega) with h | ⟨c, s, f, extra, h⟩
      · exact .inl h
      · exact .inr ⟨c, s, f, [.named system'] ++ extra, by rw [h]; simp⟩
    | none =>
      cases fuel with
      | zero => omega
      | succ n' =>
        cases ext' with
        | false => exact .inr ⟨_, _, _, [.named system'], rfl⟩
        | true => exact .inl (by simp [renderExtLoop, hl2])

/-- `decimal`, when defined, is a numeric style with at least two symbols and the automatic range
(`ua_decimal_total` for the UA table): it renders every integer without falling back. -/
def DecimalTotal (cs : Styles) : Prop :=
  ∀ d, lookup cs "decimal" = some d →
    d.system = some ⟨false, "numeric", none⟩ ∧ (∃ syms, d.symbols = some syms ∧ 2 ≤ syms.length) ∧
    (d.range = none ∨ d.range = some .auto)

private theorem decimalTotal_plain (cs : Styles) (h : DecimalTotal cs) : DecimalPlain cs := by
  intro d hd
  obtain ⟨hs, _, _⟩ := h d hd
  simp [sysOf, hs]

/-- A call `render_value(v, 'decimal')` needs one level only. -/
private theorem decimal_call_ok (cs : Styles) (ht : DecimalTotal cs) (fuel : Nat) (v : Int) :
    ∃ s, renderValue cs (fuel + 1) v (.named "decimal") none = .ok s := by
  cases hl : lookup cs "decimal" with
  | none => exact ⟨"", by simp [renderValue, resolveCounter_unknown cs _ _ hl, hl]⟩
  | some d =>
    obtain ⟨hsys, ⟨syms, hsyms, hlen⟩, hrange⟩ := ht d hl
    have hso : sysOf d = (false, "numeric", none) := by simp [sysOf, hsys]
    obtain ⟨s, hs3⟩ := step3_numeric_initial d syms (step3Value "numeric" v) (decide (v < 0)) none hsyms hlen
    have hin : inRange d "numeric" v = .ok true := by rw [auto_range d "numeric" v hrange]; simp
    exact ⟨_, (renderValue_resolved cs fuel v _ none none d "numeric" none
      (resolve_plain cs "decimal" d hl (by rw [hso])) hso rfl).trans
      (render_representable _ v d "numeric" none _ s hin hs3)⟩

private theorem inRange_err (c : Desc) (system : String) (v : Int) (e : CErr)
    (h : inRange c system v = .error e) : e = .valueError := by
  rcases inRange_cases c system v with ⟨b, hb⟩ | ⟨he, _⟩
  · rw [hb] at h; cases h
  · rw [he] at h; exact (Except.error.inj h).symm

/-- `renderTail` runs out of fuel only if one of its recursive calls does. -/
private theorem renderTail_no_recursion (recur : Int → CName → Option (List CName) → Except CErr String)
    (value : Int) (counter : Desc) (system : String) (fixed : Option Int) (prev : List CName)
    (h1 : ∀ w, recur w (.named (counter.fallback.getD "decimal")) (some prev) ≠ .error .recursion)
    (h2 : ∀ w, recur w (.named "decimal") none ≠ .error .recursion) :
    renderTail recur value counter system fixed prev ≠ .error .recursion := by
  fun_cases renderTail recur value counter system fixed prev
  case case1 e hin => cases inRange_err _ _ _ _ hin; nofun
  case case3 e hs =>
    have := step3_exits counter system fixed (step3Value system value) (decide (value < 0))
    rw [hs] at this
    rcases this with rfl | rfl <;> nofun
  case case6 => nofun
  case case4 w _ => exact h2 w
  all_goals exact h1 _

private theorem resolveLoop_top (cs : Styles) (hd : DecimalPlain cs) (d : Desc) (prev : List CName) :
    ∃ c extra, resolveLoop cs (loopFuel cs) d (sysOf d).1 (sysOf d).2.1 prev = .ok (c, prev ++ extra) := by
  refine resolveLoop_ok cs hd (loopFuel cs) d _ _ prev (Or.inl ?_)
  have := fresh_le cs prev
  simp only [loopFuel]
  omega

private theorem resolve_named_some (cs : Styles) (hd : DecimalPlain cs) (n : String) (prev : List CName) :
    resolveCounter cs (.named n) (some prev) = .ok (none, some prev) ∨
    ∃ d c extra, lookup cs n = some d ∧ prev.contains (.named n) = false ∧
      resolveCounter cs (.named n) (some prev) = .ok (some c, some (prev ++ [CName.named n] ++ extra)) := by
  cases hl : lookup cs n with
  | none => exact Or.inl (resolveCounter_unknown cs n _ hl)
  | some d =>
    cases hc : prev.contains (.named n) with
    | true => exact Or.inl (resolveCounter_seen cs n d prev hl hc)
    | false =>
      obtain ⟨c, extra, hr⟩ := resolveLoop_top cs hd d (prev ++ [CName.named n])
      exact Or.inr ⟨d, c, extra, rfl, rfl, resolveCounter_fresh cs n d c prev _ hl hc hr⟩

private theorem resolve_none (cs : Styles) (hd : DecimalPlain cs) (name : CName) :
    resolveCounter cs name none = .ok (none, none) ∨ ∃ c, resolveCounter cs name none = .ok (some c, none) := by
  cases name with
  | str s => exact Or.inr ⟨_, rfl⟩
  | symbols sys args => exact Or.inr ⟨_, rfl⟩
  | named n =>
    cases hl : lookup cs n with
    | none => exact Or.inl (resolveCounter_unknown cs n _ hl)
    | some d =>
      obtain ⟨c, extra, hr⟩ := resolveLoop_top cs hd d ([] ++ [CName.named n])
      exact Or.inr ⟨c, resolveCounter_top cs n d c _ hl hr⟩

private theorem decimal_no_recursion (cs : Styles) (ht : DecimalTotal cs) (f : Nat) (hf : 1 ≤ f) (w : Int) :
    renderValue cs f w (.named "decimal") none ≠ .error .recursion := by
  obtain ⟨f', rfl⟩ : ∃ f', f = f' + 1 := ⟨f - 1, by omega⟩
  obtain ⟨s, hs⟩ := decimal_call_ok cs ht f' w
  rw [hs]; simp

/-- One level of `render_value` runs out of fuel only if its `decimal` call or one of its fallback calls (made
with a longer `previous_types`) does. -/
private theorem renderValue_level (cs : Styles) (f : Nat) (v : Int) (name : CName) (prev : Option (List CName))
    (hdec : ∀ w, renderValue cs f w (.named "decimal") none ≠ .error .recursion)
    (hres : (∃ p, resolveCounter cs name prev = .ok (none, p)) ∨
      ∃ c p, resolveCounter cs name prev = .ok (some c, p) ∧ ∀ w fb extra,
        renderValue cs f w (.named fb) (some (p.getD [] ++ [name] ++ extra)) ≠ .error .recursion) :
    renderValue cs (f + 1) v name prev ≠ .error .recursion := by
  unfold renderValue
  rcases hres with ⟨p, hr⟩ | ⟨c, p, hr, hfb⟩
  · rw [hr]
    simp only
    split
    · exact hdec v
    · simp
  · rw [hr]
    simp only
    split
    · exact hdec v
    · have hfl : fresh cs (p.getD [] ++ [name]) + 2 ≤ loopFuel cs := by
        have := fresh_le cs (p.getD [] ++ [name]); simp only [loopFuel]; omega
      rcases extLoop_ok cs (loopFuel cs) c (sysOf c).1 (sysOf c).2.1 (sysOf c).2.2 _ hfl with
        he | ⟨c2, s2, f2, extra2, he⟩
      · rw [he]; exact hdec v
      · rw [he]
        exact renderTail_no_recursion _ _ _ _ _ _ (fun w => hfb w _ extra2) hdec

/-- Fallback chains terminate: a call with a `previous_types` list needs at most `fresh + 3` levels. -/
private theorem renderValue_chain (cs : Styles) (ht : DecimalTotal cs) : ∀ fuel v n prev,
    fresh cs prev + 3 ≤ fuel → renderValue cs fuel v (.named n) (some prev) ≠ .error .recursion := by
  intro fuel
  induction fuel with
  | zero => intro _ _ _ h; omega
  | succ f ih =>
    intro v n prev hfuel
    refine renderValue_level cs f v _ _ (decimal_no_recursion cs ht f (by omega)) ?_
    rcases resolve_named_some cs (decimalTotal_plain cs ht) n prev with hr | ⟨d, c, extra, hl, hc, hr⟩
    · exact Or.inl ⟨_, hr⟩
    · refine Or.inr ⟨c, _, hr, fun w fb extra2 => ih w fb _ ?_⟩
      have hlt := fresh_lt cs prev (extra ++ [CName.named n] ++ extra2) n d hl hc
      simp only [Option.getD_some, List.append_assoc] at hlt ⊢
      omega

/-- **Termination of fallbacks and `extends` chains** (C15.range_fallback, second half): on a table whose
`decimal` is total, a top-level `render_value` never exhausts the model's fuel — neither through
cyclic `fallback` descriptors nor through cyclic `extends`. -/
theorem render_terminates (cs : Styles) (ht : DecimalTotal cs) (v : Int) (name : CName) :
    renderValueTop cs v name ≠ .error .recursion := by
  unfold renderValueTop
  rw [show topFuel cs = (2 * cs.length + 7) + 1 by simp [topFuel]]
  refine renderValue_level cs _ v name none (decimal_no_recursion cs ht _ (by omega)) ?_
  rcases resolve_none cs (decimalTotal_plain cs ht) name with hr | ⟨c, hr⟩
  · exact Or.inl ⟨_, hr⟩
  · refine Or.inr ⟨c, none, hr, fun w fb extra2 => renderValue_chain cs ht _ w fb _ ?_⟩
    have := fresh_le cs ((none : Option (List CName)).getD [] ++ [name] ++ extra2)
    omega

/-! ## Facts about the generated UA table (re-checked whenever html5_ua.css changes) -/

/-- `decimal` of the UA table is the numeric style over ten digits with the automatic range. -/
theorem ua_decimal : lookup Gen.uaCounterStyles "decimal" = some
    { system := some ⟨false, "numeric", none⟩,
      symbols := some [.str "0", .str "1", .str "2", .str "3", .str "4", .str "5", .str "6", .str "7",
        .str "8", .str "9"] } := by
  decide +kernel

theorem ua_decimal_total : DecimalTotal Gen.uaCounterStyles := by
  intro d hd
  rw [ua_decimal] at hd
  cases hd
  exact ⟨rfl, ⟨_, rfl, by decide⟩, Or.inl rfl⟩

/-- No predefined style can make `render_value` run forever, whatever its fallback / extends chain. -/
theorem ua_render_terminates (v : Int) (name : CName) :
    renderValueTop Gen.uaCounterStyles v name ≠ .error .recursion :=
  render_terminates _ ua_decimal_total v name

private theorem lookup_append (a b : Styles) (n : String) :
    lookup (a ++ b) n = (lookup a n).orElse fun _ => lookup b n :=
  assoc_get_append lookup (fun _ => rfl) (fun _ _ _ _ => rfl) a b n

/-- Author styles on top of the UA table (they cannot redefine `decimal`:
`parse_counter_style_name`): still terminating. -/
theorem author_render_terminates (author : Styles) (h : lookup author "decimal" = none) (v : Int) (name : CName) :
    renderValueTop (author ++ Gen.uaCounterStyles) v name ≠ .error .recursion := by
  apply render_terminates
  intro d hd
  rw [lookup_append, h] at hd
  exact ua_decimal_total d hd

/-- Strictly descending neighbours are enough (`>` is transitive): the table is compared in one pass. -/
private theorem pairwise_of_adjacent : ∀ l : List (Nat × Sym),
    ((l.zip l.tail).all fun q => q.1.1 > q.2.1) = true → l.Pairwise (fun a b => a.1 > b.1)
  | [], _ => List.Pairwise.nil
  | [_], _ => List.pairwise_singleton _ _
  | a :: b :: l, h => by
    simp only [List.tail_cons, List.zip_cons_cons, List.all_cons, Bool.and_eq_true, decide_eq_true_eq] at h
    have ih := pairwise_of_adjacent (b :: l) h.2
    refine List.pairwise_cons.mpr ⟨?_, ih⟩
    intro c hc
    rcases List.mem_cons.mp hc with rfl | hc
    · exact h.1
    · exact Nat.lt_trans ((List.pairwise_cons.mp ih).1 c hc) h.1

/-- Every predefined additive style lists its weights in strictly decreasing order (so that
`additive_sorted` applies). -/
theorem ua_additive_descending : ∀ p ∈ Gen.uaCounterStyles,
    (p.2.additive.getD []).Pairwise (fun a b => a.1 > b.1) := by
  intro p hp
  apply pairwise_of_adjacent
  revert p
  decide +kernel

/-- The `range` is absent, `auto`, or a tuple of pairs. -/
def rangeIsPairs : Option RangeDesc → Bool
  | some (.entries l) => !l.contains .autoKw
  | _ => true

/-- No predefined style has a range tuple holding a non-pair (which would make `render_value` raise). -/
theorem ua_ranges_are_pairs : ∀ p ∈ Gen.uaCounterStyles, rangeIsPairs p.2.range = true := by
  decide +kernel

/-- Every `extends` of the UA table names an existing style that does not itself extend. -/
theorem ua_extends_resolved : ∀ p ∈ Gen.uaCounterStyles, (sysOf p.2).1 = true →
    ((lookup Gen.uaCounterStyles (sysOf p.2).2.1).any fun d => !(sysOf d).1) = true := by
  decide +kernel

/-- Every predefined non-`extends` style has at least the number of symbols (additive tuples) its system needs: one,
two for `numeric` and `alphabetic`: the counts `step3_symbols_ok` asks for.  (`extends` styles and the first value of
`fixed` are not covered, so the step-3 consequence is not drawn for the table as a whole.) -/
theorem ua_symbol_counts : ∀ p ∈ Gen.uaCounterStyles, (sysOf p.2).1 = false →
    (if (sysOf p.2).2.1 = "additive" then (p.2.additive.getD []).length ≥ 1
     else if (sysOf p.2).2.1 = "numeric" ∨ (sysOf p.2).2.1 = "alphabetic" then (p.2.symbols.getD []).length ≥ 2
     else (p.2.symbols.getD []).length ≥ 1) := by
  decide +kernel

/-- Well-known renderings of the predefined styles (css-counter-styles-3 §6), evaluated on the generated
table: an edit of html5_ua.css that changes one of them breaks this proof. -/
theorem ua_samples :
    renderValueTop Gen.uaCounterStyles 42 (.named "decimal") = .ok "42" ∧
    renderValueTop Gen.uaCounterStyles (-7) (.named "decimal") = .ok "-7" ∧
    renderValueTop Gen.uaCounterStyles 7 (.named "decimal-leading-zero") = .ok "07" ∧
    renderValueTop Gen.uaCounterStyles (-7) (.named "decimal-leading-zero") = .ok "-7" ∧
    renderValueTop Gen.uaCounterStyles 1994 (.named "lower-roman") = .ok "mcmxciv" ∧
    renderValueTop Gen.uaCounterStyles 2024 (.named "upper-roman") = .ok "MMXXIV" ∧
    renderValueTop Gen.uaCounterStyles 4000 (.named "upper-roman") = .ok "4000" ∧
    renderValueTop Gen.uaCounterStyles 0 (.named "lower-roman") = .ok "0" ∧
    renderValueTop Gen.uaCounterStyles 28 (.named "lower-alpha") = .ok "ab" ∧
    renderValueTop Gen.uaCounterStyles 27 (.named "upper-alpha") = .ok "AA" ∧
    renderValueTop Gen.uaCounterStyles 0 (.named "lower-alpha") = .ok "0" ∧
    renderValueTop Gen.uaCounterStyles 3 (.named "lower-latin") = .ok "c" ∧
    renderValueTop Gen.uaCounterStyles 26 (.named "upper-latin") = .ok "Z" ∧
    renderValueTop Gen.uaCounterStyles 3 (.named "lower-greek") = .ok "γ" ∧
    renderValueTop Gen.uaCounterStyles 5 (.named "disc") = .ok "•" ∧
    renderValueTop Gen.uaCounterStyles 10 (.named "cjk-decimal") = .ok "一〇" ∧
    renderValueTop Gen.uaCounterStyles (-1) (.named "cjk-decimal") = .ok "-1" ∧
    renderValueTop Gen.uaCounterStyles 1 (.named "hiragana") = .ok "あ" ∧
    renderValueTop Gen.uaCounterStyles 2 (.named "katakana") = .ok "イ" ∧
    renderValueTop Gen.uaCounterStyles 15 (.named "hebrew") = .ok "טו" ∧
    renderValueTop Gen.uaCounterStyles 10 (.named "arabic-indic") = .ok "١٠" ∧
    renderValueTop Gen.uaCounterStyles 4 (.named "bengali") = .ok "৪" ∧
    renderValueTop Gen.uaCounterStyles 3 (.named "thai") = .ok "๓" ∧
    renderValueTop Gen.uaCounterStyles 0 (.named "japanese-informal") = .ok "〇" ∧
    renderValueTop Gen.uaCounterStyles 7 (.named "no-such-style") = .ok "7" ∧
    renderMarker Gen.uaCounterStyles (.named "decimal") 3 = .ok "3. " ∧
    renderMarker Gen.uaCounterStyles (.named "disc") 3 = .ok "• " ∧
    renderMarker Gen.uaCounterStyles (.named "cjk-decimal") 3 = .ok "三、" := by
  decide +kernel

/-! ## Reference semantics: the clauses of the property, read off `Spec` -/

/-- The innermost instance comes first in `Spec.stack`, the instances of enclosing scopes follow. -/
theorem spec_stack_nesting (f : Spec.Frame) (rest : Spec.Frames) (n : String) (v : Int)
    (h : Spec.flookup f n = some v) : Spec.stack (f :: rest) n = v :: Spec.stack rest n := by
  simp [Spec.stack, h]

/-- `counter-reset` opens a scope: afterwards the innermost instance of the name has the reset value,
and the instances created by ancestors' frames are still below it (`counters()` prints them). -/
theorem spec_reset_innermost (f : Spec.Frame) (rest : Spec.Frames) (n : String) (v : Int) :
    Spec.stack (Spec.reset (f :: rest) n v) n = v :: Spec.stack rest n := by
  simp [Spec.reset, Spec.stack, flookup_fset_same]

/-- A reset on a later sibling (or a second reset on the same element) replaces the sibling-level
instance instead of nesting. -/
theorem spec_reset_replaces (f : Spec.Frame) (rest : Spec.Frames) (n : String) (v w : Int) :
    Spec.stack (Spec.reset (Spec.reset (f :: rest) n v) n w) n = w :: Spec.stack rest n := by
  simp [Spec.reset, Spec.stack, flookup_fset_same]

/-- `counter-increment` / `counter-set` act on the innermost instance only. -/
theorem spec_touch_innermost (g : Int → Int) (fr : Spec.Frames) (n : String) (top : Int) (tl : List Int)
    (h : Spec.stack fr n = top :: tl) : Spec.stack (Spec.touch g fr n) n = g top :: tl := by
  rw [stack_touch_same g fr n (by intro e; subst e; cases h), h]

/-- … and create an instance at the element when none is in scope. -/
theorem spec_touch_creates (g : Int → Int) (f : Spec.Frame) (rest : Spec.Frames) (n : String)
    (h : Spec.stack (f :: rest) n = []) : Spec.stack (Spec.touch g (f :: rest) n) n = [g 0] := by
  rw [stack_touch_same g _ n (List.cons_ne_nil _ _), h]

/-- Other counters are not affected. -/
theorem spec_touch_other (g : Int → Int) (fr : Spec.Frames) (n m : String) (hm : m ≠ n) (hne : fr ≠ []) :
    Spec.stack (Spec.touch g fr n) m = Spec.stack fr m :=
  stack_touch_other g fr n m hm

/-- Leaving an element ends the scopes its children opened: the outer instances are what they were
when only the frame is dropped. -/
theorem spec_leave (f : Spec.Frame) (rest : Spec.Frames) : (Spec.machine.pop (f :: rest)) = .ok rest := rfl

/-! ## Scoping: the relation between `counter_values` / `counter_scopes` and the frames, kept by every operation -/

open Spec in
/-- The refinement relation between `(counter_values, counter_scopes)` and the frame stack. -/
structure Rel (st : CState) (fr : Spec.Frames) : Prop where
  scopes : st.scopes = fr.map (·.map Prod.fst)
  values : ∀ n, vget st.values n = Spec.optStack (Spec.stack fr n)
  nodup : ∀ f ∈ fr, (f.map Prod.fst).Nodup

private theorem vget_vset (vs : Values) (n m : String) (s : List Int) :
    vget (vset vs n s) m = if n = m then some s else vget vs m :=
  assoc_get_set_keep vget vset (fun _ => rfl) (fun _ _ _ _ => rfl) (fun _ _ => rfl) (fun _ _ _ _ _ => rfl) vs n m s

private theorem vget_vset_same (vs : Values) (n : String) (s : List Int) : vget (vset vs n s) n = some s := by
  rw [vget_vset, if_pos rfl]

private theorem vget_vset_other (vs : Values) (n m : String) (s : List Int) (h : m ≠ n) :
    vget (vset vs n s) m = vget vs m := by
  rw [vget_vset, if_neg (Ne.symm h)]

private theorem vget_verase (vs : Values) (n m : String) :
    vget (verase vs n) m = if m = n then none else vget vs m := by
  induction vs with
  | nil => simp [verase, vget]
  | cons x xs ih =>
    obtain ⟨k, t⟩ := x
    by_cases hk : k = n
    · subst hk
      by_cases hm : m = k
      · subst hm; simpa [verase] using ih
      · simp [verase, vget, hm, Ne.symm hm, ih]
    · by_cases hm : k = m
      · subst hm; simp [verase, vget, hk]
      · simp [verase, vget, hk, hm, ih]

open Spec in
private theorem optStack_cons (v : Int) (l : List Int) : optStack (v :: l) = some (v :: l) := by
  simp [optStack]

open Spec in
private theorem optStack_getD (l : List Int) : (optStack l).getD [] = l := by
  cases l <;> simp [optStack]

private theorem nodup_snoc (l : List String) (n : String) (h : l.Nodup) (hc : l.contains n = false) :
    (l ++ [n]).Nodup := by
  rw [List.nodup_append]
  refine ⟨h, by simp, fun a ha b hb e => ?_⟩
  have hn : n ∈ l := by rw [← List.mem_singleton.mp hb, ← e]; exact ha
  simp [hn] at hc

private theorem rel_reset (st : CState) (fr : Spec.Frames) (h : Rel st fr) (hne : fr ≠ []) (n : String) (v : Int) :
    ∃ st', resetOne st n v = .ok st' ∧ Rel st' (Spec.reset fr n v) := by
  cases fr with
  | nil => exact absurd rfl hne
  | cons f rest =>
    obtain ⟨hsc, hval, hnd⟩ := h
    have hsc' : st.scopes = f.map Prod.fst :: rest.map (·.map Prod.fst) := by simpa using hsc
    have hvals : ∀ m, vget (vset st.values n (v :: Spec.stack rest n)) m =
        Spec.optStack (Spec.stack (Spec.reset (f :: rest) n v) m) := by
      intro m
      by_cases hm : m = n
      · subst hm
        rw [spec_reset_innermost, vget_vset_same, optStack_cons]
      · rw [vget_vset_other _ _ _ _ hm, hval m]
        simp [Spec.reset, Spec.stack, flookup_fset_other f n m v hm]
    have hnd' : ∀ g ∈ Spec.reset (f :: rest) n v, (g.map Prod.fst).Nodup := by
      intro g hg
      simp only [Spec.reset, List.mem_cons] at hg
      rcases hg with e | hg
      · subst e
        rw [fset_keys]
        split
        · exact hnd f List.mem_cons_self
        · rename_i hc
          exact nodup_snoc _ n (hnd f List.mem_cons_self) (by simpa using hc)
      · exact hnd g (List.mem_cons_of_mem _ hg)
    have hv := hval n
    unfold resetOne
    rw [hsc']
    simp only
    cases hc : (f.map Prod.fst).contains n with
    | true =>
      have hlook : (Spec.flookup f n).isSome = true := by rw [flookup_isSome]; exact hc
      obtain ⟨old, hold⟩ := Option.isSome_iff_exists.mp hlook
      rw [spec_stack_nesting f rest n old hold, optStack_cons] at hv
      simp only [if_true, hv]
      exact ⟨_, rfl, by simp only [Spec.reset, List.map_cons, fset_keys, hc, if_true], hvals, hnd'⟩
    | false =>
      simp only [Spec.stack, (flookup_none f n).mpr hc] at hv
      simp only [Bool.false_eq_true, if_false, hv, optStack_getD]
      exact ⟨_, rfl, by simp only [Spec.reset, List.map_cons, fset_keys, hc, Bool.false_eq_true, if_false], hvals,
        hnd'⟩

private theorem rel_touch (g : Int → Int) (st : CState) (fr : Spec.Frames) (h : Rel st fr) (hne : fr ≠ [])
    (n : String) : ∃ st', touchOne g st n = .ok st' ∧ Rel st' (Spec.touch g fr n) := by
  cases fr with
  | nil => exact absurd rfl hne
  | cons f rest =>
    obtain ⟨hsc, hval, hnd⟩ := h
    have hsc' : st.scopes = f.map Prod.fst :: rest.map (·.map Prod.fst) := by simpa using hsc
    -- whatever the new stack `S` of `n` is, storing it under `n` gives the values of the touched frames …
    have hvals : ∀ S, Spec.stack (Spec.touch g (f :: rest) n) n = S → S ≠ [] →
        ∀ m, vget (vset st.values n S) m = Spec.optStack (Spec.stack (Spec.touch g (f :: rest) n) m) := by
      intro S hS hSne m
      by_cases hm : m = n
      · subst hm
        rw [vget_vset_same, hS]
        cases S with
        | nil => exact absurd rfl hSne
        | cons a b => rfl
      · rw [vget_vset_other _ _ _ _ hm, hval m, stack_touch_other g _ n m hm]
    -- … and the frames have no duplicate names as soon as their lists of names have none
    have hnd' : ∀ K, (Spec.touch g (f :: rest) n).map (·.map Prod.fst) = K → (∀ k ∈ K, k.Nodup) →
        ∀ f' ∈ Spec.touch g (f :: rest) n, (f'.map Prod.fst).Nodup :=
      fun K hK hk f' hf' => hk _ (hK ▸ List.mem_map_of_mem hf')
    have hrest : ∀ k ∈ rest.map (·.map Prod.fst), k.Nodup := fun k hk => by
      obtain ⟨f0, hf0, he⟩ := List.mem_map.mp hk
      exact he ▸ hnd f0 (List.mem_cons_of_mem _ hf0)
    have hkeys := keys_touch g f rest n
    have hsame := stack_touch_same g (f :: rest) n (List.cons_ne_nil _ _)
    unfold touchOne
    rw [hsc']
    simp only
    rw [hval n, optStack_getD]
    cases hst : Spec.stack (f :: rest) n with
    | nil =>
      have hc : (f.map Prod.fst).contains n = false := (flookup_none f n).mp (by
        cases hl : Spec.flookup f n with
        | none => rfl
        | some v => rw [spec_stack_nesting f rest n v hl] at hst; cases hst)
      rw [hst] at hsame
      rw [if_pos hst] at hkeys
      simp only [hc, Bool.false_eq_true, if_false]
      refine ⟨_, rfl, hkeys.symm, hvals _ hsame (List.cons_ne_nil _ _), hnd' _ hkeys fun k hk => ?_⟩
      rcases List.mem_cons.mp hk with e | hk
      · exact e ▸ nodup_snoc _ n (hnd f List.mem_cons_self) hc
      · exact hrest k hk
    | cons top tl =>
      rw [hst] at hsame
      rw [if_neg (by rw [hst]; exact List.cons_ne_nil _ _)] at hkeys
      simp only
      refine ⟨_, rfl, hkeys.symm, hvals _ hsame (List.cons_ne_nil _ _), hnd' _ hkeys fun k hk => ?_⟩
      rcases List.mem_cons.mp hk with e | hk
      · exact e ▸ hnd f List.mem_cons_self
      · exact hrest k hk

/-- The level-indexed relation: `k` elements are open (the frame stack has `k + 1` frames). -/
def RelAt (k : Nat) (st : CState) (fr : Spec.Frames) : Prop := Rel st fr ∧ fr.length = k + 1

private theorem rel_fold (fi : CState → String → Int → Except CErr CState)
    (fs : Spec.Frames → String → Int → Spec.Frames) (hlen : ∀ fr n v, (fs fr n v).length = fr.length)
    (hstep : ∀ st fr, Rel st fr → fr ≠ [] → ∀ n v, ∃ st', fi st n v = .ok st' ∧ Rel st' (fs fr n v)) (k : Nat) :
    ∀ (l : List (String × Int)) st fr, RelAt k st fr →
      ∃ st', foldPairs fi l st = .ok st' ∧ RelAt k st' (Spec.foldPairs fs l fr) := by
  intro l
  induction l with
  | nil => intro st fr h; exact ⟨st, rfl, h⟩
  | cons x xs ih =>
    intro st fr h
    obtain ⟨n, v⟩ := x
    obtain ⟨st1, h1, hr1⟩ := hstep st fr h.1 (List.ne_nil_of_length_eq_add_one h.2) n v
    obtain ⟨st2, h2, hr2⟩ := ih st1 _ ⟨hr1, (hlen fr n v).trans h.2⟩
    exact ⟨st2, by simp [foldPairs, h1, h2, bind, Except.bind], by simpa [Spec.foldPairs] using hr2⟩

/-- Reachable states never make `update_counters` raise (KeyError / IndexError / AssertionError are
outcomes of the model only on states that break the stack/scope invariant). -/
theorem update_counters_total (st : CState) (fr : Spec.Frames) (k : Nat) (h : RelAt k st fr) (o : Ops) :
    ∃ st', updateCounters st o = .ok st' ∧ RelAt k st' (Spec.update fr o) := by
  unfold updateCounters Spec.update
  obtain ⟨st1, h1, r1⟩ := rel_fold resetOne Spec.reset reset_length rel_reset k o.reset st fr h
  obtain ⟨st2, h2, r2⟩ := rel_fold (fun s n v => touchOne (fun _ => v) s n) (fun s n v => Spec.touch (fun _ => v) s n)
    (fun fr n _ => touch_length _ fr n) (fun st fr h hne n v => rel_touch (fun _ => v) st fr h hne n) k o.set st1 _ r1
  obtain ⟨st3, h3, r3⟩ := rel_fold (fun s n v => touchOne (fun t => t + v) s n) (fun s n v => Spec.touch (fun t => t + v) s n)
    (fun fr n _ => touch_length _ fr n) (fun st fr h hne n v => rel_touch (fun t => t + v) st fr h hne n) k
    (Spec.effIncr o) st2 _ r2
  exact ⟨st3, by simp only [h1, h2, bind, Except.bind]; exact h3, r3⟩

theorem push_refines (st : CState) (fr : Spec.Frames) (h : Rel st fr) : Rel (pushScope st) ([] :: fr) := by
  obtain ⟨hsc, hval, hnd⟩ := h
  refine ⟨by simp [pushScope, hsc], ?_, ?_⟩
  · intro n; simp [pushScope, Spec.stack, Spec.flookup, hval n]
  · intro f hf
    rcases List.mem_cons.mp hf with e | hf
    · subst e; simp
    · exact hnd f hf

open Spec in
private theorem popNames_refines (rest : Frames) : ∀ (f : Frame) (vs : Values), (f.map Prod.fst).Nodup →
    (∀ n, vget vs n = optStack (stack (f :: rest) n)) →
    ∃ vs', popNames (f.map Prod.fst) vs = .ok vs' ∧ ∀ n, vget vs' n = optStack (stack rest n) := by
  intro f
  induction f with
  | nil =>
    intro vs _ hv
    exact ⟨vs, rfl, fun n => by simpa [stack, flookup] using hv n⟩
  | cons x xs ih =>
    intro vs hnd hv
    obtain ⟨k, w⟩ := x
    have hnd' : (xs.map Prod.fst).Nodup := (List.nodup_cons.mp (by simpa using hnd)).2
    have hk : ¬ k ∈ xs.map Prod.fst := (List.nodup_cons.mp (by simpa using hnd)).1
    have hxk : flookup xs k = none := (flookup_none xs k).mpr (by simpa using hk)
    have hvk := hv k
    simp only [stack, flookup, if_true, optStack_cons] at hvk
    simp only [List.map_cons, popNames, hvk]
    -- values that differ from `vs` at `k` only, where the first name's instance is popped, are those of the frames with
    -- `k` taken out of the innermost one: `Nodup` keeps `k` out of the rest of that frame
    have key : ∀ vs1 : Values, (vget vs1 k = optStack (stack rest k)) → (∀ m, m ≠ k → vget vs1 m = vget vs m) →
        ∀ n, vget vs1 n = optStack (stack (xs :: rest) n) := by
      intro vs1 h1 h2 n
      by_cases hn : n = k
      · subst hn; simp [stack, hxk, h1]
      · rw [h2 n hn, hv n]
        have : ¬ k = n := fun e => hn e.symm
        simp [stack, flookup, this]
    cases hr : stack rest k with
    | nil =>
      exact ih (verase vs k) hnd' (key _ (by simp [vget_verase, hr, optStack])
        (fun m hm => by rw [vget_verase, if_neg hm]))
    | cons a b =>
      exact ih (vset vs k (a :: b)) hnd' (key _ (by simp [vget_vset_same, hr, optStack])
        (fun m hm => vget_vset_other vs k m _ hm))

theorem pop_refines (st : CState) (fr : Spec.Frames) (h : Rel st fr) (hne : fr ≠ []) :
    ∃ st', popScope st = .ok st' ∧ Rel st' fr.tail := by
  cases fr with
  | nil => exact absurd rfl hne
  | cons f rest =>
    obtain ⟨hsc, hval, hnd⟩ := h
    have hsc' : st.scopes = f.map Prod.fst :: rest.map (·.map Prod.fst) := by simpa using hsc
    obtain ⟨vs', h1, h2⟩ := popNames_refines rest f st.values (hnd f List.mem_cons_self) hval
    refine ⟨⟨vs', rest.map (·.map Prod.fst)⟩, ?_, ?_, ?_, ?_⟩
    · simp [popScope, hsc', h1, bind, Except.bind, pure, Except.pure]
    · simp
    · exact h2
    · intro g hg; exact hnd g (List.mem_cons_of_mem _ hg)

/-! ## Generic simulation over the traversal of `element_to_box` -/

/-- Two computations fail with the same Python exception or succeed with related results. -/
def ExSim {α β : Type} (P : α → β → Prop) : Except CErr α → Except CErr β → Prop
  | .ok a, .ok b => P a b
  | .error e, .error e' => e = e'
  | _, _ => False

theorem ExSim.ok {α β : Type} {P : α → β → Prop} {a : α} {b : β} : ExSim P (.ok a) (.ok b) ↔ P a b := Iff.rfl

private theorem ExSim.bind {α β γ δ : Type} {P : α → β → Prop} {Q : γ → δ → Prop}
    {x : Except CErr α} {y : Except CErr β} {f : α → Except CErr γ} {g : β → Except CErr δ}
    (h : ExSim P x y) (hf : ∀ a b, P a b → ExSim Q (f a) (g b)) : ExSim Q (x >>= f) (y >>= g) := by
  cases x with
  | error e =>
    cases y with
    | error e' => exact h
    | ok b => exact h.elim
  | ok a =>
    cases y with
    | error e' => exact h.elim
    | ok b => exact hf a b h

private theorem ExSim.of_eq {α : Type} (x : Except CErr α) : ExSim Eq x x := by
  cases x <;> simp [ExSim]

private theorem exsim_eq {α : Type} {x y : Except CErr α} (h : ExSim Eq x y) : x = y := by
  cases x <;> cases y <;> simp_all [ExSim]

/-- Generic simulation: two counter machines related level by level (the level is the number of open
elements) produce the same generated texts and the same target snapshots. -/
structure Simulation {σ τ : Type} (A : Machine σ) (B : Machine τ) (R : Nat → σ → τ → Prop) : Prop where
  update : ∀ k a b o, R k a b → ExSim (R k) (A.update a o) (B.update b o)
  push : ∀ k a b, R k a b → R (k + 1) (A.push a) (B.push b)
  pop : ∀ k a b, R (k + 1) a b → ExSim (R k) (A.pop a) (B.pop b)
  stack : ∀ k a b, R k a b → A.stack a = B.stack b

def RunRel {σ τ : Type} (R : σ → τ → Prop) (r : RunOut σ) (r' : RunOut τ) : Prop :=
  r.obs = r'.obs ∧ r.stored = r'.stored ∧ R r.state r'.state

section
variable {σ τ : Type} {A : Machine σ} {B : Machine τ} {R : Nat → σ → τ → Prop}

private theorem sim_pseudo (S : Simulation A B R) (cs : Styles) (targets : Targets) (kind : String)
    (p : Option Pseudo) (k : Nat) (a : σ) (b : τ) (h : R k a b) :
    ExSim (fun x y => x.1 = y.1 ∧ R k x.2 y.2) (pseudoRun A cs targets kind p a) (pseudoRun B cs targets kind p b) := by
  cases p with
  | none => simp [pseudoRun, ExSim.ok, h]
  | some p =>
    simp only [pseudoRun]
    refine ExSim.bind (S.update k a b p.ops h) ?_
    intro a1 b1 h1
    rw [S.stack k a1 b1 h1]
    refine ExSim.bind (ExSim.of_eq _) ?_
    intro t t' ht
    subst ht
    simp [ExSim.ok, pure, Except.pure, h1]

mutual
theorem sim_elem (S : Simulation A B R) (cs : Styles) (targets : Targets) :
    ∀ (e : Elem) (k : Nat) (a : σ) (b : τ) (stored : Targets), R k a b →
      ExSim (RunRel (R k)) (elemRun A cs targets e a stored) (elemRun B cs targets e b stored)
  | .mk ops listStyle markerContent anchor before after kids, k, a, b, stored, h => by
    unfold elemRun
    by_cases hd : ops.disp = .none
    · simp [hd, ExSim.ok, RunRel, h]
    · simp only [hd, if_false]
      refine ExSim.bind (S.update k a b ops h) ?_
      intro a1 b1 h1
      have h2 := S.push k a1 b1 h1
      rw [S.stack (k + 1) _ _ h2]
      -- the `do` block puts the whole continuation under each arm of the marker's `if`: nothing to bind on before it
      -- is decided, and the same script runs in both arms
      by_cases hli : ops.disp = .listItem
      all_goals
        simp only [hli, if_true, if_false]
        refine ExSim.bind (ExSim.of_eq _) ?_
        intro mk mk' hmk
        subst hmk
        refine ExSim.bind (sim_pseudo S cs targets "before" before (k + 1) _ _ h2) ?_
        intro pb pb' hpb
        obtain ⟨hob, hrb⟩ := hpb
        rw [S.stack (k + 1) _ _ hrb]
        refine ExSim.bind (sim_kids S cs targets kids (k + 1) pb.2 pb'.2 _ hrb) ?_
        intro r r' hr
        obtain ⟨hro, hrs, hrr⟩ := hr
        refine ExSim.bind (sim_pseudo S cs targets "after" after (k + 1) _ _ hrr) ?_
        intro pa pa' hpa
        obtain ⟨hoa, hra⟩ := hpa
        refine ExSim.bind (S.pop k _ _ hra) ?_
        intro a3 b3 h3
        simp [ExSim.ok, pure, Except.pure, RunRel, hob, hro, hoa, hrs, h3]
theorem sim_kids (S : Simulation A B R) (cs : Styles) (targets : Targets) :
    ∀ (es : List Elem) (k : Nat) (a : σ) (b : τ) (stored : Targets), R k a b →
      ExSim (RunRel (R k)) (kidsRun A cs targets es a stored) (kidsRun B cs targets es b stored)
  | [], k, a, b, stored, h => by simp [kidsRun, ExSim.ok, RunRel, h]
  | e :: rest, k, a, b, stored, h => by
    unfold kidsRun
    refine ExSim.bind (sim_elem S cs targets e k a b stored h) ?_
    intro r1 r1' hr1
    obtain ⟨ho1, hs1, hr1⟩ := hr1
    rw [hs1]
    refine ExSim.bind (sim_kids S cs targets rest k _ _ _ hr1) ?_
    intro r2 r2' hr2
    obtain ⟨ho2, hs2, hr2⟩ := hr2
    simp [ExSim.ok, pure, Except.pure, RunRel, ho1, ho2, hs2, hr2]
end

end

/-! ## Scoping: `update_counters` + `element_to_box` refine the reference semantics -/

theorem impl_simulates_spec : Simulation implMachine Spec.machine RelAt where
  update := by
    intro k a b o h
    obtain ⟨st', h1, h2⟩ := update_counters_total a b k h o
    simp only [implMachine, Spec.machine, h1, ExSim.ok]
    exact h2
  push := by
    intro k a b ⟨h, hl⟩
    exact ⟨push_refines a b h, by simp [Spec.machine, hl]⟩
  pop := by
    intro k a b ⟨h, hl⟩
    obtain ⟨st', h1, h2⟩ := pop_refines a b h (List.ne_nil_of_length_eq_add_one hl)
    simp only [implMachine, Spec.machine, h1, ExSim.ok]
    exact ⟨h2, by simp [hl]⟩
  stack := by
    intro k a b ⟨h, _⟩
    funext n
    exact h.values n

theorem init_related : RelAt 0 initState Spec.init := by
  refine ⟨⟨rfl, ?_, ?_⟩, rfl⟩
  · intro n
    by_cases h : "footnote" = n
    · subst h; simp [initState, Spec.init, vget, Spec.stack, Spec.flookup, Spec.optStack]
    · simp [initState, Spec.init, vget, Spec.stack, Spec.flookup, Spec.optStack, h]
  · intro f hf
    simp [Spec.init] at hf
    subst hf
    simp

/-- **C15.scope_refines** — for every element tree, the texts of all `::marker` / `::before` /
`::after` boxes (and the failures) produced by the model of `update_counters` + `element_to_box`
(`counter_values` stacks and `counter_scopes` sets) are those of the reference semantics
`Spec.counters` (frames of counter instances: reset replaces the sibling-level instance or adds one,
set/increment act on the innermost instance, leaving an element drops its frame); in particular
`update_counters` and the scope pop never raise on a reachable state. -/
theorem scope_refines (cs : Styles) (root : Elem) : buildTexts cs root = Spec.counters cs root := by
  unfold buildTexts Spec.counters buildTextsWith
  apply exsim_eq
  refine ExSim.bind (sim_elem impl_simulates_spec cs [] root 0 initState Spec.init [] init_related) ?_
  intro r1 r1' ⟨_, hs, _⟩
  rw [hs]
  refine ExSim.bind (sim_elem impl_simulates_spec cs r1'.stored root 0 initState Spec.init [] init_related) ?_
  intro r2 r2' ⟨ho, _, _⟩
  simp [ExSim.ok, pure, Except.pure, ho]

/-! ## The reference machine one counter at a time: runs that succeed (`ExAll`), quiet subtrees, the order of set and
increment, list numbering (of the implementation too, by `scope_refines`) -/

/-- Holds of the result when the computation succeeds. -/
def ExAll {α : Type} (P : α → Prop) : Except CErr α → Prop
  | .ok a => P a
  | .error _ => True

theorem ExAll.ok {α : Type} {P : α → Prop} {a : α} : ExAll P (.ok a) ↔ P a := Iff.rfl

theorem ExAll.bind {α β : Type} {P : α → Prop} {Q : β → Prop} {x : Except CErr α} {f : α → Except CErr β}
    (h : ExAll P x) (hf : ∀ a, P a → ExAll Q (f a)) : ExAll Q (x >>= f) := by
  cases x with
  | error e => trivial
  | ok a => exact hf a h

private theorem ExAll.triv {α : Type} (x : Except CErr α) : ExAll (fun _ => True) x := by
  cases x <;> simp [ExAll]

private theorem ExAll.self {α : Type} (x : Except CErr α) : ExAll (fun v => x = .ok v) x := by
  cases x <;> simp [ExAll]

theorem ExAll.mono {α : Type} {P Q : α → Prop} {x : Except CErr α} (h : ExAll P x) (hq : ∀ a, P a → Q a) :
    ExAll Q x := by
  cases x <;> simp_all [ExAll]

/-- The walk of `element_to_box` through a displayed element, as a sequencing rule: what holds after `::before`
(`B`), after the children (`C`), and after `::after` and the pop (`Q`).  The marker text is computed in between and
plays no part. -/
theorem elemRun_seq {σ : Type} {m : Machine σ} {cs : Styles} {targets : Targets} {ops : Ops}
    {listStyle : Option CName} {markerContent : Option (List Item)} {anchor : Option String}
    {before after : Option Pseudo} {kids : List Elem} {st : σ} {stored : Targets} (hd : ops.disp ≠ .none)
    {B : List Obs × σ → Prop} {C Q : RunOut σ → Prop}
    (hb : ∀ a, m.update st ops = .ok a → ExAll B (pseudoRun m cs targets "before" before (m.push a)))
    (hk : ∀ pb, B pb → ExAll C (kidsRun m cs targets kids pb.2
      (match anchor with
        | some a => storeTarget stored a (m.stack pb.2)
        | none => stored)))
    (ha : ∀ r, C r → ExAll (fun pa => ExAll (fun s => ∀ obs, Q ⟨obs, s, r.stored⟩) (m.pop pa.2))
      (pseudoRun m cs targets "after" after r.state)) :
    ExAll Q (elemRun m cs targets (.mk ops listStyle markerContent anchor before after kids) st stored) := by
  unfold elemRun
  simp only [hd, if_false]
  refine ExAll.bind (ExAll.self _) fun a1 hu => ?_
  by_cases hli : ops.disp = .listItem
  all_goals
    simp only [hli, if_true, if_false]
    refine ExAll.bind (ExAll.triv _) fun mk _ => ?_
    refine ExAll.bind (hb a1 hu) fun pb hpb => ?_
    refine ExAll.bind (hk pb hpb) fun r hr => ?_
    refine ExAll.bind (ha r hr) fun pa hpa => ?_
    refine ExAll.bind hpa fun s hs => ?_
    exact hs _

/-- The walk through a sequence of siblings, as a sequencing rule. -/
theorem kidsRun_cons {σ : Type} {m : Machine σ} {cs : Styles} {targets : Targets} {e : Elem} {rest : List Elem}
    {st : σ} {stored : Targets} {P Q : RunOut σ → Prop} (he : ExAll P (elemRun m cs targets e st stored))
    (hk : ∀ r1, P r1 → ExAll (fun r2 => ∀ obs, Q ⟨obs, r2.state, r2.stored⟩)
      (kidsRun m cs targets rest r1.state r1.stored)) :
    ExAll Q (kidsRun m cs targets (e :: rest) st stored) := by
  unfold kidsRun
  refine ExAll.bind he fun r1 hr1 => ?_
  refine ExAll.bind (hk r1 hr1) fun r2 hr2 => ?_
  exact hr2 _

/-- A pseudo-element on the reference machine changes the frames by its own `counter-*` declarations only. -/
private theorem pseudoRun_column (n : String) (cs : Styles) (targets : Targets) (kind : String) (p : Option Pseudo)
    (fr : Spec.Frames) :
    ExAll (fun x => column n x.2 = cpseudo n p (column n fr)) (pseudoRun Spec.machine cs targets kind p fr) := by
  cases p with
  | none => exact rfl
  | some q =>
    simp only [pseudoRun, Spec.machine]
    show ExAll _ (Except.ok (Spec.update fr q.ops) >>= _)
    refine ExAll.bind (P := fun a => a = Spec.update fr q.ops) rfl fun a ha => ?_
    subst ha
    exact ExAll.bind (ExAll.triv _) fun t _ => column_update_eq n fr q.ops

mutual
/-- The reference machine read on the column of one name is the pure walk `crun`: what a subtree does to a counter
is a fact about that function, with no styles, targets or failures in sight. -/
theorem elemRun_column (n : String) (cs : Styles) (targets : Targets) :
    ∀ (e : Elem) (fr : Spec.Frames) (stored : Targets),
      ExAll (fun r => column n r.state = crun n e (column n fr)) (elemRun Spec.machine cs targets e fr stored)
  | .mk ops listStyle markerContent anchor before after kids, fr, stored => by
    by_cases hd : ops.disp = .none
    · unfold elemRun
      simp [hd, ExAll.ok, crun]
    · simp only [crun, hd, if_false]
      refine elemRun_seq hd
        (B := fun x => column n x.2 = cpseudo n before (none :: cupdate n ops (column n fr)))
        (C := fun r => column n r.state = ckids n kids (cpseudo n before (none :: cupdate n ops (column n fr))))
        (fun a ha1 => ?_) (fun pb hpb => ?_) (fun r hr => ?_)
      · cases ha1
        refine (pseudoRun_column n cs targets "before" before _).mono fun x hx => ?_
        rw [hx, ← column_update_eq]
        rfl
      · exact (kidsRun_column n cs targets kids pb.2 _).mono fun r hr => by rw [hr, hpb]
      · exact (pseudoRun_column n cs targets "after" after r.state).mono fun pa hpa _ => by
          rw [column_tail, hpa, hr]
theorem kidsRun_column (n : String) (cs : Styles) (targets : Targets) :
    ∀ (es : List Elem) (fr : Spec.Frames) (stored : Targets),
      ExAll (fun r => column n r.state = ckids n es (column n fr)) (kidsRun Spec.machine cs targets es fr stored)
  | [], fr, stored => by simp [kidsRun, ExAll.ok, ckids]
  | e :: rest, fr, stored => by
    refine kidsRun_cons (elemRun_column n cs targets e fr stored) fun r1 hr1 => ?_
    exact (kidsRun_column n cs targets rest r1.state r1.stored).mono fun _ hr2 _ => by
      rw [hr2, hr1, ckids]
end

def namesOf (l : List (String × Int)) : List String := l.map Prod.fst

/-- The style does not mention counter `n` (no reset / set / increment, explicit or implicit). -/
def opsQuiet (n : String) (o : Ops) : Bool :=
  !(namesOf o.reset).contains n && !(namesOf o.set).contains n &&
  (match o.incr with
   | some l => !(namesOf l).contains n
   | none => !(o.disp = .listItem && n = "list-item"))

def pseudoQuiet (n : String) : Option Pseudo → Bool
  | none => true
  | some p => opsQuiet n p.ops

mutual
/-- No element or pseudo-element of the subtree mentions counter `n`. -/
def quiet (n : String) : Elem → Bool
  | .mk ops _ _ _ before after kids =>
    ops.disp = .none || (opsQuiet n ops && pseudoQuiet n before && pseudoQuiet n after && quietAll n kids)
def quietAll (n : String) : List Elem → Bool
  | [] => true
  | e :: es => quiet n e && quietAll n es
end

theorem cupdate_quiet (n : String) (o : Ops) (col : List (Option Int)) (h : opsQuiet n o = true) :
    cupdate n o col = col := by
  simp only [opsQuiet, Bool.and_eq_true, Bool.not_eq_true'] at h
  obtain ⟨⟨h1, h2⟩, h3⟩ := h
  have h4 : (namesOf (Spec.effIncr o)).contains n = false := by
    unfold Spec.effIncr
    cases hi : o.incr with
    | some l => simpa [hi] using h3
    | none =>
      simp only [hi] at h3
      by_cases hli : o.disp = .listItem
      · have : ¬ n = "list-item" := by simpa [hli] using h3
        simp [hli, namesOf]
        exact this
      · simp [hli, namesOf]
  unfold cupdate
  rw [cfold_quiet _ n _ _ h4, cfold_quiet _ n _ _ h2, cfold_quiet _ n _ _ h1]

/-! ### The order of `counter-set` and `counter-increment` -/

/-- **C15.update_order_partial** — the order `update_counters` uses (reset, **set, increment**) and the order of
css-lists-3 §4.5 (reset, **increment, set**) give every counter the same instances and values, except a counter
that the element both sets and increments (there the code adds the increment to the set value: witness
`Witness.C15.set_before_increment`, finding `counter-set-before-increment`). -/
theorem update_order_partial (fr : Spec.Frames) (o : Ops) (n : String)
    (h : (namesOf o.set).contains n = false ∨ (namesOf (Spec.effIncr o)).contains n = false) :
    Spec.stack (Spec.update fr o) n = Spec.stack (Spec.updateCss fr o) n := by
  rw [stack_of_column, stack_of_column, column_update_eq, column_updateCss_eq]
  congr 1
  unfold cupdate
  -- the two orders differ by an exchange of two folds, and the one that does not name `n` is the identity
  -- wherever it stands
  rcases h with h | h
  · rw [cfold_quiet _ n o.set _ h, cfold_quiet _ n o.set _ h]
  · rw [cfold_quiet _ n (Spec.effIncr o) _ h, cfold_quiet _ n (Spec.effIncr o) _ h]

private theorem cpseudo_quiet (n : String) (p : Option Pseudo) (c : List (Option Int)) (h : pseudoQuiet n p = true) :
    cpseudo n p c = c := by
  cases p with
  | none => rfl
  | some q => exact cupdate_quiet n q.ops c h

mutual
/-- A subtree that does not mention `n` leaves every instance of `n` as it was. -/
theorem crun_quiet (n : String) : ∀ (e : Elem) (c : List (Option Int)), quiet n e = true → crun n e c = c
  | .mk ops _ _ _ before after kids, c, h => by
    unfold quiet at h
    unfold crun
    by_cases hd : ops.disp = .none
    · rw [if_pos hd]
    · simp only [hd, decide_false, Bool.false_or, Bool.and_eq_true] at h
      obtain ⟨⟨⟨hq, hb⟩, ha⟩, hk⟩ := h
      -- inside the element the column of `n` is the outer one under the new, empty frame
      rw [if_neg hd, cupdate_quiet n ops c hq, cpseudo_quiet n before _ hb, ckids_quiet n kids _ hk,
        cpseudo_quiet n after _ ha]
      rfl
theorem ckids_quiet (n : String) : ∀ (es : List Elem) (c : List (Option Int)), quietAll n es = true → ckids n es c = c
  | [], c, _ => by rw [ckids]
  | e :: rest, c, h => by
    unfold quietAll at h
    simp only [Bool.and_eq_true] at h
    rw [ckids, crun_quiet n e c h.1, ckids_quiet n rest c h.2]
end

/-- `<li>` without counter declarations of its own, whose content does not mention `list-item`
(the UA sheet gives it `display: list-item`, hence the implicit `counter-increment: list-item 1`). -/
def isPlainItem : Elem → Bool
  | .mk ops _ _ _ before after kids =>
    ops.disp = .listItem && ops.reset.isEmpty && ops.set.isEmpty && ops.incr.isNone &&
    pseudoQuiet "list-item" before && pseudoQuiet "list-item" after && quietAll "list-item" kids

private theorem plain_update (ops : Ops) (fr : Spec.Frames) (h1 : ops.disp = .listItem) (h2 : ops.reset.isEmpty = true)
    (h3 : ops.set.isEmpty = true) (h4 : ops.incr.isNone = true) :
    Spec.update fr ops = Spec.touch (fun t => t + 1) fr "list-item" := by
  have e2 : ops.reset = [] := by simpa using h2
  have e3 : ops.set = [] := by simpa using h3
  have e4 : ops.incr = none := by simpa using h4
  simp [Spec.update, e2, e3, e4, h1, Spec.foldPairs]

/-- The value the marker of a plain item reads: one more than the innermost `list-item` instance
before the item. -/
theorem item_marker_value (ops : Ops) (fr : Spec.Frames) (v : Int) (tl : List Int)
    (h1 : ops.disp = .listItem) (h2 : ops.reset.isEmpty = true) (h3 : ops.set.isEmpty = true)
    (h4 : ops.incr.isNone = true) (hs : Spec.stack fr "list-item" = v :: tl) :
    Spec.machine.stack (Spec.machine.push (Spec.update fr ops)) "list-item" = some ((v + 1) :: tl) := by
  rw [plain_update ops fr h1 h2 h3 h4]
  simp [Spec.machine, Spec.stack, Spec.flookup, spec_touch_innermost _ fr "list-item" v tl hs, Spec.optStack]

/-! ### Nested lists: a reset on a child shields the outer instances -/

/-- The element itself resets `n` (and is displayed). -/
def resetsFirst (n : String) : Elem → Bool
  | .mk ops _ _ _ _ _ _ => !(ops.disp = .none) && (namesOf ops.reset).contains n

/-- A sequence of siblings that leaves the outer instances of `n` alone: list-item-free elements up to the
first one that resets `n` itself (a nested `ol`); what follows a reset is unconstrained. -/
def containedSeq (n : String) : List Elem → Bool
  | [] => true
  | e :: es => resetsFirst n e || (quiet n e && containedSeq n es)

/-- Along a contained sibling sequence the column of `n` is untouched so far, or shielded. -/
private theorem ckids_contained (n : String) (c0 : Option Int) (c1 : List (Option Int)) :
    ∀ (es : List Elem) (c : List (Option Int)), c = c0 :: c1 ∨ Shield 0 c1 c → containedSeq n es = true →
      ckids n es c = c0 :: c1 ∨ Shield 0 c1 (ckids n es c) := by
  intro es
  induction es with
  | nil => intro c h _; rw [ckids]; exact h
  | cons e rest ih =>
    intro c hinv hc
    rw [ckids]
    rcases hinv with hA | hB
    · unfold containedSeq at hc
      by_cases hr : resetsFirst n e = true
      · -- the element resets `n` itself: shielded from here on
        obtain ⟨ops, ls, mc, an, be, af, ks⟩ := e
        simp only [resetsFirst, Bool.and_eq_true, Bool.not_eq_true', decide_eq_false_iff_not] at hr
        exact Or.inr ((Shield.run_of_update n ops ls mc an be af ks hr.1
          (hA ▸ (Shield.of_reset n c1 ops.reset c0 hr.2).update_of n ops)).kids n rest 0 _)
      · simp only [hr, Bool.false_or, Bool.and_eq_true] at hc
        rw [crun_quiet n e c hc.1]
        exact ih c (Or.inl hA) hc.2
    · exact Or.inr ((hB.run n e 0 c).kids n rest 0 _)

/-- An element whose `::before` does not mention `n`, whose children are a contained sequence and whose
`::after` does not mention `n`: the instances of `n` after it are those right after its own
declarations — nested lists included. -/
theorem own_ops_only (n : String) (cs : Styles) (targets : Targets) (ops : Ops) (listStyle : Option CName)
    (markerContent : Option (List Item)) (anchor : Option String) (before after : Option Pseudo) (kids : List Elem)
    (fr : Spec.Frames) (stored : Targets) (hd : ops.disp ≠ .none)
    (hb : pseudoQuiet n before = true) (ha : pseudoQuiet n after = true) (hk : containedSeq n kids = true) :
    ExAll (fun r => Spec.stack r.state n = Spec.stack (Spec.update fr ops) n)
      (elemRun Spec.machine cs targets (.mk ops listStyle markerContent anchor before after kids) fr stored) := by
  refine (elemRun_column n cs targets _ fr stored).mono fun r hr => ?_
  rw [stack_of_column, stack_of_column, hr, column_update_eq]
  congr 1
  unfold crun
  rw [if_neg hd, cpseudo_quiet n before _ hb]
  rcases ckids_contained n none _ kids _ (Or.inl rfl) hk with h | h
  · rw [h, cpseudo_quiet n after _ ha]
    rfl
  · exact (h.pseudo n after).tail_zero

/-- `<li>` without counter declarations of its own whose content is a contained sequence for
`list-item` (text, list-item-free elements, nested lists that reset `list-item`, anything after them). -/
def isItem : Elem → Bool
  | .mk ops _ _ _ before after kids =>
    ops.disp = .listItem && ops.reset.isEmpty && ops.set.isEmpty && ops.incr.isNone &&
    pseudoQuiet "list-item" before && pseudoQuiet "list-item" after && containedSeq "list-item" kids

/-- **C15.list_numbers**, nesting included — the items of a list count `start + 1, start + 2, …`
independently of the lists nested in them: after `k` items the innermost `list-item` instance of the
list has grown by exactly `k`. -/
theorem list_numbers_nested (cs : Styles) (targets : Targets) : ∀ (items : List Elem) (fr : Spec.Frames)
    (stored : Targets) (v : Int) (tl : List Int), (∀ e ∈ items, isItem e = true) →
    Spec.stack fr "list-item" = v :: tl →
    ExAll (fun r => Spec.stack r.state "list-item" = (v + items.length) :: tl)
      (kidsRun Spec.machine cs targets items fr stored) := by
  intro items
  induction items with
  | nil => intro fr stored v tl _ hs; simp [kidsRun, ExAll.ok, hs]
  | cons e rest ih =>
    intro fr stored v tl hp hs
    have he := hp e List.mem_cons_self
    obtain ⟨ops, listStyle, markerContent, anchor, before, after, kids⟩ := e
    simp only [isItem, Bool.and_eq_true, decide_eq_true_eq] at he
    obtain ⟨⟨⟨⟨⟨⟨h1, h2⟩, h3⟩, h4⟩, hb⟩, ha⟩, hk⟩ := he
    have hd : ops.disp ≠ .none := by rw [h1]; decide
    refine kidsRun_cons (own_ops_only "list-item" cs targets ops listStyle
      markerContent anchor before after kids fr stored hd hb ha hk) fun r1 hr1 => ?_
    have hs1 : Spec.stack r1.state "list-item" = (v + 1) :: tl := by
      rw [hr1, plain_update ops fr h1 h2 h3 h4]
      exact spec_touch_innermost _ fr "list-item" v tl hs
    refine (ih r1.state r1.stored (v + 1) tl (fun x hx => hp x (List.mem_cons_of_mem _ hx)) hs1).mono fun r2 hr2 _ => ?_
    simp only [hr2, List.length_cons]
    congr 1
    omega

private theorem contained_of_quiet (n : String) : ∀ es : List Elem, quietAll n es = true → containedSeq n es = true
  | [], _ => rfl
  | e :: es, h => by
    unfold quietAll at h
    unfold containedSeq
    rw [Bool.and_eq_true] at h
    rw [h.1, contained_of_quiet n es h.2, Bool.and_self, Bool.or_true]

/-- **C15.list_numbers** — the items of a list count `start + 1, start + 2, …`: after `k` plain items
the innermost `list-item` instance has grown by exactly `k`, whatever (list-item-free) content the
items have; with `item_marker_value` the `i`-th marker prints `start + i`.  By `scope_refines` the same
holds of the implementation's `counter_values`. -/
theorem list_numbers (cs : Styles) (targets : Targets) : ∀ (items : List Elem) (fr : Spec.Frames) (stored : Targets)
    (v : Int) (tl : List Int), (∀ e ∈ items, isPlainItem e = true) → Spec.stack fr "list-item" = v :: tl →
    ExAll (fun r => Spec.stack r.state "list-item" = (v + items.length) :: tl)
      (kidsRun Spec.machine cs targets items fr stored) := by
  intro items fr stored v tl hp hs
  refine list_numbers_nested cs targets items fr stored v tl (fun e he => ?_) hs
  have h := hp e he
  obtain ⟨ops, listStyle, markerContent, anchor, before, after, kids⟩ := e
  simp only [isPlainItem, Bool.and_eq_true] at h
  simp only [isItem, Bool.and_eq_true]
  exact ⟨h.1, contained_of_quiet _ kids h.2⟩

/-! ### `counters()` nesting and target snapshots -/

/-- **C15.counters_path** — `counters(name, sep, style)` prints the instances in scope outermost first,
joined by the separator (the stack is kept innermost first). -/
theorem counters_path (cs : Styles) (style : CName) (sep : String) (stack : List Int) (texts : List String)
    (h : stack.reverse.mapM (fun v => renderValueTop cs v style) = .ok texts) :
    renderStack cs style sep stack = .ok (sep.intercalate texts) := by
  simp [renderStack, h, bind, Except.bind, pure, Except.pure]

/-- `counter(name, style)`: the innermost instance, `0` when none is in scope. -/
theorem counter_item (cs : Styles) (targets : Targets) (values : Snapshot) (name : String) (style : CName)
    (rest : List Item) (acc t : String) (hs : style ≠ .named "none")
    (h : renderValueTop cs (((values name).getD [0]).headD 0) style = .ok t) :
    evalContent cs targets values (.counter name style :: rest) acc =
      evalContent cs targets values rest (acc ++ t) := by
  simp only [evalContent, hs, if_false, bind, Except.bind]
  rw [h]

/-- **C15.target_values** (printing side) — `target-counter(anchor, name, style)` prints the innermost
instance of `name` in the snapshot stored for the anchor; an anchor without stored target ends the list. -/
theorem target_counter_item (cs : Styles) (targets : Targets) (values tv : Snapshot) (anchor name : String)
    (style : CName) (rest : List Item) (acc t : String) (hs : style ≠ .named "none")
    (ht : tget targets anchor = some tv)
    (h : renderValueTop cs (((tv name).getD [0]).headD 0) style = .ok t) :
    evalContent cs targets values (.targetCounter anchor name style :: rest) acc =
      evalContent cs targets values rest (acc ++ t) := by
  simp only [evalContent, hs, if_false, ht, bind, Except.bind]
  rw [h]

theorem target_counter_missing (cs : Styles) (targets : Targets) (values : Snapshot) (anchor name : String)
    (style : CName) (rest : List Item) (acc : String) (hs : style ≠ .named "none")
    (ht : tget targets anchor = none) :
    evalContent cs targets values (.targetCounter anchor name style :: rest) acc = .ok acc := by
  simp [evalContent, hs, ht]

/-- `store_target`: the first box stored under an anchor wins. -/
theorem storeTarget_first_wins (ts : Targets) (a : String) (s s' : Snapshot) (h : tget ts a = some s) :
    storeTarget ts a s' = ts := by
  simp [storeTarget, h]

private theorem tget_append_new (ts : Targets) (a b : String) (s : Snapshot) :
    tget (ts ++ [(b, s)]) a = (tget ts a).orElse fun _ => if b = a then some s else none :=
  assoc_get_append tget (fun _ => rfl) (fun _ _ _ _ => rfl) ts [(b, s)] a

theorem storeTarget_stores (ts : Targets) (a : String) (s : Snapshot) (h : tget ts a = none) :
    tget (storeTarget ts a s) a = some s := by
  simp [storeTarget, h, tget_append_new]

theorem storeTarget_keeps (ts : Targets) (a b : String) (s s' : Snapshot) (h : tget ts a = some s) :
    tget (storeTarget ts b s') a = some s := by
  unfold storeTarget
  cases hb : tget ts b with
  | some _ => exact h
  | none => simp [tget_append_new, h]

section
variable {σ : Type} (m : Machine σ)

mutual
/-- A stored snapshot is never replaced by the rest of the walk. -/
theorem stored_kept_elem (cs : Styles) (targets : Targets) (a : String) (s : Snapshot) :
    ∀ (e : Elem) (st : σ) (stored : Targets), tget stored a = some s →
      ExAll (fun r => tget r.stored a = some s) (elemRun m cs targets e st stored)
  | .mk ops listStyle markerContent anchor before after kids, st, stored, h => by
    by_cases hd : ops.disp = .none
    · unfold elemRun
      simp [hd, ExAll.ok, h]
    · refine elemRun_seq hd
        (C := fun r => tget r.stored a = some s) (fun _ _ => ExAll.triv _) (fun pb _ => ?_)
        (fun r hr => (ExAll.triv _).mono fun pa _ => (ExAll.triv _).mono fun _ _ _ => hr)
      refine stored_kept_kids cs targets a s kids pb.2 _ ?_
      cases anchor with
      | none => exact h
      | some a' => exact storeTarget_keeps stored a a' s _ h
theorem stored_kept_kids (cs : Styles) (targets : Targets) (a : String) (s : Snapshot) :
    ∀ (es : List Elem) (st : σ) (stored : Targets), tget stored a = some s →
      ExAll (fun r => tget r.stored a = some s) (kidsRun m cs targets es st stored)
  | [], st, stored, h => by simpa [kidsRun, ExAll.ok] using h
  | e :: rest, st, stored, h =>
    kidsRun_cons (stored_kept_elem cs targets a s e st stored h)
      fun r1 hr1 => (stored_kept_kids cs targets a s rest r1.state r1.stored hr1).mono fun _ hr2 _ => hr2
end

/-- **C15.target_values** (storing side) — for a displayed element carrying an anchor that no earlier
element carried, the snapshot kept for the whole document is the counter state right after the element's
own `counter-*` declarations and its `::before`, before its children and `::after` — and nothing later
replaces it. -/
theorem target_snapshot (cs : Styles) (targets : Targets) (ops : Ops) (listStyle : Option CName)
    (markerContent : Option (List Item)) (a : String) (before after : Option Pseudo) (kids : List Elem)
    (st : σ) (stored : Targets) (hd : ops.disp ≠ .none) (hnew : tget stored a = none) :
    ExAll (fun r => ∃ st1 pb, m.update st ops = .ok st1 ∧
        pseudoRun m cs targets "before" before (m.push st1) = .ok pb ∧
        tget r.stored a = some (m.stack pb.2))
      (elemRun m cs targets (.mk ops listStyle markerContent (some a) before after kids) st stored) := by
  refine elemRun_seq hd
    (B := fun pb => ∃ st1, m.update st ops = .ok st1 ∧ pseudoRun m cs targets "before" before (m.push st1) = .ok pb)
    (C := fun r => ∃ st1 pb, m.update st ops = .ok st1 ∧
      pseudoRun m cs targets "before" before (m.push st1) = .ok pb ∧ tget r.stored a = some (m.stack pb.2))
    (fun st1 hu => ?_) (fun pb hpb => ?_)
    (fun r hr => (ExAll.triv _).mono fun pa _ => (ExAll.triv _).mono fun _ _ _ => hr)
  · exact (ExAll.self _).mono fun pb hp => ⟨st1, hu, hp⟩
  · obtain ⟨st1, hu, hp⟩ := hpb
    exact (stored_kept_kids m cs targets a _ kids pb.2 _ (storeTarget_stores stored a _ hnew)).mono
      fun r hr => ⟨st1, pb, hu, hp, hr⟩

end

/- `ExAll` is used through its lemmas only from here on: unfolding it on a concrete run would make the
elaborator evaluate the whole traversal. -/
attribute [irreducible] ExAll

/-! ## Re-pagination loop -/

open Wp.Repaginate

/-- **C15.bounded** — `layout_document` makes at most `max_loops` passes. -/
theorem bounded {σ : Type} (step : σ → σ × PassObs) : ∀ (k total : Nat) (last : Option (Nat × PassObs)) (s : σ),
    (loopFrom step k total last s).passes ≤ k := by
  intro k total last s
  fun_induction loopFrom step k total last s with
  | case1 => exact Nat.le_refl 0
  | case2 k total last s r hre out ih => exact Nat.succ_le_succ ih
  | case3 => exact Nat.le_add_left 1 _

theorem layout_bounded {σ : Type} (step : σ → σ × PassObs) (maxLoops : Nat) (s : σ) :
    (layoutLoop step maxLoops s).passes ≤ maxLoops := bounded step maxLoops 0 none s

/-- The `break`: the loop is left after a pass `step s0` that asks for no other one: it raised no `content_changed`
flag, and either no page wants `pages` or the page count did not change during that pass; the returned state and
page count are those of that pass. -/
private theorem loop_exit {σ : Type} (step : σ → σ × PassObs) : ∀ (k total : Nat) (last : Option (Nat × PassObs)) (s : σ),
    (loopFrom step k total last s).converged = true →
    ∃ s0 initial, (loopFrom step k total last s).state = (step s0).1 ∧
      (loopFrom step k total last s).last = some (initial, (step s0).2) ∧
      reloopContent (step s0).2 = false ∧
      ((step s0).2.flags.any (·.pagesWanted) = true → initial = (step s0).2.pages) ∧
      (loopFrom step k total last s).pages = (step s0).2.pages := by
  intro k total last s
  fun_induction loopFrom step k total last s with
  | case1 => nofun
  | case2 k total last s r hre out ih => exact ih
  | case3 k total last s r hre =>
    refine fun _ => ⟨s, total, rfl, rfl, ?_, ?_, rfl⟩
    · simp only [r, reloop, Bool.or_eq_true, not_or] at hre
      simpa using hre.1
    · intro hpw
      simp only [r, reloop, Bool.or_eq_true, not_or, reloopPages, hpw, Bool.true_and] at hre
      simpa using hre.2

/-- The state a pass leaves: which number every page-based reference prints, and on which page its
target lies in the pagination of that pass. -/
structure World (σ : Type) where
  step : σ → σ × PassObs
  labels : σ → List (Nat × Nat)

/-- The contract of `make_page` / `cache_target_page_counters` assumed by `fixpoint_consistent`: a pass
after which some printed number differs from the page of its target raises `content_changed`
somewhere (sampled by the `toc-labels` correspondence on real documents). -/
def World.Sound {σ : Type} (w : World σ) : Prop :=
  ∀ s, (∃ l ∈ w.labels (w.step s).1, l.1 ≠ l.2) → reloopContent (w.step s).2 = true

/-- **C15.fixpoint_consistent** — if `layout_document` leaves its loop by the `break` (no
`content_changed`, no effective `pages_wanted`) and the flags are sound, every printed page-based
number equals the page of its target in the *returned* pagination. -/
theorem fixpoint_consistent {σ : Type} (w : World σ) (hs : w.Sound) (maxLoops : Nat) (s : σ)
    (hc : (layoutLoop w.step maxLoops s).converged = true) :
    ∀ l ∈ w.labels (layoutLoop w.step maxLoops s).state, l.1 = l.2 := by
  unfold layoutLoop at hc ⊢
  obtain ⟨s0, _, hst, _, hcontent, _, _⟩ := loop_exit w.step maxLoops 0 none s hc
  intro l hmem
  rw [hst] at hmem
  by_cases hne : l.1 = l.2
  · exact hne
  · have := hs s0 ⟨l, hmem, hne⟩
    rw [hcontent] at this
    cases this

/-- `counter(pages)`: when the loop converged and some page printed `pages`, the total it was laid out
with (the previous pass's count) is the returned page count. -/
theorem pages_consistent {σ : Type} (step : σ → σ × PassObs) (maxLoops : Nat) (s : σ)
    (hc : (layoutLoop step maxLoops s).converged = true) :
    ∃ initial o, (layoutLoop step maxLoops s).last = some (initial, o) ∧
      (o.flags.any (·.pagesWanted) = true → initial = (layoutLoop step maxLoops s).pages) := by
  obtain ⟨s0, initial, _, h1, _, h3, h4⟩ := loop_exit step maxLoops 0 none s hc
  exact ⟨initial, _, h1, fun h => by rw [show (layoutLoop step maxLoops s).pages = (step s0).2.pages from h4]; exact h3 h⟩

/-- `make_all_pages`: a page is reused only when pages exist and neither flag of its entry is set. -/
theorem reuse_only_if_clean (pagesEmpty : Bool) (f : Flags) :
    mustRemake pagesEmpty f = false ↔ pagesEmpty = false ∧ f.contentChanged = false ∧ f.pagesWanted = false := by
  cases pagesEmpty <;> cases f with | mk a b => cases a <;> cases b <;> simp [mustRemake]

/-! ## Non-vacuity of hypotheses used above, on concrete inputs -/

section Examples
private def roman : List (Nat × Sym) :=
  [(1000, .str "m"), (900, .str "cm"), (500, .str "d"), (400, .str "cd"), (100, .str "c"), (90, .str "xc"),
   (50, .str "l"), (40, .str "xl"), (10, .str "x"), (9, .str "ix"), (5, .str "v"), (4, .str "iv"), (1, .str "i")]

example : numDigits 10 2024 = [2, 0, 2, 4] := by decide +kernel
example : decodeNum 10 (numDigits 10 2024) = 2024 := numeric_roundtrip 10 2024 (by decide)
example : alphaDigits 26 28 = [0, 1] := by decide          -- "ab"
example : decodeAlpha 26 (alphaDigits 26 703) = 703 := alphabetic_roundtrip 26 703
example : (additiveLoop roman 1994 []).map weightSum = some 1994 := by decide +kernel
example : (additiveLoop roman 1994 []).map (fun l => String.join (l.map (·.2.text))) = some "mcmxciv" := by decide +kernel
example : additiveLoop [(5, .str "V"), (0, .str "Z"), (2, .str "II")] 3 [] = none := by decide +kernel
example : roman.Pairwise (fun a b => a.1 ≥ b.1) := by decide +kernel
example : step3 { symbols := some [.str "a", .str "b", .str "c"] } "cyclic" none (-1) true = .initial "b" := by
  decide +kernel
example : step3 { symbols := some [.str "a", .str "b"] } "fixed" (some 3) 5 false = .fallback 5 := by decide +kernel
example : step3 { symbols := some [.str "*", .str "+"] } "symbolic" none 5 false = .initial "***" := by decide +kernel
-- step3_hands_on_value: additive remainder on a negative value
example : step3 { additive := some [(5, .str "V")] } "additive" none (step3Value "additive" (-3)) (decide ((-3 : Int) < 0))
    = .fallback (-3) := by decide +kernel
-- range_fallback / render_representable hypotheses
example : inRange { range := some (.entries [.pair (.fin 1) (.fin 3999)]) } "additive" 4000 = .ok false := by decide +kernel
example : inRange {} "alphabetic" 0 = .ok false := by decide +kernel
example : padNeg { pad := some (3, .str "0") } true "7" = "-07" := by decide +kernel
example : padNeg { pad := some (5, .str "0"), negative := some (.str "(", .str ")") } true "7" = "(007)" := by decide +kernel
example : renderMarker Gen.uaCounterStyles (.named "lower-roman") 4 = .ok "iv. " := by decide +kernel
example : renderMarker Gen.uaCounterStyles (.named "cjk-decimal") 10 = .ok "一〇、" := by decide +kernel
-- termination hypothesis and a cyclic fallback
private def cyc : Styles :=
  [("a", { system := some ⟨false, "cyclic", none⟩, symbols := some [.str "x"], range := some (.entries [.pair (.fin 1) (.fin 2)]), fallback := some "b" }),
   ("b", { system := some ⟨false, "cyclic", none⟩, symbols := some [.str "y"], range := some (.entries [.pair (.fin 1) (.fin 2)]), fallback := some "a" })]
example : lookup cyc "decimal" = none := by decide +kernel
example : renderValueTop (cyc ++ Gen.uaCounterStyles) 7 (.named "a") = .ok "7" := by decide +kernel
-- scoping: the relation is inhabited beyond the initial state
example : (updateCounters initState ⟨.other, [("c", 3)], [], some [("c", 2), ("d", 1)]⟩).map
    (fun st => (vget st.values "c", vget st.values "d", st.scopes)) = .ok (some [5], some [1], [["footnote", "c", "d"]]) := by
  decide +kernel
example : Spec.stack (Spec.update Spec.init ⟨.listItem, [("c", 3)], [], none⟩) "list-item" = [1] := by decide +kernel
-- list numbering with a nested list inside an item
private def li (kids : List Elem) : Elem := .mk ⟨.listItem, [], [], none⟩ (some (.named "decimal")) none none none none kids
private def ol (start : Int) (kids : List Elem) : Elem := .mk ⟨.other, [("list-item", start)], [], some []⟩ none none none none none kids
private def exItems : List Elem := [li [], li [ol 0 [li [], li []]], li []]
private def exFrames : Spec.Frames := [[], [("list-item", 4), ("footnote", 0)], []]
private theorem exItems_ok : ∀ e ∈ exItems, isItem e = true := by
  intro e he
  simp only [exItems, List.mem_cons, List.mem_nil_iff, or_false] at he
  rcases he with h | h | h <;> subst h <;>
    simp [isItem, li, ol, pseudoQuiet, containedSeq, resetsFirst, namesOf]
/-- three items, the second containing a nested two-item list: the outer counter ends at 4 + 3 -/
example : ExAll (fun r => Spec.stack r.state "list-item" = (4 + (exItems.length : Int)) :: [])
    (kidsRun Spec.machine Gen.uaCounterStyles [] exItems exFrames []) :=
  list_numbers_nested Gen.uaCounterStyles [] exItems exFrames [] 4 [] exItems_ok
    (by simp [exFrames, Spec.stack, Spec.flookup])
-- re-pagination: a converging run (3 passes, the usual table of contents)
private def tocStep : Nat → Nat × PassObs
  | 0 => (1, ⟨3, [⟨true, false⟩, ⟨false, false⟩]⟩)
  | 1 => (2, ⟨3, [⟨true, false⟩, ⟨false, false⟩]⟩)
  | n => (n + 1, ⟨3, [⟨false, false⟩, ⟨false, false⟩]⟩)
example : (layoutLoop tocStep 8 0).converged = true ∧ (layoutLoop tocStep 8 0).passes = 3 := by decide +kernel
end Examples

/-! `update_order_partial`: hypothesis satisfiable (different counters), and the excluded case differs -/
example : Spec.stack (Spec.update Spec.init ⟨.other, [("c", 3)], [("c", 5)], some [("d", 1)]⟩) "c" =
    Spec.stack (Spec.updateCss Spec.init ⟨.other, [("c", 3)], [("c", 5)], some [("d", 1)]⟩) "c" :=
  update_order_partial _ _ "c" (Or.inr (by decide))
example : Spec.stack (Spec.update Spec.init ⟨.other, [], [("c", 5)], some [("c", 1)]⟩) "c" = [6] ∧
    Spec.stack (Spec.updateCss Spec.init ⟨.other, [], [("c", 5)], some [("c", 1)]⟩) "c" = [5] := by decide +kernel

end Wp.C15
