/-
C17 — "each visible background is painted at the rectangle CSS prescribes": the table parts.
CSS 2.1 17.5.1: the background of a row, row group, column or column group is painted through the
cells that originate in it; `layout_background_layer` gives it the cells' border boxes as clip and a
painting area, modelled in `Model/TablePartBg.lean` and compared path by path in `scene-geometry`.
-/
import WpModel.Model.TablePartBg
import WpModel.Lemmas.Basic.List
import WpModel.Lemmas.Basic.Rat

namespace Wp.C17
open Wp Wp.Rounded Wp.TablePart

private theorem maxOf_ge (l : List Rat) (seed : Rat) :
    seed ≤ maxOf seed l ∧ ∀ v ∈ l, v ≤ maxOf seed l :=
  List.foldl_bound (g := id) (fun _ => Rat.le_refl) Rat.le_trans (fun m v => (Rat.le_ite_gt v m).2)
    (fun m v => (Rat.le_ite_gt v m).1) l seed

private theorem minOf_le (l : List Rat) (seed : Rat) :
    minOf seed l ≤ seed ∧ ∀ v ∈ l, minOf seed l ≤ v :=
  List.foldl_bound (r := fun (a b : Rat) => b ≤ a) (f := fun (m v : Rat) => if v < m then v else m) (g := id)
    (fun _ => Rat.le_refl) (fun h1 h2 => Rat.le_trans h2 h1)
    (fun m v => by split; exact Rat.le_of_lt ‹_›; exact Rat.le_refl)
    (fun m v => by split; exact Rat.le_refl; exact Rat.not_lt.mp ‹_›) l seed

private theorem maxCellHeight_ge (cells : List Geo) (h : Rat) (hm : maxCellHeight cells = some h) :
    ∀ c ∈ cells, c.borderHeight ≤ h := by
  cases cells with
  | nil => simp [maxCellHeight] at hm
  | cons x xs =>
    simp only [maxCellHeight, Option.some.injEq] at hm
    subst hm
    intro c hc
    rcases List.mem_cons.mp hc with rfl | hc
    · exact (maxOf_ge _ _).1
    · exact (maxOf_ge _ _).2 _ (List.mem_map.mpr ⟨c, hc, rfl⟩)

/-- **Row backgrounds**: painted through exactly the border boxes of the row's cells, in a rectangle that
starts at the row's border box origin, has its width, and is at least as high as every one of its cells
(row-spanning cells included). -/
theorem row_background_area (row : Geo) (cells : List Geo) (hne : cells ≠ []) :
    (rowLayer row cells).2 = cells.map roundedBorderBox ∧
    (rowLayer row cells).1.1 = row.borderBoxX ∧ (rowLayer row cells).1.2.1 = row.borderBoxY ∧
    (rowLayer row cells).1.2.2.1 = row.borderWidth ∧
    ∀ c ∈ cells, c.borderHeight ≤ (rowLayer row cells).1.2.2.2 := by
  unfold rowLayer
  cases hm : maxCellHeight cells with
  | none => cases cells <;> simp [maxCellHeight] at hm hne
  | some h => exact ⟨rfl, rfl, rfl, rfl, maxCellHeight_ge cells h hm⟩

/-- **Column and column-group backgrounds**: painted through the cells that originate in the column(s), in
a rectangle that spans all of them horizontally and has the column's vertical extent. -/
theorem column_background_area (col : Geo) (cells : List Geo) (hne : cells ≠ []) :
    (columnLayer col cells).2 = cells.map roundedBorderBox ∧
    (columnLayer col cells).1.2.1 = col.borderBoxY ∧ (columnLayer col cells).1.2.2.2 = col.borderHeight ∧
    ∀ c ∈ cells, (columnLayer col cells).1.1 ≤ c.borderBoxX ∧
      c.borderBoxX + c.borderWidth ≤ (columnLayer col cells).1.1 + (columnLayer col cells).1.2.2.1 := by
  cases cells with
  | nil => exact absurd rfl hne
  | cons x xs =>
    refine ⟨rfl, rfl, rfl, ?_⟩
    intro c hc
    simp only [columnLayer]
    have hmin := minOf_le (xs.map Geo.borderBoxX) x.borderBoxX
    have hmax := maxOf_ge (xs.map (fun g => g.borderBoxX + g.borderWidth)) (x.borderBoxX + x.borderWidth)
    rcases List.mem_cons.mp hc with rfl | hc
    · refine ⟨hmin.1, ?_⟩
      have := hmax.1
      grind
    · refine ⟨hmin.2 _ (List.mem_map.mpr ⟨c, hc, rfl⟩), ?_⟩
      have := hmax.2 _ (List.mem_map.mpr ⟨c, hc, rfl⟩)
      grind

private theorem groupLoop_clip (rows : List (List Geo)) (total : Rat) (clipped : List RBox) :
    (groupLoop rows (total, clipped)).2 = clipped ++ rows.flatten.map roundedBorderBox := by
  induction rows generalizing total clipped with
  | nil => simp [groupLoop]
  | cons cells rows ih =>
    cases cells with
    | nil => simp [groupLoop, maxCellHeight, ih]
    | cons c cs => simp [groupLoop, maxCellHeight, ih]

/-- **Row-group backgrounds, the clip**: painted through the border boxes of all cells of all rows. -/
theorem group_background_clip (group : Geo) (rows : List (List Geo)) :
    (groupLayer group rows).2 = rows.flatten.map roundedBorderBox := by
  simp [groupLayer, groupLoop_clip]

/-- **Row-group backgrounds, the area (partial: one row).**  With a single row of cells the painting area
starts at the group's border box origin, has its width and is at least as high as every cell.  With two or
more rows the height is still only the highest cell's (`Witness.C17.group_background_misses_second_row`,
finding `row-group-background-first-row-only`). -/
theorem group_background_area_partial (group : Geo) (cells : List Geo) (hne : cells ≠ []) :
    (groupLayer group [cells]).1.1 = group.borderBoxX ∧ (groupLayer group [cells]).1.2.1 = group.borderBoxY ∧
    (groupLayer group [cells]).1.2.2.1 = group.borderWidth ∧
    ∀ c ∈ cells, c.borderHeight ≤ (groupLayer group [cells]).1.2.2.2 := by
  refine ⟨rfl, rfl, rfl, ?_⟩
  intro c hc
  cases hm : maxCellHeight cells with
  | none => cases cells <;> simp [maxCellHeight] at hm hne
  | some h =>
    have hge := maxCellHeight_ge cells h hm c hc
    simp only [groupLayer, groupLoop, hm]
    by_cases h0 : (0 : Rat) < h
    · simp only [h0, ↓reduceIte]; exact hge
    · simp only [h0, ↓reduceIte]; exact Rat.le_trans hge (Rat.not_lt.mp h0)

/-- A 30 × 20 cell at (10, y). -/
def exCell (y : Rat) : Geo :=
  { positionX := 10, positionY := y, marginLeft := 0, marginTop := 0, borderTop := 0, borderRight := 0,
    borderBottom := 0, borderLeft := 0, padTop := 0, padRight := 0, padBottom := 0, padLeft := 0,
    width := 30, height := 20, tl := (0, 0), tr := (0, 0), br := (0, 0), bl := (0, 0) }

example : (rowLayer (exCell 10) [exCell 10]).1 = (10, 10, 30, 20) ∧ [exCell 10] ≠ [] := by
  constructor
  · decide +kernel
  · simp

end Wp.C17
