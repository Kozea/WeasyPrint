/-
C11 — `check (model x) = ok` for the whole event stream: for *every* document the flow model lays out there is an
event list with the observable content of the model's output — the margin boxes of all floats (block-level and met
inside lines) and the border boxes of all formatting-context roots, images and tables of positive height, in
document order — that the verified trace checker `checkEvents` (the command `checkbfc` that the harness runs on
rendered wide-grammar documents) accepts.  For the floats this is the sampled clause "floats never overlap each
other and never go up" on all inputs of the model.  For the boxes it is less than it reads: the edges a box event
carries are not part of `Event.view`, the statements quantify them existentially, and `boxOk` accepts a box wider
than the room between its edges whatever it overlaps; "a BFC root / image / table never overlaps a float" on all
inputs is stated child by child, in the third conjunct of `flowStep_spec` (Props/C11Inline.lean), which the proofs
here go through.
-/
import WpModel.Props.C11Inline

namespace Wp.C11
open Wp Wp.Floats

/-- What an observer sees of an event: float or box, and the rectangle (the edges a box has to stay between are
not observable geometry of the box itself). -/
def Event.view : Event → Bool × (Rat × Rat × Rat × Rat)
  | .float s => (true, Shape.rect s)
  | .box _ _ x y w h => (false, (x, y, w, h))

/-- What an observer sees of the model's output, in document order: the margin box of every float (block-level,
and met inside the lines of a paragraph) and the border box of every BFC root, image and table with a positive
height (a box without height has no interior to keep clear of floats). -/
def placedViews : List Placed → List (Bool × (Rat × Rat × Rat × Rat))
  | [] => []
  | .float x y mw mh :: rest => (true, (x, y, mw, mh)) :: placedViews rest
  | .para lines :: rest => ((lines.map (·.floats)).flatten.map (fun r => (true, r))) ++ placedViews rest
  | .bfc x y w h :: rest => (if 0 < h then [(false, (x, y, w, h))] else []) ++ placedViews rest
  | .replaced x y w h :: rest => (if 0 < h then [(false, (x, y, w, h))] else []) ++ placedViews rest
  | .block _ :: rest => placedViews rest

private theorem placedViews_cons (pl : Placed) (rest : List Placed) :
    placedViews (pl :: rest) = placedViews [pl] ++ placedViews rest := by
  cases pl <;> simp [placedViews]

/-- The checker passes a box that overlaps no float. -/
theorem checkEvents_box_then (shapes : List Shape) (i : Nat) (l0 r0 x y w h : Rat) (evs : List Event)
    (hno : ∀ s ∈ shapes, ¬ Overlaps x y w h s) :
    checkEvents shapes i (.box l0 r0 x y w h :: evs) = checkEvents shapes (i + 1) evs := by
  have hb : boxOk shapes l0 r0 x y w h = true := by
    simp only [boxOk, Bool.or_eq_true, List.all_eq_true, Bool.not_eq_true']
    exact .inr fun s hs => Bool.eq_false_iff.mpr fun hb => hno s hs ((overlapsB_iff _ _ _ _ _).mp hb)
  simp only [checkEvents, hb, if_true]

/-- The event of a placed BFC root, image or table with height (the edges it has to stay between are not observable). -/
def boxEvents (pl : Placed) : List Event :=
  match placedBox pl with
  | some (x, y, w, h) => if 0 < h then [.box 0 0 x y w h] else []
  | none => []

theorem placedViews_single (pl : Placed) :
    placedViews [pl] = (allFloatRects [pl]).map (fun r => (true, r)) ++ (boxEvents pl).map Event.view := by
  cases pl <;> simp only [placedViews, allFloatRects, boxEvents, placedBox, List.append_nil, List.map_cons,
    List.map_nil, List.nil_append] <;> split <;> rfl

/-- One child of the container: its events are accepted against the floats so far, and the checker continues with
exactly the float list the model continues with. -/
theorem flowStep_events (cb : CB) (st st' : FlowState) (it : Item) (pl : Placed)
    (hit : ItemOkEv cb it) (hinv : FloatsInv st.shapes) (h : flowStep cb st it = .ok (st', pl)) :
    FloatsInv st'.shapes ∧ ∃ evs1 : List Event, evs1.map Event.view = placedViews [pl] ∧
      ∀ i evs2, checkEvents st.shapes i (evs1 ++ evs2) = checkEvents st'.shapes (i + evs1.length) evs2 := by
  obtain ⟨hi', ⟨added, he, hr⟩, hbox⟩ := flowStep_spec cb st st' it pl hit.all hinv h
  refine ⟨hi', added.map Event.float ++ boxEvents pl, ?_, fun i evs2 => ?_⟩
  · rw [placedViews_single, ← hr, List.map_append, List.map_map, List.map_map]; rfl
  · -- the checker walks through the floats, then meets the box (if any) with exactly the floats of `st'`
    rw [List.append_assoc, checkEvents_floats_then _ _ _ _ (he ▸ hi'.floatsOk), ← he,
      List.length_append, List.length_map, ← Nat.add_assoc]
    unfold boxEvents
    cases hb : placedBox pl with
    | none => rfl
    | some r =>
      obtain ⟨x, y, w, ht⟩ := r
      simp only []
      split
      · rename_i hh; exact checkEvents_box_then _ _ _ _ _ _ _ _ evs2 (hbox hit x y w ht hb (Rat.le_of_lt hh))
      · rfl

/-- **`check (model x) = ok`, floats and boxes**: for every document the flow model lays out there is an event list
that an observer cannot tell from the model's output (same floats and boxes, same rectangles, same order) and that
the verified checker accepts from the floats already in the context. -/
theorem flow_events_from (cb : CB) (items : List Item) (st : FlowState) (out : List Placed)
    (hit : ∀ it ∈ items, ItemOkEv cb it) (hinv : FloatsInv st.shapes)
    (h : flowFrom cb st items = .ok out) (i : Nat) :
    ∃ evs : List Event, evs.map Event.view = placedViews out ∧ checkEvents st.shapes i evs = none := by
  fun_induction flowFrom cb st items generalizing out i with
  | case1 => cases h; exact ⟨[], by simp [placedViews], by simp [checkEvents]⟩
  | case4 st it rest st' pl hstep out' hrest ih =>
    cases h
    simp only [List.forall_mem_cons] at hit
    obtain ⟨i1, evs1, v1, c1⟩ := flowStep_events cb st st' it pl hit.1 hinv hstep
    obtain ⟨evs2, v2, c2⟩ := ih out' hit.2 i1 hrest (i + evs1.length)
    refine ⟨evs1 ++ evs2, ?_, ?_⟩
    · rw [placedViews_cons, List.map_append, v1, v2]
    · rw [c1 i evs2]; exact c2
  | _ => cases h

/-- **Every document**: from an empty context, an event list with the views of the model's output — all floats, all
BFC roots, images and tables with height — passes `checkEvents`: floats pairwise disjoint with tops in order (no box
over a float: third conjunct of `flowStep_spec`; here the edges of the box events are not fixed by the statement). -/
theorem flow_events_all_accepted (cb : CB) (items : List Item) (y : Rat) (out : List Placed)
    (hit : ∀ it ∈ items, ItemOkEv cb it) (h : flow cb [] y items = .ok out) :
    ∃ evs : List Event, evs.map Event.view = placedViews out ∧ checkEvents [] 0 evs = none :=
  flow_events_from cb items ⟨[], y, []⟩ out hit .nil h 0

/-- Non-vacuity: a float, a BFC root too wide to fit beside it (moved below), a paragraph with an inline float, an
image that fits beside the floats, a table: the hypotheses hold and the observable output is as expected. -/
example :
    let items : List Item := [
      .float ⟨0, 0, 0, 0, 0, 0, 60, 50, .left, .none, .bfc⟩,
      .bfc .none (some 70) 20 0 0 0 0,
      .para .none 10 .start [⟨20, 20, 10, [⟨0, 0, 0, 0, 0, 0, 20, 10, .right, .none, .bfc⟩]⟩] 0 0,
      .replaced .replaced .none 30 15 0 0,
      .replaced .tableWrapper .none 90 10 0 0]
    (∀ it ∈ items, ItemOkEv ⟨0, 100, false⟩ it) ∧
    ((flow ⟨0, 100, false⟩ [] 0 items).toOption.map placedViews) =
      some [(true, (0, 0, 60, 50)), (false, (0, 50, 70, 20)), (true, (80, 70, 20, 10)), (false, (0, 80, 30, 15)),
        (false, (0, 95, 90, 10))] := by
  refine ⟨?_, by decide +kernel⟩
  intro it hit
  simp at hit
  rcases hit with h | h | h | h | h <;> subst h <;>
    simp [ItemOkEv, ItemOkAll, GoodFloat, ABox.marginHeight, ABox.marginWidth] <;> decide +kernel

end Wp.C11
