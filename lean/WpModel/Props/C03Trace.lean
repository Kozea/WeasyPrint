/-
C03 on the wide grammar: soundness of the geometric trace checker. The traces (bottom edges of in-flow
line boxes / table rows per page, with the "first content on its page or column" flag) are sampled
from real renders.
-/
import WpModel.Model.Trace
import WpModel.Lemmas.TraceCheck

namespace Wp.C03Trace
open Wp Wp.Trace

/-- The checker reports nothing iff every item is first on its page (column) or fits. -/
theorem overflowing_nil_iff (pageBottom : Rat) (items : List Item) :
    overflowing pageBottom items = [] ↔
      ∀ it ∈ items, it.first = true ∨ overflows pageBottom it.bottom = false := by
  refine (rejected_nil_iff _ (fun it : Item => it.first || !overflows pageBottom it.bottom)
    (fun it _ => by
      show (overflows pageBottom it.bottom && !it.first) = _
      cases it.first <;> cases overflows pageBottom it.bottom <;> rfl) items).trans ?_
  simp

/-- If the checker reports nothing, every item either was the first content placed on its page
(column) or ends at or above the bottom edge of the page content box (same fudge factor as the
layout's own test). -/
theorem fits_sound (pageBottom : Rat) (items : List Item) (h : overflowing pageBottom items = []) :
    ∀ it ∈ items, it.first = true ∨ overflows pageBottom it.bottom = false :=
  (overflowing_nil_iff pageBottom items).mp h

/-- The overflow test is exact on the boundary: a bottom edge equal to the page bottom does not overflow. -/
theorem boundary_fits (b : Rat) (hb : 0 ≤ b) : overflows b b = false := by
  unfold overflows
  simp only [decide_eq_false_iff_not]
  have h1 : b * (1 + 1 / 1000000000) = b + b * (1 / 1000000000) := by grind
  have h2 : 0 ≤ b * (1 / 1000000000) := Rat.mul_nonneg hb (by decide +kernel)
  grind

example : overflowing 100 [⟨120, true⟩, ⟨100, false⟩, ⟨40, false⟩] = [] := by decide +kernel
example : overflowing 100 [⟨20, true⟩, ⟨101, false⟩] = [1] := by decide +kernel

end Wp.C03Trace
