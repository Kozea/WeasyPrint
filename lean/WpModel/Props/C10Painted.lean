/-
C10 — from conflict resolution to the page: for a collapsed table laid out in one piece, every border
line that `draw_collapsed_borders` paints carries a grid entry, which is a fold of `offerEdge` (maximum under
`(hidden, width, style rank)` with ties to the earlier offer) over borders offered to that edge by cell, row,
row group, column, column group and table (CSS 2.1 §17.6.2); that the fold is over all of them, hence the
winner, is `C10.offers_after_last_force`.  Composition of `C10Draw.painted_from_grid` / `painted_unsplit`
(`Model/TableBorderDraw` ↔ `draw/__init__.py`) with `C10.border_winner_grid`
(`Model/TableBorders` ↔ `layout/table.py collapse_table_borders`).
-/
import WpModel.Props.C10
import WpModel.Props.C10Draw

namespace Wp.C10Painted
open Wp Wp.Borders Wp.BorderDraw Wp.C10

private theorem pyIndex_nat {len n i : Nat} (h : pyIndex len (n : Int) = some i) : i = n := by
  unfold pyIndex at h
  rw [if_neg (by omega)] at h
  split at h
  · simpa using h.symm
  · cases h

/-- A successful `border_list[yy][x]` with non-negative indices is the plain grid entry. -/
theorem gridAt_nat (g : Grid) (y x : Nat) (e : Edge) (h : gridAt g (y : Int) (x : Int) = .ok e) :
    edgeAt g y x = some e := by
  revert h
  fun_cases gridAt g (y : Int) (x : Int) <;> intro h <;> cases h
  next hyi _ hrow _ hxi he' =>
    obtain rfl := pyIndex_nat hyi
    obtain rfl := pyIndex_nat hxi
    simp [edgeAt, hrow, he']

/-- The grids returned by `collapse_table_borders` have `grid_height × (grid_width + 1)` vertical and
`(grid_height + 1) × grid_width` horizontal entries: an entry that exists has in-range indices. -/
theorem collapse_bounds (t : BTable) (gw gh : Nat) (o : Out) (h : collapse t gw gh = .ok o)
    (hw : gw ≠ 0) (hh : gh ≠ 0) :
    (∀ y xi e, edgeAt o.vertical y xi = some e → y < gh ∧ xi < gw + 1) ∧
    (∀ y xi e, edgeAt o.horizontal y xi = some e → y < gh + 1 ∧ xi < gw) := by
  obtain ⟨sV, sH⟩ := collapse_grids t gw gh o h hw hh
  constructor <;> intro y xi e he <;> by_contra hb
  · rw [sV y xi, if_neg hb] at he; cases he
  · rw [sH y xi, if_neg hb] at he; cases he

/-- **painted_is_winner.**  A collapsed table laid out in one piece: every painted line carries
`offers.foldl offerEdge init` for some edge `y xi` of its side's grid, each of `offers` a border offered to
that edge (`targets`) and `init` the weak null border, or the strong one inside a spanning cell. As in
`C10.border_winner_grid` the statement does not say that `offers` holds every offer to the edge, nor does it
tie `y xi` to the segment's position; that the grid entry is the winner of CSS 2.1 §17.6.2 — the first maximum
under `(hidden, width, style rank)` (`C10.border_winner`) of all the offers after the last forcing, in the
order cell, row, row group, column, column group, table (`C10.offers_in_css_order`) — is
`C10.offers_after_last_force` on the writes of `C10.collapse_grids`. -/
theorem painted_is_winner (t : BTable) (gw gh : Nat) (o : Out) (h : collapse t gw gh = .ok o)
    (hw : gw ≠ 0) (hh : gh ≠ 0) (d : DrawIn) (hv : d.vertical = o.vertical) (hz : d.horizontal = o.horizontal)
    (hs : d.skippedRows = 0) (hall : d.vertical.length = gridHeight d)
    (segs : List Segment) (hseg : segments d = .ok segs) (s : Segment) (hmem : s ∈ segs) :
    ∃ (init : Edge) (offers : List Border) (y xi : Nat),
      (init = weakNull ∨ init = strongNull) ∧
      ((s.side = .left ∧ ∀ b ∈ offers, ∃ op ∈ genOps t gw gh, op.border = some b ∧
          targets (gw + 1) .V y xi op = true) ∨
       (s.side = .top ∧ ∀ b ∈ offers, ∃ op ∈ genOps t gw gh, op.border = some b ∧
          targets gw .H y xi op = true)) ∧
      (⟨s.score, ⟨s.style, s.width, s.color⟩⟩ : Edge) = offers.foldl offerEdge init := by
  obtain ⟨_, _, x, y, hcase⟩ := C10Draw.painted_from_grid d segs hseg s hmem
  obtain ⟨wV, wH⟩ := border_winner_grid t gw gh o h hw hh
  obtain ⟨bV, bH⟩ := collapse_bounds t gw gh o h hw hh
  rcases hcase with ⟨hside, hg⟩ | ⟨hside, hg⟩
  · rw [C10Draw.painted_unsplit d hs hall, hv] at hg
    have he := gridAt_nat _ _ _ _ hg
    obtain ⟨hy, hx⟩ := bV y x _ he
    obtain ⟨init, offers, hinit, hoff, hval⟩ := wV y x hy hx
    rw [he] at hval
    injection hval with hval
    exact ⟨init, offers, y, x, hinit, Or.inl ⟨hside, hoff⟩, hval⟩
  · rw [C10Draw.painted_unsplit d hs hall, hz] at hg
    have he := gridAt_nat _ _ _ _ hg
    obtain ⟨hy, hx⟩ := bH y x _ he
    obtain ⟨init, offers, hinit, hoff, hval⟩ := wH y x hy hx
    rw [he] at hval
    injection hval with hval
    exact ⟨init, offers, y, x, hinit, Or.inr ⟨hside, hoff⟩, hval⟩

private def exSides (s : BStyle) (w : Rat) (c : Nat) : Sides := ⟨⟨s, w, c⟩, ⟨s, w, c⟩, ⟨s, w, c⟩, ⟨s, w, c⟩⟩
private def exTable : BTable :=
  ⟨true, exSides .none 0 0, [⟨exSides .none 0 0, [⟨exSides .none 0 0,
    [⟨0, 1, 1, exSides .solid 2 1⟩, ⟨1, 1, 1, exSides .double 2 2⟩]⟩]⟩], []⟩

/-- Non-vacuity: one row, a cell `2px solid` (colour 1) beside a cell `2px double` (colour 2): seven lines
are painted, the shared edge (x = 20) is `double` (same width, higher style rank), painted after the
`solid` ones. -/
example : (collapse exTable 2 1).toOption.map (fun o =>
    (segments ⟨[10], [0], [20, 20], [0, 20], 0, 0, 0, false, false, o.vertical, o.horizontal⟩).toOption.map
      (·.map (fun s => (s.style, s.color, s.x)))) =
    some (some [(.solid, 1, -1), (.solid, 1, 0), (.solid, 1, -1), (.double, 2, 19), (.double, 2, 20),
                (.double, 2, 40), (.double, 2, 19)]) := by
  decide +kernel

end Wp.C10Painted
