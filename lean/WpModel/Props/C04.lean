/-
C04 — Break controls are honoured.  The resolution theorems all go through `step_rank` (the source table read as
"a later value wins iff it is a side value or strictly stronger") and the bound `rank v ≤ 6`.
All statements are over `Wp.step / resolve / forces / avoids`, whose tables are regenerated from
/repo/weasyprint/layout/block.py on every run: an edit of the source table re-checks (and may break)
every `decide` below.
-/
import WpModel.Model.Break
import WpModel.Lemmas.ParaLines
import WpModel.Lemmas.Pm2Step
import WpModel.Lemmas.Basic.List

namespace Wp.C04
open Wp

/-- Strength of a break value (css-break-3 §3.1 / css-page-3 "allowed page breaks"):
sides > page > column > avoid > avoid-page > avoid-column > auto. -/
def rank : Brk → Nat
  | .auto => 0 | .avoidColumn => 1 | .avoidPage => 2 | .avoid => 3
  | .column => 4 | .page => 5
  | .left => 6 | .right => 6 | .recto => 6 | .verso => 6

def isSide (v : Brk) : Bool := rank v == 6

/-- Characterisation of the *source table*: a later value replaces the current result iff it is a
side value or strictly stronger. -/
theorem step_rank (r v : Brk) : step r v = if isSide v || rank v > rank r then v else r := by
  have h : ∀ r ∈ Brk.all, ∀ v ∈ Brk.all, step r v = if isSide v || rank v > rank r then v else r := by
    decide +kernel
  exact h r (Brk.mem_all r) v (Brk.mem_all v)

/-- The AST-extracted table and the graph obtained by calling the real function agree. -/
theorem graph2_agrees : ∀ e ∈ Gen.graph2, resolve [e.1, e.2.1] = e.2.2 := by decide +kernel

theorem avoid_graph_agrees : ∀ e ∈ Gen.avoidGraph, avoids e.2.1 e.1 = e.2.2 := by decide
theorem force_graph_agrees : ∀ e ∈ Gen.forceGraph, forces e.2.1 e.1 = e.2.2 := by decide

/-- `forces` and `avoids` are thresholds of `rank`. -/
theorem forces_iff_rank (c : Bool) (v : Brk) :
    forces c v = decide (rank v ≥ (if c then 4 else 5)) := by
  cases c <;> cases v <;> decide

theorem avoids_iff_rank (c : Bool) (v : Brk) :
    avoids c v = decide ((if c then 1 else 2) ≤ rank v ∧ rank v ≤ 3) := by
  cases c <;> cases v <;> decide

theorem rank_le (v : Brk) : rank v ≤ 6 := by
  cases v <;> decide

theorem rank_eq_zero {v : Brk} (h : rank v = 0) : v = .auto := by
  cases v <;> first | rfl | cases h

theorem rank_eq_four {v : Brk} (h : rank v = 4) : v = .column := by
  cases v <;> first | rfl | cases h

theorem isSide_iff (v : Brk) : isSide v = true ↔ rank v = 6 := by
  unfold isSide
  exact beq_iff_eq

theorem rank_step (r v : Brk) : rank (step r v) = max (rank r) (rank v) := by
  have hr := rank_le r
  have hv := rank_le v
  rw [step_rank]
  split
  · rename_i h
    simp only [Bool.or_eq_true, isSide_iff, decide_eq_true_eq] at h
    omega
  · rename_i h
    simp only [Bool.or_eq_true, isSide_iff, decide_eq_true_eq, not_or] at h
    omega

theorem step_side (r : Brk) {v : Brk} (hv : isSide v = true) : step r v = v := by
  rw [step_rank, hv, Bool.true_or, if_pos rfl]

theorem step_keeps_side {r v : Brk} (hr : isSide r = true) (hv : isSide v = false) : step r v = r := by
  have h6 := rank_le v
  rw [isSide_iff] at hr
  rw [step_rank, hv, Bool.false_or, if_neg]
  simp only [decide_eq_true_eq]
  omega

theorem rank_foldl_ge (vs : List Brk) (r : Brk) :
    rank r ≤ rank (vs.foldl step r) ∧ ∀ v ∈ vs, rank v ≤ rank (vs.foldl step r) :=
  List.foldl_bound (r := fun a b : Brk => rank a ≤ rank b) (g := id) (fun _ => Nat.le_refl _) Nat.le_trans
    (fun b a => rank_step b a ▸ Nat.le_max_left ..) (fun b a => rank_step b a ▸ Nat.le_max_right ..) vs r

theorem rank_foldl_le (vs : List Brk) (r : Brk) (b : Nat) (hr : rank r ≤ b) (h : ∀ v ∈ vs, rank v ≤ b) :
    rank (vs.foldl step r) ≤ b :=
  List.foldlRecOn vs step (motive := fun x => rank x ≤ b) hr
    fun x hx v hv => rank_step x v ▸ Nat.max_le.mpr ⟨hx, h v hv⟩

/-- (c) the strongest value among all boxes meeting at a point wins, for value sequences of any
length: the rank of the result is the maximum rank. -/
theorem resolve_rank_ge (vs : List Brk) : ∀ v ∈ vs, rank v ≤ rank (resolve vs) :=
  (rank_foldl_ge vs .auto).2

theorem resolve_rank_le (vs : List Brk) (b : Nat) (h : ∀ v ∈ vs, rank v ≤ b) :
    rank (resolve vs) ≤ b :=
  rank_foldl_le vs .auto b (Nat.zero_le b) h

private theorem foldl_mem (vs : List Brk) (r : Brk) : vs.foldl step r = r ∨ vs.foldl step r ∈ vs :=
  List.foldlRecOn vs step (motive := fun x => x = r ∨ x ∈ vs) (.inl rfl) fun x hx v hv => by
    rw [step_rank]
    split
    · exact .inr hv
    · exact hx

/-- The result is one of the values that met (or `auto`). -/
theorem resolve_mem (vs : List Brk) : resolve vs = .auto ∨ resolve vs ∈ vs := foldl_mem vs .auto

/-- (a)+(c) a forced break anywhere in the sequence forces the result, in both contexts
(inside / outside a multi-column container), for sequences of any length. -/
theorem forced_wins (c : Bool) (vs : List Brk) (h : ∃ v ∈ vs, forces c v = true) :
    forces c (resolve vs) = true := by
  obtain ⟨v, hv, hf⟩ := h
  rw [forces_iff_rank] at hf ⊢
  have := resolve_rank_ge vs v hv
  simp only [decide_eq_true_eq] at hf ⊢
  omega

/-- (d) if nothing forces a break and some box asks to avoid it, the result avoids it.
Hypothesis `hcol`: outside a multi-column container no `column` value is present (a `column` value
does not force a break there but still outranks `avoid` in the source table: see
`Witness.C04.column_hides_avoid`). -/
theorem avoid_wins_partial (c : Bool) (vs : List Brk)
    (hno : ∀ v ∈ vs, forces c v = false) (hcol : c = false → ∀ v ∈ vs, v ≠ .column)
    (h : ∃ v ∈ vs, avoids c v = true) : avoids c (resolve vs) = true := by
  obtain ⟨v, hv, ha⟩ := h
  rw [avoids_iff_rank] at ha ⊢
  have hge := resolve_rank_ge vs v hv
  have hle : rank (resolve vs) ≤ 3 := by
    apply resolve_rank_le
    intro w hw
    have hf := hno w hw
    rw [forces_iff_rank, decide_eq_false_iff_not] at hf
    cases c with
    | true => simp only [if_true] at hf; omega
    | false =>
      -- below the forcing threshold 5, and not `column`, the only value of rank 4
      have hne : rank w ≠ 4 := fun h4 => hcol rfl w hw (rank_eq_four h4)
      simp only [Bool.false_eq_true, if_false] at hf
      omega
  simp only [decide_eq_true_eq] at ha ⊢
  omega

/-- Inside a multi-column container the statement holds without the extra hypothesis. -/
theorem avoid_wins_in_column (vs : List Brk)
    (hno : ∀ v ∈ vs, forces true v = false) (h : ∃ v ∈ vs, avoids true v = true) :
    avoids true (resolve vs) = true :=
  avoid_wins_partial true vs hno (by intro h; cases h) h

/-- Nothing comes out of nothing: a list of `auto` values resolves to `auto` (for any list the result is `auto` or one
of its values: `resolve_mem`). -/
theorem auto_stays (vs : List Brk) (h : ∀ v ∈ vs, v = .auto) : resolve vs = .auto :=
  rank_eq_zero (Nat.le_zero.mp (resolve_rank_le vs 0 (fun v hv => by rw [h v hv]; exact Nat.le_refl 0)))

private theorem foldl_side (vs : List Brk) (r : Brk) (hr : isSide r = true) :
    isSide (vs.foldl step r) = true := by
  rw [isSide_iff] at hr ⊢
  exact Nat.le_antisymm (rank_le _) (hr ▸ (rank_foldl_ge vs r).1)

/-- (b) among side values the last one in tree order wins, whatever precedes or follows it. -/
theorem last_side_wins (pre post : List Brk) (s : Brk) (hs : isSide s = true)
    (hpost : ∀ v ∈ post, isSide v = false) : resolve (pre ++ s :: post) = s := by
  unfold resolve
  rw [List.foldl_append, List.foldl_cons, step_side _ hs]
  induction post with
  | nil => rfl
  | cons v vs ih =>
    rw [List.foldl_cons, step_keeps_side hs (hpost v List.mem_cons_self)]
    exact ih (fun w hw => hpost w (List.mem_cons_of_mem _ hw))

/-- Box level: the break between two siblings is forced as soon as any box on the two meeting
chains (last descendants of the one before, first descendants of the one after) forces it. -/
theorem forced_between (c : Bool) (a b : BBox)
    (h : (∃ v ∈ afterChain a, forces c v = true) ∨ (∃ v ∈ beforeChain b, forces c v = true)) :
    forces c (pageBreakBetween a b) = true := by
  apply forced_wins
  unfold meetingValues
  rcases h with ⟨v, hv, hf⟩ | ⟨v, hv, hf⟩
  · exact ⟨v, by simp [hv], hf⟩
  · exact ⟨v, by simp [hv], hf⟩

/-! Non-vacuity: the hypotheses are met by concrete, non-trivial inputs. -/
example : (∃ v ∈ [Brk.avoid, .column, .page, .auto], forces false v = true) ∧
    resolve [Brk.avoid, .column, .page, .auto] = .page := by decide
example : (∀ v ∈ [Brk.avoidColumn, .avoid, .auto], forces false v = false) ∧
    (∃ v ∈ [Brk.avoidColumn, .avoid, .auto], avoids false v = true) ∧
    avoids false (resolve [Brk.avoidColumn, .avoid, .auto]) = true := by decide
example : resolve ([Brk.left, .page] ++ Brk.right :: [.page, .avoid]) = .right := by decide
example : pageBreakBetween
    (.mk true .auto .auto [.mk true .auto .auto [], .mk true .auto .column []])
    (.mk true .auto .auto [.mk true .page .auto []]) = .page := by decide

open Wp.PM in
/-- (d)(e) Orphans and widows (`_linebox_layout` + `_break_line`): when a paragraph is broken on a page that
already has content (`page_is_empty` false), at least `orphans` lines stay in this fragment and at least
`widows` lines are left for the next page; the only other outcomes are "no break" or "abort" (the whole
paragraph is pushed to the next page). Holds for any number of lines, any resume position, any geometry. -/
theorem orphans_widows (c : Ctx) (st : PStyle) (b : BoxSt) (n : Nat) (lineH : Rat)
    (adj : List Rat) (bs posY : Rat) (skip : Option Resume) (dbd : Bool)
    (hk : skipLine skip ≤ n) (hw : 1 ≤ st.widows)
    (hstop : (lineboxLayout c st b n lineH false adj bs posY skip dbd).stop = true)
    (hab : (lineboxLayout c st b n lineH false adj bs posY skip dbd).abort = false) :
    let r := lineboxLayout c st b n lineH false adj bs posY skip dbd
    r.lines.length ≥ st.orphans ∧ n - (skipLine skip + r.lines.length) ≥ st.widows := by
  intro r
  show r.lines.length ≥ st.orphans ∧ n - (skipLine skip + r.lines.length) ≥ st.widows
  have hr : r = lineboxLayout c st b n lineH false adj bs posY skip dbd := rfl
  clear_value r
  unfold lineboxLayout at hr hstop hab
  cases hloop : lineboxLoop c st b n lineH false adj bs posY skip dbd with
  | done s => rw [hloop] at hstop; simp at hstop
  | broke a stp res s =>
    rw [hloop] at hr hab
    simp only at hab
    subst hab
    subst hr
    simp only
    unfold lineboxLoop at hloop
    exact lineLoop_break_orphans_widows c st b n lineH bs (skipLine skip) _ _ _ _ s stp res
      (runFrom_start _) (by omega) hw hloop

open Wp.PM in
/-- (a) Between two in-flow siblings, as soon as the resolved value forces a break (or the page name
changes to a named page), the children loop stops *before* the second sibling: it is not laid out on
this page, the resume position is exactly that sibling, and the pending `next_page` carries the
resolved break value and the sibling's page name. For every parent, every state of the loop. -/
theorem forced_break_stops (c : Ctx) (st : PStyle) (child : PBox) (rest : List PBox) (index skipIdx : Nat)
    (bs : Rat) (pie : Bool) (s : KidsLoop) (hidx : ¬ index < skipIdx) (hf : (meetBreak s child).2 = true) :
    layoutKids c st (child :: rest) index skipIdx bs pie s =
      .stopped (some (.node index none))
        { s with nextPage := { brk := some (meetBreak s child).1, page := some (boxPageStart child) } } := by
  rw [layoutKids_cons hidx, if_pos hf]

open Wp.PM in
/-- …and the test that triggers it is exactly "the values meeting between the last laid-out sibling
and the next one resolve to a forcing value, or the page name changes to a non-empty name". -/
theorem meetBreak_forced_iff (s : KidsLoop) (child : PBox) (l : Frag) (hl : s.newChildren.getLast? = some l) :
    (meetBreak s child).2 = true ↔
      (forces false (breakBetween l child) = true ∨
        (fragPageEnd l ≠ boxPageStart child ∧ boxPageStart child ≠ "")) := by
  unfold meetBreak
  simp only [hl, forcesPage, Bool.or_eq_true, Bool.and_eq_true, decide_eq_true_eq]
  exact Or.comm

open Wp.PM in
/-- The first sibling laid out on a page is never preceded by a forced break (nothing to break from). -/
theorem meetBreak_first (s : KidsLoop) (child : PBox) (h : s.newChildren = []) :
    meetBreak s child = (.auto, false) := by
  unfold meetBreak; simp [h]

/-- Arithmetic of blank pages: with a requested side, the current page either already has it, or it
is blank and the next page (sides alternate) has it. -/
theorem blank_then_side (side right : Bool) :
    (PM.isBlank (some side) right = false ∧ right = side) ∨
    (PM.isBlank (some side) right = true ∧ right = !side ∧ PM.isBlank (some side) (!right) = false) := by
  cases side <;> cases right <;> decide

/-- `PM.isBlank_none`, with the side already resolved to `none`. -/
theorem no_side_no_blank (right : Bool) : PM.isBlank none right = false :=
  PM.isBlank_none true right

open Wp.PM in
/-- What `remake_page` records for the page it makes: side = the page maker's `right_page`, blank
exactly when the requested side differs; a blank page is unnamed, a non-blank one has the pending page name;
a blank page leaves the resume position and the pending break untouched (so the requested side is
re-examined for the next page). -/
theorem remakePage_type {d : Doc} {index : Nat} {resume : Option Resume} {np : NextPage} {right : Bool}
    {p : Page} (hp : remakePage d index resume np right = some p) :
    p.type.right = right ∧ p.type.index = index ∧
    p.type.blank = isBlank (requestedSide d.rootLtr np.brk) right ∧
    p.type.name = (if p.type.blank then "" else (match np.page with | some n => n | none => "")) ∧
    (p.type.blank = true → p.resume = resume ∧ p.nextPage = np) := by
  obtain ⟨blank, r, hb, _, _, ht, hr, hn⟩ := remakePage_some d index resume np right p hp
  rw [ht]
  refine ⟨rfl, rfl, hb, rfl, fun h => ?_⟩
  simp only at h
  subst h
  exact ⟨hr, hn⟩

open Wp.PM in
/-- (b) Page sides: when a side is requested, the page made now either has that side and is not
blank, or is a blank page and the page after it has the requested side and is not blank. -/
theorem side_honoured (d : Doc) (index : Nat) (resume : Option Resume) (np : NextPage) (right side : Bool)
    (hs : requestedSide d.rootLtr np.brk = some side) (p : Page)
    (hp : remakePage d index resume np right = some p) :
    (p.type.blank = false ∧ p.type.right = side) ∨
    (p.type.blank = true ∧ p.type.name = "" ∧
      ∀ p', remakePage d (index + 1) p.resume p.nextPage (!right) = some p' →
        p'.type.blank = false ∧ p'.type.right = side) := by
  obtain ⟨hr, _, hb, hname, hkeep⟩ := remakePage_type hp
  rw [hs] at hb
  rcases blank_then_side side right with ⟨h1, h2⟩ | ⟨h1, h2, h3⟩
  · left; rw [hb, hr]; exact ⟨h1, h2⟩
  · right
    rw [h1] at hb
    obtain ⟨hres, hnp⟩ := hkeep hb
    refine ⟨hb, by rw [hname, hb]; rfl, ?_⟩
    intro p' hp'
    rw [hres, hnp] at hp'
    obtain ⟨hr', _, hb', _⟩ := remakePage_type hp'
    rw [hs, h3] at hb'
    refine ⟨hb', ?_⟩
    rw [hr', h2]; simp

open Wp.PM in
/-- Without a requested side no blank page is inserted and the page has the page maker's side
(which alternates: `right_page = not right_page`). -/
theorem no_blank_without_side (d : Doc) (index : Nat) (resume : Option Resume) (np : NextPage) (right : Bool)
    (hs : requestedSide d.rootLtr np.brk = none) (p : Page)
    (hp : remakePage d index resume np right = some p) : p.type.blank = false ∧ p.type.right = right := by
  obtain ⟨hr, _, hb, _⟩ := remakePage_type hp
  rw [hs, no_side_no_blank] at hb
  exact ⟨hb, hr⟩

open Wp.PM in
private theorem finishContainer_avoid_inside {c : Ctx} {st : PStyle} {b : BoxSt} {isStart pie : Bool} {bs : Rat}
    {cwc dbd : Bool} {resume : Option Resume} {posY : Rat} {adjL cur : List Rat} {curIsL : Bool}
    {np : NextPage} {hasKids : Bool} {pageEnd : String} {mk : Geo → Frag}
    (hav : avoids false st.brkInside = true)
    (hf : (finishContainer c st b isStart pie bs cwc dbd resume posY adjL cur curIsL np hasKids pageEnd mk).frag.isSome = true)
    (hr : (finishContainer c st b isStart pie bs cwc dbd resume posY adjL cur curIsL np hasKids pageEnd mk).resume.isSome = true) :
    pie = true := by
  unfold finishContainer at hf hr
  have hav' : avoidsPage st.brkInside = true := hav
  cases hp : pie with
  | true => rfl
  | false =>
    exfalso
    rw [hp, hav'] at hf hr
    cases hres : resume with
    | none => rw [hres] at hr; simp at hr
    | some r => rw [hres] at hf; simp at hf

open Wp.PM in
/-- (d)(e) `break-inside: avoid` (or `avoid-page`): a box that asks not to be broken is fragmented
(returned with a resume position) **only if the page was empty when it was started** — otherwise
the layout returns no fragment and the whole box is pushed to the next page. Any box, any content. -/
theorem avoid_inside_honoured (box : PBox) (c : Ctx) (idx : Nat) (y bs : Rat) (skip : Option Resume)
    (cb pie : Bool) (adjL : List Rat) (hav : avoids false box.st.brkInside = true)
    (hf : (layoutBox c box idx y bs skip cb pie adjL).frag.isSome = true)
    (hr : (layoutBox c box idx y bs skip cb pie adjL).resume.isSome = true) : pie = true := by
  cases box with
  | para id n lineH st =>
    unfold layoutBox at hf hr
    unfold finishPara at hf hr
    dsimp only at hf hr
    split at hf
    · simp [abortResult] at hf
    · rename_i hna
      rw [if_neg hna] at hr
      exact finishContainer_avoid_inside hav hf hr
  | block id st kids =>
    unfold layoutBox at hf hr
    unfold finishBlock at hf hr
    dsimp only at hf hr
    split at hf
    · simp [abortResult] at hf
    · rename_i heq
      rw [heq] at hr
      exact finishContainer_avoid_inside hav hf hr
    · rename_i heq
      rw [heq] at hr
      exact finishContainer_avoid_inside hav hf hr

end Wp.C04
