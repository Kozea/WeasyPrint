/-
C20 — `_select_source` (`Model/ResourcesSource.lean`): exactly one source or `TypeError`; only a URL source reaches the
fetcher, with the URL that was given; the base URL handed on — against which every relative reference of the document,
stylesheet or attachment is resolved — is absolute; for a URL source it is the location the fetcher reports.
-/
import WpModel.Model.ResourcesSource
import WpModel.Props.C20Trace

namespace Wp.C20.Source
open Wp Wp.Res Wp.Res.Source

/-- Anything but exactly one source is a `TypeError`, before anything is opened or fetched. -/
theorem exactly_one_source (f : Fetcher) (a : Args) (h : a.count ≠ 1) :
    selectSource f a = ([], .error ⟨"TypeError", "Expected exactly one source"⟩) := by
  simp [selectSource, h]

private theorem selectSource_one (f : Fetcher) (a : Args) (h : a.count = 1) : selectSource f a = dispatch f a := by
  simp [selectSource, h]

/-- The URL the fetcher is asked for, if the arguments name one. -/
def Args.fetchUrl (a : Args) : Option String :=
  match a.guess with
  | some (.text s _) => if urlIsAbsolute s then some s else none
  | some _ => none
  | none => if a.filename.isSome then none else a.url

/-- The explicit source (`filename`, `url`, `file_obj`) with which `_select_source` calls itself again once `guess`
has been looked at. -/
def explicit (a : Args) : Option FileName × Option String × Option (Option FileName) :=
  match a.guess with
  | some (.readable name) => (none, none, some name)
  | some (.path p) => (some p, none, none)
  | some (.text s asFile) => if urlIsAbsolute s then (none, some s, none) else (some asFile, none, none)
  | none => (a.filename, a.url, a.fileObj)

private theorem dispatch_eq (f : Fetcher) (a : Args) :
    dispatch f a = selectOne f (a.baseUrl.map ensureUrl) a.checkMime (explicit a).1 (explicit a).2.1 (explicit a).2.2 := by
  fun_cases explicit a <;> simp only [dispatch, *, if_true] <;> rfl

/-- The URL asked for is the `url` of the explicit source, unless that source names a file. -/
private theorem fetchUrl_eq (a : Args) : Args.fetchUrl a = if (explicit a).1.isSome then none else (explicit a).2.1 := by
  fun_cases explicit a <;> simp only [Args.fetchUrl, *, if_true] <;> rfl

private theorem explicit_fetchUrl (a : Args) (u : String) (hfn : (explicit a).1 = none) (hu : (explicit a).2.1 = some u) :
    Args.fetchUrl a = some u := by
  rw [fetchUrl_eq, hfn]; exact hu

/-- `_select_source` with an explicit source: at most one fetch, accepted by the trace checker, and only for a URL
source, with that very URL. -/
private theorem selectOne_within (f : Fetcher) (base : Option String) (c : Bool) (fn : Option FileName)
    (url : Option String) (fo : Option (Option FileName)) :
    Trace.Within (fun u => fn = none ∧ url = some u) (selectOne f base c fn url fo).1 := by
  fun_cases selectOne f base c fn url fo
  case case3 w => exact (Trace.fetch_within (f w) w (urlBody base c)).mono (fun _ hu => ⟨rfl, congrArg some hu.symm⟩)
  all_goals exact Trace.within_nil _

private theorem selectSource_within (f : Fetcher) (a : Args) :
    Trace.Within (fun u => Args.fetchUrl a = some u) (selectSource f a).1 := by
  by_cases hc : a.count = 1
  · rw [selectSource_one f a hc, dispatch_eq]
    exact (selectOne_within f _ _ _ _ _).mono (fun u hu => explicit_fetchUrl a u hu.1 hu.2)
  · rw [exactly_one_source f a hc]; exact Trace.within_nil _

/-- `every_loader_uses_fetcher` (sources): `_select_source` calls the fetcher only for a URL source — `url=`, or a
`guess` string that is an absolute URL — and only with that very URL. -/
theorem fetches_only_the_given_url (f : Fetcher) (a : Args) (u : String) (h : Ev.call u ∈ (selectSource f a).1) :
    Args.fetchUrl a = some u := (selectSource_within f a).2 u h

/-- Every trace of `_select_source` is a sequence of `call [body [close]]` fetches (at most one). -/
theorem select_source_trace_good (f : Fetcher) (a : Args) : Trace.Good (selectSource f a).1 :=
  (selectSource_within f a).1

/-! ## the base URL is absolute -/

/-- `path2url` gives an absolute (`file:`) URL for the name. -/
def FileName.ok (n : FileName) : Prop := urlIsAbsolute n.asUrl = true

private theorem ensureUrl_absolute (n : FileName) (h : FileName.ok n) : urlIsAbsolute (ensureUrl n) = true := by
  unfold ensureUrl
  split
  · assumption
  · exact h

/-- What the property assumes of the environment: `path2url` returns absolute URLs for the names involved, and the
location a fetcher reports (`redirected_url`) is an absolute URL. -/
structure Sane (f : Fetcher) (a : Args) : Prop where
  base : ∀ n, a.baseUrl = some n → FileName.ok n
  filename : ∀ n, a.filename = some n → FileName.ok n
  fileObj : ∀ n, a.fileObj = some (some n) → FileName.ok n
  guessPath : ∀ n, a.guess = some (.path n) → FileName.ok n
  guessText : ∀ s n, a.guess = some (.text s n) → FileName.ok n
  guessReadable : ∀ n, a.guess = some (.readable (some n)) → FileName.ok n
  redirected : ∀ u r red, f u = .resp r → r.redirected = some red → urlIsAbsolute red = true

/-- `base_url` if given, else the alternative: absolute when both are. -/
private theorem orElse_absolute (base alt : Option String) (x : String)
    (h : (match base with | some b => some b | none => alt) = some x)
    (hbase : ∀ b, base = some b → urlIsAbsolute b = true) (halt : ∀ x, alt = some x → urlIsAbsolute x = true) :
    urlIsAbsolute x = true := by
  cases base with
  | none => exact halt x h
  | some b => cases h; exact hbase _ rfl

private theorem urlBody_base_absolute (base : Option String) (c : Bool) (r : Resp)
    (hbase : ∀ b, base = some b → urlIsAbsolute b = true)
    (hred : ∀ red, r.redirected = some red → urlIsAbsolute red = true)
    (sel : Selected) (h : urlBody base c r = .ok sel) (b : String) (hb : sel.baseUrl = some b) :
    urlIsAbsolute b = true := by
  revert h
  fun_cases urlBody base c r <;> intro h <;> cases h
  · exact hbase b hb
  all_goals exact orElse_absolute base _ b hb hbase hred

private theorem selectOne_base_absolute (f : Fetcher) (base : Option String) (c : Bool) (fn : Option FileName)
    (url : Option String) (fo : Option (Option FileName))
    (hbase : ∀ b, base = some b → urlIsAbsolute b = true)
    (hfn : ∀ n, fn = some n → FileName.ok n)
    (hurl : ∀ u, fn = none → url = some u → urlIsAbsolute u = true)
    (hfo : ∀ n, fo = some (some n) → FileName.ok n)
    (hred : ∀ u r red, f u = .resp r → r.redirected = some red → urlIsAbsolute red = true)
    (sel : Selected) (h : (selectOne f base c fn url fo).2 = .ok sel) (b : String) (hb : sel.baseUrl = some b) :
    urlIsAbsolute b = true := by
  revert h
  fun_cases selectOne f base c fn url fo <;> intro h
  · cases h
    cases hb
    cases base with
    | none => exact hfn _ rfl
    | some b' => exact hbase b' rfl
  · cases h
  · next w =>
    cases hf : f w with
    | raises e => rw [hf] at h; cases h
    | notDict => rw [hf] at h; cases h
    | resp r =>
      rw [hf, (fetch_funnel_body r w (urlBody base c)).1] at h
      refine urlBody_base_absolute base c (r.withDefaults w) hbase (fun red hr => ?_) sel h b hb
      -- `fetch` has set `redirected_url` to the URL asked for when the fetcher gave none
      cases hr
      cases hrr : r.redirected with
      | none => exact hurl w rfl rfl
      | some x => exact hred w r x hf hrr
  · next name =>
    cases h
    refine orElse_absolute base _ b hb hbase (fun x hx => ?_)
    cases name with
    | none => cases hx
    | some n =>
      dsimp only at hx
      split at hx
      · cases hx; exact ensureUrl_absolute n (hfo n rfl)
      · cases hx
  · cases h; exact hbase b hb

/-- The explicit source inherits what `Sane` says of the arguments it is taken from. -/
private theorem explicit_ok (f : Fetcher) (a : Args) (hs : Sane f a) :
    (∀ n, (explicit a).1 = some n → FileName.ok n) ∧ (∀ n, (explicit a).2.2 = some (some n) → FileName.ok n) := by
  fun_cases explicit a
  · next hg => exact ⟨(fun _ h => nomatch h), fun n hn => hs.guessReadable n (by cases hn; exact hg)⟩
  · next hg => exact ⟨fun n hn => hs.guessPath n (by cases hn; exact hg), fun _ h => nomatch h⟩
  · exact ⟨(fun _ h => nomatch h), fun _ h => nomatch h⟩
  · next s _ hg _ => exact ⟨fun n hn => hs.guessText s n (by cases hn; exact hg), fun _ h => nomatch h⟩
  · exact ⟨hs.filename, hs.fileObj⟩

/-- `the absolute URL`: whenever `_select_source` hands a base URL on, it is an absolute URL — whatever combination of
arguments was given, whatever the fetcher answered.  (A `string` or an anonymous file object without `base_url` has no base
URL at all: relative references in it are then not fetched, `get_url_attribute` logs and skips them.) -/
theorem base_url_is_absolute (f : Fetcher) (a : Args) (hs : Sane f a)
    (hurl : ∀ u, Args.fetchUrl a = some u → urlIsAbsolute u = true)
    (sel : Selected) (h : (selectSource f a).2 = .ok sel) (b : String) (hb : sel.baseUrl = some b) :
    urlIsAbsolute b = true := by
  have hbase : ∀ x, a.baseUrl.map ensureUrl = some x → urlIsAbsolute x = true := by
    intro x hx
    cases hbu : a.baseUrl with
    | none => simp [hbu] at hx
    | some n => simp [hbu] at hx; rw [← hx]; exact ensureUrl_absolute n (hs.base n hbu)
  have hc : a.count = 1 := Decidable.byContradiction fun hc => by
    rw [exactly_one_source f a hc] at h; cases h
  rw [selectSource_one f a hc, dispatch_eq] at h
  obtain ⟨hfn, hfo⟩ := explicit_ok f a hs
  exact selectOne_base_absolute f _ _ _ _ _ hbase hfn (fun u h1 h2 => hurl u (explicit_fetchUrl a u h1 h2)) hfo
    hs.redirected sel h b hb

/-- For a URL source without `base_url`, the base URL is the location the fetcher reports (`redirected_url`), by default
the URL itself: relative references of a redirected stylesheet resolve against where it really is. -/
theorem url_source_base_is_reported_location (f : Fetcher) (u : String) (r : Resp) (check : Bool) (sel : Selected)
    (hf : f u = .resp r) (hmime : (check && r.mime != some "text/css") = false)
    (h : (selectSource f { url := some u, checkMime := check }).2 = .ok sel) :
    sel.baseUrl = some (r.redirected.getD u) := by
  have hsel : selectSource f { url := some u, checkMime := check } = fetch (f u) u (urlBody none check) :=
    selectSource_one f _ rfl
  rw [hsel, hf, (fetch_funnel_body r u (urlBody none check)).1] at h
  revert h
  fun_cases urlBody none check (r.withDefaults u) <;> intro h <;> cases h
  · next hm => cases hmime.symm.trans hm
  all_goals rfl

/-- Non-vacuity: a stylesheet URL that the fetcher reports as moved; a file name; two sources at once. -/
example :
    let moved : Fetcher := fun _ => .resp ⟨true, none, some "text/css", some "http://moved.test/m/s.css", ⟨7, false, none, false, true, false⟩⟩
    (selectSource moved { url := some "http://a.test/s.css", checkMime := true }).2 =
      .ok ⟨"string", .fetched 7, some "http://moved.test/m/s.css"⟩ ∧
    (selectSource moved { filename := some ⟨"x.css", "file:///cwd/x.css", none⟩ }).2 =
      .ok ⟨"file_obj", .localFile "x.css", some "file:///cwd/x.css"⟩ ∧
    (selectSource moved { url := some "http://a.test/s.css", string := true }).2 =
      .error ⟨"TypeError", "Expected exactly one source"⟩ := ⟨rfl, rfl, rfl⟩

/-- Non-vacuity of `Sane`: the redirecting fetcher above with a URL source. -/
example : Sane (fun _ => .resp ⟨true, none, some "text/css", some "http://moved.test/m/s.css", ⟨7, false, none, false, true, false⟩⟩)
    { url := some "http://a.test/s.css" } := by
  refine ⟨by simp, by simp, by simp, by simp, by simp, by simp, ?_⟩
  intro u r red h1 h2
  simp only [Fetched.resp.injEq] at h1
  subst h1
  simp only [Option.some.injEq] at h2
  subst h2
  decide +kernel

/-! ## the loaders read their source through `_select_source` -/

/-- `CSS(url=…)` (the model `cssSourceBody` used by `runSheet`, `find_stylesheets` and `@import`) refines the `url` branch
of `_select_source`: "unsupported stylesheet type" exactly when `_select_source` yields the empty string; a `string`
answer is parsed as it is; an error of `_select_source` is the error of the loader. -/
theorem css_source_refines_select_source (c : Bool) (r : Resp) :
    (cssSourceBody c r = .ok false ↔ urlBody none c r = .ok ⟨"string", .emptyString, none⟩) ∧
    (∀ b, urlBody none c r = .ok ⟨"string", .fetched r.content.id, b⟩ → cssSourceBody c r = .ok true) ∧
    (∀ e, urlBody none c r = .error e → cssSourceBody c r = .error e) ∧
    (∀ b, urlBody none c r = .ok ⟨"file_obj", .fetched r.content.id, b⟩ →
      cssSourceBody c r = match r.fileObj.bind (·.readErr) with | some e => .error e | none => .ok true) := by
  fun_cases cssSourceBody c r <;> simp [urlBody, *]

/-- `write_pdf_attachment` (model `attachmentBody`) reads what the `url` branch of `_select_source` yields, without MIME
check. -/
theorem attachment_source_refines_select_source (r : Resp) :
    (∀ b, urlBody none false r = .ok ⟨"string", .fetched r.content.id, b⟩ → attachmentBody r = .ok r.content) ∧
    (∀ e, urlBody none false r = .error e → attachmentBody r = .error e) := by
  fun_cases attachmentBody r <;> simp [urlBody, *]

example : urlBody none true ⟨true, none, some "text/html", none, ⟨7, false, none, false, true, false⟩⟩ =
      .ok ⟨"string", .emptyString, none⟩ ∧
    cssSourceBody true ⟨true, none, some "text/html", none, ⟨7, false, none, false, true, false⟩⟩ = .ok false := ⟨rfl, rfl⟩

end Wp.C20.Source
