/-
C05 — shrink-to-fit widths (floats, inline-blocks): clauses (b) (the box fits its containing block) and
(c) (min/max) on the model of `float_layout` / `inline_block_box_layout` (`Model/ShrinkFit.lean`).
Floats and inline-blocks obey the same theorems (`float_minmax`, `float_fits`, `float_eq_inline_block`; true of
the code since /repo 802b9d8 and 8719f13, `fixed:` `float-explicit-width-ignores-min-max`,
`float-shrink-to-fit-ignores-own-extras`; regression vectors in `Witness/C05Shrink.lean`).  Then the remaining
functions of percent.py, and the used width of
floats, inline-blocks and blocks as one closed formula (`cssClamp` of `Lemmas/MinMax.lean`).  Core Lean only.
-/
import WpModel.Props.C05
import WpModel.Model.ShrinkFit

namespace Wp.C05Shrink
open Wp Wp.BoxModel Wp.ShrinkFit Wp.C05

/-- CSS 2.1 §10.3.5: the shrink-to-fit width lies between the min-content and the max-content width. -/
theorem shrinkToFit_bounds (minC maxC a : Rat) (h : minC ≤ maxC) :
    minC ≤ shrinkToFit minC maxC a ∧ shrinkToFit minC maxC a ≤ maxC := by
  unfold shrinkToFit; constructor <;> grind

/-- …it is the available width whenever that lies between them… -/
theorem shrinkToFit_fill (minC maxC a : Rat) (h1 : minC ≤ a) (h2 : a ≤ maxC) : shrinkToFit minC maxC a = a := by
  unfold shrinkToFit; grind

/-- …and never more than the available width unless the min-content width is. -/
theorem shrinkToFit_le (minC maxC a : Rat) : shrinkToFit minC maxC a ≤ max a minC := by
  unfold shrinkToFit; grind

/-- It is monotone in the available width. -/
theorem shrinkToFit_mono (minC maxC a b : Rat) (h : a ≤ b) : shrinkToFit minC maxC a ≤ shrinkToFit minC maxC b := by
  unfold shrinkToFit; grind

example : shrinkToFit 30 110 80 = 80 ∧ shrinkToFit 30 110 20 = 30 ∧ shrinkToFit 30 110 500 = 110 := by
  decide +kernel

theorem keepsSize_inlineBlock (cbw minC maxC : Rat) : KeepsSize (inlineBlockWidthCore cbw minC maxC) where
  size := by
    intro b b' w h hw
    revert h
    fun_cases inlineBlockWidthCore cbw minC maxC b <;> intro h <;> cases h
    · simp_all
    · exact hw
  bounds := by
    intro b b' h
    revert h
    fun_cases inlineBlockWidthCore cbw minC maxC b <;> intro h <;> cases h <;> exact ⟨rfl, rfl⟩

theorem keepsSize_float (cbw minC maxC : Rat) : KeepsSize (floatWidthCore cbw minC maxC) where
  size := by
    intro b b' w h hw
    revert h
    fun_cases floatWidthCore cbw minC maxC b <;> intro h <;> cases h
    · simp_all
    · exact hw
  bounds := by
    intro b b' h
    revert h
    fun_cases floatWidthCore cbw minC maxC b <;> intro h <;> cases h <;> exact ⟨rfl, rfl⟩

/-- (c) **floats: the used width is within `min-width` / `max-width`, for every input** — `auto` or
specified width (since /repo 802b9d8 `float_layout` always calls the decorated `float_width`). -/
theorem float_minmax (cbw minC maxC : Rat) (b r : ABox)
    (h : floatLayoutWidth cbw minC maxC b = .ok r) :
    ∃ w, r.w = some w ∧ b.minW ≤ w ∧ (∀ m, b.maxW = .fin m → b.minW ≤ m → w ≤ m) :=
  (minmax_width _ (keepsSize_float cbw minC maxC) (zeroAutoMargins b) r h).imp fun _ h => ⟨h.1, h.2.1, h.2.2.1⟩

/-- On a box whose margins are numbers (which `zeroAutoMargins` guarantees) the width functions of floats
and of inline-blocks are the same function. -/
theorem floatWidthCore_eq_inlineBlock (cbw minC maxC : Rat) (x : ABox) (l r : Rat)
    (hl : x.ml = some l) (hr : x.mr = some r) :
    floatWidthCore cbw minC maxC x = inlineBlockWidthCore cbw minC maxC x := by
  rcases x with ⟨ml, mr, pl, pr, bl, br, w, minW, maxW, posX, col⟩
  simp only at hl hr; subst hl hr
  cases w
  · simp only [floatWidthCore, inlineBlockWidthCore, Except.ok.injEq, ABox.mk.injEq, Option.some.injEq, and_true,
      true_and]
    congr 1
    grind
  · rfl

/-- **The width part of `float_layout` is the width part of `inline_block_box_layout`**, for every input
(CSS 2.1 §10.3.5 and §10.3.9 are the same rule; true of the code since /repo 802b9d8 + 8719f13). -/
theorem float_eq_inline_block (cbw minC maxC : Rat) (b : ABox) :
    floatLayoutWidth cbw minC maxC b = inlineBlockLayoutWidth cbw minC maxC b := by
  unfold floatLayoutWidth inlineBlockLayoutWidth
  -- every pass of the wrapper runs on a box with the computed (numeric) margins of `zeroAutoMargins b`
  exact minmax_congr _ _ _ (fun x h1 h2 => floatWidthCore_eq_inlineBlock cbw minC maxC x _ _ h1 h2)

/-- (c) inline-blocks: the used width is within `min-width` / `max-width`, for every input. -/
theorem inline_block_minmax (cbw minC maxC : Rat) (b r : ABox)
    (h : inlineBlockLayoutWidth cbw minC maxC b = .ok r) :
    ∃ w, r.w = some w ∧ b.minW ≤ w ∧ (∀ m, b.maxW = .fin m → b.minW ≤ m → w ≤ m) :=
  float_minmax cbw minC maxC b r ((float_eq_inline_block cbw minC maxC b).trans h)

/-! ## the remaining functions of percent.py -/

/-- (d) `left` / `right` percentages refer to the containing block **width**, `top` / `bottom` to its
**height** (`resolve_position_percentages`). -/
theorem resolvePosition_spec (l r t b : DimQ) (cbW cbH : Rat) (out : Len × Len × Len × Len)
    (h : resolvePosition l r t b cbW cbH = .ok out) :
    percentageQ l cbW = .ok out.1 ∧ percentageQ r cbW = .ok out.2.1 ∧
    percentageQ t cbH = .ok out.2.2.1 ∧ percentageQ b cbH = .ok out.2.2.2 := by
  unfold resolvePosition at h
  cases h1 : percentageQ l cbW <;> cases h2 : percentageQ r cbW <;> cases h3 : percentageQ t cbH <;>
    cases h4 : percentageQ b cbH <;> simp [h1, h2, h3, h4, bind, Except.bind, pure, Except.pure] at h
  subst h
  exact ⟨rfl, rfl, rfl, rfl⟩

example : resolvePosition (.pct 50) .auto (.pct 25) (.px 3) 200 80 = .ok (some 100, none, some 20, some 3) :=
  okEq_iff.mp (by decide +kernel)

/-- (d) a percentage border radius refers to the border box, horizontally to its width and vertically to
its height; a `0px` radius or a corner on a side without decoration is `(0, 0)`. -/
theorem resolveRadius_spec (vx vy bw bh : Rat) :
    resolveRadius (.pct vx) (.pct vy) false bw bh = .ok (bw * vx / 100, bh * vy / 100) ∧
    (∀ ry removed, resolveRadius (.px 0) ry removed bw bh = .ok (0, 0)) ∧
    (∀ rx ry, resolveRadius rx ry true bw bh = .ok (0, 0)) := by
  refine ⟨by simp [resolveRadius, percentageQ, bind, Except.bind, pure, Except.pure], ?_, ?_⟩
  · intro ry removed; simp [resolveRadius]
  · intro rx ry; unfold resolveRadius; split <;> rfl

/-- The used border width under `border-collapse`: the one set by the border conflict resolution when
there is one, else the computed one; always the computed one for separated borders. -/
theorem effectiveBorder_spec (preset : Option Rat) (w : Rat) :
    effectiveBorder false preset w = w ∧ effectiveBorder true none w = w ∧
    (∀ p, effectiveBorder true (some p) w = p) := by
  refine ⟨?_, rfl, fun p => rfl⟩
  cases preset <;> rfl

/-! ## the used width as one closed formula (the reference of the harness's `clause_shrink`, for all inputs) -/

/-- The tentative width of a float / inline-block (CSS 2.1 §10.3.5, §10.3.9): the specified one, or the
shrink-to-fit width for the available width (containing block minus the box's own margins, borders, paddings). -/
def tentativeWidth (cbw minC maxC : Rat) (b : ABox) : Rat :=
  match b.w with
  | some w => w
  | none => shrinkToFit minC maxC
      (cbw - (orZero b.ml + orZero b.mr + b.pl + b.pr + b.bl + b.br))

/-- `float_width` only solves for the width: it fills an `auto` one and touches nothing else. -/
theorem solves_float (cbw minC maxC : Rat) (b : ABox) :
    Solves true (floatWidthCore cbw minC maxC) (zeroAutoMargins b)
      (fun w' => { zeroAutoMargins b with w := some (tentativeWidth cbw minC maxC { b with w := w' }) }) where
  run := fun w' => by cases w' <;> rfl
  keep := fun _ => rfl
  frame := fun _ _ => rfl

/-- (b)(c) **The used width of a float is the CSS formula, for every input** — what the harness's reference
`clause_shrink` computes for the rendered boxes, as a theorem of the model: auto margins are 0, the width is
`cssClamp` of the tentative width (`max-width` first, `min-width` last), everything else is untouched. -/
theorem float_width_css (cbw minC maxC : Rat) (b : ABox) (hmax : b.maxW ≠ .ninf) :
    floatLayoutWidth cbw minC maxC b =
      .ok { zeroAutoMargins b with w := some (cssClamp (tentativeWidth cbw minC maxC b) b.minW b.maxW) } := by
  have h := minmax_normal (solves_float cbw minC maxC b) (t := tentativeWidth cbw minC maxC b) rfl
  refine (h.trans (if_neg hmax)).trans (congrArg Except.ok ?_)
  split
  · rw [cssClamp_of_fits ‹_›]; rfl
  · rfl

/-- The same for inline-blocks. -/
theorem inline_block_width_css (cbw minC maxC : Rat) (b : ABox) (hmax : b.maxW ≠ .ninf) :
    inlineBlockLayoutWidth cbw minC maxC b =
      .ok { zeroAutoMargins b with w := some (cssClamp (tentativeWidth cbw minC maxC b) b.minW b.maxW) } := by
  rw [← float_eq_inline_block]
  exact float_width_css cbw minC maxC b hmax

/-- `cssClamp` is the clause: at least `min-width`, at most `max-width` when that is not below `min-width`, and the
tentative width itself when it lies between them. -/
theorem cssClamp_spec (t minW : Rat) (maxW : Ext) :
    minW ≤ cssClamp t minW maxW ∧ (∀ m, maxW = .fin m → minW ≤ m → cssClamp t minW maxW ≤ m) ∧
    (minW ≤ t → (∀ m, maxW = .fin m → t ≤ m) → cssClamp t minW maxW = t) := by
  fun_cases cssClamp t minW maxW <;> grind

theorem cssClamp_le_max (t minW : Rat) (maxW : Ext) : cssClamp t minW maxW ≤ max t minW := by
  fun_cases cssClamp t minW maxW <;> grind

/-- (b)(f) **a float with `width: auto` fits its containing block**: when the min-content width
and `min-width` fit in the available width (containing block minus the box's own margins, borders and
paddings; since /repo 8719f13 the available width of a float takes them off), the margin box is not wider than
the containing block. -/
theorem float_fits (cbw minC maxC : Rat) (b r : ABox) (hauto : b.w = none)
    (h : floatLayoutWidth cbw minC maxC b = .ok r)
    (hminC : minC ≤ cbw - (orZero b.ml + orZero b.mr + b.bl + b.br + b.pl + b.pr))
    (hminW : b.minW ≤ cbw - (orZero b.ml + orZero b.mr + b.bl + b.br + b.pl + b.pr)) :
    ∃ o, outer? r = some o ∧ o ≤ cbw := by
  by_cases hmax : b.maxW = .ninf
  · -- `max-width: -inf` makes the wrapper fail
    rw [floatLayoutWidth, show handleMinMaxWidth _ _ = _ from minmax_normal (solves_float cbw minC maxC b) rfl,
      if_pos (show (zeroAutoMargins b).maxW = .ninf from hmax)] at h
    cases h
  · rw [float_width_css cbw minC maxC b hmax] at h
    cases h
    refine ⟨_, rfl, ?_⟩
    have hs := shrinkToFit_le minC maxC (cbw - (orZero b.ml + orZero b.mr + b.pl + b.pr + b.bl + b.br))
    have hc := cssClamp_le_max (tentativeWidth cbw minC maxC b) b.minW b.maxW
    simp only [zeroAutoMargins, tentativeWidth, hauto] at hc ⊢
    grind

/-- (b)(f) The same for an inline-block with `width: auto`. -/
theorem inline_block_fits (cbw minC maxC : Rat) (b r : ABox) (hauto : b.w = none)
    (h : inlineBlockLayoutWidth cbw minC maxC b = .ok r)
    (hminC : minC ≤ cbw - (orZero b.ml + orZero b.mr + b.bl + b.br + b.pl + b.pr))
    (hminW : b.minW ≤ cbw - (orZero b.ml + orZero b.mr + b.bl + b.br + b.pl + b.pr)) :
    ∃ o, outer? r = some o ∧ o ≤ cbw :=
  float_fits cbw minC maxC b r hauto ((float_eq_inline_block cbw minC maxC b).trans h) hminC hminW

/-- Non-vacuity / regression: `float: left; padding: 0 10px` around a long text in a 100px block gets an
80px content box (100px before the repair), margin box 100px. -/
example : (match floatLayoutWidth 100 30 230
      { ml := some 0, mr := some 0, pl := 10, pr := 10, bl := 0, br := 0, w := none, minW := 0, maxW := .inf,
        posX := 0, isColumn := false } with
    | .ok r => outer? r
    | .error _ => none) = some 100 := by decide +kernel

/-- `float: left; padding: 0 10px; width: auto`. -/
def exPadded : ABox :=
  { ml := some 0, mr := some 0, pl := 10, pr := 10, bl := 0, br := 0, w := none, minW := 0, maxW := .inf, posX := 0,
    isColumn := false }

/-- Non-vacuity: `float:left; padding:0 10px` around a long text in 100px: 80; `width:80px; max-width:50px`: 50;
`min-width:60px; max-width:50px`: the minimum wins, 60. -/
example :
    tentativeWidth 100 30 230 exPadded = 80 ∧
    cssClamp 80 0 (.fin 50) = 50 ∧ cssClamp 80 60 (.fin 50) = 60 ∧ cssClamp 80 0 .inf = 80 := by
  decide +kernel

/-! ## the decorated `block_level_width` as one closed formula (the reference `css_used` of the judges) -/

/-- (b)(c) **The decorated `block_level_width` is CSS 2.1 §10.3.3 solved for the §10.4 width, for every input**
(the reference `css_used` of the harness's judges `clause_width` / `doc_oracle`, as a theorem of the model):
with `t` the width of the first, tentative, pass, the result is that pass itself when `t` already satisfies
`min-width` / `max-width`, and otherwise (or as well) **one** plain pass of `block_level_width` from the computed margins, the
original `position_x` and the width `cssClamp t min max` (`max-width` first, `min-width` last). -/
theorem blw_minmax_css (cbw : Rat) (dir : Dir) (b r : ABox)
    (h : handleMinMaxWidth (fun b => .ok (blwCore cbw dir b)) b = .ok r) :
    ∃ t, (blwCore cbw dir b).w = some t ∧
      ((cssClamp t b.minW b.maxW = t ∧ r = blwCore cbw dir b) ∨
       r = pass cbw dir b (cssClamp t b.minW b.maxW) b.posX) := by
  obtain ⟨t, ht⟩ := blw_width_some cbw dir b
  rw [blw_minmax_eq cbw dir b ht] at h
  split at h
  · cases h
  cases h
  refine ⟨t, ht, ?_⟩
  split
  · exact Or.inl ⟨cssClamp_of_fits ‹_›, rfl⟩
  · exact Or.inr rfl

/-- The used width after the decorated `block_level_width` **is** `cssClamp` of the tentative width — clause (c) as
an equation, for every input on which the wrapper succeeds. -/
theorem blw_minmax_width_css (cbw : Rat) (dir : Dir) (b r : ABox)
    (h : handleMinMaxWidth (fun b => .ok (blwCore cbw dir b)) b = .ok r) :
    ∃ t, (blwCore cbw dir b).w = some t ∧ r.w = some (cssClamp t b.minW b.maxW) := by
  obtain ⟨t, ht, hcase⟩ := blw_minmax_css cbw dir b r h
  refine ⟨t, ht, ?_⟩
  rcases hcase with ⟨hc, e⟩ | e
  · rw [e, hc]; exact ht
  · rw [e]; exact (specified_kept cbw dir _).1 _ rfl

/-- `width: 200px; max-width: 50px; margin: 0`. -/
def exClamped : ABox :=
  { ml := some 0, mr := some 0, pl := 0, pr := 0, bl := 0, br := 0, w := some 200, minW := 0, maxW := .fin 50,
    posX := 0, isColumn := false }

/-- Non-vacuity: in a 100px rtl containing block the tentative width 200 is clamped to 50; one pass from x = 0
puts the box at x = 50. -/
example : cssClamp 200 0 (.fin 50) = 50 ∧ (pass 100 .rtl exClamped 50 0).posX = 50 := by
  decide +kernel

end Wp.C05Shrink
