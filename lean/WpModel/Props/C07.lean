/-
C07 — Declarations: invalid ones vanish, shorthands equal longhands, units agree, var() = substitution.
Statements are over the hand-written models
`Wp.Decl.*`, `Wp.Var.*`, `Wp.Len07.*` and over the tables regenerated from /repo on every run
(`Wp.Gen.Expanders`, `Wp.Gen.UnitsC07`): an edit of a registry or of the unit table re-checks every `decide`.
-/
import WpModel.Model.Declarations
import WpModel.Model.VarSubst
import WpModel.Model.LengthC07
import WpModel.Model.PendingC07
import WpModel.Lemmas.C07Generic
import WpModel.Lemmas.C07Var

namespace Wp.C07
open Wp Wp.Decl

/-! ## The generated tables are consistent (AST translator = runtime translator) -/

/-- `@generic_expander(...)` decorators read from the source = closures of the registered wrappers. -/
theorem generic_table_agrees : Gen.Expanders.genericAst = Gen.Expanders.generic := rfl

/-- `@expander(key)` decorators read from the source = the runtime `EXPANDERS` registry. -/
theorem expander_keys_agree : Gen.Expanders.expanderKeysAst = Gen.Expanders.expanderKeys := rfl

/-- The `NOT_PRINT_MEDIA` literal of the source = the runtime set. -/
theorem not_print_media_agrees : Gen.Expanders.notPrintMediaAst = Gen.Expanders.notPrintMedia := rfl

/-! ## The funnel: invalid declarations vanish, outputs concatenate -/

section Funnel
variable {β : Type} (v : String → Item → R (List (String × β)))

/-- The declaration contributes nothing: not a declaration, not print media, unsupported prefix, no value,
or `InvalidValues`. -/
def dropped (d : Item) : Bool :=
  match preprocessOne v d with
  | .ok [] => true
  | _ => false

/-- Every way in which the loop `continue`s without yielding. -/
theorem dropped_of_invalid (d : Item)
    (h : d.kind ≠ .declaration ∨ effectiveName d = none ∨
      (∃ name, effectiveName d = some name ∧ (d.noTokens = true ∨ v name d = .error .invalid))) :
    preprocessOne v d = .ok [] := by
  unfold preprocessOne
  by_cases hk : d.kind = .declaration
  · rcases h with h | h | ⟨name, hn, h⟩
    · exact absurd hk h
    · simp only [hk, ne_eq, not_true_eq_false, if_false, h]; rfl
    · simp only [hk, ne_eq, not_true_eq_false, if_false, hn]
      rcases h with h | h
      · simp only [h, if_true]; rfl
      · by_cases hnt : d.noTokens = true
        · simp only [hnt, if_true]; rfl
        · simp only [hnt, h]; rfl
  · simp only [ne_eq, hk, not_false_eq_true, if_true]; rfl

/-- (a) Outputs concatenate: the result for a list is the results of its two halves, in order
(an uncaught exception of the first half wins). -/
theorem preprocess_append (a b : List Item) :
    preprocess v (a ++ b) = (do
      let x ← preprocess v a
      let y ← preprocess v b
      pure (x ++ y)) :=
  concatLoop_append (preprocessOne v) (preprocess v) rfl (fun _ _ => rfl) a b

/-- (b) **Invalid declarations vanish**: removing every dropped declaration changes nothing. -/
theorem invalid_vanish (ds : List Item) :
    preprocess v ds = preprocess v (ds.filter fun d => !dropped v d) :=
  concatLoop_filter (preprocessOne v) (preprocess v) (fun _ _ => rfl) _
    (fun d h => by unfold dropped at h; split at h <;> first | assumption | cases h) ds

/-- (b') A dropped declaration anywhere in a block is as if absent. -/
theorem invalid_vanish_insert (a b : List Item) (d : Item) (h : preprocessOne v d = .ok []) :
    preprocess v (a ++ d :: b) = preprocess v (a ++ b) :=
  concatLoop_insert (preprocessOne v) (preprocess v) rfl (fun _ _ => rfl) a b d h

/-- What a declaration yields on its own. -/
def outOf (d : Item) : List (Out β) :=
  match preprocessOne v d with
  | .ok l => l
  | .error _ => []

/-- (c) **Neighbour independence**: when no validator raises anything but `InvalidValues`, the output is the
concatenation of what each declaration yields alone. -/
theorem neighbour_independent (ds : List Item) (h : ∀ d ∈ ds, ∀ f, preprocessOne v d ≠ .error f) :
    preprocess v ds = .ok (ds.flatMap (outOf v)) :=
  concatLoop_ok (preprocessOne v) (preprocess v) rfl (fun _ _ => rfl) (outOf v) ds fun d hd => by
    unfold outOf
    cases hp : preprocessOne v d with
    | error f => exact absurd hp (h d hd f)
    | ok l => rfl

/-- (d) The funnel itself never fails: an exception leaving it is an exception of a validator other than
`InvalidValues` (the runtime assumption checked by the correspondence). -/
theorem funnel_only_propagates (ds : List Item) (f : Fail) (h : preprocess v ds = .error f) :
    ∃ d ∈ ds, ∃ name, effectiveName d = some name ∧ v name d = .error f ∧ f ≠ .invalid := by
  obtain ⟨d, hd, hp⟩ := concatLoop_error (preprocessOne v) (preprocess v) rfl (fun _ _ => rfl) ds f h
  refine ⟨d, hd, ?_⟩
  revert hp
  fun_cases preprocessOne v d <;> intro hp <;> cases hp
  next name hn hne hv =>
    refine ⟨name, hn, ?_, hne⟩
    split at hv
    · cases hv; exact absurd rfl hne
    · exact hv

end Funnel

/-- Non-vacuity: a block `color: red; colour: red; MARGIN: 1px` with a validator table. -/
example :
    let v : String → Item → R (List (String × String)) := fun name _ =>
      if name = "color" then .ok [("color", "red")]
      else if name = "margin" then .ok [("margin-top", "1px"), ("margin-right", "1px")]
      else .error .invalid
    let d (n l : String) (i : Nat) : Item :=
      { kind := .declaration, name := n, lowerName := l, noTokens := false, important := false, id := i }
    preprocess v [d "color" "color" 0, d "colour" "colour" 1, d "MARGIN" "margin" 2]
      = .ok [("color", "red", false), ("margin_top", "1px", false), ("margin_right", "1px", false)] := by
  decide +kernel

/-! ## The 1-to-4 value shorthands -/

/-- (a) `expand_four_sides`: exactly the CSS mapping — top, right (= top), bottom (= top), left (= right). -/
theorem four_sides {α : Type} (toks out : List α) (h : fourTokens toks = .ok out) :
    ∃ t r b l, out = [t, r, b, l] ∧
      toks.head? = some t ∧
      r = (toks[1]?).getD t ∧
      b = (toks[2]?).getD t ∧
      l = (toks[3]?).getD r ∧
      1 ≤ toks.length ∧ toks.length ≤ 4 := by
  revert h
  fun_cases fourTokens toks <;> intro h <;> cases h <;> exact ⟨_, _, _, _, rfl, rfl, rfl, rfl, rfl, by simp, by simp⟩

/-- (a') Any other number of components is invalid, and nothing else is. -/
theorem four_sides_invalid {α : Type} (toks : List α) :
    fourTokens toks = .error .invalid ↔ toks.length = 0 ∨ 4 < toks.length := by
  match toks with
  | [] | _ :: _ :: _ :: _ :: _ :: _ => exact ⟨fun _ => by simp, fun _ => rfl⟩
  | [_] | [_, _] | [_, _, _] | [_, _, _, _] => exact ⟨nofun, by simp⟩

/-- `PROPERTIES` as a search tree, of depth 9 (up to 511 names). -/
private def propertiesTree : STree := .ofList 9 Gen.Expanders.properties

private theorem registered_of_find (n : String) (h : propertiesTree.find n = true) :
    Gen.Expanders.properties.contains n = true :=
  List.contains_iff_mem.mpr (STree.find_sound n 9 _ h)

/-- The keys bound to `expand_four_sides` in the generated registry. -/
def fourSideKeys : List String :=
  (Gen.Expanders.expanderKeys.filter fun e => e.2 == "expand_four_sides").map (·.1)

/-- (b) The expanded names of every registered four-sides shorthand are registered longhand properties,
pairwise distinct. -/
theorem four_side_names_registered :
    ∀ key ∈ fourSideKeys, (fourSideNames key).Nodup ∧
      ∀ n ∈ fourSideNames key, Gen.Expanders.properties.contains n = true := by
  have h : ∀ key ∈ fourSideKeys, (fourSideNames key).Nodup ∧
      ∀ n ∈ fourSideNames key, propertiesTree.find n = true := by decide +kernel
  exact fun key hk => ⟨(h key hk).1, fun n hn => registered_of_find n ((h key hk).2 n hn)⟩

theorem fourSideNames_length (key : String) : (fourSideNames key).length = 4 := by
  rw [fourSideNames, List.length_map]; rfl

theorem four_side_names_margin :
    fourSideNames "margin" = ["margin-top", "margin-right", "margin-bottom", "margin-left"] := by decide +kernel

theorem four_side_names_border_color :
    fourSideNames "border-color" =
      ["border-top-color", "border-right-color", "border-bottom-color", "border-left-color"] := by decide +kernel

private theorem validateZip_names {α β : Type} (validate : String → α → R β) :
    ∀ (names : List String) (ts : List α) (out : Longhands β), names.length = ts.length →
      validateZip validate names ts = .ok out →
      out.map Prod.fst = names ∧
      ∀ (i : Nat) (n : String) (t : α), names[i]? = some n → ts[i]? = some t →
        ∃ b, validate n t = .ok b ∧ out[i]? = some (n, OutV.val b)
  | [], [], out, _, h => by cases h; exact ⟨rfl, fun _ _ _ hn => nomatch hn⟩
  | n :: ns, t :: ts, out, hl, h => by
    simp only [validateZip] at h
    obtain ⟨b, hv, h⟩ := Except.bind_eq_ok h
    obtain ⟨rest, hr, h⟩ := Except.bind_eq_ok h
    cases h
    have ih := validateZip_names validate ns ts rest (Nat.succ.inj hl) hr
    refine ⟨by simp [ih.1], fun i n' t' hn ht => ?_⟩
    cases i with
    | zero => cases hn; cases ht; exact ⟨b, hv, rfl⟩
    | succ j => exact ih.2 j n' t' hn ht
  | [], _ :: _, _, hl, _ | _ :: _, [], _, hl, _ => by cases hl

/-- (c) **Shorthand = its four longhands**: when `expand_four_sides` succeeds, the result is the four side
longhands, in order, each carrying the value the longhand validator gives to the component the CSS mapping
assigns to that side. True of any `key` (`fourSideNames_length`): `hk` is not used. -/
theorem four_sides_longhands {α β : Type} (key : String) (hk : key ∈ fourSideKeys) (toks : List α)
    (validate : String → α → R β) (out : Longhands β)
    (h : expandFourSides key false toks validate = .ok out) :
    ∃ ts, fourTokens toks = .ok ts ∧ out.map Prod.fst = fourSideNames key ∧
      ∀ i, i < 4 → ∃ b n t, (fourSideNames key)[i]? = some n ∧ ts[i]? = some t ∧
        validate n t = .ok b ∧ out[i]? = some (n, OutV.val b) := by
  have hlen := fourSideNames_length key
  unfold expandFourSides at h
  simp only [Bool.false_eq_true, if_false] at h
  obtain ⟨ts, hts, h⟩ := Except.bind_eq_ok h
  obtain ⟨t, r, b, l, rfl, -⟩ := four_sides toks ts hts
  obtain ⟨hnames, hz⟩ := validateZip_names validate (fourSideNames key) [t, r, b, l] out hlen h
  refine ⟨_, hts, hnames, fun i hi => ?_⟩
  have hn := List.getElem?_eq_getElem (l := fourSideNames key) (i := i) (by omega)
  have ht := List.getElem?_eq_getElem (l := [t, r, b, l]) (i := i) hi
  obtain ⟨bv, hv, ho⟩ := hz i _ _ hn ht
  exact ⟨bv, _, _, hn, ht, hv, ho⟩

/-- (c') with `var()` anywhere, all four longhands are pending (validated after substitution). -/
theorem four_sides_pending {α β : Type} (key : String) (toks : List α) (validate : String → α → R β) :
    expandFourSides key true toks validate = .ok ((fourSideNames key).map fun n => (n, OutV.pending)) := rfl

example : expandFourSides (α := String) (β := String) "margin" false ["1px", "2px", "3px"] (fun _ t => .ok t)
    = .ok [("margin-top", .val "1px"), ("margin-right", .val "2px"), ("margin-bottom", .val "3px"),
           ("margin-left", .val "2px")] := by decide +kernel

/-! ## generic_expander -/

/-- (a) **Exactly the declared longhands, once each, in the declared order** — whatever the tokens. -/
theorem generic_names {α β : Type} (expanded : List String) (name : String) (head : Head) (raw : Raw α)
    (validate : String → α → R β) (out : Longhands β)
    (h : genericFill expanded name head raw validate = .ok out) :
    out.map Prod.fst = expanded.map (actualName name) := by
  cases head with
  | plain => exact mapM_fill_names name raw.items validate expanded out (generic_plain_ok _ _ _ _ _ h).2.2
  | inheritKw | initialKw | hasVar => cases h; simp [List.map_map, Function.comp_def]

/-- (b) **Omitted parts reset to their initial value; given parts carry the validated token.** -/
theorem generic_fill {α β : Type} (expanded : List String) (name : String) (raw : Raw α)
    (validate : String → α → R β) (out : Longhands β)
    (h : genericFill expanded name .plain raw validate = .ok out) :
    ∀ n ∈ expanded,
      match raw.items.lookup n with
      | none => (actualName name n, OutV.kw "initial") ∈ out
      | some t => ∃ b, validate (actualName name n) t = .ok b ∧ (actualName name n, OutV.val b) ∈ out := by
  intro n hn
  obtain ⟨r, hr, hf⟩ := (List.mapM_eq_ok_rel2 (generic_plain_ok _ _ _ _ _ h).2.2).mem_left n hn
  have := fillOne_ok name raw.items validate n r hf
  split <;> rename_i hl <;> simp only [hl] at this
  · exact this ▸ hr
  · obtain ⟨b, hv, rfl⟩ := this
    exact ⟨b, hv, hr⟩

/-- (b') A successful expansion means the wrapped expander yielded each longhand at most once and only
declared ones. -/
theorem generic_no_duplicate {α β : Type} (expanded : List String) (name : String) (raw : Raw α)
    (validate : String → α → R β) (out : Longhands β)
    (h : genericFill expanded name .plain raw validate = .ok out) :
    (raw.items.map Prod.fst).Nodup ∧ ∀ n ∈ raw.items.map Prod.fst, n ∈ expanded := by
  have := (checkItems_ok_iff expanded raw.items []).mp (generic_plain_ok _ _ _ _ _ h).1
  exact ⟨this.2.1, this.1⟩

/-- (c) **A longhand given twice makes the whole shorthand invalid** (dropped by the funnel). -/
theorem generic_duplicate_invalid {α β : Type} (expanded : List String) (name : String) (raw : Raw α)
    (validate : String → α → R β) (hin : ∀ n ∈ raw.items.map Prod.fst, n ∈ expanded)
    (hdup : ¬ (raw.items.map Prod.fst).Nodup) :
    genericFill expanded name .plain raw validate = .error .invalid :=
  genericFill_dup_invalid expanded name raw validate hin hdup

/-- (d) `inherit` / `initial` alone fan out to every longhand; `var()` makes every longhand pending. -/
theorem generic_keyword {α β : Type} (expanded : List String) (name : String) (raw : Raw α)
    (validate : String → α → R β) :
    genericFill expanded name .inheritKw raw validate
      = .ok (expanded.map fun n => (actualName name n, OutV.kw "inherit")) ∧
    genericFill expanded name .initialKw raw validate
      = .ok (expanded.map fun n => (actualName name n, OutV.kw "initial")) ∧
    genericFill expanded name .hasVar raw validate
      = .ok (expanded.map fun n => (actualName name n, OutV.pending)) := ⟨rfl, rfl, rfl⟩

/-- Every name a registered generic shorthand can yield is a registered longhand, once (so `PROPERTIES[name]`
in `validate_non_shorthand(..., required=True)` cannot raise `KeyError`, and "once each" holds on names). -/
theorem generic_names_registered :
    ∀ e ∈ Gen.Expanders.expanderKeys, ∀ names ∈ (genericNames e.2).toList,
      names.Nodup ∧ ∀ n ∈ names, Gen.Expanders.properties.contains (actualName e.1 n) = true := by
  have h : ∀ e ∈ Gen.Expanders.expanderKeys, ∀ names ∈ ((lookupFast e.2 Gen.Expanders.generic).map (·.1)).toList,
      names.Nodup ∧ ∀ n ∈ names, propertiesTree.find (actualName e.1 n) = true := by decide +kernel
  intro e he names hs
  rw [genericNames, ← lookupFast_eq] at hs
  exact ⟨(h e he names hs).1, fun n hn => registered_of_find _ ((h e he names hs).2 n hn)⟩

/-! ## border-side shorthands: components commute; border = four border-sides -/

theorem border_side_names_eq : borderSideNames = ["-width", "-color", "-style"] := by decide +kernel

private theorem sideSuffix_mem {α : Type} (t : SideTok α) (s : String) (h : sideSuffix t = some s) :
    s ∈ borderSideNames := by
  rw [border_side_names_eq]
  revert h
  fun_cases sideSuffix t <;> intro h <;> cases h <;> simp

private def sidePair {α : Type} (t : SideTok α) : String × α := ((sideSuffix t).getD "", t.tok)

private theorem borderSideRaw_spec {α : Type} (toks : List (SideTok α)) (acc : List (String × α)) :
      (borderSideRaw toks acc).ends =
        (if toks.all (fun t => (sideSuffix t).isSome) then none else some .invalid) ∧
      ((borderSideRaw toks acc).ends = none → (borderSideRaw toks acc).items = acc ++ toks.map sidePair) ∧
      ∀ p ∈ (borderSideRaw toks acc).items, p ∈ acc ∨ p.1 ∈ borderSideNames := by
  fun_induction borderSideRaw toks acc with
  | case1 acc => simp +contextual
  | case3 t rest acc hs => simp +contextual [hs]
  | case2 t rest acc s hs ih =>
    obtain ⟨h1, h2, h3⟩ := ih
    simp only [hs, List.all_cons, Option.isSome_some, Bool.true_and]
    refine ⟨h1, fun h => by simp [h2 h, sidePair, hs], fun p hp => ?_⟩
    rcases h3 p hp with h | h
    · rcases List.mem_append.mp h with h | h
      · exact Or.inl h
      · exact Or.inr (by rw [List.mem_singleton.mp h]; exact sideSuffix_mem t s hs)
    · exact Or.inr h

/-- **Any permutation of the components of a `border-*` / `outline` / `column-rule` value expands to the same
longhands** (same names, same values, same validity): the expander classifies each token by its type alone. -/
theorem border_side_perm {α β : Type} (name : String) (head : Head) (toks toks' : List (SideTok α))
    (validate : String → α → R β) (hp : toks.Perm toks') :
    expandBorderSide name head toks validate = expandBorderSide name head toks' validate := by
  unfold expandBorderSide
  cases head with
  | inheritKw | initialKw | hasVar => rfl
  | plain =>
    obtain ⟨h1, h2, h3⟩ := borderSideRaw_spec toks []
    obtain ⟨h1', h2', h3'⟩ := borderSideRaw_spec toks' []
    have he : (borderSideRaw toks []).ends = (borderSideRaw toks' []).ends := by rw [h1, h1', hp.all_eq]
    refine genericFill_congr _ _ _ _ _ he ?_ (fun h => ?_) (fun p hp => (h3 p hp).resolve_left (by simp))
      (fun p hp => (h3' p hp).resolve_left (by simp))
    · rw [h1]; split <;> simp
    · rw [h2 h, h2' (he ▸ h)]; exact (hp.map sidePair).append_left []

/-- `border: X` is `border-top: X; border-right: X; border-bottom: X; border-left: X`. -/
theorem border_all_sides {α β : Type} (head : Head) (toks : List (SideTok α)) (validate : String → α → R β) :
    expandBorder "border" head toks validate = (do
      let t ← expandBorderSide "border-top" head toks validate
      let r ← expandBorderSide "border-right" head toks validate
      let b ← expandBorderSide "border-bottom" head toks validate
      let l ← expandBorderSide "border-left" head toks validate
      pure (t ++ r ++ b ++ l)) := by
  have e1 : "border" ++ "-top" = "border-top" := by decide +kernel
  have e2 : "border" ++ "-right" = "border-right" := by decide +kernel
  have e3 : "border" ++ "-bottom" = "border-bottom" := by decide +kernel
  have e4 : "border" ++ "-left" = "border-left" := by decide +kernel
  simp [expandBorder, Gen.Expanders.borderSuffixes, e1, e2, e3, e4, List.append_assoc]

example : expandBorderSide (α := String) (β := String) "border-top" .plain
    [⟨false, true, false, "1px"⟩, ⟨false, false, true, "solid"⟩] (fun _ t => .ok t)
    = .ok [("border-top-width", .val "1px"), ("border-top-color", .kw "initial"),
           ("border-top-style", .val "solid")] := by decide +kernel

/-! ### `columns`: the two components commute -/

def columnsNames : List String := (genericNames "expand_columns").getD []

theorem columns_names_eq : columnsNames = ["column-width", "column-count"] := by decide +kernel

/-- The two components of `columns` commute as soon as nothing but `auto` is both a width and a count and the
components are not both `auto`; what the validators say of `auto` itself does not matter, since `auto` is moved
behind the other component before either is asked. -/
theorem columns_swap {α β : Type} (name : String) (head : Head) (a b : ColTok α) (autoTok : α)
    (validate : String → α → R β)
    (ha' : a.isAuto = false → ¬(a.isWidth = true ∧ a.isCount = true))
    (hb' : b.isAuto = false → ¬(b.isWidth = true ∧ b.isCount = true))
    (hab : ¬(a.isAuto = true ∧ b.isAuto = true)) :
    genericFill columnsNames name head (columnsRaw [a, b] autoTok) validate =
      genericFill columnsNames name head (columnsRaw [b, a] autoTok) validate := by
  cases head with
  | inheritKw | initialKw | hasVar => rfl
  | plain =>
    cases haa : a.isAuto with
    | true =>
      -- `auto` is moved behind the other component: both values are read as `b a`
      have hba : b.isAuto = false := by
        cases h : b.isAuto with
        | false => rfl
        | true => exact absurd ⟨haa, h⟩ hab
      simp only [columnsRaw, haa, hba, if_true, Bool.false_eq_true, if_false]
    | false =>
      cases hba : b.isAuto with
      | true => simp only [columnsRaw, haa, hba, if_true, Bool.false_eq_true, if_false]
      | false =>
        -- a component that is not `auto` is a width, a count, or neither
        have cls : ∀ t : ColTok α, ¬(t.isWidth = true ∧ t.isCount = true) →
            (t.isWidth = true ∧ t.isCount = false) ∨ (t.isWidth = false ∧ t.isCount = true) ∨
              (t.isWidth = false ∧ t.isCount = false) := by
          intro t h
          cases hw : t.isWidth <;> cases hc : t.isCount <;> simp [hw, hc] at h ⊢
        have h : (some "column-count" != some "column-width") = true := by decide +kernel
        have hw : "column-width" ∈ columnsNames := columns_names_eq ▸ List.mem_cons_self
        have hc : "column-count" ∈ columnsNames := columns_names_eq ▸ List.mem_cons_of_mem _ List.mem_cons_self
        -- a width and a count, or two counts (a duplicate both ways), are yielded in the order written; in the
        -- other cases a component is refused on both sides
        rcases cls a (ha' haa) with ⟨haw, hac⟩ | ⟨haw, hac⟩ | ⟨haw, hac⟩ <;>
          rcases cls b (hb' hba) with ⟨hbw, hbc⟩ | ⟨hbw, hbc⟩ | ⟨hbw, hbc⟩ <;>
          simp only [columnsRaw, columnsLoop, haa, hba, haw, hac, hbw, hbc, h, bne_self_eq_false, Bool.and_true,
            Bool.and_false, Bool.false_eq_true, if_true, if_false, List.nil_append, List.cons_append] <;>
          exact genericFill_congr _ _ _ _ _ rfl (by simp) (by simp [List.Perm.swap]) (by simp [hw, hc])
            (by simp [hw, hc])

/-- **`columns: a b` = `columns: b a`** for any two components (`auto` being acceptable as width and as count,
nothing else being both, not both components `auto`): same longhands, same values, same validity. -/
theorem columns_perm {α β : Type} (name : String) (head : Head) (a b : ColTok α) (autoTok : α)
    (validate : String → α → R β)
    (ha : a.isAuto = true → a.isWidth = true ∧ a.isCount = true)
    (hb : b.isAuto = true → b.isWidth = true ∧ b.isCount = true)
    (ha' : a.isAuto = false → ¬(a.isWidth = true ∧ a.isCount = true))
    (hb' : b.isAuto = false → ¬(b.isWidth = true ∧ b.isCount = true))
    (hab : ¬(a.isAuto = true ∧ b.isAuto = true)) :
    genericFill columnsNames name head (columnsRaw [a, b] autoTok) validate =
      genericFill columnsNames name head (columnsRaw [b, a] autoTok) validate :=
  columns_swap name head a b autoTok validate ha' hb' hab

/-! ## border-radius -/

private theorem radiusSplit_toks {α : Type} (b : Bool) :
    ∀ (ts : List α) (h v : List α) (onH : Bool) (rest : List (RTok α)),
      radiusSplit b (ts.map RTok.tok ++ rest) h v onH =
        if onH then radiusSplit b rest (h ++ ts) v true else radiusSplit b rest h (v ++ ts) false
  | [], h, v, onH, rest => by cases onH <;> simp
  | t :: ts, h, v, true, rest => by
    simp only [List.map_cons, List.cons_append, radiusSplit, if_true]
    rw [radiusSplit_toks b ts (h ++ [t]) v true rest]
    simp [List.append_assoc]
  | t :: ts, h, v, false, rest => by
    simp only [List.map_cons, List.cons_append, radiusSplit, Bool.false_eq_true, if_false]
    rw [radiusSplit_toks b ts h (v ++ [t]) false rest]
    simp [List.append_assoc]

private theorem lastIsSlash_append_toks {α : Type} (pre : List (RTok α)) (v : α) (vs : List α) :
    lastIsSlash (pre ++ (v :: vs).map RTok.tok) = false := by
  obtain ⟨a, ha⟩ : ∃ a, ((v :: vs).map RTok.tok).getLast? = some (RTok.tok a) := by
    rw [List.getLast?_map]
    cases h : (v :: vs).getLast? with
    | none => simp at h
    | some a => exact ⟨a, rfl⟩
  unfold lastIsSlash
  rw [List.getLast?_append, ha]
  rfl

/-- (a) Without "/", both axes get the same values: `h h h h / h h h h` filled by the 1-to-4 rule. -/
theorem border_radius_one_axis {α : Type} (hs : List α) (validPair : String → α × α → R Unit) :
    borderRadiusRaw (hs.map RTok.tok) validPair =
      match fourTokens hs with
      | .error f => { items := [], ends := some f }
      | .ok h4 => radiusYield validPair Gen.Expanders.radiusCorners (h4.zip h4) [] := by
  unfold borderRadiusRaw
  have := radiusSplit_toks (lastIsSlash (hs.map RTok.tok)) hs [] [] true []
  simp only [List.append_nil, if_true, List.nil_append] at this
  rw [this]
  simp only [radiusSplit, pure, Except.pure, List.isEmpty_nil, if_true]
  cases fourTokens hs <;> rfl

/-- (b) With one "/" followed by at least one value: horizontal radii before, vertical radii after, each axis
filled by the 1-to-4 rule on its own. -/
theorem border_radius_two_axes {α : Type} (hs : List α) (v : α) (vs : List α)
    (validPair : String → α × α → R Unit) :
    borderRadiusRaw (hs.map RTok.tok ++ RTok.slash :: (v :: vs).map RTok.tok) validPair =
      match fourTokens hs with
      | .error f => { items := [], ends := some f }
      | .ok h4 =>
        match fourTokens (v :: vs) with
        | .error f => { items := [], ends := some f }
        | .ok v4 => radiusYield validPair Gen.Expanders.radiusCorners (h4.zip v4) [] := by
  unfold borderRadiusRaw
  have hl : lastIsSlash (hs.map RTok.tok ++ RTok.slash :: (v :: vs).map RTok.tok) = false := by
    have := lastIsSlash_append_toks (hs.map RTok.tok ++ [RTok.slash]) v vs
    simpa [List.append_assoc] using this
  rw [hl, radiusSplit_toks false hs [] [] true]
  simp only [if_true, List.nil_append, radiusSplit, Bool.false_eq_true, if_false]
  have := radiusSplit_toks false (v :: vs) hs [] false []
  simp only [List.append_nil, Bool.false_eq_true, if_false, List.nil_append] at this
  rw [this]
  simp only [radiusSplit, pure, Except.pure, List.isEmpty_cons, Bool.false_eq_true, if_false]
  cases fourTokens hs <;> rfl

/-- (c) A trailing "/", a second "/" and an empty horizontal part are invalid. -/
theorem border_radius_invalid {α : Type} (hs vs ws : List α) (validPair : String → α × α → R Unit) :
    (borderRadiusRaw (hs.map RTok.tok ++ [RTok.slash]) validPair).ends = some .invalid ∧
    (borderRadiusRaw (hs.map RTok.tok ++ RTok.slash :: (vs.map RTok.tok ++ RTok.slash :: ws.map RTok.tok))
        validPair).ends = some .invalid ∧
    (borderRadiusRaw (RTok.slash :: vs.map RTok.tok) validPair).ends = some .invalid := by
  refine ⟨?_, ?_, ?_⟩
  · unfold borderRadiusRaw
    have hl : lastIsSlash (hs.map RTok.tok ++ [RTok.slash (α := α)]) = true := by
      unfold lastIsSlash; simp [RTok.isSlash]
    rw [hl, radiusSplit_toks true hs [] [] true]
    rfl
  · unfold borderRadiusRaw
    generalize lastIsSlash _ = b
    rw [radiusSplit_toks b hs [] [] true]
    simp only [if_true, List.nil_append, radiusSplit]
    cases b with
    | true => rfl
    | false =>
      simp only [Bool.false_eq_true, if_false]
      rw [radiusSplit_toks false vs hs [] false]
      rfl
  · unfold borderRadiusRaw
    generalize lastIsSlash _ = b
    simp only [radiusSplit, if_true]
    cases b with
    | true => rfl
    | false =>
      simp only [Bool.false_eq_true, if_false]
      have := radiusSplit_toks false vs [] [] false []
      simp only [List.append_nil, Bool.false_eq_true, if_false, List.nil_append] at this
      rw [this]
      rfl

/-- (d) The corners, in the generated order, pair the i-th horizontal with the i-th vertical radius. -/
theorem border_radius_corners {α : Type} (a b c d e f g h : α) (validPair : String → α × α → R Unit)
    (hv : ∀ n p, validPair n p = .ok ()) :
    radiusYield validPair Gen.Expanders.radiusCorners ([a, b, c, d].zip [e, f, g, h]) [] =
      { items := [("border-top-left-radius", (a, e)), ("border-top-right-radius", (b, f)),
                  ("border-bottom-right-radius", (c, g)), ("border-bottom-left-radius", (d, h))],
        ends := none } := by
  simp [Gen.Expanders.radiusCorners, radiusYield, hv]

/-- `border_corner_radius`: one length for both axes, or two; anything that is not a length is refused. -/
theorem border_corner_radius_spec {γ : Type} (l : List (Option γ)) (p : γ × γ) :
    borderCornerRadius l = some p ↔ l = [some p.1, some p.2] ∨ (l = [some p.1] ∧ p.1 = p.2) := by
  obtain ⟨x, y⟩ := p
  match l with
  | [some a] =>
    simp only [borderCornerRadius, Option.some.injEq, Prod.mk.injEq, List.cons.injEq, and_true]
    constructor
    · rintro ⟨rfl, rfl⟩; right; exact ⟨rfl, rfl⟩
    · rintro (h | ⟨rfl, rfl⟩)
      · exact absurd h.2 (by simp)
      · exact ⟨rfl, rfl⟩
  | [] | [none] | [none, _] | [some _, none] | [some _, some _] | _ :: _ :: _ :: _ => simp [borderCornerRadius]

example : (borderRadiusRaw (α := String) [.tok "1px", .tok "2px", .slash, .tok "3px"] (fun _ _ => .ok ())).items
    = [("border-top-left-radius", ("1px", "3px")), ("border-top-right-radius", ("2px", "3px")),
       ("border-bottom-right-radius", ("1px", "3px")), ("border-bottom-left-radius", ("2px", "3px"))] := by decide +kernel

/-! ## list-style: the `none` disambiguation -/

/-- After the loop, with `k ≥ 1` `none` tokens: valid iff there is room for them (one slot per longhand among
type / image not otherwise specified); `-type` takes the first, `-image` the second. -/
theorem list_style_none {α : Type} (ts is : Bool) (k : Nat) (nt : α) (acc : List (String × α)) (hk : 1 ≤ k) :
    let r := noneFinish ts is k nt acc
    let room := (if ts then 0 else 1) + (if is then 0 else 1)
    (r.ends = none ↔ k ≤ room) ∧ (r.ends = some .invalid ↔ room < k) ∧
    r.items = acc ++ (if ts then [] else [("-type", nt)]) ++
      (if !is && (ts || 2 ≤ k) then [("-image", nt)] else []) := by
  cases ts <;> cases is <;>
    (match k, hk with
     | 1, _ | 2, _ | _ + 3, _ => simp [noneFinish])

/-- `list-style: none` is the type (the image keeps its initial value, also none); `none none` is both; with a
type given, `none` is the image. -/
example : (listStyleRaw (α := String) [⟨true, false, false, false, "none"⟩]).items
    = [("-type", "none")] := by decide +kernel
example : (listStyleRaw (α := String) [⟨true, false, false, false, "n1"⟩, ⟨true, false, false, false, "n2"⟩]).items
    = [("-type", "n2"), ("-image", "n2")] := by decide +kernel
example : (listStyleRaw (α := String) [⟨true, false, false, false, "none"⟩, ⟨false, false, false, true, "disc"⟩]).items
    = [("-type", "disc"), ("-image", "none")] := by decide +kernel

/-! ## Units -/

section Units
open Len07

/-- The generated table, entry by entry (an edit of `LENGTHS_TO_PIXELS` breaks this). -/
theorem unit_table :
    factor "px" = some 1 ∧ factor "in" = some 96 ∧ factor "pt" = some (mkRat 4 3) ∧ factor "pc" = some 16 ∧
    factor "cm" = some (mkRat 4800 127) ∧ factor "mm" = some (mkRat 480 127) ∧
    factor "q" = some (mkRat 120 127) := by decide +kernel

theorem unit_table_none : factor "%" = none ∧ factor "fr" = none := by decide +kernel

/-- The interpreter's doubles are within 2⁻⁵² relative (one ulp) of the exact factors, unit by unit. -/
theorem unit_table_floats :
    (Gen.UnitsC07.lengthsToPixelsFloat.map Prod.fst = Gen.UnitsC07.lengthsToPixels.map Prod.fst) ∧
    ∀ e ∈ Gen.UnitsC07.lengthsToPixelsFloat.zip Gen.UnitsC07.lengthsToPixels,
      (e.1.2 - e.2.2) * 4503599627370496 ≤ e.2.2 ∧ (e.2.2 - e.1.2) * 4503599627370496 ≤ e.2.2 := by
  decide +kernel

private theorem pt_per_inch : (72 : Rat) * mkRat 4 3 = 96 := by decide +kernel

/-- **`1in = 96px = 72pt = 6pc = 2.54cm = 25.4mm = 101.6q`, for every rational multiple `x`.** -/
theorem units_consistent (x : Rat) :
    toPx x "in" = some (x * 96) ∧
    toPx (x * 96) "px" = some (x * 96) ∧
    toPx (x * 72) "pt" = some (x * 96) ∧
    toPx (x * 6) "pc" = some (x * 96) ∧
    toPx (x * mkRat 254 100) "cm" = some (x * 96) ∧
    toPx (x * mkRat 254 10) "mm" = some (x * 96) ∧
    toPx (x * mkRat 1016 10) "q" = some (x * 96) := by
  obtain ⟨hpx, hin, hpt, hpc, hcm, hmm, hq⟩ := unit_table
  have e2 : (6 : Rat) * 16 = 96 := by decide +kernel
  have e3 : mkRat 254 100 * mkRat 4800 127 = 96 := by decide +kernel
  have e4 : mkRat 254 10 * mkRat 480 127 = 96 := by decide +kernel
  have e5 : mkRat 1016 10 * mkRat 120 127 = 96 := by decide +kernel
  simp only [toPx, hpx, hin, hpt, hpc, hcm, hmm, hq, Option.map, Rat.mul_assoc, pt_per_inch, e2, e3, e4, e5, Rat.mul_one,
    and_self]

private theorem factor_ne_zero (u : String) (k : Rat) (h : factor u = some k) : k ≠ 0 ∧ (u = "px" → k = 1) := by
  have hall : ∀ e ∈ Gen.UnitsC07.lengthsToPixels, e.2 ≠ 0 ∧ (e.1 = "px" → e.2 = 1) := by decide +kernel
  exact hall (u, k) (List.mem_of_lookup_eq_some (show Gen.UnitsC07.lengthsToPixels.lookup u = some k from h))

/-- `length` on an absolute unit: zero is `ZERO_PIXELS`, anything else is `value × factor` pixels. -/
theorem length_absolute (ctx : FontCtx) (po : Bool) (v : Rat) (u : String) (k : Rat) (hk : factor u = some k) :
    length ctx po (.dim v (some u)) =
      if v = 0 then (if po then .number 0 else .dim 0 (some "px"))
      else (if po then .number (v * k) else .dim (v * k) (some "px")) := by
  obtain ⟨_, hpx⟩ := factor_ne_zero u k hk
  unfold length
  by_cases hv : v = 0
  · simp [hv]
  · have hv' : (v == 0) = false := by simp [hv]
    simp only [hv', Bool.false_eq_true, if_false, hv]
    by_cases hu : u = "px"
    · have := hpx hu
      subst this
      simp [hu, Rat.mul_one]
    · have hu' : (u == "px") = false := by simp [hu]
      simp only [hu', Bool.false_eq_true, if_false, hk]

/-- **Equal lengths written in different absolute units are interchangeable**: same computed value of `length`,
whatever the font context and `pixels_only`. -/
theorem units_interchangeable (ctx : FontCtx) (po : Bool) (u1 u2 : String) (k1 k2 v1 v2 : Rat)
    (h1 : factor u1 = some k1) (h2 : factor u2 = some k2) (h : v1 * k1 = v2 * k2) :
    length ctx po (.dim v1 (some u1)) = length ctx po (.dim v2 (some u2)) := by
  rw [length_absolute ctx po v1 u1 k1 h1, length_absolute ctx po v2 u2 k2 h2]
  have n1 := (factor_ne_zero u1 k1 h1).1
  have n2 := (factor_ne_zero u2 k2 h2).1
  by_cases hv : v1 = 0
  · have : v2 = 0 := by
      rw [hv, Rat.zero_mul] at h
      rcases Rat.mul_eq_zero.mp h.symm with h | h
      · exact h
      · exact absurd h n2
    simp [hv, this]
  · have : v2 ≠ 0 := by
      intro e
      rw [e, Rat.zero_mul] at h
      rcases Rat.mul_eq_zero.mp h with h | h
      · exact hv h
      · exact n1 h
    simp [hv, this, h]

/-- e.g. `x in` and `72x pt`, for every rational `x`. -/
theorem inch_eq_points (ctx : FontCtx) (po : Bool) (x : Rat) :
    length ctx po (.dim x (some "in")) = length ctx po (.dim (x * 72) (some "pt")) := by
  apply units_interchangeable ctx po "in" "pt" 96 (mkRat 4 3) x (x * 72) unit_table.2.1 unit_table.2.2.1
  rw [Rat.mul_assoc, pt_per_inch]

/-- Zero of any unit (absolute, relative, percentage, unitless) is `ZERO_PIXELS`. -/
theorem length_zero (ctx : FontCtx) (po : Bool) (u : Option String) :
    length ctx po (.dim 0 u) = if po then .number 0 else .dim 0 (some "px") := by
  simp [length]

theorem length_outside_table (ctx : FontCtx) (po : Bool) (v : Rat) (u : String) (hv : v ≠ 0)
    (hf : factor u = none) :
    length ctx po (.dim v (some u)) =
      if u = "ex" then (if po then .number (v * ctx.fontSize * ctx.exRatio)
        else .dim (v * ctx.fontSize * ctx.exRatio) (some "px"))
      else if u = "ch" then (if po then .number (v * ctx.fontSize * ctx.chRatio)
        else .dim (v * ctx.fontSize * ctx.chRatio) (some "px"))
      else if u = "em" then (if po then .number (v * ctx.fontSize) else .dim (v * ctx.fontSize) (some "px"))
      else if u = "rem" then (if po then .number (v * ctx.rootFontSize) else .dim (v * ctx.rootFontSize) (some "px"))
      else .dim v (some u) := by
  have hpx : u ≠ "px" := fun e => by rw [e, unit_table.1] at hf; cases hf
  simp [length, hv, hf, hpx]

/-- `em` / `rem` scale with the font sizes. -/
theorem length_em (ctx : FontCtx) (v : Rat) (hv : v ≠ 0) :
    length ctx true (.dim v (some "em")) = .number (v * ctx.fontSize) ∧
    length ctx true (.dim v (some "rem")) = .number (v * ctx.rootFontSize) := by
  constructor
  · simp [length_outside_table ctx true v "em" hv (by decide +kernel)]
  · simp [length_outside_table ctx true v "rem" hv (by decide +kernel)]

example : length ⟨16, 16, 1/2, 1/2⟩ false (.dim (mkRat 1 2) (some "in")) = .dim 48 (some "px") := by decide +kernel

end Units

/-! ## var() -/

section VarSubst
open Wp.Var

/-- How the tuple `seen` of `resolve_var` sits next to the token being resolved, on acyclic custom properties:
a property under substitution is either empty (then the cycle guard and `computed[name] or default` agree: the
default), or above every property the token can still refer to. -/
def SeenOk (env : Env) (rk : String → Nat) (seen : List String) (t : Tk) : Prop :=
  ∀ s ∈ seen, (env s).isEmpty = true ∨ ∀ m ∈ refs t, rk m < rk s

/-- The invariant passes along the calls. -/
theorem SeenOk.calls {env : Env} {rk : String → Nat} (hacy : Acyclic env rk) {b : Bool} {c c' : List String × Tk}
    (h : SeenOk env rk c.1 c.2) (hc : Calls env b c c') : SeenOk env rk c'.1 c'.2 := by
  have sub : b = false → ∀ s ∈ c.1, (env s).isEmpty = true ∨ ∀ m ∈ refs c'.2, rk m < rk s := fun hb s hs =>
    (h s hs).imp_right fun h' m hm => h' m ((hb ▸ hc).refs_subset m hm)
  intro s hs
  cases hc with
  | arg => exact sub rfl s hs
  | fallback hl hp hwhy hx =>
    rcases List.mem_append.mp hs with hs | hs
    · exact sub rfl s hs
    · rw [List.mem_singleton.mp hs]
      rcases hwhy with hk | he
      · exact (h _ (by simpa using hk)).imp_right fun h' => absurd (h' _ (var_name_mem_refs hl hp)) (Nat.lt_irrefl _)
      · exact Or.inl he
  | @value _ _ _ _ v _ x hl hp _ _ hx =>
    have hlt : ∀ m ∈ refs x, rk m < rk (dashToUnderscore v) := fun m hm => hacy _ m (refsList_mem _ x hx m hm)
    rcases List.mem_append.mp hs with hs | hs
    · exact (h s hs).imp_right fun h' m hm => Nat.lt_trans (hlt m hm) (h' _ (var_name_mem_refs hl hp))
    · rw [List.mem_singleton.mp hs]; exact Or.inr hlt

/-- On acyclic custom properties the cycle guard never changes the values: a property met again is empty. -/
private theorem varValues_acyclic (env : Env) (rk : String → Nat) (seen : List String) (key : String)
    (dflt : List Tk) (hk : ∀ s ∈ seen, (env s).isEmpty = true ∨ rk key < rk s) :
    varValues env seen key dflt = if (env key).isEmpty then dflt else env key := by
  unfold varValues
  by_cases hc : seen.contains key = true
  · have hmem : key ∈ seen := by simpa using hc
    rcases hk key hmem with h | h
    · simp [h]
    · exact absurd h (Nat.lt_irrefl _)
  · have hc' : seen.contains key = false := by simpa using hc
    simp only [hc', Bool.false_eq_true, if_false]

/-- **`var()` = substitution.**  On custom properties whose references are acyclic, whenever the code's
`resolve_var` returns (it always does from some depth on: `resolve_var_terminates`), what it returns is the
substitution of the token: every detectable `var(--x, fb)` replaced by the value of `--x`, or by `fb` when
`--x` is empty, recursively; everything else untouched.  (`None` stands for "the token itself".)  The fallback
is read as the code reads it (`codeFallback`: without commas).  Acyclicity is what gives substitution a meaning
(`subst` has no value, for any fuel, on `--a: var(--a)`); there the cycle guard of `fix:` 2bffab3 never fires on
a non-empty property (`SeenOk`). -/
theorem var_subst_partial (env : Env) (rk : String → Nat) (hacy : Acyclic env rk) :
    ∀ (fuel : Nat) (seen : List String) (t : Tk) (r : Option (List Tk)), SeenOk env rk seen t →
      resolveVar env seen fuel t = .ok r → substWith codeFallback env fuel t = some (r.getD [t])
  | 0, _, _, _, _, h => by cases h
  | fuel + 1, seen, t, r, hinv, h => by
    rcases resolveVar_succ_cases env seen fuel t _ h with ⟨hc, rfl⟩ |
        ⟨name, lname, args, parts, o, rfl, hc, hl, hm, h2, hr⟩ |
        ⟨name, lname, args, v, dflt, parts, rfl, hc, hl, hp, hm, hr⟩
    · exact substWith_of_no_var _ env _ t hc
    · -- the rebuilt function carries no var(): the second resolve_var returns None
      have hc' := rebuilt_no_var env seen fuel name lname args parts hl hm
      have ho := resolveVar_ok_of_no_var env seen fuel _ o hc' h2
      subst ho
      subst hr
      have hsub : args.mapM (substWith codeFallback env fuel) = some parts := by
        apply List.mapM_ok_transfer hm
        intro a ha p hfa
        rcases argStep_ok _ a p hfa with hra | ⟨hra, rfl⟩ | ⟨hleaf, rfl⟩
        · simpa using var_subst_partial env rk hacy fuel seen _ _ (hinv.calls hacy (.arg hl ha)) hra
        · exact substWith_of_no_var _ env fuel a (resolveVar_none env seen fuel a hra)
        · exact substWith_of_no_var _ env fuel a (checkVar_leaf a hleaf)
      unfold substWith
      simp only [hc, Bool.not_true, Bool.false_eq_true, if_false, hl, if_true, hsub]
      rfl
    · subst hr
      have hcf : codeFallback args = dflt := by simp [codeFallback, hp]
      have hsub : (varValues env seen (dashToUnderscore v) dflt).mapM (substWith codeFallback env fuel) =
          some parts := by
        apply List.mapM_ok_transfer hm
        intro a ha p hfa
        obtain ⟨_, hcall⟩ := calls_of_mem_varValues (name := name) hl hp ha
        rcases valueStep_ok _ a p hfa with hra | ⟨hra, rfl⟩
        · simpa using var_subst_partial env rk hacy fuel _ _ _ (hinv.calls hacy hcall) hra
        · exact substWith_of_no_var _ env fuel a (resolveVar_none env _ fuel a hra)
      -- on acyclic custom properties the cycle guard changes nothing: a property met again is empty
      rw [varValues_acyclic env rk seen (dashToUnderscore v) dflt (fun s hs =>
        (hinv s hs).imp_right fun h' => h' _ (var_name_mem_refs hl hp))] at hsub
      unfold substWith
      simp only [hc, Bool.not_true, Bool.false_eq_true, if_false, hl, hp, hcf, hsub]
      rfl

/-! ### Well-formed `var()`: `var( --name )` or `var( --name , fallback )` with a comma-free fallback -/

def noComma : List Tk → Bool
  | [] => true
  | .comma :: _ => false
  | _ :: rest => noComma rest

def afterNameOk : List Tk → Bool
  | [] => true
  | .ws :: rest => afterNameOk rest
  | .comma :: fb => noComma fb
  | _ => false

/-- The raw arguments of a `var()`: whitespace, the name, whitespace, then nothing or `,` and a fallback
without top-level comma. -/
def wellFormedVarArgs : List Tk → Bool
  | .ws :: rest => wellFormedVarArgs rest
  | .ident _ :: rest => afterNameOk rest
  | _ => false

mutual
/-- Every function called `var`, at any depth, has well-formed arguments. -/
def wfTok : Tk → Bool
  | .fn _ l args => (l != "var" || wellFormedVarArgs args) && wfToks args
  | _ => true
def wfToks : List Tk → Bool
  | [] => true
  | t :: rest => wfTok t && wfToks rest
end

private def nonWs (t : Tk) : Bool := match t with | .ws => false | _ => true

private theorem parseArgs_noComma : ∀ (fb : List Tk) (b : Bool) (d : List Tk), noComma fb = true →
    parseArgs fb b = some d → d = fb.filter nonWs
  | [], b, d, _, h => by
    cases b <;> simp [parseArgs] at h
    subst h; rfl
  | t :: rest, b, d, hn, h => by
    rcases parseArgs_cons_some t rest b d h with ⟨rfl, h'⟩ | ⟨rfl, _, _⟩ | ⟨h1, h2, d', h', rfl⟩
    · simpa [nonWs] using parseArgs_noComma rest b d hn h'
    · cases hn
    · have hn' : noComma rest = true := by cases t <;> first | exact hn | exact absurd rfl h2
      have ht : nonWs t = true := by cases t <;> first | rfl | exact absurd rfl h1
      rw [List.filter_cons_of_pos ht, parseArgs_noComma rest false d' hn' h']

private theorem afterName_eq : ∀ (rest : List Tk) (d : List Tk), afterNameOk rest = true →
    parseArgs rest false = some d → textFallback.afterName rest = d
  | [], d, _, h => by simp [parseArgs] at h; subst h; rfl
  | t :: rest, d, hn, h => by
    rcases parseArgs_cons_some t rest false d h with ⟨rfl, h'⟩ | ⟨rfl, _, h'⟩ | ⟨h1, h2, _⟩
    · exact afterName_eq rest d hn h'
    · exact (parseArgs_noComma rest true d hn h').symm
    · cases t <;> first | cases hn | exact absurd rfl h1 | exact absurd rfl h2

/-- On well-formed arguments the code's fallback (comma-stripped) is the textual one. -/
theorem fallback_text_eq : ∀ (args : List Tk), wellFormedVarArgs args = true →
    (∃ first dflt, parseArgs args false = some (first :: dflt)) → textFallback args = codeFallback args
  | [], h, _ => by cases h
  | t :: rest, h, ⟨first, dflt, hp⟩ => by
    rcases parseArgs_cons_some t rest false _ hp with ⟨rfl, h'⟩ | ⟨rfl, _, _⟩ | ⟨h1, _, d, h', _⟩
    · simpa [textFallback, codeFallback, parseArgs] using fallback_text_eq rest h ⟨first, dflt, h'⟩
    · cases h
    · cases t with
      | ident v => simp [textFallback, codeFallback, parseArgs, parses, h', afterName_eq rest d h h']
      | ws => exact absurd rfl h1
      | comma | leaf _ | fn _ _ _ => cases h

private theorem wfToks_mem (l : List Tk) (h : wfToks l = true) : ∀ x ∈ l, wfTok x = true :=
  (List.listLift_iff (XL := fun l => wfToks l = true) (X := fun x => wfTok x = true) rfl
    (fun _ _ => by simp only [wfToks, Bool.and_eq_true]) l).mp h

private theorem afterName_mem : ∀ (l : List Tk) (x : Tk), x ∈ textFallback.afterName l → x ∈ l
  | [], x, h => by cases h
  | t :: rest, x, h => by
    cases t with
    | comma => exact List.mem_cons_of_mem _ (List.mem_filter.mp h).1
    | ws | ident _ | leaf _ | fn _ _ _ => exact List.mem_cons_of_mem _ (afterName_mem rest x h)

private theorem textFallback_mem : ∀ (l : List Tk) (x : Tk), x ∈ textFallback l → x ∈ l
  | [], x, h => by cases h
  | t :: rest, x, h => by
    cases t with
    | ident v => exact List.mem_cons_of_mem _ (afterName_mem rest x h)
    | ws | comma | leaf _ | fn _ _ _ => exact List.mem_cons_of_mem _ (textFallback_mem rest x h)

/-- On well-formed tokens and environments, reading fallbacks as the code does or as text is the same. -/
theorem subst_code_eq_text (env : Env) (henv : ∀ n, wfToks (env n) = true) :
    ∀ (fuel : Nat) (t : Tk), wfTok t = true →
      substWith codeFallback env fuel t = substWith textFallback env fuel t
  | 0, t, _ => by unfold substWith; rfl
  | fuel + 1, t, ht => by
    cases hc : checkVar t with
    | false => rw [substWith_of_no_var _ env _ t hc, substWith_of_no_var _ env _ t hc]
    | true =>
      cases t with
      | fn name lname args =>
        simp only [wfTok, Bool.and_eq_true, Bool.or_eq_true] at ht
        have hargs := wfToks_mem args ht.2
        unfold substWith
        simp only [hc, Bool.not_true, Bool.false_eq_true, if_false]
        by_cases hl : (lname != "var") = true
        · simp only [hl, if_true]
          rw [List.mapM_congr args (fun a ha => subst_code_eq_text env henv fuel a (hargs a ha))]
        · have hl' : (lname != "var") = false := by simpa using hl
          have hwf : wellFormedVarArgs args = true := by
            rcases ht.1 with h | h
            · rw [hl'] at h; cases h
            · exact h
          simp only [hl', Bool.false_eq_true, if_false]
          cases hp : parseArgs args false with
          | none => rfl
          | some parsed =>
            cases parsed with
            | nil => rfl
            | cons first dflt =>
              have hfb := fallback_text_eq args hwf ⟨first, dflt, hp⟩
              cases first with
              | ident v =>
                simp only [hfb]
                have hvals : ∀ x ∈ (if (env (dashToUnderscore v)).isEmpty then codeFallback args
                    else env (dashToUnderscore v)), wfTok x = true := by
                  intro x hx
                  split at hx
                  · rw [← hfb] at hx
                    exact hargs x (textFallback_mem args x hx)
                  · exact wfToks_mem _ (henv _) x hx
                rw [List.mapM_congr _ (fun a ha => subst_code_eq_text env henv fuel a (hvals a ha))]
              | _ => rfl
      | _ => simp [checkVar] at hc

/-- **`var()` ≡ textual substitution.**  For acyclic custom properties and a token whose `var()` are well formed
(`var(--x)` or `var(--x, fallback)` with a comma-free fallback), whenever `resolve_var` returns, it returns the
textual substitution of the token (`None` standing for the token itself).  The comma restriction is necessary:
witness `Witness.C07.var_fallback_commas_dropped`.  On cyclic custom properties textual substitution is undefined;
the code stops at the property met again and takes the fallback (regression example in `Props/C07Var`). -/
theorem var_subst (env : Env) (rk : String → Nat) (hacy : Acyclic env rk) (henv : ∀ n, wfToks (env n) = true)
    (fuel : Nat) (t : Tk) (r : Option (List Tk)) (ht : wfTok t = true) (h : resolveVar env [] fuel t = .ok r) :
    subst env fuel t = some (r.getD [t]) := by
  unfold subst
  rw [← subst_code_eq_text env henv fuel t ht]
  exact var_subst_partial env rk hacy fuel [] t r (fun s hs => by cases hs) h

/-- Non-vacuity: `translate(var(--x, 7px), var(--y))` with `--y: var(--z, 2px)`, everything well formed. -/
example :
    let env : Env := fun n => if n = "__y" then [.fn "var" "var" [.ident "--z", .comma, .ws, .leaf "2px"]] else []
    let t : Tk := .fn "translate" "translate"
      [.fn "var" "var" [.ident "--x", .comma, .ws, .leaf "7px"], .comma, .ws, .fn "var" "var" [.ident "--y"]]
    (∀ n, wfToks (env n) = true) ∧ wfTok t = true ∧
    (match resolveVar env [] 6 t with
      | .ok (some [.fn "translate" "translate" [.leaf "7px", .comma, .ws, .leaf "2px"]]) => true
      | _ => false) = true := by
  refine ⟨?_, by decide, by decide⟩
  intro n
  by_cases hn : n = "__y" <;> simp [hn] <;> decide

/-- Non-vacuity, and regression for the repaired `arguments.extend(None)`: `f(var(--c), g())` with `--c: red`
resolves to `f(red, g())` — the sibling function without `var()` is kept. -/
example : (match resolveVar (fun n => if n = "__c" then [.ident "red"] else []) [] 5
      (.fn "f" "f" [.fn "var" "var" [.ident "--c"], .comma, .ws, .fn "g" "g" []]) with
    | .ok (some [.fn "f" "f" [.ident "red", .comma, .ws, .fn "g" "g" []]]) => true
    | _ => false) = true := by decide +kernel

end VarSubst

/-! ## Which tokens are lengths, and what becomes of them -/

section GetLength
open Len07

/-- `LENGTH_UNITS` as the model builds it (table keys + relative units, AST) = the runtime set. -/
theorem length_units_agree :
    (lengthUnits.all fun u => Gen.UnitsC07.lengthUnitsRuntime.contains u) = true ∧
    (Gen.UnitsC07.lengthUnitsRuntime.all fun u => lengthUnits.contains u) = true := by decide +kernel

/-- The three ways `get_length` returns something: a percentage when asked, a dimension whose unit is, **as
written**, one of `LENGTH_UNITS`, the unitless zero — the first two not negative unless asked. -/
theorem getLength_some (n p : Bool) (t : LTok) (s : Spec) (h : getLength n p t = some s) :
    (∃ x, p = true ∧ (n = true ∨ x ≥ 0) ∧ s = .dim x (some "%")) ∨
    (∃ x w, lengthUnits.contains w = true ∧ (n = true ∨ x ≥ 0) ∧ s = .dim x (some w)) ∨ s = .dim 0 none := by
  revert h
  fun_cases getLength n p t <;> intro h <;> cases h
  all_goals rename_i hc
  · simp only [Bool.and_eq_true, Bool.or_eq_true, decide_eq_true_eq] at hc
    exact Or.inl ⟨_, hc.1, hc.2, rfl⟩
  · simp only [Bool.and_eq_true, Bool.or_eq_true, decide_eq_true_eq] at hc
    exact Or.inr (Or.inl ⟨_, _, hc.1, hc.2, rfl⟩)
  · exact Or.inr (Or.inr rfl)

theorem get_length_dim (n p : Bool) (t : LTok) (s : Spec) (h : getLength n p t = some s) :
    ∃ v u, s = .dim v u := by
  rcases getLength_some n p t s h with ⟨_, _, _, hs⟩ | ⟨_, _, _, _, hs⟩ | hs <;> exact ⟨_, _, hs⟩

/-- A dimension in one of `LENGTH_UNITS` always computes to pixels. -/
theorem length_of_known_unit (ctx : FontCtx) (po : Bool) (v : Rat) (u : String)
    (hu : lengthUnits.contains u = true) :
    ∃ q, length ctx po (.dim v (some u)) = if po then .number q else .dim q (some "px") := by
  by_cases hv : v = 0
  · exact ⟨0, by rw [hv, length_zero]⟩
  cases hf : factor u with
  | some k => exact ⟨v * k, by rw [length_absolute ctx po v u k hf, if_neg hv]⟩
  | none =>
    have htab : ∀ w ∈ lengthUnits, (factor w).isSome = true ∨ w ∈ ["ex", "ch", "em", "rem"] := by decide +kernel
    rcases htab u (List.contains_iff_mem.mp hu) with h | h
    · rw [hf] at h; cases h
    · simp only [List.mem_cons, List.not_mem_nil, or_false] at h
      rcases h with rfl | rfl | rfl | rfl <;>
        exact ⟨_, by simp [length_outside_table ctx po v _ hv hf]; rfl⟩

/-- **An accepted length never reaches layout unconverted**: whatever `get_length` lets through is computed by
`length` to pixels (a bare number under `pixels_only`), or stays a percentage. -/
theorem accepted_length_computes_to_px (ctx : FontCtx) (po n p : Bool) (t : LTok) (s : Spec)
    (h : getLength n p t = some s) :
    (∃ q, length ctx po s = .number q) ∨ (∃ q, length ctx po s = .dim q (some "px")) ∨
      (∃ q, length ctx po s = .dim q (some "%")) := by
  rcases getLength_some n p t s h with ⟨v, _, _, rfl⟩ | ⟨v, w, hw, _, rfl⟩ | rfl
  · by_cases hv : v = 0
    · cases po <;> simp [length, hv]
    · exact Or.inr (Or.inr ⟨v, by simp [length_outside_table ctx po v "%" hv unit_table_none.1]⟩)
  · obtain ⟨q, hq⟩ := length_of_known_unit ctx po v w hw
    cases po
    · right; left; exact ⟨q, by simpa using hq⟩
    · left; exact ⟨q, by simpa using hq⟩
  · cases po <;> simp [length]

/-- A unit written in upper case is not a length for `get_length` (HEAD drops `width: 1IN` with a warning). -/
example : getLength true true (.dimension 1 "IN" "in") = none ∧
    getLength true true (.dimension 1 "in" "in") = some (.dim 1 (some "in")) := by decide +kernel

end GetLength

/-! ## Pending (`var()`) values in `ComputedStyle.__missing__` -/

section PendingValues
open Wp.Pending

/-- The `INHERITED` literal of the source = the runtime set. -/
theorem inherited_table_agrees : Gen.InheritedC07.inheritedAst = Gen.InheritedC07.inherited := rfl

/-- **A `var()` whose substituted value is invalid has no effect**: the property gets exactly what it gets
when the declaration is absent (the parent's value for an inherited property, the initial value otherwise). -/
theorem pending_invalid_as_absent {β : Type} (key : String) (hasParent : Bool) (hk : isCustom key = false) :
    select (β := β) key hasParent (.pending .invalid) = select key hasParent .absent := by
  cases hi : isInherited key <;> cases hasParent <;> simp [select, hi, hk]

/-- **A `var()` whose substituted value is valid / `initial` / `inherit` is the literal declaration** — on every
element, the root included (`fix:` 582f36b tests for the root after the pending value is solved). -/
theorem pending_valid_as_literal {β : Type} (key : String) (hasParent : Bool) (v : β) :
    select key hasParent (.pending (.valid v)) = select key hasParent (.value v) ∧
    select (β := β) key hasParent (.pending .initialKw) = select key hasParent .initialKw ∧
    select (β := β) key hasParent (.pending .inheritKw) = select key hasParent .inheritKw := by
  refine ⟨?_, ?_, ?_⟩ <;> cases hasParent <;> simp [select]

/-- Selecting a value never fails, with or without a parent (`fix:` 582f36b: before it `inherit` out of a `var()`
on the root element reached `parent_style[key]` with no parent). -/
theorem select_total {β : Type} (key : String) (hasParent : Bool) (c : Casc β) :
    ∃ s, select key hasParent c = .ok s := by
  cases c with
  | absent => cases h : (isInherited key || isCustom key) <;> cases hasParent <;> simp [select, h, pure, Except.pure]
  | pending s => cases s <;> cases hasParent <;> exact ⟨_, rfl⟩
  | inheritKw | initialKw | value _ => cases hasParent <;> exact ⟨_, rfl⟩

/-- The parent's value is only ever selected when there is a parent: `parent_style[key]` is never evaluated on
the root element. -/
theorem select_parent_has_parent {β : Type} (key : String) (hasParent : Bool) (c : Casc β)
    (h : select key hasParent c = .ok .parent) : hasParent = true := by
  cases hasParent with
  | true => rfl
  | false =>
    exfalso
    cases c with
    | absent => cases hi : isInherited key <;> cases hc : isCustom key <;> simp [select, hi, hc, pure, Except.pure] at h
    | inheritKw | initialKw | value _ => cases h
    | pending s => cases s <;> simp [select, pure, Except.pure] at h

/-- `font-size` is inherited (hyphenated names are looked up in their underscore form), `width` is not. -/
example : select (β := Nat) "font_size" true (.pending .invalid) = .ok .parent ∧
    select (β := Nat) "width" true (.pending .invalid) = .ok .initial ∧
    select (β := Nat) "font_size" false (.pending .invalid) = .ok .initial := by decide +kernel

/-- Regression (`html{--a:inherit; width:var(--a)}`, repaired by 582f36b): on the root element `inherit` out of a
`var()` is the initial value, exactly like the literal `width: inherit`. -/
example : select (β := Nat) "width" false .inheritKw = .ok .initial ∧
    select (β := Nat) "width" false (.pending .inheritKw) = .ok .initial ∧
    select (β := Nat) "font_size" false (.pending .inheritKw) = .ok .initial := by decide +kernel

/-! ### One `Pending` object serves every element: its answers must not depend on its history -/

/-- `solve` is `validate`, except that no tokens at all is `InvalidValues`. -/
theorem solve_result {β : Type} (reported noTokens : Bool) (validate : R β) :
    (solve reported noTokens validate).result = if noTokens then .error .invalid else validate := by
  unfold solve
  cases noTokens
  · simp only [Bool.false_eq_true, if_false]
    cases validate with
    | ok v => rfl
    | error f => cases f <;> rfl
  · rfl

/-- **What `solve` answers is a function of the substituted tokens alone**: the flag left by earlier calls (other
elements matched by the same rule, other longhands of the same shorthand) changes nothing but the logging. -/
theorem solve_result_stateless {β : Type} (reported reported' noTokens : Bool) (validate : R β) :
    (solve reported noTokens validate).result = (solve reported' noTokens validate).result := by
  rw [solve_result, solve_result]

/-- **Element independence**: in any sequence of calls on one shared object, from any initial flag, every call
gets exactly what it would get alone on a fresh object — `var(--x)` is substituted element by element, and an
element whose substituted value is invalid has no effect on the others. -/
theorem solve_seq_independent {β : Type} :
    ∀ (reported : Bool) (calls : List (Bool × R β)),
      (solveSeq reported calls).map (·.result) = calls.map fun c => (solve false c.1 c.2).result
  | _, [] => rfl
  | reported, (nt, v) :: rest => by
    simp only [solveSeq, List.map_cons]
    rw [solve_seq_independent _ rest, solve_result_stateless reported false nt v]

/-- One call of `solve`: a flag that is up stays up without a warning, and a warning is logged exactly when the flag
was down and the substitution is invalid. -/
theorem solve_warns_once {β : Type} (reported noTokens : Bool) (validate : R β) :
    let o := solve reported noTokens validate
    (reported = true → o.reported = true ∧ o.warned = false) ∧
    (o.warned = true ↔ reported = false ∧ o.result = .error .invalid) := by
  unfold solve
  cases noTokens <;> cases reported
  all_goals simp only [Bool.false_eq_true, if_false, if_true]
  all_goals first
    | (cases validate with
        | ok v => simp
        | error f => cases f <;> simp)
    | simp

/-- Non-vacuity / regression shape of seeded change C07-4: `div{width:var(--w)}` over three elements with
`--w: 40px`, `red`, `60px` — the third element gets its 60px although the second was invalid, one warning. -/
example :
    (solveSeq false [(false, .ok "40px"), (false, (.error .invalid : R String)), (false, .ok "60px")]).map
      (fun o => (o.result, o.warned)) =
    [(.ok "40px", false), (.error .invalid, true), (.ok "60px", false)] := by decide +kernel

end PendingValues

end Wp.C07
