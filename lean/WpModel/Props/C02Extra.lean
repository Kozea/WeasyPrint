/-
C02 — totality of three functions outside the pagination model (Model/C02Extra.lean):
`inline_block_baseline` never raises (its guard protects both indexings, for every box tree), the size
asked of Pillow's `thumbnail()` under the `dpi` option is at least 1×1 for every image and ratio, and the
growth checker of the nesting section accepts every polynomial cost up to degree 3 and rejects a cost
that doubles with each level.
-/
import WpModel.Model.C02Extra
import Mathlib.Tactic.Ring

namespace Wp.C02x

/-- The `for` loop of the table-wrapper branch never raises: the guard
`child.children and child.children[0].children` protects `child.children[0].children[0]`. -/
theorem tableBaseline_total (kids : List IBox) : ∃ r, tableBaseline kids = .ok r := by
  fun_induction tableBaseline kids with
  | case1 => exact ⟨none, rfl⟩
  | case2 child rest _ hc =>
    cases hck : child.kids with
    | nil => simp [hck] at hc
    | cons g gs =>
      cases hg : g.kids with
      | nil => simp [hck, hg] at hc
      | cons row rows => simp [hg, idx0, bind, Except.bind, pure, Except.pure]
  | case3 _ _ _ _ ih => exact ih
  | case4 _ _ _ ih => exact ih

/-- `inline_block_baseline` returns a number for every box (no IndexError, whatever the table contains). -/
theorem inlineBlockBaseline_total (b : IBlock) : ∃ r, inlineBlockBaseline b = .ok r := by
  unfold inlineBlockBaseline
  by_cases hw : b.wrapper = true
  · obtain ⟨r, hr⟩ := tableBaseline_total b.kids
    simp only [hw, ↓reduceIte, hr]
    cases r <;> simp
  · simp only [hw, Bool.false_eq_true, ↓reduceIte]
    by_cases ho : b.overflowVisible = true
    · simp only [ho, ↓reduceIte]
      cases findLastKid true b.kids with
      | none => simp
      | some r => by_cases h0 : r = 0 <;> simp [h0]
    · simp [ho]

/-- An inline table whose first row group has a row: the baseline is that row's (CSS 2.1 §10.8.1). -/
theorem inline_table_first_row (b : IBlock) (hw : b.wrapper = true) (t g row : IBox) (gs rows rest : List IBox)
    (y bl : Rat) (fl : Bool)
    (hk : b.kids = t :: rest) (ht : t = .mk .table fl y bl (g :: gs)) (hg : g.kids = row :: rows) :
    inlineBlockBaseline b = .ok row.baseline := by
  unfold inlineBlockBaseline
  obtain ⟨gk, gf, gy, gb, gkids⟩ := g
  simp only [IBox.kids] at hg
  subst hg
  simp only [hw, ↓reduceIte, hk]
  unfold tableBaseline
  subst ht
  simp [IBox.kind, IBox.kids, idx0, bind, Except.bind, pure, Except.pure]

/-- An inline table whose first row group is empty (and that is the wrapper's only table): the bottom
margin edge — the input on which a weaker guard raises IndexError. -/
theorem inline_table_empty_first_group (b : IBlock) (hw : b.wrapper = true) (g : IBox) (gs : List IBox)
    (y bl : Rat) (fl : Bool) (hk : b.kids = [.mk .table fl y bl (g :: gs)]) (hg : g.kids = []) :
    inlineBlockBaseline b = .ok (b.posY + b.marginHeight) := by
  unfold inlineBlockBaseline
  obtain ⟨gk, gf, gy, gb, gkids⟩ := g
  simp only [IBox.kids] at hg
  subst hg
  simp only [hw, ↓reduceIte, hk]
  simp [tableBaseline, IBox.kind, IBox.kids]

/-- Non-vacuity: `<table style="display:inline-table"><thead></thead><tbody><tr>…` — first group empty, second
group with a row whose baseline is 7: the result is the bottom margin edge 0 + 20. -/
example : inlineBlockBaseline ⟨true, true, 0, 20,
    [.mk .table true 0 0 [.mk .other true 0 0 [], .mk .other true 0 0 [.mk .other true 0 7 []]]]⟩ = .ok 20 :=
  (inline_table_empty_first_group _ rfl _ _ _ _ _ rfl rfl).trans (congrArg Except.ok (by decide +kernel))

example : inlineBlockBaseline ⟨true, true, 0, 20,
    [.mk .caption true 0 0 [], .mk .table true 0 0 [.mk .other true 0 0 [.mk .other true 0 7 []]]]⟩ = .ok 7 := by
  rfl

/-- `find_in_flow_baseline` never looks inside a caption and never returns the baseline of an out-of-flow
child: with every child out of flow there is no baseline. -/
theorem findLastKid_all_out_of_flow (last : Bool) : ∀ kids : List IBox,
    (∀ k ∈ kids, match k with | .mk _ fl _ _ _ => fl = false) → findLastKid last kids = none
  | [], _ => by simp [findLastKid]
  | .mk kind fl y b ks :: rest, h => by
    have hfl : fl = false := by simpa using h (.mk kind fl y b ks) (by simp)
    have hrest := findLastKid_all_out_of_flow last rest (fun k hk => h k (by simp [hk]))
    simp [findLastKid, hrest, hfl]

/-- Both numbers given to `Image.thumbnail` are at least 1, for every image size and every dpi ratio (Pillow
divides by them). -/
theorem thumbSize_pos (w h : Nat) (ratio : Rat) : 1 ≤ (thumbSize w h ratio).1 ∧ 1 ≤ (thumbSize w h ratio).2 := by
  unfold thumbSize
  exact ⟨Int.le_max_left _ _, Int.le_max_left _ _⟩

/-- Non-vacuity: a 400×1 image at ratio 3/8 (shown 100px wide with dpi=150): `round(0.375) = 0`, clamped to 1. -/
example : thumbSize 400 1 (3 / 8) = (150, 1) := by decide +kernel

/-- Half to even, as Python: `round(0.5) = 0`, `round(1.5) = 2`, `round(2.5) = 2`. -/
example : roundHalfEven (1 / 2) = 0 ∧ roundHalfEven (3 / 2) = 2 ∧ roundHalfEven (5 / 2) = 2 := by decide +kernel

theorem scaled_pow (b n d k : Nat) : b * (n * d) ^ k = n ^ k * (b * d ^ k) := by
  rw [Nat.mul_pow, Nat.mul_left_comm]

/-- No false alarm: a cost `a + b·depth^k` with `k ≤ 3`, measured at depths `2d`, `3d`, `4d`, is accepted. -/
theorem growthOk_polynomial (a b d k : Nat) (hk : k ≤ 3) :
    growthOk (a + b * (2 * d) ^ k) (a + b * (3 * d) ^ k) (a + b * (4 * d) ^ k) = true := by
  unfold growthOk
  -- with `x = b·d^k` the three costs are `a + 2^k·x`, `a + 3^k·x`, `a + 4^k·x`, and `3^k ≤ 4·2^k`, `4^k ≤ 4·3^k`
  rw [scaled_pow, scaled_pow, scaled_pow]
  generalize b * d ^ k = x
  simp only [Bool.and_eq_true, decide_eq_true_eq]
  match k, hk with
  | 0, _ => omega
  | 1, _ => omega
  | 2, _ => omega
  | 3, _ => omega

/-- A cost that doubles with every level is rejected as soon as the doubling part outweighs the constant
part: `a + b·2^n` at depths `n`, `n + m` (m ≥ 3) with `3a < b·2^n·(2^m − 4)`. -/
theorem growthOk_doubling (a b n m c3 : Nat) (h : 3 * a < b * 2 ^ n * (2 ^ m - 4)) :
    growthOk (a + b * 2 ^ n) (a + b * 2 ^ (n + m)) c3 = false := by
  unfold growthOk
  have hm : 4 ≤ 2 ^ m := by
    rcases Nat.lt_or_ge (2 ^ m) 4 with hlt | hge
    · have : 2 ^ m - 4 = 0 := by omega
      simp [this] at h
    · exact hge
  obtain ⟨e, he⟩ : ∃ e, 2 ^ m = e + 4 := ⟨2 ^ m - 4, by omega⟩
  have hx : b * 2 ^ (n + m) = b * 2 ^ n * e + 4 * (b * 2 ^ n) := by
    rw [Nat.pow_add, he, ← Nat.mul_assoc, Nat.mul_add, Nat.mul_comm (b * 2 ^ n) 4]
  have he' : 2 ^ m - 4 = e := by omega
  rw [he'] at h
  simp only [Bool.and_eq_false_iff, decide_eq_false_iff_not]
  left
  omega

/-- Non-vacuity (the numbers measured on nested tables with a table cache that never hits: the count doubles
with each level) and the acceptance of a linear and a cubic cost. -/
example : growthOk 11000 59000 440000 = false ∧ growthOk 4000 5500 7000 = true ∧
    growthOk (5 + 2 * 6 ^ 3) (5 + 2 * 9 ^ 3) (5 + 2 * 12 ^ 3) = true := by decide

end Wp.C02x
