/-
C03 / C05 — geometry of paragraph fragments in the pagination model: every kept line fits on the page
unless it is the first line placed on an empty page; lines are stacked by the line height.
-/
import WpModel.Lemmas.ParaGeo
import WpModel.Lemmas.Geometry
import WpModel.Lemmas.ChainCut

namespace Wp.C03Geo
open Wp Wp.PM

/-- **Line fits** (C03): every line kept in a paragraph fragment ends at or above `pageBottom − bottomSpace`
(same fudge factor as the layout), unless it is the first line of this fragment and the page was empty
when the paragraph was started — the only case where the layout accepts an overflowing line, to make
progress. For any number of lines, resume position, page geometry, orphans/widows. -/
theorem line_fits (c : Ctx) (st : PStyle) (b : BoxSt) (n : Nat) (lineH : Rat) (pie : Bool)
    (adj : List Rat) (bs posY : Rat) (skip : Option Resume) (dbd : Bool) (hdeco : 0 ≤ b.bb + b.pb) :
    ∀ p ∈ (lineboxLayout c st b n lineH pie adj bs posY skip dbd).lines,
      (pie = true ∧ p.1 = skipLine skip) ∨ c.overflowsPage bs (p.2 + lineH) = false :=
  lineboxLayout_fits c st b n lineH pie adj bs posY skip dbd hdeco

/-- On a page that already has content no kept line overflows at all. -/
theorem line_fits_nonempty_page (c : Ctx) (st : PStyle) (b : BoxSt) (n : Nat) (lineH : Rat)
    (adj : List Rat) (bs posY : Rat) (skip : Option Resume) (dbd : Bool) (hdeco : 0 ≤ b.bb + b.pb) :
    ∀ p ∈ (lineboxLayout c st b n lineH false adj bs posY skip dbd).lines,
      c.overflowsPage bs (p.2 + lineH) = false := by
  intro p hp
  rcases line_fits c st b n lineH false adj bs posY skip dbd hdeco p hp with h | h
  · cases h.1
  · exact h

/-- **Lines stack** (C03/C05/C09): line `j` of the fragment (other than its first line, which the
tall-first-line rule may translate up by the box's top margin) sits exactly `(j − k)·lineH` below the
start position — consecutive lines touch, without gap or overlap. -/
theorem lines_stack (c : Ctx) (st : PStyle) (b : BoxSt) (n : Nat) (lineH : Rat) (pie : Bool)
    (adj : List Rat) (bs posY : Rat) (skip : Option Resume) (dbd : Bool) (hdeco : 0 ≤ b.bb + b.pb) :
    ∀ p ∈ (lineboxLayout c st b n lineH pie adj bs posY skip dbd).lines, p.1 ≠ skipLine skip →
      p.2 = lineStart adj posY + ((p.1 : Rat) - (skipLine skip : Rat)) * lineH := by
  rw [lineboxLayout_lines]
  exact lineLoop_stack c st b n lineH pie bs (skipLine skip) (lineStart adj posY) _ _ _ _ hdeco
    (fun _ => rfl) (by grind) (by simp)


/-! ### whole layouts and pages

`placedLines f pie box` collects the lines of the paragraph fragments inside the fragment tree `f`, read against the
source box `box`: a fragment child is matched to the source child at its `.idx` (the line height is read there), and
nothing is collected where the index is out of range or a paragraph fragment meets a block box. That a fragment
returned by `layoutBox c box …` is matched everywhere, so that each of its lines is collected, is not a theorem
here: the examples below show it on their documents. `exempt` marks the first line of a paragraph laid
out with `page_is_empty` — which stays true only along first-placed children. `DecoOk box`: in every box
bottom padding + border ≥ 0 and, with `box-decoration-break: clone`, bottom padding + border + margin ≥ 0. -/

/-- **Line fits, whole layout** (C03): in every fragment tree returned by `block_level_layout`, every line
`placedLines` collects ends above `pageBottom − bottomSpace` — through nested blocks, cloned decorations,
the relayout with a larger bottom space and `find_earlier_page_break` — unless it is the first line of the
first content placed while the page was empty. -/
theorem layout_line_fits (box : PBox) (hd : DecoOk box) (c : Ctx) (idx : Nat) (y bs : Rat)
    (skip : Option Resume) (cb pie : Bool) (adjL : List Rat) (f : Frag)
    (hf : (layoutBox c box idx y bs skip cb pie adjL).frag = some f) :
    ∀ l ∈ placedLines f pie box, l.exempt = true ∨ c.overflowsPage bs (l.y + l.lineH) = false :=
  box_fits box hd c idx y bs skip cb pie adjL f hf

/-- With no bottom space reserved (the root box): no line crosses the page bottom itself. -/
theorem page_line_fits (box : PBox) (hd : DecoOk box) (c : Ctx) (idx : Nat) (y : Rat)
    (skip : Option Resume) (cb pie : Bool) (adjL : List Rat) (f : Frag)
    (hf : (layoutBox c box idx y 0 skip cb pie adjL).frag = some f) :
    ∀ l ∈ placedLines f pie box, l.exempt = true ∨ l.y + l.lineH ≤ c.pageBottom * (1 + 1 / 1000000000) := by
  intro l hl
  rcases box_fits box hd c idx y 0 skip cb pie adjL f hf l hl with h | h
  · left; exact h
  · right
    simp only [Ctx.overflowsPage, overflows, PlacedLine.bottom] at h
    grind

/-- Only the very first placed line can be exempt, and only when the layout started on an empty page. -/
theorem only_first_line_exempt (f : Frag) (pie : Bool) (box : PBox) :
    (∀ l ∈ (placedLines f pie box).tail, l.exempt = false) ∧
    (pie = false → ∀ l ∈ placedLines f pie box, l.exempt = false) :=
  placedLines_exempt f pie box

/-- On a page that already has content, no line of the layout overflows. -/
theorem layout_line_fits_nonempty_page (box : PBox) (hd : DecoOk box) (c : Ctx) (idx : Nat) (y bs : Rat)
    (skip : Option Resume) (cb : Bool) (adjL : List Rat) (f : Frag)
    (hf : (layoutBox c box idx y bs skip cb false adjL).frag = some f) :
    ∀ l ∈ placedLines f false box, c.overflowsPage bs (l.y + l.lineH) = false := by
  intro l hl
  rcases box_fits box hd c idx y bs skip cb false adjL f hf l hl with h | h
  · rw [(placedLines_exempt f false box).2 rfl l hl] at h; cases h
  · exact h

/-- **Line fits, pages** (C03): on every page made by `remake_page`, every collected line ends above the bottom of the
page area (`pageH`, with the layout's fudge factor `1 + 10⁻⁹`), except possibly the very first line of the
page. (`pageSource d p` = the root box, or its childless copy on a blank page.) -/
theorem remakePage_line_fits (d : Doc) (hd : DecoOk d.root) (index : Nat) (resume : Option Resume)
    (np : NextPage) (right : Bool) (p : Page) (hp : remakePage d index resume np right = some p) :
    ∀ l ∈ (placedLines p.root true (pageSource d p)).tail, l.y + l.lineH ≤ d.pageH * (1 + 1 / 1000000000) := by
  obtain ⟨c, hc, hf, _⟩ := remakePage_root d index resume np right p hp
  intro l hl
  have hne := (placedLines_exempt p.root true (pageSource d p)).1 l hl
  rcases page_line_fits (pageSource d p) (decoOk_pageSource d p hd) c 0 0 resume false true [] p.root hf l
    (List.mem_of_mem_tail hl) with h | h
  · rw [hne] at h; cases h
  · rw [← hc]; exact h

/-- The same for every page of a paginated document. -/
theorem paginate_line_fits (d : Doc) (hd : DecoOk d.root) (fuel : Nat) (pages : List Page)
    (h : paginate d fuel = some pages) :
    ∀ p ∈ pages, ∀ l ∈ (placedLines p.root true (pageSource d p)).tail,
      l.y + l.lineH ≤ d.pageH * (1 + 1 / 1000000000) :=
  makeAllPages_forall d _ (remakePage_line_fits d hd) fuel 0 none _ _ pages h


/-! ### the height of a fragmented box

`tailY b cwc adjL` = used `position_y` (moved by the collapsed margins when the box collapses with its
children), `tailH0 …` = the height before stretching: the fixed `height`, or for `auto`
`position_y(after the margins following the last child) − content_box_y`. -/

/-- **Fragment height** (C03): a fragmented box whose decorations are not cloned loses its bottom margin,
padding and border and gets the height `max(own height, pageBottom − bottomSpace − content_box_y)`: it is
stretched exactly to the bottom of the area it may use, and extends beyond only if its own content
(an accepted overflowing first line, a fixed height) does. -/
theorem fragment_height (c : Ctx) (st : PStyle) (b : BoxSt) (bs : Rat)
    (cwc : Bool) (r : Resume) (posY : Rat) (adjL cur : List Rat) (curIsL hasKids : Bool)
    (hc : st.clone = false) :
    let g := (finishTail c st b bs cwc false (some r) posY adjL cur curIsL hasKids).geo
    g.mb = 0 ∧ g.pb = 0 ∧ g.bb = 0 ∧
    g.h = max (tailH0 st b cwc posY adjL cur hasKids) (c.pageBottom - bs - g.contentBoxY) ∧
    g.contentBoxY + g.h = max (g.contentBoxY + tailH0 st b cwc posY adjL cur hasKids) (c.pageBottom - bs) := by
  rw [finishTail_geo]
  simp only [hc, Option.isSome_some, Bool.not_false, Bool.and_self, if_true, Bool.not_true, Bool.false_eq_true,
    if_false, geoOf, Geo.contentBoxY, true_and]
  grind

/-- **Fragment height with cloned decorations** (`draw_bottom_decoration`): margins, padding and border are
kept; `bs` already contains `pb + bb + mb` (added by `prepare`). If the own height plus the bottom
decorations is smaller than the room `pageBottom − bs − content_box_y`, the content box is stretched to
`pageBottom − bs` exactly (so the margin box ends at the caller's `pageBottom − bottomSpace`); otherwise
the own height is kept — in particular a box whose content ends within the last `pb + bb + mb` of the room
is *not* stretched. -/
theorem fragment_height_clone (c : Ctx) (st : PStyle) (b : BoxSt) (bs : Rat)
    (cwc : Bool) (r : Resume) (posY : Rat) (adjL cur : List Rat) (curIsL hasKids : Bool)
    (hc : st.clone = true) :
    let g := (finishTail c st b bs cwc true (some r) posY adjL cur curIsL hasKids).geo
    let h0 := tailH0 st b cwc posY adjL cur hasKids
    g.mb = b.mb ∧ g.pb = b.pb ∧ g.bb = b.bb ∧
    (h0 + (b.pb + b.bb + b.mb) < c.pageBottom - bs - g.contentBoxY → g.contentBoxY + g.h = c.pageBottom - bs) ∧
    (¬ h0 + (b.pb + b.bb + b.mb) < c.pageBottom - bs - g.contentBoxY → g.h = h0) := by
  rw [finishTail_geo]
  simp only [hc, Option.isSome_some, Bool.not_true, Bool.false_and, Bool.false_eq_true, if_false, if_true, geoOf,
    Geo.contentBoxY, true_and]
  grind

/-- **A fragmented box reaches the bottom of its page area** (whole layouts): every fragment returned by
`block_level_layout` together with a resume position, decorations not cloned, has no bottom margin / padding /
border and its content box ends at or below `pageBottom − bottomSpace`. -/
theorem fragment_reaches_bottom (c : Ctx) (box : PBox) (idx : Nat) (y bs : Rat) (skip : Option Resume)
    (cb pie : Bool) (adjL : List Rat) (f : Frag) (r : Resume)
    (hf : (layoutBox c box idx y bs skip cb pie adjL).frag = some f)
    (hr : (layoutBox c box idx y bs skip cb pie adjL).resume = some r)
    (hc : box.st.clone = false) :
    f.geo.mb = 0 ∧ f.geo.pb = 0 ∧ f.geo.bb = 0 ∧ c.pageBottom - bs ≤ f.geo.contentBoxY + f.geo.h := by
  obtain ⟨mt, dbd, posY, cur, curIsL, hasKids, hg, hdbd, _⟩ := layoutBox_tail c box idx y bs skip cb pie adjL f hf
  rw [hr] at hg hdbd
  have hd : dbd = false := by rw [hdbd rfl, hc]
  subst hd
  have hbs : (prepare c box.st y bs skip cb pie adjL).bs = bs := by rw [prepare_bs, hc]; simp
  rw [hbs] at hg
  obtain ⟨h1, h2, h3, _, h5⟩ := fragment_height c box.st _ bs _ r posY _ cur curIsL hasKids hc
  rw [hg]
  refine ⟨h1, h2, h3, ?_⟩
  rw [h5]
  grind

/-! Non-vacuity: a paragraph with a top margin followed by a block with cloned bottom padding and border
holding a second paragraph, on 55px pages: 4 pages; page 2 shows lines 5–6 of the first paragraph and lines
0–1 of the second, ending at 10, 20, 30, 40 (6px stay reserved for the cloned decorations). -/
def exDoc : Doc :=
  { pageH := 55, rootLtr := true,
    root := .block 0 { plainSt with isRoot := true }
      [.para 1 7 10 { plainSt with mt := 4 },
       .block 3 { plainSt with clone := true, pb := 5, bb := 1 } [.para 2 8 10 plainSt]] }

example : DecoOk exDoc.root := by
  simp only [exDoc, DecoOk, DecoOkList, PStyle.DecoOk, plainSt]
  decide +kernel

example : (paginate exDoc 10).map (fun ps => ps.map (fun p =>
      (placedLines p.root true (pageSource exDoc p)).map (fun l => (l.exempt, l.para, l.line, l.y + l.lineH)))) =
    some [[(true, 1, 0, 14), (false, 1, 1, 24), (false, 1, 2, 34), (false, 1, 3, 44), (false, 1, 4, 54)],
      [(true, 1, 5, 10), (false, 1, 6, 20), (false, 2, 0, 30), (false, 2, 1, 40)],
      [(true, 2, 2, 10), (false, 2, 3, 20), (false, 2, 4, 30), (false, 2, 5, 40)],
      [(true, 2, 6, 10), (false, 2, 7, 20)]] := by decide +kernel


/-- Fragment heights on the same document: per page (fragmented?, content bottom of the root), and for each
child (cloned?, content bottom, bottom padding + border + margin). The fragmented root and the fragmented first
paragraph are stretched to 55; the fragmented cloned block ends its content at 49 = 55 − (5 + 1) and keeps its
decorations; on the last page nothing is stretched. -/
example : (paginate exDoc 10).map (fun ps => ps.map (fun p =>
      (p.resume.isSome, p.root.geo.contentBoxY + p.root.geo.h))) =
    some [(true, 55), (true, 55), (true, 55), (false, 26)] := by decide +kernel

example : (paginate exDoc 10).map (fun ps => ps.map (fun p =>
      p.root.kids.map (fun k => (k.st.clone, k.geo.contentBoxY + k.geo.h, k.geo.pb + k.geo.bb + k.geo.mb)))) =
    some [[(false, 55, 0)], [(false, 20, 0), (true, 49, 6)], [(true, 49, 6)], [(true, 20, 6)]] := by
  decide +kernel

/-! ### unbreakable blocks: what `_in_flow_layout` does with the fragment of a child (`firstPass`)

`_in_flow_layout` compares the bottom of the child's *content box* (`content_box_y() + height`) and of its
*border box* with `pageBottom − bottomSpace`. For a child that cannot be fragmented any further (a fixed
`height`, an empty block with padding or border) this test is the only thing that keeps it inside the page. -/

/-- **A child whose content box crosses the page bottom is sent to the next page** whenever something was
already placed on this page: the first pass discards its fragment. -/
theorem firstPass_discards_content_overflow (c : Ctx) (bs posY : Rat) (r : LayoutResult) (f : Frag)
    (hf : r.frag = some f) (ht : r.collapsingThrough = false)
    (ho : c.overflowsPage bs (f.geo.contentBoxY + f.geo.h) = true) :
    firstPass c bs false posY r = .keep none posY := by
  unfold firstPass
  simp [hf, ht, ho]

/-- **A child whose content fits but whose bottom padding / border crosses the page bottom is laid out again**
with the bottom space enlarged by exactly that padding and border. -/
theorem firstPass_relayout_border_overflow (c : Ctx) (bs posY : Rat) (r : LayoutResult) (f : Frag)
    (hf : r.frag = some f) (ht : r.collapsingThrough = false)
    (hc : c.overflowsPage bs (f.geo.contentBoxY + f.geo.h) = false)
    (hb : c.overflowsPage bs (f.geo.borderBoxY + f.geo.borderHeight) = true) :
    firstPass c bs false posY r = .redo (bs + (f.geo.pb + f.geo.bb)) := by
  unfold firstPass
  simp [hf, ht, hc, hb]

/-- **A kept child fits** (C03, "no unbreakable block ends below the bottom edge unless it is the first
content"): when the first pass keeps the fragment of a child, either margins collapse through the child (it
has no extent), or the child is the first content of an empty page, or both its content box and its border
box end above `pageBottom − bottomSpace`. -/
theorem firstPass_keep_fits (c : Ctx) (bs : Rat) (pienc : Bool) (posY : Rat) (r : LayoutResult) (f : Frag)
    (posY' : Rat) (h : firstPass c bs pienc posY r = .keep (some f) posY') :
    r.frag = some f ∧
    (r.collapsingThrough = true ∨ pienc = true ∨
      (c.overflowsPage bs (f.geo.contentBoxY + f.geo.h) = false ∧
       c.overflowsPage bs (f.geo.borderBoxY + f.geo.borderHeight) = false)) := by
  rcases firstPass_posY c bs pienc posY r (some f) posY' h with ⟨h0, _⟩ | ⟨f', hf', hr, hcase⟩
  · cases h0
  · cases hf'
    refine ⟨hr, ?_⟩
    rcases hcase with ⟨ht, _⟩ | ⟨ht, _⟩
    · exact .inl ht
    · cases pienc with
      | true => exact .inr (.inl rfl)
      | false =>
        -- an overflowing content box or border box would have made the first pass answer otherwise
        cases hc : c.overflowsPage bs (f.geo.contentBoxY + f.geo.h) with
        | true => rw [firstPass_discards_content_overflow c bs posY r f hr ht hc] at h; cases h
        | false =>
          cases hb : c.overflowsPage bs (f.geo.borderBoxY + f.geo.borderHeight) with
          | true => rw [firstPass_relayout_border_overflow c bs posY r f hr ht hc hb] at h; cases h
          | false => exact .inr (.inr ⟨rfl, rfl⟩)

/-- The exemption: as first content of an empty page, the fragment is kept whatever its size. -/
theorem firstPass_first_content_kept (c : Ctx) (bs posY : Rat) (r : LayoutResult) (f : Frag)
    (hf : r.frag = some f) : ∃ y, firstPass c bs true posY r = .keep (some f) y := by
  obtain ⟨_, y, e, hf'⟩ := firstPass_keeps c bs posY r (hf ▸ rfl)
  cases hf'.symm.trans hf
  exact ⟨y, e⟩

/-! Non-vacuity and regression document for the content-box edge (100px pages, seven 10px lines, then a block
of `height: 30px` with `padding-top: 8px; border-top: 2px`): its border box starts at 70, its content box at 80
and ends at 110 > 100, so the block goes to page 2 although `border_box_y + height = 100` would fit. With
`height: 20px` the content box ends exactly at 100 and the block stays. (Boxes: id, y, content bottom.) -/
def fixedDoc (h : Rat) : Doc :=
  { pageH := 100, rootLtr := true,
    root := .block 0 { plainSt with isRoot := true }
      [.block 1 plainSt
        [.para 2 7 10 plainSt, .block 3 { plainSt with height := some h, pt := 8, bt := 2 } [],
         .para 4 1 10 plainSt]] }

def kidsSummary (d : Doc) : Option (List (List (Nat × Rat × Rat))) :=
  (paginate d 10).map (fun ps => ps.map (fun p =>
    match p.root with
    | .block _ _ _ _ [.block _ _ _ _ kids] =>
      kids.map (fun k => ((match k with | .para id .. => id | .block id .. => id), k.geo.y,
        k.geo.contentBoxY + k.geo.h))
    | _ => []))

example : kidsSummary (fixedDoc 30) = some [[(2, 0, 70)], [(3, 0, 40), (4, 40, 50)]] := by decide +kernel
example : kidsSummary (fixedDoc 20) = some [[(2, 0, 70), (3, 70, 100)], [(4, 0, 10)]] := by decide +kernel

/-! ### boxes rebuilt by `find_earlier_page_break` (repair 24ce8bf)

When an avoided break sends the layout back to an earlier break opportunity *inside* already laid-out boxes, every
box on the way down is rebuilt with `copy_with_children` and - since the repair - loses its bottom margin, padding
and border (`remove_decoration(end=True)`), at every nesting level. -/

/-- "This fragment has no bottom decoration left, or clones it." -/
def EndCut (f : Frag) : Prop := f.st.clone = true ∨ (f.geo.mb = 0 ∧ f.geo.pb = 0 ∧ f.geo.bb = 0)

theorem endCut_cutEnd (f : Frag) : EndCut f.cutEnd := by
  cases f <;> exact endCutGeo_cutBottom _ _

/-- **Every box cut at an earlier page break has lost its bottom decoration** (all fragment lists): in the children kept by `find_earlier_page_break`, the last one is
either one of the original children, untouched (the break falls after it), or a box that was cut and then has no
bottom margin, padding or border left unless it clones its decorations. -/
theorem findEarlier_last_is_cut : (fs : List Frag) → ∀ (kept : List Frag) (r : Resume),
    (findEarlierGo fs).found = some (kept, r) →
    ∃ k, kept.getLast? = some k ∧ (k ∈ fs ∨ EndCut k)
  | [] => by
    intro kept r h
    simp [findEarlierGo] at h
  | x :: xs => by
    intro kept r h
    rcases findEarlierGo_cons_found x xs kept r h with
      ⟨kept0, hfound, rfl⟩ | ⟨_, ⟨_, _, rfl, _⟩ | ⟨x', _, _, rfl, _⟩⟩
    · obtain ⟨k, hk, hor⟩ := findEarlier_last_is_cut xs kept0 r hfound
      refine ⟨k, ?_, hor.imp_left (List.mem_cons_of_mem _)⟩
      cases kept0 with
      | nil => cases hk
      | cons a l => exact hk
    · exact ⟨x, rfl, .inl (List.mem_cons_self ..)⟩
    · exact ⟨x'.cutEnd, rfl, .inr (endCut_cutEnd x')⟩

/-- The same one level down: the children of a box rebuilt by `find_earlier_page_break` end with an untouched
original child or with a cut one - so the property holds along the whole chain of rebuilt boxes. -/
theorem findEarlierFrag_kids_last (id idx : Nat) (st : PStyle) (g : Geo) (kids : List Frag) (x' : Frag) (r : Resume)
    (h : findEarlierFrag (.block id idx st g kids) = some (x', r)) :
    ∃ kids' k, x' = .block id idx st g kids' ∧ kids'.getLast? = some k ∧ (k ∈ kids ∨ EndCut k) := by
  simp only [findEarlierFrag] at h
  split at h
  · rename_i kids' r0 hfound
    simp only [Option.some.injEq, Prod.mk.injEq] at h
    obtain ⟨rfl, rfl⟩ := h
    obtain ⟨k, hk, hor⟩ := findEarlier_last_is_cut kids kids' r0 hfound
    exact ⟨kids', k, rfl, hk, hor⟩
  · cases h

/-! Non-vacuity: a laid-out block with `padding-bottom: 5` holding a five-line paragraph fragment, followed by a
one-line paragraph whose `break-before` is avoided: the walk cuts the block after line 3 and removes its padding. -/
example :
    ((findEarlierGo
        [.block 2 0 { plainSt with pb := 5 } { y := 0, mt := 0, mb := 0, pt := 0, pb := 5, bt := 0, bb := 0, h := 50 }
           [.para 3 0 plainSt 5 { y := 0, mt := 0, mb := 0, pt := 0, pb := 0, bt := 0, bb := 0, h := 50 }
             [(0, 0), (1, 10), (2, 20), (3, 30), (4, 40)]],
         .para 4 1 { plainSt with brkBefore := .avoid } 1
           { y := 55, mt := 0, mb := 0, pt := 0, pb := 0, bt := 0, bb := 0, h := 10 } [(0, 55)]]).found.map
      (fun kr => kr.1.map (fun k => (k.geo.pb, k.geo.h, fragLines k)))) =
    some [(0, 50, [(3, 0), (3, 1), (3, 2), (3, 3)])] := by decide +kernel

/-- Consequence for the geometry clause "a fragmented box's own bottom padding / border also fits": the border
box of a cut box (not cloning) ends exactly where its content box ends. -/
theorem endCut_border_bottom (f : Frag) (h : f.st.clone = false) (hc : EndCut f) :
    f.geo.borderBoxY + f.geo.borderHeight = f.geo.contentBoxY + f.geo.h := by
  rcases hc with hc | ⟨_, hpb, hbb⟩
  · rw [h] at hc; cases hc
  · simp only [Geo.borderBoxY, Geo.borderHeight, Geo.contentBoxY, hpb, hbb]; grind

/-! ### boxes through which margins collapse take no room and never need a page of their own

`block_container_layout` declares a box *collapsed through* when it has no in-flow child, its `height` is `auto`
**or 0**, and it has no min-height, padding or border; `_in_flow_layout` then skips the page-overflow test for it
and leaves `position_y` where it was. -/

/-- **Exactly which boxes are collapsed through** (the tail of `block_container_layout`), whatever the page
geometry, the margins and the resume state. -/
theorem finishTail_through_iff (c : Ctx) (st : PStyle) (b : BoxSt) (bs : Rat) (cwc dbd : Bool)
    (resume : Option Resume) (posY : Rat) (adjL cur : List Rat) (curIsL hasKids : Bool) :
    (finishTail c st b bs cwc dbd resume posY adjL cur curIsL hasKids).through = true ↔
      (hasKids = false ∧ (st.height = none ∨ st.height = some 0) ∧ st.minH = 0 ∧
        b.bt = 0 ∧ b.pt = 0 ∧ b.bb = 0 ∧ b.pb = 0) := by
  rw [finishTail_through_eq]
  simp only [Bool.and_eq_true, Bool.not_eq_true', Bool.or_eq_true, decide_eq_true_eq, and_assoc]

/-- **A collapsed-through child is always kept, and takes no room**: the first pass keeps its fragment without
looking at the page bottom and hands the next sibling the same `position_y`. -/
theorem firstPass_through_kept (c : Ctx) (bs : Rat) (pienc : Bool) (posY : Rat) (r : LayoutResult) (f : Frag)
    (hf : r.frag = some f) (ht : r.collapsingThrough = true) :
    firstPass c bs pienc posY r = .keep (some f) posY := by
  unfold firstPass
  simp [hf, ht]

/-! Regression documents for the `height: 0` spelling (100px pages, nine 10px lines, then an empty box with
`margin-top: 20px`): with `height: 0` as with `height: auto` everything is on one page and the empty box sits at
the bottom of the text; an empty box with `padding-top: 1px` instead is not collapsed through and goes to page 2. -/
def spacerDoc (st : PStyle) : Doc :=
  { pageH := 100, rootLtr := true,
    root := .block 0 { plainSt with isRoot := true }
      [.block 1 plainSt [.para 2 9 10 plainSt, .block 3 st []]] }

example : ((paginate (spacerDoc { plainSt with height := some 0, mt := 20 }) 10).map List.length,
    (paginate (spacerDoc { plainSt with mt := 20 }) 10).map List.length,
    (paginate (spacerDoc { plainSt with mt := 20, pt := 1 }) 10).map List.length) = (some 1, some 1, some 2) := by
  decide +kernel

end Wp.C03Geo
