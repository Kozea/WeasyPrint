/-
C14 — named strings over the whole page history.
`get_string_or_element_for` (model: `PageState.getStringFor`, a lookup in the per-page store that
`layout_document` fills) refines the css-gcpm specification stated over the *history* of a document:
the list, page by page, of the assignments made to one named string (or running element).
-/
import WpModel.Model.PageState
import WpModel.Lemmas.Assoc

namespace Wp.C14
open Wp Wp.PageState

/-- The assignments to one name on pages 1, 2, 3, … (in document order inside a page). -/
abbrev Hist := List (List String)

/-- The store `layout_document` builds from a history: `context.string_set[name][i + 1].append(text)`
creates a key only for a page that has an assignment. -/
def storeFrom : Hist → Nat → NameStore
  | [], _ => []
  | vs :: rest, p => (if vs.isEmpty then [] else [(p, vs)]) ++ storeFrom rest (p + 1)

def storeOfHist (h : Hist) : NameStore := storeFrom h 1

/-- css-gcpm: the *exit value* of the first `n` pages — the last assignment made on them. -/
def exitValue (h : Hist) (n : Nat) : Option String := (h.take n).flatten.getLast?

/-- css-gcpm `string()` / `element()`: value on page `cur` (1-based).
`first`: first assignment on the page, else the entry value (= exit value of the previous pages);
`last`: last assignment on the page, else the entry value; `first-except`: nothing on a page with an
assignment, else the entry value; `start`: the first assignment if the page *starts* with it, else
the entry value.  (`other`: any unknown keyword falls back to the entry value, as the code does.) -/
def specString (h : Hist) (cur : Nat) (kw : Keyword) (startsPage : Bool) : Option String :=
  let entry := exitValue h (cur - 1)
  match h[cur - 1]? with
  | some (v :: vs) =>
    match kw with
    | .first => some v
    | .last => (v :: vs).getLast?
    | .firstExcept => none
    | .start => if startsPage then some v else entry
    | .other => entry
  | _ => entry

/-- The store holds exactly the non-empty pages of the history. -/
theorem storeGet_storeFrom (h : Hist) (start p : Nat) :
    storeGet (storeFrom h start) p =
      if start ≤ p then
        match h[p - start]? with
        | some (v :: vs) => some (v :: vs)
        | _ => none
      else none := by
  induction h generalizing start with
  | nil => simp [storeFrom, storeGet]
  | cons vs rest ih =>
    simp only [storeFrom]
    rw [assoc_get_append storeGet (fun _ => rfl) (fun _ _ _ _ => by simp only [storeGet, beq_iff_eq]), ih]
    by_cases hp : start ≤ p
    · simp only [hp, ↓reduceIte]
      by_cases he : p = start
      · subst he
        simp only [Nat.sub_self, List.getElem?_cons_zero]
        cases vs with
        | nil => simp [storeGet]; intro hh; omega
        | cons v vs' => simp [storeGet]
      · have h1 : start + 1 ≤ p := by omega
        have h2 : p - start = (p - (start + 1)) + 1 := by omega
        simp only [h1, ↓reduceIte, h2, List.getElem?_cons_succ]
        cases vs with
        | nil => simp [storeGet]
        | cons v vs' =>
          have : (start == p) = false := by simpa using fun e => he e.symm
          simp [storeGet, this]
    · have h1 : ¬ start + 1 ≤ p := by omega
      simp only [hp, h1, ↓reduceIte]
      cases vs with
      | nil => simp [storeGet]
      | cons v vs' =>
        have : (start == p) = false := by simpa using fun e => hp (by omega)
        simp [storeGet, this]

theorem storeGet_storeOfHist (h : Hist) (p : Nat) (hp : 1 ≤ p) :
    storeGet (storeOfHist h) p = match h[p - 1]? with
      | some (v :: vs) => some (v :: vs)
      | _ => none := by
  unfold storeOfHist
  rw [storeGet_storeFrom]
  simp [hp]

private theorem exitValue_succ (h : Hist) (n : Nat) :
    exitValue h (n + 1) = match h[n]? with
      | some (v :: vs) => (v :: vs).getLast?
      | _ => exitValue h n := by
  unfold exitValue
  cases hn : h[n]? with
  | none =>
    have : h.length ≤ n := by simpa using hn
    simp [List.take_of_length_le this, List.take_of_length_le (Nat.le_succ_of_le this)]
  | some vs =>
    obtain ⟨hlt, hget⟩ := List.getElem?_eq_some_iff.mp hn
    rw [List.take_succ_eq_append_getElem hlt, List.flatten_append, hget]
    cases vs with
    | nil => simp
    | cons v vs' =>
      simp only [List.flatten_cons, List.flatten_nil, List.append_nil]
      simp only [List.getLast?_append]
      rw [List.getLast?_eq_some_getLast (List.cons_ne_nil v vs')]; rfl

/-- The backward search of the code computes the exit value of the pages searched. -/
theorem searchBack_is_exit_value (h : Hist) (n : Nat) :
    searchBack (storeOfHist h) n = .ok (exitValue h n) := by
  induction n with
  | zero => simp [searchBack, exitValue]
  | succ n ih =>
    simp only [searchBack]
    rw [storeGet_storeOfHist h (n + 1) (by omega), exitValue_succ]
    simp only [Nat.add_sub_cancel]
    cases hn : h[n]? with
    | none => simpa using ih
    | some vs =>
      cases vs with
      | nil => simpa using ih
      | cons v vs' =>
        simp only
        rw [List.getLast?_eq_some_getLast (List.cons_ne_nil v vs')]

/-- **strings (refinement).**  For every history of assignments, every page, keyword and page start,
the lookup of `get_string_or_element_for` in the store built by `layout_document` returns exactly
the css-gcpm value — and never fails. -/
theorem strings_refine_spec (h : Hist) (cur : Nat) (hcur : 1 ≤ cur) (kw : Keyword) (chain : List Bool) :
    getStringFor (storeOfHist h) cur kw chain = .ok (specString h cur kw (chain.any id)) := by
  unfold getStringFor specString
  simp only
  rw [storeGet_storeOfHist h cur hcur, searchBack_is_exit_value]
  cases hc : h[cur - 1]? with
  | none => rfl
  | some vs =>
    cases vs with
    | nil => rfl
    | cons v vs' =>
      simp only [List.head?_cons]
      cases hl : (v :: vs').getLast? with
      | none => simp at hl
      | some l =>
        cases kw <;> simp
        split <;> rfl

example : specString [["a", "b"], [], ["c"]] 2 .first false = some "b" := by decide
example : specString [["a", "b"], [], ["c"]] 3 .firstExcept true = none := by decide
example : specString [["a", "b"], [], ["c"]] 1 .start false = none := by decide

/-- Consequence: the value shown on a page depends only on the history up to that page (later
assignments never change an earlier page). -/
theorem strings_depend_on_past_only (h h' : Hist) (cur : Nat) (hcur : 1 ≤ cur) (kw : Keyword) (s : Bool)
    (hpre : h.take cur = h'.take cur) : specString h cur kw s = specString h' cur kw s := by
  unfold specString exitValue
  have h1 : h.take (cur - 1) = h'.take (cur - 1) := by
    have := congrArg (List.take (cur - 1)) hpre
    simpa [List.take_take, Nat.min_eq_left (Nat.sub_le cur 1)] using this
  have h2 : h[cur - 1]? = h'[cur - 1]? := by
    cases cur with
    | zero => omega
    | succ n =>
      have e1 : h[n]? = (h.take (n + 1))[n]? := by rw [List.getElem?_take]; simp
      have e2 : h'[n]? = (h'.take (n + 1))[n]? := by rw [List.getElem?_take]; simp
      simp only [Nat.add_sub_cancel]
      rw [e1, e2, hpre]
  rw [h1, h2]

end Wp.C14
