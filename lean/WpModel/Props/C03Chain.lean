/-
C03 — continued boxes have no bottom decoration of their own (all documents, all pages).

The clause "a fragmented box's own bottom padding/border also fits", which the Python oracle
`c03.decoration_overflow` samples on the fragments that are continued on the next page, is for
`box-decoration-break: slice` (the default) a theorem about every document of the model: a continued box has no
bottom margin, padding or border left at all, so its border box ends where its content box ends; only boxes that
*clone* their decorations keep them (and for those `prepare` reserves the room in `bottom_space`, see
`C03Geo.fragment_height_clone`).
-/
import WpModel.Lemmas.ChainCut
import WpModel.Props.C03Geo

namespace Wp.C03Chain
open Wp Wp.PM

/-- **Layout level**: the box returned with a resume position, and every box on the chain of last children that
the resume position descends into, has lost its bottom decoration or clones it. -/
theorem layout_chain_cut (box : PBox) (c : Ctx) (idx : Nat) (y bs : Rat) (skip : Option Resume) (cb pie : Bool)
    (adjL : List Rat) (f : Frag) (r : Resume)
    (hf : (layoutBox c box idx y bs skip cb pie adjL).frag = some f)
    (hr : (layoutBox c box idx y bs skip cb pie adjL).resume = some r) : ChainCut f r :=
  box_chain box c idx y bs skip cb pie adjL f r hf hr

theorem chainCut_head (f : Frag) (r : Resume) (h : ChainCut f r) : EndCutGeo f.st f.geo := by
  cases f with
  | para id idx st n g lines => simpa [ChainCut, Frag.st, Frag.geo] using h
  | block id idx st g kids => simp only [ChainCut] at h; simpa [Frag.st, Frag.geo] using h.1

/-- One step down the chain: the last child of a box continued *inside* one of its children. -/
theorem chainCut_step (id idx : Nat) (st : PStyle) (g : Geo) (kids : List Frag) (i : Nat) (r' : Resume)
    (h : ChainCut (.block id idx st g kids) (.node i (some r'))) : ChainCutLast kids r' := by
  simp only [ChainCut] at h
  exact h.2

/-- With `box-decoration-break: slice`: no bottom margin, padding, border; the border box ends with the content. -/
theorem slice_continued_no_decoration (f : Frag) (r : Resume) (h : ChainCut f r) (hs : f.st.clone = false) :
    f.geo.mb = 0 ∧ f.geo.pb = 0 ∧ f.geo.bb = 0 ∧
    f.geo.borderBoxY + f.geo.borderHeight = f.geo.contentBoxY + f.geo.h := by
  rcases chainCut_head f r h with hc | ⟨h1, h2, h3⟩
  · rw [hs] at hc; cases hc
  · exact ⟨h1, h2, h3, C03Geo.endCut_border_bottom f hs (chainCut_head f r h)⟩

/-- **Page level**: on every non-blank page that is followed by another one, the root fragment and the whole chain
of boxes continued on the next page are cut. -/
theorem remakePage_chain_cut (d : Doc) (index : Nat) (resume : Option Resume) (np : NextPage) (right : Bool)
    (p : Page) (hp : remakePage d index resume np right = some p) (hb : p.type.blank = false)
    (r : Resume) (hr : p.resume = some r) : ChainCut p.root r := by
  obtain ⟨c, _, hf, hres⟩ := remakePage_root d index resume np right p hp
  rw [hres hb] at hr
  exact box_chain _ c 0 0 0 resume false true [] p.root r hf hr

/-- **Document level**: the same for every page of every pagination. -/
theorem paginate_chain_cut (d : Doc) (fuel : Nat) (pages : List Page) (h : paginate d fuel = some pages) :
    ∀ p ∈ pages, p.type.blank = false → ∀ r, p.resume = some r → ChainCut p.root r :=
  makeAllPages_forall d _ (remakePage_chain_cut d) fuel 0 none _ _ pages h

/-! Non-vacuity (45px pages, 10px lines): a block with `padding-bottom: 5px; border-bottom: 2px; margin-bottom: 3px`
holding a block with `padding-bottom: 4px` holding nine lines. Three pages; on the first two both boxes are
continued and show no bottom decoration, on the last one they end and show all of it. A cloning outer box keeps
its decoration on every page. Per page: (outer mb, pb, bb), (inner pb), continued?. -/
def chainDoc (clone : Bool) : Doc :=
  { pageH := 45, rootLtr := true,
    root := .block 0 { plainSt with isRoot := true }
      [.block 1 { plainSt with pb := 5, bb := 2, mb := 3, clone := clone }
        [.block 2 { plainSt with pb := 4 } [.para 3 9 10 plainSt]]] }

def chainSummary (d : Doc) : Option (List ((Rat × Rat × Rat) × Rat × Bool)) :=
  (paginate d 10).map (fun ps => ps.map (fun p =>
    match p.root with
    | .block _ _ _ _ [.block _ _ _ g1 [.block _ _ _ g2 _]] => ((g1.mb, g1.pb, g1.bb), g2.pb, p.resume.isSome)
    | _ => ((0, 0, 0), 0, false)))

example : chainSummary (chainDoc false) =
    some [((0, 0, 0), 0, true), ((0, 0, 0), 0, true), ((3, 5, 2), 4, false)] := by decide +kernel

example : chainSummary (chainDoc true) =
    some [((3, 5, 2), 0, true), ((3, 5, 2), 0, true), ((3, 5, 2), 4, false)] := by decide +kernel

end Wp.C03Chain
