/-
C04 end-to-end at page level (PM model): a forced break or a change of page name between two adjacent
siblings `a`, `b` anywhere in the box tree separates them in the *pages* of `paginate d`: the page boundary
falls exactly between the last line of `a` and the first line of `b`, the next page has the requested side
(after exactly the blank page `isBlank` demands) and the new page name.
Hypotheses: no fixed heights and `orphans, widows ≥ 1` (`Good`, as for `C01.pages_conserve`: with a fixed
height `forgetIfFixed` ends a box early and the fragment no longer ends with the box's last child).
-/
import WpModel.Lemmas.Pm2First
import WpModel.Lemmas.Pm2Obs
import WpModel.Lemmas.Pm2Avoid
import WpModel.Lemmas.TraceCheck
import WpModel.Props.C04
import WpModel.Props.C01

namespace Wp.C04Pm2
open Wp Wp.PM

/-- The strongest break value meeting between `a` and `b` (source boxes). -/
def valueBetween (a b : PBox) : Brk := resolve (valuesBetween a b)

/-- A non-blank page made at the boundary: page name of `b`, requested side, and it shows the first line of
`b` when `b` starts with a line. -/
def Opens (d : Doc) (a b : PBox) (q : Page) : Prop :=
  q.type.blank = false ∧ q.type.name = boxPageStart b ∧
  (∀ side, requestedSide d.rootLtr (some (valueBetween a b)) = some side → q.type.right = side) ∧
  (FirstLine b none → fragLines q.root ≠ [] ∧ (fragLines q.root).head? = (linesFrom b none).head?)

private theorem opens_of_remake (d : Doc) (hg : Good d.root) (π : List Nat) (j : Nat) (a b : PBox)
    (hs : SibAt d.root π j a b) (index : Nat) (right : Bool) (q : Page)
    (hq : remakePage d index (some (resAt π j)) (cutPage a b) right = some q) (hb : q.type.blank = false) :
    Opens d a b q := by
  obtain ⟨hright, _, hbl, hname, _⟩ := C04.remakePage_type hq
  refine ⟨hb, ?_, ?_, ?_⟩
  · rw [hname, hb]; rfl
  · intro side hside
    rw [hb] at hbl
    have hside' : requestedSide d.rootLtr (cutPage a b).brk = some side := hside
    rw [hside'] at hbl
    rcases C04.blank_then_side side right with ⟨_, h2⟩ | ⟨h1, _⟩
    · rw [hright]; exact h2
    · rw [h1] at hbl; cases hbl
  · intro hfl
    have hroot := firstLine_resAt π d.root j a b hs hfl
    obtain ⟨hne, hhead⟩ := page_first_line d hg index _ _ right q hq hb hroot
    refine ⟨hne, ?_⟩
    obtain ⟨_, post, _, h2⟩ := linesFrom_split π d.root j a b hs
    rw [hhead, h2]
    have hbne := firstLine_ne b none hfl
    cases hq' : linesFrom b none with
    | nil => exact absurd hq' hbne
    | cons x xs => rfl

private theorem makeAllPages_head (d : Doc) (fuel index : Nat) (resume : Option Resume) (np : NextPage)
    (right : Bool) (P : List Page) (h : makeAllPages d fuel index resume np right = some P) :
    ∃ q rest, P = q :: rest ∧ remakePage d index resume np right = some q ∧
      (q.resume ≠ none → ∃ fuel', makeAllPages d fuel' (index + 1) q.resume q.nextPage (!right) = some rest) := by
  cases fuel with
  | zero => simp [makeAllPages] at h
  | succ fuel =>
    obtain ⟨q, hq, ⟨hnone, rfl⟩ | ⟨_, ps, _, hps, rfl⟩⟩ := makeAllPages_some h
    · exact ⟨q, [], rfl, hq, fun hne => absurd hnone hne⟩
    · exact ⟨q, ps, rfl, hq, fun _ => ⟨fuel, hps⟩⟩

/-- **The page boundary falls exactly between `a` and `b`** (forced break or page-name change).
`pages = P1 ++ p :: P2` where the pages up to `p` show exactly what precedes `b` (ending with the lines of
`a`), the pages `P2` show exactly the lines of `b` and what follows; `P2` starts with the page of the requested
side and name — preceded by one blank page exactly when `isBlank` demands it. No hypothesis on ids. -/
theorem boundary_pages (d : Doc) (hN : NoFixedHeight d.root) (hW : WellFormed d.root) (fuel : Nat)
    (pages : List Page) (h : paginate d fuel = some pages) (π : List Nat) (j : Nat) (a b : PBox)
    (hs : SibAt d.root π j a b) (hm : meets a b = true) :
    ∃ P1 p P2 pre post, pages = P1 ++ p :: P2 ∧ p.type.blank = false ∧
      pagesLines (P1 ++ [p]) = pre ++ linesFrom a none ∧
      pagesLines P2 = linesFrom b none ++ post ∧
      linesFrom d.root none = (pre ++ linesFrom a none) ++ (linesFrom b none ++ post) ∧
      ∃ q rest, P2 = q :: rest ∧ q.type.right = (!p.type.right) ∧
        q.type.blank = isBlank (requestedSide d.rootLtr (some (valueBetween a b))) q.type.right ∧
        (q.type.blank = false → Opens d a b q) ∧
        (q.type.blank = true → fragLines q.root = [] ∧
          ∃ q' rest', rest = q' :: rest' ∧ q'.type.right = p.type.right ∧ Opens d a b q') := by
  have hg := good_of _ hN hW
  unfold paginate at h
  have hstart : (none : Option Resume) = none →
      isBlank (requestedSide d.rootLtr (NextPage.mk none (some (boxPageStart d.root))).brk) (firstRight d) = false := by
    exact fun _ => isBlank_none _ _
  obtain ⟨P1, p, P2, fuel', rfl, hpb, hpr, hpn, hcont⟩ :=
    pages_reach d hg π j a b hs hm fuel 0 none _ _ pages (valid_none _) (before_none π j) hstart h
  have hall := makeAllPages_lines d hg fuel 0 none _ _ _ hstart h
  rw [hpr, hpn] at hcont
  have hP2 := makeAllPages_lines d hg fuel' _ _ _ _ P2 (by intro he; cases he) hcont
  obtain ⟨pre, post, hsplit1, hsplit2⟩ := linesFrom_split π d.root j a b hs
  rw [List.append_cons P1 p P2, pagesLines_append, hP2] at hall
  have h1 : pagesLines (P1 ++ [p]) = pre ++ linesFrom a none := by
    rw [hsplit1] at hall
    exact List.append_cancel_right hall
  refine ⟨P1, p, P2, pre, post, rfl, hpb, h1, by rw [hP2, hsplit2], by rw [hsplit1, hsplit2], ?_⟩
  obtain ⟨q, rest, rfl, hq, hqcont⟩ := makeAllPages_head d fuel' _ _ _ _ P2 hcont
  obtain ⟨hqright, _, hqbl, _, hqkeep⟩ := C04.remakePage_type hq
  refine ⟨q, rest, rfl, hqright, by rw [hqbl, hqright]; rfl, ?_, ?_⟩
  · intro hb
    exact opens_of_remake d hg π j a b hs _ _ q hq hb
  · intro hb
    obtain ⟨hqr, hqn⟩ := hqkeep hb
    refine ⟨((remakePage_lines d hg _ _ _ _ q hq).1 hb).1, ?_⟩
    obtain ⟨fuel'', hrest⟩ := hqcont (by rw [hqr]; intro he; cases he)
    rw [hqr, hqn] at hrest
    obtain ⟨q', rest', rfl, hq', _⟩ := makeAllPages_head d fuel'' _ _ _ _ rest hrest
    obtain ⟨hq'right, _, hq'bl, _, _⟩ := C04.remakePage_type hq'
    refine ⟨q', rest', rfl, by rw [hq'right]; simp, ?_⟩
    apply opens_of_remake d hg π j a b hs _ _ q' hq'
    rw [hq'bl]
    exact isBlank_flip _ _ (hqbl ▸ hb)

/-- (a) **A forced break separates the pages** (`break-before/after: page | left | right | recto | verso`
resolved with the source table among all values meeting between `a` and `b`). -/
theorem forced_separates_pages (d : Doc) (hN : NoFixedHeight d.root) (hW : WellFormed d.root) (fuel : Nat)
    (pages : List Page) (h : paginate d fuel = some pages) (π : List Nat) (j : Nat) (a b : PBox)
    (hs : SibAt d.root π j a b) (hf : forces false (valueBetween a b) = true) :
    ∃ P1 p P2 pre post, pages = P1 ++ p :: P2 ∧ p.type.blank = false ∧
      pagesLines (P1 ++ [p]) = pre ++ linesFrom a none ∧
      pagesLines P2 = linesFrom b none ++ post ∧
      linesFrom d.root none = (pre ++ linesFrom a none) ++ (linesFrom b none ++ post) ∧
      ∃ q rest, P2 = q :: rest ∧ q.type.right = (!p.type.right) ∧
        q.type.blank = isBlank (requestedSide d.rootLtr (some (valueBetween a b))) q.type.right ∧
        (q.type.blank = false → Opens d a b q) ∧
        (q.type.blank = true → fragLines q.root = [] ∧
          ∃ q' rest', rest = q' :: rest' ∧ q'.type.right = p.type.right ∧ Opens d a b q') :=
  boundary_pages d hN hW fuel pages h π j a b hs (by
    have : forcesPage (resolve (valuesBetween a b)) = true := hf
    simp [meets, this])

/-- (b) **A change of page name separates the pages** the same way (the used `page` of the last descendant
of `a` differs from the one of the first descendant of `b`, which is not the empty name), and the page that
starts `b` has `b`'s page name (`Opens`). -/
theorem named_page_change (d : Doc) (hN : NoFixedHeight d.root) (hW : WellFormed d.root) (fuel : Nat)
    (pages : List Page) (h : paginate d fuel = some pages) (π : List Nat) (j : Nat) (a b : PBox)
    (hs : SibAt d.root π j a b) (hne : boxPageEnd a ≠ boxPageStart b) (hnm : boxPageStart b ≠ "") :
    ∃ P1 p P2 pre post, pages = P1 ++ p :: P2 ∧ p.type.blank = false ∧
      pagesLines (P1 ++ [p]) = pre ++ linesFrom a none ∧
      pagesLines P2 = linesFrom b none ++ post ∧
      linesFrom d.root none = (pre ++ linesFrom a none) ++ (linesFrom b none ++ post) ∧
      ∃ q rest, P2 = q :: rest ∧ q.type.right = (!p.type.right) ∧
        q.type.blank = isBlank (requestedSide d.rootLtr (some (valueBetween a b))) q.type.right ∧
        (q.type.blank = false → Opens d a b q) ∧
        (q.type.blank = true → fragLines q.root = [] ∧
          ∃ q' rest', rest = q' :: rest' ∧ q'.type.right = p.type.right ∧ Opens d a b q') :=
  boundary_pages d hN hW fuel pages h π j a b hs (by simp [meets, hne, hnm])

/-- With pairwise distinct paragraph ids, in the decomposition `boundary_pages` gives: a page showing a line of `a` comes
before the boundary, a page showing a line of `b` after it. -/
theorem boundary_side {d : Doc} (hU : UniqueParaIds d.root) {P1 P2 : List Page} {p : Page}
    {pre post : List (Nat × Nat)} {a b : PBox}
    (h1 : pagesLines (P1 ++ [p]) = pre ++ linesFrom a none) (h2 : pagesLines P2 = linesFrom b none ++ post)
    (h3 : linesFrom d.root none = (pre ++ linesFrom a none) ++ (linesFrom b none ++ post))
    {k : Nat} {pg : Page} (hk : (P1 ++ p :: P2)[k]? = some pg) {l : Nat × Nat} (hl : l ∈ fragLines pg.root) :
    (l ∈ linesFrom a none → k < P1.length + 1) ∧ (l ∈ linesFrom b none → P1.length + 1 ≤ k) := by
  have hnd := linesFrom_nodup d.root hU
  rw [h3, ← h1, ← h2] at hnd
  have hs := page_side (List.nodup_append.mp hnd).2.2 (List.append_cons P1 p P2 ▸ hk) hl
  rw [List.length_append, List.length_singleton] at hs
  exact ⟨fun ha => hs.1 (h1 ▸ List.mem_append_right _ ha), fun hb => hs.2 (h2 ▸ List.mem_append_left _ hb)⟩

/-- Line-level reading, with pairwise distinct paragraph ids: **no page shows a line of `a`'s subtree and a
line of `b`'s subtree**. -/
theorem no_page_shows_both (d : Doc) (hN : NoFixedHeight d.root) (hW : WellFormed d.root)
    (hU : UniqueParaIds d.root) (fuel : Nat)
    (pages : List Page) (h : paginate d fuel = some pages) (π : List Nat) (j : Nat) (a b : PBox)
    (hs : SibAt d.root π j a b) (hm : meets a b = true) :
    ∀ pg ∈ pages, ∀ la ∈ linesFrom a none, ∀ lb ∈ linesFrom b none,
      ¬ (la ∈ fragLines pg.root ∧ lb ∈ fragLines pg.root) := by
  obtain ⟨P1, p, P2, pre, post, rfl, _, h1, h2, h3, _⟩ := boundary_pages d hN hW fuel pages h π j a b hs hm
  intro pg hpg la hla lb hlb ⟨ha, hb⟩
  obtain ⟨k, hk⟩ := List.getElem?_of_mem hpg
  exact Nat.lt_irrefl _ (Nat.lt_of_lt_of_le ((boundary_side hU h1 h2 h3 hk ha).1 hla)
    ((boundary_side hU h1 h2 h3 hk hb).2 hlb))

private theorem mem_pagesOf_of_line (pages : List Page) (k : Nat) (pg : Page) (b : PBox) (l : Nat × Nat)
    (hk : pages[k]? = some pg) (hl : l ∈ fragLines pg.root) (hb : l ∈ linesFrom b none) :
    k ∈ Trace.pagesOf (allWords b) (pageWordsOf pages) := by
  rw [mem_pagesOf]
  refine ⟨(fragLines pg.root).map (fun l => wordId l.1 l.2), ?_, wordId l.1 l.2, ?_, ?_⟩
  · unfold pageWordsOf
    rw [List.getElem?_map, hk]; rfl
  · exact List.mem_map.mpr ⟨l, hl, rfl⟩
  · rw [allWords_eq]; exact List.mem_map.mpr ⟨l, hb, rfl⟩

/-- **The break checker accepts PM.** For every document without fixed heights, `orphans, widows ≥ 1`,
pairwise distinct paragraph ids, and in which every box placed after a *side-forcing* break starts with a
line (`FirstLine`; without it the checker can raise a false alarm: `Witness.C04Pm2`), the checker run on the
harness abstraction of the PM pagination reports no bad observation. -/
theorem break_checker_accepts_pm (d : Doc) (hN : NoFixedHeight d.root) (hW : WellFormed d.root)
    (hU : UniqueParaIds d.root)
    (hF : ∀ ab ∈ sibPairs d.root, forces false (valueBetween ab.1 ab.2) = true →
      requestedSide d.rootLtr (some (valueBetween ab.1 ab.2)) ≠ none → FirstLine ab.2 none)
    (fuel : Nat) (pages : List Page) (h : paginate d fuel = some pages) :
    BreakTrace.badObs (obsOf d pages) = [] := by
  apply (rejected_nil_iff _ BreakTrace.obsOk (fun _ _ => rfl) _).mpr
  intro o ho
  unfold obsOf at ho
  obtain ⟨⟨a, b⟩, hab, hobs⟩ := List.mem_filterMap.mp ho
  unfold obsOfPair at hobs
  split at hobs
  · rename_i pa pb hpa hpb
    simp only [Option.some.injEq] at hobs
    subst hobs
    unfold BreakTrace.obsOk
    simp only
    by_cases hf : forces false (resolve (valuesBetween a b)) = true
    · simp only [hf, ↓reduceIte, Bool.and_eq_true, decide_eq_true_eq]
      obtain ⟨π, j, hs⟩ := sibPairs_sibAt d.root a b hab
      obtain ⟨P1, p, P2, pre, post, rfl, _, h1, h2, h3, q, rest, rfl, _, _, hq1, hq2⟩ :=
        forced_separates_pages d hN hW fuel pages h π j a b hs hf
      have hcat := List.append_cons P1 p (q :: rest)
      -- the last page showing `a`
      have hpa_lt : pa < P1.length + 1 := by
        obtain ⟨page, hpage, w, hw, hwa⟩ := mem_pagesOf.mp (List.mem_of_getLast? hpa)
        obtain ⟨pg, l, hpg, hl, hla⟩ := page_word_line a hpage hw hwa
        exact (boundary_side hU h1 h2 h3 hpg hl).1 hla
      -- the first page showing `b`
      have hpbmem : pb ∈ Trace.pagesOf (allWords b) (pageWordsOf (P1 ++ p :: q :: rest)) :=
        List.mem_of_mem_head? (by rw [hpb]; rfl)
      obtain ⟨page, hpage, w, hw, hwb⟩ := mem_pagesOf.mp hpbmem
      obtain ⟨pgb, lb, hpgb, hlb, hlbb⟩ := page_word_line b hpage hw hwb
      have hpb_ge : P1.length + 1 ≤ pb := (boundary_side hU h1 h2 h3 hpgb hlb).2 hlbb
      refine ⟨by omega, ?_⟩
      cases hside : requestedSide d.rootLtr (some (resolve (valuesBetween a b))) with
      | none => rfl
      | some side =>
        simp only [beq_iff_eq]
        have hfl := hF (a, b) hab hf (by
          show requestedSide d.rootLtr (some (resolve (valuesBetween a b))) ≠ none
          rw [hside]; intro he; cases he)
        -- a page that `Opens` at the boundary begins with a line of `b` (`FirstLine`), so the first page showing a word of `b`
        -- is the first such page: page `P1.length + 1`, or `+ 2` after a blank page; its side is the requested one
        have hfirst : ∀ (k : Nat) (qq : Page), (P1 ++ p :: q :: rest)[k]? = some qq → Opens d a b qq →
            pb ≤ k ∧ qq.type.right = side := by
          intro k qq hk ho
          obtain ⟨hne, hhead⟩ := ho.2.2.2 hfl
          obtain ⟨l0, hl0⟩ : ∃ l0, (fragLines qq.root).head? = some l0 := by
            cases hq : fragLines qq.root with
            | nil => exact absurd hq hne
            | cons x xs => exact ⟨x, rfl⟩
          have hl0q : l0 ∈ fragLines qq.root := List.mem_of_mem_head? (by rw [hl0]; rfl)
          have hl0b : l0 ∈ linesFrom b none := List.mem_of_mem_head? (by rw [← hhead, hl0]; rfl)
          exact ⟨pagesOf_head_le _ _ _ hpb k (mem_pagesOf_of_line _ k qq b l0 hk hl0q hl0b), ho.2.2.1 side hside⟩
        cases hqb : q.type.blank with
        | false =>
          have hk : (P1 ++ p :: q :: rest)[P1.length + 1]? = some q := by
            rw [hcat, List.getElem?_append_right (by simp)]; simp
          obtain ⟨hle, hright⟩ := hfirst _ q hk (hq1 hqb)
          have : pb = P1.length + 1 := by omega
          rw [this, hk]; simpa using hright
        | true =>
          obtain ⟨hempty, q', rest', rfl, _, ho'⟩ := hq2 hqb
          have hk0 : (P1 ++ p :: q :: q' :: rest')[P1.length + 1]? = some q := by
            rw [hcat, List.getElem?_append_right (by simp)]; simp
          have hk : (P1 ++ p :: q :: q' :: rest')[P1.length + 2]? = some q' := by
            rw [hcat, List.getElem?_append_right (by simp)]; simp
          obtain ⟨hle, hright⟩ := hfirst _ q' hk ho'
          have hne : pb ≠ P1.length + 1 := by
            intro he
            rw [he, hk0] at hpgb
            simp only [Option.some.injEq] at hpgb
            subst hpgb
            rw [hempty] at hlb; cases hlb
          have : pb = P1.length + 2 := by omega
          rw [this, hk]; simpa using hright
    · simp [hf]
  · cases hobs

/-! ### (c) `break-before/after: avoid` between siblings

`HasBreakList fs` (Lemmas/Pm2Avoid.lean) is the declarative set of legal break opportunities among the
already placed sibling fragments `fs`: between two of them when the values meeting there do not resolve to
`avoid`/`avoid-page`, inside one whose `break-inside` does not avoid (recursively; inside a paragraph when
`widows` lines can go while `max orphans 1` stay), never after the last one; `find_earlier_page_break` finds a break
exactly when such an opportunity exists (`findEarlierList_isSome`). -/

/-- **`avoid` between siblings is honoured whenever another legal break point exists among the siblings
already placed**: when `child` does not fit and the value meeting between the last placed sibling and `child`
avoids a break, the loop does not break there but at the earlier opportunity found; if there is none, the
whole container is pushed to the next page (`aborted`) — unless the page was empty when the container was
started (and something was placed): only then is the avoided break taken. Any parent, any loop state. -/
theorem avoid_between_honoured (index : Nat) (pie : Bool) (pb : Brk) (child : PBox) (s : KidsLoop)
    (resume : Option Resume) (hav : avoids false pb = true) :
    (HasBreakList s.newChildren → ∃ kept r', findEarlierList s.newChildren = some (kept, r') ∧
      (concludeKid index pie pb child s none resume).1 =
        some (.stopped (some r') { s with newChildren := kept })) ∧
    (¬ HasBreakList s.newChildren →
      (concludeKid index pie pb child s none resume).1 =
        some (if pie && !s.newChildren.isEmpty then .stopped (some (.node index none)) s
              else .aborted (boxPageStart child) s)) := by
  have hav' : avoidsPage pb = true := hav
  constructor
  · intro hb
    have := (findEarlierList_isSome s.newChildren).mpr hb
    cases hfe : findEarlierList s.newChildren with
    | none => rw [hfe] at this; cases this
    | some kr =>
      obtain ⟨kept, r'⟩ := kr
      exact ⟨kept, r', rfl, by simp [concludeKid, hav', hfe]⟩
  · intro hb
    have hfe : findEarlierList s.newChildren = none := by
      cases hfe : findEarlierList s.newChildren with
      | none => rfl
      | some kr => exact absurd ((findEarlierList_isSome s.newChildren).mp (by rw [hfe]; rfl)) hb
    cases pie <;> cases hne : s.newChildren.isEmpty <;> simp [concludeKid, hav', hfe, hne]

/-- The avoided break is taken **only** when the page would otherwise stay empty: if the loop stops exactly
before `child` although the meeting value avoids it, the page was empty when this container was started and
no legal break existed among the placed siblings. (The other way to stop before `child` is a change of page
name with a non-forcing value: `meetBreak … .2`, handled before `concludeKid`.) -/
theorem avoid_overridden_only_on_empty_page (index : Nat) (pie : Bool) (pb : Brk) (child : PBox) (s : KidsLoop)
    (frag : Option Frag) (resume : Option Resume) (B : List PBox) (i0 : Nat) (sub0 : Option Resume)
    (hgB : GoodList B) (hinv : FullFrom s.newChildren B i0 sub0) (hidx : index = i0 + B.length)
    (hav : avoids false pb = true) (s' s3 : KidsLoop)
    (h : concludeKid index pie pb child s frag resume = (some (.stopped (some (.node index none)) s'), s3)) :
    pie = true ∧ ¬ HasBreakList s.newChildren ∧ frag = none := by
  have hav' : avoidsPage pb = true := hav
  cases frag with
  | some f =>
    cases resume <;> simp [concludeKid] at h
  | none =>
    by_cases hb : HasBreakList s.newChildren
    · obtain ⟨kept, r', hfe, hout⟩ := (avoid_between_honoured index pie pb child s resume hav).1 hb
      rw [h] at hout
      simp only [Option.some.injEq, KidsOutcome.stopped.injEq] at hout
      obtain ⟨m, sub', hr, hm, _⟩ :=
        findEarlierGo_specT _ _ _ _ false (wfList_drop_aux B hgB) (full_partT.2 _ hinv) kept r' hfe
      rw [hr] at hout
      simp only [Resume.node.injEq] at hout
      omega
    · have hout := (avoid_between_honoured index pie pb child s resume hav).2 hb
      rw [h] at hout
      cases pie with
      | false => simp at hout
      | true => exact ⟨rfl, hb, rfl⟩

/-- When the earlier break is taken it is strictly earlier and nothing is lost or reordered:
`C01.find_earlier_conserves` / the segment theorem cover every `findEarlierList` result. -/
theorem earlier_break_conserves (fs : List Frag) (bs : List PBox) (i : Nat) (sub : Option Resume)
    (hN : NoFixedHeightList bs) (hW : WellFormedList bs) (hfull : FullFrom fs bs i sub)
    (kept : List Frag) (r : Resume) (h : findEarlierList fs = some (kept, r)) :
    ∃ m sub', r = .node (i + m) sub' ∧ m < bs.length ∧
      fragLinesList kept ++ linesFromKids bs m sub' = fragLinesList fs :=
  C01.find_earlier_conserves fs bs i sub hN hW hfull kept r h

/-- (d) **Avoided breaks never cause content to be lost or reordered**: the only hypotheses of `C01.pages_conserve`
are no fixed heights and `orphans, widows ≥ 1`; none on `break-before/after/inside` or page names. So whatever
`avoid` does — moving a break earlier, pushing a container to the next page, being overridden — the pages
show exactly the lines of the document, in order. -/
theorem avoid_never_loses_or_reorders (d : Doc) (hN : NoFixedHeight d.root) (hW : WellFormed d.root) (fuel : Nat)
    (pages : List Page) (h : paginate d fuel = some pages) :
    (pages.map (fun p => fragLines p.root)).flatten = linesFrom d.root none :=
  C01.pages_conserve d hN hW fuel pages h

/-! ### non-vacuity

`exDoc`: a block whose last paragraph has `break-after: right`, followed by a block whose paragraph is on the
named page "chap", followed by an unnamed paragraph; 25px pages, first page a right page. The forced break
between the two blocks inserts a blank left page; the named paragraph opens page 3 (a right page, named
"chap"). -/
def exDoc : Doc :=
  { pageH := 25, rootLtr := true,
    root := .block 0 { C01.exStyle with isRoot := true }
      [.block 5 C01.exStyle [.para 1 1 10 C01.exStyle, .para 2 1 10 { C01.exStyle with brkAfter := .right }],
       .block 6 C01.exStyle [.para 3 3 10 { C01.exStyle with page := "chap" }],
       .para 4 1 10 C01.exStyle] }

def exA : PBox := .block 5 C01.exStyle [.para 1 1 10 C01.exStyle, .para 2 1 10 { C01.exStyle with brkAfter := .right }]
def exB : PBox := .block 6 C01.exStyle [.para 3 3 10 { C01.exStyle with page := "chap" }]

/-- Hypotheses of `forced_separates_pages` / `named_page_change` / `no_page_shows_both`. -/
example : NoFixedHeight exDoc.root ∧ WellFormed exDoc.root ∧ UniqueParaIds exDoc.root ∧
    SibAt exDoc.root [] 0 exA exB ∧ forces false (valueBetween exA exB) = true ∧
    boxPageEnd exA ≠ boxPageStart exB ∧ boxPageStart exB ≠ "" ∧ meets exA exB = true ∧ FirstLine exB none := by
  refine ⟨?_, ?_, ?_, ?_, by decide +kernel, by decide +kernel, by decide +kernel, by decide +kernel, ?_⟩
  · simp [exDoc, NoFixedHeight, NoFixedHeightList, C01.exStyle]
  · simp [exDoc, WellFormed, WellFormedList, C01.exStyle]
  · simp [UniqueParaIds, exDoc, paras, parasList]
  · simp [SibAt, exDoc, exA, exB]
  · simp [exB, FirstLine, FirstLineKids, paraStart, skipLine, subSkipOf, skipIdxOf]

/-- What the theorems say on it: pages (side, blank, name, lines); the break checker's observations and verdict. -/
example : (paginate exDoc 20).map (fun ps => ps.map (fun p => (p.type.right, p.type.blank, fragLines p.root))) =
      some [(true, false, [(1, 0), (2, 0)]), (false, true, []),
        (true, false, [(3, 0), (3, 1)]), (false, false, [(3, 2), (4, 0)])] ∧
    (paginate exDoc 20).map (fun ps => ps.map (fun p => p.type.name)) = some ["", "", "chap", "chap"] ∧
    (paginate exDoc 20).map (fun ps => (obsOf exDoc ps).map (fun o => (o.values, o.pageA, o.pageB, o.rightB))) =
      some [([.right, .auto, .auto, .auto], 0, 2, true), ([.auto, .auto, .auto], 3, 3, false),
        ([.auto, .auto], 0, 0, true)] ∧
    (paginate exDoc 20).map (fun ps => BreakTrace.badObs (obsOf exDoc ps)) = some [] :=
  ⟨by decide +kernel, by decide +kernel⟩

/-- The extra hypothesis of `break_checker_accepts_pm` on `exDoc`. -/
example : ∀ ab ∈ sibPairs exDoc.root, forces false (valueBetween ab.1 ab.2) = true →
    requestedSide exDoc.rootLtr (some (valueBetween ab.1 ab.2)) ≠ none → FirstLine ab.2 none := by
  intro ab hab _ _
  simp only [exDoc, sibPairs, sibPairsList, adjPairs, List.append_nil, List.nil_append, List.cons_append,
    List.mem_cons, List.not_mem_nil, or_false] at hab
  rcases hab with rfl | rfl | rfl <;>
    simp [FirstLine, FirstLineKids, paraStart, skipLine, subSkipOf, skipIdxOf]

/-- `avoid_between_honoured`: two placed paragraphs, the second with `break-before: avoid`: an earlier
opportunity exists inside the first paragraph (3 lines, orphans = widows = 1). -/
example : HasBreakList C01.exFrags ∧ (findEarlierList C01.exFrags).isSome = true :=
  ⟨(findEarlierList_isSome _).mp (by decide +kernel), by decide +kernel⟩

/-- `avoid_overridden_only_on_empty_page`: one placed paragraph of a single line (no legal break inside it), the
next sibling does not fit and the meeting value is `avoid`, the page was empty when the container started: the
loop stops before the sibling (the avoided break is taken, the page would otherwise stay empty). -/
def exLoop : KidsLoop :=
  { newChildren := [.para 1 0 C01.exStyle 1 C01.exGeo [(0, 0)]], posY := 10, adjL := [], cur := [], curIsL := false,
    nextPage := { brk := none, page := none }, skip := none }

example : FullFrom exLoop.newChildren [.para 1 1 10 C01.exStyle] 0 none ∧
    GoodList [.para 1 1 10 C01.exStyle] ∧ avoids false .avoid = true ∧
    (concludeKid 1 true .avoid (.para 2 3 10 C01.exStyle) exLoop none none).1.isSome = true ∧
    ¬ HasBreakList exLoop.newChildren := by
  refine ⟨?_, ?_, by decide, by decide +kernel, ?_⟩
  · simp [exLoop, FullFrom, Full, paraStart, skipLine, subSkipOf, Frag.idx]
  · simp [GoodList, Good, C01.exStyle]
  · intro h
    have := (findEarlierList_isSome _).mpr h
    revert this
    decide +kernel

end Wp.C04Pm2
