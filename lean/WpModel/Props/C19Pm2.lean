/-
C19 (determinism) corollaries of the pagination model: layout does not depend on box ids, a successful
pagination does not depend on the fuel.
-/
import WpModel.Lemmas.Pm2Renumber
import WpModel.Props.C02Pm2
import WpModel.Props.C01

namespace Wp.C19Pm2
open Wp Wp.PM

/-- **Renumbering commutes with pagination**: for every function `f` on ids, every document (no hypothesis
at all) and every fuel, paginating the renumbered document gives the renumbered pages — same page types,
resume positions, pending breaks, geometry, lines; only the `id` fields differ. -/
theorem paginate_renumber (f : Nat → Nat) (d : Doc) (fuel : Nat) :
    paginate (d.mapIds f) fuel = (paginate d fuel).map (List.map (Page.mapIds f)) := by
  unfold paginate
  have h1 : firstRight (d.mapIds f) = firstRight d := by
    unfold firstRight Doc.mapIds
    simp
  have h2 : boxPageStart (d.mapIds f).root = boxPageStart d.root := boxPageStart_mapIds f d.root
  rw [h1, h2]
  exact makeAllPages_mapIds f d fuel 0 none _ _

/-- **Layout does not depend on box ids**: two documents that differ only by their ids (equal after erasing
all ids) have the same pages up to ids. -/
theorem paginate_ids_irrelevant (d d' : Doc) (fuel : Nat) (h : d.mapIds (fun _ => 0) = d'.mapIds (fun _ => 0)) :
    (paginate d fuel).map (List.map (Page.mapIds (fun _ => 0))) =
      (paginate d' fuel).map (List.map (Page.mapIds (fun _ => 0))) := by
  rw [← paginate_renumber, ← paginate_renumber, h]

/-- Everything but the ids is literally equal: page types, resume positions and pending breaks of the
renumbered document are those of the original. -/
theorem paginate_renumber_types (f : Nat → Nat) (d : Doc) (fuel : Nat) :
    (paginate (d.mapIds f) fuel).map (List.map (fun p => (p.type, p.resume, p.nextPage))) =
      (paginate d fuel).map (List.map (fun p => (p.type, p.resume, p.nextPage))) := by
  rw [paginate_renumber]
  cases paginate d fuel with
  | none => rfl
  | some ps =>
    simp only [Option.map_some, List.map_map]
    rfl

/-- The fuel is irrelevant (every document with `orphans, widows ≥ 1`): see `C02Pm2.paginate_fuel_irrelevant`;
and two successful runs always agree: `C02Pm2.paginate_fuel_deterministic`. -/
theorem paginate_fuel_irrelevant (d : Doc) (hW : WellFormed d.root) (fuel : Nat)
    (hf : 2 * size d.root ≤ fuel) : paginate d fuel = paginate d (2 * size d.root) :=
  C02Pm2.paginate_fuel_irrelevant d hW fuel hf

/-! Non-vacuity: `C01.exDoc` renumbered by `id ↦ 100 - id` (ids no longer in source order). -/
example : (paginate (C01.exDoc.mapIds (fun i => 100 - i)) 50).map
      (fun ps => ps.map (fun p => (p.type.blank, fragLines p.root))) =
    some [(false, [(99, 0), (99, 1)]), (false, [(99, 2)]), (false, [(97, 0), (97, 1)]),
      (false, [(97, 2), (97, 3)]), (true, []), (false, [(95, 0)])] := by decide +kernel

end Wp.C19Pm2
