/-
C06 — tuple-valued properties, content lists, `anchor` / `lang`, the `find_stylesheets` tests, the
document-level cascade and grid track sizes.  Core Lean only.
-/
import WpModel.Props.C06

namespace Wp.C06
open Wp Wp.Cascade Wp.Computed Wp.Style Wp.StyleDoc Wp.Gen.Units

/-- `tuple(length(style, name, v, …) for v in values)` keeps the arity. -/
theorem mapLength_length (env : Env) (po : Bool) (l r : List Val) (h : mapLength env po l = .ok r) :
    r.length = l.length := by
  simpa using congrArg List.length <|
    (List.mapM_eq_ok_rel2 (mapLength_eq_mapM env po l ▸ h)).map_eq (fun _ => ()) (fun _ => ()) fun _ _ _ => rfl

/-- Each component is computed by `length` on its own: the i-th result is `length` of the i-th
value (so `em` / `rem` / absolute units in `border-spacing`, `border-radius`, `transform-origin`,
`background-position`, `clip`, `size` … refer to the same references as in a single length). -/
theorem mapLength_get (env : Env) (po : Bool) (l r : List Val) (h : mapLength env po l = .ok r)
    (i : Nat) (v : Val) (hv : l[i]? = some v) : ∃ w, r[i]? = some w ∧ length env v none po = .ok w := by
  obtain ⟨hi, rfl⟩ := List.getElem?_eq_some_iff.mp hv
  have hi' : i < r.length := mapLength_length env po l r h ▸ hi
  obtain ⟨_, hx⟩ := (List.mapM_eq_ok_rel2 (mapLength_eq_mapM env po l ▸ h)).getElem i hi'
  exact ⟨r[i], List.getElem?_eq_getElem hi', hx⟩

/-- `border-spacing: 1em 2rem` (pixels only) on concrete references. -/
theorem border_spacing_em_rem (env : Env) (fs rs : Rat) (q r : Rat) (hq : q ≠ 0) (hr : r ≠ 0)
    (hfs : env.fontSize () = .ok fs) (hrs : env.rootFontSize () = .ok rs) :
    lengthTuple env (.tup [.dim q "em", .dim r "rem"]) = .ok (.tup [.num (q * fs), .num (r * rs)]) := by
  have h1 : length env (.dim q "em") none true = .ok (.num (q * fs)) := by
    rw [length_em env q hq none true]; simp only [refSize, hfs]; rfl
  have h2 : length env (.dim r "rem") none true = .ok (.num (r * rs)) := by
    rw [length_rem env r hr none true]; simp only [refSize, hfs, hrs]; rfl
  unfold lengthTuple
  simp only [elems, bind, Except.bind, mapLength, h1, h2]
  rfl

theorem padFour_spec (a b c d : Val) :
    padFour [a] = [a, a, a, a] ∧ padFour [a, b] = [a, b, a, b] ∧
    padFour [a, b, c] = [a, b, c, b] ∧ padFour [a, b, c, d] = [a, b, c, d] := ⟨rfl, rfl, rfl, rfl⟩

theorem padFour_length (l : List Val) (h1 : 1 ≤ l.length) (h4 : l.length ≤ 4) : (padFour l).length = 4 := by
  match l, h1, h4 with
  | [_], _, _ => rfl
  | [_, _], _, _ => rfl
  | [_, _, _], _, _ => rfl
  | [_, _, _, _], _, _ => rfl

/-- `content: normal` is `contents` on an element and `inhibit` on a pseudo-element; `none` is
`inhibit` on both. -/
theorem content_keywords (env : Env) :
    content env (.strs ["normal"]) = .ok (.kw (if env.pseudo then "inhibit" else "contents")) ∧
    content env (.strs ["none"]) = .ok (.kw "inhibit") := by
  constructor <;> rfl

/-- The content-list item kinds that are their own computed value. -/
def passthroughKinds : List String :=
  ["string", "content", "url", "quote", "leader()", "counter()", "counters()", "content()", "element()", "string()"]

/-- A content list made only of strings, counters, `content()` … is its own computed value
(whatever came before it). -/
theorem content_items_passthrough (env : Env) (prev : Option Val) (l : List Val)
    (h : ∀ item ∈ l, ∃ name rest, item = .strs (name :: rest) ∧ name ∈ passthroughKinds) :
    contentItems env prev l = .ok l := by
  induction l generalizing prev with
  | nil => rfl
  | cons item rest ih =>
    obtain ⟨name, tl, he, hn⟩ := h item (by simp)
    subst he
    have hrest : ∀ it ∈ rest, ∃ name rest, it = .strs (name :: rest) ∧ name ∈ passthroughKinds :=
      fun it hit => h it (List.mem_cons_of_mem _ hit)
    simp only [passthroughKinds, List.mem_cons, List.not_mem_nil, or_false] at hn
    rcases hn with rfl | rfl | rfl | rfl | rfl | rfl | rfl | rfl | rfl | rfl <;>
      simp [contentItems, headName, bind, Except.bind, pure, Except.pure, ih _ hrest] <;> decide

/-- `anchor: none` / `lang: none` compute to `None`; `attr(x)` to the element's attribute (or
`None` when absent or empty); `lang: "fr"` to the string. -/
theorem anchor_lang_spec (env : Env) (key : String) :
    anchor env (.kw "none") = .ok .null ∧ lang env (.kw "none") = .ok .null ∧
    anchor env (.strs ["attr()", key]) = .ok (attrOrNone env key) ∧
    lang env (.strs ["attr()", key]) = .ok (attrOrNone env key) ∧
    lang env (.strs ["string", key]) = .ok (.kw key) := by
  refine ⟨rfl, rfl, rfl, rfl, rfl⟩

/-- `find_stylesheets`: an author sheet is used iff its type is `text/css`, its media attribute
selects the device, and — for `<link>` — it has an `href`, its `rel` contains `stylesheet`
(ASCII case-insensitively) and not `alternate`, and the fetch succeeds. -/
theorem sheet_found_iff (device : String) (s : DocSheet) :
    sheetFound device s = true ↔
      s.elem.mime = "text/css" ∧
      (match s.media with | none => True | some m => "all" ∈ m ∨ device ∈ m) ∧
      (s.elem.isLink = true →
        s.elem.hasHref = true ∧ hasLinkType s.elem.rels "stylesheet" = true ∧
        hasLinkType s.elem.rels "alternate" = false ∧ s.elem.fetchOk = true) := by
  -- one case per return point of `sheetFound`, each with its tests as hypotheses
  fun_cases sheetFound device s <;> cases hmed : s.media <;>
    simp_all [← media_applies_iff] <;> grind

private theorem lookup_map_get (st : CStyle Casc) (key : String) :
    lookup key (st.map (fun p => (p.1, p.2.1))) = (st.get key).map (fun r => r.1) := by
  fun_induction CStyle.get key st <;> simp [lookup, *]

/-- Document level: the cascaded value that `ComputedStyle.__missing__` sees for `(element, pseudo)`
and a property is the value of the cascade's winner among all the weighted declarations that the
style attributes, hints and sheets of the document (UA, hints, author sheets found in the document
with their `@import`s and `@media` blocks, user sheets) contribute to that element, in application
order. -/
theorem doc_cascaded_is_winner (doc : Doc) (e : DocElem) (pseudo : Option String) (el : Elem)
    (ds : List (WDecl Casc)) (hd : elementDecls e.attrs (sheetMatches doc e) pseudo = .ok ds)
    (he : elemOf doc e pseudo = .ok el) (key : String) :
    lookup key el.cascaded = (winner (declsFor key ds)).map (fun r => r.1) := by
  unfold elemOf elementCascade at he
  rw [hd] at he
  simp only [Except.map, bind, Except.bind, pure, Except.pure, Except.ok.injEq] at he
  subst he
  simp only
  rw [lookup_map_get, cascade_refines_spec]

/-- `_compute_track_breadth`: the three keywords and flexible lengths (`fr`) are their own computed
value; every other `<length-percentage>` goes through `length` (so `em` / `rem` / `ex` / `ch` are
resolved against the same references as everywhere else). -/
theorem track_breadth_spec (env : Env) (q : Rat) (u : String) :
    computeTrackBreadth env (.kw "auto") = .ok (some (.kw "auto")) ∧
    computeTrackBreadth env (.kw "min-content") = .ok (some (.kw "min-content")) ∧
    computeTrackBreadth env (.kw "max-content") = .ok (some (.kw "max-content")) ∧
    computeTrackBreadth env (.dim q "fr") = .ok (some (.dim q "fr")) ∧
    (u ≠ "fr" → computeTrackBreadth env (.dim q u) = (length env (.dim q u)).map some) := by
  refine ⟨rfl, rfl, rfl, ?_, ?_⟩
  · simp [computeTrackBreadth]
  · intro hu
    simp [computeTrackBreadth, hu]

/-- A track list keeps its shape: line names (even positions) are copied, one computed size per
size (odd positions). -/
theorem track_list_one_size (env : Env) (fuel : Nat) (names1 names2 : Val) (q : Rat) (u : String) (hu : u ≠ "fr") :
    trackSizeFrom env (fuel + 4) [names1, .dim q u, names2] 0 =
      (length env (.dim q u)).map (fun l => [names1, l, names2]) := by
  have hb : (u == "fr") = false := by simpa using hu
  simp only [trackSizeFrom, computeTrackBreadth, hb]
  cases length env (.dim q u) <;> simp [bind, Except.bind, pure, Except.pure, Except.map]

/-- `grid-template-*: none` and `subgrid …` are their own computed value. -/
theorem grid_template_keywords (env : Env) (rest : List Val) :
    gridTemplate env (.kw "none") = .ok (.kw "none") ∧
    gridTemplate env (.tup (.kw "subgrid" :: rest)) = .ok (.tup (.kw "subgrid" :: rest)) := by
  constructor
  · rfl
  · simp [gridTemplate, Val.isKw, headName, bind, Except.bind, pure, Except.pure]

example : hasLinkType ["Alternate", "STYLESHEET"] "stylesheet" = true ∧
    hasLinkType ["Alternate", "STYLESHEET"] "alternate" = true := by decide +kernel
private def exampleSheet : DocSheet :=
  { kind := .author, media := some ["screen", "print"], rules := [],
    elem := { isLink := true, rels := ["x", "StyleSheet"] } }
example : sheetFound "print" exampleSheet = true := by decide +kernel
private def exampleEnv : Env :=
  { fontSize := fun _ => .ok 20, rootFontSize := fun _ => .ok 16, parentFontSize := none,
    parentFontWeight := none, exRatio := 1 / 2, chRatio := 1 / 2, get := fun _ => .ok (.kw "x"),
    specified := fun _ => .ok (.kw "x"), isRoot := true, pseudo := false }
example : (lengthTuple exampleEnv (.tup [.dim 1 "em", .dim 2 "px"])).toOption = some (.tup [.num 20, .num 2]) := by
  decide +kernel
-- `[a] 2em [b] minmax(1em, 1fr) [] repeat(2, [] 1rem [])` at font-size 20px, root 16px
example : (gridTemplate exampleEnv (.tup [.strs ["a"], .dim 2 "em", .strs ["b"],
      .tup [.kw "minmax()", .dim 1 "em", .dim 1 "fr"], .strs [],
      .tup [.kw "repeat()", .num 2, .tup [.strs [], .dim 1 "rem", .strs []]], .strs []])).toOption =
    some (.tup [.strs ["a"], .dim 40 "px", .strs ["b"],
      .tup [.kw "minmax()", .dim 20 "px", .dim 1 "fr"], .strs [],
      .tup [.kw "repeat()", .num 2, .tup [.strs [], .dim 16 "px", .strs []]], .strs []]) := by
  decide +kernel
example : (gridAuto exampleEnv (.tup [.tup [.kw "minmax()", .dim 1 "em", .kw "auto"], .dim 3 "rem"])).toOption =
    some (.tup [.tup [.kw "minmax()", .dim 20 "px", .kw "auto"], .dim 48 "px"]) := by
  decide +kernel
example : (borderImageSlice (.tup [.dim 10 "none", .dim 20 "%", .kw "fill"])).toOption =
    some (.tup [.num 10, .dim 20 "%", .num 10, .dim 20 "%", .kw "fill"]) := by decide +kernel

end Wp.C06
