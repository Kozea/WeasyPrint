/-
C11 — the positioned-box plumbing (`Model/Positioned.lean`: which box lays out an absolutely positioned box, fixed
boxes collected for every page) and fixed boxes across pages (`Model/FixedPages.lean`: pages whose areas differ, nested
fixed boxes, the content kept on the box's own page and on the pages it is repeated on).
-/
import WpModel.Props.C11AbsDoc
import WpModel.Model.Positioned
import WpModel.Model.FixedPages

namespace Wp.C11
open Wp Wp.Positioned

/-! ## Containing block and fixed boxes (`Model/Positioned.lean`) -/

/-- The innermost ancestor decides: if it is positioned it is the owner, else the owner is the one of the ancestors
above it. -/
theorem ownerFrom_append (cur : Option Nat) (i : Nat) (anc : List Position) (p : Position) :
    ownerFrom cur i (anc ++ [p]) = if p = .static then ownerFrom cur i anc else some (i + anc.length) := by
  induction anc generalizing cur i with
  | nil => cases p <;> rfl
  | cons q rest ih =>
    have e : i + 1 + rest.length = i + (rest.length + 1) := by omega
    cases q <;> simp only [List.cons_append, ownerFrom, ih, e, List.length_cons]

/-- **The containing block of an absolutely positioned box is its nearest positioned ancestor, else the page**:
the box that ends up calling `absolute_layout` on the placeholder is the innermost ancestor whose `position`
is not `static` (every ancestor below it is static); when all ancestors are static it is the page. -/
theorem owner_is_nearest_positioned (anc : List Position) :
    (owner .absolute anc = none ∧ ∀ p ∈ anc, p = .static) ∨
    (∃ k, k < anc.length ∧ owner .absolute anc = some k ∧ anc[k]? ≠ some .static ∧
      ∀ j, k < j → j < anc.length → anc[j]? = some .static) := by
  -- from the innermost ancestor outwards
  generalize hl : anc.reverse = l
  induction l generalizing anc with
  | nil => rw [List.reverse_eq_nil_iff.mp hl]; exact .inl ⟨rfl, nofun⟩
  | cons p l ih =>
    obtain rfl := List.reverse_eq_cons_iff.mp hl
    have ih := ih l.reverse (List.reverse_reverse l)
    generalize l.reverse = anc at ih ⊢
    have e : owner .absolute (anc ++ [p]) = if p = .static then owner .absolute anc else some anc.length := by
      simpa [owner] using ownerFrom_append none 0 anc p
    rw [e, List.length_append, List.length_singleton]
    by_cases hp : p = .static
    · rw [if_pos hp]
      rcases ih with ⟨h1, h2⟩ | ⟨k, hk, h1, h2, h4⟩
      · exact .inl ⟨h1, fun q hq => (List.mem_append.mp hq).elim (h2 q) fun h => List.mem_singleton.mp h ▸ hp⟩
      · refine .inr ⟨k, by omega, h1, by rwa [List.getElem?_append_left hk], fun j hj hjl => ?_⟩
        by_cases hl : j < anc.length
        · rw [List.getElem?_append_left hl]; exact h4 j hj hl
        · rw [show j = anc.length by omega, List.getElem?_concat_length, hp]
    · rw [if_neg hp]
      exact .inr ⟨anc.length, by omega, rfl, by rw [List.getElem?_concat_length]; exact fun h => hp (Option.some.inj h),
        fun j hj hjl => by omega⟩

/-- A fixed box always belongs to the page. -/
theorem fixed_owner_is_page (anc : List Position) : owner .fixed anc = none := rfl

example : owner .absolute [.static, .relative, .static, .absolute, .static] = some 3 ∧
    owner .absolute [.static, .static] = none := by decide

/-- **A fixed box is laid out on every page**: every fixed box that `make_page` collects (on whichever page its
source lies) is among the boxes laid out on each page of the document … -/
theorem fixed_on_every_page (pages : List (List FixedBox)) (j : Nat) (f : FixedBox)
    (hf : f ∈ pages.getD j []) (hl : f.late = false) (i : Nat) (hi : i < pages.length) :
    f ∈ pageFixed pages i := by
  have hj : j < pages.length := by
    by_cases h : j < pages.length
    · exact h
    · simp [List.getD, List.getElem?_eq_none (Nat.le_of_not_lt h)] at hf
  have hfj : f ∈ pages[j] := by simpa [List.getD, hj] using hf
  have hc : f ∈ collected pages[j] := by simp [collected, hfj, hl]
  unfold pageFixed
  rcases Nat.lt_trichotomy j i with h | h | h
  · simp only [List.mem_append]; left; left
    simp only [List.mem_flatten, List.mem_map]
    exact ⟨collected pages[j], ⟨pages[j], by
      rw [List.mem_take_iff_getElem]; exact ⟨j, by omega, rfl⟩, rfl⟩, hc⟩
  · subst h; simp only [List.mem_append]; left; right; exact hf
  · simp only [List.mem_append]; right
    simp only [List.mem_flatten, List.mem_map]
    refine ⟨collected pages[j], ⟨pages[j], ?_, rfl⟩, hc⟩
    rw [List.mem_drop_iff_getElem]
    exact ⟨j - (i + 1), by omega, by congr 1; omega⟩

/-- … **at the same place**: `fixedAt` has no page argument, so the position cannot depend on the page; the statement
only records that the placed box is among the placed boxes of both pages. -/
theorem fixed_same_place (cx cy : Rat) (pages : List (List FixedBox)) (i i' : Nat) (f : FixedBox)
    (_h : f ∈ pageFixed pages i) (_h' : f ∈ pageFixed pages i') :
    fixedAt cx cy f ∈ (pageFixed pages i).map (fixedAt cx cy) ∧
    fixedAt cx cy f ∈ (pageFixed pages i').map (fixedAt cx cy) :=
  ⟨List.mem_map_of_mem _h, List.mem_map_of_mem _h'⟩

/-- The rule for "collected too late": the outermost positioned ancestor is absolutely / fixed positioned. -/
theorem collectedLate_iff (anc : List Position) :
    collectedLate anc = true ↔
      ∃ k, k < anc.length ∧ (anc[k]? = some .absolute ∨ anc[k]? = some .fixed) ∧
        ∀ j, j < k → anc[j]? = some .static := by
  fun_induction collectedLate anc with
  | case1 => simp
  | case2 rest ih =>
    rw [ih]
    constructor
    · rintro ⟨k, hk, h1, h2⟩
      refine ⟨k + 1, by simp; omega, by simpa using h1, ?_⟩
      intro j hj; cases j with
      | zero => simp
      | succ j' => simp; exact h2 j' (by omega)
    · rintro ⟨k, hk, h1, h2⟩
      cases k with
      | zero => simp at h1
      | succ k' =>
        refine ⟨k', by simp at hk; omega, by simpa using h1, ?_⟩
        intro j hj; have := h2 (j + 1) (by omega); simpa using this
  | case3 =>
    simp only [Bool.false_eq_true, false_iff]
    rintro ⟨k, hk, h1, h2⟩
    cases k with
    | zero => simp at h1
    | succ k' => have := h2 0 (by omega); simp at this
  | case4 p rest h1 h2 =>
    simp only [true_iff]
    exact ⟨0, by simp, by cases p <;> simp_all, by intro j hj; omega⟩

example : (layoutFixed 20 20 [[⟨1, 5, 5, false⟩], [], [⟨3, 1, 1, false⟩]]) =
    [[(1, 25, 25), (3, 21, 21)], [(1, 25, 25), (3, 21, 21)], [(1, 25, 25), (3, 21, 21)]] := by decide +kernel

open Wp.Absolute

/-! ## Fixed boxes on pages whose areas differ, nested fixed boxes (`Model/FixedPages.lean`) -/

/-- **The offsets of a fixed box refer to the page area it is laid out against**: `left` / `top` are measured from
the area's top-left corner; with `left` (resp. `top`) auto, `right` / `bottom` are measured from its bottom-right
corner: `left + margin box + right = width of the page area` with the area of *that* page. -/
theorem fixedPos_spec (area : Rect) (st : FixedStyle) (x y : Rat) (hw : 0 ≤ st.w)
    (h : fixedPos area st = .ok (x, y)) :
    (∀ l, st.left.resolve area.w = some l → x = area.x + l) ∧
    (∀ r, st.left.resolve area.w = none → st.right.resolve area.w = some r →
      x + (st.w + st.ml + st.mr) + r = area.x + area.w) ∧
    (∀ t, st.top.resolve area.h = some t → y = area.y + t) ∧
    (∀ b, st.top.resolve area.h = none → st.bottom.resolve area.h = some b →
      y + (st.h + st.mt + st.mb) + b = area.y + area.h) := by
  unfold fixedPos at h
  split at h
  · rename_i r hr
    simp only [Except.ok.injEq, Prod.mk.injEq] at h
    obtain ⟨rfl, rfl⟩ := h
    -- a fixed box has a specified width and no `min-width` / `max-width`: the wrapper does nothing
    obtain ⟨⟨hx, _⟩, hy, _⟩ := absoluteBlock_of_width _ area true _ _ 0 0 0 0 r hr (some st.w)
      (absoluteWidth_of_fits _ true area.x area.w rfl hw nofun)
    refine ⟨fun l hl => ?_, fun rt hl hrt => ?_, fun t ht => ?_, fun b ht hb => ?_⟩
    · rw [hx]; exact abs_left_honoured _ true area.x area.w l hl
    · generalize hB : (hboxOf st.toAbs area 0 0 area.x).setWidth (some st.w) = B at hx
      have e1 : B.left = none := by rw [← hB]; exact hl
      have e2 : B.right = some rt := by rw [← hB]; exact hrt
      have e3 : B.width = some st.w := by rw [← hB]; rfl
      rw [hx, usedH_eq, e1, e2, e3, ← hB]
      show area.x + area.w - rt - (0 + 0 + 0 + 0 + st.ml + st.mr) - st.w + (st.w + st.ml + st.mr) + rt = area.x + area.w
      grind
    · have e : (vboxOf st.toAbs area area.y).top = some t := ht
      rw [hy, finalY_eq, e]
    · have e1 : (vboxOf st.toAbs area area.y).top = none := ht
      have e2 : (vboxOf st.toAbs area area.y).bottom = some b := hb
      rw [hy, finalY_eq, e1, e2]
      show area.y + area.h - b - (0 + 0 + 0 + 0 + st.mt + st.mb) - st.h + (st.h + st.mt + st.mb) + b = area.y + area.h
      grind
  · simp at h

mutual
/-- The boxes of a tree of fixed boxes, in tree order. -/
def nodesTree : FixedTree → List (Nat × FixedStyle)
  | .mk id st _ kids => (id, st) :: nodesTrees kids
def nodesTrees : List FixedTree → List (Nat × FixedStyle)
  | [] => []
  | t :: ts => nodesTree t ++ nodesTrees ts
end

mutual
/-- Every box drawn for a collected fixed box — the box itself and every fixed box nested in it at any depth — is
placed by `absolute_box_layout` against the same `area`: that of the page it is drawn on. -/
theorem layoutTree_spec (area : Rect) : ∀ (t : FixedTree) (l : List (Nat × Rat × Rat)),
    layoutTree area t = .ok l →
      l.map (·.1) = (nodesTree t).map (·.1) ∧
      ∀ e ∈ l, ∃ n ∈ nodesTree t, n.1 = e.1 ∧ fixedPos area n.2 = .ok e.2
  | .mk id st late kids, l, h => by
    simp only [layoutTree] at h
    split at h
    · rename_i x y rest hp hk
      simp only [Except.ok.injEq] at h
      obtain ⟨i1, i2⟩ := layoutTrees_spec area kids rest hk
      subst h
      refine ⟨by simp [nodesTree, i1], ?_⟩
      intro e he
      rcases List.mem_cons.mp he with he | he
      · exact ⟨(id, st), by simp [nodesTree], by rw [he], by rw [he]; exact hp⟩
      · obtain ⟨n, hn, h1, h2⟩ := i2 e he
        exact ⟨n, by simp [nodesTree, hn], h1, h2⟩
    · simp at h
    · simp at h
theorem layoutTrees_spec (area : Rect) : ∀ (ts : List FixedTree) (l : List (Nat × Rat × Rat)),
    layoutTrees area ts = .ok l →
      l.map (·.1) = (nodesTrees ts).map (·.1) ∧
      ∀ e ∈ l, ∃ n ∈ nodesTrees ts, n.1 = e.1 ∧ fixedPos area n.2 = .ok e.2
  | [], l, h => by simp [layoutTrees] at h; subst h; simp [nodesTrees]
  | t :: ts, l, h => by
    simp only [layoutTrees] at h
    split at h
    · rename_i a b ha hb
      simp only [Except.ok.injEq] at h
      obtain ⟨i1, i2⟩ := layoutTree_spec area t a ha
      obtain ⟨j1, j2⟩ := layoutTrees_spec area ts b hb
      subst h
      refine ⟨by simp [nodesTrees, i1, j1], ?_⟩
      intro e he
      rcases List.mem_append.mp he with he | he
      · obtain ⟨n, hn, h1, h2⟩ := i2 e he
        exact ⟨n, by simp [nodesTrees, hn], h1, h2⟩
      · obtain ⟨n, hn, h1, h2⟩ := j2 e he
        exact ⟨n, by simp [nodesTrees, hn], h1, h2⟩
    · simp at h
    · simp at h
end

/-- **A fixed box is laid out identically on every page, against the page it is drawn on**: on page `i` of the
document every fixed box drawn there — collected on any page, nested at any depth — is positioned against
`areas[i]` (so by `fixedPos_spec` its offsets refer to the area of page `i`, whatever the area of the page its
source lies on), and the boxes drawn on page `i` are, in tree order, the boxes of the trees `pageTrees pages i`. -/
theorem fixed_boxes_use_their_own_page (areas : List Rect) (pages : List (List FixedTree)) (i : Nat)
    (hi : i < pages.length) (l : List (Nat × Rat × Rat))
    (h : (layoutFixedDoc areas pages)[i]? = some (.ok l)) :
    l.map (·.1) = (nodesTrees (pageTrees pages i)).map (·.1) ∧
    ∀ e ∈ l, ∃ n ∈ nodesTrees (pageTrees pages i), n.1 = e.1 ∧ fixedPos (areas.getD i default) n.2 = .ok e.2 := by
  unfold layoutFixedDoc at h
  rw [List.getElem?_map, List.getElem?_range hi] at h
  simp only [Option.map_some, Option.some.injEq] at h
  exact layoutTrees_spec _ _ _ h

/-- `layoutTree` is a function of the page area and the tree only (congruence; there is no other input). -/
theorem fixed_tree_same (a1 a2 : Rect) (t : FixedTree) (h : a1 = a2) : layoutTree a1 t = layoutTree a2 t := by
  rw [h]

/-- Non-vacuity: an outer fixed box (`right: 10%; bottom: 6px`) declared on page 1 with a nested fixed box
(`left: 5px; top: 8px`), pages with areas (40, 25, 150, 265) and (10, 10, 150, 260): on each page both boxes are
placed against that page's area. -/
example :
    let inner : FixedTree := .mk 2 ⟨.px 5, .auto, .px 8, .auto, 20, 10, 4, 2, 1, 3⟩ false []
    let outer : FixedTree := .mk 1 ⟨.auto, .pct 10, .auto, .px 6, 60, 40, 0, 0, 0, 0⟩ false [inner]
    (layoutFixedDoc [⟨40, 25, 150, 265⟩, ⟨10, 10, 150, 260⟩] [[outer], []]).map Except.toOption =
      [some [(1, 115, 244), (2, 45, 33)], some [(1, 85, 224), (2, 15, 18)]] := by
  decide +kernel

/-! ## The content of a fixed box: its own page against the pages it is repeated on (`Model/FixedPages.lean`) -/

theorem keptFrom_le (limit : Option Rat) (y : Rat) (first : Bool) (hs : List Rat) :
    keptFrom limit y first hs ≤ hs.length := by
  fun_induction keptFrom limit y first hs with
  | case1 => exact Nat.le_refl 0
  | case2 => exact Nat.zero_le _
  | case3 y first h rest _ ih => rw [List.length_cons]; omega

/-- Without a page bottom to respect (`bottom_space = -inf`) nothing is cut. -/
theorem keptFrom_none (y : Rat) (first : Bool) (hs : List Rat) : keptFrom none y first hs = hs.length := by
  induction hs generalizing y first with
  | nil => simp [keptFrom]
  | cons h rest ih =>
    simp only [keptFrom, Bool.and_false, Bool.false_eq_true, if_false, List.length_cons, ih]; omega

/-- Content that ends above the limit is kept whole. -/
theorem keptFrom_fits (l y : Rat) (first : Bool) (hs : List Rat) (hpos : ∀ h ∈ hs, 0 ≤ h)
    (hfit : y + hs.sum ≤ l) : keptFrom (some l) y first hs = hs.length := by
  induction hs generalizing y first with
  | nil => simp [keptFrom]
  | cons h rest ih =>
    have h0 := hpos h (by simp)
    have hr : ∀ h' ∈ rest, 0 ≤ h' := fun h' hh => hpos h' (by simp [hh])
    have hsum : 0 ≤ rest.sum := by
      clear ih hfit hpos
      induction rest with
      | nil => simp
      | cons a t iht =>
        have := hr a (by simp)
        have := iht (fun h' hh => hr h' (by simp [hh]))
        simp; grind
    simp only [List.sum_cons] at hfit
    have hnot : ¬ (y + h > l) := by grind
    simp only [keptFrom, hnot, decide_false, Bool.and_false, Bool.false_eq_true, if_false, List.length_cons]
    rw [ih (y + h) false hr (by grind)]; omega

/-- **A fixed box repeated on another page holds all its content**: `layout_fixed_boxes` never cuts it. -/
theorem fixed_kept_on_other_pages (pageBottom : Rat) (vb : VBox) (cbY cbH : Rat) (hs : List Rat) :
    fixedKept none pageBottom vb cbY cbH hs = hs.length := by
  simp [fixedKept, absBottomSpace, keptFrom_none]

/-- On any page the first block is kept (`page_is_empty_with_no_children`) and nothing is invented. -/
theorem fixed_kept_bounds (base : Option Rat) (pageBottom : Rat) (vb : VBox) (cbY cbH : Rat) (hs : List Rat)
    (hne : hs ≠ []) :
    1 ≤ fixedKept base pageBottom vb cbY cbH hs ∧ fixedKept base pageBottom vb cbY cbH hs ≤ hs.length := by
  refine ⟨?_, keptFrom_le _ _ _ _⟩
  cases hs with
  | nil => exact absurd rfl hne
  | cons h rest => simp [fixedKept, keptFrom]

/-
Full statement (false of the current code, see `Witness.C11.fixed_box_fragmented_on_own_page`):
  theorem fixed_same_content : fixedKept (some 0) pb vb cbY cbH hs = fixedKept none pb vb cbY cbH hs
-/
/-- **A fixed box holds the same content on its own page as on every other page** when that content — laid out at
the box's static position — ends above `page_bottom - bottom_space`, `bottom_space` being the translation that
`absolute_block` is about to apply (`-position_y` when the box is moved by its height). -/
theorem fixed_same_content_partial (pageBottom : Rat) (vb : VBox) (cbY cbH : Rat) (hs : List Rat)
    (hpos : ∀ h ∈ hs, 0 ≤ h)
    (hfit : let r := absoluteHeight vb cbY cbH
      vb.posY + autoZero r.1.mt + vb.bt + vb.pt + hs.sum ≤
        pageBottom - (0 + (if r.2.1 then -r.1.posY else r.2.2))) :
    fixedKept (some 0) pageBottom vb cbY cbH hs = fixedKept none pageBottom vb cbY cbH hs := by
  rw [fixed_kept_on_other_pages]
  simp only [fixedKept, absBottomSpace, Option.map_some]
  exact keptFrom_fits _ _ _ _ hpos hfit

/-- Non-vacuity: `top: 100px` with two 10px blocks on a 320px page with 16px margins fits on its own page. -/
example : fixedKept (some 0) 304 ⟨some 100, none, none, some 0, some 0, 0, 0, 0, 0, 16⟩ 16 288 [10, 10] = 2 ∧
    fixedKept none 304 ⟨some 100, none, none, some 0, some 0, 0, 0, 0, 0, 16⟩ 16 288 [10, 10] = 2 := by
  decide +kernel

end Wp.C11
