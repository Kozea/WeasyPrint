/-
C20 — "… giving the same result as the document without that reference", for the catalog of the PDF: the
`/Names /EmbeddedFiles` name tree (`Doc.embeddedFilesTree`, pdf/__init__.py `generate_pdf`) is that of the document
without the attachments that could not be fetched; when every attachment fails there is no tree at all.
-/
import WpModel.Model.ResourcesDoc
import WpModel.Props.C20Trace

namespace Wp.C20.Catalog
open Wp Wp.Res Wp.Res.Doc

/-- The tree of a run of `write_pdf_attachment` over the metadata attachments (`none` also when the run raised). -/
def treeOf (fetcher : Fetcher) (urls : List String) : Option Nat :=
  match (metadataAttachments fetcher urls).2 with
  | .ok embedded => embeddedFilesTree embedded
  | .error _ => none

/-- The tree exists exactly when something was embedded, and counts it. -/
theorem tree_counts_embedded (embedded : List Nat) (n : Nat) :
    embeddedFilesTree embedded = some n ↔ (embedded ≠ [] ∧ n = embedded.length) := by
  unfold embeddedFilesTree
  cases embedded with
  | nil => simp
  | cons x xs => simp [eq_comm]

/-- When `write_pdf_attachment` returns `None` for every attachment, nothing is embedded … -/
theorem nothing_embedded_when_all_fail (fetcher : Fetcher) (urls : List String)
    (h : ∀ u ∈ urls, (writeAttachment fetcher u).2 = .ok none) : (metadataAttachments fetcher urls).2 = .ok [] := by
  induction urls with
  | nil => rfl
  | cons u rest ih =>
    exact (failure_as_absent_attachment fetcher [] rest u (h u (by simp))).trans (ih fun v hv => h v (by simp [hv]))

/-- … and the catalog gets no `/EmbeddedFiles` name tree: the PDF is that of the document without any attachment
(the clause the harness samples as `absent=CATALOG-DIFF`; seeded regression C20-10 made an empty tree). -/
theorem no_tree_when_all_attachments_fail (fetcher : Fetcher) (urls : List String)
    (h : ∀ u ∈ urls, ∃ e, fetcher u = .raises e) : treeOf fetcher urls = none ∧ treeOf fetcher [] = none := by
  constructor
  · unfold treeOf
    rw [nothing_embedded_when_all_fail fetcher urls fun u hu =>
      (h u hu).elim fun e he => congrArg (·.2) (attachment_failure_is_none fetcher u e he)]
    rfl
  · rfl

/-- `failure_as_absent` (catalog): an attachment whose fetch raises, wherever it stands among the others, leaves the
name tree of the document without it. -/
theorem tree_as_absent (fetcher : Fetcher) (pre post : List String) (url : String) (e : Exc)
    (h : fetcher url = .raises e) : treeOf fetcher (pre ++ url :: post) = treeOf fetcher (pre ++ post) := by
  unfold treeOf
  rw [failure_as_absent_attachment fetcher pre post url (congrArg (·.2) (attachment_failure_is_none fetcher url e h))]

/-- The same on the whole pipeline: a document all of whose `<link rel=attachment>` / `attachments=` entries fail is
written without `/EmbeddedFiles` name tree, whatever else it references and however far `render` / `write_pdf` get. -/
theorem document_has_no_tree_when_all_attachments_fail (d : Doc.Document)
    (h : ∀ u ∈ d.metaAttachments, ∃ e, d.fetcher u = .raises e) : embeddedFilesTree (Doc.run d).embedded = none := by
  rcases (Trace.run_outputs d).2.2.2.2 with he | he
  · rw [he]; rfl
  · have := (no_tree_when_all_attachments_fail d.fetcher d.metaAttachments h).1
    rwa [treeOf, he] at this

/-- Non-vacuity: two attachments, the first one unreachable: one name; both unreachable: no tree. -/
example :
    let f : Fetcher := fun u => if u == "http://a.test/bad.bin" then .raises ⟨"OSError", "reset"⟩
      else .resp ⟨true, none, none, none, ⟨5, false, none, false, true, false⟩⟩
    treeOf f ["http://a.test/bad.bin", "http://a.test/ok.bin"] = some 1 ∧
    treeOf f ["http://a.test/bad.bin", "http://a.test/bad.bin"] = none := by decide +kernel

end Wp.C20.Catalog
