/-
C16 — link annotations in the PDF/UA structure tree (Model/PdfUaLinks): what `pdfua` gets right for every document
(`/StructParent` ↔ `/ParentTree`), and the clause it never satisfies when there is a link (the object reference is not a
kid of a structure element: finding `objr-not-in-structure-tree`, witness in Witness/C16.lean).
-/
import WpModel.Model.PdfUaLinks

namespace Wp.C16
open Wp Wp.PdfUa

/-- `numberLinks` is Python's `enumerate`: the link at position `i` gets the number `start + i`. -/
private theorem numberLinks_eq (s : Nat) (l : List Nat) (k : Nat) :
    numberLinks s k l = (l.zipIdx k).map fun p => (s + p.2, p.2, p.1) := by
  induction l generalizing k with
  | nil => rfl
  | cons a rest ih => simp only [numberLinks, List.zipIdx_cons, List.map_cons, ih]

/-- **struct_parent_consistent** (the clause the independent reader samples on every tagged document, for all inputs of
the model): whatever the pages and their marked-content sequences, the keys of the `/ParentTree` are exactly
`0 … pages + links - 1`, each once (the pages first, so an annotation's key never collides with a page's
`/StructParents`), and for every link annotation `a` with `/StructParent i` the entry `i` is the object reference that
was created for `a`. -/
theorem struct_parent_consistent (pages : List (List Marked)) :
    (pdfuaLinks pages).nums.map (·.1) = List.range (pages.length + (pdfuaLinks pages).objrs.length) ∧
    ∀ a i, (a, i) ∈ (pdfuaLinks pages).structParent →
      pages.length ≤ i ∧ ∃ j, (i, Entry.objr j) ∈ (pdfuaLinks pages).nums ∧ (pdfuaLinks pages).objrs[j]? = some a := by
  simp only [pdfuaLinks, numberLinks_eq, List.map_append, List.map_map, Function.comp_def, List.map_id']
  refine ⟨?_, ?_⟩
  · have e : ∀ l : List Nat, l.zipIdx.map (fun x => pages.length + x.snd) = List.range' pages.length l.length :=
      fun l => by
        show List.map ((pages.length + ·) ∘ Prod.snd) _ = _
        rw [← List.map_map, List.zipIdx_map_snd, List.map_add_range', Nat.add_zero]
    rw [e, List.range_eq_range', List.range_eq_range']
    have := List.range'_append_1 (s := 0) (m := pages.length) (n := (pages.flatMap pageLinks).length)
    rwa [Nat.zero_add] at this
  · intro a i hm
    obtain ⟨⟨b, j⟩, ht, he⟩ := List.mem_map.mp hm
    cases he
    exact ⟨Nat.le_add_right _ _, j, List.mem_append_right _ (List.mem_map.mpr ⟨(b, j), ht, rfl⟩),
      List.mem_zipIdx_iff_getElem?.mp ht⟩

/-- **objr_never_a_kid**: in the structure tree this code builds, no object reference is ever a kid of a structure
element (`kids = [mcid]`), whatever the document. -/
theorem objr_never_a_kid (pages : List (List Marked)) (index : Nat) :
    objrIsKid (pdfuaLinks pages) index = false := by
  simp only [objrIsKid, pdfuaLinks, List.any_map, Bool.eq_false_iff]
  intro h
  simp only [List.any_eq_true, Function.comp] at h
  obtain ⟨_, _, p, hp, hc⟩ := h
  simp only [List.mem_map] at hp
  obtain ⟨q, _, rfl⟩ := hp
  simp [kidsOf] at hc

/-- **objr_is_kid_partial**: the clause of ISO 32000-1 14.7.4.3 ("every object reference is a kid of a structure
element") holds exactly for documents without link annotations in marked content. -/
theorem objr_is_kid_partial (pages : List (List Marked)) :
    (∀ index, index < (pdfuaLinks pages).objrs.length → objrIsKid (pdfuaLinks pages) index = true) ↔
      (pdfuaLinks pages).objrs = [] := by
  constructor
  · intro h
    cases hl : (pdfuaLinks pages).objrs with
    | nil => rfl
    | cons a rest =>
      have := h 0 (by rw [hl]; simp)
      rw [objr_never_a_kid] at this; cases this
  · intro h index hi
    rw [h] at hi; simp at hi

/-- Non-vacuity: two pages, three links. -/
example : (pdfuaLinks [[⟨"P", 0⟩, ⟨"Link", 7⟩, ⟨"Link", 8⟩], [⟨"Link", 12⟩]]).structParent = [(7, 2), (8, 3), (12, 4)] ∧
    (pdfuaLinks [[⟨"P", 0⟩, ⟨"Link", 7⟩, ⟨"Link", 8⟩], [⟨"Link", 12⟩]]).nums =
      [(0, .page), (1, .page), (2, .objr 0), (3, .objr 1), (4, .objr 2)] := by decide

end Wp.C16
