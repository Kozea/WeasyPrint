/-
C07 (part 11) — `font-family`: one family per comma-separated part; an unquoted family is its identifiers joined by
spaces, so that losing a comma merges two families into one (what `var-fallback-commas-dropped` does to a fallback).
-/
import WpModel.Model.FontFamilyC07
import WpModel.Lemmas.C07Generic

namespace Wp.C07
open Wp Wp.Font07

/-- **One family per part, in order**: an accepted value has exactly as many families as comma-separated parts, and
the i-th family is what the i-th part alone gives. -/
theorem font_family_parts : ∀ (parts : List (List FTok)) (out : List String), fontFamily parts = some out →
    out.length = parts.length ∧ parts.map familyOne = out.map some := by
  intro parts out h
  have := (commaList_some familyOne fontFamily rfl
    (fun p rest => by simp only [fontFamily]; cases familyOne p <;> rfl) parts out).mp h
  exact ⟨by simpa using (congrArg List.length this).symm, this⟩

/-- **What a part may be** (`_partial`: css-fonts-4 §3.1 also forbids the CSS-wide keywords as an unquoted family
name — `font-family: inherit, serif` is invalid — which the code does not check: finding
`css-wide-keyword-as-ident`, witness `Witness.C07.font_family_css_wide_as_ident`): a family comes from one string
token, taken as it is, or from a non-empty run of identifier tokens joined by single spaces. -/
theorem font_family_one_partial (toks : List FTok) (f : String) (h : familyOne toks = some f) :
    (∃ v, toks = [.str v] ∧ f = v) ∨
    (toks ≠ [] ∧ (∀ t ∈ toks, ∃ v, t = .ident v) ∧ f = " ".intercalate (toks.map FTok.value)) := by
  have hgen : (if (!toks.isEmpty && toks.all FTok.isIdent) = true then
      some (" ".intercalate (toks.map FTok.value)) else none) = some f →
      (toks ≠ [] ∧ (∀ t ∈ toks, ∃ v, t = .ident v) ∧ f = " ".intercalate (toks.map FTok.value)) := by
    intro hh
    split at hh
    · rename_i hc
      simp only [Bool.and_eq_true, Bool.not_eq_true', List.isEmpty_eq_false_iff, List.all_eq_true] at hc
      cases hh
      refine ⟨hc.1, fun t ht => ?_, rfl⟩
      have := hc.2 t ht
      cases t with
      | ident v => exact ⟨v, rfl⟩
      | str _ | other => simp [FTok.isIdent] at this
    · cases hh
  match toks, h with
  | [.str v], h => left; simp [familyOne] at h; exact ⟨v, rfl, h.symm⟩
  | [], h | [.ident _], h | [.other], h | _ :: _ :: _, h => right; exact hgen (by simpa [familyOne] using h)

/-- Every non-empty run of identifiers is a family (completeness) … -/
theorem font_family_accepts (vs : List String) (hne : vs ≠ []) :
    familyOne (vs.map .ident) = some (" ".intercalate vs) := by
  match vs, hne with
  | [a], _ => simp [familyOne, FTok.isIdent, FTok.value]
  | a :: b :: r, _ => simp [familyOne, FTok.isIdent, FTok.value, List.map_map, Function.comp_def]

/-- … and a lone string is itself. -/
theorem font_family_accepts_string (s : String) : familyOne [.str s] = some s := rfl

/-- **A lost comma merges two families**: `Arial, sans-serif` is two families; the same tokens without the comma
are the single family `Arial sans-serif` — how the dropped commas of a `var()` fallback (finding
`var-fallback-commas-dropped`) change the computed `font-family`. -/
theorem font_family_comma_matters (a b : List String) (ha : a ≠ []) (hb : b ≠ []) :
    fontFamily [a.map .ident, b.map .ident] = some [" ".intercalate a, " ".intercalate b] ∧
    fontFamily [(a ++ b).map .ident] = some [" ".intercalate (a ++ b)] := by
  have hab : a ++ b ≠ [] := by simp [ha]
  constructor
  · simp [fontFamily, font_family_accepts a ha, font_family_accepts b hb]
  · have h := font_family_accepts (a ++ b) hab
    simp only [fontFamily, h]
    rfl

/-- Non-vacuity: `"My Font", Arial Black, serif`; an empty part, a number, a string next to an identifier refuse. -/
example :
    fontFamily [[.str "My Font"], [.ident "Arial", .ident "Black"], [.ident "serif"]]
      = some ["My Font", "Arial Black", "serif"] ∧
    fontFamily [[.ident "a"], []] = none ∧ fontFamily [[.other]] = none ∧
    fontFamily [[.str "x", .ident "a"]] = none ∧ fontFamily [[.str "x", .str "y"]] = none ∧
    fontFamily [] = some [] := by decide +kernel

end Wp.C07
