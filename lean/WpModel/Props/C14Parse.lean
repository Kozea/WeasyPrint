/-
C14 — `parse_page_selectors`: which exceptions of the third-party `tinycss2.nth.parse_nth` can leave it
(the call is wrapped in `try … except (AttributeError, StopIteration, ValueError): return None`, repairs 9ef10c8 and
54b52a1).
-/
import WpModel.Props.C14

namespace Wp.C14
open Wp Wp.PageSel

/-- `try: parse_nth(nth) except (AttributeError, StopIteration, ValueError): return None`: an exception that passes is
the oracle's answer, of a class outside the caught ones. -/
theorem nthValues_raised (e : Option NthRes) (cls : String) (h : nthValues e = .raised cls) :
    e = some (.raised cls) ∧ nthCaught cls = false := by
  revert h
  fun_cases nthValues e <;> intro h <;> cases h
  next hc => exact ⟨rfl, by simpa using hc⟩

theorem parseNth_raised (args : List ArgTok) (table : List NthRes) (cls : String)
    (h : parseNth args table = .raised cls) : NthRes.raised cls ∈ table ∧ nthCaught cls = false := by
  have key : ∀ k, nthValues table[k]? = .raised cls → NthRes.raised cls ∈ table ∧ nthCaught cls = false :=
    fun k hc => ⟨List.mem_of_getElem? (nthValues_raised _ _ hc).1, (nthValues_raised _ _ hc).2⟩
  revert h
  fun_cases parseNth args table <;> intro h <;> cases h
  all_goals exact key _ ‹_›

/-- An exception leaving the inner loop comes from the oracle table of one of the tokens and is not a caught one. -/
theorem parseInner_raised (toks : List Tok) (types : Sel) (cls : String)
    (h : parseInner toks types = .raised cls) :
    ∃ name args table, Tok.func name args table ∈ toks ∧ NthRes.raised cls ∈ table ∧ nthCaught cls = false := by
  fun_induction parseInner toks types
  all_goals try (cases h; done)
  -- case 11: `parse_nth` raised; the other cases that do not reject pass on what the rest of the tokens gives
  case case11 hc =>
    simp only [PRes.raised.injEq] at h; subst h
    rename_i name args table rest' _ _
    exact ⟨name, args, table, by simp, parseNth_raised _ _ _ hc⟩
  all_goals
    rename_i ih
    obtain ⟨n, a, t, hm, ht⟩ := ih h
    exact ⟨n, a, t, by simp [hm], ht⟩

theorem parseOuter_raised (fuel : Nat) (toks : List Tok) (acc : List Sel) (cls : String)
    (h : parseOuter fuel toks acc = .raised cls) :
    ∃ name args table, Tok.func name args table ∈ toks ∧ NthRes.raised cls ∈ table ∧ nthCaught cls = false := by
  fun_induction parseOuter fuel toks acc
  all_goals try (cases h; done)
  case case5 hx _ _ _ hc =>
    cases h
    obtain ⟨n, a, t, hm, ht⟩ := parseInner_raised _ _ _ hc
    exact ⟨n, a, t, (outer_head _ _ _ hx).2.1 _ hm, ht⟩
  case case7 hx _ _ _ _ hpi _ ih =>
    obtain ⟨n, a, t, hm, ht⟩ := ih h
    -- what the inner loop leaves is a suffix of what it was given
    obtain ⟨_, pre, e, _⟩ := parseInner_ok _ _ _ _ hpi
    exact ⟨n, a, t, (outer_head _ _ _ hx).2.1 _ (e ▸ List.mem_append_right pre hm), ht⟩

theorem parse_raised (prelude : List Tok) (cls : String) (h : parsePageSelectors prelude = .raised cls) :
    ∃ name args table, Tok.func name args table ∈ prelude ∧ NthRes.raised cls ∈ table ∧ nthCaught cls = false := by
  unfold parsePageSelectors at h
  simp only at h
  split at h
  · cases h
  · obtain ⟨n, a, t, hm, ht⟩ := parseOuter_raised _ _ _ _ h
    unfold removeWhitespace at hm
    exact ⟨n, a, t, (List.mem_filter.mp hm).1, ht⟩

/-- **`parse_page_selectors` lets through only exceptions that it does not catch** (full strength, no
hypothesis on the oracle): whatever `tinycss2.nth.parse_nth` does on the slices of the `:nth()` arguments, an
exception leaving `parse_page_selectors` has a class other than `AttributeError`, `StopIteration` and `ValueError`.
The classes are those of the findings `page-nth-trailing-sign-crash` (the `AttributeError` of a trailing sign `2n+`,
repair 9ef10c8) and `page-nth-lone-plus-crash` (the `StopIteration` of a lone `+`, repair 54b52a1).  There is no catch-all: `Witness.C14.nth_other_exception_propagates`. -/
theorem parse_raises_only_uncaught (prelude : List Tok) (cls : String)
    (h : parsePageSelectors prelude = .raised cls) :
    cls ≠ "AttributeError" ∧ cls ≠ "StopIteration" ∧ cls ≠ "ValueError" := by
  obtain ⟨_, _, _, _, _, hc⟩ := parse_raised prelude cls h
  refine ⟨?_, ?_, ?_⟩ <;> (intro e; subst e; simp [nthCaught] at hc)

/-- Every entry of every oracle table that is an exception is a caught one (what the repair assumed). -/
def OracleRaisesOnlyCaught (prelude : List Tok) : Prop :=
  ∀ t ∈ prelude, match t with
    | .func _ _ table => ∀ c, NthRes.raised c ∈ table → nthCaught c = true
    | _ => True

/-- **If the oracle raises only exceptions that the repair catches, `parse_page_selectors` never raises**
(what the repairs 9ef10c8 + 54b52a1 establish: the three classes are all that tinycss2 1.5 is known to raise — the
oracle tables of every generated prelude satisfy the hypothesis, checked in every run by the section
`parse-page-selectors`, where an uncaught class would show as `err:<Class>`). -/
theorem parse_total_partial (prelude : List Tok) (ho : OracleRaisesOnlyCaught prelude) (cls : String) :
    parsePageSelectors prelude ≠ .raised cls := by
  intro h
  obtain ⟨n, a, t, hm, ht, hun⟩ := parse_raised prelude cls h
  have := ho _ hm
  simp only at this
  have := this cls ht
  simp [hun] at this

/-- Non-vacuity: the oracle tables of `:nth(2n+):first` (tinycss2 1.5: `AttributeError`) satisfy the hypothesis. -/
example : OracleRaisesOnlyCaught [.literal ":", .func "nth" [.other, .other] [.none, .none, .raised "AttributeError"],
    .literal ":", .ident "first" "first"] := by
  intro t ht
  simp only [List.mem_cons, List.not_mem_nil, or_false] at ht
  rcases ht with rfl | rfl | rfl | rfl <;> simp [nthCaught]

end Wp.C14
