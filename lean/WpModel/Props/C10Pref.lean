/-
C10 — the min-content guarantee of the auto layout, through `table_and_columns_preferred_widths`
(`Model/TablePreferred.lean`) and `auto_table_layout` (`Model/TableWidths.lean`):

* `preferred_min_covers_span1` — the min-content width the function returns for a column is at least
  the min-content width of every non-spanning cell originating in it (`span1_covers_col`: and, before
  the spanning cells are distributed, of its `<col>`); the distribution of spanning cells never lowers it;
* `preferred_min_covers_spanning` — the columns a spanning cell covers, with the spacings between them,
  are together at least as wide as the cell's min-content (max-content) width;
* `auto_column_covers_cells`, `spanning_covers_of_le` — hence, for any column widths nowhere below `o.mins`
  (those of `auto_table_layout` are, under the `CleanBand` hypothesis of `auto_ge_min_partial`:
  `auto_spanning_covers`), every column (every spanned run of columns) is at least as wide as the widest
  unbreakable content of each of its cells.
-/
import WpModel.Props.C10
import WpModel.Model.TablePreferred
import WpModel.Lemmas.Basic.Rat

namespace Wp.C10.Pref
open Wp Wp.Table Wp.TablePref Wp.C10

private theorem le_maxR_left (a b : Rat) : a ≤ maxR a b := (Rat.le_ite_gt b a).2
private theorem le_maxR_right (a b : Rat) : b ≤ maxR a b := (Rat.le_ite_gt b a).1

/-- The span-1 fold only grows its first component and reaches every non-spanning cell. -/
private theorem span1_fold_ge (cells : List PCell) (acc : Rat × Rat × Rat) :
    acc.1 ≤ (cells.foldl (fun acc c =>
      if c.colspan = 1 then
        (maxR acc.1 c.box.minW, maxR acc.2.1 c.box.maxW, maxR acc.2.2 (pctContribution c.box))
      else acc) acc).1 ∧
    ∀ c ∈ cells, c.colspan = 1 → c.box.minW ≤ (cells.foldl (fun acc c =>
      if c.colspan = 1 then
        (maxR acc.1 c.box.minW, maxR acc.2.1 c.box.maxW, maxR acc.2.2 (pctContribution c.box))
      else acc) acc).1 := by
  induction cells generalizing acc with
  | nil => exact ⟨le_refl _, by intro c hc; cases hc⟩
  | cons d ds ih =>
    simp only [List.foldl_cons]
    by_cases hd : d.colspan = 1
    · simp only [hd, if_true]
      obtain ⟨h1, h2⟩ := ih (maxR acc.1 d.box.minW, maxR acc.2.1 d.box.maxW, maxR acc.2.2 (pctContribution d.box))
      refine ⟨le_trans (le_maxR_left _ _) h1, ?_⟩
      intro c hc hcs
      simp only [List.mem_cons] at hc
      rcases hc with rfl | hc
      · exact le_trans (le_maxR_right _ _) h1
      · exact h2 c hc hcs
    · simp only [hd, if_false]
      obtain ⟨h1, h2⟩ := ih acc
      refine ⟨h1, ?_⟩
      intro c hc hcs
      simp only [List.mem_cons] at hc
      rcases hc with rfl | hc
      · exact absurd hcs hd
      · exact h2 c hc hcs

/-- Intermediate min-content width of a column ≥ that of each of its non-spanning cells. -/
theorem span1_covers (inp : PrefIn) (i : Nat) (c : PCell) (hc : c ∈ colCells inp.rows i) (h1 : c.colspan = 1) :
    c.box.minW ≤ (span1 inp i).1 := by
  unfold span1
  exact (span1_fold_ge _ _).2 c hc h1

/-- … and ≥ the min-content width of its `<col>` (nothing is stated for the `<colgroup>`). -/
theorem span1_covers_col (inp : PrefIn) (i : Nat) (b : PBox) (hb : optBox inp.cols i = some b) :
    b.minW ≤ (span1 inp i).1 := by
  unfold span1
  simp only [hb]
  refine le_trans ?_ (span1_fold_ge _ _).1
  cases optBox inp.groups i <;> exact le_maxR_right _ _

private theorem length_mkCols (mins maxs pcts : List Rat) (cons : List Bool) (gw : Nat) :
    (mkCols mins maxs pcts cons gw).length = gw := by simp [mkCols]

private theorem growTo_mono {cols : List ACol} {need have_ : Rat} {cw r : List Rat} {start stop : Nat}
    (h : growTo cols need have_ cw start stop = .ok r) : LeList cw r := by
  revert h
  fun_cases growTo cols need have_ cw start stop <;> intro h
  · exact excess_ge cols _ cw r start (some stop) (by linarith) h
  · cases h
    exact LeList.refl _

/-- `Σ_{k<n} l[a+k]`: the sum the code takes over `column_slice`. -/
def spanSum (l : List Rat) (a n : Nat) : Rat := sumR ((List.range n).map (fun k => nth l (a + k)))

/-- The horizontal spacing a spanning cell covers besides its columns. -/
def spanSpacing (collapse : Bool) (spacing : Rat) (c : PCell) : Rat :=
  if collapse then 0 else ((c.colspan : Rat) - 1) * spacing

private theorem spanCellStep_ok {collapse : Bool} {spacing : Rat} {pcts : List Rat} {cons : List Bool}
    {gw : Nat} {st st' : List Rat × List Rat} {c : PCell}
    (h : spanCellStep collapse spacing pcts cons gw st c = .ok st') :
    growTo (mkCols st.1 st.2 pcts cons gw) c.box.minW
      (spanSum st.1 c.gridX c.colspan + spanSpacing collapse spacing c) st.1 c.gridX
      (c.gridX + c.colspan) = .ok st'.1 ∧
    growTo (mkCols st'.1 st.2 pcts cons gw) c.box.maxW
      (spanSum st.2 c.gridX c.colspan + spanSpacing collapse spacing c) st.2 c.gridX
      (c.gridX + c.colspan) = .ok st'.2 := by
  have e : ∀ l : List Rat, sumR (List.map (nth l) (List.map (fun x => c.gridX + x) (List.range c.colspan)))
      = spanSum l c.gridX c.colspan := fun l => by unfold spanSum; rw [List.map_map]; rfl
  revert h
  fun_cases spanCellStep collapse spacing pcts cons gw st c <;> intro h <;> cases h
  next hmins _ hmaxs => exact ⟨e _ ▸ hmins, e _ ▸ hmaxs⟩

/-- One spanning cell never lowers a column's min- or max-content width. -/
private theorem spanCellStep_mono {collapse : Bool} {spacing : Rat} {pcts : List Rat} {cons : List Bool}
    {gw : Nat} {st st' : List Rat × List Rat} {c : PCell}
    (h : spanCellStep collapse spacing pcts cons gw st c = .ok st') :
    LeList st.1 st'.1 ∧ LeList st.2 st'.2 := by
  obtain ⟨hmins, hmaxs⟩ := spanCellStep_ok h
  exact ⟨growTo_mono hmins, growTo_mono hmaxs⟩

private theorem spanCells_mono {collapse : Bool} {spacing : Rat} {pcts : List Rat} {cons : List Bool}
    {gw : Nat} {cells : List PCell} {st st' : List Rat × List Rat}
    (h : spanCells collapse spacing pcts cons gw st cells = .ok st') :
    LeList st.1 st'.1 ∧ LeList st.2 st'.2 := by
  fun_induction spanCells collapse spacing pcts cons gw st cells with
  | case1 => cases h; exact ⟨LeList.refl _, LeList.refl _⟩
  | case2 => cases h
  | case3 st c cs st1 hstep ih =>
    obtain ⟨a, b⟩ := spanCellStep_mono hstep
    obtain ⟨a', b'⟩ := ih h
    exact ⟨a.trans a', b.trans b'⟩

private theorem LeList_nth : ∀ {a b : List Rat}, LeList a b → ∀ i, i < a.length → nth a i ≤ nth b i
  | [], [], _, _, hi => absurd hi (Nat.not_lt_zero _)
  | _ :: _, _ :: _, h, 0, _ => h.1
  | _ :: _, _ :: _, h, j + 1, hi => LeList_nth h.2 j (Nat.lt_of_succ_lt_succ hi)
  | [], _ :: _, h, _, _ => h.elim
  | _ :: _, [], h, _, _ => h.elim

private theorem preferredWidths_ok {inp : PrefIn} {o : PrefOut} (h : preferredWidths inp = .ok o) :
    ∃ pcts cons, spanCells inp.collapse inp.spacing pcts cons (gridWidth inp.rows)
      (((List.range (gridWidth inp.rows)).map (span1 inp)).map (·.1),
       ((List.range (gridWidth inp.rows)).map (span1 inp)).map (·.2.1))
      (colspanCells inp.rows (gridWidth inp.rows)) = .ok (o.mins, o.maxs) := by
  revert h
  fun_cases preferredWidths inp <;> intro h <;> cases h
  exact ⟨_, _, ‹_›⟩

/-- **preferred_min_covers_span1.** The column min-content widths returned by
`table_and_columns_preferred_widths` cover every non-spanning cell: for each column `i` and each cell
of span 1 originating in it, `mins[i] ≥` the cell's min-content width (the widest unbreakable content
plus its padding and borders).  The distribution of the spanning cells only ever adds width. -/
theorem preferred_min_covers_span1 (inp : PrefIn) (o : PrefOut) (h : preferredWidths inp = .ok o)
    (i : Nat) (hi : i < gridWidth inp.rows) (c : PCell) (hc : c ∈ colCells inp.rows i) (h1 : c.colspan = 1) :
    c.box.minW ≤ nth o.mins i := by
  obtain ⟨pcts, cons, hcells⟩ := preferredWidths_ok h
  have hlen : ∀ f : Rat × Rat × Rat → Rat,
      (((List.range (gridWidth inp.rows)).map (span1 inp)).map f).length = gridWidth inp.rows :=
    fun f => by rw [List.length_map, List.length_map, List.length_range]
  obtain ⟨hle, _⟩ := spanCells_mono hcells
  refine le_trans ?_ (LeList_nth hle i (by rw [hlen]; exact hi))
  have : nth (((List.range (gridWidth inp.rows)).map (span1 inp)).map (·.1)) i = (span1 inp i).1 := by
    unfold nth
    rw [List.map_map, List.getElem?_map, List.getElem?_range hi]
    rfl
  rw [this]
  exact span1_covers inp i c hc h1

private theorem spanSum_succ (l : List Rat) (a n : Nat) :
    spanSum l a (n + 1) = spanSum l a n + nth l (a + n) := by
  unfold spanSum
  rw [List.range_succ, List.map_append, sumR_append]
  simp

private theorem spanSum_le {x y : List Rat} (hle : LeList x y) (a n : Nat) (hin : a + n ≤ x.length) :
    spanSum x a n ≤ spanSum y a n := by
  induction n with
  | zero => simp [spanSum]
  | succ k ih =>
    rw [spanSum_succ, spanSum_succ]
    have h1 := ih (by omega)
    have h2 := LeList_nth hle (a + k) (by omega)
    linarith

private theorem spanSum_eq_window (l : List Rat) (a n : Nat) (hin : a + n ≤ l.length) :
    spanSum l a n = sumR ((l.drop a).take n) := by
  unfold spanSum
  congr 1
  apply List.ext_getElem
  · rw [List.length_map, List.length_range, List.length_take, List.length_drop]
    omega
  · intro i h1 h2
    rw [List.length_map, List.length_range] at h1
    rw [List.getElem_map, List.getElem_range, List.getElem_take, List.getElem_drop]
    unfold nth
    rw [List.getElem?_eq_getElem (by omega)]

/-- Two lists that agree outside `[a, a+n)` differ in total by what they differ inside. -/
private theorem sum_diff_inside (r cw : List Rat) (hlen : r.length = cw.length) (a n : Nat)
    (hin : a + n ≤ cw.length) (hout : ∀ j, ¬ (a ≤ j ∧ j < a + n) → r[j]? = cw[j]?) :
    sumR r - sumR cw = spanSum r a n - spanSum cw a n := by
  have htake : r.take a = cw.take a := List.ext_getElem? fun i => by
    rw [List.getElem?_take, List.getElem?_take]
    split
    · exact hout i (by omega)
    · rfl
  have hdrop : r.drop (a + n) = cw.drop (a + n) := List.ext_getElem? fun i => by
    rw [List.getElem?_drop, List.getElem?_drop]
    exact hout _ (by omega)
  rw [spanSum_eq_window r a n (hlen ▸ hin), spanSum_eq_window cw a n hin, sumR_take_drop, sumR_take_drop,
    ← sumR_take_add_drop r (a + n), ← sumR_take_add_drop cw (a + n), htake, hdrop]
  ring

/-- `distribute_excess_width` on a non-empty slice inside the grid adds the excess *to the slice*. -/
theorem excess_slice_sum {cols : List ACol} {ex : Rat} {cw r : List Rat} {a n : Nat}
    (hlen : cw.length = cols.length) (hn : 0 < n) (hin : a + n ≤ cw.length)
    (h : distributeExcess cols ex cw a (some (a + n)) = .ok r) :
    spanSum r a n = spanSum cw a n + ex := by
  obtain ⟨r', hr', hl, hs⟩ := excess_sum cols ex cw a (some (a + n)) hlen
  rw [hr'] at h
  injection h with h
  subst h
  have h6 : selCount (group6 a (some (a + n))) 0 cols ≠ 0 := by
    apply selCount_ne_zero_of _ cols 0 a (by omega)
    unfold group6 inSlice
    simp
    omega
  simp only [h6, ne_eq, not_false_eq_true, if_true] at hs
  have hout : ∀ j, ¬ (a ≤ j ∧ j < a + n) → r'[j]? = cw[j]? := by
    intro j hj
    apply excess_outside cols ex cw r' a (some (a + n)) hlen hr' j
    unfold inSlice
    simp only [Bool.and_eq_false_iff, decide_eq_false_iff_not]
    by_cases h1 : a ≤ j
    · right; intro h2; exact hj ⟨h1, h2⟩
    · left; exact h1
  have := sum_diff_inside r' cw hl a n hin hout
  linarith

private theorem growTo_covers {cols : List ACol} {need sp : Rat} {cw r : List Rat} {a n : Nat}
    (hlen : cw.length = cols.length) (hn : 0 < n) (hin : a + n ≤ cw.length)
    (h : growTo cols need (spanSum cw a n + sp) cw a (a + n) = .ok r) :
    need ≤ spanSum r a n + sp := by
  revert h
  fun_cases growTo cols need (spanSum cw a n + sp) cw a (a + n) <;> intro h
  · linarith [excess_slice_sum hlen hn hin h]
  · cases h
    exact not_lt.mp ‹_›

private theorem spanCells_covers {collapse : Bool} {spacing : Rat} {pcts : List Rat} {cons : List Bool}
    {gw : Nat} {cells : List PCell} {st st' : List Rat × List Rat} (h1 : st.1.length = gw)
    (h2 : st.2.length = gw) (h : spanCells collapse spacing pcts cons gw st cells = .ok st')
    (c : PCell) (hc : c ∈ cells) (hpos : 0 < c.colspan) (hin : c.gridX + c.colspan ≤ gw) :
    c.box.minW ≤ spanSum st'.1 c.gridX c.colspan + spanSpacing collapse spacing c ∧
    c.box.maxW ≤ spanSum st'.2 c.gridX c.colspan + spanSpacing collapse spacing c := by
  fun_induction spanCells collapse spacing pcts cons gw st cells with
  | case1 => cases hc
  | case2 => cases h
  | case3 st d ds st1 hstep ih =>
    obtain ⟨m1, m2⟩ := spanCellStep_mono hstep
    have l1 : st1.1.length = gw := m1.length_eq ▸ h1
    have l2 : st1.2.length = gw := m2.length_eq ▸ h2
    simp only [List.mem_cons] at hc
    rcases hc with rfl | hc
    · -- this cell: covered right after its step, and the later steps only add
      obtain ⟨n1, n2⟩ := spanCells_mono h
      obtain ⟨hmins, hmaxs⟩ := spanCellStep_ok hstep
      have c1 := growTo_covers (by rw [length_mkCols, h1]) hpos (by rw [h1]; exact hin) hmins
      have c2 := growTo_covers (by rw [length_mkCols, h2]) hpos (by rw [h2]; exact hin) hmaxs
      have s1 := spanSum_le n1 c.gridX c.colspan (by rw [l1]; exact hin)
      have s2 := spanSum_le n2 c.gridX c.colspan (by rw [l2]; exact hin)
      constructor <;> linarith
    · exact ih l1 l2 h hc

/-- **preferred_min_covers_spanning.** For every spanning cell inside the grid, the min-content
(resp. max-content) widths of the columns it spans, plus the border spacings between them, are at
least the cell's own min-content (resp. max-content) width: `distribute_excess_width` adds exactly the
missing width to the cell's slice, and later cells only ever add more. -/
theorem preferred_min_covers_spanning (inp : PrefIn) (o : PrefOut) (h : preferredWidths inp = .ok o)
    (c : PCell) (hc : c ∈ colspanCells inp.rows (gridWidth inp.rows)) (hpos : 0 < c.colspan)
    (hin : c.gridX + c.colspan ≤ gridWidth inp.rows) :
    c.box.minW ≤ spanSum o.mins c.gridX c.colspan + spanSpacing inp.collapse inp.spacing c ∧
    c.box.maxW ≤ spanSum o.maxs c.gridX c.colspan + spanSpacing inp.collapse inp.spacing c := by
  obtain ⟨pcts, cons, hcells⟩ := preferredWidths_ok h
  exact spanCells_covers (by simp) (by simp) hcells c hc hpos hin

/-- The returned lists have one entry per grid column. -/
theorem mins_length {inp : PrefIn} {o : PrefOut} (h : preferredWidths inp = .ok o) :
    o.mins.length = gridWidth inp.rows := by
  obtain ⟨pcts, cons, hcells⟩ := preferredWidths_ok h
  rw [← (spanCells_mono hcells).1.length_eq]
  simp

/-- **auto_column_covers_cells.** End to end: take the tuple computed by
`table_and_columns_preferred_widths` and column widths `cw` that are nowhere below its min-content
widths (as those `auto_table_layout` derives from it are: `auto_ge_min_partial`); then every column is
at least as wide as each non-spanning cell's min-content width. -/
theorem auto_column_covers_cells (inp : PrefIn) (o : PrefOut) (h : preferredWidths inp = .ok o)
    (cw : List Rat) (hle : LeList o.mins cw) (i : Nat) (hi : i < gridWidth inp.rows)
    (c : PCell) (hc : c ∈ colCells inp.rows i) (h1 : c.colspan = 1) : c.box.minW ≤ nth cw i :=
  le_trans (preferred_min_covers_span1 inp o h i hi c hc h1) (LeList_nth hle i (by rw [mins_length h]; exact hi))

/-- The same for spanning cells: over column widths `cw` nowhere below the min-content widths, the columns a
cell spans plus the spacings between them are at least as wide as the cell's min-content width. -/
theorem spanning_covers_of_le (inp : PrefIn) (o : PrefOut) (h : preferredWidths inp = .ok o)
    (cw : List Rat) (hle : LeList o.mins cw)
    (c : PCell) (hc : c ∈ colspanCells inp.rows (gridWidth inp.rows)) (hpos : 0 < c.colspan)
    (hin : c.gridX + c.colspan ≤ gridWidth inp.rows) :
    c.box.minW ≤ spanSum cw c.gridX c.colspan + spanSpacing inp.collapse inp.spacing c := by
  have h2 := (preferred_min_covers_spanning inp o h c hc hpos hin).1
  have h4 := spanSum_le hle c.gridX c.colspan (by rw [mins_length h]; exact hin)
  linarith

/-- **auto_spanning_covers.** End to end for spanning cells: the columns a cell spans, as laid out by
`auto_table_layout`, plus the spacings between them, are at least as wide as the cell's min-content
width — the cell's box (`cell_extent`) holds its widest unbreakable content. -/
theorem auto_spanning_covers (inp : PrefIn) (o : PrefOut) (h : preferredWidths inp = .ok o)
    (a : Rat) (cols : List ACol) (cw : List Rat) (b : String)
    (hcols : guess0 cols = o.mins)
    (hauto : autoColumns a cols = .ok (cw, b)) (hwf : WfCols cols)
    (hmin : sumR (guess0 cols) ≤ a) (ha : 0 ≤ a) (hband : CleanBand a cols)
    (hlen : o.mins.length = gridWidth inp.rows)
    (c : PCell) (hc : c ∈ colspanCells inp.rows (gridWidth inp.rows)) (hpos : 0 < c.colspan)
    (hin : c.gridX + c.colspan ≤ gridWidth inp.rows) :
    c.box.minW ≤ spanSum cw c.gridX c.colspan + spanSpacing inp.collapse inp.spacing c :=
  spanning_covers_of_le inp o h cw (hcols ▸ auto_ge_min_partial a cols cw b hauto hwf.min_le_max hmin ha hband) c hc hpos hin

example : (preferredWidths ⟨false, 2, [[⟨0, 1, 1, ⟨10, 30, .auto, 0, none⟩⟩, ⟨1, 1, 1, ⟨20, 20, .px 20, 0, none⟩⟩],
    [⟨0, 2, 1, ⟨50, 60, .auto, 0, none⟩⟩]], [], [], none, 0, none⟩).toOption.map (fun o => (o.mins, o.maxs, o.tmin)) =
    some ([28, 20], [38, 20], 54) := by decide +kernel

end Wp.C10.Pref
