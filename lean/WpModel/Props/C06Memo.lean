/-
C06 — `lazy_eq_eager`: the memoising `ComputedStyle` dict returns, for every sequence of key reads
in any order (with repeats), exactly the values of the function it memoises (`Style.computedKey`),
provided no exception strikes after an early `self[key] = value` (which cannot happen on the root
element).  The hypothesis is necessary: `Witness.C06.stale_after_exception`.
The reading functions of `Model/StyleMemo` are built from two shapes, `self[key]` (a hit, or a miss that
runs `__missing__`) and a read made first for its failure only; there is one rule for each
(`Faithful.cached`, `Faithful.seq`) and one leaf (`missingCoreM`).
Core Lean only.
-/
import WpModel.Model.StyleMemo
import WpModel.Props.C06

namespace Wp.C06
open Wp Wp.Cascade Wp.Computed Wp.Style Wp.StyleMemo Wp.Gen.Units

/-- Every stored value is the value of the memoised function. -/
def Sound (c : Ctx) (m : Memo) : Prop := ∀ k v, lookup k m = some v → pure' c k = .ok v

/-- No read of this style can fail after an early store. -/
def NoStale (c : Ctx) : Prop := ∀ key, staleAfterFailure c.e c.parent key = none

theorem sound_nil (c : Ctx) : Sound c [] :=
  fun _ _ h => nomatch h

private theorem sound_cons {c : Ctx} {m : Memo} {key : String} {r : Val} (hs : Sound c m)
    (hr : pure' c key = .ok r) : Sound c ((key, r) :: m) := by
  intro k v h
  simp only [lookup] at h
  by_cases hk : (key == k) = true
  · simp [hk] at h
    have : key = k := by simpa using hk
    subst this; subst h; exact hr
  · simp [hk] at h
    exact hs k v h

private theorem peek_eq {c : Ctx} {m : Memo} (hs : Sound c m) (k : String) : peek c m k = pure' c k := by
  unfold peek
  cases h : lookup k m with
  | none => rfl
  | some v => exact (hs k v h).symm

theorem float_display_have_computers :
    lookup "float" computerFunctions ≠ none ∧ lookup "display" computerFunctions ≠ none := by decide +kernel

private theorem pure_of_no_computer (c : Ctx) (k : String) (h : lookup k computerFunctions = none) :
    pure' c k = (specified c.e c.parent k).map (fun r => r.1) := by
  have hf : k ≠ "float" := fun e => float_display_have_computers.1 (e ▸ h)
  have hd : k ≠ "display" := fun e => float_display_have_computers.2 (e ▸ h)
  unfold pure'
  rw [computedKey_ordinary k hf hd, computedKeyCore_eq]
  simp only [compute_unregistered h]
  cases specified c.e c.parent k with
  | error err => rfl
  | ok r => obtain ⟨v, st⟩ := r; cases st <;> rfl

/-- Under a sound dict the computing functions see exactly the environment of the pure function. -/
private theorem envM_eq {c : Ctx} {m : Memo} (hs : Sound c m) :
    envM c m = fullEnv c.e c.parent c.root c.ex c.ch := by
  have h1 : (fun _ : Unit => (peek c m "font_size").bind numOf) =
      ownFontSize c.e c.parent c.root c.ex c.ch := by
    funext u
    rw [peek_eq hs]
    cases u
    exact (own_font_size_is_computed c.e c.parent c.root c.ex c.ch).symm
  unfold envM fullEnv
  simp only [h1]
  congr 1
  funext k
  cases h : lookup k computerFunctions with
  | some f => rfl
  | none =>
    simp only []
    rw [peek_eq hs, pure_of_no_computer c k h]
    cases specified c.e c.parent k <;> rfl

/-- `__missing__` (after its first lines) against the pure function, with the dict it leaves. -/
private theorem missingCore_spec {c : Ctx} {m : Memo} (hs : Sound c m) {key : String}
    (hn : staleAfterFailure c.e c.parent key = none) :
    missingCoreM c m key =
      (computedKeyCore c.e c.parent c.root c.ex c.ch key,
       match computedKeyCore c.e c.parent c.root c.ex c.ch key with
       | .ok r => (key, r) :: m
       | .error _ => m) := by
  unfold missingCoreM computedKeyCore specified
  rw [envM_eq hs]
  cases h123 : specified123 c.e c.parent key with
  | error err => rfl
  | ok r =>
    obtain ⟨v3, st3⟩ := r
    simp only [bind, Except.bind]
    cases h4 : specified4 c.e c.parent key v3 st3 with
    | error err =>
      cases st3 with
      | none => rfl
      | some s =>
        unfold staleAfterFailure at hn
        rw [h123] at hn
        simp only [h4] at hn
        cases hn
    | ok r4 =>
      obtain ⟨v, st⟩ := r4
      cases st with
      | true => rfl
      | false =>
        simp only [Bool.false_eq_true, if_false]
        cases compute (fullEnv c.e c.parent c.root c.ex c.ch) key v <;> rfl

private theorem pure_plain (c : Ctx) (key : String) (hf : key ≠ "float") (hd : key ≠ "display") :
    pure' c key = computedKeyCore c.e c.parent c.root c.ex c.ch key :=
  computedKey_ordinary key hf hd

/-- `step`, run on a sound dict, returns `val` and leaves a sound dict. -/
def Faithful (c : Ctx) (step : Memo → Except CErr Val × Memo) (val : Except CErr Val) : Prop :=
  ∀ m, Sound c m → (step m).1 = val ∧ Sound c (step m).2

/-- `self[key]`: a hit is the memoised value, a miss runs `step`. -/
theorem Faithful.cached {c : Ctx} {key : String} {step : Memo → Except CErr Val × Memo}
    (h : Faithful c step (pure' c key)) :
    Faithful c (fun m => match lookup key m with | some v => (.ok v, m) | none => step m) (pure' c key) := by
  intro m hs
  dsimp only
  split
  · rename_i v hl; exact ⟨(hs key v hl).symm, hs⟩
  · exact h m hs

/-- A read made only for the failure it may propagate, then the real one. -/
theorem Faithful.seq {c : Ctx} {s1 s2 : Memo → Except CErr Val × Memo} {v1 v2 : Except CErr Val}
    (h1 : Faithful c s1 v1) (h2 : ∀ x, v1 = .ok x → Faithful c s2 v2) :
    Faithful c (fun m => match s1 m with | (.error err, m1) => (.error err, m1) | (.ok _, m1) => s2 m1)
      (v1 >>= fun _ => v2) := by
  intro m hs
  obtain ⟨a, b⟩ := h1 m hs
  dsimp only
  split
  · rename_i err m1 hr; rw [hr] at a b; subst a; exact ⟨rfl, b⟩
  · rename_i x m1 hr; rw [hr] at a b; subst a; exact h2 x rfl m1 b

/-- `__missing__` after its first lines, where the memoised function is `computedKeyCore`. -/
private theorem missingCore_faithful (c : Ctx) (key : String) (hn : staleAfterFailure c.e c.parent key = none)
    (hp : pure' c key = computedKeyCore c.e c.parent c.root c.ex c.ch key) :
    Faithful c (fun m => missingCoreM c m key) (computedKeyCore c.e c.parent c.root c.ex c.ch key) := by
  intro m hs
  dsimp only
  rw [missingCore_spec hs hn]
  refine ⟨rfl, ?_⟩
  cases hc : computedKeyCore c.e c.parent c.root c.ex c.ch key with
  | error err => exact hs
  | ok r => exact sound_cons hs (hp.trans hc)

/-- `specified4` can fail only where it reads the parent: on `text_decoration_*` and `page`, below the root. -/
theorem stale_none (e : Elem) (parent : ParentGet) (key : String)
    (h : parent = none ∨ (isTextDecoration key = false ∧ (key == "page") = false)) :
    staleAfterFailure e parent key = none := by
  fun_cases staleAfterFailure e parent key
  case case1 h4 =>
    unfold specified4 at h4
    rcases h with rfl | ⟨htd, hp⟩
    · simp only [Option.isSome_none, Bool.and_false, Bool.false_eq_true, if_false] at h4
      split at h4 <;> cases h4
    · simp only [htd, hp, Bool.false_and, Bool.false_eq_true, if_false] at h4
      cases h4
  all_goals rfl

private theorem missing_faithful (c : Ctx) (key : String) (hk : staleAfterFailure c.e c.parent key = none) :
    Faithful c (fun m => missingM c m key) (pure' c key) := by
  -- `float` reads `position` first
  have hfl : Faithful c (missingFloatM c) (pure' c "float") := by
    have hp := pure_plain c "position" (by decide) (by decide)
    have hpf : pure' c "float" =
        pure' c "position" >>= fun _ => computedKeyCore c.e c.parent c.root c.ex c.ch "float" := by
      rw [hp]; exact computedKey_float ..
    rw [hpf]
    have hpos : staleAfterFailure c.e c.parent "position" = none :=
      stale_none _ _ _ (.inr ⟨by decide +kernel, by decide +kernel⟩)
    have hflo : staleAfterFailure c.e c.parent "float" = none :=
      stale_none _ _ _ (.inr ⟨by decide +kernel, by decide +kernel⟩)
    exact Faithful.seq (Faithful.cached (hp ▸ missingCore_faithful c _ hpos hp)) fun x hx =>
      missingCore_faithful c "float" hflo (by rw [hpf, hx]; rfl)
  unfold missingM
  by_cases hf : key = "float"
  · subst hf; exact hfl
  · simp only [beq_eq_false_iff_ne.mpr hf, Bool.false_eq_true, if_false]
    by_cases hd : key = "display"
    · subst hd
      simp only [BEq.rfl, if_true]
      have hpd : pure' c "display" =
          pure' c "float" >>= fun _ => computedKeyCore c.e c.parent c.root c.ex c.ch "display" :=
        computedKey_display ..
      rw [hpd]
      exact Faithful.seq (Faithful.cached hfl) fun x hx =>
        missingCore_faithful c "display" hk (by rw [hpd, hx]; rfl)
    · simp only [beq_eq_false_iff_ne.mpr hd, Bool.false_eq_true, if_false]
      have hp := pure_plain c key hf hd
      exact hp ▸ missingCore_faithful c key hk hp

/-- Whatever keys are read on a style, in whatever order and how often, every read returns the value
of the eager function — as long as none of the keys read can fail after an early store. -/
theorem lazy_eq_eager_on (c : Ctx) (keys : List String)
    (hn : ∀ k ∈ keys, staleAfterFailure c.e c.parent k = none)
    (m : Memo) (hs : Sound c m) : readSeq c m keys = keys.map (pure' c) := by
  induction keys generalizing m with
  | nil => rfl
  | cons k ks ih =>
    have hr := Faithful.cached (missing_faithful c k (hn _ (.head _))) m hs
    simp only [readSeq, List.map_cons]
    exact congr (congrArg List.cons hr.1) (ih (fun x hx => hn x (.tail _ hx)) _ hr.2)

/-- `lazy_eq_eager`: the same for every sequence of keys, when no key at all can go stale. -/
theorem lazy_eq_eager (c : Ctx) (hn : NoStale c) (m : Memo) (hs : Sound c m) (keys : List String) :
    readSeq c m keys = keys.map (pure' c) :=
  lazy_eq_eager_on c keys (fun k _ => hn k) m hs

/-- On the root element the hypothesis holds by construction (the post-processing that can fail
after a store reads the parent). -/
theorem root_no_stale (c : Ctx) (hroot : c.parent = none) : NoStale c :=
  fun key => stale_none _ _ key (.inl hroot)

theorem lazy_eq_eager_root (c : Ctx) (hroot : c.parent = none) (keys : List String) :
    readSeq c [] keys = keys.map (pure' c) :=
  lazy_eq_eager c (root_no_stale c hroot) [] (sound_nil c) keys

/-- The memoised function of `ctxOf chain` is `style_for(element)[key]` of the chain model (for an
element that gets a `ComputedStyle`, i.e. is the root or has a cascaded declaration). -/
theorem ctx_pure_eq_styleAt (ex ch : Rat) (chain : List Elem) (c : Ctx) (hc : ctxOf ex ch chain = some c)
    (hne : c.e.cascaded.isEmpty = false ∨ c.parent = none) (key : String) :
    pure' c key = styleAt ex ch chain key := by
  cases chain with
  | nil => simp [ctxOf] at hc
  | cons e rest =>
    cases rest with
    | nil =>
      simp only [ctxOf, Option.some.injEq] at hc
      subst hc
      rfl
    | cons p rest =>
      simp only [ctxOf, Option.some.injEq] at hc
      subst hc
      simp only at hne
      rcases hne with h | h
      · unfold pure' styleAt
        rw [styleAtWith]
        unfold styleKey
        simp only [h, Bool.false_eq_true, if_false]
      · cases h

/-- `lazy_eq_eager` on the chain model: reading any key sequence on the (fresh) style of the
element at the head of a chain returns `style_for(element)[key]` each time. -/
theorem lazy_eq_eager_chain (ex ch : Rat) (chain : List Elem) (c : Ctx) (hc : ctxOf ex ch chain = some c)
    (hne : c.e.cascaded.isEmpty = false ∨ c.parent = none) (hn : NoStale c) (keys : List String) :
    readSeq c [] keys = keys.map (styleAt ex ch chain) := by
  rw [lazy_eq_eager c hn [] (sound_nil c) keys]
  apply List.map_congr_left
  intro k _
  exact ctx_pure_eq_styleAt ex ch chain c hc hne k

-- non-vacuity: a root element read in an order that exercises the pre-reads and the dict hits
example :
    let c : Ctx := ⟨⟨[("display", .val (.strs ["inline", "flow"])), ("float", .val (.kw "left")),
                      ("width", .val (.dim 2 "em")), ("font_size", .val (.dim 150 "%"))], none, [], none⟩,
                    none, fun _ => .ok 16, 1 / 2, 1 / 2⟩
    (readSeq c [] ["display", "width", "float", "display", "font_size"]).map okVal =
      [some (.strs ["block", "flow"]), some (.dim 48 "px"), some (.kw "left"),
       some (.strs ["block", "flow"]), some (.num 24)] := by
  decide +kernel

end Wp.C06
