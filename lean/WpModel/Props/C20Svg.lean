/-
C20 — drawing nested SVG images terminates (`Model/ResourcesSvg.lean`): with the `_drawing` flag, the recursion depth
of `SVGImage.draw` is bounded by the number of distinct image keys the document can produce, whatever the references
between the SVG images are (cycles included), so the depth bound of the model (Python's recursion limit) is never hit.
-/
import WpModel.Model.ResourcesSvg
import WpModel.Props.C20

namespace Wp.C20.Svg
open Wp Wp.Res Wp.Res.Doc Wp.Res.Svg

private theorem drawItems_not_exhausted (fetcher : Fetcher) (opts : Opts) (deeper : Cache → String → Nat → Svg.DrawOut)
    (K : List String) (items : List SvgItem)
    (hitems : ∀ u, SvgItem.image (some u) ∈ items → nestedKey opts u ∈ K)
    (hdeeper : ∀ cache key c, key ∈ K → (deeper cache key c).2.2 = false) (cache : Cache) :
    (drawItems fetcher opts deeper cache items).2.2 = false := by
  induction items generalizing cache with
  | nil => rfl
  | cons it rest ih =>
    have ih := ih (fun u hu => hitems u (List.mem_cons_of_mem _ hu))
    rcases svgItem_cases it with hs | ⟨u, rfl⟩ | ⟨u, rfl, hne⟩
    · rw [drawItems_skip hs]; exact ih cache
    · exact ih cache
    · rw [drawItems_image hne rfl]
      split
      · rfl
      · exact Bool.or_eq_false_iff.mpr ⟨hdeeper _ _ _ (hitems u List.mem_cons_self), ih _⟩
      · exact ih _

/-- `SVG drawing terminates`: when `K` holds the key of the image being drawn and every key a nested `<image>` can
produce, a drawing started with more fuel than `K` has keys never reaches the depth bound — each nested `draw` either
returns at once (the object is being drawn) or sets one more of at most `K.length` flags. -/
theorem drawObject_depth_bounded (fetcher : Fetcher) (opts : Opts) (info : List (Nat × List SvgItem)) (K : List String)
    (hK : ∀ k ∈ nestedKeys opts info, k ∈ K) (fuel : Nat) (drawing : List String) (cache : Cache) (key : String) (c : Nat)
    (hn : drawing.Nodup) (hs : ∀ k ∈ drawing, k ∈ K) (hkey : key ∈ K) (hf : K.length < fuel + drawing.length) :
    (drawObject fetcher opts info fuel drawing cache key c).2.2 = false := by
  induction fuel generalizing drawing cache key c with
  | zero =>
    have := hn.length_le_of_subset fun _ h => hs _ h
    omega
  | succ fuel ih =>
    simp only [drawObject]
    split
    · rfl
    · rename_i hnot
      have hnotin : key ∉ drawing := by simpa using hnot
      apply drawItems_not_exhausted fetcher opts _ K
      · intro u hu
        apply hK
        obtain ⟨items, hi, hu⟩ := List.mem_lookup_getD hu
        simp only [nestedKeys, List.mem_flatMap, List.mem_filterMap]
        exact ⟨(c, items), hi, _, hu, rfl⟩
      · intro cache' key' c' hk'
        apply ih
        · exact List.nodup_cons.mpr ⟨hnotin, hn⟩
        · intro k hk
          rcases List.mem_cons.mp hk with h | h
          · rw [h]; exact hkey
          · exact hs k h
        · exact hk'
        · simp only [List.length_cons]; omega

/-- From the top: any SVG image of any document is drawn to the end within `1 +` (number of nested `<image>`
elements of the document) `+ 1` levels, or any number above — for every fetcher, every cache, every cycle of
references. -/
theorem svg_drawing_terminates_above (fetcher : Fetcher) (opts : Opts) (info : List (Nat × List SvgItem))
    (cache : Cache) (key : String) (c : Nat) (extra : Nat) :
    (drawObject fetcher opts info ((nestedKeys opts info).length + 2 + extra) [] cache key c).2.2 = false := by
  apply drawObject_depth_bounded fetcher opts info (key :: nestedKeys opts info)
  · intro k hk; exact List.mem_cons_of_mem _ hk
  · exact List.nodup_nil
  · intro k hk; simp at hk
  · exact List.mem_cons_self
  · simp only [List.length_cons, List.length_nil]; omega

theorem svg_drawing_terminates (fetcher : Fetcher) (opts : Opts) (info : List (Nat × List SvgItem)) (cache : Cache)
    (key : String) (c : Nat) :
    (drawObject fetcher opts info ((nestedKeys opts info).length + 2) [] cache key c).2.2 = false :=
  svg_drawing_terminates_above fetcher opts info cache key c 0

/-- `svg_drawing_terminates` at the fetcher, options and SVG table of a document: the fuel `Doc.paintSvgs` gives to every
drawing (`Model/ResourcesDoc.lean`) is never used up.  (`paintSvgs` discards the flag, so nothing is stated on it.) -/
theorem paint_depth_bound_never_hit (d : Doc.Document) (cache : Cache) (key : String) (c : Nat) :
    (drawObject d.fetcher d.opts d.svgInfo ((nestedKeys d.opts d.svgInfo).length + 2) [] cache key c).2.2 = false :=
  svg_drawing_terminates d.fetcher d.opts d.svgInfo cache key c

/-! ## the depth bound does not matter -/

private theorem drawItems_congr (fetcher : Fetcher) (opts : Opts) (deeper deeper' : Cache → String → Nat → Svg.DrawOut)
    (h : ∀ cache key c, (deeper cache key c).2.2 = false → deeper' cache key c = deeper cache key c)
    (items : List SvgItem) (cache : Cache) (hx : (drawItems fetcher opts deeper cache items).2.2 = false) :
    drawItems fetcher opts deeper' cache items = drawItems fetcher opts deeper cache items := by
  induction items generalizing cache with
  | nil => rfl
  | cons it rest ih =>
    rcases svgItem_cases it with hs | ⟨u, rfl⟩ | ⟨u, rfl, hne⟩
    · rw [drawItems_skip hs] at hx
      rw [drawItems_skip hs, drawItems_skip hs]
      exact ih cache hx
    · exact congrArg (fun r => (r.1, Ev.call u :: r.2.1, r.2.2)) (ih cache hx)
    · rw [drawItems_image hne rfl] at hx
      rw [drawItems_image hne rfl, drawItems_image hne rfl]
      -- the same answer of `get_image_from_uri` on both sides; only a nested `SVGImage` asks `deeper`
      match (getImage cache fetcher opts ⟨u, .fromImage, some "image/*"⟩).2.2, hx with
      | .error _, _ => rfl
      | .ok none, hx => exact congrArg (fun r => (r.1, _ ++ r.2.1, r.2.2)) (ih _ hx)
      | .ok (some (.svg n)), hx =>
        obtain ⟨h1, h2⟩ := Bool.or_eq_false_iff.mp hx
        dsimp only
        rw [h _ _ n h1, ih _ h2]
      | .ok (some (.raster ..)), hx => exact congrArg (fun r => (r.1, _ ++ r.2.1, r.2.2)) (ih _ hx)

/-- One more level of fuel changes nothing once the bound is not hit. -/
theorem drawObject_fuel_mono (fetcher : Fetcher) (opts : Opts) (info : List (Nat × List SvgItem)) (fuel : Nat)
    (drawing : List String) (cache : Cache) (key : String) (c : Nat)
    (hx : (drawObject fetcher opts info fuel drawing cache key c).2.2 = false) :
    drawObject fetcher opts info (fuel + 1) drawing cache key c = drawObject fetcher opts info fuel drawing cache key c := by
  induction fuel generalizing drawing cache key c with
  | zero => simp [drawObject] at hx
  | succ fuel ih =>
    simp only [drawObject] at hx ⊢
    split
    · rfl
    · rename_i hnot
      simp only [hnot] at hx
      exact drawItems_congr fetcher opts _ _ (fun cache' key' c' hc => ih _ cache' key' c' hc) _ cache hx

/-- `the model's answer does not depend on its depth bound`: with any fuel above the bound of
`svg_drawing_terminates`, the drawing of an SVG image — cache, fetch events — is the one `Doc.run` computes. -/
theorem svg_drawing_fuel_irrelevant (fetcher : Fetcher) (opts : Opts) (info : List (Nat × List SvgItem)) (cache : Cache)
    (key : String) (c : Nat) (extra : Nat) :
    drawObject fetcher opts info ((nestedKeys opts info).length + 2 + extra) [] cache key c =
    drawObject fetcher opts info ((nestedKeys opts info).length + 2) [] cache key c := by
  induction extra with
  | zero => rfl
  | succ n ih =>
    have hx := svg_drawing_terminates_above fetcher opts info cache key c n
    have := drawObject_fuel_mono fetcher opts info _ [] cache key c hx
    rw [show (nestedKeys opts info).length + 2 + (n + 1) = (nestedKeys opts info).length + 2 + n + 1 by omega, this, ih]

/-! ## the order in which the images of a document are painted -/

private theorem paintPass_cases (k : ImgKind) : k.paintPass = 0 ∨ k.paintPass = 1 ∨ k.paintPass = 2 := by
  cases k <;> simp [ImgKind.paintPass]

/-- Every reference is painted in exactly one pass: the paint order is a rearrangement of the references — same
members, same number. -/
theorem paintOrder_mem (refs : List ImgRef) (r : ImgRef) : r ∈ paintOrder refs ↔ r ∈ refs := by
  simp only [paintOrder, List.mem_append, List.mem_filter]
  constructor
  · rintro ((h | h) | h) <;> exact h.1
  · intro h
    rcases paintPass_cases r.kind with h0 | h1 | h2
    · exact Or.inl (Or.inl ⟨h, by simp [h0]⟩)
    · exact Or.inl (Or.inr ⟨h, by simp [h1]⟩)
    · exact Or.inr ⟨h, by simp [h2]⟩

theorem paintOrder_length (refs : List ImgRef) : (paintOrder refs).length = refs.length := by
  simp only [paintOrder, List.length_append]
  induction refs with
  | nil => rfl
  | cons r rest ih =>
    rcases paintPass_cases r.kind with h | h | h <;> simp [h] <;> omega

/-- Backgrounds, border images and masks are painted before the inline content, list markers last; inside a pass the
document order is kept. -/
example :
    let mk (k : ImgKind) (u : String) : ImgRef := ⟨k, some u, none, .fromImage, none, none⟩
    (paintOrder [mk .listStyle "li", mk .img "a", mk .content "c", mk .background "bg", mk .maskBorder "mb"]).map (·.url) =
      [some "bg", some "mb", some "a", some "c", some "li"] := by decide +kernel

/-- Regression input of the repaired finding `svg-self-reference-hang`: an SVG whose two `<image>` elements point at
itself is drawn once; both nested draws return at once, nothing is fetched, the depth bound is not reached. -/
example :
    let o : Opts := ⟨false, none, none⟩
    let self := "http://a.test/a.svg"
    let cache : Cache := [(nestedKey o self, some (.svg 7))]
    drawObject (fun _ => .raises ⟨"LookupError", "unknown"⟩) o [(7, [.image (some self), .image (some self)])] 4 [] cache
      (nestedKey o self) 7 = (cache, [], false) := by decide +kernel

/-- A cycle of two SVG images `a → b → a`: `b` is fetched once while `a` is drawn, its reference back to `a` is cut. -/
example :
    let o : Opts := ⟨false, none, none⟩
    let svgB : Fetched := .resp ⟨true, none, some "image/svg+xml", none, ⟨8, true, none, false, true, false⟩⟩
    let cache : Cache := [(nestedKey o "http://a.test/a.svg", some (.svg 7))]
    (drawObject (fun _ => svgB) o [(7, [.image (some "http://a.test/b.svg")]), (8, [.image (some "http://a.test/a.svg")])]
      5 [] cache (nestedKey o "http://a.test/a.svg") 7).2 = ([.call "http://a.test/b.svg", .body], false) := by decide +kernel

end Wp.C20.Svg
