/-
C19 — `SVGImage.draw` leaves the `_drawing` flags as it found them (`Model/SvgDraw`): a cached SVG image drawn once —
including itself, including other images that include it, failing or not — is the same object afterwards, so drawing it
again (another element, another page, another `write_pdf`, another render sharing the cache) starts from the same state.
-/
import WpModel.Model.SvgDraw
import WpModel.Lemmas.Basic.List

namespace Wp.C19.Svg
open Wp.SvgDraw

private theorem filter_ne_cons (i : Nat) (flags : List Nat) (h : i ∉ flags) :
    (i :: flags).filter (· ≠ i) = flags := by
  simp only [List.filter_cons, ne_eq, not_true_eq_false, decide_false, Bool.false_eq_true, if_false]
  apply List.filter_eq_self.mpr
  intro a ha
  simp only [decide_eq_true_eq]
  intro e; subst e; exact h ha

/-- The loop of one drawing over the images it includes. -/
private def inner (refs : Nat → List Nat) (fails : Nat → Bool) (fuel : Nat) (l : List Nat)
    (acc : List Ev × List Nat) : List Ev × List Nat :=
  l.foldl (fun acc j => (acc.1 ++ (draw refs fails fuel acc.2 j).1, (draw refs fails fuel acc.2 j).2)) acc

private theorem draw_succ (refs : Nat → List Nat) (fails : Nat → Bool) (fuel : Nat) (flags : List Nat) (i : Nat) :
    draw refs fails (fuel + 1) flags i =
      if i ∈ flags then ([.selfInclude i], flags)
      else (.enter i :: (inner refs fails fuel (refs i) ([], i :: flags)).1 ++ (if fails i then [.failed i] else []),
        (inner refs fails fuel (refs i) ([], i :: flags)).2.filter (· ≠ i)) := rfl

/-- **draw_restores_flags**: whatever the reference graph (cycles, self-inclusion), whichever drawings fail, and at
every nesting bound, `draw` returns with exactly the flags it was called with. -/
theorem draw_restores_flags (refs : Nat → List Nat) (fails : Nat → Bool) (fuel : Nat) (flags : List Nat) (i : Nat) :
    (draw refs fails fuel flags i).2 = flags := by
  induction fuel generalizing flags i with
  | zero => rfl
  | succ fuel ih =>
    rw [draw_succ]
    by_cases h : i ∈ flags
    · rw [if_pos h]
    · rw [if_neg h]
      have hfold : ∀ (l : List Nat) (acc : List Ev × List Nat), (inner refs fails fuel l acc).2 = acc.2 := by
        intro l
        induction l with
        | nil => intro acc; rfl
        | cons j rest ihl => intro acc; exact (ihl _).trans (ih acc.2 j)
      rw [hfold]
      exact filter_ne_cons i flags h

/-- Hence drawing the same image twice, from the state in which no image is being drawn (the state of every image
between two uses), gives the same events twice (what a second element, page, write or render sharing the cached image
sees). -/
theorem draw_twice_same (refs : Nat → List Nat) (fails : Nat → Bool) (fuel : Nat) (i : Nat) :
    (draw refs fails fuel (draw refs fails fuel [] i).2 i).1 = (draw refs fails fuel [] i).1 := by
  rw [draw_restores_flags]

/-- Non-vacuity: image 0 includes itself twice and image 1, which includes 0 and fails: one level of each, the nested
draws are stopped by the guard, the failure is swallowed, all flags are down again. -/
example :
    draw (fun i => if i = 0 then [0, 1, 0] else if i = 1 then [0] else []) (fun i => i == 1) 5 [] 0 =
      ([.enter 0, .selfInclude 0, .enter 1, .selfInclude 0, .failed 1, .selfInclude 0], []) := by decide

/-! ### the guard bounds the nesting: no nesting budget is ever needed -/

/-- The stack of images being drawn: duplicate-free, inside the `n` images, and the nesting budget left covers what the
guard allows. -/
def Inv (n fuel : Nat) (flags : List Nat) : Prop :=
  flags.Nodup ∧ (∀ x ∈ flags, x < n) ∧ n + 1 ≤ fuel + flags.length

/-- The reference graph stays inside the `n` images. -/
def Closed (refs : Nat → List Nat) (n : Nat) : Prop := ∀ i, i < n → ∀ j ∈ refs i, j < n

theorem draw_no_outOfFuel (refs : Nat → List Nat) (fails : Nat → Bool) (n : Nat) (hc : Closed refs n)
    (fuel : Nat) (flags : List Nat) (i : Nat) (hi : i < n) (hinv : Inv n fuel flags) :
    Ev.outOfFuel ∉ (draw refs fails fuel flags i).1 := by
  induction fuel generalizing flags i with
  | zero =>
    -- no budget left means `n + 1` images on the stack, but a duplicate-free stack below `n` holds at most `n`
    obtain ⟨hd, hl, hn⟩ := hinv
    have := hd.length_le_of_forall_lt hl
    omega
  | succ fuel ih =>
    rw [draw_succ]
    by_cases h : i ∈ flags
    · simp [h]
    · rw [if_neg h]
      obtain ⟨hd, hl, hn⟩ := hinv
      have hinv' : Inv n fuel (i :: flags) := by
        refine ⟨List.nodup_cons.mpr ⟨h, hd⟩, List.forall_mem_cons.mpr ⟨hi, hl⟩, ?_⟩
        simp only [List.length_cons]
        omega
      have hfold : ∀ (l : List Nat) (evs : List Ev) (st : List Nat), (∀ j ∈ l, j < n) → Inv n fuel st →
          Ev.outOfFuel ∉ evs → Ev.outOfFuel ∉ (inner refs fails fuel l (evs, st)).1 := by
        intro l
        induction l with
        | nil => intro evs st _ _ he; exact he
        | cons j rest ihl =>
          intro evs st hj hst he
          simp only [inner, List.foldl_cons]
          rw [draw_restores_flags refs fails fuel st j]
          apply ihl _ st (fun k hk => hj k (by simp [hk])) hst
          intro hmem
          rcases List.mem_append.mp hmem with hm | hm
          · exact he hm
          · exact ih st j (hj j (by simp)) hst hm
      have hin := hfold (refs i) [] (i :: flags) (hc i hi) hinv' (by simp)
      intro hmem
      simp only [List.mem_cons, List.mem_append] at hmem
      rcases hmem with (hm | hm) | hm
      · cases hm
      · exact hin hm
      · split at hm <;> simp at hm

/-- **draw_needs_no_fuel**: with `n` images whose drawings only draw each other, the guard keeps the nesting below
`n + 1`: a nesting bound of `n + 1` is never reached, whatever the cycles — no `RecursionError`, which is what an
SVG image including itself ran into (in every branch, swallowed each time) before 9598d29. -/
theorem draw_needs_no_fuel (refs : Nat → List Nat) (fails : Nat → Bool) (n : Nat) (hc : Closed refs n)
    (root : Nat) (hr : root < n) : Ev.outOfFuel ∉ (draw refs fails (n + 1) [] root).1 :=
  draw_no_outOfFuel refs fails n hc (n + 1) [] root hr ⟨List.nodup_nil, by simp, by simp⟩

private theorem inner_prefix (refs : Nat → List Nat) (fails : Nat → Bool) (fuel : Nat) (l : List Nat) :
    ∀ acc : List Ev × List Nat, ∃ t, (inner refs fails fuel l acc).1 = acc.1 ++ t := by
  induction l with
  | nil => intro acc; exact ⟨[], by simp [inner]⟩
  | cons j rest ih =>
    intro acc
    obtain ⟨t, ht⟩ := ih (acc.1 ++ (draw refs fails fuel acc.2 j).1, (draw refs fails fuel acc.2 j).2)
    exact ⟨(draw refs fails fuel acc.2 j).1 ++ t, by rw [← List.append_assoc, ← ht]; rfl⟩

/-- A drawing that did not reach the nesting bound is the same under a larger bound. -/
theorem draw_succ_eq (refs : Nat → List Nat) (fails : Nat → Bool) (fuel : Nat) (flags : List Nat) (i : Nat)
    (h : Ev.outOfFuel ∉ (draw refs fails fuel flags i).1) :
    draw refs fails (fuel + 1) flags i = draw refs fails fuel flags i := by
  induction fuel generalizing flags i with
  | zero => simp [draw] at h
  | succ f ih =>
    have hfold : ∀ (l : List Nat) (acc : List Ev × List Nat), Ev.outOfFuel ∉ (inner refs fails f l acc).1 →
        inner refs fails (f + 1) l acc = inner refs fails f l acc := by
      intro l
      induction l with
      | nil => intro acc _; rfl
      | cons j rest ihl =>
        intro acc hno
        obtain ⟨t, ht⟩ := inner_prefix refs fails f rest
          (acc.1 ++ (draw refs fails f acc.2 j).1, (draw refs fails f acc.2 j).2)
        -- the events of drawing `j` are a prefix of the loop's (`inner_prefix`): the bound was not reached there either
        have hj : Ev.outOfFuel ∉ (draw refs fails f acc.2 j).1 := by
          intro hm
          apply hno
          show _ ∈ (inner refs fails f rest _).1
          rw [ht]
          simp [hm]
        simp only [inner, List.foldl_cons]
        rw [ih acc.2 j hj]
        exact ihl _ hno
    rw [draw_succ refs fails (f + 1), draw_succ refs fails f] at *
    by_cases hi : i ∈ flags
    · simp only [if_pos hi]
    · simp only [if_neg hi] at h ⊢
      have hin : Ev.outOfFuel ∉ (inner refs fails f (refs i) ([], i :: flags)).1 := by
        intro hm; apply h; simp [hm]
      rw [hfold (refs i) _ hin]

/-- **draw_fuel_irrelevant**: the nesting bound plays no role from `n + 1` on — the model's `fuel` is not an input of
the behaviour (the real `SVGImage.draw` has none). -/
theorem draw_fuel_irrelevant (refs : Nat → List Nat) (fails : Nat → Bool) (n : Nat) (hc : Closed refs n)
    (root : Nat) (hr : root < n) (k : Nat) :
    draw refs fails (n + 1 + k) [] root = draw refs fails (n + 1) [] root := by
  induction k with
  | zero => rfl
  | succ k ih =>
    have hno : Ev.outOfFuel ∉ (draw refs fails (n + 1 + k) [] root).1 := by
      rw [ih]; exact draw_needs_no_fuel refs fails n hc root hr
    have := draw_succ_eq refs fails (n + 1 + k) [] root hno
    rw [← ih, ← this]
    rfl

example : Closed (fun i => if i = 0 then [0, 1, 0] else if i = 1 then [0] else []) 2 := by
  intro i hi j hj
  have : i = 0 ∨ i = 1 := by omega
  rcases this with rfl | rfl <;> simp at hj <;> omega

end Wp.C19.Svg
