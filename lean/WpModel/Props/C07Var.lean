/-
C07 (part 3) — `resolve_var` always terminates (cycle guard: finitely many custom properties), and on acyclic
custom properties, where textual substitution has a meaning, it returns that substitution: a total statement.
-/
import WpModel.Model.VarSubst
import WpModel.Lemmas.C07Var
import WpModel.Props.C07

namespace Wp.C07
open Wp Wp.Decl Wp.Var

/-! ## Termination: always on finite custom-property sets (cycle guard), and on acyclic ones -/

/-- "Enough fuel" passes from the elements to the list. -/
private theorem fuel_for_list (P : Nat → Tk → Prop) :
    ∀ (l : List Tk), (∀ a ∈ l, ∃ f0, ∀ f, f0 ≤ f → P f a) → ∃ f0, ∀ f, f0 ≤ f → ∀ a ∈ l, P f a
  | [], _ => ⟨0, fun _ _ a ha => by cases ha⟩
  | t :: rest, h => by
    obtain ⟨f1, h1⟩ := h t (by simp)
    obtain ⟨f2, h2⟩ := fuel_for_list P rest (fun a ha => h a (by simp [ha]))
    refine ⟨max f1 f2, fun f hf a ha => ?_⟩
    simp only [List.mem_cons] at ha
    rcases ha with rfl | ha
    · exact h1 f (Nat.le_trans (Nat.le_max_left _ _) hf)
    · exact h2 f (Nat.le_trans (Nat.le_max_right _ _) hf) a ha

private theorem valueStep_of_ok (rv : Tk → R (Option (List Tk))) (a : Tk) (h : ∃ r, rv a = .ok r) :
    ∃ p, valueStep rv a = .ok p := by
  obtain ⟨r, hr⟩ := h
  cases r <;> exact ⟨_, by rw [valueStep, hr]; rfl⟩

private theorem argStep_of_ok (rv : Tk → R (Option (List Tk))) (a : Tk) (h : ∃ r, rv a = .ok r) :
    ∃ p, argStep rv a = .ok p := by
  cases a with
  | fn n l xs => exact valueStep_of_ok rv _ h
  | _ => exact ⟨_, rfl⟩

/-- One unfolding of `resolve_var` on a function that is not `var()` … -/
private theorem resolveVar_fn_eq (env : Env) (seen : List String) (fuel : Nat) (name lname : String)
    (args : List Tk) (parts : List (List Tk)) (hc : checkVar (.fn name lname args) = true)
    (hl : (lname != "var") = true)
    (hm : args.mapM (argStep (resolveVar env seen fuel)) = .ok parts)
    (h2 : resolveVar env seen fuel (.fn name lname parts.flatten) = .ok none) :
    resolveVar env seen (fuel + 1) (.fn name lname args) = .ok (some [Tk.fn name lname parts.flatten]) := by
  rw [resolveVar_fn env seen fuel name lname args hc hl, hm]
  show (resolveVar env seen fuel (.fn name lname parts.flatten) >>= _) = _
  rw [h2]; rfl

/-- … and on a `var()`: the values are resolved with the custom property added to `seen`. -/
theorem resolveVar_var_eq (env : Env) (seen : List String) (fuel : Nat) (name lname : String)
    (args dflt : List Tk) (v : String) (parts : List (List Tk)) (hc : checkVar (.fn name lname args) = true)
    (hl : (lname != "var") = false) (hp : parseArgs args false = some (.ident v :: dflt))
    (hm : (varValues env seen (dashToUnderscore v) dflt).mapM
      (valueStep (resolveVar env (seen ++ [dashToUnderscore v]) fuel)) = .ok parts) :
    resolveVar env seen (fuel + 1) (.fn name lname args) = .ok (some parts.flatten) := by
  rw [resolveVar_var env seen fuel name lname args dflt v hc hl hp, hm]; rfl

/-- From some fuel on, `resolve_var` returns on `t` (called with `seen`). -/
def Returns (env : Env) (seen : List String) (t : Tk) : Prop :=
  ∃ f0, ∀ f, f0 ≤ f → ∃ r, resolveVar env seen f t = .ok r

private theorem returns_no_var (env : Env) (seen : List String) (t : Tk) (hc : checkVar t = false) :
    Returns env seen t := by
  refine ⟨1, fun f hf => ⟨none, ?_⟩⟩
  obtain ⟨g, rfl⟩ : ∃ g, f = g + 1 := ⟨f - 1, by omega⟩
  exact resolveVar_of_no_var env seen g t hc

/-- A function that is not `var()` returns as soon as its arguments do: the rebuilt function has no `var()`. -/
private theorem returns_fn (env : Env) (seen : List String) (name lname : String) (args : List Tk)
    (hc : checkVar (.fn name lname args) = true) (hl : (lname != "var") = true)
    (hargs : ∀ a ∈ args, Returns env seen a) : Returns env seen (.fn name lname args) := by
  obtain ⟨f1, h1⟩ := fuel_for_list (fun f a => ∃ r, resolveVar env seen f a = .ok r) args hargs
  -- one level for the call itself, one for the second call on the rebuilt function
  refine ⟨f1 + 2, fun f hf => ?_⟩
  obtain ⟨g, rfl⟩ : ∃ g, f = g + 2 := ⟨f - 2, by omega⟩
  obtain ⟨parts, hm⟩ := List.mapM_ok_of_forall (f := argStep (resolveVar env seen (g + 1))) args
    (fun a ha => argStep_of_ok _ a (h1 (g + 1) (by omega) a ha))
  exact ⟨some [Tk.fn name lname parts.flatten], resolveVar_fn_eq env seen _ name lname args parts hc hl hm
    (resolveVar_of_no_var env seen g _ (rebuilt_no_var env seen (g + 1) name lname args parts hl hm))⟩

/-- A `var()` returns as soon as the values it stands for do. -/
private theorem returns_var (env : Env) (seen : List String) (name lname : String) (args dflt : List Tk)
    (v : String) (hc : checkVar (.fn name lname args) = true) (hl : (lname != "var") = false)
    (hp : parseArgs args false = some (.ident v :: dflt))
    (hvals : ∀ x ∈ varValues env seen (dashToUnderscore v) dflt,
      Returns env (seen ++ [dashToUnderscore v]) x) : Returns env seen (.fn name lname args) := by
  obtain ⟨f1, h1⟩ := fuel_for_list
    (fun f a => ∃ r, resolveVar env (seen ++ [dashToUnderscore v]) f a = .ok r) _ hvals
  refine ⟨f1 + 1, fun f hf => ?_⟩
  obtain ⟨g, rfl⟩ : ∃ g, f = g + 1 := ⟨f - 1, by omega⟩
  obtain ⟨parts, hm⟩ := List.mapM_ok_of_forall (f := valueStep (resolveVar env (seen ++ [dashToUnderscore v]) g)) _
    (fun a ha => valueStep_of_ok _ a (h1 g (by omega) a ha))
  exact ⟨some parts.flatten, resolveVar_var_eq env seen g name lname args dflt v parts hc hl hp hm⟩

/-- A call returns as soon as the calls it makes do. -/
theorem returns_step (env : Env) (seen : List String) (t : Tk)
    (h : ∀ b seen' t', Calls env b (seen, t) (seen', t') → Returns env seen' t') : Returns env seen t := by
  cases hc : checkVar t with
  | false => exact returns_no_var env seen t hc
  | true =>
    cases t with
    | fn name lname args =>
      by_cases hl : (lname != "var") = true
      · exact returns_fn env seen name lname args hc hl (fun a ha => h _ _ _ (.arg hl ha))
      · have hl' : (lname != "var") = false := by simpa using hl
        obtain ⟨v, dflt, hp⟩ := checkVar_var_args name lname args hl' hc
        exact returns_var env seen name lname args dflt v hc hl' hp (fun x hx =>
          let ⟨_, hc⟩ := calls_of_mem_varValues hl' hp hx
          h _ _ _ hc)
    | _ => simp [checkVar] at hc

/-- **Termination from a bound**: if a bound on `(seen, t)` passes to the parts of the token that are called and
falls strictly where the value of a custom property is entered, `resolve_var` returns. -/
theorem returns_of_bound (env : Env) (P : Nat → List String × Tk → Prop)
    (hsub : ∀ B c c', P B c → Calls env false c c' → P B c')
    (hval : ∀ B c c', P B c → Calls env true c c' → ∃ B', B' < B ∧ P B' c') :
    ∀ (B n : Nat) (seen : List String) (t : Tk), P B (seen, t) → sizeOf t ≤ n → Returns env seen t := by
  -- outer induction on the bound (for the calls that enter a property value), inner on the size of the token
  -- (for the calls on its parts)
  intro B
  induction B using Nat.strongRecOn with
  | _ B ihB =>
    intro n
    induction n with
    | zero => intro seen t _ ht; cases t <;> simp at ht
    | succ n ihn =>
      intro seen t hP ht
      refine returns_step env seen t (fun b seen' t' hc => ?_)
      cases b with
      | false => exact ihn seen' t' (hsub B _ _ hP hc) (by have := hc.sizeOf_lt; simp only at this; omega)
      | true =>
        obtain ⟨B', hB', hP'⟩ := hval B _ _ hP hc
        exact ihB B' hB' (sizeOf t') _ t' hP' (Nat.le_refl _)

/-! ### Always: the cycle guard -/

/-- How many of the (finitely many) non-empty custom properties are not under substitution yet. -/
def pendingNames (names seen : List String) : Nat := (names.filter fun n => !seen.contains n).length

private theorem contains_snoc (seen : List String) (k n : String) :
    (seen ++ [k]).contains n = (seen.contains n || n == k) := by
  simp only [List.contains_append, List.contains_cons, List.contains_nil, Bool.or_false]

private theorem pendingNames_snoc (seen : List String) (k : String) (names : List String) :
    pendingNames names (seen ++ [k]) ≤ pendingNames names seen ∧
      (k ∈ names → seen.contains k = false → pendingNames names (seen ++ [k]) < pendingNames names seen) := by
  have h : ∀ x, (!(seen ++ [k]).contains x) = true → (!seen.contains x) = true := by
    intro x hx
    rw [contains_snoc] at hx
    cases hc : seen.contains x
    · rfl
    · rw [hc] at hx; simp at hx
  unfold pendingNames
  refine ⟨List.length_filter_le_of_imp fun x _ => h x, fun hk hs => ?_⟩
  apply List.length_filter_lt_of_imp (fun x _ => h x) hk
  · simp only [hs, Bool.not_false]
  · simp only [contains_snoc, beq_self_eq_true, Bool.or_true, Bool.not_true]

/-- **`resolve_var` always terminates** (the cycle guard of `fix:` 2bffab3; without it `--a: var(--a)` recursed until
`RecursionError`): whatever the custom properties of an element
(finitely many are set: `names` lists them), cyclic or not, whatever the token, the tuple `seen` and the nesting of
functions, fallbacks and references, there is a depth from which `resolve_var` returns. -/
theorem resolve_var_terminates (env : Env) (names : List String) (hfin : ∀ n, n ∉ names → env n = [])
    (seen : List String) (t : Tk) :
    ∃ f0, ∀ f, f0 ≤ f → ∃ r, resolveVar env seen f t = .ok r := by
  refine returns_of_bound env (fun B c => pendingNames names c.1 ≤ B) ?_ ?_ _ _ seen t (Nat.le_refl _) (Nat.le_refl _)
  · intro B c c' hP hc
    cases hc with
    | arg => exact hP
    | fallback => exact Nat.le_trans (pendingNames_snoc _ _ names).1 hP
  · intro B c c' hP hc
    cases hc with
    | @value seen _ _ _ v _ _ _ _ hs he _ =>
      -- a non-empty custom property met for the first time: one name less is pending
      have hmem : dashToUnderscore v ∈ names := by
        apply Classical.byContradiction
        intro hnot
        rw [hfin _ hnot] at he
        simp at he
      exact ⟨_, Nat.lt_of_lt_of_le ((pendingNames_snoc seen _ names).2 hmem hs) hP, Nat.le_refl _⟩

/-- **A custom property met again during its own substitution yields its fallback**: under `seen ∋ --v`,
`var(--v, fb…)` resolves to the resolution of `fb…` alone, whatever the value of `--v`. -/
theorem var_cycle_uses_fallback (env : Env) (seen : List String) (fuel : Nat) (name lname : String)
    (args dflt : List Tk) (v : String) (hc : checkVar (.fn name lname args) = true)
    (hl : (lname != "var") = false) (hp : parseArgs args false = some (.ident v :: dflt))
    (hseen : dashToUnderscore v ∈ seen) :
    resolveVar env seen (fuel + 1) (.fn name lname args) =
      (dflt.mapM (valueStep (resolveVar env (seen ++ [dashToUnderscore v]) fuel))).map
        (fun parts => some parts.flatten) := by
  rw [resolveVar_var env seen fuel name lname args dflt v hc hl hp, varValues,
    if_pos (List.contains_iff_mem.mpr hseen)]

/-- Regression (`p { --a: var(--a); width: var(--a) }`, repaired by 2bffab3): the self-reference is met with `--a`
in `seen` and yields its (empty) fallback — for every depth ≥ 2, no `RecursionError`; `--a: var(--a) 1px` gives
`1px`, and a two-property cycle `--a: var(--b)`, `--b: var(--a, 2px)` gives the inner fallback. -/
example :
    let selfEnv : Env := fun n => if n = "__a" then [.fn "var" "var" [.ident "--a"]] else []
    let selfEnv2 : Env := fun n => if n = "__a" then [.fn "var" "var" [.ident "--a"], .ws, .leaf "1px"] else []
    let twoEnv : Env := fun n =>
      if n = "__a" then [.fn "var" "var" [.ident "--b"]]
      else if n = "__b" then [.fn "var" "var" [.ident "--a", .comma, .ws, .leaf "2px"]] else []
    let tok : Tk := .fn "var" "var" [.ident "--a"]
    (match resolveVar selfEnv [] 2 tok with | .ok (some []) => true | _ => false) = true ∧
    (match resolveVar selfEnv [] 50 tok with | .ok (some []) => true | _ => false) = true ∧
    (match resolveVar selfEnv2 [] 3 tok with | .ok (some [.ws, .leaf "1px"]) => true | _ => false) = true ∧
    (match resolveVar twoEnv [] 4 tok with | .ok (some [.leaf "2px"]) => true | _ => false) = true := by
  decide +kernel

/-! ### On acyclic custom properties (no finiteness needed) -/

/-- `resolve_var` terminates on acyclic environments, finitely many custom properties or not: if the references
between custom properties admit a rank, then for every token there is a depth from which `resolve_var` returns. -/
theorem resolve_var_terminates_acyclic (env : Env) (rk : String → Nat) (hacy : Acyclic env rk)
    (seen : List String) (t : Tk) : Returns env seen t := by
  -- a bound above the ranks of everything `t` refers to
  refine returns_of_bound env (fun B c => ∀ m ∈ refs c.2, rk m < B) ?_ ?_
    ((refs t).foldl (fun b m => max b (rk m + 1)) 0) _ seen t
    (List.foldl_bound (g := fun m => rk m + 1) Nat.le_refl Nat.le_trans (fun _ _ => Nat.le_max_left _ _)
      (fun _ _ => Nat.le_max_right _ _) (refs t) 0).2 (Nat.le_refl _)
  · exact fun B c c' hP hc m hm => hP m (hc.refs_subset m hm)
  · intro B c c' hP hc
    cases hc with
    | @value _ _ _ _ v _ x hl hp _ _ hx =>
      -- var(--v, default): the value of --v has a smaller rank
      exact ⟨rk (dashToUnderscore v), hP _ (var_name_mem_refs hl hp),
        fun m hm => hacy (dashToUnderscore v) m (refsList_mem _ x hx m hm)⟩

/-- **`var()` ≡ textual substitution, totally**: acyclic custom properties, well-formed `var()` with comma-free
fallbacks ⇒ from some depth on `resolve_var` returns, and what it returns is the textual substitution. -/
theorem var_subst_total (env : Env) (rk : String → Nat) (hacy : Acyclic env rk)
    (henv : ∀ n, wfToks (env n) = true) (t : Tk) (ht : wfTok t = true) :
    ∃ f0, ∀ f, f0 ≤ f → ∃ r, resolveVar env [] f t = .ok r ∧ subst env f t = some (r.getD [t]) := by
  obtain ⟨f0, h⟩ := resolve_var_terminates_acyclic env rk hacy [] t
  refine ⟨f0, fun f hf => ?_⟩
  obtain ⟨r, hr⟩ := h f hf
  exact ⟨r, hr, var_subst env rk hacy henv f t r ht hr⟩

/-- Non-vacuity: `--a: var(--b) 1px`, `--b: red` is acyclic with rank a ↦ 1, b ↦ 0. -/
example : Acyclic
    (fun n => if n = "__a" then [.fn "var" "var" [.ident "--b"], .ws, .leaf "1px"]
      else if n = "__b" then [.ident "red"] else [])
    (fun n => if n = "__a" then 1 else 0) := by
  intro n m hm
  by_cases ha : n = "__a"
  · subst ha
    have : m = "__b" := by simpa [refsList, refs, identNames, dashToUnderscore] using hm
    subst this
    decide
  · by_cases hb : n = "__b"
    · subst hb; simp [refsList, refs] at hm
    · simp [ha, hb, refsList] at hm

end Wp.C07
