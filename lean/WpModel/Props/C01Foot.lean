/-
C01 on the footnote grammar (PM stage 2b): pagination conserves lines *and footnote bodies*.

* `embed_agrees` — the stage-1 model is the footnote-free fragment of the footnote model, by proof: every stage-1
  theorem (C01–C05 on `paginate`) transfers to `paginateFoot (embedDoc a d)`.
* `segment`, `pages_conserve` — lines: exactly as stage 1, for every footnote document (any policy, any page
  names): the footnote machinery never loses, duplicates or reorders a line.
* `footnotes_conserve` — footnote bodies: each exactly once, in call order, over the footnote areas of the pages;
  `footnotes_chain` — a page's footnotes are those postponed by the previous page followed by the calls on its own
  lines (so never before the call, and the first ones stay, the last ones are postponed);
  `footnotes_shown` — and they are all rendered, in that order, in the footnote areas.
  For every `footnote-policy` and any page names (repairs 67bf2ca, `footnote-policy: block` on the first content of a
  page, and 8db5909, footnote area broken between two page names; regression examples in `Witness/C01Foot.lean`):
  the hypotheses (`FootWF`) are the stage-1 ones (no fixed heights, orphans/widows ≥ 1), well-formedness of the calls,
  distinct paragraph ids and distinct footnotes.
-/
import WpModel.Lemmas.FootWF

namespace Wp.C01Foot
open Wp Wp.PM Wp.PMF

/-- **Embedding theorem.** A stage-1 document, read as a footnote document (whatever the `@footnote` style), is
paginated identically: same pages, no footnote area, nothing pending or postponed. -/
theorem embed_agrees (a : AreaStyle) (d : Doc) (fuel : Nat) :
    paginateFoot (embedDoc a d) fuel = (paginate d fuel).map (List.map embedPage) := by
  unfold paginateFoot paginate
  have h1 : boxFns (embedDoc a d).root = [] := by simp [embedDoc, boxFns_embed]
  have h2 : (embedDoc a d).erase = d := by simp [FDoc.erase, embedDoc, erase_embed]
  rw [h1, h2]
  simp only [embedDoc, erase_embed]
  exact makeAllPagesF_embed a d fuel 0 none _ _

/-- The layout function itself agrees, in any footnote state (which it leaves untouched). -/
theorem embed_layout_agrees (b : PBox) (c : FCtx) (idx : Nat) (y bs : Rat) (skip : Option Resume) (cb pie : Bool)
    (adjL : List Rat) (fs : FState) (ht : c.tbl = []) :
    layoutBoxF c (embed b) idx y bs skip cb pie adjL fs = ⟨layoutBox (ctxOf c fs) b idx y bs skip cb pie adjL, fs⟩ :=
  layoutBoxF_embed b c idx y bs skip cb pie adjL fs ht

/-- The stage-1 argument of `C01.pages_conserve` (`makeAllPages_lines`) on the embedded document: its pages conserve
its lines. -/
theorem embed_pages_conserve (a : AreaStyle) (d : Doc) (hN : NoFixedHeight d.root) (hW : WellFormed d.root)
    (fuel : Nat) (pages : List FPage) (h : paginateFoot (embedDoc a d) fuel = some pages) :
    (pages.map (fun p => fragLines p.page.root)).flatten = linesFrom d.root none := by
  rw [embed_agrees] at h
  obtain ⟨ps, hp, rfl⟩ := Option.map_eq_some_iff.mp h
  rw [← makeAllPages_lines d (good_of _ hN hW) fuel 0 none _ _ ps (fun _ => by exact isBlank_none _ _) hp,
    pagesLines_eq, List.map_map]
  rfl

/-- **Segment theorem with footnotes** (`block_level_layout`): the lines of the fragment followed by the lines
designated by the returned resume position are the lines designated by the skip position — in any footnote state,
whatever the footnotes do to `page_bottom`, whatever `footnote-policy`. -/
theorem segment (box : FootBox) (hN : NoFixedHeight box.erase) (hW : WellFormed box.erase) (c : FCtx) (idx : Nat)
    (y bs : Rat) (skip : Option Resume) (cb pie : Bool) (adjL : List Rat) (fs : FState) (f : Frag)
    (h : (layoutBoxF c box idx y bs skip cb pie adjL fs).r.frag = some f) :
    fragLines f ++ restOut box.erase (layoutBoxF c box idx y bs skip cb pie adjL fs).r.resume =
      linesFrom box.erase skip :=
  boxPost_lines _ _ _ _ _ (boxF_spec box (good_of _ hN hW) c idx y bs skip cb pie adjL fs) h

private theorem pagesLinesF_eq (pages : List FPage) :
    pagesLinesF pages = (pages.map (fun p => fragLines p.page.root)).flatten := by
  induction pages with
  | nil => rfl
  | cons p ps ih => simp [pagesLinesF, ih]

/-- **Pages theorem with footnotes** (`make_all_pages`): the lines of the pages, concatenated, are the lines of
the document — including the blank pages made only to hold postponed footnotes, which show no line. -/
theorem pages_conserve (d : FDoc) (hN : NoFixedHeight d.root.erase) (hW : WellFormed d.root.erase) (fuel : Nat)
    (pages : List FPage) (h : paginateFoot d fuel = some pages) :
    (pages.map (fun p => fragLines p.page.root)).flatten = linesFrom d.root.erase none := by
  rw [← pagesLinesF_eq]
  unfold paginateFoot at h
  have := makeAllPagesF_lines d (good_of _ hN hW) fuel 0 none _ _ _ _ pages
    (fun _ _ => by exact isBlank_none _ _) h
  rw [this]
  simp [remaining]

/-- What the footnote theorems assume of a document. -/
structure FootWF (d : FDoc) : Prop where
  noFixed : NoFixedHeight d.root.erase
  wellFormed : WellFormed d.root.erase
  callsOk : CallsOk d.root                -- calls on existing lines, written in line order
  uniqueParas : UniqueParaIds d.root
  uniqueFns : (boxFns d.root).Nodup       -- footnotes are distinct boxes (compared structurally; distinct ids imply it)

theorem FootWF.ok {d : FDoc} (h : FootWF d) : FootOk (callTable d.root) d.root :=
  footOk_root d.root h.noFixed h.wellFormed h.callsOk h.uniqueParas

private theorem start_inv (d : FDoc) (h : FootWF d) : PInv d none (boxFns d.root) [] := by
  have hall := tblFns_all (callTable d.root) d.root h.ok h.callsOk
  refine ⟨h.uniqueFns, by simp, by simp, ?_, ?_⟩
  · intro g hg
    simp only [remaining, ne_eq, not_true_eq_false, and_false, ↓reduceIte] at hg
    rw [hall] at hg; exact hg
  · simp only [remaining, ne_eq, not_true_eq_false, and_false, ↓reduceIte]
    rw [hall]; exact h.uniqueFns

theorem pagesCur_eq (pages : List FPage) : pagesCur pages = (pages.map (fun p => p.cur)).flatten := by
  induction pages with
  | nil => rfl
  | cons p ps ih => simp [pagesCur, ih]

/-- **Footnotes are conserved**: the footnotes placed in the footnote areas of the pages, concatenated in page
order, are exactly the footnotes called in the document, in call order — each once, none lost, none duplicated. -/
theorem footnotes_conserve (d : FDoc) (h : FootWF d) (fuel : Nat) (pages : List FPage)
    (hp : paginateFoot d fuel = some pages) :
    (pages.map (fun p => p.cur)).flatten = boxFns d.root := by
  rw [← pagesCur_eq]
  unfold paginateFoot at hp
  have := makeAllPagesF_foot d h.ok fuel 0 none _ _ _ _ pages (fun _ _ => by exact isBlank_none _ _)
    (start_inv d h) hp
  rw [this]
  simp only [remaining, ne_eq, not_true_eq_false, and_false, ↓reduceIte, List.nil_append]
  exact tblFns_all (callTable d.root) d.root h.ok h.callsOk

/-- **On the page of the call or later, in order**: what a page takes — its footnote area `cur`, then what it
postpones `reported` — is what the previous page postponed followed by the calls on its own lines; and the last
page postpones nothing. -/
theorem footnotes_chain (d : FDoc) (h : FootWF d) (fuel : Nat) (pages : List FPage)
    (hp : paginateFoot d fuel = some pages) :
    PagesChain (callTable d.root) [] pages ∧ (∀ p, pages.getLast? = some p → p.reported = []) := by
  unfold paginateFoot at hp
  obtain ⟨h1, _, h3⟩ := makeAllPagesF_chain d h.ok fuel 0 none _ _ _ _ pages
    (fun _ _ => by exact isBlank_none _ _) (start_inv d h) hp
  exact ⟨h1, h3⟩

private theorem pagesCur_append (a b : List FPage) : pagesCur (a ++ b) = pagesCur a ++ pagesCur b := by
  simp [pagesCur_eq]

private theorem getLast?_append_ne {α : Type} (a b : List α) (h : b ≠ []) : (a ++ b).getLast? = b.getLast? := by
  rw [List.getLast?_append]
  cases hb : b.getLast? with
  | none => rw [List.getLast?_eq_none_iff] at hb; exact absurd hb h
  | some x => simp

private theorem chain_suffix (tbl : List (Nat × Nat × Fn)) (pre rest : List FPage) (c : List Fn)
    (h : PagesChain tbl c (pre ++ rest)) : ∃ c', PagesChain tbl c' rest := by
  induction pre generalizing c with
  | nil => exact ⟨c, h⟩
  | cons p ps ih => exact ih p.reported h.2

/-- Along a chain of pages whose last one postpones nothing, whatever a page takes (carried over or called on its
lines) is placed in the footnote area of that page or of a later one. -/
private theorem chain_placed (tbl : List (Nat × Nat × Fn)) (ps : List FPage) (p : FPage) (c : List Fn)
    (hc : PagesChain tbl c (p :: ps)) (hl : ∀ q, (p :: ps).getLast? = some q → q.reported = []) :
    ∀ f ∈ c ++ tblFns tbl (fragLines p.page.root), f ∈ pagesCur (p :: ps) := by
  intro f hf
  rw [pagesCur_of_chain tbl (p :: ps) c hc (List.cons_ne_nil _ _) hl, pagesLinesF, tblFns_append, ← List.append_assoc]
  exact List.mem_append_left _ hf

/-- **On the page of its call or on a later one, never before** (C01, footnote bodies): a footnote called on a
line of page `p` is placed in the footnote area of `p` or of a page after it, and in no footnote area of the pages
before `p`. -/
theorem footnote_on_call_page_or_later (d : FDoc) (h : FootWF d) (fuel : Nat) (pages : List FPage)
    (hp : paginateFoot d fuel = some pages) (pre : List FPage) (p : FPage) (post : List FPage)
    (hsplit : pages = pre ++ p :: post) :
    ∀ f ∈ tblFns (callTable d.root) (fragLines p.page.root), f ∈ pagesCur (p :: post) ∧ f ∉ pagesCur pre := by
  obtain ⟨hchain, hlast⟩ := footnotes_chain d h fuel pages hp
  have hc := footnotes_conserve d h fuel pages hp
  rw [← pagesCur_eq] at hc
  subst hsplit
  obtain ⟨c', hc'⟩ := chain_suffix _ pre (p :: post) [] hchain
  have hlast' : ∀ q, (p :: post).getLast? = some q → q.reported = [] := by
    intro q hq
    apply hlast q
    rw [getLast?_append_ne _ _ (by simp)]
    exact hq
  intro f hf
  have hin := chain_placed _ post p c' hc' hlast' f (by simp [hf])
  refine ⟨hin, ?_⟩
  have hnd : (pagesCur (pre ++ p :: post)).Nodup := by rw [hc]; exact h.uniqueFns
  rw [pagesCur_append, List.nodup_append] at hnd
  intro hpre
  exact hnd.2.2 f hpre f hin rfl

/-- **Rendered**: the footnote areas of the pages show, in page order, exactly the footnotes of the document in
call order — whatever the page names of the calling boxes (repair 8db5909: the area is not broken between two page
names). -/
theorem footnotes_shown (d : FDoc) (h : FootWF d) (fuel : Nat) (pages : List FPage)
    (hp : paginateFoot d fuel = some pages) :
    (pages.map shownFids).flatten = (boxFns d.root).map (fun f => f.fid) := by
  have hc := footnotes_conserve d h fuel pages hp
  have harea : ∀ p ∈ pages, p.area = areaOut (d.areaFor p.page.type.name) d.pageH p.cur := by
    unfold paginateFoot at hp
    exact makeAllPagesF_area d fuel 0 none _ _ _ _ pages hp
  rw [← hc, List.map_flatten, List.map_map]
  congr 1
  apply List.map_congr_left
  intro p hp'
  simp only [Function.comp, shownFids, harea p hp']
  exact areaOut_fids (d.areaFor p.page.type.name) d.pageH p.cur

/-- No footnote body is rendered twice (with `footnotes_shown`: each exactly once): the rendered ids, over all pages,
have no repetition when the footnotes of the document have distinct ids. -/
theorem footnotes_shown_nodup (d : FDoc) (h : FootWF d) (hid : ((boxFns d.root).map (fun f => f.fid)).Nodup)
    (fuel : Nat) (pages : List FPage) (hp : paginateFoot d fuel = some pages) :
    ((pages.map shownFids).flatten).Nodup := by
  rw [footnotes_shown d h fuel pages hp]; exact hid

/-- **C01 on footnote documents, in one statement**: whatever the page height, the `@footnote` styles (unnamed and
per named page type), the footnote policies and page names — (1) the lines of the pages, concatenated, are the lines
of the document, each once and in order; (2) the footnote bodies rendered in the footnote areas, concatenated in
page order, are the footnotes of the document, each once and in call order; (3) each body is rendered on the page
of its call or on a later page, never on an earlier one. -/
theorem conservation (d : FDoc) (h : FootWF d) (fuel : Nat) (pages : List FPage)
    (hp : paginateFoot d fuel = some pages) :
    (pages.map (fun p => fragLines p.page.root)).flatten = linesFrom d.root.erase none ∧
    (pages.map shownFids).flatten = (boxFns d.root).map (fun f => f.fid) ∧
    (∀ pre p post, pages = pre ++ p :: post → ∀ f ∈ tblFns (callTable d.root) (fragLines p.page.root),
      f ∈ pagesCur (p :: post) ∧ f ∉ pagesCur pre) :=
  ⟨pages_conserve d h.noFixed h.wellFormed fuel pages hp, footnotes_shown d h fuel pages hp,
   fun pre p post hs => footnote_on_call_page_or_later d h fuel pages hp pre p post hs⟩

/-! ### non-vacuity -/

def exSt : PStyle :=
  { mt := 0, mb := 0, pt := 0, pb := 0, bt := 0, bb := 0, height := none, minH := 0, maxH := none,
    brkBefore := .auto, brkAfter := .auto, brkInside := .auto, clone := false, page := "", orphans := 1,
    widows := 1, isRoot := false }
def exArea : AreaStyle := { mt := 0, mb := 0, pt := 0, pb := 0, bt := 0, bb := 0, maxH := none }
def exDocOf (pageH : Rat) (kids : List FootBox) : FDoc :=
  { pageH := pageH, rootLtr := true, area := exArea,
    root := .block 100 { exSt with isRoot := true } [.block 101 exSt kids] }

/-- 5 lines of 10 on 40px pages; footnote 1 (10px) on line 1 stays, footnote 2 (20px) on line 2 is postponed to
page 2, footnote 3 (`footnote-policy: line`, 30px) takes its line with it to page 3. -/
def exDoc : FDoc := exDocOf 40
  [.para 1 5 10 exSt [⟨1, 1, 1, 10, .auto⟩, ⟨2, 2, 2, 10, .auto⟩, ⟨4, 3, 3, 10, .line⟩]]

/-- 3 lines on a 30px page, two 20px footnotes on the last line: both postponed, and a blank page is made only to
hold them (C03: "blank page required by a postponed footnote"). -/
def exDoc2 : FDoc := exDocOf 30 [.para 1 3 10 exSt [⟨2, 1, 2, 10, .auto⟩, ⟨2, 2, 2, 10, .auto⟩]]

/-- What the examples show of a page: blank?, its lines, the footnotes in its area, those it postpones, the
footnote ids rendered in the area. -/
structure PageSum where
  blank : Bool
  lines : List (Nat × Nat)
  cur : List Nat
  reported : List Nat
  shown : List Nat
  deriving DecidableEq, Repr

def pageSummary (p : FPage) : PageSum :=
  ⟨p.page.type.blank, fragLines p.page.root, p.cur.map (·.fid), p.reported.map (·.fid), shownFids p⟩

example : FootWF exDoc := by
  refine ⟨?_, ?_, ?_, ?_, ?_⟩
  · simp [exDoc, exDocOf, FootBox.erase, eraseList, NoFixedHeight, NoFixedHeightList, exSt]
  · simp [exDoc, exDocOf, FootBox.erase, eraseList, WellFormed, WellFormedList, exSt]
  · simp [exDoc, exDocOf, CallsOk, CallsOkList]
  · simp [exDoc, exDocOf, UniqueParaIds, paraIds, paraIdsList]
  · decide +kernel

example : (paginateFoot exDoc 20).map (List.map pageSummary) =
    some [⟨false, [(1, 0), (1, 1), (1, 2)], [1], [2], [1]⟩, ⟨false, [(1, 3)], [2], [], [2]⟩,
          ⟨false, [(1, 4)], [3], [], [3]⟩] := by decide +kernel

/-- `footnote_on_call_page_or_later` on `exDoc`: footnote 2 is called on page 1 (line 2) and rendered on page 2. -/
example : (paginateFoot exDoc 20).map (List.map (fun p =>
      ((tblFns (callTable exDoc.root) (fragLines p.page.root)).map (·.fid), p.cur.map (·.fid)))) =
    some [([1, 2], [1]), ([], [2]), ([3], [3])] := by decide +kernel

example : (paginateFoot exDoc2 20).map (List.map pageSummary) =
    some [⟨false, [(1, 0), (1, 1), (1, 2)], [], [1, 2], []⟩, ⟨true, [], [1, 2], [], [1, 2]⟩] := by decide +kernel

/-- Named page types with their own `@footnote` rule: two footnotes are postponed from an unnamed page to the
pages named `pb`, whose footnote area has `max-height: 15px` (the unnamed rule: `margin-top: 2px`, no max-height). -/
def exNamed (named : List (String × AreaStyle)) : FDoc :=
  { exDocOf 40 [.para 1 3 10 exSt [⟨2, 1, 2, 10, .auto⟩, ⟨2, 2, 1, 10, .auto⟩],
                .para 3 3 10 { exSt with page := "pb" } [⟨0, 3, 1, 10, .auto⟩, ⟨2, 4, 1, 10, .auto⟩]] with
    area := { exArea with mt := 2 }, named := named }

/-- Per page: its name, lines, footnotes placed / postponed, (top, height) of the footnote area. Without the named
rule page 2 takes footnotes 1 and 2 (area of 30px under a 2px margin) and one line; with it the area is capped at
15px, footnote 2 is postponed again and two lines fit; the last page (blank, unnamed) uses the unnamed rule again. -/
example : (paginateFoot (exNamed []) 20).map (List.map (fun p =>
      (p.page.type.name, (fragLines p.page.root).length, p.cur.map (·.fid), p.reported.map (·.fid)))) =
    some [("", 3, [], [1, 2]), ("pb", 1, [1, 2], [3]), ("pb", 2, [3], [4]), ("", 0, [4], [])] ∧
    (paginateFoot (exNamed []) 20).map (List.map (fun p => p.area.map (fun a => (a.y, a.h)))) =
    some [none, some (8, 30), some (28, 10), some (28, 10)] ∧
    (paginateFoot (exNamed [("pb", { exArea with maxH := some 15 })]) 20).map (List.map (fun p =>
      (p.page.type.name, (fragLines p.page.root).length, p.cur.map (·.fid), p.reported.map (·.fid)))) =
    some [("", 3, [], [1, 2]), ("pb", 2, [1], [2, 3]), ("pb", 1, [2], [3, 4]), ("", 0, [3, 4], [])] ∧
    (paginateFoot (exNamed [("pb", { exArea with maxH := some 15 })]) 20).map (List.map (fun p =>
      p.area.map (fun a => (a.y, a.h)))) =
    some [none, some (25, 15), some (30, 10), some (18, 20)] := by
  refine ⟨?_, ?_, ?_, ?_⟩ <;> decide +kernel

/-- The stage-1 side of `embed_agrees` on a concrete document: three pages. -/
example : (paginate { pageH := 25, rootLtr := true, root := (exDocOf 25 [.para 1 5 10 exSt []]).root.erase } 20).map
    List.length = some 3 := by decide +kernel

end Wp.C01Foot
