/-
C14 — page groups (`:nth(an+b of name)`): `_includes_resume_at` / `_update_page_groups` on `resume_at`
structures that are single paths (what block-level page breaks produce: `{i: {j: … None}}`).
The `ValueError` of the tuple unpacking in `_includes_resume_at` is unreachable on such paths, the test is
exactly "the group's path is a prefix-path of `resume_at`", and the groups created stay single paths.
-/
import WpModel.Model.PageGroups
import WpModel.Model.PageDoc

namespace Wp.C14
open Wp Wp.PageGroups

/-- `resume_at` contains the path `p` (every key present, every intermediate value a dict). -/
def hasPath : RA → List Nat → Bool
  | _, [] => true
  | .none, _ :: _ => false
  | .dict es, k :: rest =>
    match es.lookup k with
    | Option.none => false
    | some sub => match rest with
      | [] => true
      | _ :: _ => hasPath sub rest

/-- **includes = prefix test, and total**: on a single-path group `{k: {…: None}}` the function never
raises and answers whether `resume_at` goes through that path. -/
theorem includes_is_prefix_test (r : RA) (k : Nat) (path : List Nat) :
    includes r (chainDict (k :: path)) = .ok (hasPath r (k :: path)) := by
  induction path generalizing r k with
  | nil =>
    cases r with
    | none => simp [chainDict, includes, hasPath]
    | dict es =>
      simp only [chainDict, includes, hasPath]
      cases es.lookup k <;> rfl
  | cons j rest ih =>
    cases r with
    | none => simp [chainDict, includes, hasPath]
    | dict es =>
      simp only [chainDict, includes, hasPath]
      cases hl : es.lookup k with
      | none => rfl
      | some sub =>
        simp only
        have := ih sub j
        simp only [chainDict] at this
        rw [this]

example : (match includes (chainDict [0, 3, 1]) (chainDict [0, 3]) with | .ok b => b | _ => false) = true := by decide
example : (match includes (chainDict [0, 2]) (chainDict [0, 3]) with | .ok b => !b | _ => false) = true := by decide

/-- A page that resumes inside the element of a group (its path extends the group's) keeps the group. -/
theorem includes_extension (p q : List Nat) (k : Nat) :
    hasPath (chainDict (k :: p ++ q)) (k :: p) = true := by
  induction p generalizing k with
  | nil =>
    simp only [List.cons_append, List.nil_append, hasPath, chainDict, REntries.lookup, beq_self_eq_true, ↓reduceIte]
  | cons j rest ih =>
    have := ih j
    simp only [List.cons_append, hasPath, chainDict, REntries.lookup, beq_self_eq_true, ↓reduceIte] at this ⊢
    exact this

/-- Groups whose `resume_at` are single paths. -/
def ChainGroups (gs : List Group) : Prop := ∀ g ∈ gs, ∃ k path, g.resume = chainDict (k :: path)

/-- The first loop of `_update_page_groups` never raises on single-path groups; the survivors stay single
paths. -/
theorem step_groups_total (r : RA) (gs : List Group) (h : ChainGroups gs) :
    ∃ gs', stepGroups r gs = .ok gs' ∧ ChainGroups gs' := by
  induction gs with
  | nil => exact ⟨[], rfl, (by unfold ChainGroups; intro g hg; cases hg)⟩
  | cons g rest ih =>
    obtain ⟨k, path, hk⟩ := h g (by simp)
    obtain ⟨rest', e, hc⟩ := ih (fun x hx => h x (by simp [hx]))
    cases hp : hasPath r (k :: path)
    · refine ⟨rest', ?_, hc⟩
      simp [stepGroups, hk, includes_is_prefix_test, e, hp]
    · refine ⟨{ g with index := g.index + 1 } :: rest', ?_, ?_⟩
      · simp [stepGroups, hk, includes_is_prefix_test, e, hp]
      · intro x hx
        rcases List.mem_cons.mp hx with rfl | hx
        · exact ⟨k, path, hk⟩
        · exact hc x hx

/-- The deep copy extended along its path is again a single path. -/
theorem extend_leaf_chain (p ext : List Nat) :
    extendLeaf (chainDict p) ext = chainDict (p ++ ext) := by
  induction p with
  | nil => simp [chainDict, extendLeaf]
  | cons j rest ih =>
    simp only [chainDict, extendLeaf, extendLeaf.extendEntries, List.cons_append]
    rw [ih]

/-- **page groups stay single paths.**  When `resume_at` is a single path (block-level breaks) and the
existing groups are, the groups `_update_page_groups` returns are single paths again (the step of an
induction over the pages, which is not carried out here).  That `_includes_resume_at` does not fail on such
groups, which leaves the descent through the box tree (`children[index]`) as the only place a failure can
come from, is `step_groups_total`. -/
theorem update_page_groups_chains (gs : List Group) (k : Nat) (p : List Nat) (isAny : Bool) (name : String)
    (root : Elt) (h : ChainGroups gs) (gs' : List Group)
    (hu : updatePageGroups gs (chainDict (k :: p)) isAny name root = .ok gs') : ChainGroups gs' := by
  obtain ⟨s, es, hc⟩ := step_groups_total (chainDict (k :: p)) gs h
  unfold updatePageGroups at hu
  simp only [es] at hu
  by_cases c1 : (isAny || name.isEmpty) = true
  · rw [if_pos c1] at hu
    simp only [Except.ok.injEq] at hu; subst hu; exact hc
  · rw [if_neg c1] at hu
    by_cases c2 : lastNameIs s name = true
    · rw [if_pos c2] at hu
      simp only [Except.ok.injEq] at hu; subst hu; exact hc
    · rw [if_neg c2] at hu
      unfold appendGroup at hu
      cases hd : descend (chainDict (k :: p)) root with
      | error e => simp [hd] at hu
      | ok r =>
        obtain ⟨elt, pth⟩ := r
        simp only [hd] at hu
        cases hf : findNamed name elt with
        | none => simp only [hf, Except.ok.injEq] at hu; subst hu; exact hc
        | some ext =>
          simp only [hf, Except.ok.injEq] at hu
          subst hu
          intro g hg
          rcases List.mem_append.mp hg with hg | hg
          · exact hc g hg
          · simp only [List.mem_singleton] at hg
            subst hg
            exact ⟨k, p ++ ext, extend_leaf_chain (k :: p) ext⟩

/-- The `resume_at` the documents of the model give a page that starts with a section is a single path
`{0: {body index: None | {j: None}}}`, the form `update_page_groups_chains` asks of `resume_at`. -/
theorem resume_of_is_chain (s : PageDoc.Section) : ∃ p, PageDoc.resumeOf s = chainDict (0 :: s.bodyIndex :: p) := by
  unfold PageDoc.resumeOf
  cases hi : s.innerIndex with
  | none => exact ⟨[], by simp [chainDict]⟩
  | some j =>
    cases j with
    | zero => exact ⟨[], by simp [chainDict]⟩
    | succ j => exact ⟨[j + 1], by simp [chainDict]⟩

end Wp.C14
