/-
C10 — which grid line of the whole table a line of a table *fragment* shows when the collapsed
borders are painted (`Model/TableBorderDraw.lean` ↔ `draw_collapsed_borders` / `row_number` of
`weasyprint/draw/__init__.py`), and the painting order.  Correspondence: section
`doc-painted-borders` of `py/props/c10.py` (every fragment of every rendered collapsed table).
-/
import WpModel.Model.TableBorderDraw
import WpModel.Props.C10
import WpModel.Lemmas.InsertionSort
import Mathlib.Tactic.Linarith

namespace Wp.C10Draw
open Wp Wp.Borders Wp.BorderDraw

/-- **painted_unsplit.**  A table laid out in one piece (no skipped rows, the fragment has all the rows
of the grid) paints every line and every row with its own grid entry. -/
theorem painted_unsplit (d : DrawIn) (hs : d.skippedRows = 0) (hh : d.vertical.length = gridHeight d)
    (y : Int) (hz : Bool) : rowNumber d y hz = y := by
  unfold rowNumber bodyOffset footerOffset
  simp only [hs, hh]
  split
  · rfl
  · split <;> simp

/-- **painted_header_lines.**  On every fragment, the rows of the repeated header *and the line just
under it* are painted with the header's own grid entries (rows `0 … header_rows − 1`, lines
`0 … header_rows`): the edge shared by the header and the first body row of the page shows the border
that was resolved for the header's bottom edge, which is the one the header cells' used
border-bottom widths come from.  (The seeded change C10-4 broke exactly the line `y = header_rows`.) -/
theorem painted_header_lines (d : DrawIn) (hh : d.headerRows ≠ 0) (y : Int) (hy : y ≤ d.headerRows) :
    rowNumber d y true = y := by
  unfold rowNumber b2i
  have : y < (d.headerRows : Int) + 1 := by omega
  simp [hh, this]

theorem painted_header_rows (d : DrawIn) (hh : d.headerRows ≠ 0) (y : Int) (hy : y < d.headerRows) :
    rowNumber d y false = y := by
  unfold rowNumber b2i
  simp [hh, hy]

/-- **painted_body_rows.**  The body rows of a fragment (vertical borders) show the rows of the grid
they are: shifted by the rows skipped on earlier pages. -/
theorem painted_body_rows (d : DrawIn) (y : Int) (h1 : (d.headerRows : Int) ≤ y)
    (h2 : y < (gridHeight d : Int) - d.footerRows) : rowNumber d y false = y + bodyOffset d := by
  unfold rowNumber b2i
  simp only [Bool.false_eq_true, if_false, add_zero]
  rw [if_neg (by intro h; omega), if_neg (by intro h; omega)]

/-- **painted_footer.**  The rows of the repeated footer and the lines from its top edge down are the
footer's own. -/
theorem painted_footer (d : DrawIn) (hf : d.footerRows ≠ 0) (y : Int) (hz : Bool)
    (h1 : (d.headerRows : Int) + 1 ≤ y) (h2 : (gridHeight d : Int) - d.footerRows ≤ y) :
    rowNumber d y hz = y + footerOffset d := by
  unfold rowNumber b2i
  have ha : ¬ (d.headerRows ≠ 0 ∧ y < (d.headerRows : Int) + (if hz then 1 else 0)) := by
    intro h; split at h <;> omega
  have hb : d.footerRows ≠ 0 ∧ y ≥ (gridHeight d : Int) - (d.footerRows : Int) := ⟨hf, by omega⟩
  simp [ha, hb]

/-- The body branch of `row_number` for a line: taken below a repeated header, and on every line when no
header is repeated (`header_rows and …`). -/
theorem body_line_painted (d : DrawIn) (y : Int) (h1 : d.headerRows = 0 ∨ (d.headerRows : Int) < y)
    (h2 : y < (gridHeight d : Int) - d.footerRows ∨ d.footerRows = 0) :
    rowNumber d y true = y + bodyOffset d := by
  unfold rowNumber b2i
  simp only [if_true]
  rw [if_neg (by intro h; rcases h1 with h1 | h1 <;> omega), if_neg (by intro h; rcases h2 with h2 | h2 <;> omega)]

/-- **painted_body_lines.**  Every line between two body rows of the fragment — and
the line under the last body row when no footer is repeated — shows the grid line between the same
two rows of the whole table: `row_number` tests `y >= grid_height - footer_rows` for lines too
(commit 4d1447f, finding `collapsed-footer-line-off-by-one`). -/
theorem painted_body_lines (d : DrawIn) (y : Int) (h1 : (d.headerRows : Int) < y)
    (h2 : y < (gridHeight d : Int) - d.footerRows ∨ d.footerRows = 0) :
    rowNumber d y true = y + bodyOffset d :=
  body_line_painted d y (Or.inr h1) h2

private theorem le_total' (a b : Score) : Score.le a b = true ∨ Score.le b a = true := by
  unfold Score.le
  cases h : b.lt a with
  | false => exact Or.inl rfl
  | true => exact Or.inr (congrArg (!·) (C10.score_lt_asymm h))

private theorem le_trans' (a b c : Score) (h1 : Score.le a b = true) (h2 : Score.le b c = true) :
    Score.le a c = true := by
  unfold Score.le at *
  rw [Bool.not_eq_true'] at *
  exact C10.score_not_lt_trans h2 h1

/-- `segments.sort(key=score)` inserts each segment behind those whose score is not greater. -/
private theorem sortByScore_eq (l : List Segment) :
    sortByScore l =
      l.foldl (fun acc s => InsertionSort.ins (fun t x : Segment => Score.le t.score x.score) s acc) [] := by
  unfold sortByScore
  congr 1
  funext acc s
  exact InsertionSort.eq_ins insertByScore (fun _ => rfl) (fun _ _ _ => rfl) s acc

/-- Sorting loses and adds nothing: every generated segment is painted exactly once. -/
theorem sort_perm (l : List Segment) : (sortByScore l).Perm l := by
  rw [sortByScore_eq]
  exact InsertionSort.foldl_perm l []

/-- **painted_in_score_order.**  Segments are painted in non-decreasing order of their conflict score
`(hidden, width, style rank)`: where two lines cross, the stronger border is drawn on top. -/
theorem painted_in_score_order (l : List Segment) :
    (sortByScore l).Pairwise (fun a b => Score.le a.score b.score = true) := by
  rw [sortByScore_eq]
  -- the order on scores is total, so a segment the new one stops at comes after it
  have after : ∀ t x : Segment, Score.le t.score x.score = false → Score.le x.score t.score = true :=
    fun t x h => (le_total' t.score x.score).resolve_left (by rw [h]; exact Bool.false_ne_true)
  exact InsertionSort.foldl_sorted (fun _ _ h => h) after
    (fun _ _ _ => le_trans' _ _ _) l List.Pairwise.nil

/-- What a call of `add_vertical` / `add_horizontal` that read the grid entry `e` returns: nothing for
a border of width 0 or a transparent one, else a segment on `side` that carries the entry. -/
private def Paints (e : Edge) (side : Side) (r : Option Segment) : Prop :=
  if e.border.width = 0 ∨ e.border.color = 0 then r = none
  else ∃ px py w h, r = some ⟨e.score, e.border.style, e.border.width, e.border.color, side, px, py, w, h⟩

private theorem Paints.of_some {e : Edge} {side : Side} {s : Segment} (h : Paints e side (some s)) :
    e = ⟨s.score, ⟨s.style, s.width, s.color⟩⟩ ∧ s.side = side ∧ s.width ≠ 0 ∧ s.color ≠ 0 := by
  unfold Paints at h
  split at h
  · cases h
  · rename_i hv
    obtain ⟨px, py, w, hh, hs⟩ := h
    injection hs with hs
    subst hs
    exact ⟨rfl, rfl, fun h0 => hv (Or.inl h0), fun h0 => hv (Or.inr h0)⟩

private theorem Paints.of_none {e : Edge} {side : Side} (h : Paints e side none) :
    e.border.width = 0 ∨ e.border.color = 0 := by
  unfold Paints at h
  split at h
  · assumption
  · obtain ⟨_, _, _, _, hs⟩ := h
    cases hs

/-- A coordinate that `add_vertical` moves by half a crossing border (or leaves alone at a cut row)
is handed on to the rest of the function whichever branch is taken. -/
private theorem adjusted_ok {β : Type} {c : Prop} [Decidable c] {m : Except PyErr Rat} {g : Rat → Rat}
    {v : Rat} {k : Rat → Except PyErr β} {r : β}
    (h : (if c then (do let s ← m; let z ← pure (g s); k z) else (do let z ← pure v; k z)) = .ok r) :
    ∃ z, k z = .ok r := by
  split at h
  · obtain ⟨s, _, h⟩ := Except.bind_eq_ok h
    exact ⟨_, h⟩
  · exact ⟨_, h⟩

private theorem addVertical_ok (d : DrawIn) (x y : Nat) (r : Option Segment) (h : addVertical d x y = .ok r) :
    ∃ e, gridAt d.vertical (rowNumber d y false) x = .ok e ∧ Paints e .left r := by
  unfold addVertical at h
  obtain ⟨e, he, h⟩ := Except.bind_eq_ok h
  refine ⟨e, he, ?_⟩
  unfold Paints
  split at h
  · rw [if_pos ‹_›]
    exact (Except.ok.inj h).symm
  · rw [if_neg ‹_›]
    obtain ⟨posX, _, h⟩ := Except.bind_eq_ok h
    obtain ⟨y1, _, h⟩ := Except.bind_eq_ok h
    obtain ⟨y1', h⟩ := adjusted_ok h
    obtain ⟨y2, _, h⟩ := Except.bind_eq_ok h
    obtain ⟨y2', h⟩ := adjusted_ok h
    exact ⟨_, _, _, _, (Except.ok.inj h).symm⟩

private theorem addHorizontal_ok (d : DrawIn) (x y : Nat) (r : Option Segment)
    (h : addHorizontal d x y = .ok r) :
    ((y = 0 ∧ d.skipTop = true) ∧ r = none) ∨ ((y = gridHeight d ∧ d.skipBottom = true) ∧ r = none) ∨
    ∃ e, gridAt d.horizontal (rowNumber d y true) x = .ok e ∧ Paints e .top r := by
  revert h
  fun_cases addHorizontal d x y <;> intro h
  · cases h; exact Or.inl ⟨‹_›, rfl⟩
  · cases h; exact Or.inr (Or.inl ⟨‹_›, rfl⟩)
  · obtain ⟨e, he, h⟩ := Except.bind_eq_ok h
    refine Or.inr (Or.inr ⟨e, he, ?_⟩)
    unfold Paints
    split at h
    · rw [if_pos ‹_›]
      exact (Except.ok.inj h).symm
    · rw [if_neg ‹_›]
      obtain ⟨posY, _, h⟩ := Except.bind_eq_ok h
      obtain ⟨before, _, h⟩ := Except.bind_eq_ok h
      obtain ⟨after, _, h⟩ := Except.bind_eq_ok h
      obtain ⟨x1, _, h⟩ := Except.bind_eq_ok h
      obtain ⟨x2, _, h⟩ := Except.bind_eq_ok h
      exact ⟨_, _, _, _, (Except.ok.inj h).symm⟩

private theorem addVertical_some (d : DrawIn) (x y : Nat) (s : Segment) (h : addVertical d x y = .ok (some s)) :
    gridAt d.vertical (rowNumber d y false) x = .ok ⟨s.score, ⟨s.style, s.width, s.color⟩⟩ ∧
    s.side = .left ∧ s.width ≠ 0 ∧ s.color ≠ 0 := by
  obtain ⟨e, he, hp⟩ := addVertical_ok d x y _ h
  obtain ⟨rfl, hside⟩ := hp.of_some
  exact ⟨he, hside⟩

private theorem addHorizontal_some (d : DrawIn) (x y : Nat) (s : Segment) (h : addHorizontal d x y = .ok (some s)) :
    gridAt d.horizontal (rowNumber d y true) x = .ok ⟨s.score, ⟨s.style, s.width, s.color⟩⟩ ∧
    s.side = .top ∧ s.width ≠ 0 ∧ s.color ≠ 0 := by
  rcases addHorizontal_ok d x y _ h with ⟨_, h0⟩ | ⟨_, h0⟩ | ⟨e, he, hp⟩
  · cases h0
  · cases h0
  · obtain ⟨rfl, hside⟩ := hp.of_some
    exact ⟨he, hside⟩

/-- The call `(horizontal?, x, y)` of the three loops. -/
private def call (d : DrawIn) (c : Bool × Nat × Nat) : Except PyErr (Option Segment) :=
  if c.1 then addHorizontal d c.2.1 c.2.2 else addVertical d c.2.1 c.2.2

private theorem segStep_eq (d : DrawIn) (acc : List Segment) (c : Bool × Nat × Nat) :
    segStep d (.ok acc) c = (call d c).map (fun r => acc ++ r.toList) := by
  show (match call d c with
    | .error e => (.error e : Except PyErr (List Segment))
    | .ok none => .ok acc
    | .ok (some s) => .ok (acc ++ [s])) = _
  rcases call d c with e | (_ | s)
  · rfl
  · exact congrArg Except.ok (List.append_nil acc).symm
  · rfl

private theorem fold_err (d : DrawIn) (calls : List (Bool × Nat × Nat)) (e : PyErr) :
    calls.foldl (segStep d) (.error e) = .error e := by
  induction calls with
  | nil => rfl
  | cons c cs ih => exact ih

private theorem fold_spec (d : DrawIn) (calls : List (Bool × Nat × Nat)) (acc segs : List Segment)
    (h : calls.foldl (segStep d) (.ok acc) = .ok segs) :
    (∀ a ∈ acc, a ∈ segs) ∧
    (∀ c ∈ calls, ∃ r, call d c = .ok r ∧ ∀ s, r = some s → s ∈ segs) ∧
    (∀ s ∈ segs, s ∈ acc ∨ ∃ c ∈ calls, call d c = .ok (some s)) := by
  induction calls generalizing acc with
  | nil =>
    obtain rfl := Except.ok.inj h
    exact ⟨fun _ h => h, fun _ h => (nomatch h), fun _ h => Or.inl h⟩
  | cons c cs ih =>
    rw [List.foldl_cons, segStep_eq] at h
    cases hc : call d c with
    | error e =>
      rw [hc] at h
      rw [show Except.map _ (Except.error e : Except PyErr (Option Segment)) = .error e from rfl, fold_err] at h
      cases h
    | ok r =>
      rw [hc] at h
      obtain ⟨h1, h2, h3⟩ := ih _ h
      refine ⟨fun a ha => h1 a (List.mem_append_left _ ha), ?_, ?_⟩
      · intro c' hc'
        rcases List.mem_cons.mp hc' with rfl | hc'
        · exact ⟨r, hc, fun s hs => h1 s (List.mem_append_right _ (Option.mem_toList.mpr hs))⟩
        · exact h2 c' hc'
      · intro s hs
        rcases h3 s hs with h | ⟨c', hc', h⟩
        · rcases List.mem_append.mp h with h | h
          · exact Or.inl h
          · exact Or.inr ⟨c, List.mem_cons_self, by rw [hc, Option.mem_toList.mp h]⟩
        · exact Or.inr ⟨c', List.mem_cons_of_mem _ hc', h⟩

/-- A successful `draw_collapsed_borders` paints nothing, for a table without rows or columns, or the
raw segments sorted. -/
private theorem segments_ok {d : DrawIn} {segs : List Segment} (h : segments d = .ok segs) :
    ((d.rowHeights.isEmpty ∨ d.colWidths.isEmpty) ∧ segs = []) ∨
    ∃ raw, rawSegments d = .ok raw ∧ segs = sortByScore raw := by
  revert h
  fun_cases segments d <;> intro h <;> cases h
  · exact .inl ⟨‹_›, rfl⟩
  · exact .inr ⟨_, ‹_›, rfl⟩

/-- **painted_from_grid.**  Every line that is painted carries exactly an entry of the border grids that
`collapse_table_borders` resolved — its conflict score, its (mapped) style, its width and its colour —
namely the entry at `row_number(y)` of some edge `x y` of its side's grid (the statement does not tie `x y`
to the segment's position); nothing of width 0 or transparent is painted.  With `C10.collapse_grids` and
`C10.offers_after_last_force` (each grid entry is the first maximum of the offers made to that edge in the
order cell, row, row group, column, column group, table) this is the clause "each shared edge takes the
winning border by the CSS 2.1 17.6.2 precedence" for what reaches the page. -/
theorem painted_from_grid (d : DrawIn) (segs : List Segment) (h : segments d = .ok segs) (s : Segment)
    (hs : s ∈ segs) :
    s.width ≠ 0 ∧ s.color ≠ 0 ∧ ∃ x y : Nat,
      (s.side = .left ∧ gridAt d.vertical (rowNumber d y false) x = .ok ⟨s.score, ⟨s.style, s.width, s.color⟩⟩) ∨
      (s.side = .top ∧ gridAt d.horizontal (rowNumber d y true) x = .ok ⟨s.score, ⟨s.style, s.width, s.color⟩⟩) := by
  rcases segments_ok h with ⟨_, rfl⟩ | ⟨raw, hraw, rfl⟩
  · cases hs
  · have hs' : s ∈ raw := (sort_perm raw).mem_iff.mp hs
    unfold rawSegments at hraw
    rcases (fold_spec d _ [] raw hraw).2.2 s hs' with h0 | ⟨c, _, hc⟩
    · cases h0
    · unfold call at hc
      split at hc
      · obtain ⟨g, sd, w, cl⟩ := addHorizontal_some d _ _ s hc
        exact ⟨w, cl, c.2.1, c.2.2, Or.inr ⟨sd, g⟩⟩
      · obtain ⟨g, sd, w, cl⟩ := addVertical_some d _ _ s hc
        exact ⟨w, cl, c.2.1, c.2.2, Or.inl ⟨sd, g⟩⟩

/-- `add_horizontal` skips a line silently (`return` without a segment) only for a split-cell edge, a
border of width 0 or a transparent one. -/
theorem addHorizontal_none (d : DrawIn) (x y : Nat) (h : addHorizontal d x y = .ok none) :
    (y = 0 ∧ d.skipTop = true) ∨ (y = gridHeight d ∧ d.skipBottom = true) ∨
    ∃ e, gridAt d.horizontal (rowNumber d y true) x = .ok e ∧ (e.border.width = 0 ∨ e.border.color = 0) := by
  rcases addHorizontal_ok d x y _ h with ⟨h1, _⟩ | ⟨h2, _⟩ | ⟨e, he, hp⟩
  · exact Or.inl h1
  · exact Or.inr (Or.inl h2)
  · exact Or.inr (Or.inr ⟨e, he, hp.of_none⟩)

theorem addVertical_none (d : DrawIn) (x y : Nat) (h : addVertical d x y = .ok none) :
    ∃ e, gridAt d.vertical (rowNumber d y false) x = .ok e ∧ (e.border.width = 0 ∨ e.border.color = 0) := by
  obtain ⟨e, he, hp⟩ := addVertical_ok d x y _ h
  exact ⟨e, he, hp.of_none⟩

private theorem mem_callOrder_h (gw gh x y : Nat) (hx : x < gw) (hy : y ≤ gh) :
    (true, x, y) ∈ callOrder gw gh := by
  unfold callOrder
  cases y with
  | zero =>
    apply List.mem_append_left
    simp only [List.mem_map, List.mem_range]
    exact ⟨x, hx, rfl⟩
  | succ y =>
    apply List.mem_append_right
    simp only [List.mem_flatMap, List.mem_range]
    refine ⟨y, by omega, ?_⟩
    apply List.mem_cons_of_mem
    simp only [List.mem_flatMap, List.mem_range]
    exact ⟨x, hx, by simp⟩

/-- **visible_line_is_painted.**  When `draw_collapsed_borders` succeeds, every horizontal grid line
`y ≤ grid_height` of the fragment over every column `x < grid_width` is either painted — a segment on
that side carrying exactly the grid entry `row_number(y)` selects — or left out for one of exactly three
reasons: it is the top line of a fragment whose first row is cut (`skip_cell_border_top`), the bottom
line of one whose last row is cut (`skip_cell_border_bottom`), or its border has width 0 or is
transparent.  (The clause the oracles "the outer lines of a repeated header / footer are never
skipped" and "the outer body lines are left open only where a row is cut" sample.) -/
theorem visible_line_is_painted (d : DrawIn) (segs : List Segment) (h : segments d = .ok segs)
    (hne : d.rowHeights ≠ [] ∧ d.colWidths ≠ []) (x y : Nat) (hx : x < gridWidth d) (hy : y ≤ gridHeight d) :
    (y = 0 ∧ d.skipTop = true) ∨ (y = gridHeight d ∧ d.skipBottom = true) ∨
    (∃ e, gridAt d.horizontal (rowNumber d y true) x = .ok e ∧ (e.border.width = 0 ∨ e.border.color = 0)) ∨
    (∃ s ∈ segs, s.side = .top ∧
      gridAt d.horizontal (rowNumber d y true) x = .ok ⟨s.score, ⟨s.style, s.width, s.color⟩⟩) := by
  rcases segments_ok h with ⟨hemp, _⟩ | ⟨raw, hraw, rfl⟩
  · rcases hemp with hc | hc
    · exact absurd (List.isEmpty_iff.mp hc) hne.1
    · exact absurd (List.isEmpty_iff.mp hc) hne.2
  · unfold rawSegments at hraw
    obtain ⟨r, hr, hin⟩ := (fold_spec d _ [] raw hraw).2.1 (true, x, y) (mem_callOrder_h _ _ x y hx hy)
    have hr : addHorizontal d x y = .ok r := hr
    cases r with
    | none => exact (addHorizontal_none d x y hr).imp_right (Or.imp_right Or.inl)
    | some s =>
      obtain ⟨g, sd, _, _⟩ := addHorizontal_some d x y s hr
      exact Or.inr (Or.inr (Or.inr ⟨s, (sort_perm raw).mem_iff.mpr (hin s rfl), sd, g⟩))

private def exLine (skipTop : Bool) : DrawIn :=
  let e0 : Edge := weakNull
  let red : Edge := ⟨⟨0, 4, styleRank .solid⟩, ⟨.solid, 4, 1⟩⟩
  ⟨[10], [0], [20], [0], 0, 0, 0, skipTop, false, [[e0, e0]], [[red], [red]]⟩

/-- Non-vacuity of `visible_line_is_painted`: one row, one column, 4px lines above and below: both are
painted (y = 0 and y = 10); with `skip_cell_border_top` only the lower one. -/
example : (segments (exLine false)).toOption.map (·.map (fun s => (s.width, s.y))) = some [(4, 0), (4, 10)] ∧
    (segments (exLine true)).toOption.map (·.map (fun s => (s.width, s.y))) = some [(4, 10)] := by
  constructor <;> decide +kernel

/-- Non-vacuity: a 2-row fragment with a repeated 1-row header that continues a table whose first
three body rows were shown before (`skipped_rows = 4`): its lines 0, 1 are the header's, line 2 is
grid line 5. -/
example :
    let d : DrawIn := ⟨[10, 10], [0, 10], [20], [0], 1, 0, 4, false, false, List.replicate 6 [], []⟩
    rowNumber d 0 true = 0 ∧ rowNumber d 1 true = 1 ∧ rowNumber d 2 true = 5 ∧ rowNumber d 1 false = 4 := by
  decide +kernel

end Wp.C10Draw
