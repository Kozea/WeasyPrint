/-
C18 — Navigation and metadata.  The property theorems; the longer developments they rest on are in
`WpModel/Lemmas/C18*.lean`.
The models are `Model/Outline.lean` (bookmark tree, outlines, link resolution, name order),
`Model/Anchors.lean` (matrices, `rectangle_aabb`, `gather_anchors`), `Model/Dates.lean`
(`_w3c_date_to_pdf`, matcher of `W3C_DATE_RE`), `Model/Metadata.lean`.
-/
import WpModel.Lemmas.C18Bookmarks
import WpModel.Lemmas.C18Outlines
import WpModel.Lemmas.C18Links
import WpModel.Lemmas.C18Dates
import WpModel.Lemmas.C18Gather
import WpModel.Model.Metadata
import WpModel.Lemmas.MaxMin

namespace Wp.C18
open Wp Wp.Outline Wp.Anchors Wp.Dates Wp.KeepFirst

/-! ## bookmark_tree, bookmark_total -/

/-- Depth of a bookmark of level `l` whose predecessors (most recent first) have levels `h`:
one more than the depth of the nearest preceding bookmark of strictly smaller level, 1 if there is none. -/
def nsDepth : List Int → Int → Nat
  | [], _ => 1
  | x :: h, l => if x < l then nsDepth h x + 1 else nsDepth h l

def depthsFrom : List Int → List Int → List Nat
  | _, [] => []
  | h, l :: ls => nsDepth h l :: depthsFrom (l :: h) ls

/-- The levels still open after the bookmarks `h` (most recent first), i.e. `anc` of the state reached: the bridge from
`specDepths` (over the stack of open levels) to `nsDepth` (over the history) — the number of levels left after closing
those ≥ `l` is the depth of the nearest preceding smaller level. -/
private def stackOf : List Int → List Int
  | [] => []
  | x :: h => x :: popGE x (stackOf h)

private theorem popGE_stackOf (h : List Int) (l : Int) : (popGE l (stackOf h)).length + 1 = nsDepth h l := by
  fun_induction nsDepth h l with
  | case1 => rfl
  | case2 x h l hx ih => simp only [stackOf, popGE, if_neg (Int.not_le.mpr hx), List.length_cons, ih]
  | case3 x h l hx ih =>
    simp only [stackOf, popGE, if_pos (Int.not_lt.mp hx), popGE_popGE (Int.not_lt.mp hx), ih]

private theorem specDepths_stackOf (ls : List Int) (h : List Int) :
    specDepths (stackOf h) ls = depthsFrom h ls := by
  fun_induction depthsFrom h ls with
  | case1 => rfl
  | case2 h l ls ih => rw [specDepths, popGE_stackOf, ← ih, stackOf]

/-- The tree returned by `make_bookmark_tree`, read in pre-order with depths, is the list of all
bookmarks in document order (label, `(page_number, x, y)` through the page matrix, state — one node
each), and the depth of each is given by the nearest-smaller-level rule: skipped levels are closed up,
a bookmark closes every open bookmark of level ≥ its own. -/
theorem bookmark_tree (pages : List BPage) (scale : Rat) (tp : Bool)
    (h : ∀ p ∈ pages, ∀ b ∈ p.bookmarks, 1 ≤ b.level) :
    ∃ t, makeBookmarkTree pages scale tp = .ok t ∧
      flatList 1 t = (depthsFrom [] ((pages.flatMap (·.bookmarks)).map (·.level))).zip
        ((docEntries scale tp 0 pages).map entryItem) := by
  have hl : ∀ e ∈ docEntries scale tp 0 pages, 1 ≤ e.level := by
    intro e he
    have : e.level ∈ (docEntries scale tp 0 pages).map (·.level) := List.mem_map_of_mem he
    rw [docEntries_levels] at this
    obtain ⟨b, hb, hbe⟩ := List.mem_map.mp this
    obtain ⟨p, hp, hbp⟩ := List.mem_flatMap.mp hb
    rw [← hbe]; exact h p hp b hbp
  obtain ⟨st, hrun, hinv, hpre⟩ := runEntries_spec _ BState.init Inv.init hl
  refine ⟨rootOf st.frames, ?_, ?_⟩
  · unfold makeBookmarkTree; rw [runPages_eq, hrun]
  · rw [rootOf_pre _ (by rw [hinv.frames]; omega), hpre, docEntries_levels]
    have h0 : preFrames BState.init.frames = [] := by
      simp [BState.init, preFrames, rootFrame, flatList]
    have h1 : anc BState.init.skipped = stackOf [] := rfl
    rw [h0, h1, specDepths_stackOf]; simp

theorem depthsFrom_length (ls : List Int) : ∀ h, (depthsFrom h ls).length = ls.length := by
  intro h
  fun_induction depthsFrom h ls <;> simp [*]

theorem bookmark_tree_items (pages : List BPage) (scale : Rat) (tp : Bool)
    (h : ∀ p ∈ pages, ∀ b ∈ p.bookmarks, 1 ≤ b.level) :
    ∃ t, makeBookmarkTree pages scale tp = .ok t ∧
      (flatList 1 t).map (·.2) = (docEntries scale tp 0 pages).map entryItem := by
  obtain ⟨t, ht, hflat⟩ := bookmark_tree pages scale tp h
  refine ⟨t, ht, ?_⟩
  rw [hflat]
  apply List.map_snd_zip
  rw [depthsFrom_length, List.length_map, List.length_map, ← List.length_map (f := (·.level)), docEntries_levels,
    List.length_map]
  exact Nat.le_refl _

/-- `make_bookmark_tree` over any pages whose bookmark levels are ≥ 1 (CSS `bookmark-level: <integer>`
is ≥ 1), split over pages anyhow, for any scale and both matrix conventions: both `assert`s hold,
`skipped_levels.pop()` is never called on an empty list, `last_by_depth[depth - 1]` exists. -/
theorem bookmark_total (pages : List BPage) (scale : Rat) (tp : Bool)
    (h : ∀ p ∈ pages, ∀ b ∈ p.bookmarks, 1 ≤ b.level) :
    ∃ t, makeBookmarkTree pages scale tp = .ok t :=
  let ⟨t, ht, _⟩ := bookmark_tree pages scale tp h
  ⟨t, ht⟩

example : ∃ t, makeBookmarkTree
    [⟨100, [⟨1, "a", 0, 0, "open"⟩, ⟨6, "b", 0, 20, "open"⟩]⟩, ⟨100, [⟨3, "c", 0, 0, "closed"⟩, ⟨1, "d", 0, 9, "open"⟩]⟩]
    (3 / 4) true = .ok t :=
  bookmark_total _ _ _ (by decide)

/-- The same for one call of `make_page_bookmark_tree` from any state satisfying the invariant
`previous_level = len(skipped) + sum(skipped)`, `len(last_by_depth) = len(skipped) + 1`, skips ≥ 0
(which every state reached from the initial one satisfies): the call succeeds and re-establishes it. -/
theorem bookmark_page_total (bms : List Bookmark) (st : BState) (n : Int) (m : Matrix) (hinv : Inv st)
    (h : ∀ b ∈ bms, 1 ≤ b.level) :
    ∃ st', makePageBookmarkTree bms st n m = .ok st' ∧ Inv st' := by
  obtain ⟨st', hrun, hinv', _⟩ := runEntries_spec _ st hinv (List.forall_mem_map (f := toEntry n m).mpr h)
  exact ⟨st', hrun, hinv'⟩

/-- The first bookmark is at depth 1. -/
theorem depth_first (l : Int) (ls : List Int) : (depthsFrom [] (l :: ls)).head? = some 1 := rfl

private theorem nsDepth_mono (h : List Int) (l x : Int) (hlx : l ≤ x) : nsDepth h l ≤ nsDepth h x := by
  fun_induction nsDepth h l generalizing x with
  | case1 => simp [nsDepth]
  | case2 y h l hy ih => rw [nsDepth, if_pos (by omega)]; omega
  | case3 y h l hy ih =>
    rw [nsDepth]
    split
    · have := ih y (by omega); omega
    · exact ih x hlx

/-- `depth(next) ≤ depth(previous) + 1`: a bookmark is at most one level deeper than its predecessor,
whatever level was skipped in the source. -/
theorem depth_step (h : List Int) (x l : Int) : nsDepth (x :: h) l ≤ nsDepth h x + 1 := by
  simp only [nsDepth]
  by_cases hx : x < l
  · rw [if_pos hx]; omega
  · rw [if_neg hx]; have := nsDepth_mono h l x (by omega); omega

/-- A larger level than the previous bookmark opens a child; the same level gives a sibling. -/
theorem depth_child (h : List Int) (x l : Int) (hx : x < l) : nsDepth (x :: h) l = nsDepth h x + 1 := by
  simp [nsDepth, hx]

theorem depth_sibling (h : List Int) (x : Int) : nsDepth (x :: h) x = nsDepth h x := by
  simp [nsDepth]

example : depthsFrom [] [1, 3, 2, 6, 6, 1, 4] = [1, 2, 2, 3, 3, 1, 2] := by decide +kernel

/-- Page-split invariance: the depths, labels and states of the tree depend only on the concatenation
of the pages' bookmark lists (the state is threaded through the pages), not on where the page
boundaries fall. -/
theorem bookmark_split_invariant (ps qs : List BPage) (scale : Rat) (tp : Bool)
    (h : ∀ p ∈ ps, ∀ b ∈ p.bookmarks, 1 ≤ b.level)
    (hsame : ps.flatMap (·.bookmarks) = qs.flatMap (·.bookmarks)) :
    ∃ t u, makeBookmarkTree ps scale tp = .ok t ∧ makeBookmarkTree qs scale tp = .ok u ∧
      (flatList 1 t).map (fun x => (x.1, x.2.1, x.2.2.2)) = (flatList 1 u).map (fun x => (x.1, x.2.1, x.2.2.2)) := by
  have hq : ∀ p ∈ qs, ∀ b ∈ p.bookmarks, 1 ≤ b.level := by
    intro p hp b hb
    have : b ∈ qs.flatMap (·.bookmarks) := List.mem_flatMap.mpr ⟨p, hp, hb⟩
    rw [← hsame] at this
    obtain ⟨p', hp', hb'⟩ := List.mem_flatMap.mp this
    exact h p' hp' b hb'
  obtain ⟨t, ht, hft⟩ := bookmark_tree ps scale tp h
  obtain ⟨u, hu, hfu⟩ := bookmark_tree qs scale tp hq
  refine ⟨t, u, ht, hu, ?_⟩
  have key := docEntries_map (fun e => (e.label, e.state)) (fun b => (b.label, b.state)) (fun _ _ _ => rfl) scale tp
  -- depth, label and state of the zipped items come from the depths and from the labels and states
  have hz : ∀ (ds : List Nat) (es : List Entry), (ds.zip (es.map entryItem)).map (fun x => (x.1, x.2.1, x.2.2.2)) =
      (ds.zip (es.map fun e => (e.label, e.state))).map (fun x => (x.1, x.2.1, x.2.2)) := by
    intro ds es
    simp only [List.zip_map_right, List.map_map]
    rfl
  rw [hft, hfu, hsame, hz, hz, key, key, hsame]

/-- The same as an equality of trees: up to the targets (which carry the page number), the forest
does not depend on the page split. -/
theorem bookmark_split_invariant_shape (ps qs : List BPage) (scale : Rat) (tp : Bool)
    (h : ∀ p ∈ ps, ∀ b ∈ p.bookmarks, 1 ≤ b.level)
    (hsame : ps.flatMap (·.bookmarks) = qs.flatMap (·.bookmarks)) :
    ∃ t u, makeBookmarkTree ps scale tp = .ok t ∧ makeBookmarkTree qs scale tp = .ok u ∧
      shapeList t = shapeList u := by
  obtain ⟨t, u, ht, hu, hflat⟩ := bookmark_split_invariant ps qs scale tp h hsame
  refine ⟨t, u, ht, hu, flatList_injective 1 _ _ ?_⟩
  rw [flatList_shape, flatList_shape]
  have e : ∀ xs : List (Nat × Item), xs.map eraseTarget =
      (xs.map (fun x => (x.1, x.2.1, x.2.2.2))).map (fun y => (y.1, y.2.1, ⟨0, 0, 0⟩, y.2.2)) := by
    intro xs
    rw [List.map_map]
    rfl
  rw [e, e, hflat]

/-- The depth-annotated pre-order determines the forest: `bookmark_tree` characterises the result of
`make_bookmark_tree` completely. -/
theorem bookmark_tree_unique (t u : List BTree) (h : flatList 1 t = flatList 1 u) : t = u :=
  flatList_injective 1 t u h

/-! ## outline_links -/

/-- `add_outlines(pdf, bookmarks)` (top-level call) is completely determined by the bookmark tree and
`len(pdf.objects)`: the dictionaries are numbered in pre-order from `next`; the outlines dictionary
gets the following number `D`, `Count` = number of entries visible with the given open/closed states,
`First` = the first root, `Last` = the last root; every root has `Parent = D`; and `GoodList` fixes,
recursively, every field of every dictionary (`Title`, `Dest` page reference and point, `Count`
= visible descendants, negated when closed, `Prev`/`Next` = neighbouring siblings, `First`/`Last` =
first / last child, `Parent`). -/
theorem outline_spec (refs : List Nat) (next : Nat) (forest : List BTree) (r : OutlinesResult)
    (h : addOutlines refs next forest none = .ok r) :
    r.count = visList forest ∧
    GoodList refs (if forest.isEmpty then none else some (next + sizeList forest)) none next forest r.nodes ∧
    r.dict = (match lastTop next forest with
      | none => none
      | some l => some ⟨next + sizeList forest, visList forest, next, l⟩) := by
  unfold addOutlines at h
  cases hl : addOutlineList refs none none next forest with
  | error e => rw [hl] at h; simp at h
  | ok res =>
    obtain ⟨nodes, c, nx⟩ := res
    rw [hl] at h
    simp only [] at h
    obtain ⟨hg, hc, hnx⟩ := addOutlineList_good refs none none next forest nodes c nx hl
    have hh := GoodList_headNum hg
    have hlast := GoodList_lastNum hg
    cases forest with
    | nil =>
      simp only [List.isEmpty_nil, if_true] at hh
      rw [hh] at h
      simp only [Except.ok.injEq] at h
      subst h
      exact ⟨hc, hg, by simp [lastTop]⟩
    | cons t ts =>
      simp only [List.isEmpty_cons] at hh
      rw [hh] at h
      cases hlt : lastTop next (t :: ts) with
      | none => exact absurd hlt (lastTop_cons_ne_none ts t next)
      | some l =>
        rw [hlt] at hlast
        rw [hlast] at h
        injection h with h
        subst h
        refine ⟨hc, ?_, ?_⟩
        · simp only [List.isEmpty_cons]
          rw [hnx]
          exact GoodList_setParent _ hg
        · simp [hnx, hc]

/-- Recursive call (`parent` given): no outlines dictionary, same specification below `parent`. -/
theorem outline_spec_nested (refs : List Nat) (next p : Nat) (forest : List BTree) (r : OutlinesResult)
    (h : addOutlines refs next forest (some p) = .ok r) :
    r.count = visList forest ∧ GoodList refs (some p) none next forest r.nodes ∧ r.dict = none := by
  generalize hp : some p = parent at h
  revert h
  fun_cases addOutlines refs next forest parent <;> rintro ⟨⟩
  · cases hp
  next nodes c nx hl _ =>
    subst hp
    obtain ⟨hg, hc, _⟩ := addOutlineList_good refs (some p) none next forest nodes c nx hl
    exact ⟨hc, hg, rfl⟩

/-- `add_outlines` fails only on a bookmark whose page index is outside `pdf.page_references`
(impossible for trees built by `make_bookmark_tree`, whose page numbers enumerate the pages). -/
theorem outline_total (refs : List Nat) (next : Nat) (forest : List BTree) (parent : Option Nat)
    (h : pagesOkList refs forest = true) : ∃ r, addOutlines refs next forest parent = .ok r := by
  obtain ⟨⟨nodes, c, nx⟩, hr⟩ := addOutlineList_total refs parent none next forest h
  unfold addOutlines
  rw [hr]
  simp only []
  split <;> exact ⟨_, rfl⟩

/-- Siblings are doubly linked, in order: the first has no `Prev`, each `Next` is the number of the
following sibling and that sibling's `Prev` points back, the last has no `Next`. -/
theorem outline_siblings_linked {refs : List Nat} {parent prev : Option Nat} {num : Nat} {ts : List BTree}
    {ns : List ONode} (h : GoodList refs parent prev num ts ns) : Linked prev ns := GoodList_linked h

/-- One node: `First`/`Last` are its first/last child (absent without children), every child's
`Parent` is the node, the children are doubly linked starting without `Prev`, `Count` is the number of
descendants visible when the node is open, negated when it is closed. -/
theorem outline_node {refs : List Nat} {parent prev nxt : Option Nat} {num : Nat}
    {title : String} {target : Target} {kids : List BTree} {state : String} {o : Outline} {okids : List ONode}
    (h : GoodNode refs parent prev nxt num (.node title target kids state) (.mk o okids)) :
    o.first = headNum okids ∧ o.last = lastNum okids ∧ (∀ k ∈ okids, k.outline.parent = some o.num) ∧
    Linked none okids ∧ okids.length = kids.length ∧
    o.count = (if state == "closed" then -(visList kids) else visList kids) ∧
    o.title = title ∧ pageReference refs target.page = .ok o.pageRef ∧ o.x = target.x ∧ o.y = target.y := by
  rw [GoodNode] at h
  obtain ⟨a1, a2, a3, a4, a5, a6, _, _, _, a10, a11, a12⟩ := h
  refine ⟨?_, ?_, ?_, GoodList_linked a12, GoodList_length a12, a6, a2, a3, a4, a5⟩
  · rw [a10, GoodList_headNum a12]
  · rw [a11, GoodList_lastNum a12]
  · rw [a1]; exact GoodList_parent a12

/-- Object numbers are the pre-order positions: all distinct, so every reference is unambiguous. -/
theorem outline_numbers {refs : List Nat} {parent prev : Option Nat} {num : Nat} {ts : List BTree}
    {ns : List ONode} (h : GoodList refs parent prev num ts ns) :
    (flattenNodes ns).map (·.num) = List.range' num (sizeList ts) := GoodList_numbers ts ns h

example : ∃ r, addOutlines [3, 4] 5
    [.node "a" ⟨0, 1, 2⟩ [.node "b" ⟨1, 0, 0⟩ [.node "c" ⟨1, 0, 0⟩ [] "open"] "closed"] "open",
     .node "d" ⟨1, 0, 0⟩ [] "open"] none = .ok r :=
  outline_total _ _ _ _ (by decide)

/-! ## links_resolved -/

/-- Names of the destinations `resolve_links` emits, over all pages. -/
def destNames (pages : List LPage) : List String :=
  ((resolveLinks pages).flatMap (·.2)).map (·.name)

private theorem resolve_snd (pages : List LPage) :
    (resolveLinks pages).map (·.2) = (allAnchors pages []).1 := by
  unfold resolveLinks
  exact List.map_snd_zip (by simp [allAnchors_length])

private theorem resolve_fst (pages : List LPage) :
    (resolveLinks pages).map (·.1) = pages.map (fun p => pageLinks (allAnchors pages []).2 p.links) := by
  unfold resolveLinks
  exact List.map_fst_zip (by simp [allAnchors_length])

private theorem resolve_dests (pages : List LPage) :
    (resolveLinks pages).flatMap (·.2) = firsts (·.name) (pages.flatMap (·.anchors)) [] := by
  rw [List.flatMap_def, resolve_snd, (allAnchors_flatten pages []).1, pageAnchors_eq]

private theorem destNames_eq (pages : List LPage) :
    destNames pages = (firsts (·.name) (pages.flatMap (·.anchors)) []).map (·.name) := by
  unfold destNames; rw [resolve_dests]

private theorem anchorSet_eq (pages : List LPage) : (allAnchors pages []).2 = destNames pages := by
  rw [destNames_eq, (allAnchors_flatten pages []).2, pageAnchors_eq, List.nil_append]

theorem mem_destNames (pages : List LPage) (n : String) :
    n ∈ destNames pages ↔ n ∈ (pages.flatMap (·.anchors)).map (·.name) := by
  rw [destNames_eq, mem_firsts_keys]
  simp

/-- One result per page. -/
theorem resolve_length (pages : List LPage) : (resolveLinks pages).length = pages.length := by
  unfold resolveLinks; simp [allAnchors_length]

/-- No dangling internal link: every internal link that is emitted names an emitted destination. -/
theorem links_no_dangling (pages : List LPage) :
    ∀ r ∈ resolveLinks pages, ∀ l ∈ r.1, l.type = "internal" → l.target ∈ destNames pages := by
  intro r hr l hl hint
  have hmem : r.1 ∈ (resolveLinks pages).map (·.1) := List.mem_map_of_mem hr
  rw [resolve_fst] at hmem
  obtain ⟨p, _, hp⟩ := List.mem_map.mp hmem
  rw [← hp, pageLinks_eq_filter, anchorSet_eq] at hl
  have := (List.mem_filter.mp hl).2
  simp only [hint, beq_self_eq_true, Bool.not_true, Bool.false_or] at this
  exact List.contains_iff_mem.mp this

/-- What is kept: on every page, in order, exactly the links that are not internal (external,
attachment: untouched) and the internal links whose target is the name of an anchor of some page;
internal links to a missing anchor are dropped. -/
theorem links_kept (pages : List LPage) :
    (resolveLinks pages).map (·.1) = pages.map (fun p => p.links.filter
      (fun l => !(l.type == "internal") || ((pages.flatMap (·.anchors)).map (·.name)).contains l.target)) := by
  rw [resolve_fst]
  apply List.map_congr_left
  intro p _
  rw [pageLinks_eq_filter]
  apply List.filter_congr
  intro l _
  congr 1
  rw [anchorSet_eq]
  apply Bool.eq_iff_iff.mpr
  rw [List.contains_iff_mem, List.contains_iff_mem]
  exact mem_destNames pages l.target

private theorem pageErrors_eq (names : List String) (ls : List Outline.Link) :
    pageErrors names ls = (ls.filter (fun l => l.type == "internal" && !names.contains l.target)).map (·.target) := by
  fun_induction pageErrors names ls <;> simp only [List.filter, List.map, *]

/-- "Dropped with an error": exactly the dropped links are reported, one `LOGGER.error` each, in
document order — every link of every page is either emitted or reported, never both, never neither. -/
theorem links_dropped_reported (pages : List LPage) :
    resolveErrors pages = (pages.flatMap fun p => (p.links.filter
      (fun l => l.type == "internal" && !(destNames pages).contains l.target)).map (·.target)) ∧
    ∀ p ∈ pages, ∀ l ∈ p.links,
      (l ∈ pageLinks (destNames pages) p.links) ≠
        (l.type = "internal" ∧ l.target ∉ destNames pages) := by
  constructor
  · unfold resolveErrors
    simp only [anchorSet_eq]
    congr 1
    funext p
    exact pageErrors_eq _ _
  · intro p _ l hl
    rw [pageLinks_eq_filter]
    by_cases h1 : l.type = "internal"
    · by_cases h2 : l.target ∈ destNames pages
      · simp [List.mem_filter, hl, h1, h2]
      · simp [List.mem_filter, hl, h1, h2]
    · have : (l.type == "internal") = false := by simpa using h1
      simp [List.mem_filter, hl, h1, this]

/-- Each anchor name is emitted exactly once over the whole document. -/
theorem anchors_once (pages : List LPage) : (destNames pages).Nodup := by
  rw [destNames_eq]; exact firsts_nodup _ _ []

/-- … namely for its first occurrence in page order (and, within a page, in `page.anchors` order):
the destination for `n` has the coordinates of the first anchor named `n`. -/
theorem anchors_first (pages : List LPage) (n : String) :
    ((resolveLinks pages).flatMap (·.2)).find? (fun a => a.name == n) =
      (pages.flatMap (·.anchors)).find? (fun a => a.name == n) := by
  rw [resolve_dests]
  exact firsts_find _ _ [] n (by simp)

/-- … and it is listed on the page that carries that anchor: page `i` lists only anchors of page `i`. -/
theorem anchors_on_own_page (pages : List LPage) (i : Nat) (hi : i < pages.length) :
    List.Sublist ((resolveLinks pages)[i]'(by rw [resolve_length]; exact hi)).2 (pages[i]).anchors := by
  have h2 : i < (allAnchors pages []).1.length := by rw [allAnchors_length]; exact hi
  have := allAnchors_sublist pages [] i hi h2
  have e : ((resolveLinks pages)[i]'(by rw [resolve_length]; exact hi)).2 = (allAnchors pages []).1[i] := by
    have := congrArg (fun l => l[i]?) (resolve_snd pages)
    simp only [List.getElem?_map] at this
    rw [List.getElem?_eq_getElem (by rw [resolve_length]; exact hi), List.getElem?_eq_getElem h2] at this
    simpa using this
  rw [e]; exact this

/-- Every anchor name of the document is a destination (nothing is lost by the de-duplication). -/
theorem anchors_complete (pages : List LPage) :
    ∀ p ∈ pages, ∀ a ∈ p.anchors, a.name ∈ destNames pages := by
  intro p hp a ha
  exact (mem_destNames pages a.name).mpr (List.mem_map_of_mem (List.mem_flatMap.mpr ⟨p, hp, ha⟩))

example : (destNames [⟨[⟨"a", 1, 2⟩], []⟩, ⟨[⟨"a", 3, 3⟩, ⟨"b", 1, 1⟩], []⟩]) = ["a", "b"] := by decide +kernel

example : resolveLinks
    [⟨[⟨"a", 1, 2⟩], [⟨"internal", "a", 0⟩, ⟨"internal", "zz", 1⟩, ⟨"external", "u", 2⟩]⟩,
     ⟨[⟨"a", 3, 3⟩, ⟨"b", 1, 1⟩], [⟨"internal", "b", 3⟩]⟩] =
    [([⟨"internal", "a", 0⟩, ⟨"external", "u", 2⟩], [⟨"a", 1, 2⟩]), ([⟨"internal", "b", 3⟩], [⟨"b", 1, 1⟩])] := by
  decide +kernel

/-! ## Document.copy: a subset of the pages -/

/-- The test of the second loop of `resolve_links`, on the anchors of a list of pages. -/
def keptIn (pages : List LPage) (l : Outline.Link) : Bool :=
  !(l.type == "internal") || ((pages.flatMap (·.anchors)).map (·.name)).contains l.target

/-- Taking pages away can only drop links: a link kept among the selected pages is kept in the whole
document. -/
theorem keptIn_mono (pages sub : List LPage) (hsub : ∀ p ∈ sub, p ∈ pages) (l : Outline.Link)
    (h : keptIn sub l = true) : keptIn pages l = true := by
  unfold keptIn at h ⊢
  cases ht : (l.type == "internal") with
  | false => simp
  | true =>
    simp only [ht, Bool.not_true, Bool.false_or] at h ⊢
    rw [List.contains_iff_mem] at h ⊢
    obtain ⟨a, ha, hn⟩ := List.mem_map.mp h
    obtain ⟨p, hp, hap⟩ := List.mem_flatMap.mp ha
    exact List.mem_map.mpr ⟨a, List.mem_flatMap.mpr ⟨p, hsub p hp, hap⟩, hn⟩

/-- `document.copy(pages').write_pdf()` — `resolve_links` run on any selection of the pages of a document
(some left out, reordered, repeated): every selected page keeps exactly the links it has in the PDF of
the whole document, in order, **minus the internal links whose anchor lies on no selected page**; these
are dropped (and reported, `links_dropped_reported`), never left dangling (`links_no_dangling`). -/
theorem copy_links (pages sub : List LPage) (hsub : ∀ p ∈ sub, p ∈ pages) :
    (resolveLinks sub).map (·.1) =
      sub.map (fun p => (p.links.filter (keptIn pages)).filter (keptIn sub)) := by
  rw [links_kept]
  apply List.map_congr_left
  intro p _
  rw [List.filter_filter]
  apply List.filter_congr
  intro l _
  show keptIn sub l = (keptIn sub l && keptIn pages l)
  cases h : keptIn sub l with
  | false => rfl
  | true => rw [keptIn_mono pages sub hsub l h]; rfl

/-- The destinations of the copy are destinations of the whole document. -/
theorem copy_destinations (pages sub : List LPage) (hsub : ∀ p ∈ sub, p ∈ pages) :
    ∀ n ∈ destNames sub, n ∈ destNames pages := by
  intro n hn
  obtain ⟨a, ha, hna⟩ := List.mem_map.mp ((mem_destNames sub n).mp hn)
  obtain ⟨p, hp, hap⟩ := List.mem_flatMap.mp ha
  rw [← hna]
  exact anchors_complete pages p (hsub p hp) a hap

/-- Two pages; the copy holds the second only: its link to `a` (an anchor of the first page) goes, its
link to `b` and its external link stay. -/
example :
    let p1 : LPage := ⟨[⟨"a", 1, 2⟩], [⟨"internal", "b", 0⟩]⟩
    let p2 : LPage := ⟨[⟨"b", 1, 1⟩], [⟨"internal", "a", 1⟩, ⟨"internal", "b", 2⟩, ⟨"external", "u", 3⟩]⟩
    (∀ p ∈ [p2], p ∈ [p1, p2]) ∧
    (resolveLinks [p1, p2]).map (·.1) = [[⟨"internal", "b", 0⟩], [⟨"internal", "a", 1⟩, ⟨"internal", "b", 2⟩, ⟨"external", "u", 3⟩]] ∧
    (resolveLinks [p2]).map (·.1) = [[⟨"internal", "b", 2⟩, ⟨"external", "u", 3⟩]] := by
  refine ⟨by simp, by decide +kernel, by decide +kernel⟩

/-! ## name tree order -/

/-- `sorted(pdf_names, key=key_bytes)` (repair 09da5a8): the `/Dests` array is a permutation of the
named destinations and is strictly increasing in the byte order of its keys **as `keyBytes` gives them** — the bytes
`pydyf.String(name)` is built from: ASCII names as their bytes, other names as BOM + UTF-16BE — provided the
names are distinct, which `anchors_once` guarantees.  These are the bytes a PDF reader compares (ISO 32000-1 7.9.6)
unless an ASCII name holds a carriage return, which is written raw and read back as a line feed
(`Witness.C18.pdf_string_cr`).  For non-ASCII names the order differs from that of the Python strings (finding
`dests-not-byte-sorted`, repaired). -/
theorem names_byte_sorted (l : List (List Nat × Nat)) (hnd : (l.map (·.1)).Nodup)
    (hscalar : ∀ e ∈ l, ∀ c ∈ e.1, Scalar c) :
    (sortNames l).Perm l ∧ StrictSorted ((sortNames l).map withKey) :=
  ⟨sortNames_perm l, sortNames_sorted l (keys_nodup l hnd hscalar)⟩

/-- A binary search of the written array finds every name: the key of an entry at a smaller index is
strictly smaller (pairwise form of `names_byte_sorted`). -/
theorem names_byte_sorted_pairwise (l : List (List Nat × Nat)) (hnd : (l.map (·.1)).Nodup)
    (hscalar : ∀ e ∈ l, ∀ c ∈ e.1, Scalar c) :
    ((sortNames l).map withKey).Pairwise (fun a b => nameLt a.1 b.1 = true) :=
  List.pairwise_map.mpr
    ((sortNames_strict l (keys_nodup l hnd hscalar)).imp fun h => (nameLt_iff _ _).mpr h)

example : ([([122], 0), ([97, 233], 1), ([97], 2)].map (·.1)).Nodup ∧
    (∀ e ∈ [([122], 0), ([97, 233], 1), ([97], 2)], ∀ c ∈ e.1, Scalar c) := by
  refine ⟨by decide +kernel, ?_⟩
  intro e he c hc
  simp only [List.mem_cons, List.not_mem_nil, or_false] at he
  rcases he with rfl | rfl | rfl <;> simp only [List.mem_cons, List.not_mem_nil, or_false] at hc <;>
    (try rcases hc with rfl | rfl) <;> (try subst hc) <;> (unfold Scalar; omega)

/-- `a` < `z` < `aé`: the non-ASCII name is written `<FEFF006100E9>` and goes last. -/
example : sortNames [([122], 0), ([97, 233], 1), ([97], 2)] = [([97], 2), ([122], 0), ([97, 233], 1)] := by decide +kernel

/-! ## link_rect -/

/-- Without a matrix the rectangle is the hit area itself. -/
theorem aabb_untransformed (x y w h : Rat) : rectangleAabb none x y w h = ⟨x, y, x + w, y + h⟩ := rfl

/-- `min4` / `max4` (the fold of `min` / `max` over four values) is one of the values and bounds them all. -/
theorem fold4 {op : Rat → Rat → Rat} {r : Rat → Rat → Prop} (h : MaxMin.Lub op r) (a b c d : Rat) :
    op (op (op a b) c) d ∈ [a, b, c, d] ∧ ∀ v ∈ [a, b, c, d], r v (op (op (op a b) c) d) :=
  ⟨h.foldl_mem_cons [b, c, d] a, h.le_foldl_cons [b, c, d] a⟩

/-- `rectangle_aabb` contains the four transformed corners of the hit area. -/
theorem aabb_contains_corners (m : Matrix) (x y w h : Rat) (cx cy : Rat)
    (hc : (cx, cy) ∈ [m.transformPoint x y, m.transformPoint (x + w) y, m.transformPoint x (y + h),
      m.transformPoint (x + w) (y + h)]) :
    let r := rectangleAabb (some m) x y w h
    r.x1 ≤ cx ∧ cx ≤ r.x2 ∧ r.y1 ≤ cy ∧ cy ≤ r.y2 := by
  have hx := List.mem_map_of_mem (f := Prod.fst) hc
  have hy := List.mem_map_of_mem (f := Prod.snd) hc
  exact ⟨(fold4 MaxMin.lub_min ..).2 _ hx, (fold4 MaxMin.lub_max ..).2 _ hx, (fold4 MaxMin.lub_min ..).2 _ hy,
    (fold4 MaxMin.lub_max ..).2 _ hy⟩

/-- … and is the smallest such rectangle: each side passes through a transformed corner. -/
theorem aabb_tight (m : Matrix) (x y w h : Rat) :
    let r := rectangleAabb (some m) x y w h
    let cs := [m.transformPoint x y, m.transformPoint (x + w) y, m.transformPoint x (y + h),
      m.transformPoint (x + w) (y + h)]
    r.x1 ∈ cs.map (·.1) ∧ r.x2 ∈ cs.map (·.1) ∧ r.y1 ∈ cs.map (·.2) ∧ r.y2 ∈ cs.map (·.2) :=
  ⟨(fold4 MaxMin.lub_min ..).1, (fold4 MaxMin.lub_max ..).1, (fold4 MaxMin.lub_min ..).1, (fold4 MaxMin.lub_max ..).1⟩

/-- Axis-aligned matrices (no rotation / skew: `b = c = 0`) with non-negative scale map the hit area
`(x, y, w, h)` (`w, h ≥ 0`) exactly to the rectangle of its two transformed corners. -/
theorem aabb_axis_aligned (a d e f x y w h : Rat) (ha : 0 ≤ a) (hd : 0 ≤ d) (hw : 0 ≤ w) (hh : 0 ≤ h) :
    rectangleAabb (some ⟨a, 0, 0, d, e, f⟩) x y w h =
      ⟨x * a + e, y * d + f, (x + w) * a + e, (y + h) * d + f⟩ := by
  -- both coordinates are monotone in the corner
  have mono : ∀ s t k c : Rat, 0 ≤ k → 0 ≤ t → s * k + c ≤ (s + t) * k + c := by
    intro s t k c hk ht
    rw [Rat.add_mul, Rat.add_le_add_right]
    have := Rat.add_le_add_left (c := s * k) |>.mpr (Rat.mul_nonneg ht hk)
    rwa [Rat.add_zero] at this
  have h1 := mono x w a e ha hw
  have h2 := mono y h d f hd hh
  simp only [rectangleAabb, Matrix.transformPoint, min4, max4, Rat.mul_zero, Rat.add_zero, Rat.zero_add]
  rw [Rat.min_eq_left h1, Rat.min_eq_left Rat.le_refl, Rat.min_eq_left h1, Rat.min_eq_left Rat.le_refl,
    Rat.min_eq_left h2, Rat.min_eq_left h2, Rat.max_eq_right h1, Rat.max_eq_left h1, Rat.max_eq_right Rat.le_refl,
    Rat.max_eq_right Rat.le_refl, Rat.max_eq_right h2, Rat.max_eq_right Rat.le_refl]

/-- `add_links`: with the page matrix of `generate_pdf` the annotation rectangle of a link whose box
rectangle is `r` (CSS pixels from the top-left corner) is `r` scaled and flipped to PDF points from
the bottom-left corner; a named destination `(x, y)` is written as `(scale·x, scale·(height − y))`. -/
theorem annot_rect (scale height : Rat) (r : Rect) :
    annotRect (pageMatrix scale height) r =
      ⟨scale * r.x1, scale * (height - r.y1), scale * r.x2, scale * (height - r.y2)⟩ := by
  simp only [annotRect, pageMatrix, Matrix.transformPoint, Rect.mk.injEq]
  refine ⟨?_, ?_, ?_, ?_⟩ <;> grind

example : rectangleAabb (some ⟨0, 1, -1, 0, 0, 0⟩) 1 2 3 4 = ⟨-6, 1, -2, 4⟩ := by decide +kernel

/-! ### gather_anchors: where an anchor points -/

/-- The named destination recorded for a box that carries an anchor — bookmark or not — is its hit
area's top-left / bottom-right corners through the accumulated matrix, applied once. -/
theorem anchor_position (kind : Kind) (hx hy hw hh : Rat) (label : String) (level : Option Int)
    (state : String) (link : Option (String × String)) (att : Bool) (n : String) (m : Option Matrix) (acc : Acc)
    (hn : n ≠ "") (hnew : hasName n acc.anchors = false) :
    (visit kind hx hy hw hh label level state link att (some n) m acc).anchors =
      acc.anchors ++ [⟨n, match m with
        | some mm => ⟨(mm.transformPoint hx hy).1, (mm.transformPoint hx hy).2,
            (mm.transformPoint (hx + hw) (hy + hh)).1, (mm.transformPoint (hx + hw) (hy + hh)).2⟩
        | none => ⟨hx, hy, hx + hw, hy + hh⟩⟩] := by
  have hne : (n != "") = true := by simpa using hn
  unfold visit anchorStep
  simp only [(bookmarkStep_frame ..).2, (linkStep_frame ..).2, hasAnchor, hne, hnew, Bool.not_false, Bool.and_self,
    if_true]
  cases m <;> rfl

/-- The bookmark of a labelled box points to the same transformed corner. -/
theorem bookmark_position (kind : Kind) (hx hy hw hh : Rat) (label : String) (l : Int) (state : String)
    (link : Option (String × String)) (att : Bool) (anchor : Option String) (m : Option Matrix) (acc : Acc)
    (hb : hasBookmark label (some l) = true) :
    (visit kind hx hy hw hh label (some l) state link att anchor m acc).bookmarks =
      (linkStep kind hx hy hw hh link att m acc).bookmarks ++
        [⟨l, label, (bookmarkPos m hx hy).1, (bookmarkPos m hx hy).2, state⟩] := by
  unfold visit
  rw [(anchorStep_frame ..).2]
  unfold bookmarkStep
  simp only [hb, if_true]

example : hasName "a" ({} : Acc).anchors = false ∧ hasBookmark "one" (some 1) = true ∧ "a" ≠ "" := by decide +kernel

/-- Without any transform in force the anchor is the hit area. -/
theorem anchor_position_untransformed (kind : Kind) (hx hy hw hh : Rat) (label : String) (level : Option Int)
    (state : String) (link : Option (String × String)) (att : Bool) (n : String) (acc : Acc)
    (hn : n ≠ "") (hnew : hasName n acc.anchors = false) :
    (visit kind hx hy hw hh label level state link att (some n) none acc).anchors =
      acc.anchors ++ [⟨n, ⟨hx, hy, hx + hw, hy + hh⟩⟩] :=
  anchor_position kind hx hy hw hh label level state link att n none acc hn hnew

/-- Duplicate ids: only the first is an anchor (`anchor_name not in anchors`). -/
theorem anchor_first_wins (kind : Kind) (hx hy hw hh : Rat) (label : String) (level : Option Int)
    (state : String) (link : Option (String × String)) (att : Bool) (n : String) (m : Option Matrix) (acc : Acc)
    (hdup : hasName n acc.anchors = true) :
    (visit kind hx hy hw hh label level state link att (some n) m acc).anchors = acc.anchors := by
  unfold visit anchorStep
  simp only [(bookmarkStep_frame ..).2, (linkStep_frame ..).2, hasAnchor, hdup, Bool.not_true, Bool.and_false,
    Bool.false_eq_true, if_false]

/-- The rectangle recorded for a link is `rectangle_aabb` of the hit area under the accumulated
matrix, and a link on a text / line box is not recorded (the property is inherited). -/
theorem link_rect (kind : Kind) (hx hy hw hh : Rat) (label : String) (level : Option Int) (state : String)
    (ty target : String) (att : Bool) (anchor : Option String) (m : Option Matrix) (acc : Acc) :
    (visit kind hx hy hw hh label level state (some (ty, target)) att anchor m acc).links =
      if kind != .text && kind != .line then
        acc.links ++ [⟨if ty == "external" && att then "attachment" else ty, target, rectangleAabb m hx hy hw hh⟩]
      else acc.links := by
  unfold visit
  rw [(anchorStep_frame ..).1, (bookmarkStep_frame ..).1]
  unfold linkStep hasLink
  simp only [Option.isSome_some, Bool.true_and]
  split <;> rfl

private theorem gatherList_nodup : ∀ (bs : List GBox) (m : Option Matrix) (acc : Acc), (acc.anchors.map (·.name)).Nodup →
    ((gatherList bs m acc).anchors.map (·.name)).Nodup := by
  intro bs m acc h
  rw [gatherList_fold, fold_anchors]
  exact addFirst_nodup _ _ h

/-- Within a page, `gather_anchors` records each anchor name once (the first box carrying it:
`anchor_first_wins`). -/
theorem page_anchors_once (root : GBox) : ((gatherPage root).anchors.map (·.name)).Nodup := by
  rw [gatherPage, gather_fold, fold_anchors]
  exact addFirst_nodup _ _ List.nodup_nil

/-! ## date_roundtrip -/

/-- The pattern text of `html.W3C_DATE_RE` (regenerated from the source at every run) is the pattern
the matcher `matchW3C` transcribes. -/
theorem pattern_is_modelled : Gen.datePattern = modelledPattern := rfl

/-- The key tuples of the loop of `_w3c_date_to_pdf` (regenerated from the source). -/
theorem date_keys : Gen.dateKeys = ["second", "minute", "hour", "day", "month", "year"] ∧
    Gen.dateOneKeys = ["day", "month"] := ⟨rfl, rfl⟩

deriving instance DecidableEq for Except

/-- The model agrees with the graph of the real function on every time-zone hour (both signs, `-00`
included) × the tabulated minutes … -/
theorem tz_graph_agrees : ∀ e ∈ Gen.tzGraph,
    tzSuffix { hour := some ['0', '0'], minute := some ['0', '0'], tzHour := some e.1, tzMinute := some e.2.1 } =
      .ok e.2.2 := by decide +kernel

/-- … and on one date of each of the six formats. -/
theorem format_graph_agrees : ∀ e ∈ Gen.formatGraph, w3cDateToPdf e.1 = .ok (some e.2) := by decide +kernel

/-- All six W3C formats, every time zone (`Z`, `+hh:mm`, `-hh:mm`, including `-00:30`), any HTML white
space around: the string matches `W3C_DATE_RE`, `_w3c_date_to_pdf` raises nothing (its three asserts
hold), and the PDF date it writes reads back as the same instant (missing month/day → 1, missing
seconds → 0, fraction dropped, time zone with its sign). -/
theorem date_roundtrip (d : W3C) (hw : d.wf) (pre post : Str) (hpre : allWs pre = true) (hpost : allWs post = true) :
    w3cDateToPdf (pre ++ d.print ++ post) = .ok (some d.pdf) ∧ parsePdfDate d.pdf = some d.normal := by
  refine ⟨?_, parse_pdf d hw⟩
  unfold w3cDateToPdf
  rw [match_print d hw pre post hpre hpost]
  simp only [groups_pdf d hw]

/-- The sign of the time zone survives for the zero hour (the defect F17, repaired in /repo). -/
example : w3cDateToPdf "2024-05-17T10:30-00:30".toList = .ok (some "D:20240517103000-00'30".toList) := by
  decide +kernel

example : (W3C.full 2024 5 17 ⟨10, 30, some (59, [4, 5]), .offset true 0 30⟩).wf := by
  simp [W3C.wf, Clock.wf, Zone.wf]

/-! ## info_fields -/

open Wp.Metadata in
/-- `/Info` and `/Lang` carry the metadata unchanged: the entry for a non-empty field is the field
itself (authors / keywords joined with `", "`), an empty or missing field writes no entry. -/
theorem info_fields (m : Meta) (hc : m.created = none) (hm : m.modified = none) :
    infoFields m = .ok (optField "Title" m.title ++ listField "Author" m.authors ++
      optField "Subject" m.description ++ listField "Keywords" m.keywords ++ optField "Creator" m.generator ++
      optField "Lang" m.lang) := by
  simp [infoFields, dateEntry, nonEmpty, hc, hm]

open Wp.Metadata in
/-- A date in one of the six formats of `W3C_DATE_RE`, without white space around it, is always written, converted:
`CreationDate` / `ModDate` are never dropped nor written as `None` (with white space around: `date_roundtrip`). -/
theorem info_date (key : String) (d : W3C) (hw : d.wf) :
    dateEntry key (parseW3cDate d.print) = .ok [(key, d.pdf)] := by
  have h1 := match_print d hw [] [] rfl rfl
  have h2 := (date_roundtrip d hw [] [] rfl rfl).1
  simp only [List.nil_append, List.append_nil] at h1 h2
  have hne : ∃ c cs, d.print = c :: cs := by
    cases d <;> simp [W3C.print, d4]
  obtain ⟨c, cs, hcs⟩ := hne
  have hp : parseW3cDate d.print = some d.print := by simp [parseW3cDate, h1]
  have hn : nonEmpty (some d.print) = some d.print := by rw [hcs]; rfl
  unfold dateEntry
  rw [hp, hn]
  simp only [dateField, h2]

open Wp.Metadata in
/-- One bookmark per element: among the boxes of one element (per pseudo-element kind) carrying a
label, exactly the first keeps it (`seen` = the checklist inherited from earlier pages). -/
theorem one_per_element (items : List (Nat × Pseudo)) :
    ∀ (seen : List (Nat × Pseudo)) (i : Nat),
      (watch items seen)[i]? =
        (items[i]?).map (fun b => !(seen.contains b) && !((items.take i).contains b)) := by
  intro seen i
  fun_induction watch items seen generalizing i with
  | case1 => simp
  | case2 b rest seen hb ih =>
    cases i with
    | zero => simp_all
    | succ i =>
      simp only [List.getElem?_cons_succ, ih i, List.take_succ_cons, List.contains_cons]
      apply congrArg (fun f => Option.map f rest[i]?)
      funext x
      by_cases hxb : x = b
      · subst hxb
        simp [List.contains_iff_mem.mp hb]
      · simp [show (x == b) = false by simpa using hxb]
  | case3 b rest seen hb ih =>
    cases i with
    | zero => simp_all
    | succ i =>
      simp only [List.getElem?_cons_succ, ih i, List.take_succ_cons, List.contains_cons,
        List.contains_append, List.contains_nil, Bool.or_false, Bool.not_or, Bool.and_assoc]

open Wp.Metadata in
/-- Number of boxes of `b` (element, pseudo-element kind) that keep their bookmark label. -/
def keptFor (b : Nat × Pseudo) (items : List (Nat × Pseudo)) (seen : List (Nat × Pseudo)) : Nat :=
  ((items.zip (watch items seen)).filter (fun p => p.1 == b && p.2)).length

open Wp.Metadata in
/-- The boxes that keep their label are the first of each element (and pseudo-element kind). -/
theorem keptFor_eq (b : Nat × Pseudo) (items : List (Nat × Pseudo)) : ∀ seen,
    keptFor b items seen = (firsts id items seen).count b := by
  induction items with
  | nil => intro seen; rfl
  | cons x rest ih =>
    intro seen
    unfold keptFor at ih ⊢
    simp only [watch, firsts, id]
    split
    · simpa using ih seen
    · simp only [List.zip_cons_cons, List.filter_cons, Bool.and_true, List.count_cons, ← ih]
      split <;> simp

open Wp.Metadata in
/-- One outline entry per bookmarked element, whatever lies between its fragments: for every element
(and pseudo-element kind) `b`, exactly one of its labelled boxes keeps the label — none if an earlier
page already listed it (`seen`) — however its boxes are interleaved with boxes of other bookmarked
elements (a bookmarked container continuing after the bookmarked headings it contains, an inline
bookmarked element broken over lines, `::before` / `::after` bookmarks). -/
theorem one_bookmark_per_element (b : Nat × Pseudo) (items : List (Nat × Pseudo)) :
    ∀ (seen : List (Nat × Pseudo)),
      keptFor b items seen = if seen.contains b then 0 else if items.contains b then 1 else 0 := by
  intro seen
  have hm := mem_firsts_keys id items seen b
  have hnd := firsts_nodup id items seen
  rw [List.map_id] at hm hnd
  -- among the first boxes an element occurs at most once
  rw [keptFor_eq, hnd.count]
  by_cases hs : b ∈ seen <;> by_cases hi : b ∈ items <;> simp [hm, hs, hi]

open Wp.Metadata in
/-- A container (element 0) whose boxes come back after each bookmarked heading it contains. -/
example : watch [(0, .none), (1, .none), (0, .none), (2, .none), (2, .before), (0, .none), (2, .none)] [] =
    [true, true, false, true, true, false, false] := by decide +kernel

end Wp.C18
