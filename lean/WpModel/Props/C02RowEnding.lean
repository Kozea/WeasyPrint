/-
C02 — totality of the `ending_cells_by_row` bookkeeping of `group_layout` (Model/RowEnding.lean) and its
composition with the slot assignment of `wrap_table` (Model/TableGrid.lean, Lemmas/Grid.lean): whatever rowspans
the author writes, the spans `wrap_table` leaves on the cells never make `group_layout` index past its lists - on the
first page of a group and on every continuation page.
-/
import WpModel.Model.RowEnding
import WpModel.Lemmas.Grid

namespace Wp.C02RowEnding
open Wp Wp.RowEnding

private theorem appendAt_ok : ∀ (ending : List (List Cell)) (i : Nat) (a : Cell), i < ending.length →
    ∃ e, appendAt ending i a = .ok e ∧ e.length = ending.length
  | [], _, _, h => by simp at h
  | l :: ls, 0, a, _ => ⟨_, rfl, by simp⟩
  | l :: ls, k + 1, a, h => by
    obtain ⟨e, he, hl⟩ := appendAt_ok ls k a (by simpa using h)
    exact ⟨l :: e, by simp [appendAt, he], by simp [hl]⟩

private theorem appendCells_ok : ∀ (spans : List Nat) (ending : List (List Cell)) (r c : Nat),
    (∀ s ∈ spans, 1 ≤ s ∧ s ≤ ending.length) →
    ∃ e, appendCells ending r c spans = .ok e ∧ e.length = ending.length
  | [], ending, _, _, _ => ⟨ending, rfl, rfl⟩
  | s :: rest, ending, r, c, h => by
    have hs := h s (by simp)
    have hidx : pyIdx ending.length s = .ok (s - 1) := by
      unfold pyIdx
      have h0 : s ≠ 0 := by omega
      have h1 : s - 1 < ending.length := by omega
      simp [h0, h1]
    obtain ⟨e, he, hl⟩ := appendAt_ok ending (s - 1) (r, c) (by omega)
    obtain ⟨e2, he2, hl2⟩ := appendCells_ok rest e r (c + 1) (by
      intro t ht; rw [hl]; exact h t (by simp [ht]))
    refine ⟨e2, ?_, by rw [hl2, hl]⟩
    simp only [appendCells, hidx, he]
    exact he2

/-- The loop over rows never raises when every span ends inside the lists that are left, and it yields the ending
cells of every row. -/
theorem endRows_total : ∀ (rows : List (List Nat)) (ending : List (List Cell)) (r : Nat),
    rows.length ≤ ending.length →
    (∀ (i : Nat) (h : i < rows.length), ∀ s ∈ rows[i], 1 ≤ s ∧ i + s ≤ ending.length) →
    ∃ out, endRows ending r rows = .ok out ∧ out.length = rows.length
  | [], _, _, _, _ => ⟨[], rfl, rfl⟩
  | spans :: rest, ending, r, hlen, h => by
    have h0 : ∀ s ∈ spans, 1 ≤ s ∧ s ≤ ending.length := by
      intro s hs
      have := h 0 (by simp) s (by simpa using hs)
      omega
    obtain ⟨e, he, hl⟩ := appendCells_ok spans ending r 0 h0
    simp only [List.length_cons] at hlen
    cases e with
    | nil => simp at hl; omega
    | cons cells later =>
      simp only [List.length_cons] at hl
      obtain ⟨out, hout, hol⟩ := endRows_total rest later (r + 1) (by omega) (by
        intro i hi s hs
        have := h (i + 1) (by simp; omega) s (by simpa using hs)
        omega)
      exact ⟨cells :: out, by simp [endRows, he, hout], by simp [hol]⟩

/-- **Totality of `group_layout`'s bookkeeping** for a group whose cells all end inside the group, resumed at any row. -/
theorem groupEnding_total (spans : List (List Nat)) (skip : Nat)
    (h : ∀ (r : Nat) (hr : r < spans.length), ∀ s ∈ spans[r], 1 ≤ s ∧ r + s ≤ spans.length) :
    ∃ out, groupEnding spans skip = .ok out ∧ out.length = spans.length - skip := by
  unfold groupEnding
  obtain ⟨out, ho, hl⟩ := endRows_total (spans.drop skip) (spans.map (fun _ => [])) skip (by simp) (by
    intro i hi s hs
    simp only [List.length_drop] at hi
    simp only [List.getElem_drop] at hs
    have := h (skip + i) (by omega) s hs
    simp only [List.length_map]
    omega)
  exact ⟨out, ho, by simpa using hl⟩

open Wp.TableGrid in
/-- **Composition with `wrap_table`**: for every row group, whatever `rowspan` attributes its cells carry (0, too
large, anything), the spans that the slot assignment leaves on the cells make the bookkeeping of `group_layout`
total, on the first page of the group and on every continuation page (`skip`). -/
theorem placed_group_ending_total (rows : List (List CellIn)) (w : Nat) (outs : List (List CellOut)) (w' : Nat)
    (h : placeGroup rows w = .ok (outs, w')) (skip : Nat) :
    ∃ out, groupEnding (outs.map (fun row => row.map (·.rowspan))) skip = .ok out ∧
      out.length = rows.length - skip := by
  unfold placeGroup at h
  have hlen := placeRows_length rows _ w outs w' h
  have hrs := placeRows_rowspan rows _ w 0 outs w' h (by simp)
  obtain ⟨out, ho, hl⟩ := groupEnding_total (outs.map (fun row => row.map (·.rowspan))) skip (by
    intro r hr s hs
    simp only [List.length_map] at hr
    simp only [List.getElem_map, List.mem_map] at hs
    obtain ⟨o, ho, rfl⟩ := hs
    have := hrs (0 + r, o) (mem_tagRows outs 0 r hr o ho)
    have hl2 : (outs.map (fun row => row.map (·.rowspan))).length = rows.length := by simp [hlen]
    rw [hl2]
    simp only at this
    omega)
  exact ⟨out, ho, by simpa [hlen] using hl⟩

/-- `some` of a result, `none` of an exception (core has no `DecidableEq (Except ε α)`). -/
def result? {α : Type} : Except PyErr α → Option α
  | .ok a => some a
  | .error _ => none

/-- Non-vacuity: three rows, the cell of the second row with `rowspan=3`: `wrap_table` leaves 2 on it and the cells
end in rows 0, 2, 2 (resumed at the second row: 2, 2); with the unclipped 3 the second row raises IndexError. -/
example : result? (groupEnding [[1], [2], [1]] 0) = some [[(0, 0)], [], [(1, 0), (2, 0)]] ∧
    result? (groupEnding [[1], [3], [1]] 0) = none ∧
    result? (groupEnding [[1], [2], [1]] 1) = some [[], [(1, 0), (2, 0)]] := by decide

open Wp.TableGrid in
/-- What `wrap_table` leaves of rowspan 3 and 0 in the second of three rows and of 70 in the last: 2, 2, 1. -/
example : (result? (placeGroup [[⟨1, 1⟩], [⟨1, 3⟩, ⟨1, 0⟩], [⟨1, 70⟩]] 0)).map
    (fun r => r.1.map (fun row => row.map (·.rowspan))) = some [[1], [2, 2], [1]] := by decide

end Wp.C02RowEnding
