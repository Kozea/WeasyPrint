/-
C01 — refinement: the verified trace checker (`Model/Trace.lean`, soundness in `Props/C01Trace.lean`) accepts
every pagination PM produces of a document without fixed heights, with `orphans, widows ≥ 1` and pairwise distinct
paragraph ids (`checker_accepts_pm`; `Witness/C01Pm2` has a PM pagination with a repeated id that it reports, and one with a
fixed height that loses lines).
`groupsOf d` / `pageWordsOf pages` (Lemmas/Pm2Words.lean) are the
abstraction the Python harness applies to a real render (one word per line, ids in source order).
Hence the acceptance language of the checker used on the wide grammar contains every PM behaviour on such
documents: there it never raises a false alarm, and what it rejects departs from a behaviour proved of PM.
-/
import WpModel.Lemmas.Pm2Words
import WpModel.Props.C01
import WpModel.Props.C01Trace
import WpModel.Lemmas.LossyPages

namespace Wp.C01Pm2
open Wp Wp.PM

/-- The words shown by the pages of a pagination, concatenated, are the words of the document in source
order (`C01.pages_conserve` read through the word numbering). -/
theorem page_words_are_all_words (d : Doc) (hN : NoFixedHeight d.root) (hW : WellFormed d.root) (fuel : Nat)
    (pages : List Page) (h : paginate d fuel = some pages) :
    (pageWordsOf pages).flatten = allWords d.root := by
  rw [pageWordsOf_flatten, C01.pages_conserve d hN hW fuel pages h, allWords_eq]

/-- **The conservation checker accepts PM**: for every document without fixed heights, with
`orphans, widows ≥ 1` (the hypotheses of `C01.pages_conserve`) and pairwise distinct paragraph ids, the
checker run on the harness abstraction of the PM pagination reports no bad group: every paragraph's words
exactly once and in order, and all words of the document in source order across paragraphs. -/
theorem checker_accepts_pm (d : Doc) (hN : NoFixedHeight d.root) (hW : WellFormed d.root)
    (hU : UniqueParaIds d.root) (fuel : Nat) (pages : List Page) (h : paginate d fuel = some pages) :
    Trace.badGroups (groupsOf d) (pageWordsOf pages) = [] := by
  apply (C01Trace.badGroups_nil_iff _ _).mpr
  rw [page_words_are_all_words d hN hW fuel pages h]
  intro g hg
  unfold groupsOf at hg
  rcases List.mem_append.mp hg with hg | hg
  · obtain ⟨p, hp, rfl⟩ := List.mem_map.mp hg
    simp only [Trace.groupOk, true_or, ↓reduceIte, beq_iff_eq]
    exact project_para (paras d.root) hU p hp
  · simp only [List.mem_singleton] at hg
    subst hg
    simp only [Trace.groupOk, Nat.succ_ne_self, or_true, ↓reduceIte, beq_iff_eq]
    exact project_self _

/-- Consequence through the checker's soundness theorem: every word of every paragraph appears exactly once
in the page words (the word numbering is injective, so this is per line). -/
theorem pm_words_once (d : Doc) (hN : NoFixedHeight d.root) (hW : WellFormed d.root)
    (hU : UniqueParaIds d.root) (fuel : Nat) (pages : List Page) (h : paginate d fuel = some pages) :
    ∀ p ∈ paras d.root, ∀ w ∈ paraWords p, (pageWordsOf pages).flatten.count w = 1 := by
  intro p hp w hw
  have hacc := checker_accepts_pm d hN hW hU fuel pages h
  have hg : ({ kind := 0, words := paraWords p } : Trace.Group) ∈ groupsOf d := by
    unfold groupsOf
    exact List.mem_append_left _ (List.mem_map.mpr ⟨p, hp, rfl⟩)
  have hnd : (paraWords p).Nodup := by
    unfold paraWords
    rw [List.nodup_iff_pairwise_ne, List.pairwise_map]
    have := List.nodup_iff_pairwise_ne.mp (List.nodup_range (n := p.2))
    exact this.imp (fun hne hab => hne (wordId_inj _ _ _ _ hab).2)
  exact ((C01Trace.conserve_sound _ _ hacc _ hg).1 (Or.inl rfl) hnd).1 w hw

/-! Non-vacuity: `C01.exDoc` (nested blocks, orphans/widows 2, an empty block, a forced `left` break with a
blank page). -/
example : NoFixedHeight C01.exDoc.root ∧ WellFormed C01.exDoc.root ∧ UniqueParaIds C01.exDoc.root := by
  refine ⟨?_, ?_, ?_⟩
  · simp [C01.exDoc, NoFixedHeight, NoFixedHeightList, C01.exStyle]
  · simp [C01.exDoc, WellFormed, WellFormedList, C01.exStyle]
  · simp [UniqueParaIds, C01.exDoc, paras, parasList]

example : (groupsOf C01.exDoc).map (fun g => (g.kind, g.words)) =
      [(0, [1, 4, 8]), (0, [6, 11, 17, 24]), (0, [15]), (1, [1, 4, 8, 6, 11, 17, 24, 15])] ∧
    (paginate C01.exDoc 50).map pageWordsOf = some [[1, 4], [8], [6, 11], [17, 24], [], [15]] ∧
    (paginate C01.exDoc 50).map (fun ps => Trace.badGroups (groupsOf C01.exDoc) (pageWordsOf ps)) = some [] :=
  by decide +kernel

/-! ### conservation for every document (fixed heights allowed)

`forgetIfFixed` ("box height is fixed …, forget overflowing children") makes full conservation false as soon as
a box has a fixed `height` (`Witness.C01Pm2.fixed_height_loses_lines`). What remains true of *every* document
with `orphans, widows ≥ 1`: -/

/-- **Segment theorem for every box**: whatever a layout shows, followed by what its resume position
designates, is a sub-list of what it was asked for (nothing invented, duplicated or reordered), and every
line asked for that has no fixed-height ancestor is shown or left for the next page. -/
theorem segment_all (box : PBox) (hW : WellFormed box) (c : Ctx) (idx : Nat) (y bs : Rat)
    (skip : Option Resume) (cb pie : Bool) (adjL : List Rat) (f : Frag)
    (h : (layoutBox c box idx y bs skip cb pie adjL).frag = some f) :
    (fragLines f ++ restOut box (layoutBox c box idx y bs skip cb pie adjL).resume).Sublist (linesFrom box skip) ∧
    (freeFrom box skip).Sublist
      (fragLines f ++ restFree box (layoutBox c box idx y bs skip cb pie adjL).resume) := by
  have := (boxPostT_sand _ _ _ _ _ (box_specT box hW c idx y bs skip cb pie adjL false) h).1
  exact ⟨this.2, this.1 rfl⟩

/-- **Order preserved, nothing invented** (every document): the lines shown by the pages, in page order, form
a sub-list of the lines of the document in source order. -/
theorem order_preserved (d : Doc) (hW : WellFormed d.root) (fuel : Nat) (pages : List Page)
    (h : paginate d fuel = some pages) :
    ((pages.map (fun p => fragLines p.root)).flatten).Sublist (linesFrom d.root none) := by
  rw [← pagesLines_eq]
  unfold paginate at h
  have := makeAllPages_linesT d hW fuel 0 none _ _ pages (fun _ => by exact isBlank_none _ _) h
  simpa using this.2

/-- **No line is shown twice** (every document whose lines are distinct, e.g. distinct paragraph ids). -/
theorem no_duplication (d : Doc) (hW : WellFormed d.root) (hU : UniqueParaIds d.root) (fuel : Nat)
    (pages : List Page) (h : paginate d fuel = some pages) :
    ((pages.map (fun p => fragLines p.root)).flatten).Nodup :=
  (order_preserved d hW fuel pages h).nodup (linesFrom_nodup d.root hU)

/-- **Every line without a fixed-height ancestor-or-self is shown** (every document), in order. -/
theorem free_lines_shown (d : Doc) (hW : WellFormed d.root) (fuel : Nat) (pages : List Page)
    (h : paginate d fuel = some pages) :
    (freeFrom d.root none).Sublist ((pages.map (fun p => fragLines p.root)).flatten) := by
  rw [← pagesLines_eq]
  unfold paginate at h
  have := makeAllPages_linesT d hW fuel 0 none _ _ pages (fun _ => by exact isBlank_none _ _) h
  simpa using this.1 rfl

mutual
/-- The lines that have an ancestor-or-self box with a fixed `height`. -/
def fixedLines : PBox → List (Nat × Nat)
  | .para id n lh st => if fixedSt st then linesFrom (.para id n lh st) none else []
  | .block id st kids => if fixedSt st then linesFrom (.block id st kids) none else fixedLinesList kids
def fixedLinesList : List PBox → List (Nat × Nat)
  | [] => []
  | b :: bs => fixedLines b ++ fixedLinesList bs
end

mutual
private theorem free_or_fixed : (b : PBox) → ∀ l ∈ linesFrom b none, l ∈ freeFrom b none ∨ l ∈ fixedLines b
  | .para id n lh st => by
    intro l hl
    simp only [freeFrom, fixedLines]
    cases fixedSt st
    · left; simpa [linesFrom] using hl
    · right; simpa using hl
  | .block id st kids => by
    intro l hl
    simp only [freeFrom, fixedLines]
    cases fixedSt st
    · simp only [Bool.false_eq_true, ↓reduceIte, skipIdxOf_none, subSkipOf_none]
      simp only [linesFrom, skipIdxOf_none, subSkipOf_none] at hl
      exact free_or_fixed_list kids l hl
    · right; simpa using hl
private theorem free_or_fixed_list : (bs : List PBox) → ∀ l ∈ linesFromKids bs 0 none,
    l ∈ freeFromKids bs 0 none ∨ l ∈ fixedLinesList bs
  | [] => by intro l hl; simp [linesFromKids] at hl
  | b :: bs => by
    intro l hl
    simp only [linesFromKids, List.mem_append] at hl
    simp only [freeFromKids, fixedLinesList, List.mem_append]
    rcases hl with hl | hl
    · exact (free_or_fixed b l hl).imp .inl .inl
    · exact (free_or_fixed_list bs l hl).imp .inr .inr
end

/-- **Lines are lost only under a fixed height** (every document): a line of the document that no page shows
belongs to a box with a fixed `height` or to a descendant of one. -/
theorem lost_only_under_fixed_height (d : Doc) (hW : WellFormed d.root) (fuel : Nat) (pages : List Page)
    (h : paginate d fuel = some pages) :
    ∀ l ∈ linesFrom d.root none, l ∉ (pages.map (fun p => fragLines p.root)).flatten → l ∈ fixedLines d.root := by
  intro l hl hnot
  rcases free_or_fixed d.root l hl with hf | hf
  · exact absurd ((free_lines_shown d hW fuel pages h).subset hf) hnot
  · exact hf

/-- …and a box forgets its overflowing children **only when its content position has passed the bottom of its
fixed-height box** (`position_y > box.position_y + height + paddings + borders`, with the layout's fudge
factor): the only place where the layout drops a resume position. -/
theorem forgets_only_when_overflowing (st : PStyle) (b : BoxSt) (posY : Rat) (r : Resume)
    (h : forgetIfFixed st b posY (some r) = none) :
    ∃ ht, st.height = some ht ∧ overflows (b.y + (ht + b.pt + b.pb + b.bt + b.bb)) posY = true := by
  rcases forgetIfFixed_or st b posY (some r) with e | ⟨_, hov⟩
  · rw [e] at h; cases h
  · exact hov

/-- Sanity: without fixed heights the sandwich closes and gives back `C01.pages_conserve`. -/
theorem pages_conserve_again (d : Doc) (hN : NoFixedHeight d.root) (hW : WellFormed d.root) (fuel : Nat)
    (pages : List Page) (h : paginate d fuel = some pages) :
    (pages.map (fun p => fragLines p.root)).flatten = linesFrom d.root none := by
  have h1 := order_preserved d hW fuel pages h
  have h2 := free_lines_shown d hW fuel pages h
  rw [freeFrom_noFixed d.root hN] at h2
  exact h1.eq_of_length_le h2.length_le

/-! Non-vacuity on a document that really loses lines: a 5-line paragraph with `height: 10px` (one line
high) on 25px pages keeps lines 0–1 and forgets lines 2–4; the next paragraph follows. -/
def lossDoc : Doc :=
  { pageH := 25, rootLtr := true,
    root := .block 0 { C01.exStyle with isRoot := true }
      [.para 1 5 10 { C01.exStyle with height := some 10 }, .para 2 3 10 C01.exStyle] }

example : WellFormed lossDoc.root ∧ UniqueParaIds lossDoc.root := by
  refine ⟨?_, ?_⟩
  · simp [lossDoc, WellFormed, WellFormedList, C01.exStyle]
  · simp [UniqueParaIds, lossDoc, paras, parasList]

example : (paginate lossDoc 20).map (fun ps => ps.map (fun p => fragLines p.root)) =
      some [[(1, 0), (1, 1), (2, 0)], [(2, 1), (2, 2)]] ∧
    freeFrom lossDoc.root none = [(2, 0), (2, 1), (2, 2)] ∧
    fixedLines lossDoc.root = [(1, 0), (1, 1), (1, 2), (1, 3), (1, 4)] :=
  by decide +kernel

/-- `segment_all` / `forgets_only_when_overflowing` on the first page of `lossDoc`: the root returns a fragment
and a resume position inside the second paragraph; the fixed-height paragraph (content position 20, box
bottom 10) forgot its resume position. -/
example :
    let r := layoutBox { pageBottom := 25, currentPage := 1, forcedBreak := false } lossDoc.root 0 0 0 none false true []
    r.frag.map fragLines = some [(1, 0), (1, 1), (2, 0)] ∧ restOut lossDoc.root r.resume = [(2, 1), (2, 2)] ∧
    forgetIfFixed { C01.exStyle with height := some 10 } { y := 0, mt := 0, mb := 0, pt := 0, pb := 0, bt := 0, bb := 0 }
      20 (some (.node 0 (some (.line 2)))) = none :=
  by decide +kernel

end Wp.C01Pm2
