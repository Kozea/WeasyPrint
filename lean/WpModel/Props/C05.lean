/-
C05 — Box model arithmetic and normal-flow geometry.  Property theorems and the lemmas they share.

The statements are about the executable models of
  `Model/Margins.lean`   collapse_margin
  `Model/BoxModel.lean`  percentage, resolve_percentages, adjust_box_sizing, handle_min_max_width/height,
                         block_level_width, page_width_or_height
  `Model/BlockTree.lean` the top-down application of those to a tree of block boxes
  `Model/BoxEdges.lean`  the geometry helpers of boxes.Box (margin_width, content_box_x, translate, …)
which the harness `py/props/c05.py` ties to /repo by exact comparison (direct calls with Fractions on
real boxes, and rendered documents).  Every theorem quantifies over all inputs; the `example`s instantiate
hypotheses on concrete non-trivial inputs.  Core Lean only.
-/
import WpModel.Model.Margins
import WpModel.Model.BoxModel
import WpModel.Model.BlockTree
import WpModel.Model.BoxEdges
import WpModel.Lemmas.MinMax
import WpModel.Lemmas.MaxMin
import WpModel.Lemmas.CollapseMargin
import WpModel.Lemmas.Basic.Rat

namespace Wp.C05
open Wp Wp.Margins Wp.BoxModel Wp.BlockTree

/-! ## (h) margin collapsing -/

/-- (h) The `collapse_margin` of the pagination model (`PM.collapseMargin`, `Model/Paginate.lean`) is this function:
to filter and then fold is to fold with the test inside (`List.foldl_filter`).  So the laws of
`Lemmas/CollapseMargin.lean` hold here. -/
theorem collapse_eq_pm (ms : List Rat) : collapseMargin ms = .ok (PM.collapseMargin ms) := by
  have h0 : decide ((0 : Rat) ≥ 0) = true := by decide
  have e (p q : Prop) [Decidable p] [Decidable q] (y x : Rat) :
      (if p then if q then y else x else x) = if p ∧ q then y else x := by split <;> simp [*]
  simp only [collapseMargin, List.filter_cons, h0, if_true, pyMax?, pyMin?, List.foldl_filter, decide_eq_true_eq, e]
  rfl

/-- (h) `collapse_margin` never fails and equals (largest non-negative margin, 0 if there is none) +
(most negative margin, 0 if there is none), for lists of any length. -/
theorem collapse_eq (ms : List Rat) : collapseMargin ms = .ok (maxPos ms + minNeg ms) := by
  rw [collapse_eq_pm, PM.collapseMargin_eq]; rfl

example : collapseMargin [10, -4, 25, -7, 0] = .ok 18 := by
  rw [collapse_eq]; congr 1; decide +kernel

/-- `maxPos` is *the* largest positive margin: non-negative, an upper bound of the list, and either 0 or
an element of the list. -/
theorem maxPos_spec (ms : List Rat) :
    0 ≤ maxPos ms ∧ (∀ m ∈ ms, m ≤ maxPos ms) ∧ (maxPos ms = 0 ∨ maxPos ms ∈ ms) :=
  ⟨MaxMin.lub_max.seed_le_foldl ms 0, MaxMin.lub_max.le_foldl ms 0, MaxMin.lub_max.foldl_mem ms 0⟩

/-- `minNeg` is *the* most negative margin. -/
theorem minNeg_spec (ms : List Rat) :
    minNeg ms ≤ 0 ∧ (∀ m ∈ ms, minNeg ms ≤ m) ∧ (minNeg ms = 0 ∨ minNeg ms ∈ ms) :=
  ⟨MaxMin.lub_min.seed_le_foldl ms 0, MaxMin.lub_min.le_foldl ms 0, MaxMin.lub_min.foldl_mem ms 0⟩

/-- The three conditions of `maxPos_spec` determine the value. -/
theorem maxPos_unique (ms : List Rat) (x : Rat) (h0 : 0 ≤ x) (hub : ∀ m ∈ ms, m ≤ x)
    (hmem : x = 0 ∨ x ∈ ms) : x = maxPos ms :=
  (MaxMin.lub_max.foldl_unique ms 0 x h0 hub hmem).symm

theorem minNeg_unique (ms : List Rat) (x : Rat) (h0 : x ≤ 0) (hlb : ∀ m ∈ ms, x ≤ m)
    (hmem : x = 0 ∨ x ∈ ms) : x = minNeg ms :=
  (MaxMin.lub_min.foldl_unique ms 0 x h0 hlb hmem).symm

/-- (h) the collapsed margin does not depend on the order of the adjoining margins. -/
theorem collapse_perm (a b : List Rat) (h : a.Perm b) : collapseMargin a = collapseMargin b := by
  rw [collapse_eq_pm, collapse_eq_pm, PM.collapseMargin_perm h]

example : collapseMargin [3, -2, 7] = collapseMargin [7, 3, -2] :=
  collapse_perm _ _ (by decide)

theorem maxPos_append (a b : List Rat) : maxPos (a ++ b) = max (maxPos a) (maxPos b) :=
  MaxMin.lub_max.foldl_append a b 0

theorem minNeg_append (a b : List Rat) : minNeg (a ++ b) = min (minNeg a) (minNeg b) :=
  MaxMin.lub_min.foldl_append a b 0

theorem collapse_pair (p n : Rat) (hp : 0 ≤ p) (hn : n ≤ 0) : collapseMargin [p, n] = .ok (p + n) := by
  rw [collapse_eq]
  have e1 : maxPos [p, n] = p := by
    show max (max 0 p) n = p
    grind
  have e2 : minNeg [p, n] = n := by
    show min (min 0 p) n = n
    grind
  rw [e1, e2]

/-- (h) incremental accumulation is sound: the collapsed margin of a concatenation is the collapsed
margin of the two summaries (largest positive, most negative) of the parts.  This is what lets
`block_container_layout` carry `adjoining_margins` from box to box. -/
theorem collapse_append (a b : List Rat) :
    collapseMargin (a ++ b) =
      collapseMargin [max (maxPos a) (maxPos b), min (minNeg a) (minNeg b)] := by
  rw [collapse_eq, maxPos_append, minNeg_append,
    collapse_pair _ _ (Rat.le_trans (maxPos_spec a).1 (Rat.le_max_left _ _))
      (Rat.le_trans Std.min_le_left (minNeg_spec a).1)]

example : collapseMargin ([5, -3] ++ [8, -1]) = collapseMargin [8, -3] := by
  rw [collapse_append]; congr 1

theorem collapse_snoc (a : List Rat) (m : Rat) :
    collapseMargin (a ++ [m]) = .ok (max (maxPos a) m + min (minNeg a) m) := by
  rw [collapse_eq]
  simp only [maxPos, minNeg, List.foldl_append, List.foldl_cons, List.foldl_nil]

/-- (h) all margins non-negative: the collapsed margin is their maximum (an upper bound that is 0 or
one of them). -/
theorem collapse_all_nonneg (ms : List Rat) (h : ∀ m ∈ ms, 0 ≤ m) :
    collapseMargin ms = .ok (maxPos ms) := by
  rw [collapse_eq_pm, PM.collapseMargin_of_nonneg ms h]; rfl

/-- (h) all margins non-positive: the collapsed margin is their minimum. -/
theorem collapse_all_nonpos (ms : List Rat) (h : ∀ m ∈ ms, m ≤ 0) :
    collapseMargin ms = .ok (minNeg ms) := by
  rw [collapse_eq_pm, PM.collapseMargin_of_nonpos ms h]; rfl

example : collapseMargin [4, 9, 2] = .ok 9 := by
  rw [collapse_all_nonneg [4, 9, 2] (by decide +kernel)]; congr 1

/-- The collapsed margin lies between the most negative and the largest positive margin. -/
theorem collapse_bounds (ms : List Rat) :
    ∃ c, collapseMargin ms = .ok c ∧ minNeg ms ≤ c ∧ c ≤ maxPos ms := by
  refine ⟨_, collapse_eq ms, ?_, ?_⟩
  · have := (maxPos_spec ms).1; grind
  · have := (minNeg_spec ms).1; grind

theorem collapse_nil : collapseMargin [] = .ok 0 := by
  rw [collapse_eq_pm, PM.collapseMargin_nil]

theorem collapse_singleton (m : Rat) : collapseMargin [m] = .ok m := by
  rw [collapse_eq_pm, PM.collapseMargin_singleton]

/-! ## (b) the horizontal equation: `block_level_width` -/

/-- Margin-box width `margin-left + border + padding + width + padding + border + margin-right` of a box
whose three solvable values are numbers (`none` while one of them is still `auto`). -/
def outer? (b : ABox) : Option Rat :=
  match b.ml, b.mr, b.w with
  | some l, some r, some w => some (l + b.bl + b.pl + w + b.pr + b.br + r)
  | _, _, _ => none

/-- CSS 2.1 §10.3.3 "over-constrained": the width is specified and either both margins are, or the
specified values already exceed the containing block (then the `auto` margins are treated as 0). -/
def OverC (cbw : Rat) (b : ABox) : Prop :=
  ∃ w, b.w = some w ∧ ((b.ml ≠ none ∧ b.mr ≠ none) ∨ b.specTotal w > cbw)

/-- The start/end edge rule: in `ltr` (and for columns) the margin-left edge stays at `x0`, the start of
the containing block; in `rtl` the margin-right edge is at its end `x0 + cbw`. -/
def EdgeFlush (cbw : Rat) (dir : Dir) (x0 : Rat) (r : ABox) : Prop :=
  ∃ o, outer? r = some o ∧
    (if dir = .rtl && !r.isColumn then r.posX + o = x0 + cbw else r.posX = x0)

private theorem ite_posX (c : Prop) [Decidable c] (ml mr : Len) (pl pr bl br : Rat) (w : Len) (minW : Rat)
    (maxW : Ext) (x y : Rat) (col : Bool) :
    (if c then (⟨ml, mr, pl, pr, bl, br, w, minW, maxW, x, col⟩ : ABox)
      else ⟨ml, mr, pl, pr, bl, br, w, minW, maxW, y, col⟩) =
      ⟨ml, mr, pl, pr, bl, br, w, minW, maxW, if c then x else y, col⟩ := by
  split <;> rfl

/-! `block_level_width` branch by branch (the three cases are exhaustive, `not_overC_some`). -/

theorem blwCore_auto (cbw : Rat) (dir : Dir) (b : ABox) (hw : b.w = none) :
    blwCore cbw dir b =
      { b with ml := some (orZero b.ml), mr := some (orZero b.mr),
               w := some (cbw - (b.pb + orZero b.ml + orZero b.mr)) } := by
  rcases b with ⟨ml, mr, pl, pr, bl, br, w, minW, maxW, posX, col⟩
  subst hw
  cases ml <;> cases mr <;> rfl

theorem blwCore_over (cbw : Rat) (dir : Dir) (b : ABox) (w : Rat) (hw : b.w = some w)
    (h : (b.ml ≠ none ∧ b.mr ≠ none) ∨ b.specTotal w > cbw) :
    blwCore cbw dir b =
      { b with ml := some (orZero b.ml), mr := some (orZero b.mr),
               posX := if dir = .rtl && !b.isColumn
                       then b.posX + (cbw - b.pb - w - orZero b.mr - orZero b.ml) else b.posX } := by
  rcases b with ⟨ml, mr, pl, pr, bl, br, w', minW, maxW, posX, col⟩
  simp only at hw; subst hw
  cases ml <;> cases mr <;>
    simp only [ABox.specTotal, ABox.pb, orZero, Rat.add_zero, ne_eq, not_true_eq_false, false_and, and_false,
      false_or] at h <;>
    simp only [blwCore, orZero, ABox.pb, h, ite_posX, if_true, ite_self]

theorem blwCore_fit (cbw : Rat) (dir : Dir) (b : ABox) (w : Rat) (hw : b.w = some w)
    (hfit : b.specTotal w ≤ cbw) (hauto : b.ml = none ∨ b.mr = none) :
    blwCore cbw dir b =
      match b.ml, b.mr with
      | none, none => { b with ml := some ((cbw - b.pb - w) / 2), mr := some ((cbw - b.pb - w) / 2) }
      | none, some r => { b with ml := some (cbw - b.pb - w - r) }
      | some l, none => { b with mr := some (cbw - b.pb - w - l) }
      | some _, some _ => b := by
  rcases b with ⟨ml, mr, pl, pr, bl, br, w', minW, maxW, posX, col⟩
  simp only at hw; subst hw
  cases ml <;> cases mr <;>
    simp only [ABox.specTotal, ABox.pb, orZero, Rat.add_zero, reduceCtorEq, or_self] at hfit hauto <;>
    simp only [blwCore, ABox.pb, Rat.not_lt.mpr hfit, if_false]

theorem not_overC_some {cbw : Rat} {b : ABox} {w : Rat} (hw : b.w = some w) (h : ¬ OverC cbw b) :
    (b.ml = none ∨ b.mr = none) ∧ b.specTotal w ≤ cbw := by
  unfold OverC at h
  constructor
  · cases hl : b.ml <;> cases hr : b.mr <;> simp_all
  · apply Rat.not_lt.mp
    intro hlt
    exact h ⟨w, hw, Or.inr hlt⟩

/--
Full statement (clause (b) as literally written; false of the code, see
`Witness.C05.storedMarginNotRecomputed`, known finding `stored-margin-right`):
  `∀ cbw dir b, outer? (blwCore cbw dir b) = some cbw`.
(b) **the width equation**, all 8 auto patterns, `ltr` and `rtl`, columns or not: unless the box is
over-constrained, after `block_level_width`
`margin-left + border-left + padding-left + width + padding-right + border-right + margin-right`
equals the containing block width, and `position_x` is untouched. -/
theorem width_equation_partial (cbw : Rat) (dir : Dir) (b : ABox) (h : ¬ OverC cbw b) :
    outer? (blwCore cbw dir b) = some cbw ∧ (blwCore cbw dir b).posX = b.posX := by
  cases hw : b.w with
  | none =>
    rw [blwCore_auto cbw dir b hw]
    refine ⟨?_, rfl⟩
    simp only [outer?, ABox.pb]
    congr 1; grind
  | some w =>
    obtain ⟨hauto, hfit⟩ := not_overC_some hw h
    rw [blwCore_fit cbw dir b w hw hfit hauto]
    rcases b with ⟨ml, mr, pl, pr, bl, br, w', minW, maxW, posX, col⟩
    simp only at hw; subst hw
    cases ml <;> cases mr <;> simp [outer?, ABox.pb] at hauto ⊢ <;> grind

/-- The same through the `containing_block` argument of the Python function. -/
theorem width_equation_cb_partial (cb : CB) (b : ABox) (h : ¬ OverC cb.width b) :
    outer? (blockLevelWidth cb b) = some cb.width ∧ (blockLevelWidth cb b).posX = b.posX :=
  width_equation_partial cb.width cb.direction b h

/-- A box used by the non-vacuity examples: `width: 50px; padding: 0 5px; margin: 0 auto`. -/
def exBox : ABox :=
  { ml := none, mr := none, pl := 5, pr := 5, bl := 0, br := 0, w := some 50, minW := 0, maxW := .inf,
    posX := 0, isColumn := false }

example : ¬ OverC 101 exBox := by
  simp [OverC, exBox, ABox.specTotal, ABox.pb, orZero]; decide +kernel

/-- (b) all three values specified and already summing to the containing block: nothing changes. -/
theorem width_equation_exact (cbw : Rat) (dir : Dir) (b : ABox) (w l r : Rat) (hw : b.w = some w)
    (hl : b.ml = some l) (hr : b.mr = some r) (hsum : l + b.bl + b.pl + w + b.pr + b.br + r = cbw) :
    blwCore cbw dir b = b ∧ outer? b = some cbw := by
  rw [blwCore_over cbw dir b w hw (Or.inl ⟨by rw [hl]; exact Option.some_ne_none l, by rw [hr]; exact Option.some_ne_none r⟩)]
  rcases b with ⟨ml, mr, pl, pr, bl, br, w', minW, maxW, posX, col⟩
  simp only at hw hl hr hsum; subst hw hl hr
  have hz : posX + (cbw - (pl + pr + bl + br) - w - r - l) = posX := by grind
  exact ⟨by simp only [orZero, ABox.pb, hz, ite_self], by simp only [outer?, hsum]⟩

theorem specified_kept (cbw : Rat) (dir : Dir) (b : ABox) :
    (∀ w, b.w = some w → (blwCore cbw dir b).w = some w) ∧
    (∀ l, b.ml = some l → (blwCore cbw dir b).ml = some l) ∧
    (∀ r, b.mr = some r → (blwCore cbw dir b).mr = some r) ∧
    (blwCore cbw dir b).pl = b.pl ∧ (blwCore cbw dir b).pr = b.pr ∧
    (blwCore cbw dir b).bl = b.bl ∧ (blwCore cbw dir b).br = b.br ∧
    (blwCore cbw dir b).minW = b.minW ∧ (blwCore cbw dir b).maxW = b.maxW ∧
    (blwCore cbw dir b).isColumn = b.isColumn := by
  cases hw : b.w with
  | none =>
    rw [blwCore_auto cbw dir b hw]
    refine ⟨by simp, ?_, ?_, rfl, rfl, rfl, rfl, rfl, rfl, rfl⟩ <;> intro x hx <;> simp [hx, orZero]
  | some w =>
    by_cases hover : OverC cbw b
    · obtain ⟨w', hw', hover⟩ := hover
      cases hw.symm.trans hw'
      rw [blwCore_over cbw dir b w hw hover]
      refine ⟨by simp [hw], ?_, ?_, rfl, rfl, rfl, rfl, rfl, rfl, rfl⟩ <;> intro x hx <;> simp [hx, orZero]
    · obtain ⟨hauto, hfit⟩ := not_overC_some hw hover
      rw [blwCore_fit cbw dir b w hw hfit hauto]
      cases hl : b.ml <;> cases hr : b.mr <;> simp [hw, hl, hr]

/-- (b) `width: auto`: `auto` margins become 0 and the width takes the rest. -/
theorem auto_width (cbw : Rat) (dir : Dir) (b : ABox) (hw : b.w = none) :
    (blwCore cbw dir b).ml = some (orZero b.ml) ∧ (blwCore cbw dir b).mr = some (orZero b.mr) ∧
    (blwCore cbw dir b).w = some (cbw - (b.pb + orZero b.ml + orZero b.mr)) := by
  rw [blwCore_auto cbw dir b hw]; exact ⟨rfl, rfl, rfl⟩

/-- (a) an `auto` width is non-negative whenever the containing block has room for the paddings,
borders and specified margins. -/
theorem auto_width_nonneg (cbw : Rat) (dir : Dir) (b : ABox) (hw : b.w = none)
    (hroom : b.pb + orZero b.ml + orZero b.mr ≤ cbw) :
    ∃ w, (blwCore cbw dir b).w = some w ∧ 0 ≤ w :=
  ⟨_, (auto_width cbw dir b hw).2.2, by grind⟩

/-- (b) both margins `auto` around a specified width that fits: the box is centred. -/
theorem centered (cbw : Rat) (dir : Dir) (b : ABox) (w : Rat) (hw : b.w = some w)
    (hl : b.ml = none) (hr : b.mr = none) (hfit : b.pb + w ≤ cbw) :
    (blwCore cbw dir b).ml = some ((cbw - b.pb - w) / 2) ∧
    (blwCore cbw dir b).mr = some ((cbw - b.pb - w) / 2) := by
  have hfit' : b.specTotal w ≤ cbw := by simp [ABox.specTotal, hl, hr, orZero]; grind
  rw [blwCore_fit cbw dir b w hw hfit' (Or.inl hl)]
  simp [hl, hr]

/-- (b)(f) **over-constrained geometry**: the specified width is kept, `auto` margins are 0, specified
margins are kept; in `ltr` (and in columns) the box stays at the start edge; in `rtl` `position_x` is
shifted so that the margin-right edge coincides with the end of the containing block. -/
theorem overconstrained_geometry (cbw : Rat) (dir : Dir) (b : ABox) (h : OverC cbw b) :
    (blwCore cbw dir b).w = b.w ∧
    (blwCore cbw dir b).ml = some (orZero b.ml) ∧ (blwCore cbw dir b).mr = some (orZero b.mr) ∧
    EdgeFlush cbw dir b.posX (blwCore cbw dir b) := by
  obtain ⟨w, hw, hcase⟩ := h
  rw [blwCore_over cbw dir b w hw hcase]
  refine ⟨rfl, rfl, rfl, orZero b.ml + b.bl + b.pl + w + b.pr + b.br + orZero b.mr, by simp [outer?, hw], ?_⟩
  cases dir <;> cases hc : b.isColumn <;> simp [ABox.pb] <;> grind

/-- (a)(b)(f) for **every** input (no hypothesis): `block_level_width` leaves three numbers, and the
margin box is flush with the start edge of the containing block in `ltr` and with its end edge in
`rtl`. -/
theorem edge_flush (cbw : Rat) (dir : Dir) (b : ABox) : EdgeFlush cbw dir b.posX (blwCore cbw dir b) := by
  by_cases h : OverC cbw b
  · exact (overconstrained_geometry cbw dir b h).2.2.2
  · obtain ⟨ho, hx⟩ := width_equation_partial cbw dir b h
    refine ⟨cbw, ho, ?_⟩
    split <;> grind

/-- The stored margin that the code does not recompute is the only defect of the over-constrained
case: with the CSS value of the margin on the end side the literal equation holds again. -/
theorem overconstrained_ltr_css_margin (cbw : Rat) (b : ABox) (w : Rat) (hw : b.w = some w)
    (h : OverC cbw b) :
    let r := blwCore cbw .ltr b
    let cssMarginRight := cbw - (orZero b.ml + b.bl + b.pl + w + b.pr + b.br)
    outer? { r with mr := some cssMarginRight } = some cbw ∧ r.posX = b.posX := by
  obtain ⟨hw', hl, _, _⟩ := overconstrained_geometry cbw .ltr b h
  have hx : (blwCore cbw .ltr b).posX = b.posX := by
    obtain ⟨o, _, hflush⟩ := (overconstrained_geometry cbw .ltr b h).2.2.2
    simpa using hflush
  have hk := specified_kept cbw .ltr b
  refine ⟨?_, hx⟩
  simp only [outer?, hl, hw', hw, hk.2.2.2.1, hk.2.2.2.2.1, hk.2.2.2.2.2.1, hk.2.2.2.2.2.2.1]
  congr 1; grind

/-! ## (c) min/max: `handle_min_max_width`, `handle_min_max_height` -/

theorem lenToRat_ok {site : String} {l : Len} {q : Rat} (h : lenToRat site l = .ok q) :
    l = some q := by
  cases l <;> simp [lenToRat] at h
  rw [h]

theorem minmax_width_is_gen : handleMinMaxWidth = handleMinMaxGen true := rfl
theorem minmax_height_is_gen : handleMinMaxHeight = handleMinMaxGen false := rfl
theorem minmax_nox_is_gen : handleMinMaxWidthNoX = handleMinMaxGen false := rfl

/-- The decorator of heights is the decorator of widths on a box without `position_x`. -/
theorem minmax_height_eq_nox : handleMinMaxHeight = handleMinMaxWidthNoX := rfl

/-- (c) **min/max hold after the wrapper**, for *any* wrapped function that keeps a specified size:
the used size is a number, `≥ min`, and `≤ max` whenever `min ≤ max` (CSS: the minimum wins). -/
theorem minmax_width (f : ABox → Except BErr ABox) (hf : KeepsSize f) (b r : ABox)
    (h : handleMinMaxWidth f b = .ok r) :
    ∃ w, r.w = some w ∧ b.minW ≤ w ∧ (∀ m, b.maxW = .fin m → b.minW ≤ m → w ≤ m) ∧
      r.minW = b.minW ∧ r.maxW = b.maxW :=
  minmax_gen true f hf b r h

/-- (c) the same for `handle_min_max_height`. -/
theorem minmax_height (f : ABox → Except BErr ABox) (hf : KeepsSize f) (b r : ABox)
    (h : handleMinMaxHeight f b = .ok r) :
    ∃ w, r.w = some w ∧ b.minW ≤ w ∧ (∀ m, b.maxW = .fin m → b.minW ≤ m → w ≤ m) ∧
      r.minW = b.minW ∧ r.maxW = b.maxW :=
  minmax_gen false f hf b r h

/-- (c) …and for `handle_min_max_width` on a box that has no `position_x` yet. -/
theorem minmax_width_nox (f : ABox → Except BErr ABox) (hf : KeepsSize f) (b r : ABox)
    (h : handleMinMaxWidthNoX f b = .ok r) :
    ∃ w, r.w = some w ∧ b.minW ≤ w ∧ (∀ m, b.maxW = .fin m → b.minW ≤ m → w ≤ m) ∧
      r.minW = b.minW ∧ r.maxW = b.maxW :=
  minmax_gen false f hf b r h

/-- A wrapped function that leaves `position_x` alone (everything but `block_level_width` in an rtl
containing block): the bookkeeping changes nothing, the width wrapper is the height wrapper. -/
theorem minmax_width_eq_height_of_posX_blind (f : ABox → Except BErr ABox)
    (hkeep : ∀ b r, f b = .ok r → r.posX = b.posX) (b : ABox) :
    handleMinMaxWidth f b = handleMinMaxHeight f b := by
  show handleMinMaxGen true f b = handleMinMaxGen false f b
  unfold handleMinMaxGen
  simp only [bind, Except.bind, resetX]
  -- the two sides differ in `posX := b.posX` against `posX := x.posX` for a box `x` that `f` returned
  cases h1 : f b with
  | error e => rfl
  | ok b1 =>
    have hx1 : b1.posX = b.posX := hkeep b b1 h1
    simp only [hx1]
    cases widthOf b1 with
    | error e => rfl
    | ok w1 =>
      simp only
      by_cases hc : b1.maxW.ltRat w1 = true
      · simp only [hc, if_true]
        cases extAsLen b1.maxW with
        | error e => rfl
        | ok v =>
          simp only
          cases h2 : f { b1 with w := v, ml := b.ml, mr := b.mr, posX := b.posX } with
          | error e => rfl
          | ok b2 => simp only [hkeep _ b2 h2]
      · simp only [hc, Bool.false_eq_true, if_false, pure, Except.pure, hx1]

theorem keepsSize_blw (cbw : Rat) (dir : Dir) : KeepsSize (fun b => .ok (blwCore cbw dir b)) where
  size := by
    intro b b' w h hw
    simp only [Except.ok.injEq] at h; subst h
    exact (specified_kept cbw dir b).1 w hw
  bounds := by
    intro b b' h
    simp only [Except.ok.injEq] at h; subst h
    obtain ⟨-, -, -, -, -, -, -, hmin, hmax, -⟩ := specified_kept cbw dir b
    exact ⟨hmin, hmax⟩

theorem keepsSize_id : KeepsSize (fun b => .ok b) where
  size := by intro b b' w h hw; simp only [Except.ok.injEq] at h; subst h; exact hw
  bounds := by intro b b' h; simp only [Except.ok.injEq] at h; subst h; exact ⟨rfl, rfl⟩

/-- (a)(c) `block_level_width` as decorated in block.py: the used width is a number within the
constraints; in particular it is non-negative as soon as `min-width ≥ 0` (which `resolve_percentages`
guarantees, `resolve_min_nonneg`). -/
theorem blw_minmax (cb : CB) (b r : ABox) (h : blockLevelWidthMinMax cb b = .ok r) :
    ∃ w, r.w = some w ∧ b.minW ≤ w ∧ (∀ m, b.maxW = .fin m → b.minW ≤ m → w ≤ m) :=
  (minmax_width _ (keepsSize_blw cb.width cb.direction) b r h).imp fun _ h => ⟨h.1, h.2.1, h.2.2.1⟩

/-- Boolean test `x = .ok y` (the examples evaluate the model with `decide +kernel`). -/
def okEq {α} [DecidableEq α] (x : Except BErr α) (y : α) : Bool :=
  match x with
  | .ok r => decide (r = y)
  | .error _ => false

theorem okEq_iff {α} [DecidableEq α] {x : Except BErr α} {y : α} : okEq x y = true ↔ x = .ok y := by
  cases x <;> simp [okEq]

example : blockLevelWidthMinMax (.box 100 .ltr) { exBox with w := some 200, maxW := .fin 60 } =
    .ok { exBox with w := some 60, maxW := .fin 60, ml := some 15, mr := some 15 } :=
  okEq_iff.mp (by decide +kernel)

/-- (a) `block_level_width` always leaves a numeric width. -/
theorem blw_width_some (cbw : Rat) (dir : Dir) (b : ABox) : ∃ w, (blwCore cbw dir b).w = some w := by
  cases hw : b.w with
  | none => exact ⟨_, (auto_width cbw dir b hw).2.2⟩
  | some w => exact ⟨w, (specified_kept cbw dir b).1 w hw⟩

/-! ## (b)(c) min/max re-entry: the equation and the geometry after the wrapper -/

/-- One plain pass of `block_level_width` from the computed margins of `b`, a width `w` and a start
position `x`. -/
def pass (cbw : Rat) (dir : Dir) (b : ABox) (w x : Rat) : ABox :=
  blwCore cbw dir { b with w := some w, posX := x }

/-- `block_level_width` only solves for the width: besides it, it writes the margins and `position_x`. -/
theorem solves_blw (cbw : Rat) (dir : Dir) (b : ABox) :
    Solves true (fun x => .ok (blwCore cbw dir x)) b (fun w' => blwCore cbw dir { b with w := w' }) where
  run := fun _ => rfl
  keep := fun v => (specified_kept cbw dir { b with w := some v }).1 v rfl
  frame := fun w' v => by
    obtain ⟨_, _, _, h1, h2, h3, h4, h5, h6, h7⟩ := specified_kept cbw dir { b with w := w' }
    simp only [resetX, h1, h2, h3, h4, h5, h6, h7]

/-- (c) **The decorated `block_level_width` in closed form**, for every input: with `t` the width of the tentative
pass, the result is that pass when `t` satisfies `min-width` / `max-width`, and otherwise **one** plain pass from the
*computed* margins of the box (not the used margins of a previous pass), from the **original** `position_x` (not
the one a previous pass shifted to) and from the width `cssClamp t min max`. -/
theorem blw_minmax_eq (cbw : Rat) (dir : Dir) (b : ABox) {t : Rat} (ht : (blwCore cbw dir b).w = some t) :
    handleMinMaxWidth (fun x => .ok (blwCore cbw dir x)) b =
      if b.maxW = .ninf then .error (.unsupported "min_max:non-finite-max") else
      .ok (if b.maxW.ltRat t = false ∧ ¬ t < b.minW then blwCore cbw dir b
           else pass cbw dir b (C05Shrink.cssClamp t b.minW b.maxW) b.posX) :=
  minmax_normal (solves_blw cbw dir b) ht

/-- (a) the decorated `block_level_width` is total on every input with `max-width ≠ -inf`. -/
theorem blw_minmax_ok (cb : CB) (b : ABox) (hmax : b.maxW ≠ .ninf) :
    ∃ r, blockLevelWidthMinMax cb b = .ok r := by
  obtain ⟨t, ht⟩ := blw_width_some cb.width cb.direction b
  exact ⟨_, (blw_minmax_eq cb.width cb.direction b ht).trans (if_neg hmax)⟩

/-- The decorated function **is** one plain pass of `block_level_width` from the computed margins and the
original `position_x`, with the width replaced by the clamped one. -/
theorem minmax_last_pass (cbw : Rat) (dir : Dir) (b r : ABox)
    (h : handleMinMaxWidth (fun b => .ok (blwCore cbw dir b)) b = .ok r) :
    ∃ w', r = blwCore cbw dir { b with w := w', posX := b.posX } ∧
      ∀ w, w' = some w → b.w = some w ∨ w = b.minW ∨ b.maxW = .fin w := by
  obtain ⟨t, ht⟩ := blw_width_some cbw dir b
  rw [blw_minmax_eq cbw dir b ht] at h
  split at h
  · cases h
  cases h
  split
  · exact ⟨b.w, rfl, fun w hw => Or.inl hw⟩
  · refine ⟨_, rfl, fun w hw => Or.inr ?_⟩
    cases hw
    exact C05Shrink.cssClamp_mem t b.minW b.maxW ‹_› ‹_›

private theorem not_overC_of_fit (cbw : Rat) (b : ABox) (w' : Len) (x' : Rat)
    (hauto : b.ml = none ∨ b.mr = none) (hfit : ∀ w, w' = some w → b.specTotal w ≤ cbw) :
    ¬ OverC cbw { b with w := w', posX := x' } := by
  rintro ⟨w, hw, hover⟩
  simp only at hw
  rcases hover with ⟨hl, hr⟩ | hgt
  · rcases hauto with h0 | h0
    · exact hl h0
    · exact hr h0
  · have : ABox.specTotal { b with w := w', posX := x' } w = b.specTotal w := rfl
    rw [this] at hgt
    exact absurd hgt (Rat.not_lt.mpr (hfit w hw))

theorem blw_minmax_kept (cb : CB) (b r : ABox) (h : blockLevelWidthMinMax cb b = .ok r) :
    r.pl = b.pl ∧ r.pr = b.pr ∧ r.bl = b.bl ∧ r.br = b.br ∧ r.minW = b.minW ∧ r.maxW = b.maxW ∧
    r.isColumn = b.isColumn := by
  obtain ⟨w', e, _⟩ := minmax_last_pass cb.width cb.direction b r h
  rw [e]
  exact (specified_kept cb.width cb.direction { b with w := w', posX := b.posX }).2.2.2

/-- (b)(c) **the width equation after min/max**: if one of the computed margins is `auto` and the final
width fits beside the paddings, borders and the specified margin, the equation holds for the final
used values. -/
theorem width_equation_minmax (cb : CB) (b r : ABox) (w : Rat)
    (h : blockLevelWidthMinMax cb b = .ok r) (hw : r.w = some w)
    (hauto : b.ml = none ∨ b.mr = none) (hfit : b.specTotal w ≤ cb.width) :
    outer? r = some cb.width := by
  obtain ⟨w', e, _⟩ := minmax_last_pass cb.width cb.direction b r h
  rw [e]
  refine (width_equation_partial cb.width cb.direction _
    (not_overC_of_fit _ b w' _ hauto fun w'' hw'' => ?_)).1
  -- the width the last pass starts from is the final one
  have hk := (specified_kept cb.width cb.direction { b with w := w', posX := b.posX }).1 w'' hw''
  rw [← e, hw] at hk
  cases hk
  exact hfit

/-- (b)(f) **the start/end edge after min/max, every input, ltr and rtl** (true of the code since
/repo 165e254, the repair of `rtl-minmax-shift-accumulates`): after the decorated `block_level_width` the margin-left
edge is at the start of the containing block in ltr (and for columns), the margin-right edge at its end
in rtl — whatever `min-width` / `max-width` do and however many passes run, because every pass starts
from the original `position_x`. -/
theorem edge_flush_minmax (cbw : Rat) (dir : Dir) (b r : ABox)
    (h : handleMinMaxWidth (fun b => .ok (blwCore cbw dir b)) b = .ok r) :
    EdgeFlush cbw dir b.posX r := by
  obtain ⟨w', e, _⟩ := minmax_last_pass cbw dir b r h
  rw [e]
  exact edge_flush cbw dir { b with w := w', posX := b.posX }

/-- The same for the function as called by the layout. -/
theorem edge_flush_blw_minmax (cb : CB) (b r : ABox) (h : blockLevelWidthMinMax cb b = .ok r) :
    EdgeFlush cb.width cb.direction b.posX r :=
  edge_flush_minmax cb.width cb.direction b r h

/-- (b)(f) `ltr` (and columns): special case of `edge_flush_minmax`. -/
theorem edge_flush_minmax_ltr (cbw : Rat) (dir : Dir) (b r : ABox)
    (h : handleMinMaxWidth (fun b => .ok (blwCore cbw dir b)) b = .ok r)
    (_hdir : dir = .ltr ∨ b.isColumn = true) :
    EdgeFlush cbw dir b.posX r :=
  edge_flush_minmax cbw dir b r h

/-- **Re-layout is idempotent** (what `_in_flow_layout` relies on since /repo 7b9d21e, where it restores
`child.position_x` before laying the child out a second time): running the decorated `block_level_width`
again on its own result, with the computed margins, the computed width and the original `position_x` put
back, gives the same result — in ltr and rtl, whatever min/max did. -/
theorem blw_minmax_relayout (cb : CB) (b r : ABox) (h : blockLevelWidthMinMax cb b = .ok r) :
    blockLevelWidthMinMax cb { r with ml := b.ml, mr := b.mr, w := b.w, posX := b.posX } = .ok r := by
  have hk : ({ r with ml := b.ml, mr := b.mr, w := b.w, posX := b.posX } : ABox) = b := by
    obtain ⟨h1, h2, h3, h4, h5, h6, h7⟩ := blw_minmax_kept cb b r h
    cases b
    simp only [ABox.mk.injEq, true_and]
    exact ⟨h1, h2, h3, h4, h5, h6, h7⟩
  rw [hk]; exact h

/-- When no constraint fires the wrapper is the plain function. -/
theorem minmax_noop (cbw : Rat) (dir : Dir) (b r : ABox)
    (h : handleMinMaxWidth (fun b => .ok (blwCore cbw dir b)) b = .ok r)
    (hin : ∀ w1, (blwCore cbw dir b).w = some w1 → b.maxW.ltRat w1 = false ∧ ¬ w1 < b.minW) :
    r = blwCore cbw dir b := by
  obtain ⟨t, ht⟩ := blw_width_some cbw dir b
  rw [blw_minmax_eq cbw dir b ht] at h
  split at h
  · cases h
  rw [if_pos (hin t ht)] at h
  exact (Except.ok.inj h).symm

/-! ## (d) percentages: `percentage`, `resolve_percentages` -/

/-- (d) `percentage(v %, ref) = ref · v / 100`. -/
theorem percentage_pct (v r : Rat) :
    percentage (.pct v) (.fin r) = .ok (.val (.fin (r * v / 100))) := rfl

theorem percentage_px (x r : Ext) : percentage (.px x) r = .ok (.val x) := rfl
theorem percentage_auto (r : Ext) : percentage .auto r = .ok .auto := rfl
theorem percentage_none (r : Ext) : percentage .none r = .ok .none := rfl

/-- Any other unit reaches the `assert value.unit == '%'`. -/
theorem percentage_unit (u : String) (r : Ext) : ∃ e, percentage (.unit u) r = .error e := ⟨_, rfl⟩

/-- (d) a percentage of an infinite reference (`max-height: v%` in an auto-height containing block):
`inf` for `v > 0`; `0%` gives `nan` (`inf * 0`), which the computed-value step avoids by turning `0%`
into `0px` (`BlockTree.computeMax`). -/
theorem percentage_of_inf (v : Rat) :
    percentage (.pct v) .inf =
      .ok (.val (if v > 0 then .inf else if v < 0 then .ninf else .nan)) := by
  simp only [percentage, Ext.mulRat]
  split <;> (try split) <;> rfl

def lenToUVal : Len → UVal
  | none => .auto
  | some q => .val (.fin q)

/-- The finite specialisation used by `resolvePercentages` is `percentage`. -/
theorem percentageQ_spec (d : DimQ) (r : Rat) :
    percentage d.toDim (.fin r) = (percentageQ d r).map lenToUVal := by
  cases d <;> rfl

/-- The `max-*` specialisation used by `resolvePercentages` is `percentage`. -/
theorem percentageX_spec (d : DimX) (r : Ext) :
    percentage d.toDim r = (percentageX d r).map UVal.val := by
  cases d <;> rfl

theorem percentageQ_pct (v r : Rat) : percentageQ (.pct v) r = .ok (some (r * v / 100)) := rfl
theorem percentageQ_px (v r : Rat) : percentageQ (.px v) r = .ok (some v) := rfl
theorem percentageQ_auto (r : Rat) : percentageQ .auto r = .ok none := rfl

/-- What `resolve_percentages` computes, field by field: `vref` is the reference of the *vertical*
margins and paddings (the containing block **width**, except for page boxes where it is its height);
`(w0, n0, x0)` / `(h0, m0, y0)` are width / min / max before `adjust_box_sizing`. -/
structure Resolved (isPage : Bool) (s : Style) (cbW : Rat) (cbH : Len) (u : Used)
    (vref : Rat) (w0 : Len) (n0 : Rat) (x0 : Ext) (h0 : Len) (m0 : Rat) (y0 : Ext) : Prop where
  vref_eq : (isPage = false ∧ vref = cbW) ∨ (isPage = true ∧ cbH = some vref)
  marginLeft : percentageQ s.marginLeft cbW = .ok u.marginLeft
  marginRight : percentageQ s.marginRight cbW = .ok u.marginRight
  marginTop : percentageQ s.marginTop vref = .ok u.marginTop
  marginBottom : percentageQ s.marginBottom vref = .ok u.marginBottom
  paddingLeft : resolvePad s.paddingLeft cbW = .ok u.paddingLeft
  paddingRight : resolvePad s.paddingRight cbW = .ok u.paddingRight
  paddingTop : resolvePad s.paddingTop vref = .ok u.paddingTop
  paddingBottom : resolvePad s.paddingBottom vref = .ok u.paddingBottom
  borders : u.borderLeft = s.borderLeft ∧ u.borderRight = s.borderRight ∧
    u.borderTop = s.borderTop ∧ u.borderBottom = s.borderBottom
  width0 : percentageQ s.width cbW = .ok w0
  minWidth0 : resolveMin s.minWidth cbW = .ok n0
  maxWidth0 : percentageX s.maxWidth (.fin cbW) = .ok x0
  widthAdjusted : adjustBoxSizing s.boxSizing u.paddingLeft u.paddingRight u.borderLeft u.borderRight
    w0 (some n0) x0 = .ok (u.width, some u.minWidth, u.maxWidth)
  height0 : match cbH with
    | none => (match s.height with
        | .auto => h0 = none | .pct _ => h0 = none | .px v => h0 = some v | .unit => False) ∧
        resolveMin s.minHeight 0 = .ok m0 ∧ percentageX s.maxHeight .inf = .ok y0
    | some h => percentageQ s.height h = .ok h0 ∧ resolveMin s.minHeight h = .ok m0 ∧
        percentageX s.maxHeight (.fin h) = .ok y0
  heightAdjusted : adjustBoxSizing s.boxSizing u.paddingTop u.paddingBottom u.borderTop u.borderBottom
    h0 (some m0) y0 = .ok (u.height, some u.minHeight, u.maxHeight)

/-- (d)(e) the complete input/output relation of `resolve_percentages`. -/
theorem resolve_spec (isPage : Bool) (s : Style) (cbW : Rat) (cbH : Len) (u : Used)
    (h : resolvePercentages isPage s cbW cbH = .ok u) :
    ∃ vref w0 n0 x0 h0 m0 y0, Resolved isPage s cbW cbH u vref w0 n0 x0 h0 m0 y0 := by
  unfold resolvePercentages at h
  simp only [Except.bind_eq_ok_iff] at h
  obtain ⟨vref, hv, ml, hml, mr, hmr, mt, hmt, mb, hmb, pl, hpl, pr, hpr, pt, hpt, pb, hpb, w0, hw0,
    n0, hn0, x0, hx0, ⟨h0, m0, y0⟩, hh, ⟨w', nW, xW⟩, haw, minW, hminW, ⟨h', nH, xH⟩, hah, minH, hminH,
    hu⟩ := h
  simp only [pure, Except.pure, Except.ok.injEq] at hu
  subst hu
  have e1 := lenToRat_ok hminW
  have e2 := lenToRat_ok hminH
  simp only at e1 e2
  subst e1 e2
  refine ⟨vref, w0, n0, x0, h0, m0, y0, {
    vref_eq := ?_, marginLeft := hml, marginRight := hmr, marginTop := hmt,
    marginBottom := hmb, paddingLeft := hpl, paddingRight := hpr, paddingTop := hpt,
    paddingBottom := hpb, borders := ⟨rfl, rfl, rfl, rfl⟩,
    width0 := hw0, minWidth0 := hn0, maxWidth0 := hx0, widthAdjusted := haw,
    height0 := ?_, heightAdjusted := hah }⟩
  · cases isPage with
    | false => simp [pure, Except.pure] at hv; exact Or.inl ⟨rfl, hv.symm⟩
    | true =>
      cases cbH with
      | none => simp at hv
      | some hh' => simp [pure, Except.pure] at hv; exact Or.inr ⟨rfl, by rw [hv]⟩
  · cases cbH with
    | none =>
      simp only [Except.bind_eq_ok_iff] at hh
      obtain ⟨a, ha, b, hb, c, hc, hp⟩ := hh
      simp only [pure, Except.pure, Except.ok.injEq, Prod.mk.injEq] at hp
      obtain ⟨rfl, rfl, rfl⟩ := hp
      refine ⟨?_, hb, hc⟩
      cases hs : s.height <;> simp [hs, pure, Except.pure] at ha ⊢ <;> exact ha.symm
    | some hh' =>
      simp only [Except.bind_eq_ok_iff] at hh
      obtain ⟨a, ha, b, hb, c, hc, hp⟩ := hh
      simp only [pure, Except.pure, Except.ok.injEq, Prod.mk.injEq] at hp
      obtain ⟨rfl, rfl, rfl⟩ := hp
      exact ⟨ha, hb, hc⟩

theorem percentageQ_ok (d : DimQ) (r : Rat) (x : Len) (h : percentageQ d r = .ok x) :
    (∀ v, d = .pct v → x = some (r * v / 100)) ∧ (∀ v, d = .px v → x = some v) ∧ (d = .auto → x = none) := by
  cases d <;> cases h <;> exact ⟨by rintro v ⟨⟩ <;> rfl, by rintro v ⟨⟩ <;> rfl, by rintro ⟨⟩ <;> rfl⟩

theorem resolvePad_ok (d : DimQ) (r x : Rat) (h : resolvePad d r = .ok x) :
    ∀ v, d = .pct v → x = r * v / 100 := by
  intro v e; subst e; cases h; rfl

/-- (d) horizontal margins and paddings given in `%` resolve against the containing block **width**. -/
theorem percent_margins_against_width (isPage : Bool) (s : Style) (cbW : Rat) (cbH : Len) (u : Used)
    (h : resolvePercentages isPage s cbW cbH = .ok u) :
    (∀ v, s.marginLeft = .pct v → u.marginLeft = some (cbW * v / 100)) ∧
    (∀ v, s.marginRight = .pct v → u.marginRight = some (cbW * v / 100)) ∧
    (∀ v, s.paddingLeft = .pct v → u.paddingLeft = cbW * v / 100) ∧
    (∀ v, s.paddingRight = .pct v → u.paddingRight = cbW * v / 100) ∧
    (∀ v, s.marginLeft = .px v → u.marginLeft = some v) ∧
    (∀ v, s.marginRight = .px v → u.marginRight = some v) ∧
    (s.marginLeft = .auto → u.marginLeft = none) ∧ (s.marginRight = .auto → u.marginRight = none) := by
  obtain ⟨vref, w0, n0, x0, h0, m0, y0, r⟩ := resolve_spec isPage s cbW cbH u h
  obtain ⟨l1, l2, l3⟩ := percentageQ_ok _ _ _ r.marginLeft
  obtain ⟨r1, r2, r3⟩ := percentageQ_ok _ _ _ r.marginRight
  exact ⟨l1, r1, resolvePad_ok _ _ _ r.paddingLeft, resolvePad_ok _ _ _ r.paddingRight, l2, r2, l3, r3⟩

/-- (d) for a box that is not a page box the **vertical** margins and paddings in `%` also resolve
against the containing block *width* (CSS 2.1 §8.3/§8.4); for a page box, against its height. -/
theorem percent_vertical_reference (isPage : Bool) (s : Style) (cbW : Rat) (cbH : Len) (u : Used)
    (h : resolvePercentages isPage s cbW cbH = .ok u) :
    ∃ vref, ((isPage = false ∧ vref = cbW) ∨ (isPage = true ∧ cbH = some vref)) ∧
      (∀ v, s.marginTop = .pct v → u.marginTop = some (vref * v / 100)) ∧
      (∀ v, s.marginBottom = .pct v → u.marginBottom = some (vref * v / 100)) ∧
      (∀ v, s.paddingTop = .pct v → u.paddingTop = vref * v / 100) ∧
      (∀ v, s.paddingBottom = .pct v → u.paddingBottom = vref * v / 100) := by
  obtain ⟨vref, w0, n0, x0, h0, m0, y0, r⟩ := resolve_spec isPage s cbW cbH u h
  exact ⟨vref, r.vref_eq, (percentageQ_ok _ _ _ r.marginTop).1, (percentageQ_ok _ _ _ r.marginBottom).1,
    resolvePad_ok _ _ _ r.paddingTop, resolvePad_ok _ _ _ r.paddingBottom⟩

/-! ## (e) box-sizing: `adjust_box_sizing` -/

/-- `max(0, x - delta)` when `delta > 0`, else `x` (what `adjust_box_sizing` does to size, min and max). -/
def shrink (delta x : Rat) : Rat := if delta > 0 then max 0 (x - delta) else x

theorem shrink_nonneg (d x : Rat) (hx : 0 ≤ x) : 0 ≤ shrink d x := by
  unfold shrink; split
  · grind
  · exact hx

theorem shrink_le (d x : Rat) : shrink d x ≤ max x 0 := by
  unfold shrink; split <;> grind

theorem shrink_add (d x : Rat) (hd : 0 ≤ d) (hroom : d ≤ x) : shrink d x + d = x := by
  unfold shrink; split <;> grind

/-- The complete input/output relation of `adjust_box_sizing`: size, minimum and maximum are shifted
by the **same** `delta` (the extras of the declared box), never below 0; `auto` and `inf` stay. -/
theorem box_sizing_spec (bs : BoxSizing) (pa pb ba bb : Rat) (size minS : Len) (maxS : Ext)
    (r : Len × Len × Ext) (h : adjustBoxSizing bs pa pb ba bb size minS maxS = .ok r) :
    ∃ delta, boxSizingDelta bs pa pb ba bb = .ok delta ∧
      r.1 = size.map (shrink delta) ∧ r.2.1 = minS.map (shrink delta) ∧
      (∀ x, maxS = .fin x → r.2.2 = .fin (shrink delta x)) ∧ (maxS = .inf → r.2.2 = .inf) := by
  unfold adjustBoxSizing at h
  simp only [Except.bind_eq_ok_iff] at h
  obtain ⟨delta, hd, h⟩ := h
  refine ⟨delta, hd, ?_⟩
  by_cases hpos : delta > 0
  · rw [if_pos hpos] at h
    simp only [pure, Except.pure, Except.ok.injEq] at h
    subst h
    refine ⟨?_, ?_, ?_, ?_⟩
    · cases size <;> simp [shrink, hpos]
    · cases minS <;> simp [shrink, hpos]
    · intro x hx; subst hx
      simp only [Ext.subRat, Ext.pyMax0, shrink, hpos, if_true]
      split <;> congr 1 <;> grind
    · intro hx; subst hx; rfl
  · rw [if_neg hpos] at h
    simp only [pure, Except.pure, Except.ok.injEq] at h
    subst h
    refine ⟨?_, ?_, ?_, ?_⟩
    · cases size <;> simp [shrink, hpos]
    · cases minS <;> simp [shrink, hpos]
    · intro x hx; simp [shrink, hpos, hx]
    · intro hx; exact hx

/-- (e) **box-sizing only changes which box the declared size measures**: with non-negative paddings
and borders and a declared size `W`, the content size `c` satisfies
`border-box`: `c + paddings + borders = W` (when `W` can hold them), `padding-box`: `c + paddings = W`,
`content-box`: `c = W`; in every case `c ≥ 0` when `W ≥ 0` (the `max(0, …)`). -/
theorem box_sizing (bs : BoxSizing) (pa pb ba bb W : Rat) (minS : Len) (maxS : Ext)
    (r : Len × Len × Ext) (h : adjustBoxSizing bs pa pb ba bb (some W) minS maxS = .ok r)
    (hpa : 0 ≤ pa) (hpb : 0 ≤ pb) (hba : 0 ≤ ba) (hbb : 0 ≤ bb) :
    ∃ c, r.1 = some c ∧ (0 ≤ W → 0 ≤ c) ∧ c ≤ max W 0 ∧
      (match bs with
       | .borderBox => pa + pb + ba + bb ≤ W → c + pa + pb + ba + bb = W
       | .paddingBox => pa + pb ≤ W → c + pa + pb = W
       | .contentBox => c = W
       | .other => False) := by
  obtain ⟨delta, hd, hs, _⟩ := box_sizing_spec bs pa pb ba bb (some W) minS maxS r h
  have key : ∀ d, 0 ≤ d → delta = d →
      r.1 = some (shrink d W) ∧ (0 ≤ W → 0 ≤ shrink d W) ∧ shrink d W ≤ max W 0 ∧ (d ≤ W → shrink d W + d = W) :=
    fun d h0 e => ⟨e ▸ hs, shrink_nonneg d W, shrink_le d W, shrink_add d W h0⟩
  cases bs <;> simp only [boxSizingDelta, Except.ok.injEq, reduceCtorEq] at hd
  · obtain ⟨h1, h2, h3, h4⟩ := key (pa + pb + ba + bb) (Rat.add_nonneg (Rat.add_nonneg (Rat.add_nonneg hpa hpb) hba) hbb) hd.symm
    exact ⟨_, h1, h2, h3, fun hroom => by simpa only [Rat.add_assoc] using h4 hroom⟩
  · obtain ⟨h1, h2, h3, h4⟩ := key (pa + pb) (Rat.add_nonneg hpa hpb) hd.symm
    exact ⟨_, h1, h2, h3, fun hroom => by simpa only [Rat.add_assoc] using h4 hroom⟩
  · obtain ⟨h1, h2, h3, -⟩ := key 0 Rat.le_refl hd.symm
    exact ⟨_, h1, h2, h3, if_neg (by decide)⟩

example : adjustBoxSizing .borderBox 5 5 1 1 (some 100) (some 20) (.fin 50) =
    .ok (some 88, some 8, .fin 38) := okEq_iff.mp (by decide +kernel)

/-- (e) through `resolve_percentages`: `box-sizing: border-box; width: W px` with room for the extras
gives used values with `width + paddings + borders = W`. -/
theorem resolve_border_box_width (isPage : Bool) (s : Style) (cbW : Rat) (cbH : Len) (u : Used) (W : Rat)
    (h : resolvePercentages isPage s cbW cbH = .ok u) (hbs : s.boxSizing = .borderBox)
    (hw : s.width = .px W)
    (hpos : 0 ≤ u.paddingLeft ∧ 0 ≤ u.paddingRight ∧ 0 ≤ u.borderLeft ∧ 0 ≤ u.borderRight)
    (hroom : u.paddingLeft + u.paddingRight + u.borderLeft + u.borderRight ≤ W) :
    ∃ c, u.width = some c ∧ 0 ≤ c ∧
      c + u.paddingLeft + u.paddingRight + u.borderLeft + u.borderRight = W := by
  obtain ⟨vref, w0, n0, x0, h0, m0, y0, r⟩ := resolve_spec isPage s cbW cbH u h
  have hw0 := r.width0
  rw [hw, percentageQ_px] at hw0
  simp only [Except.ok.injEq] at hw0
  subst hw0
  have ha := r.widthAdjusted
  rw [hbs] at ha
  obtain ⟨c, hc, hnn, _, heq⟩ := box_sizing .borderBox _ _ _ _ W _ _ _ ha hpos.1 hpos.2.1 hpos.2.2.1 hpos.2.2.2
  simp only at hc heq
  have hW : 0 ≤ W := by grind
  exact ⟨c, hc, hnn hW, heq hroom⟩

/-- (a)(c) the used `min-width` is non-negative when the computed one is (auto, a non-negative length,
or a non-negative percentage of a non-negative width): with `blw_minmax` this gives `width ≥ 0`. -/
theorem resolve_min_nonneg (isPage : Bool) (s : Style) (cbW : Rat) (cbH : Len) (u : Used)
    (h : resolvePercentages isPage s cbW cbH = .ok u) (hcb : 0 ≤ cbW)
    (hmin : match s.minWidth with | .auto => True | .px v => 0 ≤ v | .pct v => 0 ≤ v | .unit => True) :
    0 ≤ u.minWidth := by
  obtain ⟨vref, w0, n0, x0, h0, m0, y0, r⟩ := resolve_spec isPage s cbW cbH u h
  have hn0 : 0 ≤ n0 := by
    have := r.minWidth0
    cases hs : s.minWidth <;> simp [hs, resolveMin, percentageQ, bind, Except.bind, pure, Except.pure] at this hmin
    · rw [← this]; exact Rat.le_refl
    · rw [← this]; exact hmin
    · rw [← this]
      have := Rat.mul_nonneg hcb hmin
      grind
  obtain ⟨delta, _, _, hm, _, _⟩ := box_sizing_spec _ _ _ _ _ _ _ _ _ r.widthAdjusted
  simp only [Option.map_some, Option.some.injEq] at hm
  rw [hm]
  exact shrink_nonneg delta n0 hn0

/-- (d) **auto-height containing block**: `height: auto | %` stays `auto`, `min-height: %` is 0 and
`max-height: v%` (`v > 0`) is unbounded. -/
theorem resolve_auto_cb_height (isPage : Bool) (s : Style) (cbW : Rat) (u : Used)
    (h : resolvePercentages isPage s cbW none = .ok u) :
    ((s.height = .auto ∨ ∃ v, s.height = .pct v) → u.height = none) ∧
    ((∃ v, s.minHeight = .pct v) → u.minHeight = 0) ∧
    (∀ v, s.maxHeight = .pct v → v > 0 → u.maxHeight = .inf) ∧
    (∀ v, s.height = .px v → ∃ c, u.height = some c) := by
  obtain ⟨vref, w0, n0, x0, h0, m0, y0, r⟩ := resolve_spec isPage s cbW none u h
  obtain ⟨hh0, hm0, hy0⟩ := r.height0
  obtain ⟨delta, _, hs, hm, _, hinf⟩ := box_sizing_spec _ _ _ _ _ _ _ _ _ r.heightAdjusted
  simp only [Option.map_some, Option.some.injEq] at hm hs
  refine ⟨?_, ?_, ?_, ?_⟩
  · rintro (ha | ⟨v, hv⟩)
    · rw [ha] at hh0; simp only at hh0; rw [hs, hh0]; rfl
    · rw [hv] at hh0; simp only at hh0; rw [hs, hh0]; rfl
  · rintro ⟨v, hv⟩
    rw [hv] at hm0
    simp [resolveMin, percentageQ, bind, Except.bind, pure, Except.pure, Rat.zero_mul] at hm0
    rw [hm, ← hm0]
    unfold shrink; split <;> grind
  · intro v hv hpos
    rw [hv] at hy0
    simp only [percentageX, Ext.mulRat, hpos, if_true, Ext.div100, Except.ok.injEq] at hy0
    exact hinf hy0.symm
  · intro v hv
    rw [hv] at hh0; simp only at hh0
    rw [hs, hh0]; exact ⟨_, rfl⟩

/-! ## the page box: `page_width_or_height` under the two wrappers -/

/-! `page_width_or_height` branch by branch. -/

theorem pwh_auto (cbSize : Rat) (b : ABox) (hw : b.w = none) :
    pageWidthOrHeight cbSize b =
      { b with ml := some (b.ml.getD 0), mr := some (b.mr.getD 0),
               w := some (cbSize - b.pb - b.ml.getD 0 - b.mr.getD 0) } := by
  rcases b with ⟨ml, mr, pl, pr, bl, br, w, minW, maxW, posX, col⟩
  subst hw
  rfl

theorem pwh_some (cbSize : Rat) (b : ABox) (w : Rat) (hw : b.w = some w) :
    pageWidthOrHeight cbSize b =
      match b.ml, b.mr with
      | none, none => { b with ml := some ((cbSize - b.pb - w) / 2), mr := some ((cbSize - b.pb - w) / 2) }
      | none, some r => { b with ml := some (cbSize - b.pb - w - r) }
      | some l, none => { b with mr := some (cbSize - b.pb - w - l) }
      | some _, some _ => b := by
  rcases b with ⟨ml, mr, pl, pr, bl, br, w', minW, maxW, posX, col⟩
  simp only at hw; subst hw
  rfl

/-- (b) the same equation for the page box (`page_width` / `page_height`): unless all three of margin,
size, margin are specified, they fill the device size. -/
theorem page_equation (cbSize : Rat) (b : ABox) (h : b.w = none ∨ b.ml = none ∨ b.mr = none) :
    outer? (pageWidthOrHeight cbSize b) = some cbSize := by
  cases hw : b.w with
  | none =>
    rw [pwh_auto cbSize b hw]
    simp only [outer?, ABox.pb]
    congr 1; grind
  | some w =>
    rw [pwh_some cbSize b w hw]
    rcases b with ⟨ml, mr, pl, pr, bl, br, w', minW, maxW, posX, col⟩
    simp only at hw; subst hw
    cases ml <;> cases mr <;> simp [outer?, ABox.pb] at h ⊢ <;> grind

theorem keepsSize_page (cbSize : Rat) : KeepsSize (fun b => .ok (pageWidthOrHeight cbSize b)) where
  size := by
    intro b b' w h hw
    cases h
    rw [pwh_some cbSize b w hw]
    split <;> exact hw
  bounds := by
    intro b b' h
    cases h
    cases hw : b.w with
    | none => rw [pwh_auto cbSize b hw]; exact ⟨rfl, rfl⟩
    | some w => rw [pwh_some cbSize b w hw]; split <;> exact ⟨rfl, rfl⟩

/-- (c) page width and page height respect `min-*` / `max-*` (the second one exercises
`handle_min_max_height`). -/
theorem page_minmax (cbSize : Rat) (b r : ABox) :
    (pageWidth cbSize b = .ok r ∨ pageHeight cbSize b = .ok r) →
    ∃ w, r.w = some w ∧ b.minW ≤ w ∧ (∀ m, b.maxW = .fin m → b.minW ≤ m → w ≤ m) := by
  rintro (h | h)
  · exact (minmax_width _ (keepsSize_page cbSize) b r h).imp fun _ h => ⟨h.1, h.2.1, h.2.2.1⟩
  · exact (minmax_height _ (keepsSize_page cbSize) b r h).imp fun _ h => ⟨h.1, h.2.1, h.2.2.1⟩

example : pageHeight 100 { exBox with w := none, ml := some 10, mr := none, maxW := .fin 40 } =
    .ok { exBox with w := some 40, ml := some 10, mr := some 40, maxW := .fin 40 } :=
  okEq_iff.mp (by decide +kernel)

/-! ## (f) children inside the parent's content box -/

/-- (a) without over-constraint, non-negative specified margins give non-negative used margins (an
`auto` margin receives the non-negative remaining space). -/
theorem margins_nonneg (cbw : Rat) (dir : Dir) (b : ABox) (h : ¬ OverC cbw b)
    (hl : ∀ m, b.ml = some m → 0 ≤ m) (hr : ∀ m, b.mr = some m → 0 ≤ m) :
    ∃ l r, (blwCore cbw dir b).ml = some l ∧ (blwCore cbw dir b).mr = some r ∧ 0 ≤ l ∧ 0 ≤ r := by
  cases hw : b.w with
  | none =>
    have h0 : ∀ o : Len, (∀ m, o = some m → 0 ≤ m) → 0 ≤ orZero o := fun o h => by
      cases o
      · exact Rat.le_refl
      · exact h _ rfl
    rw [blwCore_auto cbw dir b hw]
    exact ⟨_, _, rfl, rfl, h0 _ hl, h0 _ hr⟩
  | some w =>
    obtain ⟨hauto, hfit⟩ := not_overC_some hw h
    rw [blwCore_fit cbw dir b w hw hfit hauto]
    rcases b with ⟨ml, mr, pl, pr, bl, br, w', minW, maxW, posX, col⟩
    simp only at hw; subst hw
    cases ml with
    | none =>
      cases mr with
      | none =>
        simp only [ABox.specTotal, ABox.pb, orZero] at hfit ⊢
        exact ⟨_, _, rfl, rfl, by grind, by grind⟩
      | some r =>
        have := hr r rfl
        simp only [ABox.specTotal, ABox.pb, orZero] at hfit ⊢
        exact ⟨_, _, rfl, rfl, by grind, this⟩
    | some l =>
      cases mr with
      | none =>
        have := hl l rfl
        simp only [ABox.specTotal, ABox.pb, orZero] at hfit ⊢
        exact ⟨_, _, rfl, rfl, this, by grind⟩
      | some r => simp at hauto

/-- `layoutBox` inverted: the decorated `block_level_width` ran on `aboxOfUsed u x` and `g` reads its result. -/
theorem layoutBox_unfold (cb : CB) (cbH : Len) (x fs : Rat) (s : NStyle) (g : Geo) (u : Used)
    (h : layoutBox cb cbH x fs s = .ok (g, u)) :
    ∃ r, blockLevelWidthMinMax cb (aboxOfUsed u x) = .ok r ∧
      r.ml = some g.ml ∧ r.mr = some g.mr ∧ r.w = some g.w ∧ g.x = r.posX ∧
      g.pl = r.pl ∧ g.pr = r.pr ∧ g.bl = r.bl ∧ g.br = r.br ∧
      g.pt = u.paddingTop ∧ g.pb = u.paddingBottom ∧ g.bt = u.borderTop ∧ g.bb = u.borderBottom := by
  simp only [layoutBox, geoOf, Except.bind_eq_ok_iff, pure, Except.pure, Except.ok.injEq, Prod.mk.injEq] at h
  obtain ⟨style, _, u', hu, r, hr, g', ⟨ml, hml, mr, hmr, w, hw, rfl⟩, rfl, rfl⟩ := h
  exact ⟨r, hr, lenToRat_ok hml, lenToRat_ok hmr, lenToRat_ok hw, rfl, rfl, rfl, rfl, rfl, rfl, rfl, rfl, rfl⟩

/-- (f) **in-flow children lie inside the parent's content box horizontally** (tree model,
`layoutBox` = `resolve_percentages` + decorated `block_level_width` at `position_x = x`, the parent's
content edge, in a parent of content width `pw`): when one computed margin is `auto`, the specified one
is non-negative and every width the wrapper may try fits, the child's margin box is exactly the
parent's content box and its border box lies inside it — in `ltr` and in `rtl`. -/
theorem child_inside_parent (pw : Rat) (dir : Dir) (cbH : Len) (x fs : Rat) (s : NStyle) (g : Geo) (u : Used)
    (h : layoutBox (.box pw dir) cbH x fs s = .ok (g, u))
    (hauto : u.marginLeft = none ∨ u.marginRight = none)
    (hnonneg : (∀ m, u.marginLeft = some m → 0 ≤ m) ∧ (∀ m, u.marginRight = some m → 0 ≤ m))
    (hfit : ∀ w, (u.width = some w ∨ w = u.minWidth ∨ u.maxWidth = .fin w) →
      (aboxOfUsed u x).specTotal w ≤ pw) :
    g.x = x ∧ g.ml + g.bl + g.pl + g.w + g.pr + g.br + g.mr = pw ∧
    x ≤ g.x + g.ml ∧ g.x + g.ml + g.bl + g.pl + g.w + g.pr + g.br ≤ x + pw := by
  obtain ⟨r, hr, eml, emr, ew, hgx, hpl, hpr, hbl, hbr, _⟩ := layoutBox_unfold _ cbH x fs s g u h
  -- the last pass is not over-constrained: it fills the parent and its margins are non-negative
  obtain ⟨w', e, hw'⟩ := minmax_last_pass pw dir (aboxOfUsed u x) r hr
  have hn := not_overC_of_fit pw (aboxOfUsed u x) w' (aboxOfUsed u x).posX hauto
    fun w hw => hfit w (hw' w hw)
  obtain ⟨ho, hx⟩ := width_equation_partial pw dir _ hn
  obtain ⟨l, r', hl, hr', hl0, hr0⟩ := margins_nonneg pw dir _ hn hnonneg.1 hnonneg.2
  rw [← e] at ho hx
  rw [← e, eml] at hl
  rw [← e, emr] at hr'
  cases hl; cases hr'
  simp only [outer?, eml, emr, ew, Option.some.injEq, ← hpl, ← hpr, ← hbl, ← hbr] at ho
  have hx' : g.x = x := hgx.trans hx
  refine ⟨hx', ho, ?_, ?_⟩ <;> grind

example : layoutBox (.box 200 .rtl) none 10 16
    { ml := .auto, mr := .px 20, mt := .px 0, mb := .px 0, pl := .px 5, pr := .px 5, pt := .px 0, pb := .px 0,
      bl := .px 1, br := .px 1, bt := .px 0, bb := .px 0, width := .pct 50, height := .auto, minW := .auto,
      minH := .auto, maxW := .none, maxH := .none, boxSizing := .contentBox, dir := none, fontSize := none }
    = .ok ({ x := 10, ml := 68, mr := 20, w := 100, pl := 5, pr := 5, bl := 1, br := 1, mt := 0, mb := 0,
             pt := 0, pb := 0, bt := 0, bb := 0, h := none },
           { marginLeft := none, marginRight := some 20, marginTop := some 0, marginBottom := some 0,
             paddingLeft := 5, paddingRight := 5, paddingTop := 0, paddingBottom := 0, width := some 100,
             height := none, minWidth := 0, minHeight := 0, maxWidth := .inf, maxHeight := .inf,
             borderLeft := 1, borderRight := 1, borderTop := 0, borderBottom := 0 }) :=
  okEq_iff.mp (by decide +kernel)

/-! ## (a)(f)(g) the geometry helpers of `boxes.Box` and uniform translation -/

open Wp.BoxEdges in
/-- `margin_width()` is the left-hand side of the width equation. -/
theorem margin_width_eq (b : EBox) :
    b.marginWidth = b.ml + b.bl + b.pl + b.w + b.pr + b.br + b.mr ∧
    b.marginHeight = b.mt + b.bt + b.pt + b.h + b.pb + b.bb + b.mb := by
  simp only [EBox.marginWidth, EBox.borderWidth, EBox.paddingWidth, EBox.marginHeight, EBox.borderHeight,
    EBox.paddingHeight]
  constructor <;> grind

open Wp.BoxEdges in
/-- (a)(f) with non-negative margins, borders and paddings the four boxes are nested horizontally:
margin box ⊇ border box ⊇ padding box ⊇ content box (and the same vertically). -/
theorem boxes_nested (b : EBox) (hm : 0 ≤ b.ml ∧ 0 ≤ b.mr ∧ 0 ≤ b.mt ∧ 0 ≤ b.mb)
    (hb : 0 ≤ b.bl ∧ 0 ≤ b.br ∧ 0 ≤ b.bt ∧ 0 ≤ b.bb) (hp : 0 ≤ b.pl ∧ 0 ≤ b.pr ∧ 0 ≤ b.pt ∧ 0 ≤ b.pb) :
    (b.x ≤ b.borderBoxX ∧ b.borderBoxX ≤ b.paddingBoxX ∧ b.paddingBoxX ≤ b.contentBoxX ∧
     b.contentBoxX + b.w ≤ b.paddingBoxX + b.paddingWidth ∧
     b.paddingBoxX + b.paddingWidth ≤ b.borderBoxX + b.borderWidth ∧
     b.borderBoxX + b.borderWidth ≤ b.x + b.marginWidth) ∧
    (b.y ≤ b.borderBoxY ∧ b.borderBoxY ≤ b.paddingBoxY ∧ b.paddingBoxY ≤ b.contentBoxY ∧
     b.contentBoxY + b.h ≤ b.paddingBoxY + b.paddingHeight ∧
     b.paddingBoxY + b.paddingHeight ≤ b.borderBoxY + b.borderHeight ∧
     b.borderBoxY + b.borderHeight ≤ b.y + b.marginHeight) := by
  simp only [EBox.marginWidth, EBox.borderWidth, EBox.paddingWidth, EBox.marginHeight, EBox.borderHeight,
    EBox.paddingHeight, EBox.contentBoxX, EBox.paddingBoxX, EBox.borderBoxX, EBox.contentBoxY,
    EBox.paddingBoxY, EBox.borderBoxY]
  refine ⟨⟨?_, ?_, ?_, ?_, ?_, ?_⟩, ⟨?_, ?_, ?_, ?_, ?_, ?_⟩⟩ <;> grind

/-- The content edge used by the tree model is `content_box_x()`. -/
theorem geo_contentX (g : Geo) (y h : Rat) :
    g.contentX = (BoxEdges.EBox.contentBoxX
      { x := g.x, y := y, w := g.w, h := h, ml := g.ml, mr := g.mr, mt := g.mt, mb := g.mb, pl := g.pl,
        pr := g.pr, pt := g.pt, pb := g.pb, bl := g.bl, br := g.br, bt := g.bt, bb := g.bb }) := rfl

open Wp.BoxEdges in
/-- `translate(0, 0)` returns without touching anything. -/
theorem translate_zero (ig : Bool) : ∀ t : ETree, translate 0 0 ig t = t
  | .mk b f kids => by simp [translate]

open Wp.BoxEdges in
mutual
/-- (g) **uniform translation**: `translate(dx, dy)` (floats not ignored) moves every box of the subtree by
exactly `(dx, dy)`: relative positions, hence every distance the property speaks about, are unchanged. -/
theorem translate_positions (dx dy : Rat) : ∀ t : ETree,
    positions (translate dx dy false t) = (positions t).map (fun p => (p.1 + dx, p.2 + dy))
  | .mk b f kids => by
    by_cases h0 : dx = 0 ∧ dy = 0
    · obtain ⟨rfl, rfl⟩ := h0
      rw [translate_zero]
      have : (fun p : Rat × Rat => (p.1 + 0, p.2 + 0)) = id := by
        funext p; simp [Rat.add_zero]
      rw [this, List.map_id]
    · simp only [translate, h0, if_false, positions, List.map_cons]
      rw [translateKids_positions dx dy kids]
theorem translateKids_positions (dx dy : Rat) : ∀ ts : List ETree,
    positionsKids (translateKids dx dy false ts) = (positionsKids ts).map (fun p => (p.1 + dx, p.2 + dy))
  | [] => by simp [translateKids, positionsKids]
  | .mk b f kids :: rest => by
    simp only [translateKids, Bool.false_and, Bool.false_eq_true, if_false, positionsKids, List.map_append]
    rw [translate_positions dx dy (.mk b f kids), translateKids_positions dx dy rest]
end

/-! ## non-vacuity: concrete inputs satisfying the hypotheses used above -/

/-- `width: 50px; margin: 0` in 100px: over-constrained (hypothesis of `overconstrained_geometry`). -/
example : OverC 100 { exBox with ml := some 0, mr := some 0 } :=
  ⟨50, rfl, Or.inl ⟨by simp, by simp⟩⟩

/-- An over-wide box with an `auto` margin is over-constrained too. -/
example : OverC 40 exBox := ⟨50, rfl, Or.inr (by simp [ABox.specTotal, ABox.pb, orZero, exBox]; decide +kernel)⟩

/-- `edge_flush_minmax` in `rtl` on an input where a constraint fires and the last pass is
over-constrained: `width: auto; margin: 0; max-width: 60px` in 101px.  First pass: width 91;
second pass from `max-width`: shift `101 − 70 = 31`, the margin-right edge is at 101. -/
example :
    let b : ABox := { exBox with w := none, ml := some 0, mr := some 0, maxW := .fin 60 }
    ¬ OverC 101 b ∧ (∀ m, b.maxW = .fin m → b.minW ≤ m) ∧
    handleMinMaxWidth (fun b => .ok (blwCore 101 .rtl b)) b = .ok { b with w := some 60, posX := 31 } := by
  refine ⟨?_, ?_, okEq_iff.mp (by decide +kernel)⟩
  · rintro ⟨w, hw, _⟩; simp at hw
  · intro m hm
    simp only [Ext.fin.injEq] at hm
    subst hm; decide +kernel

/-- Hypotheses of `child_inside_parent`: one `auto` margin, everything fits. -/
example :
    let b : ABox := { exBox with mr := some 3, minW := 20, maxW := .fin 80 }
    (b.ml = none ∨ b.mr = none) ∧
    (∀ w, (b.w = some w ∨ w = b.minW ∨ b.maxW = .fin w) → b.specTotal w ≤ 101) := by
  refine ⟨Or.inl rfl, ?_⟩
  intro w hw
  simp only [exBox, Option.some.injEq, Ext.fin.injEq] at hw
  rcases hw with h | h | h <;> subst h <;> simp [ABox.specTotal, ABox.pb, orZero, exBox] <;> decide +kernel

/-- A concrete `resolve_percentages`: `margin: 10% auto; padding: 5%; width: 50%; height: 50%;
min-height: 10%; max-height: 40%; box-sizing: border-box` in a 200px wide, auto-height containing block. -/
example : resolvePercentages false
    { marginLeft := .auto, marginRight := .auto, marginTop := .pct 10, marginBottom := .pct 10,
      paddingLeft := .pct 5, paddingRight := .pct 5, paddingTop := .pct 5, paddingBottom := .pct 5,
      width := .pct 50, height := .pct 50, minWidth := .auto, minHeight := .pct 10, maxWidth := .px .inf,
      maxHeight := .pct 40, borderLeft := 1, borderRight := 1, borderTop := 1, borderBottom := 1,
      boxSizing := .borderBox } 200 none =
    .ok { marginLeft := none, marginRight := none, marginTop := some 20, marginBottom := some 20,
          paddingLeft := 10, paddingRight := 10, paddingTop := 10, paddingBottom := 10,
          width := some 78, height := none, minWidth := 0, minHeight := 0, maxWidth := .inf,
          maxHeight := .inf, borderLeft := 1, borderRight := 1, borderTop := 1, borderBottom := 1 } :=
  okEq_iff.mp (by decide +kernel)

def zeroBox : BoxEdges.EBox :=
  { x := 0, y := 0, w := 0, h := 0, ml := 0, mr := 0, mt := 0, mb := 0,
    pl := 0, pr := 0, pt := 0, pb := 0, bl := 0, br := 0, bt := 0, bb := 0 }

/-- `translate` with floats ignored leaves a floated child (and its subtree) in place. -/
example :
    BoxEdges.positions (BoxEdges.translate 5 7 true
      (.mk zeroBox false [.mk { zeroBox with x := 1 } true [.mk { zeroBox with x := 2 } false []],
                          .mk { zeroBox with x := 3 } false []]))
      = [(5, 7), (1, 0), (2, 0), (8, 7)] := by decide +kernel

end Wp.C05
