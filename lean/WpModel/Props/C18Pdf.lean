/-
C18 — "title, authors, description, keywords, dates, language and attachments of the HTML are written
to the PDF unchanged": the string objects.  `Model/C18PdfString.lean` mirrors `pydyf.String.data` and
reads PDF strings back as ISO 32000-1 prescribes.
-/
import WpModel.Lemmas.C18PdfString
import WpModel.Lemmas.C18Attach
import WpModel.Gen.C18MetaKeys
import WpModel.Model.Metadata

namespace Wp.C18
open Wp Wp.PdfStr Wp.Anchors Wp.Attach

/-- Characters an ASCII-only string may contain and still be read back unchanged from a literal
string: no carriage return (an unescaped end-of-line reads as LF), none of 0x18–0x1F (PDFDocEncoding
maps them to spacing diacritics), not 0x7F (undefined). -/
def PlainAscii (c : Nat) : Prop := c ≠ 13 ∧ c < 127 ∧ ¬ (24 ≤ c ∧ c < 32)

theorem no_surrogate (s : List Nat) (h : ∀ c ∈ s, Scalar c) : s.any isSurrogate = false := by
  rw [List.any_eq_false]
  intro c hc
  simp only [isSurrogate, Bool.and_eq_true, decide_eq_true_eq]
  exact (h c hc).2

/-- `pydyf.String(s).data` never fails on a Python string without lone surrogates. -/
theorem pdf_string_total (s : List Nat) (h : ∀ c ∈ s, Scalar c) : ∃ bytes, encode s = .ok bytes := by
  unfold encode
  split
  · exact ⟨_, rfl⟩
  · rw [no_surrogate s h]; exact ⟨_, rfl⟩

/-- A string with at least one non-ASCII character (any Unicode: BMP, astral, controls, CR included)
is written as a hexadecimal UTF-16BE string with byte-order mark and reads back unchanged. -/
theorem pdf_string_roundtrip_unicode (s : List Nat) (h : ∀ c ∈ s, Scalar c) (hna : ¬ ∀ c ∈ s, c < 128) :
    ∃ bytes, encode s = .ok bytes ∧ decode bytes = some s := by
  have hall : s.all (· < 128) = false := by
    rw [Bool.eq_false_iff]; intro hh; apply hna; simpa using hh
  refine ⟨_, by unfold encode; rw [hall, no_surrogate s h]; rfl, ?_⟩
  have hb : ∀ b ∈ 254 :: 255 :: s.flatMap utf16be, b < 256 := by
    intro b hb
    simp only [List.mem_cons, List.mem_flatMap] at hb
    rcases hb with e | e | ⟨c, hc, hbc⟩
    · omega
    · omega
    · exact utf16be_bytes c (h c hc) b hbc
  unfold decode readString
  simp only []
  rw [readHex_hexBytes [] _ [] hb]
  simp only [List.reverse_nil, List.nil_append, textOf]
  exact utf16_roundtrip s h

/-- An ASCII string of plain characters is written as a literal string (backslash and parentheses
escaped) and reads back unchanged.  The hypothesis is necessary: `Witness.C18.pdf_string_cr`. -/
theorem pdf_string_roundtrip_ascii_partial (s : List Nat) (h : ∀ c ∈ s, PlainAscii c) :
    ∃ bytes, encode s = .ok bytes ∧ decode bytes = some s := by
  have hall : s.all (· < 128) = true := by
    rw [List.all_eq_true]; intro c hc; have := (h c hc).2.1; simp; omega
  refine ⟨_, by unfold encode; rw [hall]; rfl, ?_⟩
  unfold decode readString
  simp only []
  rw [readLit_escape [] s [] (fun b hb => (h b hb).1)]
  simp only [List.reverse_nil, List.nil_append]
  have htext : textOf s = docDecode s := by
    unfold textOf
    split
    · rename_i rest
      have := (h 254 (by simp)).2.1
      omega
    · rfl
  rw [htext]
  exact docDecode_plain s (fun c hc => ⟨(h c hc).2.1, (h c hc).2.2⟩)

/-- Both cases together: every string of Unicode scalar values whose ASCII-only instances are plain
survives `pydyf.String` → file → reader. -/
theorem pdf_string_roundtrip_partial (s : List Nat) (h : ∀ c ∈ s, Scalar c)
    (hp : (∀ c ∈ s, c < 128) → ∀ c ∈ s, PlainAscii c) :
    ∃ bytes, encode s = .ok bytes ∧ decode bytes = some s := by
  by_cases ha : ∀ c ∈ s, c < 128
  · exact pdf_string_roundtrip_ascii_partial s (hp ha)
  · exact pdf_string_roundtrip_unicode s h ha

example : encode [84, 40, 105, 41, 92] = .ok [40, 84, 92, 40, 105, 92, 41, 92, 92, 41] ∧
    decode [40, 84, 92, 40, 105, 92, 41, 92, 92, 41] = some [84, 40, 105, 41, 92] := ⟨rfl, by decide +kernel⟩
example : encode [233, 128512] = .ok [60, 102, 101, 102, 102, 48, 48, 101, 57, 100, 56, 51, 100, 100, 101, 48, 48, 62] ∧
    decode [60, 102, 101, 102, 102, 48, 48, 101, 57, 100, 56, 51, 100, 100, 101, 48, 48, 62] = some [233, 128512] := ⟨rfl, by decide +kernel⟩
example : (∀ c ∈ [84, 10, 9, 126], PlainAscii c) ∧ (∀ c ∈ [233, 128512, 13], Scalar c) := by
  simp [PlainAscii, Scalar]

/-! ## attachments -/

/-- Document-level attachments (`<link rel=attachment>`, then `write_pdf(attachments=…)`): every
attachment that can be read yields exactly one file specification, in order, with its name (given
name, else the basename of its URL, else `attachment.bin`), its description unchanged (`""` when
absent) and the number of bytes read; an attachment that cannot be fetched is skipped, the others are
unaffected; the `/EmbeddedFiles` dictionary exists iff there is one and lists them all — every file
once (a permutation of the written specifications). -/
theorem attachments_written (cpsOf : String → List Nat) (g : List (String × String)) (next : Nat) (atts : List Att) :
    let r := embeddedFiles cpsOf g next atts
    (r.1.map fun f => (f.filename, f.desc, f.size)) = atts.filterMap attSummary ∧
    (r.1.map fun f => f.spec) = (List.range (atts.filterMap attSummary).length).map (fun i => next + 2 * i + 1) ∧
    r.2.1 = (if (atts.filterMap attSummary).isEmpty then none
      else some ⟨next + 2 * (atts.filterMap attSummary).length,
        (sortSpecs cpsOf r.1).map fun f => (f.filename, f.spec)⟩) ∧
    (sortSpecs cpsOf r.1).Perm r.1 := by
  obtain ⟨h1, h2, h3⟩ := writeAll_summary g atts next
  simp only [embeddedFiles]
  have hemp : (writeAll g next atts).1.isEmpty = (atts.filterMap attSummary).isEmpty := by
    rw [← h1]; simp
  by_cases he : (atts.filterMap attSummary).isEmpty = true
  · rw [hemp, he]; simp only [if_true]; exact ⟨h1, h3, trivial, sortSpecs_perm _ _⟩
  · have he' : (atts.filterMap attSummary).isEmpty = false := by simpa using he
    rw [hemp, he']; simp only [Bool.false_eq_true, if_false, h2]; exact ⟨h1, h3, trivial, sortSpecs_perm _ _⟩

/-- **A document can be written again** (a0bb005): the files embedded by a second `generate_pdf` of the same
document — other object numbers, e.g. through `Document.copy` — are the same files: names, descriptions
and sizes, in the same order, and the `/EmbeddedFiles` array lists as many names. -/
theorem second_write_same_files (cpsOf : String → List Nat) (g : List (String × String)) (n m : Nat) (atts : List Att) :
    ((embeddedFiles cpsOf g n atts).1.map fun f => (f.filename, f.desc, f.size)) =
      ((embeddedFiles cpsOf g m atts).1.map fun f => (f.filename, f.desc, f.size)) ∧
    ((embeddedFiles cpsOf g n atts).2.1.map fun d => d.names.length) =
      ((embeddedFiles cpsOf g m atts).2.1.map fun d => d.names.length) := by
  obtain ⟨a1, _, a3, a4⟩ := attachments_written cpsOf g n atts
  obtain ⟨b1, _, b3, b4⟩ := attachments_written cpsOf g m atts
  refine ⟨by rw [a1, b1], ?_⟩
  rw [a3, b3]
  by_cases he : (atts.filterMap attSummary).isEmpty = true
  · simp [he]
  · simp only [he, Bool.false_eq_true, if_false, Option.map_some, List.length_map]
    have l1 := congrArg List.length a1
    have l2 := congrArg List.length b1
    simp only [List.length_map] at l1 l2
    rw [a4.length_eq, b4.length_eq, l1, l2]

/-- The `/EmbeddedFiles` name array (repairs 186e86a, e909019) lists every written file once and is
non-decreasing in the **bytes of the keys** (`rawKey`: the bytes of `/F`, which a PDF reader compares, ISO 32000-1
7.9.6, unless a file name holds a carriage return) — for every list of attachments and every file name.  Full strength: before e909019
this held only for keys without parentheses, backslashes and bytes below `*`
(finding `embedded-files-written-form-order`). -/
theorem embedded_files_key_sorted (cpsOf : String → List Nat) (files : List FileSpec) :
    (sortSpecs cpsOf files).Perm files ∧ SortedBy (rawKey cpsOf) (sortSpecs cpsOf files) :=
  ⟨sortSpecs_perm cpsOf files, sortSpecs_sorted cpsOf files⟩

/-- Attachments whose names do not sort before the first one leave it first: equal names keep their
document order (the sort is stable). -/
theorem embedded_files_stable (cpsOf : String → List Nat) (x : FileSpec) (rest : List FileSpec)
    (h : ∀ y ∈ rest, Wp.Outline.nameLt (rawKey cpsOf y) (rawKey cpsOf x) = false) :
    sortSpecs cpsOf (x :: rest) = x :: sortSpecs cpsOf rest := by
  simp only [sortSpecs]
  rw [insertSpec_eq]
  exact InsertionSort.ins_head x _ fun y hy => h y ((sortSpecs_perm cpsOf rest).mem_iff.mp hy)

/-- `b.txt` then `a.txt` (the input of the repaired finding `embedded-files-not-sorted`): the array is
`a.txt`, `b.txt`; two files named `a.txt` stay in document order. -/
example :
    (sortSpecs (fun s => s.toList.map Char.toNat) [⟨10, 11, "b.txt", "", 1, ""⟩, ⟨12, 13, "a.txt", "", 1, ""⟩]).map
      (·.filename) = ["a.txt", "b.txt"] ∧
    (sortSpecs (fun s => s.toList.map Char.toNat) [⟨10, 11, "a.txt", "", 1, ""⟩, ⟨12, 13, "a.txt", "", 2, ""⟩]).map
      (·.spec) = [11, 13] := by decide +kernel

/-- `<link rel=attachment>`: the title becomes the description; an element without `href` gives none. -/
theorem meta_attachments (fetch : String → Att) (els : List LinkEl) :
    (metaAttachments fetch els).map (·.description) = (els.filter (·.href.isSome)).map (·.title) := by
  fun_induction metaAttachments fetch els <;> simp [*]

/-- Attachment links over all pages of a document (`annot_files` shared): the cache always agrees
with the fetcher and never holds a URL twice, the embedded files are exactly its successful entries —
so each distinct URL is fetched and embedded at most once however many boxes, lines or pages link to
it — and every page gets one `/FileAttachment` annotation per attachment-link box whose URL can be
read (none for the others: the failure is logged and the rest of the page is unaffected). -/
theorem link_attachments (g : List (String × String)) (fetch : String → Att)
    (pages : List (Matrix × List AttLink)) :
    ∀ (st : AnnotState), CacheOk fetch st.cache → FilesOk st →
      let r := addAnnotationsPages g fetch st pages
      CacheOk fetch r.1.cache ∧ FilesOk r.1 ∧
      r.2.map List.length = pages.map (fun p => (p.2.filter fun l => (fetch l.target).size.isSome).length) := by
  induction pages with
  | nil => intro st h1 h2; exact ⟨h1, h2, rfl⟩
  | cons p rest ih =>
    intro st h1 h2
    obtain ⟨m, links⟩ := p
    obtain ⟨_, hok, _, hlen⟩ := addAnnotations_spec g fetch m links st h1
    have hf := addAnnotations_files g fetch m links st h2
    obtain ⟨a1, a2, a3⟩ := ih _ hok hf
    simp only [addAnnotationsPages]
    exact ⟨a1, a2, by simp only [List.map_cons, hlen, a3]⟩

/-- One page in detail: each annotation points to the file embedded for its link's URL and covers
the link's rectangle through the page matrix. -/
theorem link_attachment_annotations (g : List (String × String)) (fetch : String → Att) (m : Matrix)
    (links : List AttLink) (st : AnnotState) (h : CacheOk fetch st.cache) :
    let r := addAnnotations g fetch m st links
    (r.2.map fun a => (a.fs, a.rect)) = links.filterMap (fun l =>
      match r.1.cache.get? l.target with
      | some (some fs) => some (fs, annotRect m l.rect)
      | _ => none) :=
  (addAnnotations_spec g fetch m links st h).2.2.1

example : CacheOk (fun _ => ⟨some 3, none, none, none⟩) [] ∧ FilesOk ⟨[], [], 7⟩ :=
  ⟨by intro u v h; simp [Cache.get?] at h, by simp [FilesOk]⟩

example : (embeddedFiles (fun s => s.toList.map Char.toNat) [("a.txt", "text/plain")] 10
    [⟨some 5, some "a.txt", none, some "d"⟩, ⟨none, none, some "x", none⟩, ⟨some 0, none, none, none⟩]).2.1 =
    some ⟨14, [("a.txt", 11), ("attachment.bin", 13)]⟩ := by decide +kernel

/-! ## the keys of /Info and of the XMP packet (regenerated from the source) -/

open Wp.Metadata in
private theorem optField_keys (k : String) (v : Option Wp.Dates.Str) : ((optField k v).map (·.1)).Sublist [k] := by
  unfold optField; split <;> simp

open Wp.Metadata in
private theorem listField_keys (k : String) (v : List Wp.Dates.Str) : ((listField k v).map (·.1)).Sublist [k] := by
  unfold listField; split <;> simp

open Wp.Metadata in
private theorem dateEntry_keys (k : String) (v : Option Wp.Dates.Str) (r : List (String × Wp.Dates.Str))
    (h : dateEntry k v = .ok r) : (r.map (·.1)).Sublist [k] := by
  revert h
  fun_cases dateEntry k v <;> rintro ⟨⟩ <;> simp

open Wp.Metadata in
/-- The model writes its entries under the keys, and in the order, of the `if metadata.…:` statements
of `generate_pdf` as extracted from the source at this run: renaming, dropping or reordering one of
them in weasyprint/pdf/__init__.py breaks this proof. -/
theorem info_keys_from_source (m : Meta) (r : List (String × Wp.Dates.Str)) (h : infoFields m = .ok r) :
    (r.map (·.1)).Sublist (Gen.infoKeys.map (·.2.2)) := by
  revert h
  fun_cases infoFields m <;> rintro ⟨⟩
  next c d hd hc =>
    simp only [List.map_append]
    have hk : Gen.infoKeys.map (·.2.2) =
        ["Title"] ++ ["Author"] ++ ["Subject"] ++ ["Keywords"] ++ ["Creator"] ++ ["CreationDate"] ++ ["ModDate"] ++
          ["Lang"] := rfl
    rw [hk]
    exact ((((((optField_keys _ _).append (listField_keys _ _)).append (optField_keys _ _)).append
      (listField_keys _ _)).append (optField_keys _ _)).append (dateEntry_keys _ _ _ hc)).append
      (dateEntry_keys _ _ _ hd) |>.append (optField_keys _ _)

open Wp.Metadata in
/-- The same for the XMP packet: after the two fixed descriptions, the elements are those of
`generate_rdf_metadata`, in its order. -/
theorem xmp_keys_from_source (variant version : String) (conformance : Option String) (producer : Wp.Dates.Str)
    (m : Meta) :
    ∃ fixed rest, rdfFields variant version conformance producer m = fixed ++ rest ∧
      (rest.map (·.1)).Sublist (Gen.xmpKeys.map (·.2)) := by
  refine ⟨[("@pdf" ++ variant ++ "id:part", [version.toList])] ++
    (match conformance with
     | some c => if c != "" then [("@pdf" ++ variant ++ "id:conformance", [c.toList])] else []
     | none => []) ++ [("@pdf:Producer", [producer])], _, by unfold rdfFields; simp only [List.append_assoc]; rfl, ?_⟩
  have hk : Gen.xmpKeys.map (·.2) =
      ["dc:title"] ++ (["dc:creator"] ++ (["dc:subject"] ++ (["pdf:Keywords"] ++ (["xmp:CreatorTool"] ++
        (["xmp:CreateDate"] ++ ["xmp:ModifyDate"]))))) := rfl
  rw [hk]
  simp only [List.map_append]
  have o : ∀ (k : String) (v : Option Wp.Dates.Str),
      ((match nonEmpty v with | some t => [(k, [t])] | none => ([] : List (String × List Wp.Dates.Str))).map
        (fun (x : String × List Wp.Dates.Str) => x.1)).Sublist [k] := by
    intro k v; split <;> simp
  have l : ∀ (k : String) (b : Bool) (x : List Wp.Dates.Str),
      ((if b then ([] : List (String × List Wp.Dates.Str)) else [(k, x)]).map
        (fun (x : String × List Wp.Dates.Str) => x.1)).Sublist [k] := by
    intro k b x; split <;> simp
  exact (o _ _).append ((l _ _ _).append ((o _ _).append ((l _ _ _).append ((o _ _).append ((o _ _).append (o _ _))))))

example : Wp.Metadata.infoFields { title := some "T".toList, lang := some "fr".toList } =
    .ok [("Title", "T".toList), ("Lang", "fr".toList)] := rfl

end Wp.C18
