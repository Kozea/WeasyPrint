/-
C18 at document level — the links-and-anchors part of `generate_pdf` (`Model/C18DocLinks.lean`: `resolve_links`, then
`add_links` / `add_annotations` per page, then `sorted(pdf_names, key=key_bytes)`), i.e. the function the
sections `doc-pdf-links` and `doc-page-subset` compare with the `/Annots` and `/Names /Dests` of written PDFs,
tied to the function-level theorems of `Props/C18.lean`.
-/
import WpModel.Model.C18DocLinks
import WpModel.Props.C18

namespace Wp.C18
open Wp Wp.Anchors Wp.Outline Wp.DocLinks

/-- `enumerate(l, n)` is the library's `zipIdx`, index first. -/
theorem number_eq {α} (l : List α) : ∀ n, number n l = (l.zipIdx n).map fun p => (p.2, p.1) := by
  induction l with
  | nil => intro n; rfl
  | cons x xs ih => intro n; simp only [number, List.zipIdx_cons, List.map_cons, ih]

theorem mem_number {α} {l : List α} {n : Nat} {x : Nat × α} : x ∈ number n l ↔ n ≤ x.1 ∧ l[x.1 - n]? = some x.2 := by
  rw [number_eq, List.mem_map]
  constructor
  · rintro ⟨p, hp, rfl⟩; exact List.mem_zipIdx_iff_le_and_getElem?_sub.mp hp
  · intro h; exact ⟨(x.2, x.1), List.mem_zipIdx_iff_le_and_getElem?_sub.mpr h, rfl⟩

theorem number_getElem {α} (l : List α) : ∀ n x, x ∈ number n l → n ≤ x.1 ∧ l[x.1 - n]? = some x.2 :=
  fun _ _ => mem_number.mp

theorem number_length {α} (l : List α) (n : Nat) : (number n l).length = l.length := by
  rw [number_eq, List.length_map, List.length_zipIdx]

theorem number_map {α β} (f : α → β) (l : List α) (n : Nat) : (number n l).map (fun x => f x.2) = l.map f := by
  rw [number_eq, List.map_map]
  exact (List.map_map (f := Prod.fst) (g := f) (l := l.zipIdx n)).symm.trans (by rw [List.zipIdx_map_fst])

theorem number_flatMap {α β} (f : α → List β) (l : List α) (n : Nat) :
    (number n l).flatMap (fun x => f x.2) = l.flatMap f := by
  rw [List.flatMap_def, number_map f l n, ← List.flatMap_def]

theorem number_mem_snd {α} (l : List α) : ∀ n x, x ∈ number n l → x.2 ∈ l :=
  fun _ _ h => List.mem_of_getElem? (mem_number.mp h).2

theorem lpagesOf_length (pages : List DPage) : (lpagesOf pages).length = pages.length := by
  simp [lpagesOf, number_length]

theorem zip_resolved_snd (pages : List DPage) :
    (pages.zip (resolveLinks (lpagesOf pages))).map (·.2) = resolveLinks (lpagesOf pages) :=
  List.map_snd_zip (by rw [resolve_length, lpagesOf_length]; exact Nat.le_refl _)

/-- The entries of `pdf_names` carry exactly the destination names of `resolve_links`, in its order. -/
theorem allDests_names (scale : Rat) (pages : List DPage) :
    (allDests scale pages).map (·.name) = destNames (lpagesOf pages) := by
  unfold allDests destNames
  rw [List.map_flatMap]
  have h1 : ∀ (x : Nat × DPage × (List Outline.Link × List Anchor)),
      (pageDests scale x.1 x.2.1 x.2.2.2).map (·.name) = x.2.2.2.map (·.name) := by
    intro x; simp [pageDests]
  simp only [h1]
  rw [number_flatMap (fun (z : DPage × (List Outline.Link × List Anchor)) => z.2.2.map (·.name))]
  rw [List.map_flatMap]
  conv => rhs; rw [← zip_resolved_snd pages]
  rw [List.flatMap_map]

/-- Generalised over a prefix `pre` for the induction: the indices start at `pre.length` and are looked up in `pre ++ l`. -/
theorem number_lookup {α β} (k : α → β) (l : List α) : ∀ (pre : List α),
    ((number pre.length l).map (fun x => (k x.2, x.1))).filterMap
      (fun (x : β × Nat) => ((pre ++ l)[x.2]?).map fun d => (x.1, d)) = l.map (fun d => (k d, d)) := by
  induction l with
  | nil => intro pre; rfl
  | cons y ys ih =>
    intro pre
    simp only [number, List.map_cons, List.filterMap_cons]
    have h0 : (pre ++ y :: ys)[pre.length]? = some y := by simp
    rw [h0]
    simp only [Option.map_some]
    have := ih (pre ++ [y])
    simp only [List.length_append, List.length_cons, List.length_nil, List.append_assoc, List.cons_append,
      List.nil_append] at this
    rw [this]

theorem keyed_lookup (pages : List DPage) (dests : List Dest) :
    (keyed pages dests).filterMap (fun (x : List Nat × Nat) => (dests[x.2]?).map fun d => (x.1, d)) =
      dests.map (fun d => (cpsOf pages d.name, d)) := by
  have := number_lookup (fun (d : Dest) => cpsOf pages d.name) dests []
  simpa [keyed] using this

/-- The `/Dests` array is a rearrangement of `pdf_names`: nothing lost, nothing twice, each entry with
the code points of its own name. -/
theorem docDests_perm (scale : Rat) (pages : List DPage) :
    (docDests scale pages).Perm ((allDests scale pages).map fun d => (cpsOf pages d.name, d)) := by
  unfold docDests
  simp only []
  rw [← keyed_lookup]
  exact (sortNames_perm _).filterMap _

theorem docDests_names_perm (scale : Rat) (pages : List DPage) :
    ((docDests scale pages).map (·.2.name)).Perm (destNames (lpagesOf pages)) := by
  rw [← allDests_names scale pages]
  have := (docDests_perm scale pages).map (fun x => x.2.name)
  simpa [List.map_map, Function.comp_def] using this

theorem mem_pageAnnots {scale : Rat} {pages : List DPage} {p : DPage} {ls : List Outline.Link} {a : Annot}
    (ha : a ∈ pageAnnots scale pages p ls) :
    ∃ l ∈ ls, a.kind = l.type ∧ a.target = l.target ∧
      a.rect = (rectOfLink pages l).map (annotRect (pageMatrix scale p.height)) := by
  unfold pageAnnots at ha
  simp only [List.mem_append, List.mem_filterMap] at ha
  rcases ha with ⟨l, hl, hla⟩ | ⟨l, hl, hla⟩
  · unfold linkAnnotOf at hla
    split at hla
    · cases hla; exact ⟨l, hl, rfl, rfl, rfl⟩
    · cases hla
  · unfold fileAnnotOf at hla
    split at hla
    · rename_i ht
      cases hla; exact ⟨l, hl, (beq_iff_eq.mp ht).symm, rfl, rfl⟩
    · cases hla

/-- **No dangling link in the PDF.**  Every `/Link` annotation with a `/Dest` names a key of the
`/Names /Dests` array written in the same file; every key is there once. -/
theorem doc_no_dangling (scale : Rat) (pages : List DPage) :
    (∀ as ∈ docAnnots scale pages, ∀ a ∈ as, a.kind = "internal" →
      a.target ∈ (docDests scale pages).map (·.2.name)) ∧
    ((docDests scale pages).map (·.2.name)).Nodup := by
  constructor
  · intro as has a ha hk
    unfold docAnnots at has
    obtain ⟨z, hz, rfl⟩ := List.mem_map.mp has
    have hres : z.2 ∈ resolveLinks (lpagesOf pages) := by
      rw [← zip_resolved_snd pages]; exact List.mem_map_of_mem hz
    obtain ⟨l, hl, hkind, htarget, _⟩ := mem_pageAnnots ha
    rw [htarget]
    exact (docDests_names_perm scale pages).mem_iff.mpr
      (links_no_dangling (lpagesOf pages) z.2 hres l hl (hkind.symm.trans hk))
  · exact (docDests_names_perm scale pages).nodup_iff.mpr (anchors_once _)

theorem filterMap_lookup_keys {δ} (dests : List δ) (l : List (List Nat × Nat)) (h : ∀ x ∈ l, x.2 < dests.length) :
    (l.filterMap fun (x : List Nat × Nat) => (dests[x.2]?).map fun d => (x.1, d)).map (·.1) = l.map (·.1) := by
  induction l with
  | nil => rfl
  | cons x xs ih =>
    have hx := h x (by simp)
    simp only [List.filterMap_cons, List.getElem?_eq_getElem hx, Option.map_some, List.map_cons]
    rw [ih (fun y hy => h y (List.mem_cons_of_mem _ hy))]

theorem number_index_lt {α} (l : List α) : ∀ n x, x ∈ number n l → x.1 < n + l.length := by
  intro n x h
  obtain ⟨h1, h2⟩ := mem_number.mp h
  have := (List.getElem?_eq_some_iff.mp h2).1
  omega

/-- The `/Names /Dests` array of the document is strictly increasing in the byte order of its keys as `keyBytes`
gives them (what a PDF reader compares, ISO 32000-1 7.9.6, unless an ASCII name holds a carriage return:
`names_byte_sorted`), whatever the pages, anchors and links are — provided the
harness's code points are those of the names (distinct names have distinct code points, all scalar
values). -/
theorem doc_dests_sorted (scale : Rat) (pages : List DPage)
    (hinj : ∀ a ∈ destNames (lpagesOf pages), ∀ b ∈ destNames (lpagesOf pages),
      cpsOf pages a = cpsOf pages b → a = b)
    (hscalar : ∀ a ∈ destNames (lpagesOf pages), ∀ c ∈ cpsOf pages a, Scalar c) :
    StrictSorted (((docDests scale pages).map fun x => (x.1, x.2.page)).map withKey) := by
  have hlt : ∀ x ∈ sortNames (keyed pages (allDests scale pages)), x.2 < (allDests scale pages).length := by
    intro x hx
    have hx' := (sortNames_perm _).mem_iff.mp hx
    unfold keyed at hx'
    obtain ⟨y, hy, rfl⟩ := List.mem_map.mp hx'
    simpa using number_index_lt _ 0 y hy
  have hkeys : (docDests scale pages).map (·.1) = (sortNames (keyed pages (allDests scale pages))).map (·.1) :=
    filterMap_lookup_keys (allDests scale pages) _ hlt
  have hnd : ((keyed pages (allDests scale pages)).map (fun e => keyBytes e.1)).Nodup := by
    have hk : (keyed pages (allDests scale pages)).map (·.1) =
        (destNames (lpagesOf pages)).map (cpsOf pages) := by
      rw [← allDests_names scale pages, List.map_map, keyed, List.map_map]
      exact number_map (fun (d : Dest) => cpsOf pages d.name) _ 0
    have h2 : (keyed pages (allDests scale pages)).map (fun e => keyBytes e.1) =
        (destNames (lpagesOf pages)).map (fun n => keyBytes (cpsOf pages n)) := by
      have := congrArg (List.map keyBytes) hk
      simpa [List.map_map, Function.comp_def] using this
    rw [h2]
    exact List.pairwise_map.mpr ((anchors_once _).imp_of_mem fun ha hb hne e =>
      hne (hinj _ ha _ hb (keyBytes_injective _ _ (hscalar _ ha) (hscalar _ hb) e)))
  -- the keys of the array are those of the sorted list, and `Pairwise` sees only the keys
  have hs : ((sortNames (keyed pages (allDests scale pages))).map (·.1)).Pairwise fun a b => keyBytes a < keyBytes b :=
    List.pairwise_map.mpr (sortNames_strict _ hnd)
  rw [← hkeys] at hs
  have hd : (docDests scale pages).Pairwise fun a b => keyBytes a.1 < keyBytes b.1 :=
    (List.pairwise_map (f := fun (x : List Nat × Dest) => x.1) (R := fun a b => keyBytes a < keyBytes b)).mp hs
  exact .of_pairwise (List.pairwise_map.mpr (List.pairwise_map.mpr hd))

theorem number_get {α} (l : List α) (n i : Nat) (p : α) (h : l[i]? = some p) : (number n l)[i]? = some (n + i, p) := by
  rw [number_eq, List.getElem?_map, List.getElem?_zipIdx, h]; rfl

theorem lpagesOf_get (pages : List DPage) (i : Nat) (p : DPage) (h : pages[i]? = some p) :
    (lpagesOf pages)[i]? = some ⟨p.anchors.map (·.1),
      (number 0 p.links).map fun (y : Nat × DLink) => ⟨y.2.type, y.2.target, i * 100000 + y.1⟩⟩ := by
  unfold lpagesOf
  rw [List.getElem?_map, number_get pages 0 i p h]
  simp

/-- Every entry of `pdf_names` points into a page that carries an anchor of that name, at the image of
that anchor's point under the matrix of **that** page (`/XYZ` in PDF units from the bottom of the page). -/
theorem doc_dest_on_own_page (scale : Rat) (pages : List DPage) :
    ∀ d ∈ allDests scale pages, ∃ p, pages[d.page]? = some p ∧ ∃ a ∈ p.anchors, a.1.name = d.name ∧
      (d.x, d.y) = (pageMatrix scale p.height).transformPoint a.1.x a.1.y := by
  intro d hd
  unfold allDests at hd
  obtain ⟨x, hx, hdx⟩ := List.mem_flatMap.mp hd
  obtain ⟨_, hget⟩ := mem_number.mp hx
  simp only [Nat.sub_zero] at hget
  obtain ⟨hp, hr⟩ := List.getElem?_zip_eq_some.mp hget
  unfold pageDests at hdx
  obtain ⟨a, ha, rfl⟩ := List.mem_map.mp hdx
  refine ⟨x.2.1, hp, ?_⟩
  have hlp := lpagesOf_get pages x.1 x.2.1 hp
  have hi : x.1 < (lpagesOf pages).length := by
    have := List.getElem?_eq_some_iff.mp hlp; exact this.1
  have hsub := anchors_on_own_page (lpagesOf pages) x.1 hi
  have e1 : (resolveLinks (lpagesOf pages))[x.1]'(by rw [resolve_length]; exact hi) = x.2.2 := by
    have := List.getElem?_eq_some_iff.mp hr; exact this.2
  rw [e1, (List.getElem?_eq_some_iff.mp hlp).2] at hsub
  obtain ⟨b, hb, hba⟩ := List.mem_map.mp (hsub.subset ha)
  exact ⟨b, hb, by rw [hba], by rw [hba]⟩

/-! ## a concrete document -/

/-- Two pages: `z` on the first; `aé` and a second `z` on the second; the first page links to `aé`, to a
missing `nope` and has an attachment link. -/
def exampleDoc : List DPage :=
  [⟨100, [(⟨"z", 0, 0⟩, [122])],
    [⟨"internal", "aé", ⟨0, 0, 10, 10⟩⟩, ⟨"internal", "nope", ⟨0, 20, 10, 30⟩⟩, ⟨"attachment", "u", ⟨0, 40, 10, 50⟩⟩]⟩,
   ⟨200, [(⟨"aé", 0, 20⟩, [97, 233]), (⟨"z", 5, 5⟩, [122])], []⟩]

/-- The link to `nope` is dropped, `z` (first page) sorts before `aé` (`<FEFF…>`), and `aé` lies 20 px below
the top of a 200 px page: (200 − 20)·¾ = 135 pt. -/
example :
    (docAnnots (3 / 4) exampleDoc).map (·.map fun a => (a.kind, a.target)) =
      [[("internal", "aé"), ("attachment", "u")], []] ∧
    (docDests (3 / 4) exampleDoc).map (·.2) = [⟨"z", 0, 0, 75⟩, ⟨"aé", 1, 0, 135⟩] := by decide +kernel

/-- The hypotheses of `doc_dests_sorted` hold for it. -/
example :
    (∀ a ∈ destNames (lpagesOf exampleDoc), ∀ b ∈ destNames (lpagesOf exampleDoc),
      cpsOf exampleDoc a = cpsOf exampleDoc b → a = b) ∧
    (∀ a ∈ destNames (lpagesOf exampleDoc), ∀ c ∈ cpsOf exampleDoc a, Scalar c) :=
  ⟨by decide +kernel, fun a ha c hc =>
    (by decide +kernel : ∀ a ∈ destNames (lpagesOf exampleDoc), ∀ c ∈ cpsOf exampleDoc a,
      c < 1114112 ∧ ¬ (55296 ≤ c ∧ c < 57344)) a ha c hc⟩

/-! ## each annotation covers its link -/

theorem resolved_links_subset (L : List LPage) (i : Nat) (lp : LPage) (res : List Outline.Link × List Anchor)
    (hl : L[i]? = some lp) (hr : (resolveLinks L)[i]? = some res) : ∀ l ∈ res.1, l ∈ lp.links := by
  have h := congrArg (fun x => x[i]?) (links_kept L)
  simp only [List.getElem?_map, hr, hl, Option.map_some] at h
  intro l hlm
  have : res.1 = lp.links.filter _ := Option.some.inj h
  rw [this] at hlm
  exact (List.mem_filter.mp hlm).1

/-- **Each annotation covers its link.**  On every page, every `/Link` and `/FileAttachment` annotation is
that of a link of *this* page — same type, same target — and its `/Rect` is the link's rectangle under
the matrix of this page.  `_partial`: for pages with at most 100 000 links (the link ids of the model are
`page index · 100000 + index in the page`). -/
theorem doc_annot_rect_partial (scale : Rat) (pages : List DPage)
    (hsmall : ∀ p ∈ pages, p.links.length ≤ 100000) :
    ∀ z ∈ pages.zip (resolveLinks (lpagesOf pages)), ∀ a ∈ pageAnnots scale pages z.1 z.2.1,
      ∃ d ∈ z.1.links, d.type = a.kind ∧ d.target = a.target ∧
        a.rect = some (annotRect (pageMatrix scale z.1.height) d.rect) := by
  intro z hz a ha
  obtain ⟨i, hi⟩ := List.mem_iff_getElem?.mp hz
  obtain ⟨hp, hr⟩ := List.getElem?_zip_eq_some.mp hi
  have hL := lpagesOf_get pages i z.1 hp
  have key : ∀ l ∈ z.2.1, ∃ d ∈ z.1.links, d.type = l.type ∧ d.target = l.target ∧
      rectOfLink pages l = some d.rect := by
    intro l hl
    have hl' := resolved_links_subset _ i _ z.2 hL hr l hl
    obtain ⟨y, hy, rfl⟩ := List.mem_map.mp hl'
    obtain ⟨_, hget⟩ := mem_number.mp hy
    simp only [Nat.sub_zero] at hget
    have hj : y.1 < z.1.links.length := (List.getElem?_eq_some_iff.mp hget).1
    have hlen := hsmall z.1 (List.mem_of_getElem? hp)
    refine ⟨y.2, List.mem_of_getElem? hget, rfl, rfl, ?_⟩
    unfold rectOfLink
    have e1 : (i * 100000 + y.1) / 100000 = i := by omega
    have e2 : (i * 100000 + y.1) % 100000 = y.1 := by omega
    simp only [e1, e2, hp, Option.bind_some, hget, Option.map_some]
  obtain ⟨l, hl, hkind, htarget, hrect⟩ := mem_pageAnnots ha
  obtain ⟨d, hd, h1, h2, h3⟩ := key l hl
  exact ⟨d, hd, h1.trans hkind.symm, h2.trans htarget.symm, by rw [hrect, h3]; rfl⟩

example : (∀ p ∈ exampleDoc, p.links.length ≤ 100000) ∧
    (docAnnots (3 / 4) exampleDoc).map (·.map (·.rect)) =
      [[some ⟨0, 75, 15 / 2, 135 / 2⟩, some ⟨0, 45, 15 / 2, 75 / 2⟩], []] := by
  refine ⟨by decide +kernel, by decide +kernel⟩

end Wp.C18
