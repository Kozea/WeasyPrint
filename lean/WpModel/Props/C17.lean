/-
C17 — What is painted is what was laid out, in CSS paint order.  Property theorems only.

The statements are about `Wp.Stacking` (`Model/Stacking.lean`, `Model/PaintOrder.lean`): the literal
models of `weasyprint/stacking.py` and of the paint sequence of `weasyprint/draw/__init__.py`, run
against the real code by `py/props/c17.py` on every check.  Every class test in them comes from
`Gen/StackKinds.lean` (regenerated from the source).  Helper developments: `WpModel/Lemmas/Stacking*`,
`Paint*`, `RoundedBox`.
-/
import WpModel.Lemmas.StackingSpec
import WpModel.Lemmas.StackingSort
import WpModel.Lemmas.StackingPartition
import WpModel.Lemmas.PaintEnv
import WpModel.Lemmas.PaintOnce
import WpModel.Lemmas.PaintOnceTransfer
import WpModel.Lemmas.RoundedBox

namespace Wp.C17
open Wp Wp.Stacking Wp.Gen

/-! ## Example objects (non-vacuity) -/

/-- A plain static, opaque, visible box of a given class. -/
def plain (id : Nat) (kind : Kind) : Attrs :=
  { id := id, kind := kind, positioned := false, absPos := false, z := none, gridItem := false,
    opacity := 1, styleTransform := false, overflowVisible := true, floated := false, visible := true,
    matrix := .none, clipProp := false, isRoot := false, bg := some (some (4 * id)), border := none, borderSides := 0,
    outline := none, color := 4 * id + 1, collapse := false, emptyCellsShow := true, cellEmpty := false,
    colGroups := [] }

/-- `<div><p>t</p><div style="position:relative;z-index:-1">…</div><div style="float:left">
<div style="position:absolute">…</div></div></div>` after layout. -/
def exTree : Box :=
  .node (plain 1 .BlockBox) [
    .node (plain 2 .BlockBox) [.node (plain 3 .LineBox) [.leaf (plain 4 .TextBox)]],
    .node { plain 5 .BlockBox with positioned := true, z := some (-1) } [],
    .node { plain 6 .BlockBox with floated := true } [
      .ph (.node { plain 7 .BlockBox with positioned := true, absPos := true } [])]]

/-! ## Facts about the class tests of the source (regenerated tables: an edit of a tuple in
`stacking.py` / `draw/__init__.py` or of the class hierarchy re-checks these) -/

/-- The facts below are checked by running through `Kind.all`, the list of all classes. -/
theorem kind_mem_all (k : Kind) : k ∈ Kind.all := by
  cases k <;> decide

/-- The `assert isinstance(stacking_context.box, allowed_boxes)` of `draw_inline_level` holds for every
context the dispatcher leaves inside a tree: `stacking_classes ⊆ allowed_boxes`. -/
theorem stacking_classes_allowed (k : Kind) : k.dispStackingClass = true → k.dilAllowed = true := by
  have h := kind_mem_all k
  revert k
  decide

/-- Which classes `_dispatch` keeps in the tree as atomic contexts. -/
theorem stacking_classes_eq (k : Kind) :
    k.dispStackingClass = true ↔ k ∈ [Kind.InlineBlockBox, .InlineFlexBox, .InlineGridBox] := by
  have h := kind_mem_all k
  revert k
  decide

/-- A cell is never block-level (so the `if / elif` of `_dispatch` lists it once). -/
theorem cell_not_block_level (k : Kind) : k.dispCell = true → k.dispBlockLevel = false := by
  have h := kind_mem_all k
  revert k
  decide

/-- The classes whose own background and border are painted when they root a context: point 2 (grid
containers included since repair a9887a3), or point 6 for inline boxes; the page box is painted by
`draw_page`.  Every other instantiable class is listed here by name: table parts — the subject of known
finding `context-root-loses-decoration` — or classes that cannot root a context (line and text boxes,
abstract classes). -/
theorem own_decoration_classes (k : Kind) :
    k.drawOwnDecoration = true ∨ k.drawInline = true ∨ k.drawPage = true ∨
    k ∈ [Kind.TableBox, .InlineTableBox, .TableRowGroupBox,
         .TableRowBox, .TableColumnGroupBox, .TableColumnBox, .LineBox, .TextBox,
         .Box, .ParentBox, .BlockLevelBox, .BlockContainerBox, .InlineLevelBox, .AtomicInlineLevelBox] := by
  have h := kind_mem_all k
  revert k
  decide

/-- Every flex and grid container class, block-level or inline-level, is painted by point 2. -/
theorem flex_grid_roots_decorated (k : Kind) :
    k ∈ [Kind.FlexContainerBox, .FlexBox, .InlineFlexBox, .GridContainerBox, .GridBox, .InlineGridBox] →
      k.drawOwnDecoration = true := by
  have h := kind_mem_all k
  revert k
  decide

/-- Point 2 covers every block-level class except tables (painted by `draw_table` at point 4 when
they are in flow). -/
theorem block_level_decoration (k : Kind) :
    k.dispBlockLevel = true →
      k.drawOwnDecoration = true ∨ k ∈ [Kind.TableBox, .InlineTableBox, .BlockLevelBox] := by
  have h := kind_mem_all k
  revert k
  decide

/-- The two `LineBox` tests and the two `TextBox` tests of the drawing code agree, inline boxes take the
children loop of `draw_inline_level`, replaced boxes are leaves. -/
theorem draw_class_tests_coherent (k : Kind) :
    (k.drawLine = k.dilLine) ∧ (k.dilTextChild = k.dilText) ∧
    (k.drawInline = true → k.dilInlineOrLine = true) ∧ (k.dilLine = true → k.dilInlineOrLine = true) ∧
    (k.dilText = true → k.dispParent = false) ∧ (k.dilInlineReplaced = true → k.drawReplaced = true) ∧
    (k.drawReplaced = true → k.dispParent = false) ∧ (k.drawTable = true → k.dispBlockLevel = true) := by
  have h := kind_mem_all k
  revert k
  decide

/-! ## The literal model computes the pure specification; the `assert` of `_dispatch` cannot fail -/

/-- `_dispatch` with its four mutable lists, remembered lengths and `insert`s appends exactly the
`Delta` of the pure `dispatchS`, and never raises the assert flag. -/
theorem dispatch_refines (b : Box) (st : St) :
    dispatch b st = ((dispatchS b).1, st.app (dispatchS b).2) ∧ (dispatch b st).2.failed = st.failed := by
  rw [dispatch_eq]; exact ⟨rfl, rfl⟩

example : (fromPage (plain 0 .PageBox) [exTree]).2 = false := by rw [fromPage_eq]

/-! ## dispatch_partition -/

/-- Every box of the subtree ends in exactly one place — the returned (pruned) tree, a child context
appended to `child_contexts`, or a float context: the ids at those places are a permutation of the
ids of the subtree (nothing dropped, nothing duplicated). -/
theorem dispatch_partition (b : Box) :
    (optIds (dispatchS b).1 ++ Node.idsL (dispatchS b).2.cc ++ Node.idsL (dispatchS b).2.floats).Perm
      b.ids := by
  rw [List.perm_iff_count]
  intro i
  have := count_dispatchS b i
  simp only [List.count_append]
  omega

/-- The same for a whole page: `from_page` keeps the page box and every box below it exactly once. -/
theorem fromPage_partition (page : Attrs) (children : List Box) :
    (fromPage page children).1.ids.Perm (page.id :: Box.idsL children) := by
  rw [fromPage_eq, List.perm_iff_count]
  intro i
  have := count_map_fromBoxS children i
  simp only [fromPageS, count_ids_mkCtx, Node.ids, Node.idsL, List.count_cons, List.count_nil]
  omega

/-- With distinct box ids, every id occurs exactly once in the built structure. -/
theorem fromPage_each_once (page : Attrs) (children : List Box)
    (h : (page.id :: Box.idsL children).Nodup) : (fromPage page children).1.ids.Nodup :=
  (fromPage_partition page children).nodup_iff.mpr h

example : (Box.ids exTree) = [1, 2, 3, 4, 5, 6, 7] := by decide
example : (page : Attrs) → page = plain 0 .PageBox → (page.id :: Box.idsL [exTree]).Nodup := by
  intro p hp; subst hp; decide

/-- Tree order inside the buckets: `blocks` (resp. `blocks_and_cells`) appended by a `_dispatch` call
are exactly the block-level boxes (resp. block-level boxes and cells) of the tree it returns, in
preorder — parents before descendants, earlier siblings first; contexts standing in the tree are
opaque. -/
theorem dispatch_blocks_tree_order (b : Box) :
    (dispatchS b).2.blocks = (optRegion (dispatchS b).1).filter Node.isBlockLevel ∧
    (dispatchS b).2.bc = (optRegion (dispatchS b).1).filter Node.isBlockOrCell :=
  blocks_dispatchS b

/-- Tree order of the contexts: the boxes rooting the appended child contexts, and those rooting the
appended float contexts, appear in the order of the tree (subsequences of the preorder ids). -/
theorem dispatch_contexts_tree_order (b : Box) :
    (rootIds (dispatchS b).2.cc).Sublist b.ids ∧ (rootIds (dispatchS b).2.floats).Sublist b.ids :=
  order_dispatchS b

example : rootIds (dispatchS exTree).2.cc = [5, 7] ∧ rootIds (dispatchS exTree).2.floats = [6] := by
  decide +kernel

/-! ## context_creation -/

/-- The condition tested by `_dispatch`, in the words of CSS 2.1 9.9.1 (+ grid items, opacity,
transforms, overflow). -/
theorem defines_context_iff (a : Attrs) :
    definesContext a = true ↔
      (a.positioned = true ∧ a.z ≠ none) ∨ (a.gridItem = true ∧ a.z ≠ none) ∨ a.opacity < 1 ∨
        a.styleTransform = true ∨ a.overflowVisible = false := by
  simp [definesContext, Bool.or_eq_true, Bool.and_eq_true, or_assoc]

/-- A box satisfying the condition roots a *real* context: it leaves the tree, is appended to the
parent's `child_contexts`, and owns every context found below it (nothing of its subtree reaches the
parent's lists). -/
theorem context_creation_real (a : Attrs) (kids : List Box) (h : definesContext a = true) :
    dispatchS (.node a kids) =
      (none, { cc := [mkCtx (.node a (listS kids).1) (listS kids).2.cc (listS kids).2.blocks
                        (listS kids).2.floats (listS kids).2.bc] }) := by
  simp [dispatchS, coreS, h]

/-- A positioned box with `z-index: auto` is painted atomically (a context without child contexts,
at z 0) but the contexts found below it belong to the parent's list, right after it. -/
theorem context_creation_positioned_auto (a : Attrs) (kids : List Box)
    (h : definesContext a = false) (hp : a.positioned = true) :
    dispatchS (.node a kids) =
      (none, { cc := mkCtx (.node a (listS kids).1) [] (listS kids).2.blocks (listS kids).2.floats
                      (listS kids).2.bc :: (listS kids).2.cc }) ∧ a.z = none := by
  exact ⟨by simp [dispatchS, coreS, h, hp], z_none_of_positioned a h hp⟩

/-- A float that creates no context is painted atomically among the floats; contexts below it go to
the parent's list. -/
theorem context_creation_float (a : Attrs) (kids : List Box)
    (h : definesContext a = false) (hp : a.positioned = false) (hf : a.floated = true) :
    dispatchS (.node a kids) =
      (none, { cc := (listS kids).2.cc,
               floats := [mkCtx (.node a (listS kids).1) [] (listS kids).2.blocks (listS kids).2.floats
                            (listS kids).2.bc] }) := by
  simp [dispatchS, coreS, h, hp, hf]

/-- Inline-blocks (the `stacking_classes` tuple) stay in the tree, as an atomic context. -/
theorem context_creation_inline_block (a : Attrs) (kids : List Box)
    (h : definesContext a = false) (hp : a.positioned = false) (hf : a.floated = false)
    (hs : a.kind.dispStackingClass = true) :
    dispatchS (.node a kids) =
      (some (mkCtx (.node a (listS kids).1) [] (listS kids).2.blocks (listS kids).2.floats
              (listS kids).2.bc), { cc := (listS kids).2.cc }) := by
  simp [dispatchS, coreS, h, hp, hf, hs]

/-- Every other box stays in the tree as a box and creates no context. -/
theorem context_creation_none (a : Attrs) (kids : List Box)
    (h : definesContext a = false) (hp : a.positioned = false) (hf : a.floated = false)
    (hs : a.kind.dispStackingClass = false) :
    (dispatchS (.node a kids)).1 = some (.node a (listS kids).1) ∧
    (dispatchS (.node a kids)).2.cc = (listS kids).2.cc ∧
    (dispatchS (.node a kids)).2.floats = (listS kids).2.floats := by
  simp [dispatchS, coreS, h, hp, hf, hs]

/-- The z-index of a context is the `z-index` of its box, `auto` counting as 0. -/
theorem context_z (a : Attrs) (kids c b f bc : List Node) :
    (mkCtx (.node a kids) c b f bc).zIndex = zOfStyle a.z := rfl

example : definesContext { plain 5 .BlockBox with positioned := true, z := some (-1) } = true := by
  decide +kernel
example : definesContext { plain 7 .BlockBox with positioned := true } = false := by decide +kernel

/-! ## The split and the sort of `StackingContext.__init__` -/

/-- `list.sort(key=z_index)`: a permutation, ordered by z-index, and stable (for every z the contexts
of that z-index keep their original, i.e. tree, order). -/
theorem sort_spec (l : List Node) :
    (sortZ l).Perm l ∧ (sortZ l).Pairwise (fun a b => a.zIndex ≤ b.zIndex) ∧
    ∀ k : Int, (sortZ l).filter (fun n => decide (n.zIndex = k)) = l.filter (fun n => decide (n.zIndex = k)) :=
  ⟨sortZ_perm l, sortZ_sorted l, fun k => sortZ_stable k l⟩

/-! ## paint_order -/

/-- The paint sequence of one stacking context (`draw_stacking_context`, points 2–10), for a context
built by `__init__` around a parent box whose transform is not singular:
own background and border (only for the classes of point 2); then, inside the overflow clip:
negative-z child contexts in increasing z, tree order on ties; the decoration of the in-flow block-level
boxes in tree order; floats; the inline content of the box itself if it is an inline box; the inline
content of the box and of `blocks_and_cells` in tree order; child contexts of z = 0 / auto in tree order;
positive-z child contexts in increasing z, tree order on ties; finally (outside the overflow clip) the
outlines of the box and of the boxes of its tree. -/
theorem paint_order (pov : Bool) (a : Attrs) (kids children blocks floats bc : List Node) (env : Env)
    (h : a.matrix ≠ .singular) :
    paint pov (mkCtx (.node a kids) children blocks floats bc) env =
      (((if a.kind.drawOwnDecoration then decoration a (ctxEnv a pov env) else []) ++
        (paintList pov (sortZ (children.filter (fun n => decide (n.zIndex < 0)))) (innerEnv a pov env) ++
         blocks.flatMap (drawBlock · (innerEnv a pov env)) ++
         paintList pov floats (innerEnv a pov env) ++
         (if a.kind.drawInline then inlBoxWith a (inlKids pov kids) (innerEnv a pov env) else []) ++
         (point7With a kids (inlList pov kids) (innerEnv a pov env) ++
            point7List pov bc (innerEnv a pov env)) ++
         paintList pov (children.filter (fun n => decide (n.zIndex = 0))) (innerEnv a pov env) ++
         paintList pov (sortZ (children.filter (fun n => decide (0 < n.zIndex)))) (innerEnv a pov env))) ++
       ownOutline a (ctxEnv a pov env)) ++ outlineList kids (ctxEnv a pov env) := by
  simp [init_lists, paint, paintBodyWith, innerEnv, h]

example : (plain 1 .BlockBox).matrix ≠ .singular := by decide

/-- A box with a singular transform paints nothing at all: neither itself nor anything of its subtree. -/
theorem paint_singular (pov : Bool) (a : Attrs) (kids children blocks floats bc : List Node) (env : Env)
    (h : a.matrix = .singular) :
    paint pov (mkCtx (.node a kids) children blocks floats bc) env = [] := by
  simp [init_lists, paint, paintBodyWith, h]

/-- The sorted lists used by `paint_order` are ordered by z-index and keep tree order on ties. -/
theorem paint_order_sorted (children : List Node) :
    (sortZ (children.filter (fun n => decide (n.zIndex < 0)))).Pairwise (fun x y => x.zIndex ≤ y.zIndex) ∧
    (sortZ (children.filter (fun n => decide (0 < n.zIndex)))).Pairwise (fun x y => x.zIndex ≤ y.zIndex) ∧
    (∀ n ∈ sortZ (children.filter (fun n => decide (n.zIndex < 0))), n.zIndex < 0) ∧
    (∀ n ∈ sortZ (children.filter (fun n => decide (0 < n.zIndex))), 0 < n.zIndex) ∧
    (∀ k : Int, (sortZ (children.filter (fun n => decide (n.zIndex < 0)))).filter (fun n => decide (n.zIndex = k)) =
      (children.filter (fun n => decide (n.zIndex < 0))).filter (fun n => decide (n.zIndex = k))) ∧
    (∀ k : Int, (sortZ (children.filter (fun n => decide (0 < n.zIndex)))).filter (fun n => decide (n.zIndex = k)) =
      (children.filter (fun n => decide (0 < n.zIndex))).filter (fun n => decide (n.zIndex = k))) := by
  have hmem : ∀ (p : Node → Bool) (n : Node), n ∈ sortZ (children.filter p) → p n = true :=
    fun p n hn => (List.mem_filter.mp ((sortZ_perm _).mem_iff.mp hn)).2
  refine ⟨sortZ_sorted _, sortZ_sorted _, fun n hn => ?_, fun n hn => ?_, fun k => sortZ_stable k _,
    fun k => sortZ_stable k _⟩
  · simpa using hmem _ n hn
  · simpa using hmem _ n hn

/-! ## subtree_atomic -/

/-- Everything a context paints — own decoration, every descendant (in whatever nested context),
outlines — is painted in the graphics environment of the call extended by the context's own viewport
clip, `clip`, opacity group and transform: the opacity groups and transforms of every item have the
context's as a prefix and its clip depth is at least the context's.  (Together with `paint_order`: the
items of a context are one contiguous block of the parent's list, and the overflow clip `innerEnv`
applies to the descendants but not to the context's own border, background and outline.) -/
theorem subtree_atomic (pov : Bool) (a : Attrs) (kids children blocks floats bc : List Node) (env : Env) :
    ∀ it ∈ paint pov (mkCtx (.node a kids) children blocks floats bc) env,
      ∀ r i c f, it = .paint r i c f → (ctxEnv a pov env).le f := by
  intro it hit r i c f hf
  subst hf
  exact allGe_paint_ctx_node pov a kids _ _ _ blocks floats bc _ env (ge_list pov _) (ge_list pov _)
    (ge_list pov _) (ge_list pov _) (ge_list pov _) (ge_list pov _) _ (init_lists _ _ _ _ _ ▸ hit)

example : ({ plain 1 .BlockBox with opacity := 1 / 2 } : Attrs).opacity < 1 := by decide +kernel
example : (ctxEnv { plain 1 .BlockBox with opacity := 1 / 2, matrix := .regular 7 } true {}) =
    { alphas := [1 / 2], transforms := [7], clips := [] } := by decide +kernel

/-- An opacity below 1 reaches every item of the subtree: the group is in the item's list. -/
theorem opacity_applies_to_subtree (pov : Bool) (a : Attrs) (kids children blocks floats bc : List Node)
    (env : Env) (h : a.opacity < 1) :
    ∀ it ∈ paint pov (mkCtx (.node a kids) children blocks floats bc) env,
      ∀ r i c f, it = .paint r i c f → a.opacity ∈ f.alphas := by
  intro it hit r i c f hf
  have hle := subtree_atomic pov a kids children blocks floats bc env it hit r i c f hf
  exact hle.1.subset (by rw [ctxEnv_eq]; simp [h])

/-! ## paint_once -/

/-- Points 4 and 7 of a context built by the dispatcher are recursions over the context's own pruned
tree: `block_level_boxes` and `blocks_and_cells` add nothing that is not in the tree and skip nothing
of it (no hypothesis on the tree). -/
theorem points_4_7_follow_the_tree (pov : Bool) (kids : List Box) (e : Env) :
    (listS kids).2.blocks.flatMap (drawBlock · e) = flow4L (listS kids).1 e ∧
    point7List pov (listS kids).2.bc e = flow7L pov (listS kids).1 e := by
  rw [(blocks_listS kids).1, (blocks_listS kids).2]
  exact ⟨flow4L_region _ e, flow7L_region pov _ e⟩

/-- **paint_once (partial: backgrounds, block / line / inline / inline-block grammar, painted root
classes).**  Full statement of the property clause: *every box's background occurs exactly once in
the display list of its page, unless it lies under a box with a singular transform (then not at all)*.
It is false of the current code when a table row / row group roots a context (`Witness.C17`; grid
containers are painted by point 2, repair a9887a3, and satisfy `rootPainted`), so it is proved for structures in
which every context root is of a class painted by point 2 or point 6 (`rootPainted`), whose `blocks` /
`blocks_and_cells` are those of the dispatcher, and whose trees follow the block / line / inline /
atomic-inline grammar (`wfCtx`; tables in flow are outside this theorem: `paint_count`).  `expBg` lists the boxes with a painted
background colour at the tree positions of the structure, pruned below singular transforms. -/
theorem paint_once_partial (pov : Bool) (c : Node) (h : wfCtx c) (i : Nat) (e : Env) :
    cntBg i (paint pov c e) = (expBg c).count i := by
  have := (once_node pov i c).ctx (by simp [wfCtxL, h]) e
  simpa [cntBg_eq_cnt, paintList, expBgL] using this

/-- A well-formed context: a positioned block with one line of text and an inline box in it. -/
def exCtx : Node :=
  mkCtx (.node { plain 1 .BlockBox with positioned := true }
      [.node { plain 2 .LineBox with bg := none }
        [.leaf { plain 3 .TextBox with bg := none },
         .node (plain 4 .InlineBox) [.leaf { plain 5 .TextBox with bg := none }]]]) [] [] [] []

example : wfCtx exCtx := by
  simp [exCtx, mkCtx, splitZ, sortZ, wfCtx, wfCtxL, wfInlineL, wfInline, wfFlowL, rootPainted, plain,
    Node.regionL, Node.region, Node.isBlockLevel, Node.isBlockOrCell, lastIsLine, Node.attrs?, bgOf,
    Kind.drawOwnDecoration, Kind.drawInline, Kind.drawReplaced, Kind.dispBlockLevel, Kind.dispCell,
    Kind.drawLine, Kind.dilInlineOrLine, Kind.dilTextChild]

example : expBg exCtx = [1, 4] := by
  simp [exCtx, mkCtx, splitZ, sortZ, expBg, expBgL, bgOf, plain]

/-- The grammar on the laid-out tree is inherited by everything the dispatcher builds: contexts
appended to `child_contexts` and to `floats` are well-formed, what stays in the tree is inline-level
(resp. block-flow) content. -/
theorem dispatch_preserves_grammar (b : Box) :
    (gInline b → optWfInline (dispatchS b).1 ∧ wfCtxL (dispatchS b).2.cc ∧ wfCtxL (dispatchS b).2.floats) ∧
    (gFlow b → optWfFlow (dispatchS b).1 ∧ wfCtxL (dispatchS b).2.cc ∧ wfCtxL (dispatchS b).2.floats) :=
  ⟨(transfer_box b).inl, (transfer_box b).flow⟩

/-- **paint_once for a page (partial: backgrounds; grammar without tables in flow; painted root
classes).**  In the display list of `draw_page`, the background of every box of the page is painted
exactly as often as it occurs in the laid-out tree outside singular transforms — once for distinct
ids (`fromPage_each_once`), never below a singular transform — provided the children of the page are
context roots of painted classes (`gRoot`), the tree follows the block / line / inline / atomic-inline
grammar with painted root classes for everything that leaves the tree (`gFlow` / `gInline`), and a
singular matrix only occurs on boxes that create a context (`singOK`: it comes from `transform`). -/
theorem paint_once_page_partial (page : Attrs) (canvas : Option (Option Nat)) (kids : List Box)
    (hp2 : page.kind.drawOwnDecoration = false) (hp6 : page.kind.drawInline = false)
    (hpm : page.matrix ≠ .singular) (hk : ∀ b ∈ kids, gRoot b) (hs : singOKL kids) (i : Nat) :
    cntBg i (drawPage page canvas kids) = (bgOf page ++ Box.expBgL kids).count i := by
  rw [cntBg_eq_cnt, Sel.cnt_drawPage _ page canvas kids (fun b => b.expBg.count i) hp2 hp6 hpm
    (fun b hb e => by
      rw [← cntBg_eq_cnt, paint_once_partial _ _ (wfCtx_fromBoxS b (hk b hb)) i e,
        count_expBg_fromBoxS b ((singOKL_iff kids).mp hs b hb) (hk b hb) i]),
    List.count_append, count_Box_expBgL, ← roleSel_bg_deco]
  -- of the page's own items the background selector counts the background alone
  simp [Sel.deco, roleSel]

example : gRoot (.node (plain 1 .BlockBox) [.node { plain 2 .LineBox with bg := none } [.leaf { plain 3 .TextBox with bg := none }]]) := by
  simp [gRoot, rootPainted, plain, listS, dispatchS, coreS, definesContext, lastIsLine, Node.attrs?, gInlineL,
    gInline, leavesTree, bgOf, Delta.append,
    Kind.drawOwnDecoration, Kind.drawInline, Kind.drawReplaced, Kind.dispBlockLevel, Kind.dispCell,
    Kind.drawLine, Kind.dilInlineOrLine, Kind.dilTextChild, Kind.dispStackingClass]

/-! ## Rounded boxes: the rectangle and radii of every painted border, background clip and overflow clip -/

section Rounded
open Wp.Rounded

/-- The corner-overlap ratio `rounded_box` scales the reduced radii with. -/
def roundedRatio (g : Geo) (bt br bb bl : Rat) : Rat :=
  overlapRatio
    [(g.borderWidth - bl - br, shrink g.tl.1 bl + shrink g.tr.1 br),
     (g.borderWidth - bl - br, shrink g.bl.1 bl + shrink g.br.1 br),
     (g.borderHeight - bt - bb, shrink g.tl.2 bt + shrink g.bl.2 bb),
     (g.borderHeight - bt - bb, shrink g.tr.2 bt + shrink g.br.2 bb)]

/-- **Inner radius = max(0, outer radius − inset), per corner and per axis** (css-backgrounds-3 "corner
shaping"), times the common corner-overlap ratio: the horizontal radius of a corner is reduced by the
inset of its *vertical* side (left / right), the vertical radius by the inset of its *horizontal* side
(top / bottom) — top-left: (left, top), top-right: (right, top), bottom-right: (right, bottom),
bottom-left: (left, bottom). -/
theorem rounded_box_radii (g : Geo) (bt br bb bl : Rat) :
    let r := roundedBox g bt br bb bl
    let ρ := roundedRatio g bt br bb bl
    r.tl = (max 0 (g.tl.1 - bl) * ρ, max 0 (g.tl.2 - bt) * ρ) ∧
    r.tr = (max 0 (g.tr.1 - br) * ρ, max 0 (g.tr.2 - bt) * ρ) ∧
    r.br = (max 0 (g.br.1 - br) * ρ, max 0 (g.br.2 - bb) * ρ) ∧
    r.bl = (max 0 (g.bl.1 - bl) * ρ, max 0 (g.bl.2 - bb) * ρ) :=
  ⟨rfl, rfl, rfl, rfl⟩

/-- The rectangle: the border box moved in by the four insets. -/
theorem rounded_box_rect (g : Geo) (bt br bb bl : Rat) :
    let r := roundedBox g bt br bb bl
    r.x = g.borderBoxX + bl ∧ r.y = g.borderBoxY + bt ∧
    r.w = g.borderWidth - bl - br ∧ r.h = g.borderHeight - bt - bb :=
  ⟨rfl, rfl, rfl, rfl⟩

/-- The ratio only shrinks, and it is positive when the rounded sides have positive length. -/
theorem rounded_ratio_bounds (g : Geo) (bt br bb bl : Rat) :
    roundedRatio g bt br bb bl ≤ 1 ∧
    (0 < g.borderWidth - bl - br → 0 < g.borderHeight - bt - bb → 0 < roundedRatio g bt br bb bl) := by
  refine ⟨overlapRatio_le_one _, fun hw hh => overlapRatio_pos _ ?_⟩
  simp only [List.forall_mem_cons]
  exact ⟨fun _ => hw, fun _ => hw, fun _ => hh, fun _ => hh, fun _ h => nomatch h⟩

/-- Without corner overlap the inner radii are exactly `max(0, outer − inset)`. -/
theorem rounded_inner_radius (g : Geo) (bt br bb bl : Rat)
    (h1 : shrink g.tl.1 bl + shrink g.tr.1 br ≤ g.borderWidth - bl - br)
    (h2 : shrink g.bl.1 bl + shrink g.br.1 br ≤ g.borderWidth - bl - br)
    (h3 : shrink g.tl.2 bt + shrink g.bl.2 bb ≤ g.borderHeight - bt - bb)
    (h4 : shrink g.tr.2 bt + shrink g.br.2 bb ≤ g.borderHeight - bt - bb) :
    let r := roundedBox g bt br bb bl
    r.tl = (max 0 (g.tl.1 - bl), max 0 (g.tl.2 - bt)) ∧
    r.tr = (max 0 (g.tr.1 - br), max 0 (g.tr.2 - bt)) ∧
    r.br = (max 0 (g.br.1 - br), max 0 (g.br.2 - bb)) ∧
    r.bl = (max 0 (g.bl.1 - bl), max 0 (g.bl.2 - bb)) := by
  have hρ : roundedRatio g bt br bb bl = 1 := by
    apply overlapRatio_eq_one
    simp only [List.forall_mem_cons]
    exact ⟨fun _ => h1, fun _ => h2, fun _ => h3, fun _ => h4, fun _ h => nomatch h⟩
  have := rounded_box_radii g bt br bb bl
  simp only [hρ, Rat.mul_one] at this
  exact this

/-- Corner overlap is resolved: after scaling, the two radii on every side fit that side
(for an inner rectangle of non-negative size). -/
theorem rounded_corners_fit (g : Geo) (bt br bb bl : Rat)
    (hw : 0 ≤ g.borderWidth - bl - br) (hh : 0 ≤ g.borderHeight - bt - bb) :
    let r := roundedBox g bt br bb bl
    r.tl.1 + r.tr.1 ≤ r.w ∧ r.bl.1 + r.br.1 ≤ r.w ∧ r.tl.2 + r.bl.2 ≤ r.h ∧ r.tr.2 + r.br.2 ≤ r.h := by
  refine ⟨?_, ?_, ?_, ?_⟩
  · exact scaled_sum_fits _ _ _ _ (List.mem_cons_self) (shrink_nonneg _ _) (shrink_nonneg _ _) hw
  · exact scaled_sum_fits _ _ _ _ (List.mem_cons_of_mem _ List.mem_cons_self)
      (shrink_nonneg _ _) (shrink_nonneg _ _) hw
  · exact scaled_sum_fits _ _ _ _ (List.mem_cons_of_mem _ (List.mem_cons_of_mem _ List.mem_cons_self))
      (shrink_nonneg _ _) (shrink_nonneg _ _) hh
  · exact scaled_sum_fits _ _ _ _
      (List.mem_cons_of_mem _ (List.mem_cons_of_mem _ (List.mem_cons_of_mem _ List.mem_cons_self)))
      (shrink_nonneg _ _) (shrink_nonneg _ _) hh

/-- The three boxes the drawing code asks for: insets 0 (border box: background clip, outer border
edge), the border widths (padding box: inner border edge, `background-clip: padding-box`, overflow
clip), border + padding (content box: `background-clip: content-box`). -/
theorem rounded_named_boxes (g : Geo) :
    roundedBorderBox g = roundedBox g 0 0 0 0 ∧
    roundedPaddingBox g = roundedBox g g.borderTop g.borderRight g.borderBottom g.borderLeft ∧
    roundedContentBox g = roundedBox g (g.borderTop + g.padTop) (g.borderRight + g.padRight)
      (g.borderBottom + g.padBottom) (g.borderLeft + g.padLeft) :=
  ⟨rfl, rfl, rfl⟩

/-- `resolve_radii_percentages`: a percentage radius refers to the border-box width (horizontal) /
height (vertical); a corner with a zero-px component, or on a side whose decoration was removed by a
page break, has no radius. -/
theorem resolve_corner_spec (rx ry : Dim) (removed : Bool) (bw bh : Rat) :
    resolveCorner rx ry removed bw bh =
      if rx.isZeroPx || ry.isZeroPx || removed then (0, 0)
      else ((if rx.percent then bw * rx.value / 100 else rx.value),
            (if ry.percent then bh * ry.value / 100 else ry.value)) := by
  unfold resolveCorner percentage
  by_cases h1 : (rx.isZeroPx || ry.isZeroPx) = true <;> by_cases h2 : removed = true <;> simp [h1, h2]

/-- The seed geometry: 40px radii, border widths 4 / 10 / 30 / 10 on a 150 × 100 content box. -/
def exGeo : Geo :=
  { positionX := 0, positionY := 0, marginLeft := 20, marginTop := 20, borderTop := 4, borderRight := 10,
    borderBottom := 30, borderLeft := 10, padTop := 0, padRight := 0, padBottom := 0, padLeft := 0,
    width := 150, height := 100, tl := (40, 40), tr := (40, 40), br := (40, 40), bl := (40, 40) }

example : (roundedPaddingBox exGeo).bl = (30, 10) ∧ (roundedPaddingBox exGeo).tl = (30, 36) := by
  decide +kernel

example : shrink exGeo.tl.2 exGeo.borderTop + shrink exGeo.bl.2 exGeo.borderBottom ≤
    exGeo.borderHeight - exGeo.borderTop - exGeo.borderBottom := by decide +kernel

end Rounded

end Wp.C17
