/-
C07 (part 2) — the remaining shorthand expanders: place-*, line-clamp, flex, font, grid-row / grid-column /
grid-area, grid-template; a shorthand containing var() (`PendingExpander`); coverage of the registry.
-/
import WpModel.Model.Declarations
import WpModel.Model.ExpandersC07
import WpModel.Lemmas.C07Generic

namespace Wp.C07
open Wp Wp.Decl

/-! ## Every registered expander is accounted for -/

/-- Functions whose generator is modelled token by token (Model/Declarations.lean, Model/ExpandersC07.lean,
Model/DescriptorsC07.lean). -/
def modelledExpanders : List String :=
  ["expand_four_sides", "border_radius", "expand_list_style", "expand_border", "expand_border_side",
   "expand_text_decoration", "expand_page_break_after", "expand_page_break_before", "expand_page_break_inside",
   "expand_columns", "expand_word_wrap", "expand_flex_flow", "expand_gap", "expand_legacy_column_gap",
   "expand_legacy_row_gap", "expand_text_align", "expand_place_content", "expand_place_items",
   "expand_place_self", "expand_line_clamp", "expand_flex", "expand_font", "expand_grid_column_row",
   "expand_grid_area", "expand_grid_template", "expand_grid", "font_variant", "expand_border_image",
   "expand_mask_border", "expand_background"]

/-- **Coverage of the generated registry**: every `EXPANDERS` entry (42 keys at HEAD) is bound to a function
whose generator is modelled. A shorthand added to the source breaks this until it is modelled. -/
theorem all_expanders_modelled : ∀ e ∈ Gen.Expanders.expanderKeys, e.2 ∈ modelledExpanders := by
  have h : ∀ e ∈ Gen.Expanders.expanderKeys, memFast e.2 modelledExpanders = true := by decide +kernel
  exact fun e he => mem_of_memFast (h e he)

/-- …and every modelled name is a registered function (no stale entry). -/
theorem no_stale_expander : ∀ f ∈ modelledExpanders, f ∈ Gen.Expanders.expanderKeys.map Prod.snd := by
  have h : ∀ f ∈ modelledExpanders, memFast f (Gen.Expanders.expanderKeys.map Prod.snd) = true := by decide +kernel
  exact fun f hf => mem_of_memFast (h f hf)

/-! ## place-content / place-items / place-self -/

/-- The three `place-*` shorthands are rejected whatever the value (unimplemented in the source): with any set
of longhand names and any validator, a plain value is `InvalidValues`, hence dropped by the funnel. -/
theorem place_always_invalid {α β : Type} (names : List String) (name : String) (validate : String → α → R β) :
    genericFill names name .plain (placeRaw (α := α)) validate = .error .invalid :=
  genericFill_ends_invalid names name placeRaw validate rfl (by simp [placeRaw])

/-! ## line-clamp -/

/-- `expand_line_clamp` raises nothing exactly for `none`, `<integer>`, `<integer ≠ 0> <block-ellipsis>`; the
validators of the longhands still apply (`line-clamp: 0` is refused by `max-lines`: `nonpositive_integer_refused`
in Props/C07Numeric). -/
theorem line_clamp_valid_iff {α : Type} (n a d : α) (toks : List (ClampTok α)) :
    (lineClampRaw n a d toks).ends = none ↔
      (∃ t, toks = [t] ∧ (t.isNone = true ∨ (t.isNumber = true ∧ t.intValue.isSome = true))) ∨
      (∃ x y k, toks = [x, y] ∧ x.isNumber = true ∧ x.intValue = some k ∧ k ≠ 0 ∧ y.ellipsisOk = true) := by
  match toks with
  | [] | _ :: _ :: _ :: _ => simp [lineClampRaw]
  | [t] =>
    cases h1 : t.isNone <;> cases h2 : t.isNumber <;> cases h3 : t.intValue <;>
      simp [lineClampRaw, h1, h2, h3]
  | [x, y] =>
    constructor
    · intro h
      right
      unfold lineClampRaw at h
      cases h1 : x.isNumber with
      | false => simp [h1] at h
      | true =>
        cases h2 : x.intValue with
        | none => simp [h1, h2] at h
        | some k =>
          cases h3 : y.ellipsisOk with
          | false => simp [h1, h2, h3] at h
          | true =>
            by_cases hk : k = 0
            · simp [h1, h2, h3, hk] at h
            · exact ⟨x, y, k, rfl, h1, h2, hk, h3⟩
    · rintro (⟨t, ht, _⟩ | ⟨x', y', k, hxy, h1, h2, hk, h3⟩)
      · simp at ht
      · simp only [List.cons.injEq, and_true] at hxy
        obtain ⟨rfl, rfl⟩ := hxy
        simp [lineClampRaw, h1, h2, h3, hk]

/-- A valid `line-clamp` always gives its three longhands, in this order (none is left to `initial`). -/
theorem line_clamp_names {α : Type} (n a d : α) (toks : List (ClampTok α))
    (h : (lineClampRaw n a d toks).ends = none) :
    (lineClampRaw n a d toks).items.map Prod.fst = ["max-lines", "continue", "block-ellipsis"] := by
  match toks with
  | [] | _ :: _ :: _ :: _ => simp [lineClampRaw] at h
  | [t] =>
    cases h1 : t.isNone <;> cases h2 : t.isNumber <;> cases h3 : t.intValue <;>
      simp_all [lineClampRaw]
  | [x, y] =>
    rcases (line_clamp_valid_iff n a d [x, y]).mp h with ⟨_, ht, _⟩ | ⟨x', y', k, hxy, h1, h2, hk, h3⟩
    · simp at ht
    · simp only [List.cons.injEq, and_true] at hxy
      obtain ⟨rfl, rfl⟩ := hxy
      simp [lineClampRaw, h1, h2, h3, hk]

/-- `line-clamp: none` = `max-lines: none; continue: auto; block-ellipsis: none`;
`line-clamp: 3` = `max-lines: 3; continue: discard; block-ellipsis: auto`. -/
example : (lineClampRaw "none" "auto" "discard" [⟨true, false, none, false, "t0"⟩]).items
      = [("max-lines", "none"), ("continue", "auto"), ("block-ellipsis", "none")] ∧
    (lineClampRaw "none" "auto" "discard" [⟨false, true, some 3, false, "t0"⟩]).items
      = [("max-lines", "t0"), ("continue", "discard"), ("block-ellipsis", "auto")] := by decide +kernel

/-! ## flex -/

/-- `flex: none` = `0 0 auto`. -/
theorem flex_none (numId : Rat → String) (z a : String) (toks : List FlexTok) :
    flexRaw true numId z a toks =
      { items := [("-grow", numId 0), ("-shrink", numId 0), ("-basis", a)], ends := none } := rfl

/-- A valid `flex` always sets its three longhands. -/
theorem flex_names (kw : Bool) (numId : Rat → String) (z a : String) (toks : List FlexTok)
    (h : (flexRaw kw numId z a toks).ends = none) :
    (flexRaw kw numId z a toks).items.map Prod.fst = ["-grow", "-shrink", "-basis"] := by
  revert h
  fun_cases flexRaw kw numId z a toks <;> intro h <;> first | rfl | cases h

/-- `flex: <number>` = `<number> 1 0px` (grow given, shrink 1, basis zero). -/
theorem flex_single_factor (numId : Rat → String) (z a : String) (t : FlexTok) (g : Rat)
    (hf : t.factor = some g) (hb : t.basisOk = false) :
    flexRaw false numId z a [t] =
      { items := [("-grow", numId g), ("-shrink", numId 1), ("-basis", z)], ends := none } := by
  simp [flexRaw, flexLoop, hf, hb]

/-- "A unitless zero that is not already preceded by two flex factors must be interpreted as a flex factor":
`flex: 0` is `0 1 0px`, never a basis, even though `0` is a valid `flex-basis`. -/
theorem flex_unitless_zero (numId : Rat → String) (z a : String) (t : FlexTok)
    (hz : t.isZeroNumber = true) (hf : t.factor = some 0) :
    flexRaw false numId z a [t] =
      { items := [("-grow", numId 0), ("-shrink", numId 1), ("-basis", z)], ends := none } := by
  simp [flexRaw, flexLoop, hf, hz]

/-- **The basis may stand before, between or after the two flex factors**: `b g s`, `g b s`, `g s b` expand
alike (`g`, `s` flex factors that are not lengths, `b` a basis that is not the unitless zero). -/
theorem flex_basis_anywhere (numId : Rat → String) (z a : String) (g s b : FlexTok) (x y : Rat)
    (hg : g.factor = some x) (hs : s.factor = some y) (hgb : g.basisOk = false) (hsb : s.basisOk = false)
    (hb : b.basisOk = true) (hbz : b.isZeroNumber = false) :
    flexRaw false numId z a [b, g, s] = flexRaw false numId z a [g, b, s] ∧
    flexRaw false numId z a [g, b, s] = flexRaw false numId z a [g, s, b] ∧
    flexRaw false numId z a [g, s, b] =
      { items := [("-grow", numId x), ("-shrink", numId y), ("-basis", b.id)], ends := none } := by
  refine ⟨?_, ?_, ?_⟩ <;> simp [flexRaw, flexLoop, hg, hs, hgb, hsb, hb, hbz]

/-- Regression (`flex: 0.0`, repaired by 6a44d73): the unitless zero is recognised by its value, however it is
written (`0.0`, `1e-999`: `int_value` is `None`), so it is a flex factor like `0`: `0 1 0px`, not the basis. -/
example : (flexRaw false (fun q => "n:" ++ showRat q) "0px" "auto" [⟨true, true, some 0, "0.0"⟩]).items
      = [("-grow", "n:0"), ("-shrink", "n:1"), ("-basis", "0px")] ∧
    (flexRaw false (fun q => "n:" ++ showRat q) "0px" "auto" [⟨true, true, some 0, "0.0"⟩, ⟨false, false, some 2, "2"⟩]).items
      = [("-grow", "n:0"), ("-shrink", "n:2"), ("-basis", "0px")] := by decide +kernel

example : (flexRaw false (fun q => "n:" ++ showRat q) "0px" "auto"
    [⟨false, false, some 2, "t0"⟩, ⟨false, true, none, "t1"⟩]).items =
    [("-grow", "n:2"), ("-shrink", "n:1"), ("-basis", "t1")] := by decide +kernel

/-! ## font -/

private def fontPair {α : Type} (t : FontTok α) : String × List α := ((fontClass t).getD "", [t.tok])

/-- The first loop on a prefix of classified tokens (none of them `normal`) followed by the token that ends it:
all of the prefix is yielded, the next token is handed over as the size. -/
private theorem fontLoop_prefix {α : Type} :
    ∀ (n : Nat) (pre : List (FontTok α)) (s : FontTok α) (rest : List (FontTok α)) (acc : List (String × List α)),
      pre.length ≤ n → (∀ t ∈ pre, t.isNormal = false ∧ (fontClass t).isSome = true) →
      (pre.length < n → s.isNormal = false ∧ fontClass s = none) →
      fontLoop n (pre ++ s :: rest) acc = .ok (s, rest, acc ++ pre.map fontPair)
  | 0, pre, s, rest, acc, hl, _, _ => by
    have : pre = [] := List.eq_nil_of_length_eq_zero (Nat.le_zero.mp hl)
    subst this
    simp [fontLoop]
  | n + 1, [], s, rest, acc, _, _, hs => by
    have := hs (by simp)
    simp [fontLoop, this.1, this.2]
  | n + 1, t :: pre, s, rest, acc, hl, hpre, hs => by
    have ht := hpre t (by simp)
    cases hc : fontClass t with
    | none => simp [hc] at ht
    | some suffix =>
      have ih := fontLoop_prefix n pre s rest (acc ++ [(suffix, [t.tok])]) (by simpa using hl)
        (fun x hx => hpre x (by simp [hx])) (fun h => hs (by simpa using h))
      simp only [List.cons_append, fontLoop, ht.1, Bool.false_eq_true, if_false, hc]
      have hne : (pre ++ s :: rest).isEmpty = false := by cases pre <;> rfl
      simp only [hne, Bool.false_eq_true, if_false, ih, List.map_cons, fontPair, hc, Option.getD_some,
        List.append_assoc, List.singleton_append]

theorem font_names_eq : genericNames "expand_font" =
    some ["-style", "-variant-caps", "-weight", "-stretch", "-size", "line-height", "-family"] := by decide +kernel

private def fontNames : List String :=
  ["-style", "-variant-caps", "-weight", "-stretch", "-size", "line-height", "-family"]

private theorem fontClass_mem {α : Type} (t : FontTok α) (s : String) (h : fontClass t = some s) :
    s ∈ fontNames := by
  revert h
  fun_cases fontClass t <;> intro h <;> cases h <;> simp [fontNames]

/-- What follows the first loop only appends to what it yielded, and ends the same way whatever that was. -/
private theorem fontRaw_after_loop {α : Type} (familyOk : List (FontTok α) → Bool) (size : FontTok α)
    (rest : List (FontTok α)) :
    ∃ suffix e, (e = none ∨ e = some .invalid) ∧ (∀ p ∈ suffix, p.1 ∈ fontNames) ∧
      ∀ toks acc, fontLoop 4 toks [] = .ok (size, rest, acc) →
        fontRaw false familyOk toks = { items := acc ++ suffix, ends := e } := by
  unfold fontNames
  cases hsz : size.isSize with
  | false => exact ⟨[], _, Or.inr rfl, by simp, fun toks acc h => by simp [fontRaw, h, hsz]⟩
  | true =>
    match rest with
    | [] => exact ⟨[("-size", [size.tok])], _, Or.inr rfl, by simp, fun toks acc h => by simp [fontRaw, h, hsz]⟩
    | t :: rest' =>
      cases hsl : t.isSlash with
      | true =>
        match rest' with
        | [] =>
          exact ⟨[("-size", [size.tok])], _, Or.inr rfl, by simp, fun toks acc h => by simp [fontRaw, h, hsz, hsl]⟩
        | lh :: fam =>
          cases hlh : lh.isLineHeight with
          | false =>
            exact ⟨[("-size", [size.tok])], _, Or.inr rfl, by simp,
              fun toks acc h => by simp [fontRaw, h, hsz, hsl, hlh]⟩
          | true =>
            cases hf : familyOk fam with
            | false =>
              exact ⟨[("-size", [size.tok]), ("line-height", [lh.tok])], _, Or.inr rfl, by simp,
                fun toks acc h => by simp [fontRaw, h, hsz, hsl, hlh, hf]⟩
            | true =>
              exact ⟨[("-size", [size.tok]), ("line-height", [lh.tok]), ("-family", fam.map (·.tok))], _,
                Or.inl rfl, by simp, fun toks acc h => by simp [fontRaw, h, hsz, hsl, hlh, hf]⟩
      | false =>
        cases hf : familyOk (t :: rest') with
        | false =>
          exact ⟨[("-size", [size.tok])], _, Or.inr rfl, by simp, fun toks acc h => by simp [fontRaw, h, hsz, hsl, hf]⟩
        | true =>
          exact ⟨[("-size", [size.tok]), ("-family", (t :: rest').map (·.tok))], _, Or.inl rfl, by simp,
            fun toks acc h => by simp [fontRaw, h, hsz, hsl, hf]⟩

/-- **font-style, font-variant-caps, font-weight and font-stretch "can come in any order"**: permuting the
(at most four) optional leading components of a `font` value gives the same longhands, values and validity.
`tail` is the rest of the value, starting with the size. -/
theorem font_prefix_perm {α β : Type} (name : String) (familyOk : List (FontTok α) → Bool)
    (pre pre' : List (FontTok α)) (size : FontTok α) (tail : List (FontTok α))
    (validate : String → List α → R β) (hp : pre.Perm pre') (hl : pre.length ≤ 4)
    (hpre : ∀ t ∈ pre, t.isNormal = false ∧ (fontClass t).isSome = true)
    (hsize : size.isNormal = false ∧ fontClass size = none) :
    genericFill ["-style", "-variant-caps", "-weight", "-stretch", "-size", "line-height", "-family"] name .plain
        (fontRaw false familyOk (pre ++ size :: tail)) validate =
      genericFill ["-style", "-variant-caps", "-weight", "-stretch", "-size", "line-height", "-family"] name .plain
        (fontRaw false familyOk (pre' ++ size :: tail)) validate := by
  have hpre' : ∀ t ∈ pre', t.isNormal = false ∧ (fontClass t).isSome = true :=
    fun t ht => hpre t (hp.mem_iff.mpr ht)
  obtain ⟨suffix, e, he, hsuf, hraw⟩ := fontRaw_after_loop familyOk size tail
  rw [hraw _ _ (fontLoop_prefix 4 pre size tail [] hl hpre (fun _ => hsize)),
    hraw _ _ (fontLoop_prefix 4 pre' size tail [] (hp.length_eq ▸ hl) hpre' (fun _ => hsize))]
  have hin : ∀ (l : List (FontTok α)), (∀ t ∈ l, t.isNormal = false ∧ (fontClass t).isSome = true) →
      ∀ p ∈ [] ++ l.map fontPair ++ suffix, p.1 ∈ fontNames := by
    intro l hlc p hp
    simp only [List.nil_append, List.mem_append, List.mem_map] at hp
    rcases hp with ⟨t, ht, rfl⟩ | hp
    · cases hc : fontClass t with
      | none => exact absurd (hlc t ht).2 (by simp [hc])
      | some s => simpa [fontPair, hc] using fontClass_mem t s hc
    · exact hsuf p hp
  exact genericFill_congr fontNames _ _ _ _ rfl he (fun _ => ((hp.map fontPair).append_right suffix).append_left [])
    (hin pre hpre) (hin pre' hpre')

/-- `font: italic bold 12px/1.2 serif` and `font: bold italic 12px/1.2 serif`. -/
example : (fontRaw (α := String) false (fun _ => true)
    [⟨false, true, false, false, false, false, false, false, "italic"⟩,
     ⟨false, false, false, true, false, false, false, false, "bold"⟩,
     ⟨false, false, false, false, false, true, false, true, "12px"⟩,
     ⟨false, false, false, false, false, false, true, false, "/"⟩,
     ⟨false, false, false, false, false, false, false, true, "1.2"⟩,
     ⟨false, false, false, false, false, false, false, false, "serif"⟩]).items
    = [("-style", ["italic"]), ("-weight", ["bold"]), ("-size", ["12px"]), ("line-height", ["1.2"]),
       ("-family", ["serif"])] := by decide +kernel

/-! ## grid-row, grid-column, grid-area -/

/-- What an omitted line defaults to: the line it is derived from if that is a lone custom identifier,
`auto` otherwise (css-grid-1 §8.4). -/
def lineDefault {α : Type} (auto : List α) (l : GridLine α) : List α := if l.custom then l.toks else auto

/-- **grid-row / grid-column**: `a` is `a / default(a)`, `a / b` is itself; 0 or 3+ parts are invalid. -/
theorem grid_column_row_lines {α : Type} (auto : List α) (a b : GridLine α) (ha : a.ok = true)
    (hb : b.ok = true) :
    gridAreaValues 2 auto [a] = ([a.toks, lineDefault auto a], none) ∧
    gridAreaValues 2 auto [a, b] = ([a.toks, b.toks], none) ∧
    (gridAreaValues 2 auto []).2 = some .invalid ∧
    ∀ c rest, (gridAreaValues 2 auto (a :: b :: c :: rest)).2 = some .invalid := by
  refine ⟨?_, ?_, ?_, ?_⟩
  · simp [gridAreaValues, gridLinesLoop, ha, lineDefault]
  · simp [gridAreaValues, gridLinesLoop, ha, hb]
  · simp [gridAreaValues]
  · intro c rest; simp [gridAreaValues]

/-- **grid-area**: row-start / column-start / row-end / column-end; an omitted column-start comes from
row-start, an omitted row-end from row-start, an omitted column-end from column-start. -/
theorem grid_area_lines {α : Type} (auto : List α) (a b c d : GridLine α) (ha : a.ok = true) (hb : b.ok = true)
    (hc : c.ok = true) (hd : d.ok = true) :
    gridAreaValues 4 auto [a] =
      ([a.toks, lineDefault auto a, lineDefault auto a, lineDefault auto a], none) ∧
    gridAreaValues 4 auto [a, b] = ([a.toks, b.toks, lineDefault auto a, lineDefault auto b], none) ∧
    gridAreaValues 4 auto [a, b, c] = ([a.toks, b.toks, c.toks, lineDefault auto b], none) ∧
    gridAreaValues 4 auto [a, b, c, d] = ([a.toks, b.toks, c.toks, d.toks], none) := by
  refine ⟨?_, ?_, ?_, ?_⟩ <;> simp [gridAreaValues, gridLinesLoop, ha, hb, hc, hd, lineDefault]

/-- A part that `grid_line` refuses makes the shorthand invalid (nothing after it is yielded). -/
theorem grid_area_bad_line {α : Type} (auto : List α) (a b : GridLine α) (ha : a.ok = true) (hb : b.ok = false) :
    gridAreaValues 4 auto [a, b] = ([a.toks], some .invalid) := by
  simp [gridAreaValues, gridLinesLoop, ha, hb]

example : (gridAreaRaw (α := String) ["auto"] [⟨true, true, ["a"]⟩, ⟨true, false, ["2"]⟩]).items =
    [("grid-row-start", ["a"]), ("grid-column-start", ["2"]), ("grid-row-end", ["a"]),
     ("grid-column-end", ["auto"])] := by decide +kernel

/-! ## grid-template -/

/-- `grid-template` is accepted only as `none` or `<rows> / <columns>` with both track lists valid. -/
theorem grid_template_valid_iff {α : Type} (noneTok : List α) (parts : List (TrackPart α)) :
    (gridTemplateRaw false noneTok parts).ends = none ↔
      ∃ rows cols, parts = [rows, cols] ∧ rows.ok = true ∧ cols.ok = true := by
  match parts with
  | [] | [_] | _ :: _ :: _ :: _ => simp [gridTemplateRaw]
  | [r, c] =>
    cases h1 : r.ok <;> cases h2 : c.ok <;> simp [gridTemplateRaw, h1, h2]
    exact ⟨r, c, ⟨rfl, rfl⟩, h1, h2⟩

/-- `rows / columns`: rows before the slash, columns after, areas reset to none. -/
theorem grid_template_rows_columns {α : Type} (noneTok : List α) (r c : TrackPart α) (hr : r.ok = true)
    (hc : c.ok = true) :
    gridTemplateRaw false noneTok [r, c] =
      { items := [("-columns", c.toks), ("-rows", r.toks), ("-areas", noneTok)], ends := none } := by
  simp [gridTemplateRaw, hr, hc]

/-! ## A shorthand containing var() -/

/-- The keys under which the expander's items are looked up. -/
def renamed {β : Type} (name : String) (items : List (String × β)) : List (String × β) :=
  items.map fun (k, v) => (if startsWith k "-" then name ++ k else k, v)

private theorem pev_go {β : Type} (name : String) (wanted : String) :
    ∀ (items : List (String × β)),
      pendingExpanderValidate.go name wanted items =
        match (renamed name items).lookup wanted with
        | some v => .ok v
        | none => .error .keyError
  | [] => by
    unfold pendingExpanderValidate.go
    simp only [renamed, List.map_nil, List.lookup_nil]
    rfl
  | (k, v) :: rest => by
    have ih := pev_go name wanted rest
    rw [pendingExpanderValidate.go]
    simp only [renamed, List.map_cons, List.lookup_cons] at ih ⊢
    generalize (if startsWith k "-" then name ++ k else k) = key
    by_cases hk : key = wanted
    · subst hk
      simp only [beq_self_eq_true, if_true]
      rfl
    · have h1 : (key == wanted) = false := by simp [hk]
      have h2 : (wanted == key) = false := by simp [Ne.symm hk]
      simp only [h1, h2, Bool.false_eq_true, if_false]
      exact ih

/-- **var() in a shorthand ≡ the shorthand of the substituted text, longhand by longhand** (`fix:` f9155ce runs the
expander to its end before a longhand is picked): every longhand gets exactly what the
expansion of the substituted tokens, consumed as a whole like a literal declaration, gives it — the value it
names, `KeyError` if it names none, and the expansion's own failure if it fails anywhere. -/
theorem pending_expander {β : Type} (name : String) (gen : Raw β) (wanted : String) :
    pendingExpanderValidate name gen wanted =
      match gen.consumed with
      | .error f => .error f
      | .ok items =>
        match (renamed name items).lookup wanted with
        | some v => .ok v
        | none => .error .keyError := by
  unfold pendingExpanderValidate Raw.consumed
  cases h : gen.ends with
  | some f => rfl
  | none => simp only [pev_go]

/-- **A shorthand that is invalid after substitution is dropped as a whole**: when the literal declaration would
be refused (the expansion raises `f`, e.g. `InvalidValues` on its second component), *every* longhand of the
pending shorthand is refused the same way — none is applied in part (regression of
`var-shorthand-partially-applied`). -/
theorem pending_expander_all_or_nothing {β : Type} (name : String) (gen : Raw β) (f : Fail)
    (h : gen.ends = some f) (wanted : String) : pendingExpanderValidate name gen wanted = .error f := by
  rw [pending_expander, Raw.consumed, h]

/-- Whatever value a longhand gets out of a pending shorthand is one the expander yielded for it, in an
expansion that succeeded. -/
theorem pending_expander_sound {β : Type} (name : String) (gen : Raw β) (wanted : String) (v : β)
    (h : pendingExpanderValidate name gen wanted = .ok v) :
    gen.ends = none ∧ (renamed name gen.items).lookup wanted = some v := by
  rw [pending_expander] at h
  unfold Raw.consumed at h
  cases he : gen.ends with
  | some f => rw [he] at h; cases h
  | none =>
    rw [he] at h
    refine ⟨rfl, ?_⟩
    cases hl : (renamed name gen.items).lookup wanted with
    | some w => simp only [hl] at h; cases h; rfl
    | none => simp only [hl] at h; cases h

example : pendingExpanderValidate "margin"
    { items := [("margin-top", "1px"), ("margin-right", "2px")], ends := none } "margin-right" = .ok "2px" := by
  decide +kernel

/-- Regression (`margin: var(--a)` with `--a: 7px red`, repaired by f9155ce): `expand_four_sides` yields
`margin-top: 7px` and then raises `InvalidValues` on `red`; `margin-top` is refused like the other sides. -/
example :
    pendingExpanderValidate "margin" { items := [("margin-top", "7px")], ends := some .invalid } "margin-top"
      = .error .invalid ∧
    pendingExpanderValidate (β := String) "margin" { items := [("margin-top", "7px")], ends := some .invalid }
      "margin-right" = .error .invalid := by decide +kernel

/-! ## border-image / mask-border and background (models with validator oracles) -/

/-- `add(name, value)` of `parse_layer`: a component given twice makes the layer invalid; `None` adds nothing. -/
theorem bg_add_spec (res : BgResults) (name : String) (v : String) :
    bgAdd res name none = some (res, false) ∧
    ((res.lookup ("background-" ++ name)).isSome = true → bgAdd res name (some v) = none) ∧
    ((res.lookup ("background-" ++ name)).isSome = false →
      bgAdd res name (some v) = some (res ++ [("background-" ++ name, v)], true)) := by
  refine ⟨rfl, ?_, ?_⟩ <;> intro h <;> simp [bgAdd, h]

/-- `border-image: url(a) 10 / 2px / 1 1 round`: source, slice / width / outset, repeat. -/
example : (borderImageRaw
    { n := 8, sourceOk := fun i => i == 0, modeOk := fun _ => false, repeatOk := fun i => i == 7,
      isFill := fun _ => false, isSlash := fun i => i == 2 || i == 4,
      sliceOk := fun i j => i == 1 && j == 2, widthOk := fun i j => i == 3 && j == 4,
      outsetOk := fun i j => i == 5 && (j == 6 || j == 7) } false).items
    = [("-source", ["t0"]), ("-slice", ["t1"]), ("-width", ["t3"]), ("-outset", ["t5", "t6"]),
       ("-repeat", ["t7"])] := by decide +kernel

private def exLayer1 : BgOracle where
  n := 2
  repeatFirst := fun _ => none
  repeatOne := fun i => if i == 1 then some "nr" else none
  color := fun _ => none
  image := fun i => if i == 0 then some "img" else none
  attachment := fun _ => none
  position := fun _ _ => none
  size := fun _ _ => none
  box := fun _ => none
  isSlash := fun _ => false

private def exLayer2 : BgOracle where
  n := 1
  repeatFirst := fun _ => none
  repeatOne := fun _ => none
  color := fun _ => some "red"
  image := fun _ => none
  attachment := fun _ => none
  position := fun _ _ => none
  size := fun _ _ => none
  box := fun _ => none
  isSlash := fun _ => false

/-- `background: url(a) no-repeat, red`: two layers, the colour only in the last one. -/
example :
    (backgroundExpand [exLayer1, exLayer2] (fun n => "init:" ++ n)).map (·.2) = some "red" ∧
    ((backgroundExpand [exLayer1, exLayer2] (fun n => "init:" ++ n)).map fun r => r.1.lookup "background-image")
      = some (some ["img", "init:background-image"]) := by decide +kernel

end Wp.C07
