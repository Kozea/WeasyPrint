/-
C07 (part 4) — the rule-level funnel (`preprocess_stylesheet`): ignored rules leave no trace.
-/
import WpModel.Model.SheetC07

namespace Wp.C07
open Wp Wp.Sheet

/-- An ignored rule (parse error, selector that does not compile, unusable or failing `@import`, invalid media
query, unsupported page selector, invalid counter-style name, unknown at-rule) yields nothing and leaves the
`ignore_imports` state as it was. -/
theorem sheet_inert_rule (ig : Bool) (r : Rule) (h : inert r = true) : processRule ig r = ([], ig) := by
  cases r with
  | noContent | otherAt => simp [processRule]
  | style _ _ _ _ | counterStyle _ =>
    simp only [inert, Bool.not_eq_true'] at h
    simp [processRule, h]
  | importRule u f rs =>
    simp only [inert, Bool.or_eq_true, Bool.not_eq_true'] at h
    cases ig <;> rcases h with h | h <;> cases u <;> cases f <;> simp_all [processRule]
  | media q rs =>
    cases q with
    | none => simp [processRule]
    | some m => simp [inert] at h
  | page id n d ms =>
    cases n with
    | none => simp [processRule]
    | some k => simp [inert] at h
  | fontFace => simp [inert] at h

private theorem processRules_cons (ig : Bool) (r : Rule) (rest : List Rule) :
    processRules ig (r :: rest) =
      ((processRule ig r).1 ++ (processRules (processRule ig r).2 rest).1,
       (processRules (processRule ig r).2 rest).2) := by
  simp [processRules]

/-- **Deleting every ignored rule changes nothing**: same contributions, same final state — whatever the
other rules are, at any nesting level this function is applied to. -/
theorem sheet_inert_vanish (ig : Bool) (rules : List Rule) :
    processRules ig (rules.filter fun r => !inert r) = processRules ig rules := by
  induction rules generalizing ig with
  | nil => rfl
  | cons r rest ih =>
    by_cases h : inert r = true
    · simp only [List.filter, h, Bool.not_true]
      rw [processRules_cons, sheet_inert_rule ig r h, ih]
      simp
    · have h' : inert r = false := by simpa using h
      simp only [List.filter, h', Bool.not_false]
      rw [processRules_cons, processRules_cons, ih]

/-- An ignored rule anywhere in a sheet is as if absent. -/
theorem sheet_inert_insert (ig : Bool) (a b : List Rule) (r : Rule) (h : inert r = true) :
    processRules ig (a ++ r :: b) = processRules ig (a ++ b) := by
  induction a generalizing ig with
  | nil => rw [List.nil_append, List.nil_append, processRules_cons, sheet_inert_rule ig r h]; simp
  | cons x rest ih => simp only [List.cons_append, processRules_cons, ih]

/-- Contributions concatenate; the only thing that flows from a rule to the following ones is
`ignore_imports`. -/
theorem sheet_append (ig : Bool) (a b : List Rule) :
    processRules ig (a ++ b) =
      ((processRules ig a).1 ++ (processRules (processRules ig a).2 b).1,
       (processRules (processRules ig a).2 b).2) := by
  induction a generalizing ig with
  | nil => simp [processRules]
  | cons x rest ih => simp only [List.cons_append, processRules_cons, ih, List.append_assoc]

/-- `ignore_imports` is never reset … -/
theorem ignore_imports_sticky (r : Rule) : (processRule true r).2 = true := by
  cases r with
  | noContent | importRule _ _ _ | fontFace | otherAt => simp [processRule]
  | style id ok ps d => cases ok <;> cases d <;> simp [processRule]
  | media q rs => cases q with
    | none => simp [processRule]
    | some m => cases m <;> simp [processRule]
  | page id n d ms => cases n <;> simp [processRule]
  | counterStyle ok => cases ok <;> simp [processRule]

/-- … and once set, an `@import` contributes nothing (css-cascade: `@import` must precede all other rules). -/
theorem import_after_rules_ignored (u f : Bool) (rs : List Rule) :
    processRule true (.importRule u f rs) = ([], true) := by simp [processRule]

/-- **Neighbour independence at rule level**: what a rule other than `@import` contributes does not depend on
what came before it. -/
theorem rule_events_independent (ig ig' : Bool) (r : Rule) (h : ∀ u f rs, r ≠ .importRule u f rs) :
    (processRule ig r).1 = (processRule ig' r).1 := by
  cases r with
  | importRule u f rs => exact absurd rfl (h u f rs)
  | style id ok ps d => cases ok <;> cases d <;> simp [processRule]
  | media q rs => cases q with
    | none => simp [processRule]
    | some m => cases m <;> simp [processRule]
  | page id n d ms => cases n <;> simp [processRule]
  | counterStyle ok => cases ok <;> simp [processRule]
  | _ => simp [processRule]

/-- Non-vacuity: `p >{…}` (bad selector), `@foo{}` and a parse error around a valid rule and a valid @page. -/
example : (processRules false
    [.style 1 false [] true, .otherAt, .style 2 true [true, true] true, .noContent,
     .page 3 (some 1) true [("@top-left", true), ("@foo", false)], .importRule true true [.style 4 true [true] true]]).1
    = [.selector 2 0, .selector 2 1, .pageRule 3, .marginRule 3 "@top-left"] := by decide +kernel

end Wp.C07
