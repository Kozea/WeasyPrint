/-
C07 (part 6) — the descriptor funnel (`preprocess_descriptors`: @font-face, @counter-style) and `font-variant`.
-/
import WpModel.Model.DescriptorsC07
import WpModel.Lemmas.C07Generic

namespace Wp.C07
open Wp Wp.Decl

/-! ## Descriptors: invalid ones vanish, the rest of the block is as if they were absent -/

theorem descriptor_not_print_media_agrees :
    Gen.DescriptorsC07.notPrintMediaAst = Gen.DescriptorsC07.notPrintMedia := rfl

section Descriptors
variable {β : Type} (rule : String) (v : String → Desc → R (Option β))

/-- Every way in which a descriptor is dropped: not a declaration, `!important`, no value at all, not print
media, unknown for this at-rule, refused by its validator (`None` or `InvalidValues`). -/
theorem descriptor_dropped (d : Desc)
    (h : d.kind ≠ .declaration ∨ d.important = true ∨ d.noTokens = true ∨
      Gen.DescriptorsC07.notPrintMedia.contains d.name = true ∨
      (knownDescriptors rule).contains d.name = false ∨ v d.name d = .ok none ∨ v d.name d = .error .invalid) :
    preprocessDescriptorOne rule v d = .ok [] := by
  fun_cases preprocessDescriptorOne rule v d
  all_goals first | rfl | skip
  -- the validator kept a value, or raised something else: none of the seven ways
  all_goals simp_all

/-- **A descriptor without a value never reaches its validator** (`fix:` d71ddd0; regression of
`counter-style-system-empty-indexerror`): whatever the validator would do on the empty token list — `tokens[0]`
raised `IndexError` in `system` — the descriptor is dropped like an empty declaration. -/
theorem descriptor_empty_dropped (d : Desc) (h : d.noTokens = true) :
    preprocessDescriptorOne rule v d = .ok [] :=
  descriptor_dropped rule v d (Or.inr (Or.inr (Or.inl h)))

theorem descriptors_append (a b : List Desc) :
    preprocessDescriptors rule v (a ++ b) = (do
      let x ← preprocessDescriptors rule v a
      let y ← preprocessDescriptors rule v b
      pure (x ++ y)) :=
  concatLoop_append (preprocessDescriptorOne rule v) (preprocessDescriptors rule v) rfl (fun _ _ => rfl) a b

/-- **A dropped descriptor anywhere in an @font-face / @counter-style block is as if absent.** -/
theorem descriptor_invalid_vanish (a b : List Desc) (d : Desc) (h : preprocessDescriptorOne rule v d = .ok []) :
    preprocessDescriptors rule v (a ++ d :: b) = preprocessDescriptors rule v (a ++ b) :=
  concatLoop_insert (preprocessDescriptorOne rule v) (preprocessDescriptors rule v) rfl (fun _ _ => rfl) a b d h

/-- The funnel itself never fails: what leaves it is an exception of a descriptor validator other than
`InvalidValues` (runtime assumption; the two descriptor crashes that violated it were repaired by be7a07b and
d71ddd0), and it comes from a descriptor that has a value. -/
theorem descriptors_only_propagate (ds : List Desc) (f : Fail) (h : preprocessDescriptors rule v ds = .error f) :
    ∃ d ∈ ds, v d.name d = .error f ∧ f ≠ .invalid ∧ d.noTokens = false := by
  obtain ⟨d, hd, hp⟩ :=
    concatLoop_error (preprocessDescriptorOne rule v) (preprocessDescriptors rule v) rfl (fun _ _ => rfl) ds f h
  refine ⟨d, hd, ?_⟩
  revert hp
  fun_cases preprocessDescriptorOne rule v d <;> intro hp <;> cases hp
  next hnt _ _ hne hv => exact ⟨hv, hne, by simpa using hnt⟩

end Descriptors

/-- Non-vacuity: `font-family: x; SRC: url(a); src: url(b) !important; font-display: swap; src: url(c)`. -/
example :
    let v : String → Desc → R (Option String) := fun name d => .ok (some (name ++ toString d.id))
    let d (n : String) (imp : Bool) (i : Nat) : Desc := { kind := .declaration, name := n, important := imp, id := i }
    preprocessDescriptors "font-face" v
      [d "font-family" false 0, d "SRC" false 1, d "src" true 2, d "font-display" false 3, d "src" false 4]
      = .ok [("font_family", "font-family0"), ("src", "src4")] := by decide +kernel

/-- Regression (`@counter-style a { system: ; }`, repaired by d71ddd0, and `src: format("woff")`, repaired by
be7a07b inside the `src` validator, which returns `None`): with a validator that would crash on an empty value
the empty descriptor is dropped and the valid descriptors around it are kept; a validator answering `None` drops
its descriptor only. -/
example :
    let v : String → Desc → R (Option String) := fun name d =>
      if d.noTokens then .error .indexError else if name = "src" then .ok none else .ok (some "x")
    let d (n : String) (e : Bool) (i : Nat) : Desc :=
      { kind := .declaration, name := n, important := false, noTokens := e, id := i }
    preprocessDescriptors "counter-style" v [d "system" true 0, d "symbols" false 1] = .ok [("symbols", "x")] ∧
    preprocessDescriptors "font-face" v [d "font-family" false 0, d "src" false 1] = .ok [("font_family", "x")] := by
  decide +kernel

/-! ## font-variant -/

/-- `font-variant: normal` and `font-variant: none` set all six longhands (ligatures to none for `none`). -/
theorem font_variant_keyword {α : Type} (normalTok noneTok : α) (toks : List (VariantTok α)) :
    (fontVariantRaw (some "normal") normalTok noneTok toks).items =
      [("-alternates", [normalTok]), ("-caps", [normalTok]), ("-east-asian", [normalTok]), ("-numeric", [normalTok]),
       ("-position", [normalTok]), ("-ligatures", [normalTok])] ∧
    (fontVariantRaw (some "none") normalTok noneTok toks).items =
      [("-alternates", [normalTok]), ("-caps", [normalTok]), ("-east-asian", [normalTok]), ("-numeric", [normalTok]),
       ("-position", [normalTok]), ("-ligatures", [noneTok])] := by
  constructor <;> simp [fontVariantRaw] <;> decide

private theorem variantCollect_keys {α : Type} (toks : List (VariantTok α)) (acc out : List (String × List α))
    (h : variantCollect toks acc = some out) : out.map Prod.fst = acc.map Prod.fst := by
  fun_induction variantCollect toks acc with
  | case1 acc => cases h; rfl
  | case2 => cases h
  | case3 => cases h
  | case4 acc t rest hn f hf ih =>
    rw [ih h]
    simp only [List.map_map]
    apply List.map_congr_left
    intro p _
    obtain ⟨k, v⟩ := p
    simp only [Function.comp]
    split <;> rfl

/-- Whatever the tokens, `font-variant` yields each longhand suffix at most once, and only declared ones: the
generic wrapper can never refuse it for a duplicate nor trip its assertion. -/
theorem font_variant_names {α : Type} (kw : Option String) (normalTok noneTok : α) (toks : List (VariantTok α))
    (hkw : kw ≠ some "normal" ∧ kw ≠ some "none") :
    ((fontVariantRaw kw normalTok noneTok toks).items.map Prod.fst).Nodup ∧
    ∀ n ∈ (fontVariantRaw kw normalTok noneTok toks).items.map Prod.fst,
      n ∈ ["-alternates", "-caps", "-east-asian", "-ligatures", "-numeric", "-position"] := by
  have h1 : (kw == some "normal") = false := by simpa using hkw.1
  have h2 : (kw == some "none") = false := by simpa using hkw.2
  unfold fontVariantRaw
  simp only [h1, h2, Bool.or_self, Bool.false_eq_true, if_false]
  cases hc : variantCollect toks (variantFeatures.map fun f => (f, [])) with
  | none => simp
  | some features =>
    have hkeys : features.map Prod.fst = variantFeatures := by
      rw [variantCollect_keys toks _ features hc]; simp [List.map_map, Function.comp_def]
    -- the names yielded are a sublist of the six suffixes: what was said of a feature is kept, in table order
    have hsub : (((features.filter fun p => !p.2.isEmpty).map fun p => ("-" ++ p.1, p.2)).map Prod.fst).Sublist
        (variantFeatures.map ("-" ++ ·)) := by
      rw [← hkeys, List.map_map, List.map_map]
      exact List.filter_sublist.map _
    exact ⟨hsub.nodup (by decide), fun n hn => hsub.subset hn⟩

example : (fontVariantRaw (α := String) none "normal" "none"
    [⟨false, some "caps", "small-caps"⟩, ⟨false, some "numeric", "oldstyle-nums"⟩, ⟨false, some "numeric", "slashed-zero"⟩]).items
    = [("-caps", ["small-caps"]), ("-numeric", ["oldstyle-nums", "slashed-zero"])] := by decide +kernel

end Wp.C07
