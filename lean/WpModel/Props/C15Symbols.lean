/-
C15 — `list-style-type` values and `symbols()`: theorems about `Model/ListStyleType.lean` (the validator
`list_style_type` of css/validation/properties.py) and their link to `render_value` (`Model/Counters.lean`):
what the validator accepts as `symbols()` is an anonymous style with the symbols its system needs, so that
`render_value` never raises on it and never falls back to decimal for want of symbols.
-/
import WpModel.Model.ListStyleType
import WpModel.Props.C15
import WpModel.Gen.CounterStyles

namespace Wp.C15
open Wp.Counters Wp.ContentFns Wp.ListStyleType

theorem allStrings_length : ∀ (args : List ATok) (strs : List String), allStrings args = some strs →
    strs.length = args.length := by
  intro args strs h
  fun_induction allStrings args generalizing strs with
  | case1 => cases h; rfl
  | case2 v rest ih =>
    obtain ⟨r, hr, rfl⟩ := Option.map_eq_some_iff.mp h
    rw [List.length_cons, ih r hr, List.length_cons]
  | case3 => cases h

/-- **C15.symbols_validated_shape** — what the `symbols()` branch of `list_style_type` accepts: one of the five
systems (`symbolic` when none is written), at least one string, at least two for `alphabetic` and `numeric`. -/
theorem symbols_validated_shape (args : List ATok) (c : CName) (h : symbolsFn args = some c) :
    ∃ sys strs, c = .symbols sys strs ∧ sys ∈ allowedTypes ∧ 1 ≤ strs.length ∧
      ((sys = "alphabetic" ∨ sys = "numeric") → 2 ≤ strs.length) := by
  revert h
  fun_cases symbolsFn args <;> intro h <;> cases h
  next v rest hal hlen strs hs hcond =>
    have hl := allStrings_length rest strs hs
    refine ⟨v, strs, rfl, by simpa using hal, by omega, fun hv => ?_⟩
    have : (v = "alphabetic" || v = "numeric") = true := by
      rcases hv with hv | hv <;> simp [hv]
    simp [this] at hcond
    omega
  next strs hs =>
    have hl := allStrings_length _ strs hs
    refine ⟨"symbolic", strs, rfl, by decide, by simp at hl; omega, ?_⟩
    intro hv; rcases hv with hv | hv <;> simp at hv

/-- The anonymous style `resolve_counter` builds for a `symbols()` value. -/
def symbolsDesc (sys : String) (strs : List String) : Desc :=
  anonDesc ⟨false, sys, if sys = "fixed" then some 1 else none⟩ (strs.map .str) (.str " ")

theorem resolve_symbols (cs : Styles) (sys : String) (strs : List String) (prev : Option (List CName)) :
    resolveCounter cs (.symbols sys strs) prev = .ok (some (symbolsDesc sys strs), prev) := rfl

/-- **C15.symbols_style_step3_ok** — with the symbol counts the validator guarantees, step 3 of `render_value`
on the anonymous style yields an initial representation or asks for the fallback: it never raises and never
takes the "wrong number of symbols → decimal" exit. -/
theorem symbols_style_step3_ok (sys : String) (strs : List String) (hsys : sys ∈ allowedTypes)
    (h1 : 1 ≤ strs.length) (h2 : (sys = "alphabetic" ∨ sys = "numeric") → 2 ≤ strs.length) (v : Int) (b : Bool) :
    (∃ t, step3 (symbolsDesc sys strs) sys (if sys = "fixed" then some 1 else none) v b = .initial t) ∨
    (∃ w, step3 (symbolsDesc sys strs) sys (if sys = "fixed" then some 1 else none) v b = .fallback w) := by
  refine step3_symbols_ok (symbolsDesc sys strs) _ _ v b (by simpa [symbolsDesc, anonDesc] using h1)
    (fun h => by simpa [symbolsDesc, anonDesc] using h2 h) ?_
  simp only [allowedTypes, List.mem_cons, List.mem_nil_iff, or_false] at hsys
  rcases hsys with rfl | rfl | rfl | rfl | rfl <;> simp

/-- **C15.validated_symbols_render_value** — `render_value(v, symbols(…))` for a validated `symbols()` style, on
any style table: the text is the padded / signed initial representation of the anonymous style, or — outside the
automatic range of the system, or for a `fixed` style outside its window — exactly what `decimal` renders for the
same value (`render_value(v, 'decimal', previous_types=[the style])`).  No exception, no other exit. -/
theorem validated_symbols_render_value (cs : Styles) (args : List ATok) (c : CName)
    (h : ListStyleType.listStyleType (.func "symbols" args) = some c) (fuel : Nat) (v : Int) :
    ∃ sys strs, c = .symbols sys strs ∧
      ((∃ t, renderValue cs (fuel + 1) v c none =
          .ok (padNeg (symbolsDesc sys strs) (decide (v < 0) && usesNegative sys) t)) ∨
       renderValue cs (fuel + 1) v c none = renderValue cs fuel v (.named "decimal") (some [c])) := by
  simp only [ListStyleType.listStyleType, if_true] at h
  obtain ⟨sys, strs, rfl, hsys, h1, h2⟩ := symbols_validated_shape args c h
  refine ⟨sys, strs, rfl, ?_⟩
  rw [renderValue_resolved cs fuel v (.symbols sys strs) none none _ sys _ rfl rfl rfl]
  have hin : inRange (symbolsDesc sys strs) sys v = .ok ((autoRange sys).1.leInt v && (autoRange sys).2.geInt v) := by
    simp only [inRange, symbolsDesc, anonDesc]
  cases hr : (autoRange sys).1.leInt v && (autoRange sys).2.geInt v with
  | false => right; exact range_fallback _ v _ sys _ _ (hin.trans (by rw [hr]))
  | true =>
    -- step 3 works on `step3Value sys v`, not on `v`
    rcases symbols_style_step3_ok sys strs hsys h1 h2 (step3Value sys v) (decide (v < 0)) with ⟨t, ht⟩ | ⟨w, hw⟩
    · left; exact ⟨t, render_representable _ v _ sys _ _ t (hin.trans (by rw [hr])) ht⟩
    · right; exact unrepresentable_fallback _ v w _ sys _ _ (hin.trans (by rw [hr])) hw

section Examples
example : ListStyleType.listStyleType (.func "symbols" [.ident "numeric", .str "0", .str "1"]) =
    some (.symbols "numeric" ["0", "1"]) := by decide +kernel
example : ListStyleType.listStyleType (.func "symbols" [.str "*", .str "+"]) = some (.symbols "symbolic" ["*", "+"]) := by
  decide +kernel
example : ListStyleType.listStyleType (.func "symbols" [.ident "numeric", .str "0"]) = none := by decide +kernel
example : ListStyleType.listStyleType (.func "symbols" [.ident "fixed"]) = none := by decide +kernel
example : ListStyleType.listStyleType (.func "symbols" [.ident "cyclic", .str "a", .comma, .str "b"]) = none := by decide +kernel
example : ListStyleType.listStyleType (.func "SYMBOLS" [.str "a"]) = none := by decide +kernel
example : ListStyleType.listStyleType (.tok (.ident "Lower-Roman")) = some (.named "Lower-Roman") := by decide +kernel
-- binary numbering: 5 is "101"; a `fixed` style outside its window goes to decimal
example : renderValueTop Gen.uaCounterStyles 5 (.symbols "numeric" ["0", "1"]) = .ok "101" := by decide +kernel
example : renderValueTop Gen.uaCounterStyles 3 (.symbols "fixed" ["p", "q"]) = .ok "3" := by decide +kernel
end Examples

end Wp.C15
