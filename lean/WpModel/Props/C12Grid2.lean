/-
C12 — grid: `_intersect`, `_get_placement` on numeric lines and by line names and areas (`placement_names`),
auto-placement (step 1.4) never overlaps and takes the first free position, the box of an item inside its area
(`item_in_area`), the alignment of the tracks in the container (step 3.5).
-/
import WpModel.Model.Grid
import WpModel.Lemmas.Basic.Except
import WpModel.Lemmas.Basic.Rat

namespace Wp.C12
open Wp Wp.Grid

/-! ## Grid: `_intersect` -/

/-- `intersect`: `_intersect` is the overlap test of the half-open intervals `[p₁, p₁+s₁)`, `[p₂, p₂+s₂)`. -/
theorem intersect_iff (p1 s1 p2 s2 : Int) :
    intersect p1 s1 p2 s2 = true ↔ (p1 < p2 + s2 ∧ p2 < p1 + s1) := by
  simp [intersect]

/-- … i.e. for non-empty intervals, the two intervals share a track. -/
theorem intersect_iff_common {p1 s1 p2 s2 : Int} (h1 : 0 < s1) (h2 : 0 < s2) :
    intersect p1 s1 p2 s2 = true ↔ ∃ t : Int, (p1 ≤ t ∧ t < p1 + s1) ∧ (p2 ≤ t ∧ t < p2 + s2) := by
  rw [intersect_iff]
  constructor
  · intro ⟨ha, hb⟩
    exact ⟨max p1 p2, by omega, by omega⟩
  · intro ⟨t, ⟨a, b⟩, ⟨c, d⟩⟩
    omega

theorem intersect_comm (p1 s1 p2 s2 : Int) : intersect p1 s1 p2 s2 = intersect p2 s2 p1 s1 := by
  simp [intersect, Bool.and_comm]

theorem areaIntersects_false_iff (a : Area) (positions : List Area) :
    areaIntersects a positions = false ↔
      ∀ b ∈ positions, ¬ (intersect a.1 a.2.2.1 b.1 b.2.2.1 = true ∧ intersect a.2.1 a.2.2.2 b.2.1 b.2.2.2 = true) := by
  unfold areaIntersects intersectWithChildren
  rw [Bool.eq_false_iff]
  simp only [ne_eq, List.any_eq_true, not_exists, not_and, Bool.and_eq_true]

/-! ## Grid: `_get_placement` on numeric lines -/

private theorem getLine_numeric (n : Int) (lines : List (List String)) (side : String) :
    getLine false (some n) none lines side = .ok { span := false, number := some n, ident := none, coord := some (n - 1) } := by
  simp [getLine, pure, Except.pure, bind, Except.bind]

private theorem getLine_span (n : Option Int) (lines : List (List String)) (side : String) :
    getLine true n none lines side = .ok { span := true, number := n, ident := none, coord := none } := by
  cases n <;> simp [getLine, pure, Except.pure, bind, Except.bind]

/-- the last step of `_get_placement`: a negative size is turned round, a zero size becomes 1 -/
theorem placement_normalise (size coord : Int) :
    ((if size < 0 then (-size, coord - -size) else (size, coord)).snd,
      if (if size < 0 then (-size, coord - -size) else (size, coord)).fst = 0 then 1
      else (if size < 0 then (-size, coord - -size) else (size, coord)).fst) =
    if 0 < size then (coord, size) else if size = 0 then (coord, 1) else (coord + size, -size) := by
  by_cases h1 : size < 0
  · have h2 : ¬ 0 < size := by omega
    have h3 : ¬ size = 0 := by omega
    have h4 : ¬ -size = 0 := by omega
    simp only [h1, h2, h3, h4, if_true, if_false, Int.sub_neg]
  · by_cases h3 : size = 0
    · simp [h3]
    · have h2 : 0 < size := by omega
      simp only [h1, h2, h3, if_true, if_false]

/-- `_get_placement` on two lines that `_get_line` resolves to the 0-based lines `c` and `ce` (numbers, names, `n name`
and area edges alike): the size is `ce − c`, turned round when the end line comes first, one track when they coincide. -/
theorem placement_of_lines {n n' : Option Int} {id id' : Option String} {lines : List (List String)}
    {ns ns' : Option Int} {is is' : Option String} {c ce : Int}
    (hs : getLine false n id lines "start" = .ok { span := false, number := ns, ident := is, coord := some c })
    (he : getLine false n' id' lines "end" = .ok { span := false, number := ns', ident := is', coord := some ce }) :
    getPlacement (.mk false n id) (.mk false n' id') lines =
      .ok (some (if 0 < ce - c then (c, ce - c) else if ce - c = 0 then (c, 1) else (c + (ce - c), -(ce - c)))) := by
  simp only [getPlacement, isAutoOrSpan, hs, he, bind, Except.bind, pure, Except.pure, Bool.false_and,
    Bool.false_eq_true, if_false, Option.isNone_some, beq_iff_eq, placement_normalise]

theorem placement_line_line (a b : Int) (lines : List (List String)) :
    getPlacement (lineNo a) (lineNo b) lines =
      .ok (some (if a < b then (a - 1, b - a) else if a = b then (a - 1, 1) else (b - 1, a - b))) := by
  rw [lineNo, lineNo, placement_of_lines (getLine_numeric a lines _) (getLine_numeric b lines _),
    show b - 1 - (a - 1) = b - a by omega]
  by_cases h1 : a < b
  · rw [if_pos (by omega), if_pos h1]
  · rw [if_neg (by omega), if_neg h1]
    by_cases h2 : a = b
    · rw [if_pos (by omega), if_pos h2]
    · rw [if_neg (by omega), if_neg h2]; congr 3 <;> omega

theorem placement_line_auto (a : Int) (lines : List (List String)) :
    getPlacement (lineNo a) .auto lines = .ok (some (a - 1, 1)) := by
  simp [getPlacement, lineNo, isAutoOrSpan, getLine_numeric, bind, Except.bind, pure, Except.pure]

theorem placement_line_span (a n : Int) (hn : 0 < n) (lines : List (List String)) :
    getPlacement (lineNo a) (.mk true (some n) none) lines = .ok (some (a - 1, n)) := by
  have h1 : ¬ (n = 0) := by omega
  simp only [getPlacement, lineNo, isAutoOrSpan, getLine_numeric, getLine_span, bind, Except.bind, pure, Except.pure,
    Bool.false_and, Bool.false_eq_true, if_false, if_true, Option.isNone_some, numOr1, beq_iff_eq, h1, placement_normalise, hn]

theorem placement_span_line (n b : Int) (hn : 0 < n) (lines : List (List String)) :
    getPlacement (.mk true (some n) none) (lineNo b) lines = .ok (some (b - 1 - n, n)) := by
  have h1 : ¬ (n = 0) := by omega
  simp only [getPlacement, lineNo, isAutoOrSpan, getLine_numeric, getLine_span, bind, Except.bind, pure, Except.pure,
    Bool.true_and, Bool.false_eq_true, if_false, if_true, Option.isNone_none, numOr1, beq_iff_eq, h1, placement_normalise]
  rw [if_pos (by omega)]; congr 3; omega

theorem placement_auto_line (b : Int) (lines : List (List String)) :
    getPlacement .auto (lineNo b) lines = .ok (some (b - 2, 1)) := by
  simp only [getPlacement, lineNo, isAutoOrSpan, getLine_numeric, bind, Except.bind, pure, Except.pure,
    Bool.true_and, Bool.false_eq_true, if_false, if_true, Option.isNone_none, beq_iff_eq, placement_normalise]
  rw [if_pos (by omega)]; congr 3 <;> omega

theorem placement_none (s e : Place) (hs : isAutoOrSpan s = true) (he : isAutoOrSpan e = true)
    (lines : List (List String)) : getPlacement s e lines = .ok none := by
  simp [getPlacement, hs, he, pure, Except.pure]

/-- `placement_numeric`, partial: `_get_placement` takes every number `a` as the 0-based line `a - 1`, which is right
for positive numbers only (css-grid counts `-k` from the end of the explicit grid: `Witness.C12.negative_line_numbers`).
Equations 1, 2 and 5 hold of all integers, 3 and 4 of every positive span `n` (`hn`); `ha` serves the last conjunct, `_hb`
nothing. -/
theorem placement_numeric_partial (a b n : Int) (ha : 0 < a) (_hb : 0 < b) (hn : 0 < n)
    (lines : List (List String)) :
    getPlacement (lineNo a) (lineNo b) lines =
      .ok (some (if a < b then (a - 1, b - a) else if a = b then (a - 1, 1) else (b - 1, a - b))) ∧
    getPlacement (lineNo a) .auto lines = .ok (some (a - 1, 1)) ∧
    getPlacement (lineNo a) (.mk true (some n) none) lines = .ok (some (a - 1, n)) ∧
    getPlacement (.mk true (some n) none) (lineNo b) lines = .ok (some (b - 1 - n, n)) ∧
    getPlacement .auto (lineNo b) lines = .ok (some (b - 2, 1)) ∧
    (0 ≤ a - 1 ∧ 1 ≤ (if a < b then b - a else if a = b then 1 else a - b)) :=
  ⟨placement_line_line a b lines, placement_line_auto a lines, placement_line_span a n hn lines,
   placement_span_line n b hn lines, placement_auto_line b lines, by omega, by
    split
    · omega
    · split <;> omega⟩

/-! ## Grid: auto-placement (step 1.4) never overlaps -/

private theorem scanSecond_free {ffr : Bool} {fs fe ss se : Place} {fl sl : List (List String)} {is2 : Int}
    {positions : List Area} :
    ∀ {l : List Int} {fi : Int} {a fsz fi'},
      scanSecond ffr fs fe ss se fl sl is2 positions l fi = .ok (some (a, fsz), fi') →
      areaIntersects a positions = false := by
  intro l
  induction l with
  | nil => intro fi a fsz fi' h; cases h
  | cons s rest ih =>
    intro fi a fsz fi' h
    obtain ⟨⟨fi1, fsz1⟩, h1, h⟩ := Except.bind_eq_ok h
    obtain ⟨⟨si, ssz⟩, h2, h⟩ := Except.bind_eq_ok h
    dsimp only at h
    split at h
    · exact ih h
    · rename_i hc
      cases h
      simp only [Bool.or_eq_true, not_or, Bool.not_eq_true] at hc
      exact hc.1

/-- The `while True` search of the free branch only ever returns a free place. -/
theorem freeLoop_free {ffr : Bool} {fs fe ss se : Place} {fl sl : List (List String)} {is1 is2 : Int}
    {positions : List Area} :
    ∀ {fuel : Nat} {cf cs if2 : Int} {a fsz cf' cs' if2' fi},
      freeLoop ffr fs fe ss se fl sl is1 is2 positions fuel cf cs if2 = .ok (a, fsz, cf', cs', if2', fi) →
      areaIntersects a positions = false := by
  intro fuel
  induction fuel with
  | zero => intro cf cs if2 a fsz cf' cs' if2' fi h; cases h
  | succ n ih =>
    intro cf cs if2 a fsz cf' cs' if2' fi h
    obtain ⟨⟨found, fi1⟩, h1, h⟩ := Except.bind_eq_ok h
    cases found with
    | none => exact ih h
    | some p =>
      cases h
      exact scanSecond_free h1

/-- A `for k in count(k0)` loop with a bound: `loop (n + 1) k` computes the candidate of `k`, goes on from `k + 1` when
it is rejected and returns it otherwise.  When such a loop returns, it returns the first candidate, from where it
started, that is not rejected.  Stated for any function with that unfolding equation (`denseLocked`, `sparseLocked`). -/
theorem search_first {ε α β : Type} (cand : Int → Except ε α) (rej : Int → α → Prop) [∀ k c, Decidable (rej k c)]
    (out : Int → α → β) (loop : Nat → Int → Except ε β)
    (h0 : ∀ k b, loop 0 k ≠ .ok b)
    (hs : ∀ n k, loop (n + 1) k = cand k >>= fun c => if rej k c then loop n (k + 1) else pure (out k c)) :
    ∀ (fuel : Nat) (k : Int) (b : β), loop fuel k = .ok b →
      ∃ k' c, k ≤ k' ∧ cand k' = .ok c ∧ ¬ rej k' c ∧ b = out k' c ∧
        ∀ j, k ≤ j → j < k' → ∀ p, cand j = .ok p → rej j p := by
  intro fuel
  induction fuel with
  | zero => intro k b h; exact absurd h (h0 k b)
  | succ n ih =>
    intro k b h
    rw [hs] at h
    obtain ⟨c, hc, h⟩ := Except.bind_eq_ok h
    by_cases hr : rej k c
    · rw [if_pos hr] at h
      obtain ⟨k', c', hk, hc', hnr, hb, hall⟩ := ih _ _ h
      refine ⟨k', c', by omega, hc', hnr, hb, fun j hj1 hj2 p hp => ?_⟩
      by_cases hjk : j = k
      · subst hjk; rw [hc] at hp; cases hp; exact hr
      · exact hall j (by omega) hj2 p hp
    · rw [if_neg hr] at h
      cases h
      exact ⟨k, c, Int.le_refl _, hc, hr, rfl, fun j hj1 hj2 => by omega⟩

/-- two tests that lead to the same branch are one test -/
theorem ite_or {γ} (a b : Prop) [Decidable a] [Decidable b] (x y : γ) :
    (if a then x else if b then x else y) = if a ∨ b then x else y := by
  by_cases ha : a <;> by_cases hb : b <;> simp [ha, hb]

/-- dense packing, second axis given (step 1.4): the loop returns the *first* candidate, counted from where the search
starts, that is not before the start of the grid and overlaps nothing placed before: every earlier candidate was
rejected for one of these two reasons. -/
theorem denseLocked_first {ffr : Bool} {fs fe : Place} {fl : List (List String)} {si ssz cfirst : Int}
    {positions : List Area} :
    ∀ {fuel : Nat} {k fi fsz : Int},
      denseLocked ffr fs fe fl si ssz cfirst positions fuel k = .ok (fi, fsz) →
      ∃ k', k ≤ k' ∧ placeAt fs fe fl k' = .ok (fi, fsz) ∧ cfirst ≤ fi ∧
        areaIntersects (mkArea ffr fi fsz si ssz) positions = false ∧
        ∀ j, k ≤ j → j < k' → ∀ p, placeAt fs fe fl j = .ok p →
          p.1 < cfirst ∨ areaIntersects (mkArea ffr p.1 p.2 si ssz) positions = true := by
  intro fuel k fi fsz h
  obtain ⟨k', c, hk, hc, hnr, hb, hall⟩ := search_first (placeAt fs fe fl)
    (fun _ p => p.1 < cfirst ∨ areaIntersects (mkArea ffr p.1 p.2 si ssz) positions = true) (fun _ p => p)
    (denseLocked ffr fs fe fl si ssz cfirst positions) (fun _ _ h => nomatch h)
    (fun n k => by rw [denseLocked]; simp only [ite_or]) fuel k _ h
  cases hb
  have hnr := not_or.mp hnr
  exact ⟨k', hk, hc, by omega, by simpa using hnr.2, hall⟩

/-- sparse packing, second axis given: the cursor only moves forward, and it stops at the *first* position, at or after
where it was, whose candidate is not before the cursor and overlaps nothing placed before. -/
theorem sparseLocked_spec {ffr : Bool} {fs fe : Place} {fl : List (List String)} {si ssz : Int}
    {positions : List Area} :
    ∀ {fuel : Nat} {cf cf' fi fsz : Int},
      sparseLocked ffr fs fe fl si ssz positions fuel cf = .ok (cf', fi, fsz) →
      cf ≤ cf' ∧ cf' ≤ fi ∧ areaIntersects (mkArea ffr fi fsz si ssz) positions = false ∧
        placeAt fs fe fl cf' = .ok (fi, fsz) ∧
        ∀ j, cf ≤ j → j < cf' → ∀ p, placeAt fs fe fl j = .ok p →
          p.1 < j ∨ areaIntersects (mkArea ffr p.1 p.2 si ssz) positions = true := by
  intro fuel cf cf' fi fsz h
  obtain ⟨k', c, hk, hc, hnr, hb, hall⟩ := search_first (placeAt fs fe fl)
    (fun j p => p.1 < j ∨ areaIntersects (mkArea ffr p.1 p.2 si ssz) positions = true) (fun j p => (j, p.1, p.2))
    (sparseLocked ffr fs fe fl si ssz positions) (fun _ _ h => nomatch h)
    (fun n k => by rw [sparseLocked]; simp only [ite_or]) fuel cf _ h
  cases hb
  have hnr := not_or.mp hnr
  exact ⟨hk, by omega, by simpa using hnr.2, hc, hall⟩

/-- sparse packing, second axis given: the cursor never moves backwards (`cf ≤ cf'`) and the item is placed at or
after the cursor (`cf' ≤ fi`): css-grid 8.5 "increment the cursor's row position until …". Holds since repair
cd18f00 (the first axis is resolved from the cursor, not from a stale local). -/
theorem sparseLocked_cursor (ffr : Bool) (fs fe : Place) (fl : List (List String)) (si ssz : Int)
    (positions : List Area) :
    ∀ (fuel : Nat) (cf : Int) (cf' fi fsz : Int),
      sparseLocked ffr fs fe fl si ssz positions fuel cf = .ok (cf', fi, fsz) → cf ≤ cf' ∧ cf' ≤ fi :=
  fun _ _ _ _ _ h => let ⟨h1, h2, _⟩ := sparseLocked_spec h; ⟨h1, h2⟩

/-- Step 1.4 for one item appends exactly one area, which intersects no area placed before. -/
theorem step14_disjoint (ctx : PCtx) (st st' : PState) (it : GItem)
    (h : step14 ctx st it = .ok st') :
    ∃ a, st'.positions = st.positions ++ [(it.id, a)] ∧ areaIntersects a st.areas = false := by
  obtain ⟨sp, _, h⟩ := Except.bind_eq_ok h
  cases hd : ctx.dense <;> cases sp <;> simp only [hd] at h
  · obtain ⟨⟨a, fsz, cf, cs, if2, fi⟩, h1, h2⟩ := Except.bind_eq_ok h
    cases h2
    exact ⟨_, rfl, freeLoop_free h1⟩
  · obtain ⟨⟨cf, fi, fsz⟩, h1, h2⟩ := Except.bind_eq_ok h
    cases h2
    exact ⟨_, rfl, (sparseLocked_spec h1).2.2.1⟩
  · obtain ⟨⟨a, fsz, cf, cs, if2, fi⟩, h1, h2⟩ := Except.bind_eq_ok h
    cases h2
    exact ⟨_, rfl, freeLoop_free h1⟩
  · obtain ⟨⟨fi, fsz⟩, h1, h2⟩ := Except.bind_eq_ok h
    cases h2
    obtain ⟨_, _, _, _, hfree, _⟩ := denseLocked_first h1
    exact ⟨_, rfl, hfree⟩

private theorem mem_rangeInt {a b t : Int} : t ∈ rangeInt a b ↔ a ≤ t ∧ t < b := by
  unfold rangeInt
  simp only [List.mem_map, List.mem_range]
  constructor
  · rintro ⟨k, hk, rfl⟩; omega
  · intro ⟨h1, h2⟩
    exact ⟨(t - a).toNat, by omega, by omega⟩

/-- the tracks of one positioned item that count as occupied for the locked first-axis placement `fp` -/
def occupiedBy (fp : Int × Int) (ffr : Bool) (a : Area) : List Int :=
  if ffr then (if intersect a.2.1 a.2.2.2 fp.1 fp.2 then rangeInt a.1 (a.1 + a.2.2.1) else [])
  else (if intersect a.1 a.2.2.1 fp.1 fp.2 then rangeInt a.2.1 (a.2.1 + a.2.2.2) else [])

private theorem occupied_foldl (fp : Int × Int) (ffr : Bool) (positions : List Area) (acc : List Int) :
    positions.foldl (fun acc (x, y, w, h) =>
      if ffr then
        if intersect y h fp.1 fp.2 then acc ++ rangeInt x (x + w) else acc
      else
        if intersect x w fp.1 fp.2 then acc ++ rangeInt y (y + h) else acc) acc =
    acc ++ (positions.map (occupiedBy fp ffr)).flatten := by
  induction positions generalizing acc with
  | nil => simp
  | cons a rest ih =>
    obtain ⟨x, y, w, h⟩ := a
    simp only [List.foldl_cons, List.map_cons, List.flatten_cons]
    rw [ih]
    cases ffr <;> simp only [occupiedBy, Bool.false_eq_true, if_false, if_true] <;> split <;> simp

private theorem mem_occupied (fp : Int × Int) (ffr : Bool) (positions : List Area) (t : Int) :
    t ∈ occupiedTracks fp positions ffr ↔ ∃ a ∈ positions, t ∈ occupiedBy fp ffr a := by
  unfold occupiedTracks
  rw [occupied_foldl]
  simp only [List.nil_append, List.mem_flatten, List.mem_map]
  constructor
  · rintro ⟨l, ⟨a, ha, rfl⟩, ht⟩; exact ⟨a, ha, ht⟩
  · rintro ⟨a, ha, ht⟩; exact ⟨_, ⟨a, ha, rfl⟩, ht⟩

private theorem denseSecond_free (ss se : Place) (lines : List (List String)) (occupied : List Int) :
    ∀ (fuel : Nat) (track : Int) (p : Int × Int),
      denseSecond ss se lines occupied fuel track = .ok p →
      ∀ t, p.1 ≤ t → t < p.1 + p.2 → t ∉ occupied := by
  intro fuel track p h
  -- a candidate whose tracks hold nothing occupied
  have final : ∀ q : Int × Int, ¬ (rangeInt q.1 (q.1 + q.2)).any occupied.contains = true →
      ∀ t, q.1 ≤ t → t < q.1 + q.2 → t ∉ occupied := fun q hany t h1 h2 hmem =>
    hany (List.any_eq_true.mpr ⟨t, mem_rangeInt.mpr ⟨h1, h2⟩, by simpa using hmem⟩)
  fun_induction denseSecond ss se lines occupied fuel track with
  | case1 => simp [throw, throwThe, MonadExceptOf.throw] at h
  | case2 fuel track hocc ih => exact ih h
  | case3 fuel track hocc k hss ih =>
    obtain ⟨q, _, h⟩ := Except.bind_eq_ok h
    simp only [k] at h
    split at h
    · exact ih h
    · rename_i hany; cases h; exact final _ hany
  | case4 fuel track hocc k hss ih =>
    obtain ⟨q, _, h⟩ := Except.bind_eq_ok h
    simp only [k] at h
    split at h
    · exact ih h
    · rename_i hany; cases h; exact final _ hany

/-- `autoplace_disjoint`, step 1.2 with dense packing: an item locked to given rows (resp. columns)
is put on tracks that no item overlapping those rows occupies: its area overlaps no earlier area
(all areas having positive sizes). -/
theorem dense_second_disjoint (fp : Int × Int) (ss se : Place) (lines : List (List String))
    (positions : List Area) (ffr : Bool) (p : Int × Int)
    (h : getSecondPlacement fp ss se lines positions ffr true = .ok p)
    (hpos : ∀ a ∈ positions, 0 < a.2.2.1 ∧ 0 < a.2.2.2) (hp : 0 < p.2) :
    areaIntersects (mkArea ffr fp.1 fp.2 p.1 p.2) positions = false := by
  unfold getSecondPlacement at h
  simp only [if_true] at h
  have hfree := denseSecond_free ss se lines _ _ _ _ h
  rw [areaIntersects_false_iff]
  intro a ha ⟨hx, hy⟩
  obtain ⟨x, y, w, hh⟩ := a
  have hsz := hpos _ ha
  simp only at hsz
  cases ffr with
  | true =>
    simp only [mkArea, if_true] at hx hy
    obtain ⟨t, ⟨t1, t2⟩, ⟨t3, t4⟩⟩ := (intersect_iff_common hp hsz.1).mp hx
    apply hfree t t1 t2
    rw [mem_occupied]
    refine ⟨(x, y, w, hh), ha, ?_⟩
    have hy' : intersect y hh fp.1 fp.2 = true := by rw [intersect_comm]; exact hy
    simp only [occupiedBy, if_true, hy']
    exact mem_rangeInt.mpr ⟨t3, t4⟩
  | false =>
    simp only [mkArea, Bool.false_eq_true, if_false] at hx hy
    obtain ⟨t, ⟨t1, t2⟩, ⟨t3, t4⟩⟩ := (intersect_iff_common hp hsz.2).mp hy
    apply hfree t t1 t2
    rw [mem_occupied]
    refine ⟨(x, y, w, hh), ha, ?_⟩
    have hx' : intersect x w fp.1 fp.2 = true := by rw [intersect_comm]; exact hx
    simp only [occupiedBy, Bool.false_eq_true, if_false, hx', if_true]
    exact mem_rangeInt.mpr ⟨t3, t4⟩

/-- every area of `added` is disjoint from all areas before it (those of `base` and the earlier ones of `added`) -/
def DisjointFromEarlier (base : List Area) : List Area → Prop
  | [] => True
  | a :: rest => areaIntersects a base = false ∧ DisjointFromEarlier (base ++ [a]) rest

/-- Step 1.4 (`remaining.foldlM (step14 ctx)`): every area it appends meets none of the areas before it.  Step 1.2 dense is
`dense_second_disjoint`; step 1.2 sparse and `place` as a whole have no theorem. -/
theorem autoplace_disjoint (ctx : PCtx) :
    ∀ (remaining : List GItem) (st st' : PState),
      remaining.foldlM (step14 ctx) st = .ok st' →
      ∃ added : List (Nat × Area),
        st'.positions = st.positions ++ added ∧
        added.map (·.1) = remaining.map (·.id) ∧
        DisjointFromEarlier st.areas (added.map (·.2)) := by
  intro remaining
  induction remaining with
  | nil =>
    intro st st' h
    simp only [List.foldlM, pure, Except.pure] at h
    cases h
    exact ⟨[], by simp, rfl, trivial⟩
  | cons it rest ih =>
    intro st st' h
    obtain ⟨st1, h1, h⟩ := Except.bind_eq_ok h
    obtain ⟨a, hpos, hdis⟩ := step14_disjoint ctx st st1 it h1
    obtain ⟨added, hpos', hids, hd⟩ := ih st1 st' h
    refine ⟨(it.id, a) :: added, ?_, ?_, ?_⟩
    · rw [hpos', hpos]; simp
    · simp [hids]
    · simp only [List.map_cons, DisjointFromEarlier]
      refine ⟨hdis, ?_⟩
      have : st1.areas = st.areas ++ [a] := by simp [PState.areas, hpos]
      rw [← this]; exact hd

open Wp.Grid in
example : intersect 0 2 1 3 = true ∧ intersect 0 1 1 1 = false := by decide

open Wp.Grid in
example : getPlacement (lineNo 2) (lineNo 4) [[], [], [], []] = .ok (some (1, 2)) ∧
    getPlacement (lineNo 4) (lineNo 2) [[], [], [], []] = .ok (some (1, 2)) ∧
    getPlacement (.mk true (some 2) none) (lineNo 4) [[]] = .ok (some (1, 2)) := by
  refine ⟨?_, ?_, ?_⟩
  · rw [placement_line_line]; rfl
  · rw [placement_line_line]; rfl
  · rw [placement_span_line 2 4 (by decide)]; rfl

open Wp.Grid in
/-- three automatic items on a grid of two columns where cell (0, 0) is taken: step 1.4 succeeds
(so the premise of `autoplace_disjoint` is satisfiable) and fills (1,0), (0,1), (1,1). -/
example :
    let ctx : PCtx := PCtx.mk true false false [[], []] [[], [], []] 0 0 2
    let st : PState := PState.mk [(9, (0, 0, 1, 1))] 0 0 1
    let it (n : Nat) : GItem := { (default : GItem) with id := n }
    ([it 0, it 1, it 2].foldlM (step14 ctx) st).toOption.map (·.positions) =
      some [(9, (0, 0, 1, 1)), (0, (1, 0, 1, 1)), (1, (0, 1, 1, 1)), (2, (1, 1, 1, 1))] := by
  decide +kernel

open Wp.Grid in
-- dense_second_disjoint: an item locked to row 0 of a grid whose cells (0,0) and (1,0) are taken goes to column 2
example : (getSecondPlacement (0, 1) .auto .auto [[], [], []] [(0, 0, 1, 1), (1, 0, 1, 1)] true true).toOption =
    some (2, 1) := by decide +kernel

open Wp.Grid in
-- sparseLocked_cursor: an item locked to column 0 whose row 0 is taken: the cursor goes from 0 to 1, the item to row 1
example : (sparseLocked true .auto .auto [[], [], []] 0 1 [(0, 0, 1, 1)] countBound 0).toOption = some (1, 1, 1) := by
  decide +kernel

/-! ## `placement_names` -/

/-- `findName` returns the index (counted from `k`) of the first line that holds the name. -/
theorem findName_spec (name : String) :
    ∀ (lines : List (List String)) (k i : Nat), findName name lines k = some i →
      k ≤ i ∧ (∃ l, lines[i - k]? = some l ∧ l.contains name = true) ∧
      ∀ j, j < i - k → ∀ l, lines[j]? = some l → l.contains name = false := by
  intro lines k i h
  fun_induction findName name lines k with
  | case1 => cases h
  | case2 l rest k hc => cases h; exact ⟨Nat.le_refl _, ⟨l, by simp, hc⟩, fun j hj => by omega⟩
  | case3 l rest k hc ih =>
    obtain ⟨h1, ⟨l', hl', hc'⟩, h3⟩ := ih h
    refine ⟨by omega, ⟨l', ?_, hc'⟩, fun j hj l'' hl'' => ?_⟩
    · rw [show i - k = (i - (k + 1)) + 1 by omega]; simpa using hl'
    · cases j with
      | zero => simp at hl''; subst hl''; simpa using hc
      | succ j' => simp at hl''; exact h3 j' (by omega) l'' hl''

/-- index (counted from `k`) of the `n`-th line (`n ≥ 1`) that holds `name` -/
def nthName (name : String) : List (List String) → Nat → Nat → Option Nat
  | [], _, _ => none
  | l :: rest, k, n =>
    if l.contains name then (if n ≤ 1 then some k else nthName name rest (k + 1) (n - 1))
    else nthName name rest (k + 1) n

private theorem nthName_one (name : String) (lines : List (List String)) (k : Nat) :
    nthName name lines k 1 = findName name lines k := by
  induction lines generalizing k with
  | nil => rfl
  | cons l rest ih => simp only [nthName, findName, Nat.le_refl, if_true, ih]

private theorem natCast_beq_zero {n : Nat} (hn : 1 ≤ n) : ((n : Int) == 0) = false := by
  have : (n : Int) ≠ 0 := by omega
  simpa using this

private theorem natCast_pred {n : Nat} (h : ¬ n ≤ 1) :
    ((n : Int) - 1 == 0) = false ∧ (n : Int) - 1 = ((n - 1 : Nat) : Int) := by
  have : (n : Int) - 1 ≠ 0 := by omega
  exact ⟨by simpa using this, by omega⟩

private theorem scanNamed_nth (id : String) :
    ∀ (lines : List (List String)) (k n i : Nat) (last : Option Nat), 1 ≤ n → nthName id lines k n = some i →
      scanNamed id 1 lines k (n : Int) last = (some i, 0, true) := by
  intro lines k n i last hn h
  fun_induction nthName id lines k n generalizing last with
  | case1 => cases h
  | case2 l rest k n hc h1 =>
    obtain rfl : n = 1 := by omega
    cases h
    simp only [scanNamed, hc, if_true]
    simp
  | case3 l rest k n hc h1 ih =>
    obtain ⟨hne, hcast⟩ := natCast_pred h1
    simp only [scanNamed, hc, if_true, hne, Bool.false_eq_true, if_false]
    rw [hcast]
    exact ih _ (by omega) h
  | case4 l rest k n hc ih =>
    simp only [scanNamed, hc, Bool.false_eq_true, if_false, natCast_beq_zero hn]
    exact ih _ hn h

/-- `placement_names`, area edge: `grid-column-start: a` where a line is called `a-start`
resolves to the first such line (0-based). -/
theorem getLine_area_edge (id side : String) (lines : List (List String)) (i : Nat) (hne : id.isEmpty = false)
    (h : findName (id ++ "-" ++ side) lines 0 = some i) :
    getLine false none (some id) lines side =
      .ok { span := false, number := none, ident := some id, coord := some (i : Int) } := by
  simp [getLine, hne, h, pure, Except.pure, bind, Except.bind]

/-- `placement_names`, plain name: `grid-column-start: foo` (no `foo-start` line) or `1 foo`
resolves to the first line called `foo`. -/
theorem getLine_first_named (id side : String) (lines : List (List String)) (i : Nat) (hne : id.isEmpty = false)
    (hnone : findName (id ++ "-" ++ side) lines 0 = none) (h : findName id lines 0 = some i) :
    (getLine false none (some id) lines side).toOption.map (·.coord) = some (some (i : Int)) ∧
    (getLine false (some 1) (some id) lines side).toOption.map (·.coord) = some (some (i : Int)) := by
  have hs : scanNamed id 1 lines 0 1 none = (some i, 0, true) :=
    scanNamed_nth id lines 0 1 i none (Nat.le_refl 1) (by rw [nthName_one]; exact h)
  constructor
  · simp [getLine, hne, hnone, hs, pure, Except.pure, bind, Except.bind, Except.toOption]
  · simp [getLine, hs, pure, Except.pure, bind, Except.bind, Except.toOption]

/-- `placement_names`, `<integer> <name>` (full strength since repair c8a4ac7): `grid-column-start: n foo` with a
positive `n` resolves to the `n`-th line called `foo` (0-based index `i`), whatever the other names on the lines. -/
theorem getLine_nth_named (id side : String) (lines : List (List String)) (n i : Nat) (hn : 1 ≤ n)
    (h : nthName id lines 0 n = some i) :
    (getLine false (some (n : Int)) (some id) lines side).toOption.map (·.coord) = some (some (i : Int)) := by
  have hs := scanNamed_nth id lines 0 n i none hn h
  have hpos : 0 < n := hn
  simp [getLine, hpos, hs, pure, Except.pure, bind, Except.bind, Except.toOption]

/-- what `nthName` returns: a line that holds the name -/
theorem nthName_holds (name : String) :
    ∀ (lines : List (List String)) (k n i : Nat), nthName name lines k n = some i →
      k ≤ i ∧ ∃ l, lines[i - k]? = some l ∧ l.contains name = true := by
  intro lines k n i h
  -- a line found in the rest is the same line of the whole list
  have later : ∀ {l : List String} {rest : List (List String)} {k : Nat},
      (k + 1 ≤ i ∧ ∃ l', rest[i - (k + 1)]? = some l' ∧ l'.contains name = true) →
      k ≤ i ∧ ∃ l', (l :: rest)[i - k]? = some l' ∧ l'.contains name = true := by
    intro l rest k ⟨hk, l', hl', hc'⟩
    refine ⟨by omega, l', ?_, hc'⟩
    rw [show i - k = (i - (k + 1)) + 1 by omega]; simpa using hl'
  fun_induction nthName name lines k n with
  | case1 => cases h
  | case2 l rest k n hc h1 => cases h; exact ⟨Nat.le_refl _, l, by simp, hc⟩
  | case3 l rest k n hc h1 ih => exact later (ih h)
  | case4 l rest k n hc ih => exact later (ih h)

private theorem spanBackward_nth (name : String) :
    ∀ (seq : List (List String)) (k0 n j : Nat), 1 ≤ n → nthName name seq k0 n = some j →
      spanBackward name seq (k0 : Int) (n : Int) = (some (j : Int), 0, true) := by
  intro seq k0 n j hn h
  fun_induction nthName name seq k0 n with
  | case1 => cases h
  | case2 l rest k n hc h1 =>
    obtain rfl : n = 1 := by omega
    cases h
    simp only [spanBackward, hc, if_true]
    simp
  | case3 l rest k n hc h1 ih =>
    obtain ⟨hne, hcast⟩ := natCast_pred h1
    simp only [spanBackward, hc, if_true, hne, Bool.false_eq_true, if_false]
    rw [hcast, show ((k : Int) + 1) = ((k + 1 : Nat) : Int) by omega, ih (by omega) h]
  | case4 l rest k n hc ih =>
    simp only [spanBackward, hc, Bool.false_eq_true, if_false, natCast_beq_zero hn]
    rw [show ((k : Int) + 1) = ((k + 1 : Nat) : Int) by omega, ih hn h]

/-- `placement_names`, backward named span (full strength since repair 5e11506): `grid-column: span k name / e` with a
definite end line (0-based index `ce = e − 1 > 0`): walking back from the line before the end line, the `k`-th line
called `name` (found `j` steps back) is the start line: the item occupies the tracks `ce − 1 − j … ce − 1`.  The count
is the span's own `k`, whatever the integer of the end line. -/
theorem placement_span_named_back (name : String) (lines : List (List String)) (k ce j : Nat) (hk : 1 ≤ k)
    (hce : 0 < ce) (h : nthName name (pyBackFrom lines ((ce : Int) - 1)) 0 k = some j) :
    getPlacement (.mk true (some (k : Int)) (some name)) (lineNo ((ce : Int) + 1)) lines =
      .ok (some ((ce : Int) - 1 - (j : Int), (j : Int) + 1)) := by
  have hb : spanBackward name (pyBackFrom lines ((ce : Int) - 1)) 0 (k : Int) = (some (j : Int), 0, true) := by
    simpa using spanBackward_nth name _ 0 k j hk h
  have hk0 := natCast_beq_zero hk
  have hsz : (ce : Int) - ((ce : Int) - 1 - (j : Int)) = (j : Int) + 1 := by omega
  have hj1 : ¬ ((j : Int) + 1 < 0) := by omega
  have hj2 : ¬ ((j : Int) + 1 = 0) := by omega
  simp [getPlacement, isAutoOrSpan, getLine, lineNo, numOr1, hk0, hce, hb, hsz, hj1, hj2, bind, Except.bind, pure,
    Except.pure]

private theorem spanForward_nth (name : String) :
    ∀ (seq : List (List String)) (k0 n j : Nat) (sz : Int), 1 ≤ n → nthName name seq k0 n = some j →
      spanForward name seq ((k0 : Int) + 1) sz (n : Int) = ((j : Int) + 1, 0, true) := by
  intro seq k0 n j sz hn h
  fun_induction nthName name seq k0 n generalizing sz with
  | case1 => cases h
  | case2 l rest k n hc h1 =>
    obtain rfl : n = 1 := by omega
    cases h
    simp only [spanForward, hc, if_true]
    simp
  | case3 l rest k n hc h1 ih =>
    obtain ⟨hne, hcast⟩ := natCast_pred h1
    simp only [spanForward, hc, if_true, hne, Bool.false_eq_true, if_false]
    rw [hcast, show ((k : Int) + 1 + 1) = ((k + 1 : Nat) : Int) + 1 by omega, ih _ (by omega) h]
  | case4 l rest k n hc ih =>
    simp only [spanForward, hc, Bool.false_eq_true, if_false, natCast_beq_zero hn]
    rw [show ((k : Int) + 1 + 1) = ((k + 1 : Nat) : Int) + 1 by omega, ih _ hn h]

/-- `placement_names`, forward named span: `grid-column: s / span k name` with a definite start line (0-based index `c`):
the end line is the `k`-th line called `name` after the start line (found at offset `j` in `lines[c+1:]`): the item
occupies the `j + 1` tracks from `c`. -/
theorem placement_span_named_forward (name : String) (lines : List (List String)) (k c j : Nat) (hk : 1 ≤ k)
    (h : nthName name (pySliceFrom lines ((c : Int) + 1)) 0 k = some j) :
    getPlacement (lineNo ((c : Int) + 1)) (.mk true (some (k : Int)) (some name)) lines =
      .ok (some ((c : Int), (j : Int) + 1)) := by
  have hf := spanForward_nth name _ 0 k j 0 hk h
  have hf' : spanForward name (pySliceFrom lines ((c : Int) + 1)) 1 0 (k : Int) = ((j : Int) + 1, 0, true) := by
    simpa using hf
  have hk0 := natCast_beq_zero hk
  have hj1 : ¬ ((j : Int) + 1 < 0) := by omega
  have hj2 : ¬ ((j : Int) + 1 = 0) := by omega
  simp [getPlacement, isAutoOrSpan, getLine, lineNo, numOr1, hk0, hf', hj1, hj2, bind, Except.bind, pure, Except.pure]

/-- `placement_names`, areas: `grid-column: a` (both edges named after the area `a`), with the
implicit names `a-start` on line `i` and `a-end` on a later line `j`: the item occupies the tracks
`i … j − 1`. -/
theorem placement_area (id : String) (lines : List (List String)) (i j : Nat) (hne : id.isEmpty = false)
    (hs : findName (id ++ "-" ++ "start") lines 0 = some i)
    (he : findName (id ++ "-" ++ "end") lines 0 = some j) (hij : i < j) :
    getPlacement (.mk false none (some id)) (.mk false none (some id)) lines =
      .ok (some ((i : Int), (j : Int) - (i : Int))) := by
  rw [placement_of_lines (getLine_area_edge id "start" lines i hne hs)
    (getLine_area_edge id "end" lines j hne he), if_pos (by omega)]

-- names: `[p] 10px [foo] 20px [a-start] 30px [a-end foo]`
example :
    let lines := [["p"], ["foo"], ["a-start"], ["a-end", "foo"]]
    findName "a-start" lines 0 = some 2 ∧ findName "a-end" lines 0 = some 3 ∧
    findName "foo-start" lines 0 = none ∧ findName "foo" lines 0 = some 1 ∧
    (getPlacement (.mk false none (some "a")) (.mk false none (some "a")) lines).toOption = some (some (2, 1)) ∧
    (getPlacement (.mk false none (some "foo")) .auto lines).toOption = some (some (1, 1)) := by
  decide +kernel

-- template areas give the implicit names: `grid-template-areas: "a a ."` on three columns, `grid-column: a`
example :
    let cols : List TElem := [.names [], .size (.one (.px 10)), .names [], .size (.one (.px 20)), .names [], .size (.one (.px 30)), .names []]
    let c : GContainer := { (default : GContainer) with templateCols := some cols, autoRows := [.one .auto], autoCols := [.one .auto], areas := some [[some "a", some "a", none]] }
    (explicitGrid c).toOption.map (fun e => lineNames e.cols) = some [["a-start"], [], ["a-end"], []] := by
  decide +kernel

-- getLine_nth_named: `[foo] [bar foo] [] [foo]`: the third `foo` line is line 3 (0-based)
example :
    let lines := [["foo"], ["bar", "foo"], [], ["foo"]]
    nthName "foo" lines 0 3 = some 3 ∧ nthName "foo" lines 0 2 = some 1 ∧
    (getLine false (some 3) (some "foo") lines "start").toOption.map (·.coord) = some (some 3) := by
  decide +kernel

-- placement_span_named_back: `[foo] [foo] [bar foo] []`, `span 2 foo / 4`: walking back from line index 2, the second
-- `foo` line is one step back: tracks 1 … 2 (and the hypothesis is met)
example :
    let lines := [["foo"], ["foo"], ["bar", "foo"], []]
    nthName "foo" (pyBackFrom lines 2) 0 2 = some 1 ∧
    (getPlacement (.mk true (some 2) (some "foo")) (lineNo 4) lines).toOption = some (some (1, 2)) := by
  decide +kernel

-- placement_span_named_forward: `[] [foo] [] [foo] []`, `1 / span 2 foo`: the second `foo` line after line 1 is at
-- offset 2 of `lines[1:]`: three tracks from 0
example :
    let lines := [[], ["foo"], [], ["foo"], []]
    nthName "foo" (pySliceFrom lines 1) 0 2 = some 2 ∧
    (getPlacement (lineNo 1) (.mk true (some 2) (some "foo")) lines).toOption = some (some (0, 3)) := by
  decide +kernel

/-! ## `item_in_area` -/

/-- `item_in_area`, stretch: an item with `width: auto`, `justify-self` stretch / normal and no auto
margin, in an area that can hold its margins, paddings and borders, has a margin box that is exactly
the area horizontally; the same vertically for `height: auto` and `align-self`. -/
theorem item_in_area_stretch (c : GContainer) (it : GItem) (px py areaW areaH ml mr mt mb : Rat)
    (hml : it.ml = some ml) (hmr : it.mr = some mr) (hmt : it.mt = some mt) (hmb : it.mb = some mb)
    (hjs : isStretch (resolveSelf c.justifyItems it.justifySelf) = true) (hw : it.sWidth = none)
    (has : isStretch (resolveSelf c.alignItems it.alignSelf) = true) (hh : it.sHeight = none)
    (hfitW : 0 ≤ areaW - (ml + mr + (it.pl + it.pr + it.bl + it.br)))
    (hfitH : 0 ≤ areaH - (mt + mb + (it.pt + it.pb + it.bt + it.bb))) :
    (itemRect c it px py areaW areaH).x = px + ml ∧
    (itemRect c it px py areaW areaH).x + (itemRect c it px py areaW areaH).w + mr = px + areaW ∧
    (itemRect c it px py areaW areaH).y = py + mt ∧
    (itemRect c it px py areaW areaH).y + (itemRect c it px py areaW areaH).h + mb = py + areaH := by
  unfold itemRect
  simp only [hml, hmr, hmt, hmb, hjs, has, hw, hh, lenOr0, Option.isNone_none, Bool.and_self, if_true]
  have hnotgt : ¬ (it.pl + it.pr + it.bl + it.br + (areaW - (ml + mr + (it.pl + it.pr + it.bl + it.br))) + ml + mr > areaW) := by
    grind
  simp only [blockLevelWidth, lenOr0, hnotgt, if_false]
  have hnn : ¬ (areaW - (ml + mr + (it.pl + it.pr + it.bl + it.br)) < 0) := by grind
  simp only [hnn, if_false]
  refine ⟨trivial, ?_, trivial, ?_⟩
  · grind
  · grind

private theorem blw_some (cb l w r pb : Rat) : blockLevelWidth cb (some l) (some w) (some r) pb = (l, w, r) := by
  by_cases hc : pb + w + l + r > cb <;> simp [blockLevelWidth, lenOr0, hc]

/-- Step 4 for an item with definite sizes and margins that is not stretched on either axis: it keeps its sizes and
is moved inside its area by the offsets of `justify-self` and `align-self`. -/
private theorem itemRect_aligned (c : GContainer) (it : GItem) (px py areaW areaH w0 h0 ml mr mt mb : Rat)
    (hml : it.ml = some ml) (hmr : it.mr = some mr) (hmt : it.mt = some mt) (hmb : it.mb = some mb)
    (hw : it.sWidth = some w0) (hh : it.sHeight = some h0) (hw0 : 0 ≤ w0) (hh0 : 0 ≤ h0)
    (hjs : isStretch (resolveSelf c.justifyItems it.justifySelf) = false)
    (has : isStretch (resolveSelf c.alignItems it.alignSelf) = false) :
    let js := resolveSelf c.justifyItems it.justifySelf
    let as := resolveSelf c.alignItems it.alignSelf
    let roomW := areaW - (ml + mr + (it.pl + it.pr + it.bl + it.br)) - w0
    let roomH := areaH - (mt + mb + (it.pt + it.pb + it.bt + it.bb)) - h0
    itemRect c it px py areaW areaH =
      { id := it.id,
        x := if js = .center then px + ml + roomW / 2 else if js = .endLike ∨ js = .right then px + ml + roomW
             else px + ml,
        y := if as = .center then py + mt + roomH / 2 else if as = .endLike then py + mt + roomH else py + mt,
        w := w0 + (it.pl + it.pr + it.bl + it.br), h := h0 + (it.pt + it.pb + it.bt + it.bb) } := by
  have hnn : ¬ (w0 < 0) := Rat.not_lt.mpr hw0
  have hmaxh : max 0 h0 = h0 := Rat.max_eq_right hh0
  simp only [itemRect, hml, hmr, hmt, hmb, hw, hh, lenOr0, hjs, has, Bool.false_and, Bool.false_eq_true, if_false,
    blw_some, hnn, hmaxh, beq_iff_eq, Bool.or_eq_true]

/-- a box of outer size `m + (w + pb) + m'` centred in `[p, p + area]` has the same space on both sides -/
private theorem centred_in (p area m m' pb w : Rat) :
    (p + m + (area - (m + m' + pb) - w) / 2 - m) - p =
      (p + area) - (p + m + (area - (m + m' + pb) - w) / 2 + (w + pb) + m') := by
  grind

private theorem flush_end (p area m m' pb w : Rat) :
    p + m + (area - (m + m' + pb) - w) + (w + pb) + m' = p + area := by
  grind

/-- `item_in_area`, aligned, full strength (since repair ca85a65 the content width of a `justify-self`-aligned item is
its max-content *content* width): an item of width `w0` and height `h0` with any non-auto margins, paddings and
borders, aligned `start` / `center` / `end` (anything but stretch / normal), keeps its size, and its *margin box* is
flush with the start of its area, centred in it, or flush with its end, on both axes. -/
theorem item_in_area_aligned_full (c : GContainer) (it : GItem) (px py areaW areaH w0 h0 ml mr mt mb : Rat)
    (hml : it.ml = some ml) (hmr : it.mr = some mr) (hmt : it.mt = some mt) (hmb : it.mb = some mb)
    (hw : it.sWidth = some w0) (hh : it.sHeight = some h0) (hw0 : 0 ≤ w0) (hh0 : 0 ≤ h0)
    (hjs : isStretch (resolveSelf c.justifyItems it.justifySelf) = false)
    (has : isStretch (resolveSelf c.alignItems it.alignSelf) = false) :
    let r := itemRect c it px py areaW areaH
    let js := resolveSelf c.justifyItems it.justifySelf
    let as := resolveSelf c.alignItems it.alignSelf
    r.w = w0 + (it.pl + it.pr + it.bl + it.br) ∧ r.h = h0 + (it.pt + it.pb + it.bt + it.bb) ∧
    (js = .center → (r.x - ml) - px = (px + areaW) - (r.x + r.w + mr)) ∧
    ((js = .endLike ∨ js = .right) → r.x + r.w + mr = px + areaW) ∧
    (js ≠ .center → js ≠ .endLike → js ≠ .right → r.x = px + ml) ∧
    (as = .center → (r.y - mt) - py = (py + areaH) - (r.y + r.h + mb)) ∧
    (as = .endLike → r.y + r.h + mb = py + areaH) ∧
    (as ≠ .center → as ≠ .endLike → r.y = py + mt) := by
  dsimp only
  rw [itemRect_aligned c it px py areaW areaH w0 h0 ml mr mt mb hml hmr hmt hmb hw hh hw0 hh0 hjs has]
  refine ⟨rfl, rfl, ?_, ?_, ?_, ?_, ?_, ?_⟩
  · intro hc; simp only [if_pos hc]; exact centred_in ..
  · intro hc
    have hnc : resolveSelf c.justifyItems it.justifySelf ≠ .center := by rcases hc with hc | hc <;> rw [hc] <;> decide
    simp only [if_neg hnc, if_pos hc]; exact flush_end ..
  · intro a b d; simp only [if_neg a, if_neg (not_or.mpr ⟨b, d⟩)]
  · intro hc; simp only [if_pos hc]; exact centred_in ..
  · intro hc
    have hnc : resolveSelf c.alignItems it.alignSelf ≠ .center := by rw [hc]; decide
    simp only [if_neg hnc, if_pos hc]; exact flush_end ..
  · intro a b; simp only [if_neg a, if_neg b]

/-- `item_in_area`, aligned: an item without margins, paddings and borders, of width `w0` and
height `h0`, aligned `start` / `center` / `end` (here: anything but stretch / normal), keeps its size
and is flush with the start of its area, centred in it, or flush with its end. -/
theorem item_in_area_aligned (c : GContainer) (it : GItem) (px py areaW areaH w0 h0 : Rat)
    (hm : it.ml = some 0 ∧ it.mr = some 0 ∧ it.mt = some 0 ∧ it.mb = some 0)
    (hp : it.pl = 0 ∧ it.pr = 0 ∧ it.bl = 0 ∧ it.br = 0 ∧ it.pt = 0 ∧ it.pb = 0 ∧ it.bt = 0 ∧ it.bb = 0)
    (hw : it.sWidth = some w0) (hh : it.sHeight = some h0) (hw0 : 0 ≤ w0) (hh0 : 0 ≤ h0)
    (hjs : isStretch (resolveSelf c.justifyItems it.justifySelf) = false)
    (has : isStretch (resolveSelf c.alignItems it.alignSelf) = false) :
    let r := itemRect c it px py areaW areaH
    let js := resolveSelf c.justifyItems it.justifySelf
    let as := resolveSelf c.alignItems it.alignSelf
    r.w = w0 ∧ r.h = h0 ∧
    (js = .center → r.x - px = (px + areaW) - (r.x + r.w)) ∧
    ((js = .endLike ∨ js = .right) → r.x + r.w = px + areaW) ∧
    (js ≠ .center → js ≠ .endLike → js ≠ .right → r.x = px) ∧
    (as = .center → r.y - py = (py + areaH) - (r.y + r.h)) ∧
    (as = .endLike → r.y + r.h = py + areaH) ∧
    (as ≠ .center → as ≠ .endLike → r.y = py) := by
  obtain ⟨hml, hmr, hmt, hmb⟩ := hm
  obtain ⟨h1, h2, h3, h4, h5, h6, h7, h8⟩ := hp
  have h := item_in_area_aligned_full c it px py areaW areaH w0 h0 0 0 0 0 hml hmr hmt hmb hw hh hw0 hh0 hjs has
  simp only [h1, h2, h3, h4, h5, h6, h7, h8, Rat.add_zero, Rat.sub_zero] at h
  exact h

-- item_in_area: a stretched item with margins 2 / 3 and 1px padding in a 50 x 20 area at (10, 5)
example :
    let it : GItem := { (default : GItem) with ml := some 2, mr := some 3, mt := some 0, mb := some 0, pl := 1, pr := 1, justifySelf := .auto, alignSelf := .auto }
    let c : GContainer := { (default : GContainer) with justifyItems := .normal, alignItems := .normal }
    let r := itemRect c it 10 5 50 20
    (r.x, r.y, r.w, r.h) = (12, 5, 45, 20) := by decide +kernel

-- item_in_area_aligned_full: `justify-self: center; align-self: end`, 20 x 10 with margins 2 / 4 / 1 / 3 and
-- 5px horizontal padding, in a 100 x 40 area at (10, 5): border box 30 wide, centred margin box, bottom flush
example :
    let it0 : GItem := { (default : GItem) with ml := some 2, mr := some 4, mt := some 1, mb := some 3 }
    let it : GItem := { it0 with pl := 5, pr := 5, sWidth := some 20, sHeight := some 10, justifySelf := .center, alignSelf := .endLike }
    let c : GContainer := { (default : GContainer) with justifyItems := .normal, alignItems := .normal }
    let r := itemRect c it 10 5 100 40
    (r.x, r.y, r.w, r.h) = (44, 32, 30, 10) := by decide +kernel

/-! ## step 3.5: the tracks, the gaps and the distributed free space partition the container -/

/-- plain sum of a list (the model's `sumR` is a `foldl`: `sumR_eq_sumL`) -/
def sumL : List Rat → Rat
  | [] => 0
  | x :: xs => x + sumL xs

private theorem foldl_add (l : List Rat) : ∀ acc : Rat, l.foldl (· + ·) acc = acc + sumL l := by
  induction l with
  | nil => intro acc; simp only [List.foldl_nil, sumL]; grind
  | cons x xs ih => intro acc; simp only [List.foldl_cons, sumL, ih]; grind

theorem sumR_eq_sumL (l : List Rat) : sumR l = sumL l := by
  unfold sumR; rw [foldl_add]; grind

/-- position of the first track -/
def alignStart (a : ContentAlign) (start free : Rat) (n : Nat) : Rat :=
  match a with
  | .center => start + free / 2
  | .endLike => start + free
  | .spaceAround => start + free / 2 / n
  | .spaceEvenly => start + free / (n + 1 : Nat)
  | _ => start

/-- distance between the end of a track and the start of the next one -/
def alignBetween (a : ContentAlign) (free gap : Rat) (n : Nat) : Rat :=
  match a with
  | .spaceAround => free / n + gap
  | .spaceBetween => if n ≥ 2 then free / (n - 1 : Nat) + gap else 0
  | .spaceEvenly => free / (n + 1 : Nat) + gap
  | _ => gap

/-- space left after the last track -/
def alignTrail (a : ContentAlign) (free : Rat) (n : Nat) : Rat :=
  match a with
  | .center => free / 2
  | .endLike => 0
  | .spaceAround => free / 2 / n
  | .spaceBetween => 0
  | .spaceEvenly => free / (n + 1 : Nat)
  | _ => free

private theorem alignTracks_eq (a : ContentAlign) (start free gap : Rat) (sizes : List Rat) :
    alignTracks a start free gap sizes =
      alignTracks.go (alignBetween a free gap sizes.length) (a == .spaceBetween && decide (sizes.length < 2)) sizes
        (alignStart a start free sizes.length) := by
  unfold alignTracks alignStart alignBetween
  cases a <;> rfl

private theorem go_pos (between : Rat) :
    ∀ (sizes : List Rat) (x : Rat) (i : Nat), i < sizes.length →
      (alignTracks.go between false sizes x)[i]? = some (x + sumL (sizes.take i) + (i : Rat) * between) := by
  intro sizes
  induction sizes with
  | nil => intro x i hi; simp at hi
  | cons s rest ih =>
    intro x i hi
    unfold alignTracks.go
    cases i with
    | zero => simp [sumL]; grind
    | succ j =>
      have hj : j < rest.length := by simpa using hi
      simp only [Bool.false_eq_true, if_false, List.getElem?_cons_succ, List.take_succ_cons, sumL]
      rw [ih _ j hj]
      congr 1
      push_cast
      grind

/-- leading space, the shares between the tracks (gaps apart) and trailing space make up `free` -/
theorem align_split (a : ContentAlign) (start free gap : Rat) (m : Nat) (hsb : a = .spaceBetween → 1 ≤ m) :
    (alignStart a start free (m + 1) - start) + (m : Rat) * (alignBetween a free gap (m + 1) - gap) +
      alignTrail a free (m + 1) = free := by
  have packed_start : (start - start) + (m : Rat) * (gap - gap) + free = free := by grind
  cases a with
  | normal | stretch | other => exact packed_start
  | center => simp only [alignStart, alignBetween, alignTrail]; grind
  | endLike => simp only [alignStart, alignBetween, alignTrail]; grind
  | spaceAround =>
    simp only [alignStart, alignBetween, alignTrail, Rat.half_share]
    have := Rat.share_around free m; grind
  | spaceEvenly =>
    simp only [alignStart, alignBetween, alignTrail]
    have := Rat.share_evenly free m; grind
  | spaceBetween =>
    obtain ⟨k, rfl⟩ : ∃ k, m = k + 1 := ⟨m - 1, by have := hsb rfl; omega⟩
    simp only [alignStart, alignBetween, alignTrail, ge_iff_le, show 2 ≤ k + 1 + 1 by omega, if_true, Nat.add_sub_cancel]
    have := Rat.share_between free k; grind

/-- `tracks_partition`, step 3.5 (all inputs): whatever the `justify-content` / `align-content` value, track `i` starts
at `first + Σ_{j<i} size_j + i·between`, and the leading space, the tracks, the spaces between them (gap + distributed
share) and the trailing space add up to the free space, the tracks and the gaps: with
`free = container − Σ sizes − (n − 1)·gap ≥ 0` (what `grid_layout` passes since repair 0e77b99) they partition the
container (`alignTracks_fills`).  For `space-between` at least two tracks are needed (with fewer the code keeps
every track at the start). -/
theorem alignTracks_partition (a : ContentAlign) (start free gap : Rat) (sizes : List Rat) (hn : sizes ≠ [])
    (hsb : a = .spaceBetween → 2 ≤ sizes.length) :
    (∀ i, i < sizes.length → (alignTracks a start free gap sizes)[i]? =
      some (alignStart a start free sizes.length + sumL (sizes.take i) +
        (i : Rat) * alignBetween a free gap sizes.length)) ∧
    (alignStart a start free sizes.length - start) + sumL sizes +
      ((sizes.length : Rat) - 1) * alignBetween a free gap sizes.length + alignTrail a free sizes.length =
      free + sumL sizes + ((sizes.length : Rat) - 1) * gap := by
  have hstay : (a == ContentAlign.spaceBetween && decide (sizes.length < 2)) = false := by
    cases a <;> simp
    have := hsb rfl
    omega
  constructor
  · intro i hi
    rw [alignTracks_eq, hstay]
    exact go_pos _ sizes _ i hi
  · obtain ⟨m, hm⟩ : ∃ m, sizes.length = m + 1 := by
      cases sizes with
      | nil => exact absurd rfl hn
      | cons x xs => exact ⟨xs.length, rfl⟩
    rw [hm]
    have h1 : ((m + 1 : Nat) : Rat) = (m : Rat) + 1 := by push_cast; rfl
    have := align_split a start free gap m (fun h => by have := hsb h; omega)
    rw [h1]
    grind

/-- `tracks_partition`, step 3.5, as `grid_layout` calls it: when the tracks and gaps fit in the container
(`container − Σ sizes − (n − 1)·gap ≥ 0`), the leading space, the tracks, the spaces between them and the trailing
space fill the container exactly. -/
theorem alignTracks_fills (a : ContentAlign) (container gap : Rat) (sizes : List Rat) (hn : sizes ≠ [])
    (hsb : a = .spaceBetween → 2 ≤ sizes.length)
    (hfit : 0 ≤ container - sumR sizes - ((sizes.length : Int) - 1 : Int) * gap) :
    let free := max 0 (container - sumR sizes - ((sizes.length : Int) - 1 : Int) * gap)
    alignStart a 0 free sizes.length + sumL sizes +
      ((sizes.length : Rat) - 1) * alignBetween a free gap sizes.length + alignTrail a free sizes.length = container := by
  intro free
  have hfree : free = container - sumR sizes - ((sizes.length : Int) - 1 : Int) * gap := Rat.max_eq_right hfit
  have h := (alignTracks_partition a 0 free gap sizes hn hsb).2
  rw [sumR_eq_sumL] at hfree
  have hc : (((sizes.length : Int) - 1 : Int) : Rat) = (sizes.length : Rat) - 1 := by push_cast; rfl
  rw [hc] at hfree
  grind

-- alignTracks_partition / alignTracks_fills: two 20px tracks, gap 10, `space-around` in 90px (free 40): the tracks
-- start at 10 and 60, the trailing space is 10: 10 + 20 + 30 + 20 + 10 = 90
example :
    alignTracks .spaceAround 0 40 10 [20, 20] = [10, 60] ∧ alignStart .spaceAround 0 40 2 = 10 ∧
    alignBetween .spaceAround 40 10 2 = 30 ∧ alignTrail .spaceAround 40 2 = 10 ∧
    (0 : Rat) ≤ 90 - sumR [20, 20] - ((([20, 20] : List Rat).length : Int) - 1 : Int) * 10 := by
  decide +kernel

/-! ## step 1.4: auto-placement takes the *first* free position (dense: from the start of the grid; sparse: from the cursor) -/

/-- an item whose auto-flow axis is fully automatic is tried in track `k`, one track wide -/
theorem placeAt_auto (fl : List (List String)) (k : Int) : placeAt .auto .auto fl k = .ok (k, 1) := by
  unfold placeAt getPlacement!
  simp [placement_line_auto, bind, Except.bind, pure, Except.pure]

/-- dense packing, item locked to tracks `si … si+ssz−1` of the second axis and automatic on the auto-flow axis
(`grid-column: N` in a `row dense` grid): it lands in the first row, from the start of the grid, where these tracks are
free — every row between the start of the grid and its row is occupied there (css-grid 8.5, the clause that the
`dense_violation` oracle samples, for all inputs). -/
theorem denseLocked_auto_first (ffr : Bool) (fl : List (List String)) (si ssz cfirst : Int)
    (positions : List Area) (fuel : Nat) (fi fsz : Int)
    (h : denseLocked ffr .auto .auto fl si ssz cfirst positions fuel cfirst = .ok (fi, fsz)) :
    fsz = 1 ∧ cfirst ≤ fi ∧ areaIntersects (mkArea ffr fi 1 si ssz) positions = false ∧
    ∀ j, cfirst ≤ j → j < fi → areaIntersects (mkArea ffr j 1 si ssz) positions = true := by
  obtain ⟨k', hk, hp, hc, hfree, hall⟩ := denseLocked_first h
  rw [placeAt_auto] at hp
  cases hp
  refine ⟨rfl, hc, ?_, ?_⟩
  · exact hfree
  · intro j hj1 hj2
    rcases hall j hj1 hj2 (j, 1) (placeAt_auto fl j) with h' | h'
    · simp at h'; omega
    · exact h'

/-- sparse packing, second axis given: the cursor stops at the *first* position, at or after where it was, whose
candidate is not before the cursor and overlaps nothing. -/
theorem sparseLocked_first (ffr : Bool) (fs fe : Place) (fl : List (List String)) (si ssz : Int)
    (positions : List Area) :
    ∀ (fuel : Nat) (cf cf' fi fsz : Int),
      sparseLocked ffr fs fe fl si ssz positions fuel cf = .ok (cf', fi, fsz) →
      placeAt fs fe fl cf' = .ok (fi, fsz) ∧
        ∀ j, cf ≤ j → j < cf' → ∀ p, placeAt fs fe fl j = .ok p →
          p.1 < j ∨ areaIntersects (mkArea ffr p.1 p.2 si ssz) positions = true :=
  fun _ _ _ _ _ h => (sparseLocked_spec h).2.2.2

/-- dense packing at the level of step 1.4 of `grid_layout`: an item locked on the second axis and automatic on the
auto-flow axis is appended to `children_positions` in the first track of the auto-flow axis, counted from the start of
the implicit grid (`implicit_first_1`: the cursor is reset for every such item), where its tracks are free. -/
theorem step14DenseGiven_first (ctx : PCtx) (st st' : PState) (it : GItem) (si ssz : Int)
    (hauto : itemFirst ctx.flowColumn it = (.auto, .auto))
    (h : step14DenseGiven ctx st it si ssz = .ok st') :
    ∃ fi, st'.positions = st.positions ++ [(it.id, mkArea ctx.firstFlowRow fi 1 si ssz)] ∧
      ctx.implicitFirst1 ≤ fi ∧ areaIntersects (mkArea ctx.firstFlowRow fi 1 si ssz) st.areas = false ∧
      ∀ j, ctx.implicitFirst1 ≤ j → j < fi →
        areaIntersects (mkArea ctx.firstFlowRow j 1 si ssz) st.areas = true := by
  unfold step14DenseGiven at h
  rw [hauto] at h
  obtain ⟨⟨fi, fsz⟩, h1, h2⟩ := Except.bind_eq_ok h
  cases h2
  obtain ⟨hsz, hge, hfree, hall⟩ := denseLocked_auto_first _ _ _ _ _ _ _ _ _ h1
  subst hsz
  exact ⟨fi, rfl, hge, hfree, hall⟩

-- the situation of a column-locked item after the cursor has left a hole: cell (0, 0) and the whole row 1 are taken, the
-- item locked to column 1 goes back to row 0 (and the hypotheses of the theorems above are met)
example : (denseLocked true .auto .auto [[], [], []] 1 1 0 [(0, 0, 1, 1), (0, 1, 3, 1)] countBound 0).toOption =
    some (0, 1) := by decide +kernel

-- ... and when column 1 is taken in rows 0 and 1 it goes to row 2, the first free one
example : (denseLocked true .auto .auto [[], [], []] 1 1 0 [(0, 0, 2, 1), (0, 1, 3, 1)] countBound 0).toOption =
    some (2, 1) := by decide +kernel

-- sparse: from cursor 1 the same item stays at or after the cursor
example : (sparseLocked true .auto .auto [[], [], []] 1 1 [(0, 0, 1, 1), (0, 1, 3, 1)] countBound 1).toOption =
    some (2, 2, 1) := by decide +kernel

theorem rangeInt_nil (a b : Int) (h : b ≤ a) : rangeInt a b = [] := by
  unfold rangeInt
  have : (b - a).toNat = 0 := by omega
  rw [this]; rfl

theorem rangeInt_cons (a b : Int) (h : a < b) : rangeInt a b = a :: rangeInt (a + 1) b := by
  unfold rangeInt
  have hn : (b - a).toNat = (b - (a + 1)).toNat + 1 := by omega
  rw [hn, List.range_succ_eq_map]
  simp only [List.map_cons, List.map_map]
  congr 1
  · simp
  · apply List.map_congr_left
    intro k _
    simp only [Function.comp]
    push_cast
    omega

/-- the scan of one row (resp. column) by a fully automatic 1 × 1 item; by induction on the length of `rangeInt c b`,
peeled from the left (`rangeInt_cons`) -/
theorem scanRange_auto (ffr : Bool) (fl sl : List (List String)) (b : Int) (positions : List Area) (fi : Int) :
    ∀ (n : Nat) (c : Int), (b - c).toNat = n →
      ∀ found fi', scanSecond ffr .auto .auto .auto .auto fl sl b positions (rangeInt c b) fi = .ok (found, fi') →
        fi' = fi ∧
        match found with
        | some (a, fsz) => ∃ s, c ≤ s ∧ s < b ∧ a = mkArea ffr fi 1 s 1 ∧ fsz = 1 ∧
            ∀ t, c ≤ t → t < s → areaIntersects (mkArea ffr fi 1 t 1) positions = true
        | none => ∀ t, c ≤ t → t < b → areaIntersects (mkArea ffr fi 1 t 1) positions = true := by
  intro n
  induction n with
  | zero =>
    intro c hn found fi' h
    rw [rangeInt_nil c b (by omega)] at h
    simp [scanSecond, pure, Except.pure] at h
    obtain ⟨rfl, rfl⟩ := h
    exact ⟨rfl, by intro t h1 h2; omega⟩
  | succ m ih =>
    intro c hn found fi' h
    have hlt : c < b := by omega
    rw [rangeInt_cons c b hlt] at h
    simp only [scanSecond, placeAt_auto, bind, Except.bind] at h
    by_cases hc : areaIntersects (mkArea ffr fi 1 c 1) positions = true
    · simp only [hc, Bool.true_or, if_true] at h
      obtain ⟨hfi, hrest⟩ := ih (c + 1) (by omega) found fi' h
      refine ⟨hfi, ?_⟩
      cases found with
      | none =>
        intro t h1 h2
        by_cases htc : t = c
        · subst htc; exact hc
        · exact hrest t (by omega) h2
      | some r =>
        obtain ⟨a, fsz⟩ := r
        obtain ⟨s, hs1, hs2, ha, hf, hall⟩ := hrest
        refine ⟨s, by omega, hs2, ha, hf, ?_⟩
        intro t h1 h2
        by_cases htc : t = c
        · subst htc; exact hc
        · exact hall t (by omega) h2
    · have hov : ¬ (c + 1 > b) := by omega
      simp only [hc, Bool.false_or, hov, decide_false, Bool.false_eq_true, if_false, pure, Except.pure] at h
      cases h
      refine ⟨rfl, c, Int.le_refl _, hlt, rfl, rfl, ?_⟩
      intro t h1 h2; omega

/-- dense / sparse packing, both axes automatic (step 1.4, fully automatic 1 × 1 item): the `while True` loop returns the
*first free cell in auto-flow order* from the cursor `(cf, cs)`: the cells of its own row before it, and every cell of the
rows between the cursor's row and its row (from `cs` in the cursor's row, from the start of the implicit grid `is1` in
the following ones), are occupied.  With the cursor reset to the start of the grid (dense packing) this is the
`dense_violation` clause for all inputs; with the running cursor (sparse) the item never goes back before the cursor. -/
theorem freeLoop_auto_first (ffr : Bool) (fl sl : List (List String)) (is1 is2 : Int) (positions : List Area) :
    ∀ (fuel : Nat) (cf cs if2 : Int) (a : Area) (fsz cf' cs' if2' fi' : Int),
      freeLoop ffr .auto .auto .auto .auto fl sl is1 is2 positions fuel cf cs if2 = .ok (a, fsz, cf', cs', if2', fi') →
      cf ≤ cf' ∧ ∃ s, a = mkArea ffr cf' 1 s 1 ∧ s < is2 ∧ areaIntersects a positions = false ∧
        (if cf' = cf then cs else is1) ≤ s ∧
        (∀ t, (if cf' = cf then cs else is1) ≤ t → t < s →
          areaIntersects (mkArea ffr cf' 1 t 1) positions = true) ∧
        (∀ r t, cf ≤ r → r < cf' → (if r = cf then cs else is1) ≤ t → t < is2 →
          areaIntersects (mkArea ffr r 1 t 1) positions = true) := by
  intro fuel
  induction fuel with
  | zero => intro cf cs if2 a fsz cf' cs' if2' fi' h; cases h
  | succ n ih =>
    intro cf cs if2 a fsz cf' cs' if2' fi' h
    have hfree := freeLoop_free h
    obtain ⟨⟨found, fi⟩, hscan, h⟩ := Except.bind_eq_ok h
    have hs := scanRange_auto ffr fl sl is2 positions cf _ cs rfl found fi hscan
    cases found with
    | some q =>
      obtain ⟨a0, fsz0⟩ := q
      simp only [pure, Except.pure] at h
      cases h
      obtain ⟨_, s, hs1, hs2, ha, _, hall⟩ := hs
      refine ⟨Int.le_refl _, s, ha, hs2, hfree, by simpa using hs1, ?_, ?_⟩
      · intro t h1 h2
        simp only [if_true] at h1
        exact hall t h1 h2
      · intro r t h1 h2; omega
    | none =>
      simp only [] at h
      obtain ⟨hle, s, ha, hs2, -, hstart, hrow, hrows⟩ := ih _ _ _ _ _ _ _ _ _ h
      have hne : ¬ (cf' = cf) := by omega
      rw [ite_self] at hstart hrow
      refine ⟨by omega, s, ha, hs2, hfree, by simpa [hne] using hstart, ?_, ?_⟩
      · intro t h1 h2
        simp only [hne, if_false] at h1
        exact hrow t h1 h2
      · intro r t h1 h2 h3 h4
        by_cases hr : r = cf
        · subst hr
          simp only [if_true] at h3
          exact hs.2 t h3 h4
        · simp only [hr, if_false] at h3
          exact hrows r t (by omega) h2 (by rw [ite_self]; exact h3) h4

-- two columns, cells (0,0), (1,0) and (0,1) taken: a fully automatic item searching from the start of the grid takes (1,1)
example : ((freeLoop true .auto .auto .auto .auto [[], []] [[], [], []] 0 2 [(0, 0, 1, 1), (1, 0, 1, 1), (0, 1, 1, 1)]
    whileBound 0 0 1).toOption.map fun r => r.1) = some (1, 1, 1, 1) := by decide +kernel

/-- dense packing at the level of step 1.4 of `grid_layout`, fully automatic 1 × 1 item: it is appended to
`children_positions` in the first free cell, in auto-flow order, from the start of the implicit grid
(`implicit_first_1`, `implicit_second_1`: the cursor is reset for every item). -/
theorem step14DenseFree_first (ctx : PCtx) (st st' : PState) (it : GItem)
    (hf : itemFirst ctx.flowColumn it = (.auto, .auto)) (hs : itemSecond ctx.flowColumn it = (.auto, .auto))
    (h : step14DenseFree ctx st it = .ok st') :
    ∃ r s, st'.positions = st.positions ++ [(it.id, mkArea ctx.firstFlowRow r 1 s 1)] ∧
      ctx.implicitFirst1 ≤ r ∧ ctx.implicitSecond1 ≤ s ∧ s < ctx.implicitSecond2 ∧
      areaIntersects (mkArea ctx.firstFlowRow r 1 s 1) st.areas = false ∧
      (∀ t, ctx.implicitSecond1 ≤ t → t < s → areaIntersects (mkArea ctx.firstFlowRow r 1 t 1) st.areas = true) ∧
      (∀ r' t, ctx.implicitFirst1 ≤ r' → r' < r → ctx.implicitSecond1 ≤ t → t < ctx.implicitSecond2 →
        areaIntersects (mkArea ctx.firstFlowRow r' 1 t 1) st.areas = true) := by
  unfold step14DenseFree at h
  rw [hf, hs] at h
  obtain ⟨⟨a, fsz, cf, cs, if2, fi⟩, h1, h2⟩ := Except.bind_eq_ok h
  cases h2
  obtain ⟨hle, s, ha, hs2, hfree, hstart, hrow, hrows⟩ := freeLoop_auto_first _ _ _ _ _ _ _ _ _ _ _ _ _ _ _ _ h1
  rw [ite_self] at hstart hrow
  subst ha
  refine ⟨cf, s, rfl, hle, hstart, hs2, hfree, hrow, ?_⟩
  intro r' t h1' h2' h3' h4'
  exact hrows r' t h1' h2' (by rw [ite_self]; exact h3') h4'

end Wp.C12
