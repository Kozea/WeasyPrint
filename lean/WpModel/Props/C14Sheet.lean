/-
C14 — the sheet of a page: `size`, `marks`, `bleed` (`Model/PageSheet.lean`, tables regenerated from
`computed_values.PAGE_SIZES` into `Gen/PageSizes.lean`).
-/
import WpModel.Model.PageSheet

namespace Wp.C14
open Wp Wp.PageSheet

/-! ## The generated table -/

/-- Every named page size is in portrait orientation (the source's own `assert`): width < height. -/
theorem named_sizes_portrait : ∀ r ∈ Gen.pageSizes, r.2.1 < r.2.2.1 := by decide +kernel

/-- Names are unique: `PAGE_SIZES` read as a list has the meaning of the dict. -/
theorem named_sizes_unique : (Gen.pageSizes.map (·.1)).Nodup := by decide +kernel

/-- The names, in the order of the table (ISO A, B, C and JIS B from the smallest to the largest, then the three
North-American sizes). -/
theorem named_sizes_names : Gen.pageSizes.map (·.1) =
    ["a10", "a9", "a8", "a7", "a6", "a5", "a4", "a3", "a2", "a1", "a0",
     "b10", "b9", "b8", "b7", "b6", "b5", "b4", "b3", "b2", "b1", "b0",
     "c10", "c9", "c8", "c7", "c6", "c5", "c4", "c3", "c2", "c1", "c0",
     "jis-b10", "jis-b9", "jis-b8", "jis-b7", "jis-b6", "jis-b5", "jis-b4", "jis-b3", "jis-b2", "jis-b1", "jis-b0",
     "letter", "legal", "ledger"] := by decide +kernel

/-- Row `i` is row `i + 1` cut in half (ISO 216 / JIS P 0138): its height is the width of the larger sheet, its
width half the height of the larger sheet rounded down to the millimetre, same unit. -/
def halvesAt (i : Nat) : Bool :=
  match Gen.pageSizes[i]?, Gen.pageSizes[i + 1]? with
  | some (_, w, h, u), some (_, w', h', u') => u == "mm" && u' == "mm" && h == w' && (w : Rat) == ((h' / 2).floor : Int)
  | _, _ => false

/-- **Every ISO A / B / C and JIS B size of the generated table is the next larger one cut in half**, starting from
A0 = 841 × 1189, B0 = 1000 × 1414, C0 = 917 × 1297, JIS B0 = 1030 × 1456 mm: an edit of any of the 44 rows of
`PAGE_SIZES` that is not a real paper size breaks this theorem. -/
theorem iso_series_halving :
    (∀ i ∈ List.range 10, halvesAt i = true) ∧ (∀ i ∈ List.range 10, halvesAt (11 + i) = true) ∧
    (∀ i ∈ List.range 10, halvesAt (22 + i) = true) ∧ (∀ i ∈ List.range 10, halvesAt (33 + i) = true) ∧
    lookupSize "a0" = some (⟨841, some "mm"⟩, ⟨1189, some "mm"⟩) ∧
    lookupSize "b0" = some (⟨1000, some "mm"⟩, ⟨1414, some "mm"⟩) ∧
    lookupSize "c0" = some (⟨917, some "mm"⟩, ⟨1297, some "mm"⟩) ∧
    lookupSize "jis-b0" = some (⟨1030, some "mm"⟩, ⟨1456, some "mm"⟩) := by decide +kernel

/-- The css-page-3 names (A5, A4, A3, B5, B4, JIS-B5, JIS-B4, letter, legal, ledger) with their dimensions. -/
theorem css_page_3_sizes :
    lookupSize "a5" = some (⟨148, some "mm"⟩, ⟨210, some "mm"⟩) ∧ lookupSize "a4" = some (⟨210, some "mm"⟩, ⟨297, some "mm"⟩) ∧
    lookupSize "a3" = some (⟨297, some "mm"⟩, ⟨420, some "mm"⟩) ∧ lookupSize "b5" = some (⟨176, some "mm"⟩, ⟨250, some "mm"⟩) ∧
    lookupSize "b4" = some (⟨250, some "mm"⟩, ⟨353, some "mm"⟩) ∧
    lookupSize "jis-b5" = some (⟨182, some "mm"⟩, ⟨257, some "mm"⟩) ∧
    lookupSize "jis-b4" = some (⟨257, some "mm"⟩, ⟨364, some "mm"⟩) ∧
    lookupSize "letter" = some (⟨17 / 2, some "in"⟩, ⟨11, some "in"⟩) ∧
    lookupSize "legal" = some (⟨17 / 2, some "in"⟩, ⟨14, some "in"⟩) ∧
    lookupSize "ledger" = some (⟨11, some "in"⟩, ⟨17, some "in"⟩) ∧
    initialPageSize = lookupSize "a4" := by decide +kernel

/-- The absolute units are the CSS ones: 1in = 96px = 72pt = 6pc = 2.54cm = 25.4mm = 101.6q. -/
theorem absolute_units :
    Gen.absoluteUnits = [("px", 1), ("pt", 96 / 72), ("pc", 96 / 6), ("in", 96), ("cm", 96 * 100 / 254),
                         ("mm", 96 * 10 / 254), ("q", 96 * 10 / 1016)] := by decide +kernel

/-! ## `size` -/

/-- One non-negative length: a square sheet.  Two: width × height. -/
theorem size_one_length (t : STok) (d : SDim) (h : getLength false t = some d) : sizeValidate [t] = some (d, d) := by
  simp [sizeValidate, sizeByLengths, h]

theorem size_two_lengths (t1 t2 : STok) (d1 d2 : SDim) (h1 : getLength false t1 = some d1)
    (h2 : getLength false t2 = some d2) : sizeValidate [t1, t2] = some (d1, d2) := by
  simp [sizeValidate, sizeByLengths, h1, h2]

/-- More than two component values are never a valid `size`. -/
theorem size_three_invalid (t1 t2 t3 : STok) (rest : List STok) : sizeValidate (t1 :: t2 :: t3 :: rest) = none := by
  have hl : ∀ (a b c : Option SDim) (r : List (Option SDim)), sizeByLengths (a :: b :: c :: r) = none := by
    intro a b c r; unfold sizeByLengths; split
    · cases a <;> cases b <;> rfl
    · rfl
  simp only [sizeValidate, List.map_cons, hl]
  rfl

private theorem getLength_ident (neg : Bool) (s : String) : getLength neg (.ident s) = none := rfl

/-- A page-size name alone is the named size in portrait orientation. -/
theorem size_name (n : String) (sz : SDim × SDim) (h : lookupSize n = some sz) :
    sizeValidate [.ident n] = some sz := by
  simp [sizeValidate, sizeByLengths, sizeByKeywords, getLength_ident, getKeyword, h]

/-- **`landscape` exchanges width and height of what `portrait` gives, for every keyword `n` (valid or not),
in either order of the two keywords.** -/
theorem size_landscape_swaps (n : String) (hn : n ≠ "portrait" ∧ n ≠ "landscape") :
    sizeValidate [.ident n, .ident "landscape"] = (sizeValidate [.ident n, .ident "portrait"]).map (fun p => (p.2, p.1)) ∧
    sizeValidate [.ident "landscape", .ident n] = sizeValidate [.ident n, .ident "landscape"] ∧
    sizeValidate [.ident "portrait", .ident n] = sizeValidate [.ident n, .ident "portrait"] := by
  have h0 : isOrientation (some n) = false := by simp [isOrientation, hn.1, hn.2]
  have hp : isOrientation (some "portrait") = true := by decide
  have hl : isOrientation (some "landscape") = true := by decide
  refine ⟨?_, ?_, ?_⟩ <;>
    (simp only [sizeValidate, sizeByLengths, sizeByKeywords, List.map_cons, List.map_nil, getLength_ident, getKeyword,
      List.all_cons, Option.isSome_none, Bool.false_and, Bool.false_eq_true, ↓reduceIte, h0, hp, hl, Option.bind_some]
     try (cases lookupSize n <;> simp))

/-- A named size with an orientation: portrait is the table entry, landscape has the longer side horizontal. -/
theorem size_name_orientation (n : String) (w h : SDim) (hn : n ≠ "portrait" ∧ n ≠ "landscape")
    (hl : lookupSize n = some (w, h)) :
    sizeValidate [.ident n, .ident "portrait"] = some (w, h) ∧ sizeValidate [.ident n, .ident "landscape"] = some (h, w) := by
  have h0 : isOrientation (some n) = false := by simp [isOrientation, hn.1, hn.2]
  have hp : isOrientation (some "portrait") = true := by decide
  -- the landscape half is the portrait half exchanged
  rw [(size_landscape_swaps n hn).1]
  simp [sizeValidate, sizeByLengths, sizeByKeywords, getLength_ident, getKeyword, h0, hp, hl]

/-- `auto` and `portrait` are the initial A4 sheet, `landscape` its rotation. -/
theorem size_auto :
    sizeValidate [.ident "auto"] = lookupSize "a4" ∧ sizeValidate [.ident "portrait"] = lookupSize "a4" ∧
    sizeValidate [.ident "landscape"] = (lookupSize "a4").map (fun p => (p.2, p.1)) := by decide +kernel

/-- Negative lengths and percentages are never accepted in `size`. -/
theorem size_rejects_negative_and_percent (v : Rat) (u : String) (hv : v < 0) (p : Rat) :
    sizeValidate [.dim v u] = none ∧ sizeValidate [.pct p] = none := by
  have : ¬ (v ≥ 0) := by grind
  simp [sizeValidate, sizeByLengths, sizeByKeywords, getLength, getKeyword, this]

/-- The computed size in CSS pixels: `a5 landscape` is 210mm × 148mm = 793.70… × 559.37… px. -/
example : (sizeValidate [.ident "a5", .ident "landscape"]).map (sizeComputed 16 16) =
    some (.px (210 * 960 / 254), .px (148 * 960 / 254)) := by decide +kernel

/-- An absolute length computes to `value × LENGTHS_TO_PIXELS[unit]`, independently of the font sizes. -/
theorem compute_absolute (fs rfs fs' rfs' v f : Rat) (u : String) (h : Gen.absoluteUnits.find? (fun r => r.1 == u) = some (u, f)) :
    computeLength fs rfs ⟨v, some u⟩ = computeLength fs' rfs' ⟨v, some u⟩ ∧
    (v ≠ 0 → u ≠ "px" → computeLength fs rfs ⟨v, some u⟩ = .px (v * f)) := by
  constructor
  · simp only [computeLength, h]
  · intro hv hu
    simp [computeLength, hv, hu, h]

/-! ## `marks` and `bleed` -/

/-- `marks` is valid exactly for `none`, `crop`, `cross` and the two orders of `crop cross`. -/
theorem marks_valid_iff (toks : List STok) (l : List String) :
    marksValidate toks = some l ↔
      (toks = [.ident "none"] ∧ l = []) ∨ (toks = [.ident "crop"] ∧ l = ["crop"]) ∨
      (toks = [.ident "cross"] ∧ l = ["cross"]) ∨ (toks = [.ident "crop", .ident "cross"] ∧ l = ["crop", "cross"]) ∨
      (toks = [.ident "cross", .ident "crop"] ∧ l = ["cross", "crop"]) := by
  have hk : ∀ (t : STok) (k : String), getKeyword t = some k ↔ t = .ident k := by
    intro t k; cases t <;> simp [getKeyword]
  constructor
  · fun_cases marksValidate toks <;> intro h <;> cases h
    next a b _ hc =>
      simp +zetaDelta only [List.contains_cons, List.contains_nil, Bool.or_false, Bool.and_eq_true, Bool.or_eq_true,
        beq_iff_eq] at hc
      -- one of the two is `crop` and one is `cross`: not the same one
      rcases hc with ⟨h1 | h1, h2 | h2⟩
      · exact absurd (h1.trans h2.symm) (by decide)
      · cases (hk a "crop").mp h1.symm; cases (hk b "cross").mp h2.symm
        exact Or.inr (Or.inr (Or.inr (Or.inl ⟨rfl, rfl⟩)))
      · cases (hk a "cross").mp h2.symm; cases (hk b "crop").mp h1.symm
        exact Or.inr (Or.inr (Or.inr (Or.inr ⟨rfl, rfl⟩)))
      · exact absurd (h1.trans h2.symm) (by decide)
    next hc => exact Or.inr (Or.inl ⟨by rw [(hk _ "crop").mp hc], rfl⟩)
    next hc => exact Or.inr (Or.inr (Or.inl ⟨by rw [(hk _ "cross").mp hc], rfl⟩))
    next hc => exact Or.inl ⟨by rw [(hk _ "none").mp hc], rfl⟩
  · rintro (⟨rfl, rfl⟩ | ⟨rfl, rfl⟩ | ⟨rfl, rfl⟩ | ⟨rfl, rfl⟩ | ⟨rfl, rfl⟩) <;> decide

/-- css-page-3: the computed value of `bleed: auto` is 6pt (8px) **exactly when `marks` contains `crop`**, otherwise
zero — whatever else `marks` contains and whatever the font sizes. -/
theorem bleed_auto (marks : List String) (fs rfs : Rat) :
    bleedComputed marks fs rfs .auto = .px (if "crop" ∈ marks then 8 else 0) := by
  simp only [bleedComputed]
  congr 1
  by_cases h : "crop" ∈ marks <;> simp [h]

/-- Registration crosses alone need no bleed (the input of seeded change C14-4). -/
example : bleedComputed ["cross"] 16 16 .auto = .px 0 ∧ bleedComputed ["cross", "crop"] 16 16 .auto = .px 8 := by
  decide +kernel

/-- A length for `bleed` does not depend on `marks`. -/
theorem bleed_length (m1 m2 : List String) (fs rfs : Rat) (d : SDim) :
    bleedComputed m1 fs rfs (.len d) = bleedComputed m2 fs rfs (.len d) := rfl

/-- 6pt is 8px in the generated unit table (the constant 8 of `computed_values.bleed` is the spec's 6pt). -/
example : computeLength 16 16 ⟨6, some "pt"⟩ = .px 8 := by decide +kernel

/-! ## The sheet of one rule -/

/-- An invalid `size` leaves the initial A4 sheet; an invalid `marks` leaves none; an invalid `bleed` leaves the
user-agent value. -/
theorem sheet_invalid_declarations (fs rfs : Rat) (ua : Rat) (size marks bleed : List STok)
    (hs : sizeValidate size = none) (hm : marksValidate marks = none) (hb : bleedValidate bleed = none) :
    sheetOf fs rfs (some ua) (some size) (some marks) (some bleed) = sheetOf fs rfs (some ua) none none none := by
  simp [sheetOf, hs, hm, hb]

example : sheetOf 16 16 (some 0) none none none =
    { width := .px (210 * 960 / 254), height := .px (297 * 960 / 254), bleed := .px 0, marks := [] } := by
  decide +kernel

end Wp.C14
