/-
C10 — Tables: grid geometry, width distribution, collapsed borders.  All statements are about the
executable models `Model/TableWidths.lean`, `Model/TableBorders.lean` and `Model/TableRows.lean`
(↔ `weasyprint/layout/table.py`; the last one also holds the checker of the fragments of a split
table), which the correspondence harness `py/props/c10.py` runs against the real functions on
every check.
-/
import WpModel.Lemmas.TableSums
import WpModel.Model.TableBorders
import WpModel.Model.TableRows
import WpModel.Lemmas.Basic.Except

namespace Wp.C10
open Wp Wp.Table

/-! ## Fixed layout (`fixed_table_layout`) -/

private theorem length_fillSpan (cw : List (Option Rat)) (i k : Nat) (v : Rat) :
    (fillSpan cw i k v).length = cw.length := by
  simp [fillSpan]

/-- What holds of the widths before the first row's cells, and survives a cell's spreading a non-negative share over
the gaps of its span, holds after them. -/
private theorem foldl_cellStep_inv (P : List (Option Rat) → Prop)
    (hP : ∀ cw i k v, 0 ≤ v → P cw → P (fillSpan cw i k v)) (s W : Rat) (cells : List FCell)
    (st : List (Option Rat) × Nat) (h : P st.1) : P (cells.foldl (cellStep s W) st).1 := by
  induction cells generalizing st with
  | nil => exact h
  | cons c cs ih =>
    refine ih _ ?_
    unfold cellStep
    dsimp only
    split
    · exact h
    · split
      · exact h
      · exact hP _ _ _ _ (div_nonneg (le_max_right _ _) (by exact_mod_cast Nat.zero_le _)) h

theorem length_fixedAfterCells (W s : Rat) (cols : List Dim) (cells : List FCell) :
    (fixedAfterCells W s cols cells).length = numColumns cols cells := by
  unfold fixedAfterCells
  rw [foldl_cellStep_inv (·.length = _) (fun _ _ _ _ _ h => (length_fillSpan _ _ _ _).trans h) s W cells _ rfl]
  simp only [List.length_append, List.length_map, List.length_replicate]
  unfold numColumns
  omega

private theorem length_fillNone (f : Rat) (cw : List (Option Rat)) : (fillNone f cw).length = cw.length := by
  simp [fillNone]

theorem length_fixedFilled (W s : Rat) (cols : List Dim) (cells : List FCell) :
    (fixedFilled W s cols cells).length = numColumns cols cells := by
  unfold fixedFilled
  simp only [length_fillNone, length_fixedAfterCells]

/-- `fixed_table_layout` in closed form: on a table of known width it does not raise, every column is
its filled width plus the common bump, and the table is widened by a negative `extra`. -/
theorem fixedLayout_eq (W s : Rat) (cols : List Dim) (cells : List FCell) :
    fixedLayout (some W) s cols cells =
      .ok ⟨W - min (fixedExtra W s cols cells) 0,
           (fixedFilled W s cols cells).map (· + fixedBump W s cols cells)⟩ := by
  unfold fixedLayout fixedBump
  simp only
  split
  · rename_i hx
    simp [hx]
  · rename_i hx
    have hx' : 0 ≤ fixedExtra W s cols cells := le_of_lt (not_le.mp hx)
    split <;> simp [hx']

theorem fixed_closed_form (W s : Rat) (cols : List Dim) (cells : List FCell) (o : FixedOut)
    (h : fixedLayout (some W) s cols cells = .ok o) :
    o.cols = (fixedFilled W s cols cells).map (· + fixedBump W s cols cells) ∧
    o.width = W - min (fixedExtra W s cols cells) 0 := by
  rw [fixedLayout_eq] at h
  obtain rfl := Except.ok.inj h
  exact ⟨rfl, rfl⟩

/-- **fixed_sum.** After `fixed_table_layout`, the column widths plus the `n + 1` border spacings add
up exactly to the (possibly widened) table width, the table is never narrower than requested, and
there is one width per grid column.  (With zero columns the code leaves `table.width` alone, hence
the side condition; the source comment says the same.) -/
theorem fixed_sum (W s : Rat) (cols : List Dim) (cells : List FCell) (o : FixedOut)
    (h : fixedLayout (some W) s cols cells = .ok o)
    (hn : numColumns cols cells ≠ 0 ∨ W ≤ s) :
    sumR o.cols + s * ((o.cols.length : Rat) + 1) = o.width ∧
    W ≤ o.width ∧ o.cols.length = numColumns cols cells := by
  obtain ⟨hcols, hwidth⟩ := fixed_closed_form W s cols cells o h
  have hlen := length_fixedFilled W s cols cells
  have hex : fixedExtra W s cols cells =
      W - sumR (fixedFilled W s cols cells) - s * ((numColumns cols cells : Rat) + 1) := rfl
  rw [hcols, hwidth, List.length_map, hlen, sumR_map_add, hlen]
  refine ⟨?_, by linarith [min_le_right (fixedExtra W s cols cells) 0], rfl⟩
  -- what is left: the bumps add up to `max extra 0`
  unfold fixedBump
  split
  · rename_i hx
    rw [min_eq_left hx, hex]
    ring
  · rename_i hx
    rw [min_eq_right (not_le.mp hx).le]
    split
    · rename_i hn0
      have hne : (numColumns cols cells : Rat) ≠ 0 := by exact_mod_cast hn0
      rw [mul_div_cancel₀ _ hne, hex]
      ring
    · rename_i hn0
      -- no column: nothing is filled, `extra = W − s`, and `hn` makes that `≤ 0`
      have hz : numColumns cols cells = 0 := by omega
      rcases hn with hn | hn
      · exact absurd hz hn
      · exfalso
        apply hx
        rw [hex, List.eq_nil_of_length_eq_zero (hlen.trans hz), hz]
        simp
        linarith

/-- `fixed_table_layout` raises only through its `assert table.width != 'auto'`. -/
theorem fixed_total (W s : Rat) (cols : List Dim) (cells : List FCell) :
    ∃ o, fixedLayout (some W) s cols cells = .ok o :=
  ⟨_, fixedLayout_eq W s cols cells⟩

example : fixedLayout (some 100) 2 [.px 30, .auto] [⟨1, .auto, 0, 0, 0, 0, .content⟩,
    ⟨1, .auto, 0, 0, 0, 0, .content⟩] = .ok ⟨100, [30, 64]⟩ := by
  decide +kernel

private theorem sumR_fillNone (f : Rat) (cw : List (Option Rat)) :
    sumR (fillNone f cw) = sumR (cw.filterMap id) + ((cw.filter Option.isNone).length : Rat) * f := by
  induction cw with
  | nil => simp [fillNone]
  | cons o os ih =>
    unfold fillNone at ih ⊢
    cases o with
    | none => simp [ih]; ring
    | some w => simp [ih]; ring

/-- The bump is never negative: columns are only ever widened by the last step. -/
theorem fixedBump_nonneg (W s : Rat) (cols : List Dim) (cells : List FCell) :
    0 ≤ fixedBump W s cols cells := by
  unfold fixedBump
  split
  · exact le_refl _
  · rename_i hx
    split
    · apply div_nonneg (le_of_lt (not_le.mp hx))
      exact_mod_cast Nat.zero_le _
    · exact le_refl _

/-- `extra_width` in closed form: it is 0 as soon as some column is left without a declared width and
the table is at least as wide as the declared total; otherwise it is `table.width − declared total`. -/
theorem fixedExtra_eq (W s : Rat) (cols : List Dim) (cells : List FCell) :
    let cw1 := fixedAfterCells W s cols cells
    let minW := sumR (cw1.filterMap id) + allSpacing s cols cells
    fixedExtra W s cols cells =
      if (cw1.filter Option.isNone).length ≠ 0 ∧ W ≥ minW then 0 else W - minW := by
  intro cw1 minW
  unfold fixedExtra fixedFilled
  rw [sumR_fillNone]
  unfold fixedFill
  simp only
  split
  · rename_i hc
    have hu : (((fixedAfterCells W s cols cells).filter Option.isNone).length : Rat) ≠ 0 := by
      exact_mod_cast hc.1
    rw [mul_div_cancel₀ _ hu]
    ring
  · simp only [mul_zero, add_zero]
    ring

/-- `for j in columns_without_width: column_widths[j] = v` on one entry. -/
private def fillOpt (v : Rat) (o : Option Rat) : Option Rat := match o with | some w => some w | none => some v

private theorem fillSpan_getElem (cw : List (Option Rat)) (i k : Nat) (v : Rat) (j : Nat) :
    (fillSpan cw i k v)[j]? = (cw[j]?).map (fun o => if i ≤ j ∧ j < i + k then fillOpt v o else o) := by
  unfold fillSpan
  rw [List.getElem?_mapIdx]
  rfl

/-- A `some` entry of `column_widths` is never overwritten by a later first-row cell. -/
private theorem fillSpan_some (cw : List (Option Rat)) (i k : Nat) (v w : Rat) (j : Nat)
    (h : cw[j]? = some (some w)) : (fillSpan cw i k v)[j]? = some (some w) := by
  rw [fillSpan_getElem, h]
  simp only [Option.map_some]
  split <;> rfl

/-- A final column is what the first-row pass left for it, or the equal share of the remainder, plus the
common bump. -/
private theorem fixed_col_getElem (W s : Rat) (cols : List Dim) (cells : List FCell) (o : FixedOut)
    (h : fixedLayout (some W) s cols cells = .ok o) (j : Nat) (ov : Option Rat)
    (hj : (fixedAfterCells W s cols cells)[j]? = some ov) :
    o.cols[j]? = some (ov.getD (fixedFill W (allSpacing s cols cells) (fixedAfterCells W s cols cells))
                       + fixedBump W s cols cells) := by
  rw [(fixed_closed_form W s cols cells o h).1, List.getElem?_map]
  unfold fixedFilled fillNone
  rw [List.getElem?_map, hj]
  cases ov <;> rfl

/-- **fixed_honours (columns).** A column whose `<col>` has a declared width (px or %) gets exactly
that width plus the common non-negative bump: it is never shrunk, and it keeps its width exactly
unless all columns are declared and the table is wider than their total (`fixedExtra_eq`). -/
theorem fixed_honours_col (W s : Rat) (cols : List Dim) (cells : List FCell) (o : FixedOut)
    (h : fixedLayout (some W) s cols cells = .ok o)
    (i : Nat) (hi : i < cols.length) (w : Rat) (hw : cols[i].used W = some w) :
    o.cols[i]? = some (w + fixedBump W s cols cells) ∧ w ≤ w + fixedBump W s cols cells := by
  refine ⟨?_, by linarith [fixedBump_nonneg W s cols cells]⟩
  have h0 : (cols.map (·.used W) ++ List.replicate (numColumns cols cells - cols.length) none)[i]?
      = some (some w) := by
    rw [List.getElem?_append_left (by simpa using hi)]
    simp [hi, hw]
  refine fixed_col_getElem W s cols cells o h i (some w) ?_
  exact foldl_cellStep_inv (·[i]? = some (some w)) (fun _ _ _ _ _ => fillSpan_some _ _ _ _ _ _) s W cells _ h0

/-- **fixed_honours (first-row cells), one step.** A first-row cell of declared border-box width `bw`
starting at column `i` and spanning `k` columns, `m ≥ 1` of which have no width yet, gives each of
those `max(bw − (k−1)·s − known, 0) / m` (the clamp is the repair 5d962d2: never a negative width);
columns that already have a width and columns outside the span are untouched. -/
theorem fixed_cell_share (s W : Rat) (cw : List (Option Rat)) (i : Nat) (c : FCell) (bw : Rat)
    (hbw : c.borderWidth W = some bw) (hm : spanUnknown cw i c.colspan ≠ 0) (j : Nat) (hj : j < cw.length) :
    (cellStep s W (cw, i) c).1[j]? =
      some (if i ≤ j ∧ j < i + c.colspan then
              (match cw[j] with
               | some w => some w
               | none => some (max (bw - s * ((c.colspan : Rat) - 1) - spanKnown cw i c.colspan) 0 /
                               (spanUnknown cw i c.colspan : Rat)))
            else cw[j]) ∧
    (cellStep s W (cw, i) c).2 = i + c.colspan := by
  unfold cellStep
  simp only [hbw, hm, if_false]
  refine ⟨?_, trivial⟩
  rw [fillSpan_getElem, List.getElem?_eq_getElem hj]
  rfl

private theorem window_fillSpan (cw : List (Option Rat)) (i k : Nat) (v : Rat) :
    ((fillSpan cw i k v).drop i).take k = ((cw.drop i).take k).map (fillOpt v) := by
  apply List.ext_getElem?
  intro j
  by_cases hj : j < k
  · rw [List.getElem?_take_of_lt hj, List.getElem?_drop, List.getElem?_map, List.getElem?_take_of_lt hj,
      List.getElem?_drop, fillSpan_getElem]
    have hc : i ≤ i + j ∧ i + j < i + k := ⟨by omega, by omega⟩
    simp only [hc, and_self, if_true]
  · rw [List.getElem?_take_eq_none (by omega), List.getElem?_map, List.getElem?_take_eq_none (by omega)]
    rfl

/-- Filling every gap and reading the widths off is `fillNone`; no gap is left. -/
private theorem filterMap_fillOpt (l : List (Option Rat)) (v : Rat) :
    (l.map (fillOpt v)).filterMap id = fillNone v l ∧ (l.map (fillOpt v)).filter Option.isNone = [] := by
  induction l with
  | nil => exact ⟨rfl, rfl⟩
  | cons o os ih =>
    refine ⟨?_, ?_⟩
    · cases o <;> exact congrArg (_ :: ·) ih.1
    · cases o <;> exact ih.2

/-- **fixed_honours (first-row cells), exact.** A first-row cell whose declared border-box width `bw`
covers the spacings and the widths already known in its span (`share ≥ 0`: feasible) gets exactly
`bw`: after its step every column of its span has a width and they add up, with the spacings between
them, to `bw`. -/
theorem fixed_cell_exact (s W : Rat) (cw : List (Option Rat)) (i : Nat) (c : FCell) (bw : Rat)
    (hbw : c.borderWidth W = some bw) (hm : spanUnknown cw i c.colspan ≠ 0)
    (hfeas : 0 ≤ cellShare s cw i c.colspan bw) :
    spanUnknown (cellStep s W (cw, i) c).1 i c.colspan = 0 ∧
    spanKnown (cellStep s W (cw, i) c).1 i c.colspan + s * ((c.colspan : Rat) - 1) = bw := by
  obtain ⟨v, hv⟩ : ∃ v, v = max (cellShare s cw i c.colspan bw) 0 / (spanUnknown cw i c.colspan : Rat) := ⟨_, rfl⟩
  have hstep : (cellStep s W (cw, i) c).1 = fillSpan cw i c.colspan v := by
    unfold cellStep
    simp only [hbw, hm, if_false, hv]
  have hu : (((cw.drop i).take c.colspan).filter Option.isNone).length = spanUnknown cw i c.colspan := rfl
  have hk : sumR (((cw.drop i).take c.colspan).filterMap id) = spanKnown cw i c.colspan := rfl
  rw [hstep]
  obtain ⟨h1, h2⟩ := filterMap_fillOpt ((cw.drop i).take c.colspan) v
  have g1 : spanUnknown (fillSpan cw i c.colspan v) i c.colspan = 0 := by
    unfold spanUnknown
    rw [window_fillSpan, h2]
    rfl
  have g2 : spanKnown (fillSpan cw i c.colspan v) i c.colspan = spanKnown cw i c.colspan +
      (spanUnknown cw i c.colspan : Rat) * v := by
    show sumR ((((fillSpan cw i c.colspan v).drop i).take c.colspan).filterMap id) = _
    rw [window_fillSpan, h1, sumR_fillNone, hu, hk]
  refine ⟨g1, ?_⟩
  rw [g2, hv, max_eq_left hfeas]
  have hne : ((spanUnknown cw i c.colspan : Nat) : Rat) ≠ 0 := by exact_mod_cast hm
  rw [mul_div_cancel₀ _ hne]
  unfold cellShare
  ring

/-- Non-vacuity of `fixed_cell_exact`: `<col width=30><col><col>`, a first-row `<td colspan=3 width=100>`,
spacing 2: the two columns without width get `(100 − 2·2 − 30) / 2 = 33` each and `30 + 33 + 33 + 2·2 = 100`. -/
example : (cellStep 2 200 ([some 30, none, none], 0) ⟨3, .px 100, 0, 0, 0, 0, .content⟩).1 = [some 30, some 33, some 33] := by
  decide +kernel

/-- **fixed_honours (first-row cells), final widths.** The width a cell hands to a column survives
the rest of the algorithm: with `(cw, i)` the state reached before the cell, a spanned column `j`
without width ends up with the cell's equal share (clamped at 0) plus the common bump. -/
theorem fixed_honours_cell (W s : Rat) (cols : List Dim) (pre post : List FCell) (c : FCell) (o : FixedOut)
    (h : fixedLayout (some W) s cols (pre ++ c :: post) = .ok o)
    (bw : Rat) (hbw : c.borderWidth W = some bw) :
    let n := numColumns cols (pre ++ c :: post)
    let st := pre.foldl (cellStep s W) (cols.map (·.used W) ++ List.replicate (n - cols.length) none, 0)
    ∀ j, st.2 ≤ j → j < st.2 + c.colspan → st.1[j]? = some none →
      o.cols[j]? = some (max (cellShare s st.1 st.2 c.colspan bw) 0 / (spanUnknown st.1 st.2 c.colspan : Rat)
                         + fixedBump W s cols (pre ++ c :: post)) := by
  intro n st j hj1 hj2 hnone
  obtain ⟨hjlen, hget⟩ := List.getElem?_eq_some_iff.mp hnone
  -- the span contains an unknown column, so the cell assigns
  have hmem : (none : Option Rat) ∈ (st.1.drop st.2).take c.colspan := by
    rw [List.mem_iff_getElem?]
    exact ⟨j - st.2, by rw [List.getElem?_take_of_lt (by omega), List.getElem?_drop,
      Nat.add_sub_cancel' hj1, hnone]⟩
  have hm : spanUnknown st.1 st.2 c.colspan ≠ 0 :=
    (List.length_pos_of_mem (List.mem_filter.mpr ⟨hmem, rfl⟩)).ne'
  have hstep := (fixed_cell_share s W st.1 st.2 c bw hbw hm j hjlen).1
  simp only [hj1, hj2, and_self, if_true, hget] at hstep
  refine fixed_col_getElem W s cols _ o h j (some _) ?_
  unfold fixedAfterCells
  simp only [List.foldl_append, List.foldl_cons]
  exact foldl_cellStep_inv (·[_]? = some (some _)) (fun _ _ _ _ _ => fillSpan_some _ _ _ _ _ _) _ _ _ _ hstep

/-- **fixed_honours (remaining columns).** Columns with no information at all share the remainder
equally: each gets `fixedFill` (= `(W − declared total) / u` when the table is wide enough, else 0)
plus the common bump. -/
theorem fixed_honours_rest (W s : Rat) (cols : List Dim) (cells : List FCell) (o : FixedOut)
    (h : fixedLayout (some W) s cols cells = .ok o) (j : Nat)
    (hj : (fixedAfterCells W s cols cells)[j]? = some none) :
    o.cols[j]? = some (fixedFill W (allSpacing s cols cells) (fixedAfterCells W s cols cells)
                       + fixedBump W s cols cells) :=
  fixed_col_getElem W s cols cells o h j none hj

private theorem fillSpan_nonneg (cw : List (Option Rat)) (i k : Nat) (v : Rat) (hv : 0 ≤ v)
    (h : ∀ w, some w ∈ cw → 0 ≤ w) : ∀ w, some w ∈ fillSpan cw i k v → 0 ≤ w := by
  intro w hw
  obtain ⟨j, hj⟩ := List.mem_iff_getElem?.mp hw
  rw [fillSpan_getElem] at hj
  obtain ⟨o, ho, hw⟩ := Option.map_eq_some_iff.mp hj
  have hmem : o ∈ cw := List.mem_of_getElem? ho
  split at hw
  · cases o with
    | some x => exact h w (hw ▸ hmem)
    | none => obtain rfl := Option.some.inj hw; exact hv
  · exact h w (hw ▸ hmem)

/-- Non-negative `<col>` declarations (px, or % of the table width). -/
def NonnegCols (W : Rat) (cols : List Dim) : Prop := ∀ d ∈ cols, ∀ w, d.used W = some w → 0 ≤ w

/-- Every width known after the first-row pass is `≥ 0` as soon as the declared `<col>` widths are:
a first-row cell hands out `max(share, 0) / m` (repair 5d962d2). -/
theorem fixedAfterCells_nonneg (W s : Rat) (cols : List Dim) (cells : List FCell)
    (hcols : NonnegCols W cols) : ∀ w, some w ∈ fixedAfterCells W s cols cells → 0 ≤ w := by
  apply foldl_cellStep_inv (fun cw => ∀ w, some w ∈ cw → 0 ≤ w) (fun _ _ _ _ hv => fillSpan_nonneg _ _ _ _ hv)
  intro w hw
  simp only [List.mem_append, List.mem_map, List.mem_replicate] at hw
  rcases hw with ⟨d, hd, hdw⟩ | ⟨_, hw⟩
  · exact hcols d hd w hdw
  · cases hw

/-- **fixed_nonneg.** With non-negative `<col>` declarations every final column width is `≥ 0`,
whatever the first-row cells declare (even negative or infeasible widths): the code clamps a cell's
share at 0 (commit 5d962d2, finding `fixed-negative-column`). -/
theorem fixed_nonneg (W s : Rat) (cols : List Dim) (cells : List FCell) (o : FixedOut)
    (h : fixedLayout (some W) s cols cells = .ok o) (hcols : NonnegCols W cols) :
    ∀ w ∈ o.cols, 0 ≤ w := by
  have hpos := fixedAfterCells_nonneg W s cols cells hcols
  intro w hw
  rw [(fixed_closed_form W s cols cells o h).1, List.mem_map] at hw
  obtain ⟨v, hv, rfl⟩ := hw
  have hb := fixedBump_nonneg W s cols cells
  have hfill : 0 ≤ fixedFill W (allSpacing s cols cells) (fixedAfterCells W s cols cells) := by
    unfold fixedFill
    simp only
    split
    · rename_i hc
      apply div_nonneg
      · linarith [hc.2]
      · exact_mod_cast Nat.zero_le _
    · exact le_refl _
  have : 0 ≤ v := by
    unfold fixedFilled fillNone at hv
    rw [List.mem_map] at hv
    obtain ⟨ov, hov, rfl⟩ := hv
    cases ov with
    | none => exact hfill
    | some x => exact hpos x hov
  linarith

/-- Regression input of the former finding `fixed-negative-column`: `<col width=100><col>`, one
`<td colspan=2 width=50>` in a 60px table: the second column now gets 0 (then nothing: the table is
widened to 100), not −50. -/
example : fixedLayout (some 60) 0 [.px 100, .auto] [⟨2, .px 50, 0, 0, 0, 0, .content⟩] = .ok ⟨100, [100, 0]⟩ := by
  decide +kernel

example : fixedLayout (some 200) 0 [.px 100, .auto, .auto] [⟨2, .px 130, 0, 0, 0, 0, .content⟩]
    = .ok ⟨200, [100, 30, 70]⟩ := by decide +kernel

/-! ## Excess width (`distribute_excess_width`) -/

private theorem shareProp_eq (sel : Sel) (f : ACol → Rat) (excess : Rat) (cols : List ACol)
    (cw : List Rat) (site : String) (hne : selSum sel f 0 cols ≠ 0) :
    shareProp sel f excess cols cw site =
      .ok (addSel sel (fun c => f c * (excess / selSum sel f 0 cols)) 0 cols cw) := by
  unfold shareProp
  exact if_neg hne

private theorem shareEqual_eq (sel : Sel) (excess : Rat) (cols : List ACol)
    (cw : List Rat) (site : String) (hne : selCount sel 0 cols ≠ 0) :
    shareEqual sel excess cols cw site =
      .ok (addSel sel (fun _ => excess / (selCount sel 0 cols : Rat)) 0 cols cw) := by
  unfold shareEqual
  exact if_neg hne

private theorem group1_spec {start : Nat} {stop : Option Nat} {j : Nat} {c : ACol}
    (h : group1 start stop j c = true) : inSlice start stop j = true ∧ 0 < c.maxW := by
  simp only [group1, Bool.and_eq_true, decide_eq_true_eq] at h
  exact ⟨h.1.1.1, h.2⟩

private theorem group2_spec {start : Nat} {stop : Option Nat} {j : Nat} {c : ACol}
    (h : group2 start stop j c = true) : inSlice start stop j = true := by
  simp only [group2, Bool.and_eq_true] at h
  exact h.1.1

private theorem group3_spec {start : Nat} {stop : Option Nat} {j : Nat} {c : ACol}
    (h : group3 start stop j c = true) : inSlice start stop j = true ∧ 0 < c.maxW := by
  simp only [group3, Bool.and_eq_true, decide_eq_true_eq] at h
  exact ⟨h.1.1.1, h.2⟩

private theorem group4_spec {start : Nat} {stop : Option Nat} {j : Nat} {c : ACol}
    (h : group4 start stop j c = true) : inSlice start stop j = true ∧ 0 < c.pct := by
  simp only [group4, Bool.and_eq_true, decide_eq_true_eq] at h
  exact ⟨h.1.1, h.1.2⟩

private theorem group5_spec {start : Nat} {stop : Option Nat} {j : Nat} {c : ACol}
    (h : group5 start stop j c = true) : inSlice start stop j = true := by
  simp only [group5, Bool.and_eq_true] at h
  exact h.1

private theorem addSel_false (i : Nat) (cols : List ACol) (cw : List Rat) (f : ACol → Rat) :
    addSel (fun _ _ => false) f i cols cw = cw := by
  fun_induction addSel (fun _ _ => false) f i cols cw with
  | case1 => rfl
  | case2 => rfl
  | case3 i c cs w ws ih => rw [ih]; rfl

/-- `r` is `cw` with amounts added to some columns *inside the slice*; the amounts are non-negative
when the excess is, and they add up to `excess` as soon as the slice is not empty (group 6
non-empty), to 0 otherwise. -/
def Shares (cols : List ACol) (excess : Rat) (cw : List Rat) (start : Nat) (stop : Option Nat)
    (r : Except PyErr (List Rat)) : Prop :=
  ∃ (sel : Sel) (amt : ACol → Rat),
    (∀ j c, sel j c = true → inSlice start stop j = true) ∧
    (0 ≤ excess → ∀ j c, sel j c = true → 0 ≤ amt c) ∧
    selSum sel amt 0 cols = (if selCount (group6 start stop) 0 cols ≠ 0 then excess else 0) ∧
    r = .ok (addSel sel amt 0 cols cw)

section
variable {cols : List ACol} {excess : Rat} {cw : List Rat} {start : Nat} {stop : Option Nat}

private theorem total_of_group {sel : Sel} (hin : ∀ j c, sel j c = true → inSlice start stop j = true)
    (hne : selCount sel 0 cols ≠ 0) :
    (if selCount (group6 start stop) 0 cols ≠ 0 then excess else 0) = excess :=
  if_pos (selCount_mono sel (group6 start stop) hin 0 cols hne)

private theorem shares_prop {sel : Sel} {f : ACol → Rat} (site : String)
    (hsel : ∀ j c, sel j c = true → inSlice start stop j = true ∧ 0 < f c)
    (hne : selCount sel 0 cols ≠ 0) :
    Shares cols excess cw start stop (shareProp sel f excess cols cw site) := by
  have hp := selSum_pos sel f 0 cols (fun j c h => (hsel j c h).2) hne
  refine ⟨sel, _, fun j c h => (hsel j c h).1, fun hex j c hs => ?_, ?_,
    shareProp_eq sel f excess cols cw site hp.ne'⟩
  · exact mul_nonneg (hsel j c hs).2.le (div_nonneg hex hp.le)
  · rw [selSum_mul, mul_div_cancel₀ _ hp.ne', total_of_group (fun j c h => (hsel j c h).1) hne]

private theorem shares_equal {sel : Sel} (site : String)
    (hin : ∀ j c, sel j c = true → inSlice start stop j = true) (hne : selCount sel 0 cols ≠ 0) :
    Shares cols excess cw start stop (shareEqual sel excess cols cw site) := by
  have hn : (selCount sel 0 cols : Rat) ≠ 0 := by exact_mod_cast hne
  refine ⟨sel, _, hin, fun hex j c _ => ?_, ?_, shareEqual_eq sel excess cols cw site hne⟩
  · exact div_nonneg hex (by exact_mod_cast Nat.zero_le _)
  · rw [selSum_const, mul_div_cancel₀ _ hn, total_of_group hin hne]

/-- What `distribute_excess_width` does, whichever of its six groups it takes.  In particular it
never raises: the group that is divided by is not empty, and a non-empty proportional group has a
positive total. -/
theorem excess_shape (cols : List ACol) (excess : Rat) (cw : List Rat) (start : Nat) (stop : Option Nat) :
    Shares cols excess cw start stop (distributeExcess cols excess cw start stop) := by
  unfold distributeExcess
  by_cases h1 : selCount (group1 start stop) 0 cols ≠ 0
  · rw [if_pos h1]
    exact shares_prop _ (fun _ _ => group1_spec) h1
  rw [if_neg h1]
  by_cases h2 : selCount (group2 start stop) 0 cols ≠ 0
  · rw [if_pos h2]
    exact shares_equal _ (fun _ _ => group2_spec) h2
  rw [if_neg h2]
  by_cases h3 : selCount (group3 start stop) 0 cols ≠ 0
  · rw [if_pos h3]
    exact shares_prop _ (fun _ _ => group3_spec) h3
  rw [if_neg h3]
  by_cases h4 : selCount (group4 start stop) 0 cols ≠ 0
  · rw [if_pos h4]
    exact shares_prop _ (fun _ _ => group4_spec) h4
  rw [if_neg h4]
  by_cases h5 : selCount (group5 start stop) 0 cols ≠ 0
  · rw [if_pos h5]
    exact shares_equal _ (fun _ _ => group5_spec) h5
  rw [if_neg h5]
  by_cases h6 : selCount (group6 start stop) 0 cols ≠ 0
  · rw [if_pos h6]
    exact shares_equal _ (fun _ _ h => h) h6
  rw [if_neg h6]
  refine ⟨fun _ _ => false, fun _ => 0, fun _ _ h => (nomatch h), fun _ _ _ h => (nomatch h), ?_, ?_⟩
  · rw [if_neg h6]
    exact selSum_const _ 0 0 cols ▸ mul_zero _
  · rw [addSel_false]

end

/-- What `distribute_excess_width` does, as one statement: it never raises (no division by zero in
any of the six groups), keeps the number of columns, and adds exactly `excess` in total as soon as
the column slice is not empty (group 6 non-empty); with an empty slice nothing changes. -/
theorem excess_sum (cols : List ACol) (excess : Rat) (cw : List Rat) (start : Nat) (stop : Option Nat)
    (hlen : cw.length = cols.length) :
    ∃ r, distributeExcess cols excess cw start stop = .ok r ∧ r.length = cw.length ∧
      sumR r = sumR cw + (if selCount (group6 start stop) 0 cols ≠ 0 then excess else 0) := by
  obtain ⟨sel, amt, _, _, hsum, heq⟩ := excess_shape cols excess cw start stop
  exact ⟨_, heq, length_addSel sel amt 0 cols cw, by rw [sumR_addSel sel amt 0 cols cw hlen, hsum]⟩

private theorem LeList_addSel (sel : Sel) (f : ACol → Rat) (i : Nat) (cols : List ACol) (cw : List Rat)
    (hf : ∀ j c, sel j c = true → 0 ≤ f c) :
    LeList cw (addSel sel f i cols cw) := by
  fun_induction addSel sel f i cols cw with
  | case1 => exact LeList.refl _
  | case2 => trivial
  | case3 i c cs w ws ih =>
    refine ⟨?_, ih⟩
    by_cases hc : sel i c = true
    · simp only [hc, if_true]; linarith [hf i c hc]
    · simp [hc]

/-- A non-negative excess never narrows a column. -/
theorem excess_ge (cols : List ACol) (excess : Rat) (cw r : List Rat) (start : Nat) (stop : Option Nat)
    (hex : 0 ≤ excess)
    (h : distributeExcess cols excess cw start stop = .ok r) : LeList cw r := by
  obtain ⟨sel, amt, _, hnn, _, heq⟩ := excess_shape cols excess cw start stop
  rw [heq] at h
  injection h with h; subst h
  exact LeList_addSel sel amt 0 cols cw (hnn hex)

/-- Columns outside the slice are untouched. -/
theorem excess_outside (cols : List ACol) (excess : Rat) (cw r : List Rat) (start : Nat) (stop : Option Nat)
    (hlen : cw.length = cols.length)
    (h : distributeExcess cols excess cw start stop = .ok r)
    (j : Nat) (hj : inSlice start stop j = false) : r[j]? = cw[j]? := by
  obtain ⟨sel, amt, hin, _, _, heq⟩ := excess_shape cols excess cw start stop
  rw [heq] at h
  injection h with h; subst h
  by_cases hjl : j < cols.length
  · rw [getElem_addSel sel amt 0 cols cw j hjl hlen]
    have : sel (0 + j) cols[j] = false := Bool.eq_false_iff.mpr fun hs => by
      have := hin _ _ hs
      rw [Nat.zero_add, hj] at this
      cases this
    rw [this, List.getElem?_eq_getElem (hlen ▸ hjl)]
    rfl
  · rw [List.getElem?_eq_none (by rw [length_addSel, hlen]; omega),
        List.getElem?_eq_none (by rw [hlen]; omega)]

example : distributeExcess [⟨10, 30, 0, false, true⟩, ⟨5, 10, 0, false, true⟩, ⟨0, 0, 50, true, true⟩]
    20 [30, 10, 0] 0 none = .ok [45, 15, 0] := by decide +kernel

/-! ## Auto layout (`auto_table_layout`, given the preferred widths) -/

/-- **auto_bounds.** The three-way choice of `table.width`: never below the table's min-content
width; for `width: auto` never above its max-content width and equal to the available width when
that lies in between; a specified width is kept unless it is below the min-content width. -/
theorem auto_bounds (W : Len) (avail tmin tmax : Rat) (h : tmin ≤ tmax) :
    tmin ≤ autoTableWidth W avail tmin tmax ∧
    (W = none → autoTableWidth W avail tmin tmax ≤ tmax ∧
       (tmin ≤ avail → avail ≤ tmax → autoTableWidth W avail tmin tmax = avail)) ∧
    (∀ v, W = some v → autoTableWidth W avail tmin tmax = max v tmin) := by
  cases W with
  | none =>
    have key : autoTableWidth none avail tmin tmax =
        if avail ≤ tmin then tmin else if avail < tmax then avail else tmax := rfl
    rw [key]
    refine ⟨?_, fun _ => ⟨?_, fun h1 h2 => ?_⟩, fun v hv => (nomatch hv)⟩
    all_goals split_ifs <;> linarith
  | some w =>
    have key : autoTableWidth (some w) avail tmin tmax = if w < tmin then tmin else w := rfl
    rw [key]
    refine ⟨?_, fun hn => (nomatch hn), fun v hv => ?_⟩
    · split_ifs <;> linarith
    · obtain rfl := Option.some.inj hv
      split_ifs with h1
      · exact (max_eq_right h1.le).symm
      · exact (max_eq_left (not_lt.mp h1)).symm

/-- Well-formed preferred widths of the columns: assumed of the tuple
`table_and_columns_preferred_widths` returns (`Model/TablePreferred`; that its output is well-formed
is not proved). -/
def WfCols (cols : List ACol) : Prop := ∀ c ∈ cols, 0 ≤ c.minW ∧ c.minW ≤ c.maxW ∧ 0 ≤ c.pct

/-- The part of `WfCols` the theorems below use. -/
theorem WfCols.min_le_max {cols : List ACol} (h : WfCols cols) : ∀ c ∈ cols, c.minW ≤ c.maxW :=
  fun c hc => (h c hc).2.1

private theorem pyMax_ge_right (a b : Rat) : b ≤ pyMax a b := (Rat.le_ite_gt b a).1

private theorem le01 (a : Rat) (cols : List ACol) : LeList (guess0 cols) (guess1 a cols) := by
  unfold guess0 guess1
  apply LeList.map
  intro c _
  split
  · exact pyMax_ge_right _ _
  · exact le_refl _

private theorem le12 (a : Rat) (cols : List ACol) (h : ∀ c ∈ cols, c.minW ≤ c.maxW) :
    LeList (guess1 a cols) (guess2 a cols) := by
  unfold guess1 guess2
  apply LeList.map
  intro c hc
  split
  · exact le_refl _
  · split
    · exact h c hc
    · exact le_refl _

private theorem le23 (a : Rat) (cols : List ACol) (h : ∀ c ∈ cols, c.minW ≤ c.maxW) :
    LeList (guess2 a cols) (guess3 a cols) := by
  unfold guess2 guess3
  apply LeList.map
  intro c hc
  split
  · exact le_refl _
  · split
    · exact le_refl _
    · exact h c hc

/-- The four guesses are pointwise increasing (css-tables-3 "width distribution algorithm"). -/
theorem guesses_ordered (a : Rat) (cols : List ACol) (h : WfCols cols) :
    LeList (guess0 cols) (guess1 a cols) ∧ LeList (guess1 a cols) (guess2 a cols) ∧
    LeList (guess2 a cols) (guess3 a cols) :=
  ⟨le01 a cols, le12 a cols h.min_le_max, le23 a cols h.min_le_max⟩

private theorem comparable_of_pairwise {l : List (List Rat)} (hp : l.Pairwise LeList) :
    ∀ x ∈ l, ∀ y ∈ l, LeList x y ∨ LeList y x := by
  induction hp with
  | nil => intro x hx; cases hx
  | cons hhead _ ih =>
    intro x hx y hy
    rcases List.mem_cons.mp hx with rfl | hx'
    · rcases List.mem_cons.mp hy with rfl | hy'
      · exact Or.inl (LeList.refl _)
      · exact Or.inl (hhead y hy')
    · rcases List.mem_cons.mp hy with rfl | hy'
      · exact Or.inr (hhead x hx')
      · exact ih x hx' y hy'

private theorem pairwise_of_chain {a b c d : List Rat} (hab : LeList a b) (hbc : LeList b c)
    (hcd : LeList c d) : [a, b, c, d].Pairwise LeList := by
  have hac := hab.trans hbc
  have hbd := hbc.trans hcd
  simp only [List.pairwise_cons, List.mem_cons, List.not_mem_nil, or_false, forall_eq_or_imp,
    forall_eq, IsEmpty.forall_iff, implies_true, List.Pairwise.nil, and_true]
  exact ⟨⟨hab, hac, hac.trans hcd⟩, ⟨hbc, hbd⟩, hcd⟩

private theorem guesses_pairwise (a : Rat) (cols : List ACol) (h : ∀ c ∈ cols, c.minW ≤ c.maxW) :
    [guess0 cols, guess1 a cols, guess2 a cols, guess3 a cols].Pairwise LeList :=
  pairwise_of_chain (le01 a cols) (le12 a cols h) (le23 a cols h)

private theorem ge_guess0 (a : Rat) (cols : List ACol) (h : ∀ c ∈ cols, c.minW ≤ c.maxW) :
    ∀ x ∈ [guess0 cols, guess1 a cols, guess2 a cols, guess3 a cols], LeList (guess0 cols) x := by
  intro x hx
  rcases List.mem_cons.mp hx with rfl | hx'
  · exact LeList.refl _
  · exact (List.pairwise_cons.mp (guesses_pairwise a cols h)).1 x hx'

/-- The scan ends on its start or on a candidate, and within the tolerance if it started there. -/
private theorem pickLower_spec (a : Rat) (gs : List (List Rat)) (cur : List Rat) :
    pickLower a gs cur ∈ cur :: gs ∧ (sumR cur ≤ a * (1 + eps) → sumR (pickLower a gs cur) ≤ a * (1 + eps)) := by
  fun_induction pickLower a gs cur with
  | case1 | case3 => exact ⟨List.mem_cons_self, id⟩
  | case2 cur g rest hg ih => exact ⟨List.mem_cons_of_mem _ ih.1, fun _ => ih.2 hg⟩

private theorem pickUpper_spec (a : Rat) (gs : List (List Rat)) (cur : List Rat) :
    pickUpper a gs cur ∈ cur :: gs ∧ (sumR cur ≥ a * (1 - eps) → sumR (pickUpper a gs cur) ≥ a * (1 - eps)) := by
  fun_induction pickUpper a gs cur with
  | case1 | case3 => exact ⟨List.mem_cons_self, id⟩
  | case2 cur g rest hg ih => exact ⟨List.mem_cons_of_mem _ ih.1, fun _ => ih.2 hg⟩

private theorem eps_pos : (0 : Rat) < eps := by unfold eps; norm_num

/-- `lower_guess` of `auto_table_layout`: going up from `guess0`, the last guess whose sum is still
within the tolerance below the assignable width. -/
private def lowerGuess (a : Rat) (cols : List ACol) : List Rat :=
  pickLower a [guess0 cols, guess1 a cols, guess2 a cols, guess3 a cols] (guess0 cols)

/-- `upper_guess`: going down from `guess3`, the last guess whose sum is still within the tolerance
above the assignable width. -/
private def upperGuess (a : Rat) (cols : List ACol) : List Rat :=
  pickUpper a [guess3 a cols, guess2 a cols, guess1 a cols, guess0 cols] (guess3 a cols)

private theorem lower_in_chain (a : Rat) (cols : List ACol) :
    lowerGuess a cols ∈ [guess0 cols, guess1 a cols, guess2 a cols, guess3 a cols] := by
  rcases List.mem_cons.mp (pickLower_spec a _ (guess0 cols)).1 with h | h
  · exact h ▸ List.mem_cons_self
  · exact h

private theorem upper_in_chain (a : Rat) (cols : List ACol) :
    upperGuess a cols ∈ [guess0 cols, guess1 a cols, guess2 a cols, guess3 a cols] := by
  -- `pickUpper` walks the chain reversed, starting from its head
  have hrev : upperGuess a cols ∈ [guess0 cols, guess1 a cols, guess2 a cols, guess3 a cols].reverse := by
    rcases List.mem_cons.mp (pickUpper_spec a _ (guess3 a cols)).1 with h | h
    · exact h ▸ List.mem_cons_self
    · exact h
  exact List.mem_reverse.mp hrev

private theorem lowerGuess_le (a : Rat) (cols : List ACol) (hmin : sumR (guess0 cols) ≤ a) (ha : 0 ≤ a) :
    sumR (lowerGuess a cols) ≤ a * (1 + eps) :=
  (pickLower_spec a _ _).2 (by linarith [mul_nonneg ha eps_pos.le])

private theorem upperGuess_ge (a : Rat) (cols : List ACol) (hlt : a < sumR (guess3 a cols)) (ha : 0 ≤ a) :
    sumR (upperGuess a cols) ≥ a * (1 - eps) :=
  (pickUpper_spec a _ _).2 (by linarith [mul_nonneg ha eps_pos.le])

private theorem length_chain (a : Rat) (cols : List ACol) :
    ∀ x ∈ [guess0 cols, guess1 a cols, guess2 a cols, guess3 a cols], x.length = cols.length := by
  intro x hx
  simp only [List.mem_cons, List.not_mem_nil, or_false] at hx
  rcases hx with rfl | rfl | rfl | rfl <;> exact List.length_map _

private theorem sumR_interpolate (l u : List Rat) (r : Rat) (h : l.length = u.length) :
    sumR (interpolate l u r) = sumR l + (sumR u - sumR l) * r := by
  induction l generalizing u with
  | nil =>
    cases u with
    | nil => simp [interpolate]
    | cons _ _ => simp at h
  | cons x xs ih =>
    cases u with
    | nil => simp at h
    | cons y ys =>
      simp only [List.length_cons, Nat.add_right_cancel_iff] at h
      have := ih ys h
      unfold interpolate at this ⊢
      simp only [List.zipWith_cons_cons, sumR_cons, this]
      ring

theorem group6_full_count (i : Nat) (cols : List ACol) :
    selCount (group6 0 none) i cols = cols.length := by
  induction cols generalizing i with
  | nil => rfl
  | cons c cs ih => simp [selCount, ih, group6, inSlice]; omega

/-- The three ways in which `autoColumns` succeeds: one guess taken as it is, the interpolation
between two different guesses, or `guess3` with the excess distributed. -/
private theorem autoColumns_ok {a : Rat} {cols : List ACol} {cw : List Rat} {b : String}
    (h : autoColumns a cols = .ok (cw, b)) :
    (a < sumR (guess3 a cols) ∧ upperGuess a cols = lowerGuess a cols ∧ cw = upperGuess a cols ∧
       b = "guess") ∨
    (a < sumR (guess3 a cols) ∧ upperGuess a cols ≠ lowerGuess a cols ∧
       sumR (upperGuess a cols) - sumR (lowerGuess a cols) ≠ 0 ∧
       cw = interpolate (lowerGuess a cols) (upperGuess a cols)
         ((a - sumR (lowerGuess a cols)) / (sumR (upperGuess a cols) - sumR (lowerGuess a cols)))) ∨
    (sumR (guess3 a cols) ≤ a ∧
       distributeExcess cols (a - sumR (guess3 a cols)) (guess3 a cols) 0 none = .ok cw) := by
  revert h
  fun_cases autoColumns a cols <;> intro h <;> try cases h
  next hlt _ _ heq =>
    have ⟨h1, h2⟩ := Prod.mk.inj (Except.ok.inj h)
    exact .inl ⟨hlt, heq, h1.symm, h2.symm⟩
  next hlt _ _ hne _ hadd => exact .inr (.inl ⟨hlt, hne, hadd, rfl⟩)
  next hge hr => exact .inr (.inr ⟨not_lt.mp hge, hr⟩)

/-- **auto_total.** With `min ≤ max` in every column (all of `WfCols` that is needed)
`auto_table_layout` never divides by zero: two different guesses have different sums (they are
pointwise ordered), and none of the six excess groups divides by zero. -/
theorem auto_total (a : Rat) (cols : List ACol) (hwf : ∀ c ∈ cols, c.minW ≤ c.maxW) :
    ∃ r, autoColumns a cols = .ok r := by
  fun_cases autoColumns a cols
  case case2 hne _ hz =>
    have hz : sumR (upperGuess a cols) - sumR (lowerGuess a cols) = 0 := hz
    exfalso
    apply hne
    rcases comparable_of_pairwise (guesses_pairwise a cols hwf) _ (upper_in_chain a cols) _
      (lower_in_chain a cols) with hle | hle
    · exact hle.eq_of_sum_eq (by linarith)
    · exact (hle.eq_of_sum_eq (by linarith)).symm
  case case4 hx =>
    obtain ⟨r, hr, _, _⟩ := excess_sum cols (a - sumR (guess3 a cols)) (guess3 a cols) 0 none
      (List.length_map _)
    cases hr.symm.trans hx
  all_goals exact ⟨_, rfl⟩

/-- **auto_sum.** The columns fill the assignable width: in the interpolation branch and in the
excess branch `Σ column_widths = assignable_width` exactly; when one guess is taken as it is
(`upper_guess == lower_guess`), its sum lies within the code's 1e-9 relative tolerance of the
assignable width.
Hypotheses: at least one column, `Σ min-content ≤ assignable` (guaranteed by
`table.width ≥ table_min_content_width`), `0 ≤ assignable`. -/
theorem auto_sum (a : Rat) (cols : List ACol) (cw : List Rat) (b : String)
    (h : autoColumns a cols = .ok (cw, b)) (hne : cols ≠ [])
    (hmin : sumR (guess0 cols) ≤ a) (ha : 0 ≤ a) :
    sumR cw = a ∨ (b = "guess" ∧ a * (1 - eps) ≤ sumR cw ∧ sumR cw ≤ a * (1 + eps)) := by
  rcases autoColumns_ok h with ⟨hlt, heq, rfl, hb⟩ | ⟨_, _, hadd, rfl⟩ | ⟨_, hex⟩
  · exact Or.inr ⟨hb, upperGuess_ge a cols hlt ha, heq ▸ lowerGuess_le a cols hmin ha⟩
  · left
    have hl := length_chain a cols _ (lower_in_chain a cols)
    have hu := length_chain a cols _ (upper_in_chain a cols)
    rw [sumR_interpolate _ _ _ (hl.trans hu.symm), mul_div_cancel₀ _ hadd]
    ring
  · left
    obtain ⟨r', hr', _, hs⟩ := excess_sum cols (a - sumR (guess3 a cols)) (guess3 a cols) 0 none
      (List.length_map _)
    rw [hr'] at hex
    injection hex with hex
    have hpos := selCount_ne_zero_of (group6 0 none) cols 0 0 (List.length_pos_iff.mpr hne) rfl
    rw [← hex, hs, if_pos hpos]
    ring

example : (autoColumns 100 [⟨10, 30, 0, false, true⟩, ⟨20, 90, 0, false, true⟩]).map (·.1) =
    .ok [230 / 9, 670 / 9] := by decide +kernel

example : (autoColumns 200 [⟨10, 30, 0, false, true⟩, ⟨20, 90, 0, false, true⟩]).map (·.1) =
    .ok [50, 150] := by decide +kernel

/-- The tolerance `1e-9` of the guess selection decides nothing: every guess whose sum passes a
tolerant comparison also passes the exact one (true whenever the tolerance only absorbs float noise). -/
def CleanBand (a : Rat) (cols : List ACol) : Prop :=
  ∀ g ∈ [guess0 cols, guess1 a cols, guess2 a cols, guess3 a cols],
    (sumR g ≤ a * (1 + eps) → sumR g ≤ a) ∧ (sumR g ≥ a * (1 - eps) → sumR g ≥ a)

private theorem LeList_interpolate (l u : List Rat) (r : Rat) (hr : 0 ≤ r) (h : LeList l u) :
    LeList l (interpolate l u r) := by
  induction l generalizing u with
  | nil =>
    cases u with
    | nil => trivial
    | cons _ _ => exact h.elim
  | cons x xs ih =>
    cases u with
    | nil => exact h.elim
    | cons y ys =>
      have := ih ys h.2
      unfold interpolate at this ⊢
      simp only [List.zipWith_cons_cons]
      refine ⟨?_, this⟩
      have : 0 ≤ (y - x) * r := mul_nonneg (by linarith [h.1]) hr
      linarith

/-- **auto_ge_min_partial.** Every column is at least as wide as its min-content width
(`LeList (guess0 cols) cw` is the pointwise statement), provided the 1e-9 tolerance decides nothing
(`CleanBand`).
Full statement (without `CleanBand`) is false of the code by less than `1e-9 · assignable`:
`Witness.C10.auto_band_below_min`. -/
theorem auto_ge_min_partial (a : Rat) (cols : List ACol) (cw : List Rat) (b : String)
    (h : autoColumns a cols = .ok (cw, b)) (hwf : ∀ c ∈ cols, c.minW ≤ c.maxW)
    (hmin : sumR (guess0 cols) ≤ a) (ha : 0 ≤ a) (hband : CleanBand a cols) :
    LeList (guess0 cols) cw := by
  have hl := lower_in_chain a cols
  have hu := upper_in_chain a cols
  rcases autoColumns_ok h with ⟨_, _, rfl, _⟩ | ⟨hlt, hne, hadd, rfl⟩ | ⟨hge, hex⟩
  · exact ge_guess0 a cols hwf _ hu
  · -- with a clean band `Σ lower ≤ a ≤ Σ upper`; the two guesses differ, so `lower ≤ upper`
    -- pointwise and the interpolation ratio is non-negative
    have hls : sumR (lowerGuess a cols) ≤ a := (hband _ hl).1 (lowerGuess_le a cols hmin ha)
    have hus : a ≤ sumR (upperGuess a cols) := (hband _ hu).2 (upperGuess_ge a cols hlt ha)
    have hle : LeList (lowerGuess a cols) (upperGuess a cols) := by
      rcases comparable_of_pairwise (guesses_pairwise a cols hwf) _ hl _ hu with hc | hc
      · exact hc
      · exact absurd (hc.eq_of_sum_eq (le_antisymm hc.sum_le (by linarith))) hne
    have hr : 0 ≤ (a - sumR (lowerGuess a cols)) /
        (sumR (upperGuess a cols) - sumR (lowerGuess a cols)) :=
      div_nonneg (by linarith) (by linarith)
    exact (ge_guess0 a cols hwf _ hl).trans (LeList_interpolate _ _ _ hr hle)
  · exact (ge_guess0 a cols hwf (guess3 a cols) (by simp)).trans
      (excess_ge cols _ (guess3 a cols) cw 0 none (by linarith) hex)

/-- `auto_table_layout` as a whole: the table width is the three-way choice, and with a non-empty
grid the columns are those of `autoColumns` at `assignable = table.width − total spacing`. -/
theorem autoLayout_eq (inp : AutoIn) (o : AutoOut) (h : autoLayout inp = .ok o) :
    o.width = autoTableWidth inp.tableW (availableWidth inp) inp.tmin inp.tmax ∧
    (inp.cols = [] → o.cols = []) ∧
    (inp.cols ≠ [] → autoColumns (o.width - inp.spacing) inp.cols = .ok (o.cols, o.branch)) := by
  revert h
  fun_cases autoLayout inp <;> intro h <;> cases h
  next heq => exact ⟨rfl, fun _ => rfl, fun hne => absurd heq hne⟩
  next heq _ _ hcols => exact ⟨rfl, fun hnil => (nomatch heq.symm.trans hnil), fun _ => hcols⟩

/-- **auto_sum (table level).** With well-formed preferred widths the whole function succeeds and
the columns plus the total border spacing give the table width, up to the code's tolerance in the
single branch where one guess is taken unchanged. -/
theorem auto_sum_table (inp : AutoIn) (hwf : WfCols inp.cols) (hne : inp.cols ≠ [])
    (htmin : inp.spacing + sumR (guess0 inp.cols) ≤ inp.tmin) (htmax : inp.tmin ≤ inp.tmax)
    (hnn : 0 ≤ sumR (guess0 inp.cols)) :
    ∃ o, autoLayout inp = .ok o ∧
      (sumR o.cols + inp.spacing = o.width ∨
       (o.width - inp.spacing) * (1 - eps) ≤ sumR o.cols ∧
       sumR o.cols ≤ (o.width - inp.spacing) * (1 + eps)) := by
  have hw := (auto_bounds inp.tableW (availableWidth inp) inp.tmin inp.tmax htmax).1
  obtain ⟨r, hr⟩ := auto_total (autoTableWidth inp.tableW (availableWidth inp) inp.tmin inp.tmax - inp.spacing)
    inp.cols hwf.min_le_max
  have hok : autoLayout inp = .ok ⟨autoTableWidth inp.tableW (availableWidth inp) inp.tmin inp.tmax, r.1, r.2⟩ := by
    unfold autoLayout
    simp only
    split
    · rename_i heq; exact absurd heq hne
    · rw [hr]
  refine ⟨_, hok, ?_⟩
  have hmin : sumR (guess0 inp.cols) ≤
      autoTableWidth inp.tableW (availableWidth inp) inp.tmin inp.tmax - inp.spacing := by linarith
  rcases auto_sum _ inp.cols r.1 r.2 hr hne hmin (by linarith) with hs | ⟨_, h1, h2⟩
  · left; simp only; linarith
  · right; exact ⟨h1, h2⟩

/-! ## `table_wrapper_width` -/

/-- The fixed algorithm is used exactly for `table-layout: fixed` tables whose width is not `auto`
(CSS 2.1 §17.5.2), and the wrapper is as wide as the table's border box. -/
theorem wrapper_dispatch (layoutFixed : Bool) (width : Dim) (cb pl pr bl br : Rat) (sz : BoxSizing) :
    usesFixed layoutFixed (tableUsedWidth width cb pl pr bl br sz) = true ↔
      layoutFixed = true ∧ width ≠ .auto := by
  unfold usesFixed tableUsedWidth
  cases width <;> cases layoutFixed <;> simp [Dim.used]

theorem wrapper_border_box (W pl pr bl br : Rat) :
    wrapperWidth W pl pr bl br - (pl + pr + bl + br) = W := by
  unfold wrapperWidth; ring

/-! ## Geometry of `table_layout`: column positions and cell extents -/

private theorem colPositionsLtr_getElem (s : Rat) (x : Rat) (cw : List Rat) (i : Nat) (hi : i < cw.length) :
    (colPositionsLtr s x cw)[i]? = some (x + ((i : Rat) + 1) * s + sumR (cw.take i)) := by
  fun_induction colPositionsLtr s x cw generalizing i with
  | case1 => cases hi
  | case2 x w ws ih =>
    cases i with
    | zero => simp
    | succ j =>
      simp only [List.getElem?_cons_succ, ih j (Nat.lt_of_succ_lt_succ hi), List.take_succ_cons, sumR_cons]
      congr 1
      push_cast
      ring

private theorem colPositionsRtl_getElem (s : Rat) (x : Rat) (cw : List Rat) (i : Nat) (hi : i < cw.length) :
    (colPositionsRtl s x cw)[i]? = some (x - ((i : Rat) + 1) * s - sumR (cw.take (i + 1))) := by
  fun_induction colPositionsRtl s x cw generalizing i with
  | case1 => cases hi
  | case2 x w ws ih =>
    cases i with
    | zero => simp
    | succ j =>
      simp only [List.getElem?_cons_succ, ih j (Nat.lt_of_succ_lt_succ hi), List.take_succ_cons, sumR_cons]
      congr 1
      push_cast
      ring

private theorem length_colPositionsLtr (s x : Rat) (cw : List Rat) :
    (colPositionsLtr s x cw).length = cw.length := by
  induction cw generalizing x with
  | nil => rfl
  | cons w ws ih => simp [colPositionsLtr, ih]

private theorem length_colPositionsRtl (s x : Rat) (cw : List Rat) :
    (colPositionsRtl s x cw).length = cw.length := by
  induction cw generalizing x with
  | nil => rfl
  | cons w ws ih => simp [colPositionsRtl, ih]

/-- **columns_partition.** The column boxes tile the table's content box with the border spacings:
in ltr column `i` starts at `x + (i+1)·s + Σ_{j<i} w_j`; in rtl it *ends* (right edge) at
`x + W − (i+1)·s − Σ_{j<i} w_j`.  Hence consecutive columns are exactly `s` apart, the first one is
`s` from the table's start edge, and — when `Σ w + (n+1)·s = W` (fixed_sum / auto_sum) — the last
one ends `s` before the other edge. -/
theorem columns_partition (ltr : Bool) (x W s : Rat) (cw : List Rat) :
    (colPositions ltr x W s cw).positions.length = cw.length ∧
    ∀ i (hi : i < cw.length),
      (colPositions ltr x W s cw).positions[i]? =
        some (if ltr then x + ((i : Rat) + 1) * s + sumR (cw.take i)
              else x + W - ((i : Rat) + 1) * s - sumR (cw.take i) - cw[i]) := by
  unfold colPositions
  cases ltr with
  | true =>
    simp only [if_true]
    exact ⟨length_colPositionsLtr _ _ _, fun i hi => colPositionsLtr_getElem s x cw i hi⟩
  | false =>
    simp only [Bool.false_eq_true, if_false]
    refine ⟨length_colPositionsRtl _ _ _, fun i hi => ?_⟩
    rw [colPositionsRtl_getElem s (x + W) cw i hi, sumR_take_succ cw i hi]
    congr 1
    ring

/-- Corollary: the last column ends one spacing before the far edge of the content box whenever the
widths and spacings add up to the table width. -/
theorem columns_partition_last (ltr : Bool) (x W s : Rat) (cw : List Rat) (n : Nat)
    (hn : cw.length = n + 1) (hsum : sumR cw + s * ((cw.length : Rat) + 1) = W) :
    (colPositions ltr x W s cw).positions[n]? =
      some (if ltr then x + W - s - cw[n]'(by omega) else x + s) := by
  have hi : n < cw.length := by omega
  rw [(columns_partition ltr x W s cw).2 n hi]
  have htake : sumR cw = sumR (cw.take n) + cw[n] := by
    have := sumR_take_succ cw n hi
    rw [← this, List.take_of_length_le (by omega)]
  have hlen : (cw.length : Rat) = (n : Rat) + 1 := by exact_mod_cast hn
  cases ltr with
  | true =>
    simp only [if_true]
    congr 1
    rw [← hsum, htake, hlen]; ring
  | false =>
    simp only [Bool.false_eq_true, if_false]
    congr 1
    rw [← hsum, htake, hlen]; ring

/-- The rows (and row groups) span from the first column's start to the last column's end:
`rows_width = Σ w + (n−1)·s` and they start one spacing inside the content box. -/
theorem rows_extent (ltr : Bool) (x W s : Rat) (cw : List Rat) :
    (colPositions ltr x W s cw).rowsLeftX = x + s ∧
    (colPositions ltr x W s cw).rowsWidth = sumR cw + s * ((cw.length : Rat) - 1) := by
  have hmap : sumR (cw.map (s + ·)) = sumR cw + (cw.length : Rat) * s := sumR_map_const_add cw s
  cases ltr with
  | true =>
    refine ⟨rfl, ?_⟩
    show (x + sumR (cw.map (s + ·))) - (x + s) = _
    rw [hmap]; ring
  | false =>
    refine ⟨rfl, ?_⟩
    show (x + W - s) - (x + W - sumR (cw.map (s + ·))) = _
    rw [hmap]; ring

private theorem cellGeom_some {ltr : Bool} {pos cw : List Rat} {s : Rat} {g colspan : Nat} {c : CellGeom}
    (h : cellGeom ltr pos cw s g colspan = .ok (some c)) :
    c.colspan = ((cw.drop g).take colspan).length ∧ c.colspan ≠ 0 ∧
    c.borderWidth = sumR ((cw.drop g).take colspan) + s * ((c.colspan : Rat) - 1) ∧
    pos[if ltr then g else g + c.colspan - 1]? = some c.x := by
  revert h
  fun_cases cellGeom ltr pos cw s g colspan <;> intro h <;> cases h
  next hk _ _ hpx => exact ⟨rfl, hk, rfl, hpx⟩

/-- **cell_extent.** A cell placed by `table_layout` covers exactly the columns it spans: its border
box starts at the start of its first spanned column (ltr) / of its last spanned column (rtl, the
leftmost one), its width is `Σ spanned widths + (k−1)·s`, so that it ends exactly where the last
(ltr) / first (rtl) spanned column ends.  `k` is the colspan clipped to the grid. -/
theorem cell_extent (ltr : Bool) (x W s : Rat) (cw : List Rat) (g colspan : Nat) (c : CellGeom)
    (h : cellGeom ltr (colPositions ltr x W s cw).positions cw s g colspan = .ok (some c)) :
    c.colspan = min colspan (cw.length - g) ∧ 0 < c.colspan ∧
    c.borderWidth = sumR ((cw.drop g).take colspan) + s * ((c.colspan : Rat) - 1) ∧
    (colPositions ltr x W s cw).positions[if ltr then g else g + c.colspan - 1]? = some c.x ∧
    (∀ (hlast : g + c.colspan - 1 < cw.length) (hfirst : g < cw.length),
      c.x + c.borderWidth =
        (if ltr then x + ((g + c.colspan - 1 : Nat) + 1 : Rat) * s + sumR (cw.take (g + c.colspan - 1))
                     + cw[g + c.colspan - 1]
         else x + W - ((g : Rat) + 1) * s - sumR (cw.take g))) := by
  obtain ⟨hk, hk0, hbw, hpx⟩ := cellGeom_some h
  have hklen : c.colspan = min colspan (cw.length - g) := by
    rw [hk, List.length_take, List.length_drop]
  refine ⟨hklen, Nat.pos_of_ne_zero hk0, hbw, hpx, ?_⟩
  intro hlast hfirst
  -- `m = g + k − 1` is the last spanned column: the spanned widths are `Σ_{j ≤ m} w_j − Σ_{j < g} w_j`
  have hm : g + c.colspan - 1 + 1 = g + c.colspan := by omega
  have hcast : ((g + c.colspan - 1 : Nat) : Rat) + 1 = (g : Rat) + (c.colspan : Rat) := by
    exact_mod_cast hm
  have hspan : sumR ((cw.drop g).take colspan) =
      sumR (cw.take (g + c.colspan - 1)) + cw[g + c.colspan - 1] - sumR (cw.take g) := by
    have hS := sumR_take_succ cw _ hlast
    rw [hm] at hS
    rw [List.take_eq_take_min, List.length_drop, ← hklen, sumR_take_drop, hS]
  rw [hbw, hspan]
  cases ltr with
  | true =>
    rw [if_pos rfl, (columns_partition true x W s cw).2 g hfirst, if_pos rfl] at hpx
    injection hpx with hpx
    rw [if_pos rfl, ← hpx, hcast]
    ring
  | false =>
    rw [if_neg Bool.false_ne_true, (columns_partition false x W s cw).2 _ hlast,
      if_neg Bool.false_ne_true] at hpx
    injection hpx with hpx
    rw [if_neg Bool.false_ne_true, ← hpx, hcast]
    ring

example : cellGeom true (colPositions true 10 100 2 [30, 20, 44]).positions [30, 20, 44] 2 1 2
    = .ok (some ⟨44, 66, 2⟩) := by decide +kernel
example : cellGeom false (colPositions false 10 100 2 [30, 20, 44]).positions [30, 20, 44] 2 1 5
    = .ok (some ⟨10, 66, 2⟩) := by decide +kernel

/-! ## Collapsed borders (`collapse_table_borders`) -/

section Borders
open Wp.Borders

/-- The generated style list gives exactly the CSS 2.1 §17.6.2 order
`hidden > double > solid > dashed > dotted > ridge > outset > groove > inset > none`
(`BStyle.all` = none, hidden, dotted, dashed, solid, double, groove, ridge, inset, outset). -/
theorem styleRank_table : BStyle.all.map styleRank = [0, 9, 5, 6, 7, 8, 2, 4, 1, 3] := by decide

/-- Every style has a score (no `KeyError` in `style_scores[style]`). -/
theorem style_in_order (s : BStyle) : s ∈ Gen.BorderStyles.styleOrder := by
  cases s <;> simp [Gen.BorderStyles.styleOrder]

/-- The AST tables and the graph of the real function on 1×1 tables agree: hidden flag, rank and
stored style (`inset → ridge`, `outset → groove`) of each of the ten styles. -/
theorem score_graph_agrees : ∀ e ∈ Gen.BorderStyles.scoreGraph,
    (score ⟨e.1, 1, 1⟩).hidden = e.2.1 ∧ styleRank e.1 = e.2.2.1 ∧ mapStyle e.1 = e.2.2.2 := by
  decide

theorem mapStyle_table : BStyle.all.map mapStyle =
    [.none, .hidden, .dotted, .dashed, .solid, .double, .groove, .ridge, .ridge, .groove] := by decide

/-- The null borders are what CSS 2.1 needs: the weak one loses against everything that is not
`none 0`, the strong one (inside spanning cells) is `hidden`. -/
theorem null_borders : weakNull = ⟨⟨0, 0, 0⟩, ⟨.none, 0, 0⟩⟩ ∧ strongNull = ⟨⟨1, 0, 9⟩, ⟨.hidden, 0, 0⟩⟩ := by
  decide +kernel

/-- `Score.lt` is the lexicographic order on `(hidden, width, rank)`: hidden first, then the wider
border, then the style rank (CSS 2.1 §17.6.2 rules 1–3). -/
theorem score_lt_iff (a b : Score) :
    a.lt b = true ↔ a.hidden < b.hidden ∨ (a.hidden = b.hidden ∧
      (a.width < b.width ∨ (a.width = b.width ∧ a.rank < b.rank))) := by
  unfold Score.lt
  simp only [Bool.or_eq_true, Bool.and_eq_true, decide_eq_true_eq]

/-- Transitivity of one level of a lexicographic comparison; `p`, `q`, `r` compare the remaining keys. -/
private theorem lex_trans {α : Type} [Preorder α] {a b c : α} {p q r : Prop} (hpq : p → q → r)
    (h1 : a < b ∨ (a = b ∧ p)) (h2 : b < c ∨ (b = c ∧ q)) : a < c ∨ (a = c ∧ r) := by
  rcases h1 with h1 | ⟨rfl, h1⟩
  · rcases h2 with h2 | ⟨rfl, _⟩
    · exact Or.inl (lt_trans h1 h2)
    · exact Or.inl h1
  · rcases h2 with h2 | ⟨rfl, h2⟩
    · exact Or.inl h2
    · exact Or.inr ⟨rfl, hpq h1 h2⟩

private theorem not_lex {α : Type} [LinearOrder α] {a b : α} {p : Prop} :
    ¬ (a < b ∨ (a = b ∧ p)) ↔ (b < a ∨ (b = a ∧ ¬ p)) := by
  constructor
  · intro hn
    rcases lt_trichotomy a b with h | h | h
    · exact absurd (Or.inl h) hn
    · exact Or.inr ⟨h.symm, fun hp => hn (Or.inr ⟨h, hp⟩)⟩
    · exact Or.inl h
  · rintro (h | ⟨rfl, hnp⟩) (h' | ⟨h', hp⟩)
    · exact lt_asymm h h'
    · exact h.ne' h'
    · exact lt_irrefl _ h'
    · exact hnp hp

/-- "Not weaker than": the same lexicographic order with `≤` on the last key, the sides swapped. -/
theorem score_not_lt_iff (a b : Score) :
    a.lt b = false ↔ b.hidden < a.hidden ∨ (b.hidden = a.hidden ∧
      (b.width < a.width ∨ (b.width = a.width ∧ b.rank ≤ a.rank))) := by
  rw [← Bool.not_eq_true, score_lt_iff, not_lex, not_lex, Nat.not_lt]

theorem score_lt_irrefl (a : Score) : a.lt a = false :=
  (score_not_lt_iff a a).mpr (Or.inr ⟨rfl, Or.inr ⟨rfl, Nat.le_refl _⟩⟩)

theorem score_lt_trans {a b c : Score} (h1 : a.lt b = true) (h2 : b.lt c = true) : a.lt c = true := by
  rw [score_lt_iff] at *
  exact lex_trans (lex_trans Nat.lt_trans) h1 h2

theorem score_lt_asymm {a b : Score} (h : a.lt b = true) : b.lt a = false :=
  Bool.eq_false_iff.mpr fun h' => by
    have := score_lt_trans h h'
    rw [score_lt_irrefl] at this
    cases this

/-- `¬ a < b` and `¬ b < c` give `¬ a < c`: the order is total on scores. -/
theorem score_not_lt_trans {a b c : Score} (h1 : a.lt b = false) (h2 : b.lt c = false) :
    a.lt c = false := by
  rw [score_not_lt_iff] at *
  exact lex_trans (lex_trans Nat.le_trans) h2 h1

/-- The entry a border leaves on an edge when it wins. -/
def entryOf (b : Border) : Edge := ⟨score b, ⟨mapStyle b.style, b.width, b.color⟩⟩

private theorem foldl_offer_spec (offers : List Border) (init : Edge) :
    let r := offers.foldl offerEdge init
    (r = init ∧ ∀ b ∈ offers, init.score.lt (score b) = false) ∨
    (∃ pre b post, offers = pre ++ b :: post ∧ r = entryOf b ∧
      init.score.lt (score b) = true ∧
      (∀ p ∈ pre, (score p).lt (score b) = true) ∧
      (∀ q ∈ post, (score b).lt (score q) = false)) := by
  induction offers generalizing init with
  | nil => left; simp
  | cons o os ih =>
    simp only [List.foldl_cons]
    by_cases hlt : init.score.lt (score o) = true
    · have hstep : offerEdge init o = entryOf o := by simp [offerEdge, hlt, entryOf]
      rw [hstep]
      rcases ih (entryOf o) with ⟨hr, hall⟩ | ⟨pre, b, post, heq, hr, hb, hpre, hpost⟩
      · exact Or.inr ⟨[], o, os, rfl, hr, hlt, fun _ h => (nomatch h), hall⟩
      · right
        exact ⟨o :: pre, b, post, by simp [heq], hr, score_lt_trans hlt hb,
          List.forall_mem_cons.mpr ⟨hb, hpre⟩, hpost⟩
    · have hf : init.score.lt (score o) = false := by simpa using hlt
      have hstep : offerEdge init o = init := by simp [offerEdge, hf]
      rw [hstep]
      rcases ih init with ⟨hr, hall⟩ | ⟨pre, b, post, heq, hr, hb, hpre, hpost⟩
      · exact Or.inl ⟨hr, List.forall_mem_cons.mpr ⟨hf, hall⟩⟩
      · right
        refine ⟨o :: pre, b, post, by simp [heq], hr, hb, List.forall_mem_cons.mpr ⟨?_, hpre⟩, hpost⟩
        -- o ≤ init < b
        cases h : (score o).lt (score b) with
        | true => rfl
        | false =>
          have := score_not_lt_trans hf h
          rw [this] at hb; cases hb

/-- **border_winner.** The entry left on a grid edge by any sequence of `set_one_border` offers is
the maximum of the initial entry and all offers under `(hidden, width, style rank)`, it is the
*earliest* offer attaining that maximum (ties go to the earlier offer: cell before row before row
group before column before column group before table, see `offers_in_css_order`), and it beats the
initial entry strictly.  For every list of offers, any length. -/
theorem border_winner (offers : List Border) (init : Edge) :
    (∀ b ∈ offers, (offers.foldl offerEdge init).score.lt (score b) = false) ∧
    (offers.foldl offerEdge init).score.lt init.score = false ∧
    ((offers.foldl offerEdge init = init ∧ ∀ b ∈ offers, init.score.lt (score b) = false) ∨
     (∃ pre b post, offers = pre ++ b :: post ∧ offers.foldl offerEdge init = entryOf b ∧
        init.score.lt (score b) = true ∧
        (∀ p ∈ pre, (score p).lt (score b) = true) ∧ (∀ q ∈ post, (score b).lt (score q) = false))) := by
  have h := foldl_offer_spec offers init
  simp only at h
  refine ⟨?_, ?_, h⟩
  · rcases h with ⟨hr, hall⟩ | ⟨pre, b, post, heq, hr, hb, hpre, hpost⟩
    · intro b hb; rw [hr]; exact hall b hb
    · intro c hc
      rw [hr]
      show (score b).lt (score c) = false
      rw [heq] at hc
      simp only [List.mem_append, List.mem_cons] at hc
      rcases hc with hc | rfl | hc
      · exact score_lt_asymm (hpre c hc)
      · exact score_lt_irrefl _
      · exact hpost c hc
  · rcases h with ⟨hr, _⟩ | ⟨pre, b, post, _, hr, hb, _, _⟩
    · rw [hr]; exact score_lt_irrefl _
    · rw [hr]
      exact score_lt_asymm hb

/-- A `hidden` offer beats every non-hidden one whatever the widths (CSS 2.1 §17.6.2 rule 1). -/
theorem hidden_wins (b c : Border) (hb : b.style = .hidden) (hc : c.style ≠ .hidden) :
    (score c).lt (score b) = true := by
  rw [score_lt_iff]
  left
  simp [score, hb, hc]

example : [(⟨.solid, 2, 1⟩ : Border), ⟨.double, 2, 2⟩, ⟨.dashed, 3, 3⟩, ⟨.dotted, 3, 4⟩].foldl offerEdge weakNull
    = entryOf ⟨.dashed, 3, 3⟩ := by decide +kernel

private theorem setBorders_src {ltr : Bool} {src : Src} {s : Sides} {x y w h : Nat} :
    ∀ op ∈ setBorders ltr src s x y w h, op.src = src := by
  intro op hop
  unfold setBorders at hop
  split at hop <;>
  · simp only [List.mem_append, List.mem_flatMap, List.mem_cons, List.not_mem_nil, or_false] at hop
    rcases hop with ⟨_, _, rfl | rfl⟩ | ⟨_, _, rfl | rfl⟩ <;> rfl

private theorem cellOps_src (ltr : Bool) (c : BCell) (y : Nat) : ∀ op ∈ cellOps ltr c y, op.src = .cell := by
  intro op hop
  unfold cellOps at hop
  simp only [List.mem_append] at hop
  rcases hop with (hop | hop) | hop
  · simp only [List.mem_flatMap, List.mem_map] at hop
    obtain ⟨_, _, _, _, rfl⟩ := hop
    rfl
  · simp only [List.mem_flatMap, List.mem_map] at hop
    obtain ⟨_, _, _, _, rfl⟩ := hop
    rfl
  · exact setBorders_src op hop

private theorem flatMap_src {α : Type} (l : List α) (f : α → List Op) (s : Src)
    (h : ∀ a, ∀ op ∈ f a, op.src = s) : ∀ op ∈ l.flatMap f, op.src = s := by
  intro op hop
  obtain ⟨a, _, ha⟩ := List.mem_flatMap.mp hop
  exact h a op ha

private theorem pw_step (a b : List Op) (k k' : Nat) (s : Src) (hs : s.rank = k')
    (ha : a.Pairwise (fun x y => x.src.rank ≤ y.src.rank)) (hak : ∀ op ∈ a, op.src.rank ≤ k)
    (hb : ∀ op ∈ b, op.src = s) (hk : k ≤ k') :
    (a ++ b).Pairwise (fun x y => x.src.rank ≤ y.src.rank) ∧ ∀ op ∈ a ++ b, op.src.rank ≤ k' := by
  have hbp : b.Pairwise (fun x y => x.src.rank ≤ y.src.rank) := by
    clear ha hak
    induction b with
    | nil => exact List.Pairwise.nil
    | cons o os ih =>
      refine List.Pairwise.cons ?_ (ih (fun op hop => hb op (by simp [hop])))
      intro c hc
      rw [hb o (by simp), hb c (by simp [hc])]
  refine ⟨List.pairwise_append.mpr ⟨ha, hbp, ?_⟩, ?_⟩
  · intro x hx y hy
    rw [hb y hy, hs]
    exact Nat.le_trans (hak x hx) hk
  · intro op hop
    simp only [List.mem_append] at hop
    rcases hop with hop | hop
    · exact Nat.le_trans (hak op hop) hk
    · rw [hb op hop, hs]

/-- **offers_in_css_order.** The grid writes of `collapse_table_borders` are made in the order
cells, rows, row groups, columns, column groups, table (CSS 2.1 §17.6.2 rule 4): together with the
tie rule of `border_winner`, "a style set on a cell wins over one on a row, which wins over a row
group, column, column group and, lastly, table". -/
theorem offers_in_css_order (t : BTable) (gw gh : Nat) :
    (genOps t gw gh).Pairwise (fun a b => a.src.rank ≤ b.src.rank) := by
  have h1 := flatMap_src (rowsWithY t.groups) (fun (y, r) => r.cells.flatMap (fun c => cellOps t.ltr c y))
    .cell (fun p => flatMap_src _ _ .cell (fun c => cellOps_src t.ltr c p.1))
  have h2 := flatMap_src (rowsWithY t.groups) (fun (y, r) => setBorders t.ltr .row r.sides 0 y gw 1)
    .row (fun _ => setBorders_src)
  have h3 := flatMap_src (groupsWithY 0 t.groups)
    (fun (y, g) => setBorders t.ltr .rowGroup g.sides 0 y gw g.rows.length)
    .rowGroup (fun _ => setBorders_src)
  have h4 := flatMap_src t.colGroups
    (fun cg => cg.cols.flatMap (fun c => setBorders t.ltr .column c.sides c.gridX 0 1 gh))
    .column (fun _ => flatMap_src _ _ .column (fun _ => setBorders_src))
  have h5 := flatMap_src t.colGroups (fun cg => setBorders t.ltr .columnGroup cg.sides cg.gridX 0 cg.span gh)
    .columnGroup (fun _ => setBorders_src)
  have h6 := @setBorders_src t.ltr .table t.sides 0 0 gw gh
  unfold genOps
  have s1 := pw_step [] _ 0 0 .cell rfl List.Pairwise.nil (by simp) h1 (Nat.le_refl _)
  rw [List.nil_append] at s1
  have s2 := pw_step _ _ 0 1 .row rfl s1.1 s1.2 h2 (by omega)
  have s3 := pw_step _ _ 1 2 .rowGroup rfl s2.1 s2.2 h3 (by omega)
  have s4 := pw_step _ _ 2 3 .column rfl s3.1 s3.2 h4 (by omega)
  have s5 := pw_step _ _ 3 4 .columnGroup rfl s4.1 s4.2 h5 (by omega)
  exact (pw_step _ _ 4 5 .table rfl s5.1 s5.2 h6 (by omega)).1

/-- What `cellUsed` stores, ltr: each used width is half the maximum winning width along that side. -/
theorem cellUsed_ltr (v h : Grid) (c : BCell) (y : Nat) (u : Used)
    (hu : cellUsed true v h c y = .ok u) :
    maxHorizontal h c.gridX y (some ((c.gridX : Int) + c.colspan)) = .ok (2 * u.top) ∧
    maxHorizontal h c.gridX (y + c.rowspan) (some ((c.gridX : Int) + c.colspan)) = .ok (2 * u.bottom) ∧
    maxVertical v c.gridX y (y + c.rowspan) = .ok (2 * u.left) ∧
    maxVertical v ((c.gridX : Int) + c.colspan) y (y + c.rowspan) = .ok (2 * u.right) := by
  unfold cellUsed at hu
  simp only [if_true] at hu
  obtain ⟨t, ht, hu⟩ := Except.bind_eq_ok hu
  obtain ⟨b, hb, hu⟩ := Except.bind_eq_ok hu
  obtain ⟨l, hl, hu⟩ := Except.bind_eq_ok hu
  obtain ⟨r, hr, hu⟩ := Except.bind_eq_ok hu
  injection hu with hu
  subst hu
  refine ⟨?_, ?_, ?_, ?_⟩
  · rw [ht]; congr 1; ring
  · rw [hb]; congr 1; ring
  · rw [hl]; congr 1; ring
  · rw [hr]; congr 1; ring

/-- The same in rtl, with the code's negative indices. -/
theorem cellUsed_rtl (v h : Grid) (c : BCell) (y : Nat) (u : Used)
    (hu : cellUsed false v h c y = .ok u) :
    maxVertical v (-1 - (c.colspan : Int) - c.gridX) y (y + c.rowspan) = .ok (2 * u.left) ∧
    maxVertical v (-1 - (c.gridX : Int)) y (y + c.rowspan) = .ok (2 * u.right) ∧
    (∃ stop, maxHorizontal h (-(c.colspan : Int) - c.gridX) y stop = .ok (2 * u.top) ∧
             maxHorizontal h (-(c.colspan : Int) - c.gridX) (y + c.rowspan) stop = .ok (2 * u.bottom)) := by
  unfold cellUsed at hu
  simp only [Bool.false_eq_true, if_false] at hu
  obtain ⟨t, ht, hu⟩ := Except.bind_eq_ok hu
  obtain ⟨b, hb, hu⟩ := Except.bind_eq_ok hu
  obtain ⟨l, hl, hu⟩ := Except.bind_eq_ok hu
  obtain ⟨r, hr, hu⟩ := Except.bind_eq_ok hu
  injection hu with hu
  subst hu
  refine ⟨?_, ?_, (if -(c.gridX : Int) = 0 then none else some (-(c.gridX : Int))), ?_, ?_⟩
  · rw [hl]; congr 1; ring
  · rw [hr]; congr 1; ring
  · rw [ht]; congr 1; ring
  · rw [hb]; congr 1; ring

/-- **border_halves.** Two horizontally adjacent cells (B starts in the column after A's last one,
same rows) share the edge between them: the used border width of A on that side plus the one of B
is exactly the maximum winning width along the shared edge (each stores half of it). ltr and rtl. -/
theorem border_halves (ltr : Bool) (v h : Grid) (A B : BCell) (y : Nat) (uA uB : Used)
    (hA : cellUsed ltr v h A y = .ok uA) (hB : cellUsed ltr v h B y = .ok uB)
    (hadj : B.gridX = A.gridX + A.colspan) (hrs : A.rowspan = B.rowspan) :
    ∃ m, maxVertical v (if ltr then (B.gridX : Int) else -1 - (B.gridX : Int)) y (y + A.rowspan) = .ok m ∧
      (if ltr then uA.right + uB.left else uA.left + uB.right) = m := by
  have hx : (B.gridX : Int) = (A.gridX : Int) + A.colspan := by rw [hadj, Int.natCast_add]
  cases ltr with
  | true =>
    obtain ⟨_, _, _, hAr⟩ := cellUsed_ltr v h A y uA hA
    obtain ⟨_, _, hBl, _⟩ := cellUsed_ltr v h B y uB hB
    rw [← hx] at hAr
    rw [← hrs, hAr] at hBl
    have h2 := Except.ok.inj hBl
    exact ⟨2 * uA.right, hAr, by rw [if_pos rfl]; linarith⟩
  | false =>
    obtain ⟨hAl, _, _⟩ := cellUsed_rtl v h A y uA hA
    obtain ⟨_, hBr, _⟩ := cellUsed_rtl v h B y uB hB
    rw [show (-1 - (A.colspan : Int) - A.gridX) = -1 - (B.gridX : Int) by rw [hx]; ring] at hAl
    rw [← hrs, hAl] at hBr
    have h2 := Except.ok.inj hBr
    exact ⟨2 * uA.left, hAl, by rw [if_neg Bool.false_ne_true]; linarith⟩

/-- **border_halves (vertical neighbours, ltr).** A above B (same columns, B starts in the row after
A's last one): `A.bottom + B.top` is the maximum winning width along the shared edge. -/
theorem border_halves_vertical (v h : Grid) (A B : BCell) (y : Nat) (uA uB : Used)
    (hA : cellUsed true v h A y = .ok uA) (hB : cellUsed true v h B (y + A.rowspan) = .ok uB)
    (hx : B.gridX = A.gridX) (hcs : B.colspan = A.colspan) :
    ∃ m, maxHorizontal h A.gridX (y + A.rowspan) (some ((A.gridX : Int) + A.colspan)) = .ok m ∧
      uA.bottom + uB.top = m := by
  obtain ⟨_, hAb, _, _⟩ := cellUsed_ltr v h A y uA hA
  obtain ⟨hBt, _, _, _⟩ := cellUsed_ltr v h B (y + A.rowspan) uB hB
  rw [hx, hcs, hAb] at hBt
  injection hBt with hBt
  exact ⟨2 * uA.bottom, hAb, by linarith⟩

/-- The entry of a border grid at row `y`, (resolved) column `xi`. -/
def edgeAt (g : Grid) (y xi : Nat) : Option Edge := (g[y]?).bind (·[xi]?)

def Rect (g : Grid) (w : Nat) : Prop := ∀ row ∈ g, row.length = w

theorem applyTo_spec (g g' : Grid) (w : Nat) (x : Int) (y : Nat) (b : Option Border)
    (hr : Rect g w) (h : applyTo g x y b = .ok g') :
    Rect g' w ∧ ∃ xi, pyIndex w x = some xi ∧
      ∀ y' xi', edgeAt g' y' xi' =
        if y' = y ∧ xi' = xi then (edgeAt g y' xi').map (applyEdge · b) else edgeAt g y' xi' := by
  revert h
  fun_cases applyTo g x y b <;> intro h <;> cases h
  next row hrow xi hxi prev hprev =>
    have hlen : row.length = w := hr row (List.mem_of_getElem? hrow)
    refine ⟨?_, xi, hlen ▸ hxi, ?_⟩
    · intro r hrmem
      rcases List.mem_or_eq_of_mem_set hrmem with h1 | h1
      · exact hr r h1
      · rw [h1, List.length_set]; exact hlen
    · intro y' xi'
      unfold edgeAt
      by_cases hy : y' = y
      · subst hy
        rw [List.getElem?_set_self', hrow]
        by_cases hx : xi' = xi
        · subst hx
          simp [List.getElem?_set_self', hprev]
        · simp [List.getElem?_set_ne (Ne.symm hx), hx]
      · simp [List.getElem?_set_ne (Ne.symm hy), hy]

/-- `op` writes to entry `(y, xi)` of grid `which` (rows of `w` entries). -/
def targets (w : Nat) (which : Which) (y xi : Nat) (op : Op) : Bool :=
  decide (op.which = which) && decide (op.y = y) && decide (pyIndex w op.x = some xi)

def foldEdge (e : Edge) (ops : List Op) : Edge := ops.foldl (fun e op => applyEdge e op.border) e

/-- One write, seen from the entries of the grid it goes to. -/
private theorem applyTo_targets {g g' : Grid} {w : Nat} {op : Op} (hr : Rect g w)
    (h : applyTo g op.x op.y op.border = .ok g') :
    Rect g' w ∧ ∀ y xi, edgeAt g' y xi =
      (edgeAt g y xi).map (fun e => if targets w op.which y xi op then applyEdge e op.border else e) := by
  obtain ⟨hr', xi0, hxi0, hedge⟩ := applyTo_spec g g' w op.x op.y op.border hr h
  refine ⟨hr', fun y xi => ?_⟩
  have ht : targets w op.which y xi op = true ↔ y = op.y ∧ xi = xi0 := by
    unfold targets
    rw [hxi0]
    simp only [decide_true, Bool.true_and, Bool.and_eq_true, decide_eq_true_eq, Option.some.injEq]
    exact ⟨fun ⟨a, b⟩ => ⟨a.symm, b.symm⟩, fun ⟨a, b⟩ => ⟨a.symm, b.symm⟩⟩
  rw [hedge]
  by_cases hc : y = op.y ∧ xi = xi0
  · rw [if_pos hc]
    simp only [ht.mpr hc, if_true]
  · rw [if_neg hc]
    simp only [mt ht.mp hc]
    cases edgeAt g y xi <;> rfl

private theorem map_foldEdge_cons (o : Option Edge) (op : Op) (ops : List Op) (p : Op → Bool) :
    (o.map (fun e => if p op then applyEdge e op.border else e)).map
        (fun e => foldEdge e (ops.filter p)) =
      o.map (fun e => foldEdge e ((op :: ops).filter p)) := by
  cases o with
  | none => rfl
  | some e => cases hp : p op <;> simp [hp, foldEdge]

theorem runOps_spec (wV wH : Nat) (ops : List Op) (st st' : Grid × Grid)
    (hV : Rect st.1 wV) (hH : Rect st.2 wH) (h : runOps st ops = .ok st') :
    (∀ y xi, edgeAt st'.1 y xi =
        (edgeAt st.1 y xi).map (fun e => foldEdge e (ops.filter (targets wV .V y xi)))) ∧
    (∀ y xi, edgeAt st'.2 y xi =
        (edgeAt st.2 y xi).map (fun e => foldEdge e (ops.filter (targets wH .H y xi)))) := by
  induction ops generalizing st with
  | nil =>
    unfold runOps at h
    obtain rfl := Except.ok.inj h
    constructor <;> intro y xi
    · cases edgeAt st.1 y xi <;> rfl
    · cases edgeAt st.2 y xi <;> rfl
  | cons op ops ih =>
    unfold runOps at h
    split at h
    · cases h
    · rename_i st1 hstep
      -- a write to one grid leaves the other alone, where it targets no entry
      have other : ∀ {which : Which} (w y xi : Nat) (o : Option Edge), op.which ≠ which →
          o.map (fun e => foldEdge e (ops.filter (targets w which y xi))) =
            o.map (fun e => foldEdge e ((op :: ops).filter (targets w which y xi))) := by
        intro which w y xi o hne
        have : targets w which y xi op = false := by
          unfold targets
          simp [hne]
        rw [List.filter_cons, this]
        rfl
      unfold applyOp at hstep
      cases hw : op.which with
      | V =>
        rw [hw] at hstep
        cases hap : applyTo st.1 op.x op.y op.border with
        | error e => rw [hap] at hstep; cases hstep
        | ok v =>
        rw [hap] at hstep
        obtain rfl := Except.ok.inj hstep
        obtain ⟨hV1, hedge⟩ := applyTo_targets hV hap
        obtain ⟨ihV, ihH⟩ := ih (v, st.2) hV1 hH h
        refine ⟨fun y xi => ?_, fun y xi => ?_⟩
        · rw [ihV y xi, hedge y xi, hw, map_foldEdge_cons]
        · rw [ihH y xi, other wH y xi _ (by rw [hw]; decide)]
      | H =>
        rw [hw] at hstep
        cases hap : applyTo st.2 op.x op.y op.border with
        | error e => rw [hap] at hstep; cases hstep
        | ok v =>
        rw [hap] at hstep
        obtain rfl := Except.ok.inj hstep
        obtain ⟨hH1, hedge⟩ := applyTo_targets hH hap
        obtain ⟨ihV, ihH⟩ := ih (st.1, v) hV hH1 h
        refine ⟨fun y xi => ?_, fun y xi => ?_⟩
        · rw [ihV y xi, other wV y xi _ (by rw [hw]; decide)]
        · rw [ihH y xi, hedge y xi, hw, map_foldEdge_cons]

private theorem rect_replicate (n w : Nat) (e : Edge) : Rect (List.replicate n (List.replicate w e)) w := by
  intro row hrow
  rw [List.mem_replicate] at hrow
  rw [hrow.2, List.length_replicate]

theorem edgeAt_replicate (n w : Nat) (e : Edge) (y xi : Nat) :
    edgeAt (List.replicate n (List.replicate w e)) y xi = if y < n ∧ xi < w then some e else none := by
  unfold edgeAt
  by_cases hy : y < n
  · by_cases hx : xi < w <;> simp [hy, hx]
  · simp [hy]

/-- The grids returned by `collapse_table_borders` are the grids of weak null borders with the
generated writes applied: every entry inside the grid is the fold of the writes that target it, in
execution order (Python's negative rtl indices resolved by `pyIndex`); outside there is none. -/
theorem collapse_grids (t : BTable) (gw gh : Nat) (o : Out) (h : collapse t gw gh = .ok o)
    (hw : gw ≠ 0) (hh : gh ≠ 0) :
    (∀ y xi, edgeAt o.vertical y xi = if y < gh ∧ xi < gw + 1 then
        some (foldEdge weakNull ((genOps t gw gh).filter (targets (gw + 1) .V y xi))) else none) ∧
    (∀ y xi, edgeAt o.horizontal y xi = if y < gh + 1 ∧ xi < gw then
        some (foldEdge weakNull ((genOps t gw gh).filter (targets gw .H y xi))) else none) := by
  revert h
  fun_cases collapse t gw gh <;> intro h <;> cases h
  · omega
  next hrun _ _ _ _ _ =>
    obtain ⟨sV, sH⟩ :=
      runOps_spec (gw + 1) gw _ (initGrids gw gh) _ (rect_replicate _ _ _) (rect_replicate _ _ _) hrun
    exact ⟨fun y xi => by rw [sV y xi, initGrids, edgeAt_replicate, apply_ite (Option.map _)]; rfl,
      fun y xi => by rw [sH y xi, initGrids, edgeAt_replicate, apply_ite (Option.map _)]; rfl⟩

private theorem foldl_applyEdge_some (bs : List Border) (e : Edge) :
    (bs.map some).foldl applyEdge e = bs.foldl offerEdge e := by
  induction bs generalizing e with
  | nil => rfl
  | cons b bs ih => simp only [List.map_cons, List.foldl_cons, applyEdge, ih]

private theorem foldl_applyEdge_force (pre : List (Option Border)) (bs : List Border) (e : Edge) :
    (pre ++ none :: bs.map some).foldl applyEdge e = bs.foldl offerEdge strongNull := by
  rw [List.foldl_append, List.foldl_cons]
  simp only [applyEdge]
  exact foldl_applyEdge_some bs strongNull

private theorem split_last_none (l : List (Option Border)) :
    (∃ bs : List Border, l = bs.map some) ∨
    (∃ (pre : List (Option Border)) (bs : List Border), l = pre ++ none :: bs.map some) := by
  induction l with
  | nil => left; exact ⟨[], rfl⟩
  | cons a rest ih =>
    rcases ih with ⟨bs, hbs⟩ | ⟨pre, bs, hbs⟩
    · cases a with
      | none => right; exact ⟨[], bs, by rw [hbs]; rfl⟩
      | some b => left; exact ⟨b :: bs, by rw [hbs]; rfl⟩
    · right; exact ⟨a :: pre, bs, by rw [hbs]; rfl⟩

private theorem foldEdge_eq (e : Edge) (ops : List Op) :
    foldEdge e ops = (ops.map (·.border)).foldl applyEdge e := by
  unfold foldEdge
  rw [List.foldl_map]

/-- What a sequence of writes leaves on an entry that started as the weak null border: the fold of *all* the
offers made after the last forcing (`none`), in execution order. With `collapse_grids` (the entry is the fold over
the writes that target it) this is the exact statement about a grid entry. -/
theorem offers_after_last_force (ops : List Op) :
    ∃ (init : Edge) (offers : List Border),
      ((init = weakNull ∧ ops.map (·.border) = offers.map some) ∨
       (init = strongNull ∧ ∃ pre, ops.map (·.border) = pre ++ none :: offers.map some)) ∧
      foldEdge weakNull ops = offers.foldl offerEdge init := by
  rw [foldEdge_eq]
  rcases split_last_none (ops.map (·.border)) with ⟨bs, hbs⟩ | ⟨pre, bs, hbs⟩
  · exact ⟨weakNull, bs, Or.inl ⟨rfl, hbs⟩, by rw [hbs, foldl_applyEdge_some]⟩
  · exact ⟨strongNull, bs, Or.inr ⟨rfl, pre, hbs⟩, by rw [hbs, foldl_applyEdge_force]⟩

/-- **border_winner (grid level).** Every entry of the grids returned by `collapse_table_borders` is
`offers.foldl offerEdge init`, where each of `offers` is a border offered to that edge and `init` is the weak
null border or the strong one (the edge was forced, inside a spanning cell). The statement does not say that
`offers` holds every such offer, so by itself it does not single out the winner; `offers_after_last_force`
on the writes of `collapse_grids` does: there `offers` are all the offers made to the edge after the last
forcing, in execution order (the CSS 2.1 §17.6.2 order, `offers_in_css_order`), and `border_winner` makes the
entry their first maximum under `(hidden, width, style rank)`. -/
theorem border_winner_grid (t : BTable) (gw gh : Nat) (o : Out) (h : collapse t gw gh = .ok o)
    (hw : gw ≠ 0) (hh : gh ≠ 0) :
    (∀ y xi, y < gh → xi < gw + 1 → ∃ (init : Edge) (offers : List Border),
        (init = weakNull ∨ init = strongNull) ∧
        (∀ b ∈ offers, ∃ op ∈ genOps t gw gh, op.border = some b ∧ targets (gw + 1) .V y xi op = true) ∧
        edgeAt o.vertical y xi = some (offers.foldl offerEdge init)) ∧
    (∀ y xi, y < gh + 1 → xi < gw → ∃ (init : Edge) (offers : List Border),
        (init = weakNull ∨ init = strongNull) ∧
        (∀ b ∈ offers, ∃ op ∈ genOps t gw gh, op.border = some b ∧ targets gw .H y xi op = true) ∧
        edgeAt o.horizontal y xi = some (offers.foldl offerEdge init)) := by
  obtain ⟨hV, hH⟩ := collapse_grids t gw gh o h hw hh
  -- what is left on an entry by the writes `ops` that target it: the offers after the last forcing
  have key : ∀ (p : Op → Bool), ∃ (init : Edge) (offers : List Border),
      (init = weakNull ∨ init = strongNull) ∧
      (∀ b ∈ offers, ∃ op ∈ genOps t gw gh, op.border = some b ∧ p op = true) ∧
      foldEdge weakNull ((genOps t gw gh).filter p) = offers.foldl offerEdge init := by
    intro p
    obtain ⟨init, offers, hall, hfold⟩ := offers_after_last_force ((genOps t gw gh).filter p)
    refine ⟨init, offers, hall.imp (·.1) (·.1), fun b hb => ?_, hfold⟩
    have hin : some b ∈ ((genOps t gw gh).filter p).map (·.border) := by
      rcases hall with ⟨_, h⟩ | ⟨_, pre, h⟩ <;> rw [h]
      · exact List.mem_map_of_mem hb
      · exact List.mem_append_right _ (List.mem_cons_of_mem _ (List.mem_map_of_mem hb))
    obtain ⟨op, hop, hbo⟩ := List.mem_map.mp hin
    exact ⟨op, (List.mem_filter.mp hop).1, hbo, (List.mem_filter.mp hop).2⟩
  constructor
  · intro y xi hy hx
    rw [hV y xi, if_pos ⟨hy, hx⟩]
    obtain ⟨init, offers, hi, hmem, hfold⟩ := key (targets (gw + 1) .V y xi)
    exact ⟨init, offers, hi, hmem, congrArg some hfold⟩
  · intro y xi hy hx
    rw [hH y xi, if_pos ⟨hy, hx⟩]
    obtain ⟨init, offers, hi, hmem, hfold⟩ := key (targets gw .H y xi)
    exact ⟨init, offers, hi, hmem, congrArg some hfold⟩

private def exSides (s : BStyle) (w : Rat) (c : Nat) : Sides := ⟨⟨s, w, c⟩, ⟨s, w, c⟩, ⟨s, w, c⟩, ⟨s, w, c⟩⟩
/-- A 2×1 table: left cell `solid 4px` all round, right cell `double 2px`, table `dashed 4px`:
the shared edge takes the wider `solid 4`, the outer edges tie at width 4 and go to `solid` (rank 7)
on the left cell's sides and to the table's `dashed 4` (wider than `double 2`) on the right cell's;
each cell stores the halves. -/
private def exTable : BTable :=
  ⟨true, exSides .dashed 4 3,
   [⟨exSides .none 0 0, [⟨exSides .none 0 0, [⟨0, 1, 1, exSides .solid 4 1⟩, ⟨1, 1, 1, exSides .double 2 2⟩]⟩]⟩], []⟩

example : (collapse exTable 2 1).map (·.cells) = .ok [⟨2, 2, 2, 2⟩, ⟨2, 2, 2, 2⟩] := by decide +kernel
example : (collapse exTable 2 1).map (fun o => o.vertical.map (·.map (·.border.style))) =
    .ok [[.solid, .solid, .dashed]] := by decide +kernel

end Borders

/-! ## Rows: vertical stacking, and soundness of the pagination checker -/

section Rows
open Wp.TableRows

/-- Rows follow each other one spacing apart: row `i` starts at `y + Σ_{j<i} (h_j + sp)`. -/
theorem stackY_spec (sp y : Rat) (hs : List Rat) (i : Nat) (hi : i < hs.length) :
    (stackY sp y hs)[i]? = some (y + sumR ((hs.take i).map (· + sp))) := by
  fun_induction stackY sp y hs generalizing i with
  | case1 => cases hi
  | case2 y h hs ih =>
    cases i with
    | zero => simp
    | succ j =>
      simp only [List.getElem?_cons_succ, ih j (Nat.lt_of_succ_lt_succ hi), List.take_succ_cons, List.map_cons,
        sumR_cons]
      congr 1
      ring

/-- **cell_row_share.** A cell placed by the model starts at its row's top; a cell that does not span rows
is exactly as high as its row, and a row-spanning cell ends at the bottom of the last row it spans. -/
theorem cell_row_share (groups : List (List Rat)) (geom : List GroupGeom) (g r rowspan : Nat)
    (cy ch : Rat) (h : cellV groups geom g r rowspan = .ok (cy, ch)) :
    ∃ hs gg, groups[g]? = some hs ∧ geom[g]? = some gg ∧ gg.rowYs[r]? = some cy ∧
      (∃ yl hl, gg.rowYs[r + rowspan - 1]? = some yl ∧ hs[r + rowspan - 1]? = some hl ∧ cy + ch = yl + hl) ∧
      (rowspan = 1 → hs[r]? = some ch) := by
  revert h
  fun_cases cellV groups geom g r rowspan <;> intro h <;> cases h
  next hs gg hg2 hg1 last yl hl h3 h2 h1 =>
    refine ⟨hs, gg, hg1, hg2, h1, ⟨yl, hl, h2, h3, by ring⟩, ?_⟩
    intro h1s
    subst h1s
    simp only [last, Nat.add_sub_cancel] at h2 h3
    rw [h1] at h2
    injection h2 with h2
    rw [h3, h2]
    congr 1
    ring

private theorem mem_dedupAdj (l : List Nat) (x : Nat) : x ∈ dedupAdj l ↔ x ∈ l := by
  fun_induction dedupAdj l with
  | case1 | case2 => rfl
  | case3 a rest' ih => rw [ih]; simp
  | case4 a b rest' hab ih => rw [List.mem_cons, ih]; simp

private theorem checkFragments_parts (n : Nat) (declH declF lo : Bool) (frags : List Frag)
    (h : checkFragments n declH declF lo frags = true) :
    lo = true ∧ dedupAdj (frags.flatMap (·.rows)) = List.range n ∧
    ∀ f ∈ frags, fragOk n declH declF f = true := by
  unfold checkFragments at h
  simp only [Bool.and_eq_true, decide_eq_true_eq, List.all_eq_true] at h
  exact ⟨h.1.1, h.1.2, h.2⟩

/-- **rows_once** (soundness of the checker, rows).  If the checker accepts the fragments of a table
with `n` body rows, then every body row `0 … n-1` is on some fragment, no other row is, and — reading
the fragments in order and merging a row cut by a page break with its continuation — the rows are
exactly `0, 1, …, n-1` in order; moreover every row's first-cell content was found exactly once. -/
theorem rows_once (n : Nat) (declH declF lo : Bool) (frags : List Frag)
    (h : checkFragments n declH declF lo frags = true) :
    (∀ i, i < n → ∃ f ∈ frags, i ∈ f.rows) ∧ (∀ f ∈ frags, ∀ i ∈ f.rows, i < n) ∧
    dedupAdj (frags.flatMap (·.rows)) = List.range n ∧ lo = true := by
  obtain ⟨hlo, hrows, _⟩ := checkFragments_parts n declH declF lo frags h
  refine ⟨?_, ?_, hrows, hlo⟩
  · intro i hi
    have : i ∈ dedupAdj (frags.flatMap (·.rows)) := by rw [hrows]; simpa using hi
    rw [mem_dedupAdj, List.mem_flatMap] at this
    exact this
  · intro f hf i hif
    have : i ∈ dedupAdj (frags.flatMap (·.rows)) := by
      rw [mem_dedupAdj, List.mem_flatMap]; exact ⟨f, hf, hif⟩
    rw [hrows] at this
    simpa using this

/-- **header_footer_repeat** (soundness of the checker, header/footer).  On every accepted fragment
that holds a body row: if header, first row and footer fit together above the page bottom
(`y0 + header + row + footer ≤ limit`), the declared header and footer groups are both present; a
header or footer is never the only content of a fragment unless the table has no body row; no
fragment shows a group the table does not have; and a fragment with more than one body row ends above
the page bottom (up to the code's 1e-9 tolerance). -/
theorem header_footer_repeat (n : Nat) (declH declF lo : Bool) (frags : List Frag)
    (h : checkFragments n declH declF lo frags = true) (f : Frag) (hf : f ∈ frags) :
    (f.rows ≠ [] → f.y0 + f.headerH + f.firstH + f.footerH ≤ f.limit →
       (declH = true → f.hasHeader = true) ∧ (declF = true → f.hasFooter = true)) ∧
    ((f.hasHeader = true ∨ f.hasFooter = true) → f.rows ≠ [] ∨ n = 0) ∧
    (f.hasHeader = true → declH = true) ∧ (f.hasFooter = true → declF = true) ∧
    (1 < f.rows.length → f.endY ≤ f.pageBottom * (1 + 1 / 1000000000)) := by
  obtain ⟨_, _, hall⟩ := checkFragments_parts n declH declF lo frags h
  have hok := hall f hf
  unfold fragOk Frag.fits at hok
  simp only [Bool.and_eq_true, Bool.or_eq_true, Bool.not_eq_true', decide_eq_true_eq,
    beq_iff_eq, decide_eq_false_iff_not] at hok
  -- the five clauses of `TableRows.fragOk` in its order: header/footer never alone, no undeclared
  -- header, no undeclared footer, both repeated when they fit, the fragment ends above the page bottom
  obtain ⟨⟨⟨⟨h1, h2⟩, h3⟩, h4⟩, h5⟩ := hok
  refine ⟨fun hne hfit => ?_, fun hh => ?_, fun hh => h2.resolve_right (fun h => nomatch hh.symm.trans h),
    fun hh => h3.resolve_right (fun h => nomatch hh.symm.trans h),
    fun hlen => h5.resolve_left (Nat.not_le.mpr hlen)⟩
  · rcases h4 with (h4 | h4) | h4
    · exact absurd (List.isEmpty_iff.mp h4) hne
    · exact absurd hfit h4
    · exact ⟨fun hd => h4.1.resolve_left (fun h => nomatch hd.symm.trans h),
        fun hd => h4.2.resolve_left (fun h => nomatch hd.symm.trans h)⟩
  · rcases h1 with (h1 | h1) | h1
    · rcases hh with hh | hh
      · exact nomatch hh.symm.trans h1.1
      · exact nomatch hh.symm.trans h1.2
    · exact Or.inl (fun hnil => by rw [hnil] at h1; cases h1)
    · exact Or.inr h1

example : checkFragments 5 true true true
    [⟨true, true, [0, 1, 2], 0, 12, 12, 12, 60, 60, 60⟩, ⟨true, false, [2, 3], 0, 12, 12, 30, 40, 40, 40⟩,
     ⟨true, true, [4], 0, 12, 12, 12, 60, 36, 60⟩] = true := by decide +kernel

end Rows

end Wp.C10
