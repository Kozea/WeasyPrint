/-
C17 — from the styles to the painted page: which boxes have a background of their
own after layout, where the canvas background comes from (CSS 2.1 14.2: every background is used exactly
once — on the canvas or on its own box), which boxes get their `transform` as a matrix, and how these
layout results enter the display list of `Page.paint` (`drawDocument`, Model/LaidOut).

Models: `Model/LaidOut.lean` (layout_box_backgrounds, layout_backgrounds, the guard of gather_anchors),
`Model/Transform.lean`, `Model/PaintOrder.lean`.  The class test of `gather_anchors` is the generated table
`Kind.gaTransformable` (graph of the real function on one box of every class).
-/
import WpModel.Props.C17Paint
import WpModel.Props.C17Text
import WpModel.Model.LaidOut

namespace Wp.C17
open Wp Wp.Stacking Wp.Gen

/-! ## Which boxes are transformed -/

/-- **Every box class but the non-replaced inline box is transformable** (regenerated table: an edit of
the class test of `gather_anchors` re-checks this): a `transform` is turned into a matrix exactly on the
classes that are not `InlineBox` — the only class an element "which may be split into multiple
inline-level boxes" is laid out as. -/
theorem transformable_classes (k : Kind) : k.gaTransformable = !k.drawInline := by
  cases k <;> rfl

/-- The box classes of css-transforms-1's *transformable elements* (block-level or atomic inline-level
boxes, table rows, row groups, cells, captions; here also flex / grid containers of either level). -/
def specTransformable (k : Kind) : Bool :=
  k.dispBlockLevel || k.dispStackingClass || k.dispCell || k.drawReplaced ||
    k == .TableRowBox || k == .TableRowGroupBox || k == .TableCaptionBox

/-- Every transformable element of the specification gets its matrix. -/
theorem spec_transformable_gets_matrix (k : Kind) (h : specTransformable k = true) :
    k.gaTransformable = true := by
  have hk := kind_mem_all k
  revert h
  revert k
  decide

example : specTransformable .TableCellBox = true ∧ specTransformable .InlineFlexBox = true ∧
    specTransformable .InlineBox = false := by decide

/-- `gather_anchors` sets `box.transformation_matrix` iff `transform` is not `none` and the box is not
an inline box; it is then the matrix of `Transform.transformationMatrix`. -/
theorem gather_matrix_spec (k : Kind) (t : StyleTransform) :
    gatherMatrix k t =
      if t.fns ≠ [] ∧ k.drawInline = false then
        some (Transform.transformationMatrix t.bbx t.bby t.bw t.bh t.ox t.oy t.fns)
      else none := by
  unfold gatherMatrix
  rw [transformable_classes]
  cases hf : t.fns <;> cases hk : k.drawInline <;> simp

/-- **The early return of `draw_stacking_context`** (nothing of the subtree is painted) is taken exactly
for a transformed, transformable box whose functions have a vanishing product of determinants — neither
the origin nor translations matter. -/
theorem box_matrix_singular_iff (k : Kind) (t : StyleTransform) :
    boxMatrix k t = .singular ↔
      t.fns ≠ [] ∧ k.drawInline = false ∧
        t.fns.foldl (fun p fn => (Transform.fnMatrix t.bw t.bh fn).det * p) 1 = 0 := by
  unfold boxMatrix
  rw [gather_matrix_spec]
  by_cases h : t.fns ≠ [] ∧ k.drawInline = false
  · rw [if_pos h]
    simp only [matOf, transform_determinant, h.1, h.2, ne_eq, not_false_eq_true, true_and]
    split <;> simp [*]
  · rw [if_neg h]
    simp only [matOf]
    exact ⟨fun hh => (nomatch hh), fun hh => absurd ⟨hh.1, hh.2.1⟩ h⟩

/-- No matrix at all: `transform: none`, or an inline box. -/
theorem box_matrix_none_iff (k : Kind) (t : StyleTransform) :
    boxMatrix k t = .none ↔ t.fns = [] ∨ k.drawInline = true := by
  unfold boxMatrix
  rw [gather_matrix_spec]
  cases hf : t.fns <;> cases hk : k.drawInline <;> simp [matOf]
  split <;> simp

/-- A translation of a table cell: regular, tagged by its x offset. -/
def exTranslate : StyleTransform :=
  { bbx := 10, bby := 20, bw := 100, bh := 50, ox := ⟨50, true⟩, oy := ⟨50, true⟩,
    fns := [.translate ⟨1001, false⟩ ⟨0, false⟩] }

example : boxMatrix .TableCellBox exTranslate = .regular 1001 ∧ boxMatrix .InlineBox exTranslate = .none ∧
    boxMatrix .TableRowBox { exTranslate with fns := [.scale 0 1] } = .singular ∧
    boxMatrix .BlockBox { exTranslate with fns := [] } = .none := by
  decide +kernel

/-- **Document-level link for transforms**: a transformed, transformable box with a regular matrix roots
a context all of whose items — own decoration, descendants in whatever nested context, outlines — are
painted under that matrix. -/
theorem transformed_box_paints_under_matrix (pov : Bool) (a : Attrs) (t : StyleTransform)
    (kids children blocks floats bc : List Node) (env : Env) (code : Nat)
    (hm : a.matrix = boxMatrix a.kind t) (hr : boxMatrix a.kind t = .regular code) :
    ∀ it ∈ paint pov (mkCtx (.node a kids) children blocks floats bc) env,
      ∀ r i c f, it = .paint r i c f → code ∈ f.transforms :=
  transform_applies_to_subtree pov a kids children blocks floats bc env code (hm.trans hr)

/-- … and with a singular one paints nothing. -/
theorem singular_box_paints_nothing (pov : Bool) (a : Attrs) (t : StyleTransform)
    (kids children blocks floats bc : List Node) (env : Env)
    (hm : a.matrix = boxMatrix a.kind t) (hs : boxMatrix a.kind t = .singular) :
    paint pov (mkCtx (.node a kids) children blocks floats bc) env = [] :=
  paint_singular pov a kids children blocks floats bc env (hm.trans hs)

/-! ## `visibility` acts box by box -/

/-- **`visibility` is not subtree-atomic**: `draw_inline_level` on an inline (or line) box paints the box's
own decoration — nothing, when it is hidden: `boxBackground` gave it no background and `drawBorder` tests
`visible` — and then always runs the children loop.  A `visibility: visible` descendant of a hidden inline
box is painted (CSS 2.1 11.2: "descendants of the element will be visible if they have 'visibility: visible'"). -/
theorem inline_children_painted_whatever_visibility (a : Attrs) (kidsItems : Env → List Item) (env : Env)
    (h : a.kind.dilInlineOrLine = true) :
    inlBoxWith a kidsItems env = decoration a env ++ kidsItems env := by
  simp [inlBoxWith, h]

/-- A hidden box whose background layout removed paints no decoration of its own. -/
theorem hidden_box_paints_no_decoration (a : Attrs) (env : Env) (hv : a.visible = false) (hb : a.bg = none) :
    decoration a env = [] := by
  simp [decoration, drawBackground, drawBorder, hv, hb]

/-- `<span style="visibility:hidden; background:…; border:…">h<span style="visibility:visible">v</span></span>`:
only the text of the visible grandchild is shown. -/
example :
    inlList true
      [.node { plain 1 .InlineBox with visible := false, bg := none, border := some 6, borderSides := 4 }
        [.leaf { plain 2 .TextBox with visible := false, bg := none },
         .node { plain 3 .InlineBox with bg := none } [.leaf { plain 4 .TextBox with bg := none }]]] {} =
      [.paint .text 4 17 {}] := by
  simp [inlList, inlKids, inlBoxWith, decoration, drawBackground, drawBorder, drawText, plain,
    Kind.dilInlineOrLine, Kind.dilTextChild]

/-! ## Which boxes have a background -/

/-- `layout_box_backgrounds`: a box other than the page box has no `Background` iff its `visibility` is not
`visible` or its colour is transparent and it has no image (the page box then keeps an empty one);
otherwise the background carries the colour. -/
theorem box_background_spec (isPage : Bool) (s : StyleBg) :
    boxBackground isPage s =
      if s.visibility ≠ .visible ∨ (s.colour = none ∧ s.images = 0) then (if isPage then some none else none)
      else some s.colour := by
  unfold boxBackground StyleBg.hidden
  cases hv : s.visibility <;> cases hc : s.colour <;> by_cases hi : s.images = 0 <;> simp [hi]

/-- **CSS 2.1 11.2 ("an invisible box paints nothing"), full strength** (`visibility: collapse` included
since repair af29a5d): a box other than the page box has a `Background` iff it is *visible* and has a
colour or an image. -/
theorem box_background_css (s : StyleBg) :
    (boxBackground false s).isSome = true ↔
      s.visibility = .visible ∧ (s.colour ≠ none ∨ s.images ≠ 0) := by
  rw [box_background_spec]
  cases hv : s.visibility <;> cases hc : s.colour <;> by_cases hi : s.images = 0 <;> simp_all

/-- A box that is not visible paints no decoration at all: no background (layout gives it none), no
border (`drawBorder` tests `visible`). -/
theorem invisible_box_paints_no_decoration (a : Attrs) (s : StyleBg) (env : Env)
    (hv : s.visibility ≠ .visible) (hvis : a.visible = false) (hb : a.bg = boxBackground false s) :
    decoration a env = [] :=
  hidden_box_paints_no_decoration a env hvis (by rw [hb, box_background_spec]; simp [hv])

/-- The page box always has one ("Pages need a background for bleed box"). -/
theorem page_background_some (s : StyleBg) : (boxBackground true s).isSome = true := by
  rw [box_background_spec]
  split <;> rfl

example : boxBackground false ⟨.visible, some 8, 0⟩ = some (some 8) ∧
    boxBackground false ⟨.hidden, some 8, 2⟩ = none ∧
    boxBackground false ⟨.visible, none, 1⟩ = some none ∧ boxBackground true ⟨.visible, none, 0⟩ = some none := by
  decide

example : boxBackground false ⟨.collapse, some 8, 1⟩ = none := by decide

/-! ## The canvas background: every background is used exactly once -/

/-- The `Background` a box carries: (box id, colour). -/
def ownBg (a : Attrs) : List (Nat × Option Nat) :=
  match a.bg with
  | none => []
  | some c => [(a.id, c)]

mutual
/-- Every `box.background` of a subtree, in tree order. -/
def bgsOf : Box → List (Nat × Option Nat)
  | .leaf a => ownBg a
  | .node a kids => ownBg a ++ bgsOfL kids
  | .ph b => bgsOf b
def bgsOfL : List Box → List (Nat × Option Nat)
  | [] => []
  | b :: bs => bgsOf b ++ bgsOfL bs
end

private theorem bgsOf_split : ∀ b : Box, bgsOf b = ownBg b.attrs ++ bgsOfL b.kids
  | .leaf a => by simp [bgsOf, Box.attrs, Box.kids, bgsOfL]
  | .node a kids => by simp [bgsOf, Box.attrs, Box.kids]
  | .ph b => by rw [bgsOf, Box.attrs, Box.kids]; exact bgsOf_split b

private theorem attrs_withKids : ∀ (b : Box) (ks : List Box), (b.withKids ks).attrs = b.attrs
  | .leaf _, _ => rfl
  | .node _ _, _ => rfl
  | .ph b, ks => by rw [Box.withKids, Box.attrs, Box.attrs]; exact attrs_withKids b ks

/-- Rewriting the children list of a parent box; a non-parent keeps having none. -/
private theorem bgsOf_withKids : ∀ (b : Box) (ks : List Box), (b.kids = [] → ks = []) →
    bgsOf (b.withKids ks) = ownBg b.attrs ++ bgsOfL ks
  | .leaf a, ks, h => by
    have : ks = [] := h rfl
    simp [Box.withKids, bgsOf, Box.attrs, this, bgsOfL]
  | .node a kids, ks, _ => by simp [Box.withKids, bgsOf, Box.attrs]
  | .ph b, ks, h => by rw [Box.withKids, bgsOf, Box.attrs]; exact bgsOf_withKids b ks h

private theorem bgsOf_clearBg : ∀ b : Box, bgsOf b.clearBg = bgsOfL b.kids
  | .leaf a => by simp [Box.clearBg, bgsOf, ownBg, Box.kids, bgsOfL]
  | .node a kids => by simp [Box.clearBg, bgsOf, ownBg, Box.kids]
  | .ph b => by rw [Box.clearBg, bgsOf, Box.kids]; exact bgsOf_clearBg b

private theorem count_clearBg (b : Box) (c : Option Nat) (p : Nat × Option Nat) (h : b.attrs.bg = some c) :
    (bgsOf b.clearBg).count p + (if p = (b.attrs.id, c) then 1 else 0) = (bgsOf b).count p := by
  rw [bgsOf_clearBg, bgsOf_split b, List.count_append]
  simp only [ownBg, h, List.count_cons, List.count_nil, beq_iff_eq, eq_comm (a := p)]
  omega

private theorem count_clearAt : ∀ (l : List Box) (i : Nat) (b : Box) (c : Option Nat) (p : Nat × Option Nat),
    l[i]? = some b → b.attrs.bg = some c →
    (bgsOfL (clearAt i l)).count p + (if p = (b.attrs.id, c) then 1 else 0) = (bgsOfL l).count p
  | [], i, b, c, p, h, _ => by simp at h
  | x :: xs, 0, b, c, p, h, hb => by
    simp only [List.getElem?_cons_zero, Option.some.injEq] at h
    subst h
    simp only [clearAt, bgsOfL, List.count_append]
    have := count_clearBg x c p hb
    omega
  | x :: xs, i + 1, b, c, p, h, hb => by
    simp only [List.getElem?_cons_succ] at h
    simp only [clearAt, bgsOfL, List.count_append]
    have := count_clearAt xs i b c p h hb
    omega

private theorem clearAt_nil_of_nil (i : Nat) (l : List Box) (h : l = []) : clearAt i l = [] := by
  subst h; cases i <;> rfl

/-- **CSS 2.1 14.2, as laid out: every background is used exactly once.**  `layout_backgrounds` either
leaves the page's children untouched and the canvas without background, or moves the `Background` of one
box — `(i, c)` — to the canvas and leaves every other background in place: for every (box, colour) pair
the boxes still carrying it plus the canvas account for exactly the occurrences before.  In particular
the propagated background is not painted a second time at its own box. -/
theorem canvas_takes_one_background (rootHtml : Bool) (flags : List Bool) (kids kids' : List Box)
    (canvas : Option (Option Nat)) (h : layoutBackgrounds rootHtml flags kids = .ok (canvas, kids')) :
    (canvas = none ∧ kids' = kids) ∨
    ∃ i c, canvas = some c ∧ (i, c) ∈ bgsOfL kids ∧
      ∀ p, (bgsOfL kids').count p + (if p = (i, c) then 1 else 0) = (bgsOfL kids).count p := by
  unfold layoutBackgrounds at h
  cases kids with
  | nil => simp at h
  | cons root margins =>
    simp only at h
    cases hch : chosenBody rootHtml root flags with
    | none =>
      rw [hch] at h
      cases hbg : root.attrs.bg with
      | none =>
        rw [hbg] at h
        simp only [Except.ok.injEq, Prod.mk.injEq] at h
        exact Or.inl ⟨h.1.symm, h.2.symm⟩
      | some c =>
        rw [hbg] at h
        simp only [Except.ok.injEq, Prod.mk.injEq] at h
        refine Or.inr ⟨root.attrs.id, c, h.1.symm, ?_, ?_⟩
        · simp only [bgsOfL, List.mem_append]
          left
          rw [bgsOf_split]
          simp [ownBg, hbg]
        · intro p
          rw [← h.2]
          simp only [bgsOfL, List.count_append]
          have := count_clearBg root c p hbg
          omega
    | some i =>
      rw [hch] at h
      cases hb : root.kids[i]? with
      | none =>
        simp only [hb, Option.map_none, Except.ok.injEq, Prod.mk.injEq] at h
        exact Or.inl ⟨h.1.symm, h.2.symm⟩
      | some body =>
        cases hbg : body.attrs.bg with
        | none =>
          simp only [hb, Option.map_some, hbg, Except.ok.injEq, Prod.mk.injEq] at h
          exact Or.inl ⟨h.1.symm, h.2.symm⟩
        | some c =>
          simp only [hb, Option.map_some, hbg, Except.ok.injEq, Prod.mk.injEq] at h
          have hcount := fun p => count_clearAt root.kids i body c p hb hbg
          refine Or.inr ⟨body.attrs.id, c, h.1.symm, ?_, ?_⟩
          · simp only [bgsOfL, List.mem_append]
            left
            have h1 := hcount (body.attrs.id, c)
            simp only [↓reduceIte] at h1
            have : 0 < (bgsOfL root.kids).count (body.attrs.id, c) := by omega
            rw [bgsOf_split]
            exact List.mem_append_right _ (List.count_pos_iff.mp this)
          · intro p
            rw [← h.2]
            simp only [bgsOfL, List.count_append]
            rw [bgsOf_withKids root _ (fun hk => clearAt_nil_of_nil i _ hk), bgsOf_split root]
            simp only [List.count_append]
            have := hcount p
            omega

/-- Where the canvas background comes from: the root element's own `Background` when it has one … -/
theorem canvas_from_root (rootHtml : Bool) (flags : List Bool) (root : Box) (margins : List Box)
    (c : Option Nat) (h : root.attrs.bg = some c) :
    layoutBackgrounds rootHtml flags (root :: margins) = .ok (some c, root.clearBg :: margins) := by
  simp [layoutBackgrounds, chosenBody, h]

/-- … else, for an `html` root, that of its first `body` child (then the root's stays absent and the
body's is cleared); a root that is not `html` never looks at its children. -/
theorem canvas_from_body (flags : List Bool) (root : Box) (margins : List Box) (i : Nat) (body : Box)
    (c : Option Nat) (hr : root.attrs.bg = none) (hf : firstBody flags = some i)
    (hb : root.kids[i]? = some body) (hc : body.attrs.bg = some c) :
    layoutBackgrounds true flags (root :: margins) =
      .ok (some c, root.withKids (clearAt i root.kids) :: margins) := by
  have hi : i < root.kids.length := by
    rcases List.getElem?_eq_some_iff.mp hb with ⟨hlt, _⟩
    exact hlt
  have hb' : root.kids[i] = body := by
    rw [List.getElem?_eq_getElem hi] at hb
    exact Option.some.inj hb
  simp [layoutBackgrounds, chosenBody, hr, hf, hi, hb', hc]

theorem canvas_not_from_children_unless_html (flags : List Bool) (root : Box) (margins : List Box)
    (hr : root.attrs.bg = none) :
    layoutBackgrounds false flags (root :: margins) = .ok (none, root :: margins) := by
  simp [layoutBackgrounds, chosenBody, hr]

/-- `<html><body style="background:…"><p>…` after `layout_box_backgrounds`: only body has a background. -/
def exDoc : List Box :=
  [.node { plain 1 .BlockBox with bg := none, isRoot := true } [
     .node (plain 2 .BlockBox) [.node { plain 3 .BlockBox with bg := none } []]]]

/-- Body's background goes to the canvas and no box keeps one. -/
example : (layoutBackgrounds true [true] exDoc).toOption.map (fun r => (r.1, bgsOfL r.2)) =
    some (some (some 8), []) := by
  decide +kernel

/-- When the root is not `html` nothing is propagated from a child. -/
example : (layoutBackgrounds false [true] exDoc).toOption.map (fun r => (r.1, bgsOfL r.2)) =
    some (none, [(2, some 8)]) := by
  decide +kernel

example : bgsOfL exDoc = [(2, some 8)] := by decide +kernel

/-! ## `Page.paint` -/

/-- `Page.paint` is `draw_page` on the result of `layout_backgrounds`: every theorem about `drawPage`
(`paint_count_page`, `draw_page_total`, `paint_once_page_partial`) speaks about the painted document. -/
theorem draw_document_eq (page : Attrs) (rootHtml : Bool) (flags : List Bool) (kids kids' : List Box)
    (canvas : Option (Option Nat)) (h : layoutBackgrounds rootHtml flags kids = .ok (canvas, kids')) :
    drawDocument page rootHtml flags kids = drawPage page canvas kids' := by
  simp [drawDocument, h]

/-- `layout_backgrounds` cannot fail on a page that has its root box (`page.children[0]`). -/
theorem layout_backgrounds_total (rootHtml : Bool) (flags : List Bool) (root : Box) (margins : List Box) :
    ∃ r, layoutBackgrounds rootHtml flags (root :: margins) = .ok r := by
  unfold layoutBackgrounds
  simp only
  split
  · split <;> exact ⟨_, rfl⟩
  · split <;> exact ⟨_, rfl⟩

/-- **The canvas background is painted once, the propagated box's own background not at all**: in the
display list of `Page.paint` the number of canvas fills is 1 when `layout_backgrounds` found a coloured
background to propagate and 0 otherwise, plus what the page's children are due under the canvas
selector — over the grammar of `paint_count_page`.  That sum is 0 (no box is due an item of role
`.canvas`: every `…Own` of `roleSel .canvas i` compares another role with it); the statement does not say so. -/
theorem canvas_painted_once (page : Attrs) (rootHtml : Bool) (flags : List Bool) (kids kids' : List Box)
    (canvas : Option (Option Nat)) (h : layoutBackgrounds rootHtml flags kids = .ok (canvas, kids'))
    (hp2 : page.kind.drawOwnDecoration = false) (hp6 : page.kind.drawInline = false)
    (hpr : page.kind.drawReplaced = false) (hpm : page.matrix ≠ .singular)
    (hk : ∀ b ∈ kids', hRoot b) (hs : singOKL kids') :
    (drawDocument page rootHtml flags kids).countP (pickRole .canvas page.id) =
      (if isColour canvas then 1 else 0) + (kids'.map (dueRoot (roleSel .canvas page.id))).sum := by
  rw [draw_document_eq page rootHtml flags kids kids' canvas h]
  have := paint_count_page (roleSel .canvas page.id) page canvas kids' hp2 hp6 hpr hpm hk hs
  simpa [Sel.cnt, roleSel] using this

private theorem expBg_clearBg : ∀ b : Box,
    Box.expBg b.clearBg = if b.attrs.matrix = .singular then [] else Box.expBgL b.kids
  | .leaf a => by
    by_cases hm : a.matrix = .singular <;>
      simp [Box.clearBg, Box.expBg, Box.attrs, Box.kids, bgOf, Box.expBgL, hm]
  | .node a kids => by
    by_cases hm : a.matrix = .singular <;> simp [Box.clearBg, Box.expBg, Box.attrs, Box.kids, bgOf, hm]
  | .ph b => by rw [Box.clearBg, Box.expBg, Box.attrs, Box.kids]; exact expBg_clearBg b

/-- **The root element's background, once propagated to the canvas, is not painted at the root box**
(CSS 2.1 14.2; the clause a retained `root_box.background` would break): in the display list of
`Page.paint` the background fills of any id `i` are those of the page box, of the root's descendants and of
the margin boxes — the root box itself contributes none (with distinct ids: `cntBg root.id … = 0`).
Grammar and hypotheses of `paint_once_page_partial`, on the page as `layout_backgrounds` leaves it. -/
theorem propagated_root_background_not_painted (page : Attrs) (rootHtml : Bool) (flags : List Bool)
    (root : Box) (margins : List Box) (c : Option Nat) (h : root.attrs.bg = some c)
    (hp2 : page.kind.drawOwnDecoration = false) (hp6 : page.kind.drawInline = false)
    (hpm : page.matrix ≠ .singular) (hk : ∀ b ∈ root.clearBg :: margins, gRoot b)
    (hs : singOKL (root.clearBg :: margins)) (i : Nat) :
    cntBg i (drawDocument page rootHtml flags (root :: margins)) =
      (bgOf page ++ (if root.attrs.matrix = .singular then [] else Box.expBgL root.kids) ++
        Box.expBgL margins).count i := by
  rw [draw_document_eq page rootHtml flags _ _ _ (canvas_from_root rootHtml flags root margins c h),
    paint_once_page_partial page (some c) _ hp2 hp6 hpm hk hs i]
  simp [Box.expBgL, expBg_clearBg]

private theorem expBgL_clearAt : ∀ (l : List Box) (i : Nat) (b : Box), l[i]? = some b →
    Box.expBgL (clearAt i l) =
      Box.expBgL (l.take i) ++ (Box.expBg b.clearBg ++ Box.expBgL (l.drop (i + 1)))
  | [], i, b, h => by simp at h
  | x :: xs, 0, b, h => by
    simp only [List.getElem?_cons_zero, Option.some.injEq] at h
    subst h
    simp [clearAt, Box.expBgL]
  | x :: xs, i + 1, b, h => by
    simp only [List.getElem?_cons_succ] at h
    simp [clearAt, Box.expBgL, expBgL_clearAt xs i b h, List.append_assoc]

private theorem expBg_withKids : ∀ (b : Box) (ks : List Box), (b.kids = [] → ks = []) →
    Box.expBg (b.withKids ks) = if b.attrs.matrix = .singular then [] else bgOf b.attrs ++ Box.expBgL ks
  | .leaf a, ks, h => by
    have : ks = [] := h rfl
    by_cases hm : a.matrix = .singular <;> simp [Box.withKids, Box.expBg, Box.attrs, this, Box.expBgL, hm]
  | .node a kids, ks, _ => by
    by_cases hm : a.matrix = .singular <;> simp [Box.withKids, Box.expBg, Box.attrs, hm]
  | .ph b, ks, h => by rw [Box.withKids, Box.expBg, Box.attrs]; exact expBg_withKids b ks h

/-- **The `<body>` background, once propagated to the canvas, is not painted at the body box** — the
clause seeded change C17-5 broke (it kept `chosen_box.background`).  For an `html` root without background
whose `i`-th child is the first `body` and has one: in the display list of `Page.paint` the background
fills of any id `j` are those of the page box, of the root's other children, of body's *descendants* and
of the margin boxes; the body box itself contributes none (with distinct ids: `cntBg body.id … = 0`), and
nothing below a singular transform.  Grammar and hypotheses of `paint_once_page_partial`, on the page as
`layout_backgrounds` leaves it. -/
theorem propagated_body_background_not_painted (page : Attrs) (flags : List Bool)
    (root : Box) (margins : List Box) (i : Nat) (body : Box) (c : Option Nat)
    (hr : root.attrs.bg = none) (hf : firstBody flags = some i)
    (hb : root.kids[i]? = some body) (hc : body.attrs.bg = some c)
    (hp2 : page.kind.drawOwnDecoration = false) (hp6 : page.kind.drawInline = false)
    (hpm : page.matrix ≠ .singular)
    (hk : ∀ b ∈ root.withKids (clearAt i root.kids) :: margins, gRoot b)
    (hs : singOKL (root.withKids (clearAt i root.kids) :: margins)) (j : Nat) :
    cntBg j (drawDocument page true flags (root :: margins)) =
      (bgOf page ++
        (if root.attrs.matrix = .singular then [] else
          Box.expBgL (root.kids.take i) ++
            ((if body.attrs.matrix = .singular then [] else Box.expBgL body.kids) ++
              Box.expBgL (root.kids.drop (i + 1)))) ++
        Box.expBgL margins).count j := by
  rw [draw_document_eq page true flags _ _ _ (canvas_from_body flags root margins i body c hr hf hb hc),
    paint_once_page_partial page (some c) _ hp2 hp6 hpm hk hs j]
  have hroot : bgOf root.attrs = [] := by simp [bgOf, hr]
  simp only [Box.expBgL, expBg_withKids root _ (fun h => clearAt_nil_of_nil i _ h), hroot, List.nil_append,
    expBgL_clearAt root.kids i body hb, expBg_clearBg, List.append_assoc]

/-- `<html style="background:…"><body><p>…`: the root's colour goes to the canvas. -/
def exRootDoc : Box :=
  .node { plain 1 .BlockBox with isRoot := true } [
    .node { plain 2 .BlockBox with bg := none } [.node (plain 3 .BlockBox) []]]

example : (layoutBackgrounds true [true] [exRootDoc]).toOption.map (fun r => (r.1, bgsOfL r.2)) =
    some (some (some 4), [(3, some 12)]) := by
  decide +kernel

/-- The hypotheses of `propagated_root_background_not_painted` hold on it. -/
example : (∀ b ∈ [exRootDoc.clearBg], gRoot b) ∧ singOKL [exRootDoc.clearBg] := by
  simp [exRootDoc, Box.clearBg, gRoot, rootPainted, plain, listS, dispatchS, coreS, definesContext, lastIsLine,
    Node.attrs?, gInlineL, gInline, gFlowL, gFlow, leavesTree, Delta.append, singOKL, singOK,
    Kind.drawOwnDecoration, Kind.drawInline, Kind.drawReplaced, Kind.dispBlockLevel, Kind.dispCell,
    Kind.drawLine, Kind.dilInlineOrLine, Kind.dilTextChild, Kind.dispStackingClass, Kind.drawTable]

/-- The hypotheses of `propagated_body_background_not_painted` hold on `exDoc` (html without background, body
with one, a paragraph with one): `firstBody [true] = some 0`, body is child 0, and the page as
`layout_backgrounds` leaves it follows the grammar. -/
example : firstBody [true] = some 0 ∧
    (∀ b ∈ [(Box.node { plain 1 .BlockBox with bg := none, isRoot := true } []).withKids
        (clearAt 0 [.node (plain 2 .BlockBox) [.node (plain 3 .BlockBox) []]])], gRoot b) ∧
    singOKL [(Box.node { plain 1 .BlockBox with bg := none, isRoot := true } []).withKids
        (clearAt 0 [.node (plain 2 .BlockBox) [.node (plain 3 .BlockBox) []]])] := by
  refine ⟨rfl, ?_, ?_⟩ <;>
  simp [singOKL, singOK, Box.withKids, clearAt, Box.clearBg, gRoot, rootPainted, plain, listS, dispatchS, coreS, definesContext,
    lastIsLine, Node.attrs?, gInlineL, gInline, gFlowL, gFlow, leavesTree, Delta.append,
    Kind.drawOwnDecoration, Kind.drawInline, Kind.drawReplaced, Kind.dispBlockLevel, Kind.dispCell,
    Kind.drawLine, Kind.dilInlineOrLine, Kind.dilTextChild, Kind.dispStackingClass, Kind.drawTable]

example : Box.expBgL exRootDoc.kids = [3] := by
  simp [exRootDoc, Box.kids, Box.expBgL, Box.expBg, bgOf, plain]

end Wp.C17
