/-
C03 — refinement: the verified geometric trace checker (`Trace.overflowing`, soundness in
`Props/C03Trace.lean`) accepts every page produced by PM. Then, for every document (fixed heights allowed):
`make_all_pages` terminates from every page-maker state within `pagesNeeded` pages, and `paginate` makes at
most two pages per unit of content.
-/
import WpModel.Model.Trace
import WpModel.Props.C03Geo
import WpModel.Props.C03Trace
import WpModel.Lemmas.PagesRun
import WpModel.Props.C03
import WpModel.Lemmas.LossyPages

namespace Wp.C03Pm2
open Wp Wp.PM

/-- What the harness extracts from a rendered page (`wide_trace.fit_items`): the bottom edge of every
in-flow line box in tree order, the very first one flagged "first content placed on its page". -/
def itemsOf (d : Doc) (p : Page) : List Trace.Item :=
  match placedLines p.root true (pageSource d p) with
  | [] => []
  | l :: rest => { bottom := l.y + l.lineH, first := true } ::
      rest.map (fun l => { bottom := l.y + l.lineH, first := false })

/-- **The geometry checker accepts PM**: on every page of every pagination (bottom padding + border ≥ 0 in
every box: `DecoOk`), run on the items of the page with the page height as content-box bottom, the checker
reports no overflowing item. -/
theorem geometry_checker_accepts_pm (d : Doc) (hd : DecoOk d.root) (fuel : Nat) (pages : List Page)
    (h : paginate d fuel = some pages) :
    ∀ p ∈ pages, Trace.overflowing d.pageH (itemsOf d p) = [] := by
  intro p hp
  apply (C03Trace.overflowing_nil_iff _ _).mpr
  intro it hit
  have hfit := C03Geo.paginate_line_fits d hd fuel pages h p hp
  unfold itemsOf at hit
  split at hit
  · cases hit
  · rename_i l rest heq
    rw [heq] at hfit
    rcases List.mem_cons.mp hit with rfl | hit
    · left; rfl
    · right
      obtain ⟨l', hl', rfl⟩ := List.mem_map.mp hit
      have := hfit l' (by simpa using hl')
      simp only [Trace.overflows, decide_eq_false_iff_not]
      grind

/-! Non-vacuity: the four pages of `C03Geo.exDoc` (cloned decorations, a top margin). -/
example : DecoOk C03Geo.exDoc.root := by
  simp only [C03Geo.exDoc, DecoOk, DecoOkList, PStyle.DecoOk, plainSt]
  decide +kernel

example : (paginate C03Geo.exDoc 10).map (fun ps => ps.map (fun p =>
      ((itemsOf C03Geo.exDoc p).map (fun it => (it.bottom, it.first)),
       Trace.overflowing C03Geo.exDoc.pageH (itemsOf C03Geo.exDoc p)))) =
    some [([(14, true), (24, false), (34, false), (44, false), (54, false)], []),
      ([(10, true), (20, false), (30, false), (40, false)], []),
      ([(10, true), (20, false), (30, false), (40, false)], []),
      ([(10, true), (20, false)], [])] := by decide +kernel

open Wp.PageLoop

/-! ### termination and page-count bound for every document (fixed heights allowed)

Every non-blank page strictly advances `pos` (`page_progress_all`), `pos < size`, and a blank page is followed by a
non-blank one: from a state `(resume, next_page, right_page)` at most `pagesNeeded` more pages are made. -/

/-- Upper bound of the number of pages still to be made from a page-maker state. -/
def pagesNeeded (d : Doc) (resume : Option Resume) (np : NextPage) (right : Bool) : Nat :=
  twoSided (size d.root) (pos d.root resume) (isBlank (requestedSide d.rootLtr np.brk) right)

theorem pagesNeeded_start (d : Doc) :
    pagesNeeded d none { brk := none, page := some (boxPageStart d.root) } (firstRight d) ≤ 2 * size d.root :=
  twoSided_start ..

/-- **`make_all_pages` terminates, every document**: with at least `pagesNeeded` units of fuel it returns,
with at most that many pages — from every page-maker state (any resume position, pending break, side). -/
theorem makeAllPages_terminates_all (d : Doc) (hW : WellFormed d.root)
    (fuel index : Nat) (resume : Option Resume) (np : NextPage) (right : Bool)
    (h : pagesNeeded d resume np right ≤ fuel) :
    ∃ pages, makeAllPages d fuel index resume np right = some pages ∧
      pages.length ≤ pagesNeeded d resume np right := by
  simp only [makeAllPages_eq_some]
  refine run_total (fun _ => True) (fun s : PState => pagesNeeded d s.2.1 s.2.2.1 s.2.2.2) ?_ ?_ ?_ fuel _
    trivial h
  · intro ⟨i, r, n, b⟩ e _
    exact stepOf_ne_error e (C03.remakePage_total d i r n b)
  · intro ⟨i, r, n, b⟩ _
    exact twoSided_pos _ (PM.pos_lt_size d.root r)
  · intro ⟨i, r, n, b⟩ p s' _ hs
    obtain ⟨hp, ho⟩ := stepOf_ok hs
    obtain ⟨r', hr, rfl⟩ := Option.map_eq_some_iff.mp ho.symm
    obtain ⟨hbl, hb1, _⟩ := remakePage_spec d i r n b p hp
    exact ⟨trivial, twoSided_page hbl (fun hb => by rw [← hr, (hb1 hb).1, (hb1 hb).2.1]; exact ⟨rfl, rfl⟩)
      (fun hb => ((remakePage_linesT d hW i r n b p hp).2 hb).2 r' hr)
      (PM.pos_lt_size d.root (some r'))⟩

/-- Whatever the fuel, `make_all_pages` never makes more than `pagesNeeded` pages from a state: it makes the pages
it makes with `pagesNeeded` units. -/
theorem makeAllPages_length_le (d : Doc) (hW : WellFormed d.root)
    (fuel index : Nat) (resume : Option Resume) (np : NextPage) (right : Bool) (pages : List Page)
    (h : makeAllPages d fuel index resume np right = some pages) :
    pages.length ≤ pagesNeeded d resume np right := by
  obtain ⟨ps, hps, hl⟩ := makeAllPages_terminates_all d hW _ index resume np right (Nat.le_refl _)
  rw [run_deterministic (makeAllPages_eq_some.mp h) (makeAllPages_eq_some.mp hps)]
  exact hl

/-- At most `2 * size` pages, whatever the fuel. -/
theorem page_count_bound_sharp (d : Doc) (hW : WellFormed d.root) (fuel : Nat) (pages : List Page)
    (h : paginate d fuel = some pages) : pages.length ≤ 2 * size d.root :=
  Nat.le_trans (makeAllPages_length_le d hW fuel 0 none _ _ pages h) (pagesNeeded_start d)

/-- **Page count bounded by the amount of content** (every document, blank pages included, any fuel):
at most two pages per unit of content (`size` = one unit per line and per box; a blank page is always followed
by a non-blank one, which makes progress). -/
theorem page_count_bound (d : Doc) (hW : WellFormed d.root) (fuel : Nat) (pages : List Page)
    (h : paginate d fuel = some pages) : pages.length ≤ 2 * size d.root + 2 :=
  Nat.le_trans (page_count_bound_sharp d hW fuel pages h) (Nat.le_add_right _ _)

/-! Non-vacuity: a document with a fixed-height paragraph that forgets lines (size 11, 2 pages). -/
def lossDoc : Doc :=
  { pageH := 25, rootLtr := true,
    root := .block 0 { plainSt with isRoot := true }
      [.para 1 5 10 { plainSt with height := some 10 }, .para 2 3 10 plainSt] }

example : WellFormed lossDoc.root ∧ size lossDoc.root = 11 ∧
    (paginate lossDoc 20).map (fun ps => ps.map (fun p => pos lossDoc.root p.resume)) = some [7, 0] := by
  refine ⟨?_, ?_, by decide +kernel⟩
  · simp [lossDoc, WellFormed, WellFormedList, plainSt]
  · simp [lossDoc, size, sizeList]

end Wp.C03Pm2
