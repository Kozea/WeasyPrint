/-
C15 — the counter functions of `content`: theorems about `Model/ContentFns.lean` (`check_counter_function`,
`get_target` of css/utils.py).  The counter name a function reads is an identifier of its argument list **as
written** (a case-sensitive `<custom-ident>`, like the names `counter-reset` / `-increment` / `-set` declare);
only the counter style of `target-counter(s)()` and the `target-text()` keyword go through `get_keyword`.
-/
import WpModel.Model.ContentFns

namespace Wp.C15
open Wp.Counters Wp.ContentFns

/-! A token other than a comma is appended to the running list, by `parse_function`'s argument loop and by
`split_on_comma` alike; the six token kinds need not be told apart anywhere below. -/

private theorem parseArgs_cons (t : ATok) (rest : List ATok) (lc : Bool) (acc : List ATok) (ht : t ≠ .comma) :
    parseArgs (t :: rest) lc acc = parseArgs rest false (acc ++ [t]) := by
  cases t <;> first | rfl | exact absurd rfl ht

private theorem splitOnComma_cons (t : ATok) (rest cur : List ATok) (ht : t ≠ .comma) :
    splitOnComma (t :: rest) cur = splitOnComma rest (cur ++ [t]) := by
  cases t <;> first | rfl | exact absurd rfl ht

private theorem mem_snoc_or {t x : ATok} {acc xs : List ATok} (h : t ∈ acc ++ [x] ∨ t ∈ xs) :
    t ∈ acc ∨ t ∈ x :: xs := by
  rcases h with h | h
  · rcases List.mem_append.mp h with h | h
    · exact Or.inl h
    · exact Or.inr (List.mem_singleton.mp h ▸ List.mem_cons_self)
  · exact Or.inr (List.mem_cons_of_mem _ h)

private theorem parseArgs_mem (toks : List ATok) (lc : Bool) (acc args : List ATok)
    (h : parseArgs toks lc acc = some args) : ∀ t ∈ args, t ∈ acc ∨ t ∈ toks := by
  fun_induction parseArgs toks lc acc with
  | case1 | case3 => cases h
  | case2 => cases h; exact fun t ht => Or.inl ht
  | case4 _ _ _ _ ih => exact fun t ht => (ih h t ht).imp_right (List.mem_cons_of_mem _)
  | case5 _ _ _ _ _ ih => exact fun t ht => mem_snoc_or (ih h t ht)

private theorem splitOnComma_mem (toks cur : List ATok) : ∀ p ∈ splitOnComma toks cur, ∀ t ∈ p, t ∈ cur ∨ t ∈ toks := by
  fun_induction splitOnComma toks cur with
  | case1 cur => exact fun p hp t ht => Or.inl (List.mem_singleton.mp hp ▸ ht)
  | case2 rest cur ih =>
    intro p hp t ht
    rcases List.mem_cons.mp hp with hp | hp
    · exact Or.inl (hp ▸ ht)
    · exact Or.inr (List.mem_cons_of_mem _ ((ih p hp t ht).resolve_left nofun))
  | case3 _ _ _ _ ih => exact fun p hp t ht => mem_snoc_or (ih p hp t ht)

private theorem joinParts_mem (parts : List (List ATok)) (out : List ATok) (h : joinParts parts = some out) :
    ∀ t ∈ out, ∃ p ∈ parts, t ∈ p := by
  fun_induction joinParts parts generalizing out with
  | case1 => cases h; nofun
  | case2 => cases h
  | case3 p rest _ ih =>
    obtain ⟨r, hr, rfl⟩ := Option.map_eq_some_iff.mp h
    intro t ht
    rcases List.mem_append.mp ht with h1 | h1
    · exact ⟨p, List.mem_cons_self, h1⟩
    · obtain ⟨q, hq, hq2⟩ := ih r hr t h1
      exact ⟨q, List.mem_cons_of_mem _ hq, hq2⟩

private theorem optionalComma_mem (args out : List ATok) (h : splitOnOptionalComma args = some out) :
    ∀ t ∈ out, t ∈ args := by
  intro t ht
  obtain ⟨p, hp, htp⟩ := joinParts_mem _ out h t ht
  rcases splitOnComma_mem args [] p hp t htp with h1 | h1
  · simp at h1
  · exact h1

/-- Every accepting branch of `counterFn` matched `.ident n` in first position, so the walk only collects that pattern
(likewise `targetFn_name`, second position). -/
private theorem counterFn_name (name : String) (toks : List ATok) (p : Parsed) (h : counterFn name toks = some p) :
    ∃ n rest, parseArgs toks false [] = some (.ident n :: rest) ∧ p.counterName = some n := by
  revert h
  fun_cases counterFn name toks <;> intro h
  any_goals cases h
  any_goals obtain ⟨s, _, rfl⟩ := Option.map_eq_some_iff.mp h
  all_goals exact ⟨_, _, ‹_›, rfl⟩

private theorem targetFn_name (name : String) (toks : List ATok) (p : Parsed) (n : String)
    (h : targetFn name toks = some p) (hn : p.counterName = some n) :
    ∃ args0 link rest, parseArgs toks false [] = some args0 ∧
      splitOnOptionalComma args0 = some (link :: .ident n :: rest) := by
  revert h
  fun_cases targetFn name toks <;> intro h
  any_goals cases h
  any_goals obtain ⟨s, _, rfl⟩ := Option.map_eq_some_iff.mp h
  -- `target-text` items carry no counter name
  any_goals cases hn
  all_goals exact ⟨_, _, _, ‹_›, ‹_›⟩

/-- **C15.counter_name_as_written** — whatever the function (`counter`, `counters`, which `get_string` takes in lower case
only, and `target-counter`, `target-counters` in any spelling) and whatever its arguments, the counter name of the
parsed item is an identifier token of the argument list, exactly as written: it is never case-folded, so it
designates the same counter as the `counter-reset` / `counter-increment` / `counter-set` that declared it. -/
theorem counter_name_as_written (rawName : String) (toks : List ATok) (p : Parsed) (n : String)
    (h : contentFn rawName toks = some p) (hn : p.counterName = some n) : ATok.ident n ∈ toks := by
  have key : ∀ args, parseArgs toks false [] = some args → ATok.ident n ∈ args → ATok.ident n ∈ toks := by
    intro args ha hm
    rcases parseArgs_mem toks false [] args ha _ hm with h1 | h1
    · cases h1
    · exact h1
  unfold contentFn at h
  split at h
  · obtain ⟨n', rest, ha, hp⟩ := counterFn_name _ _ _ h
    rw [hp] at hn
    cases hn
    exact key _ ha List.mem_cons_self
  · obtain ⟨args0, link, rest, ha, hsp⟩ := targetFn_name _ _ _ n h hn
    exact key _ ha (optionalComma_mem _ _ hsp _ (List.mem_cons_of_mem _ List.mem_cons_self))

/-- `target-counter(link, name, style)` with or without commas: the name as written, the style lower-cased. -/
theorem target_counter_shape (n st : String) :
    targetFn "target-counter" [.str "#t", .comma, .ident n, .comma, .ident st] =
      some (.targetCounter (.str "#t") n (lowerAscii st)) ∧
    targetFn "target-counter" [.str "#t", .ident n, .ident st] =
      some (.targetCounter (.str "#t") n (lowerAscii st)) := by
  constructor <;>
    simp [targetFn, parseArgs, splitOnOptionalComma, splitOnComma, joinParts, linkOf, keyword?]

/-- **C15.target_counter_style_named** — the third argument of an accepted three-token `target-counter(link name style)`
is an identifier, and the item carries its lower-cased name (`fix:` 9677ed2, finding
`target-counter-non-ident-style-crash`; `target-counters()` on one input: `Witness.C15.target_counter_non_ident_style_rejected`);
with the type `style : String` every accepted item names a counter style. -/
theorem target_counter_style_named (link : ATok) (n : String) (st : ATok) (p : Parsed)
    (h : targetFn "target-counter" [link, .ident n, st] = some p) (hst : st ≠ .comma) (hl : link ≠ .comma) :
    ∃ l v, linkOf link = some l ∧ st = .ident v ∧ p = .targetCounter l n (lowerAscii v) := by
  have hi : ATok.ident n ≠ .comma := nofun
  have hp : parseArgs [link, .ident n, st] false [] = some [link, .ident n, st] := by
    rw [parseArgs_cons _ _ _ _ hl, parseArgs_cons _ _ _ _ hi, parseArgs_cons _ _ _ _ hst]; rfl
  have hs : splitOnOptionalComma [link, .ident n, st] = some [link, .ident n, st] := by
    unfold splitOnOptionalComma
    rw [splitOnComma_cons _ _ _ hl, splitOnComma_cons _ _ _ hi, splitOnComma_cons _ _ _ hst]; rfl
  unfold targetFn at h
  simp only [hp, hs] at h
  replace h := (Option.ite_none_left_eq_some.mp h).2
  cases hlk : linkOf link with
  | none => rw [hlk] at h; cases h
  | some l =>
    simp only [hlk, if_true] at h
    obtain ⟨k, hk, hp⟩ := Option.map_eq_some_iff.mp h
    cases st with
    | ident v => cases hk; exact ⟨l, v, rfl, rfl, hp.symm⟩
    | comma => exact absurd rfl hst
    | _ => cases hk

/-- `counter(name, style)`: both as written (`list_style_type` keeps the identifier). -/
theorem counter_shape (n st : String) :
    counterFn "counter" [.ident n, .comma, .ident st] = some (.counter n (.named st)) := by
  simp [counterFn, parseArgs, listStyleType]

example : contentFn "target-counter" [.attr, .comma, .ident "chapterNum", .comma, .ident "UPPER-ROMAN"] =
    some (.targetCounter .attr "chapterNum" "upper-roman") := by decide +kernel
example : contentFn "Target-Counters" [.url "#Sec", .ident "Sec", .str "."] =
    some (.targetCounters (.internal "Sec") "Sec" "." "decimal") := by decide +kernel
example : contentFn "COUNTER" [.ident "c"] = none := by decide +kernel
example : contentFn "target-counter" [.str "#t", .comma, .ident "c", .comma, .str "x"] = none := by decide +kernel
example : contentFn "counters" [.ident "Sec", .comma, .str "-", .comma, .str "*"] =
    some (.counters "Sec" "-" (.str "*")) := by decide +kernel
example : contentFn "target-counter" [.str "#t", .comma, .comma, .ident "c"] = none := by decide +kernel

end Wp.C15
