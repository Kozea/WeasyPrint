/-
C11 — Positioned boxes obey the CSS 2.1 placement rules: `absolute_width`, `absolute_height`, `absolute_replaced`
(layout/absolute.py) and `relative_positioning` (layout/block.py), function level.
Model: `Model/Absolute.lean`.  Document level: `Props/C11AbsDoc.lean`.

Full strength (defects repaired in /repo): the exact halves of `abs_replaced` / `abs_centred_v` (vertical axis; F14);
`abs_equation_h`, `abs_equation_v`, `abs_replaced` for every auto pattern (7752e9b: an auto margin takes what the
other margin leaves).
-/
import WpModel.Model.Absolute

namespace Wp.C11
open Wp Wp.Absolute

/-- The used horizontal values after `absolute_width` (one pass, without the min/max wrapper) and
the translation of `absolute_block`: margin-box `x`, content width, margins. -/
structure UsedH where
  x : Rat
  w : Rat
  ml : Rat
  mr : Rat
  deriving Repr, DecidableEq

def usedH (b : HBox) (ltr : Bool) (cbX cbW : Rat) : UsedH :=
  let r := absoluteWidthCore b ltr cbX cbW
  let w := autoZero r.1.width
  ⟨r.1.posX + (if r.2.1 then r.2.2 - w else r.2.2), w, autoZero r.1.ml, autoZero r.1.mr⟩

theorem autoZero_none : autoZero none = 0 := rfl
theorem autoZero_some (q : Rat) : autoZero (some q) = q := rfl

/-- `position_x + translate_x` when `translate_x = left + (cb_x - position_x)`. -/
theorem translated_from_left (p l c : Rat) : p + (l + (c - p)) = c + l := by grind

/-- The used horizontal values in each auto pattern of `left`, `right`, `width` (and, with all three specified,
of the margins). -/
theorem usedH_eq (b : HBox) (ltr : Bool) (cbX cbW : Rat) :
    usedH b ltr cbX cbW =
      -- `spacing` of `absolute_width`, and the width left for the margins when nothing else is auto
      let s := b.pb + autoZero b.ml + autoZero b.mr
      let m := fun l r w : Rat => cbW - (r + l + w + b.pb)
      match b.left, b.right, b.width with
      | some l, some r, some w =>
        match b.ml, b.mr with
        | none, none =>
          if w + b.pb + r + l ≤ cbW then ⟨cbX + l, w, m l r w / 2, m l r w / 2⟩
          else ⟨cbX + l, w, if ltr then 0 else m l r w, if ltr then m l r w else 0⟩
        | none, some mr => ⟨cbX + l, w, m l r w - mr, mr⟩
        | some ml, none => ⟨cbX + l, w, ml, m l r w - ml⟩
        | some ml, some mr =>
          ⟨cbX + l, w, if ltr then ml else m l r w - mr,
            if ltr then m l r w - ml else mr⟩
      | some l, some r, none =>
        ⟨cbX + l, cbW - r - l - s, autoZero b.ml, autoZero b.mr⟩
      | some l, none, w =>
        ⟨cbX + l, w.getD (shrinkToFit b (cbW - s - l)), autoZero b.ml, autoZero b.mr⟩
      | none, some r, w =>
        ⟨cbX + cbW - r - s -
            w.getD (shrinkToFit b (cbW - s - r)),
          w.getD (shrinkToFit b (cbW - s - r)), autoZero b.ml, autoZero b.mr⟩
      | none, none, w =>
        ⟨if ltr then b.posX else cbX + cbW - s -
            w.getD (shrinkToFit b (cbW - s)),
          w.getD (shrinkToFit b (cbW - s)), autoZero b.ml, autoZero b.mr⟩ := by
  cases hl : b.left <;> cases hr : b.right <;> cases hw : b.width <;>
    simp only [usedH, absoluteWidthCore, shrinkToFit, hl, hr, hw, autoZero_some, Bool.false_eq_true, if_true, if_false,
      translated_from_left, Option.getD_some, Option.getD_none]
  · cases ltr <;>
      simp only [Bool.not_false, Bool.not_true, Bool.false_eq_true, if_true, if_false, autoZero_some, Rat.add_zero]
    congr 1
    grind
  · cases ltr <;>
      simp only [Bool.not_false, Bool.not_true, Bool.false_eq_true, if_true, if_false, autoZero_some, Rat.add_zero]
    congr 1
    grind
  · congr 1
    grind
  · congr 1
    grind
  · cases hml : b.ml <;> cases hmr : b.mr <;> simp only [autoZero_some, translated_from_left]
    · split <;> simp only [autoZero_some, translated_from_left]
    · cases ltr <;> simp only [autoZero_some, translated_from_left, Bool.false_eq_true, if_true, if_false]

/-- `absolute_width` resolves every `auto` (the `autoZero` of `usedH` never replaces an `auto`),
touches nothing but width and margins, and keeps a specified width. -/
theorem abs_width_resolved (b : HBox) (ltr : Bool) (cbX cbW : Rat) :
    let r := absoluteWidthCore b ltr cbX cbW
    r.1.width.isSome ∧ r.1.ml.isSome ∧ r.1.mr.isSome ∧
    r.1 = { b with width := r.1.width, ml := r.1.ml, mr := r.1.mr } ∧
    (∀ w, b.width = some w → r.1.width = some w) := by
  unfold absoluteWidthCore
  simp only
  split
  · rename_i hw
    split <;> exact ⟨rfl, rfl, rfl, rfl, fun _ h => by rw [hw] at h; cases h⟩
  · rename_i hw
    split
    · split <;> exact ⟨hw ▸ rfl, rfl, rfl, rfl, fun _ h => h⟩
    · rename_i hmr; exact ⟨hw ▸ rfl, rfl, hmr ▸ rfl, rfl, fun _ h => h⟩
    · rename_i hml _; exact ⟨hw ▸ rfl, hml ▸ rfl, rfl, rfl, fun _ h => h⟩
    · rename_i hml hmr
      split
      · exact ⟨hw ▸ rfl, hml ▸ rfl, rfl, rfl, fun _ h => h⟩
      · exact ⟨hw ▸ rfl, rfl, hmr ▸ rfl, rfl, fun _ h => h⟩
  · split
    · rename_i hw; exact ⟨rfl, rfl, rfl, rfl, fun _ h => by rw [hw] at h; cases h⟩
    · rename_i hw; split <;> exact ⟨hw ▸ rfl, rfl, rfl, rfl, fun _ h => h⟩
    · rename_i hw; exact ⟨rfl, rfl, rfl, rfl, fun _ h => by rw [hw] at h; cases h⟩
    · rename_i hw; exact ⟨hw ▸ rfl, rfl, rfl, rfl, fun _ h => h⟩
    · rename_i hw; exact ⟨rfl, rfl, rfl, rfl, fun _ h => by rw [hw] at h; cases h⟩
    · rename_i hw; exact ⟨hw ▸ rfl, rfl, rfl, rfl, fun _ h => h⟩
    · rename_i h _ _ _ _ hl hr hw; exact (h hl hr hw).elim
    · rename_i h _ _ _ _ _ _ hl hr hw; exact (h _ _ _ hl hr hw).elim

/-- A specified `left` is honoured in every pattern: the margin box starts at `cb_x + left`. -/
theorem abs_left_honoured (b : HBox) (ltr : Bool) (cbX cbW l : Rat) (hl : b.left = some l) :
    (usedH b ltr cbX cbW).x = cbX + l := by
  rw [usedH_eq, hl]
  cases b.right with
  | none => rfl
  | some r =>
    cases b.width with
    | none => rfl
    | some w =>
      cases b.ml <;> cases b.mr
      · simp only []; split <;> rfl
      all_goals rfl

/-- **The horizontal constraint equation** (CSS 2.1 §10.3.7: `left + margins + borders + paddings + width +
right = width of the containing block`, with the margin box starting at `cb_x + left`): a specified
`right` is honoured — the margin box ends at `cb_x + cb_width − right` — in all 2³ × 2² auto patterns
× ltr/rtl, with no exception: an auto margin takes what the other margin leaves (7752e9b), and when
nothing is auto `margin-right` (ltr) / `margin-left` (rtl) is
re-solved. -/
theorem abs_equation_h (b : HBox) (ltr : Bool) (cbX cbW r : Rat) (hr : b.right = some r) :
    let u := usedH b ltr cbX cbW
    u.x + u.ml + b.pb + u.w + u.mr = cbX + cbW - r := by
  rw [usedH_eq, hr]
  cases b.left with
  | none => simp only []; grind
  | some l =>
    cases b.width with
    | none => simp only []; grind
    | some w =>
      cases b.ml <;> cases b.mr <;> simp only []
      · split <;> cases ltr <;> grind
      · grind
      · grind
      · cases ltr <;> grind

/-- With `left`, `right` and `width` specified, a specified margin is kept when the other one is auto; with
nothing auto the start margin (`margin-left` in ltr, `margin-right` in rtl) is kept and the other one
re-solved. -/
theorem abs_specified_margin_kept (b : HBox) (ltr : Bool) (cbX cbW l r w : Rat)
    (hl : b.left = some l) (hr : b.right = some r) (hw : b.width = some w) :
    let u := usedH b ltr cbX cbW
    (∀ m, b.ml = some m → (b.mr = none ∨ ltr = true) → u.ml = m) ∧
    (∀ m, b.mr = some m → (b.ml = none ∨ ltr = false) → u.mr = m) := by
  rw [usedH_eq, hl, hr, hw]
  cases b.ml <;> cases b.mr
  · exact ⟨nofun, nofun⟩
  · exact ⟨nofun, fun _ h _ => Option.some.inj h⟩
  · exact ⟨fun _ h _ => Option.some.inj h, nofun⟩
  · cases ltr
    · exact ⟨fun _ _ h => by simp at h, fun _ h _ => Option.some.inj h⟩
    · exact ⟨fun _ h _ => Option.some.inj h, fun _ _ h => by simp at h⟩

/-- Both `left` and `right` auto: the static position is kept in ltr; in rtl the margin box ends at
the right edge of the containing block (WeasyPrint's stand-in for the rtl static position). -/
theorem abs_static_position_h (b : HBox) (ltr : Bool) (cbX cbW : Rat)
    (hl : b.left = none) (hr : b.right = none) :
    let u := usedH b ltr cbX cbW
    (ltr = true → u.x = b.posX) ∧
    (ltr = false → u.x + u.ml + b.pb + u.w + u.mr = cbX + cbW) := by
  rw [usedH_eq, hl, hr]
  exact ⟨fun h => by rw [h]; rfl, fun h => by rw [h]; simp only []; grind⟩

/-- `left`, `right`, `width` specified and both margins auto: centred when it fits, otherwise the
start margin is 0 and the end margin takes the (negative) rest. -/
theorem abs_centred (b : HBox) (ltr : Bool) (cbX cbW l r w : Rat)
    (hl : b.left = some l) (hr : b.right = some r) (hw : b.width = some w)
    (hml : b.ml = none) (hmr : b.mr = none) :
    let u := usedH b ltr cbX cbW
    (w + b.pb + r + l ≤ cbW → u.ml = u.mr ∧ 0 ≤ u.ml) ∧
    (¬ (w + b.pb + r + l ≤ cbW) → (ltr = true → u.ml = 0) ∧ (ltr = false → u.mr = 0)) := by
  rw [usedH_eq, hl, hr, hw, hml, hmr]
  simp only []
  refine ⟨fun h => ?_, fun h => ?_⟩
  · rw [if_pos h]; exact ⟨rfl, by grind⟩
  · rw [if_neg h]; exact ⟨fun h => by rw [h]; rfl, fun h => by rw [h]; rfl⟩

/-- Outside the all-specified pattern, auto margins are 0 and specified margins are kept. -/
theorem abs_margins_kept (b : HBox) (ltr : Bool) (cbX cbW : Rat)
    (hn : ¬ (b.left.isSome ∧ b.right.isSome ∧ b.width.isSome)) :
    let u := usedH b ltr cbX cbW
    u.ml = autoZero b.ml ∧ u.mr = autoZero b.mr := by
  rw [usedH_eq]
  cases hl : b.left <;> cases hr : b.right <;> cases hw : b.width
  case some.some.some => exact (hn ⟨hl ▸ rfl, hr ▸ rfl, hw ▸ rfl⟩).elim
  all_goals exact ⟨rfl, rfl⟩

/-- An auto width is the shrink-to-fit width for the space left by the specified offsets, unless
both offsets are specified, in which case it is what the equation leaves. -/
theorem abs_auto_width (b : HBox) (ltr : Bool) (cbX cbW : Rat) (hw : b.width = none) :
    let u := usedH b ltr cbX cbW
    let avail := cbW - autoZero b.left - autoZero b.right - b.pb - u.ml - u.mr
    (¬ (b.left.isSome ∧ b.right.isSome) → u.w = min (max b.minC avail) b.maxC) ∧
    (b.left.isSome ∧ b.right.isSome → u.w = avail) := by
  rw [usedH_eq, hw]
  cases b.left <;> cases b.right <;> simp only [Option.getD_none, shrinkToFit, autoZero_none, autoZero_some]
  · exact ⟨fun _ => by congr 2; grind, nofun⟩
  · exact ⟨fun _ => by congr 2; grind, fun h => (nomatch h.1)⟩
  · exact ⟨fun _ => by congr 2; grind, fun h => (nomatch h.2)⟩
  · exact ⟨fun h => absurd ⟨rfl, rfl⟩ h, fun _ => by grind⟩

/-- Re-running on the box left by a previous pass over `b.setWidth _` is a fresh pass over `b` with the new
width. -/
private theorem rerun_eq (b : HBox) (wA : Len) (w : Rat) (ltr : Bool) (cbX cbW : Rat) :
    rerun b (absoluteWidthCore (b.setWidth wA) ltr cbX cbW) w ltr cbX cbW =
    absoluteWidthCore (b.setWidth (some w)) ltr cbX cbW := by
  unfold rerun
  rw [(abs_width_resolved (b.setWidth wA) ltr cbX cbW).2.2.2.1]
  rfl

/-- `absolute_width` with its `handle_min_max_width` wrapper never fails; its result is the one-pass result for
the same box with the width replaced by `max-width` / `min-width` when the first result violates them (so the
theorems above apply to the final values), and the final used width respects `min-width`, and `max-width` when
`min-width ≤ max-width`. -/
theorem abs_width_wrapper (b : HBox) (ltr : Bool) (cbX cbW : Rat) :
    ∃ w' w, absoluteWidth b ltr cbX cbW = .ok (absoluteWidthCore (b.setWidth w') ltr cbX cbW) ∧
      (w' = b.width ∨ (∃ mx, b.maxW = some mx ∧ w' = some mx) ∨ w' = some b.minW) ∧
      (absoluteWidthCore (b.setWidth w') ltr cbX cbW).1.width = some w ∧
      b.minW ≤ w ∧ (∀ mx, b.maxW = some mx → b.minW ≤ mx → w ≤ mx) := by
  have kept : ∀ w, (absoluteWidthCore (b.setWidth (some w)) ltr cbX cbW).1.width = some w :=
    fun w => (abs_width_resolved (b.setWidth (some w)) ltr cbX cbW).2.2.2.2 w rfl
  unfold absoluteWidth
  simp only
  cases hw1 : (absoluteWidthCore b ltr cbX cbW).1.width with
  | none => have := (abs_width_resolved b ltr cbX cbW).1; rw [hw1] at this; cases this
  | some w1 =>
    simp only
    -- after the max stage: a fresh pass with width `wA`, whose result respects `max-width`
    obtain ⟨wA, w2, hA, hwA, hw2, hmx⟩ : ∃ wA w2, maxStage b (absoluteWidthCore b ltr cbX cbW) w1 ltr cbX cbW =
        absoluteWidthCore (b.setWidth wA) ltr cbX cbW ∧
        (wA = b.width ∨ ∃ mx, b.maxW = some mx ∧ wA = some mx) ∧
        (absoluteWidthCore (b.setWidth wA) ltr cbX cbW).1.width = some w2 ∧
        ∀ mx, b.maxW = some mx → w2 ≤ mx := by
      unfold maxStage
      cases hmx : b.maxW with
      | none => exact ⟨b.width, w1, rfl, Or.inl rfl, hw1, nofun⟩
      | some mx =>
        simp only []
        by_cases hgt : w1 > mx
        · rw [if_pos hgt]
          exact ⟨some mx, mx, rerun_eq b b.width mx ltr cbX cbW, Or.inr ⟨mx, rfl, rfl⟩, kept mx,
            fun _ h => by cases h; exact Rat.le_refl⟩
        · rw [if_neg hgt]
          exact ⟨b.width, w1, rfl, Or.inl rfl, hw1, fun _ h => by cases h; exact Rat.not_lt.mp hgt⟩
    rw [hA, hw2]
    simp only [minStage]
    by_cases hlt : w2 < b.minW
    · rw [if_pos hlt, rerun_eq]
      exact ⟨_, _, rfl, Or.inr (Or.inr rfl), kept _, Rat.le_refl, fun _ _ h => h⟩
    · rw [if_neg hlt]
      exact ⟨wA, w2, rfl, hwA.imp_right Or.inl, hw2, Rat.not_lt.mp hlt, fun mx h _ => hmx mx h⟩

/-- A specified width inside `[min-width, max-width]` goes through the `handle_min_max_width` wrapper unchanged. -/
theorem absoluteWidth_of_fits (b : HBox) (ltr : Bool) (cbX cbW : Rat) {w : Rat} (hw : b.width = some w)
    (hmin : b.minW ≤ w) (hmax : ∀ mx, b.maxW = some mx → w ≤ mx) :
    absoluteWidth b ltr cbX cbW = .ok (absoluteWidthCore b ltr cbX cbW) := by
  have hk := (abs_width_resolved b ltr cbX cbW).2.2.2.2 w hw
  have h1 : maxStage b (absoluteWidthCore b ltr cbX cbW) w ltr cbX cbW = absoluteWidthCore b ltr cbX cbW := by
    unfold maxStage
    cases hm : b.maxW with
    | none => rfl
    | some mx => exact if_neg (Rat.not_lt.mpr (hmax mx hm))
  simp only [absoluteWidth, hk, h1, minStage, if_neg (Rat.not_lt.mpr hmin)]

example : (usedH ⟨some 10, some 20, none, none, some 5, 1, 1, 2, 2, 0, none, 30, 300, 7⟩ false 100 200) =
    ⟨110, 159, 0, 5⟩ := by decide +kernel
/-- Non-vacuity on the pattern repaired in 7752e9b (`left`, `right`, `width` given, one auto margin, the other not 0):
`left:0; right:0; width:50; margin-left:auto; margin-right:10` in 100 → `margin-left = 40`, margin box 0..100. -/
example : usedH ⟨some 0, some 0, some 50, none, some 10, 0, 0, 0, 0, 0, none, 0, 0, 0⟩ true 0 100 = ⟨0, 50, 40, 10⟩ := by
  decide +kernel

/-- The used vertical values after `absolute_height` and the translation of `absolute_block`, `hc`
being the height of the laid-out content (used when `height` stays auto). -/
structure UsedV where
  y : Rat
  h : Rat
  mt : Rat
  mb : Rat
  deriving Repr, DecidableEq

def usedV (b : VBox) (cbY cbH hc : Rat) : UsedV :=
  let r := absoluteHeight b cbY cbH
  let h := match r.1.height with
    | some h => h
    | none => hc
  ⟨r.1.posY + (if r.2.1 then r.2.2 - h else r.2.2), h, autoZero r.1.mt, autoZero r.1.mb⟩

/-- The used vertical values in each auto pattern of `top`, `bottom`, `height` (and, with all three specified,
of the margins). -/
theorem usedV_eq (b : VBox) (cbY cbH hc : Rat) :
    usedV b cbY cbH hc =
      match b.top, b.bottom, b.height with
      | some t, some bo, some h =>
        match b.mt, b.mb with
        | none, none => ⟨cbY + t, h, (cbH - (t + bo + h + b.pb)) / 2, (cbH - (t + bo + h + b.pb)) / 2⟩
        | none, some mb => ⟨cbY + t, h, cbH - (t + bo + h + b.pb) - mb, mb⟩
        | some mt, _ => ⟨cbY + t, h, mt, cbH - (t + bo + h + b.pb) - mt⟩
      | some t, some bo, none =>
        ⟨cbY + t, cbH - bo - t - (b.pb + autoZero b.mt + autoZero b.mb), autoZero b.mt, autoZero b.mb⟩
      | some t, none, h => ⟨cbY + t, h.getD hc, autoZero b.mt, autoZero b.mb⟩
      | none, some bo, h =>
        ⟨cbY + cbH - bo - (b.pb + autoZero b.mt + autoZero b.mb) - h.getD hc, h.getD hc, autoZero b.mt, autoZero b.mb⟩
      | none, none, h => ⟨b.posY, h.getD hc, autoZero b.mt, autoZero b.mb⟩ := by
  cases ht : b.top <;> cases hb : b.bottom <;> cases hh : b.height <;>
    simp only [usedV, absoluteHeight, ht, hb, hh, autoZero_some, Bool.false_eq_true, if_true, if_false, Rat.add_zero,
      translated_from_left, Option.getD_some, Option.getD_none]
  · congr 1
    grind
  · congr 1
    grind
  · cases hmt : b.mt <;> cases hmb : b.mb <;> simp only [autoZero_some, translated_from_left]

/-- `absolute_height` resolves both margins, touches nothing but height and margins and keeps a
specified height. -/
theorem abs_height_resolved (b : VBox) (cbY cbH : Rat) :
    let r := absoluteHeight b cbY cbH
    r.1.mt.isSome ∧ r.1.mb.isSome ∧
    r.1 = { b with height := r.1.height, mt := r.1.mt, mb := r.1.mb } ∧
    (∀ h, b.height = some h → r.1.height = some h) := by
  fun_cases absoluteHeight b cbY cbH
  all_goals first
    | exact ⟨rfl, rfl, rfl, fun _ h => h⟩
    | exact ⟨rfl, rfl, rfl, fun _ h => by simp_all⟩
    | (simp +zetaDelta only []; split <;> simp_all)

/-- A specified `top` is honoured in every pattern. -/
theorem abs_top_honoured (b : VBox) (cbY cbH hc t : Rat) (ht : b.top = some t) :
    (usedV b cbY cbH hc).y = cbY + t := by
  rw [usedV_eq, ht]
  cases b.bottom with
  | none => rfl
  | some bo =>
    cases b.height with
    | none => rfl
    | some h =>
      cases b.mt with
      | some _ => rfl
      | none => cases b.mb <;> rfl

/-- **The vertical constraint equation** (CSS 2.1 §10.6.4): a specified `bottom` is honoured — the margin
box ends at `cb_y + cb_height − bottom` — in all auto patterns, with no exception (an auto margin takes what
the other margin leaves, 7752e9b; with nothing auto `margin-bottom` is re-solved). -/
theorem abs_equation_v (b : VBox) (cbY cbH hc bo : Rat) (hb : b.bottom = some bo) :
    let u := usedV b cbY cbH hc
    u.y + u.mt + b.pb + u.h + u.mb = cbY + cbH - bo := by
  rw [usedV_eq, hb]
  cases b.top with
  | none => simp only []; grind
  | some t =>
    cases b.height with
    | none => simp only []; grind
    | some h =>
      cases b.mt with
      | some _ => simp only []; grind
      | none => cases b.mb <;> simp only [] <;> grind

/-- `top` and `bottom` auto: the static position is kept. -/
theorem abs_static_position_v (b : VBox) (cbY cbH hc : Rat) (ht : b.top = none) (hb : b.bottom = none) :
    (usedV b cbY cbH hc).y = b.posY := by
  rw [usedV_eq, ht, hb]

/-- All three specified and both margins auto: vertically centred (exact halves). -/
theorem abs_centred_v (b : VBox) (cbY cbH hc t bo h : Rat)
    (ht : b.top = some t) (hb : b.bottom = some bo) (hh : b.height = some h)
    (hmt : b.mt = none) (hmb : b.mb = none) :
    let u := usedV b cbY cbH hc
    u.mt = u.mb ∧ u.mt + u.mb = cbH - (t + bo + h + b.pb) := by
  rw [usedV_eq, ht, hb, hh, hmt, hmb]
  exact ⟨rfl, by grind⟩

/-- An auto height with `top` and `bottom` specified is what the equation leaves; otherwise the
content height is used. -/
theorem abs_auto_height (b : VBox) (cbY cbH hc : Rat) (hh : b.height = none) :
    let u := usedV b cbY cbH hc
    (b.top.isSome ∧ b.bottom.isSome → u.h = cbH - autoZero b.top - autoZero b.bottom - b.pb - u.mt - u.mb) ∧
    (¬ (b.top.isSome ∧ b.bottom.isSome) → u.h = hc) := by
  rw [usedV_eq, hh]
  cases b.top <;> cases b.bottom
  · exact ⟨nofun, fun _ => rfl⟩
  · exact ⟨fun h => (nomatch h.1), fun _ => rfl⟩
  · exact ⟨fun h => (nomatch h.2), fun _ => rfl⟩
  · exact ⟨fun _ => by simp only [autoZero_some]; grind, fun h => absurd ⟨rfl, rfl⟩ h⟩

example : usedV ⟨none, some 10, none, none, some 4, 1, 1, 0, 0, 33⟩ 20 100 30 = ⟨74, 30, 0, 4⟩ := by
  decide +kernel

/-- **A fixed box is laid out identically on pages of equal area**: `absolute_box_layout` is a function of the
box's computed style, its static position and the containing rectangle only (congruence: the model has no other
input, which is the modelling claim; the theorem adds nothing to it). -/
theorem fixed_same (st : AbsStyle) (page1 page2 : CBBox) (ltr : Bool) (sx sy minC maxC hw hn : Rat)
    (h : containingRect page1 = containingRect page2) :
    absoluteBlock st (containingRect page1) ltr sx sy minC maxC hw hn =
    absoluteBlock st (containingRect page2) ltr sx sy minC maxC hw hn := by
  rw [h]

/-- The used height of a box lies between its `min-height` and (when that is not below `min-height`) its
`max-height`, and is the content height when that satisfies both. -/
theorem cb_used_height (c : CBHeights) :
    c.minH ≤ c.used ∧ (∀ m, c.maxH = some m → c.minH ≤ m → c.used ≤ m) ∧
    (c.minH ≤ c.content → (∀ m, c.maxH = some m → c.content ≤ m) → c.used = c.content) := by
  rcases c with ⟨h, mn, mx⟩
  cases mx <;> simp [CBHeights.used] <;> grind

/-- **The containing block of the absolute children of an absolutely positioned box is its final padding box**:
they are laid out after `block_container_layout` has clamped the height. -/
theorem cb_height_of_absolute_box (c : CBHeights) : cbHeightAtLayout false c = c.used := rfl

/-
Full statement (false of the current code, see `Witness.C11.abs_cb_height_before_min_max`):
  theorem cb_height_of_relative_box (c : CBHeights) : cbHeightAtLayout true c = c.used
-/
/-- … and of a relatively positioned box too, when `min-height` / `max-height` do not change its height (they
are applied after its absolute children were laid out). -/
theorem cb_height_of_relative_box_partial (c : CBHeights)
    (h1 : c.minH ≤ c.content) (h2 : ∀ m, c.maxH = some m → c.content ≤ m) :
    cbHeightAtLayout true c = c.used := by
  simp only [cbHeightAtLayout, if_true]
  exact ((cb_used_height c).2.2 h1 h2).symm

example : cbHeightAtLayout true ⟨80, 50, some 120⟩ = 80 ∧ (⟨80, 50, some 120⟩ : CBHeights).used = 80 ∧
    cbHeightAtLayout false ⟨80, 100, none⟩ = 100 := by decide +kernel

/-- One axis of `absolute_replaced` (CSS 2.1 §10.3.8 / §10.6.5) on plain numbers: offsets `a` (left / top) and `z`
(right / bottom), margins `ma`, `mz`, static offsets `sa` / `sz` from the two edges, `e` the extent of the border box,
`cb` that of the containing block.  `fwd`: the `a` side is the start side (ltr; always on the vertical axis).
`neg`: two auto margins that would share a negative rest are not centred (horizontal axis only).
Result: the used `(a, z, ma, mz)`. -/
def solveAxis (fwd neg : Bool) (a z ma mz : Len) (sa sz e cb : Rat) : Rat × Rat × Rat × Rat :=
  let rem0 := cb - (e + autoZero ma + autoZero mz)
  match a, z with
  | none, none => if fwd then (sa, rem0 - sa, autoZero ma, autoZero mz) else (rem0 - sz, sz, autoZero ma, autoZero mz)
  | some l, none => (l, rem0 - l, autoZero ma, autoZero mz)
  | none, some r => (rem0 - r, r, autoZero ma, autoZero mz)
  | some l, some r =>
    let rem := cb - (e + l + r)
    match ma, mz with
    | some m1, some m2 =>
      -- over-constrained: the end offset gives way
      if fwd then (l, cb - (e + m1 + m2 + l), m1, m2) else (cb - (e + m1 + m2 + r), r, m1, m2)
    | none, none =>
      if neg = false ∨ rem ≥ 0 then (l, r, rem / 2, rem / 2)
      else (l, r, if fwd then 0 else rem, if fwd then rem else 0)
    | none, some m2 => (l, r, rem - m2, m2)
    | some m1, none => (l, r, m1, rem - m1)

/-- Everything that is known about the used values of one axis: the constraint equation; a specified offset is the
used one (except the end offset when nothing is auto); with both offsets auto the static offset of the start side is
kept; two auto margins between specified offsets are equal when they are centred. -/
theorem solveAxis_spec (fwd neg : Bool) (a z ma mz : Len) (sa sz e cb : Rat) :
    let r := solveAxis fwd neg a z ma mz sa sz e cb
    r.1 + r.2.2.1 + e + r.2.2.2 + r.2.1 = cb ∧
    (∀ a0, a = some a0 → (z = none ∨ ma = none ∨ mz = none ∨ fwd = true) → r.1 = a0) ∧
    (∀ z0, z = some z0 → (a = none ∨ ma = none ∨ mz = none ∨ fwd = false) → r.2.1 = z0) ∧
    (a = none → z = none → (fwd = true → r.1 = sa) ∧ (fwd = false → r.2.1 = sz)) ∧
    (a.isSome → z.isSome → ma = none → mz = none → neg = false → r.2.2.1 = r.2.2.2) := by
  have keep : ∀ {x y : Rat} {P : Prop}, some x = some y → P → x = y := fun h _ => Option.some.inj h
  cases a <;> cases z
  · cases fwd
    · exact ⟨by simp only [solveAxis]; grind, nofun, nofun, fun _ _ => ⟨nofun, fun _ => rfl⟩, nofun⟩
    · exact ⟨by simp only [solveAxis]; grind, nofun, nofun, fun _ _ => ⟨fun _ => rfl, nofun⟩, nofun⟩
  · exact ⟨by simp only [solveAxis]; grind, nofun, fun _ => keep, nofun, nofun⟩
  · exact ⟨by simp only [solveAxis]; grind, fun _ => keep, nofun, nofun, nofun⟩
  · cases ma <;> cases mz
    · simp only [solveAxis]
      split
      · exact ⟨by grind, fun _ => keep, fun _ => keep, nofun, fun _ _ _ _ _ => rfl⟩
      · rename_i hc
        exact ⟨by cases fwd <;> grind, fun _ => keep, fun _ => keep, nofun, fun _ _ _ _ h => absurd (Or.inl h) hc⟩
    · exact ⟨by simp only [solveAxis]; grind, fun _ => keep, fun _ => keep, nofun, nofun⟩
    · exact ⟨by simp only [solveAxis]; grind, fun _ => keep, fun _ => keep, nofun, nofun⟩
    · cases fwd
      · exact ⟨by simp only [solveAxis]; grind, fun _ _ h => by simp at h, fun _ => keep, nofun, nofun⟩
      · exact ⟨by simp only [solveAxis]; grind, fun _ => keep, fun _ _ h => by simp at h, nofun, nofun⟩

/-- The horizontal half of `absolute_replaced` solves the horizontal axis (`right` gives way in ltr, `left` in rtl). -/
theorem absoluteReplacedH_eq (b : RBox) (ltr : Bool) (cbX cbW : Rat) :
    absoluteReplacedH b ltr cbX cbW =
      let r := solveAxis ltr true b.left b.right b.ml b.mr (b.posX - cbX) (cbX + cbW - b.posX) b.borderWidth cbW
      { b with left := some r.1, right := some r.2.1, ml := some r.2.2.1, mr := some r.2.2.2 } := by
  rcases b with ⟨l, r, t, bo, ml, mr, mt, mb, w, h, pl, pr, bl, br, pt, pbot, bt, bb, px, py⟩
  cases l with
  | none => cases r <;> cases ltr <;> rfl
  | some l =>
    cases r with
    | none => rfl
    | some r =>
      cases ml <;> cases mr
      · -- both margins auto: the model tests `remaining ≥ 0`
        simp only [absoluteReplacedH, solveAxis, RBox.borderWidth, Bool.true_eq_false, false_or]
        split <;> rename_i hc <;> simp only [hc, ↓reduceIte]
      · rfl
      · rfl
      · cases ltr <;> rfl

/-- The vertical half solves the vertical axis: `bottom` gives way, two auto margins are always centred. -/
theorem absoluteReplacedV_eq (b : RBox) (cbY cbH : Rat) :
    absoluteReplacedV b cbY cbH =
      let r := solveAxis true false b.top b.bottom b.mt b.mb (b.posY - cbY) 0 b.borderHeight cbH
      { b with top := some r.1, bottom := some r.2.1, mt := some r.2.2.1, mb := some r.2.2.2 } := by
  rcases b with ⟨l, r, t, bo, ml, mr, mt, mb, w, h, pl, pr, bl, br, pt, pbot, bt, bb, px, py⟩
  cases t with
  | none => cases bo <;> rfl
  | some t =>
    cases bo with
    | none => rfl
    | some bo => cases mt <;> cases mb <;> rfl

/-- `absolute_replaced`, both halves composed, with everything that is known about each used value: the result is
the box with its offsets and margins resolved, placed at `cb + (left, top)`; both constraint equations hold; a
specified offset is the used one (except the one CSS 2.1 §10.3.8 / §10.6.5 say to ignore when nothing is auto:
`right` in ltr, `left` in rtl, `bottom`); with both offsets of an axis auto the static position is kept (ltr
horizontally); two auto margins between specified `top` and `bottom` are equal. -/
theorem abs_replaced_full (b : RBox) (ltr : Bool) (cbX cbY cbW cbH : Rat) :
    ∃ l rt t bo ml mr mt mb,
      absoluteReplaced b ltr cbX cbY cbW cbH = .ok { b with
        left := some l, right := some rt, top := some t, bottom := some bo,
        ml := some ml, mr := some mr, mt := some mt, mb := some mb, posX := cbX + l, posY := cbY + t } ∧
      l + ml + b.borderWidth + mr + rt = cbW ∧
      t + mt + b.borderHeight + mb + bo = cbH ∧
      (∀ l0, b.left = some l0 → (b.right = none ∨ b.ml = none ∨ b.mr = none ∨ ltr = true) → l = l0) ∧
      (∀ r0, b.right = some r0 → (b.left = none ∨ b.ml = none ∨ b.mr = none ∨ ltr = false) → rt = r0) ∧
      (∀ t0, b.top = some t0 → t = t0) ∧
      (∀ b0, b.bottom = some b0 → (b.top = none ∨ b.mt = none ∨ b.mb = none) → bo = b0) ∧
      (b.left = none → b.right = none → ltr = true → l = b.posX - cbX) ∧
      (b.top = none → b.bottom = none → t = b.posY - cbY) ∧
      (b.top.isSome → b.bottom.isSome → b.mt = none → b.mb = none → mt = mb) := by
  have ⟨eh, kl, kr, sh, _⟩ := solveAxis_spec ltr true b.left b.right b.ml b.mr (b.posX - cbX) (cbX + cbW - b.posX)
    b.borderWidth cbW
  have ⟨ev, kt, kb, sv, cv⟩ := solveAxis_spec true false b.top b.bottom b.mt b.mb (b.posY - cbY) 0 b.borderHeight cbH
  refine ⟨_, _, _, _, _, _, _, _, ?_, eh, ev, kl, kr, fun t0 h => kt t0 h (.inr (.inr (.inr rfl))),
    fun b0 h h' => kb b0 h (h'.imp_right fun h => h.imp_right .inl), fun h1 h2 h3 => (sh h1 h2).1 h3,
    fun h1 h2 => (sv h1 h2).1 rfl, fun h1 h2 h3 h4 => cv h1 h2 h3 h4 rfl⟩
  simp only [absoluteReplaced, absoluteReplacedH_eq, absoluteReplacedV_eq]
  rfl

/-- **`absolute_replaced`** (CSS 2.1 §10.3.8 / §10.6.5): it never fails; the box is placed at `cb + (left, top)`;
`left + margin-left + border box + margin-right + right = cb_width` and likewise vertically, for all 2⁴ auto
patterns per axis in ltr and rtl, with no exception (one auto margin takes what the other margin leaves, 7752e9b);
two auto margins between specified `top` and `bottom` are equal (no clause states this for `left` and `right`; the
`example` below shows `remaining / 2`, f3eca6a, on one input). -/
theorem abs_replaced (b : RBox) (ltr : Bool) (cbX cbY cbW cbH : Rat) :
    ∃ r l rt t bo ml mr mt mb, absoluteReplaced b ltr cbX cbY cbW cbH = .ok r ∧
      r.left = some l ∧ r.right = some rt ∧ r.top = some t ∧ r.bottom = some bo ∧
      r.ml = some ml ∧ r.mr = some mr ∧ r.mt = some mt ∧ r.mb = some mb ∧
      r.posX = cbX + l ∧ r.posY = cbY + t ∧
      r.borderWidth = b.borderWidth ∧ r.borderHeight = b.borderHeight ∧
      l + ml + b.borderWidth + mr + rt = cbW ∧
      t + mt + b.borderHeight + mb + bo = cbH ∧
      (b.top.isSome → b.bottom.isSome → b.mt = none → b.mb = none → mt = mb) := by
  obtain ⟨l, rt, t, bo, ml, mr, mt, mb, hok, heq, geq, _, _, _, _, _, _, gc⟩ :=
    abs_replaced_full b ltr cbX cbY cbW cbH
  exact ⟨_, l, rt, t, bo, ml, mr, mt, mb, hok, rfl, rfl, rfl, rfl, rfl, rfl, rfl, rfl, rfl, rfl, rfl, rfl, heq, geq, gc⟩

example : (absoluteReplacedH ⟨some 10, some 20, none, none, none, none, none, none, 40, 30, 0, 0, 1, 1, 0, 0, 1, 1, 5, 7⟩
    true 100 105).ml = some (33 / 2) := by decide +kernel

/-- The pattern repaired in 7752e9b, for a replaced box: `left:0; right:0; margin-left:auto; margin-right:10` on a 50-px
image in 100. -/
example : (absoluteReplacedH ⟨some 0, some 0, some 0, none, none, some 10, some 0, some 0, 50, 10,
    0, 0, 0, 0, 0, 0, 0, 0, 0, 0⟩ true 0 100).ml = some 40 := by decide +kernel

mutual
private theorem translate_zero_box : ∀ b : RelBox, translateBox 0 0 b = b
  | .mk rel rtl inl l r t bo x y kids => by
    simp [translateBox, translate_zero_kids kids, Rat.add_zero]
private theorem translate_zero_kids : ∀ ks : List RelBox, translateKids 0 0 ks = ks
  | [] => rfl
  | k :: ks => by simp [translateKids, translate_zero_box k, translate_zero_kids ks]
end

mutual
private theorem translate_add_box (a b c d : Rat) : ∀ bx : RelBox,
    translateBox a b (translateBox c d bx) = translateBox (c + a) (d + b) bx
  | .mk rel rtl inl l r t bo x y kids => by
    simp [translateBox, translate_add_kids a b c d kids]; grind
private theorem translate_add_kids (a b c d : Rat) : ∀ ks : List RelBox,
    translateKids a b (translateKids c d ks) = translateKids (c + a) (d + b) ks
  | [] => rfl
  | k :: ks => by simp [translateKids, translate_add_box a b c d k, translate_add_kids a b c d ks]
end

/-- The offset rules of CSS 2.1 §9.4.3: `left` wins over `right` in ltr and `right` over `left` in
rtl when both are specified; `top` wins over `bottom`; auto offsets do not move the box. -/
theorem relative_offset_rules (rtl : Bool) (l r t b : Dim) (cbW cbH : Rat) :
    let off := relativeOffset rtl l r t b cbW cbH
    (∀ lv, l.resolve cbW = some lv → (r.resolve cbW = none ∨ rtl = false) → off.1 = lv) ∧
    (∀ rv, r.resolve cbW = some rv → (l.resolve cbW = none ∨ rtl = true) → off.1 = -rv) ∧
    (l.resolve cbW = none → r.resolve cbW = none → off.1 = 0) ∧
    (∀ tv, t.resolve cbH = some tv → off.2 = tv) ∧
    (∀ bv, t.resolve cbH = none → b.resolve cbH = some bv → off.2 = -bv) ∧
    (t.resolve cbH = none → b.resolve cbH = none → off.2 = 0) := by
  simp only [relativeOffset]
  -- regrouped: `dx` is decided by `left`, `right` and the direction, `dy` by `top` and `bottom`
  rw [← and_assoc, ← and_assoc]
  constructor
  · cases l.resolve cbW <;> cases r.resolve cbW
    · exact ⟨⟨nofun, nofun⟩, fun _ _ => rfl⟩
    · exact ⟨⟨nofun, fun _ h _ => congrArg Neg.neg (Option.some.inj h)⟩, nofun⟩
    · exact ⟨⟨fun _ h _ => Option.some.inj h, nofun⟩, nofun⟩
    · cases rtl
      · exact ⟨⟨fun _ h _ => Option.some.inj h, fun _ _ h => by simp at h⟩, nofun⟩
      · exact ⟨⟨fun _ _ h => by simp at h, fun _ h _ => congrArg Neg.neg (Option.some.inj h)⟩, nofun⟩
  · cases t.resolve cbH <;> cases b.resolve cbH
    · exact ⟨nofun, nofun, fun _ _ => rfl⟩
    · exact ⟨nofun, fun _ _ h => congrArg Neg.neg (Option.some.inj h), nofun⟩
    · exact ⟨fun _ h => Option.some.inj h, nofun, nofun⟩
    · exact ⟨fun _ h => Option.some.inj h, nofun, nofun⟩

/-- **Relative positioning is a translation of the box by its offset** (and of nothing else): the
box keeps every attribute but its position, which moves by `relativeOffset` when the box is
relatively positioned and not at all otherwise; the children of a block-level box move with it. -/
theorem relative_moves_box (cbW cbH : Rat) (rel rtl inl : Bool) (l r t bo : Dim) (x y : Rat)
    (kids : List RelBox) :
    let off := if rel then relativeOffset rtl l r t bo cbW cbH else (0, 0)
    ∃ kids', relativePositioning cbW cbH (.mk rel rtl inl l r t bo x y kids) =
        .mk rel rtl inl l r t bo (x + off.1) (y + off.2) kids' ∧
      (inl = false → kids' = translateKids off.1 off.2 kids) := by
  simp only [relativePositioning, relativeAcc, Rat.zero_add]
  exact ⟨_, rfl, fun h => by simp [h]⟩

/-- **…without affecting any other box**: on a box that is neither relatively positioned nor an
inline / line box, `relative_positioning` is the identity. -/
theorem relative_identity (cbW cbH : Rat) (rtl : Bool) (l r t bo : Dim) (x y : Rat) (kids : List RelBox) :
    relativePositioning cbW cbH (.mk false rtl false l r t bo x y kids) =
      .mk false rtl false l r t bo x y kids := by
  simp [relativePositioning, relativeAcc, translate_zero_kids, Rat.add_zero]

mutual
/-- Positions never feed back into offsets: translating first and positioning afterwards is the
same as positioning first (so the result does not depend on where the box is). -/
theorem relative_commutes_with_translation (cbW cbH ax ay : Rat) : ∀ b : RelBox,
    relativeAcc cbW cbH ax ay b = translateBox ax ay (relativeAcc cbW cbH 0 0 b)
  | .mk rel rtl inl l r t bo x y kids => by
    simp only [relativeAcc, translateBox]
    cases inl
    · simp [translate_add_kids]; grind
    · simp
      refine ⟨by grind, by grind, ?_⟩
      rw [relative_commutes_kids cbW cbH (ax + _) (ay + _) kids,
          relative_commutes_kids cbW cbH (0 + _) (0 + _) kids, translate_add_kids]
      congr 1 <;> grind
private theorem relative_commutes_kids (cbW cbH ax ay : Rat) : ∀ ks : List RelBox,
    relativeKidsAcc cbW cbH ax ay ks = translateKids ax ay (relativeKidsAcc cbW cbH 0 0 ks)
  | [] => rfl
  | k :: ks => by
    simp [relativeKidsAcc, translateKids, relative_commutes_with_translation cbW cbH ax ay k,
      relative_commutes_kids cbW cbH ax ay ks]
end

example : relativeOffset true (.px 5) (.pct 10) .auto (.px 3) 200 100 = (-20, -3) := by decide +kernel

end Wp.C11
