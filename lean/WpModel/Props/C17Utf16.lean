/-
C17 — "with glyphs that map back through the font's ToUnicode table to its text", the written form:
the bfchar values are UTF-16BE.  Model: `Model/Utf16.lean` (the bfchar line of
`build_fonts_dictionary`), compared line by line with the written CMap in section `tounicode-written`.
-/
import WpModel.Lemmas.Utf16

namespace Wp.Utf16
open Wp

/-- **Every unit written is a 16-bit value** (four hex digits): a character above U+FFFF becomes two units,
never one five-digit value. -/
theorem encode_units_16bit (cp : Nat) (h : cp < 0x110000) : ∀ u ∈ encode cp, u < 0x10000 :=
  encode_lt cp h

/-- One unit in the Basic Multilingual Plane, a surrogate pair above it. -/
theorem encode_length (cp : Nat) : (encode cp).length = if cp < 0x10000 then 1 else 2 := by
  unfold encode; split <;> rfl

example : encode 0x1D7D8 = [0xD835, 0xDFD8] ∧ bfcharLine 0x15d8 [0x1D7D8] = "<15d8> <d835dfd8>" ∧
    bfcharLine 68 [0x66, 0x69] = "<0044> <00660069>" ∧ decode [0x61, 0xD835, 0xDFD8] = [0x61, 0x1D7D8] := by
  decide +kernel

example : Scalar 0x1D7D8 := by unfold Scalar; omega

end Wp.Utf16
