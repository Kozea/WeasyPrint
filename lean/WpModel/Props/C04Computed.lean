/-
C04 — from the declaration as written to the value the layout resolves.

`Gen/BreakComputed.lean` is the complete graph, regenerated on every run by running the real
`preprocess_declarations` (expanders + validators) and the real registered computer functions, of
(break property as written, keyword as written) ↦ (longhand set, computed value | invalid).
The theorems below are the clause of the property text "break-before / break-after: page|always|left|right|recto|verso,
the page-break-* aliases": which spellings reach `block_level_page_break` as which of its ten values, and which of
them force a page break (`Model/Break.forces`, itself tied to `force_page_break` by `Gen/BreakTable`).
-/
import WpModel.Gen.BreakComputed
import WpModel.Model.Break
import WpModel.Props.C04

namespace Wp.C04Computed
open Wp Wp.Gen

abbrev Row := String × String × String × String
def Row.prop (r : Row) : String := r.1
def Row.written (r : Row) : String := r.2.1
def Row.longhand (r : Row) : String := r.2.2.1
def Row.computed (r : Row) : String := r.2.2.2
def Row.valid (r : Row) : Bool := r.computed != "invalid"

/-- The value handed to the layout (`auto` for a dropped declaration: the initial value). -/
def Row.brk (r : Row) : Brk := (Brk.ofCss? r.computed).getD .auto

/-- **Only the ten layout values reach the layout**: every accepted declaration of the six break properties
computes to one of the values `block_level_page_break` / `force_page_break` / `avoid_page_break` know — in
particular `always` never survives computation (it would be silently ignored by all three). -/
theorem computed_is_layout_value :
    ∀ r ∈ breakComputed, Row.valid r = true → (Brk.ofCss? (Row.computed r)).isSome = true := by decide +kernel

/-- **`always` is `page`**, for `break-before`, `break-after` and both legacy aliases; elsewhere it is invalid. -/
theorem always_is_page :
    ∀ r ∈ breakComputed, Row.written r = "always" → Row.valid r = true → Row.computed r = "page" := by decide +kernel

theorem always_accepted_where_css_says :
    (breakComputed.filter (fun r => Row.written r == "always" && Row.valid r)).map Row.prop =
      ["break-before", "break-after", "page-break-before", "page-break-after"] := by decide +kernel

/-- Every other accepted keyword computes to itself. -/
theorem other_keywords_unchanged :
    ∀ r ∈ breakComputed, Row.valid r = true → Row.written r ≠ "always" → Row.computed r = Row.written r := by
  decide +kernel

/-- The legacy aliases set the modern longhand of the same side; the modern properties set themselves. -/
def modernName : String → String
  | "page-break-before" => "break-before"
  | "page-break-after" => "break-after"
  | "page-break-inside" => "break-inside"
  | p => p

theorem longhand_of_alias :
    ∀ r ∈ breakComputed, Row.valid r = true → Row.longhand r = modernName (Row.prop r) := by decide +kernel

/-- **Which spellings force a page break** (outside a multi-column container): exactly
`page | always | left | right | recto | verso` on `break-before` / `break-after`, and
`always | left | right` on `page-break-before` / `page-break-after` — the list of the property text. -/
theorem forcing_spellings :
    (breakComputed.filter (fun r => Row.valid r && forces false (Row.brk r))).map (fun r => (Row.prop r, Row.written r)) =
      [("break-before", "page"), ("break-before", "left"), ("break-before", "right"), ("break-before", "recto"),
       ("break-before", "verso"), ("break-before", "always"),
       ("break-after", "page"), ("break-after", "left"), ("break-after", "right"), ("break-after", "recto"),
       ("break-after", "verso"), ("break-after", "always"),
       ("page-break-before", "left"), ("page-break-before", "right"), ("page-break-before", "always"),
       ("page-break-after", "left"), ("page-break-after", "right"), ("page-break-after", "always")] := by
  decide +kernel

/-- **Which spellings avoid a page break**: `avoid | avoid-page` on the three modern properties, `avoid` on
the three aliases. -/
theorem avoiding_spellings :
    (breakComputed.filter (fun r => Row.valid r && avoids false (Row.brk r))).map (fun r => (Row.prop r, Row.written r)) =
      [("break-before", "avoid"), ("break-before", "avoid-page"), ("break-after", "avoid"),
       ("break-after", "avoid-page"), ("break-inside", "avoid"), ("break-inside", "avoid-page"),
       ("page-break-before", "avoid"), ("page-break-after", "avoid"), ("page-break-inside", "avoid")] := by
  decide +kernel

/-- Every value of the layout's domain can be written, on both sides (the quantifier of the property —
"every combination of break-before and break-after values" — is not vacuous). -/
theorem every_layout_value_writable :
    ∀ b ∈ Brk.all, ("break-before", b.toCss, "break-before", b.toCss) ∈ breakComputed ∧
      ("break-after", b.toCss, "break-after", b.toCss) ∈ breakComputed := by decide +kernel

/-- `break-before` and `break-after` accept and compute exactly the same keywords (the two registrations of
the one computer function agree). -/
theorem before_after_symmetric :
    (breakComputed.filter (fun r => Row.prop r == "break-before")).map (fun r => (Row.written r, Row.computed r)) =
    (breakComputed.filter (fun r => Row.prop r == "break-after")).map (fun r => (Row.written r, Row.computed r)) := by
  decide +kernel

example : ("break-after", "always", "break-after", "page") ∈ breakComputed := by decide +kernel

/-! ### end to end: a forcing spelling anywhere among the declarations that meet wins -/

/-- The spellings of the property text: `page | always | left | right | recto | verso` on `break-before` /
`break-after`, `always | left | right` on the legacy aliases. -/
def forcingAsWritten (prop written : String) : Bool :=
  ((prop == "break-before" || prop == "break-after") &&
    ["page", "always", "left", "right", "recto", "verso"].contains written) ||
  ((prop == "page-break-before" || prop == "page-break-after") && ["always", "left", "right"].contains written)

/-- A row of the graph forces (as the layout sees it) exactly when it is written in one of those spellings. -/
theorem forces_iff_written :
    ∀ r ∈ breakComputed, (Row.valid r && forces false (Row.brk r)) = forcingAsWritten (Row.prop r) (Row.written r) := by
  decide +kernel

/-- **A forced break as written always wins** (any number of meeting boxes, any other values): if one of the
declarations whose values meet at a break point is written in a forcing spelling, the value resolved by
`block_level_page_break` from the *computed* values forces a page break. Composition of the regenerated
declaration graph with `C04.forced_wins` (itself over the regenerated resolution table). -/
theorem forced_as_written_wins (rs : List Row) (hrs : ∀ r ∈ rs, r ∈ breakComputed)
    (h : ∃ r ∈ rs, forcingAsWritten (Row.prop r) (Row.written r) = true) :
    forces false (resolve (rs.map Row.brk)) = true := by
  obtain ⟨r, hr, hw⟩ := h
  apply C04.forced_wins
  refine ⟨Row.brk r, List.mem_map.mpr ⟨r, hr, rfl⟩, ?_⟩
  have := forces_iff_written r (hrs r hr)
  rw [hw] at this
  simp only [Bool.and_eq_true] at this
  exact this.2

example : forces false (resolve ([("break-after", "avoid", "break-after", "avoid"),
    ("break-after", "always", "break-after", "page"), ("page-break-before", "avoid", "break-before", "avoid")].map
      Row.brk)) = true := by
  decide +kernel

end Wp.C04Computed
