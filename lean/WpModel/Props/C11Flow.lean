/-
C11 — theorems about the verified float checker (`Model/FloatCheck.lean`), the document-level float model
(`Model/FloatFlow.lean`: lines, `float_layout` widths, `text_align`) and the instrumented loop (`Model/FloatTrace.lean`).
-/
import WpModel.Props.C11
import WpModel.Model.FloatCheck
import WpModel.Model.FloatFlow
import WpModel.Model.FloatTrace

namespace Wp.C11
open Wp Wp.Floats

theorem overlapsB_iff (x y w h : Rat) (s : Shape) : overlapsB x y w h s = true ↔ Overlaps x y w h s := by
  simp [overlapsB, Overlaps, and_assoc]

theorem pairwiseB_iff {α} (r : α → α → Bool) (l : List α) :
    pairwiseB r l = true ↔ l.Pairwise (fun a b => r a b = true) := by
  induction l with
  | nil => simp [pairwiseB]
  | cons a l ih => simp [pairwiseB, List.pairwise_cons, ih]

/-- **The checker is sound and complete**: it accepts a list of float margin boxes exactly when no two of
them overlap and their tops are in document order. -/
theorem floatsOk_iff (shapes : List Shape) :
    floatsOk shapes = true ↔ PairwiseDisjoint shapes ∧ SortedTops shapes := by
  unfold floatsOk PairwiseDisjoint SortedTops
  rw [pairwiseB_iff]
  simp only [respects, Bool.and_eq_true, Bool.not_eq_true', decide_eq_true_eq]
  rw [← List.pairwise_and_iff]
  apply List.Pairwise.iff
  intro a b
  rw [← overlapsB_iff, Bool.not_eq_true]

/-- The checker's verdict is inherited by sub-lists. -/
theorem floatsOk_sublist (l1 l2 : List Shape) (hs : l1.Sublist l2) (h : floatsOk l2 = true) : floatsOk l1 = true := by
  rw [floatsOk_iff] at h ⊢
  exact ⟨List.Pairwise.sublist hs h.1, List.Pairwise.sublist hs h.2⟩

theorem FloatsInv.floatsOk {shapes : List Shape} (h : FloatsInv shapes) : floatsOk shapes = true :=
  (floatsOk_iff _).mpr ⟨h.2.2, h.2.1⟩

example : floatsOk [⟨0, 0, 60, 50, .left⟩, ⟨70, 0, 30, 20, .right⟩, ⟨60, 20, 35, 10, .left⟩] = true ∧
    floatsOk [⟨0, 0, 60, 50, .left⟩, ⟨50, 10, 30, 20, .right⟩] = false := by decide +kernel

/-- **The checker accepts everything the float model produces**: whatever sequence of floats (with area)
is placed, the resulting list passes `floatsOk`. -/
theorem placeAll_accepted (cb : CB) (bs : List ABox) (shapes' : List Shape)
    (hb : ∀ b ∈ bs, GoodFloat b) (h : placeAll cb [] bs = .ok shapes') : floatsOk shapes' = true :=
  (all_floats_disjoint_and_ordered cb bs [] shapes' hb .nil h).floatsOk

/-- Soundness of `boxOk`: an accepted box that is not wider than the room between the edges it has to respect
overlaps no float. -/
theorem boxOk_sound (shapes : List Shape) (l0 r0 x y w h : Rat) (hok : boxOk shapes l0 r0 x y w h = true)
    (hfit : w ≤ r0 - l0) : ∀ s ∈ shapes, ¬ Overlaps x y w h s := by
  simp only [boxOk, Bool.or_eq_true, decide_eq_true_eq, List.all_eq_true, Bool.not_eq_true'] at hok
  rcases hok with h1 | h1
  · grind
  · exact fun s hs ho => Bool.eq_false_iff.mp (h1 s hs) ((overlapsB_iff x y w h s).mpr ho)

/-! ## The trace checker run on rendered documents -/

theorem pairwiseB_append_single {α} (r : α → α → Bool) (l : List α) (a : α) :
    pairwiseB r (l ++ [a]) = (pairwiseB r l && l.all (fun b => r b a)) := by
  induction l with
  | nil => simp [pairwiseB]
  | cons b l ih =>
    simp only [List.cons_append, pairwiseB, ih, List.all_append, List.all_cons, List.all_nil, Bool.and_true]
    cases l.all (r b) <;> cases r b a <;> cases pairwiseB r l <;> simp

theorem floatsOk_append_single (l : List Shape) (s : Shape) :
    floatsOk (l ++ [s]) = (floatsOk l && l.all (respects · s)) :=
  pairwiseB_append_single _ _ _

/-- **Soundness of the trace checker**: if `checkEvents` accepts the events extracted from a formatting context
(starting from floats that are already pairwise fine), then all the floats — the initial ones followed by those
among the events — are pairwise disjoint with tops in document order. -/
theorem checkEvents_floats_sound (shapes : List Shape) (i : Nat) (evs : List Event)
    (h0 : floatsOk shapes = true) (h : checkEvents shapes i evs = none) :
    floatsOk (shapes ++ eventFloats evs) = true := by
  fun_induction checkEvents shapes i evs with
  | case1 => simpa [eventFloats] using h0
  | case2 shapes i s rest hall ih =>
    have h1 : floatsOk (shapes ++ [s]) = true := by rw [floatsOk_append_single, h0, hall]; rfl
    simpa [eventFloats, List.append_assoc] using ih h1 h
  | case4 shapes i l0 r0 x y w hh rest _ ih => simpa [eventFloats] using ih h0 h
  | _ => cases h

/-- … and every box among the events passed `boxOk` against the floats that precede it (so, by `boxOk_sound`,
overlaps none of them when it is not wider than the room they leave). -/
theorem checkEvents_boxes_sound (shapes : List Shape) (i : Nat) (evs : List Event)
    (h : checkEvents shapes i evs = none) (pre : List Event) (l0 r0 x y w hh : Rat) (post : List Event)
    (hsplit : evs = pre ++ .box l0 r0 x y w hh :: post) :
    boxOk (shapes ++ eventFloats pre) l0 r0 x y w hh = true := by
  induction pre generalizing shapes i evs with
  | nil =>
    subst hsplit
    simp only [List.nil_append, checkEvents] at h
    split at h
    · rename_i hb; simpa [eventFloats] using hb
    · simp at h
  | cons e pre' ih =>
    subst hsplit
    cases e with
    | float s =>
      simp only [List.cons_append, checkEvents] at h
      split at h
      · have := ih (shapes ++ [s]) (i + 1) _ h rfl
        simpa [eventFloats, List.append_assoc] using this
      · simp at h
    | box a b c d e f =>
      simp only [List.cons_append, checkEvents] at h
      split at h
      · simpa [eventFloats] using ih shapes (i + 1) _ h rfl
      · simp at h

example : checkEvents [] 0 [.float ⟨0, 0, 60, 50, .left⟩, .box 0 100 60 0 40 10, .float ⟨70, 0, 30, 20, .right⟩,
    .box 0 100 55 5 8 10] = some 3 := by decide +kernel

/-- The checker walks through a run of floats that keeps the list well formed and continues behind it. -/
theorem checkEvents_floats_then (shapes : List Shape) (i : Nat) (l : List Shape) (evs : List Event)
    (h : floatsOk (shapes ++ l) = true) :
    checkEvents shapes i (l.map Event.float ++ evs) = checkEvents (shapes ++ l) (i + l.length) evs := by
  induction l generalizing shapes i with
  | nil => simp
  | cons s rest ih =>
    have h' : floatsOk ((shapes ++ [s]) ++ rest) = true := by simpa [List.append_assoc] using h
    have hs := floatsOk_sublist _ _ (List.sublist_append_left _ rest) h'
    rw [floatsOk_append_single, Bool.and_eq_true] at hs
    simp only [List.map_cons, List.cons_append, checkEvents, hs.2, if_true]
    rw [ih (shapes ++ [s]) (i + 1) h']
    simp only [List.append_assoc, List.cons_append, List.nil_append, List.length_cons]
    congr 1; omega

/-- Completeness of the trace checker on floats: a list that is pairwise fine is accepted event by event. -/
theorem checkEvents_floats_complete (shapes : List Shape) (i : Nat) (l : List Shape)
    (h : floatsOk (shapes ++ l) = true) : checkEvents shapes i (l.map Event.float) = none := by
  simpa [checkEvents] using checkEvents_floats_then shapes i l [] h

/-! ## The document-level flow: every float arrangement the model can produce is well formed -/

theorem GoodFloat_move (b : ABox) (x y : Rat) (h : GoodFloat b) : GoodFloat { b with px := x, py := y } := by
  obtain ⟨h1, h3, h4⟩ := h
  exact ⟨h1, by simpa [ABox.marginHeight] using h3, by simpa [ABox.marginWidth] using h4⟩

/-- The items the theorem is about: floats with area (given resolved or by their computed style), any
in-flow block, BFC root, image or table, and paragraphs whose lines hold no float (paragraphs with floats met
inside their lines: `ItemOkAll` of `Props/C11Inline.lean`). -/
def ItemOk (cb : CB) : Item → Prop
  | .float b => GoodFloat b
  | .floatSpec f => GoodFloat (floatResolve f cb.w)
  | .para _ _ _ lines _ _ => ∀ l ∈ lines, l.floats = []
  | _ => True

/-- The margin boxes of the block-level floats among the placed items, in document order. -/
def floatRects : List Placed → List (Rat × Rat × Rat × Rat)
  | [] => []
  | .float x y mw mh :: rest => (x, y, mw, mh) :: floatRects rest
  | _ :: rest => floatRects rest

def Shape.rect (s : Shape) : Rat × Rat × Rat × Rat := (s.x, s.y, s.mw, s.mh)

/-- Non-vacuity: a document with two floats, a paragraph, a cleared block and a BFC root satisfies `ItemOk`, is laid
out by the model, and its floats pass the checker. -/
example :
    let items : List Item := [
      .float ⟨0, 0, 0, 0, 0, 0, 60, 50, .left, .none, .bfc⟩,
      .para .none 10 .right [⟨30, 30, 10, []⟩, ⟨0, 50, 30, []⟩] 0 7,
      .floatSpec ⟨.right, .left, .auto, none, .px 0, .pct 25, .auto, .px 0, .px 2, .px 2, .px 0, .px 0, 1, 1, 0, 0,
        .auto, .px 40, 30, 70, 10, 20⟩,
      .block .both 5 12 0,
      .bfc .none none 10 0 0 3 0]
    (∀ it ∈ items, ItemOk ⟨20, 100, false⟩ it) ∧
    ((flow ⟨20, 100, false⟩ [] 20 items).toOption.map floatRects) = some [(20, 20, 60, 50), (49, 107, 71, 20)] := by
  refine ⟨?_, by decide +kernel⟩
  intro it hit
  simp at hit
  rcases hit with h | h | h | h | h <;> subst h <;> simp [ItemOk, GoodFloat, floatResolve, floatWidth, clampMinMax,
    ABox.marginHeight, ABox.marginWidth, Absolute.Dim.resolve, Absolute.autoZero] <;> decide +kernel

/-! ## In-flow boxes of the flow and floats -/

/-- **A BFC root placed by the flow overlaps no float when it fits**: the border box reported for a `bfc` item of
positive height that is not wider than the room `avoid_collisions` found overlaps no float of the context and
lies inside the containing block shrunk by its margins.  The proof uses neither `hh` nor `hp`
(`placed_box_no_overlap` holds for every box and every float list). -/
theorem flow_bfc_no_overlap (cb : CB) (st st' : FlowState) (c : Clear) (width : Len) (h0 ml mr mt mb : Rat)
    (x y w h : Rat) (hh : 0 < h0) (hp : Proper st.shapes)
    (hstep : flowStep cb st (.bfc c width h0 ml mr mt mb) = .ok (st', .bfc x y w h))
    (hroom : ∀ p, avoidCollisions st.shapes
      ⟨cb.cx, (clearedTop st.shapes c st.y (collapseMargin (st.adj ++ [mt]))).1 - mt, mt, mb, ml, mr, w, h0,
        .none, c, .bfc⟩ cb false = .ok p → w ≤ p.avail) :
    (∀ s ∈ st.shapes, ¬ Overlaps x y w h s) ∧ cb.cx + ml ≤ x ∧ x + w ≤ cb.cx + cb.w - mr ∧
    (clearedTop st.shapes c st.y (collapseMargin (st.adj ++ [mt]))).1 ≤ y := by
  simp only [flowStep] at hstep
  split at hstep
  · simp at hstep
  · rename_i p hp'
    simp only [Except.ok.injEq, Prod.mk.injEq, Placed.bfc.injEq] at hstep
    obtain ⟨_, hx, hy, hw, hh'⟩ := hstep
    subst hw
    have hfit := hroom p hp'
    have := placed_box_no_overlap st.shapes _ cb false p hp'
      (by simpa using hfit)
    simp at this
    rw [← hx, ← hy, ← hh']
    obtain ⟨t1, t2, t3, t4⟩ := this
    refine ⟨t1, t2, t3, ?_⟩
    grind

/-- **A float met in a line is never placed above that line** (second pass: the deferred floats are laid out
from the line's bottom; the floats kept on the line have been given the line's top). -/
theorem inline_floats_not_above_line (cb : CB) (lineTop lineBottom : Rat) (hle : lineTop ≤ lineBottom)
    (marks : List (ABox × Option (Rat × Rat × Rat × Rat))) (shapes shapes' : List Shape)
    (rects : List (Rat × Rat × Rat × Rat))
    (hgood : ∀ m ∈ marks, m.1.float ≠ .none)
    (hplaced : ∀ m ∈ marks, ∀ r, m.2 = some r → lineTop ≤ r.2.1)
    (h : inlinePass2 cb lineBottom shapes marks = .ok (shapes', rects)) :
    ∀ r ∈ rects, lineTop ≤ r.2.1 := by
  clear hgood
  fun_induction inlinePass2 cb lineBottom shapes marks generalizing shapes' rects with
  | case1 => cases h; simp
  | case3 shapes b r0 rest sh out hrec ih =>
    cases h
    simp only [List.forall_mem_cons] at hplaced
    exact List.forall_mem_cons.mpr ⟨hplaced.1 r0 rfl, ih sh out hplaced.2 hrec⟩
  | case6 shapes b rest b' sh1 hpl sh out hrec ih =>
    cases h
    simp only [List.forall_mem_cons] at hplaced
    have hy := (floatPlace_not_above shapes { b with px := cb.cx, py := lineBottom } cb b' sh1 hpl).1
    exact List.forall_mem_cons.mpr ⟨Rat.le_trans hle hy, ih sh out hplaced.2 hrec⟩
  | _ => cases h

/-- … and the floats laid out on the line itself (first pass) are not above the line's top either. -/
theorem inline_placed_not_above_line (cb : CB) (lineY : Rat) (shapes shapes' : List Shape) (rem : Rat)
    (w : Bool) (bs : List ABox) (marks : List (ABox × Option (Rat × Rat × Rat × Rat)))
    (hgood : ∀ b ∈ bs, b.float ≠ .none)
    (h : inlinePass1 cb lineY shapes rem w bs = .ok (shapes', marks)) :
    (∀ m ∈ marks, m.1.float ≠ .none) ∧ ∀ m ∈ marks, ∀ r, m.2 = some r → lineY ≤ r.2.1 := by
  fun_induction inlinePass1 cb lineY shapes rem w bs generalizing shapes' marks with
  | case1 => cases h; simp
  | case3 shapes rem w b rest _ sh o hrec ih =>
    cases h
    obtain ⟨i1, i2⟩ := ih sh o (fun b hb => hgood b (List.mem_cons_of_mem _ hb)) hrec
    exact ⟨List.forall_mem_cons.mpr ⟨hgood b List.mem_cons_self, i1⟩, List.forall_mem_cons.mpr ⟨nofun, i2⟩⟩
  | case6 shapes rem w b rest _ b' sh1 hpl sh o hrec ih =>
    cases h
    have hy := (floatPlace_not_above shapes { b with px := cb.cx, py := lineY } cb b' sh1 hpl).1
    obtain ⟨i1, i2⟩ := ih sh o (fun b hb => hgood b (List.mem_cons_of_mem _ hb)) hrec
    exact ⟨List.forall_mem_cons.mpr ⟨hgood b List.mem_cons_self, i1⟩,
      List.forall_mem_cons.mpr ⟨fun r hr => by cases hr; exact hy, i2⟩⟩
  | _ => cases h

private theorem floatPlace_err (shapes : List Shape) (b : ABox) (cb : CB) (e : PyErr)
    (h : floatPlace shapes b cb = .error e) : e = .assertFailed "avoid_collisions:kind" := by
  revert h
  fun_cases floatPlace shapes b cb <;> intro h <;> cases h
  next he =>
    revert he
    fun_cases findFloatPosition shapes _ cb <;> intro he <;> cases he
    next he' => exact avoidCollisions_error _ _ _ _ _ he'

private theorem inlinePass1_err (cb : CB) (lineY : Rat) (shapes : List Shape) (rem : Rat) (w : Bool)
    (bs : List ABox) (e : PyErr) (h : inlinePass1 cb lineY shapes rem w bs = .error e) :
    e = .assertFailed "avoid_collisions:kind" := by
  fun_induction inlinePass1 cb lineY shapes rem w bs with
  | case2 => rename_i ih; cases h; exact ih (by assumption)
  | case4 => cases h; exact floatPlace_err _ _ _ _ (by assumption)
  | case5 => rename_i ih; cases h; exact ih (by assumption)
  | _ => cases h

/-- One pass of the loop does not exhaust the fuel if the next one (reached only when the candidate height was too
small) does not. -/
private theorem lineLoop_step (cb : CB) (strut : Rat) (align : Align) (l : LineSpec) (shapes0 : List Shape)
    (k : Nat) (px py avail lbw cand : Rat)
    (hrec : ¬ l.h ≤ cand → ∀ px' py' avail', lineLoop cb strut align l shapes0 k px' py' avail' l.w l.h ≠
      .error (.recursion "get_next_linebox:loop")) :
    lineLoop cb strut align l shapes0 (k + 1) px py avail lbw cand ≠ .error (.recursion "get_next_linebox:loop") := by
  generalize hn : k + 1 = n
  fun_cases lineLoop cb strut align l shapes0 n px py avail lbw cand <;> cases hn <;> first
    | exact hrec (by assumption) _ _ _
    | (intro h; cases h; first
        | done
        | cases inlinePass1_err _ _ _ _ _ _ _ (by assumption)
        | cases avoidCollisions_error _ _ _ _ _ (by assumption))

/-- **The `while True` loop of `get_next_linebox` ends**: a line whose content does not depend on the width it
is given goes through the loop at most twice (the second pass starts with the line's own height as
candidate height), so the fuel of the model (3) is never exhausted. -/
theorem next_linebox_terminates (cb : CB) (strut : Rat) (align : Align) (l : LineSpec) (shapes0 : List Shape)
    (n : Nat) (px py avail lbw cand : Rat) :
    lineLoop cb strut align l shapes0 (n + 2) px py avail lbw cand ≠ .error (.recursion "get_next_linebox:loop") := by
  exact lineLoop_step cb strut align l shapes0 (n + 1) px py avail lbw cand fun _ _ _ _ =>
    lineLoop_step cb strut align l shapes0 n _ _ _ _ l.h fun hc => absurd Rat.le_refl hc

/-! ## The beginning of `float_layout` and `text_align` -/

/-- `handle_min_max_width` on a width: the result respects `min-width`, and `max-width` when that is not below
`min-width`; a width inside the two is kept. -/
theorem clampMinMax_spec (minW : Rat) (maxW : Option Rat) (w : Rat) :
    minW ≤ clampMinMax minW maxW w ∧ (∀ mx, maxW = some mx → minW ≤ mx → clampMinMax minW maxW w ≤ mx) ∧
    (minW ≤ w → (∀ mx, maxW = some mx → w ≤ mx) → clampMinMax minW maxW w = w) := by
  unfold clampMinMax
  cases maxW with
  | none => simp only; split <;> grind
  | some mx =>
    simp only [Option.some.injEq, forall_eq']
    split <;> split <;> grind

/-- The used width of a float — auto or specified — respects `min-width`, and `max-width` when `min-width ≤ max-width`. -/
theorem float_width_minmax (width : Len) (minW : Rat) (maxW : Option Rat) (minC maxC avail : Rat) :
    minW ≤ floatWidth width minW maxW minC maxC avail ∧
    (∀ mx, maxW = some mx → minW ≤ mx → floatWidth width minW maxW minC maxC avail ≤ mx) :=
  ⟨(clampMinMax_spec minW maxW _).1, (clampMinMax_spec minW maxW _).2.1⟩

/-- A specified width inside `[min-width, max-width]` is the used width. -/
theorem float_width_specified (w minW : Rat) (maxW : Option Rat) (minC maxC avail : Rat)
    (h1 : minW ≤ w) (h2 : ∀ mx, maxW = some mx → w ≤ mx) :
    floatWidth (some w) minW maxW minC maxC avail = w :=
  (clampMinMax_spec minW maxW w).2.2 h1 h2

/-- An auto width of a float respects `min-width`, and `max-width` when `min-width ≤ max-width`. -/
theorem float_auto_width_minmax (minW : Rat) (maxW : Option Rat) (minC maxC avail : Rat) :
    minW ≤ floatWidthAuto minW maxW minC maxC avail ∧
    (∀ mx, maxW = some mx → minW ≤ mx → floatWidthAuto minW maxW minC maxC avail ≤ mx) :=
  float_width_minmax none minW maxW minC maxC avail

/-- Without min/max constraints the auto width is the shrink-to-fit width for the available width. -/
theorem float_auto_width_shrink_to_fit (minC maxC avail : Rat) (h0 : 0 ≤ min (max minC avail) maxC) :
    floatWidthAuto 0 none minC maxC avail = min (max minC avail) maxC :=
  (clampMinMax_spec 0 none _).2.2 h0 nofun

/-- **CSS 2.1 §10.3.5 for floats**: the width offered to shrink-to-fit is what the float's own
margins, borders and paddings leave of the containing block, so an auto-width float whose content can shrink
(`min-content ≤` that width) and that has no min/max constraint has a margin box that fits its containing block. -/
theorem float_auto_width_fits (f : FloatSpec) (cbW : Rat) (hw : f.width = .auto)
    (hmin : f.minW = .auto) (hmax : f.maxW = .auto)
    (hc : f.minC ≤ cbW - (Absolute.autoZero (f.ml.resolve cbW) + Absolute.autoZero (f.mr.resolve cbW) +
      Absolute.autoZero (f.pl.resolve cbW) + Absolute.autoZero (f.pr.resolve cbW) + f.bl + f.br))
    (h0 : 0 ≤ f.minC) :
    (floatResolve f cbW).marginWidth ≤ cbW := by
  have e1 : Absolute.Dim.auto.resolve cbW = none := rfl
  simp only [floatResolve, ABox.marginWidth, hw, hmin, hmax, e1]
  generalize Absolute.autoZero (f.ml.resolve cbW) = ml at *
  generalize Absolute.autoZero (f.mr.resolve cbW) = mr at *
  generalize Absolute.autoZero (f.pl.resolve cbW) = pl at *
  generalize Absolute.autoZero (f.pr.resolve cbW) = pr at *
  simp only [floatWidth, clampMinMax, Absolute.autoZero]
  grind

/-- `text_align` never moves a line out of the width it was given: the offset is between 0 and the free space. -/
theorem text_align_inside (a : Align) (rtl : Bool) (w avail : Rat) :
    0 ≤ textAlign a rtl w avail ∧ (w ≤ avail → textAlign a rtl w avail + w ≤ avail) ∧
    (avail ≤ w → textAlign a rtl w avail = 0) := by
  unfold textAlign
  by_cases h : w ≥ avail
  · simp [h]; intro h2; grind
  · simp only [h, if_false]
    cases a <;> cases rtl <;> simp <;> grind

example : textAlign .center false 20 90 = 35 ∧ textAlign .left true 20 90 = 70 ∧ textAlign .right true 20 90 = 0 := by
  decide +kernel

/-- **The instrumented loop computes what the model computes**: dropping the branch information from
`avoidLoopTrace` gives `avoidLoop` (so the branch histogram of the evidence is about the model itself). -/
theorem avoidLoopTrace_res (fuel : Nat) (shapes : List Shape) (w h l0 r0 y : Rat) (k : Nat) :
    (avoidLoopTrace fuel shapes w h l0 r0 y k).map (fun t => t.1) = avoidLoop fuel shapes w h l0 r0 y := by
  induction fuel generalizing y k with
  | zero => rfl
  | succ n ih =>
    rw [avoidLoop_succ]
    simp only [avoidLoopTrace]
    split
    · split
      · rename_i hl; rw [hl]; rfl
      · rename_i p ps hl; rw [hl]; exact ih _ _
    · rfl

example : avoidLoopTrace 3 [⟨0, 0, 60, 50, .left⟩, ⟨70, 0, 30, 20, .right⟩] 35 10 0 100 0 0
    = some (⟨20, 60, 100⟩, 1, .fits) := by decide +kernel

end Wp.C11
