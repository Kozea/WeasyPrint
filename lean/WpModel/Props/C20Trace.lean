/-
C20 — the trace checker (`Model/ResourcesTrace.lean`) accepts everything the models produce.
The harness runs the same checker (compiled into the driver) on every log recorded from the real code, so the
checker is tied to the models by proof and to the implementation by execution: a real trace that is not a
sequence of `call [body [close]]` fetches, or that calls the fetcher with a URL the document does not name, is
reported whether or not the model predicted it.
-/
import WpModel.Model.ResourcesTrace
import WpModel.Model.ResourcesDoc
import WpModel.Props.C20

namespace Wp.C20.Trace
open Wp Wp.Res Wp.Res.Doc Wp.Res.Svg

def startsWithCall : List Ev → Prop
  | [] => True
  | .call _ :: _ => True
  | _ => False

private theorem traceOk_of_starts (s : Nat) (b : List Ev) (hs : startsWithCall b) (h : traceOk 0 b = true) :
    traceOk s b = true :=
  match b, hs with
  | [], _ => rfl
  | .call _ :: _, _ => h

/-- Accepted traces compose: a trace followed by a trace that starts with a call. -/
theorem traceOk_append (s : Nat) (a b : List Ev) (ha : traceOk s a = true) (hs : startsWithCall b)
    (hb : traceOk 0 b = true) : traceOk s (a ++ b) = true := by
  -- in the shapes `traceOk` accepts, one step of it on both sides
  fun_induction traceOk s a with
  | case1 s => exact traceOk_of_starts s b hs hb
  | case2 _ _ _ ih | case3 _ ih | case4 _ ih | case5 _ ih => exact ih ha
  | case6 => cases ha

private theorem starts_append (a b : List Ev) (ha : startsWithCall a) (hb : startsWithCall b) :
    startsWithCall (a ++ b) :=
  match a, ha with
  | [], _ => hb
  | .call _ :: _, _ => trivial

def Good (evs : List Ev) : Prop := startsWithCall evs ∧ traceOk 0 evs = true

theorem good_nil : Good [] := ⟨trivial, rfl⟩

theorem good_append (a b : List Ev) (ha : Good a) (hb : Good b) : Good (a ++ b) :=
  ⟨starts_append a b ha.1 hb.1, traceOk_append 0 a b ha.2 hb.1 hb.2⟩

/-- `fetch`: the trace of one `with fetch(...)` block is accepted, for every fetcher outcome and body. -/
theorem fetch_trace_good {α} (f : Fetched) (url : String) (body : Resp → Except Exc α) :
    Good (fetch f url body).1 := by
  rcases fetch_log_cases f url body with h | h | h | h <;> rw [h] <;> exact ⟨trivial, rfl⟩

/-! ### accepted traces whose calls are all named

Every loader's log is put together from the logs of single fetches; `Within P` is what all of them keep:
the checker accepts the log, and every URL handed to the fetcher satisfies `P`. -/

/-- An accepted trace all of whose fetcher calls are for URLs that satisfy `P`. -/
def Within (P : String → Prop) (evs : List Ev) : Prop := Good evs ∧ ∀ u, Ev.call u ∈ evs → P u

theorem within_nil (P : String → Prop) : Within P [] := ⟨good_nil, fun _ h => absurd h List.not_mem_nil⟩

theorem within_append {P : String → Prop} {a b : List Ev} (ha : Within P a) (hb : Within P b) :
    Within P (a ++ b) :=
  ⟨good_append a b ha.1 hb.1, fun u h => (List.mem_append.mp h).elim (ha.2 u) (hb.2 u)⟩

theorem Within.mono {P Q : String → Prop} {evs : List Ev} (h : Within P evs) (hPQ : ∀ u, P u → Q u) :
    Within Q evs := ⟨h.1, fun u hu => hPQ u (h.2 u hu)⟩

theorem fetch_within {α} (f : Fetched) (url : String) (body : Resp → Except Exc α) :
    Within (· = url) (fetch f url body).1 := ⟨fetch_trace_good f url body, fetch_calls f url body⟩

theorem getImage_within (cache : Cache) (fetcher : Fetcher) (opts : Opts) (req : Req) :
    Within (· = req.url) (getImage cache fetcher opts req).2.1 := by
  rcases getImage_log cache fetcher opts req with e | e
  · rw [e]; exact within_nil _
  · rw [e]; exact fetch_within _ _ _

/-- URLs of the image references of a document. -/
def refUrls (refs : List Doc.ImgRef) : List String := refs.filterMap (·.url)

/-- The image stage of a document (`build_formatting_structure` + `layout_backgrounds`). -/
theorem runRefs_within (fetcher : Fetcher) (opts : Opts) (refs : List Doc.ImgRef) (cache : Cache) :
    Within (· ∈ refUrls refs) (Doc.runRefs fetcher opts cache refs).1 := by
  induction refs generalizing cache with
  | nil => exact within_nil _
  | cons r rest ih =>
    have htail : ∀ c, Within (· ∈ refUrls (r :: rest)) (Doc.runRefs fetcher opts c rest).1 := fun c =>
      (ih c).mono (fun _ hw => List.mem_filterMap.mpr
        ((List.mem_filterMap.mp hw).imp fun _ h => ⟨List.mem_cons_of_mem _ h.1, h.2⟩))
    rcases ref_url_cases r with hs | ⟨v, hu, hne⟩
    · rw [runRefs_skip fetcher opts cache r rest hs]; exact htail cache
    · rw [runRefs_fetch fetcher opts cache r rest v hu hne]
      have hg : Within (· ∈ refUrls (r :: rest)) (getImage cache fetcher opts ⟨v, r.orient, r.forcedMime⟩).2.1 :=
        (getImage_within cache fetcher opts ⟨v, r.orient, r.forcedMime⟩).mono
          (fun _ hw => hw ▸ List.mem_filterMap.mpr ⟨r, List.mem_cons_self, hu⟩)
      cases (getImage cache fetcher opts ⟨v, r.orient, r.forcedMime⟩).2.2 with
      | error e => exact hg
      | ok image => exact within_append hg (htail _)

theorem runRefs_trace_good (fetcher : Fetcher) (opts : Opts) (refs : List Doc.ImgRef) (cache : Cache) :
    Good (Doc.runRefs fetcher opts cache refs).1 := (runRefs_within fetcher opts refs cache).1

theorem attachment_within (fetcher : Fetcher) (url : String) : Within (· = url) (writeAttachment fetcher url).1 := by
  have hg := fetch_within (fetcher url) url attachmentBody
  fun_cases writeAttachment fetcher url <;> simp only [*] at hg <;> exact hg

theorem annots_within (fetcher : Fetcher) (urls : List String) (files : List (String × Option Nat)) :
    Within (· ∈ urls) (annotAttachments fetcher files urls).1 := by
  fun_induction annotAttachments fetcher files urls with
  | case1 => exact within_nil _
  | case2 _ x rest _ _ _ _ hr ih => exact (hr ▸ ih).mono fun _ => List.mem_cons_of_mem _
  | case3 _ x rest _ _ _ hw | case4 _ x rest _ _ _ hw _ _ hr ih =>
    have hg := (attachment_within fetcher x).mono (Q := (· ∈ x :: rest)) fun _ hw => hw ▸ List.mem_cons_self
    rw [hw] at hg
    first | exact hg | exact within_append hg ((hr ▸ ih).mono fun _ => List.mem_cons_of_mem _)

theorem annots_trace_good (fetcher : Fetcher) (urls : List String) (files : List (String × Option Nat)) :
    Good (annotAttachments fetcher files urls).1 := (annots_within fetcher urls files).1

theorem metas_within (fetcher : Fetcher) (urls : List String) :
    Within (· ∈ urls) (metadataAttachments fetcher urls).1 := by
  fun_induction metadataAttachments fetcher urls with
  | case1 => exact within_nil _
  | case2 x rest _ _ hw | case3 x rest _ _ hw _ _ hr ih =>
    have hg := (attachment_within fetcher x).mono (Q := (· ∈ x :: rest)) fun _ hw => hw ▸ List.mem_cons_self
    rw [hw] at hg
    first | exact hg | exact within_append hg ((hr ▸ ih).mono fun _ => List.mem_cons_of_mem _)

theorem metas_trace_good (fetcher : Fetcher) (urls : List String) :
    Good (metadataAttachments fetcher urls).1 := (metas_within fetcher urls).1

/-- URLs a `src` list can ask for. -/
def srcUrls (srcs : List FontSrc) : List String := srcs.filterMap FontSrc.target

/-- `add_font_face`: the `src` loop extends the log by fetches of the URLs of its entries. -/
theorem fontLoop_within (fetcher : Fetcher) (P : String → Prop) (srcs : List FontSrc) (acc : FontOut)
    (h : Within P acc.log) (hs : ∀ u ∈ srcUrls srcs, P u) : Within P (fontLoop fetcher srcs acc).log := by
  fun_induction fontLoop fetcher srcs acc with
  | case1 => exact h
  | case2 s rest _ _ ih => exact ih h fun u hu => hs u (((List.sublist_cons_self s rest).filterMap _).subset hu)
  | case3 s rest _ url hurl evs _ _ hfe ih | case4 s rest _ url hurl evs _ _ _ hfe ih
  | case5 s rest _ url hurl evs _ _ _ _ _ hfe | case6 s rest _ url hurl evs _ _ _ _ _ hfe ih =>
    have hg := fetch_within (fetcher url) url readAll
    rw [hfe] at hg
    have hacc := within_append h (hg.mono fun _ hw => hw ▸ hs url (List.mem_filterMap.mpr ⟨s, List.mem_cons_self, hurl⟩))
    first | exact hacc | exact ih hacc fun u hu => hs u (((List.sublist_cons_self s rest).filterMap _).subset hu)

theorem addFontFace_within (fetcher : Fetcher) (st : FontState) (face : FontFace) :
    Within (· ∈ srcUrls face.srcs) (addFontFace fetcher st face).2.log := by
  fun_cases addFontFace fetcher st face
  · exact within_nil _
  · exact fontLoop_within fetcher _ face.srcs {} (within_nil _) (fun _ hu => hu)

theorem addFontFace_trace_good (fetcher : Fetcher) (st : FontState) (face : FontFace) :
    Good (addFontFace fetcher st face).2.log := (addFontFace_within fetcher st face).1

private theorem drawItems_within (fetcher : Fetcher) (opts : Opts) (deeper : Cache → String → Nat → Svg.DrawOut)
    (P : String → Prop) (hdeeper : ∀ cache key c, Within P (deeper cache key c).2.1)
    (items : List SvgItem) (hitems : ∀ u, (SvgItem.useExternal u ∈ items ∨ SvgItem.image (some u) ∈ items) → P u)
    (cache : Cache) : Within P (drawItems fetcher opts deeper cache items).2.1 := by
  induction items generalizing cache with
  | nil => exact within_nil _
  | cons it rest ih =>
    have ih := ih (fun u hu => hitems u (hu.imp (List.mem_cons_of_mem _) (List.mem_cons_of_mem _)))
    rcases svgItem_cases it with hs | ⟨w, rfl⟩ | ⟨url, rfl, hne⟩
    · rw [drawItems_skip hs]; exact ih cache
    · have hw : Within P [.call w] := ⟨⟨trivial, rfl⟩, fun u hu => by
        cases List.mem_singleton.mp hu
        exact hitems w (Or.inl List.mem_cons_self)⟩
      exact within_append hw (ih cache)
    · have hg : Within P (getImage cache fetcher opts ⟨url, .fromImage, some "image/*"⟩).2.1 :=
        (getImage_within cache fetcher opts ⟨url, .fromImage, some "image/*"⟩).mono
          (fun _ hw => hw ▸ hitems url (Or.inr List.mem_cons_self))
      rw [drawItems_image hne rfl]
      split
      · exact hg
      · exact within_append (within_append hg (hdeeper _ _ _)) (ih _)
      · exact within_append hg (ih _)

/-- The URL an element of an SVG image asks for when drawn (an `<image>` without `href` asks for nothing). -/
def svgItemUrl : Doc.SvgItem → Option String
  | .useExternal u => some u
  | .image v => v

/-- The `href`s of the `<image>` elements and the targets of the external `<use>` elements of the SVG images. -/
def svgUrls (info : List (Nat × List SvgItem)) : List String := info.flatMap (fun e => e.2.filterMap svgItemUrl)

private theorem lookup_mem' {α} (l : List (Nat × α)) (k : Nat) (v : α) (h : l.lookup k = some v) : (k, v) ∈ l :=
  List.mem_of_lookup_eq_some h

/-- `every_loader_uses_fetcher` (nested SVG images): every trace of a nested SVG drawing — any depth, any cycle,
any failure — is a sequence of `call [body [close]]` fetches the trace checker accepts, and whatever it asks the
fetcher for is the `href` of an `<image>` or of an external `<use>` of one of the SVG images involved. -/
theorem drawObject_within (fetcher : Fetcher) (opts : Opts) (info : List (Nat × List SvgItem)) (fuel : Nat)
    (drawing : List String) (cache : Cache) (key : String) (c : Nat) :
    Within (· ∈ svgUrls info) (drawObject fetcher opts info fuel drawing cache key c).2.1 := by
  induction fuel generalizing drawing cache key c with
  | zero => exact within_nil _
  | succ fuel ih =>
    simp only [drawObject]
    split
    · exact within_nil _
    · refine drawItems_within fetcher opts _ _ (fun cache' key' c' => ih _ cache' key' c') _ ?_ cache
      intro w hw
      obtain (hw | hw) := hw <;> obtain ⟨items, hi, hw⟩ := List.mem_lookup_getD hw <;>
        exact List.mem_flatMap.mpr ⟨(c, items), hi, List.mem_filterMap.mpr ⟨_, hw, rfl⟩⟩

theorem paintSvgs_within (fetcher : Fetcher) (opts : Opts) (info : List (Nat × List Doc.SvgItem))
    (cs : List (String × Nat)) (cache : Cache) :
    Within (· ∈ svgUrls info) (Doc.paintSvgs fetcher opts info cache cs).2 := by
  induction cs generalizing cache with
  | nil => exact within_nil _
  | cons c rest ih =>
    obtain ⟨key, c⟩ := c
    simp only [Doc.paintSvgs]
    exact within_append (drawObject_within _ _ _ _ _ _ _ _) (ih _)

theorem paintSvgs_trace_good (fetcher : Fetcher) (opts : Opts) (info : List (Nat × List Doc.SvgItem))
    (cs : List (String × Nat)) (cache : Cache) : Good (Doc.paintSvgs fetcher opts info cache cs).2 :=
  (paintSvgs_within fetcher opts info cs cache).1

/-! ### stylesheets -/

private theorem log_ofEvs (evs : List Ev) (err : Option Exc) : (Out.ofEvs evs err).log = evs := by
  simp only [Out.ofEvs, Out.log, List.filterMap_map]
  induction evs with
  | nil => rfl
  | cons e rest ih => simp [ih]

private theorem log_absorb (o : Out) : o.absorbFetchError.log = o.log := by
  fun_cases Out.absorbFetchError o <;> rfl

private theorem within_seq {P : String → Prop} (a b : Out) (ha : Within P a.log) (hb : Within P b.log) :
    Within P (a.seq b).log := by
  fun_cases Out.seq a b
  · exact ha
  · simp only [Out.log, List.filterMap_append]
    exact within_append ha hb

private theorem good_empty : Good ({} : Out).log := good_nil

private theorem mem_log_empty (e : Ev) (h : e ∈ ({} : Out).log) : False := by
  simp [Out.log] at h

private theorem mem_log_acts_nonev (e : Ev) : (e ∈ (⟨[.rule 0], none⟩ : Out).log) → False := by
  simp [Out.log]

mutual
  /-- The URLs a stylesheet's items can ask for: the `@import` targets, at any depth. -/
  def itemsUrls : List CssItem → List String
    | [] => []
    | .rule _ :: rest => itemsUrls rest
    | .other :: rest => itemsUrls rest
    | .fontFace _ _ :: rest => itemsUrls rest
    | .mediaRule _ items :: rest => itemsUrls items ++ itemsUrls rest
    | .importRule url _ target :: rest =>
      (match url with | some u => [u] | none => []) ++ sheetUrls target ++ itemsUrls rest
  def sheetUrls : Sheet → List String
    | .mk _ items => itemsUrls items
end

mutual
  /-- `preprocess_stylesheet`: the fetch events of a stylesheet's items (nested `@import`s at any depth). -/
  theorem runItems_within (d : String) :
      ∀ (ign : Bool) (items : List CssItem), Within (· ∈ itemsUrls items) (runItems d ign items).log
    | _, [] => within_nil _
    | ign, .rule id :: rest => by
      simp only [runItems, itemsUrls]
      exact within_seq _ _ (within_nil _) (runItems_within d true rest)
    | ign, .other :: rest => by
      simp only [runItems, itemsUrls]
      exact runItems_within d true rest
    | ign, .fontFace complete face :: rest => by
      simp only [runItems, itemsUrls]
      refine within_seq _ _ ?_ (runItems_within d true rest)
      cases complete <;> exact within_nil _
    | ign, .mediaRule media items :: rest => by
      simp only [runItems, itemsUrls]
      have hrest : ∀ i, Within (· ∈ itemsUrls items ++ itemsUrls rest) (runItems d i rest).log :=
        fun i => (runItems_within d i rest).mono (fun _ => List.mem_append_right _)
      cases media with
      | none => exact hrest ign
      | some m =>
        dsimp only
        split
        · exact hrest true
        · exact within_seq _ _ ((runItems_within d true items).mono (fun _ => List.mem_append_left _)) (hrest true)
    | ign, .importRule url media target :: rest => by
      have hrest : Within (· ∈ itemsUrls (.importRule url media target :: rest)) (runItems d ign rest).log :=
        (runItems_within d ign rest).mono (fun _ => by simp only [itemsUrls]; exact List.mem_append_right _)
      rcases runItems_import_cases d ign url media target rest with e | ⟨v, hv, e⟩
      · rw [e]; exact hrest
      · rw [e]
        refine within_seq _ _ ?_ hrest
        rw [log_absorb, hv]
        simp only [itemsUrls]
        refine (runSheet_within d false v target).mono (fun u hu => List.mem_append_left _ ?_)
        exact hu.elim (fun e => List.mem_append_left _ (e ▸ List.mem_singleton_self v))
          (List.mem_append_right _)
  theorem runSheet_within (d : String) (c : Bool) (url : String) :
      ∀ (sh : Sheet), Within (fun u => u = url ∨ u ∈ sheetUrls sh) (runSheet d c url sh).log
    | .mk fetched items => by
      simp only [runSheet, sheetUrls]
      have hg : Within (fun u => u = url ∨ u ∈ itemsUrls items) (fetch fetched url (cssSourceBody c)).1 :=
        (fetch_within fetched url (cssSourceBody c)).mono (fun _ => Or.inl)
      cases hfe : fetch fetched url (cssSourceBody c) with
      | mk evs src =>
        rw [hfe] at hg
        dsimp only at hg ⊢
        cases src with
        | error e => rw [log_ofEvs]; exact hg
        | ok b =>
          cases b with
          | false => rw [log_ofEvs]; exact hg
          | true =>
            refine within_seq _ _ ?_ ((runItems_within d false items).mono (fun _ => Or.inr))
            rw [log_ofEvs]; exact hg
end

/-- URLs the `<style>` / `<link>` elements of a document can ask for. -/
def styleUrls (els : List StyleEl) : List String :=
  els.flatMap (fun el => (match resolveHref el.href el.joined with | some u => [u] | none => []) ++
    itemsUrls el.items ++ sheetUrls el.target)

/-- `find_stylesheets`: all stylesheet fetches of a document, in order. -/
theorem findStylesheets_within (d : String) (els : List StyleEl) :
    Within (· ∈ styleUrls els) (findStylesheets d els).log := by
  induction els with
  | nil => exact within_nil _
  | cons el rest ih =>
    rw [styleUrls, List.flatMap_cons]
    refine within_seq _ _ ?_ (ih.mono (fun _ => List.mem_append_right _))
    rcases runStyleEl_cases d el with h | ⟨_, h⟩ | ⟨_, url, hres, h⟩
    · rw [h]; exact within_nil _
    · rw [h]
      exact (runItems_within d false el.items).mono
        (fun _ hu => List.mem_append_left _ (List.mem_append_left _ (List.mem_append_right _ hu)))
    · rw [h, log_absorb, hres]
      refine (runSheet_within d true url el.target).mono (fun u hu => List.mem_append_left _ ?_)
      exact hu.elim (fun e => List.mem_append_left _ (List.mem_append_left _ (e ▸ List.mem_singleton_self url)))
        (List.mem_append_right _)

theorem findStylesheets_trace_good (d : String) (els : List StyleEl) : Good (findStylesheets d els).log :=
  (findStylesheets_within d els).1

/-- The fetcher calls of the interpreted actions are the call events among them and the `src` URLs of the
`@font-face` rules among them. -/
private theorem interp_calls_named (fetcher : Fetcher) (acts : List Act) (st : FontState) (u : String)
    (h : Ev.call u ∈ (Doc.interp fetcher st acts).1) :
    Act.ev (.call u) ∈ acts ∨ ∃ face, Act.font face ∈ acts ∧ u ∈ srcUrls face.srcs := by
  induction acts generalizing st with
  | nil => simp [Doc.interp] at h
  | cons a rest ih =>
    have hrest : ∀ st', Ev.call u ∈ (Doc.interp fetcher st' rest).1 →
        Act.ev (.call u) ∈ a :: rest ∨ ∃ face, Act.font face ∈ a :: rest ∧ u ∈ srcUrls face.srcs :=
      fun st' h' => (ih st' h').imp (List.mem_cons_of_mem _)
        (fun ⟨f, hf, hu⟩ => ⟨f, List.mem_cons_of_mem _ hf, hu⟩)
    cases a with
    | rule i => simp only [Doc.interp] at h; exact hrest st h
    | ev e =>
      simp only [Doc.interp, List.mem_cons] at h
      rcases h with h | h
      · left; rw [h]; exact List.mem_cons_self
      · exact hrest st h
    | font face =>
      simp only [Doc.interp] at h
      have hface := (addFontFace_within fetcher st face).2 u
      cases ha : addFontFace fetcher st face with
      | mk st' out =>
        rw [ha] at h hface
        dsimp only at h hface
        cases he : out.err with
        | some e =>
          simp only [he] at h
          exact Or.inr ⟨face, List.mem_cons_self, hface h⟩
        | none =>
          simp only [he] at h
          rcases List.mem_append.mp h with h | h
          · exact Or.inr ⟨face, List.mem_cons_self, hface h⟩
          · exact hrest st' h

/-- Every URL the document names: stylesheet links and `@import`s at any depth, `@font-face` sources,
image references, attachments, and what the SVG images shown ask for when drawn. -/
def namedUrls (d : Doc.Document) : List String :=
  styleUrls d.styles ++ (findStylesheets d.device d.styles).fonts.flatMap (fun f => srcUrls f.srcs) ++
  refUrls d.images ++ d.metaAttachments ++ d.annotAttachments ++
  d.svgInfo.flatMap (fun e => e.2.filterMap svgItemUrl)

private theorem mem_namedUrls (d : Doc.Document) (u : String) : u ∈ namedUrls d ↔
    u ∈ styleUrls d.styles ∨ u ∈ (findStylesheets d.device d.styles).fonts.flatMap (fun f => srcUrls f.srcs) ∨
    u ∈ refUrls d.images ∨ u ∈ d.metaAttachments ∨ u ∈ d.annotAttachments ∨
    u ∈ d.svgInfo.flatMap (fun e => e.2.filterMap svgItemUrl) := by
  simp only [namedUrls, List.mem_append, or_assoc]

/-- Each log of a run is the log of its stage, or a part of it when the run stops early; what it embeds is what
`write_pdf_attachment` gave for the metadata attachments, or nothing when it stopped before them. -/
theorem run_outputs (d : Doc.Document) :
    (Doc.run d).cssLog = (Doc.interp d.fetcher {} (findStylesheets d.device d.styles).acts).1 ∧
    ((Doc.run d).imageLog = [] ∨ (Doc.run d).imageLog = (Doc.runRefs d.fetcher d.opts [] d.images).1) ∧
    (∀ e ∈ (Doc.run d).attachLog, e ∈ (annotAttachments d.fetcher [] d.annotAttachments).1 ∨
      e ∈ (metadataAttachments d.fetcher d.metaAttachments).1) ∧
    ((Doc.run d).paintLog = [] ∨ (Doc.run d).paintLog =
      (Doc.paintSvgs d.fetcher d.opts d.svgInfo (Doc.runRefs d.fetcher d.opts [] d.images).2.2.1
        ((Doc.paintOrder d.images).filterMap
          (Doc.svgOfRef d.opts (Doc.runRefs d.fetcher d.opts [] d.images).2.2.1))).2) ∧
    ((Doc.run d).embedded = [] ∨
      (metadataAttachments d.fetcher d.metaAttachments).2 = .ok (Doc.run d).embedded) := by
  -- at each return point of `run` the stages are named, and every component is read off
  fun_cases Doc.run d <;> simp +zetaDelta +contextual [*]

/-- `every_loader_uses_fetcher`, whole pipeline: in `render` and `write_pdf`, every URL handed to the
caller's fetcher — by any loader, at any stage — is a URL the document names; nothing else is ever
requested. -/
theorem document_calls_only_named (d : Doc.Document) (u : String)
    (h : Ev.call u ∈ (Doc.run d).cssLog ++ (Doc.run d).imageLog ++ (Doc.run d).attachLog ++ (Doc.run d).paintLog) :
    u ∈ namedUrls d := by
  obtain ⟨hcss, himg, hatt, hpaint, _⟩ := run_outputs d
  rw [mem_namedUrls]
  simp only [List.mem_append] at h
  rcases h with ((h | h) | h) | h
  · rw [hcss] at h
    rcases interp_calls_named _ _ _ u h with hc | ⟨face, hf, hu⟩
    · refine Or.inl ((findStylesheets_within d.device d.styles).2 u ?_)
      exact List.mem_filterMap.mpr ⟨_, hc, rfl⟩
    · refine Or.inr (Or.inl (List.mem_flatMap.mpr ⟨face, ?_, hu⟩))
      exact List.mem_filterMap.mpr ⟨_, hf, rfl⟩
  · rcases himg with e | e
    · rw [e] at h; exact absurd h List.not_mem_nil
    · rw [e] at h
      exact Or.inr (Or.inr (Or.inl ((runRefs_within d.fetcher d.opts d.images []).2 u h)))
  · rcases hatt _ h with h | h
    · exact Or.inr (Or.inr (Or.inr (Or.inr (Or.inl ((annots_within d.fetcher d.annotAttachments []).2 u h)))))
    · exact Or.inr (Or.inr (Or.inr (Or.inl ((metas_within d.fetcher d.metaAttachments).2 u h))))
  · rcases hpaint with e | e
    · rw [e] at h; exact absurd h List.not_mem_nil
    · rw [e] at h
      exact Or.inr (Or.inr (Or.inr (Or.inr (Or.inr ((paintSvgs_within d.fetcher d.opts d.svgInfo _ _).2 u h)))))

/-- The checker `callsWithin`, which the harness runs on the log recorded from the real `render` +
`write_pdf` with the URLs the generated document names, accepts the log of the model's run. -/
theorem document_log_within_named (d : Doc.Document) :
    callsWithin (namedUrls d)
      ((Doc.run d).cssLog ++ (Doc.run d).imageLog ++ (Doc.run d).attachLog ++ (Doc.run d).paintLog) = true := by
  unfold callsWithin
  rw [List.all_eq_true]
  intro e he
  cases e with
  | call u => simpa [List.contains_iff_mem] using document_calls_only_named d u he
  | body => rfl
  | close => rfl
  | closeWarn => rfl

example : namedUrls Wp.C20.failingDocument =
    ["http://a.test/s.css", "http://a.test/i.css", "http://a.test/f.woff", "http://a.test/x.png", "http://a.test/a.bin"] ∧
    ((Doc.run Wp.C20.failingDocument).cssLog ++ (Doc.run Wp.C20.failingDocument).imageLog ++
      (Doc.run Wp.C20.failingDocument).attachLog).length = 5 := by decide +kernel

/-! ### what a recording fetcher sees -/

/-- Dropping the (unobservable) `body` events of an accepted trace gives a trace `obsOk` accepts. -/
theorem obsOk_of_traceOk (evs : List Ev) (s : Nat) (h : traceOk s evs = true) :
    obsOk (s != 0) (stripBody evs) = true := by
  -- `stripBody` drops `body` and keeps the rest; the states are those `traceOk` accepts
  fun_induction traceOk s evs with
  | case1 => rfl
  | case2 _ _ _ ih | case3 _ ih | case4 _ ih | case5 _ ih => exact ih h
  | case6 => cases h

/-- The checker the harness applies to recorded logs accepts the observable part of every model trace. -/
theorem good_observed (evs : List Ev) (h : Good evs) : obsOk false (stripBody evs) = true := by
  simpa using obsOk_of_traceOk evs 0 h.2

example : Good (fetch (.resp ⟨false, some ⟨none, true⟩, none, none, default⟩) "http://a/x" (fun _ => Except.ok ())).1 ∧
    traceOk 0 [.call "u", .close] = false ∧ obsOk false [.call "u", .close, .close] = false := by
  refine ⟨fetch_trace_good _ _ _, by decide, by decide⟩

end Wp.C20.Trace
