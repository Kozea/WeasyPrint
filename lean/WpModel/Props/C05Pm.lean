/-
C05 (pagination model) — block stacking: where `block_container_layout` puts the children of a block
(`position_y` handed from child to child, top of the border box = position + collapsed adjoining margins),
that placed children do not overlap when margins are non-negative, the laws of `collapse_margin`, and the
used height of an unfragmented box.
-/
import WpModel.Lemmas.Stacking

namespace Wp.C05Pm
open Wp Wp.PM

/-! ### `collapse_margin` -/

/-- `collapse_margin(ms)` = the largest non-negative margin + the smallest non-positive margin (each 0 when
there is none): `maxPos ms = foldl max 0 ms`, `minNeg ms = foldl min 0 ms`. -/
theorem collapse_margin_eq (ms : List Rat) : collapseMargin ms = maxPos ms + minNeg ms :=
  collapseMargin_eq ms

/-- `maxPos` is the maximum of 0 and the margins: an upper bound, attained by 0 or a margin. -/
theorem maxPos_spec (ms : List Rat) :
    0 ≤ maxPos ms ∧ (∀ m ∈ ms, m ≤ maxPos ms) ∧ (maxPos ms = 0 ∨ maxPos ms ∈ ms) :=
  ⟨maxPos_nonneg ms, maxPos_ge ms, maxPos_mem ms⟩

/-- `minNeg` is the minimum of 0 and the margins. -/
theorem minNeg_spec (ms : List Rat) :
    minNeg ms ≤ 0 ∧ (∀ m ∈ ms, minNeg ms ≤ m) ∧ (minNeg ms = 0 ∨ minNeg ms ∈ ms) :=
  ⟨minNeg_nonpos ms, minNeg_le ms, minNeg_mem ms⟩

/-- The order in which margins become adjoining does not matter. -/
theorem collapse_margin_perm {a b : List Rat} (h : a.Perm b) : collapseMargin a = collapseMargin b :=
  collapseMargin_perm h

/-- Joining two sets of adjoining margins. -/
theorem collapse_margin_append (a b : List Rat) :
    collapseMargin (a ++ b) = max (maxPos a) (maxPos b) + min (minNeg a) (minNeg b) :=
  collapseMargin_append a b

/-- Only non-negative margins: the largest one (0 for none). -/
theorem collapse_margin_nonneg (ms : List Rat) (h : ∀ m ∈ ms, 0 ≤ m) :
    collapseMargin ms = maxPos ms ∧ 0 ≤ collapseMargin ms :=
  ⟨collapseMargin_of_nonneg ms h, collapseMargin_nonneg ms h⟩

/-- Only non-positive margins: the most negative one (0 for none). -/
theorem collapse_margin_nonpos (ms : List Rat) (h : ∀ m ∈ ms, m ≤ 0) : collapseMargin ms = minNeg ms :=
  collapseMargin_of_nonpos ms h

example : collapseMargin [10, -4, 7, -6, 0] = 4 ∧ maxPos [10, -4, 7, -6, 0] = 10 ∧ minNeg [10, -4, 7, -6, 0] = -6 := by
  decide +kernel

/-! ### the position handed from child to child, the top of the border box -/

/-- **Stacking, position** (`_in_flow_layout`): after the layout of a child, `position_y` is unchanged when
the child is dropped or collapses through, else it is the bottom of the child's border box. -/
theorem stacking_position (c : Ctx) (bs : Rat) (pienc : Bool) (posY : Rat) (r : LayoutResult)
    (frag : Option Frag) (posY' : Rat) (h : firstPass c bs pienc posY r = .keep frag posY') :
    (frag = none ∧ posY' = posY) ∨
    (∃ f, frag = some f ∧ r.frag = some f ∧
      ((r.collapsingThrough = true ∧ posY' = posY) ∨
       (r.collapsingThrough = false ∧ posY' = f.geo.borderBoxY + f.geo.borderHeight))) :=
  firstPass_posY c bs pienc posY r frag posY' h

/-- **Stacking, border top** (`prepare` + `finishTail`): the border box of a block fragment starts at the
position handed by the parent plus the collapsed adjoining margins, i.e. the final content of the
`adjoining_margins` list object the box received (the caller's margins, then its own top margin, then
those of its first descendants while they collapse with it). -/
theorem border_top_block (c : Ctx) (id : Nat) (st : PStyle) (kids : List PBox) (idx : Nat) (y bs : Rat)
    (skip : Option Resume) (cb pie : Bool) (adjL : List Rat) (f : Frag)
    (h : (layoutBox c (.block id st kids) idx y bs skip cb pie adjL).frag = some f) :
    f.geo.borderBoxY = y + collapseMargin (layoutBox c (.block id st kids) idx y bs skip cb pie adjL).adjL := by
  obtain ⟨h1, h2⟩ := layoutBox_border_top c _ idx y bs skip cb pie adjL f h
  rw [h1]
  split
  · grind
  · rcases h2 with h2 | ⟨_, ⟨_, _, _, _, h3⟩, _⟩
    · rw [h2]; grind
    · cases h3

/-- The same for any box on a page that already has content (the tall-first-line rule, which removes the top
margin of a paragraph, only applies on an empty page). -/
theorem border_top_nonempty_page (c : Ctx) (box : PBox) (idx : Nat) (y bs : Rat)
    (skip : Option Resume) (cb : Bool) (adjL : List Rat) (f : Frag)
    (h : (layoutBox c box idx y bs skip cb false adjL).frag = some f) :
    f.geo.borderBoxY = y + collapseMargin (layoutBox c box idx y bs skip cb false adjL).adjL := by
  obtain ⟨h1, h2⟩ := layoutBox_border_top c box idx y bs skip cb false adjL f h
  rw [h1]
  split
  · grind
  · rcases h2 with h2 | ⟨h3, _⟩
    · rw [h2]; grind
    · cases h3

/-- The general form: for a paragraph with top border / padding whose first line was translated by the
tall-first-line rule, minus the top margin that rule removed. -/
theorem border_top (c : Ctx) (box : PBox) (idx : Nat) (y bs : Rat) (skip : Option Resume)
    (cb pie : Bool) (adjL : List Rat) (f : Frag)
    (h : (layoutBox c box idx y bs skip cb pie adjL).frag = some f) :
    f.geo.borderBoxY = y + collapseMargin (layoutBox c box idx y bs skip cb pie adjL).adjL
      - (if (prepare c box.st y bs skip cb pie adjL).cwc then 0
         else (prepare c box.st y bs skip cb pie adjL).b.mt - f.geo.mt) :=
  (layoutBox_border_top c box idx y bs skip cb pie adjL f h).1

/-! ### placed children do not overlap (non-negative margins) -/

/-- **No overlap** (C05, partial: all margins of the subtree and all margins already adjoining are ≥ 0):
the fragment returned by `block_level_layout` starts at or below the position handed by its parent, and
in every block fragment of the tree the children are stacked: each border box starts at or below the current
position, which then moves to the bottom of that border box — or stays, for a child without content (one
that collapsed through). -/
theorem no_overlap_partial (box : PBox) (hn : NonNegMargins box) (c : Ctx) (idx : Nat) (y bs : Rat)
    (skip : Option Resume) (cb pie : Bool) (adjL : List Rat) (hadj : ∀ m ∈ adjL, 0 ≤ m) (f : Frag)
    (hf : (layoutBox c box idx y bs skip cb pie adjL).frag = some f) :
    y ≤ f.geo.borderBoxY ∧ FragStacked f := by
  obtain ⟨_, _, h3⟩ := box_stack box hn c idx y bs skip cb pie adjL hadj
  obtain ⟨_, h4, h5, _⟩ := h3 f hf
  exact ⟨h4, h5⟩

/-- Adjacent children of a returned block fragment: the first one has no content, or ends at or above the
top of the second one. -/
theorem adjacent_children_partial (id : Nat) (st : PStyle) (kids : List PBox) (hn : NonNegMargins (.block id st kids))
    (c : Ctx) (idx : Nat) (y bs : Rat) (skip : Option Resume) (cb pie : Bool) (adjL : List Rat)
    (hadj : ∀ m ∈ adjL, 0 ≤ m) (id' idx' : Nat) (st' : PStyle) (g : Geo) (fkids : List Frag)
    (hf : (layoutBox c (.block id st kids) idx y bs skip cb pie adjL).frag = some (.block id' idx' st' g fkids))
    (i : Nat) (f1 f2 : Frag) (h1 : fkids[i]? = some f1) (h2 : fkids[i + 1]? = some f2) :
    f1.isEmpty = true ∨ f1.geo.borderBoxY + f1.geo.borderHeight ≤ f2.geo.borderBoxY := by
  obtain ⟨_, hs⟩ := no_overlap_partial _ hn c idx y bs skip cb pie adjL hadj _ hf
  simp only [FragStacked] at hs
  obtain ⟨⟨y0, hy0⟩, _⟩ := hs
  exact stacked_adjacent fkids y0 hy0 i f1 f2 h1 h2

private theorem nonNeg_emptyRoot (b : PBox) (h : NonNegMargins b) : NonNegMargins (emptyRoot b) := by
  cases b with
  | para id n lh st => simpa [emptyRoot, NonNegMargins] using h
  | block id st kids =>
    simp only [NonNegMargins] at h
    simp [emptyRoot, NonNegMargins, NonNegMarginsList, h.1]

/-- The same for the root fragment of every page made by `remake_page`. -/
theorem remakePage_no_overlap_partial (d : Doc) (hn : NonNegMargins d.root) (index : Nat)
    (resume : Option Resume) (np : NextPage) (right : Bool) (p : Page)
    (hp : remakePage d index resume np right = some p) :
    0 ≤ p.root.geo.borderBoxY ∧ FragStacked p.root := by
  obtain ⟨c, _, hf, _⟩ := remakePage_root d index resume np right p hp
  have hn' : NonNegMargins (pageSource d p) := by
    unfold pageSource
    split
    · exact nonNeg_emptyRoot _ hn
    · exact hn
  exact no_overlap_partial _ hn' c 0 0 0 resume false true [] (by intro m hm; cases hm) p.root hf

/-! ### used height of an unfragmented box -/

/-- **Heights** (C05): an unfragmented box gets `max(min(h₀, max-height), min-height)` — min-height wins —
where `h₀` is the fixed `height`, or for `height: auto` the position reached after the children (and the
margins that stop collapsing at the bottom of the box) minus the top of the content box. -/
theorem unfragmented_height (c : Ctx) (st : PStyle) (b : BoxSt) (bs : Rat)
    (cwc dbd : Bool) (posY : Rat) (adjL cur : List Rat) (curIsL hasKids : Bool) :
    let g := (finishTail c st b bs cwc dbd none posY adjL cur curIsL hasKids).geo
    let h0 := match st.height with
      | none => tailPosY st b posY cur hasKids - g.contentBoxY
      | some h => h
    g.h = max (match st.maxH with | none => h0 | some m => min h0 m) st.minH := by
  have h1 := finishTail_h_unfragmented c st b bs cwc dbd posY adjL cur curIsL hasKids
  have h2 := finishTail_geo_frame c st b bs cwc dbd none posY adjL cur curIsL hasKids
  dsimp only at h2 ⊢
  obtain ⟨hy, hmt, hbt, hpt⟩ := h2
  rw [h1]
  simp only [tailH0, Geo.contentBoxY, hy, hmt, hbt, hpt]
  cases st.maxH <;> cases st.height <;> rfl

/-- Whole layouts: every unfragmented fragment is at least `min-height` high (so not negative when
`min-height ≥ 0`) and at most `max-height` when that is not below `min-height`. -/
theorem height_bounds (c : Ctx) (box : PBox) (idx : Nat) (y bs : Rat) (skip : Option Resume)
    (cb pie : Bool) (adjL : List Rat) (f : Frag)
    (hf : (layoutBox c box idx y bs skip cb pie adjL).frag = some f)
    (hr : (layoutBox c box idx y bs skip cb pie adjL).resume = none) :
    box.st.minH ≤ f.geo.h ∧ (∀ m, box.st.maxH = some m → box.st.minH ≤ m → f.geo.h ≤ m) := by
  obtain ⟨mt, dbd, posY, cur, curIsL, hasKids, hg, _⟩ := layoutBox_tail c box idx y bs skip cb pie adjL f hf
  rw [hr] at hg
  rw [hg, finishTail_h_unfragmented]
  constructor
  · grind
  · intro m hm hle
    rw [hm]
    grind


/-! Non-vacuity: a paragraph (margins 4 / 6), an empty block (margins 3 / 8), a block with top padding
holding a paragraph, and a long paragraph, on 100px pages. Border boxes on page 1 (top, bottom, empty?):
the empty block sits at 30 = 24 + max(6, 3) without advancing the position; the next block starts at
32 = 24 + max(6, 3, 8, 5); the last paragraph at 62 = 60 + max(2, 1) and is stretched to the page bottom. -/
def exDoc : Doc :=
  { pageH := 100, rootLtr := true,
    root := .block 0 { plainSt with isRoot := true }
      [.para 1 2 10 { plainSt with mt := 4, mb := 6 },
       .block 2 { plainSt with mt := 3, mb := 8 } [],
       .block 3 { plainSt with mt := 5, pt := 1, mb := 2 } [.para 4 2 10 { plainSt with mt := 7 }],
       .para 5 9 10 { plainSt with mt := 1 }] }

example : NonNegMargins exDoc.root := by
  simp only [exDoc, NonNegMargins, NonNegMarginsList, plainSt]
  decide +kernel

example : (paginate exDoc 10).map (fun ps => ps.map (fun p =>
      p.root.kids.map (fun k => (k.geo.borderBoxY, k.geo.borderBottom, k.isEmpty)))) =
    some [[(4, 24, false), (30, 30, true), (32, 60, false), (62, 100, false)], [(0, 60, false)]] := by
  decide +kernel

/-- Heights on the same document: (min-height ≤ h) for every child of page 1; the unfragmented ones have
their content height. -/
example : (paginate exDoc 10).map (fun ps => ps.map (fun p => p.root.kids.map (fun k => k.geo.h))) =
    some [[20, 0, 27, 38], [60]] := by decide +kernel

end Wp.C05Pm
