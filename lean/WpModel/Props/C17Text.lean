/-
C17 — "with glyphs that map back through the font's ToUnicode table to its text".  Property theorems
about the glyph → text table (`Model/ToUnicode.lean`).
-/
import WpModel.Lemmas.ToUnicode
import WpModel.Lemmas.Transform

namespace Wp.C17
open Wp Wp.ToUnicode

/-- **Map-back.**  If, over everything drawn with a font, a glyph always stands for the same text
(and agrees with what the table already holds), then after the runs were recorded the glyphs of the
runs decode to exactly the concatenation of their cluster texts. -/
theorem tounicode_maps_back (m : CMap) (pairs : List (Nat × List Nat)) (h : Functional m pairs) :
    decode (recordAll m pairs) (pairs.map (·.1)) = some (pairs.flatMap (·.2)) :=
  decode_of_lookup _ pairs (lookup_recordAll m pairs h)

/-- What decoded before still decodes to the same text after more text was drawn with the font
(entries are never overwritten). -/
theorem tounicode_stable (m : CMap) (pairs : List (Nat × List Nat)) (glyphs text : List Nat)
    (h : decode m glyphs = some text) : decode (recordAll m pairs) glyphs = some text := by
  induction glyphs generalizing text with
  | nil => simpa [decode] using h
  | cons g gs ih =>
    simp only [decode] at h ⊢
    cases hl : lookup m g with
    | none => simp [hl] at h
    | some t =>
      cases hd : decode m gs with
      | none => simp [hl, hd] at h
      | some ts =>
        simp only [hl, hd, Option.some.injEq] at h
        rw [lookup_recordAll_some m pairs g t hl, ih ts hd]
        simp [h]

/-- Decoding is compositional: a text-showing operator split in two decodes to the concatenation. -/
theorem tounicode_concat (m : CMap) (a b x y : List Nat) (ha : decode m a = some x) (hb : decode m b = some y) :
    decode m (a ++ b) = some (x ++ y) := by
  rw [decode_append, ha, hb]

example : Functional [] [(72, [0x48]), (101, [0x65]), (108, [0x6c]), (108, [0x6c]), (111, [0x6f])] := by
  refine ⟨fun p _ t h => by simp [lookup] at h, ?_⟩
  decide

example : decode (recordAll [] [(72, [0x48]), (0xcf3, [0x66, 0x69])]) [72, 0xcf3] = some [0x48, 0x66, 0x69] := by
  decide

/-! ## The transformation matrix applied to a subtree -/

section Transform
open Wp.Transform Wp.Rounded

/-- **The transform-origin is a fixed point** of the matrix of any list of scale / rotate / skew /
translation-free `matrix()` functions: the box is transformed about its origin. -/
theorem transform_origin_fixed (bbx bby bw bh : Rat) (ox oy : Dim) (fns : List Fn)
    (h : ∀ fn ∈ fns, fn.isLinear = true) :
    (transformationMatrix bbx bby bw bh ox oy fns).apply (bbx + percentage ox bw) (bby + percentage oy bh) =
      (bbx + percentage ox bw, bby + percentage oy bh) := by
  unfold transformationMatrix
  simp only []
  rw [M.apply_mul]
  have h0 : (M.translation (-(bbx + percentage ox bw)) (-(bby + percentage oy bh))).apply
      (bbx + percentage ox bw) (bby + percentage oy bh) = (0, 0) := by
    simp only [M.apply, M.translation]; apply Prod.ext <;> simp only <;> grind
  rw [h0, fold_apply_zero bw bh fns _ h]
  simp only [M.apply, M.translation]; apply Prod.ext <;> simp only <;> grind

/-- **Translations do not depend on the origin**: a list of `translate()` functions gives the pure
translation by the sum of the offsets (percentages of the border box). -/
theorem transform_translate_only (bbx bby bw bh : Rat) (ox oy : Dim) (fns : List Fn)
    (h : ∀ fn ∈ fns, fn.isTranslate = true) :
    transformationMatrix bbx bby bw bh ox oy fns =
      M.translation (shift bw bh fns).1 (shift bw bh fns).2 := by
  unfold transformationMatrix
  simp only []
  rw [fold_translate bw bh fns _ _ h, M.translation_mul]
  congr 1 <;> grind

/-- **The determinant** — whose vanishing makes `draw_stacking_context` paint nothing of the subtree —
is the product of the determinants of the functions: neither the origin nor translations matter. -/
theorem transform_determinant (bbx bby bw bh : Rat) (ox oy : Dim) (fns : List Fn) :
    (transformationMatrix bbx bby bw bh ox oy fns).det =
      fns.foldl (fun p fn => (fnMatrix bw bh fn).det * p) 1 := by
  unfold transformationMatrix
  simp only []
  rw [M.det_mul, fold_det, M.det_translation, M.det_translation, Rat.one_mul]

/-- Applying the matrix of a composition is applying the matrices one after the other. -/
theorem transform_compose (p q : M) (x y : Rat) :
    (p.mul q).apply x y = q.apply (p.apply x y).1 (p.apply x y).2 := M.apply_mul p q x y

example : (transformationMatrix 10 20 100 50 ⟨50, true⟩ ⟨50, true⟩ [.scale 2 3]).apply 60 45 = (60, 45) := by
  decide +kernel
example : (transformationMatrix 10 20 100 50 ⟨50, true⟩ ⟨50, true⟩ [.scale 0 3]).det = 0 := by
  decide +kernel
example : transformationMatrix 10 20 100 50 ⟨50, true⟩ ⟨0, false⟩ [.translate ⟨1001, false⟩ ⟨0, false⟩] =
    M.translation 1001 0 := by decide +kernel

end Transform

end Wp.C17
