/-
C18 — "external links carry the URL resolved against the base URL, internal links name a destination":
`get_link_attribute` (which links are internal), the element → `Page.links` / `Page.anchors` step, and the
clickable rectangle (`hit_area()`) computed from the used values of the laid-out box.
-/
import WpModel.Model.C18LinkAttr
import WpModel.Model.C18HitArea
import WpModel.Lemmas.C18Gather
import WpModel.Props.C18Tree
import WpModel.Lemmas.C18Unquote

namespace Wp.C18
open Wp Wp.Anchors Wp.LinkAttr Wp.Res.Url Wp.KeepFirst

/-! ## get_link_attribute -/

/-- `href="#name"` (white space around allowed) is an internal link to the unquoted fragment whatever the
base URL is — also without any base URL. -/
theorem fragment_only_internal (attr base : Option (List Char)) (c : Char) (rest : List Char)
    (h : Wp.Res.Url.pyStrip (attr.getD []) = '#' :: c :: rest) :
    getLinkAttribute attr base = some (.internal, unquote (c :: rest)) := by
  unfold getLinkAttribute
  rw [h]
  rfl

/-- The comparison "with fragments removed" covers the query string: two URLs that are the same document
have the same scheme, authority, path **and query**. -/
theorem sameDocument_spec (p q : List Char × List Char × List Char × List Char × List Char) :
    sameDocument p q = true ↔ p.1 = q.1 ∧ p.2.1 = q.2.1 ∧ p.2.2.1 = q.2.2.1 ∧ p.2.2.2.1 = q.2.2.2.1 := by
  unfold sameDocument
  simp only [Bool.and_eq_true, beq_iff_eq, and_assoc]

/-- Exactly which links are internal: a link is internal **only** when its href is a bare fragment, or
there is a base URL and the resolved URL has a non-empty fragment and is the base URL's document
(scheme, authority, path, query); its target is then the unquoted fragment. -/
theorem internal_only_same_document (attr base : Option (List Char)) (t : List Char)
    (h : getLinkAttribute attr base = some (.internal, t)) :
    (∃ c rest, Wp.Res.Url.pyStrip (attr.getD []) = '#' :: c :: rest ∧ t = unquote (c :: rest)) ∨
    (∃ uri, getUrlAttribute attr base true = some uri ∧ (base.getD []).isEmpty = false ∧
      (urlsplit uri []).2.2.2.2 ≠ [] ∧ sameDocument (urlsplit uri []) (urlsplit (base.getD []) []) = true ∧
      t = unquote (urlsplit uri []).2.2.2.2) := by
  unfold getLinkAttribute at h
  split at h
  · rename_i c rest hs
    left
    exact ⟨c, rest, hs, by simpa using h.symm⟩
  · right
    split at h
    · cases h
    · rename_i uri hu
      refine ⟨uri, hu, ?_⟩
      by_cases h1 : uri.isEmpty = true
      · rw [if_pos h1] at h; cases h
      · rw [if_neg h1] at h
        by_cases h2 : (base.getD []).isEmpty = true
        · rw [if_pos h2] at h; cases h
        · rw [if_neg h2] at h
          by_cases h3 : (!(urlsplit uri []).2.2.2.2.isEmpty && sameDocument (urlsplit uri []) (urlsplit (base.getD []) [])) = true
          · rw [if_pos h3] at h
            simp only [Bool.and_eq_true, Bool.not_eq_true', List.isEmpty_eq_false_iff] at h3
            refine ⟨by simpa using h2, h3.1, h3.2, ?_⟩
            simpa using h.symm
          · rw [if_neg h3] at h; cases h

/-- … and conversely: with a base URL, a URL with a non-empty fragment that is the base URL's document
**is** internal (it is not written as a `/URI` action that would leave the PDF). -/
theorem same_document_is_internal (attr base : Option (List Char)) (uri : List Char)
    (hfrag : ∀ c rest, Wp.Res.Url.pyStrip (attr.getD []) ≠ '#' :: c :: rest)
    (hu : getUrlAttribute attr base true = some uri) (hne : uri.isEmpty = false)
    (hb : (base.getD []).isEmpty = false) (hf : (urlsplit uri []).2.2.2.2 ≠ [])
    (hs : sameDocument (urlsplit uri []) (urlsplit (base.getD []) []) = true) :
    getLinkAttribute attr base = some (.internal, unquote (urlsplit uri []).2.2.2.2) := by
  unfold getLinkAttribute
  split
  · rename_i c rest h; exact absurd h (hfrag c rest)
  · rw [hu]
    simp only [hne, hb, Bool.false_eq_true, if_false, hs, Bool.and_true]
    have : (urlsplit uri []).2.2.2.2.isEmpty = false := by simpa using hf
    simp [this]

/-- An external link carries the URL resolved against the base URL: exactly what `get_url_attribute`
(`url_join`: `iri_to_uri(urljoin(base_url, href))`) returns. -/
theorem external_is_resolved (attr base : Option (List Char)) (u : List Char)
    (h : getLinkAttribute attr base = some (.external, u)) : getUrlAttribute attr base true = some u := by
  revert h
  fun_cases getLinkAttribute attr base <;> rintro ⟨⟩ <;> assumption

/-- Another query string is another document: `?page=2#top` in `http://example.org/doc.html` is external and
keeps its resolved URL (seeded regression C18-4 made it internal). -/
example : getLinkAttribute (some "?page=2#top".toList) (some "http://example.org/doc.html".toList) =
    some (.external, "http://example.org/doc.html?page=2#top".toList) := by decide +kernel

example : getLinkAttribute (some " doc.html#a%20b ".toList) (some "http://example.org/doc.html".toList) =
    some (.internal, "a b".toList) := by decide +kernel

example : getLinkAttribute (some "#top".toList) none = some (.internal, "top".toList) := by decide +kernel

/-- `unquote` leaves a string without `%` alone. -/
theorem unquote_plain (s : List Char) (h : s.contains '%' = false) : unquote s = s := by
  unfold unquote; rw [h]; rfl

/-- **The name a link reaches is the name as written.**  `iri_to_uri` percent-encodes a URL (UTF-8 bytes,
`%XX`) and `unquote` — applied by `get_link_attribute` to the fragment of an internal link — undoes it
exactly, for every string of Unicode characters without a literal `%` (and not a `data:` URL, which
`iri_to_uri` leaves alone): an id such as `é`, `中文` or `x(y)` is found again by `href="doc.html#é"`. -/
theorem unquote_iri_to_uri (s : List Char) (hp : ∀ ch ∈ s, ch ≠ '%')
    (hd : (s.take 5 == "data:".toList) = false) : LinkAttr.unquote (Wp.Res.iriToUri s) = s := by
  unfold Wp.Res.iriToUri
  rw [hd]
  simp only [Bool.false_eq_true, if_false]
  have hascii : ∀ ch ∈ (s.flatMap Wp.Res.utf8).flatMap Wp.Res.quoteByte, ch.toNat < 128 := by
    intro ch hch
    obtain ⟨b, _, hb⟩ := List.mem_flatMap.mp hch
    exact quoteByte_ascii b ch hb
  have hbytes : ∀ b ∈ s.flatMap Wp.Res.utf8, b < 256 ∧ b ≠ 37 := by
    intro b hb
    obtain ⟨c, hc, hbc⟩ := List.mem_flatMap.mp hb
    exact utf8_bytes c (hp c hc) b hbc
  rw [unquote_ascii _ hascii, unquoteBytes_flatMap _ hbytes, utf8Decode_flatMap, map_ofNat_toNat]

example : (∀ ch ∈ "é中😀 x(y)".toList, ch ≠ '%') ∧ (("é中😀 x(y)".toList.take 5 == "data:".toList) = false) ∧
    Wp.Res.iriToUri "é中".toList = "%C3%A9%E4%B8%AD".toList := by decide +kernel

/-- Any byte string that is not UTF-8 still decodes (to U+FFFD): `unquote` never fails. -/
example : LinkAttr.unquote "a%FF%E2%82b%C3".toList = ['a', Char.ofNat 65533, Char.ofNat 65533, 'b', Char.ofNat 65533] := by
  decide +kernel

/-! ## element → link type, destinations -/

/-- The type recorded for an `<a href>`: `attachment` exactly for an external URL on an element whose `rel`
has the token `attachment` (ASCII case-insensitively); internal links are never attachments. -/
theorem linkOf_type (e : El) (base : Option (List Char)) (ty : String) (t : List Char)
    (h : linkOf e base = some (ty, t)) :
    (ty = "internal" ∧ getLinkAttribute e.href base = some (.internal, t)) ∨
    (getLinkAttribute e.href base = some (.external, t) ∧
      ty = if isAttachment e then "attachment" else "external") := by
  revert h
  fun_cases linkOf e base <;> rintro ⟨⟩
  next hk => exact .inl ⟨rfl, hk⟩
  next hk => exact .inr ⟨hk, rfl⟩

example : hasLinkType (some "nofollow  ATTACHMENT\t".toList) "attachment".toList = true ∧
    hasLinkType (some "attachments".toList) "attachment".toList = false ∧
    hasLinkType none "attachment".toList = false := by decide +kernel

theorem firstNames_eq (names : List (List Char)) : ∀ seen, firstNames names seen = firsts id names seen := by
  induction names with
  | nil => intro seen; rfl
  | cons n rest ih => intro seen; simp only [firstNames, firsts, id, ih]

/-- Destinations are listed once each, in the order of their first element. -/
theorem firstNames_nodup (names : List (List Char)) :
    ∀ seen, (firstNames names seen).Nodup ∧ ∀ n ∈ firstNames names seen, n ∉ seen := by
  intro seen
  rw [firstNames_eq]
  have h := firsts_nodup id names seen
  rw [List.map_id] at h
  exact ⟨h, fun n hn => ((mem_firsts_keys id names seen n).mp (by rwa [List.map_id])).2⟩

/-! ## the clickable rectangle -/

/-- Horizontally the clickable rectangle of **every** box, inline or not, is its border box: margins are
not clickable (seeded regression C18-5 used the margin box of inline boxes). -/
theorem hitArea_horizontal (kind : Kind) (g : BoxGeom) :
    (hitArea kind g).1 = g.positionX + g.marginLeft ∧
    (hitArea kind g).2.2.1 = g.width + g.paddingLeft + g.paddingRight + g.borderLeft + g.borderRight := by
  cases kind <;> exact ⟨rfl, rfl⟩

/-- Vertically: the border box, except for inline boxes, which are clickable over their whole margin box
(the line height). -/
theorem hitArea_vertical (kind : Kind) (g : BoxGeom) :
    (hitArea kind g).2.1 = (if kind = .inline then g.positionY else g.positionY + g.marginTop) ∧
    (hitArea kind g).2.2.2 = (if kind = .inline then g.borderHeight + g.marginTop + g.marginBottom
      else g.borderHeight) := by
  cases kind <;> exact ⟨rfl, rfl⟩

/-- The clickable rectangle does not depend on the horizontal margins except through the position of the
border box: moving margin into position leaves it unchanged. -/
theorem hitArea_margin_free (kind : Kind) (g : BoxGeom) (d r : Rat) :
    hitArea kind { g with positionX := g.positionX + d, marginLeft := g.marginLeft - d, marginRight := r : BoxGeom } =
      hitArea kind g := by
  have e : g.positionX + d + (g.marginLeft - d) = g.positionX + g.marginLeft := by
    rw [Rat.sub_eq_add_neg, Rat.add_assoc, ← Rat.add_assoc d, Rat.add_comm d, Rat.add_assoc g.marginLeft,
      Rat.add_neg_cancel, Rat.add_zero]
  cases kind <;>
    simp only [hitArea, BoxGeom.borderBoxX, BoxGeom.borderBoxY, BoxGeom.borderWidth, BoxGeom.paddingWidth,
      BoxGeom.borderHeight, BoxGeom.paddingHeight, BoxGeom.marginHeight, e]

/-- `a { margin: 0 20px; padding: 0 5px }` on a 60 px wide inline link at x = 100: clickable from 120 over
70 px (the demo input of C18-5). -/
example :
    let g : BoxGeom := { positionX := 100, positionY := 0, width := 60, height := 16, marginLeft := 20
                         marginRight := 20, paddingLeft := 5, paddingRight := 5, marginTop := 2, marginBottom := 2 }
    hitArea .inline g = (120, 0, 70, 20) := by
  decide +kernel

/-! ## gather_anchors on the raw geometry -/

/-- What `gather_anchors` meets at one laid-out box: its used values and the matrix in force. -/
structure RawVisit where
  kind : Kind
  geom : BoxGeom
  label : String
  level : Option Int
  state : String
  link : Option (String × String)
  att : Bool
  anchor : Option String
  m : Option Matrix

def RawVisit.toVisit (r : RawVisit) : Visit :=
  let h := hitArea r.kind r.geom
  ⟨r.kind, h.1, h.2.1, h.2.2.1, h.2.2.2, r.label, r.level, r.state, r.link, r.att, r.anchor, r.m⟩

mutual
/-- The laid-out boxes of a page in document order, each with the accumulated transformation matrix. -/
def rawPreorder : RBox → Option Matrix → List RawVisit
  | .mk kind transform ox oy g label level state link att anchor kids, parent =>
    let m := matrixFor kind transform ox oy g.borderBoxX g.borderBoxY g.borderWidth g.borderHeight parent
    ⟨kind, g, label, level, state, link, att, anchor, m⟩ :: rawPreorderList kids m
def rawPreorderList : List RBox → Option Matrix → List RawVisit
  | [], _ => []
  | b :: rest, m => rawPreorder b m ++ rawPreorderList rest m
end

mutual
theorem preorder_toGBox : ∀ (b : RBox) (m : Option Matrix),
    preorder b.toGBox m = (rawPreorder b m).map RawVisit.toVisit
  | .mk kind transform ox oy g label level state link att anchor kids, m => by
    simp only [RBox.toGBox, preorder, rawPreorder, List.map_cons, RawVisit.toVisit]
    rw [preorderList_toGBox kids]
theorem preorderList_toGBox : ∀ (bs : List RBox) (m : Option Matrix),
    preorderList (RBox.toGBoxList bs) m = (rawPreorderList bs m).map RawVisit.toVisit
  | [], _ => rfl
  | b :: rest, m => by
    simp only [RBox.toGBoxList, preorderList, rawPreorderList, List.map_append]
    rw [preorder_toGBox b m, preorderList_toGBox rest m]
end

/-- "Every hyperlink becomes link annotations covering its boxes", on the real geometry: each entry of
`Page.links` is the bounding box, under the matrix in force, of the clickable rectangle of a laid-out
box that carries the link — its border box, for an inline box over the whole line height — and there is
exactly one entry per such box. -/
theorem raw_links_cover (root : RBox) :
    (∀ l ∈ (gatherPageRaw root).links, ∃ r ∈ rawPreorder root none, hasLink r.kind r.link = true ∧
      l.rect = rectangleAabb r.m (r.geom.positionX + r.geom.marginLeft)
        (if r.kind = .inline then r.geom.positionY else r.geom.positionY + r.geom.marginTop)
        r.geom.borderWidth
        (if r.kind = .inline then r.geom.borderHeight + r.geom.marginTop + r.geom.marginBottom
          else r.geom.borderHeight)) ∧
    (gatherPageRaw root).links.length = ((rawPreorder root none).filter fun r => hasLink r.kind r.link).length := by
  constructor
  · intro l hl
    obtain ⟨v, hv, hk, hr⟩ := link_entries_cover root.toGBox l hl
    rw [preorder_toGBox] at hv
    obtain ⟨r, hr', rfl⟩ := List.mem_map.mp hv
    refine ⟨r, hr', hk, ?_⟩
    rw [hr]
    have h1 := hitArea_horizontal r.kind r.geom
    have h2 := hitArea_vertical r.kind r.geom
    simp only [RawVisit.toVisit]
    rw [h1.1, h1.2, h2.1, h2.2]
    rfl
  · unfold gatherPageRaw
    rw [one_link_per_box, preorder_toGBox, List.filter_map, List.length_map]
    rfl

example :
    let g : BoxGeom := { positionX := 100, positionY := 0, width := 60, height := 16, marginLeft := 20
                         marginRight := 20, paddingLeft := 5, paddingRight := 5, marginTop := 2, marginBottom := 2 }
    let root : RBox := .mk .other [] (.pct 50) (.pct 50) { positionX := 0, positionY := 0, width := 200, height := 20 }
      "" none "open" none false none [.mk .inline [] (.pct 50) (.pct 50) g "" none "open" (some ("external", "u")) false none []]
    (gatherPageRaw root).links = [⟨"external", "u", ⟨120, 0, 190, 20⟩⟩] := by decide +kernel

end Wp.C18
