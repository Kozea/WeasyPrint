/-
C01 on the wide grammar: soundness of the trace checker (`Model/Trace.lean`). If the checker accepts
the trace of a render (the words of every page in box-tree order), then every word that CSS says is
rendered appears exactly once, the words of each text container appear in source order, and dropped
content does not appear. The traces themselves are sampled from real renders (not a theorem about
the implementation): DESIGN.md §4 C01 "Model 2".
-/
import WpModel.Model.Trace
import WpModel.Lemmas.TraceCheck

namespace Wp.C01Trace
open Wp Wp.Trace

/-- (a)(b) Exactly once: an accepted rendered group (kinds 0, 1) with distinct words has each of its
words exactly once in the whole output. -/
theorem accepted_once (g : Group) (out : List Nat) (hk : g.kind = 0 ∨ g.kind = 1) (hnd : g.words.Nodup)
    (h : groupOk g out = true) : ∀ w ∈ g.words, out.count w = 1 := by
  intro w hw
  unfold groupOk at h
  simp only [hk, ↓reduceIte, beq_iff_eq] at h
  have : (project g.words out).count w = out.count w := List.count_filter (by simpa using hw)
  rw [h] at this
  rw [← this]
  exact hnd.count.trans (if_pos hw)

/-- (c) In order: the words of an accepted rendered group form a subsequence of the output in exactly
their source order. -/
theorem accepted_in_order (g : Group) (out : List Nat) (hk : g.kind = 0 ∨ g.kind = 1)
    (h : groupOk g out = true) : g.words.Sublist out := by
  unfold groupOk at h
  simp only [hk, ↓reduceIte, beq_iff_eq] at h
  rw [← h]
  unfold project
  exact List.filter_sublist

/-- (e) Dropped content (`display: none`) of an accepted trace does not appear. -/
theorem accepted_dropped (g : Group) (out : List Nat) (hk : g.kind = 3)
    (h : groupOk g out = true) : ∀ w ∈ g.words, w ∉ out := by
  intro w hw hmem
  unfold groupOk at h
  rw [hk] at h
  have h0 : ¬ ((3 : Nat) = 0 ∨ (3 : Nat) = 1) := by decide
  rw [if_neg h0] at h
  simp only [↓reduceIte, beq_iff_eq] at h
  unfold project at h
  have : w ∈ out.filter (fun w => g.words.contains w) := by
    rw [List.mem_filter]; exact ⟨hmem, by simpa using hw⟩
  rw [h] at this
  simp at this

theorem badGroups_nil_iff (gs : List Group) (pages : List (List Nat)) :
    badGroups gs pages = [] ↔ ∀ g ∈ gs, groupOk g pages.flatten = true :=
  rejected_nil_iff _ (groupOk · pages.flatten) (fun _ _ => rfl) gs

/-- **Soundness of the conservation check.** -/
theorem conserve_sound (gs : List Group) (pages : List (List Nat)) (h : badGroups gs pages = []) :
    ∀ g ∈ gs,
      ((g.kind = 0 ∨ g.kind = 1) → g.words.Nodup →
        (∀ w ∈ g.words, pages.flatten.count w = 1) ∧ g.words.Sublist pages.flatten) ∧
      (g.kind = 3 → ∀ w ∈ g.words, w ∉ pages.flatten) := by
  intro g hg
  have hok := (badGroups_nil_iff gs pages).mp h g hg
  exact ⟨fun hk hnd => ⟨accepted_once g _ hk hnd hok, accepted_in_order g _ hk hok⟩,
         fun hk => accepted_dropped g _ hk hok⟩

/-- (d) consecutive pages: an accepted list of page numbers has no gap. -/
theorem consecutive_no_gap (l : List Nat) (h : consecutive l = true) (i : Nat) (hi : i + 1 < l.length) :
    l[i + 1] = l[i] + 1 := by
  match l, h, i, hi with
  | a :: b :: rest, h, i, hi =>
    unfold consecutive at h
    simp only [Bool.and_eq_true, beq_iff_eq] at h
    cases i with
    | zero => exact h.1
    | succ j => exact consecutive_no_gap (b :: rest) h.2 j (Nat.lt_of_succ_lt_succ hi)

example : badGroups [⟨0, [1, 2, 3]⟩, ⟨2, [9]⟩, ⟨3, [7]⟩, ⟨1, [4, 5]⟩] [[9, 1, 2], [9, 4, 3, 5]] = [] := by decide
example : badGroups [⟨0, [1, 2, 3]⟩] [[1, 3], [2]] = [0] := by decide
example : scatteredGroups [⟨0, [1, 2, 3]⟩] [[1], [], [2, 3]] = [0] := by decide

end Wp.C01Trace
