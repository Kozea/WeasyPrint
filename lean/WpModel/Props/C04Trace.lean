/-
C04 on rendered documents (table rows, row groups, nested blocks): soundness of the adjacency checker.
The resolved value is computed by the *proved* resolution function (`Wp.resolve`, tables regenerated
from block.py), so the checker states: whenever the strongest value meeting between two siblings forces
a break, they are on different pages and the second starts on a page of the requested side.
-/
import WpModel.Model.BreakTrace
import WpModel.Props.C04
import WpModel.Lemmas.TraceCheck

namespace Wp.C04Trace
open Wp Wp.BreakTrace

theorem obs_sound (os : List Obs) (h : badObs os = []) :
    ∀ o ∈ os, forces false (resolve o.values) = true →
      o.pageA < o.pageB ∧
      ∀ side, PM.requestedSide o.ltr (some (resolve o.values)) = some side → o.rightB = side := by
  intro o ho hf
  have hok := (rejected_nil_iff _ obsOk (fun _ _ => rfl) os).mp h o ho
  unfold obsOk at hok
  simp only [hf, ↓reduceIte, Bool.and_eq_true, decide_eq_true_eq] at hok
  refine ⟨hok.1, ?_⟩
  intro side hs
  rw [hs] at hok
  simpa using hok.2

/-- Combined with the resolution theorems: if *any* box meeting at the boundary carries a forcing value,
an accepted observation has the two siblings on different pages. -/
theorem forced_value_separates (os : List Obs) (h : badObs os = []) (o : Obs) (ho : o ∈ os)
    (hv : ∃ v ∈ o.values, forces false v = true) : o.pageA < o.pageB :=
  (obs_sound os h o ho (C04.forced_wins false o.values hv)).1

example : badObs [⟨[.auto, .avoid, .right], 0, 2, true, true⟩, ⟨[.page], 1, 1, false, true⟩] = [1] := by decide

/-- Accepted observations honour `break-before/after: avoid`: two siblings meeting at an avoiding value are on the
same page unless the first one was the first content of its page (no other legal break point before it). -/
theorem avoid_obs_sound (os : List AvoidObs) (h : badAvoid os = []) :
    ∀ o ∈ os, avoids false (resolve o.values) = true → o.pageA = o.pageB ∨ o.aFirst = true := by
  intro o ho ha
  have hok := (rejected_nil_iff _ avoidOk (fun _ _ => rfl) os).mp h o ho
  unfold avoidOk at hok
  simp only [ha, ↓reduceIte, Bool.or_eq_true, beq_iff_eq] at hok
  exact hok

/-- Accepted observations honour `break-inside: avoid`: the unit is on one page unless it was the first content
of its page. -/
theorem inside_obs_sound (os : List InsideObs) (h : badInside os = []) :
    ∀ o ∈ os, avoids false o.value = true → o.pages ≤ 1 ∨ o.first = true := by
  intro o ho ha
  have hok := (rejected_nil_iff _ insideOk (fun _ _ => rfl) os).mp h o ho
  unfold insideOk at hok
  simp only [ha, ↓reduceIte, Bool.or_eq_true, decide_eq_true_eq] at hok
  exact hok

example : badAvoid [⟨[.auto, .avoid], 0, 1, false⟩, ⟨[.avoid, .auto], 1, 2, true⟩, ⟨[.auto], 0, 1, false⟩] = [0] := by
  decide
example : badInside [⟨.avoid, 2, false⟩, ⟨.avoid, 2, true⟩, ⟨.auto, 3, false⟩, ⟨.avoidPage, 1, false⟩] = [0] := by
  decide

end Wp.C04Trace
