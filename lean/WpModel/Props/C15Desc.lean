/-
C15 — `@counter-style` descriptors: theorems about `Model/CounterDescriptors.lean` (the validators of
css/validation/descriptors.py and the rule-level checks of preprocess_stylesheet), and their link to
`render_value`: what the validators accept is what steps 2–3 of `render_value` can work with — including
`range: auto` since `fix:` 5be1d36 (it used to be stored as `('auto',)`, finding `range-auto-crash`).
-/
import WpModel.Model.CounterDescriptors
import WpModel.Props.C15

namespace Wp.C15
open Wp.Counters Wp.CounterDescriptors

/-! ## `additive-symbols`: weights strictly decreasing -/

private theorem all_gt_of_last (acc : List (Nat × Sym)) (last r : Nat × Sym)
    (hp : acc.Pairwise (fun a b => a.1 > b.1)) (hl : acc.getLast? = some last) (h : ¬ last.1 ≤ r.1) :
    ∀ a ∈ acc, a.1 > r.1 := by
  obtain ⟨pre, rfl⟩ := List.getLast?_eq_some_iff.mp hl
  intro a ha
  rcases List.mem_append.mp ha with h1 | h1
  · have := (List.pairwise_append.mp hp).2.2 a h1 last (List.mem_singleton_self last)
    omega
  · rw [List.mem_singleton.mp h1]
    omega

private theorem additiveLoopV_sorted (parts : List (List Tok)) (acc out : List (Nat × Sym))
    (hp : acc.Pairwise (fun a b => a.1 > b.1)) (h : additiveLoopV parts acc = some out) :
    out.Pairwise (fun a b => a.1 > b.1) := by
  fun_induction additiveLoopV parts acc with
  | case1 => cases h; exact hp
  | case2 => cases h
  | case3 => cases h
  | case4 p rest acc r hpad last hl hle ih =>
    refine ih (List.pairwise_append.mpr ⟨hp, by simp, fun a ha b hb => ?_⟩) h
    rw [List.mem_singleton.mp hb]
    exact all_gt_of_last acc last r hp hl hle a ha
  | case5 p rest acc r hpad hl ih =>
    have : acc = [] := by simpa using hl
    subst this
    exact ih (by simp) h

/-- What the `additive-symbols` validator accepts lists its weights in strictly decreasing order
(so `C15.additive_sorted` applies to every registered additive style). -/
theorem additive_validated_descending (toks : List Tok) (l : List (Nat × Sym))
    (h : additiveSymbols toks = some l) : l.Pairwise (fun a b => a.1 > b.1) :=
  additiveLoopV_sorted _ [] l (by simp) h

/-! ## `range` -/

private theorem rangePart_some (toks : List Tok) (e : RangeEntry) (h : rangePart toks = some e) :
    ∃ a b lo hi, loBound a = some lo ∧ hiBound b = some hi ∧ boundLe lo hi = true ∧ e = .pair lo hi := by
  revert h
  fun_cases rangePart toks <;> intro h <;> cases h
  next a b lo hi hhi hlo hle => exact ⟨a, b, lo, hi, hlo, hhi, hle, rfl⟩

/-- A validated `(min, max)` pair is ordered; bounds are `-inf` only on the left, `+inf` only on the right. -/
theorem range_validated_ordered (toks : List Tok) (lo hi : Bound) (h : rangePart toks = some (.pair lo hi)) :
    lo ≠ .posInf ∧ hi ≠ .negInf ∧ ∀ x y, lo = .fin x → hi = .fin y → x ≤ y := by
  obtain ⟨a, b, lo', hi', hlo, hhi, hle, e⟩ := rangePart_some toks _ h
  cases e
  refine ⟨?_, ?_, ?_⟩
  · intro e; subst e
    cases a <;> simp [loBound] at hlo
  · intro e; subst e
    cases b <;> simp [hiBound] at hhi
  · intro x y ex ey; subst ex ey; simpa [boundLe] using hle

/-- Regression for the repaired finding `range-auto-crash` (`fix:` 5be1d36): the validator's value for
`range: auto` (any case) is the string `'auto'` that `render_value` tests for — no longer the tuple
`('auto',)`. -/
theorem range_auto_is_keyword :
    range [.ident "auto"] = some .auto ∧ range [.ident "AUTO"] = some .auto := by decide +kernel

/-- … and `auto` is not a member of a list of ranges any more. -/
theorem range_auto_in_list_invalid :
    range [.ident "auto", .comma, .int 1, .int 2] = none ∧ range [.int 1, .int 2, .comma, .ident "auto"] = none := by
  decide

private theorem rangePart_is_pair (toks : List Tok) (e : RangeEntry) (h : rangePart toks = some e) :
    e ≠ .autoKw := by
  obtain ⟨_, _, _, _, _, _, _, rfl⟩ := rangePart_some toks e h
  nofun

private theorem allParts_pairs (parts : List (List Tok)) (l : List RangeEntry)
    (h : allParts rangePart parts = some l) : RangeEntry.autoKw ∉ l := by
  fun_induction allParts rangePart parts generalizing l with
  | case1 => cases h; simp
  | case2 => cases h
  | case3 p rest e hp ih =>
    obtain ⟨l', hr, rfl⟩ := Option.map_eq_some_iff.mp h
    intro hm
    rcases List.mem_cons.mp hm with h1 | h1
    · exact rangePart_is_pair p e hp h1.symm
    · exact ih l' hr h1

/-- **C15.validated_range_is_pairs** — every tuple the `range` validator returns holds `(min, max)` pairs
only. -/
theorem validated_range_is_pairs (toks : List Tok) (l : List RangeEntry) (h : range toks = some (.entries l)) :
    RangeEntry.autoKw ∉ l := by
  revert h
  fun_cases range toks <;> intro h
  · cases h
  · obtain ⟨l', hl, h⟩ := Option.map_eq_some_iff.mp h
    cases h
    exact allParts_pairs _ _ hl

/-- **C15.range_test_total** — on a style whose `range` is absent or came from the validator — whatever the tokens —
step 2 of `render_value` never raises (`range: auto` is stored as the keyword: `fix:` 5be1d36, regression
`Witness.C15.range_auto_renders`). -/
theorem range_test_total (counter : Desc) (system : String) (v : Int) (toks : List Tok)
    (h : counter.range = none ∨ counter.range = range toks) : ∃ b, inRange counter system v = .ok b := by
  apply range_test_total_pairs
  intro l hl
  rcases h with h | h
  · rw [h] at hl; simp at hl
  · rw [h] at hl; exact validated_range_is_pairs toks l hl

/-- `range: auto` means the automatic range of the system (css-counter-styles-3 §3.3). -/
theorem range_auto_reads_as_auto (d : Desc) (system : String) (v : Int) (h : d.range = range [.ident "auto"]) :
    inRange d system v = .ok ((autoRange system).1.leInt v && (autoRange system).2.geInt v) := by
  rw [range_auto_is_keyword.1] at h
  simp only [inRange, h]

/-! ## `system` and the rule-level checks -/

/-- `system` on a non-empty value, in one pass over its branches: it does not raise, and what it accepts that
is not `extends` is one of the six keywords, with a first value exactly for `fixed`. -/
theorem system_cons (t0 : Tok) (rest : List Tok) :
    ∃ r, system (t0 :: rest) = .ok r ∧ ∀ s, r = some s → s.ext = false →
      ((s.name = "fixed" ∧ s.fixed.isSome = true) ∨
       ((s.name = "cyclic" ∨ s.name = "numeric" ∨ s.name = "alphabetic" ∨ s.name = "symbolic") ∧ s.fixed = none)) ∨
      (s.name = "additive" ∧ s.fixed = none) := by
  generalize hts : t0 :: rest = toks
  -- the return points of `system` in source order: 2 the empty value, 3 `extends`, 7 and 8 `fixed`, 10 the five
  -- plain keywords; the others return `none`
  fun_cases system toks
  case case2 => cases hts
  case case3 => exact ⟨_, rfl, fun s hs he => by cases hs; cases he⟩
  case case7 | case8 => exact ⟨_, rfl, fun s hs _ => by cases hs; exact .inl (.inl ⟨rfl, rfl⟩)⟩
  case case10 kw _ _ hk _ =>
    refine ⟨_, rfl, fun s hs _ => ?_⟩
    cases hs
    simp only [Bool.and_eq_true, Bool.or_eq_true, decide_eq_true_eq] at hk
    rcases hk.2 with (((hk | hk) | hk) | hk) | hk <;> simp [kw, hk]
  all_goals exact ⟨none, rfl, nofun⟩

/-- **Registered styles have the symbols their system needs**: for a rule accepted by
`preprocess_stylesheet` whose `system` came from the validator and is not `extends`, step 3 of
`render_value` never raises and never takes the "wrong number of symbols → decimal" exit; it yields an
initial representation or asks for the fallback. -/
theorem registered_style_step3_ok (d : Desc) (s : Sys) (toks : List Tok) (hs : d.system = some s)
    (hv : system toks = .ok (some s)) (he : s.ext = false) (hacc : ruleAccepted d = true) (v : Int) (b : Bool) :
    (∃ t, step3 d s.name s.fixed v b = .initial t) ∨ (∃ w, step3 d s.name s.fixed v b = .fallback w) := by
  rcases toks with _ | ⟨t0, rest⟩
  · cases hv
  obtain ⟨r, hr, hshape⟩ := system_cons t0 rest
  rw [hr] at hv
  cases hv
  rcases hshape s rfl he with hn | ⟨hn, -⟩
  · have hk : 1 ≤ (d.symbols.getD []).length ∧
        (s.name = "alphabetic" ∨ s.name = "numeric" → 2 ≤ (d.symbols.getD []).length) := by
      rcases hn with ⟨hn, -⟩ | ⟨hn | hn | hn | hn, -⟩ <;>
        simp [ruleAccepted, hs, he, hn, -List.length_eq_zero_iff] at hacc ⊢ <;> omega
    exact step3_symbols_ok d _ _ v b hk.1 hk.2 (hn.imp_right And.left)
  · have h2 : 2 ≤ (d.additive.getD []).length := by
      simp [ruleAccepted, hs, he, hn] at hacc
      omega
    rw [hn]
    cases hadd : d.additive with
    | none => rw [hadd] at h2; exact absurd h2 (by simp only [Option.getD_none, List.length_nil]; omega)
    | some tuples =>
      have hl : ¬ tuples.length < 1 := by rw [hadd] at h2; simp only [Option.getD_some] at h2; omega
      rw [step3_additive, hadd]
      dsimp only
      by_cases hv0 : v = 0
      · rw [if_pos hv0]
        cases additiveZero tuples none with
        | none => exact Or.inr ⟨_, rfl⟩
        | some t => exact Or.inl ⟨_, rfl⟩
      · rw [if_neg hv0, if_neg hl]
        cases additiveLoop tuples v.toNat [] with
        | none => exact Or.inr ⟨_, rfl⟩
        | some parts => exact Or.inl ⟨_, rfl⟩

/-- An `extends` rule is registered whatever it declares (so its own `symbols` may be too few: step 3 then
takes the decimal exit with the original value, `C15.step3_hands_on_value`). -/
theorem extends_rule_always_registered (decls : List Decl) (s : Sys)
    (h : (decls.foldl applyDecl {}).system = some s) (he : s.ext = true) :
    buildRule decls = some (decls.foldl applyDecl {}) := by
  simp [buildRule, ruleAccepted, h, he]

/-- `system` called directly on an empty value raises (`tokens[0]`) … -/
theorem system_empty_raises : system [] = .error .indexError := rfl

/-- … it is the only failure point of the validators … -/
theorem validate_error_only_empty (name : String) (toks : List Tok) (e : DErr)
    (h : validate name toks = some (.error e)) : toks = [] := by
  revert h
  fun_cases validate name toks <;> intro h
  · cases toks with
    | nil => rfl
    | cons t0 rest =>
      obtain ⟨r, hr, _⟩ := system_cons t0 rest
      simp [hr, Except.map] at h
  all_goals cases h

/-- **C15.preprocess_descriptors_total** (since `fix:` d71ddd0, which rejects an empty value before the
validator is called): collecting the declarations of a `@counter-style` rule never raises. -/
theorem preprocess_descriptors_total : ∀ (decls : List (String × List Tok)) (acc : List Decl),
    ∃ ds, preprocessDescriptors decls acc = .ok ds := by
  intro decls acc
  fun_induction preprocessDescriptors decls acc with
  | case1 acc => exact ⟨acc, rfl⟩
  | case2 n toks rest acc e h1 =>
    revert h1
    fun_cases preprocessOne n toks <;> intro h1 <;> cases h1
    next hne hv => exact absurd (validate_error_only_empty n toks e hv ▸ rfl) hne
  | case3 _ _ _ _ _ ih => exact ih
  | case4 _ _ _ _ _ _ ih => exact ih

/-- An empty value leaves the descriptor unset (`symbols: ;` no longer registers the empty tuple). -/
theorem preprocess_empty_ignored (name : String) : preprocessOne name [] = .ok none := rfl

/-- A `pad` value is a non-negative integer and a symbol, in either order. -/
theorem pad_validated (toks : List Tok) (n : Nat) (s : Sym) (h : pad toks = some (n, s)) : toks.length = 2 := by
  unfold pad at h
  split at h
  · assumption
  · simp at h

/-! ## From the parsed rule to `render_value`: a registered rule renders without raising -/

/-- A declaration that came out of a validator (on a non-empty value). -/
def Validated (d : Decl) : Prop := ∃ name toks, validate name toks = some (.ok (some d))

private theorem preprocessOne_validated (name : String) (toks : List Tok) (d : Decl)
    (h : preprocessOne name toks = .ok (some d)) : Validated d := by
  revert h
  fun_cases preprocessOne name toks <;> intro h <;> cases h
  next hv => exact ⟨name, toks, hv⟩

/-- Everything `preprocess_descriptors` yields came out of a validator. -/
theorem preprocess_validated : ∀ (decls : List (String × List Tok)) (acc ds : List Decl),
    preprocessDescriptors decls acc = .ok ds → (∀ d ∈ acc, Validated d) → ∀ d ∈ ds, Validated d := by
  intro decls acc ds h hacc
  fun_induction preprocessDescriptors decls acc with
  | case1 => cases h; exact hacc
  | case2 => cases h
  | case3 _ _ _ _ _ ih => exact ih h hacc
  | case4 n toks rest acc d h1 ih =>
    refine ih h fun d' hd' => ?_
    rcases List.mem_append.mp hd' with hm | hm
    · exact hacc d' hm
    · rw [List.mem_singleton.mp hm]; exact preprocessOne_validated n toks d h1

private theorem validated_inv (d : Decl) : Validated d →
    match d with
    | .system s => ∃ toks, system toks = .ok (some s)
    | .range r => ∃ toks, range toks = some r
    | _ => True := by
  intro ⟨name, toks, hv⟩
  revert hv
  fun_cases validate name toks <;> intro hv
  case case10 => cases hv
  all_goals
    simp only [Option.some.injEq, Except.ok.injEq, Option.map_eq_some_iff, Except.map] at hv
  case case1 =>
    split at hv
    · cases hv
    · rename_i hs
      simp only [Except.ok.injEq, Option.map_eq_some_iff] at hv
      obtain ⟨s, rfl, rfl⟩ := hv
      exact ⟨toks, hs⟩
  case case5 => obtain ⟨r, h, rfl⟩ := hv; exact ⟨toks, h⟩
  all_goals obtain ⟨_, _, rfl⟩ := hv; trivial

private theorem foldl_range (ds : List Decl) : ∀ (d0 : Desc) (r : RangeDesc),
    (ds.foldl applyDecl d0).range = some r → d0.range = some r ∨ Decl.range r ∈ ds := by
  induction ds with
  | nil => intro d0 r h; exact Or.inl h
  | cons x xs ih =>
    intro d0 r h
    rcases ih (applyDecl d0 x) r h with h1 | h1
    · cases x <;> simp [applyDecl] at h1 <;> first | exact Or.inl h1 | (subst h1; exact Or.inr (by simp))
    · exact Or.inr (List.mem_cons_of_mem _ h1)

private theorem foldl_system (ds : List Decl) : ∀ (d0 : Desc) (s : Sys),
    (ds.foldl applyDecl d0).system = some s → d0.system = some s ∨ Decl.system s ∈ ds := by
  induction ds with
  | nil => intro d0 s h; exact Or.inl h
  | cons x xs ih =>
    intro d0 s h
    rcases ih (applyDecl d0 x) s h with h1 | h1
    · cases x <;> simp [applyDecl] at h1 <;> first | exact Or.inl h1 | (subst h1; exact Or.inr (by simp))
    · exact Or.inr (List.mem_cons_of_mem _ h1)

/-- **C15.registered_rule_renders** — from the source text to `render_value`: for every `@counter-style` rule,
whatever its declarations (token soup included), if `preprocess_descriptors` + the rule-level checks register it
and it does not `extends`, then for every value step 2 (range test) does not raise and step 3 yields an initial
representation or asks for the fallback style — it never raises and never takes the "wrong number of symbols"
exit. -/
theorem registered_rule_renders (decls : List (String × List Tok)) (ds : List Decl) (d : Desc)
    (hp : preprocessDescriptors decls [] = .ok ds) (hb : buildRule ds = some d) (he : (sysOf d).1 = false)
    (v : Int) (b : Bool) :
    (∃ r, inRange d (sysOf d).2.1 v = .ok r) ∧
    ((∃ t, step3 d (sysOf d).2.1 (sysOf d).2.2 v b = .initial t) ∨
     (∃ w, step3 d (sysOf d).2.1 (sysOf d).2.2 v b = .fallback w)) := by
  have hval := preprocess_validated decls [] ds hp (by simp)
  have hd : d = ds.foldl applyDecl {} ∧ ruleAccepted d = true := by
    unfold buildRule at hb
    simp only at hb
    split at hb
    · rename_i hacc
      simp only [Option.some.injEq] at hb
      subst hb; exact ⟨rfl, hacc⟩
    · simp at hb
  obtain ⟨hdef, hacc⟩ := hd
  constructor
  · cases hr : d.range with
    | none => exact range_test_total d _ v [] (Or.inl hr)
    | some r =>
      rcases foldl_range ds {} r (by rw [← hdef]; exact hr) with h0 | hmem
      · simp at h0
      · obtain ⟨toks, ht⟩ := validated_inv (.range r) (hval _ hmem)
        exact range_test_total d _ v toks (Or.inr (by rw [hr, ht]))
  · cases hs : d.system with
    | none =>
      -- `system` absent: symbolic, at least one symbol
      have hso : sysOf d = (false, "symbolic", none) := by simp [sysOf, hs]
      rw [hso]
      have h1 : 1 ≤ (d.symbols.getD []).length := by
        simp [ruleAccepted, hs, -List.length_eq_zero_iff] at hacc
        omega
      exact step3_symbols_ok d _ _ v b h1 (by simp) (by simp)
    | some s =>
      have hso : sysOf d = (s.ext, s.name, s.fixed) := by simp [sysOf, hs]
      rw [hso] at he ⊢
      rcases foldl_system ds {} s (by rw [← hdef]; exact hs) with h0 | hmem
      · simp at h0
      · obtain ⟨toks, ht⟩ := validated_inv (.system s) (hval _ hmem)
        exact registered_style_step3_ok d s toks hs ht he hacc v b

section Examples
example : additiveSymbols [.int 10, .ident "X", .comma, .int 5, .ident "V", .comma, .ident "I", .int 1]
    = some [(10, .str "X"), (5, .str "V"), (1, .str "I")] := by decide +kernel
example : additiveSymbols [.int 5, .ident "V", .comma, .int 5, .ident "I"] = none := by decide +kernel
example : rangePart [.ident "infinite", .int 3] = some (.pair .negInf (.fin 3)) := by decide +kernel
example : rangePart [.int 3, .int 1] = none := by decide +kernel
example : range [.int 1, .int 3, .comma, .ident "infinite", .int 0] =
    some (.entries [.pair (.fin 1) (.fin 3), .pair .negInf (.fin 0)]) := by decide +kernel
example : inRange { range := range [.ident "Auto"] } "alphabetic" 0 = .ok false := by decide +kernel
example : (preprocessDescriptors [("system", [.ident "Numeric"]), ("symbols", [.str "0", .ident "a"]),
    ("range", [.ident "auto"]), ("pad", [])] []).map buildRule =
    .ok (some { system := some ⟨false, "numeric", none⟩, symbols := some [.str "0", .str "a"], range := some .auto }) := by
  rfl
example : preprocessDescriptors [("system", [.ident "extends", .ident "decimal"]), ("symbols", []),
    ("speak-as", [.ident "auto"]), ("range", [.ident "auto"])] [] =
    .ok [.system ⟨true, "decimal", none⟩, .range .auto] := by rfl
example : system [.ident "FIXED", .int (-2)] = .ok (some ⟨false, "fixed", some (-2)⟩) := by rfl
example : system [.ident "extends", .ident "Foo"] = .ok (some ⟨true, "foo", none⟩) := by rfl
example : buildRule [.system ⟨false, "alphabetic", none⟩, .symbols [.str "a"]] = none := by decide +kernel
example : (buildRule [.system ⟨true, "lower-alpha", none⟩, .symbols [.str "x"]]).isSome = true := by decide +kernel
end Examples

end Wp.C15
