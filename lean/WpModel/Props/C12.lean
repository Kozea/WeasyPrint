/-
C12 — flex and grid containers distribute space and place items as specified.
Property theorems about `Wp.Flex` (mirror of layout/flex.py), for all inputs (the loop of 9.7.5 seen from outside:
`Lemmas/FlexLoop.lean`), and the ties of both models to the generated tables.  Grid (`Wp.Grid`, mirror of
layout/grid.py): track sizing in `C12Tracks.lean`, placement and alignment in `C12Grid2.lean`.
Clauses that are false of the current code are stated in their strongest true form (`…_partial`, in the grid files)
and refuted at full strength in `Witness/C12.lean`.
-/
import WpModel.Model.Flex
import WpModel.Model.Grid
import WpModel.Drive.Flex
import WpModel.Drive.Grid
import WpModel.Gen.FlexGridTables
import WpModel.Props.C12Tracks
import WpModel.Lemmas.InsertionSort
import WpModel.Lemmas.FlexLoop
import WpModel.Lemmas.Basic.List

namespace Wp.C12
open Wp Wp.Flex

/-! ## Flex: order-modified document order -/

open Wp.InsertionSort in
/-- `insertByOrder` stops at the first element whose `order` is not smaller: insertion for the test "`x` has to go
after `t`". -/
theorem insertByOrder_eq (x : Item) (l : List Item) :
    insertByOrder x l = ins (fun t x => !decide (x.order ≤ t.order)) x l :=
  eq_ins_stop (fun x y : Item => x.order ≤ y.order) insertByOrder (fun _ => rfl)
    (fun x y ys => insertByOrder.eq_2 x y ys) x l

open Wp.InsertionSort in
theorem sortByOrder_eq (l : List Item) : sortByOrder l = sort (fun t x => !decide (x.order ≤ t.order)) l :=
  eq_sort sortByOrder insertByOrder_eq rfl (fun _ _ => rfl) l

/-- `order`: the items are taken in a permutation of the document order … -/
theorem order_perm (l : List Item) : (sortByOrder l).Perm l := by
  rw [sortByOrder_eq]; exact InsertionSort.sort_perm l

/-- … sorted by `order` … -/
theorem order_sorted (l : List Item) : (sortByOrder l).Pairwise (fun a b => a.order ≤ b.order) := by
  rw [sortByOrder_eq]
  exact InsertionSort.sort_sorted (S := fun a b : Item => a.order ≤ b.order) (fun t x h => by simp at h; omega)
    (fun t x h => by simpa using h) (fun _ _ _ => Int.le_trans) l

/-- … and stable: items with the same `order` keep their document order. -/
theorem order_stable (l : List Item) (k : Int) :
    (sortByOrder l).filter (fun i => i.order == k) = l.filter (fun i => i.order == k) := by
  rw [sortByOrder_eq]
  exact InsertionSort.sort_filter _ (fun t x ht hx => by simp at ht hx ⊢; omega) l

/-! ## Flex: step 5, line collection -/

/-- The quantity `line_size` of step 5 for a complete line: `Σ hypothetical outer sizes + gaps`. -/
def lineSize (gap : Rat) : List St → Rat
  | [] => 0
  | [s] => s.outerHyp
  | s :: rest => s.outerHyp + gap + lineSize gap rest

private theorem lineSize_append_single (gap : Rat) (l : List St) (c : St) (h : l ≠ []) :
    lineSize gap (l ++ [c]) = lineSize gap l + gap + c.outerHyp := by
  induction l with
  | nil => exact absurd rfl h
  | cons x xs ih =>
    cases xs with
    | nil => simp [lineSize]
    | cons y ys =>
      have := ih (by simp)
      simp only [List.cons_append, lineSize] at this ⊢
      rw [this]; grind

/-- Invariant of `collectLines`: `size` is the `lineSize` of the (reversed) current line; pushing an item keeps it. -/
private theorem inv_push (gap : Rat) (line : List St) (size : Rat) (c : St) (h : size = lineSize gap line.reverse) :
    size + c.outerHyp + (if line.isEmpty then 0 else gap) = lineSize gap (c :: line).reverse := by
  cases line with
  | nil => simp [lineSize] at *; subst h; grind
  | cons x xs =>
    simp only [List.reverse_cons (a := c), List.isEmpty_cons]
    rw [lineSize_append_single gap _ c (by simp), h]
    simp; grind

theorem collect_nil (wrap : Bool) (M gap : Rat) (line : List St) (size : Rat) :
    collectLines wrap M gap [] line size = if line.isEmpty then [] else [line.reverse] := by
  simp [collectLines]

theorem collect_cons_nil (wrap : Bool) (M gap : Rat) (c : St) (rest : List St) (size : Rat) :
    collectLines wrap M gap (c :: rest) [] size =
      if wrap && size + c.outerHyp + 0 > M then [c] :: collectLines wrap M gap rest [] 0
      else collectLines wrap M gap rest [c] (size + c.outerHyp + 0) := by
  simp [collectLines]

theorem collect_cons_cons (wrap : Bool) (M gap : Rat) (c : St) (rest : List St) (x : St)
    (xs : List St) (size : Rat) :
    collectLines wrap M gap (c :: rest) (x :: xs) size =
      if wrap && size + c.outerHyp + gap > M then
        (x :: xs).reverse :: collectLines wrap M gap rest [c] c.outerHyp
      else collectLines wrap M gap rest (c :: x :: xs) (size + c.outerHyp + gap) := by
  simp [collectLines]

/-- `lines` (a): the lines are a partition of the items, in order. -/
theorem lines_flatten (wrap : Bool) (M gap : Rat) (items line : List St) (size : Rat) :
    (collectLines wrap M gap items line size).flatten = line.reverse ++ items := by
  fun_induction collectLines wrap M gap items line size <;> simp_all

/-- `lines` (b): no line is empty. -/
theorem lines_nonempty (wrap : Bool) (M gap : Rat) (items line : List St) (size : Rat) :
    ∀ l ∈ collectLines wrap M gap items line size, l ≠ [] := by
  fun_induction collectLines wrap M gap items line size with
  | case1 => simp
  | case2 line _ hne => simpa using hne
  | case3 c rest line size s hgt he ih => exact List.forall_mem_cons.mpr ⟨by simp, ih⟩
  | case4 c rest line size s hgt hne ih => exact List.forall_mem_cons.mpr ⟨by simpa using hne, ih⟩
  | case5 c rest line size s hle ih => exact ih

/-- `lines` (c): with wrapping, every line of at least two items fits:
`Σ hypothetical outer sizes + gaps ≤ main size` (a single item may overflow). -/
theorem lines_fit (M gap : Rat) (items line : List St) (size : Rat)
    (hinv : size = lineSize gap line.reverse) (hfit : line.length ≥ 2 → size ≤ M) :
    ∀ l ∈ collectLines true M gap items line size, l.length ≥ 2 → lineSize gap l ≤ M := by
  fun_induction collectLines true M gap items line size with
  | case1 => simp
  | case2 line size hne =>
    intro l hl hlen
    obtain rfl := List.mem_singleton.mp hl
    rw [← hinv]
    exact hfit (by simpa using hlen)
  | case3 c rest line size s hgt he ih =>
    intro l hl hlen
    rcases List.mem_cons.mp hl with rfl | hl
    · simp at hlen
    · exact ih (by simp [lineSize]) (by simp) l hl hlen
  | case4 c rest line size s hgt hne ih =>
    intro l hl hlen
    rcases List.mem_cons.mp hl with rfl | hl
    · rw [← hinv]
      exact hfit (by simpa using hlen)
    · exact ih (by simp [lineSize]) (by simp) l hl hlen
  | case5 c rest line size s hle ih =>
    refine ih (inv_push gap line size c hinv) fun _ => ?_
    simp only [Bool.true_and, decide_eq_true_eq] at hle
    exact Rat.not_lt.mp hle

/-- `lines` (c) for the whole step. -/
theorem lines_fit_all (M gap : Rat) (items : List St) :
    ∀ l ∈ collectLines true M gap items [] 0, l.length ≥ 2 → lineSize gap l ≤ M :=
  lines_fit M gap items [] 0 (by simp [lineSize]) (by simp)

/-- `lines` (e): without wrapping there is at most one line, holding all the items. -/
theorem lines_nowrap (M gap : Rat) (items line : List St) (size : Rat) :
    collectLines false M gap items line size =
      if (line.reverse ++ items).isEmpty then [] else [line.reverse ++ items] := by
  fun_induction collectLines false M gap items line size <;> simp_all

/-- consecutive lines: the first item of the next line would not have fitted on the previous one -/
def Maximal (M gap : Rat) : List (List St) → Prop
  | [] => True
  | [_] => True
  | l1 :: l2 :: rest => (∃ c t, l2 = c :: t ∧ lineSize gap (l1 ++ [c]) > M) ∧ Maximal M gap (l2 :: rest)

/-- the first line begins with what was being collected, then the next item -/
private theorem collect_first {M gap : Rat} {items line : List St} {size : Rat} {l : List St} {r : List (List St)}
    (h : collectLines true M gap items line size = l :: r) {c : St} {n : List St}
    (hc : line.reverse ++ items = c :: n) : ∃ t, l = c :: t := by
  have hf := lines_flatten true M gap items line size
  rw [h, List.flatten_cons, hc] at hf
  cases l with
  | nil => exact absurd rfl (lines_nonempty true M gap items line size [] (h ▸ List.mem_cons_self))
  | cons a t => exact ⟨t, by rw [(List.cons.inj hf).1]⟩

/-- `lines` (d): with wrapping, a line ends only when the next item would not fit:
`line_size + gap + hypothetical outer size of the next item > main size`
(the hypothesis on `gap + outerHyp`: gaps and outer sizes are not so negative that an item following an overflowing one would fit beside it). -/
theorem lines_maximal (M gap : Rat) :
    ∀ (items line : List St) (size : Rat),
      (∀ s ∈ items, 0 ≤ gap + s.outerHyp) →
      size = lineSize gap line.reverse →
      Maximal M gap (collectLines true M gap items line size) := by
  intro items line size hpos hinv
  fun_induction collectLines true M gap items line size with
  | case1 => trivial
  | case2 => trivial
  | case3 c rest line size s hgt he ih =>
    have ihr := ih (fun s hs => hpos s (List.mem_cons_of_mem _ hs)) (by simp [lineSize])
    cases hR : collectLines true M gap rest [] 0 with
    | nil => trivial
    | cons l2 r =>
      cases rest with
      | nil => simp [collectLines] at hR
      | cons c' rest' =>
        obtain ⟨t, rfl⟩ := collect_first hR (c := c') rfl
        rw [hR] at ihr
        refine ⟨⟨c', t, rfl, ?_⟩, ihr⟩
        obtain rfl := List.isEmpty_iff.mp he
        have hsize : size = 0 := by simpa [lineSize] using hinv
        have h1 : size + c.outerHyp + 0 > M := by simpa [s] using hgt
        have h2 := hpos c' (by simp)
        simp only [List.singleton_append, lineSize]
        grind
  | case4 c rest line size s hgt hne ih =>
    have ihr := ih (fun s hs => hpos s (List.mem_cons_of_mem _ hs)) (by simp [lineSize])
    cases hR : collectLines true M gap rest [c] c.outerHyp with
    | nil => exact absurd (hR ▸ lines_flatten true M gap rest [c] c.outerHyp) (by simp)
    | cons l2 r =>
      obtain ⟨t, rfl⟩ := collect_first hR (c := c) rfl
      rw [hR] at ihr
      refine ⟨⟨c, t, rfl, ?_⟩, ihr⟩
      have hne' : line.reverse ≠ [] := by simpa using hne
      rw [lineSize_append_single gap _ c hne', ← hinv]
      have h1 : size + c.outerHyp + gap > M := by simpa [s, hne] using hgt
      grind
  | case5 c rest line size s hle ih =>
    exact ih (fun s hs => hpos s (List.mem_cons_of_mem _ hs)) (inv_push gap line size c hinv)

/-! ## Flex: 9.7 terminates -/

def unfrozenCount (line : List St) : Nat := (line.filter (fun s => !s.frozen)).length

theorem count_cons (x : St) (xs : List St) :
    unfrozenCount (x :: xs) = (if x.frozen then 0 else 1) + unfrozenCount xs := by
  unfold unfrozenCount
  cases hx : x.frozen <;> simp [hx] <;> omega

private theorem fixMinMax_frozen (row : Bool) (s : St) : (fixMinMax row s).frozen = s.frozen := by
  rw [fixMinMax_eq]

private theorem fixMinMax_adj_ne (row : Bool) (s : St) (h : (fixMinMax row s).adj ≠ 0) : s.frozen = false := by
  unfold fixMinMax at h
  split at h
  · simp at h
  · rename_i hf; simpa using hf

private theorem count_map_lt (g : St → St) (hg : ∀ s, s.frozen = true → (g s).frozen = true) (l : List St)
    (h : ∃ s ∈ l, s.frozen = false ∧ (g s).frozen = true) : unfrozenCount (l.map g) < unfrozenCount l := by
  obtain ⟨s, hs, hsf, hgs⟩ := h
  unfold unfrozenCount
  rw [List.filter_map, List.length_map]
  refine List.length_filter_lt_of_imp (fun t _ ht => ?_) hs (by rw [hsf]; rfl) (by simp [hgs])
  cases hf : t.frozen
  · rfl
  · simp [hg t hf] at ht

private theorem count_of_flags (l l' : List St) (h : l'.map (·.frozen) = l.map (·.frozen)) :
    unfrozenCount l' = unfrozenCount l := by
  have key : ∀ l : List St, unfrozenCount l = ((l.map (·.frozen)).filter (!·)).length := fun l => by
    rw [List.filter_map, List.length_map]; rfl
  rw [key, key, h]

private theorem count_zero_of_all (l : List St) (h : ∀ s ∈ l, s.frozen = true) : unfrozenCount l = 0 := by
  unfold unfrozenCount
  rw [List.length_eq_zero_iff, List.filter_eq_nil_iff]
  intro s hs
  simp [h s hs]

private theorem count_pos_of_not_all (l : List St) (h : allFrozen l = false) : unfrozenCount l > 0 := by
  have ⟨s, hs, hf⟩ : ∃ s ∈ l, ¬ s.frozen = true := by simpa [allFrozen] using h
  exact List.length_pos_of_mem (List.mem_filter.mpr ⟨hs, by simpa using hf⟩)

/-- 9.7.5.d–e: if some item is not frozen, at least one more is frozen afterwards (total violation zero:
all of them; positive: the items with a min violation, and there is one; negative: the items with a max
violation, and there is one). -/
private theorem finishPass_count (row : Bool) (l : List St) (hpos : unfrozenCount l > 0) :
    unfrozenCount (finishPass row l) < unfrozenCount l := by
  unfold finishPass
  simp only []
  have hc1 : unfrozenCount (l.map (fixMinMax row)) = unfrozenCount l := by
    apply count_of_flags
    rw [List.map_map]
    apply List.map_congr_left
    intro s _; exact fixMinMax_frozen row s
  rw [← hc1] at hpos ⊢
  generalize hl2 : l.map (fixMinMax row) = l2 at hpos ⊢
  by_cases hz : sumBy St.adj l2 = 0
  · have : unfrozenCount (l2.map (freezeOne (sumBy St.adj l2))) = 0 := by
      apply count_zero_of_all
      intro s hs
      obtain ⟨y, _, rfl⟩ := List.mem_map.mp hs
      rw [hz]; exact freezeOne_zero y
    omega
  · -- some item has a violation of the sign of the total, and is frozen for it
    have key : ∃ x ∈ l2, x.adj ≠ 0 ∧ (freezeOne (sumBy St.adj l2) x).frozen = true := by
      by_cases hgt : sumBy St.adj l2 > 0
      · obtain ⟨x, hx, hxadj⟩ := sumBy_pos_exists _ _ hgt
        exact ⟨x, hx, by grind, by simp [freezeOne, hz, hgt, hxadj]⟩
      · have hlt : sumBy St.adj l2 < 0 := by grind
        obtain ⟨x, hx, hxadj⟩ := sumBy_neg_exists _ _ hlt
        exact ⟨x, hx, by grind, by simp [freezeOne, hz, hgt, hlt, hxadj]⟩
    obtain ⟨x, hx, hne, hfz⟩ := key
    apply count_map_lt _ (freezeOne_mono _)
    refine ⟨x, hx, ?_, hfz⟩
    rw [← hl2] at hx
    obtain ⟨y, _, rfl⟩ := List.mem_map.mp hx
    rw [fixMinMax_frozen]
    exact fixMinMax_adj_ne row y hne

/-- `flex_terminates`, one pass: as long as some item is not frozen, a pass of 9.7.5 freezes at
least one more item (and never unfreezes one). -/
theorem pass_freezes {row grow : Bool} {avail gap : Rat} {line line' : List St} {f f' : Rat}
    (hp : pass row grow avail gap line f = .ok (line', f')) (hnot : allFrozen line = false) :
    unfrozenCount line' < unfrozenCount line := by
  obtain ⟨l1, hdist, rfl, _⟩ := pass_ok hp
  have hc : unfrozenCount l1 = unfrozenCount line :=
    count_of_flags _ _ ((distribute_rel hdist).map_eq (·.frozen) (·.frozen) fun _ _ h => by rw [h.1])
  have hpos := count_pos_of_not_all line hnot
  rw [← hc] at hpos ⊢
  exact finishPass_count row l1 hpos

/-- `flex_terminates`: the `while` loop of 9.7.5 ends within one pass per unfrozen item; the model
never reports non-termination when given that much fuel (`resolveLine` gives `line.length`). -/
theorem flex_terminates (row grow : Bool) (avail gap : Rat) :
    ∀ (fuel : Nat) (line : List St) (f : Rat), unfrozenCount line ≤ fuel →
      ∀ site, loop row grow avail gap fuel line f ≠ .error (.recursion site) := by
  intro fuel line f hc site h
  fun_induction loop row grow avail gap fuel line f with
  | case1 => cases h
  | case2 line f hall => have := count_pos_of_not_all line (Bool.not_eq_true _ ▸ hall); omega
  | case3 line f hall fuel e hp =>
    obtain ⟨s', rfl⟩ := pass_error hp
    cases h
  | case4 line f hall fuel l f1 hp ih =>
    have := pass_freezes hp (Bool.not_eq_true _ ▸ hall)
    exact ih (by omega) h

theorem resolveLine_terminates (row : Bool) (avail gap : Rat) (line : List St) (site : String) :
    resolveLine row avail gap line ≠ .error (.recursion site) := by
  unfold resolveLine
  simp only []
  intro h
  split at h
  · rename_i e he
    cases h
    exact flex_terminates row _ avail gap _ _ _ (List.length_filter_le _ _) site he
  · cases h

/-! ## Flex: 9.7 fills the line -/

/-- The share of the free space `R` that 9.7.5.c gives to an unfrozen item. -/
def share (grow : Bool) (R gsum ssum : Rat) (s : St) : Rat :=
  if grow then s.base + R * (s.it.grow / gsum) else s.base + R * (s.base * s.it.shrink / ssum)

/-- The item is "not stopped by min/max": 9.7.5.d leaves `t` unchanged. -/
def NotClamped (row : Bool) (s : St) (t : Rat) : Prop :=
  clamp (s.minMain row) t (s.maxMain row) = t

/-- state of an item after 9.7.5.c (proportional share) and 9.7.5.d (clamp, signed adjustment) -/
def afterCD (row grow : Bool) (R gsum ssum : Rat) (s : St) : St :=
  fixMinMax row (if s.frozen then s else { s with target := share grow R gsum ssum s })

/-- the size an item has once it is frozen -/
def finalMain (s : St) : Rat := s.target + s.extra

/-- `Σ (target + extra)` after 9.7.5.c–d = `Σ usedMain` before + `R · Σ ratio` + `Σ adjustments`. -/
private theorem sum_afterCD (row grow : Bool) (R gsum ssum : Rat) (line : List St) :
    sumBy finalMain (line.map (afterCD row grow R gsum ssum)) =
      sumBy St.usedMain line +
        R * (if grow then sumBy (fun s => if s.frozen then 0 else s.it.grow) line / gsum
             else sumBy (fun s => if s.frozen then 0 else s.base * s.it.shrink) line / ssum) +
        sumBy St.adj (line.map (afterCD row grow R gsum ssum)) := by
  rw [sumBy_map, sumBy_map]
  have : ∀ s : St, finalMain (afterCD row grow R gsum ssum s) = (s.usedMain +
      R * (if grow then (if s.frozen then 0 else s.it.grow) / gsum
           else (if s.frozen then 0 else s.base * s.it.shrink) / ssum)) + (afterCD row grow R gsum ssum s).adj := by
    intro s
    unfold afterCD fixMinMax St.usedMain finalMain share
    cases hf : s.frozen <;> cases grow <;> simp [hf] <;> grind
  rw [sumBy_congr (fun s _ => this s), sumBy_add, sumBy_add, sumBy_mul]
  cases grow
  · simp only [Bool.false_eq_true, if_false]; rw [sumBy_div]
  · simp only [if_true]; rw [sumBy_div]

private theorem freezeOne_fields (a : Rat) (s : St) :
    (freezeOne a s).target = s.target ∧ (freezeOne a s).extra = s.extra ∧ (freezeOne a s).adj = s.adj := by
  rw [freezeOne_eq]; exact ⟨rfl, rfl, rfl⟩

/-- 9.7.5.c when the denominators are non-zero: every unfrozen item gets its proportional share -/
private theorem distribute_shares (grow : Bool) (R : Rat) (line : List St)
    (hg : grow = true → growSum line ≠ 0) (hden : grow = false → scaledShrinkSum line ≠ 0) :
    distribute grow R line = .ok (line.map fun s =>
      if s.frozen then s else { s with target := share grow R (growSum line) (scaledShrinkSum line) s }) := by
  unfold distribute
  by_cases h0 : (R == 0) = true
  · have hR0 : R = 0 := by simpa using h0
    rw [if_pos h0]
    congr 1
    apply List.map_congr_left
    intro s _
    cases hf : s.frozen <;> cases grow <;> simp [setBase, share, hR0, hf, Rat.zero_mul, Rat.add_zero]
  · rw [if_neg h0]
    apply mapExcept_ok
    intro s _
    cases hf : s.frozen
    · cases hgrow : grow
      · simp [distributeOne, hf, share, hden hgrow]
      · simp [distributeOne, hf, share, hg hgrow]
    · simp [distributeOne, hf]

/-- in grow mode the grow factors of the unfrozen items sum to `unfrozenFactorSum` -/
theorem growSum_ne_zero {line : List St} (hfactor : ∀ s ∈ line, s.frozen = false → s.factor = s.it.grow)
    (hufs : unfrozenFactorSum line ≥ 1) : growSum line ≠ 0 := by
  intro h0
  have : growSum line = unfrozenFactorSum line :=
    sumBy_congr fun s hs => by
      cases hf : s.frozen
      · simp [hfactor s hs hf]
      · rfl
  rw [← this, h0] at hufs
  exact absurd hufs (by decide)

/-- `flex_fill`, one pass of 9.7.5 (full strength: no hypothesis on the min / max sizes): if the unfrozen
flex factors sum to at least 1 and the denominators of 9.7.5.c are non-zero, the pass succeeds and
  * when it freezes every item (in particular when the min and max violations cancel,
    `Σ adjustments = 0`), what is left of the available main size is exactly minus the total
    violation: `available − Σ target − Σ outer extra − (n − 1)·gap = − Σ adjustments`;
  * so with cancelling violations the items, margins and gaps exactly fill the line. -/
theorem flex_fill_pass_any (row grow : Bool) (avail gap : Rat) (line : List St) (f R : Rat)
    (hRdef : R = freeSpace avail gap line) (hmag : magLt (magnitude f) (magnitude R) = false)
    (hufs : unfrozenFactorSum line ≥ 1)
    (hg : grow = true → growSum line ≠ 0) (hden : grow = false → scaledShrinkSum line ≠ 0) :
    ∃ line', pass row grow avail gap line f = .ok (line', f) ∧
      (allFrozen line' = true → freeSpace avail gap line' = - sumBy St.adj line') ∧
      (sumBy St.adj line' = 0 → allFrozen line' = true ∧ freeSpace avail gap line' = 0) ∧
      line' = (line.map (afterCD row grow R (growSum line) (scaledShrinkSum line))).map
        (freezeOne (sumBy St.adj (line.map (afterCD row grow R (growSum line) (scaledShrinkSum line))))) := by
  have hR : remainingFree avail gap line f = (f, R) := by
    unfold remainingFree
    simp only [Rat.not_lt.mpr hufs, if_false, ← hRdef, hmag, Bool.false_eq_true]
  generalize hl2 : line.map (afterCD row grow R (growSum line) (scaledShrinkSum line)) = l2
  have hpass : pass row grow avail gap line f = .ok (l2.map (freezeOne (sumBy St.adj l2)), f) := by
    unfold pass
    rw [hR, distribute_shares grow R line hg hden]
    -- 9.7.5.d on the shares is `afterCD`
    have hfix : (line.map fun s => if s.frozen then s else
        { s with target := share grow R (growSum line) (scaledShrinkSum line) s }).map (fixMinMax row) = l2 := by
      rw [← hl2, List.map_map]; rfl
    simp only [finishPass, hfix]
  have hsumA : sumBy St.adj (l2.map (freezeOne (sumBy St.adj l2))) = sumBy St.adj l2 := by
    rw [sumBy_map]; exact sumBy_congr fun s _ => (freezeOne_fields _ s).2.2
  have hacc : allFrozen (l2.map (freezeOne (sumBy St.adj l2))) = true →
      freeSpace avail gap (l2.map (freezeOne (sumBy St.adj l2))) =
        - sumBy St.adj (l2.map (freezeOne (sumBy St.adj l2))) := by
    intro hall
    -- a frozen item counts with its target
    have hused : sumBy St.usedMain (l2.map (freezeOne (sumBy St.adj l2))) = sumBy finalMain l2 := by
      rw [sumBy_map]
      apply sumBy_congr
      intro s hs
      have hf : (freezeOne (sumBy St.adj l2) s).frozen = true :=
        List.all_eq_true.mp hall _ (List.mem_map_of_mem hs)
      simp [St.usedMain, finalMain, hf, (freezeOne_fields _ s).1, (freezeOne_fields _ s).2.1]
    unfold freeSpace
    rw [hused, hsumA, List.length_map, ← hl2, sum_afterCD, List.length_map]
    have hR' : R = avail - sumBy St.usedMain line - gap * ((line.length : Int) - 1 : Int) := hRdef
    cases hgrow : grow with
    | true =>
      have h1 : growSum line / growSum line = 1 := by have := hg hgrow; grind
      simp only [if_true]
      rw [show sumBy (fun s => if s.frozen then 0 else s.it.grow) line = growSum line from rfl, h1]
      grind
    | false =>
      have h1 : scaledShrinkSum line / scaledShrinkSum line = 1 := by have := hden hgrow; grind
      simp only [Bool.false_eq_true, if_false]
      rw [show sumBy (fun s => if s.frozen then 0 else s.base * s.it.shrink) line = scaledShrinkSum line from rfl, h1]
      grind
  refine ⟨l2.map (freezeOne (sumBy St.adj l2)), hpass, hacc, ?_, rfl⟩
  intro hz
  rw [hsumA] at hz
  have hall : allFrozen (l2.map (freezeOne (sumBy St.adj l2))) = true := by
    unfold allFrozen
    simp only [List.all_map, List.all_eq_true]
    intro s _
    simp only [Function.comp, hz]; exact freezeOne_zero s
  exact ⟨hall, by rw [hacc hall, hsumA, hz]; rfl⟩

/-- 9.7.3 sets the factor, and the target and frozen flag of the items it freezes -/
theorem sizeInflexible_eq (grow : Bool) (s : St) :
    sizeInflexible grow s =
      { s with target := (sizeInflexible grow s).target, frozen := (sizeInflexible grow s).frozen,
               factor := if grow then s.it.grow else s.it.shrink } := by
  fun_cases sizeInflexible grow s <;> rfl

private theorem magLt_irrefl (m : Option Int) : magLt m m = false := by
  cases m <;> simp [magLt]

private theorem freeSpace_setMain (row : Bool) (avail gap : Rat) (line : List St) :
    freeSpace avail gap (line.map fun s =>
      if row then { s with width := some s.target } else { s with height := some s.target }) = freeSpace avail gap line := by
  unfold freeSpace
  rw [List.length_map, sumBy_map]
  congr 2
  apply sumBy_congr
  intro s _
  cases row <;> simp [St.usedMain]

/-- if no unfrozen item is stopped by its min / max sizes at its share, the adjustments of the pass are all zero -/
private theorem adj_zero_of_notClamped (row grow : Bool) (R gsum ssum : Rat) (line : List St)
    (hclamp : ∀ s ∈ line, s.frozen = false → NotClamped row s (share grow R gsum ssum s)) :
    sumBy St.adj (line.map (afterCD row grow R gsum ssum)) = 0 := by
  apply sumBy_zero
  intro x hx
  obtain ⟨y, hy, rfl⟩ := List.mem_map.mp hx
  unfold afterCD fixMinMax
  cases hf : y.frozen with
  | true => simp [hf]
  | false =>
    have := hclamp y hy hf
    unfold NotClamped at this
    simp [hf, St.minMain, St.maxMain] at this ⊢
    simp [this]; grind

/-- `flex_fill`, single pass with explicit shares: on a line where some item can flex (`hnot`), the unfrozen
flex factors sum to at least 1 (`hufs`: otherwise only that fraction of the free space is distributed, and see
`Witness.C12.fractional_factor_sum`), the shrink denominators are non-zero (`hden`) and no flexing
item is stopped by its min / max sizes at its proportional share (`hclamp`), 9.7 ends after one pass with
`Σ target + Σ outer extra + (n − 1)·gap = available main size`; the shares are
`base + free·grow/Σgrow` resp. `base + free·(shrink·base)/Σ(shrink·base)`.
(When an item *is* stopped by its min / max size the freed space is redistributed by the next passes:
`flex_fill_all_passes`, and the regression examples of `Witness.C12`.) -/
theorem flex_fill_one_pass (row : Bool) (avail gap : Rat) (line : List St)
    (hnot : allFrozen (line.map (sizeInflexible (decide (lineHypSum gap line < avail)))) = false)
    (hufs : unfrozenFactorSum (line.map (sizeInflexible (decide (lineHypSum gap line < avail)))) ≥ 1)
    (hden : decide (lineHypSum gap line < avail) = false →
      scaledShrinkSum (line.map (sizeInflexible (decide (lineHypSum gap line < avail)))) ≠ 0)
    (hclamp : ∀ s ∈ line.map (sizeInflexible (decide (lineHypSum gap line < avail))), s.frozen = false →
      NotClamped row s (share (decide (lineHypSum gap line < avail))
        (freeSpace avail gap (line.map (sizeInflexible (decide (lineHypSum gap line < avail)))))
        (growSum (line.map (sizeInflexible (decide (lineHypSum gap line < avail)))))
        (scaledShrinkSum (line.map (sizeInflexible (decide (lineHypSum gap line < avail))))) s)) :
    ∃ res, resolveLine row avail gap line = .ok res ∧ allFrozen res = true ∧ freeSpace avail gap res = 0 := by
  generalize hgrow : decide (lineHypSum gap line < avail) = grow at *
  generalize hl0 : line.map (sizeInflexible grow) = l0 at *
  obtain ⟨line', hpass, _, hzero, hline'⟩ := flex_fill_pass_any row grow avail gap l0 _ (freeSpace avail gap l0) rfl
    (magLt_irrefl _) hufs
    (fun hg => growSum_ne_zero (fun s hs _ => by
      rw [← hl0] at hs
      obtain ⟨y, _, rfl⟩ := List.mem_map.mp hs
      rw [sizeInflexible_eq, if_pos hg]) hufs)
    hden
  have hadj : sumBy St.adj line' = 0 := by
    rw [hline', sumBy_map, ← adj_zero_of_notClamped row grow _ _ _ l0 hclamp]
    exact sumBy_congr fun s _ => (freezeOne_fields _ s).2.2
  obtain ⟨hall, hfree⟩ := hzero hadj
  refine ⟨line'.map fun s => if row then { s with width := some s.target } else { s with height := some s.target }, ?_, ?_, ?_⟩
  · unfold resolveLine
    simp only [hgrow, hl0]
    have hloop : loop row grow avail gap l0.length l0 (freeSpace avail gap l0) = .ok line' := by
      cases hn : l0.length with
      | zero => rw [List.eq_nil_of_length_eq_zero hn] at hnot; cases hnot
      | succ n => rw [loop_succ_ok hnot hpass, loop_of_allFrozen hall]
    rw [hloop]
  · unfold allFrozen at *
    simp only [List.all_map, List.all_eq_true] at *
    intro s hs
    have := hall s hs
    cases row <;> simpa using this
  · rw [freeSpace_setMain]; exact hfree

/-! ## Flex: 9.7 fills the line whatever the number of passes -/

/-- A run of the loop that starts unfrozen and ends frozen ends with a pass from an unfrozen line. -/
theorem reach_last_pass {row grow : Bool} {avail gap : Rat} {l res : List St} {f f2 : Rat}
    (hr : Reach row grow avail gap l f res f2) (hnot : allFrozen l = false) (hall : allFrozen res = true) :
    ∃ l' f', Reach row grow avail gap l f l' f' ∧ allFrozen l' = false ∧
      pass row grow avail gap l' f' = .ok (res, f2) := by
  induction hr with
  | refl => rw [hnot] at hall; cases hall
  | @step l l1 l2 f f1 f2 hn hp h ih =>
    cases h1 : allFrozen l1 with
    | true =>
      cases h with
      | refl => exact ⟨l, f, .refl _ _, hn, hp⟩
      | step hn' _ _ => rw [h1] at hn'; cases hn'
    | false =>
      obtain ⟨l', f', hr', hn', hp'⟩ := ih h1 hall
      exact ⟨l', f', .step hn hp hr', hn', hp'⟩

/-- `flex_fill` for every number of passes, full strength (no hypothesis on min / max sizes): run the 9.7.5 loop
on a line prepared by 9.7.3. However many passes freeze items on their minimum or maximum main size (9.7.5.d–e:
the space they free or take is redistributed by the following passes), if the pass that freezes the last items
(the one from `(l', f')` to `res`) distributes the whole free space (factor sum ≥ 1, magnitude test inactive,
non-zero denominators), then what is left of the available main size is exactly minus the total violation of that
last pass:
`available − Σ target − Σ outer extra − (n − 1)·gap = − Σ adjustments`.  In particular the line is exactly filled
when the last violations cancel (`flex_fill_exact`); otherwise every item still flexing was stopped by its
minimum (overflow) or its maximum (space left), which is what css-flexbox 9.7 prescribes. -/
theorem flex_fill_all_passes (row grow : Bool) (avail gap : Rat) (fuel : Nat) (line res : List St) (f : Rat)
    (hloop : loop row grow avail gap fuel line f = .ok res) (hnot : allFrozen line = false) :
    ∃ l' f', Reach row grow avail gap line f l' f' ∧ allFrozen l' = false ∧
      (∃ f2, pass row grow avail gap l' f' = .ok (res, f2)) ∧
      (magLt (magnitude f') (magnitude (freeSpace avail gap l')) = false →
       unfrozenFactorSum l' ≥ 1 →
       (grow = true → growSum l' ≠ 0) →
       (grow = false → scaledShrinkSum l' ≠ 0) →
       allFrozen res = true ∧ freeSpace avail gap res = - sumBy St.adj res) := by
  obtain ⟨hall, f2, hr0⟩ := loop_reach hloop
  obtain ⟨l', f', hr, hn', hp'⟩ := reach_last_pass hr0 hnot hall
  refine ⟨l', f', hr, hn', ⟨f2, hp'⟩, ?_⟩
  intro hmag hufs hg hden
  obtain ⟨line', hp, hacc, _⟩ := flex_fill_pass_any row grow avail gap l' f' _ rfl hmag hufs hg hden
  rw [hp'] at hp
  cases hp
  exact ⟨hall, hacc hall⟩

/-- `flex_fill`, exact: when the violations in the result cancel (`hcancel`; in particular when no item of the last
pass is stopped by its min / max size), there is a state `(l', f')` reachable from the start line and not all
frozen such that, if the three side conditions of `flex_fill_all_passes` hold of it, the items, their margins,
borders, paddings and the gaps exactly fill the container's main size.  The statement does not say which state
`(l', f')` is: that it is the one before the last pass (`pass … l' f' = .ok (res, _)`) is the extra conjunct of
`flex_fill_all_passes`, which is the statement to use. -/
theorem flex_fill_exact (row grow : Bool) (avail gap : Rat) (fuel : Nat) (line res : List St) (f : Rat)
    (hfactor : ∀ s ∈ line, s.factor = if grow then s.it.grow else s.it.shrink)
    (hloop : loop row grow avail gap fuel line f = .ok res) (hnot : allFrozen line = false)
    (hcancel : sumBy St.adj res = 0) :
    ∃ l' f', Reach row grow avail gap line f l' f' ∧ allFrozen l' = false ∧
      (magLt (magnitude f') (magnitude (freeSpace avail gap l')) = false →
       unfrozenFactorSum l' ≥ 1 →
       (grow = false → scaledShrinkSum l' ≠ 0) →
       freeSpace avail gap res = 0) := by
  obtain ⟨l', f', hr, hn', _, h⟩ := flex_fill_all_passes row grow avail gap fuel line res f hloop hnot
  refine ⟨l', f', hr, hn', ?_⟩
  intro hmag hufs hden
  -- the factor chosen in 9.7.3 is kept by every pass
  have hfac := reach_forall_fixed (fun s => s.factor = if grow then s.it.grow else s.it.shrink) (fun _ => Iff.rfl) hr
    hfactor
  have := (h hmag hufs (fun hg => growSum_ne_zero (fun s hs _ => by rw [hfac s hs, if_pos hg]) hufs) hden).2
  rw [this, hcancel]; rfl

/-! ## Flex: targets stay within the min / max main sizes -/

/-- the target main size respects the item's min / max main sizes (the maximum when it is not below the minimum,
the minimum wins otherwise: css-flexbox 9.7.5.d "clamped by its used min and max main sizes") -/
def MainBounded (row : Bool) (s : St) : Prop :=
  s.minMain row ≤ s.target ∧ ∀ m, s.maxMain row = some m → s.minMain row ≤ m → s.target ≤ m

/-- the same for the hypothetical main size (what step 3 computes) -/
def HypBounded (row : Bool) (s : St) : Prop :=
  s.minMain row ≤ s.hyp ∧ ∀ m, s.maxMain row = some m → s.minMain row ≤ m → s.hyp ≤ m

private theorem clamp_bounds (mn x : Rat) (mx : Option Rat) :
    mn ≤ clamp mn x mx ∧ ∀ m, mx = some m → mn ≤ m → clamp mn x mx ≤ m := by
  unfold clamp
  constructor
  · exact Rat.le_max_left _ _
  · intro m hm hle
    subst hm
    simp only [capMax]
    rw [Rat.max_def, Rat.min_def]; split <;> (try split) <;> grind

private theorem bounded_congr (row : Bool) (a b : St) (hit : b.it = a.it) (ht : b.target = a.target) :
    MainBounded row a → MainBounded row b := by
  unfold MainBounded St.minMain St.maxMain
  rw [hit, ht]
  exact id

/-- one pass of 9.7.5 leaves every target within the min / max main sizes, provided the items that were already
frozen are. -/
theorem pass_bounded {row grow : Bool} {avail gap : Rat} {line line' : List St} {f f' : Rat}
    (hp : pass row grow avail gap line f = .ok (line', f'))
    (hinv : ∀ s ∈ line, s.frozen = true → MainBounded row s) : ∀ s ∈ line', MainBounded row s := by
  obtain ⟨l1, hdist, rfl, _⟩ := pass_ok hp
  intro s hs
  unfold finishPass at hs
  obtain ⟨y2, hy2, rfl⟩ := List.mem_map.mp hs
  obtain ⟨y, hy, rfl⟩ := List.mem_map.mp hy2
  obtain ⟨x, hx, hxy⟩ := (distribute_rel hdist).mem_right y hy
  apply bounded_congr row (fixMinMax row y) _ (by rw [freezeOne_eq]) (by rw [freezeOne_eq])
  unfold fixMinMax
  by_cases hf : y.frozen = true
  · rw [if_pos hf]
    have hxf : x.frozen = true := by rw [hxy.1] at hf; exact hf
    rw [hxy.2 hxf]
    exact hinv x hx hxf
  · rw [if_neg hf]
    exact clamp_bounds (y.minMain row) y.target (y.maxMain row)

private theorem sizeInflexible_inv (grow row : Bool) (u : St) (h : HypBounded row u)
    (hfr : (sizeInflexible grow u).frozen = true) : MainBounded row (sizeInflexible grow u) := by
  revert hfr
  fun_cases sizeInflexible grow u <;> intro hfr <;> first | exact h | cases hfr

/-- the items frozen so far stay within their bounds through any number of passes -/
theorem reach_bounded {row grow : Bool} {avail gap : Rat} {l l' : List St} {f f' : Rat}
    (hr : Reach row grow avail gap l f l' f') (hinv : ∀ s ∈ l, s.frozen = true → MainBounded row s) :
    ∀ s ∈ l', s.frozen = true → MainBounded row s := by
  induction hr with
  | refl => exact hinv
  | step _ hp _ ih => exact ih fun s hs _ => pass_bounded hp hinv s hs

/-- `flex_fill`, "within min / max sizes" (full strength, any number of passes): whatever 9.7 does on a line whose
hypothetical main sizes respect the min / max main sizes (what step 3 computes: `initSt_hypBounded`), every used
main size it returns is at least the item's minimum, and at most its maximum when that is not below the minimum. -/
theorem flex_within_minmax (row : Bool) (avail gap : Rat) (line res : List St)
    (hhyp : ∀ s ∈ line, HypBounded row s) (h : resolveLine row avail gap line = .ok res) :
    ∀ s ∈ res, MainBounded row s := by
  obtain ⟨_, l, _, f', hr, hall, rfl⟩ := resolveLine_ok h
  intro s hs
  obtain ⟨y, hy, rfl⟩ := List.mem_map.mp hs
  have := reach_bounded hr (by
    intro t ht hfr
    obtain ⟨u, hu, rfl⟩ := List.mem_map.mp ht
    exact sizeInflexible_inv _ row u (hhyp u hu) hfr) y hy (List.all_eq_true.mp hall y hy)
  cases row
  · exact bounded_congr false y _ rfl rfl this
  · exact bounded_congr true y _ rfl rfl this

/-- step 3 gives hypothetical main sizes within the min / max main sizes -/
theorem initSt_hypBounded (row : Bool) (i : Item) (px py : Rat) : HypBounded row (initSt row i px py) := by
  have h := clamp_bounds (if row then i.minW else i.minH)
    (initSt row i px py).base (if row then i.sMaxW else i.sMaxH)
  unfold HypBounded St.minMain St.maxMain
  have e1 : (initSt row i px py).it = i := by unfold initSt; simp only []
  have e2 : (initSt row i px py).hyp = clamp (if row then i.minW else i.minH) (initSt row i px py).base
      (if row then i.sMaxW else i.sMaxH) := by unfold initSt; simp only []
  rw [e1, e2]
  exact ⟨h.1, h.2⟩

/-- what holds of every state `initSt` builds holds of every item state produced by step 3 -/
theorem step3_forall (row : Bool) (P : St → Prop) (h : ∀ i px py, P (initSt row i px py)) :
    ∀ (items : List Item) (px py : Rat), ∀ s ∈ step3 row items px py, P s := by
  intro items
  induction items with
  | nil => intro px py s hs; cases hs
  | cons i rest ih =>
    intro px py s hs
    unfold step3 at hs
    rcases List.mem_cons.mp hs with rfl | hs
    · exact h i px py
    · split at hs <;> exact ih _ _ s hs

/-- `flex_within_minmax` on the step-3 states of a child list taken as one line.  `layout` passes exactly such a list
to 9.7 only as the first collected line of a non-reversed container (the items of a later line keep their step-3
positions, a reversed line is reversed); every line is covered by `flex_within_minmax` with `step3_forall` and
`lines_flatten`. -/
theorem flex_within_minmax_layout (row : Bool) (items : List Item) (avail gap : Rat) (res : List St)
    (h : resolveLine row avail gap (step3 row items 0 0) = .ok res) : ∀ s ∈ res, MainBounded row s :=
  flex_within_minmax row avail gap _ res (step3_forall row _ (initSt_hypBounded row) items 0 0) h

/-! ## Flex: what 9.7 leaves is what step 12 sees (9.7 ↔ step 12 refinement) -/

/-- `main_outer_extra` is exactly what the border box adds to the main size plus the non-auto main margins
(true of every step-3 state, `initSt_frameOk`: flex.py counts the paddings there, /repo commit b901ca9) -/
def FrameOk (row : Bool) (s : St) : Prop :=
  s.extra = if row then s.it.pl + s.it.pr + s.it.bl + s.it.br + lenOr0 s.ml + lenOr0 s.mr
            else s.it.pt + s.it.pb + s.it.bt + s.it.bb + lenOr0 s.mt + lenOr0 s.mb

theorem initSt_frameOk (row : Bool) (i : Item) (px py : Rat) : FrameOk row (initSt row i px py) := by
  unfold FrameOk initSt
  cases row <;> cases usedBasis _ i <;> simp <;> grind

/-- 9.7 ↔ step 12: on the line returned by 9.7 (`resolveLine`), the free space that step 12 computes from the
border boxes, non-auto margins and gaps (`lineFree`) is the free space that 9.7 accounted for (`freeSpace`), as soon
as `main_outer_extra` is what the border box and margins add (`FrameOk`, true of every step-3 state).  So a line
that 9.7 fills exactly (`flex_fill_exact`) leaves nothing to `justify-content`, and a line it could not fill leaves
exactly minus the total violation (`flex_fill_all_passes`). -/
theorem lineFree_eq_freeSpace (row : Bool) (avail gap : Rat) (line res : List St)
    (hfr : ∀ s ∈ line, FrameOk row s) (h : resolveLine row avail gap line = .ok res) :
    lineFree row avail gap res = freeSpace avail gap res := by
  obtain ⟨_, l, _, f', hr, hall, rfl⟩ := resolveLine_ok h
  -- `FrameOk` speaks of what neither 9.7.3 nor a pass touches
  have hok : ∀ y ∈ l, FrameOk row y :=
    reach_forall_fixed (FrameOk row) (fun _ => Iff.rfl) hr (by
      intro t ht
      obtain ⟨u, hu, rfl⟩ := List.mem_map.mp ht
      rw [sizeInflexible_eq]
      exact hfr u hu)
  unfold lineFree freeSpace
  rw [List.length_map, sumBy_map, sumBy_map]
  congr 2
  apply sumBy_congr
  intro y hy
  have hyf : y.frozen = true := (List.all_eq_true.mp hall) y hy
  have hyfr := hok y hy
  unfold FrameOk at hyfr
  cases row
  · simp only [Bool.false_eq_true, if_false] at hyfr ⊢
    simp [St.outerMainNonAuto, St.borderHeight, St.usedMain, lenOr0, hyf, hyfr]
    grind
  · simp only [if_true] at hyfr ⊢
    simp [St.outerMainNonAuto, St.borderWidth, St.usedMain, lenOr0, hyf, hyfr]
    grind

/-- steps 7 and 11 only touch the cross axis: the free space of step 12 is not affected by them -/
theorem lineFree_cross_steps (row : Bool) (alignItems : Align) (cross mainSize gap : Rat) (line : List St) :
    lineFree row mainSize gap ((line.map (step7 row)).map (step11 row alignItems cross)) =
      lineFree row mainSize gap line := by
  unfold lineFree
  rw [List.length_map, List.length_map, sumBy_map, sumBy_map]
  congr 2
  apply sumBy_congr
  intro s _
  have h7 : (step7 row s).outerMainNonAuto row = s.outerMainNonAuto row := by
    unfold step7 St.outerMainNonAuto St.borderWidth St.borderHeight
    cases row
    · simp only [Bool.false_eq_true, if_false]
      split <;> rfl
    · simp only [if_true]
  have h11 : ∀ t : St, (step11 row alignItems cross t).outerMainNonAuto row = t.outerMainNonAuto row := by
    intro t
    unfold step11 St.outerMainNonAuto St.borderWidth St.borderHeight
    cases row
    · simp only [Bool.false_eq_true, if_false]
      split
      · split <;> rfl
      · rfl
    · simp only [if_true]
      split
      · split <;> rfl
      · rfl
  rw [h11, h7]

/-- `flex_fill`, document level: on the step-3 states of a child list taken as one line (the first collected line of a
non-reversed container; any line whose items satisfy `FrameOk`: `lineFree_eq_freeSpace`) that 9.7 fills exactly,
step 12 finds no free space left: items, paddings, borders, margins and gaps fill the container's main size. -/
theorem flex_line_fills_main (row : Bool) (alignItems : Align) (cross avail gap : Rat) (items : List Item)
    (res : List St) (h : resolveLine row avail gap (step3 row items 0 0) = .ok res)
    (hfill : freeSpace avail gap res = 0) :
    lineFree row avail gap ((res.map (step7 row)).map (step11 row alignItems cross)) = 0 := by
  rw [lineFree_cross_steps, lineFree_eq_freeSpace row avail gap _ res ?_ h, hfill]
  intro s hs
  exact step3_forall row (FrameOk row) (initSt_frameOk row) items 0 0 s hs

/-! ## Flex: step 12, justify-content and auto margins -/

def mainPos (row : Bool) (s : St) : Rat := if row then s.posX else s.posY
def marginMain (row : Bool) (s : St) : Rat := if row then s.marginWidth else s.marginHeight

/-- positions given by the recurrence "next = this + margin box + between + gap" -/
def chainFrom (row : Bool) (step : Rat) : List St → Rat → List Rat
  | [], _ => []
  | s :: rest, p => p :: chainFrom row step rest (p + marginMain row s + step)

private theorem placeMain_noStretch (row : Bool) (j : Justify) (free gap growths : Rat) (n : Nat)
    (hj : (j == .stretch && growths != 0) = false) :
    ∀ (line : List St) (pos : Rat) (first : Bool),
      (placeMain row j free gap growths n line pos first).map (mainPos row) =
        chainFrom row (justifyBetween j free n + gap) line (if first then pos else pos + gap) := by
  intro line
  induction line with
  | nil => intro pos first; rfl
  | cons s rest ih =>
    intro pos first
    unfold placeMain
    simp only [hj, Bool.false_eq_true, if_false, List.map_cons, chainFrom, ih]
    cases row
    · simp only [mainPos, marginMain, St.marginHeight, St.borderHeight, Bool.false_eq_true, if_false]
      congr 2; grind
    · simp only [mainPos, marginMain, St.marginWidth, St.borderWidth, if_true]
      congr 2; grind

/-- free space left after the last item -/
def justifyEnd (j : Justify) (free : Rat) (n : Nat) : Rat :=
  match j with
  | .«end» | .flexEnd | .right => 0
  | .center => free / 2
  | .spaceAround => free / n / 2
  | .spaceEvenly => free / (n + 1 : Nat)
  | .spaceBetween => if n > 1 then 0 else free
  | _ => free

/-- flex step 12: the keyword table of `justify-content` read off `Rat.share_around/_evenly/_between` -/
theorem justify_split (j : Justify) (free : Rat) (m : Nat) :
    justifyStart j free (m + 1) + (m : Rat) * justifyBetween j free (m + 1) + justifyEnd j free (m + 1) = free := by
  have packed_start : (0 : Rat) + (m : Rat) * 0 + free = free := by grind
  have packed_end : free + (m : Rat) * 0 + 0 = free := by grind
  cases j with
  | stretch | normal | flexStart | start | left => exact packed_start
  | flexEnd | «end» | right => exact packed_end
  | center => simp only [justifyStart, justifyBetween, justifyEnd]; grind
  | spaceAround => exact Rat.share_around free m
  | spaceEvenly => exact Rat.share_evenly free m
  | spaceBetween =>
    simp only [justifyStart, justifyBetween, justifyEnd]
    cases m with
    | zero => simp; grind
    | succ k =>
      simp only [show k + 1 + 1 > 1 by omega, if_true, Nat.add_sub_cancel]
      have := Rat.share_between free k
      grind

/-- end of the margin box of the last item of a chain starting at `p` -/
def chainEnd (row : Bool) (step : Rat) : List St → Rat → Rat
  | [], p => p
  | [s], p => p + marginMain row s
  | s :: rest, p => chainEnd row step rest (p + marginMain row s + step)

private theorem chainEnd_eq (row : Bool) (step : Rat) (s : St) (rest : List St) (p : Rat) :
    chainEnd row step (s :: rest) p = p + sumBy (marginMain row) (s :: rest) + (rest.length : Rat) * step := by
  induction rest generalizing s p with
  | nil => simp [chainEnd, sumBy]; grind
  | cons t ts ih =>
    simp only [chainEnd]
    rw [ih]
    simp only [sumBy, List.length_cons]
    push_cast
    grind

private theorem marginMain_eq_outer (row : Bool) (s : St) : marginMain row s = s.outerMainNonAuto row := by
  cases row <;> simp [marginMain, St.outerMainNonAuto, St.marginWidth, St.marginHeight]

/-- `justify`: without auto margins (and outside the `stretch` quirk) the items of a line are placed
one after the other from `justifyStart`, consecutive margin boxes separated by the gap plus the
`justify-content` share, and what is left after the last one is `justifyEnd`: together they fill
the main size exactly. -/
theorem justify (c : Container) (mainSize growths : Rat) (s : St) (rest : List St)
    (hauto : countAutoMain c.row (s :: rest) = 0)
    (hst : (effectiveJustify c.reverse c.justify == .stretch && growths != 0) = false) :
    let j := effectiveJustify c.reverse c.justify
    let line := s :: rest
    let free := lineFree c.row mainSize c.mainGap line
    let step := justifyBetween j free line.length + c.mainGap
    (step12 c mainSize growths line).map (mainPos c.row) = chainFrom c.row step line (justifyStart j free line.length) ∧
    chainEnd c.row step line (justifyStart j free line.length) + justifyEnd j free line.length = mainSize := by
  intro j line free step
  constructor
  · unfold step12
    have hauto' : countAutoMain c.row line = 0 := hauto
    simp only [hauto', bne_self_eq_false, Bool.false_eq_true, if_false]
    simpa using placeMain_noStretch c.row j free c.mainGap growths line.length hst line
      (justifyStart j free line.length) true
  · rw [chainEnd_eq]
    have hsplit := justify_split j free rest.length
    have hlen : line.length = rest.length + 1 := rfl
    have hfree : free = mainSize - sumBy (St.outerMainNonAuto c.row) line - c.mainGap * (rest.length : Rat) := by
      show lineFree c.row mainSize c.mainGap (s :: rest) = _
      unfold lineFree
      simp only [List.length_cons]
      push_cast
      grind
    have hsum : sumBy (marginMain c.row) line = sumBy (St.outerMainNonAuto c.row) line :=
      sumBy_congr (fun x _ => marginMain_eq_outer c.row x)
    rw [hsum, hlen]
    show justifyStart j free (rest.length + 1) + sumBy (St.outerMainNonAuto c.row) line +
      (rest.length : Rat) * (justifyBetween j free (rest.length + 1) + c.mainGap) + justifyEnd j free (rest.length + 1) = mainSize
    grind

def autosOf (row : Bool) (s : St) : Nat :=
  if row then (if s.ml.isNone then 1 else 0) + (if s.mr.isNone then 1 else 0)
  else (if s.mt.isNone then 1 else 0) + (if s.mb.isNone then 1 else 0)

private theorem countAutoMain_foldl (row : Bool) (line : List St) (n : Nat) :
    line.foldl (fun n s =>
      if row then n + (if s.ml.isNone then 1 else 0) + (if s.mr.isNone then 1 else 0)
      else n + (if s.mt.isNone then 1 else 0) + (if s.mb.isNone then 1 else 0)) n =
    n + (line.map (autosOf row)).sum := by
  induction line generalizing n with
  | nil => simp
  | cons s rest ih =>
    simp only [List.foldl_cons, List.map_cons, List.sum_cons]
    rw [ih]
    cases row <;> simp [autosOf] <;> omega

private theorem countAutoMain_eq (row : Bool) (line : List St) :
    countAutoMain row line = (line.map (autosOf row)).sum := by
  unfold countAutoMain
  rw [countAutoMain_foldl]; simp

/-- an auto margin set to `v` adds `v` to the margin box, a definite one keeps its value -/
private theorem lenOr0_getD (m : Len) (v : Rat) :
    lenOr0 (some (m.getD v)) = lenOr0 m + ((if m.isNone then 1 else 0 : Nat) : Rat) * v := by
  cases m <;> simp [lenOr0, Rat.zero_add, Rat.add_zero]

private theorem outer_setAuto (row : Bool) (v : Rat) (s : St) :
    (setAutoMain row v s).outerMainNonAuto row = s.outerMainNonAuto row + (autosOf row s : Rat) * v := by
  cases row
  · simp only [setAutoMain, St.outerMainNonAuto, St.borderHeight, autosOf, Bool.false_eq_true, if_false, lenOr0_getD]
    push_cast
    grind
  · simp only [setAutoMain, St.outerMainNonAuto, St.borderWidth, autosOf, if_true, lenOr0_getD]
    push_cast
    grind

private theorem sum_setAuto (row : Bool) (v : Rat) (line : List St) :
    sumBy (St.outerMainNonAuto row) (line.map (setAutoMain row v)) =
      sumBy (St.outerMainNonAuto row) line + ((line.map (autosOf row)).sum : Nat) * v := by
  induction line with
  | nil => simp [sumBy]; grind
  | cons s rest ih =>
    simp only [List.map_cons, sumBy, List.sum_cons, ih, outer_setAuto]
    push_cast
    grind

/-- `justify`, auto margins: on a line with auto main-axis margins, setting each of them to
`max 0 free / count` (the expression of 12.1 in `step12`; the theorem is about this expression, not about what
`step12` returns) uses up the whole *positive* free space, so that the margin boxes and gaps fill the main size
exactly; with negative free space the margins are zero and the overflow stays as it is (`min 0 free`, the value
`step12` then hands to `justify-content`). -/
theorem auto_margins_absorb (row : Bool) (mainSize gap : Rat) (line : List St)
    (h : countAutoMain row line ≠ 0) :
    lineFree row mainSize gap
      (line.map (setAutoMain row (max 0 (lineFree row mainSize gap line) / (countAutoMain row line : Nat)))) =
      min 0 (lineFree row mainSize gap line) := by
  have hc : ((countAutoMain row line : Nat) : Rat) ≠ 0 := by
    intro h0; apply h; exact_mod_cast h0
  -- auto margins of `v` each take `count · v` of the free space
  have hfree : ∀ v, lineFree row mainSize gap (line.map (setAutoMain row v)) =
      lineFree row mainSize gap line - (countAutoMain row line : Nat) * v := by
    intro v
    unfold lineFree
    rw [sum_setAuto, ← countAutoMain_eq, List.length_map]
    grind
  rw [hfree, Rat.max_def, Rat.min_def]
  split <;> grind

/-- `max 0 free / count`, the value 12.1 of `step12` sets the auto margins to, is never negative (a fact about the
expression; the statement does not mention `step12`) -/
theorem auto_margins_nonneg (free : Rat) (n : Nat) : 0 ≤ max 0 free / (n : Rat) := by
  have h1 : (0 : Rat) ≤ max 0 free := Rat.le_max_left 0 free
  by_cases hn : n = 0
  · subst hn; simp [Rat.div_def]
  · have h2 : (0 : Rat) < (n : Rat) := by exact_mod_cast Nat.pos_of_ne_zero hn
    rw [Rat.div_def]
    exact Rat.mul_nonneg h1 (Rat.le_of_lt (Rat.inv_pos.mpr h2))

/-! ## Flex: steps 11 and 14, cross-axis alignment -/

def crossPos (row : Bool) (s : St) : Rat := if row then s.posY else s.posX
def marginCross (row : Bool) (s : St) : Rat := if row then s.marginHeight else s.marginWidth
def noAutoCross (row : Bool) (s : St) : Prop := if row then s.mt.isSome ∧ s.mb.isSome else s.ml.isSome ∧ s.mr.isSome

private theorem crossPos_setCross (row : Bool) (v : Rat) (s : St) : crossPos row (setCross row v s) = v := by
  cases row <;> rfl

private theorem marginCross_setCross (row : Bool) (v : Rat) (s : St) :
    marginCross row (setCross row v s) = marginCross row s := by
  cases row <;> rfl

/-- the number of auto cross margins, in the very form `step13Aux` writes it (`autosOf (!row)` by cases, but the two
branch equations below rewrite with this form unfolded) -/
private def crossAutos (row : Bool) (s : St) : Nat :=
  if row then (if s.mt.isNone then 1 else 0) + (if s.mb.isNone then 1 else 0)
  else (if s.ml.isNone then 1 else 0) + (if s.mr.isNone then 1 else 0)

private theorem crossAutos_eq_zero_iff (row : Bool) (s : St) : crossAutos row s = 0 ↔ noAutoCross row s := by
  unfold crossAutos noAutoCross
  cases row
  · cases s.ml <;> cases s.mr <;> simp
  · cases s.mt <;> cases s.mb <;> simp

/-- Step 14: without auto cross margins, `step13Aux` only moves the item, by the offset of its alignment. -/
private theorem step13Aux_of_noAuto {row : Bool} {ai : Align} {cross pos : Rat} {s : St} (h : noAutoCross row s) :
    step13Aux row ai cross pos s =
      setCross row (pos + (if isEndAlign (resolveAlign ai s.it.alignSelf) then cross - marginCross row s
        else if resolveAlign ai s.it.alignSelf == .center then (cross - marginCross row s) / 2 else 0)) s := by
  have h0 : crossAutos row s = 0 := (crossAutos_eq_zero_iff row s).mpr h
  unfold crossAutos at h0
  unfold step13Aux
  simp only [h0, bne_self_eq_false, Bool.false_eq_true, if_false]
  rfl

/-- Step 13: with an auto cross margin, `step13Aux` only sets margins. -/
private theorem step13Aux_crossPos_of_auto {row : Bool} {ai : Align} {cross pos : Rat} {s : St}
    (h : ¬ noAutoCross row s) : crossPos row (step13Aux row ai cross pos s) = crossPos row s := by
  have h0 : (crossAutos row s != 0) = true :=
    bne_iff_ne.mpr fun h0 => h ((crossAutos_eq_zero_iff row s).mp h0)
  unfold crossAutos at h0
  unfold step13Aux
  simp only [h0, if_true]
  cases row <;>
    simp only [crossPos, apply_ite St.posX, apply_ite St.posY, ite_self, Bool.false_eq_true, if_false, if_true]

/-- `align` (step 14): without auto cross margins an item is put at the start of its line,
flush with its end (`flex-end`, `end`, `self-end`), or centred: the space before and after its
margin box is equal. -/
theorem align_cross (row : Bool) (alignItems : Align) (cross posCross : Rat) (s : St)
    (hauto : noAutoCross row s) (a : Align) (ha : a = resolveAlign alignItems s.it.alignSelf)
    (s' : St) (hs' : s' = step13 row alignItems cross posCross s) :
    marginCross row s' = marginCross row s ∧
    (isEndAlign a = true → crossPos row s' + marginCross row s' = posCross + cross) ∧
    (isEndAlign a = false → a = .center →
      crossPos row s' - posCross = (posCross + cross) - (crossPos row s' + marginCross row s')) ∧
    (isEndAlign a = false → a ≠ .center → crossPos row s' = posCross) := by
  have hauto' : noAutoCross row (setCross row posCross s) := by cases row <;> exact hauto
  have hit : (setCross row posCross s).it = s.it := by cases row <;> rfl
  rw [hs', step13, step13Aux_of_noAuto hauto', hit, ← ha]
  simp only [marginCross_setCross, crossPos_setCross]
  refine ⟨trivial, ?_, ?_, ?_⟩
  · intro he; rw [if_pos he]; grind
  · intro he hc; rw [if_neg (by simp [he]), if_pos (by simp [hc])]; grind
  · intro he hc; rw [if_neg (by simp [he]), if_neg (by simpa using hc)]; exact Rat.add_zero _

/-- `align`, auto cross margins (step 13; regression of repair 4ac1c09): an item with an auto cross-axis margin is
put at the cross start of its own line before its margins are resolved. -/
theorem auto_cross_margin_positioned (row : Bool) (alignItems : Align) (cross posCross : Rat) (s : St)
    (hauto : ¬ noAutoCross row s) :
    crossPos row (step13 row alignItems cross posCross s) = posCross := by
  have hauto' : ¬ noAutoCross row (setCross row posCross s) := by cases row <;> exact hauto
  rw [step13, step13Aux_crossPos_of_auto hauto', crossPos_setCross]

/-- `align`, stretch (step 11): an item whose cross size is `auto`, aligned `stretch` (or `normal`)
and without auto cross margins gets the cross size that makes its margin box exactly as large as its line. -/
theorem stretch_fills_line (row : Bool) (alignItems : Align) (cross : Rat) (s : St)
    (hstretch : resolveAlign alignItems s.it.alignSelf = .stretch) (hsize : s.styleCrossAuto row = true)
    (hauto : noAutoCross row s) :
    (step11 row alignItems cross s).outerCross row = cross := by
  unfold step11
  simp only [hstretch, beq_self_eq_true, hsize, Bool.and_self, if_true]
  cases row with
  | true =>
    obtain ⟨h1, h2⟩ := hauto
    obtain ⟨mt, hmt⟩ := Option.isSome_iff_exists.mp h1
    obtain ⟨mb, hmb⟩ := Option.isSome_iff_exists.mp h2
    simp [hmt, hmb, St.outerCross, St.borderHeight, lenOr0]
    grind
  | false =>
    obtain ⟨h1, h2⟩ := hauto
    obtain ⟨ml, hml⟩ := Option.isSome_iff_exists.mp h1
    obtain ⟨mr, hmr⟩ := Option.isSome_iff_exists.mp h2
    simp [hml, hmr, St.outerCross, St.borderWidth, lenOr0]
    grind

private theorem crossPos_addCross (row : Bool) (d : Rat) (s : St) :
    crossPos row (addCross row d s) = crossPos row s + d := by
  cases row <;> simp [crossPos, addCross]

/-- `align`, multi-line (step 16; regression of repair 10a14ee): `align-content` moves all the items of a line by
one and the same translation, so the offsets that `align-self` / auto margins gave them inside their line
(step 13–14) are kept, and the cross size of the lines is unchanged. -/
theorem step16_keeps_offsets (row : Bool) (ac : AlignContent) (extra gap : Rat) (n : Nat) :
    ∀ (ls : List Line) (tr : Rat) (first : Bool),
      Rel2 (fun (l l' : Line) => l'.cross = l.cross ∧ ∃ d : Rat, l'.items = l.items.map (addCross row d))
        ls (step16 row ac extra gap n ls tr first) := by
  intro ls
  induction ls with
  | nil => intro tr first; unfold step16; exact .nil
  | cons l rest ih =>
    intro tr first
    unfold step16
    simp only []
    split
    · exact .cons ⟨rfl, _, rfl⟩ (ih _ _)
    · exact .cons ⟨rfl, _, rfl⟩ (ih _ _)

/-- two items of the same line keep their relative cross position through step 16 -/
theorem step16_relative (row : Bool) (d : Rat) (a b : St) :
    crossPos row (addCross row d a) - crossPos row (addCross row d b) = crossPos row a - crossPos row b := by
  rw [crossPos_addCross, crossPos_addCross]; grind

/-! ## Flex: step 9, `align-content: stretch` -/

private theorem sumBy_cross_add (e : Rat) (ls : List Line) :
    sumBy Line.cross (ls.map fun l => { l with cross := l.cross + e }) = sumBy Line.cross ls + (ls.length : Rat) * e := by
  induction ls with
  | nil => simp [sumBy]; grind
  | cons l rest ih =>
    simp only [List.map_cons, sumBy, ih, List.length_cons]
    push_cast
    grind

/-- `align`, multi-line: with `align-content: stretch` (or `normal`) and a definite cross size, the
lines are stretched so that lines and cross gaps fill the container's cross size exactly. -/
theorem stretch_lines_fill (c : Container) (ls : List Line) (d : Rat) (hne : ls ≠ [])
    (hac : (c.alignContent == .normal || c.alignContent == .stretch) = true)
    (hd : crossDefinite c = some d) :
    crossSum c.crossGap (stretchLines c ls) = d := by
  unfold stretchLines
  simp only [hac, if_true, hd]
  by_cases hz : (d - crossSum c.crossGap ls != 0) = true
  · simp only [hz, if_true]
    unfold crossSum
    rw [sumBy_cross_add, List.length_map]
    have hn : (ls.length : Rat) ≠ 0 := by
      have : ls.length ≠ 0 := by cases ls <;> simp_all
      exact_mod_cast this
    have := Rat.div_mul_cancel (a := d - (sumBy Line.cross ls + c.crossGap * (((ls.length : Int) - 1 : Int) : Rat))) hn
    unfold crossSum at this
    grind
  · simp only [hz, Bool.false_eq_true, if_false]
    have : d - crossSum c.crossGap ls = 0 := by simpa using hz
    grind

/-! ## Flex: order-modified document order on the whole layout -/

def ids (l : List St) : List Nat := l.map (·.it.id)

private theorem map_ids (f : St → St) (hf : ∀ s, (f s).it = s.it) (l : List St) : ids (l.map f) = ids l := by
  unfold ids
  rw [List.map_map]
  apply List.map_congr_left
  intro s _; simp [hf]

private theorem resolveLine_ids {row : Bool} {avail gap : Rat} {line res : List St}
    (h : resolveLine row avail gap line = .ok res) : ids res = ids line := by
  obtain ⟨_, l, _, f', hr, _, rfl⟩ := resolveLine_ok h
  rw [map_ids _ (by intro s; split <;> rfl)]
  unfold ids
  rw [reach_map_eq (·.it.id) (fun _ => rfl) hr]
  exact map_ids _ (fun s => by rw [sizeInflexible_eq]) line

def lineIds (ls : List Line) : List (List Nat) := ls.map fun l => ids l.items

private theorem step7_it (row : Bool) (s : St) : (step7 row s).it = s.it := by
  fun_cases step7 row s <;> rfl

private theorem step11_it (row : Bool) (ai : Align) (cross : Rat) (s : St) : (step11 row ai cross s).it = s.it := by
  fun_cases step11 row ai cross s <;> rfl

private theorem setAutoMain_it (row : Bool) (v : Rat) (s : St) : (setAutoMain row v s).it = s.it := by
  unfold setAutoMain; split <;> rfl

private theorem placeMain_ids (row : Bool) (j : Justify) (free gap growths : Rat) (n : Nat) :
    ∀ (line : List St) (pos : Rat) (first : Bool), ids (placeMain row j free gap growths n line pos first) = ids line := by
  intro line
  induction line with
  | nil => intro pos first; rfl
  | cons s rest ih =>
    intro pos first
    unfold placeMain
    simp only [ids, List.map_cons] at ih ⊢
    rw [ih]
    congr 1
    cases row
    · simp
    · simp only [if_true]; split <;> rfl

private theorem step12_ids (c : Container) (mainSize growths : Rat) (line : List St) :
    ids (step12 c mainSize growths line) = ids line := by
  unfold step12
  simp only []
  rw [placeMain_ids]
  split
  · exact map_ids _ (setAutoMain_it _ _) line
  · rfl

private theorem setCross_it (row : Bool) (v : Rat) (s : St) : (setCross row v s).it = s.it := by
  unfold setCross; split <;> rfl

private theorem step13Aux_it (row : Bool) (ai : Align) (cross pos : Rat) (s : St) :
    (step13Aux row ai cross pos s).it = s.it := by
  simp only [step13Aux, apply_ite St.it, ite_self]

private theorem step13_it (row : Bool) (ai : Align) (cross pos : Rat) (s : St) : (step13 row ai cross pos s).it = s.it := by
  unfold step13
  rw [step13Aux_it, setCross_it]

private theorem step13Lines_ids (row : Bool) (ai : Align) :
    ∀ (ls : List Line) (pos : Rat), lineIds (step13Lines row ai ls pos) = lineIds ls := by
  intro ls
  induction ls with
  | nil => intro pos; rfl
  | cons l rest ih =>
    intro pos
    simp only [step13Lines, lineIds, List.map_cons] at ih ⊢
    rw [ih, map_ids _ (step13_it row ai l.cross pos)]

private theorem addCross_it (row : Bool) (v : Rat) (s : St) : (addCross row v s).it = s.it := by
  unfold addCross; split <;> rfl

private theorem step16_ids {row : Bool} {ac : AlignContent} {extra gap : Rat} {n : Nat} {ls : List Line} {tr : Rat}
    {first : Bool} : lineIds (step16 row ac extra gap n ls tr first) = lineIds ls :=
  (step16_keeps_offsets row ac extra gap n ls tr first).map_eq _ _ fun l l' h => by
    obtain ⟨_, d, h⟩ := h
    rw [h]
    exact map_ids _ (addCross_it row d) _

private theorem lineCrosses_ids (c : Container) (lines : List (List St)) :
    lineIds (lineCrosses c lines) = lines.map ids := by
  unfold lineCrosses
  have h1 : ∀ (ls : List Line), lineIds (clampSingleLine ls) = lineIds ls := by
    intro ls
    unfold clampSingleLine
    split <;> rfl
  rw [h1]
  unfold initialCrosses
  split
  · rfl
  · simp [lineIds, List.map_map]

private theorem stretchLines_ids (c : Container) (ls : List Line) : lineIds (stretchLines c ls) = lineIds ls := by
  fun_cases stretchLines c ls <;> first | rfl | simp [lineIds, List.map_map]

private theorem alignLines_ids (c : Container) (ls : List Line) : lineIds (alignLines c ls).1 = lineIds ls := by
  unfold alignLines
  simp only []
  split
  · exact step16_ids
  · rfl

private theorem finalRect_id (s : St) : (finalRect s).id = s.it.id := rfl

/-- `order` on the whole layout: the ids of the boxes that come out of `flex_layout` are those of the states
`step3` makes of the items in order-modified document order (`sortByOrder`, a stable sort by `order`:
`order_perm`, `order_sorted`, `order_stable`), cut into the lines of step 5, the lines taken in reverse order for
`wrap-reverse`, the items of each line in reverse order for `row-reverse` / `column-reverse`
(`flexLines`; `lines_flatten` for the cut).  That `step3` returns one state per item, in the same order, is not
stated here. -/
theorem layout_order (c : Container) (items : List Item) (r : Result) (h : layout c items = .ok r) :
    r.rects.map (·.id) =
      ((flexLines c (step3 c.row (sortByOrder items) 0 0)
          (mainSizeOf c (step3 c.row (sortByOrder items) 0 0))).map ids).flatten := by
  obtain ⟨lines, hlines, h⟩ := Except.bind_eq_ok h
  cases h
  have hres : lines.map ids = (flexLines c (step3 c.row (sortByOrder items) 0 0)
      (mainSizeOf c (step3 c.row (sortByOrder items) 0 0))).map ids :=
    (mapExcept_rel hlines).map_eq ids ids fun x y hxy => resolveLine_ids hxy
  rw [← hres]
  -- every later stage keeps the ids of every line
  have key : ∀ (ls : List Line), ((ls.map fun l => l.items.map finalRect).flatten).map (·.id) = (lineIds ls).flatten := by
    intro ls
    induction ls with
    | nil => rfl
    | cons l rest ih =>
      simp only [List.map_cons, List.flatten_cons, List.map_append, lineIds] at ih ⊢
      rw [ih]
      congr 1
      simp [ids, List.map_map, finalRect_id]
  have hitems : ∀ (f : Line → List St), (∀ l, ids (f l) = ids l.items) → ∀ ls : List Line,
      lineIds (ls.map fun l => { l with items := f l }) = lineIds ls := by
    intro f hf ls
    simp only [lineIds, List.map_map]
    exact List.map_congr_left fun l _ => hf l
  rw [key, alignLines_ids, step13Lines_ids, hitems _ (fun l => step12_ids c _ _ l.items),
    hitems _ (fun l => map_ids _ (step11_it c.row c.alignItems l.cross) l.items), stretchLines_ids, lineCrosses_ids,
    List.map_map]
  exact congrArg List.flatten (List.map_congr_left fun l _ => map_ids _ (step7_it c.row) l)

open Wp.Grid in
private theorem frSum_nonneg (fns : List (Breadth × Breadth)) (hfns : ∀ fn ∈ fns, PxFr fn) : 0 ≤ frSum fns :=
  frSum_nonneg_general fns fun fn h => ((hfns fn h).fixedOrFr 0).flexOk

/-! ## Ties to the generated tables (`Gen/FlexGridTables.lean`, regenerated from the source on every run)

An edit of one of the eleven "end" / "stretch" keyword sets of flex.py / grid.py (`flexJustifyEnd` …
`tracksAlignStretch`), or a change of behaviour of `_intersect`, `_get_placement`, `_get_span` on the tabulated
domain, changes the generated file and breaks one of the `decide`s below.  The other `{…} & X` tests of the sources
(`flexSets`, `gridSets`, `trackSets`: grid's `center`, `space-*` …) are generated but tied to nothing. -/

section GenTies
open Wp.Grid Wp.Gen.FlexGrid

/-- the keywords accepted by the validators for the alignment properties -/
def contentKeywords : List String :=
  ["center", "space-between", "space-around", "space-evenly", "stretch", "normal", "flex-start", "flex-end",
   "start", "end", "left", "right"]
def selfKeywords : List String :=
  ["auto", "normal", "stretch", "center", "start", "end", "self-start", "self-end", "flex-start", "flex-end",
   "left", "right"]

/-- The graph of the real `_intersect` (positions -1..2, sizes 0..2) is the model's. -/
theorem intersect_graph_agrees :
    ∀ e ∈ intersectGraph, intersect e.1 e.2.1 e.2.2.1 e.2.2.2.1 = e.2.2.2.2 := by decide +kernel

/-- The graph of the real `_get_placement` on all numeric / span / auto pairs is the model's. -/
theorem placement_graph_agrees :
    ∀ e ∈ placementGraph, (getPlacement e.1 e.2.1 [[], [], [], []]).toOption = some e.2.2 := by
  decide +kernel

theorem span_graph_agrees : ∀ e ∈ spanGraph, getSpan e.1 = e.2 := by decide +kernel

/-- flex step 12.2: the model's "packed to the end" justify-content keywords are the source's set. -/
theorem flex_justify_end_set :
    ∀ kw ∈ contentKeywords, ∀ j, Drive.Flex.justify? kw = some j →
      (decide (Flex.justifyStart j 1 1 = 1) = flexJustifyEnd.contains kw) := by decide +kernel

/-- flex step 14: the model's end-aligned align-self keywords are the source's set. -/
theorem flex_align_self_end_set :
    ∀ kw ∈ selfKeywords, ∀ a, Drive.Flex.align? kw = some a →
      (Flex.isEndAlign a = flexAlignSelfEnd.contains kw) := by decide +kernel

/-- flex step 16: the align-content keywords that move the lines by the whole extra space. -/
theorem flex_align_content_end_set :
    ∀ kw ∈ contentKeywords, ∀ a, Drive.Flex.alignContent? kw = some a →
      (decide (Flex.alignContentShift a 1 1 = some 1) = flexAlignContentEnd.contains kw) := by decide +kernel

/-- grid step 3.5 and 1.5: the keyword classes of the model are the source's sets. -/
theorem grid_content_sets :
    ∀ kw ∈ contentKeywords, ∀ a, Drive.Grid.contentAlign? kw = some a →
      ((a == .endLike) = gridJustifyContentEnd.contains kw) ∧
      ((a == .endLike) = gridAlignContentEnd.contains kw) ∧
      (isStretchContent a = tracksJustifyStretch.contains kw) ∧
      (isStretchContent a = tracksAlignStretch.contains kw) := by decide +kernel

/-- grid step 4: justify-self / align-self classes. -/
theorem grid_self_sets :
    ∀ kw ∈ selfKeywords, ∀ a, Drive.Grid.selfAlign? kw = some a →
      ((a == .endLike || a == .right) = gridJustifySelfEnd.contains kw) ∧
      ((a == .endLike) = gridAlignSelfEnd.contains kw) ∧
      (isStretch a = gridJustifySelfStretch.contains kw) ∧
      (isStretch a = gridAlignSelfStretch.contains kw) := by decide +kernel

end GenTies

/-! ## Non-vacuity: the hypotheses of the theorems above are met by concrete, non-trivial inputs -/

section Examples

/-- an empty item `flex: g s b px` -/
def exItem (id : Nat) (order : Int) (g sh b : Rat) : Item :=
  { id := id, order := order, grow := g, shrink := sh, basis := .px b, sWidth := none, sHeight := none,
    sMinW := none, sMaxW := none, sMinH := none, sMaxH := none, ml := some 0, mr := some 0,
    mt := some 0, mb := some 0, pl := 0, pr := 0, pt := 0, pb := 0, bl := 0, br := 0, bt := 0,
    bb := 0, alignSelf := .auto }

def exLine (l : List Item) : List St := step3 true l 0 0

instance (row : Bool) (s : St) (t : Rat) : Decidable (NotClamped row s t) := by
  unfold NotClamped; infer_instance

-- order: 1 0 1 0 → the two `0` first, each pair in document order
example : (sortByOrder [exItem 0 1 0 1 10, exItem 1 0 0 1 10, exItem 2 1 0 1 10, exItem 3 0 0 1 10]).map (·.id) =
    [1, 3, 0, 2] := by decide +kernel

-- lines: 45 + 10 + 45 fits in 100, the third item (40) does not
example : (collectLines true 100 10 (exLine [exItem 0 0 0 1 45, exItem 1 0 0 1 45, exItem 2 0 0 1 40]) [] 0).map
    (·.length) = [2, 1] := by decide +kernel

-- flex_terminates / flex_fill_one_pass: `flex: 1 1 0` and `flex: 2 1 0` in 90px → 30 and 60
example :
    let line := exLine [exItem 0 0 1 1 0, exItem 1 0 2 1 0]
    let l0 := line.map (sizeInflexible (decide (lineHypSum 0 line < 90)))
    allFrozen l0 = false ∧ unfrozenFactorSum l0 ≥ 1 ∧
    (∀ s ∈ l0, s.frozen = false →
      NotClamped true s (share (decide (lineHypSum 0 line < 90)) (freeSpace 90 0 l0) (growSum l0) (scaledShrinkSum l0) s)) ∧
    (resolveLine true 90 0 line).toOption.map (List.map (·.target)) = some [30, 60] := by
  decide +kernel

-- shrink: `flex: 0 1 60px` and `flex: 0 3 20px` in 60px → bases weighted by shrink·base (60 and 60)
example :
    let line := exLine [exItem 0 0 0 1 60, exItem 1 0 0 3 20]
    let l0 := line.map (sizeInflexible (decide (lineHypSum 0 line < 60)))
    allFrozen l0 = false ∧ unfrozenFactorSum l0 ≥ 1 ∧ scaledShrinkSum l0 ≠ 0 ∧
    (∀ s ∈ l0, s.frozen = false →
      NotClamped true s (share (decide (lineHypSum 0 line < 60)) (freeSpace 60 0 l0) (growSum l0) (scaledShrinkSum l0) s)) ∧
    (resolveLine true 60 0 line).toOption.map (List.map (·.target)) = some [50, 10] := by
  decide +kernel

def exContainer (j : Justify) : Container :=
  { row := true, reverse := false, wrap := .nowrap, width := 100, height := some 10, mainGap := 5, crossGap := 0,
    justify := j, alignItems := .normal, alignContent := .normal }

-- justify: two 20px items, gap 5, `space-around` in 100px: positions 13.75 and 66.25
example :
    let line := (exLine [exItem 0 0 0 0 20, exItem 1 0 0 0 20]).map fun s => { s with width := some 20 }
    countAutoMain true line = 0 ∧
    (step12 (exContainer .spaceAround) 100 0 line).map (mainPos true) = [55/4, 265/4] := by
  decide +kernel

-- auto margins: one auto margin takes the 60px that are free
example :
    let line := (exLine [exItem 0 0 0 0 20, exItem 1 0 0 0 20]).map fun s => { s with width := some 20, ml := none }
    countAutoMain true line ≠ 0 ∧ lineFree true 100 0 line = 60 := by
  decide +kernel

-- lines_maximal / align: hypotheses are satisfiable (non-negative sizes; an item without auto margins)
example : (∀ s ∈ exLine [exItem 0 0 0 1 45, exItem 1 0 0 1 45, exItem 2 0 0 1 40], 0 ≤ (10 : Rat) + s.outerHyp) ∧
    ((exLine [exItem 0 0 0 1 45]).all fun s => s.mt.isSome && s.mb.isSome) = true := by decide +kernel

-- layout_order: `order: 1 0 1`, row-reverse: the boxes come out as 2, 0, 1 (sorted 1, 0, 2 → reversed)
example :
    let c : Container := { exContainer .normal with reverse := true }
    let items := [exItem 0 1 0 1 10, exItem 1 0 0 1 10, exItem 2 1 0 1 10]
    (layout c items).toOption.map (fun r => r.rects.map (·.id)) = some [2, 0, 1] := by decide +kernel

-- flex_fill_all_passes: column container of 100px, `flex: 1 1 0; min-height: 60px` and `flex: 1 1 0`:
-- the first pass freezes the first item on its minimum, the second pass gives the rest to the other: 60 + 40
example :
    let line := step3 false [{ exItem 0 0 1 1 0 with sMinH := some 60 }, exItem 1 0 1 1 0] 0 0
    let l0 := line.map (sizeInflexible (decide (lineHypSum 0 line < 100)))
    allFrozen l0 = false ∧
    ((pass false true 100 0 l0 (freeSpace 100 0 l0)).toOption.map (fun r => unfrozenCount r.1)) = some 1 ∧
    (resolveLine false 100 0 line).toOption.map (List.map (·.target)) = some [60, 40] := by
  decide +kernel

-- flex_fill_all_passes / flex_fill_exact with a max violation (the repaired 9.7.5.d): `flex: 1 1 0; max-width: 10px` and
-- `flex: 1 1 0` in 100px: the first pass freezes the first item on its maximum (total violation -40), the second
-- pass gives the 90px that are left to the other; the violations of the last pass cancel and the line is filled
example :
    let line := step3 true [{ exItem 0 0 1 1 0 with sMaxW := some 10 }, exItem 1 0 1 1 0] 0 0
    let l0 := line.map (sizeInflexible (decide (lineHypSum 0 line < 100)))
    allFrozen l0 = false ∧
    ((pass true true 100 0 l0 (freeSpace 100 0 l0)).toOption.map (fun r => (unfrozenCount r.1, sumBy St.adj r.1))) =
      some (1, -40) ∧
    (resolveLine true 100 0 line).toOption.map (fun r => (r.map (·.target), sumBy St.adj r, freeSpace 100 0 r)) =
      some ([10, 90], 0, 0) := by
  decide +kernel

-- flex_fill_all_passes when the last violations do not cancel: `flex: 0 1 80px; min-width: 70px` twice in 100px:
-- both items end on their minimum, the line overflows by exactly the total violation (40 = 2 x 20)
example :
    let line := step3 true [{ exItem 0 0 0 1 80 with sMinW := some 70 }, { exItem 1 0 0 1 80 with sMinW := some 70 }] 0 0
    (resolveLine true 100 0 line).toOption.map (fun r => (r.map (·.target), sumBy St.adj r, freeSpace 100 0 r)) =
      some ([70, 70], 40, -40) := by
  decide +kernel

-- auto_cross_margin_positioned / step16_keeps_offsets: hypotheses are satisfiable
example : ((exLine [exItem 0 0 0 1 45]).map fun s => { s with ml := none }).all (fun s => s.ml.isNone) = true ∧
    (∀ s : St, s.ml = none → ¬ noAutoCross false s) := by
  refine ⟨by decide +kernel, ?_⟩
  intro s h; simp [noAutoCross, h]

-- lineFree_eq_freeSpace / flex_line_fills_main (the repair b901ca9 at theorem level): two `flex: 1 1 0; padding: 0 10px`
-- items in 100px: 9.7 fills the line (30 + 30 of content, 40 of paddings) and step 12 finds nothing left
example :
    let items := [{ exItem 0 0 1 1 0 with pl := 10, pr := 10 }, { exItem 1 0 1 1 0 with pl := 10, pr := 10 }]
    (resolveLine true 100 0 (step3 true items 0 0)).toOption.map
      (fun r => (freeSpace 100 0 r, lineFree true 100 0 r, r.map (·.target))) = some (0, 0, [30, 30]) := by
  decide +kernel

-- stretch_lines_fill: two lines of 10 and 30 in a 100px high wrapping row container with a 4px row gap
example :
    let c : Container := { exContainer .normal with wrap := .wrap, height := some 100, crossGap := 4 }
    let ls : List Line := [{ items := [], cross := 10 }, { items := [], cross := 30 }]
    crossDefinite c = some 100 ∧ (stretchLines c ls).map (·.cross) = [38, 58] := by decide +kernel

end Examples

end Wp.C12
