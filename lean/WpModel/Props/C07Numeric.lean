/-
C07 (part 7) — the numeric single-token validators: what is accepted lies in the range the CSS grammar gives
(otherwise the declaration is invalid and must vanish), and what is accepted is the number that was written.
The clause tables are regenerated from the source (Gen/NumericC07): an edited bound re-checks every statement here.
-/
import WpModel.Model.NumericC07
import WpModel.Props.C07
import WpModel.Lemmas.Basic.Rat

namespace Wp.C07
open Wp Wp.Len07 Wp.Num07

/-! ## Any clause list: the value is the token's own, inside the bounds of the clause that returned it -/

theorem evalClauses_some : ∀ (cs : List Clause) (taken : Bool) (t : NTok) (v : NVal),
    evalClauses cs taken t = some v → ∃ c ∈ cs, c.test t = true ∧ c.value t = some v := by
  intro cs taken t v h
  fun_induction evalClauses cs taken t with
  | case1 => nomatch h
  | case2 c rest taken t _ ih | case5 c rest taken t _ _ _ _ ih | case6 c rest taken t _ _ ih =>
    obtain ⟨c', hc', h2⟩ := ih h
    exact ⟨c', List.mem_cons_of_mem _ hc', h2⟩
  | case3 c rest taken t _ htest w hv => exact ⟨c, List.mem_cons_self, htest, hv.trans h⟩
  | case4 => nomatch h

theorem clause_value_rest (c : Clause) (t : NTok) (v : NVal) (hi : (c.kind == "int") = false)
    (hk : (c.kind == "kw") = false) (h : c.value t = some v) : (∃ q, v = .num q) ∨ (∃ s, v = .len s) := by
  revert h
  fun_cases Clause.value c t <;> intro h
  any_goals cases h
  · exact absurd ‹(c.kind == "int") = true› (by simp [hi])
  · exact absurd ‹(c.kind == "kw") = true› (by simp [hk])
  · split
    · exact Or.inr ⟨_, rfl⟩
    · exact Or.inl ⟨_, rfl⟩
  · exact Or.inr ⟨_, rfl⟩
  all_goals
    obtain ⟨s, -, rfl⟩ := Option.map_eq_some_iff.mp h
    exact Or.inr ⟨s, rfl⟩

theorem clause_value_int (c : Clause) (t : NTok) (hk : (c.kind == "int") = true) :
    c.value t = t.intValue.bind fun n => if c.intOk n then some (.int n) else none := by
  simp only [Clause.value, hk, if_true]
  cases t.intValue <;> rfl

theorem clause_value_kw (c : Clause) (t : NTok) (hi : (c.kind == "int") = false) (hk : (c.kind == "kw") = true) :
    c.value t = t.keyword.map .kw := by
  simp only [Clause.value, hi, hk, Bool.false_eq_true, if_false, if_true]

theorem clause_test_kw (c : Clause) (t : NTok) (hi : (c.kind == "int") = false) (hk : (c.kind == "kw") = true) :
    c.test t = t.keyword.any c.keywords.contains := by
  simp only [Clause.test, hi, hk, Bool.false_eq_true, if_false, if_true]
  cases t.keyword <;> rfl

/-- **An accepted integer is the integer written, within the bound and the allowed set of some integer clause** —
for every clause list (whatever the source becomes inside the translator's subset), every token. -/
theorem eval_int_sound (cs : List Clause) (taken : Bool) (t : NTok) (n : Int)
    (h : evalClauses cs taken t = some (.int n)) :
    t.intValue = some n ∧ ∃ c ∈ cs, c.kind = "int" ∧ (∀ k, c.lower = some k → k ≤ n) ∧
      (c.allowed = [] ∨ n ∈ c.allowed) := by
  obtain ⟨c, hc, -, hv⟩ := evalClauses_some cs taken t _ h
  cases hi : c.kind == "int" with
  | true =>
    rw [clause_value_int c t hi] at hv
    cases hn : t.intValue with
    | none => rw [hn] at hv; cases hv
    | some m =>
      rw [hn, Option.bind_some] at hv
      cases hok : c.intOk m with
      | false => rw [hok] at hv; cases hv
      | true =>
        rw [hok] at hv
        cases hv
        simp only [Clause.intOk, Bool.and_eq_true, Bool.or_eq_true, List.isEmpty_iff, List.contains_iff_mem] at hok
        refine ⟨rfl, c, hc, eq_of_beq hi, fun k hk => ?_, hok.2⟩
        have := hok.1
        rw [hk] at this
        exact of_decide_eq_true this
  | false =>
    cases hk : c.kind == "kw" with
    | true =>
      rw [clause_value_kw c t hi hk] at hv
      generalize t.keyword = o at hv
      cases o <;> cases hv
    | false => rcases clause_value_rest c t _ hi hk hv with ⟨_, h'⟩ | ⟨_, h'⟩ <;> cases h'

/-- **An accepted keyword is the token's own keyword and belongs to the tuple of a keyword clause.** -/
theorem eval_kw_sound : ∀ (cs : List Clause) (taken : Bool) (t : NTok) (k : String),
    evalClauses cs taken t = some (.kw k) →
      t.keyword = some k ∧ ∃ c ∈ cs, c.kind = "kw" ∧ k ∈ c.keywords := by
  intro cs taken t k h
  obtain ⟨c, hc, htest, hv⟩ := evalClauses_some cs taken t _ h
  cases hi : c.kind == "int" with
  | true =>
    rw [clause_value_int c t hi] at hv
    generalize t.intValue = o at hv
    cases o with
    | none => cases hv
    | some m =>
      rw [Option.bind_some] at hv
      split at hv <;> cases hv
  | false =>
    cases hk : c.kind == "kw" with
    | true =>
      rw [clause_value_kw c t hi hk] at hv
      rw [clause_test_kw c t hi hk] at htest
      cases hkw : t.keyword with
      | none => rw [hkw] at hv; cases hv
      | some k' =>
        rw [hkw] at hv htest
        cases hv
        exact ⟨rfl, c, hc, eq_of_beq hk, List.contains_iff_mem.mp htest⟩
    | false => rcases clause_value_rest c t _ hi hk hv with ⟨_, h'⟩ | ⟨_, h'⟩ <;> cases h'

/-! ## The registered properties, on the generated tables -/

/-- A number token written as the integer `n`. -/
def intTok (n : Int) : NTok := { intValue := some n, keyword := none, ltok := .number n }

/-- The five properties whose grammar is `<integer [1,∞]>` (plus a keyword for three of them). -/
def positiveIntegerProperties : List String := ["orphans", "widows", "column-count", "max-lines", "bookmark-level"]

private theorem clauses_orphans : clausesOf "orphans" = some [⟨"int", some 1, [], [], false, false, false⟩] := by decide +kernel
private theorem clauses_widows : clausesOf "widows" = some [⟨"int", some 1, [], [], false, false, false⟩] := by decide +kernel
private theorem clauses_column_count : clausesOf "column-count" =
    some [⟨"int", some 1, [], [], false, false, false⟩, ⟨"kw", none, [], ["auto"], false, false, false⟩] := by decide +kernel
private theorem clauses_max_lines : clausesOf "max-lines" =
    some [⟨"int", some 1, [], [], false, false, false⟩, ⟨"kw", none, [], ["none"], false, false, false⟩] := by decide +kernel
private theorem clauses_bookmark_level : clausesOf "bookmark-level" =
    some [⟨"int", some 1, [], [], false, false, false⟩, ⟨"kw", none, [], ["none"], true, false, false⟩] := by decide +kernel
private theorem clauses_tab_size : clausesOf "tab-size" =
    some [⟨"int", some 0, [], [], false, false, false⟩, ⟨"length", none, [], [], false, false, false⟩] := by decide +kernel
private theorem clauses_z_index : clausesOf "z-index" =
    some [⟨"kw", none, [], ["auto"], false, false, false⟩, ⟨"int", none, [], [], false, false, false⟩] := by decide +kernel
private theorem clauses_order : clausesOf "order" = some [⟨"int", none, [], [], false, false, false⟩] := by decide +kernel
private theorem clauses_font_weight : clausesOf "font-weight" =
    some [⟨"kw", none, [], ["normal", "bold", "bolder", "lighter"], false, false, false⟩,
          ⟨"int", none, [100, 200, 300, 400, 500, 600, 700, 800, 900], [], false, false, false⟩] := by decide +kernel

private theorem validate_cases (name : String) (cs : List Clause) (hc : clausesOf name = some cs)
    (ts : List NTok) (v : NVal) (h : validate name ts = some (some v)) :
    ∃ t, ts = [t] ∧ evalClauses cs false t = some v := by
  unfold validate at h
  rw [hc] at h
  match ts, h with
  | [t], h => exact ⟨t, rfl, by simpa using h⟩
  | [], h | _ :: _ :: _, h => simp at h

/-- **`orphans`, `widows`, `column-count`, `max-lines`, `bookmark-level`: an accepted integer is at least 1** —
`orphans: 0`, `widows: -1` … are invalid declarations (css-break-3: "negative values and zero are invalid and must
cause the declaration to be ignored"); this is the hypothesis `orphans, widows ≥ 1` of the pagination theorems
(C01.pages_conserve, C04.orphans_widows). -/
theorem positive_integer_properties (name : String) (hn : name ∈ positiveIntegerProperties) (ts : List NTok)
    (n : Int) (h : validate name ts = some (some (.int n))) :
    1 ≤ n ∧ ∃ t, ts = [t] ∧ t.intValue = some n := by
  have key : ∀ cs, clausesOf name = some cs →
      (cs.all fun c => c.kind != "int" || c.lower == some 1) = true →
      1 ≤ n ∧ ∃ t, ts = [t] ∧ t.intValue = some n := by
    intro cs hc hall
    obtain ⟨t, hts, he⟩ := validate_cases name cs hc ts _ h
    obtain ⟨hw, c, hcm, hk, hlo, _⟩ := eval_int_sound cs false t n he
    have hl : c.lower = some 1 := by simpa [hk] using List.all_eq_true.mp hall c hcm
    exact ⟨hlo 1 hl, t, hts, hw⟩
  simp only [positiveIntegerProperties, List.mem_cons, List.not_mem_nil, or_false] at hn
  rcases hn with rfl | rfl | rfl | rfl | rfl
  · exact key _ clauses_orphans (by decide)
  · exact key _ clauses_widows (by decide)
  · exact key _ clauses_column_count (by decide)
  · exact key _ clauses_max_lines (by decide)
  · exact key _ clauses_bookmark_level (by decide)

/-- The same, in the form the pagination model uses it. -/
theorem orphans_widows_at_least_one (ts : List NTok) (n : Int) :
    (validate "orphans" ts = some (some (.int n)) → 1 ≤ n) ∧
    (validate "widows" ts = some (some (.int n)) → 1 ≤ n) :=
  ⟨fun h => (positive_integer_properties "orphans" (by decide) ts n h).1,
   fun h => (positive_integer_properties "widows" (by decide) ts n h).1⟩

section IntegerTokens
attribute [local simp] validate evalClauses Clause.test Clause.value Clause.intOk Clause.returnsAlways intTok
  NTok.isNumber

/-- **Every integer from 1 on is a value of these properties, with itself as value** (completeness: a bound
moved up would drop valid declarations). -/
theorem positive_integer_accepted (name : String) (hn : name ∈ positiveIntegerProperties) (n : Int) (h : 1 ≤ n) :
    validate name [intTok n] = some (some (.int n)) := by
  simp only [positiveIntegerProperties, List.mem_cons, List.not_mem_nil, or_false] at hn
  have hd : decide ((1 : Int) ≤ n) = true := by simpa using h
  rcases hn with rfl | rfl | rfl | rfl | rfl <;>
    simp [clauses_orphans, clauses_widows, clauses_column_count, clauses_max_lines, clauses_bookmark_level, hd]

/-- Zero and negative integers are refused by the five properties (no other clause catches a number). -/
theorem nonpositive_integer_refused (name : String) (hn : name ∈ positiveIntegerProperties) (n : Int) (h : n < 1) :
    validate name [intTok n] = some none := by
  simp only [positiveIntegerProperties, List.mem_cons, List.not_mem_nil, or_false] at hn
  have hd : decide ((1 : Int) ≤ n) = false := by simpa using h
  rcases hn with rfl | rfl | rfl | rfl | rfl <;>
    simp [clauses_orphans, clauses_widows, clauses_column_count, clauses_max_lines, clauses_bookmark_level, hd]

/-- `tab-size`: an accepted integer is not negative. -/
theorem tab_size_nonneg (ts : List NTok) (n : Int) (h : validate "tab-size" ts = some (some (.int n))) : 0 ≤ n := by
  obtain ⟨t, _, he⟩ := validate_cases "tab-size" _ clauses_tab_size ts _ h
  obtain ⟨_, c, hcm, hk, hlo, _⟩ := eval_int_sound _ false t n he
  simp at hcm
  rcases hcm with rfl | rfl
  · exact hlo 0 rfl
  · exact absurd hk (by decide)

/-- `z-index` and `order` take every integer, as itself. -/
theorem any_integer_accepted (n : Int) :
    validate "z-index" [intTok n] = some (some (.int n)) ∧ validate "order" [intTok n] = some (some (.int n)) := by
  constructor
  · simp [clauses_z_index]
  · simp [clauses_order]

/-- `font-weight`: the integers accepted are exactly 100, 200, …, 900. -/
theorem font_weight_integers (n : Int) :
    validate "font-weight" [intTok n] = some (some (.int n)) ↔ n ∈ [100, 200, 300, 400, 500, 600, 700, 800, 900] := by
  constructor
  · intro h
    obtain ⟨t, _, he⟩ := validate_cases "font-weight" _ clauses_font_weight [intTok n] _ h
    obtain ⟨_, c, hcm, hk, _, hal⟩ := eval_int_sound _ false t n he
    simp at hcm
    rcases hcm with rfl | rfl
    · exact absurd hk (by decide)
    · rcases hal with h0 | hm
      · cases h0
      · exact hm
  · intro hm
    simp only [List.mem_cons, List.not_mem_nil, or_false] at hm
    simp [clauses_font_weight, hm]

/-- A number that is not written as an integer (`1.5`, `2.0`, `1e2`) is refused by the integer-only properties. -/
theorem non_integer_refused (name : String) (hn : name ∈ ["orphans", "widows", "order"]) (q : Rat) :
    validate name [{ intValue := none, keyword := none, ltok := .number q }] = some none := by
  simp only [List.mem_cons, List.not_mem_nil, or_false] at hn
  rcases hn with rfl | rfl | rfl <;> simp [clauses_orphans, clauses_widows, clauses_order]

end IntegerTokens

/-- **`flex-grow` / `flex-shrink`: what is accepted is a non-negative number token, with its own value** (`fix:`
c151619: before it negative factors were kept although css-flexbox-1 §7.2/7.3 makes them invalid). -/
theorem flex_factor_nonneg (name : String) (hn : name = "flex-grow" ∨ name = "flex-shrink") (ts : List NTok)
    (v : NVal) (h : validate name ts = some (some v)) :
    ∃ t q, ts = [t] ∧ t.ltok = .number q ∧ 0 ≤ q ∧ v = .num q := by
  have key : ∀ t, evalClauses [⟨"number", some 0, [], [], false, false, false⟩] false t = some v →
      ∃ q, t.ltok = .number q ∧ 0 ≤ q ∧ v = .num q := by
    intro t he
    obtain ⟨c, hc, htest, hv⟩ := evalClauses_some _ _ t _ he
    cases List.mem_singleton.mp hc
    cases hl : t.ltok with
    | number q =>
      simp [Clause.test, geBound, hl] at htest
      simp [Clause.value, hl] at hv
      exact ⟨q, rfl, htest, hv.symm⟩
    | dimension _ _ _ | percentage _ | other => simp [Clause.test, hl] at htest
  obtain ⟨t, rfl, he⟩ := validate_cases name _ (by rcases hn with rfl | rfl <;> rfl) ts v h
  obtain ⟨q, h1, h2, h3⟩ := key t he
  exact ⟨t, q, rfl, h1, h2, h3⟩

/-- Regression (`flex-grow: -1`, `flex-shrink: -0.5`, repaired by c151619): refused; zero and positive factors kept. -/
example :
    validate "flex-grow" [{ intValue := some (-1), keyword := none, ltok := .number (-1) }] = some none ∧
    validate "flex-shrink" [{ intValue := none, keyword := none, ltok := .number (-1 / 2) }] = some none ∧
    validate "flex-grow" [intTok 0] = some (some (.num 0)) ∧
    validate "flex-shrink" [{ intValue := none, keyword := none, ltok := .number (3 / 2) }] = some (some (.num (3 / 2))) := by
  decide +kernel

/-- `single_token`: several tokens (or none) are refused by every numeric property. -/
theorem numeric_single_token (name : String) (ts : List NTok) (h : ts.length ≠ 1) (v : NVal) :
    validate name ts ≠ some (some v) := by
  unfold validate
  cases clausesOf name with
  | none => simp
  | some cs =>
    match ts, h with
    | [], _ => simp
    | [_], h => simp at h
    | _ :: _ :: _, _ => simp

/-! ## One or two lengths: border-spacing takes no percentage, the radii do -/

/-- The "one or two lengths" validator is `border_corner_radius` on the answers of `get_length` with the
property's flags (the two functions of the source differ by the flags alone). -/
theorem lengthList_eq_cornerRadius (n p : Bool) (toks : List LTok) :
    lengthList n p toks = Decl.borderCornerRadius (toks.map (getLength n p)) := by
  unfold lengthList
  generalize toks.map (getLength n p) = l
  match l with
  | [some a] | [some a, some b] | [] | [none] | [none, _] | [some _, none] | none :: _ :: _ :: _
  | some _ :: none :: _ :: _ | some _ :: some _ :: _ :: _ => rfl

/-- Whatever the flags: a value is accepted only for one or two tokens, each of which `get_length` accepts with
these flags; one length stands for both components. -/
theorem length_list_sound (n p : Bool) (toks : List LTok) (a b : Spec) (h : lengthList n p toks = some (a, b)) :
    (∃ t, toks = [t] ∧ getLength n p t = some a ∧ b = a) ∨
    (∃ t u, toks = [t, u] ∧ getLength n p t = some a ∧ getLength n p u = some b) := by
  rw [lengthList_eq_cornerRadius, border_corner_radius_spec] at h
  rcases h with h | ⟨h, hab⟩
  · obtain ⟨t, r, rfl, ht, hr⟩ := List.map_eq_cons_iff.mp h
    obtain ⟨u, r', rfl, hu, hr'⟩ := List.map_eq_cons_iff.mp hr
    rw [List.map_eq_nil_iff.mp hr']
    exact Or.inr ⟨t, u, rfl, ht, hu⟩
  · obtain ⟨t, r, rfl, ht, hr⟩ := List.map_eq_cons_iff.mp h
    rw [List.map_eq_nil_iff.mp hr]
    exact Or.inl ⟨t, rfl, ht, hab.symm⟩

private theorem flags_border_spacing : lengthListFlags "border-spacing" = some (false, false) := by
  decide +kernel
private theorem flags_radius (name : String)
    (hn : name ∈ ["border-top-left-radius", "border-top-right-radius", "border-bottom-right-radius",
      "border-bottom-left-radius"]) : lengthListFlags name = some (false, true) := by
  simp only [List.mem_cons, List.not_mem_nil, or_false] at hn
  rcases hn with rfl | rfl | rfl | rfl <;> rfl

/-- A component `get_length` lets through without the percentage flag is not a percentage, and without the negative
flag it is not negative. -/
private theorem get_length_flags (n p : Bool) (t : LTok) (v : Rat) (u : Option String)
    (h : getLength n p t = some (.dim v u)) : (p = false → u ≠ some "%") ∧ (n = false → 0 ≤ v) := by
  have nonneg : ∀ x : Rat, (n = true ∨ x ≥ 0) → n = false → 0 ≤ x := fun x hc hn =>
    hc.resolve_left (by simp [hn])
  rcases getLength_some n p t _ h with ⟨x, hp, hx, hs⟩ | ⟨x, w, hw, hx, hs⟩ | hs <;> cases hs
  · exact ⟨fun hf => by simp [hf] at hp, nonneg _ hx⟩
  · refine ⟨fun _ hu => ?_, nonneg _ hx⟩
    have hpc : lengthUnits.contains "%" = false := by decide +kernel
    rw [Option.some.inj hu, hpc] at hw
    cases hw
  · exact ⟨fun _ => nofun, fun _ => Rat.le_refl⟩

/-- **`border-spacing` takes one or two non-negative lengths and no percentage** (CSS 2.1 §17.6.1:
`<length> <length>?`): whatever is accepted has two components that are neither percentages nor negative — so
`border-spacing: 10%`, `2px 50%` are invalid declarations and never reach the table layout arithmetic. -/
theorem border_spacing_no_percentage (toks : List LTok) (a b : Spec)
    (h : validateLengthList "border-spacing" toks = some (some (a, b))) :
    ∃ va ua vb ub, a = .dim va ua ∧ b = .dim vb ub ∧ ua ≠ some "%" ∧ ub ≠ some "%" ∧ 0 ≤ va ∧ 0 ≤ vb := by
  unfold validateLengthList at h
  rw [flags_border_spacing] at h
  simp only [Option.map_some, Option.some.injEq] at h
  -- each component is what `get_length` makes of a token (the same token when one length stands for both)
  obtain ⟨t, u, ha, hb⟩ : ∃ t u, getLength false false t = some a ∧ getLength false false u = some b := by
    rcases length_list_sound false false toks a b h with ⟨t, _, ha, rfl⟩ | ⟨t, u, _, ha, hb⟩
    · exact ⟨t, t, ha, ha⟩
    · exact ⟨t, u, ha, hb⟩
  obtain ⟨va, ua, rfl⟩ := get_length_dim false false t a ha
  obtain ⟨vb, ub, rfl⟩ := get_length_dim false false u b hb
  obtain ⟨h1, h2⟩ := get_length_flags false false t va ua ha
  obtain ⟨h3, h4⟩ := get_length_flags false false u vb ub hb
  exact ⟨va, ua, vb, ub, rfl, rfl, h1 rfl, h3 rfl, h2 rfl, h4 rfl⟩

/-- The four corner radii take non-negative lengths **and percentages** (css-backgrounds-3 §5.1). -/
theorem border_radius_lengths (name : String)
    (hn : name ∈ ["border-top-left-radius", "border-top-right-radius", "border-bottom-right-radius",
      "border-bottom-left-radius"]) (x : Rat) (hx : 0 ≤ x) :
    validateLengthList name [.percentage x] = some (some (.dim x (some "%"), .dim x (some "%"))) ∧
    validateLengthList name [.dimension x "px" "px", .percentage x]
      = some (some (.dim x (some "px"), .dim x (some "%"))) ∧
    (x ≠ 0 → validateLengthList name [.percentage (-x)] = some none) := by
  have hpx : "px" ∈ lengthUnits := by
    have : lengthUnits.contains "px" = true := by decide +kernel
    simpa using this
  have hd : decide (0 ≤ x) = true := by simpa using hx
  unfold validateLengthList
  rw [flags_radius name hn]
  refine ⟨by simp [lengthList, getLength, hd], by simp [lengthList, getLength, hd, hpx], fun hne => ?_⟩
  have hneg : ¬ (0 ≤ -x) := by
    intro h0
    have : x ≤ 0 := by
      have := Rat.neg_le_neg h0
      simpa using this
    exact hne (Rat.le_antisymm this hx)
  simp [lengthList, getLength, hneg]

/-- Non-vacuity / regression shape of seeded change C07-9: `border-spacing: 2px`, `2px 4px` kept; `10%`, `2px 50%`,
`-1px`, three values refused; `width` is not such a property. -/
example :
    validateLengthList "border-spacing" [.dimension 2 "px" "px"] = some (some (.dim 2 (some "px"), .dim 2 (some "px"))) ∧
    validateLengthList "border-spacing" [.dimension 2 "px" "px", .dimension 4 "px" "px"]
      = some (some (.dim 2 (some "px"), .dim 4 (some "px"))) ∧
    validateLengthList "border-spacing" [.percentage 10] = some none ∧
    validateLengthList "border-spacing" [.dimension 2 "px" "px", .percentage 50] = some none ∧
    validateLengthList "border-spacing" [.dimension (-1) "px" "px"] = some none ∧
    validateLengthList "border-spacing" [.number 0, .number 0, .number 0] = some none ∧
    validateLengthList "width" [.number 0] = none := by
  decide +kernel

/-! ## image-resolution -/

/-- **`image-resolution`: an accepted resolution is positive** (the `>` test of `fix:` d011d54). -/
theorem image_resolution_positive (t : LTok) (r : Rat) (h : imageResolution t = some r) :
    0 < r ∧ getResolution t = some r := by
  revert h
  fun_cases imageResolution t <;> intro h <;> cases h
  next hg hq => exact ⟨hq, hg⟩

/-- For a positive resolution the intrinsic size of a raster image is defined and positive. -/
theorem raster_intrinsic_defined (w h r : Rat) (hr : 0 < r) (hw : 0 < w) (hh : 0 < h) :
    ∃ a b, rasterIntrinsicSize w h r = .ok (a, b) ∧ 0 < a ∧ 0 < b := by
  have hne : (r == 0) = false := by
    have : r ≠ 0 := fun e => by rw [e] at hr; exact absurd hr (by decide)
    simpa using this
  refine ⟨w / r, h / r, by simp [rasterIntrinsicSize, hne, pure, Except.pure], ?_, ?_⟩
  · exact Rat.div_pos hw hr
  · exact Rat.div_pos hh hr

/-- **No `image-resolution` declaration the validator keeps can make `get_intrinsic_size` divide by zero** (`fix:`
d011d54: before it `image-resolution: 0dppx` was kept and aborted the rendering of any raster image). -/
theorem image_resolution_total (t : LTok) (r w h : Rat) (ht : imageResolution t = some r) (hw : 0 < w) (hh : 0 < h) :
    ∃ a b, rasterIntrinsicSize w h r = .ok (a, b) ∧ 0 < a ∧ 0 < b :=
  raster_intrinsic_defined w h r (image_resolution_positive t r ht).1 hw hh

/-- Regression (`image-resolution: 0dppx`, `-1dppx`, repaired by d011d54): refused; `2dppx`, `96dpi` kept. -/
example :
    imageResolution (.dimension 0 "dppx" "dppx") = none ∧ imageResolution (.dimension (-1) "dppx" "dppx") = none ∧
    imageResolution (.dimension 2 "dppx" "dppx") = some 2 ∧ imageResolution (.dimension 96 "dpi" "dpi") = some 1 ∧
    imageResolution (.number 1) = none := by
  decide +kernel

/-- The resolution units: `1dppx = 96dpi`, and only `dppx`, `dpi`, `dpcm` as written are resolutions. -/
theorem resolution_units :
    getResolution (.dimension 96 "dpi" "dpi") = some 1 ∧ getResolution (.dimension 2 "dppx" "dppx") = some 2 ∧
    getResolution (.dimension 1 "DPI" "dpi") = none ∧ getResolution (.dimension 1 "px" "px") = none ∧
    getResolution (.number 1) = none := by
  decide +kernel

/-! ## opacity -/

theorem clamp01_range (v : Rat) : 0 ≤ clamp01 v ∧ clamp01 v ≤ 1 := by
  unfold clamp01
  by_cases h0 : 0 < v <;> simp only [h0, if_true, if_false]
  · by_cases h1 : v < 1 <;> simp only [h1, if_true, if_false]
    · exact ⟨Rat.le_of_lt h0, Rat.le_of_lt h1⟩
    · exact ⟨by decide, Rat.le_refl⟩
  · have : (0 : Rat) < 1 := by decide
    simp only [this, if_true]
    exact ⟨Rat.le_refl, by decide⟩

theorem clamp01_id (v : Rat) (h0 : 0 ≤ v) (h1 : v ≤ 1) : clamp01 v = v := by
  unfold clamp01
  by_cases hp : 0 < v <;> simp only [hp, if_true, if_false]
  · by_cases hl : v < 1 <;> simp only [hl, if_true, if_false]
    exact Rat.le_antisymm (Rat.not_lt.1 hl) h1
  · have hv : v = 0 := Rat.le_antisymm (Rat.not_lt.1 hp) h0
    have : (0 : Rat) < 1 := by decide
    simp [this, hv]

/-- **`opacity`: whatever is accepted lies in [0, 1]** (css-color-4 §5: values outside the range are not invalid,
they are clamped): a number or a percentage, never anything else. -/
theorem opacity_in_unit_interval (t : LTok) (q : Rat) (h : opacityValidate t = some q) :
    0 ≤ q ∧ q ≤ 1 ∧ ((∃ v, t = .number v) ∨ (∃ v, t = .percentage v)) := by
  cases t with
  | number v | percentage v =>
    simp only [opacityValidate, Option.some.injEq] at h
    subst h
    exact ⟨(clamp01_range _).1, (clamp01_range _).2, by simp⟩
  | dimension _ _ _ | other => simp [opacityValidate] at h

/-- Inside the range a number is kept as it is, and `p%` is the number `p / 100`. -/
theorem opacity_identity (v : Rat) (h0 : 0 ≤ v) (h1 : v ≤ 1) :
    opacityValidate (.number v) = some v ∧
    ∀ p : Rat, opacityValidate (.percentage p) = opacityValidate (.number (p / 100)) := by
  refine ⟨by simp [opacityValidate, clamp01_id v h0 h1], fun p => rfl⟩

example : opacityValidate (.number (-3)) = some 0 ∧ opacityValidate (.percentage 300) = some 1 ∧
    opacityValidate (.percentage 50) = some (1 / 2) ∧ opacityValidate (.number (1 / 4)) = some (1 / 4) ∧
    opacityValidate (.dimension 1 "px" "px") = none := by
  decide +kernel

/-- The twelve properties mirrored by AST clause tables; `opacity` (a clamp, not a range) is outside that subset and
is modelled by hand (`Num07.opacityValidate`, above). -/
theorem numeric_inventory :
    Gen.NumericC07.numericValidators.map (·.1) =
      ["bookmark-level", "column-count", "flex-grow", "flex-shrink", "font-weight", "line-height", "max-lines",
       "order", "orphans", "tab-size", "widows", "z-index"] ∧
    Gen.NumericC07.notMirrored.map (·.1) = ["opacity"] := by
  constructor <;> rfl

/-- Non-vacuity: `orphans: 3`, `orphans: 0`, `column-count: auto`, `bookmark-level: none`, `tab-size: 2px`,
`line-height: -1` (refused), `line-height: 1.5`. -/
example :
    validate "orphans" [intTok 3] = some (some (.int 3)) ∧
    validate "orphans" [intTok 0] = some none ∧
    validate "column-count" [{ intValue := none, keyword := some "auto", ltok := .other }] = some (some (.kw "auto")) ∧
    validate "bookmark-level" [{ intValue := none, keyword := some "none", ltok := .other }]
      = some (some (.kw "none")) ∧
    validate "tab-size" [{ intValue := none, keyword := none, ltok := .dimension 2 "px" "px" }]
      = some (some (.len (.dim 2 (some "px")))) ∧
    validate "line-height" [intTok (-1)] = some none ∧
    validate "line-height" [{ intValue := none, keyword := none, ltok := .number (3 / 2) }]
      = some (some (.len (.dim (3 / 2) none))) ∧
    validate "width" [intTok 1] = none := by
  decide +kernel

end Wp.C07
