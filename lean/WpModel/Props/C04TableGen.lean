/-
C04: the properties of a table element that apply to its wrapper box, regenerated from the source each run
(Gen/TableWrapperProps: the AST of `TABLE_WRAPPER_BOX_PROPERTIES` and the graph of the real cascade + build).
These theorems stop compiling when the tuple loses break-before / break-after (the class of seed C04-7), gains
break-inside, or when `wrap_table` stops resetting the moved value on the table box.
-/
import WpModel.Model.TableWrapGen
import WpModel.Props.C04Table

namespace Wp.C04TableGen
open Wp Wp.TableBreaks

/-- css-break / CSS 2.1 17.4 on the extracted tuple: break-before and break-after of a table element apply to the
table wrapper box; break-inside stays on the table box (where `table_layout` reads it). -/
theorem wrapper_takes_breaks :
    Gen.wrapperProps.contains "break_before" = true ∧ Gen.wrapperProps.contains "break_after" = true ∧
    Gen.wrapperProps.contains "break_inside" = false := by decide +kernel

/-- The loop over the extracted tuple is the hand-written model of `wrap_table` used by every C04Table theorem and by
the `table-breaks` / `table-pages` correspondence, for every table. -/
theorem wrapTableGen_eq_spec (t : TableE) : wrapTableGen t = wrapTable t := by
  obtain ⟨hb, ha, _⟩ := wrapper_takes_breaks
  unfold wrapTableGen wrapTable tableBox moved
  simp only [hb, ha, ↓reduceIte]

/-- What the real cascade + build put on the wrapper box and on the table box, for every break property and value, is
what the loop over the extracted tuple gives. -/
theorem wrapGraph_agrees : ∀ e ∈ Gen.wrapGraph, moved e.1 e.2.1 = (e.2.2.1, e.2.2.2) := by decide +kernel

/-- break-inside is never moved: the table box keeps it. -/
theorem break_inside_stays (v : Brk) : moved "break_inside" v = (.auto, v) := by
  unfold moved
  simp only [wrapper_takes_breaks.2.2, Bool.false_eq_true, ↓reduceIte]

/-- `C04Table.forced_before_table` over the regenerated tuple: a forcing break-before written on a table element
forces the break before the whole table as `wrap_table` builds it from the extracted property list. -/
theorem forced_before_table_gen (c : Bool) (a : Elem) (t : TableE) (h : forces c t.before = true) :
    forces c (pageBreakBetween (toBox a) (wrapTableGen t)) = true := by
  rw [wrapTableGen_eq_spec]
  exact C04Table.forced_before_table c a t h

theorem forced_after_table_gen (c : Bool) (t : TableE) (b : Elem) (h : forces c t.after = true) :
    forces c (pageBreakBetween (wrapTableGen t) (toBox b)) = true := by
  rw [wrapTableGen_eq_spec]
  exact C04Table.forced_after_table c t b h

/-- Non-vacuity: a table with a top caption and `break-before: left` - the wrapper carries `left` (then the caption's
`auto`), the table box `auto`; the graph of the real build has the same row. -/
example : beforeChain (wrapTableGen ⟨.left, .auto, [.caption true .auto .auto, .row ⟨.auto, .auto⟩]⟩) = [.left, .auto] ∧
    moved "break_before" .left = (.left, .auto) ∧
    Gen.wrapGraph.contains ("break_before", Brk.left, Brk.left, Brk.auto) = true := by decide

end Wp.C04TableGen
