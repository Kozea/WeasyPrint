/-
C19 — the dates written for an embedded file (`Model/AttachDates`).  Full statement (false of the code:
`Witness.C19.attachment_dates_follow_the_clock`, known finding `attachment-dates-from-wall-clock`): the dates are a
function of the inputs of the render and of `SOURCE_DATE_EPOCH`, not of the wall clock.
-/
import WpModel.Model.AttachDates

namespace Wp.C19.Attach
open Wp.AttachDates

/-- **attachment_dates_reproducible_partial**: the dates do not depend on when the `Attachment` is built as soon as
each of them is given by the caller or can be read from a file (`filename=`) — the hypothesis excludes exactly the
attachments of `<link rel=attachment>` / `<a rel=attachment>`, which are built from a URL without dates. -/
theorem attachment_dates_reproducible_partial (i : Input) (now' : String)
    (hc : i.created.isSome = true ∨ i.fileTimes.isSome = true)
    (hm : i.modified.isSome = true ∨ i.fileTimes.isSome = true) :
    dates { i with now := now' } = dates i := by
  obtain ⟨c, m, ft, now, ep⟩ := i
  cases c <;> cases m <;> cases ft <;> simp_all [dates]

/-- `SOURCE_DATE_EPOCH` is not an input at all (whatever its value, the same dates). -/
theorem source_date_epoch_ignored (i : Input) (e : Option String) :
    dates { i with sourceDateEpoch := e } = dates i := rfl

/-- Explicit dates win over the file's, the file's over the clock. -/
theorem explicit_dates_win (i : Input) (c m : String) (h1 : i.created = some c) (h2 : i.modified = some m) :
    dates i = (c, m) := by
  simp [dates, h1, h2]

example : dates ⟨some "c", none, some ("fc", "fm"), "now", none⟩ = ("c", "fm") ∧
    dates ⟨none, none, none, "now", some "0"⟩ = ("now", "now") := by decide

end Wp.C19.Attach
