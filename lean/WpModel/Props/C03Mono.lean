/-
C03 — which boxes are monolithic (cannot be fragmented), from the source.

`Gen/Monolithic.lean` is the complete graph of the real `Box.is_monolithic` (formatting_structure/boxes.py), regenerated
on every run: every box class × every `overflow` keyword the real validator accepts × the kinds of `height`.
`_in_flow_layout` uses it in `can_break = not (page_is_empty_with_no_children or box.is_monolithic())`: inside a
monolithic container a child that crosses the page bottom is *not* sent to the next page. The theorems state which
boxes that is - in particular that a block container with `overflow: hidden` and automatic height (the clearfix /
clipping idiom) is fragmented like any other block - and justify two things that were hand-written: the pagination
model's `canBreak := !pienc` (its grammar has only `overflow: visible` blocks) and the rule by which the geometry
trace harness (`wide_trace.fit_items`) treats a container as one unbreakable item.
-/
import WpModel.Gen.Monolithic

namespace Wp.C03Mono
open Wp Wp.Gen

abbrev Row := String × Bool × Bool × String × Bool × Bool
def Row.cls (r : Row) : String := r.1
def Row.atomic (r : Row) : Bool := r.2.1
def Row.replaced (r : Row) : Bool := r.2.2.1
def Row.overflow (r : Row) : String := r.2.2.2.1
def Row.heightAuto (r : Row) : Bool := r.2.2.2.2.1
def Row.monolithic (r : Row) : Bool := r.2.2.2.2.2

/-- css-break-3 §4.1 as WeasyPrint reads it: atomic inlines and replaced boxes; scrollable boxes (`overflow: auto |
scroll`); boxes that clip (`overflow: hidden`) *and* have a definite height. -/
def spec (r : Row) : Bool :=
  r.atomic || r.replaced || r.overflow == "auto" || r.overflow == "scroll" ||
    (r.overflow == "hidden" && !r.heightAuto)

theorem overflow_keywords : overflowKeywords = ["visible", "hidden", "auto", "scroll"] := rfl

private theorem all_spec : monolithicGraph.all (fun r => Row.monolithic r == spec r) = true := by decide +kernel

theorem monolithic_iff_spec : ∀ r ∈ monolithicGraph, Row.monolithic r = spec r := by
  intro r hr
  have := List.all_eq_true.mp all_spec r hr
  simpa using this

/-- The class matters only through the two `isinstance` facts: rows that agree on them, on `overflow` and on the
kind of height agree on the result. -/
theorem class_only_through_kind : ∀ r ∈ monolithicGraph, ∀ r' ∈ monolithicGraph,
    Row.atomic r = Row.atomic r' → Row.replaced r = Row.replaced r' → Row.overflow r = Row.overflow r' →
    Row.heightAuto r = Row.heightAuto r' → Row.monolithic r = Row.monolithic r' := by
  intro r hr r' hr' h1 h2 h3 h4
  rw [monolithic_iff_spec r hr, monolithic_iff_spec r' hr']
  simp only [spec, h1, h2, h3, h4]

/-- **A clipping container of automatic height is fragmented like any other block** (and so is every
`overflow: visible` box that is neither an atomic inline nor replaced): it is not monolithic, so its children that
cross the page bottom are sent to the next page. -/
theorem clipped_auto_height_not_monolithic : ∀ r ∈ monolithicGraph,
    Row.atomic r = false → Row.replaced r = false →
    (Row.overflow r = "visible" ∨ (Row.overflow r = "hidden" ∧ Row.heightAuto r = true)) →
    Row.monolithic r = false := by
  intro r hr ha hp ho
  rw [monolithic_iff_spec r hr]
  rcases ho with ho | ⟨ho, hh⟩
  · simp [spec, ha, hp, ho]
  · simp [spec, ha, hp, ho, hh]

/-- **Scrollable boxes and clipped boxes of definite height are monolithic**, whatever their class. -/
theorem scrollable_or_clipped_definite_monolithic : ∀ r ∈ monolithicGraph,
    (Row.overflow r = "auto" ∨ Row.overflow r = "scroll" ∨ (Row.overflow r = "hidden" ∧ Row.heightAuto r = false)) →
    Row.monolithic r = true := by
  intro r hr ho
  rw [monolithic_iff_spec r hr]
  rcases ho with ho | ho | ⟨ho, hh⟩
  · simp [spec, ho]
  · simp [spec, ho]
  · simp [spec, ho, hh]

/-- The grammar of the pagination model (block boxes, `overflow: visible`) has no monolithic box: this is why
`Model/Paginate.firstPass` computes `can_break` as `!pienc` alone. Non-vacuity: the rows exist. -/
theorem pm_grammar_has_no_monolithic_box : ∀ r ∈ monolithicGraph,
    Row.cls r = "BlockBox" → Row.overflow r = "visible" → Row.monolithic r = false := by
  intro r hr hc ho
  have hall : monolithicGraph.all (fun r => !(Row.cls r == "BlockBox") || (!Row.atomic r && !Row.replaced r)) = true := by
    decide +kernel
  have := List.all_eq_true.mp hall r hr
  simp only [hc, beq_self_eq_true, Bool.not_true, Bool.false_or, Bool.and_eq_true, Bool.not_eq_eq_eq_not] at this
  exact clipped_auto_height_not_monolithic r hr (by simpa using this.1) (by simpa using this.2) (Or.inl ho)

example : [("BlockBox", false, false, "visible", true, false), ("BlockBox", false, false, "hidden", true, false),
    ("BlockBox", false, false, "hidden", false, true), ("BlockBox", false, false, "scroll", true, true),
    ("InlineBlockBox", true, false, "visible", true, true),
    ("BlockReplacedBox", false, true, "visible", true, true)].all (fun r => monolithicGraph.contains r) = true := by
  decide +kernel

end Wp.C03Mono
