/-
C08 — Box generation: right boxes, anonymous fix-ups, text preserved.
Statements are over the executable models of `Model/{TableGrid,Whitespace,AnonBoxes,BoxGen}.lean`,
whose class tables (`Gen/BoxKinds.lean`) are regenerated from /repo on every run.
-/
import WpModel.Model.BoxGen
import WpModel.Lemmas.Grid
import WpModel.Lemmas.Whitespace
import WpModel.Lemmas.Boxes
import WpModel.Lemmas.Tables
import WpModel.Lemmas.TableKinds
import WpModel.Lemmas.Threading
import WpModel.Lemmas.SpaceFlags
import WpModel.Lemmas.RowGroups
import WpModel.Lemmas.TableRules

namespace Wp.C08
open Wp Wp.Bx Wp.TableGrid

/-! ## display → box class -/

/-- The table read from the source text and the table of the imported module agree. -/
theorem display_table_ast_eq_graph : Gen.displayTableAst = Gen.displayTableGraph := rfl

/-- `computed_values.display` as modelled = the complete graph of the real function over every value
of the validator × float × position × root. -/
theorem blockify_graph : ∀ e ∈ Gen.blockifyGraph, blockify e.1 e.2.1 e.2.2.1 e.2.2.2.1 = e.2.2.2.2 := by
  decide +kernel

theorem float_graph : ∀ e ∈ Gen.floatGraph, computeFloat e.1 e.2.1 = e.2.2 := by decide +kernel

/-- What css-display-3 §2 prescribes for a computed `display`: the outer type decides block-level /
inline-level, the inner type the kind of container; `table-*` values their own classes.
(`InlineTableBox` is not an `InlineLevelBox` in boxes.py: it always ends up inside an inline-block
wrapper, see `wrapTable`.) -/
def rightBox (d : List String) (k : BoxKind) : Bool :=
  match d with
  | [outer, inner] =>
    (if outer == "block" then Gen.isSub k .BlockLevelBox && !Gen.isSub k .InlineLevelBox
     else outer == "inline" && (Gen.isSub k .InlineLevelBox || k == .InlineTableBox) &&
          (k == .InlineTableBox || !Gen.isSub k .BlockLevelBox)) &&
    (if inner == "flow" then
       (if outer == "block" then Gen.isSub k .BlockContainerBox else k == .InlineBox)
     else if inner == "flow-root" then Gen.isSub k .BlockContainerBox
     else if inner == "table" then Gen.isSub k .TableBox &&
       (Gen.isSub k .InlineTableBox == (outer == "inline"))
     else if inner == "flex" then Gen.isSub k .FlexContainerBox
     else if inner == "grid" then Gen.isSub k .GridContainerBox
     else false)
  | ["table-row"] => k == .TableRowBox
  | ["table-row-group"] => k == .TableRowGroupBox
  | ["table-header-group"] => k == .TableRowGroupBox
  | ["table-footer-group"] => k == .TableRowGroupBox
  | ["table-column"] => k == .TableColumnBox
  | ["table-column-group"] => k == .TableColumnGroupBox
  | ["table-cell"] => k == .TableCellBox
  | ["table-caption"] => k == .TableCaptionBox
  | _ => false

/-- The class attributes the anonymous-table rules read are the definitions of CSS 2.1 §17.2.1:
proper table child, internal table box or caption, tabular container, proper parents; and the class
lattice keeps block-level and inline-level apart, text and inline boxes inline-level, line boxes
neither. -/
theorem table_class_attributes :
    (∀ k, Gen.properTableChild k = [BoxKind.TableRowGroupBox, .TableRowBox, .TableColumnGroupBox,
        .TableColumnBox, .TableCaptionBox].contains k) ∧
    (∀ k, Gen.internalTableOrCaption k = [BoxKind.TableRowGroupBox, .TableRowBox, .TableColumnGroupBox,
        .TableColumnBox, .TableCellBox, .TableCaptionBox].contains k) ∧
    (∀ k, Gen.tabularContainer k = [BoxKind.TableBox, .InlineTableBox, .TableRowGroupBox, .TableRowBox].contains k) ∧
    Gen.properParents .TableRowGroupBox = [.TableBox, .InlineTableBox] ∧
    Gen.properParents .TableRowBox = [.TableBox, .InlineTableBox, .TableRowGroupBox] ∧
    Gen.properParents .TableColumnGroupBox = [.TableBox, .InlineTableBox] ∧
    Gen.properParents .TableColumnBox = [.TableBox, .InlineTableBox, .TableColumnGroupBox] ∧
    Gen.properParents .TableCaptionBox = [.TableBox, .InlineTableBox] ∧
    (∀ k, !(Gen.isSub k .BlockLevelBox && Gen.isSub k .InlineLevelBox) = true) ∧
    (∀ k, Gen.isSub k .InlineLevelBox = [BoxKind.InlineBox, .TextBox, .InlineBlockBox, .InlineReplacedBox,
        .InlineFlexBox, .InlineGridBox].contains k) ∧
    (∀ k, Gen.isSub k .BlockLevelBox = [BoxKind.BlockBox, .BlockReplacedBox, .TableBox, .InlineTableBox,
        .TableCaptionBox, .FlexBox, .GridBox].contains k) ∧
    (∀ k, Gen.isSub k .BlockContainerBox = [BoxKind.BlockBox, .InlineBlockBox, .TableCellBox,
        .TableCaptionBox].contains k) ∧
    (∀ k, Gen.isSub k .ParentBox = ![BoxKind.TextBox, .BlockReplacedBox, .InlineReplacedBox].contains k) := by
  decide

/-- Do two styles agree on the entry `key` (the kind-tree model keeps `float` as two flags, `position` as two,
`display` as the header / footer / other distinction)? -/
def sameEntry (key : String) (a b : Style) : Bool :=
  if key == "float" then a.flt == b.flt && a.foot == b.foot
  else if key == "position" then a.abs == b.abs && a.run == b.run
  else if key == "display" then a.disp == b.disp
  else if key == "white_space" then a.ws == b.ws
  else if key == "text_transform" then a.tt == b.tt
  else if key == "hyphens" then a.hyph == b.hyph
  else if key == "caption_side" then a.capBottom == b.capBottom
  else true

/-- `AnonymousStyle` as modelled (`anonStyle`) = the real class, entry by entry: the graph of
`AnonymousStyle.__missing__` regenerated on every run says which entries an anonymous box takes from its
parent (`white-space`, `text-transform`, `hyphens`, `caption-side`: inherited properties) and which get the
initial value (`float`, `position`, `display`); the model does exactly that, for every parent style.  (That the
seven entries are all the entries of a `Style` but the `anon` mark is seen from the structure, not stated here.) -/
theorem anonymous_style_inherits :
    Gen.anonInherits.map (·.1) = ["float", "position", "display", "white_space", "text_transform", "hyphens",
      "caption_side"] ∧
    ∀ e ∈ Gen.anonInherits, ∀ p : Style,
      sameEntry e.1 (anonStyle p) (if e.2 then p else {}) = true ∧ (anonStyle p).anon = true := by
  refine ⟨rfl, ?_⟩
  intro e he p
  simp only [Gen.anonInherits, List.mem_cons, List.mem_nil_iff, or_false] at he
  rcases he with rfl | rfl | rfl | rfl | rfl | rfl | rfl
  · exact ⟨rfl, rfl⟩
  · exact ⟨rfl, rfl⟩
  · exact ⟨rfl, rfl⟩
  · refine ⟨?_, rfl⟩
    show ((anonStyle p).ws == p.ws) = true
    unfold anonStyle; cases p.ws <;> rfl
  · refine ⟨?_, rfl⟩
    show ((anonStyle p).tt == p.tt) = true
    unfold anonStyle; cases p.tt <;> rfl
  · refine ⟨?_, rfl⟩
    show ((anonStyle p).hyph == p.hyph) = true
    unfold anonStyle; cases p.hyph <;> rfl
  · refine ⟨?_, rfl⟩
    show ((anonStyle p).capBottom == p.capBottom) = true
    unfold anonStyle; cases p.capBottom <;> rfl

example : sameEntry "white_space" { ws := .pre } {} = false ∧ sameEntry "float" { flt := true } {} = false ∧
    (anonStyle { ws := .pre, flt := true, capBottom := true }).ws = .pre ∧
    (anonStyle { ws := .pre, flt := true, capBottom := true }).flt = false := by decide

/-- CSS 2.1 §9.7 / css-display-3 §2.7: the display a floated, absolutely positioned or root element
must compute to. -/
def blockified : List String → List String
  | ["inline", inner] => ["block", inner]
  | ["inline", inner, "list-item"] => ["block", inner, "list-item"]
  | [single] => if single.startsWith "table-" then ["block", "flow"] else [single]
  | v => v

def outOfFlowOrRoot (f p : String) (r : Bool) : Bool :=
  p == "absolute" || p == "fixed" || f != "none" || r

/-- The display `computed_values.display` gives an element that is floated, absolutely positioned or the root. -/
def blockifyValue (value : List String) : List String :=
  if value == ["inline-table"] then ["block", "table"]
  else if value.length == 1 && (match value with | v :: _ => v.startsWith "table-" | [] => false) then
    ["block", "flow"]
  else if value.head? == some "inline" then
    if value.contains "list-item" then ["block", "flow", "list-item"] else ["block", "flow"]
  else value

/-- `float`, `position` and root matter to `computed_values.display` only through one test. -/
theorem blockify_eq (v : List String) (f p : String) (r : Bool) :
    blockify v f p r =
      if outOfFlowOrRoot f p r then blockifyValue v else v := rfl

theorem display_values_right : ∀ v ∈ Gen.displayValues, ∀ w ∈ [v, blockifyValue v],
    w = ["none"] ∨ ∃ k, boxTypeFromDisplay w = some k ∧ rightBox (w.take 2) k = true := by
  decide +kernel

/-- Every entry of `BOX_TYPE_FROM_DISPLAY` maps a display to a box class of the prescribed nature,
and every display the validator can produce (other than `none`) has an entry that does. -/
theorem display_to_box_right :
    (∀ e ∈ Gen.displayTableAst, rightBox e.1 e.2 = true) ∧
    (∀ v ∈ Gen.displayValues, v = ["none"] ∨
      ∃ k, boxTypeFromDisplay v = some k ∧ rightBox (v.take 2) k = true) :=
  ⟨by decide +kernel, fun v hv => display_values_right v hv v List.mem_cons_self⟩

/-- After the computation of `display` (blockification of floats, positioned boxes and the root) every
validator value is `none` or has a box class of the nature css-display-3 prescribes for the *computed*
value (`rightBox`; which computed value that is, is `blockify_partial` and its known finding). -/
theorem computed_display_to_box_right :
    ∀ v ∈ Gen.displayValues, ∀ (f p : String) (r : Bool),
      blockify v f p r = ["none"] ∨
      ∃ k, boxTypeFromDisplay (blockify v f p r) = some k ∧ rightBox ((blockify v f p r).take 2) k = true := by
  intro v hv f p r
  rw [blockify_eq]
  split
  · exact display_values_right v hv _ (List.mem_cons_of_mem _ List.mem_cons_self)
  · exact display_values_right v hv _ List.mem_cons_self

/-- An element that is neither floated, absolutely positioned nor the root keeps its display
(any value, not only the validator's). -/
theorem blockify_in_flow (v : List String) (f p : String) (h : outOfFlowOrRoot f p false = false) :
    blockify v f p false = v := by
  rw [blockify_eq, h]
  rfl

/-- The three values whose blockification the code gets wrong (known finding
`blockify-inline-table-flex-grid`, see `Witness.C08.blockify_inline_flex`). -/
def blockifyDefect (v : List String) : Bool :=
  v.take 2 == ["inline", "table"] || v.take 2 == ["inline", "flex"] || v.take 2 == ["inline", "grid"]

theorem blockifyValue_partial : ∀ v ∈ Gen.displayValues, blockifyDefect v = false →
    boxTypeFromDisplay (blockifyValue v) = boxTypeFromDisplay (blockified v) ∧
    (blockifyValue v).contains "list-item" = v.contains "list-item" := by
  decide +kernel

/- Full statement (false of the current code, see the witness):
   ∀ v ∈ Gen.displayValues, v ≠ ["none"] → outOfFlowOrRoot f p r →
     boxTypeFromDisplay (blockify v f p r) = boxTypeFromDisplay (blockified v) ∧ list-item kept -/
/-- Floats, absolutely positioned elements and the root get the box class of the CSS 2.1 §9.7
table, and keep `list-item`, for every validator value except inline-table / -flex / -grid. -/
theorem blockify_partial :
    ∀ v ∈ Gen.displayValues, blockifyDefect v = false →
    ∀ f ∈ ["none", "left", "right", "footnote"],
    ∀ p ∈ ["static", "relative", "absolute", "fixed", "running"], ∀ r : Bool,
      outOfFlowOrRoot f p r = true →
        boxTypeFromDisplay (blockify v f p r) = boxTypeFromDisplay (blockified v) ∧
        (blockify v f p r).contains "list-item" = v.contains "list-item" := by
  intro v hv hd f _ p _ r ho
  rw [blockify_eq, if_pos ho]
  exact blockifyValue_partial v hv hd

/-! ## slot assignment of `wrap_table` -/

/-- The slot loop never fails: one set of occupied columns is popped per row (no IndexError). -/
theorem slots_total (rows : List (List CellIn)) (w : Nat) : ∃ r, placeGroup rows w = .ok r :=
  placeRows_ok rows _ w (by simp)

/- Full statement (false of the current code: `Witness.C08.colspan_overlaps_rowspan`):
   placeGroup rows w = .ok (outs, w') → (tagRows 0 outs).Pairwise Disj -/
/-- The rectangles `[grid_x, grid_x+colspan) × [row, row+rowspan')` of the cells of a row group are
pairwise disjoint, for every group in which no cell reaches (through `colspan > 1`) over a column
already taken in its row by a cell spanning from an earlier row. -/
theorem slots_disjoint_partial (rows : List (List CellIn)) (w : Nat) (outs : List (List CellOut)) (w' : Nat)
    (h : placeGroup rows w = .ok (outs, w')) (hno : NoOverhang rows (rows.map (fun _ => [])) w) :
    (tagRows 0 outs).Pairwise Disj := by
  have := placeRows_disjoint rows _ w [] 0 outs w' h hno (complete_nil _ _) (by simp) List.Pairwise.nil
  simpa using this

/-- No overhang is possible when every colspan is 1: any mix of rowspans (clipped, 0) is safe. -/
theorem slots_disjoint_colspan_one (rows : List (List CellIn)) (w : Nat) (outs : List (List CellOut)) (w' : Nat)
    (h : placeGroup rows w = .ok (outs, w')) (hc : ∀ row ∈ rows, ∀ c ∈ row, c.colspan ≤ 1) :
    (tagRows 0 outs).Pairwise Disj :=
  slots_disjoint_partial rows w outs w' h (noOverhang_of_colspan rows _ w hc)

/-- … nor when every rowspan is 1: any mix of colspans is safe. -/
theorem slots_disjoint_rowspan_one (rows : List (List CellIn)) (w : Nat) (outs : List (List CellOut)) (w' : Nat)
    (h : placeGroup rows w = .ok (outs, w')) (hr : ∀ row ∈ rows, ∀ c ∈ row, c.rowspan = 1) :
    (tagRows 0 outs).Pairwise Disj :=
  slots_disjoint_partial rows w outs w' h
    (noOverhang_of_rowspan rows _ w hr (by intro o ho; simp only [List.mem_map] at ho; obtain ⟨_, _, rfl⟩ := ho; rfl))

/-- Unconditionally (any colspans ≥ 1, any rowspans): the origin slot `(row, grid_x)` of a cell lies
in the rectangle of no other cell of the group. -/
theorem origin_slot_exclusive (rows : List (List CellIn)) (w : Nat) (outs : List (List CellOut)) (w' : Nat)
    (h : placeGroup rows w = .ok (outs, w')) (hpos : ∀ row ∈ rows, ∀ c ∈ row, 1 ≤ c.colspan) :
    (tagRows 0 outs).Pairwise OriginFree := by
  have := placeRows_originFree rows _ w [] 0 outs w' h hpos (complete_nil _ _) (by simp) List.Pairwise.nil
  simpa using this

/-- Every cell spans at least its own row and never leaves its row group. -/
theorem rowspan_in_group (rows : List (List CellIn)) (w : Nat) (outs : List (List CellOut)) (w' : Nat)
    (h : placeGroup rows w = .ok (outs, w')) :
    ∀ a ∈ tagRows 0 outs, 1 ≤ a.2.rowspan ∧ a.1 + a.2.rowspan ≤ rows.length := by
  intro a ha
  have := placeRows_rowspan rows _ w 0 outs w' h (by simp) a ha
  omega

/-- The spans written on the cells of row `i`: `colspan` is kept; `rowspan = 0` becomes "all the
rows left in the group", `rowspan = n > 0` becomes `min n (rows left)`. -/
theorem spans_written (rows : List (List CellIn)) (w : Nat) (outs : List (List CellOut)) (w' : Nat)
    (h : placeGroup rows w = .ok (outs, w')) (i : Nat) (row : List CellIn) (hi : rows[i]? = some row) :
    ∃ orow, outs[i]? = some orow ∧
      orow.map (·.rowspan) = row.map (fun c => if c.rowspan = 0 then rows.length - i
                                              else min c.rowspan (rows.length - i)) ∧
      orow.map (·.colspan) = row.map (·.colspan) := by
  obtain ⟨orow, h1, h2, h3⟩ := placeRows_spans rows _ w outs w' h (by simp) i row hi
  refine ⟨orow, h1, ?_, h3⟩
  rw [h2]
  have hlt : i < rows.length := (List.getElem?_eq_some_iff.mp hi).1
  apply List.map_congr_left
  intro c _
  by_cases h0 : c.rowspan = 0
  · rw [effRowspan_zero c _ h0]; simp only [h0, if_true]; omega
  · rw [effRowspan_clip c _ h0]; simp only [h0, if_false]
    have : rows.length - 1 - i + 1 = rows.length - i := by omega
    rw [this]

/-- `grid_width` after a group is the maximum of its previous value and the right edges of the
cells: it bounds every cell and is attained. -/
theorem grid_width_is_max (rows : List (List CellIn)) (w : Nat) (outs : List (List CellOut)) (w' : Nat)
    (h : placeGroup rows w = .ok (outs, w')) :
    w ≤ w' ∧ (∀ a ∈ tagRows 0 outs, a.2.gridX + a.2.colspan ≤ w') ∧
    (w' = w ∨ ∃ a ∈ tagRows 0 outs, w' = a.2.gridX + a.2.colspan) :=
  placeRows_width rows _ w 0 outs w' h

/-! Non-vacuity: a group with a colspan-2 cell beside a rowspan-3 cell (clipped to 2), a
`rowspan = 0` cell, and a second row that must skip an occupied column. -/
example :
    placeGroup [[⟨2, 1⟩, ⟨1, 3⟩, ⟨1, 0⟩], [⟨1, 1⟩, ⟨1, 1⟩, ⟨1, 1⟩]] 0 =
      .ok ([[⟨0, 2, 1⟩, ⟨2, 1, 2⟩, ⟨3, 1, 2⟩], [⟨0, 1, 1⟩, ⟨1, 1, 1⟩, ⟨4, 1, 1⟩]], 5) ∧
    NoOverhang [[⟨2, 1⟩, ⟨1, 3⟩, ⟨1, 0⟩], [⟨1, 1⟩, ⟨1, 1⟩, ⟨1, 1⟩]] [[], []] 0 :=
  ⟨by rfl, by decide⟩


/-! ## white space (CSS 2.1 §16.6.1, first part) on one text -/

/-- The scanners of `Model/Whitespace.lean` were written for exactly these patterns (read from the
source on every run): an edit of a regular expression in build.py breaks this theorem. -/
theorem whitespace_patterns :
    Gen.lineFeedRe = "\r\n?" ∧ Gen.tabRe = "[\t ]*\n[\t ]*" ∧ Gen.spaceRe = "[\t ]+" := by decide

/-- Which `white-space` values collapse what (the tuples are read from the source on every run). -/
theorem whitespace_modes :
    (∀ ws ∈ [WS.normal, .nowrap], newLineCollapse ws = true ∧ spaceCollapse ws = true) ∧
    (newLineCollapse .preLine = false ∧ spaceCollapse .preLine = true) ∧
    (∀ ws ∈ [WS.pre, .preWrap], newLineCollapse ws = false ∧ spaceCollapse ws = false) ∧
    (∀ ws : WS, (Gen.validWs.contains ws.toCss) = true) ∧ Gen.validWs.length = WS.all.length := by
  refine ⟨by decide, by decide, by decide, ?_, by decide⟩
  intro ws; cases ws <;> decide

/-- `inline_in_block` may leave out a text box holding one space at the start of a line only when that
space is collapsible: the `white-space` values of that test are exactly those for which
`process_whitespace` collapses spaces (both tuples are read from the source on every run).  Under
`pre` / `pre-wrap` a lone space is content. -/
theorem line_start_space_collapsible :
    ∀ ws : WS, Gen.lineStartSpaceWs.contains ws = spaceCollapse ws := by
  intro ws; cases ws <;> decide

/-- Under every `white-space` value the words (maximal runs of characters other than space, tab, LF,
CR) are the same: two words are separated in the output iff they were separated in the input. -/
theorem whitespace_preserves_words (ws : WS) (t : Text) (f : Bool) :
    words (processText ws t f).text = words t := by
  by_cases hs : spaceCollapse ws = true
  · rw [processText_collapse ws hs, words_stripLead, words_collapsed]
  · rw [processText_pre ws (Bool.eq_false_iff.mpr hs)]
    exact words_lineFeed t

/-- … and so those characters come out unchanged and in the same order. -/
theorem whitespace_preserves_text (ws : WS) (t : Text) (f : Bool) :
    nonWhite (processText ws t f).text = nonWhite t := by
  rw [nonWhite_eq_words, nonWhite_eq_words, whitespace_preserves_words]

/-- `white-space: normal | nowrap`: no tab, no line feed, no carriage return is left. -/
theorem whitespace_collapses_newlines (ws : WS) (h : newLineCollapse ws = true) (t : Text) (f : Bool) :
    ∀ c ∈ (processText ws t f).text, c ≠ 9 ∧ c ≠ 10 ∧ c ≠ 13 := by
  rw [processText_collapse ws (nlc_imp_sc ws h)]
  intro c hc
  obtain ⟨h9, h13, h10⟩ := mem_collapsed ws t c (mem_stripLead _ _ c hc)
  exact ⟨h9, h10 h, h13⟩

/-- `white-space: normal | nowrap | pre-line`: never two consecutive spaces, no tab, no CR. -/
theorem whitespace_collapses_spaces (ws : WS) (h : spaceCollapse ws = true) (t : Text) (f : Bool) :
    noDoubleSp (processText ws t f).text = true ∧ ∀ c ∈ (processText ws t f).text, c ≠ 9 ∧ c ≠ 13 := by
  rw [processText_collapse ws h]
  refine ⟨noDoubleSp_stripLead _ _ (collapsed_noDouble ws t), fun c hc => ?_⟩
  obtain ⟨h9, h13, _⟩ := mem_collapsed ws t c (mem_stripLead _ _ c hc)
  exact ⟨h9, h13⟩

/-- `white-space: pre-line` keeps exactly the line breaks of the text (CRLF / CR / LF counted once). -/
theorem whitespace_pre_line_newlines (t : Text) (f : Bool) :
    (processText .preLine t f).text.count 10 = (lineFeed t).count 10 := by
  rw [processText_collapse .preLine (by decide), count_lf_stripLead, count_lf_collapsed .preLine (by decide)]

/-- `white-space: pre | pre-wrap`: only CRLF / CR → LF; no flag is set. -/
theorem whitespace_pre (ws : WS) (h : spaceCollapse ws = false) (t : Text) (f : Bool) :
    processText ws t f = ⟨lineFeed t, false, false⟩ ∧ (∀ c ∈ lineFeed t, c ≠ 13) ∧
    ((∀ c ∈ t, c ≠ 13) → lineFeed t = t) := by
  exact ⟨processText_pre ws h t f, fun c hc => (mem_lineFeedGo t false c hc).1, lineFeedGo_id t⟩

/-- Threading of `following_collapsible_space` through one text: the text and the outgoing flag
without an incoming flag are the collapsed text and "it ends with a space"; with an incoming flag
the leading space is removed (and recorded in `leading_collapsible_space`) iff there is one, and the
result then never starts with a space. -/
theorem whitespace_threading (ws : WS) (h : spaceCollapse ws = true) (t : Text) :
    let plain := processText ws t false
    let after := processText ws t true
    plain.setLeading = false ∧ plain.following = endsWithSp plain.text ∧
    after.setLeading = startsWithSp plain.text ∧ after.following = plain.following ∧
    after.text = (if startsWithSp plain.text then plain.text.drop 1 else plain.text) ∧
    startsWithSp after.text = false := by
  simp only [processText_collapse ws h, stripLead, Bool.false_and, Bool.false_eq_true, if_false, Bool.true_and]
  exact ⟨trivial, trivial, trivial, trivial, trivial, startsWithSp_stripLead _ (collapsed_noDouble ws t)⟩

/-- Across the boxes of one inline formatting context (text boxes and inline boxes in normal flow,
collapsing `white-space`): the concatenated text after `process_whitespace` has no two consecutive
spaces — a leading space is removed exactly when the previous in-flow text ended with a collapsible
one — it does not start with a space when a collapsible space precedes the box, and the returned
`following_collapsible_space` says whether it ends with one. -/
theorem whitespace_across_boxes (b : KBox) (f : Bool) (h : IC b) :
    noDoubleSp (leafText (pw b f).1) = true ∧
    (f = true → startsWithSp (leafText (pw b f).1) = false) ∧
    (pw b f).2 = (endsWithSp (leafText (pw b f).1) || ((leafText (pw b f).1).isEmpty && f)) :=
  pw_threaded b f h

/-- The same for the inline content of **any** container (`process_whitespace` hands the state from child to child
whatever the box is; /repo b7d94f7) — nothing is asked of the box's own `float` / `position` / class
(`IFC`: not a text box, children are inline content in normal flow).  Inside a float, an absolutely
positioned box, a running element, a cell, a block: no two consecutive spaces, no leading space after a
collapsible one; the returned flag is the "ends with a collapsible space" state, and `false` for a running
box. -/
theorem whitespace_across_boxes_any_container (b : KBox) (f : Bool) (h : IFC b) :
    noDoubleSp (leafText (pw b f).1) = true ∧
    (f = true → startsWithSp (leafText (pw b f).1) = false) ∧
    (pw b f).2 = ((endsWithSp (leafText (pw b f).1) || ((leafText (pw b f).1).isEmpty && f)) && !b.st.run) := by
  obtain ⟨⟨h1, h2, h3⟩, h4⟩ := pw_ifc b f h
  refine ⟨h1, h2, ?_⟩
  rw [h4, h3]

/-- `div(float: left)[ "a ", span[" b"] ]` → `a b`, as in normal flow. -/
example :
    let t (s : List Nat) : KBox := .mk .TextBox {} {} {} s [] []
    let b : KBox := .mk .BlockBox { flt := true } {} {} [] [t [97, 32], .mk .InlineBox {} {} {} [] [t [32, 98]] []] []
    IFC b ∧ b.inFlow = false ∧ leafText (pw b false).1 = [97, 32, 98] := by
  refine ⟨?_, by rfl, by rfl⟩
  simp [IFC, IC, ICL, KBox.isA, KBox.kind, KBox.text, KBox.kids]
  decide

/-- `span[ "a ", em[" b "], " c" ]` → `a b c`. -/
example :
    let t (s : List Nat) : KBox := .mk .TextBox {} {} {} s [] []
    let b : KBox := .mk .InlineBox {} {} {} [] [t [97, 32], .mk .InlineBox {} {} {} [] [t [32, 98, 32]] [], t [32, 99]] []
    IC b ∧ leafText (pw b false).1 = [97, 32, 98, 32, 99] ∧ (pw b false).2 = false := by
  refine ⟨?_, by rfl, by rfl⟩
  simp [IC, ICL]
  decide

/-! ## generated content: strings and quotes (`compute_content_list`) -/

/-- Content lists are processed item by item: the text and the quote depth reached after a prefix are
the starting point of the rest. -/
theorem content_append (q : Quotes) (l1 l2 : List CItem) (acc : Text) (d : Nat) :
    contentText q (l1 ++ l2) acc d =
      match contentText q l1 acc d with
      | .error e => .error e
      | .ok (a, d') => contentText q l2 a d' := by
  fun_induction contentText q l1 acc d
  case case1 => rfl
  case case2 ih => exact ih
  case case3 d1 _ he => simp only [List.cons_append, contentText, d1, he]
  case case4 d1 _ ht ih => simp only [List.cons_append, contentText, d1, ht, ih]

/-- A list of strings yields their concatenation and leaves the quote depth alone. -/
theorem content_strings (q : Quotes) (ts : List Text) (acc : Text) (d : Nat) :
    contentText q (ts.map .str) acc d = .ok (acc ++ ts.flatten, d) := by
  induction ts generalizing acc with
  | nil => simp [contentText]
  | cons t ts ih => simp [contentText, ih, List.append_assoc]

/-- `no-open-quote` / `no-close-quote`, and every quote keyword under `quotes: none`, insert nothing
and only move the depth (never below zero). -/
theorem content_silent_quote (q : Quotes) (isOpen insert : Bool) (rest : List CItem) (acc : Text) (d : Nat)
    (h : insert = false ∨ q = .none) :
    contentText q (.quote isOpen insert :: rest) acc d =
      contentText q rest acc (if isOpen then d + 1 else d - 1) := by
  have hq : quoteText q isOpen insert (if (!isOpen) = true then d - 1 else d) = .ok [] := by
    rcases h with rfl | rfl
    · cases q <;> rfl
    · rfl
  simp only [contentText, hq, List.append_nil]
  cases isOpen <;> simp

/-- An `open-quote` at depth `d` inserts the opening mark of level `min d (last level)` and goes one
level deeper; the `close-quote` met at depth `d + 1` inserts the closing mark of that same level and
returns to depth `d`: marks are paired level by level, whatever lies in between is processed at depth
`d + 1`. -/
theorem content_quote_pair (opens closes : List Text) (acc : Text) (d : Nat) (o c : Text)
    (ho : opens[min d (opens.length - 1)]? = some o) (hc : closes[min d (closes.length - 1)]? = some c)
    (inner rest : List CItem) (a1 : Text)
    (hin : contentText (.pairs opens closes) inner (acc ++ o) (d + 1) = .ok (a1, d + 1)) :
    contentText (.pairs opens closes) (.quote true true :: inner ++ .quote false true :: rest) acc d =
      contentText (.pairs opens closes) rest (a1 ++ c) d := by
  have step1 : contentText (.pairs opens closes) (.quote true true :: (inner ++ .quote false true :: rest)) acc d =
      contentText (.pairs opens closes) (inner ++ .quote false true :: rest) (acc ++ o) (d + 1) := by
    simp [contentText, quoteText, quoteAt, ho]
  rw [List.cons_append, step1, content_append, hin]
  simp [contentText, quoteText, quoteAt, hc]

def QuotesOk (q : Quotes) : Prop :=
  match q with
  | .pairs o c => o ≠ [] ∧ c ≠ []
  | _ => True

/-- With `quotes: auto`, `none`, or at least one pair of marks, no content list of strings and quote
keywords can fail (no IndexError). -/
theorem content_total (q : Quotes) (hq : QuotesOk q)
    (l : List CItem) (acc : Text) (d : Nat) : ∃ r, contentText q l acc d = .ok r := by
  have hne : ∀ (qs : List Text), qs ≠ [] → ∀ k, ∃ t, quoteAt qs k = .ok t := by
    intro qs hqs k
    unfold quoteAt
    have : min k (qs.length - 1) < qs.length := by
      have : 0 < qs.length := List.length_pos_iff.mpr hqs
      omega
    rw [List.getElem?_eq_getElem this]
    exact ⟨_, rfl⟩
  have hqt : ∀ o i k, ∃ t, quoteText q o i k = .ok t := by
    intro o i k
    cases q with
    | none => exact ⟨_, rfl⟩
    | auto =>
      cases i
      · exact ⟨_, rfl⟩
      · cases o
        · exact hne Gen.autoQuotes.2 (by decide) k
        · exact hne Gen.autoQuotes.1 (by decide) k
    | pairs op cl =>
      cases i
      · exact ⟨_, rfl⟩
      · cases o
        · exact hne cl hq.2 k
        · exact hne op hq.1 k
  fun_induction contentText q l acc d
  case case1 => exact ⟨_, rfl⟩
  case case3 o i _ _ _ d1 _ he => obtain ⟨t, ht⟩ := hqt o i d1; cases he.symm.trans ht
  -- the other two returns are recursive calls
  all_goals assumption

/-- `« a ‹ b › c »` from `open-quote "a" open-quote "b" close-quote "c" close-quote` with two levels of marks. -/
example : contentText (.pairs [[171], [8249]] [[187], [8250]])
    [.quote true true, .str [97], .quote true true, .str [98], .quote false true, .str [99], .quote false true] [] 0 =
    .ok ([171, 97, 8249, 98, 8250, 99, 187], 0) := by rfl

/-! ## `text-transform: capitalize` -/

private theorem ucat_beq (a b : UCat) : (a == b) = decide (a = b) := by
  cases a <;> cases b <;> rfl

private theorem capGo_sep (a b : Text) (z : Nat) (hz : Gen.ucatCp z = .Z) (f : Bool) :
    capitalizeGo (a ++ z :: b) f = capitalizeGo a f ++ z :: capitalizeGo b false := by
  induction a generalizing f with
  | nil =>
    simp only [List.nil_append, capitalizeGo, hz, ucat_beq]
    cases f <;> simp
  | cons c cs ih =>
    simp only [List.cons_append, capitalizeGo]
    split
    · rw [ih]; simp
    · split
      · rw [ih]; simp
      · rw [ih]; simp

/-- Words are capitalised independently: a separator (category Z) is kept and restarts the search
for a first letter. -/
theorem capitalize_separator (a b : Text) (z : Nat) (hz : Gen.ucatCp z = .Z) :
    capitalize (a ++ z :: b) = capitalize a ++ z :: capitalize b := capGo_sep a b z hz false

private theorem capGo_found (w : Text) (h : ∀ r ∈ w, Gen.ucatCp r ≠ .Z) : capitalizeGo w true = w := by
  induction w with
  | nil => rfl
  | cons c cs ih =>
    have hc := h c List.mem_cons_self
    simp only [capitalizeGo, Bool.not_true, Bool.false_and, Bool.false_eq_true, if_false]
    have : (Gen.ucatCp c == UCat.Z) = false := by simpa [ucat_beq] using hc
    simp only [this, Bool.false_eq_true, if_false]
    rw [ih (fun r hr => h r (List.mem_cons_of_mem _ hr))]

/-- Inside a word exactly the first letter or number is upper-cased; what precedes it (punctuation,
marks, …) and everything after it is unchanged. -/
theorem capitalize_word (pre rest : Text) (c : Nat)
    (hpre : ∀ p ∈ pre, Gen.ucatCp p ≠ .L ∧ Gen.ucatCp p ≠ .N ∧ Gen.ucatCp p ≠ .Z)
    (hc : Gen.ucatCp c = .L ∨ Gen.ucatCp c = .N) (hrest : ∀ r ∈ rest, Gen.ucatCp r ≠ .Z) :
    capitalize (pre ++ c :: rest) = pre ++ Gen.upperCp c ++ rest := by
  unfold capitalize
  induction pre with
  | nil =>
    have : (Gen.ucatCp c == UCat.L || Gen.ucatCp c == UCat.N) = true := by
      rcases hc with h | h <;> simp [h, ucat_beq]
    simp only [List.nil_append, capitalizeGo, Bool.not_false, Bool.true_and, this, if_true]
    rw [capGo_found rest hrest]
  | cons p ps ih =>
    obtain ⟨h1, h2, h3⟩ := hpre p List.mem_cons_self
    have e1 : (Gen.ucatCp p == UCat.L || Gen.ucatCp p == UCat.N) = false := by simp [h1, h2, ucat_beq]
    have e2 : (Gen.ucatCp p == UCat.Z) = false := by simpa [ucat_beq] using h3
    simp only [List.cons_append, capitalizeGo, Bool.not_false, Bool.true_and, e1, e2,
      Bool.false_eq_true, if_false]
    rw [ih (fun q hq => hpre q (List.mem_cons_of_mem _ hq))]

/-- A text without letters and numbers is unchanged. -/
theorem capitalize_no_letter (w : Text) (h : ∀ p ∈ w, Gen.ucatCp p ≠ .L ∧ Gen.ucatCp p ≠ .N) :
    capitalize w = w := by
  unfold capitalize
  generalize false = f
  fun_induction capitalizeGo w f with
  | case1 => rfl
  | case2 p ps f cat hc =>
    obtain ⟨h1, h2⟩ := h p List.mem_cons_self
    simp [cat, h1, h2, ucat_beq] at hc
  | case3 p ps f cat _ _ ih | case4 p ps f cat _ _ ih => rw [ih (List.forall_mem_cons.mp h).2]

example : capitalize [40, 97, 98, 32, 223, 120, 160, 49, 97] = [40, 65, 98, 32, 83, 83, 120, 160, 49, 97] := by
  decide

/-! Non-vacuity for the white-space laws: `" a\t\r\n b  "` under the three families. -/
example : (processText .normal [32, 97, 9, 13, 10, 32, 98, 32, 32] true).text = [97, 32, 98, 32] ∧
    (processText .preLine [32, 97, 9, 13, 10, 32, 98, 32, 32] false).text = [32, 97, 10, 98, 32] ∧
    (processText .pre [32, 97, 9, 13, 10, 32, 98, 32, 32] true).text = [32, 97, 9, 10, 32, 98, 32, 32] ∧
    words [32, 97, 9, 13, 10, 32, 98, 32, 32] = [[97], [98]] := by decide


/-! ## anonymous table boxes (CSS 2.1 §17.2.1) on kind-trees

`atb` = `anonymous_table_boxes`; the rules are re-applied to fresh wrappers with fuel, which `atb` itself gives
(`tableFuel (children + groupSpan box)`) and which suffices (`table_fixup_terminates`, Props/C08Pipeline.lean); the
statements about `tbc` are about every run that ends.
Running elements are skipped by the source (`box.is_running()`), hence the hypothesis `run = false`:
see `Witness.C08.running_row_not_fixed`. -/

private theorem atb_unfold (b b' : KBox) (hrun : b.st.run = false) (hp : b.isA .ParentBox = true)
    (h : atb b = .ok b') : ∃ children n, atbKids b.kids = .ok children ∧ tbc n b children = .ok b' := by
  rcases atb_cases h with ⟨h0, _⟩ | ⟨_, _, children, hk, h⟩
  · rcases h0 with h0 | h0
    · rw [hp] at h0; cases h0
    · rw [hrun] at h0; cases h0
  · exact ⟨children, _, hk, h⟩

/-- Every table box ends up as `wrapper ⊃ top captions, table, bottom captions`; the table's children
are row groups, its `column_groups` column groups; the wrapper is an inline-block for an inline table
and takes over `float` / `position` where `Gen.wrapperTakesFloat` / `Gen.wrapperTakesPosition` say so (the two
constants are read from /repo; their values are stated by no theorem). -/
theorem table_fixup_table (b b' : KBox) (hrun : b.st.run = false)
    (hk : b.kind = .TableBox ∨ b.kind = .InlineTableBox) (h : atb b = .ok b') :
    ∃ c3, TableShape b c3 b' ∧ ∀ o ∈ c3, Gen.properTableChild o.kind = true := by
  have hp : b.isA .ParentBox = true := by unfold KBox.isA; rcases hk with hk | hk <;> rw [hk] <;> rfl
  obtain ⟨children, n, _, ht⟩ := atb_unfold b b' hrun hp h
  exact tbc_table n b children b' hk ht

/-- The children of a row group are rows, of a row cells, of a column group (at least one) columns;
a column has none — whatever the element contained. -/
theorem table_fixup_parts (b b' : KBox) (hrun : b.st.run = false) (h : atb b = .ok b') :
    (b.kind = .TableRowGroupBox → ∀ o ∈ b'.kids, o.kind = .TableRowBox) ∧
    (b.kind = .TableRowBox → ∀ o ∈ b'.kids, o.kind = .TableCellBox) ∧
    (b.kind = .TableColumnGroupBox → b'.kids ≠ [] ∧ ∀ o ∈ b'.kids, o.kind = .TableColumnBox) ∧
    (b.kind = .TableColumnBox → b'.kids = []) := by
  refine ⟨?_, ?_, ?_, ?_⟩
  · intro hk
    obtain ⟨children, n, _, ht⟩ := atb_unfold b b' hrun (by unfold KBox.isA; rw [hk]; rfl) h
    obtain ⟨ks, rfl, hks⟩ := tbc_row_group n b children b' hk ht
    rw [(withKids_proj b ks).2.2.2]; exact hks
  · intro hk
    obtain ⟨children, n, _, ht⟩ := atb_unfold b b' hrun (by unfold KBox.isA; rw [hk]; rfl) h
    obtain ⟨ks, rfl, hks⟩ := tbc_row n b children b' hk ht
    rw [(withKids_proj b ks).2.2.2]; exact hks
  · intro hk
    obtain ⟨children, n, _, ht⟩ := atb_unfold b b' hrun (by unfold KBox.isA; rw [hk]; rfl) h
    obtain ⟨ks, rfl, hks⟩ := tbc_column_group n b children b' hk ht
    rw [(withKids_proj b ks).2.2.2]; exact hks
  · intro hk
    obtain ⟨children, n, _, ht⟩ := atb_unfold b b' hrun (by unfold KBox.isA; rw [hk]; rfl) h
    rw [tbc_column n b children b' hk ht, (withKids_proj b []).2.2.2]

/-- CSS 2.1 §17.2, the order of row groups — for every table and every list of children: the table
`wrap_table` puts in the wrapper holds the row groups (the given ones and the anonymous ones made for stray
rows, `rowGroups0`) in the order `orderedGroups`: the **first** group with `display: table-header-group`
first, marked `is_header`; the **first** with `table-footer-group` last, marked `is_footer`; all others —
further header / footer groups included — in document order in between.  (`groupKey`: class, style, element
attributes, marks and number of rows, i.e. everything but the `grid_x` / `rowspan` written on the cells.) -/
theorem wrap_table_row_group_order (n : Nat) (box : KBox) (children : List KBox) (w : KBox)
    (h : wrapTable (n + 1) box children = .ok w) :
    ∃ columns rows caps rowGroups0 table, sortTableKids children = .ok (columns, rows, caps) ∧
      wrapImproper n box rows .TableRowGroupBox (fun c => c.isA .TableRowGroupBox) [] = .ok rowGroups0 ∧
      table ∈ w.kids ∧ table.kind = box.kind ∧ table.kids.map groupKey = (orderedGroups rowGroups0).map groupKey := by
  obtain ⟨m, columns, rows, caps, cg, rg0, _, out, hn, hsort, _, hrg, _, _, rfl⟩ := wrapTable_cases h
  cases hn
  refine ⟨columns, rows, caps, rg0, wtTable box (setGroups (wtGroups rg0) out.groups) (setColGroups cg out.colGroups),
    hsort, hrg, ?_, (wtTable_proj _ _ _).1, ?_⟩
  · rw [wtWrapper_kids]
    exact List.mem_append_left _ (List.mem_append_right _ List.mem_cons_self)
  · rw [(wtTable_proj _ _ _).2.1, setGroups_key, wtGroups_eq]

/-- … and nothing is lost or duplicated: the first header group, the groups in between and the first footer
group are the row groups of the table, each exactly once. -/
theorem row_groups_conserved (gs : List KBox) :
    ((gs.find? isHeaderGroup).toList ++ (gs.eraseP isHeaderGroup).eraseP isFooterGroup ++
      (gs.find? isFooterGroup).toList).Perm gs ∧ (orderedGroups gs).length = gs.length := by
  refine ⟨splitGroups_perm gs, ?_⟩
  have := (splitGroups_perm gs).length_eq
  simp only [orderedGroups, List.length_append, Option.toList_map, List.length_map] at this ⊢
  exact this

/-- Groups with displays `body, header, footer, header, footer, body` (numbered 1-6): 2 first as header,
3 last as footer, the second header / footer groups 4 and 5 stay where they are as bodies. -/
example :
    let g (n : Int) (d : GDisp) : KBox := .mk .TableRowGroupBox { disp := d } { span := some n } {} [] [] []
    (orderedGroups [g 1 .other, g 2 .header, g 3 .footer, g 4 .header, g 5 .footer, g 6 .other]).map
      (fun (x : KBox) => (x.el.span, x.inst.isHeader, x.inst.isFooter)) =
    [(some 2, true, false), (some 1, false, false), (some 4, false, false), (some 5, false, false),
     (some 6, false, false), (some 3, false, true)] := by
  decide

/-- Rules 1.3 / 1.4, exactly (the clause the Python oracle `box_segments` samples: "white-space text may vanish
only between two internal table boxes or at the edge of a tabular container"), for every list of children:
* rule 1.4 as modelled is the source's comprehension over `zip([None]+children[:-1], children, children[1:]+[None])`;
* its result is a sublist of the children and keeps every child that is not white-space text, in order;
* a child with a neighbour that is no internal table box / caption on either side — or that is no white-space
  text — is kept where it is;
* rule 1.3 removes at most the first and the last child, both white-space text. -/
theorem table_rules_13_14_exact :
    (∀ (prev : Option KBox) (l : List KBox), rule14 prev l =
      (contexts prev l).filterMap (fun t => if rule14Drop t.1 t.2.1 t.2.2 = true then none else some t.2.1)) ∧
    (∀ (prev : Option KBox) (l : List KBox), (rule14 prev l).Sublist l ∧
      (rule14 prev l).filter (fun c => !isWhitespace c) = l.filter (fun c => !isWhitespace c)) ∧
    (∀ (prev : Option KBox) (c : KBox) (cs : List KBox),
      ((match prev with | some p => Gen.internalTableOrCaption p.kind | none => false) = false ∨
       (match cs with | nx :: _ => Gen.internalTableOrCaption nx.kind | [] => false) = false ∨
       isWhitespace c = false) → rule14 prev (c :: cs) = c :: rule14 (some c) cs) ∧
    (∀ l : List KBox, ∃ a b, l = a ++ rule13 l ++ b ∧ a.length ≤ 1 ∧ b.length ≤ 1 ∧
      ∀ c ∈ a ++ b, isWhitespace c = true) :=
  ⟨rule14_eq_comprehension, fun prev l => ⟨rule14_sublist prev l, rule14_keeps_nonwhite prev l⟩,
    rule14_keeps_head, rule13_shape⟩

/-- `tr, " ", td, " ", span, " "` in a table: the space between row and cell goes (rule 1.4), the space between
cell and span stays, the last space stays (its neighbour is no table part); `" ", tr, " "`: both go (1.3). -/
example :
    let t (s : List Nat) : KBox := .mk .TextBox {} {} {} s [] []
    let k (kind : BoxKind) : KBox := .mk kind {} {} {} [] [] []
    (rule14 none (rule13 [k .TableRowBox, t [32], k .TableCellBox, t [32], k .InlineBox, t [32]])).map
        (fun (c : KBox) => c.kind) = [.TableRowBox, .TableCellBox, .TextBox, .InlineBox, .TextBox] ∧
    (rule14 none (rule13 [t [32], k .TableRowBox, t [10]])).map (fun (c : KBox) => c.kind) = [.TableRowBox] := by
  decide

/-- Rule 3.2 — *which* anonymous table: under a parent that is no table part, every child after the
fix-up is a (fixed-up) child of the box that is no internal table box, or an anonymous table wrapper
generated by the rule, and that wrapper is an inline-block around an inline-table exactly when the parent
is an inline box; under a block, inline-block, inline-flex / inline-grid, cell, caption … it is a block
around a block-level table (`Rule32Wrapper`). -/
theorem table_fixup_anonymous_table_kind (b b' : KBox) (hrun : b.st.run = false) (hp : b.isA .ParentBox = true)
    (hk : b.kind ∉ [BoxKind.TableBox, .InlineTableBox, .TableRowGroupBox, .TableRowBox,
      .TableColumnGroupBox, .TableColumnBox]) (h : atb b = .ok b') :
    ∃ children, atbKids b.kids = .ok children ∧
      ∀ o ∈ b'.kids, (o ∈ children ∧ Gen.internalTableOrCaption o.kind = false) ∨ Rule32Wrapper b o := by
  obtain ⟨children, n, hkids, h⟩ := atb_unfold b b' hrun hp h
  obtain ⟨ks, rfl, hks⟩ := tbc_other_kinds _ _ children b' hk h
  exact ⟨children, hkids, fun o ho => hks o (by rwa [(withKids_proj _ ks).2.2.2] at ho)⟩

/-! Non-vacuity: a stray cell in a `span` gets an inline-table in an inline-block; the same cell in an
inline-block (or an inline-flex container) gets a block-level table in a block. -/
example :
    let cell : KBox := .mk .TableCellBox {} {} {} [] [] []
    let shape (r : Except BErr KBox) := match r with
      | .ok b => b.kids.map (fun (w : KBox) => (w.kind, w.inst.wrapper, w.kids.map (fun (t : KBox) => t.kind)))
      | .error _ => []
    shape (atb (.mk .InlineBox {} {} {} [] [cell] [])) = [(.InlineBlockBox, true, [.InlineTableBox])] ∧
    shape (atb (.mk .InlineBlockBox {} {} {} [] [cell] [])) = [(.BlockBox, true, [.TableBox])] ∧
    shape (atb (.mk .InlineFlexBox {} {} {} [] [cell] [])) = [(.BlockBox, true, [.TableBox])] := by
  decide +kernel

/-- Under any other parent (block, inline, inline-block, cell, caption, flex, grid, line …) no
internal table box or caption is left as a child: stray cells went into anonymous rows, stray rows /
row groups / columns / captions into anonymous tables, i.e. table wrappers. -/
theorem table_fixup_other (b b' : KBox) (hrun : b.st.run = false) (hp : b.isA .ParentBox = true)
    (hk : b.kind ∉ [BoxKind.TableBox, .InlineTableBox, .TableRowGroupBox, .TableRowBox,
      .TableColumnGroupBox, .TableColumnBox]) (h : atb b = .ok b') :
    ∀ o ∈ b'.kids, Gen.internalTableOrCaption o.kind = false := by
  obtain ⟨_, _, hks⟩ := table_fixup_anonymous_table_kind b b' hrun hp hk h
  intro o ho
  rcases hks o ho with ⟨_, h1⟩ | ⟨_, _, h1, _⟩
  · exact h1
  · rw [h1]
    split <;> rfl

/-! Non-vacuity: `div[ td"a", " ", tr[ "b" ], caption ]` becomes
`div[ wrapper[ caption, table[ rowgroup[ row[cell a], row[cell[b]] ] ] ] ]`. -/
private def tk (k : BoxKind) (kids : List KBox) : KBox := .mk k {} {} {} [] kids []

example : (match atb (tk .BlockBox [tk .TableCellBox [.mk .TextBox {} {} {} [97] [] []],
      .mk .TextBox {} {} {} [32] [] [], tk .TableRowBox [.mk .TextBox {} {} {} [98] [] []], tk .TableCaptionBox []]) with
    | .ok b => b.kids.map (fun (w : KBox) => (w.kind, w.inst.wrapper, w.kids.map (fun (t : KBox) =>
        (t.kind, t.kids.map (fun (g : KBox) => (g.kind, g.kids.map (fun (r : KBox) =>
          (r.kind, r.kids.map (fun (c : KBox) => (c.kind, c.inst.gridX))))))))))
    | .error _ => []) =
    [(.BlockBox, true, [(.TableCaptionBox, []), (.TableBox, [(.TableRowGroupBox,
      [(.TableRowBox, [(.TableCellBox, some 0)]), (.TableRowBox, [(.TableCellBox, some 0)])])])])] := by
  rfl

/-! ## `inline_in_block` (CSS 2.1 §9.2.1.1) on kind-trees

`Good b`: no line box yet, children of block containers are inline-level or block-level, text boxes
are leaves.  It is a hypothesis of the three theorems below and concluded by none: it fails of what the table / flex /
grid passes hand over when a running element, which they skip, holds a stray table part
(`inline_in_block_text_tidy`, Props/C08Pipeline.lean, asks `Tidy` only).  `WF b'`: outside running elements every
block container holds exactly one line box of inline content (inline-level boxes, and floats /
absolutely positioned boxes kept where they occur) or only block-level boxes. -/

/-- No `assert` of `inline_in_block` can fail. -/
theorem inline_in_block_total (b : KBox) (force : Bool) (h : Good b) : ∃ b', iib force b = .ok b' :=
  iib_ok b force h

/-- A block container holds only block-level boxes or only one inline formatting context; line
boxes hold only inline-level (or out-of-flow) boxes — at every depth. -/
theorem inline_in_block_structure (b b' : KBox) (force : Bool) (h : Good b) (hr : iib force b = .ok b') :
    WF b' := iib_wf b force b' h hr

/-- The box itself keeps its class, style, element and text. -/
theorem inline_in_block_same (b b' : KBox) (force : Bool) (hr : iib force b = .ok b') :
    b'.kind = b.kind ∧ b'.st = b.st ∧ b'.text = b.text ∧ b'.el = b.el :=
  let h := iib_same force b b' hr; ⟨h.1, h.2.1, h.2.2.2.1, h.2.2.2.2⟩

/-- Collapsed spaces are remembered as break opportunities (the state `trailing_collapsible_space` of the
property): whenever the last child of a box that is not running is a text box emptied by
`process_whitespace` with `leading_collapsible_space` set (`CollapsedSpace`), `inline_in_block` removes it
and the box carries `trailing_collapsible_space` afterwards — for every box class, every other child and
every incoming flag.  (This is the flag `split_inline_box` reads as the line-break opportunity after the
box; a regression here changes no text and no box, only line breaking.) -/
theorem inline_in_block_trailing_flag (force : Bool) (b b' : KBox) (ks : List KBox) (t : KBox)
    (hrun : b.st.run = false) (hk : b.kids = ks ++ [t]) (ht : CollapsedSpace t) (h : iib force b = .ok b') :
    b'.inst.tcs = true := by
  obtain ⟨k, st, el, inst, text, kids, cols⟩ := b
  simp only [KBox.st] at hrun
  simp only [KBox.kids] at hk
  subst hk
  rcases iib_cases h with ⟨hcond, _⟩ | ⟨_, children, trailing, hkids, hb'⟩
  · rw [hrun] at hcond
    cases ks <;> cases hcond
  · have htcs : (iibInst force inst (ks ++ [t]) trailing).tcs = true := by
      rw [iibKids_trailing t ht ks false children trailing hkids]
      show (if (inst.tcs == false) = true then true else inst.tcs) = true
      cases inst.tcs <;> rfl
    rcases hb' with ⟨_, rfl⟩ | ⟨_, _, _, rfl⟩
    · exact htcs
    · exact htcs

/-- `word <b> </b>word`, function level to pipeline: an inline box holding one run of spaces / tabs under
any collapsing `white-space`, met after a collapsible space, goes through `process_whitespace` and
`inline_in_block` as an inline box without children that carries `leading_` and
`trailing_collapsible_space`, and the state handed to what follows is still "a collapsible space precedes". -/
theorem collapsed_space_is_break_opportunity (st : Style) (el : El) (inst : Inst)
    (tk : BoxKind) (tst : Style) (tel : El) (tinst : Inst) (text : Text)
    (hrun : st.run = false) (htk : Gen.isSub tk .TextBox = true) (htrun : tst.run = false)
    (hws : spaceCollapse tst.ws = true) (hne : text ≠ []) (hsp : AllSpTab text) :
    ∃ b', iib false (pw (.mk .InlineBox st el inst [] [.mk tk tst tel tinst text [] []] []) true).1 = .ok b' ∧
      b'.kids = [] ∧ b'.inst.tcs = true ∧ b'.inst.lcs = true ∧
      (pw (.mk .InlineBox st el inst [] [.mk tk tst tel tinst text [] []] []) true).2 = true := by
  -- evaluate `pw` on the text box (`hT`), with it on the inline box (`hB`), then run `iib` on that result
  have hT : pw (.mk tk tst tel tinst text [] []) true =
      (.mk tk tst tel { tinst with lcs := tinst.lcs || true } [] [] [], true) := by
    unfold pw
    have : text.isEmpty = false := by cases text with | nil => exact absurd rfl hne | cons _ _ => rfl
    simp only [htk, if_true, this, Bool.false_eq_true, if_false, processText_spTab tst.ws hws text hne hsp, htrun,
      Bool.not_false, Bool.and_self]
  have hB : pw (.mk .InlineBox st el inst [] [.mk tk tst tel tinst text [] []] []) true =
      (.mk .InlineBox st el inst [] [.mk tk tst tel { tinst with lcs := tinst.lcs || true } [] [] []] [],
        (if (KBox.mk tk tst tel tinst text [] []).inFlow = true then true else true) && !st.run) := by
    unfold pw
    have hnt : Gen.isSub BoxKind.InlineBox .TextBox = false := by decide
    simp only [hnt, Bool.false_eq_true, if_false]
    unfold pwKids
    simp only [KBox.kind, htk, Bool.true_or, if_true, hT]
    unfold pwKids
    rfl
  rw [hB]
  simp only [ite_self, hrun, Bool.not_false, Bool.and_self]
  unfold iib
  simp only [List.isEmpty_cons, hrun, Bool.or_self, Bool.false_eq_true, if_false]
  unfold iibKids
  simp only [KBox.kind, htk, KBox.text, List.isEmpty_nil, Bool.and_self, if_true, KBox.inst, Bool.or_true]
  unfold iibKids
  simp only
  have hnb : Gen.isSub BoxKind.InlineBox .BlockContainerBox = false := by decide
  simp only [hnb, Bool.not_false, if_true]
  refine ⟨_, rfl, rfl, ?_, ?_, trivial⟩
  · cases inst.tcs <;> rfl
  · cases inst.lcs <;> simp

/-- `p[ "a ", b[" "], "c" ]`: after `process_whitespace` and `inline_in_block` the line holds `a `, an empty
`b` with both flags, and `c`. -/
example :
    let t (s : List Nat) : KBox := .mk .TextBox {} {} {} s [] []
    let p : KBox := .mk .BlockBox {} {} {} [] [t [97, 32], .mk .InlineBox {} {} {} [] [t [32]] [], t [99]] []
    (match iib false (pw p false).1 with
      | .ok r => r.kids.map (fun (l : KBox) => l.kids.map (fun (c : KBox) => (c.kind, c.text, c.inst.lcs, c.inst.tcs)))
      | .error _ => []) =
    [[(.TextBox, [97, 32], false, false), (.InlineBox, [], true, true), (.TextBox, [99], false, false)]] := by
  decide +kernel

/-- Leaf preservation: the text of the tree is unchanged, in order, except for U+0020 characters
(the only leaves removed are empty text boxes and a single collapsible space at the start of a line). -/
theorem inline_in_block_text (b b' : KBox) (force : Bool) (h : Good b) (hr : iib force b = .ok b') :
    noSp (leafText b') = noSp (leafText b) := iib_text b force b' h hr

/-! ## `block_in_inline` (CSS 2.1 §9.2.1.1, second case) on kind-trees

`Pre b`: line boxes are not children of line or inline boxes (true of every output of
`inline_in_block`).  `WF2 b'`: outside running elements no line box has a block-level box in normal
flow as a child or below it through inline boxes.  The `while True` loop of the source is run with
fuel; the statement is about every run that ends.  The fuel `create_anonymous_boxes` gives (`biiFuel`) suffices:
`block_in_inline_terminates`, Props/C08Pipeline.lean. -/
theorem block_in_inline_structure (n : Nat) (b b' : KBox) (hp : Pre b) (hk : b.kind ≠ .LineBox)
    (hr : bii n b = .ok b') : WF2 b' := bii_wf2 n b b' hp hk hr

/-- The box itself keeps its class, style and instance attributes. -/
theorem block_in_inline_same (n : Nat) (b b' : KBox) (hr : bii n b = .ok b') :
    b'.kind = b.kind ∧ b'.st = b.st ∧ b'.inst = b.inst := bii_same n b b' hr

/-- Leaf preservation: `block_in_inline` moves boxes but neither drops, duplicates nor reorders any
text (`Leafy`: line and inline boxes carry no text of their own — text lives in text boxes). -/
theorem block_in_inline_text (n : Nat) (b b' : KBox) (hl : Leafy b) (hr : bii n b = .ok b') :
    leafText b' = leafText b := bii_leafText n b b' hl hr

/-- The two fix-ups in sequence, as `create_anonymous_boxes` runs them: the output of
`inline_in_block` meets the preconditions of `block_in_inline`; after both, no line box holds a
block-level box in normal flow at any inline depth, and the text of the tree is the original text up
to U+0020 characters. -/
theorem inline_then_block (n : Nat) (b b1 b2 : KBox) (hg : Good b) (hl : Leafy b)
    (h1 : iib false b = .ok b1) (h2 : bii n b1 = .ok b2) :
    Pre b1 ∧ Leafy b1 ∧ WF b1 ∧ WF2 b2 ∧ noSp (leafText b2) = noSp (leafText b) := by
  obtain ⟨hp, hl1⟩ := iib_post b false b1 hg hl h1
  have hk : b1.kind ≠ .LineBox := by rw [(iib_same false b b1 h1).1]; exact good_kind hg
  refine ⟨hp, hl1, iib_wf b false b1 hg h1, bii_wf2 n b1 b2 hp hk h2, ?_⟩
  rw [bii_leafText n b1 b2 hl1 h2]
  exact iib_text b false b1 hg h1

/-! Non-vacuity: `div[ "a", span[ "b", div["c"], "d" ], p["e"] ]`. -/
private def tx (s : List Nat) : KBox := .mk .TextBox {} {} {} s [] []
private def sample : KBox :=
  .mk .BlockBox {} {} {} [] [tx [97], .mk .InlineBox {} {} {} [] [tx [98], .mk .BlockBox {} {} {} [] [tx [99]] [], tx [100]] [],
    .mk .BlockBox {} {} {} [] [tx [101]] []] []

example : Good sample := by
  simp [sample, tx, Good, GoodList, KBox.isA, KBox.kind]
  decide

example : Leafy sample := by
  simp [sample, tx, Leafy, LeafyL]
  decide

example : (match iib false sample with
    | .ok b => b.kids.map (fun c => (c.kind, c.kids.map (·.kind), c.st.anon))
    | .error _ => []) =
    [(.BlockBox, [.LineBox], true), (.BlockBox, [.LineBox], false)] := by decide +kernel

example : (match iib false sample with
    | .ok b => (match bii 100 b with
      | .ok b2 => b2.kids.map (fun (c : KBox) => (c.kind, c.st.anon,
          c.kids.map (fun (d : KBox) => (d.kind, d.st.anon, leafText d))))
      | .error _ => [])
    | .error _ => []) =
    [(.BlockBox, true, [(.BlockBox, true, [97, 98]), (.BlockBox, false, [99]), (.BlockBox, true, [100])]),
     (.BlockBox, false, [(.LineBox, true, [101])])] := by
  rfl

end Wp.C08
