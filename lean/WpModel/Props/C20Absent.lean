/-
C20 — "… rendering continues as if the resource were absent, giving the same result as the document without
that reference", for image references at document level: with the shared image cache in the picture.
A reference whose fetch raises leaves a `None` entry in the cache that the document without the reference
does not have; the theorem shows that this difference can never be observed — by any later reference,
under any orientation or MIME type — so the boxes generated for the whole document are the same.
-/
import WpModel.Model.ResourcesDoc
import WpModel.Props.C20

namespace Wp.C20.Absent
open Wp Wp.Res

/-- The fetcher raises for every request that shares the cache key `k` (for URLs without spaces: for the URL). -/
def FailsKey (f : Fetcher) (k : String) : Prop := ∀ (req : Req) (o : Opts), req.key o = k → ∃ e, f req.url = .raises e

/-- The caches agree, except that one may hold the `None` of a failed fetch where the other holds nothing. -/
def Agree (f : Fetcher) (c1 c2 : Cache) : Prop :=
  ∀ k, c1.find? k = c2.find? k ∨
    (FailsKey f k ∧ ((c1.find? k = some none ∧ c2.find? k = none) ∨ (c1.find? k = none ∧ c2.find? k = some none)))

/-- No image is cached under a key for which the fetcher always raises. -/
def Sound (f : Fetcher) (c : Cache) : Prop := ∀ k img, c.find? k = some (some img) → ¬ FailsKey f k

private theorem agree_refl (f : Fetcher) (c : Cache) : Agree f c c := fun _ => Or.inl rfl

private theorem agree_symm (f : Fetcher) (c1 c2 : Cache) (h : Agree f c1 c2) : Agree f c2 c1 := by
  intro k
  rcases h k with e | ⟨hf, ⟨a, b⟩ | ⟨a, b⟩⟩
  · exact Or.inl e.symm
  · exact Or.inr ⟨hf, Or.inr ⟨b, a⟩⟩
  · exact Or.inr ⟨hf, Or.inl ⟨b, a⟩⟩

private theorem agree_cons (f : Fetcher) (c1 c2 : Cache) (k : String) (v : Option Img) (h : Agree f c1 c2) :
    Agree f ((k, v) :: c1) ((k, v) :: c2) := by
  intro k'
  rw [find_cons, find_cons]
  split
  · exact Or.inl rfl
  · exact h k'

/-- Recording the failure of a key whose fetch always raises, on one side only, keeps the caches in agreement
when the other side has nothing or the same failure under that key. -/
private theorem agree_cons_left (f : Fetcher) (c1 c2 : Cache) (k : String) (h : Agree f c1 c2)
    (hfail : FailsKey f k) (h2 : c2.find? k = none ∨ c2.find? k = some none) : Agree f ((k, none) :: c1) c2 := by
  intro k'
  rw [find_cons]
  by_cases hk : (k == k') = true
  · cases eq_of_beq hk
    rw [if_pos hk]
    rcases h2 with h2 | h2
    · exact Or.inr ⟨hfail, Or.inl ⟨rfl, h2⟩⟩
    · exact Or.inl h2.symm
  · rw [if_neg hk]; exact h k'

private theorem getImage_fails (c : Cache) (f : Fetcher) (o : Opts) (req : Req) (h : c.find? (req.key o) = none)
    (hf : FailsKey f (req.key o)) : ∃ evs, getImage c f o req = (((req.key o), none) :: c, evs, .ok none) := by
  obtain ⟨e, he⟩ := hf req o rfl
  exact ⟨[.call req.url], image_fetch_failure_is_none c f o req e h he⟩

/-- A cached failure on one side, nothing on the other: the second call fails too. -/
private theorem getImage_agree_hit_miss (f : Fetcher) (o : Opts) (req : Req) (c1 c2 : Cache) (h : Agree f c1 c2)
    (hfail : FailsKey f (req.key o)) (h1 : c1.find? (req.key o) = some none) (h2 : c2.find? (req.key o) = none) :
    (getImage c1 f o req).2.2 = (getImage c2 f o req).2.2 ∧
    Agree f (getImage c1 f o req).1 (getImage c2 f o req).1 := by
  obtain ⟨evs, hg2⟩ := getImage_fails c2 f o req h2 hfail
  rw [getImage_hit c1 f o req none h1, hg2]
  exact ⟨rfl, agree_symm f _ _ (agree_cons_left f c2 c1 _ (agree_symm f _ _ h) hfail (Or.inr h1))⟩

private theorem getImage_agree (f : Fetcher) (o : Opts) (req : Req) (c1 c2 : Cache) (h : Agree f c1 c2) :
    (getImage c1 f o req).2.2 = (getImage c2 f o req).2.2 ∧
    Agree f (getImage c1 f o req).1 (getImage c2 f o req).1 := by
  rcases h (req.key o) with heq | ⟨hfail, ⟨h1, h2⟩ | ⟨h1, h2⟩⟩
  · cases h1 : c1.find? (req.key o) with
    | some v =>
      rw [getImage_hit c1 f o req v h1, getImage_hit c2 f o req v (heq ▸ h1)]
      exact ⟨rfl, h⟩
    | none =>
      rw [getImage_miss c1 f o req h1, getImage_miss c2 f o req (heq ▸ h1)]
      cases loadImage f o req with
      | ok img => exact ⟨rfl, agree_cons f c1 c2 _ _ h⟩
      | error e =>
        dsimp only
        split
        · exact ⟨rfl, agree_cons f c1 c2 _ _ h⟩
        · exact ⟨rfl, h⟩
  · exact getImage_agree_hit_miss f o req c1 c2 h hfail h1 h2
  · obtain ⟨hres, hag⟩ := getImage_agree_hit_miss f o req c2 c1 (agree_symm f _ _ h) hfail h2 h1
    exact ⟨hres.symm, agree_symm f _ _ hag⟩

/-- Two runs of the image stage whose caches stand in a relation every `get_image_from_uri` call keeps, giving the
same answer on both sides: over a common list of references the runs generate the same boxes, and they end the same
way when what follows does (`ta`, `tb`: what follows on either side). -/
private theorem runRefs_sim (f : Fetcher) (o : Opts) (R : Cache → Cache → Prop)
    (hstep : ∀ req c1 c2, R c1 c2 → (getImage c1 f o req).2.2 = (getImage c2 f o req).2.2 ∧
      R (getImage c1 f o req).1 (getImage c2 f o req).1)
    (ta tb : List Doc.ImgRef)
    (htail : ∀ c1 c2, R c1 c2 → (Doc.runRefs f o c1 ta).2.1 = (Doc.runRefs f o c2 tb).2.1 ∧
      (Doc.runRefs f o c1 ta).2.2.2 = (Doc.runRefs f o c2 tb).2.2.2)
    (refs : List Doc.ImgRef) (c1 c2 : Cache) (h : R c1 c2) :
    (Doc.runRefs f o c1 (refs ++ ta)).2.1 = (Doc.runRefs f o c2 (refs ++ tb)).2.1 ∧
    (Doc.runRefs f o c1 (refs ++ ta)).2.2.2 = (Doc.runRefs f o c2 (refs ++ tb)).2.2.2 := by
  induction refs generalizing c1 c2 with
  | nil => exact htail c1 c2 h
  | cons r rest ih =>
    simp only [List.cons_append]
    rcases ref_url_cases r with hs | ⟨u, hu, hne⟩
    · rw [runRefs_skip f o c1 r _ hs, runRefs_skip f o c2 r _ hs]
      obtain ⟨h1, h2⟩ := ih c1 c2 h
      dsimp only
      rw [h1]
      exact ⟨rfl, h2⟩
    · rw [runRefs_fetch f o c1 r _ u hu hne, runRefs_fetch f o c2 r _ u hu hne]
      obtain ⟨hres, hag⟩ := hstep ⟨u, r.orient, r.forcedMime⟩ c1 c2 h
      rw [← hres]
      cases (getImage c1 f o ⟨u, r.orient, r.forcedMime⟩).2.2 with
      | error e => exact ⟨rfl, rfl⟩
      | ok image =>
        obtain ⟨h1, h2⟩ := ih _ _ hag
        dsimp only
        rw [h1]
        exact ⟨rfl, h2⟩

private theorem getImage_sound (f : Fetcher) (o : Opts) (req : Req) (c : Cache) (h : Sound f c) :
    Sound f (getImage c f o req).1 := by
  rcases getImage_cache c f o req with e | ⟨v, _, e, hv⟩
  · rw [e]; exact h
  · rw [e]
    intro k img hk hfail
    rw [find_cons] at hk
    by_cases hkk : (req.key o == k) = true
    · -- a loaded image: the fetcher did not raise
      rw [if_pos hkk] at hk
      have hl := hv img (Option.some.inj hk)
      obtain ⟨e', he⟩ := hfail req o (eq_of_beq hkk)
      rw [loadImage_raises f o req e' he] at hl
      cases hl
    · rw [if_neg hkk] at hk
      exact h k img hk hfail

def withoutUrl (r : Doc.ImgRef) : Doc.ImgRef := { r with url := none }

private theorem refBoxes_withoutUrl (r : Doc.ImgRef) : Doc.refBoxes r none = Doc.refBoxes (withoutUrl r) none := by
  unfold Doc.refBoxes withoutUrl
  cases r.kind <;> simp [Wp.C20.failure_as_absent_img, (Wp.C20.failure_as_absent_embed_object r.url).1,
    (Wp.C20.failure_as_absent_embed_object r.url).2]

private theorem step_failed (f : Fetcher) (o : Opts) (r : Doc.ImgRef) (post : List Doc.ImgRef) (c : Cache) (u : String)
    (hs : Sound f c) (hu : r.url = some u) (hfail : FailsKey f (Req.key ⟨u, r.orient, r.forcedMime⟩ o)) :
    (Doc.runRefs f o c (r :: post)).2.1 = (Doc.runRefs f o c (withoutUrl r :: post)).2.1 ∧
    (Doc.runRefs f o c (r :: post)).2.2.2 = (Doc.runRefs f o c (withoutUrl r :: post)).2.2.2 := by
  rw [runRefs_skip f o c (withoutUrl r) post (Or.inl rfl), ← refBoxes_withoutUrl r]
  by_cases he : u = ""
  · rw [runRefs_skip f o c r post (Or.inr (he ▸ hu))]
    exact ⟨rfl, rfl⟩
  · rw [runRefs_fetch f o c r post u hu he]
    cases hc : c.find? (Req.key ⟨u, r.orient, r.forcedMime⟩ o) with
    | some v =>
      have hv : v = none := by
        cases v with
        | none => rfl
        | some img => exact absurd hfail (hs _ img hc)
      rw [getImage_hit c f o ⟨u, r.orient, r.forcedMime⟩ v hc, hv]
      exact ⟨rfl, rfl⟩
    | none =>
      obtain ⟨evs, hg⟩ := getImage_fails c f o ⟨u, r.orient, r.forcedMime⟩ hc hfail
      rw [hg]
      obtain ⟨h1, h2⟩ := List.append_nil post ▸ runRefs_sim f o (Agree f) (getImage_agree f o) [] []
        (fun _ _ _ => ⟨rfl, rfl⟩) post _ c (agree_cons_left f c c _ (agree_refl f c) hfail (Or.inl hc))
      dsimp only
      rw [h1]
      exact ⟨rfl, h2⟩

/-- `failure_as_absent` (image references, whole document): an `<img>` / `<embed>` / `<object>` /
`background-image` / `list-style-image` / `content: url()` / `border-image-source` reference whose fetch
raises — whatever the exception — anywhere in the document, leaves for *every* reference of the document
the boxes that the document without that URL gives (alt text, fallback children, or nothing at its own
place; and the `None` it leaves in the shared image cache is never seen by a later reference), and the
image stage ends the same way. -/
theorem failure_as_absent_image_reference (f : Fetcher) (o : Opts) (pre post : List Doc.ImgRef) (r : Doc.ImgRef)
    (u : String) (hu : r.url = some u) (hfail : FailsKey f (Req.key ⟨u, r.orient, r.forcedMime⟩ o)) :
    (Doc.runRefs f o [] (pre ++ r :: post)).2.1 = (Doc.runRefs f o [] (pre ++ withoutUrl r :: post)).2.1 ∧
    (Doc.runRefs f o [] (pre ++ r :: post)).2.2.2 = (Doc.runRefs f o [] (pre ++ withoutUrl r :: post)).2.2.2 := by
  -- over `pre` both runs have the same cache, kept `Sound`; at the failing reference `step_failed` goes over to `Agree`
  -- (one side holds the `None`) for the references of `post`
  exact runRefs_sim f o (fun c1 c2 => c1 = c2 ∧ Sound f c1)
    (fun req c _ h => h.1 ▸ ⟨rfl, rfl, getImage_sound f o req c h.2⟩) _ _
    (fun c _ h => h.1 ▸ step_failed f o r post c u h.2 hu hfail) pre [] []
    ⟨rfl, fun k img hk => by simp [Cache.find?] at hk⟩

/-- Non-vacuity: a failing `<img alt>` between two uses of a good image and followed by a second reference
to the failing URL. -/
example :
    let good : Fetched := .resp ⟨true, none, none, none, ⟨1, false, some ⟨"PNG", "RGB", false, false, true⟩, false, true, false⟩⟩
    let f : Fetcher := fun u => if u == "http://a.test/bad.png" then .raises ⟨"OSError", "reset"⟩ else good
    let bad : Doc.ImgRef := ⟨.img, some "http://a.test/bad.png", some "ALT", .fromImage, none, none⟩
    let ok : Doc.ImgRef := ⟨.img, some "http://a.test/ok.png", none, .fromImage, none, none⟩
    (Doc.runRefs f ⟨false, none, none⟩ [] [ok, bad, ok, ⟨.background, some "http://a.test/bad.png", none, .fromImage, none, none⟩]).2.1 =
      [[.replaced], [.altText "ALT"], [.replaced], []] := by decide +kernel

end Wp.C20.Absent
