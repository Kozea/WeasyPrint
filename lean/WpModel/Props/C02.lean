/-
C02 — rendering is total (PM model part, DESIGN.md §4 C02): the only assertion on the pagination
path of the modelled grammar whose truth depends on the layout (`assert root_box` in `make_page`) is unreachable, paragraphs are never
aborted on an empty page, and `make_all_pages` fails only by running out of the explicit fuel.
-/
import WpModel.Props.C02Pm2

namespace Wp.C02
open Wp Wp.PM

/-- `make_page`'s `assert root_box` holds for every document, page index, resume position, pending
break and side. -/
theorem root_assert_unreachable (d : Doc) (index : Nat) (resume : Option Resume) (np : NextPage) (right : Bool) :
    (remakePage d index resume np right).isSome = true :=
  C03.remakePage_total d index resume np right

/-- One page is always produced: with at least one unit of fuel `make_all_pages` either returns pages
or has consumed all its fuel on pages that each left content to resume (never an assertion failure). -/
theorem makeAllPages_first_page (d : Doc) (fuel index : Nat) (resume : Option Resume) (np : NextPage) (right : Bool)
    (h : makeAllPages d (fuel + 1) index resume np right = none) :
    ∃ p, remakePage d index resume np right = some p ∧ p.resume.isSome = true ∧
      makeAllPages d fuel (index + 1) p.resume p.nextPage (!right) = none := by
  obtain ⟨p, hp⟩ := Option.isSome_iff_exists.mp (root_assert_unreachable d index resume np right)
  rw [makeAllPages, hp] at h
  refine ⟨p, hp, ?_⟩
  dsimp only at h
  cases hr : p.resume with
  | none => simp only [hr] at h; cases h
  | some r =>
    simp only [hr] at h
    cases hm : makeAllPages d fuel (index + 1) (some r) p.nextPage (!right) with
    | none => exact ⟨rfl, rfl⟩
    | some ps => rw [hm] at h; cases h

/-- A successful pagination has at least one page (clause (b)). -/
theorem at_least_one_page (d : Doc) (fuel index : Nat) (resume : Option Resume) (np : NextPage) (right : Bool)
    (pages : List Page) (h : makeAllPages d fuel index resume np right = some pages) : pages ≠ [] :=
  PageLoop.run_ne_nil (makeAllPages_eq_some.mp h)

/-! ### termination: the fuel never runs out

`Props/C02Pm2` has termination for every well-formed document (fixed heights allowed). The statements below are those
for documents without fixed heights. -/

/-- **Pagination terminates** (clause: rendering is total on the pagination path): `2 * size + 2` units of
fuel are always enough, and the document has at most `2 * size` pages. -/
theorem paginate_terminates (d : Doc) (hN : NoFixedHeight d.root) (hW : WellFormed d.root) :
    ∃ pages, paginate d (2 * size d.root + 2) = some pages ∧ pages.length ≤ 2 * size d.root :=
  C02Pm2.paginate_terminates_all d hW

/-- The result does not depend on the fuel once it is at least `2 * size`. -/
theorem paginate_fuel_irrelevant (d : Doc) (hN : NoFixedHeight d.root) (hW : WellFormed d.root) (fuel : Nat)
    (hf : 2 * size d.root ≤ fuel) : paginate d fuel = paginate d (2 * size d.root) :=
  C02Pm2.paginate_fuel_irrelevant d hW fuel hf

/-! Non-vacuity: `C03.exDoc` (size 9) has 5 pages ≤ 18, one of them blank. -/
example : NoFixedHeight C03.exDoc.root ∧ WellFormed C03.exDoc.root ∧
    (paginate C03.exDoc (2 * size C03.exDoc.root + 2)).map List.length = some 5 :=
  ⟨by simp [C03.exDoc, NoFixedHeight, NoFixedHeightList, C03.exSt],
   by simp [C03.exDoc, WellFormed, WellFormedList, C03.exSt], by decide +kernel⟩

end Wp.C02
