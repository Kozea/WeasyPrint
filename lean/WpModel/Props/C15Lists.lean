/-
C15 — list numbering from HTML attributes: theorems about `Model/ListHints.lean` (the `ol` / `li` branches of
`find_style_attributes` through the generated table `Gen/ListHints.lean`, the `counter()` validator, the
cascade of the counter properties on list elements) and their link to the scoping theorems of Props/C15.lean:
`<ol start="s">` makes its items count `s, s + 1, …` — for every integer `s`, zero and negatives included.
-/
import WpModel.Model.ListHints
import WpModel.Props.C15

namespace Wp.C15
open Wp.Counters Wp.ListHints

/-! ## The validator `counter()` -/

/-- An attribute that is one integer token gives the declaration `counter-reset: list-item n`. -/
theorem hint_integer (n : Int) : counterProp 0 ([.ident "list-item"] ++ [.int n]) = some [("list-item", n)] := by
  simp [counterProp, counterLoop, badName]

/-- Every accepted value lists exactly the identifiers of the token list, in order (integers attach to the
name in front of them). -/
theorem counterLoop_names (dflt : Int) (toks : List HTok) (acc out : List (String × Int))
    (h : counterLoop dflt toks acc = some out) :
    out.map Prod.fst = acc.map Prod.fst ++ toks.filterMap (fun t => match t with | .ident s => some s | _ => none) := by
  fun_induction counterLoop dflt toks acc generalizing out with
  | case1 acc => simp at h; subst h; simp
  | case2 name n rest acc hb => simp at h
  | case3 name n rest acc hb ih => rw [ih out h]; simp
  | case4 name rest acc hnot hb => simp at h
  | case5 name rest acc hnot hb ih => rw [ih out h]; simp
  | case6 t rest acc h1 h2 => simp at h

/-- A value that does not start with an identifier (a number that is not an integer first, …) is invalid. -/
theorem counterProp_other_first (dflt : Int) (rest : List HTok) : counterProp dflt (.other :: rest) = none := by
  cases rest <;> simp [counterProp, counterLoop]

/-! ## The hints -/

/-- `<ol start="s">` with an integer `s` (in any spelling tinycss2 reads as one integer token): the element
resets `list-item` to `s` and decrements it by one, so that the first item prints `s`. -/
theorem ol_start_ops (s : Int) :
    applyHint Gen.olHint Gen.uaOl (some [.int s]) = ⟨.other, [("list-item", s)], [], some [("list-item", -1)]⟩ := by
  simp [applyHint, Gen.olHint, Gen.uaOl, counterProp, counterLoop, badName, defaultOf]

/-- No attribute, or the empty string: the user-agent declarations alone (`ol { counter-reset: list-item }`). -/
theorem ol_no_start_ops : applyHint Gen.olHint Gen.uaOl none = ⟨.other, [("list-item", 0)], [], none⟩ := by
  simp [applyHint, Gen.uaOl]

/-- `<li value="v">`: the item resets `list-item` to `v` and does not increment it. -/
theorem li_value_ops (v : Int) :
    applyHint Gen.liHint Gen.uaLi (some [.int v]) = ⟨.listItem, [("list-item", v)], [], some []⟩ := by
  simp [applyHint, Gen.liHint, Gen.uaLi, counterProp, counterLoop, badName, defaultOf]

theorem li_no_value_ops : applyHint Gen.liHint Gen.uaLi none = ⟨.listItem, [], [], none⟩ := by
  simp [applyHint, Gen.uaLi]

/-- **C15.ol_start_stack** — inside `<ol start="s">` the innermost `list-item` instance is `s − 1`, above the
instances that were in scope outside the list (an instance an earlier sibling list left in the same frame is
replaced). -/
theorem ol_start_stack (f : Spec.Frame) (rest : Spec.Frames) (s : Int) :
    Spec.stack (Spec.machine.push (Spec.update (f :: rest) (applyHint Gen.olHint Gen.uaOl (some [.int s]))))
      "list-item" = (s - 1) :: Spec.stack rest "list-item" := by
  rw [ol_start_ops]
  -- the reset puts the instance on top, the decrement acts on it
  exact spec_touch_innermost _ _ _ s _ (spec_reset_innermost f rest _ s)

/-- … and inside a list without `start` it is 0. -/
theorem ol_default_stack (f : Spec.Frame) (rest : Spec.Frames) :
    Spec.stack (Spec.machine.push (Spec.update (f :: rest) (applyHint Gen.olHint Gen.uaOl none)))
      "list-item" = 0 :: Spec.stack rest "list-item" := by
  rw [ol_no_start_ops]
  exact spec_reset_innermost f rest _ 0

/-- An `<li>` without `value` (whatever its list style, marker content and `::after` content) whose children
are a contained sequence is an item in the sense of `C15.list_numbers_nested`. -/
theorem li_is_item (style : Option CName) (marker after : Option (List Item)) (kids : List LNode)
    (hk : containedSeq "list-item" (toElems kids) = true) :
    isItem (toElem (.li none style marker after kids)) = true := by
  cases after <;>
    simp [toElem, isItem, li_no_value_ops, pseudoQuiet, opsQuiet, plainOps, namesOf, hk]

/-- **C15.ol_start_numbers** — the items of `<ol start="s">` count `s, s + 1, …` for every integer `s`
(0 and negative values included), independently of the lists nested in them: after `k` items the list's
`list-item` instance is `s − 1 + k`, so by `item_marker_value` the `i`-th marker (from 1) reads `s − 1 + i`.
By `scope_refines` the same holds of the implementation's `counter_values`. -/
theorem ol_start_numbers (cs : Styles) (targets stored : Targets) (f : Spec.Frame) (rest : Spec.Frames) (s : Int)
    (items : List Elem) (hitems : ∀ e ∈ items, isItem e = true) :
    ExAll (fun r => Spec.stack r.state "list-item" = (s - 1 + items.length) :: Spec.stack rest "list-item")
      (kidsRun Spec.machine cs targets items
        (Spec.machine.push (Spec.update (f :: rest) (applyHint Gen.olHint Gen.uaOl (some [.int s])))) stored) :=
  list_numbers_nested cs targets items _ stored (s - 1) _ hitems (ol_start_stack f rest s)

/-- The marker of the first item of `<ol start="s">` reads `s`. -/
theorem ol_start_first_marker (f : Spec.Frame) (rest : Spec.Frames) (s : Int) :
    Spec.machine.stack (Spec.machine.push (Spec.update
      (Spec.machine.push (Spec.update (f :: rest) (applyHint Gen.olHint Gen.uaOl (some [.int s]))))
      (applyHint Gen.liHint Gen.uaLi none))) "list-item" = some (s :: Spec.stack rest "list-item") := by
  rw [li_no_value_ops]
  have := item_marker_value ⟨.listItem, [], [], none⟩ _ (s - 1) (Spec.stack rest "list-item") rfl rfl rfl rfl
    (ol_start_stack f rest s)
  rw [this]
  congr 2
  omega

/-- The marker of `<li value="v">` reads `v`. -/
theorem li_value_marker (f : Spec.Frame) (rest : Spec.Frames) (v : Int) :
    Spec.machine.stack (Spec.machine.push (Spec.update (f :: rest) (applyHint Gen.liHint Gen.uaLi (some [.int v]))))
      "list-item" = some (v :: Spec.stack rest "list-item") := by
  rw [li_value_ops]
  show Spec.optStack (Spec.stack (Spec.reset (f :: rest) "list-item" v) "list-item") = _
  rw [spec_reset_innermost]
  rfl

/-- **C15.item_then_items** — an element that gives `list-item` the value `v` by its own declarations (an
`<li value=v>`; any element resetting / setting the counter), whatever contained content it has (nested lists
included), followed by `k` items: the list's counter is `v + k` afterwards. -/
theorem item_then_items (cs : Styles) (targets stored : Targets) (ops : Ops) (listStyle : Option CName)
    (markerContent : Option (List Item)) (anchor : Option String) (before after : Option Pseudo) (kids : List Elem)
    (items : List Elem) (fr : Spec.Frames) (v : Int) (tl : List Int)
    (hd : ops.disp ≠ .none) (hb : pseudoQuiet "list-item" before = true) (ha : pseudoQuiet "list-item" after = true)
    (hk : containedSeq "list-item" kids = true) (hitems : ∀ e ∈ items, isItem e = true)
    (hs : Spec.stack (Spec.update fr ops) "list-item" = v :: tl) :
    ExAll (fun r => Spec.stack r.state "list-item" = (v + items.length) :: tl)
      (kidsRun Spec.machine cs targets (.mk ops listStyle markerContent anchor before after kids :: items) fr stored) := by
  refine kidsRun_cons (own_ops_only "list-item" cs targets ops listStyle
    markerContent anchor before after kids fr stored hd hb ha hk) fun r1 hr1 => ?_
  exact (list_numbers_nested cs targets items r1.state r1.stored v tl hitems (hr1.trans hs)).mono fun _ hr2 _ => hr2

/-- **C15.li_value_numbers** — `<li value="v">` (any contained content, nested lists included) followed by `k`
items without `value`: the items count `v + 1, …, v + k` (the innermost `list-item` instance is `v + k` after
them), for every integer `v`.  With `ol_start_numbers` this is the list clause of the property for `start` and
`value` on the reference semantics, hence on `counter_values` by `scope_refines`. -/
theorem li_value_numbers (cs : Styles) (targets stored : Targets) (f : Spec.Frame) (rest : Spec.Frames) (v : Int)
    (style : Option CName) (marker after : Option (List Item)) (kids : List LNode)
    (hk : containedSeq "list-item" (toElems kids) = true) (items : List Elem) (hitems : ∀ e ∈ items, isItem e = true) :
    ExAll (fun r => Spec.stack r.state "list-item" = (v + items.length) :: Spec.stack rest "list-item")
      (kidsRun Spec.machine cs targets (toElem (.li (some [.int v]) style marker after kids) :: items) (f :: rest)
        stored) := by
  have hs : Spec.stack (Spec.update (f :: rest) (applyHint Gen.liHint Gen.uaLi (some [.int v]))) "list-item" =
      v :: Spec.stack rest "list-item" := by
    rw [li_value_ops]
    exact spec_reset_innermost f rest _ v
  have hd : (applyHint Gen.liHint Gen.uaLi (some [.int v])).disp ≠ .none := by rw [li_value_ops]; simp
  have ha : pseudoQuiet "list-item" (after.map fun items => (⟨plainOps, items⟩ : Pseudo)) = true := by
    cases after <;> simp [pseudoQuiet, opsQuiet, plainOps, namesOf]
  exact item_then_items cs targets stored _ style marker none none _ (toElems kids) items (f :: rest) v _ hd rfl ha hk
    hitems hs

section Examples
private def items3 : List LNode := List.replicate 3 (.li none (some (.named "decimal")) none none [])
-- the hypotheses of `ol_start_numbers` hold of real items, nested lists included
example : ∀ e ∈ toElems items3, isItem e = true := by decide +kernel
example : isItem (toElem (.li none (some (.named "decimal")) none
    (some [.counter "list-item" (.named "decimal")]) [.ol (some [.int 0]) items3])) = true := by decide +kernel
-- `<ol start="0">`, `<ol start="-2">`: the instance inside the list is start - 1
example : Spec.stack (Spec.machine.push (Spec.update Spec.init (applyHint Gen.olHint Gen.uaOl (some [.int 0]))))
    "list-item" = [-1] := by decide +kernel
example : Spec.stack (Spec.machine.push (Spec.update Spec.init (applyHint Gen.olHint Gen.uaOl (some [.int (-2)]))))
    "list-item" = [-3] := by decide +kernel
example : applyHint Gen.olHint Gen.uaOl (some [.int 0]) ≠ applyHint Gen.olHint Gen.uaOl none := by decide +kernel
-- `li_value_numbers`: its hypotheses hold of `<li value=0>` holding a nested list, followed by three items
example : containedSeq "list-item" (toElems [.ol (some [.int 5]) items3]) = true := by decide +kernel
example : counterProp 0 [.ident "list-item", .ident "none"] = none := by decide +kernel
example : counterProp 1 [.ident "c", .int 2, .ident "d"] = some [("c", 2), ("d", 1)] := by decide +kernel
-- non-integers: `1.5` drops the reset and keeps the decrement, `abc` resets two counters
example : applyHint Gen.olHint Gen.uaOl (some [.other]) = ⟨.other, [("list-item", 0)], [], some [("list-item", -1)]⟩ := by
  decide +kernel
example : applyHint Gen.olHint Gen.uaOl (some [.ident "abc"]) =
    ⟨.other, [("list-item", 0), ("abc", 0)], [], some [("list-item", -1)]⟩ := by decide +kernel
end Examples

end Wp.C15
