/-
C07 (part 9) — gradients used as images: every property whose validator takes a gradient has a computer that turns
the gradient's lengths (colour-stop positions, radial centre, explicit radial size) into px.
-/
import WpModel.Model.GradientC07
import WpModel.Props.C07Tracks

namespace Wp.C07
open Wp Wp.Len07 Wp.Tracks07 Wp.Grad07

theorem compute_dim_done (ctx : FontCtx) (d : Dim) (h : dimKnown d = true) : dimDone (computeDim ctx d) = true :=
  length_dim_done ctx d.1 d.2 h

private theorem all_map {α β : Type} (p : α → Bool) (q : β → Bool) (f : α → β)
    (hf : ∀ a, p a = true → q (f a) = true) (l : List α) (h : l.all p = true) : (l.map f).all q = true := by
  simp only [List.all_map, List.all_eq_true] at h ⊢
  exact fun a ha => hf a (h a ha)

private theorem stops_done (ctx : FontCtx) (l : List (Option Dim)) (h : l.all (optAll dimKnown) = true) :
    (l.map (Option.map (computeDim ctx))).all (optAll dimDone) = true :=
  all_map _ _ _ (fun o ho => by cases o with
    | none => rfl
    | some d => exact compute_dim_done ctx d ho) l h

/-- **The gradient computer leaves no absolute or font-relative unit**: colour-stop positions, the centre of a
radial gradient and its explicit size all come out in px (or stay percentages / the unitless zero). -/
theorem compute_image_all_px (ctx : FontCtx) (im : Image) (h : im.all dimKnown = true) :
    (computeImage ctx im).all dimDone = true := by
  cases im with
  | other k => rfl
  | linear g =>
    simp only [Image.all] at h
    simp [computeImage, Image.all, stops_done ctx g.stops h]
  | radial g =>
    simp only [Image.all, Gradient.all, Bool.and_eq_true] at h
    obtain ⟨⟨hs, hc⟩, hz⟩ := h
    simp only [computeImage, Image.all, Gradient.all, Bool.and_eq_true]
    refine ⟨⟨stops_done ctx g.stops hs, ?_⟩, ?_⟩
    · cases hcen : g.center with
      | none => rfl
      | some c =>
        rw [hcen] at hc
        simp only [Bool.and_eq_true] at hc
        simp [compute_dim_done ctx c.1 hc.1, compute_dim_done ctx c.2 hc.2]
    · cases hsz : g.explicitSize with
      | none => rfl
      | some l =>
        rw [hsz] at hz
        exact all_map _ _ _ (compute_dim_done ctx) l hz

/-- The computer of a gradient-valued property is one of the two image computers (decided on the generated tables). -/
private theorem imageComputer_gradientValued : ∀ n ∈ Gen.NumericC07.gradientValued,
    imageComputer n = some "background_image" ∨ imageComputer n = some "image" := by decide +kernel

/-- **Every property whose validator takes a gradient has a gradient computer** (`border-image-source` and
`mask-border-source` got theirs with `fix:` e161f80, finding `border-image-gradient-lengths-not-computed`): decided on the tables regenerated from the runtime registries. -/
theorem gradient_valued_properties_have_computer :
    ∀ name ∈ Gen.NumericC07.gradientValued, (imageComputer name).isSome = true := fun name hn => by
  rcases imageComputer_gradientValued name hn with h | h <;> rw [h] <;> rfl

/-- **A gradient of any image-valued property reaches layout in px**: for every property the validators accept a
gradient for, the computed value of a value whose dimensions carry units the validators let through holds px, %,
or the unitless zero only — `layout.percent.percentage` never meets `in`, `pt`, `em`. -/
theorem gradient_property_all_px (ctx : FontCtx) (name : String) (hn : name ∈ Gen.NumericC07.gradientValued)
    (layers : List Image) (h : layers.all (Image.all dimKnown) = true) :
    (computeProperty ctx name layers).all (Image.all dimDone) = true := by
  have hall := all_map (Image.all dimKnown) (Image.all dimDone) (computeImage ctx) (compute_image_all_px ctx)
  have himg : ∀ (l : List Image), l.map (image ctx) = l.map (computeImage ctx) := by
    intro l
    apply List.map_congr_left
    intro im _
    simp [image, backgroundImage]
  unfold computeProperty
  rcases imageComputer_gradientValued name hn with hb | hi
  · rw [hb]; exact hall layers h
  · rw [hi]
    simp only [himg]
    exact hall layers h

/-- Regression (`border-image-source: linear-gradient(red 1in, blue 2in)` and
`radial-gradient(1in 0.5in at 72pt 3pc, …)`, repaired by e161f80): the stops are 96px and 192px. -/
example :
    let ctx : FontCtx := { fontSize := 16, rootFontSize := 16, exRatio := 1 / 2, chRatio := 1 / 2 }
    computeProperty ctx "border-image-source"
        [.linear { stops := [some (1, some "in"), some (2, some "in")], center := none, explicitSize := none }]
      = [.linear { stops := [some (96, some "px"), some (192, some "px")], center := none, explicitSize := none }] ∧
    computeProperty ctx "mask-border-source"
        [.radial { stops := [none, some (50, some "%")], center := some ((72, some "pt"), (3, some "pc")),
                   explicitSize := some [(1, some "in"), (1 / 2, some "in")] }]
      = [.radial { stops := [none, some (50, some "%")], center := some ((96, some "px"), (48, some "px")),
                   explicitSize := some [(96, some "px"), (48, some "px")] }] ∧
    computeProperty ctx "width" [.linear { stops := [some (1, some "in")], center := none, explicitSize := none }]
      = [.linear { stops := [some (1, some "in")], center := none, explicitSize := none }] := by
  refine ⟨by decide +kernel, by decide +kernel, by decide +kernel⟩

end Wp.C07
