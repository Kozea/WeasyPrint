/-
C10 — from the source to the pages: the two models of the table pipeline composed.
`Model/TableGroupOrder` (↔ `wrap_table`, `formatting_structure/build.py`: which row groups are header,
footer, bodies) feeds `Model/TablePages` (↔ `table_layout`, `layout/table.py`: `group_layout`,
`body_groups_layout`, `all_groups_layout`), under the page loop `C10.Pages.paginate`.  The clause
"when a table breaks across pages each body row appears once" is stated on the *source* row groups,
for every list of groups, every assignment of `display` kinds and every sequence of pages.
-/
import WpModel.Props.C10Pages
import WpModel.Props.C10Groups

namespace Wp.C10Document
open Wp Wp.TablePages Wp.TableGroups Wp.C10.Pages

/-- The group `table_layout` finds at source index `j` (an index that `wrap_table` produced is always
in range; the empty group stands for "no such group"). -/
def groupAt (groups : List PGroup) (j : Nat) : PGroup := groups.getD j ⟨[], .auto, .auto, .auto⟩

/-- The table as `table_layout` receives it from `wrap_table`: `table.children[0]` is the header when
there is one, `table.children[-1]` the footer, the other groups — in the order `wrap_table` left them —
are the body groups. -/
def mkTable (sp : Rat) (inside : Brk) (groups : List PGroup) (kinds : List GKind) : PTable :=
  ⟨sp, inside, (split kinds).header.map (groupAt groups), (split kinds).footer.map (groupAt groups),
   (split kinds).bodies.map (groupAt groups)⟩

private theorem indexed_map_fst (i : Nat) (rs : List PRow) :
    (indexed i rs).map (·.1) = List.range' i rs.length := by
  induction rs generalizing i with
  | nil => rfl
  | cons r rs ih => simp [indexed, ih, List.range'_succ]

/-- The rows of the source groups `idxs`, `(source group, row)`, each once, in order. -/
def sourceRows (groups : List PGroup) (idxs : List Nat) : List (Nat × Nat) :=
  idxs.flatMap (fun j => (List.range (groupAt groups j).rows.length).map (fun r => (j, r)))

/-- `pre` holds the source indices of the bodies already passed, so that the model's body number
`pre.length + k` is source group `l[k]`; used at `pre = []`. -/
private theorem remainingGroups_source (groups : List PGroup) (pre l : List Nat) :
    (remainingGroups pre.length (l.map (groupAt groups)) none).map
        (fun p => ((pre ++ l).getD p.1 0, p.2)) = sourceRows groups l := by
  induction l generalizing pre with
  | nil => simp [remainingGroups, sourceRows]
  | cons j l ih =>
    simp only [List.map_cons, remainingGroups, List.map_append, List.map_map, sourceRows, List.flatMap_cons]
    congr 1
    · have : (groupRemaining (groupAt groups j) ((none : Option Nat).getD 0)).map (·.1) =
          List.range (groupAt groups j).rows.length := by
        simp [groupRemaining, indexed_map_fst, List.range_eq_range']
      rw [← this, List.map_map]
      apply List.map_congr_left
      intro p _
      simp
    · have := ih (pre ++ [j])
      simp only [List.length_append, List.length_singleton, List.append_assoc, List.singleton_append] at this
      exact this

/-- **document_rows_once.**  From the source to the pages, across `wrap_table` and `table_layout`: take
any row groups with any `display` kinds (several `thead` / `tfoot` included), let `wrap_table` pick the
header and the footer, and let the page loop finish the table over *any* sequence of pages.  Then the
body rows of the fragments, read in order and traced back to their source group, are exactly the rows
of every group that is not the first `table-header-group` / the first `table-footer-group`, each once, in
source order; header, footer and these groups together are all the groups of the table, each once. -/
theorem document_rows_once (sp : Rat) (inside : Brk) (groups : List PGroup) (kinds : List GKind)
    (attempts : List Attempt) (fs : List Fragment)
    (h : paginate (mkTable sp inside groups kinds) none attempts = .ok (fs, true)) :
    (fs.flatMap fragRows).map (fun p => ((split kinds).bodies.getD p.1 0, p.2)) =
      sourceRows groups (split kinds).bodies ∧
    (split kinds).bodies.Pairwise (· < ·) ∧
    (split kinds).header = kinds.idxOf? GKind.header ∧ (split kinds).footer = kinds.idxOf? GKind.footer ∧
    (layoutOrder (split kinds)).Perm (List.range kinds.length) := by
  refine ⟨?_, C10Groups.bodies_in_source_order kinds, C10Groups.header_is_first kinds,
    C10Groups.footer_is_first kinds, C10Groups.groups_once kinds⟩
  rw [rows_once _ attempts none fs h]
  have := remainingGroups_source groups [] (split kinds).bodies
  simpa [remaining, mkTable] using this

private def r10 : PRow := ⟨10, .auto, .auto⟩
private def grp (n : Nat) : PGroup := ⟨List.replicate n r10, .auto, .auto, .auto⟩
private def page40 : Attempt := ⟨40, 0, 0, true⟩

/-- Non-vacuity: `thead` (1 row), `tbody` (3 rows), `tfoot` (1 row), a second `tfoot` (2 rows), rows 10px
high on 40px pages: the page loop finishes the table in three fragments, each with header and footer,
showing the rows of source group 1 and then those of source group 3 (the second `tfoot`, a body group),
each once. -/
example :
    (paginate (mkTable 0 .auto [grp 1, grp 3, grp 1, grp 2] [.header, .body, .footer, .footer]) none
        [page40, page40, page40, page40]).toOption.map (fun r => r.1.map fragRows) =
      some [[(0, 0), (0, 1)], [(0, 2), (1, 0)], [(1, 1)]] ∧
    (paginate (mkTable 0 .auto [grp 1, grp 3, grp 1, grp 2] [.header, .body, .footer, .footer]) none
        [page40, page40, page40, page40]).toOption.map
      (fun r => (r.1.all (fun (f : Fragment) => f.header && f.footer), r.2)) = some (true, true) ∧
    sourceRows [grp 1, grp 3, grp 1, grp 2] (split [.header, .body, .footer, .footer]).bodies =
      [(1, 0), (1, 1), (1, 2), (3, 0), (3, 1)] := by
  refine ⟨by decide +kernel, by decide +kernel, by decide +kernel⟩

end Wp.C10Document
