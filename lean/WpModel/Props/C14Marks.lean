/-
C14 — crop and cross marks (`Model/PageMarks.lean`, mirror of the SVG of `draw_background`): where they are.
Coordinates: origin at the top-left corner of the bleed area, `width × height` its size; the page box is
`[bleed-left, width − bleed-right] × [bleed-top, height − bleed-bottom]`.
-/
import WpModel.Model.PageMarks

namespace Wp.C14
open Wp Wp.PageMarks Wp.PdfBoxes

/-- The eight crop marks, transforms applied: two per corner, on the lines of the four edges of the page box, each
half as long as the bleed of the side it lies in, starting at the outer edge of the bleed area. -/
theorem crop_marks_eq (w h : Rat) (b : Bleed) :
    cropMarks w h b =
      [ ⟨0, b.top, b.left / 2, b.top⟩, ⟨w, b.top, w - b.right / 2, b.top⟩,
        ⟨w, h - b.bottom, w - b.right / 2, h - b.bottom⟩, ⟨0, h - b.bottom, b.left / 2, h - b.bottom⟩,
        ⟨b.left, 0, b.left, b.top / 2⟩, ⟨w - b.right, h, w - b.right, h - b.bottom / 2⟩,
        ⟨b.left, h, b.left, h - b.bottom / 2⟩, ⟨w - b.right, 0, w - b.right, b.top / 2⟩ ] := by
  simp only [cropMarks, seg, applyChain, List.foldr_cons, List.foldr_nil, Tr.apply, List.cons.injEq, Seg.mk.injEq,
    and_true]
  grind

/-- A segment lies on the extension of an edge of the page box, outside the page box and inside the bleed area. -/
def OnEdgeOutside (w h : Rat) (b : Bleed) (s : Seg) : Prop :=
  (s.y0 = s.y1 ∧ (s.y0 = b.top ∨ s.y0 = h - b.bottom) ∧
    ((0 ≤ min s.x0 s.x1 ∧ max s.x0 s.x1 ≤ b.left) ∨ (w - b.right ≤ min s.x0 s.x1 ∧ max s.x0 s.x1 ≤ w))) ∨
  (s.x0 = s.x1 ∧ (s.x0 = b.left ∨ s.x0 = w - b.right) ∧
    ((0 ≤ min s.y0 s.y1 ∧ max s.y0 s.y1 ≤ b.top) ∨ (h - b.bottom ≤ min s.y0 s.y1 ∧ max s.y0 s.y1 ≤ h)))

theorem span_within (x y lo hi : Rat) (hx : lo ≤ x ∧ x ≤ hi) (hy : lo ≤ y ∧ y ≤ hi) : lo ≤ min x y ∧ max x y ≤ hi := by
  rw [Rat.min_def, Rat.max_def]
  constructor <;> split <;> simp only [hx, hy]

/-- **css-page-3 `marks: crop`: every crop mark shows where to cut** — it lies on the extension of an edge of the page
box, outside the page box, inside the bleed area, for every sheet and all non-negative bleeds. -/
theorem crop_marks_outside_page_box (w h : Rat) (b : Bleed)
    (hb : 0 ≤ b.top ∧ 0 ≤ b.right ∧ 0 ≤ b.bottom ∧ 0 ≤ b.left) : ∀ s ∈ cropMarks w h b, OnEdgeOutside w h b s := by
  -- a mark runs from the outer edge of the bleed area to the middle of the bleed strip
  have ht : 0 ≤ b.top / 2 ∧ b.top / 2 ≤ b.top := by grind
  have hr : w - b.right ≤ w - b.right / 2 ∧ w - b.right / 2 ≤ w := by grind
  have hm : h - b.bottom ≤ h - b.bottom / 2 ∧ h - b.bottom / 2 ≤ h := by grind
  have hl : 0 ≤ b.left / 2 ∧ b.left / 2 ≤ b.left := by grind
  have h0 : ∀ x : Rat, 0 ≤ x → 0 ≤ (0 : Rat) ∧ (0 : Rat) ≤ x := fun x hx => ⟨Rat.le_refl, hx⟩
  have hw : w - b.right ≤ w ∧ w ≤ w := ⟨by grind, Rat.le_refl⟩
  have hh : h - b.bottom ≤ h ∧ h ≤ h := ⟨by grind, Rat.le_refl⟩
  intro s hs
  rw [crop_marks_eq] at hs
  simp only [List.mem_cons, List.not_mem_nil, or_false] at hs
  rcases hs with rfl | rfl | rfl | rfl | rfl | rfl | rfl | rfl
  · exact Or.inl ⟨rfl, Or.inl rfl, Or.inl (span_within _ _ _ _ (h0 _ hb.2.2.2) hl)⟩
  · exact Or.inl ⟨rfl, Or.inl rfl, Or.inr (span_within _ _ _ _ hw hr)⟩
  · exact Or.inl ⟨rfl, Or.inr rfl, Or.inr (span_within _ _ _ _ hw hr)⟩
  · exact Or.inl ⟨rfl, Or.inr rfl, Or.inl (span_within _ _ _ _ (h0 _ hb.2.2.2) hl)⟩
  · exact Or.inr ⟨rfl, Or.inl rfl, Or.inl (span_within _ _ _ _ (h0 _ hb.1) ht)⟩
  · exact Or.inr ⟨rfl, Or.inr rfl, Or.inr (span_within _ _ _ _ hh hm)⟩
  · exact Or.inr ⟨rfl, Or.inl rfl, Or.inr (span_within _ _ _ _ hh hm)⟩
  · exact Or.inr ⟨rfl, Or.inr rfl, Or.inl (span_within _ _ _ _ (h0 _ hb.1) ht)⟩

/-- The four circles of the cross marks: centred on the middle of the bleed area's sides, a quarter of the side's
bleed away from the outer edge, radius an eighth of it. -/
theorem cross_circles_eq (w h : Rat) (b : Bleed) :
    crossCircles w h b =
      [ ⟨w / 2, b.top / 4, b.top / 8⟩, ⟨w / 2, h - b.bottom / 4, b.bottom / 8⟩,
        ⟨b.left / 4, h / 2, b.left / 8⟩, ⟨w - b.right / 4, h / 2, b.right / 8⟩ ] := by
  have hhalf : ¬ ((1 : Rat) / 2 < 0) := by decide +kernel
  simp only [crossCircles, circ, applyChain, List.foldr_cons, List.foldr_nil, Tr.apply, radiusFactor, List.foldl_cons,
    List.foldl_nil, hhalf, ↓reduceIte, List.cons.injEq, Circ.mk.injEq, and_true]
  grind

/-- Every cross-mark circle lies inside the bleed strip of its side (non-negative bleeds). -/
theorem cross_circles_in_strips (w h : Rat) (b : Bleed)
    (hb : 0 ≤ b.top ∧ 0 ≤ b.right ∧ 0 ≤ b.bottom ∧ 0 ≤ b.left) :
    ∀ c ∈ crossCircles w h b,
      (0 ≤ c.cy - c.r ∧ c.cy + c.r ≤ b.top) ∨ (h - b.bottom ≤ c.cy - c.r ∧ c.cy + c.r ≤ h) ∨
      (0 ≤ c.cx - c.r ∧ c.cx + c.r ≤ b.left) ∨ (w - b.right ≤ c.cx - c.r ∧ c.cx + c.r ≤ w) := by
  obtain ⟨h1, h2, h3, h4⟩ := hb
  -- a circle of radius `x / 8` centred `x / 4` inside a strip of width `x`, at its low or its high end
  have near : ∀ x : Rat, 0 ≤ x → 0 ≤ x / 4 - x / 8 ∧ x / 4 + x / 8 ≤ x := fun x hx => by constructor <;> grind
  have far : ∀ e x : Rat, 0 ≤ x → e - x ≤ e - x / 4 - x / 8 ∧ e - x / 4 + x / 8 ≤ e := fun e x hx => by
    constructor <;> grind
  intro c hc
  rw [cross_circles_eq] at hc
  simp only [List.mem_cons, List.not_mem_nil, or_false] at hc
  rcases hc with rfl | rfl | rfl | rfl
  · exact Or.inl (near _ h1)
  · exact Or.inr (Or.inl (far h _ h3))
  · exact Or.inr (Or.inr (Or.inl (near _ h4)))
  · exact Or.inr (Or.inr (Or.inr (far w _ h2)))

/-- The eight lines of the cross marks, transforms applied (per side: the line along the side, then the one across). -/
theorem cross_lines_eq (w h : Rat) (b : Bleed) :
    crossLines w h b =
      [ ⟨w / 2 - b.top / 4, b.top / 4, w / 2 + b.top / 4, b.top / 4⟩, ⟨w / 2, 0, w / 2, b.top / 2⟩,
        ⟨w / 2 - b.bottom / 4, h - b.bottom / 4, w / 2 + b.bottom / 4, h - b.bottom / 4⟩, ⟨w / 2, h, w / 2, h - b.bottom / 2⟩,
        ⟨b.left / 4, h / 2 - b.left / 4, b.left / 4, h / 2 + b.left / 4⟩, ⟨0, h / 2, b.left / 2, h / 2⟩,
        ⟨w - b.right / 4, h / 2 - b.right / 4, w - b.right / 4, h / 2 + b.right / 4⟩, ⟨w, h / 2, w - b.right / 2, h / 2⟩ ] := by
  simp only [crossLines, seg, applyChain, List.foldr_cons, List.foldr_nil, Tr.apply, List.cons.injEq, Seg.mk.injEq,
    and_true]
  grind

/-- A horizontal and a vertical segment that cross at `(cx, cy)`, each with its middle there. -/
def CrossAt (s1 s2 : Seg) (cx cy : Rat) : Prop :=
  (s1.y0 = s1.y1 ∧ s2.x0 = s2.x1 ∧ s2.x0 = cx ∧ s1.y0 = cy ∧ s1.x0 + s1.x1 = 2 * cx ∧ s2.y0 + s2.y1 = 2 * cy) ∨
  (s1.x0 = s1.x1 ∧ s2.y0 = s2.y1 ∧ s1.x0 = cx ∧ s2.y0 = cy ∧ s2.x0 + s2.x1 = 2 * cx ∧ s1.y0 + s1.y1 = 2 * cy)

/-- **Each cross mark is a cross in a circle**: the two lines of a side are perpendicular, both have their middle at
the centre of that side's circle, and (`cross_circles_in_strips`) the circle lies in the side's bleed strip. -/
theorem cross_marks_concentric (w h : Rat) (b : Bleed) :
    ∀ k (hk : k < 4), ∃ s1 s2 c, (crossLines w h b)[2 * k]? = some s1 ∧ (crossLines w h b)[2 * k + 1]? = some s2 ∧
      (crossCircles w h b)[k]? = some c ∧ CrossAt s1 s2 c.cx c.cy := by
  -- the line along the side is symmetric about the centre; the one across runs from the edge over half the bleed
  have along : ∀ m d : Rat, m - d + (m + d) = 2 * m := fun m d => by grind
  have lo : ∀ x : Rat, 0 + x / 2 = 2 * (x / 4) := fun x => by grind
  have hi : ∀ e x : Rat, e + (e - x / 2) = 2 * (e - x / 4) := fun e x => by grind
  intro k hk
  rw [cross_lines_eq, cross_circles_eq]
  have : k = 0 ∨ k = 1 ∨ k = 2 ∨ k = 3 := by omega
  rcases this with rfl | rfl | rfl | rfl
  · exact ⟨_, _, _, rfl, rfl, rfl, Or.inl ⟨rfl, rfl, rfl, rfl, along _ _, lo _⟩⟩
  · exact ⟨_, _, _, rfl, rfl, rfl, Or.inl ⟨rfl, rfl, rfl, rfl, along _ _, hi _ _⟩⟩
  · exact ⟨_, _, _, rfl, rfl, rfl, Or.inr ⟨rfl, rfl, rfl, rfl, lo _, along _ _⟩⟩
  · exact ⟨_, _, _, rfl, rfl, rfl, Or.inr ⟨rfl, rfl, rfl, rfl, hi _ _, along _ _⟩⟩

/-- Without `marks` nothing is drawn; `crop` alone draws exactly the eight crop marks and no circle. -/
theorem marks_none_and_crop (w h : Rat) (b : Bleed) :
    marksOf false false w h b = ([], []) ∧ marksOf true false w h b = (cropMarks w h b, []) ∧
    (marksOf true false w h b).1.length = 8 ∧ (marksOf false true w h b).2.length = 4 := by
  simp [marksOf, cropMarks, crossCircles]

/-- Non-vacuity: a 200 × 100 page with bleeds 10 / 4 / 6 / 8 (top / right / bottom / left). -/
example : cropMarks 212 116 ⟨10, 4, 6, 8⟩ =
    [⟨0, 10, 4, 10⟩, ⟨212, 10, 210, 10⟩, ⟨212, 110, 210, 110⟩, ⟨0, 110, 4, 110⟩,
     ⟨8, 0, 8, 5⟩, ⟨208, 116, 208, 113⟩, ⟨8, 116, 8, 113⟩, ⟨208, 0, 208, 5⟩] := by decide +kernel

end Wp.C14
