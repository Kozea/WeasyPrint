/-
C14 — document level: what every page of `PageDoc.render` is made of.  `render` is the function whose output is
compared, page by page and number by number, with the real pipeline on every generated document (section
`documents`); these theorems transport the function-level theorems of `Props/C14.lean` to it: the page sequence
(`doc_pages`), `counter(pages)` (`pages_counter`), the page box (`makePageBox`: `page_box`, `page_fills_sheet`,
`page_content_is_what_remains`; `make_page_box_refines` of `Props/C14Percent`) and the margin boxes (`margin_box_rects`).
-/
import WpModel.Props.C14
import WpModel.Props.C14Exact
import WpModel.Lemmas.Basic.List

namespace Wp.C14
open Wp Wp.PageDoc Wp.PageBoxes Wp.PageState Wp.PageSel Wp.PageGroups
open Wp.C12 (Rel2)

/-- Pointwise relation between two lists of the same length. -/
private def Paired {α β : Type} (R : α → β → Prop) : List α → List β → Prop
  | [], [] => True
  | a :: as, b :: bs => R a b ∧ Paired R as bs
  | _, _ => False

private theorem Paired.length {α β : Type} {R : α → β → Prop} : ∀ {l1 : List α} {l2 : List β}, Paired R l1 l2 → l1.length = l2.length
  | [], [], _ => rfl
  | _ :: _, _ :: _, h => by simp [Paired.length h.2]
  | [], _ :: _, h => h.elim
  | _ :: _, [], h => h.elim

private theorem Paired.rel2 {α β : Type} {R : α → β → Prop} : ∀ {l1 : List α} {l2 : List β}, Paired R l1 l2 → Rel2 R l1 l2
  | [], [], _ => .nil
  | _ :: _, _ :: _, h => .cons h.1 (Paired.rel2 h.2)
  | [], _ :: _, h => h.elim
  | _ :: _, [], h => h.elim

/-- The cascade gives the margin box `kw` of a page of type `pt` a `content` other than `normal` / `none`. -/
def HasContent (d : Doc) (pt : PageType) (kw : String) : Prop :=
  ∃ items w, (addPageDeclarations d.rules pt kw).get "content" = some (.content (some items), w)

/-- Boolean form of `HasContent`: what `make_box` tests (`box.is_generated`). -/
def hasContentB (d : Doc) (pt : PageType) (kw : String) : Bool :=
  match (addPageDeclarations d.rules pt kw).get "content" with
  | some (.content (some _), _) => true
  | _ => false

theorem hasContentB_iff (d : Doc) (pt : PageType) (kw : String) : hasContentB d pt kw = true ↔ HasContent d pt kw := by
  unfold hasContentB HasContent
  constructor
  · intro h
    split at h
    · rename_i items w hget; exact ⟨items, w, hget⟩
    · cases h
  · rintro ⟨items, w, hget⟩; simp [hget]

private theorem marginStyle_ok (d : Doc) (st run : Strings) (pt : PageType) (n : Nat) (secs : List Section) (cs : CState)
    (kw : String) (ms : MStyle) (ws : List String) (h : marginStyle d st run pt n secs cs kw = .ok (ms, ws)) :
    ms.kw = kw ∧ ms.generated = hasContentB d pt kw := by
  unfold marginStyle at h
  simp only [bind, Except.bind, pure, Except.pure] at h
  split at h
  · rename_i hnone
    simp only [Except.ok.injEq, Prod.mk.injEq] at h
    obtain ⟨rfl, _⟩ := h
    have hb : hasContentB d pt kw = false := by
      cases hq : hasContentB d pt kw
      · rfl
      · obtain ⟨items, w, hget⟩ := (hasContentB_iff d pt kw).mp hq
        simp [hget] at hnone
    exact ⟨rfl, hb.symm⟩
  · rename_i items hitems
    split at h
    · cases h
    · split at h
      · cases h
      · simp only [Except.ok.injEq, Prod.mk.injEq] at h
        obtain ⟨rfl, _⟩ := h
        have hc : HasContent d pt kw := by
          split at hitems
          · rename_i x w hget
            subst hitems
            exact ⟨items, w, hget⟩
          · cases hitems
        exact ⟨rfl, ((hasContentB_iff d pt kw).mpr hc).symm⟩

/-- The clamp `height = max(min(height, max_height), min_height)` of `block_container_layout` on a margin box. -/
def clampHeight (q : Placed) : Placed := { q with height := max q.height 0 }

/-- What one output of `render` is, relative to the page it was made from. -/
private def PageOutOf (d : Doc) (total : Nat) (p : (PageHead × List Section) × PageType × Cascaded Val × CState)
    (o : PageOut) : Prop :=
  o.head = p.1.1 ∧ o.box = makePageBox (pageStyle p.2.2.1) ∧ o.counters = setPages p.2.2.2 total ∧
  o.bleed = pageBleed p.2.2.1 ∧ o.groups = p.2.1.groups ∧
  ∃ styles placed,
    makeMarginBoxes o.box.geom styles = .ok placed ∧ o.margin.map (·.1) = placed.map clampHeight ∧
    Rel2 (fun kw (s : MStyle) => s.kw = kw ∧ s.generated = hasContentB d p.2.1 kw) allKeywords styles

private theorem render_go_ok (d : Doc) (total : Nat) (st run : Strings)
    (ps : List ((PageHead × List Section) × PageType × Cascaded Val × CState)) (n : Nat) (outs : List PageOut)
    (h : render.go d total st run ps n = .ok outs) : Paired (PageOutOf d total) ps outs := by
  induction ps generalizing n outs with
  | nil =>
    unfold render.go at h
    simp only [pure, Except.pure, Except.ok.injEq] at h
    subst h; exact True.intro
  | cons p rest ih =>
    obtain ⟨⟨hd, secs⟩, pt, c, cs⟩ := p
    unfold render.go at h
    obtain ⟨styled, hstyled, h⟩ := Except.bind_eq_ok h
    obtain ⟨placed, hplaced, h⟩ := Except.bind_eq_ok h
    obtain ⟨body, _, h⟩ := Except.bind_eq_ok h
    obtain ⟨tail, htail, h⟩ := Except.bind_eq_ok h
    cases h
    refine ⟨⟨rfl, rfl, rfl, rfl, rfl, _, placed, hplaced, ?_, ?_⟩, ih _ _ htail⟩
    · simp [List.map_map, Function.comp_def, clampHeight]
    · exact (List.mapM_eq_ok_rel2 hstyled).map_right _ (fun kw y hy => marginStyle_ok _ _ _ _ _ _ _ _ _ _ hy)

private theorem pageStates_length (styles : List RawCStyle) (l : List CState)
    (h : pageStates styles initialState = .ok l) : l.length = styles.length := by
  obtain ⟨l', e, hl, _⟩ := page_states_total styles initialState inv_initial
  rw [h] at e
  cases e
  exact hl

private theorem pageGroups_length (root : Elt) (reqs : List (Request × RA)) (gs : List Group) (l : List (List Group))
    (h : pageGroups root reqs gs = .ok l) : l.length = reqs.length := by
  fun_induction pageGroups root reqs gs generalizing l <;> cases h
  · rfl
  next hl ih => simp [ih _ hl]

private theorem pageReqs_length (pages : List (PageHead × List Section)) (rs : List (Request × RA)) :
    (pageReqs pages rs).length = pages.length := by
  fun_induction pageReqs pages rs <;> simp [*]

/-- `render` step by step: the page groups (one list per page) and the counter states it computes, and what each
output is made of. -/
private theorem render_ok (d : Doc) (outs : List PageOut) (h : render d = .ok outs) :
    ∃ groups states,
      let types := ((docPages d).zip groups).map (fun x => pageTypeOf x.1.1 x.2)
      let cascades := types.map (fun pt => addPageDeclarations d.rules pt "")
      groups.length = (docPages d).length ∧ pageStates (cascades.map rawCStyle) initialState = .ok states ∧
      Paired (PageOutOf d (docPages d).length) ((docPages d).zip (types.zip (cascades.zip states))) outs := by
  unfold render at h
  obtain ⟨groups, hgroups, h⟩ := Except.bind_eq_ok h
  obtain ⟨states, hstates, h⟩ := Except.bind_eq_ok h
  obtain ⟨st, _, h⟩ := Except.bind_eq_ok h
  refine ⟨groups, states, ?_, hstates, render_go_ok _ _ _ _ _ _ _ h⟩
  have hlenG := pageGroups_length _ _ _ _ hgroups
  -- the requests are those of `pageReqs`, the first with its `resume_at` replaced by `None`
  split at hlenG
  · rename_i r y rest heq
    have := congrArg List.length heq
    rw [pageReqs_length] at this
    rw [hlenG, this]; rfl
  · rename_i heq
    have := congrArg List.length heq
    rw [pageReqs_length] at this
    rw [hlenG, this]

/-- **Document level: what every page of `render` (the function compared with the real pipeline on every generated
document) is made of.**  If the model renders a document, then
* its pages are exactly the pages of `docPages` (so `doc_pages` applies: at least one page, indexes 0, 1, 2 …, sides
  alternating from the side `initialize_page_maker` chose, never two blank pages in a row);
* on every page `counter(pages)` is the number of pages of the document;
* every page box is `makePageBox` of the style of a cascade (which one is not said here; so `page_box`, `page_fills_sheet`,
  `page_content_is_what_remains` and `make_page_box_refines` of `Props/C14Percent` apply), its bleed the computed `bleed-*` of that style;
* the margin boxes of the page are the result of `makeMarginBoxes` on the geometry of that page box (so
  `margin_box_rects`, `margin_boxes_generated_only` apply), heights clamped at 0. -/
theorem render_sound (d : Doc) (outs : List PageOut) (h : render d = .ok outs) :
    outs.map (·.head) = (docPages d).map (·.1) ∧
    ∀ o ∈ outs,
      counterValue o.counters "pages" = .ok (outs.length : Int) ∧
      (∃ c : Cascaded Val, o.box = makePageBox (pageStyle c) ∧ o.bleed = pageBleed c) ∧
      ∃ styles placed, makeMarginBoxes o.box.geom styles = .ok placed ∧ o.margin.map (·.1) = placed.map clampHeight := by
  obtain ⟨groups, states, hG, hstates, hp⟩ := render_ok d outs h
  have hS : states.length = (docPages d).length := by
    rw [pageStates_length _ _ hstates]; simp [List.length_zip, hG]
  have hlen : outs.length = (docPages d).length := by
    rw [← Paired.length hp]; simp [List.length_zip, hG, hS]
  constructor
  · rw [hp.rel2.map_eq (fun p => p.1.1) (fun o : PageOut => o.head) (fun a b hab => hab.1)]
    show List.map ((fun x : PageHead × List Section => x.1) ∘ Prod.fst) _ = _
    rw [← List.map_map, List.map_fst_zip]
    simp [List.length_zip, hG, hS]
  · intro o ho
    obtain ⟨p, _, hpo⟩ := hp.rel2.mem_right o ho
    obtain ⟨_, hbox, hcnt, hbleed, _, styles, placed, hm1, hm2, _⟩ := hpo
    refine ⟨?_, ⟨p.2.2.1, hbox, hbleed⟩, styles, placed, hm1, hm2⟩
    rw [hcnt, hlen]
    exact (pages_counter _ _).1

/-- Pages of a rendered document: at least one, numbered 0, 1, 2 …, alternating right / left from the side chosen by
`initialize_page_maker`, never two blank pages in a row (`doc_pages` transported to the output of `render`). -/
theorem render_pages (d : Doc) (outs : List PageOut) (h : render d = .ok outs) :
    outs.length ≥ 1 ∧ Alternates (outs.map (·.head)) 0 (initRightPage d.rootBreak d.ltr) ∧
    noTwoBlanks (outs.map (·.head)) = true := by
  have hs := (render_sound d outs h).1
  have hd := doc_pages d
  refine ⟨?_, by rw [hs]; exact hd.2.1, by rw [hs]; exact hd.2.2⟩
  have := congrArg List.length hs
  simp only [List.length_map] at this
  omega

/-- Every margin box of every page of a rendered document occupies a corner area of *that page's* box, or spans one
of its margin strips in the fixed dimension and sits at offset 0 / ½ / 1 of the free space in the variable one
(`margin_box_rects` transported to the output of `render`; the observed height is the used height clamped at 0).
Inside the strip it lies only if its outer size does not exceed the strip (`side_box_inside`), which is not
shown here.  The `styles` are not tied to the document here: that the box has content in the page's own cascade is
`render_margin_boxes_have_content`. -/
theorem render_margin_boxes (d : Doc) (outs : List PageOut) (h : render d = .ok outs) :
    ∀ o ∈ outs, ∀ m ∈ o.margin, ∃ (styles : List MStyle) (q : Placed), m.1 = clampHeight q ∧
      (findStyle styles q.kw).generated = true ∧
      ((∃ row, row ∈ Gen.cornerTable ∧ (q.x, q.y, q.marginWidth, q.marginHeight) = cornerArea o.box.geom row.kw) ∨
       ∃ row, row ∈ Gen.sideTable ∧ ∃ off, off ∈ Gen.offsets ∧
         if row.vertical = true then
           q.x = (strip o.box.geom row.pre).1 ∧ q.marginWidth = (strip o.box.geom row.pre).2.2.1 ∧
           q.y = (strip o.box.geom row.pre).2.1 + off * ((strip o.box.geom row.pre).2.2.2 - q.marginHeight)
         else
           q.y = (strip o.box.geom row.pre).2.1 ∧ q.marginHeight = (strip o.box.geom row.pre).2.2.2 ∧
           q.x = (strip o.box.geom row.pre).1 + off * ((strip o.box.geom row.pre).2.2.1 - q.marginWidth)) := by
  intro o ho m hm
  obtain ⟨_, _, styles, placed, hplaced, hmap⟩ := (render_sound d outs h).2 o ho
  have hm1 : m.1 ∈ o.margin.map (·.1) := List.mem_map_of_mem hm
  rw [hmap] at hm1
  obtain ⟨q, hq, hqm⟩ := List.mem_map.mp hm1
  obtain ⟨hg, hrect⟩ := margin_box_rects _ _ _ hplaced q hq
  exact ⟨styles, q, hqm.symm, hg, hrect⟩

/-- Non-vacuity: a two-section document with a forced `right` break after a right-hand first page renders to three
pages (right, blank left, right), each showing `counter(pages)` = 3. -/
example : (match render { ltr := true, rootBreak := .auto, fontSize := 16
                          sections := [{ brk := .auto, name := "", sets := [], innerSets := [], lateSets := [] },
                                       { brk := .right, name := "", sets := [], innerSets := [], lateSets := [] }]
                          rules := [] } with
    | .ok l => l.map (fun o => (o.head.blank, match counterValue o.counters "pages" with | .ok v => v | _ => (-1 : Int))) ==
        [(false, (3 : Int)), (true, 3), (false, 3)]
    | .error _ => false) = true := by decide +kernel

private theorem zip_map_aligned {α β γ δ : Type} (l : List α) (g : List β) (f : α × β → γ) (rest : List δ) :
    ∀ p ∈ l.zip (((l.zip g).map f).zip rest), ∃ b, p.2.1 = f (p.1, b) := by
  intro p hp
  obtain ⟨i, hi, rfl⟩ := List.mem_iff_getElem.mp hp
  simp only [List.getElem_zip, List.getElem_map]
  exact ⟨_, rfl⟩

private theorem findStyle_cons_eq (s : MStyle) (ss : List MStyle) (k : String) (h : (s.kw == k) = true) :
    findStyle (s :: ss) k = s := by
  unfold findStyle; simp [h]

private theorem findStyle_cons_ne (s : MStyle) (ss : List MStyle) (k : String) (h : (s.kw == k) = false) :
    findStyle (s :: ss) k = findStyle ss k := by
  unfold findStyle; simp [h]

private theorem findStyle_of_rel2 (P : String → Bool) {l : List String} {styles : List MStyle}
    (h : Rel2 (fun kw (s : MStyle) => s.kw = kw ∧ s.generated = P kw) l styles) :
    ∀ k ∈ l, (findStyle styles k).generated = P k := by
  induction h with
  | nil => intro k hk; cases hk
  | @cons k0 s ks ss h0 _ ih =>
    intro k hk
    by_cases hq : (s.kw == k) = true
    · rw [findStyle_cons_eq s ss k hq, h0.2]
      have : k0 = k := by rw [← h0.1]; simpa using hq
      rw [this]
    · have hq' : (s.kw == k) = false := by simpa using hq
      rw [findStyle_cons_ne s ss k hq']
      have hne : k ≠ k0 := by
        intro e; rw [e, ← h0.1] at hq'; simp at hq'
      exact ih k ((List.mem_cons.mp hk).resolve_left hne)

/-- **The margin boxes of every page of a rendered document are exactly the margin boxes to which the cascade of the
`@page` rules selecting that page gives content — each once, in the order of `make_margin_boxes`**: nothing generated
twice, nothing with content missing, nothing without content present (`make_margin_boxes_exact` transported through
`marginStyle`, the cascade and the page types of `render`; the document oracle's clauses "generated twice", "has
content but was not generated", "generated although no rule gives it content", for all documents of the model). -/
theorem render_margin_boxes_exact (d : Doc) (outs : List PageOut) (h : render d = .ok outs) :
    ∀ o ∈ outs, ∃ gs : List Group, o.groups = gs.map (fun g => (g.name, g.index)) ∧
      o.margin.map (fun m => m.1.kw) = allKeywords.filter (hasContentB d (pageTypeOf o.head gs)) := by
  obtain ⟨groups, states, _, _, hp⟩ := render_ok d outs h
  intro o ho
  obtain ⟨p, hpmem, hpo⟩ := hp.rel2.mem_right o ho
  obtain ⟨hhead, _, _, _, hgroups, styles, placed, hplaced, hmap, hpair⟩ := hpo
  obtain ⟨gs, hgs⟩ := zip_map_aligned (docPages d) groups (fun x => pageTypeOf x.1.fst x.snd) _ p hpmem
  refine ⟨gs, by rw [hgroups, hgs]; rfl, ?_⟩
  have hkws : o.margin.map (fun m => m.1.kw) = placed.map (·.kw) := by
    have := congrArg (List.map (fun q : Placed => q.kw)) hmap
    simpa [List.map_map, Function.comp_def, clampHeight] using this
  rw [hkws, make_margin_boxes_exact _ _ _ hplaced, hhead, ← hgs]
  apply List.filter_congr
  intro kw hkw
  exact findStyle_of_rel2 _ hpair kw hkw

/-- Non-vacuity: rules (listed in another order) giving content to a corner, to `@bottom-left` and, on the first page
only, to `@top-left`, and `content: none` to `@top-right`: the margin boxes of the single page are `@top-left`,
`@bottom-left`, `@top-right-corner`, in the order of the code. -/
example : (match render { ltr := true, rootBreak := .auto, fontSize := 16
                          sections := [{ brk := .auto, name := "", sets := [], innerSets := [], lateSets := [] }]
                          rules := [{ origin := .author, sel := {}, pseudo := "@top-right-corner"
                                      decls := [("content", .content (some [.text "x"]), false)] },
                                    { origin := .author, sel := {}, pseudo := "@bottom-left"
                                      decls := [("content", .content (some [.text "cd"]), false)] },
                                    { origin := .author, sel := { first := true, spec := (0, 1, 0) }, pseudo := "@top-left"
                                      decls := [("content", .content (some [.text "ab"]), false)] },
                                    { origin := .author, sel := {}, pseudo := "@top-right"
                                      decls := [("content", .content none, false)] }] } with
    | .ok [o] => o.margin.map (fun m => m.1.kw) == ["@top-left", "@bottom-left", "@top-right-corner"]
    | _ => false) = true := by decide +kernel

/-- Non-vacuity: one unconditional `@top-left { content: "ab" }` rule — the single page of the document has exactly
that margin box. -/
example : (match render { ltr := true, rootBreak := .auto, fontSize := 16
                          sections := [{ brk := .auto, name := "", sets := [], innerSets := [], lateSets := [] }]
                          rules := [{ origin := .author, sel := {}, pseudo := "@top-left"
                                      decls := [("content", .content (some [.text "ab"]), false)] }] } with
    | .ok [o] => o.margin.map (fun m => m.1.kw) == ["@top-left"]
    | _ => false) = true := by decide +kernel

/-- **"Margin boxes are generated only when they have content", for every rendered document**: each margin box of
each page of `render` has, in the cascade of the `@page` rules that select *that page* (its side, blankness, name,
index and page groups) for *that margin box*, a `content` other than `normal` / `none`: one half of
`render_margin_boxes_exact`. -/
theorem render_margin_boxes_have_content (d : Doc) (outs : List PageOut) (h : render d = .ok outs) :
    ∀ o ∈ outs, ∀ m ∈ o.margin, ∃ gs : List Group,
      o.groups = gs.map (fun g => (g.name, g.index)) ∧ HasContent d (pageTypeOf o.head gs) m.1.kw := by
  intro o ho m hm
  obtain ⟨gs, hg, hex⟩ := render_margin_boxes_exact d outs h o ho
  have hk : m.1.kw ∈ o.margin.map (fun m => m.1.kw) := List.mem_map_of_mem (f := fun m => m.1.kw) hm
  rw [hex] at hk
  exact ⟨gs, hg, (hasContentB_iff _ _ _).mp (List.mem_filter.mp hk).2⟩

/-- No `@page` rule of the document (page context or margin box) declares `name`. -/
def NotDeclared (rules : List (PageRule Val)) (name : String) : Prop :=
  ∀ r ∈ rules, ∀ decl ∈ r.decls, decl.1 ≠ name

/-- A property that no rule selecting the page type `p` for `pseudo` declares is absent from the style cascaded
for them: the other rules contribute no weighted declaration. -/
theorem cascade_not_declared_matching (rules : List (PageRule Val)) (p : PageType) (pseudo name : String)
    (h : ∀ r ∈ rules, (r.pseudo == pseudo && pageTypeMatch r.sel p) = true → ∀ decl ∈ r.decls, decl.1 ≠ name) :
    (addPageDeclarations rules p pseudo).get name = none := by
  rw [add_page_declarations_is_fold]
  -- what the cascade keeps for a name is one of its weighted declarations (`cascade_winner`), and none carries this name
  cases hg : ((weightedDecls rules p pseudo).foldl (fun c d => applyDecl c d.1 d.2.1 d.2.2) []).get name with
  | none => rfl
  | some vw =>
    have hd := ((cascade_winner (weightedDecls rules p pseudo)).1 name vw.1 vw.2 hg).1
    obtain ⟨r, hr, hd⟩ := List.mem_flatMap.mp hd
    split at hd
    · rename_i hc
      obtain ⟨decl, hdecl, e⟩ := List.mem_map.mp hd
      exact absurd (congrArg (·.1) e) (h r hr hc decl hdecl)
    · cases hd

/-- A property that no rule declares is absent from every cascaded page / margin-box style. -/
theorem cascade_not_declared (rules : List (PageRule Val)) (p : PageType) (pseudo name : String)
    (h : NotDeclared rules name) : (addPageDeclarations rules p pseudo).get name = none :=
  cascade_not_declared_matching rules p pseudo name (fun r hr _ => h r hr)

/-- No `@page` rule touches a counter (`counter-reset`, `counter-set`, `counter-increment`). -/
def NoPageCounterDecls (d : Doc) : Prop :=
  NotDeclared d.rules "counter-set" ∧ NotDeclared d.rules "counter-reset" ∧ NotDeclared d.rules "counter-increment"

private theorem raw_default (d : Doc) (pt : PageType) (h : NoPageCounterDecls d) :
    rawCStyle (addPageDeclarations d.rules pt "") = ⟨some [], some [], none⟩ := by
  simp [rawCStyle, getCounters, cascade_not_declared _ _ _ _ h.1, cascade_not_declared _ _ _ _ h.2.1,
    cascade_not_declared _ _ _ _ h.2.2]

/-- **`counter(page)` numbers the pages of a rendered document from 1** (blank pages included) when no `@page` rule
touches a counter — whatever the sections, breaks, names, selectors and other declarations: `page_counter_default`
transported through the cascade (`cascade_not_declared`) and `render`. -/
theorem render_page_counter (d : Doc) (outs : List PageOut) (h : render d = .ok outs) (hn : NoPageCounterDecls d) :
    ∀ i (hi : i < outs.length), counterValue outs[i].counters "page" = .ok ((i : Int) + 1) := by
  obtain ⟨groups, states, _, hstates, hp⟩ := render_ok d outs h
  -- every page has the default counter style
  have hrep : ∀ l : List PageType, List.map rawCStyle (List.map (fun pt => addPageDeclarations d.rules pt "") l) =
      List.replicate l.length ⟨some [], some [], none⟩ := by
    intro l
    induction l with
    | nil => rfl
    | cons x xs ih => simp [List.replicate_succ, raw_default d x hn, ih]
  rw [hrep] at hstates
  obtain ⟨l, hl, _, hval⟩ := page_counter_default
    (List.map (fun x => pageTypeOf x.1.fst x.snd) ((docPages d).zip groups)).length
  rw [hl] at hstates
  simp only [Except.ok.injEq] at hstates
  subst hstates
  intro i hi
  obtain ⟨hiZ, hR⟩ := hp.rel2.getElem i hi
  obtain ⟨_, _, hcnt, _⟩ := hR
  rw [hcnt, (pages_counter _ _).2 "page" (by decide)]
  simp only [List.getElem_zip]
  have hil : i < l.length := by
    simp only [List.length_zip, List.length_map] at hiZ
    omega
  exact hval i hil

/-- Non-vacuity: page names, a forced `left` break and an `@page :first` margin rule touch no counter. -/
example : NoPageCounterDecls { ltr := true, rootBreak := .auto, fontSize := 16, sections := []
                               rules := [{ origin := .author, sel := { first := true, spec := (0, 1, 0) }, pseudo := ""
                                           decls := [("margin-top", .dim (.px 10), false)] }] } := by
  refine ⟨?_, ?_, ?_⟩ <;>
    (intro r hr decl hd
     simp only [List.mem_cons, List.not_mem_nil, or_false] at hr; subst hr
     simp only [List.mem_cons, List.not_mem_nil, or_false] at hd; subst hd
     decide)

end Wp.C14
