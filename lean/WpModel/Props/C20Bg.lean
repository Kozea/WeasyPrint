/-
C20 — multi-layer backgrounds and the folder cache (`Model/ResourcesBg.lean`).

* every layer of a `background-image` keeps its own size / clip / repeat / origin / position / attachment whatever
  happens to the images: layer `i` gets entry `i mod n` of each list, and there are as many layers as images;
* a `url()` layer whose fetch fails gives exactly the layers of the same declaration with `none` in its place
  ("the same result as the document without that reference"), also when the same URL occurs in other layers;
* `get_image_from_uri` on a `DiskCache` behaves as on a dict: in particular a failed load stays a cached `None`.
-/
import WpModel.Model.ResourcesBg
import WpModel.Props.C20Absent

namespace Wp.C20.Bg
open Wp Wp.Res Wp.Res.Bg

/-! ## the zip -/

/-- All six per-layer lists are non-empty (the validators and the initial values guarantee it). -/
def LayerStyle.full (st : LayerStyle) : Prop :=
  st.sizes ≠ [] ∧ st.clips ≠ [] ∧ st.repeats ≠ [] ∧ st.origins ≠ [] ∧ st.positions ≠ [] ∧ st.attachments ≠ []

private theorem cycleAt_some (l : List Nat) (i : Nat) (h : l ≠ []) : ∃ v, cycleAt l i = some v := by
  have hpos : 0 < l.length := List.length_pos_iff.mpr h
  have hlt : i % l.length < l.length := Nat.mod_lt _ hpos
  exact ⟨l[i % l.length], by simp [cycleAt, hlt]⟩

/-- With all lists non-empty, layer `i` exists, and the image is the only thing in it that depends on the image. -/
private theorem layerAt_some (st : LayerStyle) (h : LayerStyle.full st) (i : Nat) :
    ∃ l : Layer, ∀ img, layerAt st i img = some { l with image := img } := by
  obtain ⟨h1, h2, h3, h4, h5, h6⟩ := h
  obtain ⟨s, hs⟩ := cycleAt_some st.sizes i h1
  obtain ⟨c, hc⟩ := cycleAt_some st.clips i h2
  obtain ⟨r, hr⟩ := cycleAt_some st.repeats i h3
  obtain ⟨o, ho⟩ := cycleAt_some st.origins i h4
  obtain ⟨p, hp⟩ := cycleAt_some st.positions i h5
  obtain ⟨a, ha⟩ := cycleAt_some st.attachments i h6
  exact ⟨⟨.absent, s, c, r, o, p, a⟩, fun img => by simp [layerAt, hs, hc, hr, ho, hp, ha]⟩

private theorem zipLayersFrom_get (st : LayerStyle) (h : LayerStyle.full st) (imgs : List LayerImg) (k i : Nat) :
    (zipLayersFrom st k imgs)[i]? = (imgs[i]?).bind (layerAt st (k + i)) := by
  induction imgs generalizing k i with
  | nil => simp [zipLayersFrom]
  | cons img rest ih =>
    obtain ⟨l, hl⟩ := layerAt_some st h k
    cases i with
    | zero => simp [zipLayersFrom, hl]
    | succ j =>
      simp only [zipLayersFrom, hl, List.getElem?_cons_succ]
      rw [ih (k + 1) j]
      have : k + 1 + j = k + (j + 1) := by omega
      rw [this]

/-- `background layers`: layer `i` paints image `i` with entry `i mod n` of each of the six lists — whatever the
other images are, loaded or not. -/
theorem layer_values (st : LayerStyle) (h : LayerStyle.full st) (imgs : List LayerImg) (i : Nat) :
    (zipLayers st imgs)[i]? = (imgs[i]?).bind (layerAt st i) := by
  have := zipLayersFrom_get st h imgs 0 i
  simpa [zipLayers] using this

/-- One layer per image: a layer whose image is absent is still a layer. -/
theorem layer_count (st : LayerStyle) (h : LayerStyle.full st) (imgs : List LayerImg) :
    (zipLayers st imgs).length = imgs.length := by
  unfold zipLayers
  generalize 0 = k
  induction imgs generalizing k with
  | nil => rfl
  | cons img rest ih =>
    obtain ⟨l, hl⟩ := layerAt_some st h k
    simp [zipLayersFrom, hl, ih]

/-- The values of a layer do not depend on the images at all. -/
theorem layer_values_independent (st : LayerStyle) (h : LayerStyle.full st) (imgs imgs' : List LayerImg) (i : Nat)
    (l l' : Layer) (h1 : (zipLayers st imgs)[i]? = some l) (h2 : (zipLayers st imgs')[i]? = some l') :
    l.size = l'.size ∧ l.clip = l'.clip ∧ l.repeat = l'.repeat ∧ l.origin = l'.origin ∧ l.position = l'.position ∧
    l.attachment = l'.attachment := by
  rw [layer_values st h] at h1 h2
  cases hi : imgs[i]? with
  | none => simp [hi] at h1
  | some img =>
    cases hi' : imgs'[i]? with
    | none => simp [hi'] at h2
    | some img' =>
      obtain ⟨l0, hl⟩ := layerAt_some st h i
      simp only [hi, hi', Option.bind_some, hl, Option.some.injEq] at h1 h2
      subst h1; subst h2
      exact ⟨rfl, rfl, rfl, rfl, rfl, rfl⟩

example : zipLayers ⟨[1, 2], [7], [3, 4, 5], [8], [10, 20, 30], [9]⟩ [.absent, .present, .gradient 0] =
    [⟨.absent, 1, 7, 3, 8, 10, 9⟩, ⟨.present, 2, 7, 4, 8, 20, 9⟩, ⟨.gradient 0, 1, 7, 5, 8, 30, 9⟩] := by decide +kernel

/-! ## a failing layer is the layer `none` -/

private theorem zipImgs_replace (pre post : List BgImage) (a b : BgImage) (xs : List (List BoxOut))
    (h : ∀ x, xs[pre.length]? = some x → layerImg a x = layerImg b x) :
    zipImgs (pre ++ a :: post) xs = zipImgs (pre ++ b :: post) xs := by
  induction pre generalizing xs with
  | nil =>
    cases xs with
    | nil => rfl
    | cons x rest => simp [zipImgs, h x (by simp)]
  | cons p ps ih =>
    cases xs with
    | nil => rfl
    | cons x rest =>
      simp only [List.cons_append, zipImgs]
      rw [ih rest (fun y hy => h y (by simpa using hy))]

/-- In a run of the image stage that does not raise, a background reference without URL gives no box. -/
private theorem boxes_at (f : Fetcher) (o : Opts) (pre post : List Doc.ImgRef) (r : Doc.ImgRef) (c : Cache)
    (hu : r.url = none) (hk : r.kind = .background)
    (herr : (Doc.runRefs f o c (pre ++ r :: post)).2.2.2 = none) :
    (Doc.runRefs f o c (pre ++ r :: post)).2.1[pre.length]? = some [] := by
  induction pre generalizing c with
  | nil =>
    rw [List.nil_append, runRefs_skip f o c r post (Or.inl hu), Doc.refBoxes, hk]
    rfl
  | cons x xs ih =>
    rw [List.cons_append] at herr ⊢
    rcases ref_url_cases x with hx | ⟨v, hx, hne⟩
    · rw [runRefs_skip f o c x _ hx] at herr ⊢
      exact ih c herr
    · rw [runRefs_fetch f o c x _ v hx hne] at herr ⊢
      generalize (getImage c f o ⟨v, x.orient, x.forcedMime⟩).2.2 = out at herr ⊢
      cases out with
      | error e => cases herr
      | ok image => exact ih _ herr

/-- The box with another `background-image` list. -/
def withLayers (b : BgBox) (images : List BgImage) : BgBox := { b with images := images }

/-- `failure_as_absent` (background layers): in a multi-layer `background-image`, a `url()` layer whose fetch
raises — whatever the exception, wherever the layer stands, also when other layers use the same URL — gives exactly
the `box.background` of the same declaration with `none` in its place: as many layers, every other layer with its own
image and its own size, position, repeat, origin, clip and attachment. -/
theorem failure_as_absent_background_layer (f : Fetcher) (o : Opts) (b : BgBox) (pre post : List BgImage) (u : String)
    (hfail : Absent.FailsKey f (Req.key ⟨u, b.orient, none⟩ o)) :
    (layoutBackground f o [] (withLayers b (pre ++ .url (some u) :: post))).2.2 =
    (layoutBackground f o [] (withLayers b (pre ++ .noneKw :: post))).2.2 := by
  have habs := Absent.failure_as_absent_image_reference f o (pre.map (layerRef b.orient)) (post.map (layerRef b.orient))
    (layerRef b.orient (.url (some u))) u rfl hfail
  rw [show Absent.withoutUrl (layerRef b.orient (.url (some u))) = layerRef b.orient .noneKw from rfl] at habs
  have hat := boxes_at f o (pre.map (layerRef b.orient)) (post.map (layerRef b.orient)) (layerRef b.orient .noneKw) []
    rfl rfl
  unfold layoutBackground withLayers
  simp only [List.map_append, List.map_cons]
  cases b.hidden with
  | true => rfl
  | false =>
    simp only [Bool.false_eq_true, ↓reduceIte]
    -- the two runs of the image stage become variables: same boxes, same end, no box at the layer's place
    generalize Doc.runRefs f o [] (_ ++ layerRef b.orient (.url (some u)) :: _) = r1 at habs ⊢
    generalize Doc.runRefs f o [] (_ ++ layerRef b.orient .noneKw :: _) = r2 at habs hat ⊢
    obtain ⟨evs1, boxes1, c1, e1⟩ := r1
    obtain ⟨evs2, boxes2, c2, e2⟩ := r2
    dsimp only at habs hat ⊢
    obtain ⟨rfl, rfl⟩ := habs
    cases e1 with
    | some e => rfl
    | none =>
      dsimp only
      rw [zipImgs_replace pre post (.url (some u)) .noneKw boxes1 (fun x hx => by
        rw [← List.length_map (f := layerRef b.orient), hat rfl] at hx
        cases hx
        rfl)]
      split <;> rfl

/-- Non-vacuity: three layers, the first one fails; the gradient and the good image keep their second and third
values (the seeded regression dropped the failed entry and shifted them to the first and second). -/
example :
    let good : Fetched := .resp ⟨true, none, none, none, ⟨1, false, some ⟨"PNG", "RGB", false, false, true⟩, false, true, false⟩⟩
    let f : Fetcher := fun u => if u == "http://a.test/bad.png" then .raises ⟨"OSError", "reset"⟩ else good
    let b : BgBox := ⟨false, true, false, .fromImage,
      [.url (some "http://a.test/bad.png"), .gradient 0, .url (some "http://a.test/ok.png")], ⟨[1, 2, 3], [7], [4, 5, 6], [8], [10, 20, 30], [9]⟩⟩
    (layoutBackground f ⟨false, none, none⟩ [] b).2.2 =
      .ok (some [⟨.absent, 1, 7, 4, 8, 10, 9⟩, ⟨.gradient 0, 2, 7, 5, 8, 20, 9⟩, ⟨.present, 3, 7, 6, 8, 30, 9⟩]) := rfl

/-! ## the folder cache -/

/-- `DiskCache` is transparent for `get_image_from_uri`: when no file of the folder is named like the request's key,
the call does on the `DiskCache` exactly what it does on the dict `_memory_cache` — same events, same result, same
new entry, no file touched. -/
theorem disk_cache_refines_dict (c : DiskCache) (f : Fetcher) (o : Opts) (req : Req)
    (h : c.files.lookup (req.key o) = none) :
    getImageDisk c f o req =
      ({ c with memory := (getImage c.memory f o req).1 }, (getImage c.memory f o req).2.1,
        (getImage c.memory f o req).2.2.map CVal.img) := by
  -- same code, other container: every branch of `getImage` is the same branch of `getImageDisk`
  unfold getImageDisk getImage DiskCache.contains DiskCache.get
  cases hc : Cache.find? c.memory (req.key o) with
  | some v => simp [h, Except.map]
  | none =>
    simp only [h, Option.isSome_none, Bool.or_self, Bool.false_eq_true, ↓reduceIte]
    cases hfe : fetch (f req.url) req.url (imageBody req) with
    | mk evs fetched =>
      cases fetched with
      | error e =>
        simp only
        cases hcls : (e.isUrlFetching || e.isImageLoading) <;> simp [DiskCache.set, Except.map]
      | ok t =>
        obtain ⟨fn, content, mime⟩ := t
        simp only
        cases hd : decideImage req o fn content mime with
        | ok img => simp [DiskCache.set, Except.map]
        | error e =>
          simp only
          cases hcls : (e.isUrlFetching || e.isImageLoading) <;> simp [DiskCache.set, Except.map]

/-- … and so does any sequence of calls sharing the `DiskCache`. -/
theorem disk_cache_sequence_refines_dict (f : Fetcher) (reqs : List (Opts × Req)) (c : DiskCache)
    (h : ∀ r ∈ reqs, c.files.lookup (r.2.key r.1) = none) :
    (runImagesDisk f c reqs).1 = (runImages f c.memory reqs).1.map (fun x => (x.1, x.2.map CVal.img)) ∧
    (runImagesDisk f c reqs).2 = { c with memory := (runImages f c.memory reqs).2 } := by
  induction reqs generalizing c with
  | nil => exact ⟨rfl, rfl⟩
  | cons r rest ih =>
    obtain ⟨o, req⟩ := r
    have h0 := disk_cache_refines_dict c f o req (h (o, req) (by simp))
    have hrest := ih { c with memory := (getImage c.memory f o req).1 } (fun r' hr' => h r' (by simp [hr']))
    simp only [runImagesDisk, runImages, h0]
    exact ⟨by simp [hrest.1], by simp [hrest.2]⟩

/-- "the failure is logged and rendering continues", with the `cache` option set to a folder: an image whose load
failed is a cached `None`; asking for it again — a second `<img>`, a background, the next render — gives `None`
again, without any fetch and without looking for a file. -/
theorem disk_cache_failure_stays_none (c : DiskCache) (f : Fetcher) (o : Opts) (req : Req)
    (h : c.files.lookup (req.key o) = none)
    (hfail : (getImageDisk c f o req).2.2 = .ok (.img none)) :
    getImageDisk (getImageDisk c f o req).1 f o req = ((getImageDisk c f o req).1, [], .ok (.img none)) := by
  have h0 := disk_cache_refines_dict c f o req h
  have hres : (getImage c.memory f o req).2.2 = .ok none := by
    rw [h0] at hfail
    obtain ⟨v, hv, hi⟩ := Except.map_eq_ok hfail
    cases hi; exact hv
  have honce := image_fetched_at_most_once c.memory f o req none hres
  rw [h0]
  simp only
  have h1 := disk_cache_refines_dict { c with memory := (getImage c.memory f o req).1 } f o req h
  simp only at h1
  rw [h1, honce]
  simp [Except.map]

example :
    (runImagesDisk (fun _ => .raises ⟨"OSError", "reset"⟩) {}
      [(⟨false, none, none⟩, ⟨"http://a.test/x.png", .fromImage, none⟩), (⟨false, none, none⟩, ⟨"http://a.test/x.png", .fromImage, none⟩)]).1 =
    [([.call "http://a.test/x.png"], .ok (.img none)), ([], .ok (.img none))] := rfl

end Wp.C20.Bg
