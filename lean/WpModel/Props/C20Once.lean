/-
C20 — "each resource is fetched once": the clause the harness judges on sampled request sequences (`judge_images`:
"fetched again although (URL, orientation, image options) was already loaded or failed"), for all sequences of the model.
Entries of the image cache persist, a call that returns caches its answer, so a later request with the same key —
any number of other requests in between, under any fetcher — is answered without any fetch event.
-/
import WpModel.Model.ResourcesDoc
import WpModel.Props.C20

namespace Wp.C20.Once
open Wp Wp.Res

/-- `get_image_from_uri` never removes or overwrites an entry of the cache. -/
theorem getImage_keeps_entries (cache : Cache) (f : Fetcher) (o : Opts) (req : Req) (k : String) (v : Option Img)
    (h : cache.find? k = some v) : (getImage cache f o req).1.find? k = some v := by
  rcases getImage_cache cache f o req with e | ⟨w, hc, e, _⟩
  · rw [e]; exact h
  · rw [e, find_cons, if_neg]
    · exact h
    · intro hk
      rw [eq_of_beq hk, h] at hc
      cases hc

/-- … nor does any sequence of calls sharing the cache. -/
theorem runImages_keeps_entries (f : Fetcher) (reqs : List (Opts × Req)) (cache : Cache) (k : String) (v : Option Img)
    (h : cache.find? k = some v) : (runImages f cache reqs).2.find? k = some v := by
  induction reqs generalizing cache with
  | nil => exact h
  | cons r rest ih =>
    obtain ⟨o, req⟩ := r
    simp only [runImages]
    exact ih _ (getImage_keeps_entries cache f o req k v h)

/-- `fetched once` (function level, any sequence): once a request has been answered — with an image, or with `None`
because the fetch or the decoding failed — every later request with the same key (URL, orientation, image options) is
answered with the same value and **without any fetch event**, whatever was requested in between. -/
theorem same_key_fetched_once (f : Fetcher) (cache : Cache) (o : Opts) (req : Req) (mid : List (Opts × Req))
    (o' : Opts) (req' : Req) (v : Option Img) (hkey : req'.key o' = req.key o)
    (hok : (getImage cache f o req).2.2 = .ok v) :
    getImage (runImages f (getImage cache f o req).1 mid).2 f o' req' =
      ((runImages f (getImage cache f o req).1 mid).2, [], .ok v) := by
  apply getImage_hit
  rw [hkey]
  exact runImages_keeps_entries f mid _ _ _ (getImage_ok_caches cache f o req v hok)

theorem runImages_append (f : Fetcher) (a b : List (Opts × Req)) (cache : Cache) :
    runImages f cache (a ++ b) =
      ((runImages f cache a).1 ++ (runImages f (runImages f cache a).2 b).1, (runImages f (runImages f cache a).2 b).2) := by
  induction a generalizing cache with
  | nil => rfl
  | cons r rest ih =>
    obtain ⟨o, req⟩ := r
    simp only [List.cons_append, runImages, ih]

/-- The answer at a place of a run: that of the call on the cache the requests before it leave. -/
theorem runImages_at (f : Fetcher) (pre post : List (Opts × Req)) (r : Opts × Req) (cache : Cache) :
    (runImages f cache (pre ++ r :: post)).1[pre.length]? = some (getImage (runImages f cache pre).2 f r.1 r.2).2 := by
  induction pre generalizing cache with
  | nil => rfl
  | cons x xs ih => exact ih _

/-- The same on the list of answers of one run: in `pre ++ [request] ++ mid ++ [same key again] ++ post`, the answer to
the second request is `([], value of the first)`. -/
theorem second_request_is_silent (f : Fetcher) (cache : Cache) (pre mid post : List (Opts × Req)) (o o' : Opts)
    (req req' : Req) (v : Option Img) (hkey : req'.key o' = req.key o)
    (hok : (getImage (runImages f cache pre).2 f o req).2.2 = .ok v) :
    (runImages f cache (pre ++ (o, req) :: (mid ++ (o', req') :: post))).1[pre.length + 1 + mid.length]? =
      some ([], .ok v) := by
  have h := runImages_at f (pre ++ (o, req) :: mid) post (o', req') cache
  rw [List.append_assoc, List.length_append, List.length_cons, ← Nat.add_assoc, Nat.add_right_comm,
    List.cons_append] at h
  rw [h, runImages_append]
  exact congrArg (fun x => some x.2) (same_key_fetched_once f (runImages f cache pre).2 o req mid o' req' v hkey hok)

/-! ## the image stage of a document -/

theorem runRefs_keeps_entries (f : Fetcher) (o : Opts) (refs : List Doc.ImgRef) (cache : Cache) (k : String)
    (v : Option Img) (h : cache.find? k = some v) : (Doc.runRefs f o cache refs).2.2.1.find? k = some v := by
  induction refs generalizing cache with
  | nil => exact h
  | cons r rest ih =>
    rcases ref_url_cases r with hs | ⟨u, hu, hne⟩
    · rw [runRefs_skip f o cache r rest hs]; exact ih cache h
    · rw [runRefs_fetch f o cache r rest u hu hne]
      have hk := getImage_keeps_entries cache f o ⟨u, r.orient, r.forcedMime⟩ k v h
      cases (getImage cache f o ⟨u, r.orient, r.forcedMime⟩).2.2 with
      | error e => exact hk
      | ok image => exact ih _ hk

/-- `fetched once` (document level): a reference whose image — or whose failure — is already in the cache adds no
fetch event to the image stage and gets its boxes from the cached value: an `<img>` repeated on every page, the same
background on many boxes, a broken URL used ten times cost one fetch. -/
theorem cached_reference_is_silent (f : Fetcher) (o : Opts) (r : Doc.ImgRef) (post : List Doc.ImgRef) (cache : Cache)
    (u : String) (v : Option Img) (hu : r.url = some u) (hne : (u == "") = false)
    (h : cache.find? (Req.key ⟨u, r.orient, r.forcedMime⟩ o) = some v) :
    Doc.runRefs f o cache (r :: post) =
      ((Doc.runRefs f o cache post).1, Doc.refBoxes r v :: (Doc.runRefs f o cache post).2.1,
       (Doc.runRefs f o cache post).2.2.1, (Doc.runRefs f o cache post).2.2.2) := by
  rw [runRefs_fetch f o cache r post u hu (by simpa using hne), getImage_hit cache f o ⟨u, r.orient, r.forcedMime⟩ v h]
  rfl

/-- Non-vacuity: a failing image asked for three times, another request in between: one call. -/
example :
    let f : Fetcher := fun _ => .raises ⟨"OSError", "reset"⟩
    let o : Opts := ⟨false, none, none⟩
    let bad : Req := ⟨"http://a.test/bad.png", .fromImage, none⟩
    (runImages f [] [(o, bad), (o, ⟨"http://a.test/other.png", .fromImage, none⟩), (o, bad), (o, bad)]).1.map (·.1) =
      [[.call "http://a.test/bad.png"], [.call "http://a.test/other.png"], [], []] := by decide +kernel

end Wp.C20.Once
