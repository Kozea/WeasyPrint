/-
C19 — the `/Dests` name tree of `generate_pdf` (`sorted(pdf_names, key=key_bytes)`, since 09da5a8): the written order
is a function of the *set* of anchors only — sorted by the bytes of the keys as pydyf writes them — so it cannot
depend on the order in which pages / anchors were met, on the selection order of `Document.copy`, on the zoom or on
anything else of the history.

  `bytesLe_iff`                                            Python's `bytes` order is the lexicographic order of
                                                           byte lists, hence total (`bytesLe_total` / `_trans` /
                                                           `_antisymm`)
  `keyBytes_injective`                                     different names are written as different keys
  `dests_sorted`                                           what `generate_pdf` writes is sorted by key bytes
  `dests_order_canonical`                                  two successful writes with the same destinations (in any
                                                           order) write the same `/Dests` array
  `ascii_before_non_ascii`                                 every ASCII key precedes every UTF-16 key (the repair)
-/
import WpModel.Model.PdfZoom
import WpModel.Lemmas.PdfNames

namespace Wp.C19.Names
open Wp Wp.CopyPages Wp.PdfZoom

/-- Python's `bytes` comparison is the lexicographic order of the byte lists. -/
theorem bytesLe_iff (a b : List Nat) : bytesLe a b = true ↔ a ≤ b := by
  induction a generalizing b with
  | nil => simp [bytesLe]
  | cons x xs ih =>
    cases b with
    | nil => simp [bytesLe]
    | cons y ys =>
      rw [List.cons_le_cons_iff, bytesLe]
      by_cases h1 : x < y
      · simp [h1]
      · by_cases h2 : y < x
        · have : x ≠ y := by omega
          simp [h1, h2, this]
        · have : x = y := by omega
          simp [this, ih]

theorem bytesLe_refl (a : List Nat) : bytesLe a a = true := (bytesLe_iff a a).mpr (List.le_refl a)

theorem bytesLe_total (a b : List Nat) : (bytesLe a b || bytesLe b a) = true := by
  rw [Bool.or_eq_true, bytesLe_iff, bytesLe_iff]
  exact List.le_total a b

theorem bytesLe_trans (a b c : List Nat) (h1 : bytesLe a b = true) (h2 : bytesLe b c = true) : bytesLe a c = true :=
  (bytesLe_iff a c).mpr (List.le_trans ((bytesLe_iff a b).mp h1) ((bytesLe_iff b c).mp h2))

theorem bytesLe_antisymm (a b : List Nat) (h1 : bytesLe a b = true) (h2 : bytesLe b a = true) : a = b :=
  List.le_antisymm ((bytesLe_iff a b).mp h1) ((bytesLe_iff b a).mp h2)

/-- Different names are written as different keys (so the sort never meets a tie between different names): `keyBytes` is
`PdfNames.keyBytes` on the code points of the name, which are scalar values. -/
theorem keyBytes_injective (a b : String) (h : keyBytes a = keyBytes b) : a = b := by
  have e : ∀ s : String, keyBytes s = PdfNames.keyBytes (s.toList.map Char.toNat) := fun s => by
    simp only [keyBytes, PdfNames.keyBytes, PdfNames.isAscii, List.all_map, List.flatMap_map]
    rfl
  have v : ∀ l : List Char, PdfNames.validStr (l.map Char.toNat) = true := fun l => by
    rw [PdfNames.validStr, List.all_map]
    refine List.all_eq_true.mpr fun c _ => ?_
    have hc : c.toNat < 0xd800 ∨ (0xdfff < c.toNat ∧ c.toNat < 0x110000) := c.valid
    simp only [Function.comp, PdfNames.scalar, Bool.and_eq_true, decide_eq_true_eq, Bool.not_eq_true',
      Bool.and_eq_false_iff, decide_eq_false_iff_not]
    omega
  rw [e, e] at h
  exact String.toList_inj.mp
    ((List.map_inj_right fun _ _ => Char.toNat_inj.mp).mp (PdfNames.keyBytes_inj _ _ (v _) (v _) h))

/-- The order `generate_pdf` sorts the destinations by. -/
def destLe (a b : Dest) : Bool := bytesLe (keyBytes a.name) (keyBytes b.name)

theorem destLe_trans (a b c : Dest) (h1 : destLe a b = true) (h2 : destLe b c = true) : destLe a c = true :=
  bytesLe_trans _ _ _ h1 h2

theorem destLe_total (a b : Dest) : (destLe a b || destLe b a) = true := bytesLe_total _ _

theorem sortDests_eq (ds : List Dest) : sortDests ds = ds.mergeSort destLe := rfl

theorem sortDests_perm (ds : List Dest) : (sortDests ds).Perm ds := List.mergeSort_perm ds _

theorem sortDests_sorted (ds : List Dest) : (sortDests ds).Pairwise (fun a b => destLe a b = true) := by
  rw [sortDests_eq]
  exact List.pairwise_mergeSort (le := destLe) destLe_trans destLe_total ds

/-- What a successful `generate_pdf` returns: the page loop over the resolved links, the sorted destinations, and the
outline. -/
theorem generatePdf_ok {z : Rat} {ua : Bool} {d : Document} {o : PdfOut} (h : generatePdf z ua d = .ok o) :
    ∃ outlines, o = ⟨pagesPdf z d.pages (resolveLinks d.pages),
      sortDests (allDests (scale z) 0 d.pages (resolveLinks d.pages)), outlines⟩ := by
  simp only [generatePdf] at h
  split at h
  · cases h
  · split at h
    · cases h
    · split at h
      · cases h
      exact ⟨_, (Except.ok.inj h).symm⟩

/-- **dests_sorted**: whatever the pages, the zoom and the variant, the `/Dests` array of a successful `generate_pdf`
is sorted by the bytes of its keys as written (ISO 32000-1 7.9.6). -/
theorem dests_sorted (z : Rat) (ua : Bool) (d : Document) (o : PdfOut) (h : generatePdf z ua d = .ok o) :
    o.names.Pairwise (fun a b => destLe a b = true) := by
  obtain ⟨_, rfl⟩ := generatePdf_ok h
  exact sortDests_sorted _

/-- A list sorted by key bytes whose names are pairwise different is determined by its set of elements. -/
private theorem sorted_perm_eq (l1 l2 : List Dest) (hp : l1.Perm l2)
    (h1 : l1.Pairwise (fun a b => destLe a b = true)) (h2 : l2.Pairwise (fun a b => destLe a b = true))
    (hn : (l1.map (·.name)).Nodup) : l1 = l2 := by
  refine List.Perm.eq_of_pairwise (fun a b ha hb hab hba => ?_) h1 h2 hp
  -- `a` and `b` have the same key bytes, hence the same name, and no two elements of `l1` share a name
  have hk : a.name = b.name := keyBytes_injective _ _ (bytesLe_antisymm _ _ hab hba)
  have hb := hp.symm.subset hb
  clear h1 h2 hp
  induction l1 with
  | nil => cases ha
  | cons x xs ih =>
    rw [List.map_cons, List.nodup_cons] at hn
    rcases List.mem_cons.mp ha with rfl | ha' <;> rcases List.mem_cons.mp hb with rfl | hb'
    · rfl
    · exact absurd (hk ▸ List.mem_map_of_mem hb') hn.1
    · exact absurd (hk ▸ List.mem_map_of_mem ha') hn.1
    · exact ih hn.2 ha' hb'

/-- **dests_order_canonical**: `sortDests` gives the same array for any two orders of the same destinations (names
pairwise different, as `resolve_links` guarantees): the written `/Dests` does not depend on the order in which the
anchors were met — page order, selection order of `copy`, dict order. -/
theorem dests_order_canonical (ds1 ds2 : List Dest) (hp : ds1.Perm ds2) (hn : (ds1.map (·.name)).Nodup) :
    sortDests ds1 = sortDests ds2 := by
  have s1 := sortDests_sorted ds1
  have s2 := sortDests_sorted ds2
  have p1 := sortDests_perm ds1
  refine sorted_perm_eq _ _ (p1.trans (hp.trans (sortDests_perm ds2).symm)) s1 s2 ?_
  exact ((p1.map (·.name)).nodup_iff).mpr hn

/-- **ascii_before_non_ascii** (the repair 09da5a8): a key written as ASCII precedes every key written as UTF-16
(`FE FF …`), whatever the code points — e.g. `b` before `aé`, which `sorted(pdf_names)` on the Python strings put the
other way round. -/
theorem ascii_before_non_ascii (a b : String) (ha : a.toList.all (fun c => decide (c.toNat < 128)) = true)
    (hb : b.toList.all (fun c => decide (c.toNat < 128)) = false) :
    bytesLe (keyBytes a) (keyBytes b) = true ∧ (a ≠ "" → bytesLe (keyBytes b) (keyBytes a) = false) := by
  unfold keyBytes
  simp only [ha, hb, if_true, Bool.false_eq_true, if_false]
  cases hl : a.toList with
  | nil => simp [bytesLe]
  | cons c cs =>
    rw [hl] at ha
    simp only [List.all_cons, Bool.and_eq_true, decide_eq_true_eq] at ha
    have h1 : c.toNat < 0xFE := by omega
    have h2 : ¬ 0xFE < c.toNat := by omega
    simp [bytesLe, h1, h2]

/-- Non-vacuity / regression example: anchors `b`, `aé`, `😀`, `Ａ` (U+FF21) are written in the order
`b, aé, 😀, Ａ` — each precedes the next in key bytes and not the other way round (code-point order would be
`aé, b, Ａ, 😀`). -/
example :
    (bytesLe (keyBytes "b") (keyBytes "aé") && bytesLe (keyBytes "aé") (keyBytes "😀") &&
     bytesLe (keyBytes "😀") (keyBytes "Ａ")) = true ∧
    (bytesLe (keyBytes "aé") (keyBytes "b") || bytesLe (keyBytes "😀") (keyBytes "aé") ||
     bytesLe (keyBytes "Ａ") (keyBytes "😀")) = false ∧
    keyBytes "aé" = [0xFE, 0xFF, 0x00, 0x61, 0x00, 0xE9] ∧ keyBytes "😀" = [0xFE, 0xFF, 0xD8, 0x3D, 0xDE, 0x00] := by
  decide +kernel

end Wp.C19.Names
