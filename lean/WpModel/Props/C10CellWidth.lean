/-
C10 — the min-content width of a table cell covers every child that is not absolutely positioned,
floats included (`Model/TableCellWidth.lean` ↔ `table_cell_min_content_width` /
`table_cell_min_max_content_width` of `weasyprint/layout/preferred.py`).  Together with
`C10Pref` (columns cover their cells' min-content widths) and `C10.auto_ge_min_partial` this is the
clause "auto layout keeps every column at least as wide as its widest unbreakable content" for
content that is a float.  Correspondence: sections `cellwidth-direct` and `doc-cell-widths` of `py/props/c10.py`.
-/
import WpModel.Model.TableCellWidth
import WpModel.Props.C10Pref
import Mathlib.Tactic.Linarith

namespace Wp.C10CellWidth
open Wp Wp.Table Wp.TableCellWidth

private theorem le_maxR_left (a b : Rat) : a ≤ maxR a b := (Rat.le_ite_gt b a).2

private theorem le_maxR_right (a b : Rat) : b ≤ maxR a b := (Rat.le_ite_gt b a).1

/-- `max(xs) if xs else 0` is an upper bound of `xs`. -/
theorem le_maxOr0 (l : List Rat) (x : Rat) (hx : x ∈ l) : x ≤ maxOr0 l := by
  cases l with
  | nil => cases hx
  | cons y ys => exact le_foldl_pyMax y ys x hx

/-- `min_max` never goes below its argument unless `max-width` does. -/
theorem le_minMax (b : CellBox) (w : Rat) (hmax : ∀ m, b.maxWidth = some m → w ≤ m) : w ≤ minMax b w := by
  unfold minMax
  apply le_trans _ (le_maxR_right _ _)
  cases hm : b.maxWidth with
  | none => exact le_refl _
  | some m =>
    simp only
    unfold minR
    split
    · exact hmax m hm
    · exact le_refl _

/-- **cell_min_covers.**  The (content-box) min-content width of a cell is at least the min-content
width of every child that is not absolutely positioned — in normal flow, **floated**, or running —
unless the cell's own px `max-width` is smaller than that. -/
theorem cell_min_covers (b : CellBox) (c : Child) (hc : c ∈ b.children) (hpos : c.pos ≠ .absolute)
    (hmax : ∀ m, b.maxWidth = some m → maxOr0 ((b.children.filter counts).map (·.minW)) ≤ m) :
    c.minW ≤ cellMin b false := by
  unfold cellMin adjust
  simp only [Bool.false_eq_true, if_false]
  apply le_trans _ (le_minMax b _ hmax)
  apply le_maxOr0
  rw [List.mem_map]
  exact ⟨c, List.mem_filter.mpr ⟨hc, by simp [counts, hpos]⟩, rfl⟩

/-- The instance the seeded change C10-5 broke: a floated child. -/
theorem cell_min_covers_float (b : CellBox) (c : Child) (hc : c ∈ b.children) (hpos : c.pos = .floated)
    (hmax : b.maxWidth = none) : c.minW ≤ cellMin b false :=
  cell_min_covers b c hc (by rw [hpos]; decide) (by intro m hm; rw [hmax] at hm; cases hm)

/-- The max-content width is at least the min-content width. -/
theorem cell_max_ge_min (b : CellBox) (outer : Bool) : (cellMinMax b outer).1 ≤ (cellMinMax b outer).2 :=
  le_maxR_left _ _

/-- Absolutely positioned children contribute nothing. -/
theorem abs_children_ignored (b : CellBox) (outer : Bool) :
    cellMinMax { b with children := b.children.filter counts } outer = cellMinMax b outer := by
  unfold cellMinMax cellMin blockMax adjust minMax marginWidth
  simp only [List.filter_filter, Bool.and_self]

/-- Dividing by `1 − p/100` with `0 ≤ p < 100` never makes a non-negative width smaller: the divisor
lies in `(0, 1]`. -/
private theorem le_div_one_sub {w t p : Rat} (hw : 0 ≤ w) (hwt : w ≤ t) (hp0 : 0 ≤ p) (hp : p < 100) :
    w ≤ t / (1 - p / 100) := by
  have hden : 0 < 1 - p / 100 := by linarith
  rw [le_div_iff₀ hden]
  calc w * (1 - p / 100) ≤ w * 1 :=
        mul_le_mul_of_nonneg_left (sub_le_self _ (div_nonneg hp0 (by norm_num))) hw
    _ ≤ t := (mul_one w).le.trans hwt

/-- With non-negative margins, paddings and borders and percentages below 100 the outer width is at
least the inner one. -/
theorem outer_ge_inner (b : CellBox) (w : Rat) (hw : 0 ≤ w)
    (hpx : 0 ≤ pxPart b.marginL + pxPart b.padL + pxPart b.marginR + pxPart b.padR + b.borL + b.borR)
    (hp0 : 0 ≤ pctPart b.marginL + pctPart b.padL + pctPart b.marginR + pctPart b.padR)
    (hp : pctPart b.marginL + pctPart b.padL + pctPart b.marginR + pctPart b.padR < 100) :
    w ≤ marginWidth b w := by
  unfold marginWidth
  simp only [hp, if_true]
  exact le_div_one_sub hw (by linarith) hp0 hp

/-- The outer min-content width is the margin width of the inner one. -/
theorem cellMin_outer (b : CellBox) : cellMin b true = marginWidth b (cellMin b false) := by
  simp [cellMin, adjust]

/-- **auto_column_covers_float.**  End to end, from the children of a cell to the laid-out column:
take a non-spanning cell of column `i` whose intrinsic width is what `table_cell_min_max_content_width`
computes from its children (`hbox`), the preferred-width tuple `table_and_columns_preferred_widths`
derives from all cells, and the column widths `auto_table_layout` derives from that tuple.  Then column
`i`, minus the cell's own px paddings, margins and borders, is at least as wide as every floated child of
the cell: **a float never overflows its cell into the neighbouring column** (what the seeded change
C10-5 broke).  Hypotheses: those of `auto_ge_min_partial` (well-formed widths, `Σ min ≤ assignable`, clean
1e-9 band), no `max-width` on the cell, no percentage paddings. -/
theorem auto_column_covers_float (inp : TablePref.PrefIn) (o : TablePref.PrefOut)
    (h : TablePref.preferredWidths inp = .ok o)
    (a : Rat) (cols : List ACol) (cw : List Rat) (br : String)
    (hcols : guess0 cols = o.mins)
    (hauto : autoColumns a cols = .ok (cw, br)) (hwf : C10.WfCols cols)
    (hmin : sumR (guess0 cols) ≤ a) (ha : 0 ≤ a) (hband : C10.CleanBand a cols)
    (i : Nat) (hi : i < TablePref.gridWidth inp.rows) (hlen : o.mins.length = TablePref.gridWidth inp.rows)
    (c : TablePref.PCell) (hc : c ∈ TablePref.colCells inp.rows i) (h1 : c.colspan = 1)
    (cell : CellBox) (hbox : c.box.minW = (cellMinMax cell true).1)
    (k : Child) (hk : k ∈ cell.children) (hfloat : k.pos = .floated) (hmax : cell.maxWidth = none)
    (hpct : pctPart cell.marginL + pctPart cell.padL + pctPart cell.marginR + pctPart cell.padR = 0) :
    k.minW + (pxPart cell.marginL + pxPart cell.padL + pxPart cell.marginR + pxPart cell.padR
              + cell.borL + cell.borR) ≤ TablePref.nth cw i := by
  have hcol := C10.Pref.auto_column_covers_cells inp o h cw
    (hcols ▸ C10.auto_ge_min_partial a cols cw br hauto hwf.min_le_max hmin ha hband) i hi c hc h1
  have hin := cell_min_covers_float cell k hk hfloat hmax
  have hout : (cellMinMax cell true).1 = cellMin cell false +
      (pxPart cell.marginL + pxPart cell.padL + pxPart cell.marginR + pxPart cell.padR) + cell.borL + cell.borR := by
    show cellMin cell true = _
    rw [cellMin_outer]
    unfold marginWidth
    simp only [hpct]
    norm_num
  rw [hbox, hout] at hcol
  linarith

/-- Non-vacuity: a cell holding the word `ab` (16px) and a 40px float is at least 40px wide; an
absolutely positioned 99px child does not count. -/
example : cellMinMax ⟨[⟨16, 16, .normal⟩, ⟨40, 40, .floated⟩, ⟨99, 99, .absolute⟩], .auto, 0, none,
    .px 0, .px 0, .px 2, .px 2, 1, 1⟩ false = (40, 40) ∧
  cellMinMax ⟨[⟨16, 16, .normal⟩, ⟨40, 40, .floated⟩, ⟨99, 99, .absolute⟩], .auto, 0, none,
    .px 0, .px 0, .px 2, .px 2, 1, 1⟩ true = (46, 46) := by
  constructor <;> decide +kernel

end Wp.C10CellWidth
