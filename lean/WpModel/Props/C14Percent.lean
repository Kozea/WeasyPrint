/-
C14 — percentages of the page box and of margin boxes (`layout/percent.py resolve_percentages`,
`Model/PagePercent.lean`): which dimension of the containing block each property refers to, `box-sizing`, and
the refinement tie — the page-box / margin-box models of `Model/PageBoxes.lean` (`makePageBox`, `makeBox`,
used by every document-level theorem) are exactly `resolve_percentages` followed by the page algorithms.
-/
import WpModel.Model.PagePercent

namespace Wp.C14
open Wp Wp.PageBoxes Wp.PagePercent

/-- css-page-3 §7: on a **page box** the percentages of `margin-top / margin-bottom` and `padding-top / padding-bottom` refer to
the *height* of the containing block (the sheet), those of the left / right properties and `width` to its width,
`height` to its height — for every style and every containing block. -/
theorem page_percent_referents (s : CStyle) (cbW cbH : Rat) :
    let u := resolvePercentages true s cbW cbH
    u.mt = s.mt.resolve cbH ∧ u.mb = s.mb.resolve cbH ∧ u.pt = s.pt.resolve cbH ∧ u.pb = s.pb.resolve cbH ∧
    u.ml = s.ml.resolve cbW ∧ u.mr = s.mr.resolve cbW ∧ u.pl = s.pl.resolve cbW ∧ u.pr = s.pr.resolve cbW := by
  simp [resolvePercentages, maybeHeight]

/-- CSS 2.1 §8.3 / §8.4: on **any other box** (margin boxes included) all eight refer to the *width*. -/
theorem box_percent_referents (s : CStyle) (cbW cbH : Rat) :
    let u := resolvePercentages false s cbW cbH
    u.mt = s.mt.resolve cbW ∧ u.mb = s.mb.resolve cbW ∧ u.pt = s.pt.resolve cbW ∧ u.pb = s.pb.resolve cbW ∧
    u.ml = s.ml.resolve cbW ∧ u.mr = s.mr.resolve cbW ∧ u.pl = s.pl.resolve cbW ∧ u.pr = s.pr.resolve cbW := by
  simp [resolvePercentages, maybeHeight]

/-- `p%` of the page box's `padding-top` is `p/100` of the sheet height — the concrete form of the rule, and the
input on which a resolution against the width (seeded change C14-6) differs: a 200 × 500 sheet, `4%` → 20, not 8. -/
theorem page_padding_percent (s : CStyle) (p cbW cbH : Rat) (h : s.pt = .pct p) :
    (resolvePercentages true s cbW cbH).pt = some (cbH * p / 100) := by
  simp [resolvePercentages, maybeHeight, h, Dim.resolve]

example : (resolvePercentages true
    { ml := .px 0, mr := .px 0, mt := .pct 10, mb := .pct 10, pl := .pct 10, pr := .pct 10, pt := .pct 4, pb := .pct 4,
      width := .auto, height := .auto, minW := .auto, minH := .auto, maxW := .inf, maxH := .inf,
      bt := 0, br := 0, bb := 0, bl := 0 } 200 500).pt = some 20 := by decide +kernel

/-- With `content-box` the size properties are the resolved values (`adjust_box_sizing` changes nothing). -/
theorem content_box_sizes (isPage : Bool) (s : CStyle) (cbW cbH : Rat) (h : s.sizing = .contentBox) :
    let u := resolvePercentages isPage s cbW cbH
    u.width = s.width.resolve cbW ∧ u.height = s.height.resolve cbH ∧
    u.minW = resolveMinDim s.minW cbW ∧ u.minH = resolveMinDim s.minH cbH ∧
    u.maxW = s.maxW.resolve cbW ∧ u.maxH = s.maxH.resolve cbH := by
  simp [resolvePercentages, sizingDelta, h, adjustAxis]

/-- `box-sizing: border-box`: the content width is what the specified width leaves after paddings and borders, never
negative (`adjust_box_sizing`; it does nothing when there are neither paddings nor borders). -/
theorem border_box_width_eq (isPage : Bool) (s : CStyle) (cbW cbH w : Rat) (h : s.sizing = .borderBox)
    (hw : s.width.resolve cbW = some w) (pl pr : Rat) (hpl : s.pl.resolve cbW = some pl) (hpr : s.pr.resolve cbW = some pr)
    (hd : 0 ≤ pl + pr + s.bl + s.br) (hw0 : 0 ≤ w) :
    (resolvePercentages isPage s cbW cbH).width = some (max 0 (w - (pl + pr + s.bl + s.br))) := by
  simp only [resolvePercentages, hw, hpl, hpr, sizingDelta, h, numOr0, adjustAxis, shrink]
  generalize pl + pr + s.bl + s.br = delta at hd ⊢
  split
  · rfl
  · have hd0 : delta = 0 := by grind
    rw [hd0, Rat.max_def]; split <;> (simp only [Option.some.injEq]; grind)

/-- `box-sizing: border-box` with non-negative paddings / borders: the specified width is the *border-box* width
whenever it is at least the paddings and borders; a smaller one gives content width 0 (never negative). -/
theorem border_box_width (isPage : Bool) (s : CStyle) (cbW cbH w : Rat) (h : s.sizing = .borderBox)
    (hw : s.width.resolve cbW = some w) (pl pr : Rat) (hpl : s.pl.resolve cbW = some pl) (hpr : s.pr.resolve cbW = some pr)
    (hnn : 0 ≤ pl ∧ 0 ≤ pr ∧ 0 ≤ s.bl ∧ 0 ≤ s.br) (hw0 : 0 ≤ w) :
    let u := resolvePercentages isPage s cbW cbH
    let delta := pl + pr + s.bl + s.br
    (delta ≤ w → u.width = some (w - delta)) ∧ (w ≤ delta → u.width = some 0) := by
  have e := border_box_width_eq isPage s cbW cbH w h hw pl pr hpl hpr (by grind) hw0
  intro u delta
  rw [show u.width = _ from e, Rat.max_def]
  constructor
  · intro hle; rw [if_pos (by grind)]
  · intro hle
    split
    · simp only [Option.some.injEq]; grind
    · rfl

/-- CSS 2.1 §10.5 / §10.7 with an **indefinite containing-block height** (`cb_height == 'auto'`): a percentage
`height` is `auto`, a percentage `min-height` is 0 and a percentage `max-height` (other than `0%`) is `none`; a length
is itself (content-box). -/
theorem auto_height_percentages (isPage : Bool) (s : CStyle) (cbW p : Rat) (hs : s.sizing = .contentBox) :
    (s.height = .pct p → (resolvePercentagesAutoHeight isPage s cbW).base.height = none) ∧
    (s.minH = .pct p → (resolvePercentagesAutoHeight isPage s cbW).base.minH = 0) ∧
    (s.maxH = .pct p → p ≠ 0 → (resolvePercentagesAutoHeight isPage s cbW).maxH = .inf) ∧
    (∀ v, s.height = .px v → (resolvePercentagesAutoHeight isPage s cbW).base.height = some v) := by
  have hlt : ¬ ((0 : Rat) > 0) := by decide +kernel
  refine ⟨?_, ?_, ?_, ?_⟩
  · intro h; simp [resolvePercentagesAutoHeight, sizingDelta, hs, hlt, h]
  · intro h; simp [resolvePercentagesAutoHeight, sizingDelta, hs, hlt, h, resolveMinDim, Dim.resolve]; grind
  · intro h hp; simp [resolvePercentagesAutoHeight, sizingDelta, hs, hlt, h, MaxDim.resolveInf, hp]
  · intro v h; simp [resolvePercentagesAutoHeight, sizingDelta, hs, hlt, h]

/-- The horizontal properties do not depend on whether the containing-block height is definite. -/
theorem auto_height_same_horizontal (s : CStyle) (cbW cbH : Rat) :
    let a := (resolvePercentagesAutoHeight false s cbW).base
    let u := resolvePercentages false s cbW cbH
    a.ml = u.ml ∧ a.mr = u.mr ∧ a.mt = u.mt ∧ a.mb = u.mb ∧ a.pl = u.pl ∧ a.pr = u.pr ∧ a.pt = u.pt ∧ a.pb = u.pb ∧
    a.width = u.width ∧ a.minW = u.minW ∧ a.maxW = u.maxW := by
  simp [resolvePercentagesAutoHeight, resolvePercentages, maybeHeight]

/-! ## Refinement: the page / margin-box models are `resolve_percentages` + the page algorithms -/

private theorem resolveMin_eq (d : Dim) (r : Rat) : resolveMin d r = resolveMinDim d r := by
  unfold resolveMin resolveMinDim numOr0; cases d.resolve r <;> rfl

private theorem resolveMax_eq (d : Option Dim) (r : Rat) : resolveMax d r = (maxOf d).resolve r := by
  cases d with
  | none => rfl
  | some d => cases d <;> rfl

/-- **`makePageBox` (the page box of every document-level theorem: `page_fills_sheet`,
`page_content_is_what_remains`, `margin_box_rects`, `doc_pages` …) is `resolve_percentages(page, size)` of
`percent.py` followed by `page_width` and `page_height`** — the function the `resolve-percentages` /
`page-box-percentages` sections compare with the real code property by property. -/
theorem make_page_box_refines (s : PStyle) :
    makePageBox s = pageFromUsed (resolvePercentages true (ofPStyle s) s.sizeW s.sizeH) s.sizeW s.sizeH := by
  simp [makePageBox, pageFromUsed, resolvePercentages, ofPStyle, maybeHeight, sizingDelta, adjustAxis,
    resolveMin_eq, resolveMax_eq]

/-- **`makeBox` (the margin box handed to `compute_variable_dimension` / `compute_fixed_dimension`) is
`resolve_percentages(box, containing_block)` for a box that is not a page box.** -/
theorem make_box_refines (s : MStyle) (cbW cbH : Rat) (h : s.generated = true) :
    makeBox s cbW cbH = mboxFromUsed s.kw (resolvePercentages false (ofMStyle s) cbW cbH) s.minC s.maxC := by
  simp [makeBox, h, mboxFromUsed, resolvePercentages, ofMStyle, maybeHeight, sizingDelta, adjustAxis]

/-- Consequence for documents: the used `padding-top` of the page box of a document page with style `s` is the
percentage of the sheet *height*. -/
theorem make_page_box_padding_top (s : PStyle) (p : Rat) (h : s.pt = .pct p) :
    (makePageBox s).pt = s.sizeH * p / 100 := by
  simp [makePageBox, h, Dim.resolve, numOr0]

example : (makePageBox { sizeW := 200, sizeH := 500, width := .auto, height := .auto, minW := .auto, maxW := none
                         minH := .auto, maxH := none, mt := .pct 10, mr := .pct 5, mb := .pct 10, ml := .pct 5
                         pt := .pct 4, pr := .pct 10, pb := .pct 4, pl := .pct 10
                         bt := 2, br := 2, bb := 2, bl := 2 }).height = 500 - 100 - 40 - 4 := by
  decide +kernel

/-! ## Scale invariance of the page box -/

/-- Scale a computed length: `px` values are multiplied, percentages and `auto` stay. -/
def scaleDim (k : Rat) : Dim → Dim
  | .auto => .auto
  | .px v => .px (k * v)
  | .pct v => .pct v

/-- The same `@page` style on a sheet `k` times as large, with every length multiplied by `k`. -/
def scalePStyle (k : Rat) (s : PStyle) : PStyle :=
  { sizeW := k * s.sizeW, sizeH := k * s.sizeH, width := scaleDim k s.width, height := scaleDim k s.height
    minW := scaleDim k s.minW, maxW := s.maxW.map (scaleDim k), minH := scaleDim k s.minH, maxH := s.maxH.map (scaleDim k)
    mt := scaleDim k s.mt, mr := scaleDim k s.mr, mb := scaleDim k s.mb, ml := scaleDim k s.ml
    pt := scaleDim k s.pt, pr := scaleDim k s.pr, pb := scaleDim k s.pb, pl := scaleDim k s.pl
    bt := k * s.bt, br := k * s.br, bb := k * s.bb, bl := k * s.bl }

def scalePageBox (k : Rat) (p : PageBox) : PageBox :=
  { width := k * p.width, height := k * p.height, mt := k * p.mt, mr := k * p.mr, mb := k * p.mb, ml := k * p.ml
    pt := k * p.pt, pr := k * p.pr, pb := k * p.pb, pl := k * p.pl, bt := k * p.bt, br := k * p.br, bb := k * p.bb, bl := k * p.bl }

private theorem resolve_scale (k : Rat) (d : Dim) (r : Rat) :
    (scaleDim k d).resolve (k * r) = (d.resolve r).map (k * ·) := by
  cases d <;> simp [scaleDim, Dim.resolve]
  grind

private def scaleR (k : Rat) (r : RBox) : RBox := ⟨k * r.inner, k * r.ma, k * r.mb⟩

private theorem pwh_scale (k : Rat) (i a b : Len) (ppb cb : Rat) :
    pageWidthOrHeight ⟨i.map (k * ·), a.map (k * ·), b.map (k * ·), k * ppb⟩ (k * cb) =
      scaleR k (pageWidthOrHeight ⟨i, a, b, ppb⟩ cb) := by
  cases i <;> cases a <;> cases b <;> simp [pageWidthOrHeight, scaleR] <;> grind

private theorem minmax_scale (k : Rat) (hk : 0 < k) (i a b : Len) (ppb cb mn : Rat) (mx : Option Rat) :
    pageDimMinMax ⟨i.map (k * ·), a.map (k * ·), b.map (k * ·), k * ppb⟩ (k * cb) (k * mn) (mx.map (k * ·)) =
      scaleR k (pageDimMinMax ⟨i, a, b, ppb⟩ cb mn mx) := by
  have hset : ∀ v : Rat, pageWidthOrHeight ⟨some (k * v), a.map (k * ·), b.map (k * ·), k * ppb⟩ (k * cb) =
      scaleR k (pageWidthOrHeight ⟨some v, a, b, ppb⟩ cb) := fun v => pwh_scale k (some v) a b ppb cb
  have hlt : ∀ x y : Rat, (k * x < k * y) ↔ (x < y) := fun x y => Rat.mul_lt_mul_left hk
  unfold pageDimMinMax
  simp only [pwh_scale]
  cases mx with
  | none =>
    simp only [Option.map_none, scaleR, hlt]
    split <;> simp [hset, scaleR]
  | some m =>
    simp only [Option.map_some, scaleR, gt_iff_lt, hlt]
    split
    · simp only [hset, scaleR, hlt]
      split <;> simp [hset, scaleR]
    · simp only [hlt]
      split <;> simp [hset, scaleR]

private theorem numOr0_map (k : Rat) (x : Len) : numOr0 (x.map (k * ·)) = k * numOr0 x := by
  cases x <;> simp [numOr0]

private theorem resolveMin_scale (k : Rat) (d : Dim) (r : Rat) : resolveMin (scaleDim k d) (k * r) = k * resolveMin d r := by
  simp [resolveMin, resolve_scale, numOr0_map]

private theorem resolveMax_scale (k : Rat) (d : Option Dim) (r : Rat) :
    resolveMax (d.map (scaleDim k)) (k * r) = (resolveMax d r).map (k * ·) := by
  cases d with
  | none => rfl
  | some d => simp [resolveMax, resolve_scale]

/-- **The page box is scale-invariant**: the same `@page` style on a sheet `k` times as large with every length
multiplied by `k` (percentages unchanged) gives the page box multiplied by `k` — content size, margins, paddings,
borders; min/max clamps included (`k > 0`).  (So the geometry of a page depends on the unit only through the
numbers: what makes `zoom` a pure scale for the whole page, `page_boxes_zoom_homogeneous`.) -/
theorem make_page_box_scale (s : PStyle) (k : Rat) (hk : 0 < k) :
    makePageBox (scalePStyle k s) = scalePageBox k (makePageBox s) := by
  have hppb : ∀ a b c d : Rat, k * a + k * b + k * c + k * d = k * (a + b + c + d) := by intro a b c d; grind
  simp only [makePageBox, scalePStyle, resolve_scale, numOr0_map, resolveMin_scale, resolveMax_scale, hppb,
    minmax_scale k hk, scalePageBox, scaleR]

example : makePageBox (scalePStyle 2 { sizeW := 200, sizeH := 500, width := .auto, height := .px 300, minW := .auto
                                       maxW := some (.px 100), minH := .auto, maxH := none, mt := .pct 10, mr := .auto
                                       mb := .auto, ml := .px 5, pt := .pct 4, pr := .px 1, pb := .px 0, pl := .pct 10
                                       bt := 2, br := 0, bb := 0, bl := 1 }) =
    scalePageBox 2 (makePageBox { sizeW := 200, sizeH := 500, width := .auto, height := .px 300, minW := .auto
                                  maxW := some (.px 100), minH := .auto, maxH := none, mt := .pct 10, mr := .auto
                                  mb := .auto, ml := .px 5, pt := .pct 4, pr := .px 1, pb := .px 0, pl := .pct 10
                                  bt := 2, br := 0, bb := 0, bl := 1 }) := by decide +kernel

end Wp.C14
