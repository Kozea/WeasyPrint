/-
C02 for PM stage 2a — totality of the pagination path with out-of-flow children: `make_page`'s
`assert root_box` is unreachable; `float_layout` (`find_float_position(context, box, …)`) and
`absolute_box_layout` never receive `None` from `block_container_layout` (they call it with
`page_is_empty=True`), on the page where the box appears and on the pages where it is continued;
`make_all_pages` returns, with at least one page and at most `2 · size`.
-/
import WpModel.Props.C03Oof
import WpModel.Lemmas.OofFrame

namespace Wp.PMO.C02Oof
open Wp Wp.PM

/-- `make_page`'s `assert root_box` holds for every document of the extended grammar, every page index,
resume position, pending break, side and pending out-of-flow continuations. -/
theorem root_assert_unreachable (d : Doc) (index : Nat) (resume : Option Resume) (np : NextPage) (right : Bool)
    (brokenIn : List Broken) (rootTop : Rat) :
    (remakePage d index resume np right brokenIn rootTop).isSome = true :=
  C03Oof.remakePage_total d index resume np right brokenIn rootTop

/-- No `AttributeError` in `find_float_position` / `finish_block_formatting_context(None)`: the box handed
over by `block_container_layout` to `float_layout` / `absolute_box_layout` is never `None`. -/
theorem out_of_flow_layout_gets_a_box (d : Doc) (index : Nat) (resume : Option Resume) (np : NextPage)
    (right : Bool) (brokenIn : List Broken) (rootTop : Rat) (p : Page)
    (hp : remakePage d index resume np right brokenIn rootTop = some p) : p.crash = false :=
  remakePage_no_crash d index resume np right brokenIn rootTop p hp

theorem makeAllPages_no_crash (d : Doc) (fuel index : Nat) (resume : Option Resume) (np : NextPage)
    (right : Bool) (brokenIn : List Broken) (rootTop : Rat) (pages : List Page)
    (h : makeAllPages d fuel index resume np right brokenIn rootTop = some pages) : ∀ p ∈ pages, p.crash = false :=
  makeAllPages_forall d (fun _ => True) (fun p => p.crash = false)
    (fun i r n b bi rt p _ hp => ⟨remakePage_no_crash d i r n b bi rt p hp, trivial⟩)
    fuel index resume np right brokenIn rootTop pages trivial h

/-- **Pagination is total** on the extended grammar (no fixed heights in the flow, `orphans, widows ≥ 1`):
it returns, with at least one and at most `2 · size` pages, none of them crashed. -/
theorem paginate_total (d : Doc) (hg : Good d.root) :
    ∃ pages, paginate d (2 * size d.root + 2) = some pages ∧ pages ≠ [] ∧ pages.length ≤ 2 * size d.root ∧
      ∀ p ∈ pages, p.crash = false := by
  obtain ⟨pages, hp, hl⟩ := C03Oof.paginate_terminates d hg
  refine ⟨pages, hp, ?_, hl, ?_⟩
  · exact PageLoop.run_ne_nil (makeAllPages_eq_some.mp hp)
  · unfold paginate at hp
    exact makeAllPages_no_crash d _ _ _ _ _ _ _ pages hp

/-! Non-vacuity: `C01Oof.exDoc` satisfies the hypothesis; 3 pages ≤ 30. -/
example : Good C01Oof.exDoc.root ∧
    (paginate C01Oof.exDoc (2 * size C01Oof.exDoc.root + 2)).map (fun ps => (ps.length, ps.all (!·.crash))) =
      some (3, true) := by
  refine ⟨?_, by decide +kernel⟩
  simp [C01Oof.exDoc, Witness.mkDoc, Good, GoodList, Witness.flow, Witness.floated, Witness.absolute, Witness.st0]

end Wp.PMO.C02Oof
