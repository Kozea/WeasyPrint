/-
C07 (part 8) — computed grid track lists: every length, at any depth (`minmax()`, `fit-content()`, `repeat()` nested
in `repeat()`), comes out in px; equal absolute lengths written in different units compute to the same breadth.
-/
import WpModel.Model.TracksC07
import WpModel.Props.C07

namespace Wp.C07
open Wp Wp.Len07 Wp.Tracks07

/-- A computed dimension whose specified unit the validators let through is in px, or stays a percentage, an `fr`,
or the unitless zero. -/
theorem length_dim_done (ctx : FontCtx) (v : Rat) (u : Option String) (hu : unitKnown u = true) :
    unitDone (lengthDim ctx v u).2 = true := by
  by_cases hv : v = 0
  · simp [lengthDim, hv, length_zero, unitDone]
  cases u with
  | none => simp [lengthDim, length, hv, unitDone]
  | some w =>
    simp only [unitKnown, Bool.or_eq_true, beq_iff_eq] at hu
    rcases hu with (hw | rfl) | rfl
    · obtain ⟨q, hq⟩ := length_of_known_unit ctx false v w hw
      simp [lengthDim, hq, unitDone]
    · simp [lengthDim, length_outside_table ctx false v "%" hv unit_table_none.1, unitDone]
    · simp [lengthDim, length_outside_table ctx false v "fr" hv unit_table_none.2, unitDone]

theorem compute_breadth_done (ctx : FontCtx) (b : Breadth) (hb : b.known = true) :
    (computeBreadth ctx b).done = true := by
  cases b with
  | kw s => rfl
  | dim v u =>
    simp only [Breadth.known] at hb
    unfold computeBreadth
    by_cases hfr : (u == some "fr") = true
    · simp only [hfr, if_true, Breadth.done]
      have : u = some "fr" := by simpa using hfr
      subst this
      decide
    · simp only [hfr, Bool.false_eq_true, if_false, Breadth.done]
      exact length_dim_done ctx v u hb

mutual
/-- A track section as the validator builds it: not a bare tuple of line names; the inside of `repeat()` is a
track list again. -/
def wfSection : Track → Bool
  | .names _ => false
  | .rep _ ts => wfTracks true ts
  | _ => true
/-- A track list as the validator builds it: line names at even indexes, track sections at odd indexes. -/
def wfTracks : Bool → List Track → Bool
  | _, [] => true
  | true, .names _ :: rest => wfTracks false rest
  | true, _ :: _ => false
  | false, t :: rest => wfSection t && wfTracks true rest
end

private theorem tracksDone_append : ∀ (a b : List Track), tracksDone (a ++ b) = (tracksDone a && tracksDone b)
  | [], b => by simp [tracksDone]
  | t :: rest, b => by simp [tracksDone, tracksDone_append rest b, Bool.and_assoc]

mutual
private theorem section_done (ctx : FontCtx) : ∀ (t : Track), t.known = true → wfSection t = true →
    tracksDone (trackSection ctx t) = true
  | .names _, _, hw => by simp [wfSection] at hw
  | .breadth b, hk, _ => by
    simp only [Track.known] at hk
    simp [trackSection, tracksDone, Track.done, compute_breadth_done ctx b hk]
  | .minmax a b, hk, _ => by
    simp only [Track.known, Bool.and_eq_true] at hk
    simp [trackSection, tracksDone, Track.done, compute_breadth_done ctx a hk.1, compute_breadth_done ctx b hk.2]
  | .fitContent v u, hk, _ => by
    simp only [Track.known] at hk
    simp [trackSection, tracksDone, Track.done, length_dim_done ctx v u hk]
  | .rep n ts, hk, hw => by
    simp only [Track.known] at hk
    simp only [wfSection] at hw
    simp [trackSection, tracksDone, Track.done, size_done ctx true ts hk hw]
  | .other _, _, _ => by simp [trackSection, tracksDone]
private theorem size_done (ctx : FontCtx) : ∀ (e : Bool) (ts : List Track), tracksKnown ts = true →
    wfTracks e ts = true → tracksDone (trackSize ctx e ts) = true
  | true, [], _, _ | false, [], _, _ => by simp [trackSize, tracksDone]
  | true, .names l :: rest, hk, hw => by
    simp only [tracksKnown, Bool.and_eq_true] at hk
    simp only [wfTracks] at hw
    simp [trackSize, tracksDone, Track.done, size_done ctx false rest hk.2 hw]
  | true, .breadth _ :: _, _, hw | true, .minmax _ _ :: _, _, hw | true, .fitContent _ _ :: _, _, hw
  | true, .rep _ _ :: _, _, hw | true, .other _ :: _, _, hw => by simp [wfTracks] at hw
  | false, t :: rest, hk, hw => by
    simp only [tracksKnown, Bool.and_eq_true] at hk
    simp only [wfTracks, Bool.and_eq_true] at hw
    simp [trackSize, tracksDone_append, section_done ctx t hk.1 hw.1, size_done ctx true rest hk.2 hw.2]
end

/-- **No absolute or font-relative unit survives in a computed track list, at any depth**: for a track list as the
validator builds it (line names / sections alternating, `repeat()` holding a track list again, nested to any depth)
whose dimensions carry units the validators let through, every dimension of the computed list is in px, or is a
percentage, an `fr`, or the unitless zero — layout's `percentage()` never meets `in`, `pt`, `em` …
(the recursion into `repeat()` is what seeded change C07-7 removed). -/
theorem track_size_all_px (ctx : FontCtx) (ts : List Track) (hk : tracksKnown ts = true)
    (hw : wfTracks true ts = true) : tracksDone (trackSize ctx true ts) = true :=
  size_done ctx true ts hk hw

/-- The same for the whole computer of `grid-template-columns` / `-rows`. -/
theorem grid_template_all_px (ctx : FontCtx) (ts : List Track) (hk : tracksKnown ts = true)
    (hw : wfTracks true ts = true) :
    ∃ out, gridTemplate ctx (.tracks ts) = .tracks out ∧ tracksDone out = true :=
  ⟨_, rfl, track_size_all_px ctx ts hk hw⟩

/-- `grid-auto-columns` / `-rows`: the flat list comes out in px as well. -/
theorem grid_auto_all_px (ctx : FontCtx) : ∀ (ts : List Track), tracksKnown ts = true →
    tracksDone (gridAuto ctx ts) = true := by
  intro ts hk
  fun_induction gridAuto ctx ts with
  | case1 => simp [tracksDone]
  | case2 b rest ih =>
    simp only [tracksKnown, Track.known, Bool.and_eq_true] at hk
    simp [tracksDone, Track.done, compute_breadth_done ctx b hk.1, ih hk.2]
  | case3 a b rest ih =>
    simp only [tracksKnown, Track.known, Bool.and_eq_true] at hk
    simp [tracksDone, Track.done, compute_breadth_done ctx a hk.1.1, compute_breadth_done ctx b hk.1.2, ih hk.2]
  | case4 v u rest ih =>
    simp only [tracksKnown, Track.known, Bool.and_eq_true] at hk
    simp [tracksDone, Track.done, length_dim_done ctx v u hk.1, ih hk.2]
  | case5 t rest _ _ _ ih =>
    simp only [tracksKnown, Bool.and_eq_true] at hk
    exact ih hk.2

/-- **Equal absolute lengths are the same track breadth**, whatever the unit they are written in. -/
theorem compute_breadth_units (ctx : FontCtx) (u1 u2 : String) (k1 k2 v1 v2 : Rat)
    (h1 : factor u1 = some k1) (h2 : factor u2 = some k2) (h : v1 * k1 = v2 * k2) :
    computeBreadth ctx (.dim v1 (some u1)) = computeBreadth ctx (.dim v2 (some u2)) := by
  have n1 : (some u1 == some "fr") = false := by
    have : u1 ≠ "fr" := fun e => by rw [e, unit_table_none.2] at h1; cases h1
    simpa using this
  have n2 : (some u2 == some "fr") = false := by
    have : u2 ≠ "fr" := fun e => by rw [e, unit_table_none.2] at h2; cases h2
    simpa using this
  have hu := units_interchangeable ctx false u1 u2 k1 k2 v1 v2 h1 h2 h
  obtain ⟨q, hq⟩ : ∃ q, length ctx false (.dim v2 (some u2)) = .dim q (some "px") := by
    rw [length_absolute ctx false v2 u2 k2 h2]
    by_cases hv : v2 = 0
    · exact ⟨0, by simp [hv]⟩
    · exact ⟨v2 * k2, by simp [hv]⟩
  unfold computeBreadth lengthDim
  simp only [n1, n2, Bool.false_eq_true, if_false]
  rw [hu, hq]

/-- `repeat()` commutes with the computation: the computed `repeat(n, tracks)` is `repeat(n, computed tracks)`. -/
theorem track_size_repeat (ctx : FontCtx) (n : String) (ts rest : List Track) :
    trackSize ctx false (.rep n ts :: rest) = .rep n (trackSize ctx true ts) :: trackSize ctx true rest := by
  simp [trackSize, trackSection]

/-- Non-vacuity and regression shape of seeded change C07-7: `[a] 1in repeat(2, minmax(72pt, 1fr) [b] repeat(3, 6pc))`
with a 16px font — every length is 96px, at depth 0, 1 and 2. -/
example :
    let ctx : FontCtx := { fontSize := 16, rootFontSize := 16, exRatio := 1 / 2, chRatio := 1 / 2 }
    let ts : List Track :=
      [.names ["a"], .breadth (.dim 1 (some "in")), .names [],
       .rep "2" [.names [], .minmax (.dim 72 (some "pt")) (.dim 1 (some "fr")), .names ["b"],
                 .rep "3" [.names [], .breadth (.dim 6 (some "pc")), .names []], .names []], .names []]
    tracksKnown ts = true ∧ wfTracks true ts = true ∧
    (match trackSize ctx true ts with
      | [.names ["a"], .breadth (.dim v (some "px")), .names [],
         .rep "2" [.names [], .minmax (.dim w (some "px")) (.dim 1 (some "fr")), .names ["b"],
                   .rep "3" [.names [], .breadth (.dim x (some "px")), .names []], .names []], .names []] =>
        v == 96 && w == 96 && x == 96
      | _ => false) = true := by
  decide +kernel

end Wp.C07
