/-
C08 — text, tidiness, wrappers and fuel through the whole box-generation pipeline (`element_to_box` →
`create_anonymous_boxes`).
Property theorems only; the lemmas live in the `WpModel/Lemmas` modules imported below.

`Tidy b`: text lives in text boxes and text boxes are leaves.  `vis t`: the characters of `t` that
`is_whitespace` does not call white space (all but CSS white space: `visible_is_non_css_white`);
`PT a b`: `vis a` is a permutation of `vis b` (tables move captions, header and footer groups).  `ColQuiet b`: columns and column groups hold no
visible text (they are not rendered; `table_boxes_children` empties them).
-/
import WpModel.Lemmas.BoxGenTidy
import WpModel.Lemmas.TableText
import WpModel.Lemmas.Fuel
import WpModel.Lemmas.TableFuel
import WpModel.Lemmas.Wrappers

namespace Wp.C08
open Wp Wp.Bx

/-- `flex_boxes` / `grid_boxes`: the text of a tidy tree is kept in order up to U+0020 characters (only
text runs made of spaces are dropped between items), and the tree stays tidy. -/
theorem flex_grid_text (grid : Bool) (b : KBox) (h : Tidy b) :
    noSp (leafText (fgb grid b)) = noSp (leafText b) ∧ Tidy (fgb grid b) := fgb_text grid b h

/-- `inline_in_block` on any tidy tree (no hypothesis on the classes of the children). -/
theorem inline_in_block_text_tidy (b b' : KBox) (force : Bool) (h : Tidy b) (hr : iib force b = .ok b') :
    noSp (leafText b') = noSp (leafText b) ∧ Tidy b' := iib_tidy b force b' h hr

/-- `anonymous_table_boxes`: the visible characters of the result are a permutation of those of the tree (`PT`;
a table moves captions, header and footer groups), for a tree whose columns hold no visible text (`ColQuiet`).
Visible characters, because white-space text between table parts disappears (rules 1.3 / 1.4); `ColQuiet`, because
the content of columns does. -/
theorem table_fixup_text (b r : KBox) (ht : Tidy b) (hq : ColQuiet b) (h : atb b = .ok r) :
    PT (leafText r) (leafText b) ∧ Tidy r := atb_text b r ht hq h

/-- The five passes of `create_anonymous_boxes` in sequence, for every tidy tree whose columns hold no visible text
and every run that ends. -/
theorem create_anonymous_boxes_text (b r : KBox) (ht : Tidy b) (hq : ColQuiet b)
    (h : createAnonymousBoxes b = .ok r) : PT (leafText r) (leafText b) := pipeline_text b r ht hq h

/-- Every box `element_to_box` returns — with markers, `::before` / `::after`, merged tails, after
`process_whitespace` and `process_text_transform` — is tidy. -/
theorem element_to_box_tidy (root : Bool) (d : Dom) (depth : Nat) (out : List KBox) (depth' : Nat)
    (h : elementToBox root d depth = .ok (out, depth')) : ∀ b ∈ out, Tidy b :=
  (tidyL_iff out).1 (elementToBox_tidy root d depth out depth' h)

/-- End to end: if the columns of the box `element_to_box` made for the root element (white-space processed,
transformed, with generated content) hold no visible text, the visible characters of the tree
`build_formatting_structure` returns are a permutation of those of that box (`PT`). -/
theorem build_formatting_structure_text (d : Dom) (r : KBox) (h : buildFormattingStructure d = .ok r) :
    ∃ b depth, elementToBox true d 0 = .ok ([b], depth) ∧ Tidy b ∧
      (ColQuiet b → PT (leafText r) (leafText b)) := by
  unfold buildFormattingStructure at h
  split at h
  · cases h
  · rename_i b depth he
    have ht : Tidy b := (elementToBox_tidy true d 0 [b] depth he).1
    exact ⟨b, depth, he, ht, fun hq => pipeline_text b r ht hq h⟩
  · cases h

/-! ## termination of `block_in_inline`

The source loops `while True` over `_inner_block_in_inline` with a resume stack; the model runs it with
fuel.  `needA b` steps always suffice, `needA b ≤ 5 · (number of boxes)`, and every iteration of the
loop strictly decreases the weight `bwAt` of the blocks still to be found after the resume position. -/

/-- No run of `block_in_inline` with at least `needA b` steps stops for lack of fuel. -/
theorem block_in_inline_fuel (n : Nat) (b : KBox) (h : needA b ≤ n) : bii n b ≠ .error .fuel :=
  (biiFuelOk n).bii b h

/-- The need is linear in the size of the tree. -/
theorem block_in_inline_need_linear (b : KBox) : needA b + 2 ≤ 5 * sz b := (need_linear b).1

/-- The fuel `create_anonymous_boxes` gives is never exhausted: `block_in_inline` terminates. -/
theorem block_in_inline_terminates (b : KBox) : bii (biiFuel b) b ≠ .error .fuel := bii_terminates b

/-- Progress of the `while True` loop: when `_inner_block_in_inline` finds a block, what remains to be
found after the new resume position weighs strictly less (by the block and its own processing). -/
theorem block_in_inline_progress (n : Nat) (line newLine block : KBox) (stack stack' : List Nat)
    (h : inner n line stack = .ok (newLine, some block, stack')) :
    bwAt line stack' < bwAt line stack ∧ stack' ≠ [] := by
  have := inner_bwAt n line stack newLine (some block) stack' h
  simp only at this
  exact ⟨by omega, this.2⟩

example : needA (.mk .BlockBox {} {} {} [] [.mk .LineBox {} {} {} [] [.mk .InlineBox {} {} {} []
    [.mk .BlockBox {} {} {} [] [] []] []] []] []) = 14 := by decide

/-! Non-vacuity: `div[ " a", td"b", caption"c", span(inline-flex)[" ", "x"] ]`: the caption moves before
the cell and the flex container loses its space-only run. -/
private def tx (s : List Nat) : KBox := .mk .TextBox {} {} {} s [] []
private def sample : KBox :=
  .mk .BlockBox {} {} {} [] [tx [32, 97], .mk .TableCellBox {} {} {} [] [tx [98]] [],
    .mk .TableCaptionBox {} {} {} [] [tx [99]] [],
    .mk .InlineFlexBox {} {} {} [] [tx [32], tx [120]] []] []

example : Tidy sample ∧ ColQuiet sample := by
  constructor
  · simp [sample, tx, Tidy, TidyL]; decide
  · simp [sample, tx, ColQuiet, ColQuietL]

example : (match createAnonymousBoxes sample with | .ok r => leafText r | .error _ => []) = [32, 97, 99, 98, 120] ∧
    leafText sample = [32, 97, 98, 99, 32, 120] := by
  constructor <;> decide +kernel

/-- Why `ColQuiet` is needed (CSS-conforming, not a defect): text inside a column is not rendered. -/
example : (match atb (.mk .TableBox {} {} {} [] [.mk .TableColumnBox {} {} {} [] [tx [97]] []] []) with
    | .ok r => leafText r | .error _ => [0]) = [] := by decide +kernel


/-! ## Termination of the table fix-up and of the whole pipeline

`table_boxes_children` re-applies its rules to every wrapper it creates (`wrap_improper` calls it on
the new box, `wrap_table` wraps rows and columns in groups).  The nesting is bounded: a table gets rows,
a row gets cells, a cell gets a table for its stray proper table children, that table gets row and column
groups, and those need nothing more; so the recursion is at most five calls deep and every level walks at most `m`
children. -/

/-- **Fuel sufficiency for `table_boxes_children`**, for every box and every list of children:
`5·m + 14` steps are enough, `m` = the number of children plus the `span` of a column group (rule
1.2 creates `span` anonymous columns). -/
theorem table_boxes_children_fuel (n : Nat) (box : KBox) (children : List KBox)
    (h : 5 * (children.length + groupSpan box) + 14 ≤ n) : tbc n box children ≠ .error .fuel :=
  tbc_nofuel n box children h

/-- The levels of the bound: a table whose children are all proper, the anonymous cell of rule 2.3, a
row. -/
theorem table_boxes_children_fuel_levels (n : Nat) (box : KBox) (l : List KBox) :
    ((box.kind = .TableBox ∨ box.kind = .InlineTableBox) →
      (∀ c ∈ l, Gen.properTableChild c.kind = true) → 2 * l.length + 7 ≤ n → tbc n box l ≠ .error .fuel) ∧
    (box.kind = .TableCellBox → (∀ c ∈ l, c.isA .TableCellBox = false) → 3 * l.length + 9 ≤ n →
      tbc n box l ≠ .error .fuel) ∧
    (box.kind = .TableRowBox → 4 * l.length + 11 ≤ n → tbc n box l ≠ .error .fuel) :=
  ⟨fun hk hl hn => tbc_nofuel_table n box l hk hl hn, fun hk hl hn => tbc_nofuel_cell n box l hk hl hn,
    fun hk hn => tbc_nofuel_row n box l hk hn⟩

/-- `anonymous_table_boxes` terminates on every tree. -/
theorem table_fixup_terminates (b : KBox) : atb b ≠ .error .fuel := atb_nofuel b

/-- `create_anonymous_boxes` terminates on every tree: none of the loops of the model that stand for a
Python `while True` or for a recursion on freshly made boxes runs out of the fuel the model gives. -/
theorem create_anonymous_boxes_terminates (b : KBox) : createAnonymousBoxes b ≠ .error .fuel :=
  createAnonymousBoxes_nofuel b

/-- `build_formatting_structure` terminates on every document tree; its only failures are the Python
exceptions the model makes explicit. -/
theorem build_formatting_structure_terminates (d : Dom) : buildFormattingStructure d ≠ .error .fuel :=
  buildFormattingStructure_nofuel d

/-- Hence: whenever the pipeline fails, it is with one of the Python exceptions. -/
theorem build_formatting_structure_errors (d : Dom) (e : BErr) (h : buildFormattingStructure d = .error e) :
    e = .assertion ∨ e = .keyError ∨ e = .attributeError ∨ e = .indexError := by
  cases e
  · exact Or.inl rfl
  · exact Or.inr (Or.inl rfl)
  · exact Or.inr (Or.inr (Or.inl rfl))
  · exact Or.inr (Or.inr (Or.inr rfl))
  · exact absurd h (buildFormattingStructure_nofuel d)

/-! Non-vacuity: without the span term (`tableFuel 0` for a childless box) the fuel is exhausted by a column group
with `span="70"`: the reason `atb` adds `groupSpan`; with it the fix-up ends.  And the bound of
`table_boxes_children_fuel` is within a factor of the truth: a `div` holding one cell needs fuel for
all five levels. -/
private def colGroup70 : KBox := .mk .TableColumnGroupBox {} { span := some 70 } {} [] [] []

example : (match tbc (tableFuel 0) colGroup70 [] with | .error .fuel => true | _ => false) = true ∧
    (match atb colGroup70 with | .ok r => r.kids.length | .error _ => 0) = 70 := by
  constructor <;> decide +kernel

example : (match tbc 8 (.mk .BlockBox {} {} {} [] [] []) [.mk .TableCellBox {} {} {} [] [] []] with
      | .error .fuel => true | _ => false) = true ∧
    (match tbc 19 (.mk .BlockBox {} {} {} [] [] []) [.mk .TableCellBox {} {} {} [] [] []] with
      | .ok r => r.kids.length | .error _ => 0) = 1 := by
  constructor <;> decide +kernel

/-! ## Repaired findings, now theorems

`inline-table-item-loses-wrapper` (97f25f2), `unicode-space-between-table-parts-dropped` (f280b41),
`marker-display-none-crash` (848642f): the witness inputs are regression cases in `Witness/C08.lean`;
here is what holds for every input since the repairs. -/

/-- CSS white space: the characters the `white-space` property acts on (css-text-3 §4.1; CSS 2.1 §16.6.1
lists space, tab, LF, CR; FF is white space of the syntax, CSS 2.1 §4.1.1). -/
def cssWhite (c : Nat) : Bool := c == 32 || c == 9 || c == 10 || c == 13 || c == 12

/-- The character class of `is_whitespace` — the complete graph of the real function, regenerated on
every run — is exactly CSS white space, for every code point: no-break space, U+2003, U+2028, U+3000
are text.  (Before f280b41 the regex was `\S` and this failed at 160, 8195, 8232, 12288.) -/
theorem is_whitespace_is_css_white_space (c : Nat) : Gen.reSpaceCp c = cssWhite c := by
  unfold Gen.reSpaceCp cssWhite
  split <;> simp_all

/-- The pattern the real function searches with: a character that is *not* CSS white space. -/
theorem is_whitespace_pattern : Gen.isWhitespaceRe = "[^ \\t\\n\\r\\f]" := by decide

/-- `is_whitespace(box)`: a text box all of whose characters are CSS white space. -/
theorem is_whitespace_iff (b : KBox) : isWhitespace b = (b.isA .TextBox && b.text.all cssWhite) := by
  unfold isWhitespace allReSpace
  have : Gen.reSpaceCp = cssWhite := funext is_whitespace_is_css_white_space
  rw [this]

/-- Hence the "visible characters" of `table_fixup_text`, `create_anonymous_boxes_text` and
`build_formatting_structure_text` are all characters but CSS white space: the anonymous-table rules
delete nothing else (rules 1.3 / 1.4 now keep NBSP-like text and wrap it in an anonymous cell). -/
theorem visible_is_non_css_white (t : Text) : vis t = t.filter (fun c => !cssWhite c) := by
  unfold vis
  have : Gen.reSpaceCp = cssWhite := funext is_whitespace_is_css_white_space
  rw [this]

/-- `flex_boxes` / `grid_boxes` keep every table box inside a table wrapper (`Wrapped`: outside running
elements a table box is a child of a box with `is_table_wrapper`): the anonymous block that replaces an
inline-block item takes over the flag, so the wrapper of an `inline-table` item stays one. -/
theorem flex_grid_keeps_wrappers (grid : Bool) (b : KBox) (h : Wrapped b) : Wrapped (fgb grid b) :=
  fgb_wrapped grid b h

/-- The same through both passes, as `create_anonymous_boxes` runs them. -/
theorem flex_then_grid_keeps_wrappers (b : KBox) (h : Wrapped b) : Wrapped (fgb true (fgb false b)) :=
  fgb_wrapped true _ (fgb_wrapped false b h)

/-- `::marker { display: none }` (after blockification nothing else computes to `none`): no box, no
failure, whatever the content, the list-style type and the position; the quote depth is unchanged. -/
theorem marker_display_none (m : MarkerSpec) (attrs : El) (outside : Bool) (depth : Nat)
    (h : blockify m.st.display m.st.float m.st.position false = ["none"]) :
    markerToBox m attrs outside depth = .ok ([], depth) := by
  unfold markerToBox
  simp [h]

/-- `display: none` stays `none` under any `float` / `position`. -/
theorem blockify_none (f p : String) (root : Bool) : blockify ["none"] f p root = ["none"] := by
  unfold blockify
  split
  · rfl
  · rfl

/-! Non-vacuity: the table pass hands `div(flex)[ wrapper[inline-table] ]` over `Wrapped`; the flex pass
keeps it so, with the wrapper flag on the anonymous block (cf. `Witness.C08.inline_table_item_keeps_wrapper`). -/
private def flexWithInlineTable : KBox :=
  .mk .FlexBox {} {} {} [] [.mk .InlineBlockBox { anon := true } {} { wrapper := true } []
    [.mk .InlineTableBox {} {} {} [] [] []] []] []

example : Wrapped flexWithInlineTable := by
  simp [flexWithInlineTable, Wrapped, WrappedL, NoTableKid]
  decide

example : (fgb false flexWithInlineTable).kids.map (fun (w : KBox) => (w.kind, w.inst.wrapper)) =
    [(.BlockBox, true)] := by decide +kernel

example : isWhitespace (tx [32, 10, 9]) = true ∧ isWhitespace (tx [160]) = false ∧
    isWhitespace (tx [8195]) = false ∧ isWhitespace (tx [12288]) = false := by decide


end Wp.C08
