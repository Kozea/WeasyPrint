/-
C15 — page-based counters: theorems about `Model/PageCounters.lean`
(`TargetCollector.cache_target_page_counters`, the counter section of `make_page`, the entry written by
`remake_page`).  These are the local facts behind the hypothesis `World.Sound` of
`C15.fixpoint_consistent`: whenever a target's page counters change, every box printing them is either
flagged for re-making (`content_changed` on its page, `parse_again` called) or marked `pending`, and a
pending box is flagged as soon as its page is made.
-/
import WpModel.Model.PageCounters

namespace Wp.C15
open Wp.PageCounters

/-- `setAt` is `List.modify`; its three facts used below are the library's. -/
private theorem setAt_eq_modify {α} (l : List α) (i : Nat) (f : α → α) : setAt l i f = l.modify i f := by
  induction l generalizing i with
  | nil => simp [setAt]
  | cons x xs ih => cases i <;> simp [setAt, ih]

private theorem setAt_length {α} (l : List α) (i : Nat) (f : α → α) : (setAt l i f).length = l.length := by
  rw [setAt_eq_modify, List.length_modify]

private theorem setAt_get_same {α} (l : List α) (i : Nat) (f : α → α) : (setAt l i f)[i]? = (l[i]?).map f := by
  rw [setAt_eq_modify, List.getElem?_modify_eq]; rfl

private theorem setAt_get_other {α} (l : List α) (i j : Nat) (f : α → α) (h : i ≠ j) : (setAt l i f)[j]? = l[j]? := by
  rw [setAt_eq_modify, List.getElem?_modify_ne f l h]

private theorem setAt_sets {α} (l : List α) (i : Nat) (f : α → α) (g : α → Bool) (hf : ∀ r, g (f r) = true)
    (h : i < l.length) : ((setAt l i f)[i]?).map g = some true := by
  rw [setAt_get_same, List.getElem?_eq_getElem h]
  exact congrArg some (hf _)

/-- "Marked for re-making": the `content_changed` flag of page `i` is set. -/
def flagged (st : PState) (i : Nat) : Prop := (st.pageMaker[i]?).map (·.contentChanged) = some true

def isPending (st : PState) (k : Nat) : Prop := (st.lookups[k]?).map (·.pending) = some true

private theorem setAt_keeps {α} (l : List α) (idx i : Nat) (f : α → α) (g : α → Bool)
    (hf : ∀ r, g r = true → g (f r) = true) (h : (l[i]?).map g = some true) :
    ((setAt l idx f)[i]?).map g = some true := by
  by_cases e : idx = i
  · subst e
    rw [setAt_get_same]
    cases hx : l[idx]? with
    | none => rw [hx] at h; cases h
    | some r => rw [hx] at h; exact congrArg some (hf r (Option.some.inj h))
  · rw [setAt_get_other _ _ _ _ e]; exact h

/-- The three things one iteration can do: nothing, mark its item `pending`, or flag the item's page and call
`parse_again` with the item's own cached counters. -/
theorem spreadStep_cases (anchor : String) (pcv : Vals) (k : Nat) (l : LookupItem) (st : PState) :
    spreadStep anchor pcv k l st = st ∨
    spreadStep anchor pcv k l st = { st with lookups := setAt st.lookups k fun x => { x with pending := true } } ∨
    spreadStep anchor pcv k l st =
      { st with pageMaker := setAt st.pageMaker (l.index.getD 0) fun r => { r with contentChanged := true }
                calls := st.calls ++ [(k, l.cached)] } := by
  fun_cases spreadStep anchor pcv k l st
  case case3 => exact Or.inr (Or.inl rfl)
  case case4 => exact Or.inr (Or.inr rfl)
  all_goals exact Or.inl rfl

private theorem spreadStep_pm_length (anchor : String) (pcv : Vals) (k : Nat) (l : LookupItem) (st : PState) :
    (spreadStep anchor pcv k l st).pageMaker.length = st.pageMaker.length := by
  rcases spreadStep_cases anchor pcv k l st with h | h | h <;> rw [h]
  exact setAt_length _ _ _

private theorem spreadStep_lookups_other (anchor : String) (pcv : Vals) (k : Nat) (l : LookupItem) (st : PState)
    (j : Nat) (h : k ≠ j) : (spreadStep anchor pcv k l st).lookups[j]? = st.lookups[j]? := by
  rcases spreadStep_cases anchor pcv k l st with e | e | e <;> rw [e]
  exact setAt_get_other _ _ _ _ h

private theorem spreadStep_mono (anchor : String) (pcv : Vals) (k : Nat) (l : LookupItem) (st : PState) :
    (∀ i, flagged st i → flagged (spreadStep anchor pcv k l st) i) ∧
    (∀ c, c ∈ st.calls → c ∈ (spreadStep anchor pcv k l st).calls) ∧
    (spreadStep anchor pcv k l st).targets = st.targets := by
  rcases spreadStep_cases anchor pcv k l st with e | e | e <;> rw [e]
  · exact ⟨fun _ h => h, fun _ h => h, rfl⟩
  · exact ⟨fun _ h => h, fun _ h => h, rfl⟩
  · exact ⟨fun i hi => setAt_keeps _ _ i _ Remake.contentChanged (fun _ _ => rfl) hi,
      fun c hc => List.mem_append_left _ hc, rfl⟩

/-- The loop of `cache_target_page_counters` as a rule: what holds before position `k` and is carried by every
iteration from its position to the next holds after the last position. -/
theorem spread_rule (anchor : String) (pcv : Vals) (I : Nat → PState → Prop) :
    ∀ (rest : List LookupItem) (k : Nat) (st : PState), I k st →
    (∀ j l s, rest[j]? = some l → I (k + j) s → I (k + j + 1) (spreadStep anchor pcv (k + j) l s)) →
    I (k + rest.length) (spread anchor pcv k rest st)
  | [], _, _, h0, _ => h0
  | l :: rest, k, st, h0, hstep => by
    have h1 := hstep 0 l st rfl h0
    have := spread_rule anchor pcv I rest (k + 1) _ h1 fun j l' s hj hI => by
      have := hstep (j + 1) l' s hj (by rwa [show k + (j + 1) = k + 1 + j by omega])
      rwa [show k + (j + 1) = k + 1 + j by omega] at this
    rwa [show k + (l :: rest).length = k + 1 + rest.length by simp; omega]

private theorem spread_pm_length (anchor : String) (pcv : Vals) : ∀ (rest : List LookupItem) (k : Nat) (st : PState),
    (spread anchor pcv k rest st).pageMaker.length = st.pageMaker.length :=
  fun rest k st => spread_rule anchor pcv (fun _ s => s.pageMaker.length = st.pageMaker.length) rest k st rfl
    fun _ l s _ h => (spreadStep_pm_length anchor pcv _ l s).trans h

private theorem spread_targets (anchor : String) (pcv : Vals) (rest : List LookupItem) (k : Nat) (st : PState) :
    (spread anchor pcv k rest st).targets = st.targets :=
  spread_rule anchor pcv (fun _ s => s.targets = st.targets) rest k st rfl
    fun j l s _ h => (spreadStep_mono anchor pcv (k + j) l s).2.2.trans h

/-- What one iteration guarantees for its own item. -/
private theorem spreadStep_sound (anchor : String) (pcv : Vals) (k : Nat) (l : LookupItem) (st : PState) (m : List String)
    (hc : l.content = true) (hm : aget l.missingTarget anchor = some m) (hsome : (st.lookups[k]?).isSome) :
    (if isStale l st.pageMaker.length then isPending (spreadStep anchor pcv k l st) k
     else m.any (vhas pcv) = true →
       flagged (spreadStep anchor pcv k l st) (l.index.getD 0) ∧ (k, l.cached) ∈ (spreadStep anchor pcv k l st).calls) := by
  unfold spreadStep
  simp only [hc, Bool.not_true, Bool.false_eq_true, if_false, hm]
  by_cases hst : isStale l st.pageMaker.length = true
  · simp only [hst, if_true]
    unfold isPending
    simp only
    rw [setAt_get_same]
    obtain ⟨x, hx⟩ := Option.isSome_iff_exists.mp hsome
    simp [hx]
  · simp only [hst, Bool.false_eq_true, if_false]
    intro hany
    simp only [hany, if_true]
    constructor
    · refine setAt_sets _ _ _ Remake.contentChanged (fun _ => rfl) ?_
      unfold isStale at hst
      cases hi : l.index with
      | none => simp [hi] at hst
      | some i => simp [hi] at hst; simpa using hst
    · simp

/-- **Soundness of "spreading the news"** (`cache_target_page_counters`): when the page counters of
`anchor` change to `pcv`, every `content` box that prints one of them (`l`, at position `k + j`) is
either marked `pending` (it has not been laid out on a page that still exists) or its page is flagged
`content_changed` and its `parse_again` is called with its own cached page counters. -/
theorem spread_sound (anchor : String) (pcv : Vals) : ∀ (rest : List LookupItem) (k : Nat) (st : PState)
    (j : Nat) (l : LookupItem) (m : List String),
    rest[j]? = some l → l.content = true → aget l.missingTarget anchor = some m →
    (st.lookups[k + j]?).isSome →
    (if isStale l st.pageMaker.length then isPending (spread anchor pcv k rest st) (k + j)
     else m.any (vhas pcv) = true →
       flagged (spread anchor pcv k rest st) (l.index.getD 0) ∧ (k + j, l.cached) ∈ (spread anchor pcv k rest st).calls) := by
  intro rest k st j l m hj hc hm hsome
  -- before position `k + j` the item is still there and no page was added or dropped; from the next position on
  -- what the iteration for it established stays
  have h := spread_rule anchor pcv (fun i s => s.pageMaker.length = st.pageMaker.length ∧
      (i ≤ k + j → (s.lookups[k + j]?).isSome) ∧
      (k + j < i → if isStale l st.pageMaker.length then isPending s (k + j)
        else m.any (vhas pcv) = true → flagged s (l.index.getD 0) ∧ (k + j, l.cached) ∈ s.calls))
    rest k st ⟨rfl, fun _ => hsome, fun h => absurd h (by omega)⟩ fun j' l' s hj' ⟨hlen, hbefore, hafter⟩ => by
      refine ⟨(spreadStep_pm_length anchor pcv _ l' s).trans hlen, fun hle => ?_, fun hlt => ?_⟩
      · rw [spreadStep_lookups_other anchor pcv _ l' s _ (by omega)]; exact hbefore (by omega)
      · by_cases hjj : j' = j
        · -- the iteration for the item itself
          subst hjj
          rw [hj] at hj'; cases hj'
          rw [← hlen]
          exact spreadStep_sound anchor pcv (k + j') l s m hc hm (hbefore (Nat.le_refl _))
        · have hprev := hafter (by omega)
          have hmono := spreadStep_mono anchor pcv (k + j') l' s
          by_cases hst : isStale l st.pageMaker.length = true
          · simp only [hst, if_true] at hprev ⊢
            unfold isPending at hprev ⊢
            rw [spreadStep_lookups_other anchor pcv _ l' s _ (by omega)]; exact hprev
          · simp only [hst, Bool.false_eq_true, if_false] at hprev ⊢
            exact fun hany => ⟨hmono.1 _ (hprev hany).1, hmono.2.1 _ (hprev hany).2⟩
  have hlt : j < rest.length := by
    rcases Nat.lt_or_ge j rest.length with h | h
    · exact h
    · rw [List.getElem?_eq_none h] at hj; cases hj
  exact h.2.2 (by omega)

/-- **`cache_target_page_counters`**: during pagination, for an `up-to-date` target whose cached page
counters differ from the new ones, the target remembers the page and the new values, and the news
reach every box (`spread_sound` for every position of `counter_lookup_items`). -/
theorem cacheTarget_sound (st : PState) (anchor : String) (pcv : Vals) (pageIndex : Nat) (item : TargetItem)
    (hc : st.collecting = false) (ht : tget st.targets anchor = some item) (hu : item.upToDate = true)
    (hne : item.cached ≠ pcv) (k : Nat) (l : LookupItem) (m : List String)
    (hk : st.lookups[k]? = some l) (hcont : l.content = true) (hm : aget l.missingTarget anchor = some m) :
    (if isStale l st.pageMaker.length then isPending (cacheTarget st anchor pcv pageIndex) k
     else m.any (vhas pcv) = true →
       flagged (cacheTarget st anchor pcv pageIndex) (l.index.getD 0) ∧
         (k, l.cached) ∈ (cacheTarget st anchor pcv pageIndex).calls) := by
  unfold cacheTarget
  simp only [hc, Bool.false_eq_true, if_false, ht, hu, Bool.not_true, hne, ne_eq, not_false_eq_true, decide_true,
    if_true]
  have := spread_sound anchor pcv st.lookups 0
    { st with targets := tset st.targets anchor { item with index := some pageIndex, cached := pcv } }
    k l m hk hcont hm (by simp [hk])
  simpa [hc, hu] using this

/-- `tset` replaces the item of an anchor that has one and never adds one. -/
theorem tget_tset_eq (ts : List (String × TargetItem)) (a b : String) (t : TargetItem) :
    tget (tset ts a t) b = if a = b then (tget ts a).map fun _ => t else tget ts b := by
  induction ts with
  | nil => simp [tset, tget]
  | cons x xs ih =>
    obtain ⟨k, v⟩ := x
    by_cases hk : k = a
    · subst hk
      by_cases hb : k = b
      · subst hb; simp [tset, tget]
      · simp [tset, tget, hb]
    · by_cases hb : k = b
      · subst hb; simp [tset, tget, hk, Ne.symm hk]
      · simp [tset, tget, hk, hb, ih]

private theorem spread_calls_own (anchor : String) (pcv : Vals) (orig : List LookupItem) (st : PState) :
    ∀ c ∈ (spread anchor pcv 0 orig st).calls, c ∈ st.calls ∨ ∃ l, orig[c.1]? = some l ∧ c.2 = l.cached :=
  spread_rule anchor pcv (fun _ s => ∀ c ∈ s.calls, c ∈ st.calls ∨ ∃ l, orig[c.1]? = some l ∧ c.2 = l.cached)
    orig 0 st (fun _ h => Or.inl h) fun j l s hj h c hc => by
      -- a call made by the step for `l`
      rcases spreadStep_cases anchor pcv (0 + j) l s with e | e | e <;> rw [e] at hc
      · exact h c hc
      · exact h c hc
      · rcases List.mem_append.mp hc with hc | hc
        · exact h c hc
        · rw [List.mem_singleton.mp hc]
          exact Or.inr ⟨l, by simpa using hj, rfl⟩

theorem cacheTarget_cases (st : PState) (anchor : String) (pcv : Vals) (i : Nat) :
    cacheTarget st anchor pcv i = st ∨ ∃ t,
      cacheTarget st anchor pcv i = { st with targets := tset st.targets anchor t } ∨
      cacheTarget st anchor pcv i =
        spread anchor pcv 0 st.lookups { st with targets := tset st.targets anchor t } := by
  fun_cases cacheTarget st anchor pcv i
  case case4 => exact Or.inr ⟨_, Or.inr rfl⟩
  case case5 => exact Or.inr ⟨_, Or.inl rfl⟩
  all_goals exact Or.inl rfl

/-- **C15.cacheTarget_reparses_with_own_counters** — every `parse_again` call made by
`cache_target_page_counters` hands the box the page counters cached **for that box** (those of its own page:
what its `counter(page)` / `counter(pages)` print), never those of the target. -/
theorem cacheTarget_reparses_with_own_counters (st : PState) (anchor : String) (pcv : Vals) (i : Nat) :
    ∀ c ∈ (cacheTarget st anchor pcv i).calls, c ∈ st.calls ∨ ∃ l, st.lookups[c.1]? = some l ∧ c.2 = l.cached := by
  intro c hc
  rcases cacheTarget_cases st anchor pcv i with e | ⟨t, e | e⟩ <;> rw [e] at hc
  · exact Or.inl hc
  · exact Or.inl hc
  · exact spread_calls_own anchor pcv st.lookups { st with targets := tset st.targets anchor t } c hc

/-- The target item afterwards: the page it was (first) met on and the page counters of that page. -/
theorem cacheTarget_records (st : PState) (anchor : String) (pcv : Vals) (pageIndex : Nat) (item : TargetItem)
    (hc : st.collecting = false) (ht : tget st.targets anchor = some item) (hu : item.upToDate = true) :
    tget (cacheTarget st anchor pcv pageIndex).targets anchor =
      some { item with index := some pageIndex, cached := pcv } := by
  unfold cacheTarget
  simp only [hc, Bool.false_eq_true, if_false, ht, hu, Bool.not_true]
  by_cases hne : item.cached = pcv
  · simp only [hne, ne_eq, not_true_eq_false, decide_false, Bool.false_eq_true, if_false]
    rw [tget_tset_eq, if_pos rfl, ht, ← hne]
    rfl
  · simp only [hne, ne_eq, not_false_eq_true, decide_true, if_true]
    rw [spread_targets]
    rw [tget_tset_eq, if_pos rfl, ht]
    rfl

/-- Nothing is cached while boxes are still being built (`collecting`). -/
theorem cacheTarget_collecting (st : PState) (anchor : String) (pcv : Vals) (i : Nat) (h : st.collecting = true) :
    cacheTarget st anchor pcv i = st := by
  simp [cacheTarget, h]

/-- Steps 1–2 on a `pending` item: `parse_again` will be called, the mark is cleared and the page counters
of the box's own page are cached. -/
theorem step12_pending (pcv : Vals) (refresh : Bool) (l : LookupItem) (h : l.pending = true) :
    (step12 pcv refresh l).2.1 = true ∧ (step12 pcv refresh l).1.pending = false ∧
    (step12 pcv refresh l).1.cached = pcv := by
  -- step 1 caches `pcv` whether or not it differs from what was cached
  have hc : (if pcv ≠ l.cached then pcv else l.cached) = pcv := by
    split
    · rfl
    · rename_i hne; exact (Decidable.not_not.mp hne).symm
  simp only [step12, h, if_true, hc, apply_ite Prod.fst, apply_ite Prod.snd,
    Bool.true_or, ite_self, and_self]

/-- `pages_wanted` is raised exactly for items whose own content misses `pages`. -/
theorem step12_pages_wanted (pcv : Vals) (refresh : Bool) (l : LookupItem) :
    (step12 pcv refresh l).2.2 = l.missing.contains "pages" := by
  -- step 1 does not touch `missing`, and both branches of step 2 give the same answer
  simp only [step12, apply_ite Prod.snd, apply_ite LookupItem.missing, ite_self]
  cases l.missing <;> rfl

private theorem step3Targets_cons (a : String) (missed : List String) (xs : List (String × List String))
    (st st' : PState) (h : step3Targets ((a, missed) :: xs) st = .ok st') :
    step3Targets xs st = .ok st' ∨
    ∃ idx, step3Targets xs
      { st with pageMaker := setAt st.pageMaker idx fun r => { r with pagesWanted := true } } = .ok st' := by
  unfold step3Targets at h
  split at h
  · exact Or.inl h
  · split at h
    · cases h
    · split at h
      · exact Or.inl h
      · split at h
        · exact Or.inr ⟨_, h⟩
        · exact Or.inl h

def wanted (st : PState) (i : Nat) : Prop := (st.pageMaker[i]?).map (·.pagesWanted) = some true

theorem step3Targets_preserves : ∀ (mt : List (String × List String)) (st st' : PState),
    step3Targets mt st = .ok st' →
    st'.lookups = st.lookups ∧ st'.calls = st.calls ∧ st'.pageMaker.length = st.pageMaker.length ∧
    st'.targets = st.targets ∧ (∀ i, flagged st i → flagged st' i) ∧ (∀ i, wanted st i → wanted st' i)
  | [], st, st', h => by cases h; exact ⟨rfl, rfl, rfl, rfl, fun _ h => h, fun _ h => h⟩
  | (a, missed) :: xs, st, st', h => by
    rcases step3Targets_cons a missed xs st st' h with h | ⟨idx, h⟩
    · exact step3Targets_preserves xs st st' h
    · obtain ⟨h1, h2, h3, h4, h5, h6⟩ := step3Targets_preserves xs _ st' h
      exact ⟨h1, h2, h3.trans (setAt_length _ _ _), h4,
        fun i hi => h5 i (setAt_keeps _ idx i _ Remake.contentChanged (fun _ h => h) hi),
        fun i hi => h6 i (setAt_keeps _ idx i _ Remake.pagesWanted (fun _ _ => rfl) hi)⟩

/-- **A pending box is flagged as soon as its page is made**: when the counter section meets the lookup
item `key` while it is `pending`, the page being made gets `content_changed`, `parse_again` is called
with this page's counters and the mark is cleared. -/
theorem pending_resolved (cur : Nat) (pcv : Vals) (refresh : Bool) (key : Nat)
    (st st' : PState) (l : LookupItem) (hl : st.lookups[key]? = some l) (hp : l.pending = true)
    (hcur : cur < st.pageMaker.length)
    (h : lookupBody cur pcv refresh key st = .ok st') :
    flagged st' cur ∧ (key, pcv) ∈ st'.calls ∧ ¬ isPending st' key := by
  unfold lookupBody at h
  simp only [hl] at h
  have hpend : (placed cur refresh l).pending = true := by
    unfold placed; split <;> simp [hp]
  obtain ⟨hcall, hclear, _⟩ := step12_pending pcv refresh _ hpend
  cases hs3 : step3Targets (step12 pcv refresh (placed cur refresh l)).1.missingTarget
      (prepared cur pcv refresh key l st) with
  | error e => simp [hs3] at h
  | ok st3 =>
    obtain ⟨h1, h2, h3, _, _⟩ := step3Targets_preserves _ _ _ hs3
    simp only [hs3, hcall, if_true, Except.ok.injEq] at h
    subst h
    have hplen : (prepared cur pcv refresh key l st).pageMaker.length = st.pageMaker.length := by
      unfold prepared
      simp only
      split <;> split <;> simp [setAt_length]
    refine ⟨?_, by simp, ?_⟩
    · exact setAt_sets _ _ _ Remake.contentChanged (fun _ => rfl) (by rw [h3, hplen]; exact hcur)
    · unfold isPending
      simp only
      rw [h1]
      unfold prepared
      simp only
      rw [setAt_get_same]
      simp [hl, hclear]

/-- **C15.step3_total** — step 3 of the counter section succeeds as soon as the targets it names have their
`TargetLookupItem` (which `lookup_target` creates before it records a missing target counter), wherever they lie: a
target on a later page is skipped (`fix:` da41776, regression `Witness.C15.forward_pages_reference_passes`). -/
theorem step3_total : ∀ (mt : List (String × List String)) (st : PState),
    (∀ p ∈ mt, p.2.contains "pages" = true → (tget st.targets p.1).isSome = true) →
    ∃ st', step3Targets mt st = .ok st' := by
  intro mt
  induction mt with
  | nil => intro st _; exact ⟨st, rfl⟩
  | cons x xs ih =>
    intro st h
    obtain ⟨a, missed⟩ := x
    have rest : ∀ st2 : PState, st2.targets = st.targets → ∃ st', step3Targets xs st2 = .ok st' := by
      intro st2 ht
      apply ih
      intro p hpm hpp
      rw [ht]; exact h p (List.mem_cons_of_mem _ hpm) hpp
    unfold step3Targets
    by_cases hp : missed.contains "pages" = true
    · obtain ⟨item, h1⟩ := Option.isSome_iff_exists.mp (h (a, missed) List.mem_cons_self hp)
      simp only [hp, Bool.not_true, Bool.false_eq_true, if_false, h1]
      cases hi : item.index with
      | none => exact rest st rfl
      | some idx =>
        simp only
        split
        · exact rest _ rfl
        · exact rest st rfl
    · have hp' : missed.contains "pages" = false := by simpa using hp
      simp only [hp', Bool.not_false, if_true]
      exact rest st rfl

/-- **The page of a `pages` target is re-made with the final page count** (forward or backward reference,
da41776): after step 3, for every target whose `pages` counter the box prints, whose page is known and still
exists, that page carries `pages_wanted`. -/
theorem step3_marks_target_page : ∀ (mt : List (String × List String)) (st st' : PState),
    step3Targets mt st = .ok st' →
    ∀ p ∈ mt, p.2.contains "pages" = true → ∀ item idx, tget st.targets p.1 = some item → item.index = some idx →
      idx < st.pageMaker.length → wanted st' idx := by
  intro mt
  induction mt with
  | nil => intro st st' _ p hp; simp at hp
  | cons x xs ih =>
    intro st st' h p hpm hpp item idx ht hi hlt
    obtain ⟨a, missed⟩ := x
    rcases List.mem_cons.mp hpm with e | hin
    · subst e
      unfold step3Targets at h
      simp only [hpp, Bool.not_true, Bool.false_eq_true, if_false, ht, hi, hlt, if_true] at h
      obtain ⟨_, _, _, _, _, hw⟩ := step3Targets_preserves xs _ st' h
      exact hw idx (setAt_sets _ _ _ Remake.pagesWanted (fun _ => rfl) hlt)
    · rcases step3Targets_cons a missed xs st st' h with h | ⟨idx', h⟩
      · exact ih st st' h p hin hpp item idx ht hi hlt
      · exact ih _ st' h p hin hpp item idx ht hi (by rw [setAt_length]; exact hlt)

/-- `remake_page`: a new or changed following entry is always re-made, except the entry after the last
page (`resume_at is None`), which must not be (#794). -/
theorem nextEntry_spec (isNew changed resumeIsNone : Bool) :
    nextEntry isNew changed resumeIsNone =
      if isNew || changed then some ⟨!resumeIsNone, false, [], []⟩ else none := rfl

section Examples
private def exState : PState :=
  { collecting := false
    targets := [("t", ⟨true, none, []⟩)]
    lookups := [⟨true, [], [("t", ["page"])], some 0, false, []⟩, ⟨true, [], [("t", ["page"])], none, false, []⟩]
    pageMaker := [⟨false, false, [], [0]⟩, ⟨false, false, [], []⟩]
    calls := [] }
-- a forward reference laid out on page 1 is flagged when its target is met on page 2; a box not laid out yet is pending
example : flagged (cacheTarget exState "t" [("page", [2]), ("pages", [0])] 1) 0 ∧
    isPending (cacheTarget exState "t" [("page", [2]), ("pages", [0])] 1) 1 := by
  constructor
  · unfold flagged; decide +kernel
  · unfold isPending; decide +kernel
example : (step12 [("page", [3])] true ⟨true, ["pages"], [], none, true, []⟩).2 = (true, true) := by decide +kernel
-- the forward reference of exState is re-parsed with its own (empty) page counters, not with the target's [2]
example : (cacheTarget exState "t" [("page", [2]), ("pages", [0])] 1).calls = [(0, [])] := by decide +kernel
-- a forward `pages` reference (target not met yet) passes step 3; a backward one marks the target's page
example : step3Targets [("t", ["pages"])] exState = .ok exState := by rfl
example : (step3Targets [("t", ["pages"])]
    { exState with targets := [("t", ⟨true, some 1, []⟩)] }).map (·.pageMaker.map (·.pagesWanted)) =
    .ok [false, true] := by rfl
end Examples

end Wp.C15
