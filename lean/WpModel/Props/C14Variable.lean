/-
C14 — margin boxes sharing a side (css-page-3 §5.3.2, `compute_variable_dimension`): the function is total,
keeps what is given and resolves every `auto` size inside its content sizes; the three boxes A (start-aligned),
B (centred), C (end-aligned) do not overlap and lie inside the side, for all min- and max-content inputs,
whenever the sizes concerned are `auto`, padding, border and margins are non-negative and the content fits at its
min-content sizes.  When it does not fit the code keeps every box at its
min-content size (upstream tests: "use at least minimum widths, even if boxes overlap"), so the hypothesis is
necessary: `Witness.C14.margin_boxes_overlap`.
-/
import WpModel.Model.PageBoxes

namespace Wp.PageBoxes

/-- The size the `outer` setter leaves in a box asked to be `v` wide overall. -/
def VBox.fit (x : VBox) (v : Rat) : Rat := min (max x.minC (v - x.sugar)) x.maxC

/-- An `auto` box takes the outer size `v` through the setter; a box whose size is given is left alone. -/
def VBox.resolve (x : VBox) (v : Rat) : VBox :=
  match x.inner with
  | none => x.setOuter v
  | some _ => x

/-- What `restore_box_attributes` writes back for a box resolved to the outer size `v`. -/
def VBox.used (x : VBox) (v : Rat) : RBox :=
  ⟨match x.inner with | none => x.fit v | some w => w, x.ma, x.mb⟩

end Wp.PageBoxes

namespace Wp.C14
open Wp Wp.PageBoxes

def VBox.outerOf (b : VBox) (w : Rat) : Rat := b.sugar + w

/-! ## The `outer` setter -/

theorem setOuter_eq (x : VBox) (v : Rat) : x.setOuter v = { x with inner := some (x.fit v) } := rfl

theorem fit_le_max (x : VBox) (v : Rat) : x.fit v ≤ x.maxC := Std.min_le_right

theorem min_le_fit (x : VBox) (v : Rat) (h : x.minC ≤ x.maxC) : x.minC ≤ x.fit v := by
  unfold VBox.fit; grind

theorem fit_le (x : VBox) (v u : Rat) (hmin : x.minC ≤ u) (hv : v - x.sugar ≤ u) : x.fit v ≤ u := by
  unfold VBox.fit; grind

/-- With non-negative padding, border and margins a box asked for its min-content size and more never gets
an inner size above the request. -/
theorem fit_min_add_le (x : VBox) (p : Rat) (hs : 0 ≤ x.sugar) (hp : 0 ≤ p) : x.fit (x.minC + p) ≤ x.minC + p :=
  fit_le x _ _ (by grind) (by grind)

theorem sugar_add_fit_le (x : VBox) (v : Rat) (hv : x.sugar + x.minC ≤ v) : x.sugar + x.fit v ≤ v := by
  have := fit_le x v (v - x.sugar) (by grind) Rat.le_refl
  grind

/-- The `outer` setter never makes a box larger than asked, provided the request leaves room for its
min-content size. -/
theorem setOuter_le (a : VBox) (x : Rat) (_hm : a.minC ≤ a.maxC) (hx : a.sugar + a.minC ≤ x) :
    ∃ w, (a.setOuter x).inner = some w ∧ a.sugar + w ≤ x ∧ a.minC ≤ w ∧ w ≤ a.maxC :=
  ⟨_, rfl, sugar_add_fit_le a x hx, min_le_fit a x _hm, fit_le_max a x⟩

/-- … and never smaller than its min-content size, whatever is asked. -/
theorem setOuter_ge_min (a : VBox) (x : Rat) (hm : a.minC ≤ a.maxC) :
    ∃ w, (a.setOuter x).inner = some w ∧ a.minC ≤ w ∧ w ≤ a.maxC :=
  ⟨_, rfl, min_le_fit a x hm, fit_le_max a x⟩

theorem fit_eq (x : VBox) (v : Rat) (hlo : x.minC ≤ v - x.sugar) (hhi : v - x.sugar ≤ x.maxC) :
    x.fit v = v - x.sugar := by
  unfold VBox.fit; grind

theorem resolve_auto (x : VBox) (v : Rat) (h : x.inner = none) : x.resolve v = x.setOuter v := by
  simp only [VBox.resolve, h]

theorem resolve_given (x : VBox) (v w : Rat) (h : x.inner = some w) : x.resolve v = x := by
  simp only [VBox.resolve, h]

theorem resolve_ma (x : VBox) (v : Rat) : (x.resolve v).ma = x.ma := by
  unfold VBox.resolve; split <;> rfl

theorem resolve_mb (x : VBox) (v : Rat) : (x.resolve v).mb = x.mb := by
  unfold VBox.resolve; split <;> rfl

theorem resolve_sugar (x : VBox) (v : Rat) : (x.resolve v).sugar = x.sugar := by
  unfold VBox.resolve; split <;> rfl

theorem resolve_inner (x : VBox) (v : Rat) : (x.resolve v).inner = some (x.used v).inner := by
  unfold VBox.resolve VBox.used; split <;> simp only [*, setOuter_eq]

theorem used_auto (x : VBox) (v : Rat) (h : x.inner = none) : (x.used v).inner = x.fit v := by
  simp only [VBox.used, h]

theorem used_given (x : VBox) (v w : Rat) (h : x.inner = some w) : (x.used v).inner = w := by
  simp only [VBox.used, h]

theorem used_outer (x : VBox) (v : Rat) : (x.used v).outer x.ppb = x.sugar + (x.used v).inner := by
  simp only [VBox.used, RBox.outer, VBox.sugar]; grind

/-! ## Flex shares -/

theorem flexSum_pos (x : Rat) (h : 0 ≤ x) : 0 < flexSum x := by
  unfold flexSum; split <;> grind

theorem share_nonneg (x f s : Rat) (hx : 0 ≤ x) (hf : 0 ≤ f) (hs : 0 < s) : 0 ≤ x * f / s := by
  rw [Rat.div_def]
  exact Rat.mul_nonneg (Rat.mul_nonneg hx hf) (Rat.le_of_lt (Rat.inv_pos.mpr hs))

/-- Two boxes never share out more than the flex space (nothing at all when both factors vanish). -/
theorem share_sum_le (x f g : Rat) (hx : 0 ≤ x) : x * f / flexSum (f + g) + x * g / flexSum (f + g) ≤ x := by
  rw [Rat.div_def, Rat.div_def, ← Rat.add_mul, ← Rat.mul_add, Rat.mul_assoc]
  unfold flexSum
  split
  · rename_i h
    rw [h, Rat.zero_mul, Rat.mul_zero]; exact hx
  · rename_i h
    rw [Rat.mul_inv_cancel _ h, Rat.mul_one]; exact Rat.le_refl

/-! ## The branches of the flex-fit -/

theorem outerMin_auto (x : VBox) (h : x.inner = none) : x.outerMin = x.sugar + x.minC := by
  simp only [VBox.outerMin, h]

theorem outerMax_auto (x : VBox) (h : x.inner = none) : x.outerMax = x.sugar + x.maxC := by
  simp only [VBox.outerMax, h]

theorem outerMin_le_outerMax (x : VBox) (h : x.minC ≤ x.maxC) : x.outerMin ≤ x.outerMax := by
  unfold VBox.outerMin VBox.outerMax; cases x.inner <;> grind

theorem noB_fit_max (a c : VBox) (avail : Rat) (h : avail > a.outerMax + c.outerMax) :
    varNoBBothAuto a c avail =
      (a.setOuter (a.maxC + (avail - a.outerMax - c.outerMax) * a.outerMax / flexSum (a.outerMax + c.outerMax)),
       c.setOuter (c.maxC + (avail - a.outerMax - c.outerMax) * c.outerMax / flexSum (a.outerMax + c.outerMax))) := by
  simp only [varNoBBothAuto, h, ↓reduceIte]

theorem noB_fit_min (a c : VBox) (avail : Rat) (h1 : ¬ avail > a.outerMax + c.outerMax)
    (h2 : avail > a.outerMin + c.outerMin) :
    varNoBBothAuto a c avail =
      (a.setOuter (a.minC + (avail - a.outerMin - c.outerMin) * (a.maxC - a.minC) /
          flexSum (a.maxC - a.minC + (c.maxC - c.minC))),
       c.setOuter (c.minC + (avail - a.outerMin - c.outerMin) * (c.maxC - c.minC) /
          flexSum (a.maxC - a.minC + (c.maxC - c.minC)))) := by
  simp only [varNoBBothAuto, h1, h2, ↓reduceIte]

theorem noB_sets (a c : VBox) (avail : Rat) : ∃ va vc, varNoBBothAuto a c avail = (a.setOuter va, c.setOuter vc) := by
  unfold varNoBBothAuto
  split
  · exact ⟨_, _, rfl⟩
  · split <;> exact ⟨_, _, rfl⟩

theorem resolveB_fit_max (a b c : VBox) (avail : Rat) (h : avail > b.outerMax + 2 * max a.outerMax c.outerMax) :
    varResolveB a b c avail =
      b.setOuter (b.maxC + (avail - b.outerMax - 2 * max a.outerMax c.outerMax) * b.outerMax /
        flexSum (b.outerMax + 2 * max a.outerMax c.outerMax)) := by
  simp only [varResolveB, h, ↓reduceIte]

theorem resolveB_fit_min (a b c : VBox) (avail : Rat) (h1 : ¬ avail > b.outerMax + 2 * max a.outerMax c.outerMax)
    (h2 : avail > b.outerMin + 2 * max a.outerMin c.outerMin) :
    varResolveB a b c avail =
      b.setOuter (b.minC + (avail - b.outerMin - 2 * max a.outerMin c.outerMin) * (b.maxC - b.minC) /
        flexSum (b.maxC - b.minC + (2 * max a.outerMax c.outerMax - 2 * max a.outerMin c.outerMin))) := by
  simp only [varResolveB, h1, h2, ↓reduceIte]

/-! ## The imaginary box AC -/

/-- The imaginary box "AC" of css-page-3 §5.3.2 (`ac_max_content_size`, `ac_min_content_size`): no padding, border or
margins, content sizes twice the larger outer content size of A and C. -/
def acBox (a c : VBox) : VBox :=
  ⟨none, 0, 0, 0, 2 * max a.outerMin c.outerMin, 2 * max a.outerMax c.outerMax⟩

theorem acBox_sugar (a c : VBox) : (acBox a c).sugar = 0 := by
  simp only [acBox, VBox.sugar]; grind

theorem acBox_outerMin (a c : VBox) : (acBox a c).outerMin = 2 * max a.outerMin c.outerMin := by
  simp only [acBox, VBox.outerMin, VBox.sugar]; grind

theorem acBox_outerMax (a c : VBox) : (acBox a c).outerMax = 2 * max a.outerMax c.outerMax := by
  simp only [acBox, VBox.outerMax, VBox.sugar]; grind

theorem acBox_comm (a c : VBox) : acBox a c = acBox c a := by
  have hmax : ∀ x y : Rat, max x y = max y x := by
    intro x y; simp only [Rat.max_def]; split <;> split <;> grind
  simp only [acBox, hmax a.outerMin, hmax a.outerMax]

theorem acBox_min_le_max (a c : VBox) (hma : a.minC ≤ a.maxC) (hmc : c.minC ≤ c.maxC) :
    (acBox a c).minC ≤ (acBox a c).maxC := by
  have := outerMin_le_outerMax a hma
  have := outerMin_le_outerMax c hmc
  simp only [acBox]
  grind

/-- B is resolved against AC by the rules for the two boxes A and C: the two three-branch functions are one. -/
theorem varResolveB_eq_noB (a b c : VBox) (avail : Rat) :
    varResolveB a b c avail = (varNoBBothAuto b (acBox a c) avail).1 := by
  unfold varResolveB varNoBBothAuto
  rw [acBox_outerMin, acBox_outerMax]
  simp only [acBox]
  split
  · rfl
  · split <;> rfl

theorem resolveB_sets (a b c : VBox) (avail : Rat) : ∃ v, varResolveB a b c avail = b.setOuter v := by
  obtain ⟨vb, _, e⟩ := noB_sets b (acBox a c) avail
  exact ⟨vb, by rw [varResolveB_eq_noB, e]⟩

/-! ## Fitting at the min-content sizes -/

/-- A and C both `auto`, no B: whenever the two fit at their min-content sizes (the first two branches) the
setter leaves them sizes whose outer sum stays within the available size.  In the first branch both are
clamped at their max-content size; in the second each is asked for its min-content size plus its share of
the flex space, and the shares add up to no more than that space. -/
theorem noB_fit (a c : VBox) (avail : Rat) (ha : a.inner = none) (hc : c.inner = none)
    (hsa : 0 ≤ a.sugar) (hsc : 0 ≤ c.sugar) (hma : a.minC ≤ a.maxC) (hmc : c.minC ≤ c.maxC)
    (hfit : avail > a.outerMin + c.outerMin) :
    ∃ va vc, varNoBBothAuto a c avail = (a.setOuter va, c.setOuter vc) ∧
      (a.sugar + a.fit va) + (c.sugar + c.fit vc) ≤ avail := by
  by_cases h1 : avail > a.outerMax + c.outerMax
  · refine ⟨_, _, noB_fit_max a c avail h1, ?_⟩
    have wa := fit_le_max a (a.maxC + (avail - a.outerMax - c.outerMax) * a.outerMax / flexSum (a.outerMax + c.outerMax))
    have wc := fit_le_max c (c.maxC + (avail - a.outerMax - c.outerMax) * c.outerMax / flexSum (a.outerMax + c.outerMax))
    rw [outerMax_auto a ha, outerMax_auto c hc] at h1
    grind
  · refine ⟨_, _, noB_fit_min a c avail h1 hfit, ?_⟩
    have hfa : 0 ≤ a.maxC - a.minC := (Rat.le_iff_sub_nonneg _ _).mp hma
    have hfc : 0 ≤ c.maxC - c.minC := (Rat.le_iff_sub_nonneg _ _).mp hmc
    have hs := flexSum_pos _ (Rat.add_nonneg hfa hfc)
    have hsp : 0 ≤ avail - a.outerMin - c.outerMin := by grind
    have hsum := share_sum_le _ (a.maxC - a.minC) (c.maxC - c.minC) hsp
    have pa := share_nonneg _ _ _ hsp hfa hs
    have pc := share_nonneg _ _ _ hsp hfc hs
    have wa := fit_min_add_le a _ hsa pa
    have wc := fit_min_add_le c _ hsc pc
    rw [outerMin_auto a ha, outerMin_auto c hc] at hsum wa wc ⊢
    generalize (avail - (a.sugar + a.minC) - (c.sugar + c.minC)) * (a.maxC - a.minC) /
      flexSum (a.maxC - a.minC + (c.maxC - c.minC)) = pa at hsum wa ⊢
    generalize (avail - (a.sugar + a.minC) - (c.sugar + c.minC)) * (c.maxC - c.minC) /
      flexSum (a.maxC - a.minC + (c.maxC - c.minC)) = pc at hsum wc ⊢
    grind

/-- Resolution of an `auto` middle box B against the imaginary box AC: when the three fit at their
min-content sizes, B leaves at least `2 · max(A, C outer min-content)` free. -/
theorem resolve_b_leaves_room (a b c : VBox) (avail : Rat)
    (hsb : 0 ≤ b.sugar) (hmb : b.minC ≤ b.maxC) (hma : a.minC ≤ a.maxC) (hmc : c.minC ≤ c.maxC)
    (hb : b.inner = none)
    (hfit : avail > b.outerMin + 2 * max a.outerMin c.outerMin) :
    ∃ v, varResolveB a b c avail = b.setOuter v ∧
      b.sugar + b.fit v ≤ avail - 2 * max a.outerMin c.outerMin := by
  have hac := acBox_min_le_max a c hma hmc
  -- B and AC fit together (`noB_fit`), and AC keeps at least its min-content size
  obtain ⟨vb, vac, e, hle⟩ := noB_fit b (acBox a c) avail hb rfl hsb (by rw [acBox_sugar]; exact Rat.le_refl) hmb hac
    (by rw [acBox_outerMin]; exact hfit)
  have hmin := min_le_fit (acBox a c) vac hac
  rw [acBox_sugar] at hle
  refine ⟨vb, by rw [varResolveB_eq_noB, e], ?_⟩
  change 2 * max a.outerMin c.outerMin ≤ _ at hmin
  grind

/-! ## `variableStep` and `computeVariable` by cases -/

theorem step_noB_assert (a b c : VBox) (avail : Rat) (hb : b.inner ≠ some 0) :
    variableStep a b c false avail = .error (.assertFailed "compute_variable_dimension:b.inner") := by
  simp [variableStep, hb]

theorem step_noB (a b c : VBox) (avail : Rat) (hb : b.inner = some 0) :
    variableStep a b c false avail = .ok
      (match a.inner, c.inner with
       | none, none => ((varNoBBothAuto a c avail).1, b, (varNoBBothAuto a c avail).2)
       | none, some ci => (a.setOuter (avail - (c.sugar + ci)), b, c)
       | some ai, none => (a, b, c.setOuter (avail - (a.sugar + ai)))
       | some _, some _ => (a, b, c)) := by
  simp only [variableStep, hb, Bool.not_false, ↓reduceIte, bne_self_eq_false, Bool.false_eq_true]
  split <;> simp only [*]

/-- The middle box once its own size is settled (against the imaginary box AC when it is `auto`). -/
def middleBox (a b c : VBox) (avail : Rat) : VBox :=
  match b.inner with
  | none => varResolveB a b c avail
  | some _ => b

theorem middleBox_resolve (a b c : VBox) (avail : Rat) : ∃ v, middleBox a b c avail = b.resolve v := by
  obtain ⟨v, e⟩ := resolveB_sets a b c avail
  refine ⟨v, ?_⟩
  cases hb : b.inner with
  | none => simp only [middleBox, VBox.resolve, hb, e]
  | some w => simp only [middleBox, VBox.resolve, hb]

/-- With B generated the final assertion is never reached: the middle box has a size, and A and C, where
`auto`, are both asked to take half of what it leaves. -/
theorem step_B (a b c : VBox) (avail : Rat) :
    ∃ bi, (middleBox a b c avail).inner = some bi ∧
      variableStep a b c true avail =
        .ok (a.resolve ((avail - (b.sugar + bi)) / 2), middleBox a b c avail,
             c.resolve ((avail - (b.sugar + bi)) / 2)) := by
  obtain ⟨v, e⟩ := middleBox_resolve a b c avail
  have hi : (middleBox a b c avail).inner = some _ := e ▸ resolve_inner b v
  have hs : (middleBox a b c avail).sugar = b.sugar := e ▸ resolve_sugar b v
  refine ⟨_, hi, ?_⟩
  rw [← hs]
  generalize (b.used v).inner = bi at hi ⊢
  unfold variableStep
  simp only [Bool.not_true, Bool.false_eq_true, ↓reduceIte]
  change (match (middleBox a b c avail).inner with
    | none => _
    | some bi => _) = _
  rw [hi]
  rfl

/-- Whenever the step does not stop at the `assert` on a non-generated B, each of the three boxes comes out
resolved through the setter (if `auto`) or untouched. -/
theorem step_resolves (a b c : VBox) (g : Bool) (avail : Rat) (hb : g = false → b.inner = some 0) :
    ∃ va vb vc, variableStep a b c g avail = .ok (a.resolve va, b.resolve vb, c.resolve vc) := by
  cases g with
  | true =>
    obtain ⟨bi, _, hstep⟩ := step_B a b c avail
    obtain ⟨v, e⟩ := middleBox_resolve a b c avail
    exact ⟨_, v, _, e ▸ hstep⟩
  | false =>
    have hb := hb rfl
    have hb' := resolve_given b 0 0 hb
    rw [step_noB a b c avail hb]
    cases ha : a.inner with
    | none =>
      cases hc : c.inner with
      | none =>
        obtain ⟨va, vc, e⟩ := noB_sets a c avail
        exact ⟨va, 0, vc, by simp only [e, hb', resolve_auto a va ha, resolve_auto c vc hc]⟩
      | some ci => exact ⟨avail - (c.sugar + ci), 0, 0, by simp only [hb', resolve_auto a _ ha, resolve_given c 0 ci hc]⟩
    | some ai =>
      cases hc : c.inner with
      | none => exact ⟨0, 0, avail - (a.sugar + ai), by simp only [hb', resolve_auto c _ hc, resolve_given a 0 ai ha]⟩
      | some ci => exact ⟨0, 0, 0, by simp only [hb', resolve_given a 0 ai ha, resolve_given c 0 ci hc]⟩

theorem computeVariable_of_step (a b c : VBox) (g : Bool) (avail va vb vc : Rat)
    (h : variableStep a b c g avail = .ok (a.resolve va, b.resolve vb, c.resolve vc)) :
    computeVariable a b c g avail = .ok (a.used va, b.used vb, c.used vc) := by
  simp only [computeVariable, h, resolve_inner, resolve_ma, resolve_mb]
  rfl

theorem computeVariable_noB (a b c : VBox) (avail : Rat) (r : RBox × RBox × RBox)
    (h : computeVariable a b c false avail = .ok r) : b.inner = some 0 := by
  by_cases hb : b.inner = some 0
  · exact hb
  · simp only [computeVariable, step_noB_assert a b c avail hb] at h
    cases h

/-- The two assertions of `compute_variable_dimension` are the only ways it can fail, and the final
one (`'auto' not in [box.inner …]`) is unreachable: when the middle box is generated, or is the
zero-sized box `make_margin_boxes` passes for a non-generated one, three sizes are returned. -/
theorem variable_dimension_total (a b c : VBox) (g : Bool) (avail : Rat) (hb : g = false → b.inner = some 0) :
    ∃ r, computeVariable a b c g avail = .ok r := by
  obtain ⟨va, vb, vc, hstep⟩ := step_resolves a b c g avail hb
  exact ⟨_, computeVariable_of_step a b c g avail va vb vc hstep⟩

theorem computeVariable_ok (a b c : VBox) (g : Bool) (avail : Rat) (ra rb rc : RBox)
    (h : computeVariable a b c g avail = .ok (ra, rb, rc)) :
    ∃ va vb vc, ra = a.used va ∧ rb = b.used vb ∧ rc = c.used vc := by
  have hb : g = false → b.inner = some 0 := fun e => computeVariable_noB a b c avail _ (e ▸ h)
  obtain ⟨va, vb, vc, hstep⟩ := step_resolves a b c g avail hb
  rw [computeVariable_of_step a b c g avail va vb vc hstep] at h
  simp only [Except.ok.injEq, Prod.mk.injEq] at h
  exact ⟨va, vb, vc, h.1.symm, h.2.1.symm, h.2.2.symm⟩

/-- Given sizes are kept; margins come out as given (`auto` → 0 was done by the first loop). -/
theorem variable_dimension_keeps_given (a b c : VBox) (g : Bool) (avail : Rat) (ra rb rc : RBox)
    (h : computeVariable a b c g avail = .ok (ra, rb, rc)) :
    (∀ w, a.inner = some w → ra.inner = w) ∧ (∀ w, b.inner = some w → rb.inner = w) ∧
    (∀ w, c.inner = some w → rc.inner = w) ∧
    ra.ma = a.ma ∧ ra.mb = a.mb ∧ rb.ma = b.ma ∧ rb.mb = b.mb ∧ rc.ma = c.ma ∧ rc.mb = c.mb := by
  obtain ⟨va, vb, vc, rfl, rfl, rfl⟩ := computeVariable_ok a b c g avail ra rb rc h
  exact ⟨fun w => used_given a va w, fun w => used_given b vb w, fun w => used_given c vc w,
    rfl, rfl, rfl, rfl, rfl, rfl⟩

theorem used_within (x : VBox) (v : Rat) (hn : x.inner = none) (hm : x.minC ≤ x.maxC) :
    x.minC ≤ (x.used v).inner ∧ (x.used v).inner ≤ x.maxC := by
  rw [used_auto x v hn]
  exact ⟨min_le_fit x v hm, fit_le_max x v⟩

/-- Every `auto` size is resolved inside `[min-content, max-content]` of its box. -/
theorem variable_dimension_within_content (a b c : VBox) (g : Bool) (avail : Rat) (ra rb rc : RBox)
    (h : computeVariable a b c g avail = .ok (ra, rb, rc)) :
    (a.inner = none → a.minC ≤ a.maxC → a.minC ≤ ra.inner ∧ ra.inner ≤ a.maxC) ∧
    (b.inner = none → b.minC ≤ b.maxC → b.minC ≤ rb.inner ∧ rb.inner ≤ b.maxC) ∧
    (c.inner = none → c.minC ≤ c.maxC → c.minC ≤ rc.inner ∧ rc.inner ≤ c.maxC) := by
  obtain ⟨va, vb, vc, rfl, rfl, rfl⟩ := computeVariable_ok a b c g avail ra rb rc h
  exact ⟨used_within a va, used_within b vb, used_within c vc⟩

example : (match computeVariable ⟨none, 0, 0, 0, 20, 60⟩ ⟨some 0, 0, 0, 0, 0, 0⟩ ⟨none, 0, 0, 0, 10, 30⟩ false 300 with
    | .ok (ra, rb, rc) => ra.inner == 60 && rb.inner == 0 && rc.inner == 30
    | .error _ => false) = true := by decide +kernel

/-- Without B, one of A / C `auto`: it takes what the other leaves, within its content sizes; when
that amount lies between its min- and max-content size the two boxes fill the side exactly. -/
theorem variable_dimension_one_auto (a b c : VBox) (avail ci : Rat) (ra rb rc : RBox)
    (ha : a.inner = none) (hc : c.inner = some ci)
    (h : computeVariable a b c false avail = .ok (ra, rb, rc))
    (hlo : a.minC ≤ avail - (c.sugar + ci) - a.sugar) (hhi : avail - (c.sugar + ci) - a.sugar ≤ a.maxC) :
    ra.outer a.ppb + rc.outer c.ppb = avail := by
  have hb := computeVariable_noB a b c avail _ h
  have hstep : variableStep a b c false avail =
      .ok (a.resolve (avail - (c.sugar + ci)), b.resolve 0, c.resolve 0) := by
    rw [step_noB a b c avail hb, resolve_auto a _ ha, resolve_given b 0 0 hb, resolve_given c 0 ci hc]
    simp only [ha, hc]
  rw [computeVariable_of_step a b c false avail _ _ _ hstep] at h
  simp only [Except.ok.injEq, Prod.mk.injEq] at h
  obtain ⟨rfl, -, rfl⟩ := h
  rw [used_outer, used_outer, used_auto a _ ha, used_given c _ ci hc, fit_eq a _ hlo hhi]
  grind

/-- With B generated: B's size is that of the settled middle box, and A and C are resolved to half of what
B's outer size leaves. -/
theorem computeVariable_B (a b c : VBox) (avail : Rat) (ra rb rc : RBox)
    (h : computeVariable a b c true avail = .ok (ra, rb, rc)) :
    (∃ vb, rb = b.used vb) ∧ (middleBox a b c avail).inner = some rb.inner ∧
    ra = a.used ((avail - rb.outer b.ppb) / 2) ∧ rc = c.used ((avail - rb.outer b.ppb) / 2) := by
  obtain ⟨bi, hbi, hstep⟩ := step_B a b c avail
  obtain ⟨v, e⟩ := middleBox_resolve a b c avail
  rw [e] at hstep
  rw [computeVariable_of_step a b c true avail _ _ _ hstep] at h
  simp only [Except.ok.injEq, Prod.mk.injEq] at h
  obtain ⟨rfl, rfl, rfl⟩ := h
  have hv : bi = (b.used v).inner := by
    rw [e, resolve_inner] at hbi
    exact (Option.some.inj hbi).symm
  subst hv
  rw [used_outer b v]
  exact ⟨⟨v, rfl⟩, hbi, rfl, rfl⟩

/-- With B generated, an `auto` A gets the outer size `(avail − B.outer) / 2` as far as its content sizes
allow (`hlo`, `hhi`); C is asked for the same amount (`computeVariable_B`), which is what centres B, placed
at offset ½, between them. -/
theorem variable_dimension_b_centred (a b c : VBox) (avail : Rat) (ra rb rc : RBox)
    (ha : a.inner = none)
    (h : computeVariable a b c true avail = .ok (ra, rb, rc))
    (hlo : a.minC ≤ (avail - rb.outer b.ppb) / 2 - a.sugar) (hhi : (avail - rb.outer b.ppb) / 2 - a.sugar ≤ a.maxC) :
    ra.outer a.ppb = (avail - rb.outer b.ppb) / 2 := by
  obtain ⟨-, -, rfl, -⟩ := computeVariable_B a b c avail ra rb rc h
  rw [used_outer, used_auto a _ ha, fit_eq a _ hlo hhi]
  grind

/-- css-page-3 §5.3.2 flex-fit, A and C both `auto`, no B: whenever the two boxes fit at their
min-content sizes (`avail > Σ outer min-content`: the first two branches) the resolved outer sizes
do not exceed the available size — the boxes do not overlap.  (In the third branch the code keeps
each box at its min-content size, "even if boxes overlap".) -/
theorem variable_dimension_fits (a c : VBox) (avail : Rat) (ha : a.inner = none) (hc : c.inner = none)
    (hsa : 0 ≤ a.sugar) (hsc : 0 ≤ c.sugar) (hma : a.minC ≤ a.maxC) (hmc : c.minC ≤ c.maxC)
    (hfit : avail > a.outerMin + c.outerMin) :
    ∃ wa wc, (varNoBBothAuto a c avail).1.inner = some wa ∧ (varNoBBothAuto a c avail).2.inner = some wc ∧
      (a.sugar + wa) + (c.sugar + wc) ≤ avail := by
  obtain ⟨va, vc, e, hle⟩ := noB_fit a c avail ha hc hsa hsc hma hmc hfit
  exact ⟨a.fit va, c.fit vc, by rw [e]; rfl, by rw [e]; rfl, hle⟩

/-- **variable_dimension (no B, A and C `auto`).**  Whenever A and C fit at their min-content sizes, the
resolved boxes (A start-aligned, C end-aligned) do not overlap: `A.outer + C.outer ≤ avail`. -/
theorem variable_dimension_two_fit (a b c : VBox) (avail : Rat) (ra rb rc : RBox)
    (ha : a.inner = none) (hc : c.inner = none)
    (hsa : 0 ≤ a.sugar) (hsc : 0 ≤ c.sugar) (hma : a.minC ≤ a.maxC) (hmc : c.minC ≤ c.maxC)
    (hfit : avail > a.outerMin + c.outerMin)
    (h : computeVariable a b c false avail = .ok (ra, rb, rc)) :
    ra.outer a.ppb + rc.outer c.ppb ≤ avail := by
  have hb := computeVariable_noB a b c avail _ h
  obtain ⟨va, vc, e, hle⟩ := noB_fit a c avail ha hc hsa hsc hma hmc hfit
  have hstep : variableStep a b c false avail = .ok (a.resolve va, b.resolve 0, c.resolve vc) := by
    rw [step_noB a b c avail hb, resolve_auto a _ ha, resolve_given b 0 0 hb, resolve_auto c _ hc]
    simp only [ha, hc, e]
  rw [computeVariable_of_step a b c false avail _ _ _ hstep] at h
  simp only [Except.ok.injEq, Prod.mk.injEq] at h
  obtain ⟨rfl, -, rfl⟩ := h
  rw [used_outer, used_outer, used_auto a _ ha, used_auto c _ hc]
  exact hle

theorem used_outer_le (x : VBox) (v : Rat) (h : x.outerMin ≤ v) : (x.used v).outer x.ppb ≤ v := by
  rw [used_outer]
  cases hx : x.inner with
  | none => rw [used_auto x v hx]; exact sugar_add_fit_le x v (by rwa [outerMin_auto x hx] at h)
  | some w => rw [used_given x v w hx]; simpa only [VBox.outerMin, hx] using h

/-- With B generated, A and C (`auto` or not) are both asked for the outer size `(avail − B.outer) / 2`;
whenever that leaves room for their least outer sizes they do not reach into B (placed at offset ½): no
overlap on the side, and the three boxes lie inside it. -/
theorem variable_dimension_no_overlap_b (a b c : VBox) (avail : Rat) (ra rb rc : RBox)
    (h : computeVariable a b c true avail = .ok (ra, rb, rc))
    (hroom : max a.outerMin c.outerMin ≤ (avail - rb.outer b.ppb) / 2) :
    ra.outer a.ppb ≤ (avail - rb.outer b.ppb) / 2 ∧ rc.outer c.ppb ≤ (avail - rb.outer b.ppb) / 2 ∧
    ra.outer a.ppb + rb.outer b.ppb + rc.outer c.ppb ≤ avail := by
  obtain ⟨-, -, rfl, rfl⟩ := computeVariable_B a b c avail ra rb rc h
  have hm : a.outerMin ≤ (avail - rb.outer b.ppb) / 2 ∧ c.outerMin ≤ (avail - rb.outer b.ppb) / 2 := by
    grind
  have h1 := used_outer_le a _ hm.1
  have h2 := used_outer_le c _ hm.2
  exact ⟨h1, h2, by grind⟩

/-- **variable_dimension (B generated, everything `auto`).**  For all min-content / max-content sizes
with `min ≤ max`, non-negative padding + border + margins of B: if the three boxes fit at their
min-content sizes (the first two flex-fit branches), the resolved boxes share the side without
overlapping: `A.outer ≤ (avail − B.outer)/2`, `C.outer ≤ (avail − B.outer)/2`, total `≤ avail`.  (That each
size lies within its box's content sizes is `variable_dimension_within_content`; only B need be `auto`: the
proof reads neither `ha` nor `hc`.) -/
theorem variable_dimension_three_fit (a b c : VBox) (avail : Rat) (ra rb rc : RBox)
    (ha : a.inner = none) (hb : b.inner = none) (hc : c.inner = none)
    (hsb : 0 ≤ b.sugar) (hma : a.minC ≤ a.maxC) (hmb : b.minC ≤ b.maxC) (hmc : c.minC ≤ c.maxC)
    (hfit : avail > b.outerMin + 2 * max a.outerMin c.outerMin)
    (h : computeVariable a b c true avail = .ok (ra, rb, rc)) :
    ra.outer a.ppb ≤ (avail - rb.outer b.ppb) / 2 ∧ rc.outer c.ppb ≤ (avail - rb.outer b.ppb) / 2 ∧
    ra.outer a.ppb + rb.outer b.ppb + rc.outer c.ppb ≤ avail := by
  obtain ⟨v, e, hle⟩ := resolve_b_leaves_room a b c avail hsb hmb hma hmc hb hfit
  obtain ⟨⟨vb, hvb⟩, hmid, -, -⟩ := computeVariable_B a b c avail ra rb rc h
  -- B's size is the one left by the resolution against AC
  simp only [middleBox, hb, e, setOuter_eq, Option.some.injEq] at hmid
  refine variable_dimension_no_overlap_b a b c avail ra rb rc h ?_
  rw [hvb, used_outer, ← hvb, ← hmid]
  grind

-- non-vacuity: three auto boxes that fit at min-content (second branch) and the two-box case
example : (match computeVariable ⟨none, 0, 0, 2, 20, 60⟩ ⟨none, 1, 1, 2, 30, 90⟩ ⟨none, 0, 0, 0, 10, 50⟩ true 120 with
    | .ok (ra, rb, rc) =>
      decide ((120 : Rat) > (VBox.mk none 1 1 2 30 90).outerMin +
        2 * max (VBox.mk none 0 0 2 20 60).outerMin (VBox.mk none 0 0 0 10 50).outerMin) &&
      decide (ra.outer 2 ≤ (120 - rb.outer 2) / 2) && decide (rc.outer 0 ≤ (120 - rb.outer 2) / 2) &&
      decide (ra.outer 2 + rb.outer 2 + rc.outer 0 ≤ 120)
    | .error _ => false) = true := by decide +kernel

example : (match computeVariable ⟨none, 0, 0, 2, 20, 60⟩ ⟨some 0, 0, 0, 0, 0, 0⟩ ⟨none, 0, 0, 0, 10, 50⟩ false 80 with
    | .ok (ra, _, rc) => decide (ra.outer 2 + rc.outer 0 ≤ 80) && decide (ra.inner > 20)
    | .error _ => false) = true := by decide +kernel

/-- Dead code: in the *second* flex-fit branch (fits at min-content but not at max-content) the flex
factor sum `Σ (max-content − min-content)` is strictly positive, so the `if flex_factor_sum == 0:
flex_factor_sum = 1` guards of that branch can never fire — without B … -/
theorem fit_min_factor_sum_pos (a c : VBox) (avail : Rat) (ha : a.inner = none) (hc : c.inner = none)
    (h1 : ¬ avail > a.outerMax + c.outerMax) (h2 : avail > a.outerMin + c.outerMin) :
    0 < (a.maxC - a.minC) + (c.maxC - c.minC) ∧
    flexSum ((a.maxC - a.minC) + (c.maxC - c.minC)) = (a.maxC - a.minC) + (c.maxC - c.minC) := by
  rw [outerMax_auto a ha, outerMax_auto c hc] at h1
  rw [outerMin_auto a ha, outerMin_auto c hc] at h2
  have : 0 < (a.maxC - a.minC) + (c.maxC - c.minC) := by grind
  exact ⟨this, by unfold flexSum; split <;> grind⟩

/-- … and with an `auto` B resolved against the imaginary box AC. -/
theorem fit_min_factor_sum_pos_b (a b c : VBox) (avail : Rat) (hb : b.inner = none)
    (h1 : ¬ avail > b.outerMax + 2 * max a.outerMax c.outerMax)
    (h2 : avail > b.outerMin + 2 * max a.outerMin c.outerMin) :
    0 < (b.maxC - b.minC) + (2 * max a.outerMax c.outerMax - 2 * max a.outerMin c.outerMin) :=
  (fit_min_factor_sum_pos b (acBox a c) avail hb rfl (by rw [acBox_outerMax]; exact h1)
    (by rw [acBox_outerMin]; exact h2)).1

-- the hypothesis `h1` of `fit_min_factor_sum_pos` on a pair of boxes with content sizes 20 … 40 and 70 available
example : ¬ (70 : Rat) > (VBox.mk none 0 0 0 20 40).outerMax + (VBox.mk none 0 0 0 20 40).outerMax := by
  simp [VBox.outerMax, VBox.sugar]; grind

/-- **css-page-3 §5.3.2: the centre box is resolved against the imaginary box "AC", twice the larger of its two
neighbours — so its size does not depend on which side the larger neighbour is**: exchanging A and C leaves the
resolved B unchanged, for all boxes and every available size. -/
theorem resolve_b_symmetric (a b c : VBox) (avail : Rat) : varResolveB a b c avail = varResolveB c b a avail := by
  rw [varResolveB_eq_noB, varResolveB_eq_noB, acBox_comm]

/-- Non-vacuity: A narrow, C wide with wrappable content — the case in which reading C's *min*-content size for the
maximum of "AC" (seeded change C14-10) changes B: B is 70/3 wide whichever side the wide neighbour is on. -/
example : (varResolveB ⟨none, 0, 0, 0, 10, 20⟩ ⟨none, 0, 0, 0, 10, 40⟩ ⟨none, 0, 0, 0, 10, 100⟩ 150).inner =
    (varResolveB ⟨none, 0, 0, 0, 10, 100⟩ ⟨none, 0, 0, 0, 10, 40⟩ ⟨none, 0, 0, 0, 10, 20⟩ 150).inner := by
  decide +kernel

end Wp.C14
