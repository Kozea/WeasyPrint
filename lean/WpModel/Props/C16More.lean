/-
C16 — the one exception the content-stream machine raises, one owner per resource dictionary, and the order of the
`/Dests` and `/EmbeddedFiles` name arrays.
-/
import WpModel.Lemmas.PdfStreamErrors
import WpModel.Lemmas.PdfNames
import WpModel.Lemmas.PdfOwner

namespace Wp.C16
open Wp Wp.Pdf

/-- **stream_raises_only_assert**: for *every* sequence of API calls on a fresh `Stream` (bracketed or not), the only
exception the modelled methods can raise is the `assert self._ctm_stack` of an unmatched `pop_state`: `_ctm_stack` is
never empty after a call that returned, so `self.ctm` (`_ctm_stack[-1]`) and `_ctm_stack.pop()` cannot raise
`IndexError`.  (Together with `balanced`: under API-level bracketing nothing is raised at all.) -/
theorem stream_raises_only_assert (mark : Bool) (r : Res) (calls : List Call) (e : PyErr)
    (h : runS r { mark := mark } calls = .error e) : e = .assertFailed "pop_state:_ctm_stack" :=
  runS_error calls r _ e (by simp) h

/-- The error is reachable (so the statement is not vacuous) … -/
example : ∃ e, runS {} {} [.push, .pop, .pop] = .error e := ⟨_, rfl⟩

/-- **resources_unshared**: in every document state reachable from what `generate_pdf` sets up, two different group /
pattern streams never write to the same resource dictionary, and none of them writes to the page dictionary: every
sub-resource dictionary has exactly one owner.  This is the structural fact `_reference_resources` relies on when it
asserts `resources['Font'] is None` (a dictionary reached through two owners would trip it), and why giving each form
XObject / pattern its own `/Resources` is sound. -/
theorem resources_unshared (mark : Bool) (pages : Nat) (calls : List WCall) (w' : World)
    (hs : ScopedRun (World.init mark pages) calls) (hrun : (World.init mark pages).run calls = .ok w') :
    (∀ (h h' : Nat) (s s' : SState), w'.streams[h]? = some s → w'.streams[h']? = some s' →
      s.id.isSome = true → s'.id.isSome = true → s.res = s'.res → h = h') ∧
    (∀ (h : Nat) (s : SState), w'.streams[h]? = some s → s.id.isSome = true → 0 < s.res) := by
  have := World.run_owner calls _ w' (owner_init mark pages) (init_ok mark pages) hs hrun
  exact ⟨this.inj, this.nonzero⟩

open Wp.PdfNames in
/-- **names_sorted** (full strength since the repair of finding `dests-names-unsorted`): for *every* list of anchor
names — ASCII or not — the `/Names` array of `/Dests` has exactly one key per anchor name given (the names in array
order are a permutation of them), and the keys, as the bytes the written string objects denote (the text itself, or
`FE FF` + UTF-16BE), are sorted in the lexical byte order a PDF reader searches a name tree with (PDF 32000-1 7.9.6).
Before the repair this held for ASCII names only (`sorted()` compared code points, not key bytes). -/
theorem names_sorted (names : List PyStr) :
    (destOrder names).Perm names ∧ sortedBy lexLe (destKeys names) = true :=
  ⟨pySortedBy_perm keyBytes names, sortedBy_of_pairwise (List.pairwise_map.mpr (pySortedBy_sorted keyBytes names))⟩

open Wp.PdfNames in
/-- **names_strictly_sorted**: `resolve_links` keeps one anchor per name, so the names given are pairwise distinct; for
every such list of names (Unicode scalar values: what `str.encode` accepts) the keys of the `/Dests` name array are
pairwise distinct too — `pydyf.String` never writes two names as the same bytes, whether as text or as `FE FF` +
UTF-16BE with surrogate pairs — and *strictly* increasing in byte order: a reader bisecting the name tree finds every
anchor, and exactly one entry for it. -/
theorem names_strictly_sorted (names : List PyStr) (hv : names.all validStr = true) (hd : names.Nodup) :
    sortedBy lexLt (destKeys names) = true := by
  have hperm := (names_sorted names).1
  have hnd : ((destOrder names).map keyBytes).Nodup := map_keyBytes_nodup _ (hperm.nodup_iff.mpr hd)
    (fun x hx => List.all_eq_true.mp hv x (hperm.mem_iff.mp hx))
  -- in order and pairwise distinct: strictly in order
  exact sortedBy_of_pairwise (List.pairwise_map.mpr (InsertionSort.strict_of_nodup keyBytes
    (pySortedBy_sorted keyBytes names) hnd (fun a b => lexLt_of_le_of_ne _ _)))

open Wp.PdfNames in
/-- Non-vacuity: `b`, `aé`, `😀` (a surrogate pair), `a` are distinct valid names. -/
example : [[98], [97, 233], [0x1F600], [97]].all validStr = true ∧
    destKeys [[98], [97, 233], [0x1F600], [97]] =
      [[97], [98], [0xFE, 0xFF, 0, 97, 0, 233], [0xFE, 0xFF, 0xD8, 0x3D, 0xDE, 0x00]] := by decide

open Wp.PdfNames in
/-- For ASCII names nothing changed: the order is Python's `sorted(pdf_names)` and the keys are the names. -/
theorem names_sorted_ascii (names : List PyStr) (h : names.all isAscii = true) :
    destOrder names = pySorted names ∧ destKeys names = pySorted names := by
  have h1 : destOrder names = pySorted names := pySortedBy_ascii names h
  refine ⟨h1, ?_⟩
  unfold destKeys
  rw [h1, map_keyBytes_ascii _ (pySorted_all isAscii names h)]

open Wp.PdfNames in
example : destKeys [[98], [97, 122], [97]] = [[97], [97, 122], [98]] := by decide

open Wp.PdfNames in
/-- Non-vacuity on mixed names (`b`, `aé`, `€`, `a`): the ASCII keys come first, then the `FE FF …` keys. -/
example : destKeys [[98], [97, 233], [0x20AC], [97]] =
    [[97], [98], [0xFE, 0xFF, 0, 97, 0, 233], [0xFE, 0xFF, 0x20, 0xAC]] := by decide

open Wp.PdfNames in
/-- **embedded_files_sorted** (full strength since the repair of finding `embedded-files-sorted-by-serialised-key`): for
*every* list of attachment file names — blanks, parentheses, backslashes, prefixes of one another included — the `/Names`
array of `/EmbeddedFiles` lists exactly the attachments given (a permutation) and its keys are sorted in the lexical
byte order of a name tree (PDF 32000-1 7.9.6).  (Equal file names give equal adjacent keys: C18's finding
`embedded-files-duplicate-keys`.) -/
theorem embedded_files_sorted (names : List (List Nat)) :
    (embeddedKeys names).Perm names ∧ sortedBy lexLe (embeddedKeys names) = true :=
  ⟨pySortedBy_perm _ names, sortedBy_of_pairwise (pySortedBy_sorted (fun n => n) names)⟩

open Wp.PdfNames in
/-- Why the order before the repair looked right on ordinary names: sorting the written forms `(name)` sorts the names
when no name holds a byte at or below `)` nor a backslash. -/
theorem written_order_sorted_plain (names : List (List Nat)) (hp : ∀ n ∈ names, plainName n = true) :
    sortedBy lexLe (embeddedKeysWrittenOrder names) = true := by
  have hp' : ∀ x ∈ pySortedBy litData names, plainName x = true := fun x hx =>
    hp x ((pySortedBy_perm litData names).mem_iff.mp hx)
  exact sortedBy_of_pairwise ((pySortedBy_sorted litData names).imp_of_mem
    (fun ha hb h => (lexLe_litData _ _ (hp' _ ha) (hp' _ hb)).symm.trans h))

open Wp.PdfNames in
/-- Non-vacuity: `b.txt`, `a.txt`, `a-1.txt`; the keys come out sorted. -/
example : (∀ n ∈ [[98, 46, 116, 120, 116], [97, 46, 116, 120, 116], [97, 45, 49, 46, 116, 120, 116]],
      plainName n = true) ∧
    embeddedKeys [[98, 46, 116, 120, 116], [97, 46, 116, 120, 116], [97, 45, 49, 46, 116, 120, 116]] =
      [[97, 45, 49, 46, 116, 120, 116], [97, 46, 116, 120, 116], [98, 46, 116, 120, 116]] := by decide

end Wp.C16
