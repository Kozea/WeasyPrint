/-
C19 — the caller's `CounterStyle` dictionary across renders (`Model/CounterDict`): what a render resolves for the names
it can rely on — the UA counter styles and the styles the document defines — does not depend on what the shared
dictionary held before.  Tie: the `counter-dict` correspondence section (real `HTML.render(counter_style=cs)` over
sequences of documents, the real dictionary read back after every render).
-/
import WpModel.Model.CounterDict
import WpModel.Lemmas.Assoc

namespace Wp.C19.Counter
open Wp.CounterDict

/-- The last value written for `k` by a list of stores. -/
def lastOf : List (String × String) → String → Option String
  | [], _ => none
  | (k', v) :: rest, k => match lastOf rest k with
    | some w => some w
    | none => if k' = k then some v else none

theorem dget_dset (d : Dict) (k v k' : String) : dget (dset d k v) k' = if k = k' then some v else dget d k' :=
  Wp.assoc_get_set dget dset (fun _ => rfl) (fun _ _ _ _ => rfl) (fun _ _ => rfl) (fun _ _ _ _ _ => rfl) d k k' v

theorem get_setAll (kvs : List (String × String)) (d : Dict) (k : String) :
    dget (setAll d kvs) k = match lastOf kvs k with
      | some v => some v
      | none => dget d k := by
  fun_induction setAll d kvs with
  | case1 d => rfl
  | case2 d k' v rest ih =>
    rw [ih, lastOf]
    cases lastOf rest k with
    | some w => rfl
    | none =>
      simp only []
      rw [dget_dset]
      by_cases e : k' = k <;> simp [e]

theorem lastOf_eq_none (kvs : List (String × String)) (k : String) :
    lastOf kvs k = none ↔ k ∉ kvs.map (·.1) := by
  fun_induction lastOf kvs k with
  | case1 => simp
  | case2 k' v rest k w h ih =>
    have hm : ¬ k ∉ rest.map (·.1) := fun hn => by rw [ih.mpr hn] at h; cases h
    simp only [List.map_cons, List.mem_cons, not_or]
    exact ⟨nofun, fun hn => absurd hn.2 hm⟩
  | case3 k' v rest h ih => simp
  | case4 k' v rest k h e ih => simp [ih.mp h, Ne.symm e]

/-- What a render leaves under `k`: the document's last rule for `k`, else the UA style, else what was there. -/
theorem get_renderStyles (ua doc : List (String × String)) (cs : Dict) (k : String) :
    dget (renderStyles ua doc cs) k = match lastOf doc k with
      | some v => some v
      | none => match lastOf ua k with
        | some v => some v
        | none => dget cs k := by
  unfold renderStyles
  rw [get_setAll, get_setAll]

/-- **defined_names_history_independent**: for every name that is a UA counter style or that the document defines, what
the render resolves from the dictionary does not depend on what the shared dictionary held before — on which documents
were rendered with it earlier, and what they (re)defined (the class of the seeded change C19-11: nothing derived from
the dictionary may outlive the render that derived it). -/
theorem defined_names_history_independent (ua doc : List (String × String)) (cs1 cs2 : Dict) (k : String)
    (h : k ∈ ua.map (·.1) ∨ k ∈ doc.map (·.1)) :
    dget (renderStyles ua doc cs1) k = dget (renderStyles ua doc cs2) k := by
  rw [get_renderStyles, get_renderStyles]
  cases hd : lastOf doc k with
  | some v => rfl
  | none =>
    cases hu : lastOf ua k with
    | some v => rfl
    | none => exact absurd h (not_or.mpr ⟨(lastOf_eq_none ua k).mp hu, (lastOf_eq_none doc k).mp hd⟩)

/-- The excluded case is real (by design of the API: the dictionary is where the caller collects `@counter-style`
rules): a name that is neither a UA style nor defined by the document keeps what an earlier render stored. -/
theorem other_names_persist (ua doc : List (String × String)) (cs : Dict) (k : String)
    (hu : k ∉ ua.map (·.1)) (hd : k ∉ doc.map (·.1)) : dget (renderStyles ua doc cs) k = dget cs k := by
  rw [get_renderStyles, (lastOf_eq_none doc k).mpr hd, (lastOf_eq_none ua k).mpr hu]

/-- Document level: in any history of renders sharing one dictionary, the names the `i`-th document can rely on (UA
styles and its own rules) are bound after its render exactly as when it is rendered alone with a new `CounterStyle()`. -/
theorem history_as_alone (ua : List (String × String)) (cs : Dict) (docs : List (List (String × String))) (i : Nat)
    (doc : List (String × String)) (d : Dict) (hdoc : docs[i]? = some doc) (hd : (runRenders ua cs docs)[i]? = some d)
    (k : String) (h : k ∈ ua.map (·.1) ∨ k ∈ doc.map (·.1)) : dget d k = dget (renderStyles ua doc []) k := by
  induction docs generalizing cs i with
  | nil => simp at hdoc
  | cons d0 rest ih =>
    cases i with
    | zero =>
      simp only [List.getElem?_cons_zero, Option.some.injEq] at hdoc
      subst hdoc
      simp only [runRenders, List.getElem?_cons_zero, Option.some.injEq] at hd
      subst hd
      exact defined_names_history_independent ua d0 cs [] k h
    | succ j =>
      simp only [List.getElem?_cons_succ] at hdoc
      simp only [runRenders, List.getElem?_cons_succ] at hd
      exact ih _ j hdoc hd

example :
    (runRenders [("lower-alpha", "ua"), ("decimal", "ua")] []
      [[("lower-alpha", "m1"), ("stars", "m2")], [], [("stars", "m3")]]).map
        (fun d => (dget d "lower-alpha", dget d "stars")) =
      [(some "m1", some "m2"), (some "ua", some "m2"), (some "ua", some "m3")] := by decide +kernel

end Wp.C19.Counter
