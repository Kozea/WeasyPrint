/-
C19 — the image cache at document level (`Model/ImageCache.runDocs`): renders that share `options['cache']`.  The
function-level theorems (`C19.cache_transparent`, `payload_transparent`) composed over any sequence of documents:
"rendering the same input again … with a warm or cold image cache gives the same" for all inputs of the model.  The tie
of `runDocs` to the source is the `image-docs` correspondence section (real `HTML.render(cache=…)` over sequences of
documents with `<img>` / `<embed>` / `<object>`, recording fetcher).
-/
import WpModel.Props.C19

namespace Wp.C19
open Wp Wp.ImageCache

/-- What every request of every document returned. -/
def renderDocs (f : Fetcher) (c : Cache) (docs : List (List Call)) : List (List (Except PyErr Entry)) :=
  (runDocs f c docs).map (fun rs => rs.map (·.value))

theorem finalCache_payloadConsistent (f : Fetcher) (hx : Exclusive f) (c : Cache) (hc : PayloadConsistent f c)
    (d : List Call) : PayloadConsistent f (finalCache f c d) := by
  induction d generalizing c with
  | nil => exact hc
  | cons call rest ih =>
    exact ih _ (getImage_payload_spec f hx c hc call.url call.forced call.orientation call.opts).2

/-- **documents_independent_of_history** (document level, all inputs): in any sequence of renders sharing one image
cache — any documents, any orientations and forced MIME types, image options that differ from render to render —
every request of every document returns what it returns when that document is rendered alone on a cold cache. -/
theorem documents_independent_of_history (f : Fetcher) (hx : Exclusive f) (c : Cache) (hc : PayloadConsistent f c)
    (docs : List (List Call)) : renderDocs f c docs = docs.map (fun d => d.map (cold f)) := by
  induction docs generalizing c with
  | nil => rfl
  | cons d rest ih =>
    simp only [renderDocs, runDocs, List.map_cons, List.cons.injEq]
    exact ⟨cache_transparent f hx c (payloadConsistent_consistent f c hc) d,
      ih _ (finalCache_payloadConsistent f hx c hc d)⟩

/-- A document rendered after any history of other documents (warm cache) gets the images of a cold render. -/
theorem warm_equals_cold (f : Fetcher) (hx : Exclusive f) (history : List (List Call)) (d : List Call) :
    (renderDocs f [] (history ++ [d])).getLast? = (renderDocs f [] [d]).head? := by
  rw [documents_independent_of_history f hx [] (payloadConsistent_empty f),
    documents_independent_of_history f hx [] (payloadConsistent_empty f)]
  simp

/-- … and after the whole sequence the cache still holds, for every request of every document, the bytes a cold
render of that request stores (no document's image data was replaced by another document's). -/
theorem documents_keep_cold_bytes (f : Fetcher) (hx : Exclusive f) (docs : List (List Call)) (call : Call) (e : Entry)
    (hmem : lookup (finalCache f [] docs.flatten) (keyStr call.url call.orientation call.opts) = some e)
    (dk : String) (p : Payload) (hb : lookup (coldResult f call).cache dk = some (.bytes p)) :
    lookup (finalCache f [] docs.flatten) dk = some (.bytes p) :=
  ((finalCache_payloadConsistent f hx [] (payloadConsistent_empty f) docs.flatten) call.url call.orientation
    call.opts e hmem call.forced).2 dk p hb

example :
    let f : Fetcher := fun _ => .ok (some "image/jpeg") none ⟨1, false, some ⟨.jpeg, false, true⟩⟩
    renderDocs f [] [[⟨"u", "", .none, ⟨false, some 5, none⟩⟩], [⟨"u", "", .none, ⟨false, none, none⟩⟩,
      ⟨"u", "", .angle .q90 false, ⟨false, none, none⟩⟩]] =
      [[cold f ⟨"u", "", .none, ⟨false, some 5, none⟩⟩], [cold f ⟨"u", "", .none, ⟨false, none, none⟩⟩,
        cold f ⟨"u", "", .angle .q90 false, ⟨false, none, none⟩⟩]] := by decide +kernel

end Wp.C19
