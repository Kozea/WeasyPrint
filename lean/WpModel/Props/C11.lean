/-
C11 — Floats obey the CSS 2.1 placement rules.
Model: `Model/Floats.lean` (layout/float.py; the three arithmetic tests of `avoid_collisions` come
from `Gen/FloatTests.lean`, regenerated from the source on every run).  Helper lemmas: `Lemmas/Float*.lean`.
Positioned boxes (`Model/Absolute.lean`): `Props/C11Abs.lean`.

Full strength (defects repaired in /repo): `moves_down_when_possible`, `result_fits_or_is_free` (F13); `float_rules`
for every float, an empty border box included (50ab141).
`float_no_overlap`, `floatPlace_inv`, `all_floats_disjoint_and_ordered` cover floats with an empty border
box (`avoid_collisions` has no early return for them, 1bc67ce; `GoodFloat` only asks for a margin box with area).
Document-level model (`Model/FloatFlow.lean`): `cleared_top_spec` (clearance is added to the collapsed
position), `inline_waiting_is_suffix`, `inline_placed_is_prefix` (a float met in a line after a deferred
float is deferred too).  Floats met inside lines keep the position `float_layout` gave them (330f66c);
`Props/C11Inline.lean` holds the theorems about them.
Boundary behaviour, not a finding: `as_high_as_possible` and `result_fits_or_is_free` need shapes of positive
height (`collide_zero_height_shape` states what happens otherwise); the box may have height 0, and
`no_overlap_of_fits` needs no sign at all.
-/
import WpModel.Lemmas.FloatPlace
import WpModel.Model.FloatFlow

namespace Wp.C11
open Wp Wp.Floats

/-- For a box and a shape of positive height, the three-way disjunction of `avoid_collisions` is
exactly open-interval vertical overlap. -/
theorem collide_iff (s : Shape) (y h : Rat) (hh : 0 < h) (hs : 0 < s.mh) :
    collides s y h = true ↔ (s.y < y + h ∧ y < s.y + s.mh) := by
  simp [collides, Gen.collideTest]
  grind

example : collides ⟨0, 0, 10, 10, .left⟩ 5 5 = true ∧ collides ⟨0, 0, 10, 10, .left⟩ 10 5 = false := by
  decide +kernel

/-- Boundary behaviour, box of height 0 (an empty line box): it collides with the shapes it lies
strictly inside of, and with zero-height shapes at exactly its position. -/
theorem collide_zero_height_box (s : Shape) (y : Rat) (hs : 0 ≤ s.mh) :
    collides s y 0 = true ↔ ((s.y < y ∧ y < s.y + s.mh) ∨ (s.y = y ∧ s.mh = 0)) := by
  simp [collides, Gen.collideTest]
  grind

/-- Boundary behaviour, shape of height 0: it "collides" with every box whose closed vertical
extent contains it (including a box that only touches it with its top or bottom edge). -/
theorem collide_zero_height_shape (s : Shape) (y h : Rat) (hs : s.mh = 0) (_hh : 0 ≤ h) :
    collides s y h = true ↔ (y ≤ s.y ∧ s.y ≤ y + h) := by
  simp [collides, Gen.collideTest, hs]
  grind

/-- The `while True` loop of `avoid_collisions` ends: `len(excluded_shapes) + 1` iterations are always
enough (each `continue` strictly decreases the number of shapes whose bottom is below `y`). -/
theorem avoid_terminates (shapes : List Shape) (w h l0 r0 y : Rat) :
    (avoidLoop (shapes.length + 1) shapes w h l0 r0 y).isSome = true :=
  have hf := Nat.lt_succ_of_le (loopMeasure_le shapes y)
  (avoidLoop_fuel _ _ _ _ _ _ _ _ hf hf).1

/-- More fuel never changes the result: the fuel of the model is not observable. -/
theorem avoid_fuel_irrelevant (shapes : List Shape) (w h l0 r0 y : Rat) (n : Nat) :
    avoidLoop (shapes.length + 1 + n) shapes w h l0 r0 y = avoidLoop (shapes.length + 1) shapes w h l0 r0 y := by
  have := loopMeasure_le shapes y
  exact (avoidLoop_fuel _ _ _ _ _ _ _ _ (by omega) (by omega)).2

/-- The only way `avoid_collisions` fails is its final class assertion: the loop always ends (`avoid_terminates`). -/
theorem avoidCollisions_error (shapes : List Shape) (b : ABox) (cb : CB) (outer : Bool) (e : PyErr)
    (h : avoidCollisions shapes b cb outer = .error e) : e = .assertFailed "avoid_collisions:kind" := by
  revert h
  fun_cases avoidCollisions shapes b cb outer <;> intro h <;> cases h
  next hn =>
    have h2 := congrArg Option.isSome hn
    rw [avoid_terminates] at h2
    cases h2
  next => rfl

/-- `avoid_collisions` never fails by exhausting the loop (C02 totality of the loop). -/
theorem avoid_never_loops (shapes : List Shape) (b : ABox) (cb : CB) (outer : Bool) (site : String) :
    avoidCollisions shapes b cb outer ≠ .error (.recursion site) := by
  intro h
  cases avoidCollisions_error shapes b cb outer _ h

/-- Interior intersection of the rectangle `(x, y, w, h)` with the margin box of a shape. -/
def Overlaps (x y w h : Rat) (s : Shape) : Prop :=
  x < s.x + s.mw ∧ s.x < x + w ∧ y < s.y + s.mh ∧ s.y < y + h

/-- Shapes with area: positive height, non-negative width. -/
def Proper (shapes : List Shape) : Prop := ∀ s ∈ shapes, 0 < s.mh ∧ 0 ≤ s.mw

/-- A shape that overlaps a rectangle not higher than the box collides with the box, whatever the signs of the two
heights: one of the three disjuncts of the test holds according to where `s.y` lies against `y` and `y + h`. -/
theorem mem_colliding_of_overlaps {shapes : List Shape} {x y w h h' : Rat} {s : Shape}
    (hs : s ∈ shapes) (ho : Overlaps x y w h' s) (hh' : h' ≤ h) : s ∈ colliding shapes y h :=
  mem_colliding.mpr ⟨hs, by
    obtain ⟨_, _, h1, h2⟩ := ho
    simp only [collides, Gen.collideTest, Bool.or_eq_true, Bool.and_eq_true, decide_eq_true_eq]
    grind⟩

/-- **Between the returned bounds nothing overlaps**: at the position the loop returns, every rectangle between the
returned bounds that is not higher than the box has empty interior intersection with every excluded shape (a shape
that overlapped it would collide with the box there, and the bounds were computed from the colliding shapes). -/
theorem free_between_bounds {fuel : Nat} {shapes : List Shape} {w h l0 r0 y : Rat} {res : LoopRes}
    (hres : avoidLoop fuel shapes w h l0 r0 y = some res)
    (x w' h' : Rat) (hx1 : res.l ≤ x) (hx2 : x + w' ≤ res.r) (hh' : h' ≤ h) :
    ∀ s ∈ shapes, ¬ Overlaps x res.y w' h' s := by
  obtain ⟨hl, hr, _⟩ := avoidLoop_exit hres
  intro s hs ho
  have hmem := mem_colliding_of_overlaps hs ho hh'
  obtain ⟨ho1, ho2, _, _⟩ := ho
  cases hside : s.side with
  | left =>
    have := bounds_l_ge (colliding shapes res.y h) l0 r0 s hmem hside
    unfold Shape.rightEdge at this
    grind
  | right =>
    have := bounds_r_le (colliding shapes res.y h) l0 r0 s hmem hside
    grind

/-- `no_overlap` for every list of shapes and every box, zero heights included. -/
theorem no_overlap_of_fits {fuel : Nat} {shapes : List Shape} {w h l0 r0 y : Rat} {res : LoopRes}
    (hres : avoidLoop fuel shapes w h l0 r0 y = some res) {x : Rat} (hx1 : res.l ≤ x) (hx2 : x + w ≤ res.r) :
    (∀ s ∈ shapes, ¬ Overlaps x res.y w h s) ∧ l0 ≤ x ∧ x + w ≤ r0 ∧ y ≤ res.y := by
  obtain ⟨hy, hl0, hr0⟩ := avoid_result_bounds fuel shapes w h l0 r0 y res hres
  exact ⟨free_between_bounds hres x w h hx1 hx2 Rat.le_refl, by grind, by grind, hy⟩

/-- **No overlap.**  If the box fits in the returned bounds (`w ≤ right − left`), then placed anywhere
between them — at the left bound (left floats, ltr boxes) or against the right bound (right floats,
rtl boxes) — its rectangle has empty interior intersection with every excluded shape, lies between
the default bounds (inside the containing block) and is not above the requested position.  The proof uses neither
`hh` nor `hp` (`no_overlap_of_fits`). -/
theorem no_overlap (fuel : Nat) (shapes : List Shape) (w h l0 r0 y : Rat) (res : LoopRes)
    (hres : avoidLoop fuel shapes w h l0 r0 y = some res)
    (hh : 0 < h) (hp : Proper shapes) (x : Rat) (hx1 : res.l ≤ x) (hx2 : x + w ≤ res.r) :
    (∀ s ∈ shapes, ¬ Overlaps x res.y w h s) ∧ l0 ≤ x ∧ x + w ≤ r0 ∧ y ≤ res.y :=
  no_overlap_of_fits hres hx1 hx2

example : avoidLoop 3 [⟨0, 0, 60, 50, .left⟩, ⟨70, 0, 30, 20, .right⟩] 35 10 0 100 0
    = some ⟨20, 60, 100⟩ := by decide +kernel

/-- A colliding shape of positive height ends below the position of the box. -/
theorem bottom_gt_of_collides {s : Shape} {y h : Rat} (hh : 0 ≤ h) (hs : 0 < s.mh) (hc : collides s y h = true) :
    y < s.bottom := by
  simp only [collides, Gen.collideTest, Bool.or_eq_true, Bool.and_eq_true, decide_eq_true_eq] at hc
  unfold Shape.bottom
  grind

/-- **The loop never gives up while something lower exists.**  If the box still does not fit at the
returned position, no colliding shape there has its bottom below that position. -/
theorem gives_up_only_at_the_bottom {fuel : Nat} {shapes : List Shape} {w h l0 r0 y : Rat} {res : LoopRes}
    (hres : avoidLoop fuel shapes w h l0 r0 y = some res)
    (hb : blockedAt shapes w h l0 r0 res.y = true) :
    ∀ s ∈ shapes, collides s res.y h = true → s.bottom ≤ res.y := by
  rcases (avoidLoop_exit hres).2.2 with h1 | h1
  · rw [hb] at h1; cases h1
  · exact no_lower_position h1

/-- **Moves down when possible**: if the box
does not fit at the requested position and a colliding shape ends lower, the result is lower. -/
theorem moves_down_when_possible (fuel : Nat) (shapes : List Shape) (w h l0 r0 y : Rat) (res : LoopRes)
    (hres : avoidLoop fuel shapes w h l0 r0 y = some res)
    (hb : blockedAt shapes w h l0 r0 y = true)
    (hex : ∃ s ∈ shapes, collides s y h = true ∧ s.bottom > y) : y < res.y := by
  -- the loop leaves `y` only downwards; had it stayed, its exit condition would contradict `hb` or `hex`
  obtain ⟨hP, _, _, hexit⟩ := avoidLoop_induct (fun y' => y' = y ∨ y < y') shapes w h l0 r0
    (fun yk p ps hk _ hl => Or.inr (by have := (next_position hl).2.1; grind)) fuel y res (Or.inl rfl) hres
  rcases hP with e | hlt
  · rw [e] at hexit
    rcases hexit with h1 | h1
    · rw [hb] at h1; cases h1
    · obtain ⟨s, hs, hc, hgt⟩ := hex
      exact absurd (no_lower_position h1 s hs hc) (Rat.not_le.mpr hgt)
  · exact hlt

example : blockedAt [⟨0, 0, 10, 0, .left⟩, ⟨0, 0, 80, 50, .left⟩] 50 10 0 100 0 = true ∧
    avoidLoop 3 [⟨0, 0, 10, 0, .left⟩, ⟨0, 0, 80, 50, .left⟩] 50 10 0 100 0 = some ⟨50, 0, 100⟩ := by
  decide +kernel

/-- With shapes of positive height, a colliding shape always ends below the current
position, so the loop never takes the "no solution" exit: the result either fits between the
bounds or collides with nothing at all. -/
theorem result_fits_or_is_free {fuel : Nat} {shapes : List Shape} {w h l0 r0 y : Rat} {res : LoopRes}
    (hres : avoidLoop fuel shapes w h l0 r0 y = some res) (hh : 0 ≤ h) (hp : Proper shapes) :
    w ≤ res.r - res.l ∨ colliding shapes res.y h = [] := by
  obtain ⟨hl, hr, _⟩ := avoidLoop_exit hres
  by_cases hb : blockedAt shapes w h l0 r0 res.y = true
  · right
    have hg := gives_up_only_at_the_bottom hres hb
    refine List.eq_nil_iff_forall_not_mem.mpr fun s hm => ?_
    obtain ⟨hs, hc⟩ := mem_colliding.mp hm
    exact absurd (hg s hs hc) (Rat.not_le.mpr (bottom_gt_of_collides hh (hp s hs).1 hc))
  · rw [blockedAt_iff] at hb
    rw [hl, hr]
    grind

theorem free_no_overlap (shapes : List Shape) (y h : Rat)
    (hfree : colliding shapes y h = []) (x w : Rat) : ∀ s ∈ shapes, ¬ Overlaps x y w h s := by
  intro s hs ho
  have := mem_colliding_of_overlaps hs ho Rat.le_refl
  rw [hfree] at this
  cases this

/-- The colliding shapes at `y` still collide at every position up to the next one the loop tries. -/
private theorem collides_persist (s : Shape) (y y' h : Rat)
    (hc : collides s y h = true) (h1 : y ≤ y') (h2 : y' < s.bottom) : collides s y' h = true := by
  simp only [collides, Gen.collideTest, Bool.or_eq_true, Bool.and_eq_true, decide_eq_true_eq] at hc ⊢
  unfold Shape.bottom at h2
  grind

/-- More colliding shapes give a larger left bound and a smaller right bound, so a blocked box stays blocked. -/
private theorem blocked_mono (shapes : List Shape) (w h l0 r0 y y' : Rat)
    (hsub : ∀ s ∈ shapes, collides s y h = true → collides s y' h = true)
    (hb : blockedAt shapes w h l0 r0 y = true) : blockedAt shapes w h l0 r0 y' = true := by
  rw [blockedAt_iff] at hb ⊢
  obtain ⟨hne, hw⟩ := hb
  have hsub' : ∀ s ∈ colliding shapes y h, s ∈ colliding shapes y' h := by
    intro s hs
    obtain ⟨h1, h2⟩ := mem_colliding.mp hs
    exact mem_colliding.mpr ⟨h1, hsub s h1 h2⟩
  have hne' : colliding shapes y' h ≠ [] :=
    let ⟨s, hs⟩ := List.exists_mem_of_ne_nil _ hne
    List.ne_nil_of_mem (hsub' s hs)
  refine ⟨hne', ?_⟩
  have hl : (bounds (colliding shapes y h) l0 r0).l ≤ (bounds (colliding shapes y' h) l0 r0).l := by
    rcases bounds_l_mem (colliding shapes y h) l0 r0 with h1 | ⟨s, hs, hside, he⟩
    · rw [h1]; exact bounds_l_ge_init _ _ _
    · rw [← he]; exact bounds_l_ge _ l0 r0 s (hsub' s hs) hside
  have hr : (bounds (colliding shapes y' h) l0 r0).r ≤ (bounds (colliding shapes y h) l0 r0).r := by
    rcases bounds_r_mem (colliding shapes y h) l0 r0 with h1 | ⟨s, hs, hside, he⟩
    · rw [h1]; exact bounds_r_le_init _ _ _
    · rw [← he]; exact bounds_r_le _ l0 r0 s (hsub' s hs) hside
  grind

/-- **As high as possible.**  Among shapes and a box of positive height, every position between the
requested one and the returned one is a position where the box does not fit: the loop only skips
positions that are blocked. -/
theorem as_high_as_possible (fuel : Nat) (shapes : List Shape) (w h l0 r0 y : Rat) (res : LoopRes)
    (hres : avoidLoop fuel shapes w h l0 r0 y = some res) (hh : 0 < h) (hp : Proper shapes) :
    ∀ y', y ≤ y' → y' < res.y → blockedAt shapes w h l0 r0 y' = true := by
  have := avoidLoop_induct
    (fun yk => y ≤ yk ∧ ∀ y', y ≤ y' → y' < yk → blockedAt shapes w h l0 r0 y' = true)
    shapes w h l0 r0
    (by
      intro yk p ps ⟨hk1, hk2⟩ hb hl
      obtain ⟨_, hgt, hmin⟩ := next_position hl
      refine ⟨by grind, ?_⟩
      intro y' h1 h2
      by_cases hlt : y' < yk
      · exact hk2 y' h1 hlt
      · apply blocked_mono shapes w h l0 r0 yk y' _ hb
        intro s hs hc
        have hpos := (hp s hs).1
        have := hmin s hs hc (bottom_gt_of_collides (Rat.le_of_lt hh) hpos hc)
        exact collides_persist s yk y' h hc (by grind) (by grind))
    fuel y res ⟨Rat.le_refl, by intro y' h1 h2; grind⟩ hres
  exact this.1.2

example : avoidLoop 2 [⟨0, 0, 80, 50, .left⟩] 50 10 0 100 0 = some ⟨50, 0, 100⟩ ∧
    blockedAt [⟨0, 0, 80, 50, .left⟩] 50 10 0 100 49 = true := by decide +kernel

/-! ## `avoid_collisions` on any box (line boxes, BFC roots, replaced blocks, table wrappers, floats) -/

/-- `avoid_collisions_result` (Lemmas/FloatPlace) with the hypothesis `_hz` (the box is not a float with an empty
border box), which the proof does not use. -/
theorem avoid_collisions_spec (shapes : List Shape) (b : ABox) (cb : CB) (outer : Bool) (p : Placement)
    (_hz : ¬ (b.bh = 0 ∧ b.float ≠ .none))
    (h : avoidCollisions shapes b cb outer = .ok p) :
    ∃ res, avoidLoop (shapes.length + 1) shapes (if outer then b.marginWidth else b.bw)
        (if outer then b.marginHeight else b.bh) (if outer then cb.cx else cb.cx + b.ml)
        (if outer then cb.cx + cb.w else cb.cx + cb.w - b.mr) (if outer then b.py else b.py + b.mt) = some res ∧
      p.avail = res.r - res.l ∧
      (if outer then p.y else p.y + b.mt) = res.y ∧
      (if outer then p.x else p.x + b.ml) =
        (if b.float = .none ∧ cb.rtl = true then
          (if b.kind = .line then res.r else res.r - (if outer then b.marginWidth else b.bw))
         else res.l) :=
  avoid_collisions_result shapes b cb outer p h

/-- **Boxes that may not overlap floats** (line boxes, table wrappers, block-level replaced boxes,
formatting-context roots — and floats themselves): when the box fits in the available width that
`avoid_collisions` returns, its rectangle (border box for `outer=False`, margin box for
`outer=True`; for an rtl line the rectangle ending at the returned cursor position) overlaps no
float, lies between the containing block's edges (shrunk by the box's own margins for
`outer=False`) and is not above the requested position. -/
theorem placed_box_no_overlap (shapes : List Shape) (b : ABox) (cb : CB) (outer : Bool) (p : Placement)
    (h : avoidCollisions shapes b cb outer = .ok p)
    (hfit : (if outer then b.marginWidth else b.bw) ≤ p.avail) :
    let w := if outer then b.marginWidth else b.bw
    let ht := if outer then b.marginHeight else b.bh
    let bx := if outer then p.x else p.x + b.ml
    let top := if outer then p.y else p.y + b.mt
    let left := if b.float = .none ∧ cb.rtl = true ∧ b.kind = .line then bx - w else bx
    (∀ s ∈ shapes, ¬ Overlaps left top w ht s) ∧
    (if outer then cb.cx else cb.cx + b.ml) ≤ left ∧
    left + w ≤ (if outer then cb.cx + cb.w else cb.cx + cb.w - b.mr) ∧
    (if outer then b.py else b.py + b.mt) ≤ top := by
  intro w ht bx top left
  obtain ⟨res, hres, h1, h2, h3⟩ := avoid_collisions_result shapes b cb outer p h
  have hx : res.l ≤ left ∧ left + w ≤ res.r := by
    -- the cursor is the right bound (rtl line), the right bound minus the width (rtl box) or the left bound
    simp only [left, bx, w] at *
    grind
  have := no_overlap_of_fits hres hx.1 hx.2
  simp only [top]
  rw [h2]
  exact this

/-- **A formatting-context root, table wrapper or block-level replaced box never overlaps a float** (floats of positive
height; the border box may have height 0) — whether or not it fits beside the floats: `avoid_collisions(outer=False)`
either finds a place where it fits between the bounds, or ends at a position where no float collides with it
vertically (then it may stick out of its containing block, but lies over no float). -/
theorem avoided_box_no_overlap (shapes : List Shape) (b : ABox) (cb : CB) (p : Placement)
    (h : avoidCollisions shapes b cb false = .ok p)
    (hh : 0 ≤ b.bh) (hp : Proper shapes) (hk : b.kind ≠ .line) :
    ∀ s ∈ shapes, ¬ Overlaps (p.x + b.ml) (p.y + b.mt) b.bw b.bh s := by
  obtain ⟨res, hres, h1, h2, _⟩ := avoid_collisions_result shapes b cb false p h
  simp only [Bool.false_eq_true, if_false] at hres h2
  rcases result_fits_or_is_free hres hh hp with hfit | hfree
  · have := (placed_box_no_overlap shapes b cb false p h (h1 ▸ hfit)).1
    simpa only [Bool.false_eq_true, if_false, hk, and_false] using this
  · rw [h2]
    exact free_no_overlap shapes res.y b.bh hfree _ _

example : (avoidCollisions [⟨0, 0, 30, 40, .left⟩, ⟨80, 0, 20, 20, .right⟩]
    ⟨0, 10, 0, 0, 0, 0, 50, 10, .none, .none, .line⟩ ⟨0, 100, true⟩ false).toOption = some ⟨80, 10, 50⟩ := by
  decide +kernel

/-- The shapes named by `clear`. -/
def Named (c : Clear) (s : Shape) : Prop := clearApplies c s.side = true

/-- By how much a float named by `clear` ends below the edge `hyp`, if it does. -/
def excess (c : Clear) (hyp : Rat) (s : Shape) : Option Rat :=
  if clearApplies c s.side && decide (hyp < s.y + s.mh) then some (s.y + s.mh - hyp) else none

/-- `get_clearance` in closed form: the greatest excess, `None` if no named float ends below the edge. -/
theorem getClearance_eq (shapes : List Shape) (c : Clear) (py cm : Rat) :
    getClearance shapes c py cm =
      match shapes.filterMap (excess c (py + cm)) with
      | [] => none
      | d :: ds => some ((d :: ds).foldl max 0) := by
  have fold : ∀ (l : List Shape) (acc : Option Rat), l.foldl (fun acc s =>
      if clearApplies c s.side && decide (py + cm < s.y + s.mh) then
        some (max (acc.getD 0) (s.y + s.mh - (py + cm))) else acc) acc =
      match l.filterMap (excess c (py + cm)) with
      | [] => acc
      | d :: ds => some ((d :: ds).foldl max (acc.getD 0)) := by
    intro l
    induction l with
    | nil => intro acc; rfl
    | cons s rest ih =>
      intro acc
      rw [List.foldl_cons, ih, List.filterMap_cons, excess]
      by_cases hc : (clearApplies c s.side && decide (py + cm < s.y + s.mh)) = true
      · simp only [if_pos hc]
        cases rest.filterMap (excess c (py + cm)) <;> rfl
      · simp only [if_neg hc]
  exact fold shapes none

theorem mem_excess {shapes : List Shape} {c : Clear} {hyp d : Rat} :
    d ∈ shapes.filterMap (excess c hyp) ↔ ∃ s ∈ shapes, Named c s ∧ hyp < s.bottom ∧ d = s.bottom - hyp := by
  simp only [List.mem_filterMap, excess, Named, Shape.bottom]
  refine exists_congr fun s => and_congr_right fun _ => ?_
  split
  · rename_i h
    simp only [Bool.and_eq_true, decide_eq_true_eq] at h
    simp only [Option.some.injEq, h, true_and, eq_comm]
  · rename_i h
    simp only [Bool.and_eq_true, decide_eq_true_eq] at h
    exact ⟨nofun, fun ⟨h1, h2, _⟩ => absurd ⟨h1, h2⟩ h⟩

/-- **Clearance, `None` case**: no clearance exactly when the hypothetical top border edge is already
at or below the bottom of every float named by `clear`. -/
theorem clearance_none_iff (shapes : List Shape) (c : Clear) (py cm : Rat) :
    getClearance shapes c py cm = none ↔ ∀ s ∈ shapes, Named c s → s.bottom ≤ py + cm := by
  rw [getClearance_eq]
  cases hds : shapes.filterMap (excess c (py + cm)) with
  | nil =>
    refine ⟨fun _ s hs hn => Rat.not_lt.mp fun hlt => ?_, fun _ => rfl⟩
    have : s.bottom - (py + cm) ∈ shapes.filterMap (excess c (py + cm)) := mem_excess.mpr ⟨s, hs, hn, hlt, rfl⟩
    rw [hds] at this
    cases this
  | cons d ds =>
    refine ⟨nofun, fun h => ?_⟩
    obtain ⟨s, hs, hn, hlt, _⟩ := mem_excess.mp (hds ▸ List.mem_cons_self : d ∈ _)
    exact absurd (h s hs hn) (Rat.not_le.mpr hlt)

/-- **Clearance is the least sufficient amount**: a returned clearance is positive, moves the edge to
or below the bottom of every named float, and exactly onto the bottom of one of them (so no
smaller amount would do). -/
theorem clearance_least (shapes : List Shape) (c : Clear) (py cm a : Rat)
    (h : getClearance shapes c py cm = some a) :
    0 < a ∧ (∀ s ∈ shapes, Named c s → s.bottom ≤ py + cm + a) ∧
    (∃ s ∈ shapes, Named c s ∧ s.bottom = py + cm + a) := by
  rw [getClearance_eq] at h
  cases hds : shapes.filterMap (excess c (py + cm)) with
  | nil => rw [hds] at h; cases h
  | cons d ds =>
    rw [hds] at h
    obtain rfl := Option.some.inj h
    -- the greatest excess is at least the first one, which is positive, so it is not the seed 0 but an excess
    have hle := MaxMin.lub_max.le_foldl (d :: ds) 0
    obtain ⟨s0, _, _, hlt0, hd⟩ := mem_excess.mp (hds ▸ List.mem_cons_self : d ∈ _)
    have hpos : 0 < (d :: ds).foldl max 0 := by have := hle d List.mem_cons_self; grind
    refine ⟨hpos, fun s hs hn => ?_, ?_⟩
    · by_cases hlt : py + cm < s.bottom
      · have := hle _ (hds ▸ mem_excess.mpr ⟨s, hs, hn, hlt, rfl⟩)
        grind
      · grind
    · rcases MaxMin.lub_max.foldl_mem (d :: ds) 0 with h0 | hm
      · grind
      · obtain ⟨s, hs, hn, _, he⟩ := mem_excess.mp (hds ▸ hm)
        exact ⟨s, hs, hn, by grind⟩

example : getClearance [⟨0, 0, 10, 30, .left⟩, ⟨90, 0, 10, 50, .right⟩] .left 10 0 = some 20 ∧
    getClearance [⟨0, 0, 10, 30, .left⟩, ⟨90, 0, 10, 50, .right⟩] .both 10 0 = some 40 ∧
    getClearance [⟨0, 0, 10, 30, .left⟩] .right 10 0 = none := by decide +kernel

/-- What `find_float_position` computes, for every float: the loop is run
on the margin box from `max(static y, top of the last float)`; a left float sits at the left
bound, a right float ends at the right bound. -/
theorem float_position_spec (shapes : List Shape) (b : ABox) (cb : CB) (x y : Rat)
    (hf : b.float ≠ .none)
    (h : findFloatPosition shapes b cb = .ok (x, y)) :
    ∃ res y0, avoidLoop (shapes.length + 1) shapes b.marginWidth b.marginHeight cb.cx (cb.cx + cb.w) y0 = some res ∧
      b.py ≤ y0 ∧ (∀ s, shapes.getLast? = some s → s.y ≤ y0) ∧ y = res.y ∧
      (b.float = .left → x = res.l) ∧ (b.float = .right → x + b.marginWidth = res.r) := by
  obtain ⟨y0, p, h1, h2, h3, h4, h5⟩ := findFloatPosition_ok shapes b cb x y h
  obtain ⟨res, hres, hp⟩ := avoidCollisions_float shapes { b with py := y0 } cb p hf h3
  refine ⟨res, y0, hres, h1, h2, by rw [h4, hp], ?_, ?_⟩
  · intro hl; rw [h5, hp]; simp [hl]
  · intro hr; rw [h5, hp]; simp [hr]; grind

/-- **Float rules** (CSS 2.1 §9.5.1), for every float (a float whose border box has height 0 is placed like any
other float, 1bc67ce):
rule 4 — its top is not above its static position; rules 5/6 — not above the top of the float
placed just before it; rules 1/2 — a left float starts at or right of the containing block's left edge, at that
edge or at the right edge of a left float it collides with (symmetrically for right floats).  Where its other
side ends is `float_no_overlap`. -/
theorem float_rules (shapes : List Shape) (b : ABox) (cb : CB) (x y : Rat)
    (hf : b.float ≠ .none)
    (h : findFloatPosition shapes b cb = .ok (x, y)) :
    b.py ≤ y ∧ (∀ s, shapes.getLast? = some s → s.y ≤ y) ∧
    (b.float = .left → cb.cx ≤ x ∧
      (x = cb.cx ∨ ∃ s ∈ shapes, s.side = .left ∧ collides s y b.marginHeight = true ∧ s.rightEdge = x)) ∧
    (b.float = .right → x + b.marginWidth ≤ cb.cx + cb.w ∧
      (x + b.marginWidth = cb.cx + cb.w ∨
        ∃ s ∈ shapes, s.side = .right ∧ collides s y b.marginHeight = true ∧ s.x = x + b.marginWidth)) := by
  obtain ⟨res, y0, hres, h1, h2, h3, h4, h5⟩ := float_position_spec shapes b cb x y hf h
  obtain ⟨hy, hl0, hr0⟩ := avoid_result_bounds _ shapes _ _ _ _ y0 res hres
  obtain ⟨hl, hr, _⟩ := avoidLoop_exit hres
  subst h3
  refine ⟨by grind, fun s hs => by have := h2 s hs; grind, ?_, ?_⟩
  · intro hfl
    have hx := h4 hfl
    refine ⟨by grind, ?_⟩
    rcases bounds_l_mem (colliding shapes res.y b.marginHeight) cb.cx (cb.cx + cb.w) with hb | ⟨s, hs, hside, he⟩
    · left; grind
    · right
      obtain ⟨hs1, hs2⟩ := mem_colliding.mp hs
      exact ⟨s, hs1, hside, hs2, by grind⟩
  · intro hfr
    have hx := h5 hfr
    refine ⟨by grind, ?_⟩
    rcases bounds_r_mem (colliding shapes res.y b.marginHeight) cb.cx (cb.cx + cb.w) with hb | ⟨s, hs, hside, he⟩
    · left; grind
    · right
      obtain ⟨hs1, hs2⟩ := mem_colliding.mp hs
      exact ⟨s, hs1, hside, hs2, by grind⟩

/-- A float with an empty border box (margin box 20×10) is placed by the same loop. -/
example : (findFloatPosition [⟨50, 40, 20, 20, .left⟩] ⟨70, 70, 5, 5, 5, 5, 10, 0, .right, .none, .bfc⟩
    ⟨50, 100, false⟩).toOption = some (130, 70) := by decide +kernel

/-- **A placed float never overlaps an earlier float** (all with area; the border box of the float itself may be
empty, 1bc67ce), whether or not it fits in the containing block; and it lies inside the containing block unless
nothing collides with it where it ends up. -/
theorem float_no_overlap (shapes : List Shape) (b : ABox) (cb : CB) (x y : Rat)
    (hf : b.float ≠ .none) (hmh : 0 < b.marginHeight)
    (hp : Proper shapes) (h : findFloatPosition shapes b cb = .ok (x, y)) :
    (∀ s ∈ shapes, ¬ Overlaps x y b.marginWidth b.marginHeight s) ∧
    (colliding shapes y b.marginHeight = [] ∨ (cb.cx ≤ x ∧ x + b.marginWidth ≤ cb.cx + cb.w)) := by
  obtain ⟨res, y0, hres, h1, h2, h3, h4, h5⟩ := float_position_spec shapes b cb x y hf h
  subst h3
  have hside : b.float = .left ∨ b.float = .right := by
    cases hb : b.float <;> simp_all
  rcases result_fits_or_is_free hres (Rat.le_of_lt hmh) hp with hfit | hfree
  · have hx : res.l ≤ x ∧ x + b.marginWidth ≤ res.r := by
      rcases hside with hs | hs
      · have := h4 hs; grind
      · have := h5 hs; grind
    obtain ⟨hno, hin1, hin2, _⟩ := no_overlap_of_fits hres hx.1 hx.2
    exact ⟨hno, Or.inr ⟨hin1, hin2⟩⟩
  · exact ⟨free_no_overlap shapes res.y _ hfree _ _, Or.inl hfree⟩

example : (findFloatPosition [⟨0, 0, 60, 50, .left⟩] ⟨0, 0, 0, 0, 0, 0, 50, 10, .right, .none, .bfc⟩
    ⟨0, 100, false⟩).toOption = some (50, 50) := by decide +kernel

/-! ## Sequences of floats (`float_layout` placement: clearance, position, `excluded_shapes.append`) -/

/-- Tops in document order never go up (rules 5 and 6 for *all* earlier floats). -/
def SortedTops (shapes : List Shape) : Prop := shapes.Pairwise (fun a b => a.y ≤ b.y)

/-- No two floats of the context overlap. -/
def PairwiseDisjoint (shapes : List Shape) : Prop :=
  shapes.Pairwise (fun a b => ¬ Overlaps b.x b.y b.mw b.mh a)

private theorem sorted_last (shapes : List Shape) (hs : SortedTops shapes) (l : Shape)
    (hl : shapes.getLast? = some l) : ∀ s ∈ shapes, s.y ≤ l.y := by
  obtain ⟨ys, rfl⟩ := List.getLast?_eq_some_iff.mp hl
  intro s hsm
  rcases List.mem_append.mp hsm with h | h
  · exact (List.pairwise_append.mp hs).2.2 s h l (List.mem_singleton.mpr rfl)
  · rw [List.mem_singleton.mp h]; exact Rat.le_refl

/-- A float the placement rules are about: it floats and has a margin box with positive height and non-negative
width (its border box may be empty). -/
def GoodFloat (b : ABox) : Prop :=
  b.float ≠ .none ∧ 0 < b.marginHeight ∧ 0 ≤ b.marginWidth

/-- The invariant of `context.excluded_shapes`. -/
def FloatsInv (shapes : List Shape) : Prop := Proper shapes ∧ SortedTops shapes ∧ PairwiseDisjoint shapes

theorem FloatsInv.nil : FloatsInv [] :=
  And.intro (fun _ h => nomatch h) (And.intro List.Pairwise.nil List.Pairwise.nil)

/-- One step of `float_layout`'s placement keeps the context well formed: the margin box of the new float is appended;
it is not above any earlier float and overlaps none of them. -/
theorem floatPlace_inv (shapes : List Shape) (b : ABox) (cb : CB) (b' : ABox) (shapes' : List Shape)
    (hg : GoodFloat b) (hinv : FloatsInv shapes) (h : floatPlace shapes b cb = .ok (b', shapes')) :
    shapes' = shapes ++ [b'.toShape] ∧ FloatsInv shapes' := by
  obtain ⟨hf, hmh, hmw⟩ := hg
  obtain ⟨hp, hs, hd⟩ := hinv
  obtain ⟨x, y, hpos, hb', hsh, hts⟩ := floatPlace_ok shapes b cb b' shapes' h
  obtain ⟨f1, f2, f3, f4, f5⟩ := afterClearance_fields shapes b
  obtain ⟨_, r2, _, _⟩ := float_rules shapes _ cb x y (by rw [f1]; exact hf) hpos
  obtain ⟨hno, _⟩ := float_no_overlap shapes _ cb x y (by rw [f1]; exact hf) (by rw [f3]; exact hmh) hp hpos
  rw [f3, f4] at hno
  refine ⟨hts, ?_⟩
  subst hsh
  refine ⟨?_, ?_, ?_⟩
  · intro s hsm
    rcases List.mem_append.mp hsm with h1 | h1
    · exact hp s h1
    · rw [List.mem_singleton.mp h1]; exact ⟨hmh, hmw⟩
  · unfold SortedTops
    rw [List.pairwise_append]
    refine ⟨hs, by simp, ?_⟩
    intro a ha c hc
    simp at hc; subst hc; simp
    cases hl : shapes.getLast? with
    | none => simp [List.getLast?_eq_none_iff] at hl; subst hl; simp at ha
    | some l =>
      have := sorted_last shapes hs l hl a ha
      have := r2 l hl
      grind
  · unfold PairwiseDisjoint
    rw [List.pairwise_append]
    refine ⟨hd, by simp, ?_⟩
    intro a ha c hc
    simp at hc; subst hc
    exact hno a ha

/-- Place a whole sequence of floats, one after the other (each with its own static position). -/
def placeAll (cb : CB) : List Shape → List ABox → Except PyErr (List Shape)
  | shapes, [] => .ok shapes
  | shapes, b :: bs =>
    match floatPlace shapes b cb with
    | .error e => .error e
    | .ok (_, shapes') => placeAll cb shapes' bs

/-- **Every arrangement**: whatever the sizes, margins, sides, `clear` values and static positions of
a sequence of floats, after placing all of them no two floats of the context overlap and their
tops are in document order. -/
theorem all_floats_disjoint_and_ordered (cb : CB) (bs : List ABox) (shapes shapes' : List Shape)
    (hb : ∀ b ∈ bs, GoodFloat b) (hinv : FloatsInv shapes)
    (h : placeAll cb shapes bs = .ok shapes') : FloatsInv shapes' := by
  fun_induction placeAll cb shapes bs with
  | case1 => cases h; exact hinv
  | case2 => cases h
  | case3 shapes b rest b' sh1 hpl ih =>
    simp only [List.forall_mem_cons] at hb
    exact ih hb.2 (floatPlace_inv shapes b cb b' sh1 hb.1 hinv hpl).2 h

example : (placeAll ⟨0, 100, false⟩ []
    [⟨0, 0, 0, 0, 0, 0, 60, 50, .left, .none, .bfc⟩, ⟨0, 0, 0, 0, 0, 0, 30, 20, .right, .none, .bfc⟩,
     ⟨0, 0, 0, 0, 0, 0, 35, 10, .left, .none, .bfc⟩, ⟨0, 0, 5, 0, 0, 0, 20, 10, .right, .left, .bfc⟩]).toOption
    = some [⟨0, 0, 60, 50, .left⟩, ⟨70, 0, 30, 20, .right⟩, ⟨60, 20, 35, 10, .left⟩, ⟨80, 50, 20, 15, .right⟩] := by
  decide +kernel

/-! ## Clearance of in-flow blocks and floats met inside a line (`Model/FloatFlow.lean`) -/

/-- **`clear` moves the top border edge below the named floats, from the collapsed position.**
`block_level_layout` computes `top_border_edge = position_y + collapsed_margin + clearance`: whatever the
margin `cm` the box's top margin collapses to with the adjoining margins of its previous siblings, the
resulting top border edge is at or below the bottom of every float named by `clear`, never above the
un-cleared position `y + cm`, and equal to one of the two (the un-cleared position, or the bottom of the
lowest named float): clearance is added to the *collapsed* position, not to the box's own margin. -/
theorem cleared_top_spec (shapes : List Shape) (c : Clear) (y cm : Rat) :
    let top := (clearedTop shapes c y cm).1
    (∀ s ∈ shapes, Named c s → s.bottom ≤ top) ∧ y + cm ≤ top ∧
    (top = y + cm ∨ ∃ s ∈ shapes, Named c s ∧ s.bottom = top) ∧
    ((clearedTop shapes c y cm).2 = true → y + cm < top) := by
  simp only [clearedTop]
  cases h : getClearance shapes c y cm with
  | none =>
    have := (clearance_none_iff shapes c y cm).mp h
    exact ⟨this, Rat.le_refl, Or.inl rfl, by simp⟩
  | some a =>
    obtain ⟨hpos, h1, h2⟩ := clearance_least shapes c y cm a h
    refine ⟨h1, by simp; grind, Or.inr h2, by intro _; simp; grind⟩

example : (clearedTop [⟨0, 0, 50, 54, .left⟩] .left 10 30).1 = 54 ∧
    (clearedTop [⟨0, 0, 50, 54, .left⟩] .left 10 45).1 = 55 := by decide +kernel

/-- The clearance `float_layout` adds to a float is the one `block_level_layout` adds to a block without collapsed
margin. -/
theorem afterClearance_py (shapes : List Shape) (b : ABox) :
    (afterClearance shapes b).py = (clearedTop shapes b.clear b.py 0).1 := by
  unfold afterClearance clearedTop
  split <;> simp [*, Rat.add_zero]

/-- A float is laid out at or below the position it is given and below every float its `clear` names
(`float_layout`: clearance only moves it down, `find_float_position` never up). -/
theorem floatPlace_not_above (shapes : List Shape) (b : ABox) (cb : CB) (b' : ABox) (shapes' : List Shape)
    (h : floatPlace shapes b cb = .ok (b', shapes')) :
    b.py ≤ b'.py ∧ ∀ s ∈ shapes, Named b.clear s → s.bottom ≤ b'.py := by
  obtain ⟨x, y, hpos, hb', _⟩ := floatPlace_ok shapes b cb b' shapes' h
  obtain ⟨y0, p, h1, _, h3, h4, _⟩ := findFloatPosition_ok shapes _ cb x y hpos
  obtain ⟨res, hres, _, h2, _⟩ := avoid_collisions_result shapes _ cb true p h3
  have r1 := (avoid_result_bounds _ shapes _ _ _ _ _ res hres).1
  obtain ⟨c1, c2, _⟩ := cleared_top_spec shapes b.clear b.py 0
  rw [afterClearance_py] at h1
  rw [Rat.add_zero] at c2
  simp only [if_true] at h2 r1
  -- cleared top ≤ where the loop starts ≤ where it ends = `y`
  have hy := Rat.le_trans h1 r1
  rw [← h2, ← h4] at hy
  rw [hb']
  exact ⟨Rat.le_trans c2 hy, fun s hs hn => Rat.le_trans (c1 s hs hn) hy⟩

/-- Once a float of a line waits, every later float of the line waits too, and the float list does not change. -/
theorem inline_waiting_is_suffix (cb : CB) (lineY : Rat) (shapes : List Shape) (rem : Rat) (bs : List ABox)
    (shapes' : List Shape) (out : List (ABox × Option (Rat × Rat × Rat × Rat)))
    (h : inlinePass1 cb lineY shapes rem true bs = .ok (shapes', out)) :
    shapes' = shapes ∧ ∀ e ∈ out, e.2 = none := by
  generalize hw : true = w at h
  fun_induction inlinePass1 cb lineY shapes rem w bs generalizing shapes' out with
  | case1 => cases h; simp
  | case3 shapes rem w b rest _ sh o hrec ih =>
    cases h
    exact (ih sh o rfl hrec).imp_right fun i2 => List.forall_mem_cons.mpr ⟨rfl, i2⟩
  | case6 _ _ _ _ _ hc => subst hw; simp at hc
  | _ => cases h

/-- **The floats laid out on a line form a prefix of the line's floats**: everything after the first deferred float
is deferred (and is then laid out from the line's bottom; that none of them is placed above an earlier one is
`inline_floats_not_above_line` and `FloatsInv`). -/
theorem inline_placed_is_prefix (cb : CB) (lineY : Rat) (shapes : List Shape) (rem : Rat) (bs : List ABox)
    (shapes' : List Shape) (out : List (ABox × Option (Rat × Rat × Rat × Rat)))
    (h : inlinePass1 cb lineY shapes rem false bs = .ok (shapes', out)) :
    ∃ n, (∀ e ∈ out.take n, e.2.isSome = true) ∧ (∀ e ∈ out.drop n, e.2 = none) := by
  generalize false = w at h
  fun_induction inlinePass1 cb lineY shapes rem w bs generalizing shapes' out with
  | case1 => cases h; exact ⟨0, by simp, by simp⟩
  | case3 shapes rem w b rest _ sh o hrec =>
    -- this float waits: everything after it waits
    cases h
    exact ⟨0, by simp, List.forall_mem_cons.mpr ⟨rfl, (inline_waiting_is_suffix cb lineY shapes rem rest sh o hrec).2⟩⟩
  | case6 shapes rem w b rest _ b' sh1 hpl sh o hrec ih =>
    cases h
    obtain ⟨n, j1, j2⟩ := ih sh o hrec
    exact ⟨n + 1, List.forall_mem_cons.mpr ⟨rfl, j1⟩, j2⟩
  | _ => cases h

end Wp.C11
