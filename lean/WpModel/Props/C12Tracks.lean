/-
C12 — grid track sizing without item contributions: `_resolve_tracks_sizes` on arbitrary lists of fixed (`px`, `%`,
`minmax()` of those) and flexible (`fr`) tracks.  1.3 conserves the space it distributes, fixed tracks stay within
their bounds, 1.4 hands out at most what 1.3 left, and as soon as the flex factors sum to at least 1 tracks and
gaps partition the container exactly.
-/
import WpModel.Model.Grid
import WpModel.Lemmas.Basic.Rat
import WpModel.Lemmas.Rel2

namespace Wp.C12
open Wp Wp.Grid

/-! ## 1.3 "maximize tracks" conserves space (all track lists) -/

/-- the base size of a track after 1.3 has offered it the share `d`: it stops at the growth limit -/
def grown (d : Rat) (t : TSize) : Rat :=
  if t.base + d > (match t.limit with | some l => l | none => t.base) then
    (match t.limit with | some l => l | none => t.base)
  else t.base + d

/-- one step of 1.3: the track grows to `grown d t`, and what it took is deducted from the running free space -/
theorem maximize_cons (d : Rat) (t : TSize) (rest : List TSize) (free : Rat) :
    maximize d (t :: rest) free =
      ({ t with base := grown d t } :: (maximize d rest (free - (grown d t - t.base))).1,
        (maximize d rest (free - (grown d t - t.base))).2) := by
  have hd : t.base + d - t.base = d := by grind
  cases hl : t.limit <;> simp only [maximize, grown, hl] <;> split <;> simp only [hd]

/-- `maximize` only moves space from `free_space` into the base sizes. -/
theorem maximize_conserves (d : Rat) :
    ∀ (tracks : List TSize) (free : Rat),
      sumBase (maximize d tracks free).1 + (maximize d tracks free).2 = sumBase tracks + free := by
  intro tracks
  induction tracks with
  | nil => intro free; rfl
  | cons t rest ih =>
    intro free
    rw [maximize_cons]
    have := ih (free - (grown d t - t.base))
    simp only [sumBase]
    grind

theorem maximize_length (d : Rat) :
    ∀ (tracks : List TSize) (free : Rat), (maximize d tracks free).1.length = tracks.length := by
  intro tracks
  induction tracks with
  | nil => intro free; rfl
  | cons t rest ih => intro free; rw [maximize_cons, List.length_cons, List.length_cons, ih]

/-- a track that had room (`base ≤ limit`) ends between its base size and its growth limit -/
def Bounded (t t' : TSize) : Prop :=
  t'.limit = t.limit ∧ ∀ l, t.limit = some l → t.base ≤ l → t.base ≤ t'.base ∧ t'.base ≤ l

theorem grown_bounded (d : Rat) (hd : 0 ≤ d) (t : TSize) : Bounded t { t with base := grown d t } := by
  refine ⟨rfl, fun l hl hle => ?_⟩
  simp only [grown, hl]
  split <;> constructor <;> grind

/-- `maximize` never shrinks a track and never pushes it beyond its growth limit. -/
theorem maximize_bounded (d : Rat) (hd : 0 ≤ d) :
    ∀ (tracks : List TSize) (free : Rat), Rel2 Bounded tracks (maximize d tracks free).1 := by
  intro tracks
  induction tracks with
  | nil => intro free; exact .nil
  | cons t rest ih => intro free; rw [maximize_cons]; exact .cons (grown_bounded d hd t) (ih _)

/-! ## Fixed (`px`, `%`, `minmax()` of those) and flexible (`fr`) tracks -/

def frSum : List (Breadth × Breadth) → Rat
  | [] => 0
  | fn :: r => frValue fn.2 + frSum r

/-- the length a `px` / `%` breadth resolves to -/
def lenOf (pbox : Rat) : Breadth → Option Rat
  | .px q => some q
  | .pct q => some (pctOf q pbox)
  | _ => none

/-- sizing functions of a fixed track (`a` to `b`, both lengths) or of a flexible track -/
inductive FixedOrFr (pbox : Rat) : (Breadth × Breadth) → Prop
  | fixed (mn mx : Breadth) (a b : Rat) (ha : lenOf pbox mn = some a) (hb : lenOf pbox mx = some b) :
      FixedOrFr pbox (mn, mx)
  | fr (f : Rat) (h : 0 ≤ f) : FixedOrFr pbox (.auto, .fr f)

/-- all that track sizing without items needs of the sizing functions: a flexible track (`fr` maximum) has an intrinsic
minimum, hence base size 0, and a non-negative factor; nothing is asked of the other tracks -/
def FlexOk (fn : Breadth × Breadth) : Prop := isFr fn.2 = true → isIntrinsic fn.1 = true ∧ 0 ≤ frValue fn.2

theorem FixedOrFr.flexOk {pbox : Rat} {fn : Breadth × Breadth} (h : FixedOrFr pbox fn) : FlexOk fn := by
  cases h with
  | fixed mn mx a b ha hb => intro hfr; cases mx <;> simp_all [lenOf, isFr]
  | fr f h => intro _; exact ⟨rfl, h⟩

/-- a track after 1.1–1.2.5 when no item contributes -/
def prepG (pbox : Rat) (fn : Breadth × Breadth) : TSize :=
  match (initTrack pbox fn).limit with
  | none => { initTrack pbox fn with limit := some (initTrack pbox fn).base }
  | _ => initTrack pbox fn

private theorem zipWith3_replicate_nil (dirX : Bool) (fns : List (Breadth × Breadth)) (ts : List TSize)
    (h : ts.length = fns.length) :
    zipWith3 (fun f t c => fitNonSpanning dirX f t c) fns ts (List.replicate ts.length []) = ts := by
  induction fns generalizing ts with
  | nil => cases ts <;> simp_all [zipWith3]
  | cons f fs ih =>
    cases ts with
    | nil => simp at h
    | cons t tr =>
      simp only [List.length_cons, List.replicate_succ, zipWith3]
      rw [ih tr (by simpa using h)]
      simp [fitNonSpanning]

/-- 1.1–1.2.5 without items, for every list of sizing functions. -/
theorem prepareTracks_noItems (fns : List (Breadth × Breadth)) (pbox : Rat) (start : Int) (dirX : Bool) :
    prepareTracks fns pbox [] start dirX = .ok (fns.map (prepG pbox)) := by
  unfold prepareTracks
  simp only [assignChildren, checkSpanning, List.filter_nil, List.foldlM_nil, List.length_nil, List.range_zero,
    List.zip_nil_right, List.forM_eq_forM, List.forM_nil, bind, Except.bind, pure, Except.pure]
  rw [zipWith3_replicate_nil dirX fns _ (by simp)]
  congr 1
  rw [List.map_map]
  apply List.map_congr_left
  intro fn _
  simp only [Function.comp, prepG]
  split <;> simp_all

/-- the flexible tracks of `z` have a zero base size and a non-negative factor -/
def FrOk (z : List TF) : Prop := ∀ p ∈ z, isFr p.2.2 = true → p.1.base = 0 ∧ 0 ≤ frValue p.2.2

private theorem frOk_tail {p : TF} {z : List TF} (h : FrOk (p :: z)) : FrOk z :=
  fun q hq => h q (by simp [hq])

theorem frLeftover_zero (z : List TF) (h : FrOk z) : frLeftover z = 0 := by
  induction z with
  | nil => rfl
  | cons p r ih =>
    obtain ⟨t, f⟩ := p
    simp only [frLeftover]
    rw [ih (frOk_tail h)]
    by_cases hf : isFr f.2 = true
    · have := (h (t, f) (by simp) hf).1
      simp only [hf, if_true]
      simp only [] at this
      rw [this]; grind
    · simp only [hf, Bool.false_eq_true, if_false]; grind

private theorem frValue_nonfr (b : Breadth) (h : isFr b = false) : frValue b = 0 := by
  cases b <;> simp_all [isFr, frValue]

theorem frFactorSum_nil (z : List TF) (i : Nat) : frFactorSum [] z i = frSum (z.map (·.2)) := by
  induction z generalizing i with
  | nil => rfl
  | cons p r ih =>
    obtain ⟨t, f⟩ := p
    simp only [frFactorSum, List.map_cons, frSum]
    rw [ih]
    by_cases hf : isFr f.2 = true
    · simp [hf]
    · have hf' : isFr f.2 = false := by simpa using hf
      simp [hf', frValue_nonfr _ hf']

theorem frMark_nil (hyp : Rat) (hh : 0 ≤ hyp) (z : List TF) (h : FrOk z) (i : Nat) (free : Rat) (stop : Bool) :
    frMark hyp z i ([], free, stop) = ([], free, stop) := by
  induction z generalizing i with
  | nil => rfl
  | cons p r ih =>
    obtain ⟨t, f⟩ := p
    simp only [frMark]
    have hcond : (!([] : List Nat).contains i && isFr f.2 && decide (hyp * frValue f.2 < t.base)) = false := by
      by_cases hf : isFr f.2 = true
      · obtain ⟨h0, h1⟩ := h (t, f) (by simp) hf
        simp only [] at h0 h1
        have : 0 ≤ hyp * frValue f.2 := Rat.mul_nonneg hh h1
        have hn : ¬ (hyp * frValue f.2 < t.base) := by rw [h0]; exact Rat.not_lt.mpr this
        simp [hn]
      · have hf' : isFr f.2 = false := by simpa using hf
        simp [hf']
    simp only [hcond, Bool.false_eq_true, if_false]
    exact ih (frOk_tail h) _

/-- the final size of a track of `z`: flexible tracks take `flex fraction × factor` -/
def expandG (ff : Rat) (p : TF) : TSize :=
  if isFr p.2.2 then { p.1 with base := ff * frValue p.2.2 } else p.1

theorem frExpand_nil (ff : Rat) (hff : 0 ≤ ff) (z : List TF) (h : FrOk z) (i : Nat) (free : Rat) :
    frExpand ff [] z i (some free) = (z.map (expandG ff), some (free - ff * frSum (z.map (·.2)))) := by
  induction z generalizing i free with
  | nil => simp [frExpand, frSum]; grind
  | cons p r ih =>
    obtain ⟨t, f⟩ := p
    have ihr := ih (frOk_tail h)
    simp only [frExpand, List.map_cons, frSum]
    by_cases hf : isFr f.2 = true
    · obtain ⟨h0, h1⟩ := h (t, f) (by simp) hf
      simp only [] at h0 h1
      by_cases hpos : ff * frValue f.2 > t.base
      · have hc : (isFr f.2 && !([] : List Nat).contains i && decide (ff * frValue f.2 > t.base)) = true := by
          simp [hf, hpos]
        simp only [hc, if_true, Option.map_some, ihr]
        simp only [expandG, hf, if_true]
        congr 2; grind
      · have hc : (isFr f.2 && !([] : List Nat).contains i && decide (ff * frValue f.2 > t.base)) = false := by
          simp [hpos]
        have hz : ff * frValue f.2 = 0 := by
          have : 0 ≤ ff * frValue f.2 := Rat.mul_nonneg hff h1
          rw [h0] at hpos
          grind
        simp only [hc, Bool.false_eq_true, if_false, ihr]
        simp only [expandG, hf, if_true, hz]
        congr 2
        · cases t; simp_all
        · grind
    · have hf' : isFr f.2 = false := by simpa using hf
      simp only [hf', Bool.false_and, Bool.false_eq_true, if_false, ihr]
      simp only [expandG, hf', Bool.false_eq_true, if_false, frValue_nonfr _ hf']
      congr 2; grind

theorem sumBase_expand (ff : Rat) (z : List TF) (h : FrOk z) :
    sumBase (z.map (expandG ff)) = sumBase (z.map (·.1)) + ff * frSum (z.map (·.2)) := by
  induction z with
  | nil => simp [sumBase, frSum]; grind
  | cons p r ih =>
    obtain ⟨t, f⟩ := p
    simp only [List.map_cons, sumBase, frSum]
    rw [ih (frOk_tail h)]
    by_cases hf : isFr f.2 = true
    · have h0 := (h (t, f) (by simp) hf).1
      simp only [] at h0
      simp only [expandG, hf, if_true, h0]; grind
    · have hf' : isFr f.2 = false := by simpa using hf
      simp only [expandG, hf', Bool.false_eq_true, if_false, frValue_nonfr _ hf']; grind

private theorem prepG_flex (pbox : Rat) {fn : Breadth × Breadth} (h1 : isIntrinsic fn.1 = true) (h2 : isFr fn.2 = true) :
    prepG pbox fn = { base := 0, limit := some 0 } := by
  obtain ⟨mn, mx⟩ := fn
  cases mn <;> cases mx <;> simp_all [prepG, initTrack, isIntrinsic, isFr]

/-- a flexible track leaves 1.1–1.2.5 as `{ base := 0, limit := some 0 }` (`prepG_flex`), so `Bounded` keeps its base at 0 through 1.3 -/
private theorem frOk_of_bounded (pbox : Rat) :
    ∀ (fns : List (Breadth × Breadth)) (T1 : List TSize),
      (∀ fn ∈ fns, FlexOk fn) → Rel2 Bounded (fns.map (prepG pbox)) T1 → FrOk (List.zip T1 fns) := by
  intro fns
  induction fns with
  | nil => intro T1 _ _ p hp; cases T1 <;> simp at hp
  | cons fn rest ih =>
    intro T1 hfns hb
    cases hb with
    | @cons _ t _ tr hbd hb =>
      intro p hp
      simp only [List.zip_cons_cons, List.mem_cons] at hp
      rcases hp with rfl | hp
      · intro hfr
        obtain ⟨hi, h⟩ := hfns fn (by simp) hfr
        refine ⟨?_, h⟩
        rw [prepG_flex pbox hi hfr] at hbd
        have := hbd.2 0 rfl (Rat.le_refl)
        simp only [] at this
        exact Rat.le_antisymm this.2 this.1
      · exact ih tr (fun x hx => hfns x (by simp [hx])) hb p hp

theorem frSum_nonneg_general (fns : List (Breadth × Breadth)) (hfns : ∀ fn ∈ fns, FlexOk fn) :
    0 ≤ frSum fns := by
  induction fns with
  | nil => simp [frSum]
  | cons fn rest ih =>
    have hr := ih (fun f hf => hfns f (by simp [hf]))
    simp only [frSum]
    by_cases hf : isFr fn.2 = true
    · have := (hfns fn (by simp) hf).2; grind
    · rw [frValue_nonfr _ (by simpa using hf)]; grind

private theorem max_one_pos (a : Rat) : 0 < max 1 a := by have := Rat.le_max_left 1 a; grind

private theorem stretchStep_false (fns : List (Breadth × Breadth)) (ts : List TSize) (free : Option Rat) :
    stretchStep fns ts free false = ts := by
  cases free <;> rfl

private theorem stretchStep_zero (fns : List (Breadth × Breadth)) (ts : List TSize) (stretch : Bool) :
    stretchStep fns ts (some 0) stretch = ts := by
  have : ¬ ((0 : Rat) > 0) := by decide
  simp [stretchStep, this]

/-- `_resolve_tracks_sizes` without item contributions, in a container of definite size `b` where the minimum sizes
and gaps leave some room (`hpos`) and 1.3 does not use it all (`hleft`): 1.4 gives every `fr` track
`factor × left / max 1 (Σ factors)`; 1.3 hands to 1.4 exactly what it did not use (`maximize_conserves`), so that
tracks and gaps fall short of the container by what 1.4 leaves, which goes to step 1.5. -/
private theorem resolveTracks_noItems (fns : List (Breadth × Breadth)) (b gap : Rat) (start : Int)
    (dirX stretch : Bool) (hfns : ∀ fn ∈ fns, FlexOk fn) (hne : fns ≠ [])
    (free : Rat) (hfree : free = tracksFree b gap (fns.map (prepG b))) (hpos : free > 0)
    (T1 : List TSize) (left : Rat)
    (hmax : maximize (free / (fns.map (prepG b)).length) (fns.map (prepG b)) free = (T1, left))
    (hleft : left > 0) :
    resolveTracks fns (some b) [] start dirX gap stretch =
      .ok (stretchStep fns ((List.zip T1 fns).map (expandG (left / max 1 (frSum fns))))
        (some (left - left / max 1 (frSum fns) * frSum fns)) stretch) ∧
    sumBase ((List.zip T1 fns).map (expandG (left / max 1 (frSum fns)))) + ((fns.length : Int) - 1 : Int) * gap =
      b - (left - left / max 1 (frSum fns) * frSum fns) := by
  have hff : 0 ≤ left / max 1 (frSum fns) := Rat.le_of_lt (Rat.div_pos hleft (max_one_pos _))
  have hlen0 : (fns.map (prepG b)).length ≠ 0 := by
    rw [List.length_map]; exact fun h => hne (List.eq_nil_of_length_eq_zero h)
  have hd : free / ((fns.map (prepG b)).length : Nat) > 0 :=
    Rat.div_pos hpos (by exact_mod_cast Nat.pos_of_ne_zero hlen0)
  have hbounded : Rel2 Bounded (fns.map (prepG b)) T1 := by
    have := maximize_bounded _ (Rat.le_of_lt hd) (fns.map (prepG b)) free
    rw [hmax] at this; exact this
  have hlenT : T1.length = fns.length := by
    have := maximize_length (free / ((fns.map (prepG b)).length : Nat)) (fns.map (prepG b)) free
    rw [hmax] at this; simpa using this
  have hok : FrOk (List.zip T1 fns) := frOk_of_bounded b fns T1 hfns hbounded
  have hz1 : (List.zip T1 fns).map (·.1) = T1 := List.map_fst_zip (by omega)
  have hz2 : (List.zip T1 fns).map (·.2) = fns := List.map_snd_zip (by omega)
  have hcons : sumBase T1 + left = sumBase (fns.map (prepG b)) + free := by
    have := maximize_conserves (free / ((fns.map (prepG b)).length : Nat)) (fns.map (prepG b)) free
    rw [hmax] at this; exact this
  refine ⟨?_, ?_⟩
  · unfold resolveTracks
    simp only [prepareTracks_noItems, bind, Except.bind, Option.map_some, ← hfree]
    have hstep : maximizeStep (fns.map (prepG b)) (some free) = .ok (T1, some left) := by
      unfold maximizeStep
      simp only [hpos, if_true, beq_iff_eq, hlen0, if_false, hmax, pure, Except.pure]
    rw [hstep]
    simp only []
    have hpass : frPass (List.zip T1 fns) [] left = (left / max 1 (frSum fns), [], left, true) := by
      unfold frPass
      simp only [frLeftover_zero _ hok, frFactorSum_nil, hz2, Rat.add_zero]
      rw [frMark_nil _ hff _ hok]
    have hflex : flexStep (List.zip T1 fns) (some left) = .ok (left / max 1 (frSum fns), [], some left) := by
      unfold flexStep
      simp only [Rat.not_le.mpr hleft, if_false]
      unfold frLoop
      simp only [hpass, if_true, pure, Except.pure]
    rw [hflex]
    simp only [frExpand_nil _ hff _ hok, pure, Except.pure, hz2]
  · rw [sumBase_expand _ _ hok, hz1, hz2]
    have h2 : free = b - sumBase (fns.map (prepG b)) - ((fns.length : Int) - 1 : Int) * gap := by
      rw [hfree]; unfold tracksFree; rw [List.length_map]
    grind

/-- `tracks_partition`, no overflow (the clause of the `tracks_fit_violation` oracle, for all inputs of the model):
for arbitrary lists of fixed (`px`, `%`, `minmax()` of those) and `fr` tracks — *whatever the sum of the flex factors,
none included* —, no item contribution, a definite container size `b` in which the minimum sizes and gaps fit with
room to spare (`hpos`), `_resolve_tracks_sizes` succeeds and the tracks and gaps never exceed the container: 1.3 hands
to 1.4 exactly what it did not use (`maximize_conserves`) and 1.4 hands out at most that.  `_partial`: stated without
step 1.5 (content alignment other than `normal` / `stretch`; with them the rest goes to the `auto` minimums) and for
`left > 0` (with nothing left after 1.3 the tracks are those of 1.3 and fill the container). -/
theorem tracks_no_overflow_partial (fns : List (Breadth × Breadth)) (b gap : Rat) (start : Int) (dirX : Bool)
    (hfns : ∀ fn ∈ fns, FixedOrFr b fn) (hne : fns ≠ [])
    (free : Rat) (hfree : free = tracksFree b gap (fns.map (prepG b))) (hpos : free > 0)
    (T1 : List TSize) (left : Rat)
    (hmax : maximize (free / (fns.map (prepG b)).length) (fns.map (prepG b)) free = (T1, left))
    (hleft : left > 0) :
    resolveTracks fns (some b) [] start dirX gap false =
      .ok ((List.zip T1 fns).map (expandG (left / max 1 (frSum fns)))) ∧
    sumBase ((List.zip T1 fns).map (expandG (left / max 1 (frSum fns)))) + ((fns.length : Int) - 1 : Int) * gap ≤ b := by
  obtain ⟨h1, h2⟩ := resolveTracks_noItems fns b gap start dirX false (fun fn h => (hfns fn h).flexOk) hne free hfree hpos T1 left hmax hleft
  rw [stretchStep_false] at h1
  refine ⟨h1, ?_⟩
  -- 1.4 hands out `left / max 1 S · S ≤ left`
  have hle : left / max 1 (frSum fns) * frSum fns ≤ left := by
    have h := Rat.mul_le_mul_of_nonneg_left (Rat.le_max_right 1 (frSum fns))
      (Rat.le_of_lt (Rat.div_pos hleft (max_one_pos (frSum fns))))
    rwa [Rat.div_mul_cancel (Rat.ne_of_gt (max_one_pos _))] at h
  rw [h2]; grind

-- tracks_no_overflow_partial: `minmax(0, 10px) 0.5fr` in 100px, `justify-content: start`: 1.3 leaves 90 of the 100px of
-- free space (the first track stops at its limit), 1.4 hands out half of it: 10 + 45 <= 100
example :
    let fns : List (Breadth × Breadth) := [(.px 0, .px 10), (.auto, .fr (1/2))]
    (∀ fn ∈ fns, fn = (.px 0, .px 10) ∨ fn = (.auto, .fr (1/2))) ∧
    tracksFree 100 0 (fns.map (prepG 100)) = 100 ∧
    (maximize (100 / 2) (fns.map (prepG 100)) 100).2 = 90 ∧
    (resolveTracks fns (some 100) [] 0 true 0 false).toOption.map (List.map (·.base)) = some [10, 45] := by
  decide +kernel

/-- `tracks_partition` for arbitrary lists of fixed (`px`, `%`, `minmax()` of those) and `fr`
tracks, no item contribution, a definite container size `b`, flex factors summing to at least 1:
if some free space is left after 1.3 has grown the fixed tracks (`hleft`), `_resolve_tracks_sizes`
succeeds, each `fr` track gets `factor × left / Σ factors`, and tracks and gaps fill the container
exactly.  (That every track of `T1` lies between its base size and its growth limit is
`maximize_bounded`, which holds of every track list.) -/
theorem tracks_partition_general (fns : List (Breadth × Breadth)) (b gap : Rat) (start : Int)
    (dirX stretch : Bool)
    (hfns : ∀ fn ∈ fns, FlexOk fn) (hne : fns ≠ []) (hsum : frSum fns ≥ 1)
    (free : Rat) (hfree : free = tracksFree b gap (fns.map (prepG b))) (hpos : free > 0)
    (T1 : List TSize) (left : Rat)
    (hmax : maximize (free / (fns.map (prepG b)).length) (fns.map (prepG b)) free = (T1, left))
    (hleft : left > 0) :
    resolveTracks fns (some b) [] start dirX gap stretch =
      .ok ((List.zip T1 fns).map (expandG (left / frSum fns))) ∧
    sumBase ((List.zip T1 fns).map (expandG (left / frSum fns))) + ((fns.length : Int) - 1 : Int) * gap = b := by
  obtain ⟨h1, h2⟩ := resolveTracks_noItems fns b gap start dirX stretch hfns hne free hfree hpos T1 left hmax hleft
  have hm : max 1 (frSum fns) = frSum fns := Rat.max_eq_right hsum
  -- the whole of `left` is handed out
  have hall : left - left / frSum fns * frSum fns = 0 := by
    rw [Rat.div_mul_cancel (by grind : frSum fns ≠ 0)]; exact Rat.sub_self
  rw [hm, hall] at h1 h2
  rw [stretchStep_zero] at h1
  exact ⟨h1, by rw [h2]; grind⟩

/-- the space the fixed tracks can still take: `Σ (growth limit − base size)` -/
def growRoom : List TSize → Rat
  | [] => 0
  | t :: r => (match t.limit with | some l => l - t.base | none => 0) + growRoom r

/-- 1.3 never hands out more than the room the tracks have. -/
theorem maximize_left_ge (d : Rat) :
    ∀ (tracks : List TSize) (free : Rat), (∀ t ∈ tracks, ∀ l, t.limit = some l → t.base ≤ l) →
      (maximize d tracks free).2 ≥ free - growRoom tracks := by
  intro tracks
  induction tracks with
  | nil => intro free _; simp only [maximize, growRoom]; grind
  | cons t rest ih =>
    intro free h
    have ihr := ih (free - (grown d t - t.base)) (fun x hx => h x (by simp [hx]))
    -- the track takes at most its room
    have htake : grown d t - t.base ≤ (match t.limit with | some l => l - t.base | none => 0) := by
      unfold grown
      cases hl : t.limit with
      | none => simp only []; split <;> grind
      | some l => have := h t (by simp) l hl; simp only []; split <;> grind
    rw [maximize_cons]
    simp only [growRoom]
    grind

private theorem prepG_room (pbox : Rat) (fn : Breadth × Breadth) :
    ∀ l, (prepG pbox fn).limit = some l → (prepG pbox fn).base ≤ l := by
  intro l
  fun_cases prepG pbox fn <;> intro hl
  · cases hl; exact Rat.le_refl
  · unfold initTrack at hl ⊢
    simp only [] at hl ⊢
    split at hl
    · simp at hl; subst hl; grind
    · simp at hl

/-- `tracks_partition_general` with a checkable premise: there is room in the container for every
track maximum (`Σ growth limits + gaps < b`). -/
theorem tracks_partition_room (fns : List (Breadth × Breadth)) (b gap : Rat) (start : Int)
    (dirX stretch : Bool)
    (hfns : ∀ fn ∈ fns, FixedOrFr b fn) (hne : fns ≠ []) (hsum : frSum fns ≥ 1)
    (hroom : tracksFree b gap (fns.map (prepG b)) - growRoom (fns.map (prepG b)) > 0)
    (hnonneg : growRoom (fns.map (prepG b)) ≥ 0) :
    ∃ ts, resolveTracks fns (some b) [] start dirX gap stretch = .ok ts ∧
      sumBase ts + ((fns.length : Int) - 1 : Int) * gap = b := by
  have hpos : tracksFree b gap (fns.map (prepG b)) > 0 := by grind
  have hge := maximize_left_ge (tracksFree b gap (fns.map (prepG b)) / ((fns.map (prepG b)).length : Nat))
    (fns.map (prepG b)) (tracksFree b gap (fns.map (prepG b))) (by
      intro t ht l hl
      obtain ⟨fn, _, rfl⟩ := List.mem_map.mp ht
      exact prepG_room b fn l hl)
  obtain ⟨h1, h2⟩ := tracks_partition_general fns b gap start dirX stretch (fun fn h => (hfns fn h).flexOk) hne hsum _ rfl hpos
    _ _ rfl (by grind)
  exact ⟨_, h1, h2⟩

-- `minmax(10px, 30px) 25% 1fr 3fr` with a 4px gap in 200px: the fixed tracks end at 30 and 50, 108 is left
example :
    let fns : List (Breadth × Breadth) := [(.px 10, .px 30), (.pct 25, .pct 25), (.auto, .fr 1), (.auto, .fr 3)]
    (∀ fn ∈ fns, fn = (.px 10, .px 30) ∨ fn = (.pct 25, .pct 25) ∨ fn = (.auto, .fr 1) ∨ fn = (.auto, .fr 3)) ∧
    frSum fns ≥ 1 ∧
    tracksFree 200 4 (fns.map (prepG 200)) - growRoom (fns.map (prepG 200)) > 0 ∧
    (resolveTracks fns (some 200) [] 0 true 4 false).toOption.map (List.map (·.base)) = some [30, 50, 27, 81] := by
  decide +kernel

example : FixedOrFr 200 (.px 10, .px 30) ∧ FixedOrFr 200 (.pct 25, .pct 25) ∧ FixedOrFr 200 (.auto, .fr 3) :=
  ⟨.fixed _ _ 10 30 rfl rfl, .fixed _ _ _ _ rfl rfl, .fr 3 (by decide +kernel)⟩

/-! ## The case of plain `px` and `fr` tracks -/

/-- a fixed (`px`) track or a flexible (`fr`) track, as `_get_sizing_functions` returns them -/
inductive PxFr : (Breadth × Breadth) → Prop
  | px (q : Rat) (h : 0 ≤ q) : PxFr (.px q, .px q)
  | fr (f : Rat) (h : 0 ≤ f) : PxFr (.auto, .fr f)

def pxSum : List (Breadth × Breadth) → Rat
  | [] => 0
  | fn :: r => (match fn.2 with | .px q => q | _ => 0) + pxSum r

/-- the final size of a track: its fixed size, or `flex fraction × factor` -/
def finalTrack (ff : Rat) (fn : Breadth × Breadth) : TSize :=
  match fn.2 with
  | .px q => { base := q, limit := some q }
  | .fr f => { base := ff * f, limit := some 0 }
  | _ => { base := 0, limit := some 0 }

theorem PxFr.fixedOrFr (b : Rat) {fn : Breadth × Breadth} (h : PxFr fn) : FixedOrFr b fn := by
  cases h with
  | px q _ => exact .fixed _ _ q q rfl rfl
  | fr f h => exact .fr f h

/-- a `px` or `fr` track has no room to grow in 1.3 -/
private theorem prepG_pxFr (b : Rat) {fn : Breadth × Breadth} (h : PxFr fn) :
    (prepG b fn).limit = some (prepG b fn).base ∧ (prepG b fn).base = (match fn.2 with | .px q => q | _ => 0) := by
  cases h with
  | px q _ => simp [prepG, initTrack, Rat.max_eq_left Rat.le_refl]
  | fr f _ => simp [prepG, initTrack]

private theorem sumBase_prepG (b : Rat) (fns : List (Breadth × Breadth)) (hfns : ∀ fn ∈ fns, PxFr fn) :
    sumBase (fns.map (prepG b)) = pxSum fns := by
  induction fns with
  | nil => rfl
  | cons fn r ih =>
    simp only [List.map_cons, sumBase, pxSum]
    rw [ih (fun x hx => hfns x (by simp [hx])), (prepG_pxFr b (hfns fn (by simp))).2]

/-- 1.3 leaves tracks that are at their growth limit as they are, and hands all the free space on -/
private theorem maximize_full (d : Rat) (hd : d > 0) (ts : List TSize) (free : Rat)
    (h : ∀ t ∈ ts, t.limit = some t.base) : maximize d ts free = (ts, free) := by
  induction ts generalizing free with
  | nil => rfl
  | cons t r ih =>
    obtain ⟨base, limit⟩ := t
    have ht : limit = some base := h ⟨base, limit⟩ (by simp)
    subst ht
    have hgt : base + d > base := by grind
    simp only [maximize, hgt, if_true]
    rw [Rat.sub_self, Rat.sub_zero, ih _ (fun x hx => h x (by simp [hx]))]

private theorem expandG_pxFr (b ff : Rat) (fns : List (Breadth × Breadth)) (hfns : ∀ fn ∈ fns, PxFr fn) :
    (List.zip (fns.map (prepG b)) fns).map (expandG ff) = fns.map (finalTrack ff) := by
  induction fns with
  | nil => rfl
  | cons fn r ih =>
    simp only [List.map_cons, List.zip_cons_cons]
    rw [ih (fun x hx => hfns x (by simp [hx]))]
    congr 1
    cases hfns fn (by simp) with
    | px q _ => simp [expandG, isFr, finalTrack, prepG, initTrack, Rat.max_eq_left Rat.le_refl]
    | fr f _ => simp [expandG, isFr, frValue, finalTrack, prepG, initTrack]

/-- `tracks_partition`: px and fr tracks (as produced by `_get_sizing_functions`), no item
contribution, a definite container size `b`, flex factors summing to at least 1 and positive free
space: `_resolve_tracks_sizes` succeeds, every px track keeps its size, every fr track gets
`factor × free / Σ factors`, and the tracks together with the gaps fill the container exactly. -/
theorem tracks_partition (fns : List (Breadth × Breadth)) (b gap : Rat) (start : Int) (dirX stretch : Bool)
    (hfns : ∀ fn ∈ fns, PxFr fn) (hne : fns ≠ [])
    (hsum : frSum fns ≥ 1)
    (hfree : b - pxSum fns - ((fns.length : Int) - 1 : Int) * gap > 0) :
    let free := b - pxSum fns - ((fns.length : Int) - 1 : Int) * gap
    resolveTracks fns (some b) [] start dirX gap stretch = .ok (fns.map (finalTrack (free / frSum fns))) ∧
    sumBase (fns.map (finalTrack (free / frSum fns))) + ((fns.length : Int) - 1 : Int) * gap = b := by
  intro free
  have hprep : tracksFree b gap (fns.map (prepG b)) = free := by
    unfold tracksFree; rw [sumBase_prepG b fns hfns, List.length_map]
  have hlen : (0 : Rat) < ((fns.map (prepG b)).length : Nat) := by
    rw [List.length_map]
    exact_mod_cast List.length_pos_iff.mpr hne
  have hmax := maximize_full _ (Rat.div_pos hfree hlen) (fns.map (prepG b)) free (by
    intro t ht
    obtain ⟨fn, hfn, rfl⟩ := List.mem_map.mp ht
    exact (prepG_pxFr b (hfns fn hfn)).1)
  obtain ⟨h1, h2⟩ := tracks_partition_general fns b gap start dirX stretch
    (fun fn hfn => ((hfns fn hfn).fixedOrFr b).flexOk) hne hsum free hprep.symm hfree _ _ hmax hfree
  rw [expandG_pxFr b _ fns hfns] at h1 h2
  exact ⟨h1, h2⟩

open Wp.Grid in
-- tracks_partition: `20px 1fr 3fr` with a 4px gap in 108px: free = 80, 1fr = 20
example :
    let fns : List (Breadth × Breadth) := [(.px 20, .px 20), (.auto, .fr 1), (.auto, .fr 3)]
    frSum fns ≥ 1 ∧ (108 : Rat) - pxSum fns - ((fns.length : Int) - 1 : Int) * 4 > 0 ∧
    (resolveTracks fns (some 108) [] 0 true 4 true).toOption.map (List.map (·.base)) = some [20, 20, 60] := by
  decide +kernel

end Wp.C12
