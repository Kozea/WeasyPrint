/-
C01 for PM stage 2c (multi-column containers, `Model/PaginateCol.lean`).

1. `embed_agrees`: on documents without containers the extended model *is* stage 1 — every stage-1 theorem
   (C01.segment, C01.pages_conserve, C03.page_progress, C02.paginate_terminates, C03Geo.paginate_line_fits, C04 …)
   holds for the stage-1 fragment of the extended grammar (`pages_conserve_embedded` shows the transfer).
2. Conservation for the extended grammar: `segment` (every `block_level_layout` call, including a container:
   the lines of the fragment followed by the lines the resume position designates are the lines from the skip
   position) and `pages_conserve` (the pages of `make_all_pages`, concatenated, show every line of the document
   exactly once, in order), for ALL documents with any number of columns, `column-fill` balance or auto, a
   definite container height or not, ANY `column-span: all` children (paragraphs, blocks with children), any
   nesting / geometry / break values.  The only excluding hypothesis is `NoFixedHeight` (blocks and
   paragraphs; known finding `fixed-height-forgets-overflow`); `WellFormed` is `orphans, widows ≥ 1` (what the
   validator enforces).
   Nothing is asked of spanning children: the two defects that lost or repeated their content were repaired in
   /repo by b24b457, the mis-levelled resume position of spanning blocks by d7e3d63 (`Witness/C01Col.lean` holds the
   regression theorems on the former counterexamples).  The proof is the loop invariant over `columns_and_blocks`
   (`Lemmas/ColSegBlock.colsLoop_spec`: spanning children one by one, groups of columns each ending at the next
   spanning child — `layoutKids_take`).
3. `find_earlier_skips_container`: `find_earlier_page_break` never looks into a container (repair 3162604), so
   no resume position is ever built from the index-less children of a container.
4. `span_resume_roundtrip`: the resume position of a spanning child is stored at its own level.
-/
import WpModel.Lemmas.ColEmbedLayout
import WpModel.Lemmas.ColSegPages
import WpModel.Props.C01

namespace Wp.C01Col
open Wp Wp.PM Wp.PMC

/-! ### the embedding -/

/-- **Embedding theorem.** For every stage-1 document and every fuel, the extended pagination of the embedded
document is the embedding of the stage-1 pagination (and it never raises). -/
theorem embed_agrees (d : PM.Doc) (fuel : Nat) :
    (paginateCol (embedDoc d) fuel).pages? = (PM.paginate d fuel).map (List.map embedPage) ∧
    (paginateCol (embedDoc d) fuel).isRaised = false := by
  unfold paginateCol PM.paginate
  rw [firstRight_embed]
  have h : PMC.boxPageStart (embedDoc d).root = PM.boxPageStart d.root := boxPageStart_embed d.root
  rw [h]
  exact makeAllPages_embed d fuel 0 none _ _

/-- Every `block_level_layout` call agrees (fragment, resume position, next page, adjoining margins). -/
theorem embed_layout_agrees (box : PBox) (c : Ctx) (idx : Nat) (y bs : Rat) (skip : Option Resume)
    (cbIsRoot pie : Bool) (adjL : List Rat) :
    PMC.layoutBox (cOf c) (embed box) idx y bs skip cbIsRoot pie adjL =
      embedResult (PM.layoutBox c box idx y bs skip cbIsRoot pie adjL) :=
  layoutBox_embed box c idx y bs skip cbIsRoot pie adjL

mutual
theorem fragLines_embed : (f : Frag) → PMC.fragLines (embedFrag f) = PM.fragLines f
  | .para _ _ _ _ _ _ => by simp [embedFrag, PMC.fragLines, PM.fragLines]
  | .block _ _ _ _ kids => by simp [embedFrag, PMC.fragLines, PM.fragLines, fragLinesList_embed kids]
theorem fragLinesList_embed : (fs : List Frag) → PMC.fragLinesList (embedFragList fs) = PM.fragLinesList fs
  | [] => by simp [embedFragList, PMC.fragLinesList, PM.fragLinesList]
  | f :: fs => by
    simp [embedFragList, PMC.fragLinesList, PM.fragLinesList, fragLines_embed f, fragLinesList_embed fs]
end

/-- Transfer of a stage-1 theorem through the embedding: the pages the *extended* model produces for an embedded
document show every line exactly once, in order (`C01.pages_conserve`). -/
theorem pages_conserve_embedded (d : PM.Doc) (hN : PM.NoFixedHeight d.root) (hW : PM.WellFormed d.root)
    (fuel : Nat) (pages : List CPage) (h : paginateCol (embedDoc d) fuel = .ok pages) :
    pagesLines pages = PM.linesFrom d.root none := by
  have ha := (embed_agrees d fuel).1
  rw [h] at ha
  simp only [PagesOut.pages?] at ha
  cases hp : PM.paginate d fuel with
  | none => rw [hp] at ha; cases ha
  | some ps =>
    rw [hp] at ha
    simp only [Option.map_some, Option.some.injEq] at ha
    subst ha
    have hc := C01.pages_conserve d hN hW fuel ps hp
    rw [← hc]
    clear hp hc h
    induction ps with
    | nil => rfl
    | cons p ps ih =>
      simp only [List.map_cons, PMC.pagesLines]
      rw [ih]
      congr 1
      exact fragLines_embed p.root

/-! ### conservation for the extended grammar -/

/-- **Segment theorem, extended grammar.** For every box (paragraph, block, multi-column container with or
without spanning children, nested anyhow) without fixed heights on blocks / paragraphs and with `orphans, widows ≥ 1`,
every layout call that returns a fragment satisfies: lines(fragment) ++ lines(rest designated by the resume
position) = lines(box from the skip position). -/
theorem segment (box : ColBox) (hN : NoFixedHeight box) (hW : WellFormed box)
    (c : CCtx) (idx : Nat) (y bs : Rat) (skip : Option Resume) (cb pie : Bool) (adjL : List Rat) (f : CFrag)
    (hf : (layoutBox c box idx y bs skip cb pie adjL).frag = some f) :
    fragLines f ++ restOut box (layoutBox c box idx y bs skip cb pie adjL).resume = linesFrom box skip :=
  boxPost_lines _ _ _ _ _ (box_spec box (good_of box hN hW) c idx y bs skip cb pie adjL) hf

/-- The case of a container: its columns, left to right, then the rest. -/
theorem container_segment (id : Nat) (st : PStyle) (cs : ColSpec) (flags : List Bool) (kids : List ColBox)
    (hN : NoFixedHeightList kids) (hW : WellFormedList kids)
    (c : CCtx) (idx : Nat) (y bs : Rat) (skip : Option Resume) (cb pie : Bool) (adjL : List Rat) (f : CFrag)
    (hf : (layoutBox c (.columns id st cs flags kids) idx y bs skip cb pie adjL).frag = some f) :
    fragLines f ++ restOut (.columns id st cs flags kids)
        (layoutBox c (.columns id st cs flags kids) idx y bs skip cb pie adjL).resume =
      linesFromKids kids (skipIdxOf skip) (subSkipOf skip) := by
  have := segment (.columns id st cs flags kids) (by simpa [PMC.NoFixedHeight] using hN)
    (by simpa [PMC.WellFormed] using hW) c idx y bs skip cb pie adjL f hf
  simpa [PMC.linesFrom] using this

/-- **Pages conserve content, extended grammar.** -/
theorem pages_conserve (d : CDoc) (hN : NoFixedHeight d.root) (hW : WellFormed d.root)
    (fuel : Nat) (pages : List CPage) (h : paginateCol d fuel = .ok pages) :
    pagesLines pages = linesFrom d.root none := by
  unfold paginateCol at h
  exact makeAllPages_lines d (good_of _ hN hW) fuel 0 none _ _ pages (fun _ => by exact isBlank_none _ _) h

/-- **`find_earlier_page_break` does not enter a multi-column container** (`is_multicol`, repair 3162604): whatever
its children, no earlier break is reported from inside it; the AttributeError of the missing `.index` is not an
outcome of the function any more (`findEarlierList` has no error value). -/
theorem find_earlier_skips_container (inCol : Bool) (id idx : Nat) (st : PStyle) (g : Geo) (kids : List CFrag) :
    PMC.findEarlierFrag inCol (.cols id idx st g kids) = none := by
  simp [PMC.findEarlierFrag]

/-- A container that is the last laid-out child contributes no earlier break: only the boundary before it can. -/
theorem find_earlier_container_last (inCol : Bool) (id idx : Nat) (st : PStyle) (g : Geo) (kids : List CFrag) :
    (PMC.findEarlierGo inCol [.cols id idx st g kids]).found = none := by
  simp only [PMC.findEarlierGo, PMC.findEarlierFrag, CFrag.isColumn]
  simp only [Bool.false_eq_true, if_false]
  split <;> rfl

/-- **A spanning child is resumed at its own level** (repair d7e3d63): `columns_layout` wraps the resume position
`ρ` of the spanning child `i` (`column_skip_stack = {0: resume_at}`), stores `{i + 0: ρ}`, and on the next page hands
`skip_stack[0]` of `{0: skip_stack[i]}` back to the child: exactly `ρ`, whatever its shape (before the repair this
only held for `ρ = {0: …}`, i.e. for paragraphs). -/
theorem span_resume_roundtrip (s : ColsState) (i : Nat) (ρ : Resume) :
    PMC.colsResume { s with colSkip := some (.node 0 (some ρ)), index := i } = some (.node i (some ρ)) ∧
    subSkipOf (PMC.firstItemSkip (some (.node i (some ρ)))) = some ρ := by
  simp [PMC.colsResume, PMC.firstItemSkip, skipIdxOf, subSkipOf]

/-! ### non-vacuity: a balanced 2-column container between paragraphs, over three pages -/

def exSt : PStyle :=
  { mt := 0, mb := 0, pt := 0, pb := 0, bt := 0, bb := 0, height := none, minH := 0, maxH := none,
    brkBefore := .auto, brkAfter := .auto, brkInside := .auto, clone := false, page := "", orphans := 1, widows := 1,
    isRoot := false }

def exDoc : CDoc :=
  { pageH := 40, rootLtr := true,
    root := .block 9 { exSt with isRoot := true } [.block 8 exSt
      [.para 1 2 10 exSt,
       .columns 4 { exSt with mt := 5 } { count := 2, balance := true, ltr := true, width := 192 } [false, false]
         [.para 2 6 10 exSt, .para 3 2 10 { exSt with mt := 4 }],
       .para 5 2 10 exSt]] }

example : NoFixedHeight exDoc.root ∧ WellFormed exDoc.root := by
  simp [exDoc, exSt, PMC.NoFixedHeight, PMC.NoFixedHeightList, PMC.WellFormed, PMC.WellFormedList]

/-- Page 1: paragraph 1, the container 5px lower (its top margin), two lines of paragraph 2 (one per column);
page 2: the container continues; page 3: the paragraph after the container. -/
example : (match paginateCol exDoc 20 with
    | .ok ps => ps.map (fun (p : CPage) => PMC.fragLines p.root)
    | _ => []) =
    [[(1, 0), (1, 1), (2, 0), (2, 1)], [(2, 2), (2, 3), (2, 4), (2, 5), (3, 0), (3, 1)], [(5, 0), (5, 1)]] := by
  decide +kernel

example : PMC.linesFrom exDoc.root none =
    [(1, 0), (1, 1), (2, 0), (2, 1), (2, 2), (2, 3), (2, 4), (2, 5), (3, 0), (3, 1), (5, 0), (5, 1)] := by
  decide +kernel

/-! ### non-vacuity with spanning children: a spanning block with two paragraphs cut by the page, then a group -/

def exSpan : CDoc :=
  { pageH := 40, rootLtr := true,
    root := .block 9 { exSt with isRoot := true } [.block 8 exSt
      [.columns 7 exSt { count := 2, balance := true, ltr := true, width := 192 } [false, true, false]
        [.para 6 2 10 exSt,
         .block 5 exSt [.para 1 2 10 exSt, .para 2 4 10 exSt],
         .para 3 4 10 exSt]]] }

example : NoFixedHeight exSpan.root ∧ WellFormed exSpan.root := by
  simp [exSpan, exSt, PMC.NoFixedHeight, PMC.NoFixedHeightList, PMC.WellFormed, PMC.WellFormedList]

/-- The group before the span, the spanning block cut inside its second paragraph, its rest, the group after. -/
example : (match paginateCol exSpan 30 with
    | .ok ps => ps.map (fun (p : CPage) => PMC.fragLines p.root)
    | _ => []) =
    [[(6, 0), (6, 1), (1, 0), (1, 1), (2, 0)], [(2, 1), (2, 2), (2, 3), (3, 0), (3, 1)], [(3, 2), (3, 3)]] := by
  decide +kernel

end Wp.C01Col
