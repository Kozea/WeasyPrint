/-
C15 — counters in page-margin boxes: theorems about `Model/MarginCounters.lean` (`make_margin_boxes`).
-/
import WpModel.Model.MarginCounters
import WpModel.Gen.CounterStyles
import WpModel.Lemmas.Basic.List

namespace Wp.C15
open Wp.Counters Wp.MarginCounters

/-- The texts are computed box by box, each on the page state alone. -/
theorem marginTexts_eq_mapM (cs : Styles) (st : CState) : ∀ boxes : List MBox,
    marginTexts cs st boxes = boxes.mapM (marginBoxText cs st)
  | [] => rfl
  | b :: rest => by rw [marginTexts, List.mapM_cons, marginTexts_eq_mapM cs st rest]

/-- **C15.margin_box_isolated** — "@margins mustn't manipulate page-context counters", nor each other's: what a
margin box prints depends on the page state and on its own `counter-*` declarations and content only, whatever
margin boxes are generated before (`pre`) and after (`post`) it on the same page. -/
theorem margin_box_isolated (cs : Styles) (st : CState) (pre post : List MBox) (b : MBox) (l : List String)
    (h : marginTexts cs st (pre ++ b :: post) = .ok l) :
    ∃ t, l[pre.length]? = some t ∧ marginBoxText cs st b = .ok t := by
  rw [marginTexts_eq_mapM] at h
  induction pre generalizing l with
  | nil => obtain ⟨t, _, ht, _, rfl⟩ := List.mapM_cons_eq_ok h; exact ⟨t, rfl, ht⟩
  | cons p pre ih => obtain ⟨_, ts, _, hts, rfl⟩ := List.mapM_cons_eq_ok h; exact ih ts hts

/-- The same box prints the same text on the same page state in two different sets of margin boxes. -/
theorem margin_box_same_text (cs : Styles) (st : CState) (pre post pre' post' : List MBox) (b : MBox)
    (l l' : List String) (h : marginTexts cs st (pre ++ b :: post) = .ok l)
    (h' : marginTexts cs st (pre' ++ b :: post') = .ok l') : l[pre.length]? = l'[pre'.length]? := by
  obtain ⟨t, h1, h2⟩ := margin_box_isolated cs st pre post b l h
  obtain ⟨t', h1', h2'⟩ := margin_box_isolated cs st pre' post' b l' h'
  rw [h2] at h2'
  cases h2'
  rw [h1, h1']

/-! Non-vacuity: `@top-left { counter-increment: page 100; content: counter(page) }` before
`@top-center { content: counter(page) }` on page 3: 103, then 3 -/
example : marginTexts Gen.uaCounterStyles ⟨[("page", [3]), ("pages", [5])], [["page", "pages"]]⟩
    [(⟨.other, [], [], some [("page", 100)]⟩, [.counter "page" (.named "decimal")]),
     (⟨.other, [], [], some []⟩, [.counter "page" (.named "decimal")])] = .ok ["103", "3"] := by decide +kernel

end Wp.C15
