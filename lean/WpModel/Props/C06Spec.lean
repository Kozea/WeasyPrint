/-
C06 — the regenerated property tables against the CSS definition (`Model/CssSpec.lean`, written from
the specifications, not from `/repo`).  `Gen/Units.lean` follows `weasyprint/css/properties.py`;
these theorems are what breaks when an entry of `INHERITED` or `INITIAL_VALUES` is edited away from
CSS, and they carry the function-level theorems of `Props/C06.lean` to the statement of the
property: "properties without a winning declaration inherit *if inherited* and take *the initial
value* otherwise".
-/
import WpModel.Model.CssSpec
import WpModel.Props.C06

namespace Wp.C06
open Wp Wp.Cascade Wp.Computed Wp.Style Wp.Gen.Units Wp.CssSpec

/-- `INHERITED` and the CSS table hold the same properties, in whatever order the source lists them. -/
theorem css_inherited_perm : cssInherited.Perm inherited := by decide +kernel

/-- The code inherits a property exactly when CSS does — for every key, known or not. -/
theorem isInherited_eq_spec (k : String) : isInherited k = specInherits k :=
  css_inherited_perm.contains_eq.symm

/-- `INHERITED` is the set of inherited properties of CSS, property by property over every key of
`INITIAL_VALUES` — `image_orientation` included (commit 8f3706e;
`Witness.C06.image_orientation_inherited` is the regression on the input of that finding). -/
theorem inherited_is_css : ∀ k ∈ initialKeys, isInherited k = specInherits k :=
  fun k _ => isInherited_eq_spec k

theorem css_inherited_subset : ∀ k ∈ cssInherited, isInherited k = true :=
  fun _ hk => List.contains_iff_mem.mpr (css_inherited_perm.mem_iff.mp hk)

/-- The code never inherits a property that CSS does not inherit … -/
theorem inherited_subset_css : ∀ k ∈ inherited, specInherits k = true :=
  fun _ hk => List.contains_iff_mem.mpr (css_inherited_perm.mem_iff.mpr hk)

/-- … and the spec table only speaks of properties the code knows. -/
theorem css_inherited_known : ∀ k ∈ cssInherited, k ∈ initialKeys := by decide +kernel

/-- `INITIAL_VALUES` holds the initial value of CSS for each property of `cssInitial`. -/
theorem initial_values_are_css : ∀ p ∈ cssInitial, lookup p.1 initialValues = some p.2 := by
  decide +kernel

theorem css_initial_known : ∀ p ∈ cssInitial, p.1 ∈ initialKeys := by
  intro p hp
  rw [initial_table_complete]
  exact List.mem_map_of_mem (f := fun q => q.1) (mem_of_lookup (initial_values_are_css p hp))

/-- The property statement for a property that CSS does not inherit: without a cascaded
declaration the element gets the initial value, with or without a parent, whatever the parent's
value (text decorations and `page` are propagated by their own rules and excluded). -/
theorem css_non_inherited_takes_initial (e : Elem) (parent : ParentGet) (key : String)
    (hk : key ∈ initialKeys) (hs : specInherits key = false)
    (hc : lookup key e.cascaded = none) (hcu : isCustom key = false)
    (htd : isTextDecoration key = false) (hpage : key ≠ "page") :
    specified e parent key = initialResult key :=
  not_cascaded_initial e parent key hc ((inherited_is_css key hk).trans hs) hcu ⟨Or.inl htd, hpage⟩

/-- … and for a property that CSS inherits: the parent's computed value, as it is. -/
theorem css_inherited_takes_parent (e : Elem) (get : String → Except CErr Val) (key : String)
    (hk : key ∈ initialKeys) (hs : specInherits key = true)
    (hc : lookup key e.cascaded = none) :
    specified e (some get) key = (get key).map (fun v => (v, true)) :=
  every_inherited_property_inherits e get key
    (List.contains_iff_mem.mp ((inherited_is_css key hk).trans hs)) hc

/-- The same for an element without any declaration (`AnonymousStyle`: anonymous boxes, elements
no rule matches). -/
theorem css_anonymous_follows_spec (get : String → Except CErr Val) (key : String)
    (hk : key ∈ initialKeys)
    (hb : ["border_top_width", "border_bottom_width", "border_left_width", "border_right_width",
           "outline_width"].contains key = false)
    (hcu : isCustom key = false) (hp : plainKey key) :
    anonymousKey get key = if specInherits key then get key else initialValue key := by
  rw [← inherited_is_css key hk, anonymous_plain get key hp hb, hcu, Bool.or_false]

/-- `COMPUTER_FUNCTIONS` written out: which computing function is registered for which property.  The
generated registry follows the decorators in `computed_values.py`; dropping or moving one
(`@register_computer('text-indent')` …) leaves a specified value (`2em`) as the computed value of
that property.  The document oracle then reports the relative unit that survives. -/
theorem computer_registry_pinned :
    computerFunctions =
  [("background_image", "background_image"), ("list_style_image", "image"), ("mask_border_source", "image"),
   ("border_image_source", "image"), ("object_position", "compute_position"), ("background_position", "compute_position"),
   ("transform_origin", "length_or_percentage_tuple"), ("clip", "length_tuple"), ("size", "length_tuple"),
   ("border_spacing", "length_tuple"), ("break_before", "break_before_after"), ("break_after", "break_before_after"),
   ("text_decoration_thickness", "length"), ("text_underline_offset", "length"), ("flex_basis", "length"),
   ("hyphenate_limit_zone", "length"), ("text_indent", "length"), ("padding_left", "length"),
   ("padding_bottom", "length"), ("padding_right", "length"), ("padding_top", "length"),
   ("max_height", "length"), ("max_width", "length"), ("min_height", "length"),
   ("min_width", "length"), ("width", "length"), ("height", "length"),
   ("margin_left", "length"), ("margin_bottom", "length"), ("margin_right", "length"),
   ("margin_top", "length"), ("bottom", "length"), ("left", "length"),
   ("right", "length"), ("top", "length"), ("bleed_bottom", "bleed"),
   ("bleed_top", "bleed"), ("bleed_right", "bleed"), ("bleed_left", "bleed"),
   ("letter_spacing", "pixel_length"), ("background_size", "background_size"), ("image_orientation", "image_orientation"),
   ("outline_width", "border_width"), ("column_rule_width", "border_width"), ("border_bottom_width", "border_width"),
   ("border_left_width", "border_width"), ("border_right_width", "border_width"), ("border_top_width", "border_width"),
   ("mask_border_slice", "border_image_slice"), ("border_image_slice", "border_image_slice"), ("mask_border_width", "border_image_width"),
   ("border_image_width", "border_image_width"), ("mask_border_outset", "border_image_outset"), ("border_image_outset", "border_image_outset"),
   ("mask_border_repeat", "border_image_repeat"), ("border_image_repeat", "border_image_repeat"), ("outline_offset", "length_pixels_only"),
   ("column_width", "length_pixels_only"), ("border_bottom_right_radius", "border_radius"), ("border_bottom_left_radius", "border_radius"),
   ("border_top_right_radius", "border_radius"), ("border_top_left_radius", "border_radius"), ("row_gap", "gap"),
   ("column_gap", "gap"), ("bookmark_label", "bookmark_label"), ("string_set", "string_set"),
   ("content", "content"), ("display", "display"), ("float", "compute_float"),
   ("font_size", "font_size"), ("font_weight", "font_weight"), ("grid_template_rows", "grid_template"),
   ("grid_template_columns", "grid_template"), ("grid_auto_rows", "grid_auto"), ("grid_auto_columns", "grid_auto"),
   ("line_height", "line_height"), ("anchor", "anchor"), ("link", "link"),
   ("lang", "lang"), ("tab_size", "tab_size"), ("transform", "transform"),
   ("vertical_align", "vertical_align"), ("word_spacing", "word_spacing")] := by
  rfl

/-- The registry entries of the plain `<length>` properties: each of them computes a cascaded value by
`length` in the element's own environment (`computedKey_length`), so `em` resolves against the element's
font size (`text_decoration_thickness` on the root only: below it `__missing__` merges text decorations first). -/
theorem length_properties_registered :
    ∀ k ∈ ["width", "height", "min_width", "min_height", "max_width", "max_height", "margin_top", "margin_right",
           "margin_bottom", "margin_left", "padding_top", "padding_right", "padding_bottom", "padding_left",
           "top", "right", "bottom", "left", "text_indent", "hyphenate_limit_zone", "flex_basis",
           "text_underline_offset", "text_decoration_thickness"],
      lookup k computerFunctions = some "length" := by
  decide +kernel

-- non-vacuity: `text-overflow` (not inherited) and `text-indent` (inherited) below a parent
example : specInherits "text_overflow" = false ∧ specInherits "text_indent" = true ∧
    "text_overflow" ∈ initialKeys ∧ specInherits "image_orientation" = true := by decide +kernel
example :
    let parent : Elem := ⟨[("text_overflow", .val (.kw "ellipsis")), ("text_indent", .val (.dim 4 "px"))], none, [], none⟩
    let child : Elem := ⟨[("width", .val (.kw "auto"))], none, [], none⟩
    (styleAt (1 / 2) (1 / 2) [child, parent] "text_overflow").toOption = some (.kw "clip") ∧
    (styleAt (1 / 2) (1 / 2) [child, parent] "text_indent").toOption = some (.dim 4 "px") ∧
    (styleAt (1 / 2) (1 / 2) [⟨[], none, [], none⟩, parent] "text_overflow").toOption = some (.kw "clip") := by
  decide +kernel

end Wp.C06
