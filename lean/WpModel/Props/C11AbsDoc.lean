/-
C11 — the constraint equations of absolutely / fixed positioned boxes at the *document level*: theorems
about `absoluteBlock` (`absolute_box_layout` + `absolute_block`: percentages resolved against the containing
rectangle, `absolute_width` under its min/max wrapper, `absolute_height`, the content layout, the final translation),
obtained by composing the function-level theorems of `Props/C11Abs.lean` (`abs_width_wrapper`, `abs_equation_h`,
`abs_left_honoured`, `abs_static_position_h`, `abs_equation_v`).  They lift the clauses that the
Python oracle `abs_doc_violation` checks on sampled rendered documents to every computed style and containing
block of the model.
-/
import WpModel.Props.C11Abs

namespace Wp.C11
open Wp Wp.Absolute

/-- The horizontal attributes `absolute_box_layout` hands to `absolute_width`: percentages resolved against the
width of the containing rectangle. -/
def hboxOf (st : AbsStyle) (cb : Rect) (minC maxC sx : Rat) : HBox :=
  { left := st.left.resolve cb.w, right := st.right.resolve cb.w, width := st.width.resolve cb.w,
    ml := st.ml.resolve cb.w, mr := st.mr.resolve cb.w,
    pl := autoZero (st.pl.resolve cb.w), pr := autoZero (st.pr.resolve cb.w), bl := st.bl, br := st.br,
    minW := autoZero (st.minW.resolve cb.w), maxW := st.maxW.resolve cb.w,
    minC := minC, maxC := maxC, posX := sx }

/-- The vertical attributes handed to `absolute_height` (margins and paddings refer to the *width*). -/
def vboxOf (st : AbsStyle) (cb : Rect) (sy : Rat) : VBox :=
  { top := st.top.resolve cb.h, bottom := st.bottom.resolve cb.h, height := st.height.resolve cb.h,
    mt := st.mt.resolve cb.w, mb := st.mb.resolve cb.w,
    pt := autoZero (st.pt.resolve cb.w), pbot := autoZero (st.pbot.resolve cb.w), bt := st.bt, bb := st.bb,
    posY := sy }

/-- `absolute_block` decomposed, for any width `w'` that the min/max wrapper may have settled on: horizontally the
result is the one-pass result (`usedH`) for the box with that width; vertically it is `absolute_height` followed by
the translation for the used height. -/
theorem absoluteBlock_of_width (st : AbsStyle) (cb : Rect) (ltr : Bool) (sx sy minC maxC hW hN : Rat) (r : AbsResult)
    (h : absoluteBlock st cb ltr sx sy minC maxC hW hN = .ok r) (w' : Len)
    (hw : absoluteWidth (hboxOf st cb minC maxC sx) ltr cb.x cb.w =
      .ok (absoluteWidthCore ((hboxOf st cb minC maxC sx).setWidth w') ltr cb.x cb.w)) :
    (let u := usedH ((hboxOf st cb minC maxC sx).setWidth w') ltr cb.x cb.w
     r.x = u.x ∧ r.width = u.w ∧ r.ml = u.ml ∧ r.mr = u.mr ∧
     r.mw = u.w + (hboxOf st cb minC maxC sx).pb + u.ml + u.mr) ∧
    (let rv := absoluteHeight (vboxOf st cb sy) cb.y cb.h
     r.y = finalY rv r.height ∧ r.mt = autoZero rv.1.mt ∧ r.mb = autoZero rv.1.mb ∧
     r.mh = r.height + (vboxOf st cb sy).pb + r.mt + r.mb) := by
  unfold absoluteBlock at h
  simp only at h
  change (match absoluteWidth (hboxOf st cb minC maxC sx) ltr cb.x cb.w with
    | .error e => _ | .ok rh => _) = _ at h
  obtain ⟨w, hwid⟩ := Option.isSome_iff_exists.mp
    (abs_width_resolved ((hboxOf st cb minC maxC sx).setWidth w') ltr cb.x cb.w).1
  rw [hw] at h
  simp only [finalX, hwid, Except.ok.injEq] at h
  subst h
  refine ⟨?_, rfl, rfl, rfl, rfl⟩
  simp only [usedH, hwid, autoZero_some, true_and]
  rfl

/-- … with the width of the wrapper: the used width respects `min-width`, and `max-width` when that is not below it. -/
theorem absoluteBlock_ok (st : AbsStyle) (cb : Rect) (ltr : Bool) (sx sy minC maxC hW hN : Rat) (r : AbsResult)
    (h : absoluteBlock st cb ltr sx sy minC maxC hW hN = .ok r) :
    (∃ w', (let u := usedH ((hboxOf st cb minC maxC sx).setWidth w') ltr cb.x cb.w
      r.x = u.x ∧ r.width = u.w ∧ r.ml = u.ml ∧ r.mr = u.mr ∧
      r.mw = u.w + (hboxOf st cb minC maxC sx).pb + u.ml + u.mr) ∧
      (hboxOf st cb minC maxC sx).minW ≤ r.width ∧
      ∀ mx, (hboxOf st cb minC maxC sx).maxW = some mx → (hboxOf st cb minC maxC sx).minW ≤ mx → r.width ≤ mx) ∧
    (let rv := absoluteHeight (vboxOf st cb sy) cb.y cb.h
     r.y = finalY rv r.height ∧ r.mt = autoZero rv.1.mt ∧ r.mb = autoZero rv.1.mb ∧
     r.mh = r.height + (vboxOf st cb sy).pb + r.mt + r.mb) := by
  obtain ⟨w', w, hw, _, hwid, hmin, hmax⟩ := abs_width_wrapper (hboxOf st cb minC maxC sx) ltr cb.x cb.w
  obtain ⟨hu, hv⟩ := absoluteBlock_of_width st cb ltr sx sy minC maxC hW hN r h w' hw
  have hrw : r.width = w := by rw [hu.2.1]; simp only [usedH, hwid, autoZero_some]
  exact ⟨⟨w', hu, hrw ▸ hmin, hrw ▸ hmax⟩, hv⟩

/-- Where `absolute_block` puts the top of the margin box, `h` being the used height. -/
theorem finalY_eq (b : VBox) (cbY cbH h : Rat) :
    finalY (absoluteHeight b cbY cbH) h =
      match b.top, b.bottom with
      | some t, _ => cbY + t
      | none, some bo => cbY + cbH - bo - (b.pb + autoZero b.mt + autoZero b.mb) - b.height.getD h
      | none, none => b.posY := by
  cases ht : b.top <;> cases hb : b.bottom <;> cases hh : b.height <;>
    simp only [finalY, absoluteHeight, ht, hb, hh, Bool.false_eq_true, if_true, if_false, Rat.add_zero,
      translated_from_left, Option.getD_some, Option.getD_none]
  · grind
  · grind
  · cases b.mt <;> cases b.mb <;> simp only [translated_from_left]

/-- **The horizontal constraint equation at the document level** (CSS 2.1 §10.3.7, the first clause of the property
for positioned boxes): whatever the computed style of an absolutely / fixed positioned block — every offset, size
and margin independently auto, px or a percentage of the containing block, paddings, borders, `min-width` /
`max-width` included (the wrapper re-solves the equation with the clamped width) — in ltr and rtl,
`absolute_box_layout` + `absolute_block` place its margin box so that a specified `left` is the distance from the
left edge of the containing rectangle, a specified `right` the distance to its right edge:
`left + margin box + right = width of the containing block`; with both auto (ltr) the static position is kept; the
margin box is the used width plus paddings, borders and used margins; the used width respects `min-width`, and
`max-width` when that is not below `min-width`. -/
theorem abs_block_equation_h (st : AbsStyle) (cb : Rect) (ltr : Bool) (sx sy minC maxC hW hN : Rat) (r : AbsResult)
    (h : absoluteBlock st cb ltr sx sy minC maxC hW hN = .ok r) :
    (∀ l, st.left.resolve cb.w = some l → r.x = cb.x + l) ∧
    (∀ rt, st.right.resolve cb.w = some rt → r.x + r.mw + rt = cb.x + cb.w) ∧
    (st.left.resolve cb.w = none → st.right.resolve cb.w = none → ltr = true → r.x = sx) ∧
    r.mw = r.width + (autoZero (st.pl.resolve cb.w) + autoZero (st.pr.resolve cb.w) + st.bl + st.br) + r.ml + r.mr ∧
    autoZero (st.minW.resolve cb.w) ≤ r.width ∧
    (∀ mx, st.maxW.resolve cb.w = some mx → autoZero (st.minW.resolve cb.w) ≤ mx → r.width ≤ mx) := by
  obtain ⟨⟨w', ⟨hx, hwd, hml, hmr, hmw⟩, hmin, hmax⟩, _⟩ := absoluteBlock_ok st cb ltr sx sy minC maxC hW hN r h
  have e1 : ((hboxOf st cb minC maxC sx).setWidth w').left = st.left.resolve cb.w := rfl
  have e2 : ((hboxOf st cb minC maxC sx).setWidth w').right = st.right.resolve cb.w := rfl
  have e3 : ((hboxOf st cb minC maxC sx).setWidth w').pb = (hboxOf st cb minC maxC sx).pb := rfl
  refine ⟨?_, ?_, ?_, ?_, hmin, hmax⟩
  · intro l hl
    rw [hx]; exact abs_left_honoured _ ltr cb.x cb.w l (by rw [e1]; exact hl)
  · intro rt hrt
    have := abs_equation_h _ ltr cb.x cb.w rt (by rw [e2]; exact hrt)
    simp only [e3] at this
    rw [hx, hmw]; grind
  · intro hl hr hltr
    have := (abs_static_position_h _ ltr cb.x cb.w (by rw [e1]; exact hl) (by rw [e2]; exact hr)).1 hltr
    rw [hx]; exact this
  · rw [hmw, hwd, hml, hmr]; simp only [hboxOf, HBox.pb]

/-- **The vertical constraint equation at the document level** (CSS 2.1 §10.6.4): a specified `top` is the distance
from the top edge of the containing rectangle (always); with `top` and `bottom` auto the static position is kept;
the margin box is the used height plus paddings, borders and used margins; and a specified `bottom` is the distance
to the bottom edge — `top + margin box + bottom = height of the containing block` — provided that a specified (or
`top`/`bottom`-solved) height was not changed afterwards by `min-height` / `max-height` (the excluded case: the
clamp is applied by `block_container_layout` after `absolute_height` solved the equation, and nothing is re-solved;
an auto height that is clamped is fine, the translation uses the used height). -/
theorem abs_block_equation_v_partial (st : AbsStyle) (cb : Rect) (ltr : Bool) (sx sy minC maxC hW hN : Rat)
    (r : AbsResult) (h : absoluteBlock st cb ltr sx sy minC maxC hW hN = .ok r) :
    (∀ t, st.top.resolve cb.h = some t → r.y = cb.y + t) ∧
    (st.top.resolve cb.h = none → st.bottom.resolve cb.h = none → r.y = sy) ∧
    r.mh = r.height + (autoZero (st.pt.resolve cb.w) + autoZero (st.pbot.resolve cb.w) + st.bt + st.bb) +
      r.mt + r.mb ∧
    (∀ b, st.bottom.resolve cb.h = some b →
      (∀ hs, (absoluteHeight (vboxOf st cb sy) cb.y cb.h).1.height = some hs → r.height = hs) →
      r.y + r.mh + b = cb.y + cb.h) := by
  obtain ⟨_, hy, hmt, hmb, hmh⟩ := absoluteBlock_ok st cb ltr sx sy minC maxC hW hN r h
  refine ⟨?_, ?_, ?_, ?_⟩
  · intro t ht
    rw [hy, finalY_eq, show (vboxOf st cb sy).top = some t from ht]
  · intro ht hb
    rw [hy, finalY_eq, show (vboxOf st cb sy).top = none from ht, show (vboxOf st cb sy).bottom = none from hb]
    rfl
  · rw [hmh]; simp only [vboxOf, VBox.pb]
  · intro b hb hun
    have heq := abs_equation_v (vboxOf st cb sy) cb.y cb.h r.height b hb
    have hh : (usedV (vboxOf st cb sy) cb.y cb.h r.height).h = r.height := by
      simp only [usedV]
      cases hc : (absoluteHeight (vboxOf st cb sy) cb.y cb.h).1.height with
      | none => rfl
      | some hs => exact (hun hs hc).symm
    have hyy : (usedV (vboxOf st cb sy) cb.y cb.h r.height).y = r.y := by
      rw [hy]
      simp only [usedV, finalY]
      cases hc : (absoluteHeight (vboxOf st cb sy) cb.y cb.h).1.height with
      | none => rfl
      | some hs => rw [hun hs hc]
    simp only at heq
    rw [hyy, hh] at heq
    have e1 : (usedV (vboxOf st cb sy) cb.y cb.h r.height).mt = r.mt := by rw [hmt]; rfl
    have e2 : (usedV (vboxOf st cb sy) cb.y cb.h r.height).mb = r.mb := by rw [hmb]; rfl
    rw [e1, e2] at heq
    rw [hmh]; grind

/-- Non-vacuity (percentages, paddings, borders, an active `max-width`): `right: 10%` of a 200px containing block at
x = 20, auto width with content 30..70 wide, `max-width: 40px`: the margin box (47px) ends 20px before the right
edge, `top: 5px` below the top edge. -/
example :
    let st : AbsStyle := ⟨.auto, .pct 10, .px 5, .auto, .auto, .auto, .px 3, .auto, .px 0, .px 0,
      .px 2, .px 0, .px 0, .px 0, 1, 1, 0, 0, .auto, .px 40, .auto, .auto⟩
    (absoluteBlock st ⟨20, 10, 200, 100⟩ true 5 7 30 70 10 20).toOption.map
      (fun r => (r.x, r.y, r.mw, r.width, r.x + r.mw + 20)) = some (153, 15, 47, 40, 20 + 200) := by
  decide +kernel

/-- The box `absolute_box_layout` hands to `absolute_replaced` for an image with specified sizes `w`, `h`. -/
def rboxOf (st : AbsStyle) (cb : Rect) (w h sx sy : Rat) : RBox :=
  { left := st.left.resolve cb.w, right := st.right.resolve cb.w,
    top := st.top.resolve cb.h, bottom := st.bottom.resolve cb.h,
    ml := st.ml.resolve cb.w, mr := st.mr.resolve cb.w, mt := st.mt.resolve cb.w, mb := st.mb.resolve cb.w,
    width := w, height := h,
    pl := autoZero (st.pl.resolve cb.w), pr := autoZero (st.pr.resolve cb.w), bl := st.bl, br := st.br,
    pt := autoZero (st.pt.resolve cb.w), pbot := autoZero (st.pbot.resolve cb.w), bt := st.bt, bb := st.bb,
    posX := sx, posY := sy }

/-- **The constraint equations of an absolutely / fixed positioned replaced box at the document level** (CSS 2.1
§10.3.8 / §10.6.5; `absolute_box_layout` + `absolute_replaced` for an image with specified sizes): whatever the
computed style — offsets and margins independently auto, px or percentages of the containing rectangle, paddings,
borders, ltr / rtl — there are used offsets `l rt t bo` with the margin box at `cb + (l, t)`,
`l + margin box + rt = width` and `t + margin box + bo = height` of the containing block; a specified offset is the
used one, except the one the specification says to ignore when nothing on the axis is auto (`right` in ltr, `left`
in rtl, `bottom`); with both offsets of an axis auto the static position is kept (ltr horizontally). -/
theorem abs_replaced_doc_equation (st : AbsStyle) (cb : Rect) (ltr : Bool) (sx sy : Rat) (r : AbsResult)
    (h : absoluteReplacedDoc st cb ltr sx sy = .ok r) :
    ∃ l rt t bo, r.x = cb.x + l ∧ r.y = cb.y + t ∧ l + r.mw + rt = cb.w ∧ t + r.mh + bo = cb.h ∧
      (∀ l0, st.left.resolve cb.w = some l0 → (st.right.resolve cb.w = none ∨ st.ml.resolve cb.w = none ∨
        st.mr.resolve cb.w = none ∨ ltr = true) → l = l0) ∧
      (∀ r0, st.right.resolve cb.w = some r0 → (st.left.resolve cb.w = none ∨ st.ml.resolve cb.w = none ∨
        st.mr.resolve cb.w = none ∨ ltr = false) → rt = r0) ∧
      (∀ t0, st.top.resolve cb.h = some t0 → t = t0) ∧
      (∀ b0, st.bottom.resolve cb.h = some b0 → (st.top.resolve cb.h = none ∨ st.mt.resolve cb.w = none ∨
        st.mb.resolve cb.w = none) → bo = b0) ∧
      (st.left.resolve cb.w = none → st.right.resolve cb.w = none → ltr = true → r.x = sx) ∧
      (st.top.resolve cb.h = none → st.bottom.resolve cb.h = none → r.y = sy) := by
  unfold absoluteReplacedDoc at h
  split at h
  · rename_i w hh hw hhh
    simp only at h
    change (match absoluteReplaced (rboxOf st cb w hh sx sy) ltr cb.x cb.y cb.w cb.h with
      | .error e => _ | .ok r => _) = _ at h
    obtain ⟨l, rt, t, bo, ml, mr, mt, mb, hok, eqh, eqv, kl, kr, kt, kb, sh, sv, _⟩ :=
      abs_replaced_full (rboxOf st cb w hh sx sy) ltr cb.x cb.y cb.w cb.h
    rw [hok] at h
    simp only [Except.ok.injEq] at h
    subst h
    refine ⟨l, rt, t, bo, rfl, rfl, ?_, ?_, kl, kr, kt, kb, ?_, ?_⟩
    · simp only [autoZero, RBox.borderWidth] at eqh ⊢; grind
    · simp only [autoZero, RBox.borderHeight] at eqv ⊢; grind
    · intro hl hr hltr
      have := sh hl hr hltr
      simp only [rboxOf] at this ⊢; grind
    · intro ht hb
      have := sv ht hb
      simp only [rboxOf] at this ⊢; grind
  · simp at h

/-- Non-vacuity: an image 40x30 with `right: 10px; top: 10%; margin-right: 5px`, a 2px left padding and 1px borders
in a 200x100 containing rectangle at (20, 10): the margin box (49px) ends 10px before the right edge. -/
example :
    let st : AbsStyle := ⟨.auto, .px 10, .pct 10, .auto, .px 40, .px 30, .auto, .px 5, .px 0, .px 0,
      .px 2, .px 0, .px 0, .px 0, 1, 1, 1, 1, .auto, .auto, .auto, .auto⟩
    (absoluteReplacedDoc st ⟨20, 10, 200, 100⟩ true 33 44).toOption.map
      (fun r => (r.x, r.y, r.mw, r.mh, r.x + r.mw + 10)) = some (161, 20, 49, 32, 20 + 200) := by
  decide +kernel

end Wp.C11
