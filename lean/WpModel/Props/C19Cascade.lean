/-
C19 — the propagation of text-decoration-line (`Model/TextDecoration`): the lines of an element are its own lines
together with its parent's, whatever was computed before — the function has no memory, and (on the implementation, by
the `text-decoration` correspondence section) it leaves its arguments as they are: the set of a cascaded value belongs
to the parsed style sheet, shared by the elements the rule matches and by the renders that use the sheet.
-/
import WpModel.Model.TextDecoration

namespace Wp.C19.Cascade
open Wp Wp.TextDecoration

/-- The lines a value draws. -/
def has (v : Val) (l : Line) : Bool :=
  match v with
  | .lines h => h l
  | _ => false

/-- **lines_are_own_and_parents**: for text-decoration-line (an own value `'none'` or a set), an element draws exactly
its own lines and its parent's. -/
theorem lines_are_own_and_parents (value parent : Val) (cascaded : Bool) (l : Line) (hv : ∀ id, value ≠ .other id) :
    has (textDecoration .line value parent cascaded) l = (has value l || has parent l) := by
  cases value with
  | none => cases parent <;> rfl
  | lines a => cases parent with
    | lines b => rfl
    | _ => exact (Bool.or_false _).symm
  | other id => exact absurd rfl (hv id)

/-- Propagating twice from the same parent changes nothing more (a second render of the same tree, or a second element
matched by the same rule under the same parent, computes the same lines). -/
theorem propagation_idempotent (value parent : Val) (c1 c2 : Bool) (l : Line)
    (hv : ∀ id, value ≠ .other id) (hp : ∀ id, parent ≠ .other id) :
    has (textDecoration .line (textDecoration .line value parent c1) parent c2) l =
      has (textDecoration .line value parent c1) l := by
  cases parent with
  | lines b => cases value with
    | none => exact Bool.or_self _  -- the parent's set meets itself: `b ∪ b = b`
    | lines a => exact (Bool.or_assoc ..).trans (congrArg _ (Bool.or_self _))  -- `(a ∪ b) ∪ b = a ∪ b`
    | other _ => rfl
  | _ => cases value <;> rfl  -- no set to add: the value is returned as it is, the second time as the first

/-- An element outside any decorated ancestor (`parent = 'none'`) draws exactly its own lines — the statement the seeded
change C19-7 broke on the implementation by writing the union into the rule's set. -/
theorem undecorated_parent_keeps_own (value : Val) (cascaded : Bool) :
    textDecoration .line value .none cascaded = value := by
  simp [textDecoration, Val.isNone]

/-- The other three properties: the cascaded value if there is one, else the parent's. -/
theorem colour_style_thickness (value parent : Val) (cascaded : Bool) :
    textDecoration .color value parent cascaded = (if cascaded then value else parent) ∧
    textDecoration .style value parent cascaded = (if cascaded then value else parent) ∧
    textDecoration .thickness value parent cascaded = (if cascaded then value else parent) := by
  cases cascaded <;> simp [textDecoration]

/-- Non-vacuity: `<u><s>` draws both lines, `<s>` alone one. -/
example :
    let u : Val := .lines (fun l => l == .underline)
    let s : Val := .lines (fun l => l == .lineThrough)
    (textDecoration .line s u true).render = "{underline+line-through}" ∧
    (textDecoration .line s .none true).render = "{line-through}" ∧
    (textDecoration .line .none u false).render = "{underline}" := by decide +kernel

end Wp.C19.Cascade
