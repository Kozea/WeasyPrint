/-
C19 — purity inventory.  `Gen/PurityInventory.lean` lists, regenerated from the source on every run, every
process-lifetime object, every class that owns mutable state, every memoised function and every place where hash order
or an address can reach the output.  This file holds the *reviewed* copy of each list, annotated with why the entry
cannot make a render depend on anything but its inputs, and proves (by `rfl`: both sides are literal lists) that the
source still matches the review.  A new module-level cache, a new stateful class, a new `lru_cache`, a new loop over a
set — in any file of weasyprint — breaks one of these proofs; the check then runs its search (snapshots, histories,
processes under several hash seeds) for a concrete input.
The runtime side of the same inventory is the `module-state (validation)` section of py/props/c19.py: a deep snapshot of
every object of `moduleObjects` before and after all the renders of a run.
-/
import WpModel.Gen.PurityInventory
import WpModel.Gen.ModuleState

namespace Wp.C19.Purity
open Wp.Gen.Purity

/-- Why a process-lifetime object does not carry state from one render to the next. -/
inductive Why where
  /-- a table of constants: no store through its name inside any function (`Gen.moduleState`), unchanged by a whole
  run (runtime snapshot) -/
  | constTable
  /-- filled by decorators while the package is imported, never afterwards (`registries_only_written_at_import`) -/
  | importRegistry
  /-- the parsed UA / presentational-hints style sheets and UA counter styles: read by every render, `.copy()`-ed
  where a render needs to add to them (`RenderState.render`: `readGlobal`), unchanged by a whole run (snapshot) -/
  | uaSheet
  /-- handles of the C libraries and two conversion constants computed from them; the C side (fontconfig, Pango font
  maps) is outside every model: exercised by the history harness only -/
  | ffiHandle
  /-- an immutable value (str, Dimension, token, colour) -/
  | value
  /-- only used by the command line entry point -/
  | cliOnly
  deriving Repr, DecidableEq

/-- How long the mutable state of the instances of a class lives. -/
inductive Lifetime where
  /-- created by `Document._render` / layout / `Page.paint` for one render (`RenderState`: every such object is
  allocated by the render that uses it, `C19.fresh_state`) -/
  | perRender
  /-- belongs to one `Document` (pages, fonts): shared by the writes of that document only -/
  | perDocument
  /-- belongs to one `generate_pdf` call -/
  | perPdf
  /-- belongs to one SVG image / inline `<svg>` tree (see known finding `svg-rewrites-element-tree`) -/
  | perImage
  /-- handed in by the caller (`options['cache']`) -/
  | callerOwned
  | cliOnly
  deriving Repr, DecidableEq

def reviewedModuleObjects : List ((String × String × String) × Why) :=
  [(("__init__.py", "DEFAULT_OPTIONS", "dict"), .constTable),
   (("__init__.py", "__all__", "list"), .constTable),
   (("__main__.py", "PARSER", "call:Parser"), .cliOnly),
   (("css/computed_values.py", "BORDER_WIDTH_KEYWORDS", "dict"), .constTable),
   (("css/computed_values.py", "COMPUTER_FUNCTIONS", "dict"), .importRegistry),
   (("css/computed_values.py", "FONT_SIZE_KEYWORDS", "dict"), .constTable),
   (("css/computed_values.py", "FONT_WEIGHT_RELATIVE", "dict"), .constTable),
   (("css/computed_values.py", "PAGE_SIZES", "dict"), .constTable),
   (("css/properties.py", "INHERITED", "set"), .constTable),
   (("css/properties.py", "INITIAL_NOT_COMPUTED", "set"), .constTable),
   (("css/properties.py", "INITIAL_VALUES", "dict"), .constTable),
   (("css/properties.py", "KNOWN_PROPERTIES", "set"), .constTable),
   (("css/properties.py", "TABLE_WRAPPER_BOX_PROPERTIES", "set"), .constTable),
   (("css/properties.py", "ZERO_PIXELS", "call:Dimension"), .value),
   (("css/utils.py", "ANGLE_TO_RADIANS", "dict"), .constTable),
   (("css/utils.py", "ATTR_FALLBACKS", "dict"), .constTable),
   (("css/utils.py", "BACKGROUND_POSITION_PERCENTAGES", "dict"), .constTable),
   (("css/utils.py", "DIRECTION_KEYWORDS", "dict"), .constTable),
   (("css/utils.py", "FIFTY_PERCENT", "call:Dimension"), .value),
   (("css/utils.py", "HUNDRED_PERCENT", "call:Dimension"), .value),
   (("css/utils.py", "LENGTHS_TO_PIXELS", "dict"), .constTable),
   (("css/utils.py", "RESOLUTION_TO_DPPX", "dict"), .constTable),
   (("css/utils.py", "ZERO_PERCENT", "call:Dimension"), .value),
   (("css/validation/__init__.py", "NESTING_SELECTOR", "call:LiteralToken"), .value),
   (("css/validation/__init__.py", "NOT_PRINT_MEDIA", "set"), .constTable),
   (("css/validation/descriptors.py", "DESCRIPTORS", "dict"), .importRegistry),
   (("css/validation/expanders.py", "EXPANDERS", "dict"), .importRegistry),
   (("css/validation/properties.py", "PROPERTIES", "dict"), .importRegistry),
   (("css/validation/properties.py", "PROPRIETARY", "set"), .importRegistry),
   (("css/validation/properties.py", "UNSTABLE", "set"), .importRegistry),
   (("formatting_structure/build.py", "ASCII_TO_WIDE", "dict"), .constTable),
   (("formatting_structure/build.py", "BOX_TYPE_FROM_DISPLAY", "dict"), .constTable),
   (("html.py", "HTML5_PH", "call:read_text"), .value),
   (("html.py", "HTML5_PH_STYLESHEET", "call:CSS"), .uaSheet),
   (("html.py", "HTML5_UA", "call:read_text"), .value),
   (("html.py", "HTML5_UA_COUNTER_STYLE", "call:CounterStyle"), .uaSheet),
   (("html.py", "HTML5_UA_FORM", "call:read_text"), .value),
   (("html.py", "HTML5_UA_FORM_STYLESHEET", "call:CSS"), .uaSheet),
   (("html.py", "HTML5_UA_STYLESHEET", "call:CSS"), .uaSheet),
   (("html.py", "HTML_HANDLERS", "dict"), .importRegistry),
   (("layout/table.py", "TRANSPARENT", "call:parse_color"), .value),
   (("pdf/__init__.py", "VARIANTS", "dict"), .constTable),
   (("pdf/debug.py", "VARIANTS", "dict"), .constTable),
   (("pdf/metadata.py", "NS", "dict"), .constTable),
   (("pdf/pdfa.py", "VARIANTS", "dict"), .constTable),
   (("pdf/pdfua.py", "VARIANTS", "dict"), .constTable),
   (("svg/__init__.py", "TAGS", "dict"), .constTable),
   (("svg/bounding_box.py", "BOUNDING_BOX_METHODS", "dict"), .constTable),
   (("text/constants.py", "CAPS_KEYS", "dict"), .constTable),
   (("text/constants.py", "EAST_ASIAN_KEYS", "dict"), .constTable),
   (("text/constants.py", "FONTCONFIG_STRETCH", "dict"), .constTable),
   (("text/constants.py", "FONTCONFIG_STYLE", "dict"), .constTable),
   (("text/constants.py", "FONTCONFIG_WEIGHT", "dict"), .constTable),
   (("text/constants.py", "LANG_QUOTES", "dict"), .constTable),
   (("text/constants.py", "LIGATURE_KEYS", "dict"), .constTable),
   (("text/constants.py", "LST_TO_ISO", "dict"), .constTable),
   (("text/constants.py", "NUMERIC_KEYS", "dict"), .constTable),
   (("text/constants.py", "PANGO_DIRECTION", "dict"), .constTable),
   (("text/constants.py", "PANGO_STRETCH", "dict"), .constTable),
   (("text/constants.py", "PANGO_STRETCH_PERCENT", "dict"), .constTable),
   (("text/constants.py", "PANGO_STYLE", "dict"), .constTable),
   (("text/constants.py", "PANGO_VARIANT", "dict"), .constTable),
   (("text/constants.py", "PANGO_WRAP_MODE", "dict"), .constTable),
   (("text/ffi.py", "FROM_UNITS", "call:pango_units_to_double"), .ffiHandle),
   (("text/ffi.py", "TO_UNITS", "call:pango_units_from_double"), .ffiHandle),
   (("text/ffi.py", "ffi", "call:FFI"), .ffiHandle),
   (("text/ffi.py", "fontconfig", "call:_dlopen"), .ffiHandle),
   (("text/ffi.py", "gobject", "call:_dlopen"), .ffiHandle),
   (("text/ffi.py", "harfbuzz", "call:_dlopen"), .ffiHandle),
   (("text/ffi.py", "harfbuzz_subset", "call:_dlopen"), .ffiHandle),
   (("text/ffi.py", "pango", "call:_dlopen"), .ffiHandle),
   (("text/ffi.py", "pangoft2", "call:_dlopen"), .ffiHandle),
   (("urls.py", "FILESYSTEM_ENCODING", "call:getfilesystemencoding"), .value),
   (("urls.py", "HTTP_HEADERS", "dict"), .constTable)]

def reviewedStateClasses : List ((String × String) × Lifetime) :=
  [(("__main__.py", "Parser"), .cliOnly),
   (("css/__init__.py", "AnonymousStyle"), .perRender),
   (("css/__init__.py", "ComputedStyle"), .perRender),
   (("css/__init__.py", "StyleFor"), .perRender),
   (("css/targets.py", "CounterLookupItem"), .perRender),
   (("css/targets.py", "TargetCollector"), .perRender),
   (("css/targets.py", "TargetLookupItem"), .perRender),
   (("document.py", "DiskCache"), .callerOwned),
   (("document.py", "Document"), .perDocument),
   (("document.py", "Page"), .perDocument),
   (("formatting_structure/boxes.py", "Box"), .perRender),
   (("formatting_structure/boxes.py", "ParentBox"), .perRender),
   (("formatting_structure/boxes.py", "TableBox"), .perRender),
   (("layout/__init__.py", "LayoutContext"), .perRender),
   (("pdf/fonts.py", "Font"), .perDocument),
   (("pdf/stream.py", "Stream"), .perPdf),
   (("stacking.py", "StackingContext"), .perRender),
   (("svg/__init__.py", "Node"), .perImage),
   (("svg/__init__.py", "SVG"), .perImage)]

def reviewedStateAttributes : List (String × String × String × String) :=
  [("__main__.py", "Parser", "_arguments", "dict"),
   ("css/__init__.py", "AnonymousStyle", "cache", "dict"),
   ("css/__init__.py", "ComputedStyle", "cache", "dict"),
   ("css/__init__.py", "ComputedStyle", "specified", "dict"),
   ("css/__init__.py", "StyleFor", "_cascaded_styles", "dict"),
   ("css/__init__.py", "StyleFor", "_computed_styles", "dict"),
   ("css/targets.py", "CounterLookupItem", "cached_page_counter_values", "dict"),
   ("css/targets.py", "TargetCollector", "counter_lookup_items", "dict"),
   ("css/targets.py", "TargetCollector", "target_lookup_items", "dict"),
   ("css/targets.py", "TargetLookupItem", "cached_page_counter_values", "dict"),
   ("css/targets.py", "TargetLookupItem", "parse_again_functions", "dict"),
   ("document.py", "DiskCache", "_disk_paths", "set"),
   ("document.py", "DiskCache", "_memory_cache", "dict"),
   ("document.py", "Document", "fonts", "dict"),
   ("document.py", "Page", "anchors", "dict"),
   ("document.py", "Page", "bleed", "dict"),
   ("document.py", "Page", "bookmarks", "list"),
   ("document.py", "Page", "forms", "dict"),
   ("document.py", "Page", "links", "list"),
   ("formatting_structure/boxes.py", "Box", "children", "list"),
   ("formatting_structure/boxes.py", "Box", "remove_decoration_sides", "set"),
   ("formatting_structure/boxes.py", "ParentBox", "remove_decoration_sides", "set"),
   ("formatting_structure/boxes.py", "TableBox", "column_positions", "list"),
   ("layout/__init__.py", "LayoutContext", "_excluded_shapes_lists", "list"),
   ("layout/__init__.py", "LayoutContext", "broken_out_of_flow", "dict"),
   ("layout/__init__.py", "LayoutContext", "current_page_footnotes", "list"),
   ("layout/__init__.py", "LayoutContext", "dictionaries", "dict"),
   ("layout/__init__.py", "LayoutContext", "excluded_shapes", "list"),
   ("layout/__init__.py", "LayoutContext", "font_features", "dict"),
   ("layout/__init__.py", "LayoutContext", "footnotes", "list"),
   ("layout/__init__.py", "LayoutContext", "page_footnotes", "dict"),
   ("layout/__init__.py", "LayoutContext", "reported_footnotes", "list"),
   ("layout/__init__.py", "LayoutContext", "running_elements", "defaultdict"),
   ("layout/__init__.py", "LayoutContext", "string_set", "defaultdict"),
   ("layout/__init__.py", "LayoutContext", "strut_layouts", "dict"),
   ("layout/__init__.py", "LayoutContext", "tables", "dict"),
   ("pdf/fonts.py", "Font", "cmap", "dict"),
   ("pdf/fonts.py", "Font", "tables", "list"),
   ("pdf/fonts.py", "Font", "variations", "dict"),
   ("pdf/fonts.py", "Font", "widths", "dict"),
   ("pdf/stream.py", "Stream", "_ctm_stack", "list"),
   ("pdf/stream.py", "Stream", "marked", "list"),
   ("stacking.py", "StackingContext", "negative_z_contexts", "list"),
   ("stacking.py", "StackingContext", "positive_z_contexts", "list"),
   ("stacking.py", "StackingContext", "zero_z_contexts", "list"),
   ("svg/__init__.py", "Node", "vertices", "list"),
   ("svg/__init__.py", "SVG", "cursor_d_position", "list"),
   ("svg/__init__.py", "SVG", "cursor_position", "list"),
   ("svg/__init__.py", "SVG", "filters", "dict"),
   ("svg/__init__.py", "SVG", "gradients", "dict"),
   ("svg/__init__.py", "SVG", "images", "dict"),
   ("svg/__init__.py", "SVG", "markers", "dict"),
   ("svg/__init__.py", "SVG", "masks", "dict"),
   ("svg/__init__.py", "SVG", "paths", "dict"),
   ("svg/__init__.py", "SVG", "patterns", "dict"),
   ("svg/__init__.py", "SVG", "symbols", "dict"),
   ("svg/__init__.py", "SVG", "use_cache", "dict")]

/-- Every mutable container owned by a class is reviewed, attribute by attribute: a new `self.x = {}` (a new
per-object cache) or a container in a class body shows up here. -/
theorem state_attributes_reviewed : stateClasses = reviewedStateAttributes := rfl

/-- No class body holds a mutable container: a class-level dict / list / set would be shared by all instances and live
as long as the process (entries `CLASSATTR:<name>` of the inventory). -/
theorem no_class_level_container : classLevelContainers = [] := rfl

/-- Memoised functions: one per-call cache (a closure inside `table_and_columns_preferred_widths`, gone when the call
returns) and one process-lifetime memo of a pure function of its argument (`get_lang_quotes(lang)` reads the constant
table `LANG_QUOTES`). -/
def reviewedMemoSites : List (String × String × String × String) :=
  [("layout/preferred.py", "table_and_columns_preferred_widths.get_percentage_contribution", "cache", "call"),
   ("text/constants.py", "get_lang_quotes", "lru_cache", "process")]

/-- Places where hash order or an address is observable, with the reason each cannot reach the output:
* `HTML.render`: one log line per unknown option (order of warnings only);
* `DiskCache.__del__`: files are unlinked, in any order;
* `make_page`: `id(counter_lookup)` is a membership key in a per-page set, never ordered or printed;
* `Node.cascade`: each colour attribute is resolved independently of the others;
* `SVG.parse_defs`: each definition kind is stored in its own dictionary. -/
def reviewedOrderSites : List (String × String × String × String) :=
  [("__init__.py", "HTML.render", "for", "set(options) - set(DEFAULT_OPTIONS)"),
   ("document.py", "DiskCache.__del__", "for", "self._disk_paths"),
   ("layout/page.py", "make_page", "id", "id(counter_lookup)"),
   ("svg/__init__.py", "Node.cascade", "for", "COLOR_ATTRIBUTES"),
   ("svg/__init__.py", "SVG.parse_defs", "for", "DEF_TYPES")]

/-- Every process-lifetime object of the source is reviewed, and nothing reviewed has disappeared. -/
theorem module_objects_reviewed : moduleObjects = reviewedModuleObjects.map (·.1) := rfl

/-- Every class that owns mutable state has a reviewed lifetime. -/
theorem state_classes_reviewed : stateClassNames = reviewedStateClasses.map (·.1) := rfl

/-- No class keeps mutable state for longer than the object the caller holds: none has process lifetime. -/
theorem no_process_lifetime_class :
    ∀ e ∈ reviewedStateClasses, e.2 = .perRender ∨ e.2 = .perDocument ∨ e.2 = .perPdf ∨ e.2 = .perImage ∨
      e.2 = .callerOwned ∨ e.2 = .cliOnly := by decide

/-- The memoised functions of the source are exactly the two reviewed ones. -/
theorem memo_sites_reviewed : memoSites = reviewedMemoSites := rfl

/-- The only memo that outlives a call is `get_lang_quotes`. -/
theorem single_process_memo :
    reviewedMemoSites.filter (fun e => e.2.2.2 == "process") =
      [("text/constants.py", "get_lang_quotes", "lru_cache", "process")] := rfl

/-- The places where hash order or an address is observable are exactly the five reviewed ones: in particular no loop
over the computed value of a set-valued property (`setValuedProperties`) exists in the drawing code. -/
theorem order_sites_reviewed : orderSites = reviewedOrderSites := rfl

/-- `text-decoration-line` is the only property whose computed value is a set. -/
theorem set_valued_properties_reviewed : setValuedProperties = ["text_decoration_line"] := rfl

/-- The objects classified as import-time registries. -/
def registries : List (String × String) :=
  (reviewedModuleObjects.filter (fun e => e.2 == .importRegistry)).map (fun e => (e.1.1, e.1.2.1))

/-- Tie between the two generated tables: every store through a module-level name that occurs inside a function
(`Gen.moduleState`, kinds `store@` / `call.<mutator>@`) targets an object reviewed as an import-time registry; the
functions doing it are the registering decorators.  Hence no `constTable` / `uaSheet` object is written by name from
inside any function of the package. -/
theorem registries_only_written_at_import :
    ∀ s ∈ Wp.Gen.moduleState, s.2.2.toList.take 5 = "memo@".toList ∨ (s.1, s.2.1) ∈ registries := by
  -- the first 14 sites are, two by two (a decorator and its inner function), the stores into the registries in the
  -- order of `registries`; both sides are literal lists, so no string is compared by evaluation (slow in the kernel)
  have hsites : (Wp.Gen.moduleState.take 14).map (fun s => (s.1, s.2.1)) = registries.flatMap (fun r => [r, r]) := rfl
  intro s hs
  rw [← List.take_append_drop 14 Wp.Gen.moduleState, List.mem_append] at hs
  rcases hs with hs | hs
  · have hm := List.mem_map_of_mem (f := fun s => (s.1, s.2.1)) hs
    rw [hsites, List.mem_flatMap] at hm
    obtain ⟨r, hr, hx⟩ := hm
    simp only [List.mem_cons, List.not_mem_nil, or_false, or_self] at hx
    exact .inr (hx ▸ hr)
  · obtain rfl := List.mem_singleton.mp hs
    refine .inl ?_
    -- a literal is `String.ofList` of its characters: `toList_ofList` reads them off without decoding UTF-8
    show List.take 5 (String.ofList _).toList = (String.ofList _).toList
    rw [String.toList_ofList, String.toList_ofList]
    rfl

example : ("css/utils.py", "LENGTHS_TO_PIXELS", "dict") ∈ moduleObjects ∧
    (("document.py", "DiskCache"), Lifetime.callerOwned) ∈ reviewedStateClasses :=
  ⟨List.mem_of_getElem? (i := 20) rfl, List.mem_of_getElem? (i := 7) rfl⟩

end Wp.C19.Purity
