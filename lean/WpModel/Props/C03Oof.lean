/-
C03 / C02 for PM stage 2a — with out-of-flow children in the block flow: the first content of an empty
page is always accepted (so `make_page`'s `assert root_box` is unreachable, and `float_layout` /
`absolute_box_layout` never receive `None`), every non-blank page makes strict progress in the flow, a
blank page is followed by a non-blank one, and `make_all_pages` terminates within `2 · size` pages.
Out-of-flow children count as one unit of `size` each.
-/
import WpModel.Lemmas.OofPages
import WpModel.Lemmas.OofPagesRun
import WpModel.Lemmas.Basic.List
import WpModel.Lemmas.OofTotal
import WpModel.Lemmas.OofParaGeo
import WpModel.Lemmas.OofGeometry
import WpModel.Props.C01Oof

namespace Wp.PMO.C03Oof
open Wp Wp.PM

/-- `remake_page` never fails its `assert root_box`. -/
theorem remakePage_total (d : Doc) (index : Nat) (resume : Option Resume) (np : NextPage) (right : Bool)
    (brokenIn : List Broken) (rootTop : Rat) :
    (remakePage d index resume np right brokenIn rootTop).isSome = true := by
  unfold remakePage
  dsimp only
  split
  · rename_i h
    obtain ⟨f, hf⟩ := box_frag _ _ 0 0 0 resume false [] _
    rw [hf] at h
    cases h
  · rfl

/-- **Progress of `block_level_layout`**: the returned resume position is never before the skip position,
and strictly later when the layout started on an empty page. (Not strict in general: a box whose first
float does not fit comes back empty, to be resumed at the same place; that is harmless: something else is on
that page.) -/
theorem layout_progress (box : OBox) (hg : Good box) (c : Ctx) (idx : Nat)
    (y bs : Rat) (skip : Option Resume) (cb pie : Bool) (adjL : List Rat) (w : World) (hwf : WfSkip box skip)
    (f : OFrag) (r : Resume)
    (hf : (layoutBox c box idx y bs skip cb pie adjL w).frag = some f)
    (hr : (layoutBox c box idx y bs skip cb pie adjL w).resume = some r) :
    pos box skip ≤ pos box (some r) ∧ (pie = true → pos box skip < pos box (some r)) := by
  have := box_spec box hg c idx y bs skip cb pie adjL w hwf f hf
  rw [hr] at this
  exact ⟨this.2.1, this.2.2.1⟩

/-- **Strict progress of pages** in the flow. -/
theorem page_progress (d : Doc) (hg : Good d.root) (index : Nat)
    (resume : Option Resume) (np : NextPage) (right : Bool) (brokenIn : List Broken) (rootTop : Rat) (p : Page)
    (hwf : WfSkip d.root resume)
    (hp : remakePage d index resume np right brokenIn rootTop = some p) (hnb : p.type.blank = false) :
    (p.resume = none ∨ pos d.root resume < pos d.root p.resume) ∧ WfSkip d.root p.resume := by
  obtain ⟨_, h2⟩ := remakePage_lines d hg index resume np right brokenIn rootTop p hwf hp
  refine ⟨?_, (h2 hnb).2.1⟩
  cases hr : p.resume with
  | none => left; rfl
  | some r => right; exact (h2 hnb).2.2 r hr

/-- A blank page leaves the flow where it was and is followed by a non-blank page. (It does lay out the
continuations of the out-of-flow boxes cut before it.) -/
theorem blank_then_nonblank (d : Doc) (index : Nat) (resume : Option Resume) (np : NextPage) (right : Bool)
    (brokenIn : List Broken) (rootTop : Rat)
    (p : Page) (hp : remakePage d index resume np right brokenIn rootTop = some p) (hb : p.type.blank = true) :
    p.resume = resume ∧ p.nextPage = np ∧
    ∀ bi rt p', remakePage d (index + 1) p.resume p.nextPage (!right) bi rt = some p' → p'.type.blank = false := by
  obtain ⟨hbl, h1, _⟩ := remakePage_spec d index resume np right brokenIn rootTop p hp
  obtain ⟨hr, hn, _⟩ := h1 hb
  refine ⟨hr, hn, ?_⟩
  intro bi rt p' hp'
  obtain ⟨hbl', _, _⟩ := remakePage_spec d (index + 1) p.resume p.nextPage (!right) bi rt p' hp'
  rw [hbl', hn]
  apply isBlank_flip
  rw [← hbl]; exact hb

/-! ### termination -/

def pagesNeeded (d : Doc) (resume : Option Resume) (np : NextPage) (right : Bool) : Nat :=
  PageLoop.twoSided (size d.root) (pos d.root resume) (isBlank (requestedSide d.rootLtr np.brk) right)

/-- **`make_all_pages` terminates** from every page-maker state with a well-formed resume position, with
at most `pagesNeeded` pages — whatever is pending in `broken_out_of_flow` (it never prolongs the
document: that is the loss at the end of the document). -/
theorem makeAllPages_terminates (d : Doc) (hg : Good d.root)
    (fuel index : Nat) (resume : Option Resume) (np : NextPage) (right : Bool) (brokenIn : List Broken)
    (rootTop : Rat) (hwf : WfSkip d.root resume) (h : pagesNeeded d resume np right ≤ fuel) :
    ∃ pages, makeAllPages d fuel index resume np right brokenIn rootTop = some pages ∧
      pages.length ≤ pagesNeeded d resume np right := by
  simp only [makeAllPages_eq_some]
  refine PageLoop.run_total (fun s : PState => WfSkip d.root s.2.1)
    (fun s : PState => pagesNeeded d s.2.1 s.2.2.1 s.2.2.2.1) ?_ ?_ ?_ fuel _ hwf h
  · intro ⟨i, r, n, b, bi, rt⟩ e _
    exact PageLoop.stepOf_ne_error e (remakePage_total d i r n b bi rt)
  · intro ⟨i, r, n, b, bi, rt⟩ _
    exact PageLoop.twoSided_pos _ (pos_lt_size d.root r)
  · intro ⟨i, r, n, b, bi, rt⟩ p s' hwf hs
    obtain ⟨hp, ho⟩ := PageLoop.stepOf_ok hs
    obtain ⟨r', hr, rfl⟩ := Option.map_eq_some_iff.mp ho.symm
    obtain ⟨hbl, hb1, _⟩ := remakePage_spec d i r n b bi rt p hp
    have hw' : WfSkip d.root (some r') := by
      cases hb : p.type.blank with
      | true => rw [← hr, (hb1 hb).1]; exact hwf
      | false => exact hr ▸ (page_progress d hg i r n b bi rt p hwf hp hb).2
    exact ⟨hw', twoSided_page hbl (fun hb => by rw [← hr, (hb1 hb).1, (hb1 hb).2.1]; exact ⟨rfl, rfl⟩)
      (fun hb => ((remakePage_lines d hg i r n b bi rt p hwf hp).2 hb).2.2 r' hr)
      (pos_lt_size d.root (some r'))⟩

/-- **Pagination terminates**: `2 · size + 2` units of fuel are always enough; at most `2 · size` pages. -/
theorem paginate_terminates (d : Doc) (hg : Good d.root) :
    ∃ pages, paginate d (2 * size d.root + 2) = some pages ∧ pages.length ≤ 2 * size d.root := by
  unfold paginate
  have hn : pagesNeeded d none { brk := none, page := some (boxPageStart d.root) } (firstRight d) ≤ 2 * size d.root :=
    twoSided_start ..
  obtain ⟨pages, hp, hl⟩ := makeAllPages_terminates d hg (2 * size d.root + 2) 0 none
    { brk := none, page := some (boxPageStart d.root) } (firstRight d) [] 0 (wfSkip_none _) (by omega)
  exact ⟨pages, hp, by omega⟩

/-! ### geometry of the flow: lines fit below the floats

The line box is first moved below the floats it collides with (`avoid_collisions`, which only moves
down), the overflow test is made at *that* position: a kept line ends at or above
`page_bottom − bottom_space`, unless it is the first line of the fragment placed on an empty page. -/

/-- **Line fits** (paragraph level, any floats): every line kept in a paragraph fragment fits, or is the
first line placed while the page was empty. -/
theorem line_fits (c : Ctx) (st : PStyle) (b : BoxSt) (n : Nat) (lineH : Rat) (pie : Bool)
    (adj : List Rat) (bs posY : Rat) (skip : Option Resume) (dbd : Bool) (shapes : List Shape)
    (hdeco : 0 ≤ b.bb + b.pb) :
    ∀ p ∈ (lineboxLayout c st b n lineH pie adj bs posY skip dbd shapes).lines,
      (pie = true ∧ p.1 = skipLine skip) ∨ c.overflowsPage bs (p.2 + lineH) = false :=
  lineboxLayout_fits c st b n lineH pie adj bs posY skip dbd shapes hdeco

/-- On a page that already has content no kept line overflows, wherever the floats pushed it. -/
theorem line_fits_nonempty_page (c : Ctx) (st : PStyle) (b : BoxSt) (n : Nat) (lineH : Rat)
    (adj : List Rat) (bs posY : Rat) (skip : Option Resume) (dbd : Bool) (shapes : List Shape)
    (hdeco : 0 ≤ b.bb + b.pb) :
    ∀ p ∈ (lineboxLayout c st b n lineH false adj bs posY skip dbd shapes).lines,
      c.overflowsPage bs (p.2 + lineH) = false := by
  intro p hp
  rcases line_fits c st b n lineH false adj bs posY skip dbd shapes hdeco p hp with h | h
  · cases h.1
  · exact h

/-- `avoid_collisions` never moves a box up. -/
theorem avoid_only_down (shapes : List Shape) (h y : Rat) : y ≤ avoidLine shapes h y :=
  avoidY_ge shapes h _ y

/-! ### whole layouts and pages

`placedLines f pie box` lists the in-flow lines of the fragment tree `f` of the source box `box` (fragment
children matched to source children through `.idx`, line heights read there, nothing collected where the two do not
match; fragments of out-of-flow boxes — placeholders, floats, continuations, laid-out
absolute boxes — hold none), `exempt` marking the first in-flow line of a layout started on an empty page.
`DecoOk box`: in every box of the flow, bottom padding + border ≥ 0 and, with `box-decoration-break: clone`,
bottom padding + border + margin ≥ 0 (else: known finding `clone-negative-margin-bottom`). -/

/-- **Line fits, whole layout** (C03, flow): in every fragment tree returned by `block_level_layout`, every
in-flow line ends at or above `page_bottom − bottom_space`, the first in-flow line excepted when the layout
started on an empty page — whatever floats and clearance did to the positions. -/
theorem layout_line_fits (box : OBox) (hd : DecoOk box) (c : Ctx) (idx : Nat) (y bs : Rat)
    (skip : Option Resume) (cb pie : Bool) (adjL : List Rat) (w : World) (f : OFrag)
    (h : (layoutBox c box idx y bs skip cb pie adjL w).frag = some f) :
    ∀ p ∈ placedLines f pie box, p.exempt = true ∨ c.overflowsPage bs p.bottom = false :=
  box_fits box hd c idx y bs skip cb pie adjL w f h

/-- Only the very first in-flow line can be exempt, and only when the layout started on an empty page. -/
theorem only_first_line_exempt (f : OFrag) (pie : Bool) (box : OBox) :
    (∀ p ∈ (placedLines f pie box).tail, p.exempt = false) ∧
    (pie = false → ∀ p ∈ placedLines f pie box, p.exempt = false) :=
  placedLines_exempt f pie box

/-- **Line fits, pages** (C03, flow): on every page, every in-flow line of the final root fragment
(continuations prepended, absolute boxes laid out) ends above the bottom of the page area, except the first
in-flow line of the page. Out-of-flow content is *not* covered: a float is cut where it was laid out,
then moved below earlier floats (`find_float_position`), and an absolutely positioned box starts wherever
its static position is. -/
theorem remakePage_line_fits (d : Doc) (hd : DecoOk d.root) (index : Nat) (resume : Option Resume)
    (np : NextPage) (right : Bool) (brokenIn : List Broken) (rootTop : Rat) (p : Page)
    (hp : remakePage d index resume np right brokenIn rootTop = some p) :
    ∀ q ∈ (placedLines p.root true (pageSource d p)).tail, q.y + q.lineH ≤ d.pageH * (1 + 1 / 1000000000) := by
  obtain ⟨c, hc, h⟩ := remakePage_fits d hd index resume np right brokenIn rootTop p hp
  intro q hq
  have hne := (placedLines_exempt p.root true (pageSource d p)).1 q hq
  rcases h q (List.mem_of_mem_tail hq) with h1 | h1
  · rw [hne] at h1; cases h1
  · unfold Ctx.overflowsPage overflows PlacedLine.bottom at h1
    simp only [decide_eq_false_iff_not] at h1
    rw [hc] at h1
    grind

theorem makeAllPages_line_fits (d : Doc) (hd : DecoOk d.root) : ∀ (fuel index : Nat) (resume : Option Resume)
    (np : NextPage) (right : Bool) (brokenIn : List Broken) (rootTop : Rat) (pages : List Page),
    makeAllPages d fuel index resume np right brokenIn rootTop = some pages →
    ∀ p ∈ pages, ∀ q ∈ (placedLines p.root true (pageSource d p)).tail,
      q.y + q.lineH ≤ d.pageH * (1 + 1 / 1000000000) :=
  fun fuel index resume np right brokenIn rootTop pages =>
    makeAllPages_forall d (fun _ => True) _
      (fun index resume np right bi rt p _ hp => ⟨remakePage_line_fits d hd index resume np right bi rt p hp, trivial⟩)
      fuel index resume np right brokenIn rootTop pages trivial

/-- **Line fits, documents** (C03, flow): on every page of a paginated document of the extended grammar,
every in-flow line but the first one of the page ends at or above the page bottom (with the layout's
fudge factor). -/
theorem paginate_line_fits (d : Doc) (hd : DecoOk d.root) (fuel : Nat) (pages : List Page)
    (h : paginate d fuel = some pages) :
    ∀ p ∈ pages, ∀ q ∈ (placedLines p.root true (pageSource d p)).tail,
      q.y + q.lineH ≤ d.pageH * (1 + 1 / 1000000000) := by
  unfold paginate at h
  exact makeAllPages_line_fits d hd fuel 0 none _ _ [] 0 pages h

/-! ### non-vacuity (`C01Oof.exDoc`: 15 units, 3 pages, a float and an absolute box cut and continued) -/

example : size C01Oof.exDoc.root = 15 ∧
    (paginate C01Oof.exDoc (2 * size C01Oof.exDoc.root + 2)).map
      (fun ps => ps.map fun p => (p.type.blank, pos C01Oof.exDoc.root p.resume)) =
    some [(false, 4), (false, 8), (false, 0)] := ⟨by decide +kernel, by decide +kernel⟩

/-- A paragraph of 4 lines started at y = 0 below a float occupying 0–25 on a 50px page that already has
content: lines at 25 and 35, the third does not fit. -/
example :
    (lineboxLayout { pageBottom := 50, currentPage := 1, forcedBreak := false } Witness.st0
      { y := 0, mt := 0, mb := 0, pt := 0, pb := 0, bt := 0, bb := 0 } 4 10 false [] 0 0 none false
      [{ ser := 1, y := 0, mh := 25 }]).lines = [(0, 25), (1, 35)] := by decide +kernel

/-- `DecoOk` holds of `exDoc`; the in-flow lines of its page 2 (below the float continuation 0–30): two
lines at 30 and 40, the first one flagged exempt, both fitting on the 50px page. -/
example : DecoOk C01Oof.exDoc.root ∧
    (paginate C01Oof.exDoc 40).map (fun ps => ps.map fun p =>
      (placedLines p.root true (pageSource C01Oof.exDoc p)).map fun q => (q.exempt, q.para, q.line, q.y)) =
    some [[(true, 1, 0, 0), (false, 1, 1, 10)], [(true, 3, 0, 30), (false, 3, 1, 40)],
      [(true, 5, 0, 0), (false, 5, 1, 10), (false, 5, 2, 20), (false, 5, 3, 30)]] := by
  refine ⟨?_, by decide +kernel⟩
  simp [C01Oof.exDoc, Witness.mkDoc, DecoOk, DecoOkList, PStyle.DecoOk, Witness.flow, Witness.floated,
    Witness.absolute, Witness.st0, Rat.add_zero]

/-! ### progress of the out-of-flow part of the page loop

`page_progress` / `paginate_terminates` above speak of the flow. What `context.broken_out_of_flow` drives makes
progress as well: every continuation strictly advances the position of its box, so a box is continued on at
most `size box` pages. (The Python oracle `progress_violation` samples this on the fragments; here it holds for
every box, page and state.) -/

/-- **An out-of-flow box laid out on a page shows something**: `float_layout` / `absolute_box_layout` call
`block_container_layout` with `page_is_empty = True`, so when the box is cut the returned resume position is
strictly after the one it was started from (and inside the box). -/
theorem out_of_flow_layout_progress (box : OBox) (hg : Good box) (c : Ctx) (idx : Nat) (y bs : Rat)
    (skip : Option Resume) (w : World) (hwf : WfSkip box skip) (ρ : Resume)
    (hρ : (layoutBox c box idx y bs skip false true [] w).resume = some ρ) :
    pos box skip < pos box (some ρ) ∧ pos box (some ρ) < size box := by
  obtain ⟨f, hfr⟩ := box_frag box c idx y bs skip false [] w
  exact ⟨(layout_progress box hg c idx y bs skip false true [] w hwf f ρ hfr hρ).2 rfl, pos_lt_size box _⟩

/-- **Progress of a continuation** (`make_page`, one iteration of the loop over `context.broken_out_of_flow`):
what is registered again for the box — if anything — is a position strictly after the one this page continued
it from. With `pos < size` an out-of-flow box is therefore continued on at most `size box` pages: it cannot
keep the page loop alive for ever (C03 progress / C02 bounded page count, for the out-of-flow part). -/
theorem continuation_progress (c : Ctx) (rootTop : Rat) (acc : World × List OFrag) (e : Broken)
    (hg : Good e.box) (hwf : WfSkip e.box (some e.resume)) :
    ∃ r : LayoutResult,
      (contStep c rootTop acc e).1.broken.map (fun b => (b.box.id, b.resume)) =
        r.w.broken.map (fun b => (b.box.id, b.resume)) ++
          (match r.resume with | some ρ => [(e.box.id, ρ)] | none => []) ∧
      ∀ ρ, r.resume = some ρ →
        pos e.box (some e.resume) < pos e.box (some ρ) ∧ pos e.box (some ρ) < size e.box := by
  obtain ⟨_, _, r, idx, y, w0, _, _, hres, _, hbr⟩ := C01Oof.continuation_step c rootTop acc e
  exact ⟨r, hbr, fun ρ hρ => out_of_flow_layout_progress e.box hg c idx y 0 (some e.resume) w0 hwf ρ (hres ▸ hρ)⟩

/-- The same with the world invariant: for a registered item of a good document no hypothesis is left. -/
theorem continuation_progress_ok (c : Ctx) (rootTop : Rat) (acc : World × List OFrag) (e : Broken) (he : EOk e) :
    ∃ r : LayoutResult,
      (contStep c rootTop acc e).1.broken.map (fun b => (b.box.id, b.resume)) =
        r.w.broken.map (fun b => (b.box.id, b.resume)) ++
          (match r.resume with | some ρ => [(e.box.id, ρ)] | none => []) ∧
      ∀ ρ, r.resume = some ρ →
        pos e.box (some e.resume) < pos e.box (some ρ) ∧ pos e.box (some ρ) < size e.box :=
  continuation_progress c rootTop acc e (good_of_deep e.box he.1) he.2

/-- The successive positions from which one out-of-flow box is continued, page after page: each is the resume
position returned by the continuation layout (`float_layout` / `absolute_box_layout`, `page_is_empty = True`,
any page, any state) started at the previous one. -/
inductive ContChain (box : OBox) : Resume → List Resume → Prop
  | nil (ρ : Resume) : ContChain box ρ []
  | cons {ρ ρ' : Resume} {l : List Resume} :
      (∃ (c : Ctx) (idx : Nat) (y bs : Rat) (w : World),
        (layoutBox c box idx y bs (some ρ) false true [] w).resume = some ρ') →
      ContChain box ρ' l → ContChain box ρ (ρ' :: l)

theorem contChain_positions (box : OBox) (hg : Good box) : ∀ (ρ : Resume) (l : List Resume),
    ContChain box ρ l → WfSkip box (some ρ) →
    (pos box (some ρ) :: l.map (fun r => pos box (some r))).Pairwise (· < ·) ∧
      ∀ x ∈ l.map (fun r => pos box (some r)), x < size box := by
  intro ρ l h
  induction h with
  | nil ρ => intro _; simp
  | @cons ρ ρ' l hstep _ ih =>
    intro hwf
    obtain ⟨c, idx, y, bs, w, hρ'⟩ := hstep
    have hprog := out_of_flow_layout_progress box hg c idx y bs (some ρ) w hwf ρ' hρ'
    have hwf' := good_resume_wf box hg c idx y bs (some ρ) false [] w hwf ρ' hρ'
    obtain ⟨hpw, hb⟩ := ih hwf'
    rw [List.pairwise_cons] at hpw
    constructor
    · simp only [List.map_cons]
      rw [List.pairwise_cons]
      refine ⟨?_, List.pairwise_cons.mpr hpw⟩
      intro x hx
      simp only [List.mem_cons] at hx
      rcases hx with rfl | hx
      · exact hprog.1
      · exact Nat.lt_trans hprog.1 (hpw.1 x hx)
    · intro x hx
      simp only [List.map_cons, List.mem_cons] at hx
      rcases hx with rfl | hx
      · exact hprog.2
      · exact hb x hx

/-- **An out-of-flow box is continued on at most `size box` pages**, whatever the pages are: the C03 / C02
clause "the page count is bounded by the amount of content" for the part of the page loop that
`context.broken_out_of_flow` drives. -/
theorem continuation_bounded (box : OBox) (hg : Good box) (ρ : Resume) (l : List Resume)
    (h : ContChain box ρ l) (hwf : WfSkip box (some ρ)) : l.length ≤ size box := by
  obtain ⟨hpw, hb⟩ := contChain_positions box hg ρ l h hwf
  rw [List.pairwise_cons] at hpw
  have := List.Nodup.length_le_of_forall_lt (hpw.2.imp Nat.ne_of_lt) hb
  simpa using this

/-! Non-vacuity: a 14-line float on 50px pages, continued from line 2: the continuation shows lines 2–6 and
registers line 7 (position 2 < 7 < size 15); so a one-step chain exists, and the hypotheses hold. -/
private def exFloat : OBox := .para 2 14 10 (Witness.floated Witness.st0)
private def exCtx : Ctx := { pageBottom := 50, currentPage := 2, forcedBreak := false }

example : ((layoutBox exCtx exFloat 0 0 0 (some (.node 0 (some (.line 2)))) false true [] World.empty).resume.map
      (fun r => pos exFloat (some r)), pos exFloat (some (.node 0 (some (.line 2)))), size exFloat) =
    (some 7, 2, 15) := by decide +kernel

example : Good exFloat ∧ WfSkip exFloat (some (.node 0 (some (.line 2)))) ∧
    ∃ ρ', ContChain exFloat (.node 0 (some (.line 2))) [ρ'] := by
  refine ⟨by simp [exFloat, Good, Witness.floated, Witness.st0], by simp [exFloat, WfSkip], ?_⟩
  have h : (layoutBox exCtx exFloat 0 0 0 (some (.node 0 (some (.line 2)))) false true []
      World.empty).resume.isSome = true := by decide +kernel
  obtain ⟨ρ', hρ'⟩ := Option.isSome_iff_exists.mp h
  exact ⟨ρ', .cons ⟨exCtx, 0, 0, 0, World.empty, hρ'⟩ (.nil ρ')⟩

end Wp.PMO.C03Oof
