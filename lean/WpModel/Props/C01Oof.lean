/-
C01 for PM stage 2a — pagination with out-of-flow children (absolutely positioned boxes, full-width
floats, `clear`) conserves the content of the flow; out-of-flow boxes are continued page after page from
where they were cut — and are lost at the end of the document (the open finding
`out-of-flow-lost-at-document-end`, witness in `Witness/C01Oof.lean`). The two duplication findings
(`float-fragment-duplicated`, `absolute-placeholder-survives-abort`) were repaired in /repo (cdccac3,
e3ac9f0): the model follows, `Witness/C01Oof.lean` keeps their former counterexamples as regression theorems,
and §4 below states, for all inputs, the two facts the repairs established (`cancelled_block_leaves_nothing`,
`only_children_continued`).
A finding of the same family with nested floats (`nested-out-of-flow-in-postponed-float`) was repaired in 0d665d0:
regression theorem
`Witness.nested_float_in_postponed_float_not_duplicated`, and for all inputs `postponed_float_leaves_nothing`.

1. Embedding: on stage-1 documents the extended model *is* stage 1 (so C01–C05 stage-1 theorems hold for
   the static fragment of the extended grammar).
2. In-flow conservation, for all documents of the extended grammar: `segment`, `pages_conserve`.
3. Out-of-flow boxes: `float_segment`, `abs_segment`, `continuation_segment` (each fragment shows the
   lines from the resume position it was given up to the one it registers), `continued_next_page` (what a
   page registers is what the next page continues, in order).
4. What the repairs made true, for all inputs: `cancelled_block_leaves_nothing`, `only_children_continued`,
   `postponed_float_leaves_nothing`.
5. From the single step to the page: `page_continues`, `next_page_continues` (everything a page registers is
   continued, in order, at the top of the next page), when the registered boxes are `Good` and their resume
   positions well formed.
6. That hypothesis holds for every document that is good at every depth: `document_continues`,
   `paginate_continues`.
-/
import WpModel.Lemmas.OofEmbed
import WpModel.Lemmas.OofPages
import WpModel.Lemmas.OofTotal
import WpModel.Lemmas.OofFrame
import WpModel.Lemmas.OofWorld
import WpModel.Props.C01
import WpModel.Witness.C01Oof

namespace Wp.PMO.C01Oof
open Wp Wp.PM

/-! ### 1. embedding of stage 1 -/

/-- **Embedding theorem**: the extended pagination of an embedded stage-1 document is the embedding of
its stage-1 pagination (same pages, fragments, geometry, resume positions; nothing out of flow). -/
theorem embed_agrees (d : PM.Doc) (fuel : Nat) :
    PMO.paginate (embedDoc d) fuel = (PM.paginate d fuel).map (embedPages 0) :=
  paginate_embed d fuel

/-- The same at the level of one `block_level_layout` call. -/
theorem embed_layout (box : PBox) (c : Ctx) (idx : Nat) (y bs : Rat) (skip : Option Resume) (cb pie : Bool)
    (adjL : List Rat) :
    PMO.layoutBox c (embed box) idx y bs skip cb pie adjL World.empty =
      embedResult (PM.layoutBox c box idx y bs skip cb pie adjL) :=
  layoutBox_embed box c idx y bs skip cb pie adjL

/-- Transfer, as an example of use: the in-flow lines of the embedded pages are the stage-1 lines. -/
theorem embedFrag_lines : (f : Frag) → PMO.fragLines (embedFrag f) = PM.fragLines f := by
  intro f
  induction f using Frag.rec (motive_2 := fun fs => PMO.fragLinesList (embedFragList fs) = PM.fragLinesList fs) with
  | para id idx st n g lines => simp [embedFrag, PMO.fragLines, PM.fragLines]
  | block id idx st g kids ih => simpa [embedFrag, PMO.fragLines, PM.fragLines] using ih
  | nil => rfl
  | cons f fs ihf ihfs => simp [embedFragList, PMO.fragLinesList, PM.fragLinesList, ihf, ihfs]

/-! Non-vacuity of the embedding: the stage-1 example document (6 pages, one blank). -/
example : (PMO.paginate (embedDoc Wp.C01.exDoc) 50).map (fun ps => ps.map (fun p => (p.type.blank, PMO.fragLines p.root))) =
    some [(false, [(1, 0), (1, 1)]), (false, [(1, 2)]), (false, [(3, 0), (3, 1)]), (false, [(3, 2), (3, 3)]),
      (true, []), (false, [(5, 0)])] := by decide +kernel

/-! ### 2. the flow: nothing lost, duplicated or reordered

`fragLines f` = the lines of the fragment's own flow (lines inside floats / absolute boxes excluded),
`linesFrom box skip` = the in-flow lines of the box at / after the skip position. Hypotheses: `Good`
(no fixed `height`, `orphans, widows ≥ 1`, on the in-flow boxes only) and a well-formed skip stack (a
sub-stack only under an in-flow child — what every layout returns: `segment_wf`). No hypothesis on
geometry, floats, clearance, the threaded state. -/

theorem segment (box : OBox) (hg : Good box) (c : Ctx) (idx : Nat) (y bs : Rat)
    (skip : Option Resume) (cb pie : Bool) (adjL : List Rat) (w : World) (hwf : WfSkip box skip) (f : OFrag)
    (h : (layoutBox c box idx y bs skip cb pie adjL w).frag = some f) :
    fragLines f ++ restOut box (layoutBox c box idx y bs skip cb pie adjL w).resume = linesFrom box skip :=
  boxPost_lines (box_spec box hg c idx y bs skip cb pie adjL w hwf) h

/-- The resume position a layout returns is well formed (so the hypothesis of `segment` propagates). -/
theorem segment_wf (box : OBox) (hg : Good box) (c : Ctx) (idx : Nat) (y bs : Rat)
    (skip : Option Resume) (cb pie : Bool) (adjL : List Rat) (w : World) (hwf : WfSkip box skip) (f : OFrag)
    (h : (layoutBox c box idx y bs skip cb pie adjL w).frag = some f) :
    WfSkip box (layoutBox c box idx y bs skip cb pie adjL w).resume := by
  cases hr : (layoutBox c box idx y bs skip cb pie adjL w).resume with
  | none => exact wfSkip_none _
  | some r => exact layout_resume_wf box hg c idx y bs skip cb pie adjL w hwf f h r hr

/-- One page: blank pages show no in-flow line and leave the position; other pages show a prefix of what
was left — continuation fragments and laid-out absolute boxes of the final root do not count. -/
theorem page_segment (d : Doc) (hg : Good d.root) (index : Nat) (resume : Option Resume) (np : NextPage)
    (right : Bool) (brokenIn : List Broken) (rootTop : Rat) (p : Page) (hwf : WfSkip d.root resume)
    (hp : remakePage d index resume np right brokenIn rootTop = some p) :
    (p.type.blank = true → fragLines p.root = [] ∧ p.resume = resume) ∧
    (p.type.blank = false → fragLines p.root ++ restOut d.root p.resume = linesFrom d.root resume) := by
  obtain ⟨h1, h2⟩ := remakePage_lines d hg index resume np right brokenIn rootTop p hwf hp
  exact ⟨fun hb => ⟨(h1 hb).1, (h1 hb).2.1⟩, fun hb => (h2 hb).1⟩

/-- **Pages theorem (flow)**: the in-flow lines shown by the pages, concatenated, are exactly the in-flow
lines of the document, in order — whatever floats, absolute boxes and clearance do to the geometry. -/
theorem pages_conserve (d : Doc) (hg : Good d.root) (fuel : Nat) (pages : List Page)
    (h : paginate d fuel = some pages) :
    (pages.map (fun p => fragLines p.root)).flatten = linesFrom d.root none := by
  rw [← pagesLines_eq]
  unfold paginate at h
  exact makeAllPages_lines d hg fuel 0 none _ _ [] 0 pages (fun _ => by exact isBlank_none _ _)
    (wfSkip_none _) h

/-! ### 3. out-of-flow boxes: each fragment is a segment, continued on the very next page

A float / absolutely positioned box is itself laid out by `layoutBox` (in a formatting context of its
own, `page_is_empty = true`), so `segment` applies to it: the lines of the fragment followed by the lines
designated by the resume position registered in `broken_out_of_flow` are the lines designated by the
position it was started at. What remains to be said is that placing the float (translation, serial) does
not touch the lines, that the registered position is the returned one, and that the next page starts from
exactly what this page registered. -/

/-- **A float in the block flow** (`_out_of_flow_layout`): when it is added, its fragment shows the lines
of the float from the start, and what is registered for the next page (`localBroken`, merged into
`context.broken_out_of_flow` by the enclosing box) designates the rest. -/
theorem float_segment (c : Ctx) (index : Nat) (pie : Bool) (bs y : Rat) (child : OBox) (hc : child.inFlow = false)
    (hg : Good child) (s s' : KidsLoop) (w0 : World)
    (h : floatStep c index pie bs child hc s (layoutBox c child index y bs none false true [] w0) = (none, s')) :
    ∃ f, s'.newChildren = s.newChildren ++ [f] ∧
      fragLines f ++ restOut child (layoutBox c child index y bs none false true [] w0).resume =
        linesFrom child none ∧
      s'.localBroken.map (fun e => (e.box.id, e.resume)) =
        s.localBroken.map (fun e => (e.box.id, e.resume)) ++
          (match (layoutBox c child index y bs none false true [] w0).resume with
            | some ρ => [(child.id, ρ)]
            | none => []) := by
  generalize hr : layoutBox c child index y bs none false true [] w0 = r at h ⊢
  revert h
  fun_cases floatStep c index pie bs child hc s r <;> intro h <;> cases h
  next f ser w hfd _ _ _ _ =>
    obtain ⟨f0, hf0, _, _, _, hl⟩ := floatDone_frag hfd
    refine ⟨f.withIdx index, rfl, ?_, ?_⟩
    · rw [fragLines_withIdx, hl]
      subst hr
      exact segment child hg c index y bs none false true [] w0 (wfSkip_none _) f0 hf0
    · simp +zetaDelta only [List.map_append]
      cases r.resume <;> rfl

/-- **An absolutely positioned box of the page** (`absolute_layout` at the end of `make_page`): its
fragment shows its lines from the start; when something is left, the last entry of `broken_out_of_flow` is the
box with the resume position that designates the rest. (The world `r.w` before that entry is not tied down: that
nothing is registered when nothing is left is not part of the statement.) -/
theorem abs_segment (c : Ctx) (acc : World × List (Nat × OFrag)) (e : AbsEntry) (hg : Good e.box) :
    (∃ f, (absStep c acc e).2 = acc.2 ++ [(e.ser, f)] ∧
      ∃ r : LayoutResult, r.frag = some f ∧ fragLines f ++ restOut e.box r.resume = linesFrom e.box none ∧
        (absStep c acc e).1.broken.map (fun b => (b.box.id, b.resume)) =
          r.w.broken.map (fun b => (b.box.id, b.resume)) ++
            (match r.resume with | some ρ => [(e.box.id, ρ)] | none => [])) := by
  obtain ⟨f, hfr⟩ := layoutAbs_frag_some c (boxDepth e.box) e.box e.idx e.y none acc.1
  obtain ⟨f0, hf0, hl⟩ := layoutAbs_lines hfr
  have hseg := segment e.box hg c e.idx e.y 0 none false true [] _ (wfSkip_none _) f0 hf0
  refine ⟨f, ?_, _, hfr, ?_, ?_⟩
  · unfold absStep
    simp only [hfr]
  · rw [hl, layoutAbs_resume]; exact hseg
  · unfold absStep
    simp only [hfr, List.map_append]
    cases (layoutAbs c (boxDepth e.box) e.box e.idx e.y none acc.1).resume <;> simp

/-- One iteration of `make_page`'s loop over `context.broken_out_of_flow`, read off `contStep`: one fragment is
appended; its lines are those of a `block_container_layout` fragment of the box, started at the registered position
with `page_is_empty`; when that layout leaves a resume position, it is the last entry registered (the world `r.w`
before it is not tied down). -/
theorem continuation_step (c : Ctx) (rootTop : Rat) (acc : World × List OFrag) (e : Broken) :
    ∃ g, (contStep c rootTop acc e).2 = acc.2 ++ [g] ∧
      ∃ (r : LayoutResult) (idx : Nat) (y : Rat) (w0 : World) (f0 : OFrag),
        (layoutBox c e.box idx y 0 (some e.resume) false true [] w0).frag = some f0 ∧
        r.resume = (layoutBox c e.box idx y 0 (some e.resume) false true [] w0).resume ∧
        fragLines g = fragLines f0 ∧
        (contStep c rootTop acc e).1.broken.map (fun b => (b.box.id, b.resume)) =
          r.w.broken.map (fun b => (b.box.id, b.resume)) ++
            (match r.resume with | some ρ => [(e.box.id, ρ)] | none => []) := by
  obtain ⟨f0, hfr⟩ := box_frag e.box c 0 (floatY acc.1.shapes e.box.st.clear rootTop) 0 (some e.resume) false []
    { acc.1 with shapes := [] }
  obtain ⟨f, hfa⟩ := layoutAbs_frag_some c (boxDepth e.box) e.box e.idx rootTop (some e.resume) acc.1
  fun_cases contStep c rootTop acc e
  · next hfd => exact nomatch hfr.symm.trans (floatDone_none hfd).1
  · next r _ _ _ hfd _ =>
    obtain ⟨f0', hf0', _, _, _, hl⟩ := floatDone_frag hfd
    obtain ⟨_, _, _, _, _, _, hw', _⟩ := floatDone_some hfd
    cases hfr.symm.trans hf0'
    refine ⟨_, rfl, r, _, _, _, f0, hfr, rfl, hl, ?_⟩
    simp +zetaDelta only [List.map_append, hw']
    cases r.resume <;> simp
  · next hx => exact nomatch hfa.symm.trans hx
  · next r _ _ hx _ _ =>
    cases hfa.symm.trans hx
    obtain ⟨f0, hf0, hl⟩ := layoutAbs_lines hfa
    refine ⟨f, rfl, r, _, _, _, f0, hf0, layoutAbs_resume .., hl, ?_⟩
    simp +zetaDelta only [List.map_append]
    cases r.resume <;> simp

/-- **Continuation on the next page** (`make_page`, the loop over `context.broken_out_of_flow`): the box
cut on the previous page is laid out from exactly the registered resume position; its fragment is
appended to the continuations (which `make_page` puts in front of the root's children), and when something is
still left the last entry registered is the box with the position that designates the rest. -/
theorem continuation_segment (c : Ctx) (rootTop : Rat) (acc : World × List OFrag) (e : Broken)
    (hg : Good e.box) (hwf : WfSkip e.box (some e.resume)) :
    ∃ g, (contStep c rootTop acc e).2 = acc.2 ++ [g] ∧
      ∃ r : LayoutResult, fragLines g ++ restOut e.box r.resume = linesFrom e.box (some e.resume) ∧
        (contStep c rootTop acc e).1.broken.map (fun b => (b.box.id, b.resume)) =
          r.w.broken.map (fun b => (b.box.id, b.resume)) ++
            (match r.resume with | some ρ => [(e.box.id, ρ)] | none => []) := by
  obtain ⟨g, hg', r, idx, y, w0, f0, hf0, hres, hl, hbr⟩ := continuation_step c rootTop acc e
  refine ⟨g, hg', r, ?_, hbr⟩
  rw [hl, hres]
  exact segment e.box hg c idx y 0 (some e.resume) false true [] w0 hwf f0 hf0

/-- **Consecutive pages**: the `broken_out_of_flow` a page ends with is what the next page starts from (in
order) — so by `continuation_segment` every cut out-of-flow box goes on, on the very next page, from where
it stopped. Nothing of the kind holds after the *last* page: `Witness.lost_at_document_end`. -/
theorem continued_next_page (d : Doc) (fuel index : Nat) (resume : Option Resume) (np : NextPage) (right : Bool)
    (brokenIn : List Broken) (rootTop : Rat) (p q : Page) (rest : List Page)
    (h : makeAllPages d (fuel + 1) index resume np right brokenIn rootTop = some (p :: q :: rest)) :
    remakePage d index resume np right brokenIn rootTop = some p ∧
    ∃ fuel', makeAllPages d (fuel' + 1) (index + 1) p.resume p.nextPage (!right) p.broken p.rootTop =
      some (q :: rest) := by
  obtain ⟨p', hp, hrest⟩ := makeAllPages_some h
  rcases hrest with ⟨_, h'⟩ | ⟨ps, _, hps, h'⟩
  · cases h'
  · obtain ⟨rfl, rfl⟩ := List.cons.inj h'
    refine ⟨hp, ?_⟩
    cases fuel with
    | zero => simp [makeAllPages] at hps
    | succ k => exact ⟨k, hps⟩

/-! ### 4. what the repairs e3ac9f0 and cdccac3 made true, for all inputs -/

/-- **A cancelled block leaves nothing behind** (repair e3ac9f0): when the children loop of
`block_container_layout` aborts, no placeholder and no cut float of the children laid out so far stays in
`absolute_boxes` / `context.broken_out_of_flow` — whatever the children, at any depth. (False before the
repair: `Witness.absolute_placeholder_removed_on_abort` is the former counterexample.) -/
theorem cancelled_block_leaves_nothing (c : Ctx) (st : OStyle) (p : Prep) (pie : Bool) (id idx : Nat)
    (page : String) (s : KidsLoop) :
    let r := finishBlock c st p pie id idx (.aborted page s)
    r.frag = none ∧ (∀ e ∈ r.w.absL, e.ser ∉ fragSersList s.newChildren) ∧
      (∀ e ∈ r.w.broken, e.ser ∉ fragSersList s.newChildren) ∧
      (∀ e ∈ r.w.absL, e ∈ s.w.absL) ∧ (∀ e ∈ r.w.broken, e ∈ s.w.broken) := by
  simp only [finishBlock, abortResult, World.remove]
  refine ⟨trivial, ?_, ?_, ?_, ?_⟩ <;> intro e he <;> simp only [List.mem_filter] at he
  · simpa using he.2
  · simpa using he.2
  · exact he.1
  · exact he.1

/-- **Only children are continued** (repair cdccac3): what a block container hands over to
`context.broken_out_of_flow` are cut floats that are still among its children — a float dropped from the page
by `find_earlier_page_break` is not continued (it is laid out again in full). (False before the repair:
`Witness.float_fragment_not_duplicated` is the former counterexample.) -/
theorem only_children_continued (kids : List OFrag) (localBroken : List Broken) :
    (∀ e ∈ keptBroken kids localBroken, e ∈ localBroken ∧ ∃ f ∈ kids, f.ser = e.ser) ∧
    (∀ e ∈ localBroken, (∃ f ∈ kids, f.ser = e.ser) → e ∈ keptBroken kids localBroken) := by
  constructor
  · intro e he
    simp only [keptBroken, List.mem_filter, List.any_eq_true, beq_iff_eq] at he
    exact he
  · intro e he hf
    simp only [keptBroken, List.mem_filter, List.any_eq_true, beq_iff_eq]
    exact ⟨he, hf⟩

/-- … and that is what `finishContainer` registers: the world's `broken_out_of_flow` grows by exactly
`keptBroken`, or — a fragmented box that must not be — loses every entry of the children. -/
theorem finishContainer_broken (c : Ctx) (st : OStyle) (b : BoxSt) (pie : Bool) (bs : Rat) (cwc dbd : Bool)
    (resume : Option Resume) (posY : Rat) (adjL cur : List Rat) (curIsL : Bool) (np : NextPage) (hasKids : Bool)
    (pageEnd : String) (kids : List OFrag) (lb : List Broken) (w : World) (mk : Geo → OFrag) :
    let r := finishContainer c st b pie bs cwc dbd resume posY adjL cur curIsL np hasKids pageEnd kids lb w mk
    (r.frag.isSome = true → r.w.broken = w.broken ++ keptBroken kids lb) ∧
    (r.frag = none → ∀ e ∈ r.w.broken, e ∈ w.broken ∧ e.ser ∉ fragSersList kids) := by
  simp only [finishContainer]
  split
  · refine ⟨by simp, fun _ e he => ?_⟩
    simp only [World.remove, List.mem_filter] at he
    exact ⟨he.1, by simpa using he.2⟩
  · exact ⟨fun _ => rfl, by simp⟩

/-- **A postponed float leaves nothing behind** (repair 0d665d0): when a float does not fit and is not added
(`_out_of_flow_layout`, `add_child` false), the children loop stops, and no placeholder / cut float nested in
the discarded layout of the float stays in `absolute_boxes` / `context.broken_out_of_flow` — whether the page
break stays before the float or `find_earlier_page_break` moves it up. (False before the repair:
`Witness.nested_float_in_postponed_float_not_duplicated` is the former counterexample.) -/
theorem postponed_float_leaves_nothing (c : Ctx) (index : Nat) (pie : Bool) (bs : Rat) (child : OBox)
    (hc : child.inFlow = false) (s : KidsLoop) (r : LayoutResult) (f : OFrag) (ser : Nat) (w : World)
    (hfd : floatDone s.w.shapes r = (some (f, ser), w))
    (hnot : (pie && s.newChildren.isEmpty || !c.overflowsPage bs (f.geo.y + f.geo.h)) = false) :
    ∃ res s', (floatStep c index pie bs child hc s r).1 = some (.stopped res s') ∧
      (∀ e ∈ s'.w.absL, e.ser ∉ fragSers f ∧ e ∈ w.absL) ∧
      (∀ e ∈ s'.w.broken, e.ser ∉ fragSers f ∧ e ∈ w.broken) := by
  unfold floatStep
  rw [hfd]
  simp only [hnot, Bool.false_eq_true, ↓reduceIte]
  split
  · refine ⟨_, _, rfl, ?_, ?_⟩ <;> intro e he <;>
      simp only [World.removeDropped, World.remove, List.mem_filter] at he <;>
      exact ⟨by simpa using he.1.2, he.1.1⟩
  · refine ⟨_, _, rfl, ?_, ?_⟩ <;> intro e he <;>
      simp only [World.remove, List.mem_filter] at he <;>
      exact ⟨by simpa using he.2, he.1⟩

/-! Non-vacuity: a cut float (serial 7) that is no longer a child is not kept; one that is, is. -/
example :
    let e : Broken := { ser := 7, box := .para 2 6 10 (Witness.floated Witness.st0), idx := 0,
                        resume := .node 0 (some (.line 3)), oof := rfl }
    (keptBroken [] [e]).length = 0 ∧
      (keptBroken [.para 7 2 1 (Witness.floated Witness.st0) 6 dummyGeo [(0, 0)]] [e]).length = 1 := by
  decide +kernel

/-! ### 5. from the single step to the page: everything registered is continued, in order, at the top of the next page

`continuation_segment` speaks of one iteration of `make_page`'s loop over `context.broken_out_of_flow`.
Lifted to the whole loop and to the page that `remake_page` returns: the root fragment of the page starts
with exactly one fragment per registered box, in registration order, each of them a real fragment (never a
bare placeholder) whose own-flow lines are a prefix of what the registered resume position leaves of its box,
the rest being what some position designates (`ContOf`; it says neither that the fragment carries the id of the
box nor that the prefix is non-empty) — whatever else the page does (floats, clearance, nested absolutely positioned boxes laid
out in place of their placeholders). Hypothesis, explicit: the registered boxes are `Good` and their resume
positions well formed (what `segment_wf` gives for every position a layout returns). -/

/-- `g` is a continuation of the registered item `e`: a real fragment whose own-flow lines, followed by what
some position `ρ` designates, are what `e.resume` designates in `e.box`. -/
def ContOf (e : Broken) (g : OFrag) : Prop :=
  g.isPh = false ∧ ∃ ρ : Option Resume, fragLines g ++ restOut e.box ρ = linesFrom e.box (some e.resume)

/-- One continuation per registered item, in the same order: `ContAll es gs` is `Rel2 ContOf es gs` of Lemmas/Rel2,
kept as an inductive of its own. -/
inductive ContAll : List Broken → List OFrag → Prop
  | nil : ContAll [] []
  | cons {e : Broken} {g : OFrag} {es : List Broken} {gs : List OFrag} :
      ContOf e g → ContAll es gs → ContAll (e :: es) (g :: gs)

theorem ContAll.length_eq {es : List Broken} {gs : List OFrag} (h : ContAll es gs) : es.length = gs.length := by
  induction h with
  | nil => rfl
  | cons _ _ ih => simp [ih]

/-- **The loop over `context.broken_out_of_flow`**: one continuation per registered box, in order. -/
theorem continuations_chain (c : Ctx) (rootTop : Rat) : ∀ (es : List Broken) (acc : World × List OFrag),
    (∀ e ∈ es, Good e.box ∧ WfSkip e.box (some e.resume)) → (∀ g ∈ acc.2, g.isPh = false) →
    ∃ gs, (es.foldl (contStep c rootTop) acc).2 = acc.2 ++ gs ∧ ContAll es gs
  | [], acc, _, _ => ⟨[], by simp, ContAll.nil⟩
  | e :: es, acc, hes, hacc => by
    have he := hes e List.mem_cons_self
    obtain ⟨g, hg, r, hlines, _⟩ := continuation_segment c rootTop acc e he.1 he.2
    have hph := contStep_notPh c rootTop acc e hacc
    have hgph : g.isPh = false := hph g (by rw [hg]; simp)
    obtain ⟨gs, hgs, hall⟩ := continuations_chain c rootTop es (contStep c rootTop acc e)
      (fun e' he' => hes e' (List.mem_cons_of_mem _ he')) hph
    refine ⟨g :: gs, ?_, ContAll.cons ⟨hgph, r.resume, hlines⟩ hall⟩
    simp only [List.foldl_cons]
    rw [hgs, hg, List.append_assoc]
    rfl

/-- `set_laid_out_box` on the continuations (absolutely positioned boxes nested in a continued float are laid
out with the page's) keeps them continuations. -/
theorem contOf_substAbs (res : List (Nat × OFrag)) (hres : ∀ p ∈ res, p.2.inFlow = false) :
    ∀ (es : List Broken) (gs : List OFrag), ContAll es gs →
      ContAll es (substAbsList res gs)
  | _, _, .nil => by simpa [substAbsList] using ContAll.nil
  | _, _, .cons (e := e) (g := g) (es := es) (gs := gs) h hrest => by
    simp only [substAbsList]
    refine ContAll.cons ⟨substAbs_isPh_of_notPh res g h.1, ?_⟩ (contOf_substAbs res hres es gs hrest)
    obtain ⟨ρ, hρ⟩ := h.2
    exact ⟨ρ, by rw [substAbs_lines_of_notPh res hres g h.1]; exact hρ⟩

/-- **Page theorem (out-of-flow boxes)**: the root fragment of every page made by `remake_page` for a block
root begins with the continuations of the boxes registered by the previous page — all of them, in order, each
a `ContOf` of its item — followed by the children of the root's own layout. -/
theorem page_continues (d : Doc) (id : Nat) (st : OStyle) (kids : List OBox) (hroot : d.root = .block id st kids)
    (index : Nat) (resume : Option Resume) (np : NextPage) (right : Bool) (brokenIn : List Broken) (rootTop : Rat)
    (p : Page) (hin : ∀ e ∈ brokenIn, Good e.box ∧ WfSkip e.box (some e.resume))
    (hp : remakePage d index resume np right brokenIn rootTop = some p) :
    ∃ gs ks ser idx g, ContAll brokenIn gs ∧ p.root = .block ser id idx st g (gs ++ ks) := by
  obtain ⟨blank, c, wc, r, f, wa, _, _, rfl, rfl, hfrag, rfl, rfl⟩ :=
    remakePage_some d index resume np right brokenIn rootTop p hp
  obtain ⟨gs, hgs, hall⟩ := continuations_chain c rootTop brokenIn (World.empty, []) hin (fun g hg => by simp at hg)
  simp only [List.nil_append] at hgs
  have hblock : ∃ g ks, f = .block 0 id 0 st g ks := by
    rw [hroot] at hfrag
    split at hfrag
    · exact layoutBox_block_frag (by simpa [emptyRoot] using hfrag)
    · exact layoutBox_block_frag hfrag
  obtain ⟨g, ks, rfl⟩ := hblock
  simp only [substAbs, finishRoot]
  rw [hgs]
  exact ⟨_, _, _, _, _, contOf_substAbs _ (absFold_oof _ _ (_, []) (fun q hq => by simp at hq)) _ _ hall, rfl⟩

/-- **Consecutive pages of a document**: what page `p` registered is continued — all of it, in order — at the
top of the very next page `q` (`continued_next_page` + `page_continues`). -/
theorem next_page_continues (d : Doc) (id : Nat) (st : OStyle) (kids : List OBox) (hroot : d.root = .block id st kids)
    (fuel index : Nat) (resume : Option Resume) (np : NextPage) (right : Bool) (brokenIn : List Broken)
    (rootTop : Rat) (p q : Page) (rest : List Page)
    (h : makeAllPages d (fuel + 1) index resume np right brokenIn rootTop = some (p :: q :: rest))
    (hreg : ∀ e ∈ p.broken, Good e.box ∧ WfSkip e.box (some e.resume)) :
    ∃ gs ks ser idx g, ContAll p.broken gs ∧ q.root = .block ser id idx st g (gs ++ ks) := by
  obtain ⟨_, fuel', hq⟩ := continued_next_page d fuel index resume np right brokenIn rootTop p q rest h
  obtain ⟨q', hq', hrest⟩ := makeAllPages_some hq
  have hqq : q = q' := by
    rcases hrest with ⟨_, h'⟩ | ⟨_, _, _, h'⟩ <;> exact (List.cons.inj h').1
  rw [← hqq] at hq'
  exact page_continues d id st kids hroot (index + 1) p.resume p.nextPage (!right) p.broken p.rootTop q hreg hq'

/-! Non-vacuity of §5 on `exDoc` (below): page 1 registers the float 2, page 2 the absolutely positioned box 4;
the root of the next page starts with their continuation (first child: same box id), and the hypothesis of
`next_page_continues` holds for the registered items (`Good`, well-formed resume position). -/
private def fragId : OFrag → Nat
  | .para _ id _ _ _ _ _ => id
  | .block _ id _ _ _ _ => id
  | .ph _ id _ _ => id
private def rootKidIds : OFrag → List Nat
  | .block _ _ _ _ _ ks => ks.map fragId
  | _ => []

/-! ### non-vacuity

A 2-line paragraph, a 6-line full-width float, a 2-line paragraph with `clear:left`, a 4-line absolutely
positioned paragraph, a 4-line paragraph, on 50px pages with 10px lines: the float is cut on page 1 and
continued on page 2, where the absolute box starts and is cut; page 3 continues it. The hypotheses hold,
the flow is conserved, and here so are the out-of-flow boxes (nothing is pending after the last page). -/

open Witness in
def exDoc : Doc :=
  mkDoc 50 [.para 1 2 10 (flow st0), .para 2 6 10 (floated st0),
    .para 3 2 10 { flow st0 with clear := true }, .para 4 4 10 (absolute st0), .para 5 4 10 (flow st0)]

example : Good exDoc.root ∧ GoodDeep exDoc.root := by
  simp [exDoc, Witness.mkDoc, Good, GoodList, GoodDeep, GoodDeepList, Witness.flow, Witness.floated,
    Witness.absolute, Witness.st0]

example : (paginate exDoc 40).map (fun ps => ps.map fun p =>
      (fragLines p.root, Witness.allLines p.root,
        p.broken.map fun e => (e.box.id, skipLine (subSkipOf (some e.resume))))) =
    some [([(1, 0), (1, 1)], [(1, 0), (1, 1), (2, 0), (2, 1), (2, 2)], [(2, 3)]),
      ([(3, 0), (3, 1)], [(2, 3), (2, 4), (2, 5), (3, 0), (3, 1), (4, 0)], [(4, 1)]),
      ([(5, 0), (5, 1), (5, 2), (5, 3)], [(4, 1), (4, 2), (4, 3), (5, 0), (5, 1), (5, 2), (5, 3)], [])] ∧
    linesFrom exDoc.root none = [(1, 0), (1, 1), (3, 0), (3, 1), (5, 0), (5, 1), (5, 2), (5, 3)] :=
  ⟨by decide +kernel, by decide +kernel⟩

/-! Nested absolutely positioned boxes (`layoutAbs`): a 2-line paragraph, an absolutely positioned
block holding [2 lines, an absolutely positioned block of 5 lines, 1 line], then 4 lines, on 50px pages. The
inner box starts at `y = 40`, is cut after its first line and registered (before its containing box would be);
page 2 continues it. Every line of the document is shown exactly once. -/
open Witness in
def exAbsInAbs : Doc :=
  mkDoc 50 [.para 1 2 10 (flow st0),
    .block 5 (absolute st0) [.para 2 2 10 (flow st0), .block 6 (absolute st0) [.para 3 5 10 (flow st0)],
      .para 4 1 10 (flow st0)],
    .para 7 4 10 (flow st0)]

example : Witness.summary exAbsInAbs 30 = some
    [([(1, 0), (1, 1), (2, 0), (2, 1), (3, 0), (4, 0), (7, 0), (7, 1), (7, 2)], [(6, 0)]),
     ([(3, 1), (3, 2), (3, 3), (3, 4), (7, 3)], [])] := by decide +kernel

example : (paginate exDoc 40).map (fun ps => ps.map fun p => (p.broken.map (fun e => e.box.id), rootKidIds p.root)) =
    some [([2], [99]), ([4], [2, 99]), ([], [4, 99])] := by decide +kernel

example : Good (.para 2 6 10 (Witness.floated Witness.st0)) ∧
    WfSkip (.para 2 6 10 (Witness.floated Witness.st0)) (some (.node 0 (some (.line 3)))) := by
  simp [Good, WfSkip, Witness.floated, Witness.st0]

/-- `segment` on a resumed layout (the root of `exDoc` resumed at its third child, in an empty world). -/
example :
    let r := layoutBox { pageBottom := 50, currentPage := 2, forcedBreak := false } exDoc.root 0 0 0
      (some (.node 0 (some (.node 2 none)))) false true [] World.empty
    r.frag.map fragLines = some [(3, 0), (3, 1), (5, 0), (5, 1), (5, 2)] ∧ r.resume.isSome = true ∧
      restOut exDoc.root r.resume = [(5, 3)] ∧ r.w.absL.length = 1 :=
  ⟨by decide +kernel, by decide +kernel, by decide +kernel, by decide +kernel⟩

/-- `WfSkip`: a sub-stack under the float child (index 1) is ill-formed, under the paragraph (index 2) fine. -/
example : ¬ WfSkip exDoc.root (some (.node 0 (some (.node 1 (some (.line 1)))))) ∧
    WfSkip exDoc.root (some (.node 0 (some (.node 2 (some (.node 0 (some (.line 1)))))))) := by
  simp [exDoc, Witness.mkDoc, WfSkip, WfSkipKids, OBox.inFlow, OBox.st, Witness.flow, Witness.floated]

/-! ### 6. the world invariant: the hypothesis of §5 holds for every good document

`Lemmas/OofWorld.lean` proves, by the mutual induction over the whole layout of `Lemmas/OofFrame.lean`
(`layoutBox_inv` / `layoutKids_inv`, then `layoutAbs_inv`, `contStep_inv`, `nestedAbsStep_inv`, `remakePage_inv`; here
`layoutKids_sok`, `remakePage_registered_ok`, `makeAllPages_registered_ok`), that
every item a layout leaves in `absolute_boxes` or registers in `context.broken_out_of_flow` is a box of the
document with — for the registered ones — a well-formed resume position (`EOk`). So the explicit hypothesis of
`next_page_continues` can go: -/

/-- A fine registered item satisfies the hypothesis of `continuation_segment` / `page_continues`. -/
theorem eok_good_wf (e : Broken) (h : EOk e) : Good e.box ∧ WfSkip e.box (some e.resume) :=
  ⟨good_of_deep e.box h.1, h.2⟩

/-- **Everything a page registers is continued on the next page — for every good document, no hypothesis on the
registered items** (`next_page_continues` with its hypothesis discharged by the world invariant
`makeAllPages_registered_ok`): for consecutive pages `p, q` of a document whose boxes all have `height: auto`
and `orphans, widows ≥ 1` (`GoodDeep`), the root of `q` starts with one real fragment per item of
`p.broken`, in order, each showing a prefix of the lines its box had left at the registered position (`ContOf`). -/
theorem document_continues (d : Doc) (hd : GoodDeep d.root) (id : Nat) (st : OStyle) (kids : List OBox)
    (hroot : d.root = .block id st kids) (fuel index : Nat) (resume : Option Resume) (np : NextPage) (right : Bool)
    (brokenIn : List Broken) (rootTop : Rat) (hin : ∀ e ∈ brokenIn, EOk e) (p q : Page) (rest : List Page)
    (h : makeAllPages d (fuel + 1) index resume np right brokenIn rootTop = some (p :: q :: rest)) :
    ∃ gs ks ser idx g, ContAll p.broken gs ∧ q.root = .block ser id idx st g (gs ++ ks) := by
  have hok := makeAllPages_registered_ok d hd (fuel + 1) index resume np right brokenIn rootTop _ hin h p
    List.mem_cons_self
  exact next_page_continues d id st kids hroot fuel index resume np right brokenIn rootTop p q rest h
    (fun e he => eok_good_wf e (hok e he))

/-- The same for any two consecutive pages of `paginate` (the document starts with nothing registered). -/
theorem paginate_continues (d : Doc) (hd : GoodDeep d.root) (id : Nat) (st : OStyle) (kids : List OBox)
    (hroot : d.root = .block id st kids) (fuel : Nat) (pages : List Page) (h : paginate d fuel = some pages) :
    ∀ (pre : List Page) (p q : Page) (rest : List Page), pages = pre ++ p :: q :: rest →
      ∃ gs ks ser idx g, ContAll p.broken gs ∧ q.root = .block ser id idx st g (gs ++ ks) := by
  unfold paginate at h
  have key : ∀ (fuel index : Nat) (resume : Option Resume) (np : NextPage) (right : Bool) (brokenIn : List Broken)
      (rootTop : Rat) (pages : List Page), (∀ e ∈ brokenIn, EOk e) →
      makeAllPages d fuel index resume np right brokenIn rootTop = some pages →
      ∀ (pre : List Page) (p q : Page) (rest : List Page), pages = pre ++ p :: q :: rest →
        ∃ gs ks ser idx g, ContAll p.broken gs ∧ q.root = .block ser id idx st g (gs ++ ks) := by
    intro fuel
    induction fuel with
    | zero => intro index resume np right bi rt pages _ h; simp [makeAllPages] at h
    | succ fuel ih =>
      intro index resume np right bi rt pages hin h pre p q rest hpages
      cases pre with
      | nil =>
        simp only [List.nil_append] at hpages
        subst hpages
        exact document_continues d hd id st kids hroot fuel index resume np right bi rt hin p q rest h
      | cons p0 pre' =>
        simp only [List.cons_append] at hpages
        subst hpages
        have hp0 := makeAllPages_registered_ok d hd (fuel + 1) index resume np right bi rt _ hin h p0
          List.mem_cons_self
        -- the tail of the pages is itself a `makeAllPages` run started from what `p0` registered
        obtain ⟨p', hp', hrest⟩ := makeAllPages_some h
        rcases hrest with ⟨_, h'⟩ | ⟨ps, _, hps, h'⟩
        · have := (List.cons.inj h').2
          cases pre' <;> cases this
        · obtain ⟨rfl, rfl⟩ := List.cons.inj h'
          exact ih _ _ _ _ _ _ _ hp0 hps pre' p q rest rfl
  exact key fuel 0 none _ _ [] 0 pages (by simp) h

/-! Non-vacuity: `exDoc` is `GoodDeep` with a block root, so `paginate_continues` applies to its three pages (the
float 2 registered by page 1 and the absolutely positioned box 4 registered by page 2 are continued). -/
example (pages : List Page) (h : paginate exDoc 40 = some pages) :=
  paginate_continues exDoc
    (by simp [exDoc, Witness.mkDoc, GoodDeep, GoodDeepList, Witness.flow, Witness.floated, Witness.absolute,
      Witness.st0])
    100 _ _ rfl 40 pages h

end Wp.PMO.C01Oof
