/-
C17 — "with glyphs that map back through the font's ToUnicode table to its text", end to end:
the two halves of the map-back composed.

  glyph ids of a text-showing operator --(ToUnicode CMap: `ToUnicode.decode`)--> UTF-16 code units
  UTF-16 code units --(what a PDF reader does: `Utf16.decode`)--> characters

`Props/C17Text.tounicode_maps_back` is the first arrow (on the table `draw_first_line` records),
`Lemmas/Utf16.decode_encodeAll` the second (on the values `build_fonts_dictionary` writes); both models are
tied to the real code by the sections `tounicode` and `tounicode-written`.  Here: the composition gives back
the text of the text boxes, character by character, characters above U+FFFF included.
-/
import WpModel.Props.C17Text
import WpModel.Props.C17Utf16

namespace Wp.C17
open Wp Wp.ToUnicode

/-- What `build_fonts_dictionary` writes for the clusters (glyph, text as code points) drawn with a font:
the same glyphs with the UTF-16 code units of their texts. -/
def writtenPairs (pairs : List (Nat × List Nat)) : List (Nat × List Nat) :=
  pairs.map (fun p => (p.1, Utf16.encodeAll p.2))

private theorem map_fst_writtenPairs (pairs : List (Nat × List Nat)) :
    (writtenPairs pairs).map (·.1) = pairs.map (·.1) := by
  simp [writtenPairs, List.map_map, Function.comp_def]

private theorem flatMap_snd_writtenPairs (pairs : List (Nat × List Nat)) :
    (writtenPairs pairs).flatMap (·.2) = Utf16.encodeAll (pairs.flatMap (·.2)) := by
  induction pairs with
  | nil => rfl
  | cons p ps ih =>
    simp only [writtenPairs, List.map_cons, List.flatMap_cons] at ih ⊢
    rw [ih]
    simp [Utf16.encodeAll, List.flatMap_append]

/-- **Map-back, end to end.**  Take the clusters `(glyph, text)` drawn with a font (texts as Unicode scalar
values), in which a glyph always stands for the same text (and agrees with what the table already holds).
Reading the glyph ids of the runs through the written ToUnicode table and then reading the resulting
UTF-16 code units as a PDF reader does yields exactly the concatenation of the cluster texts — the text of
the text boxes, whatever plane its characters are in. -/
theorem glyphs_read_back_as_text (m : CMap) (pairs : List (Nat × List Nat))
    (hf : Functional m (writtenPairs pairs)) (hs : ∀ p ∈ pairs, ∀ cp ∈ p.2, Utf16.Scalar cp) :
    (decode (recordAll m (writtenPairs pairs)) (pairs.map (·.1))).map Utf16.decode =
      some (pairs.flatMap (·.2)) := by
  have h1 := tounicode_maps_back m (writtenPairs pairs) hf
  rw [map_fst_writtenPairs, flatMap_snd_writtenPairs] at h1
  rw [h1, Option.map_some]
  congr 1
  apply Utf16.decode_encodeAll
  intro cp hcp
  rcases List.mem_flatMap.mp hcp with ⟨p, hp, hcp'⟩
  exact hs p hp cp hcp'

/-- "a𝟘" drawn with glyphs 68 and 5592: the second text is outside the BMP (two units in the table). -/
example : writtenPairs [(68, [0x61]), (5592, [0x1D7D8])] = [(68, [0x61]), (5592, [0xD835, 0xDFD8])] ∧
    (decode (recordAll [] (writtenPairs [(68, [0x61]), (5592, [0x1D7D8])])) [68, 5592]).map Utf16.decode =
      some [0x61, 0x1D7D8] := by
  decide +kernel

/-- The hypotheses hold on it. -/
example : Functional [] (writtenPairs [(68, [0x61]), (5592, [0x1D7D8])]) ∧
    (∀ p ∈ [((68 : Nat), [(0x61 : Nat)]), (5592, [0x1D7D8])], ∀ cp ∈ p.2, Utf16.Scalar cp) := by
  refine ⟨⟨fun p _ t h => by simp [lookup] at h, by decide +kernel⟩, ?_⟩
  intro p hp cp hcp
  simp only [List.mem_cons, List.mem_nil_iff, or_false] at hp
  rcases hp with rfl | rfl <;> simp only [List.mem_cons, List.mem_nil_iff, or_false] at hcp <;> subst hcp <;>
    (unfold Utf16.Scalar; omega)

end Wp.C17
