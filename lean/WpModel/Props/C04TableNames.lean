/-
C04 / css-page "page" around tables (Model/TableNames.lean): the start name of a table is the name of its first top
caption - its own when it has none - whatever is written on its row groups, rows and cells; the page checker of the
section table-name-pages is sound.
-/
import WpModel.Model.TableNames
import WpModel.Lemmas.TraceCheck
import WpModel.Props.C04Table

namespace Wp.C04TableNames
open Wp Wp.TableBreaks Wp.TableNames

/-- `auto` inherits, anything else is kept. -/
theorem used_spec (d i : String) : used d i = if d = "" then i else d := by
  unfold used
  by_cases h : d = "" <;> simp [h]

private theorem orElse_used (c u : String) : orElse (used c u) u = used c u := by
  unfold orElse used
  by_cases hc : c.isEmpty = true
  · simp [hc]
  · simp [hc]

/-- The start value of a list of boxes whose first box is in flow is the start value of that box. -/
private theorem firstLast_head (t : Bool) (p : String) (ks rest : List PBox) :
    ∃ e, firstLast (.mk t true p ks :: rest) = some ((pageValues (.mk t true p ks)).1, e) := by
  rw [firstLast]
  simp only [↓reduceIte]
  cases firstLast rest with
  | none => exact ⟨_, rfl⟩
  | some se => exact ⟨se.2, rfl⟩

/-- **The start name of a table with a top caption is the caption's name** (the table's own, if the caption says
`auto`), for every table name, every further caption and every inherited name. -/
theorem table_start_caption (inh p c : String) (tops bottoms : List String) :
    (pageValues (toP inh (.table p (c :: tops) bottoms))).1 = used c (used p inh) := by
  rw [toP]
  simp only [List.map_cons, List.cons_append]
  rw [pageValues]
  simp only [Bool.false_eq_true, ↓reduceIte]
  unfold leafP
  obtain ⟨e, he⟩ := firstLast_head false (used c (used p inh)) []
    (tops.map (fun c => PBox.mk false true (used c (used p inh)) []) ++ [PBox.mk true true (used p inh) []] ++
      bottoms.map (fun c => PBox.mk false true (used c (used p inh)) []))
  simp only [List.append_assoc, List.cons_append, List.nil_append] at he ⊢
  rw [he]
  simp only [C04Table.pageValues_leaf]
  exact orElse_used c (used p inh)

/-- Without a top caption the start name is the table's own (the table box ends the descent: nothing written inside
the grid is read). -/
theorem table_start_no_caption (inh p : String) (bottoms : List String) :
    (pageValues (toP inh (.table p [] bottoms))).1 = used p inh := by
  rw [toP]
  simp only [List.map_nil, List.nil_append, List.cons_append]
  rw [pageValues]
  simp only [Bool.false_eq_true, ↓reduceIte]
  obtain ⟨e, he⟩ := firstLast_head true (used p inh) []
    (bottoms.map (fun c => leafP (used c (used p inh))))
  rw [he]
  simp [pageValues, orElse]

/-- **Soundness of the page-name checker**: on an accepted document, wherever the model says that
`block_level_page_name` asks for a non-empty name `n` at a boundary, the words after the boundary start on a later
page than the words before it, and that page's type is named `n`. -/
theorem names_sound (bs : List (Option (PBox × PBox))) (os : List (Option (NameObs × Bool)))
    (h : namesBad bs os = []) (i : Nat) (ab : PBox × PBox) (o : NameObs) (fresh : Bool)
    (hb : bs[i]? = some (some ab)) (ho : os[i]? = some (some (o, fresh)))
    (n : String) (hn : pageNameBetween ab.1 ab.2 = some n) (hne : n ≠ "") :
    o.pageA < o.pageB ∧ o.nameB = n := by
  have hz : (bs.zip os)[i]? = some (some ab, some (o, fresh)) := by
    rw [List.getElem?_zip_eq_some]; exact ⟨hb, ho⟩
  have hok : nameOk ab o fresh = true :=
    (rejected_nil_iff _ (fun bo => match bo with | (some ab, some (o, fresh)) => nameOk ab o fresh | _ => true)
      (fun bo _ => by rcases bo with ⟨_ | _, _ | _⟩ <;> rfl) _).mp h _ (List.mem_of_getElem? hz)
  unfold nameOk at hok
  rw [hn] at hok
  have he : n.isEmpty = false := by
    cases hie : n.isEmpty with
    | false => rfl
    | true => exact absurd (String.isEmpty_iff.mp hie) hne
  simp only [he, Bool.false_eq_true, ↓reduceIte, Bool.and_eq_true, decide_eq_true_eq, beq_iff_eq] at hok
  exact hok

/-- Non-vacuity: previous sibling on page `a`, table `page: b` with a top caption `page: a` and a bottom caption
`page: c`: no name asked before the table, `b` between caption and grid, `c` before the bottom caption, `a` after. -/
example : (nameBoundaries "" (.para "a") "b" ["a"] ["c"] (.para "a")).map
    (fun b => b.map (fun ab => pageNameBetween ab.1 ab.2)) =
    [some none, some (some "b"), some (some "c"), some (some "a")] := by decide

/-- The observation "grid on the caption's page" of that document is rejected at boundary 1; the right one passes. -/
example : namesBad (nameBoundaries "" (.para "a") "b" ["a"] ["c"] (.para "a"))
      [some (⟨0, 0, "a"⟩, false), some (⟨0, 0, "a"⟩, false), some (⟨0, 1, "c"⟩, true), some (⟨1, 2, "a"⟩, true)] = [1] ∧
    namesBad (nameBoundaries "" (.para "a") "b" ["a"] ["c"] (.para "a"))
      [some (⟨0, 0, "a"⟩, false), some (⟨0, 1, "b"⟩, true), some (⟨1, 2, "c"⟩, true), some (⟨2, 3, "a"⟩, true)] = [] := by
  decide

end Wp.C04TableNames
