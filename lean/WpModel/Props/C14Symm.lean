/-
C14 — `compute_variable_dimension` with a generated centre box is symmetric in its two outer boxes
(`Model/PageBoxes.variableStep` / `computeVariable`): the clause `clause_variable_symmetric` of the harness
(`py/props/c14.py`; seeded change C14-10) for all inputs of the model.  Built on `resolve_b_symmetric` (Props/C14Variable).
-/
import WpModel.Props.C14Variable

namespace Wp.C14
open Wp Wp.PageBoxes

theorem middleBox_symmetric (a b c : VBox) (avail : Rat) : middleBox a b c avail = middleBox c b a avail := by
  unfold middleBox; rw [resolve_b_symmetric]

/-- **`compute_variable_dimension` with a generated centre box is symmetric**: exchanging the two outer boxes exchanges
their resolved boxes and leaves the centre box's — for all boxes and every available size, final assertion included: both
orders reach the same step, and the result is read off it. -/
theorem variable_dimension_symmetric (a b c : VBox) (avail : Rat) :
    (match computeVariable a b c true avail, computeVariable c b a true avail with
     | .ok (ra, rb, rc), .ok (rc', rb', ra') => ra = ra' ∧ rb = rb' ∧ rc = rc'
     | .error _, .error _ => True
     | _, _ => False) := by
  obtain ⟨bi, hbi, h1⟩ := step_B a b c avail
  obtain ⟨bi', hbi', h2⟩ := step_B c b a avail
  obtain ⟨v, e⟩ := middleBox_resolve a b c avail
  rw [← middleBox_symmetric a b c avail, hbi] at hbi'
  cases hbi'
  rw [← middleBox_symmetric a b c avail, e] at h2
  rw [e] at h1
  rw [computeVariable_of_step _ _ _ _ _ _ _ _ h1, computeVariable_of_step _ _ _ _ _ _ _ _ h2]
  exact ⟨rfl, rfl, rfl⟩

/-- Non-vacuity: both orders of the fixed family's case (A narrow, C wide and wrappable, avail 150) resolve (the `ok`
branch of the statement), by `variable_dimension_total`; B's value there is `resolve_b_symmetric`'s example. -/
example : (∃ r, computeVariable ⟨none, 0, 0, 0, 10, 20⟩ ⟨none, 0, 0, 0, 10, 40⟩ ⟨none, 0, 0, 0, 10, 100⟩ true 150 = .ok r) ∧
    (∃ r, computeVariable ⟨none, 0, 0, 0, 10, 100⟩ ⟨none, 0, 0, 0, 10, 40⟩ ⟨none, 0, 0, 0, 10, 20⟩ true 150 = .ok r) :=
  ⟨variable_dimension_total _ _ _ _ _ (by simp), variable_dimension_total _ _ _ _ _ (by simp)⟩

end Wp.C14
