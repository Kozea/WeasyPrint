/-
C17 — paint-once for every kind of item, tables included, and exception-freedom of the paint
sequence.  Property theorems.

`Sel` (Lemmas/PaintSel.lean) abstracts "the items I count"; the instances are `roleSel r i` (there) —
the items of role `r` (background, border, text, outline, column background, replaced content,
collapsed borders) of box `i` — and `raiseSel` (here) — Python exceptions.
-/
import WpModel.Props.C17
import WpModel.Lemmas.PaintCount
import WpModel.Lemmas.PaintCountTransfer
import WpModel.Lemmas.PaintEnv

namespace Wp.C17
open Wp Wp.Stacking Wp.Gen

/-! ## Selectors -/

def isRaise : Item → Bool
  | .raise _ => true
  | _ => false

/-- Counts the Python exceptions of a display list: no primitive raises. -/
def raiseSel : Sel where
  pick := isRaise
  bg := fun _ _ _ => 0
  border := fun _ => 0
  text := fun _ => 0
  outline := fun _ => 0
  repl := fun _ => 0
  collapsed := fun _ => 0
  h_bg := by
    intro role id b cb e
    unfold drawBackground
    cases b with
    | none => rfl
    | some b' => cases b' <;> simp [isRaise]
  h_border := by
    intro a e
    unfold drawBorder
    split
    · rfl
    · split
      · rfl
      · split <;> simp [isRaise, List.countP_replicate]
  h_text := by
    intro a e; unfold drawText; split <;> simp [isRaise]
  h_outline := by
    intro a e
    unfold ownOutline
    split
    · split <;> simp [isRaise]
    · rfl
  h_repl := by intro a e; unfold drawReplaced; split <;> simp [isRaise]
  h_collapsed := by intro a e; simp [isRaise]

/-! ## paint_count: every item kind, tables included -/

/-- **Every kind of item is painted exactly as often as due.**  For a well-formed context (`okCtx`:
painted root classes, lists as built by the dispatcher, block / line / inline / atomic-inline / table
grammar) and every selector, the display list of `draw_stacking_context` contains exactly `expN` items:
each box's background, border (one path, or one per non-zero side), text, outline (four sides),
replaced content; for a table its background, its column backgrounds, its border or its collapsed
borders, the backgrounds of row groups and rows, and of the cells subject to `empty-cells`; nothing
at or below a singular transform. -/
theorem paint_count (s : Sel) (pov : Bool) (c : Node) (h : okCtx c) (e : Env) :
    s.cnt (paint pov c e) = expN s false c := by
  have := (count_node s pov c).ctx (by simp [okCtxL, h]) false e
  simpa [paintList, expL] using this

/-- Text: each visible text box of a well-formed context is shown exactly as often as it occurs in
the structure (once, with distinct ids), and not at all below a singular transform. -/
theorem paint_text_once (pov : Bool) (c : Node) (h : okCtx c) (i : Nat) (e : Env) :
    (paint pov c e).countP (pickRole .text i) = expN (roleSel .text i) false c :=
  paint_count (roleSel .text i) pov c h e

private theorem sum_map_zero {α} (l : List α) (f : α → Nat) (h : ∀ x, f x = 0) : (l.map f).sum = 0 := by
  induction l with
  | nil => rfl
  | cons x xs ih => simp [h x, ih]

private theorem raise_cols (t : Attrs) : raiseSel.cols t = 0 := by
  unfold Sel.cols
  apply sum_map_zero
  intro g
  simp [raiseSel, sum_map_zero]

private theorem raise_plainOwn (a : Attrs) : raiseSel.plainOwn a = 0 := by
  simp [Sel.plainOwn, Sel.deco, raiseSel]

private theorem raise_nodeOwn (tc : Bool) (a : Attrs) : raiseSel.nodeOwn tc a = 0 := by
  unfold Sel.nodeOwn
  split
  · simp [Sel.cellOwn, raiseSel]
  · split
    · simp [Sel.tableOwn, raise_cols]; simp [raiseSel]
    · exact raise_plainOwn a

mutual
private theorem expN_raise : ∀ (tc : Bool) (n : Node), expN raiseSel tc n = 0
  | tc, .leaf a => by simp [expN, raise_nodeOwn]
  | tc, .node a kids => by
    simp [expN, raise_nodeOwn, expL_raise (if a.kind.drawTable then a.collapse else tc) kids]
  | tc, .ph _ => rfl
  | tc, .ctx (.leaf a) neg zero pos _ floats _ _ => by
    simp [expN, expL_raise false neg, expL_raise false zero, expL_raise false pos,
      expL_raise false floats, raise_plainOwn]
  | tc, .ctx (.node a kids) neg zero pos _ floats _ _ => by
    simp [expN, expL_raise false kids, expL_raise false neg, expL_raise false zero,
      expL_raise false pos, expL_raise false floats, raise_plainOwn]
  | tc, .ctx (.ph _) .. => rfl
  | tc, .ctx (.ctx ..) .. => rfl
private theorem expL_raise : ∀ (tc : Bool) (l : List Node), expL raiseSel tc l = 0
  | tc, [] => rfl
  | tc, n :: ns => by simp [expL, expN_raise tc n, expL_raise tc ns]
end

private theorem no_raise {l : List Item} (h : raiseSel.cnt l = 0) : ∀ it ∈ l, isRaise it = false := by
  intro it hit
  have : l.countP isRaise = 0 := h
  rw [List.countP_eq_zero] at this
  simpa using this it hit

/-- **The paint sequence raises nothing on well-formed structures**: neither the asserts of
`draw_inline_level` nor an attribute error (a StackingContext where a box is expected) is reachable. -/
theorem paint_total (pov : Bool) (c : Node) (h : okCtx c) (e : Env) :
    ∀ it ∈ paint pov c e, isRaise it = false :=
  no_raise (by rw [paint_count raiseSel pov c h e, expN_raise])

/-- The grammar on the laid-out tree (tables included) is inherited by everything the dispatcher
builds. -/
theorem dispatch_preserves_table_grammar (b : Box) :
    (hFlow b → optFlow (dispatchS b).1 ∧ okCtxL (dispatchS b).2.cc ∧ okCtxL (dispatchS b).2.floats) ∧
    (hInline b → optInline (dispatchS b).1 ∧ okCtxL (dispatchS b).2.cc ∧ okCtxL (dispatchS b).2.floats) :=
  ⟨(tr_box b).flow, (tr_box b).inl⟩

/-- **paint_count for a page.**  In the display list of `draw_page`, for every selector: the page's
background, the canvas background, the page border and outline, plus what every child of the page is
due (`dueRoot`: each box its own items, cells according to `empty-cells` and their table's
`border-collapse`, nothing at or below a singular transform).  Hypotheses: the page box is a plain
page box; its children are context roots of painted classes over the grammar (`hRoot`); a singular
matrix only occurs with `transform` (`singOK`). -/
theorem paint_count_page (s : Sel) (page : Attrs) (canvas : Option (Option Nat)) (kids : List Box)
    (hp2 : page.kind.drawOwnDecoration = false) (hp6 : page.kind.drawInline = false)
    (hpr : page.kind.drawReplaced = false) (hpm : page.matrix ≠ .singular)
    (hk : ∀ b ∈ kids, hRoot b) (hs : singOKL kids) :
    s.cnt (drawPage page canvas kids) =
      s.bg .bg page.id page.bg + s.bg .canvas page.id canvas + s.border page + s.outline page +
        (kids.map (dueRoot s)).sum := by
  rw [s.cnt_drawPage page canvas kids (dueRoot s) hp2 hp6 hpm (fun b hb e => by
    rw [paint_count s _ _ (okCtx_fromBoxS b (hk b hb)) e,
      expN_fromBoxS s false b ((singOKL_iff kids).mp hs b hb)]), hpr]
  simp

/-- Text on a page: each text box is shown exactly as often as due. -/
theorem paint_text_once_page (page : Attrs) (canvas : Option (Option Nat)) (kids : List Box)
    (hp2 : page.kind.drawOwnDecoration = false) (hp6 : page.kind.drawInline = false)
    (hpr : page.kind.drawReplaced = false) (hpm : page.matrix ≠ .singular)
    (hk : ∀ b ∈ kids, hRoot b) (hs : singOKL kids) (i : Nat) :
    (drawPage page canvas kids).countP (pickRole .text i) =
      (kids.map (dueRoot (roleSel .text i))).sum := by
  have := paint_count_page (roleSel .text i) page canvas kids hp2 hp6 hpr hpm hk hs
  simpa [Sel.cnt, roleSel] using this

mutual
private theorem dueN_raise : ∀ (tc : Bool) (b : Box), dueN raiseSel tc b = 0
  | tc, .ph b => by rw [dueN]; exact dueN_raise tc b
  | tc, .leaf a => by
    rw [dueN]; split
    · rfl
    · split
      · exact raise_plainOwn a
      · exact raise_nodeOwn tc a
  | tc, .node a kids => by
    rw [dueN]; split
    · rfl
    · split
      · rw [raise_plainOwn, dueL_raise false kids]
      · rw [raise_nodeOwn, dueL_raise _ kids]
private theorem dueL_raise : ∀ (tc : Bool) (l : List Box), dueL raiseSel tc l = 0
  | tc, [] => rfl
  | tc, b :: bs => by rw [dueL, dueN_raise tc b, dueL_raise tc bs]
end

/-- **`draw_page` raises nothing** on pages over the grammar: no assert of `draw_inline_level`, no
attribute error. -/
theorem draw_page_total (page : Attrs) (canvas : Option (Option Nat)) (kids : List Box)
    (hp2 : page.kind.drawOwnDecoration = false) (hp6 : page.kind.drawInline = false)
    (hpr : page.kind.drawReplaced = false) (hpm : page.matrix ≠ .singular)
    (hk : ∀ b ∈ kids, hRoot b) (hs : singOKL kids) :
    ∀ it ∈ drawPage page canvas kids, isRaise it = false := by
  have hc := paint_count_page raiseSel page canvas kids hp2 hp6 hpr hpm hk hs
  have hz : (kids.map (dueRoot raiseSel)).sum = 0 := by
    apply sum_map_zero
    intro b
    cases b with
    | leaf a => simp [dueRoot, raise_plainOwn]
    | node a ks => simp [dueRoot, raise_plainOwn, dueL_raise]
    | ph b => rfl
  apply no_raise
  rw [hc, hz]
  rfl

/-! ## subtree_atomic, continued: transforms and the overflow clip -/

/-- A (regular) transform reaches every item of the subtree. -/
theorem transform_applies_to_subtree (pov : Bool) (a : Attrs) (kids children blocks floats bc : List Node)
    (env : Env) (code : Nat) (h : a.matrix = .regular code) :
    ∀ it ∈ paint pov (mkCtx (.node a kids) children blocks floats bc) env,
      ∀ r i c f, it = .paint r i c f → code ∈ f.transforms := by
  intro it hit r i c f hf
  have hle := subtree_atomic pov a kids children blocks floats bc env it hit r i c f hf
  exact hle.2.1.subset (by rw [ctxEnv_eq]; simp [h])

/-- The viewport clip of the root element and the `clip` rectangle of an absolutely positioned box
reach every item of the subtree, the box's own decoration included: they are on every item's clip
stack, right after the clips the context was drawn in. -/
theorem outer_clips_apply_to_subtree (pov : Bool) (a : Attrs) (kids children blocks floats bc : List Node)
    (env : Env) :
    ∀ it ∈ paint pov (mkCtx (.node a kids) children blocks floats bc) env,
      ∀ r i c f, it = .paint r i c f →
        env.clips ++ (if a.isRoot && !pov then [Clip.viewport] else []) ++
          (if a.absPos && a.clipProp then [Clip.clipProp a.id] else []) <+: f.clips := by
  intro it hit r i c f hf
  have hle := subtree_atomic pov a kids children blocks floats bc env it hit r i c f hf
  rw [ctxEnv_eq] at hle
  exact hle.2.2

/-- The overflow clip — the rounded padding box of the context's box — is on the clip stack of
everything the context paints *inside* (child contexts of every sign, block decorations, floats,
inline content), right after the context's own stack; the context's own border, background and outline
are painted in `ctxEnv` (`paint_order`) and so are not clipped by it. -/
theorem overflow_clip_reaches_descendants (pov : Bool) (a : Attrs) (l : List Node) (env : Env)
    (ho : a.overflowVisible = false) (hp : a.kind.drawPage = false) :
    (innerEnv a pov env).clips = (ctxEnv a pov env).clips ++ [Clip.overflow a.id] ∧
    (∀ it ∈ paintList pov l (innerEnv a pov env) ++ inlKids pov l (innerEnv a pov env) ++
        inlList pov l (innerEnv a pov env) ++ point7List pov l (innerEnv a pov env) ++
        l.flatMap (drawBlock · (innerEnv a pov env)),
      ∀ r i c f, it = .paint r i c f → (ctxEnv a pov env).clips ++ [Clip.overflow a.id] <+: f.clips) := by
  have hc : (innerEnv a pov env).clips = (ctxEnv a pov env).clips ++ [Clip.overflow a.id] := by
    simp [innerEnv, ho, hp, Env.clip]
  refine ⟨hc, ?_⟩
  intro it hit r i c f hf
  subst hf
  have hg := ge_list pov l (innerEnv a pov env)
  have hall : AllGe (innerEnv a pov env)
      (paintList pov l (innerEnv a pov env) ++ inlKids pov l (innerEnv a pov env) ++
        inlList pov l (innerEnv a pov env) ++ point7List pov l (innerEnv a pov env) ++
        l.flatMap (drawBlock · (innerEnv a pov env))) :=
    (((hg.paint.append hg.kids).append hg.lines).append hg.pt7).append (allGe_drawBlocks l _)
  have := (hall _ hit).2.2
  rw [← hc]
  exact this

example : ({ plain 1 .BlockBox with overflowVisible := false } : Attrs).overflowVisible = false ∧
    (plain 1 .BlockBox).kind.drawPage = false := by decide

/-! ## Non-vacuity -/

/-- `<div><table><tr><td>t</td><td style="position:relative">u</td></tr></table></div>` laid out. -/
def exTable : Box :=
  .node (plain 1 .BlockBox) [
    .node (plain 2 .TableBox) [
      .node { plain 3 .TableRowGroupBox with border := none } [
        .node { plain 4 .TableRowBox with border := none } [
          .node (plain 5 .TableCellBox) [
            .node { plain 6 .LineBox with bg := none } [.leaf { plain 7 .TextBox with bg := none }]],
          .node { plain 8 .TableCellBox with positioned := true } [
            .node { plain 9 .LineBox with bg := none } [.leaf { plain 10 .TextBox with bg := none }]]]]]]

example : hRoot exTable := by
  simp [exTable, hRoot, hFlowL, hFlow, hGroups, hGroup, hRows, hRow, hCells, hCell, hInlineL, hInline,
    rootPainted, leafUnitOK, leavesTree, definesContext, plain, noDeco, listS, dispatchS, coreS, mkCtx,
    splitZ, sortZ, Delta.append, lastIsLine, Node.attrs?,
    Kind.drawOwnDecoration, Kind.drawInline, Kind.drawReplaced, Kind.dispBlockLevel, Kind.dispCell,
    Kind.drawLine, Kind.dilInlineOrLine, Kind.dilTextChild, Kind.dilText, Kind.dispStackingClass,
    Kind.drawTable, Kind.dilInlineReplaced]

example : singOKL [exTable] := by
  simp [exTable, singOKL, singOK, plain]

/-- Box 7 (text in the first cell) and box 10 (text in the positioned cell) are due once each,
box 5's background once, and nothing is due for an id that does not occur. -/
example : dueRoot (roleSel .text 7) exTable = 1 ∧ dueRoot (roleSel .text 10) exTable = 1 ∧
    dueRoot (roleSel .bg 5) exTable = 1 ∧ dueRoot (roleSel .text 11) exTable = 0 := by
  decide +kernel

/-- The hypotheses of `paint_count_page` / `draw_page_total` on the page box itself. -/
example : (plain 0 .PageBox).kind.drawOwnDecoration = false ∧ (plain 0 .PageBox).kind.drawInline = false ∧
    (plain 0 .PageBox).kind.drawReplaced = false ∧ (plain 0 .PageBox).matrix ≠ .singular := by decide

end Wp.C17
