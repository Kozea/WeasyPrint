/-
C15 — `target-text()`: theorems about `Model/TargetText.lean` (`extract_text`, `box_text`, the evaluation
order of `lookup_target` / `store_target` / `check_pending_targets`).
-/
import WpModel.Model.TargetText

namespace Wp.C15
open Wp.TargetText

/-- `target-text(…, content)` of a finished target: its text nodes in document order, generated content and
hidden subtrees excluded, stripped. -/
theorem target_text_content (m : AfterMap) (t : TElem) : extract m .content true t = strip (boxText t) := rfl

theorem target_text_first_letter (m : AfterMap) (t : TElem) :
    extract m .firstLetter true t = strip (firstLetter (boxText t)) := rfl

/-- A hidden element contributes nothing (its tail still belongs to the parent). -/
theorem hidden_subtree_no_text (i : Nat) (a : Option String) (text : String) (b : Option String)
    (af : Option (List TItem)) (kids : List TElem) (tail : String) :
    boxText (.mk i false a text b af kids tail) = "" ∧ beforeTexts (.mk i false a text b af kids tail) = "" := by
  constructor <;> simp [boxText, beforeTexts]

/-- Text nodes come in document order: own text, then each child's text followed by its tail. -/
theorem boxText_cons (i : Nat) (a : Option String) (text : String) (b : Option String) (af : Option (List TItem))
    (k : TElem) (kids : List TElem) (tail : String) :
    boxText (.mk i true a text b af (k :: kids) tail) = text ++ (boxText k ++ k.tail ++ kidsText kids) := by
  simp [boxText, kidsText]

private theorem firstLetterLoop_prefix : ∀ (cs : List Char) (found : Bool) (acc : List Char),
    ∃ taken rest, cs = taken ++ rest ∧ firstLetterLoop cs found acc = acc ++ taken ∧
      (taken.filter (fun c => !isPunct c)).length + (if found then 1 else 0) ≤ 1 := by
  intro cs found acc
  fun_induction firstLetterLoop cs found acc with
  | case1 found acc => exact ⟨[], [], rfl, by simp, by cases found <;> simp⟩
  | case2 c rest acc hp => exact ⟨[], c :: rest, rfl, by simp, by simp⟩
  | case3 c rest found acc hp hf ih =>
    obtain ⟨taken, rest', h1, h2, h3⟩ := ih
    have hp' : isPunct c = false := by simpa using hp
    have hf' : found = false := by simpa using hf
    refine ⟨c :: taken, rest', by simp [h1], by simp [h2], ?_⟩
    simp only [if_true] at h3
    have h0 : (taken.filter (fun c => !isPunct c)).length = 0 := by omega
    simp [hp', h0, hf']
  | case4 c rest found acc hp ih =>
    obtain ⟨taken, rest', h1, h2, h3⟩ := ih
    have hp' : isPunct c = true := by simpa using hp
    exact ⟨c :: taken, rest', by simp [h1], by simp [h2], by simpa [hp'] using h3⟩

/-- `first-letter`: a prefix of the text holding at most one character that is not punctuation
(opening/closing/initial/final/other, table regenerated from `extract_text` and unicodedata). -/
theorem first_letter_is_prefix (s : String) :
    ∃ rest, s.toList = (firstLetter s).toList ++ rest ∧
      ((firstLetter s).toList.filter (fun c => !isPunct c)).length ≤ 1 := by
  obtain ⟨taken, rest, h1, h2, h3⟩ := firstLetterLoop_prefix s.toList false []
  have : (firstLetter s).toList = taken := by simp [firstLetter, h2]
  rw [this]
  exact ⟨rest, h1, by simpa using h3⟩

/- Full statement (false of the code, `Witness.C15.target_text_of_open_target_is_empty`): a defined,
   displayed target prints `strip (boxText target)` wherever the reference stands. -/
/-- What holds: an `up-to-date` target whose box is finished prints its text; a target that is still
open when the reference is evaluated (the element itself or an ancestor, met before) prints nothing. -/
theorem target_text_partial (m : AfterMap) (mode : Mode) (t : TElem) (complete : Bool) :
    extract m mode complete t = if complete then extract m mode true t else "" := by
  cases complete <;> simp [extract]

/-- An anchor no element carries ends the content list there (`undefined`), silently. -/
theorem undefined_target_cuts (lookup : String → Found) (m : AfterMap) (a : String) (mode : Mode)
    (rest : List TItem) (acc : String) (h : lookup a = .undefined) :
    evalItems lookup m (.ref a mode :: rest) acc = (acc, none) := by
  simp [evalItems, h]

/-- Samples of the regenerated table: one character of each of the five punctuation classes css-pseudo names for
`::first-letter` (Ps, Pe, Pi, Pf, Po) is in it; letters, digits, space, symbols and dashes are not (an edit of the
category tuple in `extract_text` that moves one of the fourteen samples breaks this proof). -/
theorem first_letter_classes :
    isPunct '(' = true ∧ isPunct ')' = true ∧ isPunct '«' = true ∧ isPunct '»' = true ∧ isPunct '!' = true ∧
    isPunct '"' = true ∧ isPunct '¡' = true ∧ isPunct 'a' = false ∧ isPunct '7' = false ∧ isPunct ' ' = false ∧
    isPunct '-' = false ∧ isPunct '+' = false ∧ isPunct '$' = false ∧ isPunct '_' = false := by
  decide +kernel

section Examples
private def exTree : TElem :=
  .mk 0 true (some "r") "A" none none
    [.mk 1 true (some "x") "«Hi» there" (some "B:") none [] " t",
     .mk 2 false none "hidden" none none [] "",
     .mk 3 true none "l" none (some [.str "[", .ref "x" .firstLetter, .str "|", .ref "r" .content, .str "]"]) [] "",
     .mk 4 true none "m" none (some [.str "[", .ref "r" .content, .str "|", .ref "late" .before, .str "]"]) [] "",
     .mk 5 true (some "late") "z" (some "b4") none [] ""] ""
-- first-letter keeps the leading punctuation; the enclosing (open) target prints nothing (element 3) … unless a later
-- pending reference makes the whole content be recomputed after the walk, when every box is finished (element 4)
example : afterBoxes exTree = [(3, "[«H|]"), (4, "[A«Hi» there tlmz|b4]")] := by decide +kernel
example : boxText exTree = "A«Hi» there tlmz" := by decide +kernel
end Examples

end Wp.C15
