/-
C16 — resources of backgrounds: `draw_background_image` (Model/BackgroundDraw), alone and inside whole recorded runs.
-/
import WpModel.Lemmas.BackgroundDraw
import WpModel.Props.C16Gradient
import WpModel.Props.C16Cache

namespace Wp.C16
open Wp Wp.Pdf

/-- **background_image_resources_defined**: `draw_background_image(stream, layer, …)` — a skipped layer, a `no-repeat`
layer (optional clip, the image in a group of its own, `Do`), a repeated layer (tiling pattern holding a group holding
the image; `stacked`: Pattern colour space, `scn`, rectangle, fill) — on *any* stream of *any* valid document state,
whatever `layer.image.draw` does as long as it keeps the invariant itself (`ImgOKFrom`: raster images, SVG, gradients):
afterwards every `gs`, `Do`, `sh` and pattern `scn` of every stream still names a key of the dictionary of the stream
that emits it.  In particular the group is named in the dictionary it was registered in (`stream`'s for `no-repeat`, the
*pattern's* for a repeated layer) and `scn` names the pattern with the number it got in `stream`'s dictionary, even
though the image drawing in between may register any number of other groups, patterns and shadings. -/
theorem background_image_resources_defined (w w' : World) (h : Nat) (p : BgProps) (img : List GItem)
    (hw : WorldOK w) (hImg : ImgOKFrom w img) (hstep : drawBackgroundImage w h p img = .ok w') :
    WorldOK w' ∧ Mono w w' :=
  background_image_ok w h p img hw hImg w' hstep

/-- Callers pass registered names along a run of calls, gradients and background layers (the image content of a layer
from whatever state it is drawn in). -/
def BItemsScoped (w : World) : List BItem → Prop
  | [] => True
  | .call c :: rest => c.scoped w ∧ ∀ w', w.step c = .ok w' → BItemsScoped w' rest
  | .grad h p :: rest => ∀ w', drawGradient w h p = .ok w' → BItemsScoped w' rest
  | .bg h p img :: rest => (∀ w1, WorldOK w1 → Mono w w1 → ItemsScoped w1 img) ∧
      ∀ w', drawBackgroundImage w h p img = .ok w' → BItemsScoped w' rest

private theorem runBItems_ok (items : List BItem) (w : World) (hw : WorldOK w) (hs : BItemsScoped w items) :
    Keeps w (runBItems w items) := by
  induction items generalizing w with
  | nil => exact Keeps.ok hw
  | cons it rest ih =>
    cases it with
    | call c => exact (Keeps.step hw c hs.1).thenDo fun w1 h1 ok1 _ => ih w1 ok1 (hs.2 w1 h1)
    | grad h p =>
      exact Keeps.thenDo (fun w1 => gradient_resources_defined w w1 h p hw) fun w1 h1 ok1 _ => ih w1 ok1 (hs w1 h1)
    | bg h p img =>
      exact (background_image_ok w h p img hw fun a b oka ma => runItems_ok_mono img a oka (hs.1 a oka ma) b).thenDo
        fun w1 h1 ok1 _ => ih w1 ok1 (hs.2 w1 h1)

/-- **document_backgrounds_resources_defined**: `resources_defined` for whole documents as the `docbg` correspondence
replays them — any run of document calls interleaved with any number of `Gradient.draw` and `draw_background_image`
(each with its own image content) on any streams, from the state `generate_pdf` sets up: no stream ends up naming an
undefined graphics state, XObject, shading or pattern (`badRefs = []`, the `refs=ok` the driver prints). -/
theorem document_backgrounds_resources_defined (mark : Bool) (pages : Nat) (items : List BItem) (w' : World)
    (hs : BItemsScoped (World.init mark pages) items) (hrun : runBItems (World.init mark pages) items = .ok w') :
    w'.badRefs = [] :=
  badRefs_nil_of_ok (runBItems_ok items _ (init_ok mark pages) hs w' hrun).1

/-- The calls a repeated layer makes on `stream` itself follow the cache discipline of `cache_sound_scoped`: the raw
Pattern setters sit inside the `stacked` that `pop_state` closes. -/
theorem background_pattern_calls_scoped (pid : Nat) (rect : String) :
    scopedOK false (bgPatternCalls pid rect) = true := rfl

/-- Non-vacuity, on a page that already owns a group and a pattern: a repeated layer whose image is a translucent
gradient.  The new pattern is `p1` on the page, its group `x0` in the pattern's own dictionary, the gradient's shading
and soft mask live in the group; every reference is defined. -/
example :
    (match (World.init false 1).run [.addGroup 0, .addPattern 0] |>> fun w =>
        drawBackgroundImage w 0 ⟨false, false, false, "0_0_9_9_re", .int 0, .int 0⟩
          [.grad 4 { solid := false, translucent := true, scaleY := .int 1 }] with
     | .ok w => (w.streams.map (fun s => s.rops.reverse.map Op.render), w.badRefs)
     | .error _ => ([], [0])) =
    ([["q", "/Pattern_cs", "/p1_scn", "0_0_9_9_re", "f", "Q"], [], [], ["/x0_Do"],
      ["1_0_0_1_0_0_cm", "/s0_gs", "/s0_sh"], ["/s0_sh"]], []) := by decide +kernel

end Wp.C16
