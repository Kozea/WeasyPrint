/-
C10 — the boxes of `<col>` and `<colgroup>` (`Model/TableColumns.lean` ↔ "Layout column groups and
columns" of `table_layout`): a column box is its column; in a left-to-right table a column group covers
exactly its columns and the spacings between them; in a right-to-left table the code computes
`last.position_x + last.width - first.position_x` with `first` the *rightmost* column, which is never
positive for a group of two or more columns (finding `rtl-column-group-negative-width`).
Correspondence: section `doc-columns` of `py/props/c10.py`.
-/
import WpModel.Props.C10
import WpModel.Model.TableColumns
import Mathlib.Tactic.Linarith
import Mathlib.Tactic.Ring

namespace Wp.C10Columns
open Wp Wp.Table Wp.TableColumns Wp.C10

/-- `grid_x` of the columns of a group of `k` consecutive columns starting at column `g`. -/
def span : Nat → Nat → List Nat
  | _, 0 => []
  | g, k + 1 => g :: span (g + 1) k

private theorem span_head (g k : Nat) : (span g (k + 1)).head? = some g := rfl

private theorem span_eq_range' (g k : Nat) : span g k = List.range' g k := by
  induction k generalizing g with
  | zero => rfl
  | succ k ih => rw [span, ih, List.range'_succ]

private theorem span_getLast (g k : Nat) : (span g (k + 1)).getLast? = some (g + k) := by
  rw [span_eq_range', List.getLast?_range']
  simp

private theorem span_mem (g k j : Nat) (hj : j ∈ span g k) : g ≤ j ∧ j < g + k := by
  rwa [span_eq_range', List.mem_range'_1] at hj

/-- The closed form of the position of column `i` (`C10.columns_partition`). -/
def colX (ltr : Bool) (x W s : Rat) (cw : List Rat) (i : Nat) : Rat :=
  if ltr then x + ((i : Rat) + 1) * s + sumR (cw.take i)
  else x + W - ((i : Rat) + 1) * s - sumR (cw.take i) - cw.getD i 0

/-- **column_box_is_its_column.**  The box of a `<col>` whose `grid_x` is inside the grid starts at its
column's position, is as wide as its column, and spans the rows' height. -/
theorem column_box_is_its_column (ltr : Bool) (x W s : Rat) (cw : List Rat) (y0 h : Rat) (i : Nat)
    (hi : i < cw.length) :
    columnBox (colPositions ltr x W s cw).positions cw y0 h i =
      .ok ⟨colX ltr x W s cw i, y0, cw.getD i 0, h⟩ := by
  obtain ⟨hlen, hpos⟩ := columns_partition ltr x W s cw
  unfold columnBox
  rw [hlen, if_pos hi, hpos i hi, List.getElem?_eq_getElem hi]
  simp only [colX, ← List.getElem_eq_getD (h := hi)]

/-- A `<col>` beyond the grid ("extra empty columns") is an empty box at the origin. -/
theorem column_box_beyond (pos cw : List Rat) (y0 h : Rat) (i : Nat) (hi : pos.length ≤ i) :
    columnBox pos cw y0 h i = .ok ⟨0, 0, 0, 0⟩ := by
  unfold columnBox
  rw [if_neg (by omega)]

private theorem allOk_map (l : List Nat) (f : Nat → Except PyErr Box4) (g : Nat → Box4)
    (h : ∀ a ∈ l, f a = .ok (g a)) : allOk (l.map f) = .ok (l.map g) := by
  induction l with
  | nil => rfl
  | cons a as ih =>
    simp only [List.map_cons]
    rw [h a List.mem_cons_self]
    unfold allOk
    rw [ih (fun b hb => h b (List.mem_cons_of_mem _ hb))]

/-- The box of a group of `k + 1` consecutive columns `g … g + k` inside the grid. -/
theorem group_box (ltr : Bool) (x W s : Rat) (cw : List Rat) (y0 h : Rat) (g k : Nat)
    (hin : g + k < cw.length) :
    (layoutGroup (colPositions ltr x W s cw).positions cw y0 h (span g (k + 1))).map (·.2) =
      .ok ⟨colX ltr x W s cw g, y0,
           colX ltr x W s cw (g + k) + cw.getD (g + k) 0 - colX ltr x W s cw g, h⟩ := by
  unfold layoutGroup
  rw [allOk_map (span g (k + 1)) _ (fun i => ⟨colX ltr x W s cw i, y0, cw.getD i 0, h⟩)
    (fun a ha => column_box_is_its_column ltr x W s cw y0 h a (by have := span_mem g (k + 1) a ha; omega))]
  unfold groupBox
  simp only [List.head?_map, List.getLast?_map, span_head, span_getLast, Option.map_some]
  rfl

/-- **group_extent_ltr.**  Left to right, the box of a column group starts where its first column
starts and is `Σ widths of its columns + (k − 1) spacings` wide: it covers exactly its columns, and its
width is not negative. -/
theorem group_extent_ltr (x W s : Rat) (cw : List Rat) (g k : Nat) (hin : g + k < cw.length)
    (hnn : ∀ w ∈ cw, 0 ≤ w) (hs : 0 ≤ s) :
    colX true x W s cw (g + k) + cw.getD (g + k) 0 - colX true x W s cw g =
      sumR (cw.take (g + k + 1)) - sumR (cw.take g) + (k : Rat) * s ∧
    0 ≤ colX true x W s cw (g + k) + cw.getD (g + k) 0 - colX true x W s cw g := by
  have hsucc := sumR_take_succ cw (g + k) hin
  have hmono := sumR_take_mono cw hnn g (g + k + 1) (by omega)
  have hk : (0 : Rat) ≤ (k : Rat) * s := mul_nonneg (by exact_mod_cast Nat.zero_le k) hs
  have heq : colX true x W s cw (g + k) + cw.getD (g + k) 0 - colX true x W s cw g =
      sumR (cw.take (g + k + 1)) - sumR (cw.take g) + (k : Rat) * s := by
    simp only [colX, if_true, ← List.getElem_eq_getD (h := hin), hsucc]
    push_cast
    ring
  exact ⟨heq, by rw [heq]; linarith⟩

/-- **group_extent_rtl_nonpos.**  Right to left, `first` is the rightmost column of the group and the
code's `last.position_x + last.width - first.position_x` is *minus* what lies between the left edge of
the first and the right edge of the last column: `−(k·s + Σ widths of the columns strictly between)`,
never positive (`k + 1` = number of columns of the group; `0` only for a single column, or without
spacing and inner width). -/
theorem group_extent_rtl_nonpos (x W s : Rat) (cw : List Rat) (g k : Nat) (hin : g + k < cw.length)
    (hnn : ∀ w ∈ cw, 0 ≤ w) (hs : 0 ≤ s) (hk : 0 < k) :
    colX false x W s cw (g + k) + cw.getD (g + k) 0 - colX false x W s cw g =
      -((k : Rat) * s + (sumR (cw.take (g + k)) - sumR (cw.take (g + 1)))) ∧
    colX false x W s cw (g + k) + cw.getD (g + k) 0 - colX false x W s cw g ≤ 0 := by
  have hg : g < cw.length := by omega
  have hsucc := sumR_take_succ cw g hg
  have hmono := sumR_take_mono cw hnn (g + 1) (g + k) (by omega)
  have hks : (0 : Rat) ≤ (k : Rat) * s := mul_nonneg (by exact_mod_cast Nat.zero_le k) hs
  have heq : colX false x W s cw (g + k) + cw.getD (g + k) 0 - colX false x W s cw g =
      -((k : Rat) * s + (sumR (cw.take (g + k)) - sumR (cw.take (g + 1)))) := by
    simp only [colX, Bool.false_eq_true, if_false, ← List.getElem_eq_getD (h := hg), hsucc]
    push_cast
    ring
  exact ⟨heq, by rw [heq]; linarith⟩

/-- Non-vacuity (and the input of the witness): widths 20, 30, 42, spacing 2, table 100 wide at x = 0, a
group of the first two columns: left to right it is the box x = 2, width 52; right to left x = 78,
width −2. -/
example :
    (layoutGroup (colPositions true 0 100 2 [20, 30, 42]).positions [20, 30, 42] 2 10 (span 0 2)).map (·.2) =
      .ok ⟨2, 2, 52, 10⟩ ∧
    (layoutGroup (colPositions false 0 100 2 [20, 30, 42]).positions [20, 30, 42] 2 10 (span 0 2)).map (·.2) =
      .ok ⟨78, 2, -2, 10⟩ := by
  constructor <;> decide +kernel

end Wp.C10Columns
