/-
C10 — header and footer groups: only the first `table-header-group` / `table-footer-group` is the
header / footer, every other group is a body group, and every group (hence every row) is in
`table.children` exactly once (`Model/TableGroupOrder.lean` ↔ `wrap_table` of
`weasyprint/formatting_structure/build.py`).  Correspondence: section `doc-group-order` of
`py/props/c10.py` (rendered tables with several thead / tbody / tfoot in any order).
-/
import WpModel.Model.TableGroupOrder

namespace Wp.C10Groups
open Wp Wp.TableGroups

private def optList (o : Option Nat) : List Nat := match o with | some x => [x] | none => []

private theorem layoutOrder_eq (s : Split) : layoutOrder s = optList s.header ++ s.bodies ++ optList s.footer := by
  unfold layoutOrder optList
  rfl

/-- Index `i` moves from the kept groups to the front of the groups still to come. -/
private theorem perm_move (i : Nat) (l₁ l₂ rest : List Nat) :
    (l₁ ++ i :: l₂ ++ rest).Perm (l₁ ++ l₂ ++ i :: rest) := by
  rw [List.append_assoc, List.append_assoc]
  exact List.Perm.append_left _ List.perm_middle.symm

private theorem splitFrom_perm (i : Nat) (ks : List GKind) (h f : Option Nat) (acc : List Nat) :
    (layoutOrder (splitFrom i ks h f acc)).Perm
      (optList h ++ optList f ++ acc ++ List.range' i ks.length) := by
  fun_induction splitFrom i ks h f acc with
  | case1 _ h f acc =>
    simp only [layoutOrder_eq, List.length_nil, List.range'_zero, List.append_nil]
    rw [List.append_assoc, List.append_assoc]
    exact List.Perm.append_left _ (List.perm_append_comm.trans (List.Perm.append_left _ (List.reverse_perm acc)))
  | case2 i k ks h f acc hc ih =>
    refine ih.trans ?_
    rw [hc.2]
    simpa [optList, List.range'_succ] using perm_move i [] (optList f ++ acc) (List.range' (i + 1) ks.length)
  | case3 i k ks h f acc _ hc ih =>
    refine ih.trans ?_
    rw [hc.2]
    simpa [optList, List.range'_succ] using perm_move i (optList h) acc (List.range' (i + 1) ks.length)
  | case4 i k ks h f acc _ _ ih => exact ih.trans (perm_move i (optList h ++ optList f) acc _)

/-- **groups_once.**  After the extraction every row group of the table — first header, first footer,
and all the others, further `thead`s and `tfoot`s included — is in `table.children` exactly once: no
group, hence no row, is lost or duplicated. -/
theorem groups_once (kinds : List GKind) :
    (layoutOrder (split kinds)).Perm (List.range kinds.length) := by
  have := splitFrom_perm 0 kinds none none []
  simpa [split, optList, List.range_eq_range'] using this

private theorem idxOf_cons_ne {k x : GKind} (h : k ≠ x) (ks : List GKind) (i : Nat) :
    ((k :: ks).idxOf? x).map (i + ·) = (ks.idxOf? x).map (i + 1 + ·) := by
  have : (k :: ks).idxOf? x = (ks.idxOf? x).map (· + 1) := by simp [List.idxOf?_cons, h]
  rw [this]
  cases ks.idxOf? x with
  | none => rfl
  | some n => exact congrArg some (show i + (n + 1) = i + 1 + n by omega)

private theorem idxOf_cons_self (x : GKind) (ks : List GKind) (i : Nat) :
    ((x :: ks).idxOf? x).map (i + ·) = some i := by
  simp [List.idxOf?_cons]

/-- The header slot, once taken, stays; an empty one goes to the first header group still to come. -/
private theorem splitFrom_header (i : Nat) (ks : List GKind) (h f : Option Nat) (acc : List Nat) :
    (splitFrom i ks h f acc).header = h.orElse fun _ => (ks.idxOf? GKind.header).map (i + ·) := by
  fun_induction splitFrom i ks h f acc with
  | case1 _ h => cases h <;> rfl
  | case2 i k ks h f acc hc ih => rw [ih, hc.1, hc.2, idxOf_cons_self]; rfl
  | case3 i k ks h f acc hc _ ih | case4 i k ks h f acc hc _ ih =>
    cases h with
    | some _ => exact ih
    | none => exact ih.trans (idxOf_cons_ne (fun hk => hc ⟨hk, rfl⟩) ks i).symm

/-- **header_is_first.**  The header is the first group with `display: table-header-group` (there is
none iff the table has no such group). -/
theorem header_is_first (kinds : List GKind) : (split kinds).header = kinds.idxOf? GKind.header := by
  have := splitFrom_header 0 kinds none none []
  simpa [split] using this

private theorem splitFrom_footer (i : Nat) (ks : List GKind) (h f : Option Nat) (acc : List Nat) :
    (splitFrom i ks h f acc).footer = f.orElse fun _ => (ks.idxOf? GKind.footer).map (i + ·) := by
  fun_induction splitFrom i ks h f acc with
  | case1 _ h f => cases f <;> rfl
  | case3 i k ks h f acc _ hc ih => rw [ih, hc.1, hc.2, idxOf_cons_self]; rfl
  | case2 i k ks h f acc hc ih =>
    cases f with
    | some _ => exact ih
    | none => exact ih.trans (idxOf_cons_ne (hc.1 ▸ nofun : k ≠ .footer) ks i).symm
  | case4 i k ks h f acc _ hc ih =>
    cases f with
    | some _ => exact ih
    | none => exact ih.trans (idxOf_cons_ne (fun hk => hc ⟨hk, rfl⟩) ks i).symm

/-- **footer_is_first.**  The footer is the first group with `display: table-footer-group`; a second
`tfoot` is never the footer (what the seeded change C10-8 broke). -/
theorem footer_is_first (kinds : List GKind) : (split kinds).footer = kinds.idxOf? GKind.footer := by
  have := splitFrom_footer 0 kinds none none []
  simpa [split] using this

private theorem splitFrom_bodies_sorted (i : Nat) (ks : List GKind) (h f : Option Nat) (acc : List Nat)
    (hacc : acc.reverse.Pairwise (· < ·)) (hlt : ∀ a ∈ acc, a < i) :
    (splitFrom i ks h f acc).bodies.Pairwise (· < ·) := by
  fun_induction splitFrom i ks h f acc with
  | case1 => exact hacc
  | case2 i k ks h f acc _ ih | case3 i k ks h f acc _ _ ih =>
    exact ih hacc (fun a ha => Nat.lt_succ_of_lt (hlt a ha))
  | case4 i k ks h f acc _ _ ih =>
    apply ih
    · rw [List.reverse_cons, List.pairwise_append]
      refine ⟨hacc, List.pairwise_singleton _ _, ?_⟩
      intro a ha b hb
      simp only [List.mem_singleton] at hb
      subst hb
      exact hlt a (List.mem_reverse.mp ha)
    · intro a ha
      rcases List.mem_cons.mp ha with rfl | ha
      · exact Nat.lt_succ_self _
      · exact Nat.lt_succ_of_lt (hlt a ha)

/-- **bodies_in_source_order.**  The groups that are not the header or the footer — further `thead`s and
`tfoot`s among them — are laid out in source order. -/
theorem bodies_in_source_order (kinds : List GKind) : (split kinds).bodies.Pairwise (· < ·) :=
  splitFrom_bodies_sorted 0 kinds none none [] (by simp) (by simp)

/-- Non-vacuity, and the input of the seeded change C10-8: `thead, tbody, tfoot, tfoot` — the first
`tfoot` is the footer, the second one is a body group laid out (once) after the `tbody`. -/
example : split [.header, .body, .footer, .footer] = ⟨some 0, some 2, [1, 3]⟩ ∧
    layoutOrder (split [.header, .body, .footer, .footer]) = [0, 1, 3, 2] ∧
    split [.footer, .header, .header, .body] = ⟨some 1, some 0, [2, 3]⟩ := by
  refine ⟨by decide, by decide, by decide⟩

end Wp.C10Groups
