/-
C10 — split collapsed tables: what `table_layout` records about the split (`Model/TableSplitBorders`)
is what `draw_collapsed_borders` needs to paint the right rows (`Model/TableBorderDraw`).
Correspondence: section `doc-split-borders` of `py/props/c10.py` (every recorded `table_layout` call of
a collapsed table) and `doc-painted-borders`.
-/
import WpModel.Model.TableSplitBorders
import WpModel.Model.TableBorderDraw
import WpModel.Props.C10Draw
import Mathlib.Tactic.Linarith
import Mathlib.Tactic.Ring

namespace Wp.C10SplitBorders
open Wp Wp.SplitBorders Wp.BorderDraw

/-- **skipped_is_flat_index.**  `skipped_rows` is the position, among all the rows of the table in
document order (header rows first: the rows of the border grid), of the row `r` of group `g` where
the fragment resumes. -/
theorem skipped_is_flat_index {α} (groups : List (List α)) (g r : Nat) (c : Bool) (row : α)
    (hrow : (groups[g]?).bind (·[r]?) = some row) :
    (groups.flatten)[skippedRows (some (g, some (r, c))) (groups.map List.length)]? = some row := by
  unfold skippedRows
  simp only
  induction groups generalizing g with
  | nil => simp at hrow
  | cons grp rest ih =>
    cases g with
    | zero =>
      simp only [List.getElem?_cons_zero, Option.bind_some] at hrow
      simp only [List.take_zero, List.sum_nil, Nat.add_zero, List.flatten_cons]
      have hlt : r < grp.length := by
        by_contra hcon
        rw [List.getElem?_eq_none (by omega)] at hrow
        cases hrow
      rw [List.getElem?_append_left hlt]
      exact hrow
    | succ g =>
      simp only [List.getElem?_cons_succ] at hrow
      have := ih g hrow
      simp only [List.map_cons, List.take_succ_cons, List.sum_cons, List.flatten_cons]
      rw [show r + (grp.length + ((rest.map List.length).take g).sum) =
            grp.length + (r + ((rest.map List.length).take g).sum) by omega]
      rw [List.getElem?_append_right (by omega)]
      simpa using this

/-- A fragment that resumes at the start of a group (`{g: None}`) starts at that group's first row. -/
theorem skipped_group_start (lens : List Nat) (g : Nat) :
    skippedRows (some (g, none)) lens = (lens.take g).sum := by
  simp [skippedRows]

/-- **resumed_row_painted.**  On a continuation fragment the first body row is painted with the
vertical borders of the grid row where layout resumed (`table.skipped_rows`), whatever header is
repeated above it. -/
theorem resumed_row_painted (d : DrawIn) (hs : d.skippedRows ≠ 0)
    (hbody : (d.headerRows : Int) < (gridHeight d : Int) - d.footerRows) :
    rowNumber d d.headerRows false = d.skippedRows := by
  rw [C10Draw.painted_body_rows d d.headerRows (le_refl _) hbody]
  unfold bodyOffset
  simp only [hs, ne_eq, not_false_eq_true, if_true]
  omega

/-- **reserved_top_is_painted_top** (one body row in the fragment is enough: commit 4d1447f).
Without a repeated header, the line whose half width `table_layout` reserves as the
fragment's `border_top_width` (`horizontal_borders[skipped_rows]`) is the line
`draw_collapsed_borders` paints at the top of the fragment. -/
theorem reserved_top_is_painted_top (d : DrawIn) (hh : d.headerRows = 0)
    (hf : d.footerRows = 0 ∨ (0 : Int) < (gridHeight d : Int) - d.footerRows) :
    rowNumber d 0 true = d.skippedRows := by
  rw [C10Draw.body_line_painted d 0 (Or.inl hh) hf.symm]
  unfold bodyOffset
  split <;> omega

/-- **dropped_header_rows_skipped** (repair 02afb22; was the finding
`collapsed-dropped-header-shifts-borders`).  On a first fragment whose declared header does not fit and
is not rendered, the header's rows are skipped rows … -/
theorem dropped_header_rows_skipped (h : Nat) (rest : List Nat) :
    finalSkippedRows none (h :: rest) true false = h ∧
    finalSkippedRows none (h :: rest) true true = 0 ∧ finalSkippedRows none (h :: rest) false false = 0 := by
  refine ⟨rfl, rfl, rfl⟩

/-- … on every other fragment what is stored is the `skipped_rows` computed from the skip stack … -/
theorem final_skipped_continued (g : Nat) (inner : Option (Nat × Bool)) (lens : List Nat) (hd shown : Bool) :
    finalSkippedRows (some (g, inner)) lens hd shown = skippedRows (some (g, inner)) lens := by
  unfold finalSkippedRows
  simp

/-- … so the first body row of that fragment (fragment row 0: no header is shown) is painted with the
grid row just after the header's rows, and the top line with the line under the header. -/
theorem dropped_header_painted (d : DrawIn) (h : Nat) (rest : List Nat) (hpos : h ≠ 0)
    (hs : d.skippedRows = finalSkippedRows none (h :: rest) true false) (hh : d.headerRows = 0)
    (hbody : (0 : Int) < (gridHeight d : Int) - d.footerRows) :
    rowNumber d 0 false = h ∧ rowNumber d 0 true = h := by
  have hs' : d.skippedRows = h := hs
  constructor
  · have := resumed_row_painted d (by rw [hs']; exact hpos) (by rw [hh]; exact_mod_cast hbody)
    rw [hh] at this
    rw [← hs']
    exact_mod_cast this
  · rw [reserved_top_is_painted_top d hh (Or.inr hbody), hs']

/-- With a split first row and no header nothing is reserved and nothing is painted at the top. -/
theorem split_top_consistent (skip : Skip) (lens : List Nat) (hw : List (List Rat)) (before : Rat)
    (hs : splitCells skip = true) :
    borderTop skip lens false hw before = .ok before ∧ skipTop skip false = true := by
  unfold borderTop skipTop
  simp [hs]

/-- **split_cell_below_header.**  The rest of a cell cut by the page break starts at or below the lower
edge of the repeated header's bottom border (every header cell's used `border-bottom-width` is half the
painted line, which is centred on the row's top edge). -/
theorem split_cell_below_header (rowY : Rat) (hbs : List Rat) (hb : Rat) (hmem : hb ∈ hbs) :
    rowY + hb ≤ splitCellY rowY true true true hbs := by
  unfold splitCellY
  simp only [Bool.and_self, if_true]
  cases hbs with
  | nil => cases hmem
  | cons y ys =>
    simp only [maxList]
    linarith [Table.le_foldl_pyMax y ys hb hmem]

/-- **split_cell_reaches_row_bottom.**  Wherever a cell of the first body row starts, it ends at the
bottom of its row: cells of a row cut by a page break still share the row's bottom edge. -/
theorem split_cell_reaches_row_bottom (rowY rowH : Rat) (c h r : Bool) (hbs : List Rat) :
    splitCellY rowY c h r hbs + splitCellHeight rowY rowH c h r hbs = rowY + rowH := by
  unfold splitCellHeight
  ring

/-- For a cell that is not resumed, without a repeated header, or outside the collapsing model, the
cell starts at the row's top. -/
theorem split_cell_plain (rowY : Rat) (c h : Bool) (hbs : List Rat) :
    splitCellY rowY c h false hbs = rowY ∧ splitCellY rowY c false true hbs = rowY ∧
    splitCellY rowY false h true hbs = rowY := by
  unfold splitCellY
  cases c <;> cases h <;> simp

/-- Non-vacuity: header of 1 row, bodies of 3 and 2 rows, fragment resumed inside row 1 of the second
body: 1 + 3 + 1 rows are skipped, cells are split, the top border is left alone (header repeated). -/
example : skippedRows (some (2, some (1, true))) [1, 3, 2] = 5 ∧ splitCells (some (2, some (1, true))) = true ∧
    borderTop (some (2, some (1, true))) [1, 3, 2] true [[1], [2]] 7 = .ok 7 ∧
    borderTop (some (1, none)) [3, 2] false [[1], [2], [2], [6, 4], [0], [0]] 0 = .ok 3 := by
  refine ⟨by decide, by decide, by decide +kernel, by decide +kernel⟩

end Wp.C10SplitBorders
