/-
C05 — the model side of the metamorphic pair "uniform translation" (`observe_at` of the property; harness
section `translation`): the functions that place a block horizontally are translation covariant, function by
function and for whole trees —

  `block_level_width` moves `position_x` only relatively                      (`blwCore_shift`)
  `handle_min_max_width` restores the *original* `position_x` between passes   (`blw_minmax_shift`)
  one box (`resolve_percentages` + decorated `block_level_width`)             (`layoutBox_translate`)
  a whole tree of blocks, children placed at the parent's content edge         (`layoutNode_translate`)

and of the pair "neutral wrapper div" (section `wrapper`): a plain `<div>` around the children of an auto-height
block takes the geometry of the parent's content box and leaves every other box of the document where it was
(`layoutBox_plain`, `layoutNode_wrapper`, `layoutNode_wrap_children`)

so a rendering that is not moved as a whole by moving the page area disagrees with the model (the pair targets
absolute coordinates, e.g. the page origin returned for zero-height floats before /repo 50ab141).  Last, the used width of
every box of a document as the CSS formula (`layoutBox_width_css`).  Core Lean only.
-/
import WpModel.Props.C05Refine
import WpModel.Props.C05Shrink
namespace Wp.C05Meta
open Wp Wp.BoxModel Wp.BlockTree Wp.C05

/-- `Box.translate(dx)` on the attributes of one axis. -/
def shiftA (d : Rat) (b : ABox) : ABox := { b with posX := b.posX + d }

/-- `block_level_width` only ever moves `position_x` relatively: it commutes with a translation. -/
theorem blwCore_shift (cbw : Rat) (dir : Dir) (d : Rat) (b : ABox) :
    blwCore cbw dir (shiftA d b) = shiftA d (blwCore cbw dir b) := by
  cases hw : b.w with
  | none => rw [blwCore_auto cbw dir b hw, blwCore_auto cbw dir (shiftA d b) hw]; rfl
  | some w =>
    by_cases hover : OverC cbw b
    · obtain ⟨w', hw', hover⟩ := hover
      cases hw.symm.trans hw'
      rw [blwCore_over cbw dir b w hw hover, blwCore_over cbw dir (shiftA d b) w hw hover]
      have hx : ∀ k : Rat, (if dir = .rtl && !b.isColumn then b.posX + d + k else b.posX + d) =
          (if dir = .rtl && !b.isColumn then b.posX + k else b.posX) + d := by
        intro k; split
        · grind
        · rfl
      exact congrArg (fun x => ({ b with ml := some (orZero b.ml), mr := some (orZero b.mr), posX := x } : ABox))
        (hx _)
    · obtain ⟨hauto, hfit⟩ := not_overC_some hw hover
      rw [blwCore_fit cbw dir b w hw hfit hauto, blwCore_fit cbw dir (shiftA d b) w hw hfit hauto]
      rcases b with ⟨ml, mr, pl, pr, bl, br, w', minW, maxW, posX, col⟩
      cases ml <;> cases mr <;> rfl

theorem shiftA_fields (d : Rat) (b : ABox) :
    (shiftA d b).ml = b.ml ∧ (shiftA d b).mr = b.mr ∧ (shiftA d b).pl = b.pl ∧ (shiftA d b).pr = b.pr ∧
    (shiftA d b).bl = b.bl ∧ (shiftA d b).br = b.br ∧ (shiftA d b).w = b.w ∧ (shiftA d b).minW = b.minW ∧
    (shiftA d b).maxW = b.maxW ∧ (shiftA d b).isColumn = b.isColumn ∧ (shiftA d b).posX = b.posX + d :=
  ⟨rfl, rfl, rfl, rfl, rfl, rfl, rfl, rfl, rfl, rfl, rfl⟩

private theorem sA_ml (d : Rat) (b : ABox) : (shiftA d b).ml = b.ml := rfl
private theorem sA_mr (d : Rat) (b : ABox) : (shiftA d b).mr = b.mr := rfl
private theorem sA_pl (d : Rat) (b : ABox) : (shiftA d b).pl = b.pl := rfl
private theorem sA_pr (d : Rat) (b : ABox) : (shiftA d b).pr = b.pr := rfl
private theorem sA_bl (d : Rat) (b : ABox) : (shiftA d b).bl = b.bl := rfl
private theorem sA_br (d : Rat) (b : ABox) : (shiftA d b).br = b.br := rfl
private theorem sA_w (d : Rat) (b : ABox) : (shiftA d b).w = b.w := rfl
private theorem sA_minW (d : Rat) (b : ABox) : (shiftA d b).minW = b.minW := rfl
private theorem sA_maxW (d : Rat) (b : ABox) : (shiftA d b).maxW = b.maxW := rfl
private theorem sA_col (d : Rat) (b : ABox) : (shiftA d b).isColumn = b.isColumn := rfl
private theorem sA_widthOf (d : Rat) (b : ABox) : widthOf (shiftA d b) = widthOf b := rfl

/-- The wrapper overwrites `position_x` before every further pass: a wrapped function that is followed by a
translation gives the wrapper followed by that translation. -/
theorem minmax_map_shift (f : ABox → Except BErr ABox) (d : Rat) (b : ABox) :
    handleMinMaxWidth (fun x => (f x).map (shiftA d)) b = (handleMinMaxWidth f b).map (shiftA d) := by
  -- the last stage (the min-width pass) from a box `b2`, on both sides
  have last : ∀ b2 : ABox,
      (do let width ← widthOf (shiftA d b2)
          let box ← (if width < (shiftA d b2).minW then
              (fun x => (f x).map (shiftA d))
                { shiftA d b2 with w := some (shiftA d b2).minW, ml := b.ml, mr := b.mr, posX := b.posX }
            else pure (shiftA d b2) : Except BErr ABox)
          pure box) =
      Except.map (shiftA d)
        (do let width ← widthOf b2
            let box ← (if width < b2.minW then f { b2 with w := some b2.minW, ml := b.ml, mr := b.mr, posX := b.posX }
              else pure b2 : Except BErr ABox)
            pure box) := by
    intro b2
    cases hw2 : widthOf b2 with
    | error e => simp [bind, Except.bind, Except.map, sA_widthOf, hw2]
    | ok w2 =>
      by_cases hc : w2 < b2.minW
      · cases h3 : f { b2 with w := some b2.minW, ml := b.ml, mr := b.mr, posX := b.posX } <;>
          simp [bind, Except.bind, Except.map, sA_widthOf, sA_pl, sA_pr, sA_bl, sA_br, sA_minW, sA_maxW, sA_col,
            hw2, hc, h3]
      · simp [bind, Except.bind, Except.map, pure, Except.pure, sA_widthOf, sA_minW, hw2, hc]
  unfold handleMinMaxWidth
  cases h1 : f b with
  | error e => simp [bind, Except.bind, Except.map, h1]
  | ok b1 =>
    cases hw1 : widthOf b1 with
    | error e => simp [bind, Except.bind, Except.map, sA_widthOf, h1, hw1]
    | ok w1 =>
      by_cases hc : b1.maxW.ltRat w1 = true
      · cases hx : extAsLen b1.maxW with
        | error e => simp [bind, Except.bind, Except.map, sA_widthOf, sA_maxW, h1, hw1, hc, hx]
        | ok v =>
          cases h2 : f { b1 with w := v, ml := b.ml, mr := b.mr, posX := b.posX } with
          | error e =>
            simp [bind, Except.bind, Except.map, sA_widthOf, sA_pl, sA_pr, sA_bl, sA_br, sA_minW, sA_maxW, sA_col,
              h1, hw1, hc, hx, h2]
          | ok b2 =>
            have := last b2
            simp only [bind, Except.bind] at this
            simp [bind, Except.bind, Except.map, sA_widthOf, sA_pl, sA_pr, sA_bl, sA_br, sA_minW, sA_maxW, sA_col,
              h1, hw1, hc, hx, h2]
            exact this
      · have := last b1
        simp only [bind, Except.bind] at this
        simp [bind, Except.bind, Except.map, pure, Except.pure, sA_widthOf, sA_maxW, h1, hw1, hc]
        rw [sA_widthOf, hw1] at this
        exact this

/-- The min/max wrapper around a function that commutes with translations commutes with translations. -/
theorem minmax_shift (f : ABox → Except BErr ABox) (d : Rat)
    (hf : ∀ b, f (shiftA d b) = (f b).map (shiftA d)) (b : ABox) :
    handleMinMaxWidth f (shiftA d b) = (handleMinMaxWidth f b).map (shiftA d) := by
  have h1 : handleMinMaxWidth f (shiftA d b) = handleMinMaxWidth (fun x => f (shiftA d x)) b := rfl
  rw [h1, funext hf]
  exact minmax_map_shift f d b

/-- (d) px against the equivalent percentage (third metamorphic pair, function level): a percentage is the
pixel length it resolves to. -/
theorem percentageQ_pct_eq_px (v ref : Rat) :
    percentageQ (.pct v) ref = percentageQ (.px (ref * v / 100)) ref := rfl

/-! ### documents: the block-tree model is translation covariant -/

/-- `Box.translate(dx)` on the geometry of one laid-out box. -/
def shiftG (d : Rat) (g : Geo) : Geo := { g with x := g.x + d }

/-- The decorated `block_level_width` commutes with a translation: `block_level_width` does (`blwCore_shift`), and
every pass of the wrapper starts from the original `position_x` (`minmax_shift`). -/
theorem blw_minmax_shift (cb : CB) (d : Rat) (b : ABox) :
    blockLevelWidthMinMax cb (shiftA d b) = (blockLevelWidthMinMax cb b).map (shiftA d) :=
  minmax_shift (fun x => .ok (blockLevelWidth cb x)) d
    (fun x => congrArg Except.ok (blwCore_shift cb.width cb.direction d x)) b

private theorem geoOf_shift (u : Used) (d : Rat) (r : ABox) :
    geoOf u (shiftA d r) = (geoOf u r).map (shiftG d) := by
  unfold geoOf
  simp only [sA_ml, sA_mr, sA_w, bind, Except.bind]
  cases lenToRat "margin_left" r.ml with
  | error e => rfl
  | ok a =>
    cases lenToRat "margin_right" r.mr with
    | error e => rfl
    | ok b =>
      cases lenToRat "width" r.w with
      | error e => rfl
      | ok c => rfl

/-- One box laid out `d` further to the right: the same used values, `position_x` moved by `d`. -/
theorem layoutBox_translate (cb : CB) (cbH : Len) (x d fs : Rat) (s : NStyle) :
    layoutBox cb cbH (x + d) fs s = (layoutBox cb cbH x fs s).map (fun p => (shiftG d p.1, p.2)) := by
  unfold layoutBox
  simp only [bind, Except.bind]
  cases computeStyle fs s with
  | error e => rfl
  | ok st =>
    simp only
    cases resolvePercentages false st cb.width cbH with
    | error e => rfl
    | ok u =>
      simp only
      have : aboxOfUsed u (x + d) = shiftA d (aboxOfUsed u x) := rfl
      rw [this, blw_minmax_shift]
      cases blockLevelWidthMinMax cb (aboxOfUsed u x) with
      | error e => rfl
      | ok r =>
        simp only [Except.map, geoOf_shift]
        cases geoOf u r <;> rfl

theorem shiftG_contentX (d : Rat) (g : Geo) : (shiftG d g).contentX = g.contentX + d := by
  simp only [Geo.contentX, shiftG]; grind

mutual
/-- (f) **Uniform translation, documents** (the model side of the `translation` section): laying a tree of
blocks out from a start position moved by `d` gives the same boxes, each moved by `d` — in ltr and rtl,
whatever min/max and over-constraint do. -/
theorem layoutNode_translate (cb : CB) (cbH : Len) (x d : Rat) (dir : Dir) (fs : Rat) : ∀ n : Node,
    layoutNode cb cbH (x + d) dir fs n = (layoutNode cb cbH x dir fs n).map (List.map (shiftG d))
  | .mk s kids => by
    simp only [layoutNode, bind, Except.bind, layoutBox_translate]
    cases layoutBox cb cbH x (match s.fontSize with | some f => f | none => fs) s with
    | error e => rfl
    | ok gu =>
      obtain ⟨g, u⟩ := gu
      simp only [Except.map, shiftG_contentX]
      have hw : (shiftG d g).w = g.w := rfl
      rw [hw, layoutKids_translate]
      generalize layoutKids _ _ _ _ _ kids = r
      cases r <;> rfl
theorem layoutKids_translate (cb : CB) (cbH : Len) (x d : Rat) (dir : Dir) (fs : Rat) : ∀ ns : List Node,
    layoutKids cb cbH (x + d) dir fs ns = (layoutKids cb cbH x dir fs ns).map (List.map (shiftG d))
  | [] => rfl
  | n :: ns => by
    simp only [layoutKids, bind, Except.bind]
    rw [layoutNode_translate cb cbH x d dir fs n, layoutKids_translate cb cbH x d dir fs ns]
    cases layoutNode cb cbH x dir fs n with
    | error e => rfl
    | ok a =>
      cases layoutKids cb cbH x dir fs ns with
      | error e => rfl
      | ok b => simp [Except.map, pure, Except.pure]
end

/-- Non-vacuity: an rtl tree with an over-constrained, clamped child, laid out from 0 and from 16. -/
example : (match layoutNode (.box 200 .rtl) none (0 + 16) .rtl 16 C05Refine.exNode,
      layoutNode (.box 200 .rtl) none 0 .rtl 16 C05Refine.exNode with
    | .ok a, .ok b => decide (a = b.map (shiftG 16)) && decide (a.length = 3)
    | _, _ => false) = true := by
  decide +kernel

/-! ### documents: a neutral wrapper changes nothing (model side of the `wrapper` section) -/

/-- A plain `<div>`: no margin, border, padding; auto width and height; no min/max; direction and font size
inherited. -/
def plainStyle : NStyle := C05Refine.exStyle

def wrapperGeo (x w : Rat) : Geo :=
  { x := x, ml := 0, mr := 0, w := w, pl := 0, pr := 0, bl := 0, br := 0, mt := 0, mb := 0, pt := 0, pb := 0,
    bt := 0, bb := 0, h := none }

def plainUsed : Used :=
  { marginLeft := some 0, marginRight := some 0, marginTop := some 0, marginBottom := some 0, paddingLeft := 0,
    paddingRight := 0, paddingTop := 0, paddingBottom := 0, width := none, height := none, minWidth := 0,
    minHeight := 0, maxWidth := .inf, maxHeight := .inf, borderLeft := 0, borderRight := 0, borderTop := 0,
    borderBottom := 0 }

theorem layoutBox_plain (w : Rat) (d : Dir) (cbH : Len) (x fs : Rat) (hw : 0 ≤ w) :
    layoutBox (.box w d) cbH x fs plainStyle = .ok (wrapperGeo x w, plainUsed) := by
  have h0 : ¬ (w < 0) := Rat.not_lt.mpr hw
  have hz : w - (0 + 0 + 0 + 0 + 0 + 0) = w := by grind
  cases cbH <;>
    simp [layoutBox, plainStyle, C05Refine.exStyle, computeStyle, computeLen, computeMax, computeBorder,
      resolvePercentages, percentageQ, percentageX, resolvePad, resolveMin, adjustBoxSizing, boxSizingDelta,
      lenToRat, blockLevelWidthMinMax, handleMinMaxWidth, blockLevelWidth, blwCore, aboxOfUsed, widthOf, geoOf,
      Ext.ltRat, CB.width, bind, Except.bind, pure, Except.pure, wrapperGeo, plainUsed, hz, h0]

/-- (f)(g) **Neutral wrapper, documents** (the model side of the `wrapper` section): a plain `<div>` around a
list of blocks, in a containing block of non-negative width, is laid out with the geometry of the space it is
given (`x`, the whole width, no margins) and its children are laid out exactly as they were without it in an
auto-height parent — in ltr and rtl, for every list of children. -/
theorem layoutNode_wrapper (w : Rat) (d : Dir) (cbH : Len) (x fs : Rat) (hw : 0 ≤ w) (ks : List Node) :
    layoutNode (.box w d) cbH x d fs (.mk plainStyle ks) =
      (layoutKids (.box w d) none x d fs ks).map (fun l => wrapperGeo x w :: l) := by
  have hfs : plainStyle.fontSize = none := rfl
  have hdir : plainStyle.dir = none := rfl
  have hx : (wrapperGeo x w).contentX = x := by simp only [Geo.contentX, wrapperGeo]; grind
  simp only [layoutNode, hfs, hdir, layoutBox_plain w d cbH x fs hw, bind, Except.bind, hx]
  have hw' : (wrapperGeo x w).w = w := rfl
  have hh : plainUsed.height = none := rfl
  rw [hw', hh]
  cases layoutKids (.box w d) none x d fs ks <;> rfl

/-- The same, seen from the parent (the shape the harness renders: the content of `<body>` wrapped in a
`<div>`): for a parent with an auto height and a non-negative width, wrapping all its children in a plain
`<div>` inserts one box — the wrapper, filling the parent's content box horizontally — and changes no other
box of the document. -/
theorem layoutNode_wrap_children (cb : CB) (cbH : Len) (x : Rat) (dir : Dir) (fs : Rat) (s : NStyle)
    (ks : List Node) (g : Geo) (u : Used)
    (hbox : layoutBox cb cbH x (match s.fontSize with | some f => f | none => fs) s = .ok (g, u))
    (hauto : u.height = none) (hw : 0 ≤ g.w) :
    layoutNode cb cbH x dir fs (.mk s [.mk plainStyle ks]) =
      (layoutNode cb cbH x dir fs (.mk s ks)).map (fun l =>
        match l with
        | p :: rest => p :: wrapperGeo g.contentX g.w :: rest
        | [] => []) := by
  rw [layoutNode, layoutNode]
  -- the `match` on `s.fontSize` in `hbox` and the one inside `layoutNode` are different auxiliary functions: they
  -- meet once the value is known
  cases hfs : s.fontSize <;> cases hdir : s.dir <;> simp only [hfs] at hbox <;>
  · simp only [bind, Except.bind, hbox, hauto, layoutKids, layoutNode_wrapper _ _ none _ _ hw]
    generalize layoutKids (CB.box g.w _) none g.contentX _ _ ks = r
    cases r <;> simp [Except.map, pure, Except.pure]

/-- Non-vacuity: the example tree of `C05Refine` (a centred 50% child holding a padded grandchild) with the
children of its root wrapped: one more box, the others unchanged. -/
example : (match layoutNode (.box 200 .rtl) none 0 .rtl 16 (.mk plainStyle [.mk plainStyle [C05Refine.exNode]]),
      layoutNode (.box 200 .rtl) none 0 .rtl 16 (.mk plainStyle [C05Refine.exNode]) with
    | .ok (p :: q :: rest), .ok (p' :: rest') => decide (p = p' ∧ q = wrapperGeo 0 200 ∧ rest = rest' ∧ rest.length = 3)
    | _, _ => false) = true := by
  decide +kernel

/-! ### documents: the used width is the CSS formula -/

open Wp.C05Shrink

/-- (b)(c) **Documents: the used width of every block box is the CSS formula** — for every box the block-tree model
lays out (`resolve_percentages`, then the decorated `block_level_width`): with `t` the tentative width of CSS 2.1
§10.3.3 for the used margins, paddings and borders, the used width is `cssClamp t min-width max-width` with the
*used* (percentages resolved, box-sizing subtracted) constraints. -/
theorem layoutBox_width_css (cb : CB) (cbH : Len) (x fs : Rat) (s : NStyle) (g : Geo) (u : Used)
    (h : layoutBox cb cbH x fs s = .ok (g, u)) :
    ∃ t, (blwCore cb.width cb.direction (aboxOfUsed u x)).w = some t ∧
      g.w = cssClamp t u.minWidth u.maxWidth := by
  obtain ⟨r, hr, _, _, hw, _⟩ := layoutBox_unfold cb cbH x fs s g u h
  obtain ⟨t, ht, hrw⟩ := blw_minmax_width_css cb.width cb.direction (aboxOfUsed u x) r hr
  refine ⟨t, ht, ?_⟩
  rw [hw] at hrw
  exact Option.some.inj hrw

/-- Non-vacuity: `width: 200px; max-width: 50px` in a 100px containing block is 50px wide. -/
example : (match layoutBox (.box 100 .rtl) none 0 16 { C05Refine.exStyle with width := .px 200, maxW := .px 50 } with
    | .ok (g, u) => decide (g.w = cssClamp 200 u.minWidth u.maxWidth ∧ g.w = 50)
    | .error _ => false) = true := by
  decide +kernel

end Wp.C05Meta
