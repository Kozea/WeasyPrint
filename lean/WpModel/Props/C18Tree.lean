/-
C18 — `gather_anchors` over a whole laid-out page: "every hyperlink becomes link annotations covering
its boxes" (one entry per link-carrying box fragment), one bookmark per labelled box, one destination
per id — the first box carrying it, at its transformed hit-area corners.
-/
import WpModel.Lemmas.C18Gather
import WpModel.Lemmas.C18EndToEnd
import WpModel.Props.C18

namespace Wp.C18
open Wp Wp.Anchors Wp.Outline

/-- Complete functional specification of `Page.__init__`'s call of `gather_anchors`: with
`preorder root none` the boxes of the page in document order (each with its accumulated matrix),
* `links` = the link entries of the boxes that carry a link and are neither text nor line boxes, in order;
* `bookmarks` = the entries of the boxes with a label and a level, in order;
* `anchors` = for each id, the entry of the first box carrying it. -/
theorem gather_spec (root : GBox) :
    (gatherPage root).links = (preorder root none).filterMap Visit.linkEntry ∧
    (gatherPage root).bookmarks = (preorder root none).filterMap Visit.bookmarkEntry ∧
    (gatherPage root).anchors = addFirst ((preorder root none).filterMap Visit.anchorEntry) [] := by
  unfold gatherPage
  rw [gather_fold]
  exact ⟨fold_field (·.links) _ run_links _ _, fold_field (·.bookmarks) _ run_bookmarks _ _, by rw [fold_anchors]⟩

/-- One link entry — hence one link annotation (`add_links`) — per box fragment that carries a link:
an inline link split over three lines or over pages has three boxes and gets three rectangles; a text
or line box inheriting the property gets none. -/
theorem one_link_per_box (root : GBox) :
    (gatherPage root).links.length =
      ((preorder root none).filter (fun v => hasLink v.kind v.link)).length := by
  rw [(gather_spec root).1]
  induction preorder root none with
  | nil => rfl
  | cons v vs ih =>
    simp only [List.filterMap_cons, List.filter_cons, ← v.linkEntry_isSome]
    cases v.linkEntry <;> simp [ih]

/-- Each link entry is the `rectangle_aabb` of its box's hit area under the matrix in force. -/
theorem link_entries_cover (root : GBox) :
    ∀ l ∈ (gatherPage root).links, ∃ v ∈ preorder root none,
      hasLink v.kind v.link = true ∧ l.rect = rectangleAabb v.m v.hx v.hy v.hw v.hh := by
  intro l hl
  rw [(gather_spec root).1] at hl
  obtain ⟨v, hv, he⟩ := List.mem_filterMap.mp hl
  exact ⟨v, hv, v.linkEntry_isSome.symm.trans (by rw [he]; rfl), Visit.linkEntry_rect he⟩

/-- The destination recorded for an id is the entry of the first box (document order) carrying it. -/
theorem anchor_is_first_box (root : GBox) (n : String) :
    (gatherPage root).anchors.find? (fun a => a.name == n) =
      ((preorder root none).filterMap Visit.anchorEntry).find? (fun a => a.name == n) := by
  rw [(gather_spec root).2.2]
  exact addFirst_first _ [] n rfl

example :
    let link : GBox := .mk .inline [] (.pct 50) (.pct 50) 0 0 40 20 0 0 40 20 "" none "open"
      (some ("internal", "a")) false none [.mk .text [] (.pct 50) (.pct 50) 0 0 40 20 0 0 40 20 "" none "open"
        (some ("internal", "a")) false none []]
    let root : GBox := .mk .other [] (.pct 50) (.pct 50) 0 0 200 40 0 0 200 40 "" none "open" none false (some "a")
      [.mk .line [] (.pct 50) (.pct 50) 0 0 200 20 0 0 200 20 "" none "open" none false none [link],
       .mk .line [] (.pct 50) (.pct 50) 0 20 200 20 0 20 200 20 "" none "open" none false none [link]]
    (gatherPage root).links.length = 2 ∧ (gatherPage root).anchors.length = 1 := by decide +kernel

/-! ## from the pages to the outline dictionaries -/

/-- `add_outlines(pdf, document.make_bookmark_tree(scale, transform_pages=True))` as `generate_pdf`
calls it, for any document whose bookmark levels are ≥ 1 and whose pages are all in
`pdf.page_references`: neither call fails (no assert, no `pop` on empty, no page index out of range),
and the outline dictionaries, read in object-number order, carry exactly the labels of the bookmarked
boxes of all pages in document order — one dictionary per bookmark, none lost, none duplicated —
and the count `add_outlines` returns is the number of entries visible with the given states (`outline_spec` puts it
in the outlines dictionary). -/
theorem outline_end_to_end (pages : List BPage) (scale : Rat) (refs : List Nat) (next : Nat)
    (hl : ∀ p ∈ pages, ∀ b ∈ p.bookmarks, 1 ≤ b.level) (hrefs : refs.length = pages.length) :
    ∃ t r, makeBookmarkTree pages scale true = .ok t ∧ addOutlines refs next t none = .ok r ∧
      (flattenNodes r.nodes).map (·.title) = (pages.flatMap (·.bookmarks)).map (·.label) ∧
      (flattenNodes r.nodes).map (·.num) = List.range' next (pages.flatMap (·.bookmarks)).length ∧
      r.count = visList t := by
  obtain ⟨t, ht, hitems⟩ := bookmark_tree_items pages scale true hl
  have hpages : pagesOkList refs t = true := by
    apply pagesOkList_of_flat refs t 1
    intro x hx
    have hx2 : x.2 ∈ (docEntries scale true 0 pages).map entryItem := hitems ▸ List.mem_map_of_mem hx
    obtain ⟨e, he, hex⟩ := List.mem_map.mp hx2
    obtain ⟨i, _, hi, hp⟩ := docEntries_pages scale true pages 0 e he
    rw [← hex]
    simp only [entryItem]
    rw [hp]
    exact pageReference_ok refs i (by omega)
  obtain ⟨r, hr⟩ := outline_total refs next t none hpages
  obtain ⟨hc, hg, _⟩ := outline_spec refs next t r hr
  have htitles : (flatList 1 t).map (·.2.1) = (pages.flatMap (·.bookmarks)).map (·.label) := by
    rw [← docEntries_map (·.label) (·.label) (fun _ _ _ => rfl) scale true pages 0]
    have := congrArg (List.map (·.1)) hitems
    rw [List.map_map, List.map_map] at this
    exact this
  have hsize : sizeList t = (pages.flatMap (·.bookmarks)).length := by
    have h1 := congrArg List.length (GoodList_numbers t r.nodes hg)
    have h2 := congrArg List.length (GoodList_titles t r.nodes 1 hg)
    have h3 := congrArg List.length htitles
    simp only [List.length_map, List.length_range'] at h1 h2 h3
    omega
  refine ⟨t, r, ht, hr, ?_, ?_, hc⟩
  · rw [GoodList_titles t r.nodes 1 hg, htitles]
  · rw [GoodList_numbers t r.nodes hg, hsize]

example : ∃ t r, makeBookmarkTree [⟨100, [⟨1, "a", 0, 0, "open"⟩, ⟨3, "b", 0, 20, "closed"⟩]⟩, ⟨100, [⟨2, "c", 0, 0, "open"⟩]⟩]
    (3 / 4) true = .ok t ∧ addOutlines [6, 14] 20 t none = .ok r :=
  let ⟨t, r, h1, h2, _⟩ := outline_end_to_end _ (3 / 4) [6, 14] 20 (by decide) rfl
  ⟨t, r, h1, h2⟩

/-! ## where the outline entries point -/

/-- The entry of a bookmark at CSS point `(x, y)` of page `n`: with `transform_pages` it is measured in
PDF units from the bottom of a page of height `h` … -/
theorem toEntry_flipped (n : Int) (scale h : Rat) (b : Bookmark) :
    toEntry n (bookmarkMatrix scale true h) b = ⟨b.level, b.label, ⟨n, b.x * scale, (h - b.y) * scale⟩, b.state⟩ := by
  simp only [toEntry, bookmarkMatrix, if_true, Matrix.transformPoint]
  congr 2
  · grind
  · grind

/-- … and without it only scaled. -/
theorem toEntry_plain (n : Int) (scale h : Rat) (b : Bookmark) :
    toEntry n (bookmarkMatrix scale false h) b = ⟨b.level, b.label, ⟨n, b.x * scale, b.y * scale⟩, b.state⟩ := by
  simp only [toEntry, bookmarkMatrix, Bool.false_eq_true, if_false, Matrix.transformPoint]
  congr 2
  · grind
  · grind

/-- Every bookmark with its own page: number and height. -/
def ownPage (scale : Rat) : Nat → List BPage → List Entry
  | _, [] => []
  | n, p :: rest =>
    p.bookmarks.map (fun b => ⟨b.level, b.label, ⟨(n : Int), b.x * scale, (p.height - b.y) * scale⟩, b.state⟩) ++
      ownPage scale (n + 1) rest

theorem docEntries_ownPage (scale : Rat) (pages : List BPage) :
    ∀ n, docEntries scale true n pages = ownPage scale n pages := by
  induction pages with
  | nil => intro n; rfl
  | cons p rest ih =>
    intro n
    simp only [docEntries, ownPage, ih (n + 1)]
    congr 1
    apply List.map_congr_left
    intro b _
    exact toEntry_flipped _ _ _ b

/-- **Each outline entry points into its own page** (`generate_pdf` calls
`make_bookmark_tree(scale, transform_pages=True)`): read in pre-order, the tree lists every bookmark with
the number of the page it lies on and the point `(x·scale, (height of that page − y)·scale)` — the height
of *its own* page, also when the pages of the document have different heights (seeded regression C18-7
took the height of the first page for all). -/
theorem bookmark_targets_own_page (pages : List BPage) (scale : Rat)
    (h : ∀ p ∈ pages, ∀ b ∈ p.bookmarks, 1 ≤ b.level) :
    ∃ t, makeBookmarkTree pages scale true = .ok t ∧
      (flatList 1 t).map (·.2) = (ownPage scale 0 pages).map entryItem := by
  obtain ⟨t, ht, hitems⟩ := bookmark_tree_items pages scale true h
  exact ⟨t, ht, by rw [hitems, docEntries_ownPage]⟩

/-- Two pages of heights 500 and 300 (the demo of C18-7): the heading at y = 20 of the second page is at
(300 − 20)·¾ = 210 pt, not (500 − 20)·¾ = 360 pt. -/
example : ownPage (3 / 4) 0 [⟨500, [⟨1, "a", 0, 40, "open"⟩]⟩, ⟨300, [⟨1, "b", 0, 20, "open"⟩]⟩] =
    [⟨1, "a", ⟨0, 0, 345⟩, "open"⟩, ⟨1, "b", ⟨1, 0, 210⟩, "open"⟩] := by decide +kernel

end Wp.C18
