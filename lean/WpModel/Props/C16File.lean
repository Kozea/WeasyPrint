/-
C16 — file level: "header, object syntax, cross-reference offsets and trailer are correct".
Theorems about the model of pydyf's writer (Model/PdfFile, tied to the installed pydyf by the `pydyf-data`,
`file-writer` and `document-file` correspondence sections) and soundness of the executable file checker that is run on
the real bytes of generated documents.  Of the trailer `FileOK` says only that the keyword `trailer` follows the
table: the checker's test for the `/Size n` line is not carried into it.
-/
import WpModel.Model.PdfFile
import WpModel.Lemmas.PdfFile

namespace Wp.C16
open Wp Wp.PdfFile

/-- **xref_offsets_correct**: for every list of objects (any data, generations, free or in use), every version string
and every trailer option, in the bytes `PDF.write` produces the offset recorded for in-use object number `i` — the one
printed in cross-reference entry `i` — is exactly where the bytes `i g obj\n<data>\nendobj\n` of that object start, and
the number after `startxref` is exactly where the line `xref` starts. -/
theorem xref_offsets_correct (version : Bytes) (objs : List PObject) (t : Trailer) :
    (∀ (i : Nat) (o : PObject), objs[i]? = some o → o.free = false →
      ∃ off, (writeFile version objs t).offsets[i]? = some off ∧
        line (indirect i o) <+: (writeFile version objs t).bytes.drop off) ∧
    (writeFile version objs t).offsets.length = objs.length ∧
    line (str "xref") <+: (writeFile version objs t).bytes.drop (writeFile version objs t).xrefPos :=
  ⟨fun i o hi hf => writeFile_offsets version objs t i o hi hf, writeObjects_length _ _ _,
   writeFile_xref_position version objs t⟩

/-- Decimal numbers survive the trip through the file: what the writer prints (`str(n)`, and the zero-padded
`f'{offset:010}'` / `f'{generation:05}'` of the table) reads back as the same number. -/
theorem decimal_round_trip (n w : Nat) : parseNat (natStr n) = some n ∧ parseNat (padNat w n) = some n :=
  ⟨parseNat_natStr n, parseNat_padNat w n⟩

/-- The file-level clauses of C16 for a classic (cross-reference table) file with `n` objects and the table at `x`. -/
structure FileOK (f : Bytes) (n x : Nat) : Prop where
  /-- the file starts with `%PDF-`; -/
  header : str "%PDF-" <+: f
  /-- it ends with `startxref`, the decimal position `x`, `%%EOF`; -/
  tail : ∃ pre digits, f = pre ++ str "startxref" ++ '\n' :: digits ++ str "\n%%EOF\n" ∧ parseNat digits = some x
  /-- at `x` there is `xref`, one subsection header `0 n`, then `n` entries of 20 bytes, then `trailer`; every entry is
  well formed and every in-use entry `i` points at the bytes `i g obj\n`. -/
  table : ∃ sub entries, f.drop x = line (str "xref") ++ line sub ++ entries ∧ ['0', ' '] <+: sub ∧
    parseNat (sub.drop 2) = some n ∧ str "trailer\n" <+: entries.drop (20 * n) ∧
    ∀ i, i < n → ∃ off gen free, parseEntry (entries.drop (20 * i)) = some (off, gen, free) ∧
      (free = false → PdfFile.header i gen <+: f.drop off)

/-- **check_file_sound**: a file accepted by the executable checker (run on the real bytes of every generated
classic-xref document) satisfies the file-level clauses. -/
theorem check_file_sound (f : Bytes) (n x : Nat) (h : checkFile f = some (n, x)) : FileOK f n x := by
  obtain ⟨hhead, ht, hx, h0, hn, hent, htr, _⟩ := checkFile_eq_some_iff.mp h
  have hl1 := (splitLine_spec (f.drop x)).2
  generalize splitLine (f.drop x) = l1 at hl1 hx h0 hn hent htr
  obtain ⟨a1, r1⟩ := l1
  have hl2 := (splitLine_spec r1).2
  generalize splitLine r1 = l2 at hl2 h0 hn hent htr
  obtain ⟨a2, r2⟩ := l2
  dsimp only at hl1 hl2 hx h0 hn hent htr
  subst hx
  have hr2 : r1 = line a2 ++ r2 := by
    rcases hl2 with e | ⟨e, e2⟩
    · rw [e]; simp [line]
    · -- the table would be empty: `trailer` cannot follow
      subst e2
      simp [startsWith, str] at htr
  have hr1 : f.drop x = line (str "xref") ++ r1 := by
    rcases hl1 with e | ⟨e, e2⟩
    · rw [e]; simp [line]
    · -- no line feed after `xref`: then the next line is empty and cannot start with `0 `
      subst e2
      have : a2 = [] := by simpa [line] using hr2.symm
      subst this
      simp [startsWith] at h0
  refine ⟨(startsWith_iff _ _).mp hhead, parseTail_sound f x ht,
    a2, r2, by rw [hr1, hr2, List.append_assoc], (startsWith_iff _ _).mp h0, hn, (startsWith_iff _ _).mp htr, ?_⟩
  intro i hi
  obtain ⟨off, gen, free, p1, p2⟩ := checkEntries_sound f n 0 r2 hent i hi
  exact ⟨off, gen, free, p1, fun hf => by simpa using p2 hf⟩
/-- **checker_accepts_writer** (refinement writer model → checker): for every object list, version and trailer
options, the bytes the writer model produces are accepted by the file checker, which reports exactly the number of
objects and the table position — provided the fixed-width table entries can hold the numbers (every offset below 10¹⁰,
i.e. a file below 10 GB, and every generation below 10⁵).  Together with `check_file_sound`: `FileOK` holds of every
file the model writes. -/
theorem checker_accepts_writer (version : Bytes) (objs : List PObject) (t : Trailer)
    (hoff : ∀ off ∈ (writeFile version objs t).offsets, off < 10 ^ 10)
    (hgen : ∀ o ∈ objs, o.generation < 10 ^ 5) :
    checkFile (writeFile version objs t).bytes = some (objs.length, (writeFile version objs t).xrefPos) ∧
    FileOK (writeFile version objs t).bytes objs.length (writeFile version objs t).xrefPos :=
  ⟨checkFile_writeFile version objs t hoff hgen,
   check_file_sound _ _ _ (checkFile_writeFile version objs t hoff hgen)⟩

/-- Non-vacuity and the refinement on an instance: the file the writer model produces for a catalog, a page tree, a
free object and an object with a generation is accepted by the checker, with the right count and table position. -/
example :
    let w := writeFile (str "1.7")
      [⟨65535, true, []⟩, ⟨0, false, str "<</Type /Pages/Kids []/Count 0>>"⟩,
       ⟨0, false, str "<</Type /Catalog/Pages 1 0 R>>"⟩, ⟨0, true, []⟩, ⟨2, false, str "(a\\(b)"⟩]
      ⟨(2, 0), none, some (str "ab", str "cd")⟩
    checkFile w.bytes = some (5, w.xrefPos) := by decide +kernel

end Wp.C16
