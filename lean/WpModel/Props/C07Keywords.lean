/-
C07 (part 5) — keyword-only validators (table regenerated from properties.py) and what the expanders rely on:
the keywords they synthesise are valid for their target longhand, the classes they sort tokens into are disjoint.
-/
import WpModel.Model.KeywordsC07
import WpModel.Lemmas.C07Generic

namespace Wp.C07
open Wp Wp.Decl Wp.Kw

/-! ## Keyword-only validators -/

/-- `single_keyword`: exactly one identifier token, whose keyword is in the table. -/
theorem validateOne_some (keywords : List String) (tokens : List KTok) (kw : String) :
    validateOne keywords tokens = some kw ↔ tokens = [some kw] ∧ kw ∈ keywords := by
  match tokens with
  | [some k] =>
    by_cases hk : k ∈ keywords
    · simp only [validateOne, singleKeyword, List.contains_iff_mem.mpr hk, if_true, Option.some.injEq,
        List.cons.injEq, and_true]
      exact ⟨fun h => ⟨h, h ▸ hk⟩, fun h => h.1⟩
    · simp only [validateOne, singleKeyword, List.contains_iff_mem, hk, if_false, List.cons.injEq,
        Option.some.injEq, and_true, false_iff, not_and, reduceCtorEq]
      exact fun h => h ▸ hk
  | [] | [none] | _ :: _ :: _ => simp [validateOne, singleKeyword]

/-- A keyword-only property (not comma separated) accepts exactly one identifier token whose lower-case value
is in its table — nothing else: no second token, no non-identifier, no comma list. -/
theorem keyword_valid_iff (name : String) (keywords : List String) (tokens : List KTok) (out : List String)
    (h : entry name = some (keywords, false)) :
    validate name [tokens] = some (some out) ↔ ∃ kw, tokens = [some kw] ∧ kw ∈ keywords ∧ out = [kw] := by
  simp only [validate, h, Bool.false_eq_true, if_false, Option.some.injEq, Option.map_eq_some_iff, validateOne_some,
    and_assoc, eq_comm (a := out)]

/-- A comma-separated keyword property accepts exactly the lists all of whose parts are one such identifier. -/
theorem keyword_list_valid_iff (keywords : List String) :
    ∀ (parts : List (List KTok)) (out : List String),
      validateParts keywords parts = some out ↔
        parts.length = out.length ∧ ∀ i (h1 : i < parts.length) (h2 : i < out.length),
          parts[i] = [some out[i]] ∧ out[i] ∈ keywords := by
  intro parts out
  rw [commaList_some (validateOne keywords) (validateParts keywords) rfl
    (fun p rest => by
      simp only [validateParts]
      cases validateOne keywords p <;> cases validateParts keywords rest <;> rfl),
    List.ext_getElem_iff]
  simp only [List.length_map, List.getElem_map, validateOne_some]

example : validate "border-collapse" [[some "collapse"]] = some (some ["collapse"]) ∧
    validate "border-collapse" [[some "collapse", some "separate"]] = some none ∧
    validate "background-attachment" [[some "scroll"], [some "fixed"]] = some (some ["scroll", "fixed"]) ∧
    validate "width" [[some "auto"]] = none := by decide +kernel

/-! ## What the expanders take for granted about those tables -/

private def kws (name : String) : List String := ((entry name).map (·.1)).getD []

/-- `outline-style` is `border-style` without `hidden` (why `outline: hidden` is classified as a style by
`expand_border_side` and then refused by the longhand). -/
theorem outline_style_is_border_style_minus_hidden :
    (kws "border-top-style").filter (· != "hidden") = kws "outline-style" := by
  decide +kernel

/-- The four border sides and `column-rule-style` share one table. -/
theorem border_styles_agree :
    kws "border-top-style" = kws "border-right-style" ∧ kws "border-top-style" = kws "border-bottom-style" ∧
    kws "border-top-style" = kws "border-left-style" ∧ kws "border-top-style" = kws "column-rule-style" := by
  decide +kernel

/-- `flex-flow`: no keyword is both a direction and a wrap mode, so the two components can be told apart in
any order. -/
theorem flex_flow_classes_disjoint : ∀ k ∈ kws "flex-direction", k ∉ kws "flex-wrap" := by
  decide +kernel

/-- **`flex-flow: a b` = `flex-flow: b a`** whenever no token is both a direction and a wrap mode (true of the
generated tables: `flex_flow_classes_disjoint`). -/
theorem flex_flow_perm {α : Type} (a b : FlowTok α) (ha : ¬(a.isDirection = true ∧ a.isWrap = true))
    (hb : ¬(b.isDirection = true ∧ b.isWrap = true)) :
    (flexFlowRaw [a, b]).items = (flexFlowRaw [b, a]).items ∧ (flexFlowRaw [a, b]).ends = (flexFlowRaw [b, a]).ends := by
  obtain ⟨ad, aw, x⟩ := a
  obtain ⟨bd, bw, y⟩ := b
  cases ad <;> cases aw <;> cases bd <;> cases bw <;> simp_all [flexFlowRaw]

/-- The keywords `page-break-before/after/inside` forward or synthesise (`always` ↦ `page`) are accepted by
`break-before`, `break-after`, `break-inside`: the rename can only be refused by the shorthand itself. -/
theorem page_break_targets_valid :
    (∀ k ∈ ["auto", "left", "right", "avoid", "page"], k ∈ kws "break-before" ∧ k ∈ kws "break-after") ∧
    (∀ k ∈ ["auto", "avoid"], k ∈ kws "break-inside") := by
  decide +kernel

/-- The identifiers `text-align` synthesises (`justify-all` ↦ `justify`, last line of `justify` ↦ `start`) are
valid for `text-align-all` / `text-align-last`, and every `text-align-all` keyword but `justify` is a valid
`text-align-last` (it is copied there). -/
theorem text_align_targets_valid :
    "justify" ∈ kws "text-align-all" ∧ "start" ∈ kws "text-align-last" ∧
    ∀ k ∈ kws "text-align-all", k ≠ "justify" → k ∈ kws "text-align-last" := by
  decide +kernel

/-- The identifiers `line-clamp` synthesises for `continue` are in its table. -/
theorem line_clamp_targets_valid : "auto" ∈ kws "continue" ∧ "discard" ∈ kws "continue" := by
  decide +kernel

/-- The style keywords `expand_text_decoration` tests for are exactly the `text-decoration-style` table, and
none of them is a line keyword. -/
theorem text_decoration_style_table :
    kws "text-decoration-style" = ["solid", "double", "dotted", "dashed", "wavy"] ∧
    ∀ k ∈ kws "text-decoration-style", k ∉ ["none", "underline", "overline", "line-through", "blink"] := by
  decide +kernel

/-- `word-wrap` forwards to `overflow-wrap`, whose table is: -/
theorem overflow_wrap_table : kws "overflow-wrap" = ["anywhere", "normal", "break-word"] := by
  decide +kernel

end Wp.C07
