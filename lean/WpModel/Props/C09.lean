/-
C09 — Inline formatting: greedy line breaking inside the available width.

The property theorems; the lemmas they rest on are in `WpModel/Lemmas/` (`LineBreak`, `Line*`,
`Inline*`).  The sections up to `stack` (and `content_inside_block`) are about the model of
`Model/Pango.lean` (PangoFP, the *assumed* fixed-pitch Pango) and `Model/LineBreak.lean`
(`split_first_line`, `split_text_box`, `text_align`, `justify_line`, `iter_line_boxes`); the later
sections name their model in their heading.  The statements are for **all** texts, widths, font sizes
and styles of the model (induction / case analysis — the `decide`s are only about constants: the tuples
regenerated from the source by `py/extract/line_break_tables.py`, a keyword, a character, and the inputs of the
`example`s).

Many theorems are followed by an `example` showing their hypotheses satisfiable on a concrete non-trivial
input.  Core Lean only.

`greedy` and `heuristic_transparent` are proved at full strength on *canonical* texts (words separated
by single spaces: what white-space processing leaves under a collapsing `white-space`), normal
`word-break` / `overflow-wrap`; for arbitrary texts (runs of preserved spaces, newlines, `break-all`,
`overflow-wrap`) only the `_partial` forms and the conservation / progress theorems hold — under a wrapping
`white-space` and a finite width the full `heuristic_transparent` is false for a text with a space before a
preserved newline (`Witness/C09`); without wrapping or without a width the result is the same with and without
the heuristic on every text (`splitFirstLineH_no_width`).
-/
import WpModel.Lemmas.LineBreak
import WpModel.Lemmas.InlineHyphen
import WpModel.Lemmas.LineVertical
import WpModel.Lemmas.LineVerticalTB
import WpModel.Lemmas.LineFloats
import WpModel.Lemmas.LineFloatsInline
import WpModel.Lemmas.LineFloatsTall
import WpModel.Lemmas.InlineNoWrap
import WpModel.Lemmas.InlineSource
import WpModel.Lemmas.InlineSourceText
import WpModel.Props.C11

namespace Wp.C09
open Wp Wp.Py Wp.Pango Wp.LB Wp.C09L

/-! ### the tuples and constants of the source (regenerated each run) say what css-text says -/

/-- `text_wrap` of `split_first_line`: exactly `normal`, `pre-wrap`, `pre-line` wrap. -/
theorem text_wrap_values (w : WS) : w.textWrap = true ↔ (w = .normal ∨ w = .preWrap ∨ w = .preLine) := by
  cases w <;> decide

/-- `space_collapse`: exactly `normal`, `nowrap`, `pre-line` collapse. -/
theorem space_collapse_values (w : WS) :
    w.spaceCollapse = true ↔ (w = .normal ∨ w = .nowrap ∨ w = .preLine) := by
  cases w <;> decide

/-- `create_layout` gives Pango a width exactly when `split_first_line` wants wrapping. -/
theorem layout_wrap_eq_text_wrap (w : WS) : w.layoutWrap = w.textWrap := C09L.layout_wrap_eq_text_wrap w

/-- `skip_first_whitespace`, `remove_last_whitespace` and `text_align` use the same collapsing set
as `split_first_line`. -/
theorem collapse_tables_agree (w : WS) :
    w.skipFirst = w.spaceCollapse ∧ w.removeLast = w.spaceCollapse ∧ w.alignCollapse = w.spaceCollapse := by
  cases w <;> decide

/-- `can_break_inside` (re-breaking the waiting children of `split_inline_box`) allows wrapping under
exactly the `white-space` values under which `split_first_line` wraps: a text that `split_first_line`
would break can also be re-broken when a later inline box overflows (seed C09-6 drops `pre-line`). -/
theorem can_break_inside_wrap_eq_text_wrap (w : WS) : w.breakInside = w.textWrap := by
  cases w <;> decide

/-- `split_inline_box` refuses a break opportunity between two children under exactly the
non-wrapping values `pre` and `nowrap`. -/
theorem no_break_between_iff_no_wrap (w : WS) : w.noBreakBetween = !w.textWrap := by
  cases w <;> decide

/-- `preferred.inline_line_widths` measures with the same collapsing and wrapping sets as
`split_first_line` lays out with (otherwise min-content / max-content widths and the layout disagree). -/
theorem preferred_tables_agree (w : WS) : w.prefCollapse = w.spaceCollapse ∧ w.prefWrap = w.textWrap := by
  cases w <;> decide

/-- Pango's automatic hyphens are switched off exactly for `overflow-wrap: anywhere | break-word`. -/
theorem word_breaking_values (o : OW) : o.wordBreaking = true ↔ (o = .anywhere ∨ o = .breakWord) := by
  cases o <;> decide

/-- the keywords of the step-5 `can_break` expression -/
theorem can_break_keywords :
    Gen.LineBreak.canBreakKeywords = [WB.breakAll.css, OW.anywhere.css, OW.breakWord.css] := by decide

/-- `text_align` maps exactly `left` and `right` through `direction`. -/
theorem physical_align_values (a : Align) :
    Gen.LineBreak.physicalAlignValues.contains a.css = true ↔ (a = .left ∨ a = .right) :=
  C09L.physical_align_values a

/-- The validators accept exactly the keywords the model enumerates (every value is exercised). -/
theorem keywords_complete :
    Gen.LineBreak.whiteSpaceKeywords.all (fun k => (WS.ofCss? k).isSome) = true ∧
    WS.all.all (fun w => Gen.LineBreak.whiteSpaceKeywords.contains w.css) = true ∧
    Gen.LineBreak.overflowWrapKeywords.all (fun k => (OW.ofCss? k).isSome) = true ∧
    OW.all.all (fun w => Gen.LineBreak.overflowWrapKeywords.contains w.css) = true ∧
    Gen.LineBreak.wordBreakKeywords.all (fun k => (WB.ofCss? k).isSome) = true ∧
    WB.all.all (fun w => Gen.LineBreak.wordBreakKeywords.contains w.css) = true ∧
    Gen.LineBreak.textAlignAllKeywords.all (fun k => (Align.ofCss? k).isSome) = true ∧
    Align.all.all (fun w => Gen.LineBreak.textAlignAllKeywords.contains w.css) = true ∧
    Gen.LineBreak.textAlignLastKeywords.all (fun k => k == "auto" || (Align.ofCss? k).isSome) = true := by decide

/-- The "unconstrained above `2 ** k`" escape of `create_layout` lies outside the property's domain
(containers up to 60em at 40px). -/
theorem width_limit_covers_domain : ((60 * 40 : Nat) : Rat) < (2 : Rat) ^ Gen.LineBreak.maxWidthLog2 := by decide +kernel

/-- `max_x *= 1 + 1e-9`: larger than 1, by at most 10⁻⁹. -/
theorem fudge_bounds : (1 : Rat) < Gen.LineBreak.fudge ∧ Gen.LineBreak.fudge ≤ 1 + 1 / 1000000000 := by decide +kernel

/-- U+000A is one of the characters `split_text_box` accepts as a preserved line break. -/
theorem newline_is_preserved_break : Gen.LineBreak.lineBreakChars.contains ('\n').toNat = true := by decide

/-! ### greedy (the Pango line: the assumed component around which `split_first_line` is written) -/

/-- **greedy, fits or single unit**: Pango's first line of a paragraph `P` in width `W` is the whole
paragraph (which then fits, the end discount applied), or it fits, or it ends at the *first*
opportunity of the paragraph (a single unbreakable unit). -/
theorem greedy_fits_or_single_unit (fs : Rat) (hy wc : Bool) (P : Text) (ed : Bool) (W : Rat) :
    let p := firstBreak fs hy wc P ed (some W)
    (p = P.length ∧ (P = [] ∨ endFits fs P ed W)) ∨ fitsAt fs hy wc P W p = true ∨
      (∀ q ∈ opportunities wc P, p ≤ q) := by
  intro p
  rcases firstBreak_cases fs hy wc P ed W p rfl with h | h | h | h
  · left; exact h
  · right; left; exact h.2.2.1
  · right; right; intro q hq; exact head_le_of_mem (opportunities_sorted wc P) h.2.2 hq
  · right; right; intro q hq; rw [h.2.1] at hq; cases hq

example : firstBreak 10 true false "aaa bbb ccc".toList true (some 75) = 8 ∧
    fitsAt 10 true false "aaa bbb ccc".toList 75 8 = true := by decide +kernel
example : firstBreak 10 true false "aaaaaaaaa bbb".toList true (some 30) = 10 ∧
    fitsAt 10 true false "aaaaaaaaa bbb".toList 30 10 = false := by decide +kernel

/-- **greedy, first-fit maximality**: no later opportunity fits, and when the line stops before the
end of the paragraph the whole paragraph does not fit. -/
theorem greedy_maximal (fs : Rat) (hy wc : Bool) (P : Text) (ed : Bool) (W : Rat) :
    let p := firstBreak fs hy wc P ed (some W)
    (∀ q ∈ opportunities wc P, p < q → fitsAt fs hy wc P W q = false) ∧
      (p < P.length → ¬ endFits fs P ed W) :=
  C09L.firstBreak_maximal fs hy wc P ed W

example : (8 : Nat) ∈ opportunities false "aaa bbb ccc ddd".toList ∧
    firstBreak 10 true false "aaa bbb ccc ddd".toList true (some 75) = 8 ∧
    (12 : Nat) ∈ opportunities false "aaa bbb ccc ddd".toList := by decide +kernel

/-- **breaks only at allowed opportunities**: the line ends at the paragraph end (end of text or
preserved newline) or where `canBreakAt` holds — under WRAP_WORD after a run of spaces, anywhere
under WRAP_CHAR (step 5: `break-all` / `overflow-wrap`). -/
theorem breaks_only_at_opportunities (fs : Rat) (hy wc : Bool) (P : Text) (ed : Bool) (W : Option Rat) :
    firstBreak fs hy wc P ed W = P.length ∨ canBreakAt wc P (firstBreak fs hy wc P ed W) = true :=
  C09L.firstBreak_at_opportunity fs hy wc P ed W

/-- WRAP_WORD opportunities are exactly "after a space, before a non-space". -/
theorem word_opportunity_iff (P : Text) (q : Nat) :
    canBreakAt false P q = true ↔ (0 < q ∧ P[q - 1]? = some ' ' ∧ P[q]? ≠ some ' ') := by
  simp [canBreakAt]

example : canBreakAt false "aaa bbb".toList 4 = true ∧ canBreakAt false "aaa bbb".toList 3 = false := by
  decide

/-- a line holds at least one character of a non-empty paragraph and at most the paragraph -/
theorem line_progress (fs : Rat) (hy wc : Bool) (P : Text) (ed : Bool) (W : Option Rat) (hP : P ≠ []) :
    0 < firstBreak fs hy wc P ed W ∧ firstBreak fs hy wc P ed W ≤ P.length :=
  ⟨C09L.firstBreak_pos fs hy wc P ed W hP, C09L.firstBreak_le fs hy wc P ed W⟩

/-! ### heuristic_transparent -/

/-- **Why the prefix heuristic is sound**, for any prefix (whatever `ratio`): if Pango wraps the first
`k` characters of a paragraph — its first line stops before the end of that prefix —, it wraps the
whole paragraph at the same place. -/
theorem prefix_stable (fs : Rat) (hfs : 0 ≤ fs) (hy wc : Bool) (P : Text) (ed : Bool) (W : Rat)
    (k : Nat) (hk : k ≤ P.length) (hwrap : firstBreak fs hy wc (P.take k) true (some W) < k) :
    firstBreak fs hy wc P ed (some W) = firstBreak fs hy wc (P.take k) true (some W) :=
  C09L.firstBreak_prefix_stable fs hfs hy wc P ed W k hk hwrap

example : firstBreak 10 true false ("aaa bbb ccc ddd eee fff".toList.take 12) true (some 75) = 8 ∧
    (8 : Nat) < 12 ∧ (12 : Nat) ≤ "aaa bbb ccc ddd eee fff".toList.length := by decide +kernel

/-- **heuristic_transparent (partial: the Pango call of step 1)**: whatever prefix of the text
step 1 hands to Pango — `ratio ×` the characters that fit, or one word plus one letter when the width
is below `ratio` em —, the first line it keeps (`first_line.length`, start of the second line,
width) is the first line Pango gives for the *whole* text.  For all texts (newlines included), all
widths, all styles, `font-size ≥ 0`.

Full statement: `splitFirstLineH true st text W a b = splitFirstLineH false st text W a b`; proved
below (`heuristic_transparent`) for canonical texts; false for arbitrary texts under a wrapping `white-space`
and a finite width — see `Witness.C09.heuristic_not_transparent_with_space_before_newline` (a space before a
preserved newline) — because the later steps read
`short_text` and the possibly truncated `text` again (second-line break point, `break_point or -1`
from the end of the text, the end-of-text tests of steps 3 and 5). -/
theorem heuristic_transparent_partial (st : Style) (text : Text) (W : Rat) (hfs : 0 ≤ st.fs) (d : Draft)
    (h : step1 true st text W = .ok d) :
    d.line = firstLine st.fs (createLayout st text (.fin W)) :=
  C09L.step1_line_transparent true st text W hfs d h

example : (step1 true { ws := .normal, wb := .normal, ow := .normal, fs := 10 }
    "aaa bbb ccc ddd eee fff ggg hhh iii jjj".toList 75).toOption.map
      (fun d => (d.short.length, d.line.resume)) = some (30, some 8) := by decide +kernel

/-- Words separated by single spaces: no newline, no leading, trailing or double space — the texts
white-space processing produces under `white-space: normal | nowrap` (and each line of `pre-line`). -/
abbrev Canonical := C09L.Canonical

/-- a text that passes `canonicalB` is canonical (how the examples show `Canonical`) -/
theorem canonical_of_check {t : Text} (h : canonicalB t = true) : Canonical t := by
  unfold canonicalB at h
  simp only [Bool.and_eq_true, List.all_eq_true, bne_iff_ne, ne_eq, List.mem_range, Bool.or_eq_true,
    decide_eq_true_eq] at h
  refine ⟨fun c hc => h.1 c hc, ?_⟩
  intro i hi
  have hlt : i < t.length := (List.getElem?_eq_some_iff.mp hi).1
  rcases h.2 i hlt with h1 | h1
  · exact absurd hi h1
  · exact ⟨h1.1.1.1, h1.1.1.2, h1.1.2, h1.2⟩

example : Canonical "aaa bbb ccc dd e".toList := canonical_of_check (by decide)

/-- **greedy (full, canonical texts)**: under a wrapping `white-space`, normal `word-break` and
`overflow-wrap`, `font-size > 0`, any finite width `w` (negative, zero, huge) and any flags, the real
function's model returns exactly the **first-fit line** `firstFit`: with
`p := firstBreak …` the Pango break of the *whole* text in the layout width, the line is the first `p`
characters (trailing space stripped when white space collapses), the next line starts at `p`, the width
is the advance of what is kept; or the whole text when `p` is its length.  `p` itself is characterised
by `greedy_fits_or_single_unit`, `greedy_maximal`, `breaks_only_at_opportunities`: the line fits or is
the first unbreakable unit, no later opportunity fits, breaks happen only after a space.
Steps 1 (prefix heuristic), 3 (put the next word back, with its twice-relative break point and
`break_point or -1`) and 5 are shown to change nothing. -/
theorem greedy (heur : Bool) (st : Style) (text : Text) (w : Rat) (a b : Bool)
    (hwrap : st.ws.textWrap = true) (hwb : st.wb = .normal) (how : st.ow = .normal)
    (hfs : 0 < st.fs) (hcan : Canonical text) :
    splitFirstLineH heur st text (.fin w) a b = .ok (firstFit st text w) :=
  split_canonical_firstFit heur st text w a b (canBreakWord_normal st a b hwb how) (Rat.le_of_lt hfs) hcan

example : firstFit { ws := .normal, wb := .normal, ow := .normal, fs := 10 } "aaa bbb ccc dd e".toList 75
    = { length := 7, resume := some 8, width := 70, text := "aaa bbb".toList } := by decide +kernel
example : firstFit { ws := .preWrap, wb := .normal, ow := .normal, fs := 10 } "aaaaaaaaa bbb".toList 30
    = { length := 10, resume := some 10, width := 100, text := "aaaaaaaaa ".toList } := by decide +kernel

/-- **heuristic_transparent (full, canonical texts)**: the result of `split_first_line` with its
prefix heuristic equals the result of laying out the whole text (`short_text := text`), for all
canonical texts, widths, font sizes > 0 and flags. -/
theorem heuristic_transparent (st : Style) (text : Text) (w : Rat) (a b : Bool)
    (hwrap : st.ws.textWrap = true) (hwb : st.wb = .normal) (how : st.ow = .normal)
    (hfs : 0 < st.fs) (hcan : Canonical text) :
    splitFirstLineH true st text (.fin w) a b = splitFirstLineH false st text (.fin w) a b := by
  rw [greedy true st text w a b hwrap hwb how hfs hcan, greedy false st text w a b hwrap hwb how hfs hcan]

/-- the heuristic really takes a strict prefix in this example (30 of 39 characters) -/
example : (shortText true 10 "aaa bbb ccc ddd eee fff ggg hhh iii jjj".toList 75).length = 30 := by
  decide +kernel

/-! ### lines_conserve and termination -/

/-- **`assert resume_index != 0` never fails**: for every text, style, width and flag combination
(heuristic on or off) the next line never starts at offset 0 — each line consumes at least one
character of the text. -/
theorem resume_index_never_zero (heur : Bool) (st : Style) (text : Text) (maxWidth : MaxW) (a b : Bool)
    (r : Res) (h : splitFirstLineH heur st text maxWidth a b = .ok r) : r.resume ≠ some 0 := by
  obtain ⟨_, _, _, _, rfl, hra, _⟩ := splitFirstLineH_flm heur st text maxWidth a b r h
  rw [flm_resume]
  exact hra

/-- **lines_conserve, the line is a prefix of the text**: no character is invented, reordered or
taken from elsewhere, whatever the heuristic prefix, the step-3 juggling and the step-5 re-wrap did. -/
theorem lines_conserve_prefix (heur : Bool) (st : Style) (text : Text) (maxWidth : MaxW) (a b : Bool)
    (r : Res) (h : splitFirstLineH heur st text maxWidth a b = .ok r) : r.text.take r.length <+: text := by
  obtain ⟨_, _, _, _, rfl, _, hlay, ht⟩ := splitFirstLineH_flm heur st text maxWidth a b r h
  exact (flm_prefix _ _ _ _ _ _ hlay).trans ht

/-- **lines_conserve, progress of `split_text_box`**: when `split_text_box` returns normally with a next
offset `r`, then `r = ri + skip` with `0 < ri`.  The clause on the characters between the end of the line and
the next one is stated for *some* `len` and so says nothing about them (`len := ri` makes the list empty):
that they are only spaces, or exactly one preserved line-break character (then `preserved_line_break` is
set), with `len` the length `split_first_line` returned, is `C09L.splitTextBox_resume`. -/
theorem lines_conserve_dropped (st : Style) (text : Text) (avail : MaxW) (skip : Nat) (ils : Bool)
    (s : TextSplit) (r : Nat) (h : splitTextBox st text avail skip ils = .ok s) (hr : s.resume = some r) :
    ∃ len ri, r = ri + skip ∧ 0 < ri ∧
      ((((text.drop skip).take ri).drop len).all (· == ' ') = true ∨
       (s.preserved = true ∧ isLineBreakText (((text.drop skip).take ri).drop len) = true)) := by
  obtain ⟨res, ri, _, _, hpos, hq, hbreak, hspaces⟩ := splitTextBox_resume h hr
  refine ⟨res.length, ri, hq, hpos, ?_⟩
  cases hp : s.preserved with
  | false => exact Or.inl (hspaces hp)
  | true => exact Or.inr ⟨rfl, hbreak hp⟩

example : (splitTextBox { ws := .preLine, wb := .normal, ow := .normal, fs := 10 }
    "aaa bbb\nccc".toList (.fin 50) 4 true).toOption.map (fun s => (s.resume, s.preserved))
    = some (some 8, true) := by decide +kernel

/-- **offsets strictly increase**: the `resume_at` of every line box is beyond the offset the line
started from (and each line is at `y`, one line-height high or a phantom box of height 0). -/
theorem offsets_increase (p : Para) (skip : Option Nat) (y : Rat) (first : Bool) (l : OutLine)
    (h : nextLine p skip y first = .ok (some l)) :
    l.y = y ∧ (l.h = 0 ∨ l.h = p.lineHeight) ∧ ∀ r, l.resume = some r → skip.getD 0 < r :=
  C09L.nextLine_spec p skip y first l h

/-- **termination of `iter_line_boxes`**: because offsets strictly increase, `text.length + 2` rounds
always suffice — the loop is never cut by the fuel of the model. -/
theorem iter_lines_terminates (p : Para) (fuel : Nat) (skip : Option Nat) (y : Rat) (first : Bool)
    (h1 : 1 ≤ fuel) (h2 : p.text.length + 2 ≤ fuel + skip.getD 0) :
    iterLines p fuel skip y first ≠ none :=
  C09L.iterLines_fuel p fuel skip y first h1 h2

/-! ### `nowrap` / `pre` never break at spaces -/

/-- Under a non-wrapping `white-space` the only line end is a preserved newline. -/
theorem no_wrap_breaks_only_at_newline (heur : Bool) (st : Style) (text : Text) (maxWidth : MaxW)
    (a b : Bool) (r : Res) (hw : st.ws.textWrap = false)
    (h : splitFirstLineH heur st text maxWidth a b = .ok r) :
    r.resume = (find text '\n').map (· + 1) :=
  C09L.no_wrap_breaks_only_at_newline heur st text maxWidth a b r hw h

/-- … and without a newline the whole text is one line, as wide as its characters, however narrow
the available width. -/
theorem no_wrap_single_line (heur : Bool) (st : Style) (text : Text) (maxWidth : MaxW) (a b : Bool)
    (r : Res) (hw : st.ws.textWrap = false) (hnl : find text '\n' = none)
    (h : splitFirstLineH heur st text maxWidth a b = .ok r) :
    r = { length := text.length, resume := none, width := (text.length : Rat) * st.fs, text := text } :=
  Except.ok.inj (h.symm.trans (splitFirstLineH_single_line heur st text maxWidth a b (.inl hw) hnl))

example : (splitFirstLine { ws := .nowrap, wb := .normal, ow := .normal, fs := 10 }
    "aaa bbb ccc".toList (.fin 30) true false).toOption
    = some { length := 11, resume := none, width := 110, text := "aaa bbb ccc".toList } := by decide +kernel

/-! ### align -/

/-- `text_align` is total: its final `assert align == 'end'` cannot fail. -/
theorem align_total (s : AlignStyle) (line : IBox) (lw avail : Rat) (last : Bool) :
    ∃ off line', textAlign s line lw avail last = .ok (off, line') := by
  rcases textAlign_cases s line lw avail last with ⟨_, e⟩ | ⟨_, ⟨_, e⟩ | ⟨_, e⟩ | ⟨_, e⟩ | ⟨_, e⟩⟩ <;> exact ⟨_, _, e⟩

/-- **align, range**: the offset is `0` when the line is not narrower than the available width, and
lies in `[0, avail − width]` otherwise — for every `text-align-all`, `text-align-last`, direction. -/
theorem align_offset_range (s : AlignStyle) (line line' : IBox) (lw avail off : Rat) (last : Bool)
    (h : textAlign s line lw avail last = .ok (off, line')) :
    (lw ≥ avail → off = 0) ∧ (lw < avail → 0 ≤ off ∧ off ≤ avail - lw) :=
  C09L.align_offset_range s line line' lw avail off last h

/-- **align, values**: start → flush with the start edge, end → flush with the end edge, center →
equal space on both sides, justify → start edge (the spaces take the rest).  `resolveAlign` is the
keyword after `text-align-last` (last line / forced break) and after `left` / `right` are mapped
through `direction`. -/
theorem align_offset_value (s : AlignStyle) (line line' : IBox) (lw avail off : Rat) (last : Bool)
    (hlt : lw < avail) (h : textAlign s line lw avail last = .ok (off, line')) :
    (resolveAlign s last = .start → off = 0) ∧
    (resolveAlign s last = .«end» → off = avail - lw) ∧
    (resolveAlign s last = .center → off + off = avail - lw) ∧
    (resolveAlign s last = .justify → off = 0) := by
  rcases textAlign_cases s line lw avail last with ⟨hge, _⟩ | ⟨_, hc⟩
  · exact absurd hge (Rat.not_le.mpr hlt)
  · rcases hc with ⟨hr, e⟩ | ⟨hr, e⟩ | ⟨hr, e⟩ | ⟨hr, e⟩ <;> rw [e] at h <;> cases h <;> rw [hr]
    · exact ⟨fun _ => rfl, nofun, nofun, nofun⟩
    · exact ⟨nofun, nofun, nofun, fun _ => rfl⟩
    · exact ⟨nofun, nofun, fun _ => by grind, nofun⟩
    · exact ⟨nofun, fun _ => rfl, nofun, nofun⟩

example : resolveAlign { alignAll := .justify, alignLast := some .right, ws := .normal, rtl := true } true
    = .start := by decide

/-- **justify**: `nb_spaces · (extra / nb_spaces) = extra` — a line with at least one expandable
space becomes exactly `extra` wider, through any nesting of inline boxes, in both directions. -/
theorem justify_width (x w : Rat) (rtl : Bool) (kids : List IBox) (extra : Rat)
    (hs : countSpaces (.inl x w rtl kids) ≠ 0) :
    IBox.width (justifyLine (.inl x w rtl kids) extra) = w + extra := by
  unfold justifyLine
  simp only [hs, ne_eq, not_false_eq_true, if_true]
  have h := aws_adv (extra / (countSpaces (.inl x w rtl kids) : Rat)) (.inl x w rtl kids) 0
  generalize hn : countSpaces (.inl x w rtl kids) = n at h hs
  unfold addWordSpacing at h ⊢
  simp only at h ⊢
  simp only [IBox.width]
  have hn0 : (n : Rat) ≠ 0 := by exact_mod_cast hs
  have := Rat.div_mul_cancel (a := extra) hn0
  grind

/-- **justified width = available width**. -/
theorem justified_line_fills (s : AlignStyle) (x lw : Rat) (rtl : Bool) (kids : List IBox)
    (avail off : Rat) (last : Bool) (line' : IBox)
    (hlt : lw < avail) (hj : resolveAlign s last = .justify) (hc : s.ws.alignCollapse = true)
    (hs : countSpaces (.inl x lw rtl kids) ≠ 0)
    (h : textAlign s (.inl x lw rtl kids) lw avail last = .ok (off, line')) :
    off = 0 ∧ IBox.width line' = avail := by
  rcases textAlign_cases s (.inl x lw rtl kids) lw avail last with ⟨hge, _⟩ | ⟨_, ⟨hr, _⟩ | ⟨_, e⟩ | ⟨hr, _⟩ | ⟨hr, _⟩⟩
  · exact absurd hge (Rat.not_le.mpr hlt)
  · rw [hj] at hr; cases hr
  · rw [e, if_pos hc] at h
    cases h
    refine ⟨rfl, ?_⟩
    rw [justify_width x lw rtl kids _ hs]
    grind
  · rw [hj] at hr; cases hr
  · rw [hj] at hr; cases hr

/-- the spaces inside an atomic inline-level box (an inline-block holding `cc dd`) are not expandable
spaces of the line: 3, not 4 -/
example : countSpaces (.inl 0 70 false [.text 0 30 1, .inl 30 40 true [.atom 30 true [.inl 30 0 false [.text 30 0 1]],
    .text 30 40 2]]) = 3 := by
  decide

/-! ### stack -/

/-- **stack**: the line boxes `iter_line_boxes` yields are stacked from `y` without gap or overlap:
the first starts at `y`, each next one at `yₖ + hₖ`. -/
theorem stack (p : Para) (fuel : Nat) (skip : Option Nat) (y : Rat) (first : Bool) (ls : List OutLine)
    (h : iterLines p fuel skip y first = some (.ok ls)) : Stacked y ls :=
  (C09L.iterLines_lines p fuel skip y first ls h).1

/-- every line box is one used line-height high, or a phantom line box of height 0 -/
theorem line_heights (p : Para) (fuel : Nat) (skip : Option Nat) (y : Rat) (first : Bool) (ls : List OutLine)
    (h : iterLines p fuel skip y first = some (.ok ls)) : ∀ l ∈ ls, l.h = 0 ∨ l.h = p.lineHeight :=
  (C09L.iterLines_lines p fuel skip y first ls h).2

/-- a concrete paragraph, centred, stacked from y = 5 with line-height 12 -/
def examplePara : Para :=
  { st := { ws := .normal, wb := .normal, ow := .normal, fs := 10 }
    text := "aaa bbb ccc dd e".toList
    lineHeight := 12
    cbx := 7
    width := 75
    indent := 0
    align := { alignAll := .center, alignLast := none, ws := .normal, rtl := false }
    y := 5 }

example : (paragraph examplePara).toOption.map (fun ls => ls.map (fun l => (l.x, l.y, l.w, l.h))) =
    some [((19 : Rat) / 2, (5 : Rat), (70 : Rat), (12 : Rat)), (29 / 2, 17, 60, 12), (79 / 2, 29, 10, 12)] := by
  decide +kernel

/-! ### dictionary hyphenation (step 4) and nested inline boxes -/

/-- Without `hyphens: auto` + language the model with step 4 is the model without it. -/
theorem hyphenation_off_is_plain (st : Style) (text : Text) (w : MaxW) (a b : Bool) :
    Hy.splitFirstLineHy st none text w a b = splitFirstLine st text w a b := rfl

/-- **breaks at dictionary hyphenation points only, and only at those of the element's own limits**:
whenever step 4 hyphenates, the next word (delimited by Pango's word boundaries in the second-line
text) has at least `hyphenate-limit-chars` (total) letters, and the next line starts right after one
of the first parts that the dictionary consulted *for this element's left / right limits* (`cfg.dict`)
lists for that word.  (A dictionary cached for another element's limits breaks this: seed C09-2.) -/
theorem hyphenation_only_at_dictionary_points (st : Style) (cfg : Hy.Cfg) (maxW : MaxW) (flt slt : Text)
    (s : Hy.State) (hs : s.hyphenated = false) (h : (Hy.step4 st cfg maxW flt slt s).hyphenated = true) :
    ∃ sw ew parts k, Hy.nextWordBoundaries slt = some (sw, ew) ∧ cfg.total ≤ ew - sw ∧
      (cfg.dict.find? (fun e => e.1 == (slt.take ew).drop sw)).map (·.2) = some parts ∧ k ∈ parts ∧
      (Hy.step4 st cfg maxW flt slt s).ri =
        some (flt ++ slt.take sw ++ ((slt.take ew).drop sw).take k).length := by
  -- the first parts tried are the dictionary's entry for the word: there is one as soon as one of them is tried
  have hsome : ∀ {o : Option (List Nat)} {k}, k ∈ o.getD [] → o = some (o.getD []) := by
    intro o k hk; cases o; cases hk; rfl
  have htot : ∀ {w n}, Hy.autoHyphenation cfg maxW w n = true → cfg.total ≤ n := fun hauto => by
    unfold Hy.autoHyphenation at hauto
    simp only [Bool.and_eq_true, decide_eq_true_eq] at hauto
    exact hauto.1
  revert h
  fun_cases Hy.step4 st cfg maxW flt slt s <;> intro h
  -- a result that is the state handed in is not hyphenated
  all_goals try cases hs.symm.trans h
  next sw ew hb _ hauto parts s' b ht =>
    obtain ⟨_, k, hk, hri⟩ := (tryParts_spec st cfg maxW _ _ parts).1 s' b ht
    exact ⟨sw, ew, parts, k, hb, htot hauto, hsome hk, hk, hri⟩
  next sw ew hb _ hauto parts lastNew ht _ _ =>
    obtain ⟨k, hk, hl⟩ := (tryParts_spec st cfg maxW _ _ parts).2 lastNew (by rw [ht])
    exact ⟨sw, ew, parts, k, hb, htot hauto, hsome hk, hk, by rw [hl]⟩

example : (Hy.splitFirstLineHy { ws := .normal, wb := .normal, ow := .normal, fs := 10 }
    (some { total := 5, zonePct := false, zone := 0, hchar := "‐".toList,
            dict := [("remember".toList, [5, 2]), ("yesterday".toList, [6, 3])] })
    "remember yesterday".toList (.fin 60) true false).toOption
    = some { length := 5, resume := some 5, width := 60, text := "remem‐".toList } := by decide +kernel
example : (Hy.splitFirstLineHy { ws := .normal, wb := .normal, ow := .normal, fs := 10 }
    (some { total := 5, zonePct := false, zone := 0, hchar := "‐".toList,
            dict := [("remember".toList, [2]), ("yesterday".toList, [6, 3])] })
    "remember yesterday".toList (.fin 60) true false).toOption
    = some { length := 2, resume := some 2, width := 30, text := "re‐".toList } := by decide +kernel

/-- **an inline box carries its start spacing on its first fragment only and its end spacing on its
last fragment only** (`remove_decoration(start=not is_start, end=not is_end)`), and the fragment sits
at the `position_x` it was given. -/
theorem inline_spacing_first_last (ws : WS) (split : IR.Split) (ls rs : Rat) (deco : Bool) (kids : List IR.Node)
    (posX maxX : Rat) (skip : Option IR.Skip) (o : IR.LevelOut)
    (h : IR.boxLevel ws split ls rs deco kids posX maxX skip = .ok o) :
    ∃ w frags, o.frag = some (.box posX w (if skip.isNone then ls else 0) (if o.resume.isNone then rs else 0)
      deco frags) := by
  unfold IR.boxLevel at h
  obtain ⟨lo, _, rfl⟩ := Except.map_eq_ok h
  exact ⟨_, _, rfl⟩

/-- shifting a box (start spacing, `text-align`) does not change its extent -/
theorem translate_keeps_extent (dx : Rat) (f : IR.Frag) : (f.translate dx).marginWidth = f.marginWidth := by
  cases f <;> simp [IR.Frag.translate, IR.Frag.marginWidth]

/-- the seed-1 shape: a span with end spacing, three children, ending on a continuation line — the
end spacing (20) is reserved for the last child there too: `ccc` / `ddd` + 20, not `ccc ddd` + 20 = 90 -/
def seedShapePara : IR.Para :=
  { st := { ws := .normal, wb := .normal, ow := .normal, fs := 10 }
    kids := [.box 0 20 true [.text "aaa ".toList, .box 0 0 false [.text "bbb".toList], .text " ccc ddd".toList]]
    lineHeight := 10
    cbx := 0
    width := 80
    indent := 0
    align := { alignAll := .start, alignLast := none, ws := .normal, rtl := false }
    y := 0 }

example : (IR.paragraph seedShapePara).toOption.map (fun ls => ls.map (·.w)) = some [70, 30, 50] := by
  decide +kernel

/-- **content lies inside the block** (ltr): the line box of a text line starts at the block's content
edge or to its right and — when it is not wider than the block — ends inside it, for every
`text-align-all` / `text-align-last`, justified or not; a wider line starts at the content edge; the
text box starts `text-indent` (`posX − lineX`) inside the line and ends with it. -/
theorem content_inside_block (p : Para) (lineX posX y : Rat) (s : TextSplit) (c : Child) (l : OutLine)
    (hrtl : p.align.rtl = false) (h : textLine p lineX posX y s c = .ok l) :
    l.y = y ∧ l.h = p.lineHeight ∧ l.resume = s.resume ∧
    (l.w ≤ p.width → lineX ≤ l.x ∧ l.x + l.w ≤ lineX + p.width) ∧
    (p.width < l.w → l.x = lineX) ∧
    ∃ t cx cw, l.child = some (t, cx, cw) ∧ cx = l.x + (posX - lineX) ∧ cx + cw = l.x + l.w := by
  unfold textLine at h
  simp only [hrtl, Bool.false_eq_true, if_false] at h
  obtain ⟨⟨c', removed⟩, hr, h⟩ := Except.bind_eq_ok h
  have hrem := removeLastWhitespace_width _ _ _ _ hr
  obtain ⟨⟨off, t⟩, ha, h⟩ := Except.bind_eq_ok h
  obtain ⟨lw', cw', ht, hgrow, hoff, hin, hout⟩ := textAlign_text p.align _ _ _ _ _ _ _ _ _ ha
  subst ht
  cases h
  clear hr ha
  obtain ⟨hinside, hwide⟩ := inside_of_offset lineX hoff hin hout
  refine ⟨rfl, rfl, rfl, hinside, hwide, _, _, _, rfl, ?_, ?_⟩
  · grind
  · grind

example : ((textLine examplePara 7 7 5 { child := none, resume := some 8, preserved := false }
    { text := "aaa bbb".toList, width := 70 }).toOption.map (fun l => (l.x, l.w))) = some (19 / 2, 70) := by
  decide +kernel

/-! ### preferred widths (`layout/preferred.py`) and the shrink-to-fit round trip -/

/-- With no width at all a text without newline is one line as wide as its characters, in every
`white-space` mode (what `inline_max_content_width` measures). -/
theorem unconstrained_single_line (heur : Bool) (st : Style) (text : Text) (a b : Bool)
    (hnl : find text '\n' = none) :
    splitFirstLineH heur st text .none a b =
      .ok { length := text.length, resume := none, width := (text.length : Rat) * st.fs, text := text } :=
  splitFirstLineH_single_line heur st text .none a b (.inr rfl) hnl

/-- **max-content width of a canonical text** (`inline_max_content_width`, whatever `outer` and
`is_line_start`) is the advance of all its characters. -/
theorem max_content_of_text (st : Style) (t : Text) (outer ils : Bool) (hfs : 0 ≤ st.fs) (hcan : Canonical t) :
    IP.maxContentWidth st [.text t] 0 outer ils = .ok ((t.length : Rat) * st.fs) := by
  have hnl := hcan.find_nl
  have hsplit : ∀ a b, splitFirstLine st t .none a b =
      .ok { length := t.length, resume := none, width := (t.length : Rat) * st.fs, text := t } :=
    fun a b => unconstrained_single_line true st t a b hnl
  have hct : IP.childText st t ils none = t := by
    unfold IP.childText
    simp only [List.drop_zero]
    split
    · exact lstripSp_of_head_ne hcan.head_ne_space
    · rfl
  have hlw : IP.lineWidths st false outer false IR.depthBound [.text t] ils none 0 =
      .ok [0 + (t.length : Rat) * st.fs + 0] := by
    unfold IR.depthBound IP.lineWidths
    simp only [List.drop_zero, Option.bind_none]
    unfold IP.widthsLoop
    simp only [hct]
    have htl : IP.textLines st false ils false (t.length + 2) t = .ok ([(t.length : Rat) * st.fs], false) := by
      unfold IP.textLines
      simp only [Bool.false_eq_true, if_false, hsplit, Except.bind]
    simp only [htl, Except.bind, Bool.false_and, Bool.false_eq_true, if_false, IP.pushLines, List.getLast?_nil]
    unfold IP.widthsLoop
    simp
  have htw : IP.trailingWhitespaceSize st [.text t] = .ok 0 := by
    unfold IP.trailingWhitespaceSize
    simp only [IP.lastTextL, IP.lastText]
    split
    · rfl
    · have : rstripSp t = t := rstripSp_of_last_ne hcan.last_ne_space
      simp [this]
  unfold IP.maxContentWidth
  simp only [hlw, htw, Except.bind, List.getLast?_singleton, List.dropLast_singleton, List.nil_append, IP.maxOf,
    List.foldl_nil, IP.adjust]
  have hn := advance_nonneg t.length hfs
  have h1 : ¬ (0 + (t.length : Rat) * st.fs + 0 - 0 < 0) := by grind
  simp only [h1, if_false, Bool.false_eq_true]
  congr 1
  grind

/-- **shrink-to-fit round trip**: a canonical text laid out in exactly its max-content width is not
broken (font size a whole number of Pango units, as the real glyph advances are). -/
theorem max_content_fits_one_line (heur : Bool) (st : Style) (t : Text) (a b : Bool)
    (hwrap : st.ws.textWrap = true) (hwb : st.wb = .normal) (how : st.ow = .normal)
    (hfs : 0 < st.fs) (k : Int) (hk : st.fs * 1024 = k) (hcan : Canonical t) :
    splitFirstLineH heur st t (.fin ((t.length : Rat) * st.fs)) a b =
      .ok { length := t.length, resume := none, width := (t.length : Rat) * st.fs, text := t } := by
  rw [split_canonical_firstFit heur st t _ a b (canBreakWord_normal st a b hwb how) (Rat.le_of_lt hfs) hcan]
  unfold firstFit
  have hw0 := advance_nonneg t.length (fs := st.fs) (by grind)
  have hp : firstBreak st.fs (createLayout st t (.fin ((t.length : Rat) * st.fs))).hyph false t true
      (createLayout st t (.fin ((t.length : Rat) * st.fs))).width = t.length := by
    cases hwd : (createLayout st t (.fin ((t.length : Rat) * st.fs))).width with
    | none => rfl
    | some W =>
      have hW : W = (t.length : Rat) * st.fs := by
        simp only [createLayout] at hwd
        split at hwd
        · simp only [Option.some.injEq] at hwd
          rw [← hwd]
          apply quantize_of_units _ hw0 ((t.length : Int) * k)
          rw [Rat.intCast_mul, ← hk]
          have : ((t.length : Int) : Rat) = (t.length : Rat) := by norm_cast
          rw [this]; grind
        · cases hwd
      apply firstBreak_of_endFits
      have := (endCorr_bounds (fs := st.fs) (by grind) (t[t.length - 1]? == some ' ' && true)).1
      unfold endFits
      rw [hW]; grind
  simp only [hp, Nat.lt_irrefl, if_false]

example : (IP.maxContentWidth { ws := .normal, wb := .normal, ow := .normal, fs := 10 }
    [.text "aaa bbb ".toList, .box 5 7 true [.text "cc".toList]] 3 true false).toOption = some 115 := by decide +kernel
example : (IP.minContentWidth { ws := .normal, wb := .normal, ow := .normal, fs := 10 }
    [.text "aaa bbbb ".toList, .box 5 7 true [.text "cc".toList]] 0 true false false none).toOption = some 40 := by
  decide +kernel

/-! ### vertical stacking inside and between lines (`Model/LineVertical`) -/

/-- **every box is one line-height high**: the margin box of a text box and of an inline box is the
used `line-height` of its own style, for every font size, line-height, vertical border and padding
(the half-leading assignments of `split_text_box` / `split_inline_box`). -/
theorem box_height_is_line_height (n : LV.VNode) :
    (LV.build n).marginHeight = (LV.strutLayout (nodeStyle n)).1 := by
  open Wp.LV in
  cases n with
  | text st => simp only [build, VBox.marginHeight, nodeStyle]; grind
  | box st kids => simp only [build, VBox.marginHeight, nodeStyle]; grind

/-- **a line is at least one line-height high**, whatever it contains. -/
theorem line_at_least_line_height (lineSt : LV.VStyle) (kids : List LV.VNode) (posY : Rat) (l : LV.VLine)
    (h : LV.layoutLine lineSt kids posY = .ok l) : (LV.strutLayout lineSt).1 ≤ l.height := by
  open Wp.LV in
  unfold layoutLine at h
  have hsl : strutLayout ({ lineSt with bt := 0, pt := 0, pb := 0, bb := 0 } : VStyle) = strutLayout lineSt := rfl
  generalize hst : ({ lineSt with bt := 0, pt := 0, pb := 0, bb := 0 } : VStyle) = st at h hsl
  have hedges : st.bt = 0 ∧ st.pt = 0 ∧ st.pb = 0 ∧ st.bb = 0 := by rw [← hst]; exact ⟨rfl, rfl, rfl, rfl⟩
  have hb : build (.box st kids) = .box 0 st.fs (((strutLayout st).1 - st.fs) / 2 - st.bt - st.pt)
      (((strutLayout st).1 - st.fs) / 2 - st.bb - st.pb) (strutLayout st).2 st (buildL kids) := by
    simp only [build]
  simp only [hb, placeSub] at h
  have hself := Ext.add_self (placeKids st (strutLayout st).2 (((strutLayout st).1 - st.fs) / 2 - st.bt - st.pt) 0
      (buildL kids)).2.1 (0 - (strutLayout st).2)
      (0 - (strutLayout st).2 + (VBox.box 0 st.fs (((strutLayout st).1 - st.fs) / 2 - st.bt - st.pt)
        (((strutLayout st).1 - st.fs) / 2 - st.bb - st.pb) (strutLayout st).2 st (buildL kids)).marginHeight)
  obtain ⟨mx, mn, he, h1, h2⟩ := hself
  rw [he] at h
  simp only at h
  cases h
  simp only
  have hf := (foldl_max_ge mn (placeKids st (strutLayout st).2 (((strutLayout st).1 - st.fs) / 2 - st.bt - st.pt) 0
      (buildL kids)).2.2 mx).1
  simp only [VBox.marginHeight] at h2
  rw [← hsl]
  obtain ⟨e1, e2, e3, e4⟩ := hedges
  rw [e1, e2, e3, e4] at h2
  grind

/-- **no overlap between lines** (full strength since fix 5152049): in every line, every box — at any
nesting depth, for any font sizes, line-heights, borders and paddings, and **every** `vertical-align`
value: `baseline` / `middle` / `text-top` / `text-bottom` / lengths, and `top` / `bottom` boxes holding
inline boxes or further `top` / `bottom` boxes — has its margin box inside the line box
`[y, y + height]`, and the line is placed at the `position_y` it was given.  With `stack` (each line
starts where the previous one ends) no box can overlap a neighbouring line.
(The input that broke this before the fix: `Witness.C09.top_aligned_grandchild_moves_with_subtree`.) -/
theorem boxes_inside_line (lineSt : LV.VStyle) (kids : List LV.VNode) (posY : Rat) (l : LV.VLine)
    (h : LV.layoutLine lineSt kids posY = .ok l) :
    l.y = posY ∧ ∀ d ∈ allBoxesL l.kids, l.y ≤ d.y ∧ d.y + d.marginHeight ≤ l.y + l.height := by
  open Wp.LV in
  unfold layoutLine at h
  generalize ({ lineSt with bt := 0, pt := 0, pb := 0, bb := 0 } : VStyle) = st at h
  obtain ⟨y0, h0, mt0, mb0, b0, hb⟩ : ∃ y0 h0 mt0 mb0 b0,
      build (.box st kids) = .box y0 h0 mt0 mb0 b0 st (buildL kids) := ⟨_, _, _, _, _, by simp only [build]; rfl⟩
  simp only [hb, placeSub] at h
  cases hext : (placeKids st b0 mt0 0 (buildL kids)).2.1.add (0 - b0)
      (0 - b0 + (VBox.box y0 h0 mt0 mb0 b0 st (buildL kids)).marginHeight) with
  | none => rw [hext] at h; cases h
  | some p =>
    obtain ⟨mx0, mn⟩ := p
    rw [hext] at h
    simp only at h
    cases h
    refine ⟨rfl, ?_⟩
    intro d' hd'
    simp only at hd'
    obtain ⟨hmx, hpend⟩ := foldl_max_ge mn (placeKids st b0 mt0 0 (buildL kids)).2.2 mx0
    have hw := Ext.within_mono _ _ _ _ (Ext.within_add _ _ _ _ _ (Ext.within_self hext)).1 hmx
    have hw' : Ext.Within (placeKids st b0 mt0 0 (buildL kids)).2.1 (mn - 0)
        ((placeKids st b0 mt0 0 (buildL kids)).2.2.foldl (fun m e => if mn + e > m then mn + e else m) mx0 - 0) := by
      intro mx' mn' he; have := hw mx' mn' he; constructor <;> grind
    have hin := placeKids_shift_inside st b0 mt0 0 mn _ (buildL kids) 0 hw' hpend
    obtain ⟨d, hm, h1, h2⟩ := allBoxesL_translateY (posY - mn) _ d' hd'
    have := hin d hm
    simp only
    rw [h1, h2]
    constructor <;> grind

/-- without any `top` / `bottom` box `translate_subtree` is never called: nothing moves after placement -/
theorem no_top_bottom_nothing_moves (a b : Rat) (ks : List LV.VBox) (h : noTBL ks = true) : LV.shiftL a b 0 ks = ks :=
  C09L.shiftL_noTB a b ks h

def exampleVStyle (fs : Rat) (lh : LV.LineHeight) (va : LV.VAlign) : LV.VStyle :=
  { fs := fs, lh := lh, va := va, bt := 1, pt := 2, pb := 0, bb := 3,
    textHeight := fs, textBaseline := fs * 4 / 5, ex := 1 / 2 }

example : noTBNodeL [.text (exampleVStyle 10 .normal .baseline),
    .box (exampleVStyle 20 (.px 30) .middle) [.text (exampleVStyle 20 (.px 30) .baseline),
      .box (exampleVStyle 8 (.num 2) (.len 4)) [.text (exampleVStyle 8 (.num 2) .baseline)]]] = true := by decide
example : (LV.layoutLine (exampleVStyle 10 .normal .baseline) [.text (exampleVStyle 10 .normal .baseline),
    .box (exampleVStyle 20 (.px 30) .middle) [.text (exampleVStyle 20 (.px 30) .baseline),
      .box (exampleVStyle 8 (.num 2) (.len 4)) [.text (exampleVStyle 8 (.num 2) .baseline)]]] 5).toOption.map
    (fun l => (l.y, l.height)) = some (5, 30) := by decide +kernel

/-- a `top` span of 30px line-height and a `bottom` span in a 10px line: the line grows to 30 -/
example : (LV.layoutLine (exampleVStyle 10 .normal .baseline) [.text (exampleVStyle 10 .normal .baseline),
    .box (exampleVStyle 20 (.px 30) .top) [.text (exampleVStyle 20 (.px 30) .baseline)],
    .box (exampleVStyle 8 (.num 2) .bottom) [.text (exampleVStyle 8 (.num 2) .baseline)]] 5).toOption.map
    (fun l => (l.y, l.height, (allBoxesL l.kids).map (fun d => (d.y, d.marginHeight)))) =
    some (5, 30, [(5, 10), (5, 30), (5, 30), (19, 16), (19, 16)]) := by decide +kernel

/-- nested: a `top` span holding a 20px inline box and a `bottom` span holding a `top` span — all of
them inside the line `[5, 35]` (the hypotheses of `boxes_inside_line` are satisfiable there) -/
example : (LV.layoutLine (exampleVStyle 10 .normal .baseline) [.text (exampleVStyle 10 .normal .baseline),
    .box (exampleVStyle 10 .normal .top) [.box (exampleVStyle 20 (.px 30) .baseline) [.text (exampleVStyle 20 (.px 30) .baseline)]],
    .box (exampleVStyle 8 (.num 2) .bottom) [.box (exampleVStyle 8 (.num 1) .top) [.text (exampleVStyle 8 (.num 1) .baseline)]]] 5).toOption.map
    (fun l => (l.y, l.height, (allBoxesL l.kids).all (fun d => decide (l.y ≤ d.y ∧ d.y + d.marginHeight ≤ l.y + l.height)))) =
    some (5, 30, true) := by decide +kernel

/-! ### lines in the width left between floats (`Model/LineFloats` on C11's `avoid_collisions`) -/

open Wp.Floats in
/-- **the gap is free of floats**: wherever `avoid_collisions` puts a line box of strut height `h`,
every rectangle inside the width it returns and not higher than the strut — of any width, so also the
line built there afterwards — has empty interior intersection with every float and lies inside the
containing block.  For every list of floats, every position and size. -/
theorem gap_free_of_floats (shapes : List Shape) (y w h : Rat) (cb : CB) (hl : cb.rtl = false) (pl : Placement)
    (ha : avoidCollisions shapes (LF.lineABox y w h) cb false = .ok pl) (hh : 0 < h) (hp : C11.Proper shapes)
    (x w' h' : Rat) (hx1 : pl.x ≤ x) (hx2 : x + w' ≤ pl.x + pl.avail) (hh' : h' ≤ h) :
    (∀ s ∈ shapes, ¬ C11.Overlaps x pl.y w' h' s) ∧ cb.cx ≤ x ∧ x + w' ≤ cb.cx + cb.w := by
  open Wp.LFL in
  obtain ⟨_, hcx, hcw, res, hres, hy, hx, hav⟩ := avoid_line shapes y w h cb hl pl ha
  exact ⟨hy ▸ C11.free_between_bounds hres x w' h' (by grind) (by grind) hh', by grind, by grind⟩

open Wp.Floats in
/-- **a line inside its gap is clear of the floats.**  The line `get_next_linebox` returns sits at the
position of its first placement (min-content width of the first line × strut height); if it lies
horizontally inside the width left there, it overlaps no float over the strut height and is inside the
block.  The hypothesis is not always true of the code: with a `text-indent` the min-content width of
later lines is wrong and a line is put into a gap it does not fit
(`Witness.C09.float_gap_ignores_line_width_with_indent`, finding float-gap-text-indent-later-lines). -/
theorem line_in_gap_clear_partial (shapes : List Shape) (p : Para) (skip : Option Nat) (y : Rat) (first : Bool)
    (l : OutLine) (hne : shapes ≠ []) (hp : C11.Proper shapes) (hh : 0 < LF.strutHeight p)
    (h : LF.nextLine shapes p skip y first = .ok (some l)) :
    ∃ w0 place, avoidCollisions shapes (LF.lineABox y w0 (LF.strutHeight p)) (LFL.cbOf p) false = .ok place ∧
      l.y = place.y ∧
      (place.x ≤ l.x → l.x + l.w ≤ place.x + place.avail → ∀ h' ≤ LF.strutHeight p,
        (∀ s ∈ shapes, ¬ C11.Overlaps l.x l.y l.w h' s) ∧ p.cbx ≤ l.x ∧ l.x + l.w ≤ p.cbx + p.width) := by
  open Wp.LFL in
  obtain ⟨_, w0, h0, place, _, _, _, hh0, hpl, _, hy, _⟩ := nextLine_ok shapes p skip y first l h
  rw [hh0 (by cases shapes with | nil => exact absurd rfl hne | cons _ _ => rfl)] at hpl
  refine ⟨w0, place, hpl, hy, fun hx1 hx2 h' hh' => ?_⟩
  rw [hy]
  exact gap_free_of_floats shapes y w0 (LF.strutHeight p) (cbOf p) rfl place hpl hh hp l.x l.w h' hx1 hx2 hh'

/-- **lines next to floats never overlap each other**: each line starts at or below the bottom of the
line before (floats push lines down, nothing pulls them up), for every list of floats. -/
theorem float_lines_stacked (shapes : List Floats.Shape) (p : Para) (fuel : Nat) (skip : Option Nat) (y : Rat)
    (first : Bool) (ls : List OutLine) (h : LF.iterLines shapes p fuel skip y first = some (.ok ls)) :
    LFL.StackedBelow y ls :=
  (LFL.iterLines_lines shapes p fuel skip y first ls h).1

/-- … and each is one used line-height high, or a phantom line box -/
theorem float_line_heights (shapes : List Floats.Shape) (p : Para) (fuel : Nat) (skip : Option Nat) (y : Rat)
    (first : Bool) (ls : List OutLine) (h : LF.iterLines shapes p fuel skip y first = some (.ok ls)) :
    ∀ l ∈ ls, l.h = 0 ∨ l.h = p.lineHeight :=
  (LFL.iterLines_lines shapes p fuel skip y first ls h).2

/-- **termination next to floats**: `text.length + 2` rounds of `iter_line_boxes` suffice whatever the
floats are. -/
theorem float_lines_terminate (shapes : List Floats.Shape) (p : Para) (fuel : Nat) (skip : Option Nat) (y : Rat)
    (first : Bool) (h1 : 1 ≤ fuel) (h2 : p.text.length + 2 ≤ fuel + skip.getD 0) :
    LF.iterLines shapes p fuel skip y first ≠ none := by
  rw [LFL.iterLines_eq]
  exact LineIter.iter_fuel (fun s => s.getD 0) p.text.length
    (fun skip y first l r hn hr => (LFL.nextLine_spec shapes p skip y first l hn).2.2 r hr)
    (fun skip y first l hs hn => LFL.nextLine_beyond shapes p skip y first l hs hn) y first h1 h2

/-- **refinement: no float = the plain paragraph.**  With no excluded shape the float-aware
`get_next_linebox` is line for line the model of `Model/LineBreak` (for which `greedy`, `stack`,
`content_inside_block` … are proved): the two layers are tied by proof, not only by tests. -/
theorem no_float_is_plain_paragraph (p : Para) (hl : p.align.rtl = false) : LF.paragraph [] p = paragraph p := by
  unfold LF.paragraph paragraph
  rw [LFL.iterLines_no_float p hl]
  rfl

/-- a paragraph beside a right float 30 wide and 25 high: two shortened lines, then full lines -/
def floatExamplePara : Para :=
  { examplePara with text := "aaa bbb ccc dd eeee ff".toList, cbx := 0, width := 80, y := 0,
                     align := { alignAll := .start, alignLast := none, ws := .normal, rtl := false } }

example : (LF.paragraph [⟨50, 0, 30, 20, .right⟩] floatExamplePara).toOption.map
    (fun ls => ls.map (fun l => (l.x, l.y, l.w))) = some [(0, 0, 30), (0, 12, 30), (0, 24, 60), (0, 36, 70)] := by
  decide +kernel
example : (LF.iterLines [⟨50, 0, 30, 20, .right⟩] floatExamplePara 23 none 0 true).map
    (fun r => r.toOption.map (fun ls => ls.map (fun l => (l.y, l.h)))) =
    some (some [(0, 12), (12, 12), (24, 12), (36, 12)]) := by decide +kernel
example : (Floats.avoidCollisions [⟨50, 0, 30, 20, .right⟩] (LF.lineABox 0 30 12) ⟨0, 80, false⟩ false).toOption
    = some ⟨0, 0, 50⟩ ∧ C11.Proper [⟨50, 0, 30, 20, .right⟩] := by
  constructor
  · decide +kernel
  · intro s hs; simp at hs; subst hs; decide +kernel
example : (LF.paragraph [] floatExamplePara).toOption.map (fun ls => ls.map (fun l => (l.y, l.w)))
    = some [(0, 70), (12, 60), (24, 70)] := by decide +kernel

/-! ### nested inline boxes next to floats (`Model/LineFloatsInline`) and under every `white-space` -/

/-- **refinement: no float = the plain nested-inline paragraph.**  With no excluded shape the float-aware
`get_next_linebox` for nested inline boxes is line for line `Model/InlineRun` (the model the inline-doc
correspondence ties to rendered paragraphs): the layers are tied by proof. -/
theorem no_float_is_plain_inline_paragraph (p : IR.Para) : LFI.paragraph [] p = IR.paragraph p := by
  unfold LFI.paragraph IR.paragraph
  rw [LFIL.iterLines_no_float p]
  rfl

/-- **lines of nested inline boxes next to floats never overlap each other**: each starts at or below the
bottom of the one before, whatever the floats, the nesting and the `white-space` value. -/
theorem float_inline_lines_stacked (shapes : List Floats.Shape) (p : IR.Para) (fuel : Nat) (skip : Option IR.Skip)
    (y : Rat) (first : Bool) (ls : List IR.OutLine)
    (h : LFI.iterLines shapes p fuel skip y first = some (.ok ls)) : LFIL.StackedBelow y ls := by
  rw [LFIL.iterLines_eq] at h
  exact LineIter.iter_rule (fun _ => trivial)
    (fun skip y first l ls hn ih => ⟨LFIL.nextLine_below shapes p skip y first l hn, ih⟩) h

/-- **`nowrap` / `pre`: a waiting child is never re-broken.**  Under a `white-space` value for which
`can_break_inside` does not wrap, `_break_waiting_children` finds no break in any waiting child, for
every nesting and every text; with `no_break_between_iff_no_wrap` (no opportunity between two children
either) the only line ends inside nested inline boxes are the preserved line breaks. -/
theorem no_rebreak_without_wrap (ws : WS) (hw : ws.breakInside = false) (split : IR.Split) (skip : Option IR.Skip)
    (kept waiting : List IR.Entry) : IR.tryWaiting ws split skip kept waiting = .ok none :=
  LFIL.tryWaiting_no_wrap ws hw split skip kept waiting

example : WS.nowrap.breakInside = false ∧ WS.pre.breakInside = false ∧ WS.preLine.breakInside = true := by decide

/-- **`nowrap` / `pre` never break at spaces, nested inline boxes included** (the clause of the
property for the non-wrapping `white-space` values, at document level): whenever a line box of a
paragraph of nested inline boxes is followed by another line, the character just before the resume
point — found by following the `resume_at` path down the box tree — is a preserved line break.  For
every nesting, spacing, width, text and every `trailing_collapsible_space` flag (full strength since
fix fd6f32a: the collapsed space of `aaa <b> </b>bbb` is no break opportunity under `nowrap` any more,
`Witness.C09.nowrap_does_not_break_after_collapsed_space`); `no_wrap_breaks_only_at_newline` is the
same statement for one text box.  (Ingredients: no opportunity between two children,
`no_rebreak_without_wrap`, and the dead "put the child on the next line" branch.) -/
theorem nested_no_wrap_breaks_only_at_newline (p : IR.Para) (hw : p.st.ws.textWrap = false) (skip : Option IR.Skip)
    (y : Rat) (first : Bool) (l : IR.OutLine) (h : IR.nextLine p skip y first = .ok (some l)) (r : IR.Skip)
    (hr : l.resume = some r) : LFIL.charBefore (.box 0 0 false p.kids) r = some '\n' := by
  open Wp.LFIL Wp.IR in
  unfold IR.nextLine at h
  obtain ⟨sr, _, h⟩ := Except.bind_eq_ok h
  cases sr with
  | cont => cases h
  | skip skip' =>
    obtain ⟨lo, hlo, h⟩ := Except.bind_eq_ok h
    obtain ⟨o, ho, hres⟩ := splitLine_resume _ _ _ _ _ _ _ lo hlo
    -- the line resumes where the split of the line box does
    have hlr : l.resume = lo.resume := by
      split at h
      · cases h; rfl
      · obtain ⟨rl, _, h⟩ := Except.bind_eq_ok h
        obtain ⟨_, _, h⟩ := Except.map_eq_ok h
        cases h; rfl
    rw [hlr, hres] at hr
    exact splitLevel_no_wrap p.st hw _ _ _ _ _ o ho r hr

def prePara : IR.Para :=
  { st := { ws := .pre, wb := .normal, ow := .normal, fs := 10 }
    kids := [.box 0 0 false [.text "aaa bbb\n".toList, .box 0 0 false [.text "ccc ddd".toList]]]
    lineHeight := 10, cbx := 0, width := 40, indent := 0
    align := { alignAll := .start, alignLast := none, ws := .pre, rtl := false }, y := 0 }

example : (IR.nextLine prePara none 0 true).toOption.map
    (fun o => o.map (fun l => (l.w, l.resume.map (fun r => LFIL.charBefore (.box 0 0 false prePara.kids) r)))) =
    some (some (70, some (some '\n'))) := by decide +kernel

/-- the seed-5 shape: `<em>aa bbbbbbb cc dd</em>` in a 100px block with a left float 60 × 20: the second
line resumes inside the `<em>` at `bbbbbbb`; its tentative width is that of `bbbbbbb` (70), not of the
element's first word `aa` (20), so it does not fit in the 40px beside the float and goes below it. -/
def emPara : IR.Para :=
  { st := { ws := .normal, wb := .normal, ow := .normal, fs := 10 }
    kids := [.box 0 0 false [.text "aa bbbbbbb cc dd".toList]]
    lineHeight := 10, cbx := 0, width := 100, indent := 0
    align := { alignAll := .start, alignLast := none, ws := .normal, rtl := false }, y := 0 }

example : (LFI.tentative [⟨0, 0, 60, 20, .left⟩] emPara (some (.mk 0 (some (.mk 0 (some (.mk 3 none))))))).toOption = some (70, 10) ∧
    (LFI.tentative [⟨0, 0, 60, 20, .left⟩] emPara none).toOption = some (20, 10) := by decide +kernel
example : (LFI.paragraph [⟨0, 0, 60, 20, .left⟩] emPara).toOption.map (fun ls => ls.map (fun l => (l.x, l.y, l.w))) =
    some [(60, 0, 20), (0, 20, 100), (0, 30, 20)] := by decide +kernel
example : (LFI.paragraph [] emPara).toOption.map (fun ls => ls.map (fun l => (l.x, l.y, l.w))) =
    some [(0, 0, 100), (0, 10, 50)] := by decide +kernel

/-- nested inline boxes under `pre-line`: the preserved line break inside the span ends the first line,
which is then aligned like a last line (`text-align-last: end`), and `bb cc<b>ddd</b>` is re-broken at the
space before `cc` when `ddd` overflows (the seed-6 shape): `a` / `bb` / `ccddd` / `ee`. -/
example : (IR.paragraph { emPara with
      st := { ws := .preLine, wb := .normal, ow := .normal, fs := 10 }, width := 70,
      align := { alignAll := .start, alignLast := some .«end», ws := .preLine, rtl := false },
      kids := [.text "a\nbb cc".toList, .box 0 0 false [.text "ddd".toList], .text " ee".toList] }).toOption.map
    (fun ls => ls.map (fun l => (l.x, l.w))) = some [(60, 10), (0, 20), (0, 50), (50, 20)] := by decide +kernel

/-! ### nested inline boxes: stacking and containment at document level -/

/-- **nested inline boxes: the line lies inside the block** (ltr, every `text-align-all` /
`text-align-last`, every `white-space`, nesting and spacing): the line box `get_next_linebox` returns
is at the `position_y` it was given, one line-height high or a phantom box, starts at the block's
content edge or to its right and — when it is not wider than the block — ends inside it; a wider line
starts at the content edge. -/
theorem inline_line_inside_block (p : IR.Para) (skip : Option IR.Skip) (y : Rat) (first : Bool) (l : IR.OutLine)
    (h : IR.nextLine p skip y first = .ok (some l)) :
    l.y = y ∧ (l.h = 0 ∨ l.h = p.lineHeight) ∧
    (l.w ≤ p.width → p.cbx ≤ l.x ∧ l.x + l.w ≤ p.cbx + p.width) ∧ (p.width < l.w → l.x = p.cbx) := by
  unfold IR.nextLine at h
  obtain ⟨sr, _, h⟩ := Except.bind_eq_ok h
  cases sr with
  | cont => cases h
  | skip skip' =>
    obtain ⟨lo, _, h⟩ := Except.bind_eq_ok h
    split at h
    · cases h
      exact ⟨rfl, Or.inl rfl, fun hle => ⟨Rat.le_refl, Rat.add_le_add_left.mpr hle⟩, fun _ => rfl⟩
    · obtain ⟨rl, _, h⟩ := Except.bind_eq_ok h
      obtain ⟨⟨off, line'⟩, hta, h⟩ := Except.map_eq_ok h
      cases h
      obtain ⟨hoff, hin, hout⟩ := align_offset_inside hta
      obtain ⟨hinside, hwide⟩ := inside_of_offset p.cbx hoff hin hout
      exact ⟨rfl, Or.inr rfl, hinside, hwide⟩

example : (IR.nextLine seedShapePara none 0 true).toOption.map (fun o => o.map (fun l => (l.x, l.w))) =
    some (some (0, 70)) := by decide +kernel
/-- lines of nested inline boxes stacked from `y`: each starts where the previous one ends -/
def InlineStacked : Rat → List IR.OutLine → Prop
  | _, [] => True
  | y, l :: ls => l.y = y ∧ InlineStacked (l.y + l.h) ls

/-- **paragraph of nested inline boxes: stacked without gap or overlap, every line inside the block**
(document-level form of `stack` + `content_inside_block` for `Model/InlineRun`, every `white-space`
value): the line boxes `iter_line_boxes` yields start at `y`, each next one where the previous ends;
each is one line-height high or a phantom box, and lies between the block's content edges unless it is
wider than the block (then it starts at the content edge). -/
theorem inline_paragraph_stacked_inside (p : IR.Para) : ∀ (fuel : Nat) (skip : Option IR.Skip) (y : Rat) (first : Bool)
    (ls : List IR.OutLine), IR.iterLines p fuel skip y first = some (.ok ls) →
    InlineStacked y ls ∧ ∀ l ∈ ls, (l.h = 0 ∨ l.h = p.lineHeight) ∧
      (l.w ≤ p.width → p.cbx ≤ l.x ∧ l.x + l.w ≤ p.cbx + p.width) ∧ (p.width < l.w → l.x = p.cbx)
    := by
  intro fuel skip y first ls h
  rw [LFIL.ir_iterLines_eq] at h
  exact ⟨LineIter.iter_rule (C := InlineStacked) (fun _ => trivial)
      (fun skip y first l _ hn ih => ⟨(inline_line_inside_block p skip y first l hn).1, ih⟩) h,
    LineIter.iter_forall (fun skip y first l hn => (inline_line_inside_block p skip y first l hn).2) h⟩

example : (IR.iterLines seedShapePara 30 none 0 true).map (fun r => r.toOption.map (fun ls => ls.map (fun l => (l.y, l.h, l.x, l.w)))) =
    some (some [(0, 10, 0, 70), (10, 10, 0, 30), (20, 10, 0, 50)]) := by decide +kernel

/-! ### from the source text to the line (`Model/InlineSource`) -/

/-- **no emptied text box reaches the line**: whatever the source (runs of spaces, newlines,
white-space-only elements at any depth) and the `white-space` value, every text box among the children
of the line box built by `process_whitespace` + `inline_in_block` has text — `split_text_box` is never
given an empty text by the box tree. -/
theorem source_line_has_no_empty_text (ws : WS) (kids : List IS.Src) : IS.noEmptyTextL (IS.lineKids ws kids) = true := by
  open Wp.IS Wp.IR in
  unfold lineKids
  exact noEmptyTextL_dropWhile _ _ (iibKids_noEmpty false _)

/-- **a box left without children keeps the collapsed-space flag**: an inline box whose only child is a
text box emptied by white-space collapsing (`leading_collapsible_space` set) is flagged
`trailing_collapsible_space`, for every spacing — the break opportunity of `aaa <b> </b>bbb`
(seed C09-8 records the flag only `if children`). -/
theorem emptied_box_keeps_flag (ls rs : Rat) (deco lcs : Bool) :
    IS.iibBox (.box ls rs deco [.text [] lcs]) = if lcs then .flagged (.box ls rs deco []) else .box ls rs deco [] := by
  open Wp.IS in
  cases lcs <;> simp [iibBox, iibKids]

/-- **what white-space processing leaves (1): no preserved line break under `normal` / `nowrap`.**  For
every source text, the text `process_whitespace` puts into the text box (`IS.processedText`, the text of
`IS.pw`: `IS.pw_text`) holds no newline — C08's theorem on `processText`, carried through the
code-point / character coding of the model. -/
theorem processed_text_no_newline (ws : WS) (h : ws = .normal ∨ ws = .nowrap) (t : Text) (f : Bool) :
    ∀ c ∈ IS.processedText ws t f, c ≠ '\n' := by
  open Wp.IS in
  intro c hc hnl
  unfold processedText decode at hc
  obtain ⟨n, hn, hcn⟩ := List.mem_map.mp hc
  have h10 : n = 10 := ofNat_eq n '\n' (hcn.trans hnl) (by decide)
  exact (C08.whitespace_collapses_newlines (toBxWS ws) (newLineCollapse_of ws h) (encode t) f n hn).2.1 h10

/-- **what white-space processing leaves (2): single spaces under every collapsing value.**  Two
consecutive spaces never reach `split_first_line`: with (1), the words of the text box are separated
by single spaces — the shape (`Canonical`, up to one leading / trailing space removed by
`skip_first_whitespace` / `remove_last_whitespace`) on which `greedy` and `heuristic_transparent` are
proved. -/
theorem processed_text_no_double_space (ws : WS) (h : ws.spaceCollapse = true) (t : Text) (f : Bool) (i : Nat)
    (hi : (IS.processedText ws t f)[i]? = some ' ') : (IS.processedText ws t f)[i + 1]? ≠ some ' ' := by
  open Wp.IS in
  unfold processedText decode at hi ⊢
  have hnd := (C08.whitespace_collapses_spaces (toBxWS ws) (spaceCollapse_of ws h) (encode t) f).1
  generalize (Bx.processText (toBxWS ws) (encode t) f).text = u at hi hnd ⊢
  rw [List.getElem?_map] at hi ⊢
  cases hu : u[i]? with
  | none => rw [hu] at hi; cases hi
  | some n =>
    rw [hu] at hi
    simp only [Option.map, Option.some.injEq] at hi
    have hn : n = 32 := ofNat_eq n ' ' hi (by decide)
    subst hn
    cases hu1 : u[i + 1]? with
    | none => simp
    | some m =>
      simp only [Option.map, ne_eq, Option.some.injEq]
      intro hm
      have hm32 : m = 32 := ofNat_eq m ' ' hm (by decide)
      subst hm32
      exact noDoubleSp_get u hnd i hu hu1

/-- **from the source to the line under `nowrap`**: whatever the source text of a text box and the
available width, `split_first_line` puts all of the processed text on one line. -/
theorem nowrap_source_single_line (heur : Bool) (st : Style) (hws : st.ws = .nowrap) (t : Text) (f : Bool)
    (maxWidth : MaxW) (a b : Bool) (r : Res)
    (h : splitFirstLineH heur st (IS.processedText .nowrap t f) maxWidth a b = .ok r) :
    r = { length := (IS.processedText .nowrap t f).length, resume := none,
          width := ((IS.processedText .nowrap t f).length : Rat) * st.fs, text := IS.processedText .nowrap t f } := by
  open Wp.IS in
  have hw : st.ws.textWrap = false := by rw [hws]; decide
  have hnl : find (processedText .nowrap t f) '\n' = none :=
    C09L.find_none_of_not_mem (processed_text_no_newline .nowrap (Or.inr rfl) t f)
  exact no_wrap_single_line heur st _ maxWidth a b r hw hnl h

example : IS.processedText .nowrap "aa  \n bb\ncc ".toList false = "aa bb cc ".toList ∧
    IS.processedText .preLine "aa  \n bb   cc".toList true = "aa\nbb cc".toList ∧
    (splitFirstLine { ws := .nowrap, wb := .normal, ow := .normal, fs := 10 }
      (IS.processedText .nowrap "aa  \n bb\ncc ".toList false) (.fin 30) true false).toOption.map (·.resume) = some none := by
  decide +kernel

/-- **canonical texts are what white-space processing leaves** (the hypothesis of `greedy` and
`heuristic_transparent`, proved from the source): under `white-space: normal | nowrap`, for every source
text of a text box — newlines, runs of spaces, leading and trailing white space — and whatever
collapsible space precedes it, the processed text without its single leading / trailing space is
`Canonical`. -/
theorem processed_text_canonical (ws : WS) (h : ws = .normal ∨ ws = .nowrap) (t : Text) (f : Bool) :
    Canonical (rstripSp (lstripSp (IS.processedText ws t f))) :=
  IS.canonical_strip _ (processed_text_no_newline ws h t f)
    (processed_text_no_double_space ws (by rcases h with rfl | rfl <;> decide) t f)

/-- **greedy, from the source text**: under `white-space: normal` (normal `word-break` / `overflow-wrap`,
`font-size > 0`), for every source text and every available width, `split_first_line` — with or without
its prefix heuristic — gives exactly the first-fit line of the words the source holds. -/
theorem greedy_from_source (heur : Bool) (st : Style) (t : Text) (f : Bool) (w : Rat) (a b : Bool)
    (hws : st.ws = .normal) (hwb : st.wb = .normal) (how : st.ow = .normal) (hfs : 0 < st.fs) :
    splitFirstLineH heur st (rstripSp (lstripSp (IS.processedText .normal t f))) (.fin w) a b =
      .ok (firstFit st (rstripSp (lstripSp (IS.processedText .normal t f))) w) :=
  split_canonical_firstFit heur st _ w a b (canBreakWord_normal st a b hwb how) (Rat.le_of_lt hfs)
    (processed_text_canonical .normal (Or.inl rfl) t f)

/-- **the first line of a paragraph, from the source** (composition of `process_whitespace`,
`skip_first_whitespace` and `split_first_line`): when the processed text of the paragraph's text box does
not end with a space, `skip_first_whitespace` hands `split_text_box` the text without its leading space,
and `split_first_line` answers with its first-fit line. -/
theorem first_line_from_source (st : Style) (t : Text) (f : Bool) (w : Rat) (a b : Bool)
    (hws : st.ws = .normal) (hwb : st.wb = .normal) (how : st.ow = .normal) (hfs : 0 < st.fs)
    (hne : IS.processedText .normal t f ≠ [])
    (hend : (lstripSp (IS.processedText .normal t f)).getLast? ≠ some ' ') :
    ∃ k, skipFirstWhitespace .normal (IS.processedText .normal t f) 0 = some k ∧
      splitFirstLine st ((IS.processedText .normal t f).drop k) (.fin w) a b =
        .ok (firstFit st ((IS.processedText .normal t f).drop k) w) := by
  obtain ⟨k, hk, hdrop⟩ := IS.skipFirst_is_lstrip .normal (by decide) _ hne
  refine ⟨k, hk, ?_⟩
  rw [hdrop]
  have hcan := processed_text_canonical .normal (Or.inl rfl) t f
  rw [rstripSp_of_last_ne hend] at hcan
  exact split_canonical_firstFit true st _ w a b (canBreakWord_normal st a b hwb how) (Rat.le_of_lt hfs) hcan

example : rstripSp (lstripSp (IS.processedText .normal "  aaa \n bbb   ccc\ndd ".toList true)) = "aaa bbb ccc dd".toList ∧
    firstFit { ws := .normal, wb := .normal, ow := .normal, fs := 10 } "aaa bbb ccc dd".toList 75 =
      { length := 7, resume := some 8, width := 70, text := "aaa bbb".toList } := by decide +kernel
example : IS.processedText .normal " aaa\nbbb".toList false ≠ [] ∧
    (lstripSp (IS.processedText .normal " aaa\nbbb".toList false)).getLast? ≠ some ' ' ∧
    skipFirstWhitespace .normal (IS.processedText .normal " aaa\nbbb".toList false) 0 = some 1 := by decide +kernel
/-- the source `aaa <b> </b>bbb` under `white-space: normal`: the space of `<b>` collapses with the one
before it, the emptied text box is removed and the empty `<b>` carries `trailing_collapsible_space`
(`^`) — the break opportunity `split_inline_box` uses (seed C09-8 loses the flag on boxes left without
children); in the nested case the flag sits on the inner element, the outer one passes `last_letter is True` on -/
example : IS.renderL (IS.lineKids .normal [.text "aaa ".toList, .box 0 0 false [.text " ".toList], .text "bbb".toList]) =
    "\"aaa \"^[]\"bbb\"".toList := by decide +kernel

/-- … nested (`aaa <b> <u> </u></b>bbb`), and not flagged when no space precedes (`aaa<b> </b>bbb`) -/
example : IS.renderL (IS.lineKids .normal [.text "aaa ".toList,
      .box 0 0 false [.text " ".toList, .box 0 0 false [.text " ".toList]], .text "bbb".toList]) =
      "\"aaa \"[^[]]\"bbb\"".toList ∧
    IS.renderL (IS.lineKids .normal [.text "aaa".toList, .box 0 0 false [.text " ".toList], .text "bbb".toList]) =
      "\"aaa\"[\" \"]\"bbb\"".toList := by decide +kernel

/-- the collapsed space is a break opportunity: `aaa <b> </b>bbb` in 50px is broken after `aaa ` -/
def collapsedPara : IR.Para :=
  { st := { ws := .normal, wb := .normal, ow := .normal, fs := 10 }
    kids := IS.lineKids .normal [.text "aaa ".toList, .box 0 0 false [.text " ".toList], .text "bbb".toList]
    lineHeight := 10, cbx := 0, width := 50, indent := 0
    align := { alignAll := .start, alignLast := none, ws := .normal, rtl := false }, y := 0 }

example : (IR.paragraph collapsedPara).toOption.map (fun ls => ls.map (·.w)) = some [40, 30] := by decide +kernel

/-- without collapsing nothing is emptied or flagged: under `pre` the same source keeps its three spaces -/
example : IS.renderL (IS.lineKids .pre [.text "aaa ".toList, .box 0 0 false [.text " ".toList], .text "bbb".toList]) =
      "\"aaa \"[\" \"]\"bbb\"".toList := by
  decide +kernel

/-! ### lines higher than the strut next to floats: the second pass of `get_next_linebox` -/

/-- **refinement: the second pass is idle when the line is not higher than the strut.**  For every list of
floats (non-empty), paragraph of nested inline boxes and resume position, when the lines are not higher
than the strut the line box is first placed with, the model of the `while True` loop of
`get_next_linebox` (`LFI.nextLineTall`, tied to rendered documents by the float-tall-lines section) is
the single-pass model `LFI.nextLine` (for which `float_inline_lines_stacked` and, without floats,
`no_float_is_plain_inline_paragraph` are proved). -/
theorem tall_loop_single_pass (shapes : List Floats.Shape) (p : IR.Para) (hne : shapes.isEmpty = false)
    (hle : p.lineHeight ≤ LFI.strutHeight p) (skip : Option IR.Skip) (y : Rat) (first : Bool) :
    LFI.nextLineTall shapes p (LFI.strutHeight p) p.lineHeight skip y first = LFI.nextLine shapes p skip y first := by
  -- the first pass of `tallLoop` meets `if line.height <= candidate_height: break` with the strut as candidate
  unfold LFI.nextLineTall LFI.nextLine LFI.tentative LFI.tallLoop
  simp only [hne, Bool.false_eq_true, if_false, Except.map_bind_eq, hle, if_true, Except.bind_ok_eq_map]

/-- … and so are all the lines of the paragraph. -/
theorem tall_lines_are_plain_lines (shapes : List Floats.Shape) (p : IR.Para) (hne : shapes.isEmpty = false)
    (hle : p.lineHeight ≤ LFI.strutHeight p) (fuel : Nat) (skip : Option IR.Skip) (y : Rat) (first : Bool) :
    LFI.iterLinesTall shapes p (LFI.strutHeight p) p.lineHeight fuel skip y first =
      LFI.iterLines shapes p fuel skip y first := by
  rw [LFIL.iterLinesTall_eq, LFIL.iterLines_eq,
    funext fun s => funext fun y => funext (tall_loop_single_pass shapes p hne hle s y)]

/-- **lines higher than the strut never overlap each other**: whatever the floats, the strut and the line
height, through every re-layout of the second pass each line starts at or below the bottom of the one
before (`avoid_collisions` only moves a line down). -/
theorem tall_lines_stacked (shapes : List Floats.Shape) (p : IR.Para) (strut lineH : Rat) (fuel : Nat)
    (skip : Option IR.Skip) (y : Rat) (first : Bool) (ls : List IR.OutLine)
    (h : LFI.iterLinesTall shapes p strut lineH fuel skip y first = some (.ok ls)) : LFIL.StackedBelow y ls := by
  rw [LFIL.iterLinesTall_eq] at h
  exact LineIter.iter_rule (fun _ => trivial)
    (fun skip y first l ls hn ih => ⟨LFIL.nextLineTall_below shapes p strut lineH skip y first l hn, ih⟩) h

/-- the family of the float-tall-lines section: strut 10, lines 30 high, a left float 20 × 15 above a left
float 50 × 40: the first line is first placed at y = 0 beside the narrow float, is 30 high, collides with
the wide float and is laid out again at y = 55 in the whole 120 (`aaaa bbb cc`, not the `aaaa bbb` that
fitted beside the floats: seed C09-10) -/
def tallPara : IR.Para :=
  { st := { ws := .normal, wb := .normal, ow := .normal, fs := 10 }
    kids := [.box 0 0 false [.text "aaaa bbb cc ddddd ee fff gggg hh iii jj".toList]]
    lineHeight := 30, cbx := 0, width := 120, indent := 0
    align := { alignAll := .start, alignLast := none, ws := .normal, rtl := false }, y := 0 }

example : (LFI.paragraphTall [⟨0, 0, 20, 15, .left⟩, ⟨0, 15, 50, 40, .left⟩] tallPara 10 30).toOption.map
    (fun ls => ls.map (fun l => (l.x, l.y, l.w))) = some [(0, 55, 110), (0, 85, 120), (0, 115, 110), (0, 145, 20)] := by
  decide +kernel
example : emPara.lineHeight ≤ LFI.strutHeight emPara ∧ ([⟨0, 0, 60, 20, .left⟩] : List Floats.Shape).isEmpty = false := by
  decide +kernel

end Wp.C09

namespace Wp.C09L
open Wp Wp.LV

/-- `C09.boxes_inside_line` for a line without `top` / `bottom` box (`hn` is not used) -/
theorem boxes_inside_line (lineSt : VStyle) (kids : List VNode) (posY : Rat) (l : VLine)
    (hn : noTBNodeL kids = true) (h : layoutLine lineSt kids posY = .ok l) :
    l.y = posY ∧ ∀ d ∈ allBoxesL l.kids, l.y ≤ d.y ∧ d.y + d.marginHeight ≤ l.y + l.height :=
  C09.boxes_inside_line lineSt kids posY l h

end Wp.C09L
