/-
C15 — the counter section of `make_page` is total: `C15.counter_section_total`.
Lifts `C15.step3_total` (Props/C15Pages.lean) through `lookupBody`, `eventStep`, the loop over
`page.descendants()` and `cache_target_page_counters`, with the invariant "every anchor a `CounterLookupItem`
misses has its `TargetLookupItem`" (which `lookup_target` establishes: it creates the item before recording
the missing target counter).
-/
import WpModel.Props.C15Pages

namespace Wp.C15
open Wp.PageCounters

/-- Every target named by a `missing_target_counters` dict exists in `target_lookup_items`. -/
def TargetsKnown (st : PState) : Prop :=
  ∀ mt ∈ st.lookups.map (·.missingTarget), ∀ p ∈ mt, (tget st.targets p.1).isSome = true

private theorem map_setAt {α β} (g : α → β) (f : α → α) : ∀ (l : List α) (i : Nat),
    (∀ x, l[i]? = some x → g (f x) = g x) → (setAt l i f).map g = l.map g := by
  intro l
  induction l with
  | nil => intro i _; simp [setAt]
  | cons y ys ih =>
    intro i h
    cases i with
    | zero => simp [setAt, h y rfl]
    | succ i => simp [setAt, ih i fun x hx => h x (by simpa using hx)]

private theorem tget_tset_isSome (ts : List (String × TargetItem)) (a b : String) (t : TargetItem) :
    (tget (tset ts a t) b).isSome = (tget ts b).isSome := by
  rw [tget_tset_eq]
  split
  · next h => subst h; cases tget ts a <;> rfl
  · rfl

/-- What the invariant needs from a state transformer. -/
private def Keeps (st st' : PState) : Prop :=
  st'.lookups.map (·.missingTarget) = st.lookups.map (·.missingTarget) ∧
  ∀ a, (tget st'.targets a).isSome = (tget st.targets a).isSome

private theorem Keeps.refl (st : PState) : Keeps st st := ⟨rfl, fun _ => rfl⟩

private theorem Keeps.trans {a b c : PState} (h1 : Keeps a b) (h2 : Keeps b c) : Keeps a c :=
  ⟨h2.1.trans h1.1, fun x => (h2.2 x).trans (h1.2 x)⟩

private theorem Keeps.known {st st' : PState} (h : Keeps st st') (hk : TargetsKnown st) : TargetsKnown st' := by
  intro mt hmt p hp
  rw [h.1] at hmt
  rw [h.2]
  exact hk mt hmt p hp

private theorem spreadStep_keeps (anchor : String) (pcv : Vals) (k : Nat) (l : LookupItem) (st : PState) :
    Keeps st (spreadStep anchor pcv k l st) := by
  rcases spreadStep_cases anchor pcv k l st with e | e | e <;> rw [e]
  · exact Keeps.refl st
  · exact ⟨map_setAt (fun x : LookupItem => x.missingTarget) (fun x => { x with pending := true }) _ _
      (fun _ _ => rfl), fun _ => rfl⟩
  · exact ⟨rfl, fun _ => rfl⟩

private theorem spread_keeps (anchor : String) (pcv : Vals) (rest : List LookupItem) (k : Nat) (st : PState) :
    Keeps st (spread anchor pcv k rest st) :=
  spread_rule anchor pcv (fun _ s => Keeps st s) rest k st (Keeps.refl st)
    fun _ l s _ h => h.trans (spreadStep_keeps anchor pcv _ l s)

private theorem cacheTarget_keeps (st : PState) (anchor : String) (pcv : Vals) (i : Nat) :
    Keeps st (cacheTarget st anchor pcv i) := by
  have h0 : ∀ t : TargetItem, Keeps st { st with targets := tset st.targets anchor t } :=
    fun t => ⟨rfl, fun a => tget_tset_isSome st.targets anchor a t⟩
  rcases cacheTarget_cases st anchor pcv i with e | ⟨t, e | e⟩ <;> rw [e]
  · exact Keeps.refl st
  · exact h0 t
  · exact (h0 t).trans (spread_keeps anchor pcv _ 0 _)

private theorem step12_placed_missingTarget (cur : Nat) (pcv : Vals) (refresh : Bool) (l : LookupItem) :
    (step12 pcv refresh (placed cur refresh l)).1.missingTarget = l.missingTarget := by
  -- no branch touches the field: push the projections through the `if`s
  simp only [step12, apply_ite Prod.fst, apply_ite LookupItem.missingTarget, ite_self]
  unfold placed; split <;> rfl

private theorem prepared_keeps (cur : Nat) (pcv : Vals) (refresh : Bool) (key : Nat) (l0 : LookupItem) (st : PState)
    (hl : st.lookups[key]? = some l0) : Keeps st (prepared cur pcv refresh key l0 st) := by
  unfold prepared
  refine ⟨?_, fun _ => rfl⟩
  simp only
  refine map_setAt (·.missingTarget) _ st.lookups key fun x hx => ?_
  rw [hl] at hx
  cases hx
  exact step12_placed_missingTarget cur pcv refresh _

private theorem step3Targets_keeps (mt : List (String × List String)) (st st' : PState)
    (h : step3Targets mt st = .ok st') : Keeps st st' := by
  obtain ⟨h1, _, _, h4, _⟩ := step3Targets_preserves mt st st' h
  exact ⟨by rw [h1], fun a => by rw [h4]⟩

/-- The lookup part of the loop body succeeds and keeps the invariant. -/
private theorem lookupBody_total (cur : Nat) (pcv : Vals) (refresh : Bool) (key : Nat) (st : PState)
    (hk : TargetsKnown st) : ∃ st', lookupBody cur pcv refresh key st = .ok st' ∧ Keeps st st' := by
  unfold lookupBody
  cases hl : st.lookups[key]? with
  | none => exact ⟨st, rfl, Keeps.refl st⟩
  | some l0 =>
    simp only
    have hprep := prepared_keeps cur pcv refresh key l0 st hl
    have hmem : l0.missingTarget ∈ st.lookups.map (·.missingTarget) :=
      List.mem_map.mpr ⟨l0, List.mem_of_getElem? hl, rfl⟩
    have hmt := step12_placed_missingTarget cur pcv refresh l0
    obtain ⟨st3, h3⟩ := step3_total (step12 pcv refresh (placed cur refresh l0)).1.missingTarget
      (prepared cur pcv refresh key l0 st) (by
        intro p hp _
        rw [hmt] at hp
        rw [hprep.2]
        exact hk _ hmem p hp)
    rw [h3]
    have hk3 := hprep.trans (step3Targets_keeps _ _ _ h3)
    refine ⟨_, rfl, ?_⟩
    split
    · exact hk3.trans ⟨rfl, fun _ => rfl⟩
    · exact hk3

/-- The anchor half of the loop body of `eventStep`. -/
private def anchorPart (cur : Nat) (pcv : Vals) (acc : Acc) (e : Event) : Acc :=
  match e.anchor with
    | some a =>
      if a ≠ "" && !acc.cachedAnchors.contains a then
        let st := { acc.st with pageMaker := setAt acc.st.pageMaker cur fun r => { r with anchors := r.anchors ++ [a] } }
        { acc with st := cacheTarget st a pcv cur, cachedAnchors := acc.cachedAnchors ++ [a] }
      else acc
    | none => acc

/-- The lookup half. -/
private def lookupPart (cur : Nat) (pcv : Vals) (acc : Acc) (e : Event) : Except PErr Acc :=
  match e.lookup with
  | none => .ok acc
  | some key =>
    if (acc.st.lookups[key]?).isNone then .ok acc
    else
      let refresh := !acc.cachedLookups.contains key
      match lookupBody cur pcv refresh key acc.st with
      | .error e => .error e
      | .ok st => .ok { acc with st := st, cachedLookups := if refresh then acc.cachedLookups ++ [key] else acc.cachedLookups }

private theorem eventStep_eq (cur : Nat) (pcv : Vals) (acc : Acc) (e : Event) :
    eventStep cur pcv acc e = lookupPart cur pcv (anchorPart cur pcv acc e) e := rfl

private theorem anchorPart_known (cur : Nat) (pcv : Vals) (acc : Acc) (e : Event) (hk : TargetsKnown acc.st) :
    TargetsKnown (anchorPart cur pcv acc e).st := by
  fun_cases anchorPart cur pcv acc e
  · -- the invariant does not read `page_maker`
    exact (cacheTarget_keeps _ _ pcv cur).known (show TargetsKnown { acc.st with pageMaker := _ } from hk)
  all_goals exact hk

private theorem lookupPart_total (cur : Nat) (pcv : Vals) (acc : Acc) (e : Event) (hk : TargetsKnown acc.st) :
    ∃ acc', lookupPart cur pcv acc e = .ok acc' ∧ TargetsKnown acc'.st := by
  unfold lookupPart
  split
  · exact ⟨acc, rfl, hk⟩
  · rename_i key _
    split
    · exact ⟨acc, rfl, hk⟩
    · obtain ⟨st', h1, h2⟩ := lookupBody_total cur pcv (!acc.cachedLookups.contains key) key acc.st hk
      simp only [h1]
      exact ⟨_, rfl, h2.known hk⟩

private theorem eventStep_total (cur : Nat) (pcv : Vals) (acc : Acc) (e : Event) (hk : TargetsKnown acc.st) :
    ∃ acc', eventStep cur pcv acc e = .ok acc' ∧ TargetsKnown acc'.st := by
  rw [eventStep_eq]
  exact lookupPart_total cur pcv _ e (anchorPart_known cur pcv acc e hk)

private theorem eventsLoop_total (cur : Nat) (pcv : Vals) : ∀ (events : List Event) (acc : Acc),
    TargetsKnown acc.st → ∃ acc', eventsLoop cur pcv events acc = .ok acc' ∧ TargetsKnown acc'.st := by
  intro events
  induction events with
  | nil => intro acc hk; exact ⟨acc, rfl, hk⟩
  | cons e rest ih =>
    intro acc hk
    obtain ⟨acc1, h1, hk1⟩ := eventStep_total cur pcv acc e hk
    obtain ⟨acc2, h2, hk2⟩ := ih acc1 hk1
    exact ⟨acc2, by simp [eventsLoop, h1, h2, bind, Except.bind], hk2⟩

/-- **C15.counter_section_total** (full strength since `fix:` da41776) — the counter section of `make_page`
never raises, for any page (any sequence of anchors and lookup items shown by `page.descendants()`), any page
counter values and any `TargetCollector` state in which the targets named by `missing_target_counters` have their
`TargetLookupItem` — forward references to targets that have not been met yet included — and it keeps that
invariant for the next page. -/
theorem counter_section_total (st : PState) (pageNumber : Nat) (pcv : Vals) (events : List Event)
    (hk : TargetsKnown st) :
    ∃ st', counterSection st pageNumber pcv events = .ok st' ∧ TargetsKnown st' := by
  unfold counterSection
  obtain ⟨acc', h, hk'⟩ := eventsLoop_total (pageNumber - 1) pcv events
    ⟨st, (st.pageMaker.take (pageNumber - 1)).flatMap (·.anchors),
      (st.pageMaker.take (pageNumber - 1)).flatMap (·.lookups)⟩ hk
  exact ⟨acc'.st, by simp [h, bind, Except.bind, pure, Except.pure], hk'⟩

/-! Non-vacuity: the state of the repaired finding (a forward `pages` reference) satisfies the invariant. -/
example : TargetsKnown
    { collecting := false, targets := [("t", ⟨true, none, []⟩)],
      lookups := [⟨true, [], [("t", ["pages"])], none, false, []⟩], pageMaker := [⟨false, false, [], []⟩],
      calls := [] } := by
  intro mt hmt p hp
  simp at hmt
  subst hmt
  simp at hp
  subst hp
  rfl

end Wp.C15
