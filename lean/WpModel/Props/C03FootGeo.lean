/-
C03 geometry on the footnote grammar (PM stage 2b).

* `layout_line_fits`, `paginate_line_fits` — every line of every page ends above the bottom of the page box, the
  first line of the page excepted — for **every** `@footnote` style (any margins, negative ones included, bottom
  decorations, `max-height`, per-page-type rules) and footnote bodies of non-negative heights; through nested blocks,
  cloned decorations, the second layout, `find_earlier_page_break`, and every footnote being laid out, postponed or
  un-laid-out on the way.  No hypothesis on the `@footnote` style since repair 2efefde (what the area takes from the page
  is clamped at 0; regression theorem `Witness/C01Foot.area_negative_margin_box_clamped`; earlier: 84e5b27 for the
  emptied area, 8db5909 for the fragmented one).
* `page_bottom_exact` — for every `@footnote` style `context.page_bottom` always is the page bottom minus the
  (clamped) margin height of the footnote area; `page_bottom_le` — and never exceeds the page box bottom.
* `para_lines_above_footnotes`, `page_bottom_is_area_top` — the lines of a paragraph end above `page_bottom` as the
  layout leaves it, which is the top of the footnote area put on the page (or the page box bottom if that is higher).
* the footnote area: it ends exactly at the page bottom (`area_at_page_bottom`), its footnotes are stacked without
  gap or overlap (`area_stacked`).
-/
import WpModel.Lemmas.FootGeoBox
import WpModel.Lemmas.FootOverlap
import WpModel.Lemmas.FootOps
import WpModel.Props.C01Foot

namespace Wp.C03FootGeo
open Wp Wp.PM Wp.PMF

/-- **Line fits, whole layout, with footnotes.** -/
theorem layout_line_fits (box : FootBox) (hd : DecoOk box.erase) (hh : HeightsOk box) (c : FCtx) (idx : Nat)
    (y bs : Rat) (skip : Option Resume) (cb pie : Bool) (adjL : List Rat) (fs : FState)
    (hinv : PbInv c fs) (f : Frag) (hf : (layoutBoxF c box idx y bs skip cb pie adjL fs).r.frag = some f) :
    ∀ l ∈ placedLines f pie box.erase, l.exempt = true ∨ overflows (c.pageH - bs) (l.y + l.lineH) = false :=
  boxF_fits box hd hh c idx y bs skip cb pie adjL fs hinv f hf

/-- **`page_bottom` bookkeeping is exact** (any `@footnote` style, any box styles): after any layout the page
bottom is the page box bottom minus the margin height of the footnote area (or untouched when no footnote was ever
laid out). -/
theorem page_bottom_exact (box : FootBox) (hh : HeightsOk box) (c : FCtx) (idx : Nat)
    (y bs : Rat) (skip : Option Resume) (cb pie : Bool) (adjL : List Rat) (fs : FState) (hinv : PbInv c fs) :
    PbInv c (layoutBoxF c box idx y bs skip cb pie adjL fs).fs :=
  boxF_stable (pbInv_stable c) box hh idx y bs skip cb pie adjL fs hinv

/-- … and never exceeds the page box bottom, whatever the `@footnote` style (full strength since 2efefde). -/
theorem page_bottom_le (box : FootBox) (hh : HeightsOk box) (c : FCtx) (idx : Nat)
    (y bs : Rat) (skip : Option Resume) (cb pie : Bool) (adjL : List Rat) (fs : FState)
    (hinv : PbInv c fs) : (layoutBoxF c box idx y bs skip cb pie adjL fs).fs.pageBottom ≤ c.pageH :=
  (boxF_stable (pbInv_stable c) box hh idx y bs skip cb pie adjL fs hinv).le

/-! ### a line and the footnotes it keeps on the page -/

theorem takeStep_reported_ne (c : FCtx) (bs y : Rat) (fs : FState) (f : Fn)
    (h : fs.reported ≠ [] ∨ tookOver c bs y fs f = true) : (takeStep c bs y fs f).reported ≠ [] := by
  unfold takeStep
  split
  · simp
  · rename_i hno
    rcases h with h | h
    · simpa using h
    · exact absurd h hno

/-- Once a footnote is postponed, `reported` stays non-empty to the end of the loop. -/
theorem footLoop_reported_ne (c : FCtx) (guard pie : Bool) (bs y : Rat) (F : List Fn) (fs : FState)
    (h : fs.reported ≠ []) : (footLoop c guard pie bs y F fs).2.reported ≠ [] :=
  footLoop_preserves c guard pie bs y (fun g => g.reported ≠ []) F
    (fun g f _ hg => takeStep_reported_ne c bs y g f (Or.inl hg)) fs h

theorem updateArea_areaH_ne (c : FCtx) (g : FState) (hc : g.cur ≠ []) : (updateArea c g).1.areaH ≠ none := by
  unfold updateArea
  dsimp only
  rw [if_neg (by simpa using hc)]
  simp

theorem layoutFootnote_areaH_ne (c : FCtx) (g : FState) (f : Fn) : (layoutFootnote c g f).1.areaH ≠ none :=
  updateArea_areaH_ne c _ (by simp)

/-- **The line that keeps its footnotes ends above them** (C03 with footnotes: body text does not run into the
footnote area): when the footnote loop of a line ends with nothing postponed, every footnote it met was kept on the
page; then either the line had no footnote to lay out and the state is unchanged, or the area has a height and the
line — its bottom `y`, bottom padding/border included when it is the last of its box — does not overflow
`context.page_bottom` *as it is after those footnotes were laid out*, i.e. the top of the footnote area that now
holds them. -/
theorem footLoop_kept (c : FCtx) (guard pie : Bool) (bs y : Rat) (F : List Fn) (fs : FState)
    (hrep : (footLoop c guard pie bs y F fs).2.reported = []) :
    (footLoop c guard pie bs y F fs).2 = fs ∨
      ((footLoop c guard pie bs y F fs).2.areaH ≠ none ∧
        (ctxOf c (footLoop c guard pie bs y F fs).2).overflowsPage bs y = false) := by
  induction F generalizing fs with
  | nil => exact Or.inl rfl
  | cons f rest ih =>
    rcases footLoop_cons c guard pie bs y f rest fs with ⟨_, he⟩ | ⟨_, he⟩ | ⟨_, _, hov, o, he, _⟩
    · rw [he] at hrep ⊢; exact ih fs hrep
    · rw [he] at hrep ⊢
      -- the footnote was kept: a postponed one would leave `reported` non-empty
      have hno : ¬tookOver c bs y fs f = true := fun hov =>
        footLoop_reported_ne c guard pie bs y rest _ (takeStep_reported_ne c bs y fs f (Or.inr hov)) hrep
      have hts : takeStep c bs y fs f = (layoutFootnote c fs f).1 := if_neg hno
      rcases ih _ hrep with h1 | h1
      · right
        rw [h1, hts]
        simp only [tookOver, Bool.or_eq_true, not_or, Bool.not_eq_true] at hno
        exact ⟨layoutFootnote_areaH_ne c fs f, hno.2⟩
      · exact Or.inr h1
    · rw [he] at hrep
      exact absurd hrep (takeStep_reported_ne c bs y fs f (Or.inr hov))

/-- … and with the page-bottom invariant that is the top of the footnote area: `page_bottom = page height −
margin height of the area`. -/
theorem line_above_area_top (c : FCtx) (guard pie : Bool) (bs y : Rat) (F : List Fn) (fs fs' : FState)
    (hinv : PbInv c fs) (hF : ∀ f ∈ F, 0 ≤ f.height)
    (h : footLoop c guard pie bs y F fs = (.ok, fs')) (hrep : fs'.reported = []) (hne : fs' ≠ fs) :
    ∃ areaH, fs'.areaH = some areaH ∧
      overflows (c.pageH - max0 (c.area.marginHeight areaH) - bs) y = false := by
  have hinv' := footLoop_stable (pbInv_stable c) guard pie bs y F fs hF hinv
  have hk := footLoop_kept c guard pie bs y F fs (by rw [h]; exact hrep)
  rw [h] at hinv' hk
  rcases hk with h1 | ⟨ha, hfit⟩
  · exact absurd h1 hne
  · rcases hinv'.2.1 with ⟨hnone, _⟩ | ⟨a, ha', _, hpb⟩
    · exact absurd hnone ha
    · refine ⟨a, ha', ?_⟩
      simp only [Ctx.overflowsPage, ctxOf] at hfit
      rw [hpb] at hfit
      exact hfit

/-- The footnote area's margin box ends exactly at the bottom of the page box. -/
theorem area_at_page_bottom (a : AreaStyle) (pageH : Rat) (cur : List Fn) (o : AreaOut)
    (h : areaOut a pageH cur = some o) : o.y + (areaLayout a pageH cur).marginHeight = pageH := by
  unfold areaOut at h
  split at h
  · cases h
  · simp only [Option.some.injEq] at h
    subst h
    simp only
    have : (areaLayout a pageH cur).y = pageH := rfl
    rw [this]
    grind

/-- The footnotes of the area are stacked from its content top: the `i`-th starts where the previous ones end. -/
theorem area_stacked (y : Rat) (l : List Fn) :
    (areaKids y l).map (fun k => k.2.1) = (List.range l.length).map (fun i => y + sumHeights (l.take i)) := by
  induction l generalizing y with
  | nil => rfl
  | cons f rest ih =>
    simp only [areaKids, List.map_cons, List.length_cons, List.range_succ_eq_map, List.map_map]
    rw [ih]
    simp only [List.take_zero, sumHeights, List.cons.injEq, List.map_inj_left, Function.comp]
    refine ⟨by grind, ?_⟩
    intro i _
    simp only [List.take_succ_cons, sumHeights]
    grind

/-! ### a paragraph and the footnote area: the lines end above `page_bottom` as the layout leaves it -/

/-- **Body text does not run into the footnote area, paragraph level** (C03 with footnotes; the whole-layout form
needs the stacking of boxes under non-negative margins and is proved below for single-child chains only,
`single_chain_paginate`): for the layout of a paragraph started in
any state with exact bookkeeping — footnotes of earlier content already in the area, footnotes postponed from the
previous page — every line of the returned fragment, the first line excepted when the paragraph started an empty
page, ends above `context.page_bottom` *as the layout leaves it*: the page bottom minus the footnote area that
holds all footnotes taken so far, those called from this paragraph included (`PbX`: `page_bottom = pbOf cur`).
Through every footnote laid out, postponed (`footnote-policy` auto/line/block) or un-laid-out by `_break_line`. -/
theorem para_lines_above_footnotes (id n : Nat) (lineH : Rat) (st : PStyle) (calls : List Call) (hd : st.DecoOk)
    (hh : ∀ cl ∈ calls, 0 ≤ (cl.m : Rat) * cl.h) (hlh : 0 ≤ lineH) (c : FCtx) (idx : Nat)
    (y bs : Rat) (skip : Option Resume) (cb pie : Bool) (adjL : List Rat) (fs : FState) (hx : PbX c fs) (f : Frag)
    (hf : (layoutBoxF c (.para id n lineH st calls) idx y bs skip cb pie adjL fs).r.frag = some f) :
    let fs' := (layoutBoxF c (.para id n lineH st calls) idx y bs skip cb pie adjL fs).fs
    fs'.pageBottom = pbOf c fs'.cur ∧
    ∀ l ∈ placedLines f pie (.para id n lineH st), l.exempt = true ∨
      overflows (pbOf c fs'.cur - bs) l.bottom = false := by
  intro fs'
  have h1 : fs'.pageBottom = pbOf c fs'.cur :=
    (boxF_stable (pbX_stable c) _ (by simpa [HeightsOk] using hh) idx y bs skip cb pie adjL fs hx).2
  refine ⟨h1, ?_⟩
  intro l hl
  rcases para_fits_final id n lineH st calls hd hh hlh c idx y bs skip cb pie adjL fs hx f hf l hl with h | h
  · exact Or.inl h
  · right
    simp only [Ctx.overflowsPage, ctxOf] at h
    rw [← h1]
    exact h

/-- `pbOf`: with no footnote in the area the page bottom is the page box bottom; with some, it is the top of the
area's margin box (`areaOut.y`) — or the page box bottom when that top lies below it (margin box of negative
height: the clamp of repair 2efefde). -/
theorem pbOf_is_area_top (c : FCtx) (cur : List Fn) (o : AreaOut) (h : areaOut c.area c.pageH cur = some o) :
    pbOf c cur = if o.y ≤ c.pageH then o.y else c.pageH := by
  have hb := area_at_page_bottom c.area c.pageH cur o h
  unfold areaOut at h
  split at h
  · cases h
  · rename_i hne
    unfold pbOf
    rw [if_neg hne]
    unfold max0
    split <;> split <;> grind

/-! ### the footnote methods of `LayoutContext`, called in any order -/

/-- **`context.page_bottom` stays exact under any sequence of `layout_footnote` / `report_footnote` /
`unlayout_footnote` calls** (function level: the calls are compared one by one with the real `LayoutContext` by
`py/harness/pm_foot_ops.py`, in orders that no document produces): from the state in which a page starts, after
every call `page_bottom` is the page box bottom minus what the area holding the current footnotes takes (`pbOf`),
and never exceeds the page box bottom — for every `@footnote` style. -/
theorem context_page_bottom_exact (c : FCtx) (fns : List Fn) (ops : List FOp)
    (hh : ∀ op ∈ ops, 0 ≤ op.fn.height) :
    ∀ r ∈ applyOps c (pageStartState c fns) ops, r.1.pageBottom = pbOf c r.1.cur ∧ r.1.pageBottom ≤ c.pageH :=
  applyOps_exact c ops _ (pageStartState_pbx c fns) hh

/-- **No sequence of calls loses or duplicates a footnote box** (C01 at the level of the context): calls on the
footnotes the context knows leave every box exactly as often in `footnotes + current_page_footnotes +
reported_footnotes` as at the start of the page. -/
theorem context_conserves_footnotes (c : FCtx) (fns : List Fn) (ops : List FOp)
    (hin : ∀ op ∈ ops, op.fn ∈ fns) :
    ∀ r ∈ applyOps c (pageStartState c fns) ops, ∀ g, (allFns r.1).count g = fns.count g := by
  intro r hr g
  have := applyOps_conserve c ops (pageStartState c fns)
    (by intro op ho; simp [allFns, pageStartState, hin op ho]) r hr g
  simpa [allFns, pageStartState] using this

def pageSourceF (d : FDoc) (p : FPage) : FootBox := if p.page.type.blank then emptyRootF d.root else d.root

theorem heightsOk_emptyRootF (b : FootBox) : HeightsOk (emptyRootF b) := by
  cases b <;> simp [emptyRootF, HeightsOk, HeightsOkList]

/-- One page: the layout of its root box starts (after `make_page` placed the postponed footnotes) and ends in
states with exact bookkeeping, and the page shows the footnotes of the end state. -/
theorem remakePageF_pbx (d : FDoc) (hh : HeightsOk d.root) (index : Nat) (resume : Option Resume) (np : NextPage)
    (right : Bool) (pending reported : List Fn) (hrep : ∀ f ∈ reported, 0 ≤ f.height) (p : FPage)
    (hp : remakePageF d index resume np right pending reported = some p) :
    HeightsOk (pageSourceF d p) ∧
    PbX (pageCtxOf d index resume np right reported)
      (pageStart d (pageCtxOf d index resume np right reported) pending reported) ∧
    ∃ R, R = layoutBoxF (pageCtxOf d index resume np right reported) (pageSourceF d p) 0 0 0 resume false true []
        (pageStart d (pageCtxOf d index resume np right reported) pending reported) ∧
      R.r.frag = some p.page.root ∧ R.fs.cur = p.cur ∧ R.fs.reported = p.reported ∧
      p.area = areaOut (pageCtxOf d index resume np right reported).area d.pageH p.cur ∧
      PbX (pageCtxOf d index resume np right reported) R.fs := by
  obtain ⟨R, f, hR, hfrag, rfl⟩ := remakePageF_some d index resume np right pending reported p hp
  have hx0 : PbX (pageCtxOf d index resume np right reported)
      (pageStart d (pageCtxOf d index resume np right reported) pending reported) :=
    placeReported_pbx _ _ _ _ (pageStartState_pbx _ pending) hrep
  have hsrc : HeightsOk (if isBlankF d resume np right reported = true then emptyRootF d.root else d.root) := by
    split
    · exact heightsOk_emptyRootF _
    · exact hh
  refine ⟨hsrc, hx0, R, hR, hfrag, rfl, rfl, rfl, ?_⟩
  rw [hR]
  exact boxF_stable (pbX_stable _) _ hsrc 0 0 0 resume false true [] _ hx0

theorem decoOk_pageSourceF (d : FDoc) (hd : DecoOk d.root.erase) (p : FPage) : DecoOk (pageSourceF d p).erase := by
  unfold pageSourceF
  split
  · rw [erase_emptyRootF]; exact decoOk_emptyRoot _ hd
  · exact hd

/-- One page: the lines fit, and what the page postpones still has non-negative heights. -/
theorem remakePageF_line_fits (d : FDoc) (hd : DecoOk d.root.erase) (hh : HeightsOk d.root)
    (index : Nat) (resume : Option Resume) (np : NextPage) (right : Bool) (pending reported : List Fn)
    (hrep : ∀ f ∈ reported, 0 ≤ f.height) (p : FPage)
    (hp : remakePageF d index resume np right pending reported = some p) :
    (∀ l ∈ (placedLines p.page.root true (pageSourceF d p).erase).tail,
      l.y + l.lineH ≤ d.pageH * (1 + 1 / 1000000000)) ∧
    (∀ f ∈ p.reported, 0 ≤ f.height) := by
  obtain ⟨hsrc, hx0, R, hR, hfrag, _, hrep', _, hxR⟩ :=
    remakePageF_pbx d hh index resume np right pending reported hrep p hp
  constructor
  · intro l hl
    have hex := (placedLines_exempt p.page.root true (pageSourceF d p).erase).1 l hl
    rw [hR] at hfrag
    rcases boxF_fits _ (decoOk_pageSourceF d hd p) hsrc _ 0 0 0 resume false true [] _ hx0.1 _ hfrag l
      (List.mem_of_mem_tail hl) with h | h
    · rw [hex] at h; cases h
    · simp only [ctxH, pageCtx, pageCtxOf, Ctx.overflowsPage, overflows, PlacedLine.bottom] at h
      grind
  · rw [← hrep']; exact hxR.1.2.2

theorem areaOut_none (a : AreaStyle) (pageH : Rat) (cur : List Fn) (h : areaOut a pageH cur = none) :
    cur.isEmpty = true := by
  unfold areaOut at h
  split at h
  · assumption
  · cases h

/-- **When a page is done, `context.page_bottom` is the top of the footnote area put on it** (any `@footnote`
style, any box styles): the state in which the layout of the root box ends holds the page's footnotes, its
`page_bottom` is `pbOf` of them, and that is the `y` of the area rendered on the page (the page box bottom when the
page has no footnote, or when the area's margin box starts below it). With `para_lines_above_footnotes` this ties the bound the lines were checked against to the
box drawn on the page. -/
theorem page_bottom_is_area_top (d : FDoc) (hh : HeightsOk d.root) (index : Nat) (resume : Option Resume)
    (np : NextPage) (right : Bool) (pending reported : List Fn) (hrep : ∀ f ∈ reported, 0 ≤ f.height) (p : FPage)
    (hp : remakePageF d index resume np right pending reported = some p) :
    ∃ fsEnd : FState, fsEnd.cur = p.cur ∧
      fsEnd.pageBottom = pbOf (pageCtxOf d index resume np right reported) p.cur ∧
      (p.area = none → fsEnd.pageBottom = d.pageH) ∧
      (∀ o, p.area = some o → fsEnd.pageBottom = if o.y ≤ d.pageH then o.y else d.pageH) := by
  obtain ⟨_, _, R, _, _, hcur, _, harea, hxR⟩ := remakePageF_pbx d hh index resume np right pending reported hrep p hp
  have hpb : R.fs.pageBottom = pbOf (pageCtxOf d index resume np right reported) p.cur := by rw [← hcur]; exact hxR.2
  refine ⟨R.fs, hcur, hpb, ?_, ?_⟩
  · intro hnone
    rw [hpb, pbOf_empty _ _ (areaOut_none _ _ _ (harea ▸ hnone))]
    rfl
  · intro o ho
    rw [hpb]
    exact pbOf_is_area_top _ _ o (harea ▸ ho)

/-! ### body text and the footnote area, whole pages of single-chain documents -/

theorem single_emptyRootF (b : FootBox) (hl : LineHOk b) : Single (emptyRootF b) ∧ LineHOk (emptyRootF b) := by
  cases b with
  | para id n lineH st calls => simpa [emptyRootF, Single, LineHOk] using hl
  | block id st kids => simp [emptyRootF, Single, SingleList, LineHOk, LineHOkList]

/-- **Body text does not run into the footnote area** (C03 with footnotes), whole pages, for documents that are a
chain of boxes around one paragraph (`Single`: every block has at most one child — html > body > p, any
decorations, breaks, orphans/widows, any footnote policies, any `@footnote` styles): on every page made by
`make_page`, every line but the first ends above `context.page_bottom` as it is when the page is done, `pbOf` of
the page's footnotes — by `page_bottom_is_area_top` the top of the footnote area rendered on the page (the page box
bottom when there is none).  The general case needs, in addition, that sibling boxes are stacked (non-negative
margins); it is stated on the implementation's output by the judge `pm_foot_corr.overlap_violation`. -/
theorem single_chain_lines_above_area (d : FDoc) (hs : Single d.root) (hd : DecoOk d.root.erase)
    (hh : HeightsOk d.root) (hl : LineHOk d.root) (index : Nat) (resume : Option Resume) (np : NextPage)
    (right : Bool) (pending reported : List Fn) (hrep : ∀ f ∈ reported, 0 ≤ f.height) (p : FPage)
    (hp : remakePageF d index resume np right pending reported = some p) :
    ∀ l ∈ (placedLines p.page.root true (pageSourceF d p).erase).tail,
      overflows (pbOf (pageCtxOf d index resume np right reported) p.cur) (l.y + l.lineH) = false := by
  obtain ⟨hsrc, hx0, R, hR, hfrag, hcur, _, _, hxR⟩ :=
    remakePageF_pbx d hh index resume np right pending reported hrep p hp
  have hsl : Single (pageSourceF d p) ∧ LineHOk (pageSourceF d p) := by
    unfold pageSourceF
    split
    · exact single_emptyRootF _ hl
    · exact ⟨hs, hl⟩
  intro l hl'
  have hex := (placedLines_exempt p.page.root true (pageSourceF d p).erase).1 l hl'
  have hfit := boxF_chain _ hsl.1 (decoOk_pageSourceF d hd p) hsrc hsl.2 _ 0 0 0 resume false true [] _ hx0
  rw [← hR] at hfit
  rcases hfit _ hfrag l (List.mem_of_mem_tail hl') with h | h
  · rw [hex] at h; cases h
  · simp only [Ctx.overflowsPage, ctxOf, PlacedLine.bottom] at h
    rw [hxR.2, hcur] at h
    rw [Rat.sub_zero] at h
    exact h

/-- The layout context as far as `pbOf` looks at it: the `@footnote` style of the page's type and the page height. -/
def areaCtx (d : FDoc) (p : FPage) : FCtx :=
  { area := d.areaFor p.page.type.name, pageH := d.pageH, currentPage := 0, forcedBreak := false, tbl := [] }

theorem pbOf_ctx (c c' : FCtx) (cur : List Fn) (h1 : c.area = c'.area) (h2 : c.pageH = c'.pageH) :
    pbOf c cur = pbOf c' cur := by
  unfold pbOf; rw [h1, h2]

theorem remakePageF_name (d : FDoc) (index : Nat) (resume : Option Resume) (np : NextPage) (right : Bool)
    (pending reported : List Fn) (p : FPage) (hp : remakePageF d index resume np right pending reported = some p) :
    p.page.type.name = pageNameF d resume np right reported := by
  obtain ⟨_, _, _, _, rfl⟩ := remakePageF_some d index resume np right pending reported p hp
  rfl

/-- **… on all pages of a single-chain document**: on every page of the pagination, every line but the first ends
above `pbOf` of the page's own footnotes in the page type's `@footnote` style — the top of the footnote area
rendered on that page. -/
theorem single_chain_paginate (d : FDoc) (hs : Single d.root) (hd : DecoOk d.root.erase)
    (hh : HeightsOk d.root) (hl : LineHOk d.root) (fuel : Nat) (pages : List FPage)
    (h : paginateFoot d fuel = some pages) :
    ∀ p ∈ pages, ∀ l ∈ (placedLines p.page.root true (pageSourceF d p).erase).tail,
      overflows (pbOf (areaCtx d p) p.cur) (l.y + l.lineH) = false := by
  unfold paginateFoot at h
  refine makeAllPagesF_forall d (fun reported => ∀ f ∈ reported, 0 ≤ f.height) _ ?_ fuel 0 none _ _ _ [] pages
    (by simp) h
  intro index resume np right pending reported p hrep hp
  refine ⟨?_, (remakePageF_line_fits d hd hh index resume np right pending reported hrep p hp).2⟩
  intro l hl'
  rw [pbOf_ctx (areaCtx d p) (pageCtxOf d index resume np right reported) p.cur
    (by simp only [areaCtx, pageCtxOf]
        rw [remakePageF_name d index resume np right pending reported p hp]) rfl]
  exact single_chain_lines_above_area d hs hd hh hl index resume np right pending reported hrep p hp l hl'

/-- **Line fits, all pages of a footnote document** (C03): on every page, every line but possibly the first ends
above the bottom of the page box. -/
theorem paginate_line_fits (d : FDoc) (hd : DecoOk d.root.erase) (hh : HeightsOk d.root)
    (fuel : Nat) (pages : List FPage) (h : paginateFoot d fuel = some pages) :
    ∀ p ∈ pages, ∀ l ∈ (placedLines p.page.root true (pageSourceF d p).erase).tail,
      l.y + l.lineH ≤ d.pageH * (1 + 1 / 1000000000) := by
  unfold paginateFoot at h
  exact makeAllPagesF_forall d (fun reported => ∀ f ∈ reported, 0 ≤ f.height) _
    (fun index resume np right pending reported p hrep hp =>
      remakePageF_line_fits d hd hh index resume np right pending reported hrep p hp)
    fuel 0 none _ _ _ [] pages (by simp) h

/-! ### non-vacuity -/

example : DecoOk C01Foot.exDoc.root.erase ∧ HeightsOk C01Foot.exDoc.root := by
  refine ⟨?_, ?_⟩
  · simp [C01Foot.exDoc, C01Foot.exDocOf, FootBox.erase, eraseList, DecoOk, DecoOkList, PStyle.DecoOk, C01Foot.exSt]
    decide +kernel
  · simp only [C01Foot.exDoc, C01Foot.exDocOf, HeightsOk, HeightsOkList, List.mem_cons, List.not_mem_nil, or_false,
      forall_eq_or_imp, forall_eq, and_true]
    decide +kernel

/-- The lines of `exDoc`'s pages (exempt?, line, y), the first of each page exempt … -/
example : (paginateFoot C01Foot.exDoc 20).map (fun ps => ps.map (fun p =>
      (placedLines p.page.root true (pageSourceF C01Foot.exDoc p).erase).map (fun l => (l.exempt, l.line, l.y)))) =
    some [[(true, 0, 0), (false, 1, 10), (false, 2, 20)], [(true, 3, 0)], [(true, 4, 0)]] := by decide +kernel

/-- … and the footnote areas (y, height) on the 40px pages: 10px at y = 30 under lines ending at 30, etc. -/
example : (paginateFoot C01Foot.exDoc 20).map (fun ps => ps.map (fun p => p.area.map (fun a => (a.y, a.h)))) =
    some [some (30, 10), some (20, 20), some (10, 30)] := by decide +kernel

/-- `line_above_area_top` is not vacuous: a line ending at 30 on a 40px page keeps its 10px footnote (area height
10, top at 30, nothing postponed); with a 20px footnote the footnote is postponed instead. -/
example :
    let c : FCtx := { area := C01Foot.exArea, pageH := 40, currentPage := 1, forcedBreak := false, tbl := [] }
    let f : Fn := ⟨1, 1, 10, .auto, ""⟩
    let g : Fn := ⟨2, 2, 10, .auto, ""⟩
    let fs : FState := { pending := [f, g], cur := [], reported := [], pageBottom := 40, areaH := none }
    ((footLoop c true false 0 30 [f] fs).1, (footLoop c true false 0 30 [f] fs).2.reported.length,
      (footLoop c true false 0 30 [f] fs).2.areaH, (footLoop c true false 0 30 [f] fs).2.pageBottom) =
      (FootOut.ok, 0, some 10, 30) ∧
    (footLoop c true false 0 30 [g] fs).2.reported.length = 1 := by
  decide +kernel

/-- `para_lines_above_footnotes` on page 1 of `exDoc` (40px page): the paragraph keeps footnote 1 (10px) and
postpones footnote 2; `page_bottom` ends at 30 = the area top, and the three lines end at 10, 20, 30. -/
example :
    let c : FCtx := pageCtxOf C01Foot.exDoc 0 none { brk := none, page := some "" } true []
    let R := layoutBoxF c (.para 1 5 10 C01Foot.exSt [⟨1, 1, 1, 10, .auto⟩, ⟨2, 2, 2, 10, .auto⟩, ⟨4, 3, 3, 10, .line⟩])
      0 0 0 none false true []
      { pending := boxFns C01Foot.exDoc.root, cur := [], reported := [], pageBottom := 40, areaH := none }
    (R.fs.pageBottom, pbOf c R.fs.cur, R.fs.cur.map (·.fid), R.fs.reported.map (·.fid),
      R.r.frag.map (fun f => (placedLines f true (.para 1 5 10 C01Foot.exSt)).map (fun l => l.bottom))) =
    (30, 30, [1], [2], some [10, 20, 30]) := by decide +kernel

/-- `single_chain_lines_above_area` is not vacuous: `exDoc` (html > body > one paragraph of 5 lines, 3 footnotes,
one of them `footnote-policy: line`) is a single chain; per page the line bottoms and the area top. -/
example : Single C01Foot.exDoc.root ∧ LineHOk C01Foot.exDoc.root ∧
    (paginateFoot C01Foot.exDoc 20).map (fun ps => ps.map (fun p =>
      ((placedLines p.page.root true (pageSourceF C01Foot.exDoc p).erase).map (fun l => l.bottom),
        p.area.map (fun a => a.y)))) =
    some [([10, 20, 30], some 30), ([10], some 20), ([10], some 10)] := by
  refine ⟨by simp [C01Foot.exDoc, C01Foot.exDocOf, Single, SingleList], ?_, by decide +kernel⟩
  simp only [C01Foot.exDoc, C01Foot.exDocOf, LineHOk, LineHOkList, and_true]
  decide +kernel

/-- `context_page_bottom_exact` and `context_conserves_footnotes` are not vacuous: a 60px page, `@footnote{margin-top:-14px}`, footnotes 1 (10px) and 2 (30px):
lay 1, lay 2, report 2, unlay 1, report 1 (invalid: 1 is waiting again — the trace stops). Per call: `page_bottom`,
area height, and the three lists. -/
example :
    let c : FCtx := { area := { C01Foot.exArea with mt := -14 }, pageH := 60, currentPage := 1, forcedBreak := false,
                      tbl := [] }
    let f1 : Fn := ⟨1, 1, 10, .auto, ""⟩
    let f2 : Fn := ⟨2, 3, 10, .auto, ""⟩
    (applyOps c (pageStartState c [f1, f2]) [.lay f1, .lay f2, .report f2, .unlay f1, .report f1]).map
      (fun r => (r.1.pageBottom, r.1.areaH, r.1.cur.map (·.fid), r.1.reported.map (·.fid), r.1.pending.map (·.fid))) =
    [(60, some 10, [1], [], [2]), (34, some 40, [1, 2], [], []), (60, some 10, [1], [2], []),
     (60, none, [], [2], [1])] := by decide +kernel

end Wp.C03FootGeo
