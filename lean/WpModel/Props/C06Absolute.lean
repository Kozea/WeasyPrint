/-
C06 — "relative values compute against the correct reference", the part the document oracle only
samples (`cascade_docs.leftover_unit`: no em / rem / ex / ch / pt / pc / in / cm / mm / q may be left
in a computed value), lifted to all inputs of the model:

* `length_absolute_result`: whatever `computed_values.length` returns is a keyword, a number, a
  `px` dimension or a dimension in a unit outside that list (`%`, `fr`, …) — for every style, value,
  `font_size` argument and `pixels_only` flag;
* `style_length_keys_absolute`: every chain of elements, any cascaded value on each (value, `inherit`,
  `initial`, `var()` solved or failed), any depth of inheritance, `AnonymousStyle` included — the link
  from the function-level model to the document-level model (an instance of `styleAtWith_closed`).
* `length_tuples_absolute`, `border_image_width_absolute`, `track_breadth_absolute`: the same for the
  items of `length_tuple`, `length_or_percentage_tuple` / `border_radius`, `border_image_width` /
  `mask_border_width` and `_compute_track_breadth`, for all inputs.
`leftover_units_handled` is stated on the generated `LENGTHS_TO_PIXELS`: removing a unit from the
table in the source breaks it.
-/
import WpModel.Props.C06
namespace Wp.C06
open Wp Wp.Cascade Wp.Computed Wp.Style Wp.Gen.Units

/-- The units the document oracle (`cascade_docs.leftover_unit`) refuses in a computed value. -/
def leftoverUnits : List String := ["em", "rem", "ex", "ch", "pt", "pc", "in", "cm", "mm", "q"]

/-- "No relative or non-px length": the value is not a `Dimension` in one of `leftoverUnits`. -/
def absoluteTop (v : Val) : Bool :=
  match v with
  | .dim _ u => !(leftoverUnits.contains u)
  | _ => true

theorem leftover_units_handled :
    ∀ u ∈ leftoverUnits, (lookup u lengthsToPixels).isSome = true ∨
      (u == "em" || u == "ex" || u == "ch" || u == "rem") = true := by
  decide +kernel

theorem length_absolute_result (env : Env) (v : Val) (fs : Option Rat) (po : Bool) (r : Val)
    (h : length env v fs po = .ok r) : absoluteTop r = true := by
  rcases length_result env v fs po r h with ⟨x, rfl⟩ | ⟨rfl, hv⟩
  · cases po <;> rfl
  · cases r with
    | dim q u =>
      -- kept as it is: the unit is neither absolute nor font-relative, so none of `leftoverUnits`
      obtain ⟨hl, hrel⟩ := hv q u rfl
      cases hc : leftoverUnits.contains u with
      | false => simp only [absoluteTop, hc, Bool.not_false]
      | true =>
        rcases leftover_units_handled u (List.contains_iff_mem.mp hc) with h1 | h1
        · rw [hl] at h1; cases h1
        · rw [hrel] at h1; cases h1
    | _ => rfl

theorem initial_values_absolute : ∀ p ∈ initialValues, absoluteTop p.2 = true := by decide +kernel

theorem initialValue_absolute (key : String) (v : Val) (h : initialValue key = .ok v) : absoluteTop v = true :=
  initial_values_absolute _ (initialValue_mem h)

/-- **Document level.**  For every chain of elements (the element, its ancestors, the root) with
arbitrary cascaded declarations, every property whose computing function is `length` — except
`text-decoration-thickness` (`hk`), which `__missing__` merges with the parent's — has a computed
value without a font-relative or non-px absolute unit: on the element itself, on an element without
any declaration (`AnonymousStyle`) and through any depth of inheritance.  This is the clause the
document oracle samples (`cascade_docs.leftover_unit`), for all inputs of the model. -/
theorem style_length_keys_absolute (root : Unit → Except CErr Rat) (ex ch : Rat) (key : String)
    (hcomp : lookup key computerFunctions = some "length") (hk : isTextDecoration key = false) :
    ∀ (chain : List Elem) (v : Val), styleAtWith root ex ch chain key = .ok v → absoluteTop v = true := by
  obtain ⟨hf, hd, hp, hpre⟩ := length_key_plain hcomp
  exact styleAtWith_closed (absoluteTop · = true) root ex ch key ⟨hk, hp⟩ hf hd hpre
    (initialValue_absolute key) rfl
    fun env w v h => length_absolute_result env w none false v (compute_length env key w hcomp ▸ h)

/-- The same for `style_for(element)[key]` of a chain (`Style.styleAt`). -/
theorem style_for_length_keys_absolute (ex ch : Rat) (key : String)
    (hcomp : lookup key computerFunctions = some "length") (hk : isTextDecoration key = false)
    (chain : List Elem) (v : Val) (h : styleAt ex ch chain key = .ok v) : absoluteTop v = true :=
  style_length_keys_absolute _ ex ch key hcomp hk chain v h

-- non-vacuity: the hypotheses hold for `width`, `text_indent`, `margin_left` …, and a chain with em / rem / inherit /
-- a failed var() computes to px values
example : lookup "width" computerFunctions = some "length" ∧ isTextDecoration "width" = false ∧
    lookup "text_indent" computerFunctions = some "length" := by decide +kernel
example :
    let root : Elem := ⟨[("font_size", .val (.dim 20 "px")), ("text_indent", .val (.dim 2 "em"))], none, [], none⟩
    let mid : Elem := ⟨[("text_indent", .val (.kw "inherit")), ("width", .val (.dim 3 "rem"))], none, [], none⟩
    let leaf : Elem := ⟨[("text_indent", .pending none), ("width", .pending (some (.dim 1 "pt")))], none, [], none⟩
    (styleAt (1 / 2) (1 / 2) [leaf, mid, root] "text_indent").toOption = some (.dim 40 "px") ∧
    (styleAt (1 / 2) (1 / 2) [mid, root] "width").toOption = some (.dim 60 "px") ∧
    (styleAt (1 / 2) (1 / 2) [leaf, mid, root] "width").toOption = some (.dim (4 / 3) "px") := by
  decide +kernel

/-- One level down: every item of a tuple value is absolute (a flat tuple of strings has no lengths). -/
def absoluteItems (v : Val) : Bool :=
  match v with
  | .tup l => l.all absoluteTop
  | v => absoluteTop v

theorem mapLength_absolute (env : Env) (po : Bool) (l r : List Val) (h : mapLength env po l = .ok r) :
    ∀ x ∈ r, absoluteTop x = true := fun x hx =>
  let ⟨v, _, hv⟩ := (List.mapM_eq_ok_rel2 (mapLength_eq_mapM env po l ▸ h)).mem_right x hx
  length_absolute_result env v none po _ hv

theorem mkTuple_absoluteItems (l : List Val) (h : ∀ x ∈ l, absoluteTop x = true) :
    absoluteItems (mkTuple l) = true := by
  unfold mkTuple
  split
  · rfl
  · simp only [absoluteItems, List.all_eq_true]; exact h

/-- `length_tuple` (`border-spacing`, `size`, `clip`), `length_or_percentage_tuple` (`transform-origin`)
and `border_radius`: no item of the computed tuple keeps a relative or non-px unit. -/
theorem length_tuples_absolute (env : Env) (values r : Val) :
    (lengthTuple env values = .ok r → absoluteItems r = true) ∧
    (lengthOrPercentageTuple env values = .ok r → absoluteItems r = true) := by
  -- both are `mkTuple` of a `mapLength`, with `pixels_only` set or not
  refine ⟨fun h => ?_, fun h => ?_⟩
  all_goals
    obtain ⟨l, _, h⟩ := Except.bind_eq_ok h
    obtain ⟨items, hm, h⟩ := Except.bind_eq_ok h
    cases h
    exact mkTuple_absoluteItems items (mapLength_absolute env _ l items hm)

/-- `_compute_track_breadth` (grid track sizes): what it returns is absolute (`fr` is not a length). -/
theorem track_breadth_absolute (env : Env) (value r : Val)
    (h : computeTrackBreadth env value = .ok (some r)) : absoluteTop r = true := by
  revert h
  fun_cases computeTrackBreadth env value <;> intro h
  case case1 => cases h; rfl
  case case3 hu =>
    cases h
    rw [eq_of_beq hu]
    show (!(leftoverUnits.contains "fr")) = true
    decide
  case case4 =>
    cases hl : length env (.dim _ _) with
    | error err => rw [hl] at h; cases h
    | ok x => rw [hl] at h; cases h; exact length_absolute_result env _ none false _ hl
  all_goals cases h

/-- `border_image_width` / `mask_border_width` (the repaired finding, for all inputs): every item of
the result is a number, `auto`, a percentage or a px length. -/
theorem width_items_absolute (env : Env) :
    ∀ (l r : List Val), widthItems env l = .ok r → ∀ x ∈ r, absoluteTop x = true := by
  intro l
  induction l with
  | nil => intro r h x hx; cases h; cases hx
  | cons v rest ih =>
    intro r h x hx
    -- every branch computes one item for `v` and conses it on the items of the rest
    have hK : ∀ item, absoluteTop item = true →
        (do let t ← widthItems env rest; pure (item :: t)) = .ok r → absoluteTop x = true := by
      intro item hi hk
      obtain ⟨tl, ht, hk⟩ := Except.bind_eq_ok hk
      cases hk
      rcases List.mem_cons.mp hx with rfl | hx'
      · exact hi
      · exact ih tl ht x hx'
    rw [widthItems] at h
    split at h
    · rename_i ha
      exact hK v (by cases v <;> simp [Val.isKw] at ha <;> rfl) h
    · obtain ⟨⟨q, unit⟩, _, h⟩ := Except.bind_eq_ok h
      cases unit with
      | none => exact hK (.num q) rfl h
      | some u =>
        obtain ⟨item, hl, h⟩ := Except.bind_eq_ok h
        exact hK item (length_absolute_result env v none false _ hl) h

private theorem padFour_mem (l : List Val) (x : Val) (h : x ∈ padFour l) : x ∈ l := by
  unfold padFour at h
  split at h
  · simp_all
  · simp only [List.mem_cons, List.mem_nil_iff, or_false] at h ⊢
    rcases h with h | h | h | h <;> simp [h]
  · simp only [List.mem_cons, List.mem_nil_iff, or_false] at h ⊢
    rcases h with h | h | h | h <;> simp [h]
  · exact h

/-- `border_image_width(style, name, values)`: no side of the result keeps a relative or non-px unit. -/
theorem border_image_width_absolute (env : Env) (values r : Val)
    (h : borderImageWidth env values = .ok r) : absoluteItems r = true := by
  obtain ⟨l, _, h⟩ := Except.bind_eq_ok h
  obtain ⟨items, hm, h⟩ := Except.bind_eq_ok h
  cases h
  exact mkTuple_absoluteItems _ (fun x hx => width_items_absolute env l items hm x (padFour_mem items x hx))


private def exEnv : Env :=
  { fontSize := fun _ => .ok 10, rootFontSize := fun _ => .ok 16, parentFontSize := none,
    parentFontWeight := none, exRatio := 1 / 2, chRatio := 1 / 2, get := fun _ => .error (.keyError "k"),
    specified := fun _ => .error (.keyError "k"), isRoot := true, pseudo := false }

-- non-vacuity: `border-spacing: 1em 2rem`, `border-image-width: 2em 3 auto 10%`, a track breadth in pt
example :
    (lengthTuple exEnv (.tup [.dim 1 "em", .dim 2 "rem"])).toOption = some (.tup [.num 10, .num 32]) ∧
    (borderImageWidth exEnv (.tup [.dim 2 "em", .dim 3 "none", .kw "auto", .dim 10 "%"])).toOption
      = some (.tup [.dim 20 "px", .num 3, .kw "auto", .dim 10 "%"]) ∧
    absoluteItems (.tup [.dim 20 "px", .num 3, .kw "auto", .dim 10 "%"]) = true ∧
    absoluteItems (.tup [.dim 2 "em"]) = false ∧
    (computeTrackBreadth exEnv (.dim 3 "pt")).toOption = some (some (.dim 4 "px")) := by
  decide +kernel

end Wp.C06
