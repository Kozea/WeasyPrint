/-
C11 — floats met inside lines, in full: every document the flow model lays out (block-level floats,
floats met inside the lines of paragraphs, lines that are started again, BFC roots, images, tables, blocks) keeps the
float list of the formatting context pairwise disjoint with tops in order, and the margin boxes the model reports
for *all* floats (block-level and inline) are exactly that list: no two floats overlap and no float is higher than
an earlier one.  Rests on two facts of the code: floats are not moved with their line (330f66c), and a line that is
started again restores the float list in place (58d1f9d; Model/FloatFlow.lean, head).
-/
import WpModel.Props.C11Flow

namespace Wp.C11
open Wp Wp.Floats

/-- A block-level float of the flow: the float list grows by its margin box, which is what is reported. -/
theorem flowFloat_inv (cb : CB) (st st' : FlowState) (b : ABox) (pl : Placed) (hb : GoodFloat b)
    (hinv : FloatsInv st.shapes) (h : flowFloat cb st b = .ok (st', pl)) :
    FloatsInv st'.shapes ∧ ∃ s, st'.shapes = st.shapes ++ [s] ∧ pl = .float s.x s.y s.mw s.mh := by
  unfold flowFloat at h
  split at h
  · simp at h
  · rename_i b' sh1 hpl
    simp only [Except.ok.injEq, Prod.mk.injEq] at h
    obtain ⟨j2, j1⟩ := floatPlace_inv st.shapes _ cb b' sh1 (GoodFloat_move b cb.cx _ hb) hinv hpl
    rw [← h.1, ← h.2]
    exact ⟨j1, b'.toShape, j2, rfl⟩

/-- The margin boxes of the floats of a line that were laid out by the first pass. -/
abbrev keptRects (marks : List (ABox × Option (Rat × Rat × Rat × Rat))) : List (Rat × Rat × Rat × Rat) :=
  marks.filterMap (·.2)

/-- Marks as the first pass leaves them: once a float waits, all the later ones wait. -/
abbrev OkMarks (marks : List (ABox × Option (Rat × Rat × Rat × Rat))) : Prop :=
  marks.Pairwise fun a b => a.2 = none → b.2 = none

/-- First pass over the floats of a line: the float list stays well formed, grows exactly by the floats laid out
on the line (in order), and the marks have the "placed prefix, waiting suffix" shape. -/
theorem inlinePass1_inv (cb : CB) (lineY : Rat) (shapes : List Shape) (rem : Rat) (w : Bool) (bs : List ABox)
    (shapes' : List Shape) (marks : List (ABox × Option (Rat × Rat × Rat × Rat)))
    (hg : ∀ b ∈ bs, GoodFloat b) (hinv : FloatsInv shapes)
    (h : inlinePass1 cb lineY shapes rem w bs = .ok (shapes', marks)) :
    FloatsInv shapes' ∧ (∃ added, shapes' = shapes ++ added ∧ added.map Shape.rect = keptRects marks) ∧
    OkMarks marks ∧ (∀ m ∈ marks, GoodFloat m.1) := by
  fun_induction inlinePass1 cb lineY shapes rem w bs generalizing shapes' marks with
  | case1 =>
    cases h
    exact ⟨hinv, ⟨[], by simp, rfl⟩, .nil, by simp⟩
  | case3 shapes rem w b rest _ sh o hrec ih =>
    cases h
    simp only [List.forall_mem_cons] at hg
    have hall : ∀ e ∈ o, e.2 = none := (inline_waiting_is_suffix cb lineY shapes rem rest _ o hrec).2
    obtain ⟨i1, i2, i4, i5⟩ := ih sh o hg.2 hinv hrec
    exact ⟨i1, i2, List.pairwise_cons.mpr ⟨fun e he _ => hall e he, i4⟩, List.forall_mem_cons.mpr ⟨hg.1, i5⟩⟩
  | case6 shapes rem w b rest _ b' sh1 hpl sh o hrec ih =>
    cases h
    simp only [List.forall_mem_cons] at hg
    obtain ⟨j2, j1⟩ := floatPlace_inv shapes _ cb b' sh1 (GoodFloat_move b cb.cx lineY hg.1) hinv hpl
    obtain ⟨i1, ⟨added, i2, i3⟩, i4, i5⟩ := ih sh o hg.2 j1 hrec
    exact ⟨i1, ⟨b'.toShape :: added, by rw [i2, j2]; simp, congrArg (_ :: ·) i3⟩,
      List.pairwise_cons.mpr ⟨fun _ _ h => (nomatch h), i4⟩, List.forall_mem_cons.mpr ⟨hg.1, i5⟩⟩
  | _ => cases h

/-- End of the line: the reported floats of the line are the ones kept by the first pass followed by the ones laid
out now, and the float list grows exactly by the latter. -/
theorem inlinePass2_inv (cb : CB) (lineBottom : Rat) (shapes : List Shape)
    (marks : List (ABox × Option (Rat × Rat × Rat × Rat))) (shapes' : List Shape)
    (rects : List (Rat × Rat × Rat × Rat))
    (hok : OkMarks marks) (hg : ∀ m ∈ marks, GoodFloat m.1) (hinv : FloatsInv shapes)
    (h : inlinePass2 cb lineBottom shapes marks = .ok (shapes', rects)) :
    FloatsInv shapes' ∧ ∃ added, shapes' = shapes ++ added ∧ rects = keptRects marks ++ added.map Shape.rect := by
  fun_induction inlinePass2 cb lineBottom shapes marks generalizing shapes' rects with
  | case1 =>
    cases h
    exact ⟨hinv, [], by simp, rfl⟩
  | case3 shapes b r0 rest sh out hrec ih =>
    cases h
    obtain ⟨i1, added, i2, i3⟩ := ih sh out (List.pairwise_cons.mp hok).2 (fun m hm => hg m (by simp [hm])) hinv hrec
    exact ⟨i1, added, i2, congrArg (r0 :: ·) i3⟩
  | case6 shapes b rest b' sh1 hpl sh out hrec ih =>
    cases h
    -- every later float waits too: nothing more is kept, the rest is laid out from here
    obtain ⟨hrest, hok'⟩ := List.pairwise_cons.mp hok
    have hk : keptRects rest = [] := List.filterMap_eq_nil_iff.mpr fun e he => hrest e he rfl
    obtain ⟨j2, j1⟩ := floatPlace_inv shapes _ cb b' sh1
      (GoodFloat_move b cb.cx lineBottom (hg (b, none) (by simp))) hinv hpl
    obtain ⟨i1, added, i2, i3⟩ := ih sh out hok' (fun m hm => hg m (by simp [hm])) j1 hrec
    exact ⟨i1, b'.toShape :: added, by rw [i2, j2]; simp, by
      simp [hk, i3, Shape.rect, ABox.toShape]⟩
  | _ => cases h

/-- What `get_next_linebox` returns is what the first pass over the line's floats left, started from the float list
from before the line at some position — whatever passes were abandoned before. -/
theorem lineLoop_ok (cb : CB) (strut : Rat) (align : Align) (l : LineSpec) (shapes0 : List Shape) (fuel : Nat)
    (px py avail lbw cand : Rat) (t : LineTry)
    (h : lineLoop cb strut align l shapes0 fuel px py avail lbw cand = .ok t) :
    ∃ y rem, inlinePass1 cb y shapes0 rem false l.floats = .ok (t.shapes, t.marks) := by
  fun_induction lineLoop cb strut align l shapes0 fuel px py avail lbw cand with
  | case4 => cases h; exact ⟨_, _, by assumption⟩  -- the line fits the candidate height
  | case6 => cases h; exact ⟨_, _, by assumption⟩  -- the line stays where it is
  | case7 => rename_i ih; exact ih h               -- the line is started again
  | _ => cases h

theorem nextLinebox_ok (cb : CB) (strut : Rat) (align : Align) (shapes : List Shape) (l : LineSpec) (y : Rat)
    (t : LineTry) (h : nextLinebox cb strut align shapes l y = .ok t) :
    ∃ y' rem, inlinePass1 cb y' shapes rem false l.floats = .ok (t.shapes, t.marks) := by
  unfold nextLinebox at h
  simp only at h
  split at h
  · cases h
  · exact lineLoop_ok _ _ _ _ _ _ _ _ _ _ _ _ h

/-- All the lines of a paragraph: the float list stays well formed and grows exactly by the floats reported for
the lines, in document order. -/
theorem layoutLines_inv (cb : CB) (fs : Rat) (align : Align) (shapes : List Shape) (ls : List LineSpec)
    (hg : ∀ l ∈ ls, ∀ b ∈ l.floats, GoodFloat b) (y : Rat) (shapes' : List Shape) (out : List PlacedLine)
    (y' : Rat) (hinv : FloatsInv shapes)
    (h : layoutLines cb fs align shapes ls y = .ok (shapes', out, y')) :
    FloatsInv shapes' ∧ ∃ added, shapes' = shapes ++ added ∧
      (out.map (·.floats)).flatten = added.map Shape.rect := by
  fun_induction layoutLines cb fs align shapes ls y generalizing shapes' out y' with
  | case1 => cases h; exact ⟨hinv, [], by simp, by simp⟩
  | case5 shapes l rest y t ht shapes2 rects hp2 shapes3 restOut y3 hrec ih =>
    cases h
    simp only [List.forall_mem_cons] at hg
    obtain ⟨y1, rem, hp1⟩ := nextLinebox_ok cb fs align shapes l y t ht
    obtain ⟨l1, ⟨a1, e1, s1⟩, l3, l4⟩ := inlinePass1_inv cb y1 shapes rem false l.floats _ _ hg.1 hinv hp1
    obtain ⟨k1, a2, e2, k3⟩ := inlinePass2_inv cb _ t.shapes t.marks shapes2 rects l3 l4 l1 hp2
    obtain ⟨m1, a3, e3, m3⟩ := ih hg.2 _ _ _ k1 hrec
    refine ⟨m1, a1 ++ a2 ++ a3, by rw [e3, e2, e1]; simp, ?_⟩
    simp only [List.map_cons, List.flatten_cons, List.map_append]
    rw [k3, m3, s1]
  | _ => cases h

/-- The items of the full theorem: every float — block-level or met inside a line — has a margin box with area. -/
def ItemOkAll (cb : CB) : Item → Prop
  | .float b => GoodFloat b
  | .floatSpec f => GoodFloat (floatResolve f cb.w)
  | .para _ _ _ lines _ _ => ∀ l ∈ lines, ∀ b ∈ l.floats, GoodFloat b
  | _ => True

/-- The margin boxes of *all* the floats among the placed items, in document order: block-level floats and the
floats met inside the lines of paragraphs. -/
def allFloatRects : List Placed → List (Rat × Rat × Rat × Rat)
  | [] => []
  | .float x y mw mh :: rest => (x, y, mw, mh) :: allFloatRects rest
  | .para lines :: rest => (lines.map (·.floats)).flatten ++ allFloatRects rest
  | _ :: rest => allFloatRects rest

/-- The items of the event theorem: every float has a margin box with area, and a block-level box placed by
`avoid_collisions` is an image or a table (the two classes `Item.replaced` stands for), not a line box. -/
def ItemOkEv (cb : CB) : Item → Prop
  | .replaced kind _ _ _ _ _ => kind ≠ .line
  | it => ItemOkAll cb it

theorem ItemOkEv.all {cb : CB} {it : Item} (h : ItemOkEv cb it) : ItemOkAll cb it := by
  cases it with
  | replaced kind c w h0 ml mr => trivial
  | _ => exact h

/-- The border box of a placed BFC root, image or table. -/
def placedBox : Placed → Option (Rat × Rat × Rat × Rat)
  | .bfc x y w h => some (x, y, w, h)
  | .replaced x y w h => some (x, y, w, h)
  | _ => none

/-- **What one child of the container does to the float context**: the float list stays well formed and grows
exactly by the floats reported for the child; a BFC root, image or table lies over no float. -/
theorem flowStep_spec (cb : CB) (st st' : FlowState) (it : Item) (pl : Placed)
    (hit : ItemOkAll cb it) (hinv : FloatsInv st.shapes) (h : flowStep cb st it = .ok (st', pl)) :
    FloatsInv st'.shapes ∧
    (∃ added, st'.shapes = st.shapes ++ added ∧ added.map Shape.rect = allFloatRects [pl]) ∧
    (ItemOkEv cb it → ∀ x y w ht, placedBox pl = some (x, y, w, ht) → 0 ≤ ht →
      ∀ s ∈ st'.shapes, ¬ Overlaps x y w ht s) := by
  have hfloat : ∀ b, GoodFloat b → flowFloat cb st b = .ok (st', pl) →
      FloatsInv st'.shapes ∧
      (∃ added, st'.shapes = st.shapes ++ added ∧ added.map Shape.rect = allFloatRects [pl]) ∧ placedBox pl = none :=
      fun b hb hfl => by
    obtain ⟨j1, s, j2, rfl⟩ := flowFloat_inv cb st st' b pl hb hinv hfl
    exact ⟨j1, ⟨[s], j2, rfl⟩, rfl⟩
  have nobox : placedBox pl = none → ItemOkEv cb it → ∀ x y w ht, placedBox pl = some (x, y, w, ht) → 0 ≤ ht →
      ∀ s ∈ st'.shapes, ¬ Overlaps x y w ht s := fun h0 _ _ _ _ _ h1 => by
    rw [h0] at h1; cases h1
  cases it with
  | float b => exact (hfloat b hit h).imp_right (.imp_right nobox)
  | floatSpec f => exact (hfloat _ hit h).imp_right (.imp_right nobox)
  | para c fs align lines mt mb =>
    simp only [flowStep] at h
    split at h
    · cases h
    · rename_i shapes' placed y' hl
      cases h
      obtain ⟨i1, added, i2, i3⟩ := layoutLines_inv cb fs align st.shapes lines hit _ _ _ _ hinv hl
      exact ⟨i1, ⟨added, i2, by simp [allFloatRects, i3]⟩, nobox rfl⟩
  | bfc c width h0 ml mr mt mb =>
    simp only [flowStep] at h
    split at h
    · cases h
    · rename_i p hp
      cases h
      simp only [apply_ite FlowState.shapes, ite_self]
      refine ⟨hinv, ⟨[], by simp, rfl⟩, fun _ x y w ht hbox hh => ?_⟩
      cases hbox
      -- not `exact`: against the goal the box `_` is unified through the statement before `hp` gives it (slow)
      have := avoided_box_no_overlap st.shapes _ cb p hp hh hinv.1 nofun
      exact this
  | block c h0 mt mb =>
    cases h
    simp only [apply_ite FlowState.shapes, ite_self]
    exact ⟨hinv, ⟨[], by simp, rfl⟩, fun _ _ _ _ _ hbox => nomatch hbox⟩
  | replaced kind c w h0 ml mr =>
    simp only [flowStep] at h
    split at h
    · cases h
    · rename_i p hp
      cases h
      refine ⟨hinv, ⟨[], by simp, rfl⟩, fun hk x y w ht hbox hh => ?_⟩
      cases hbox
      have := avoided_box_no_overlap st.shapes _ cb p hp hh hinv.1 hk
      rwa [Rat.add_zero] at this


private theorem allFloatRects_cons (pl : Placed) (rest : List Placed) :
    allFloatRects (pl :: rest) = allFloatRects [pl] ++ allFloatRects rest := by
  cases pl <;> simp [allFloatRects]

/-- **Every document, every float**: whatever mixture of block-level floats, paragraphs with floats met inside
their lines (any side, size, margins, `clear`, empty border boxes; lines that are started again included), BFC
roots, images, tables and blocks, the list of floats of the formatting context stays pairwise disjoint with tops in
document order, and the margin boxes reported for all the floats are, in document order, exactly what was added to
it. -/
theorem flow_all_floats (cb : CB) (items : List Item) (st : FlowState) (out : List Placed)
    (hit : ∀ it ∈ items, ItemOkAll cb it) (hinv : FloatsInv st.shapes)
    (h : flowFrom cb st items = .ok out) :
    ∃ shapes', FloatsInv shapes' ∧ floatsOk shapes' = true ∧
      shapes'.map Shape.rect = st.shapes.map Shape.rect ++ allFloatRects out := by
  fun_induction flowFrom cb st items generalizing out with
  | case1 st =>
    cases h
    exact ⟨st.shapes, hinv, hinv.floatsOk, by simp [allFloatRects]⟩
  | case4 st it rest st' pl hstep out' hrest ih =>
    cases h
    simp only [List.forall_mem_cons] at hit
    obtain ⟨i1, ⟨added, i2, i3⟩, _⟩ := flowStep_spec cb st st' it pl hit.1 hinv hstep
    obtain ⟨sh, j1, j2, j3⟩ := ih out' hit.2 i1 hrest
    refine ⟨sh, j1, j2, ?_⟩
    rw [j3, i2, List.map_append, i3, allFloatRects_cons pl out', List.append_assoc]
  | _ => cases h

/-- **No two floats of a document overlap, and none is higher than an earlier one** — inline floats included: from
an empty context, the reported margin boxes of all floats are those of a list of shapes that the verified checker
accepts. -/
theorem flow_all_floats_accepted (cb : CB) (items : List Item) (y : Rat) (out : List Placed)
    (hit : ∀ it ∈ items, ItemOkAll cb it) (h : flow cb [] y items = .ok out) :
    ∃ shapes : List Shape, shapes.map Shape.rect = allFloatRects out ∧ floatsOk shapes = true ∧
      checkEvents [] 0 (shapes.map Event.float) = none := by
  obtain ⟨sh, _, h2, h3⟩ := flow_all_floats cb items ⟨[], y, []⟩ out hit .nil h
  exact ⟨sh, by simpa using h3, h2, checkEvents_floats_complete [] 0 sh (by simpa using h2)⟩

private theorem floatRects_sublist (out : List Placed) : (floatRects out).Sublist (allFloatRects out) := by
  induction out with
  | nil => exact .slnil
  | cons pl rest ih =>
    cases pl with
    | float x y mw mh => exact ih.cons_cons _
    | para lines => exact ih.trans (List.sublist_append_right _ _)
    | _ => exact ih

private theorem ItemOk.all {cb : CB} {it : Item} (h : ItemOk cb it) : ItemOkAll cb it := by
  cases it with
  | para c fs a lines mt mb => exact fun l hl b hb => by rw [h l hl] at hb; cases hb
  | _ => exact h

/-- **`check (model x) = ok`**: the float margin boxes that the flow model reports for any admissible document
are accepted by the very checker (`checkEvents`, command `checkbfc`) that the harness runs on rendered documents. -/
theorem flow_events_accepted (cb : CB) (items : List Item) (y : Rat) (out : List Placed)
    (hit : ∀ it ∈ items, ItemOk cb it) (h : flow cb [] y items = .ok out) :
    ∃ shapes' : List Shape, shapes'.map Shape.rect = floatRects out ∧ checkEvents [] 0 (shapes'.map Event.float) = none := by
  obtain ⟨sh, h1, h2, _⟩ := flow_all_floats_accepted cb items y out (fun it hi => (hit it hi).all) h
  obtain ⟨sh', hs, he⟩ := List.sublist_map_iff.mp (h1 ▸ floatRects_sublist out)
  exact ⟨sh', he.symm, checkEvents_floats_complete [] 0 sh' (floatsOk_sublist _ _ hs h2)⟩

/-- Non-vacuity: an rtl paragraph whose first line holds two floats is started again (the float list is restored);
the hypotheses hold, the floats sit against the edges of the container, followed by a float with an empty border
box placed below them. -/
example :
    let items : List Item := [
      .para .none 10 .start [⟨20, 20, 10,
        [⟨0, 0, 0, 0, 0, 0, 20, 10, .left, .none, .bfc⟩, ⟨0, 0, 0, 0, 0, 0, 30, 5, .right, .none, .bfc⟩]⟩] 0 0,
      .float ⟨0, 0, 5, 5, 0, 0, 80, 0, .left, .none, .bfc⟩]
    (∀ it ∈ items, ItemOkAll ⟨20, 100, true⟩ it) ∧
    ((flow ⟨20, 100, true⟩ [] 20 items).toOption.map allFloatRects) =
      some [(20, 20, 20, 10), (90, 20, 30, 5), (20, 30, 80, 10)] := by
  refine ⟨?_, by decide +kernel⟩
  intro it hit
  simp at hit
  rcases hit with h | h <;> subst h <;> simp [ItemOkAll, GoodFloat, ABox.marginHeight, ABox.marginWidth] <;>
    decide +kernel

end Wp.C11
