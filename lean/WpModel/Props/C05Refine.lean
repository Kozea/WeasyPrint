/-
C05 — refinement: the verified checker of used values (`Model/UsedCheck.lean`) accepts, clause by clause,
every box the block-tree model (`Model/BlockTree.lean`) produces, in ltr and in rtl — so the checker run on rendered documents
and the model compared with the real functions are tied by proof, not only by testing.
Core Lean only.
-/
import WpModel.Props.C05
import WpModel.Props.C05Check

namespace Wp.C05Refine
open Wp Wp.BoxModel Wp.BlockTree Wp.UsedCheck Wp.C05

/-- `max-width` as the checker reads it (`none` = unbounded). -/
def extToOpt : Ext → Option Rat
  | .fin m => some m
  | _ => none

/-- The checker's view of a box laid out by the tree model (horizontal clauses; the tree model has no
vertical half: `y`, `h` are 0 and the box counts as fragmented so that no height clause applies). -/
def uboxOf (g : Geo) (u : Used) (rtl : Bool) : UBox :=
  { x := g.x, y := 0, w := g.w, h := 0, ml := g.ml, mr := g.mr, mt := g.mt, mb := g.mb, pl := g.pl, pr := g.pr,
    pt := g.pt, pb := g.pb, bl := g.bl, br := g.br, bt := g.bt, bb := g.bb, minW := u.minWidth,
    maxW := extToOpt u.maxWidth, minH := 0, maxH := none, mlAuto := u.marginLeft.isNone,
    mrAuto := u.marginRight.isNone, wAuto := u.width.isNone, hAuto := true, kind := .flow, rtl := rtl,
    whole := false }

/-- Paddings, borders and `min-width` resolved to non-negative values (true of every valid style sheet:
the CSS grammar rejects negative paddings, borders and min-widths). -/
def NonNegUsed (u : Used) : Prop :=
  0 ≤ u.paddingLeft ∧ 0 ≤ u.paddingRight ∧ 0 ≤ u.paddingTop ∧ 0 ≤ u.paddingBottom ∧
  0 ≤ u.borderLeft ∧ 0 ≤ u.borderRight ∧ 0 ≤ u.borderTop ∧ 0 ≤ u.borderBottom ∧ 0 ≤ u.minWidth

/-- (b) after the decorated `block_level_width` the margin box fills the containing block, **or** the
checker's evidence of over-constraint holds: the width is a fixed one (specified, `min-width` or
`max-width`) and both margins are specified, or the auto ones are 0 and the box is wider than its
containing block.  (For every input: this is the exact disjunction the checker tests.) -/
theorem minmax_equation_or_evidence (cbw : Rat) (dir : Dir) (b r : ABox)
    (h : handleMinMaxWidth (fun b => .ok (blwCore cbw dir b)) b = .ok r) :
    outer? r = some cbw ∨
    (∃ w l m, r.w = some w ∧ r.ml = some l ∧ r.mr = some m ∧
      (b.w = some w ∨ w = b.minW ∨ b.maxW = .fin w) ∧
      ((b.ml ≠ none ∧ b.mr ≠ none) ∨
       ((b.ml = none → l = 0) ∧ (b.mr = none → m = 0) ∧ l + b.bl + b.pl + w + b.pr + b.br + m > cbw))) := by
  obtain ⟨w', e, hw'⟩ := minmax_last_pass cbw dir b r h
  by_cases hov : OverC cbw { b with w := w', posX := b.posX }
  · right
    obtain ⟨hw, hl, hm, _⟩ := overconstrained_geometry cbw dir _ hov
    obtain ⟨w, hww, hcase⟩ := hov
    simp only at hww hw hl hm hcase
    rw [← e] at hw hl hm
    refine ⟨w, orZero b.ml, orZero b.mr, by rw [hw, hww], hl, hm, hw' w hww, ?_⟩
    rcases hcase with hboth | hgt
    · exact Or.inl hboth
    · refine Or.inr ⟨fun hn => by rw [hn]; rfl, fun hn => by rw [hn]; rfl, ?_⟩
      have : ABox.specTotal { b with w := w', posX := b.posX } w = b.pb + w + orZero b.ml + orZero b.mr := rfl
      rw [this] at hgt
      unfold ABox.pb at hgt
      grind
  · left
    rw [e]
    exact (width_equation_partial cbw dir _ hov).1

/-- **Refinement, one box, ltr and rtl** (true of the code since /repo 165e254): every box the tree model lays
out passes all horizontal clauses of the checker exactly (tolerance 0): non-negative sizes, `min-width ≤ width`
(`≤ max-width` when `min ≤ max`), margin-left edge at the parent's content edge in ltr / margin-right edge at its
end in rtl, and the width equation or the evidence of over-constraint. -/
theorem layoutBox_accepted (pw : Rat) (dir : Dir) (cbH : Len) (x fs : Rat) (s : NStyle) (g : Geo) (u : Used)
    (rtl : Bool) (h : layoutBox (.box pw dir) cbH x fs s = .ok (g, u)) (hnn : NonNegUsed u) :
    nodeOk 0 { cx := x, pw := pw, prtl := dir == .rtl } (uboxOf g u rtl) = true := by
  obtain ⟨r, hr, hml, hmr, hw, hx, e2, e3, e1, e4, hpt, hpb, hbt, hbb⟩ := layoutBox_unfold _ cbH x fs s g u h
  obtain ⟨k1, k2, k3, k4, _, _, (ecol : r.isColumn = false)⟩ := blw_minmax_kept _ _ _ hr
  have hpl : g.pl = u.paddingLeft := e2.trans k1
  have hpr : g.pr = u.paddingRight := e3.trans k2
  have hbl : g.bl = u.borderLeft := e1.trans k3
  have hbr : g.br = u.borderRight := e4.trans k4
  obtain ⟨p1, p2, p3, p4, p5, p6, p7, p8, p9⟩ := hnn
  -- (c) min/max
  obtain ⟨w, hw1, hmin, hmax⟩ := blw_minmax _ _ _ hr
  rw [hw] at hw1
  cases hw1
  simp only [aboxOfUsed] at hmin hmax
  -- (f) edge
  obtain ⟨o, ho, hfl⟩ := edge_flush_minmax pw dir (aboxOfUsed u x) r hr
  simp only [outer?, hml, hmr, hw, Option.some.injEq, ← e1, ← e2, ← e3, ← e4] at ho
  rw [ecol] at hfl
  -- (b) equation
  have heq := minmax_equation_or_evidence pw dir (aboxOfUsed u x) r hr
  have hnonneg : nonneg (uboxOf g u rtl) = true := by
    simp only [nonneg, uboxOf, Bool.and_eq_true, decide_eq_true_eq, hpl, hpr, hbl, hbr, hpt, hpb, hbt, hbb]
    refine ⟨⟨⟨⟨⟨⟨⟨⟨⟨?_, Rat.le_refl⟩, p1⟩, p2⟩, p3⟩, p4⟩, p5⟩, p6⟩, p7⟩, p8⟩
    exact Rat.le_trans p9 hmin
  have hmm : minMaxW 0 (uboxOf g u rtl) = true := by
    simp only [minMaxW, uboxOf, Bool.and_eq_true, decide_eq_true_eq, Rat.add_zero]
    refine ⟨hmin, ?_⟩
    cases hm : u.maxWidth with
    | fin m =>
      simp only [extToOpt, Bool.or_eq_true, Bool.not_eq_true', decide_eq_true_eq]
      by_cases hle : u.minWidth ≤ m
      · exact Or.inr (hmax m hm hle)
      · exact Or.inl (decide_eq_false hle)
    | inf => rfl
    | ninf => rfl
    | nan => rfl
  have hmh : minMaxH 0 (uboxOf g u rtl) = true := by simp [minMaxH, uboxOf]
  have hnear : ∀ a : Rat, near 0 a a = true := fun a => C05Check.near_self 0 a Rat.le_refl
  have hed : edge 0 { cx := x, pw := pw, prtl := dir == .rtl } (uboxOf g u rtl) = true := by
    cases dir with
    | ltr =>
      simp only [Bool.and_eq_true, decide_eq_true_eq, Bool.not_eq_true', reduceCtorEq, false_and, if_false] at hfl
      show near 0 g.x x = true
      rw [hx, hfl]; exact hnear x
    | rtl =>
      simp only [Bool.not_false, Bool.and_true, decide_true, if_true] at hfl
      show near 0 (g.x + (g.ml + g.bl + g.pl + g.w + g.pr + g.br + g.mr)) (x + pw) = true
      rw [hx, ho, hfl]; exact hnear _
  have hequ : equation 0 { cx := x, pw := pw, prtl := dir == .rtl } (uboxOf g u rtl) = true := by
    simp only [equation, Bool.or_eq_true]
    rcases heq with he | ⟨w', l, m, hw', hl, hm, hfix, hev⟩
    · left
      simp only [outer?, hml, hmr, hw, Option.some.injEq, ← e1, ← e2, ← e3, ← e4] at he
      show near 0 (g.ml + g.bl + g.pl + g.w + g.pr + g.br + g.mr) pw = true
      rw [he]; exact hnear pw
    · right
      cases hw.symm.trans hw'; cases hml.symm.trans hl; cases hmr.symm.trans hm
      simp only [aboxOfUsed] at hfix hev
      have hspec : ∀ o : Len, o ≠ none → o.isNone = false := fun o h => by
        cases o
        · exact absurd rfl h
        · rfl
      have hauto : ∀ (o : Len) (v : Rat), (o = none → v = 0) → o.isNone = false ∨ v = 0 := fun o v h => by
        cases o
        · exact Or.inr (h rfl)
        · exact Or.inl rfl
      simp only [overConstrained, widthFixed, uboxOf, UBox.outer, Bool.and_eq_true, Bool.or_eq_true,
        Bool.not_eq_true', decide_eq_true_eq, hpl, hpr, hbl, hbr]
      refine ⟨?_, ?_⟩
      · rcases hfix with h1 | h1 | h1
        · exact Or.inl (Or.inl (by rw [h1]; rfl))
        · exact Or.inl (Or.inr (h1 ▸ hnear _))
        · exact Or.inr (by rw [h1]; exact hnear _)
      · rcases hev with ⟨hl', hm'⟩ | ⟨hl', hm', hgt⟩
        · exact Or.inl ⟨hspec _ hl', hspec _ hm'⟩
        · exact Or.inr ⟨⟨hauto _ _ hl', hauto _ _ hm'⟩, hgt⟩
  have hk : ((uboxOf g u rtl).kind != Kind.flow) = false := rfl
  unfold nodeOk nodeVerdict
  simp only [hnonneg, hmm, hmh, hed, hequ, hk, Bool.not_true, Bool.false_eq_true, if_false, Option.isNone_none]

/-- **Refinement, one box, ltr**. -/
theorem layoutBox_accepted_ltr (pw : Rat) (cbH : Len) (x fs : Rat) (s : NStyle) (g : Geo) (u : Used)
    (rtl : Bool) (h : layoutBox (.box pw .ltr) cbH x fs s = .ok (g, u)) (hnn : NonNegUsed u) :
    nodeOk 0 { cx := x, pw := pw, prtl := false } (uboxOf g u rtl) = true :=
  layoutBox_accepted pw .ltr cbH x fs s g u rtl h hnn

/-- **Refinement, one box, rtl** — every input (since the repair of `rtl-minmax-shift-accumulates`,
/repo 165e254). -/
theorem layoutBox_accepted_rtl (pw : Rat) (cbH : Len) (x fs : Rat) (s : NStyle) (g : Geo) (u : Used)
    (rtl : Bool) (h : layoutBox (.box pw .rtl) cbH x fs s = .ok (g, u)) (hnn : NonNegUsed u) :
    nodeOk 0 { cx := x, pw := pw, prtl := true } (uboxOf g u rtl) = true :=
  layoutBox_accepted pw .rtl cbH x fs s g u rtl h hnn

/-! ### whole trees -/

mutual
/-- The traced layout is the layout the driver runs (and the harness compares with rendered documents). -/
theorem layoutNodeT_geo (cb : CB) (cbH : Len) (x : Rat) (d : Dir) (fs : Rat) : ∀ n : Node,
    (layoutNodeT cb cbH x d fs n).map (fun l => l.map (·.g)) = layoutNode cb cbH x d fs n
  | .mk s kids => by
    simp only [layoutNodeT, layoutNode, bind, Except.bind]
    cases layoutBox cb cbH x (match s.fontSize with | some f => f | none => fs) s with
    | error e => rfl
    | ok gu =>
      obtain ⟨g, u⟩ := gu
      simp only
      rw [← layoutKidsT_geo]
      generalize layoutKidsT _ _ _ _ _ kids = r
      cases r <;> rfl
theorem layoutKidsT_geo (cb : CB) (cbH : Len) (x : Rat) (d : Dir) (fs : Rat) : ∀ ns : List Node,
    (layoutKidsT cb cbH x d fs ns).map (fun l => l.map (·.g)) = layoutKids cb cbH x d fs ns
  | [] => rfl
  | n :: ns => by
    simp only [layoutKidsT, layoutKids, bind, Except.bind]
    rw [← layoutNodeT_geo cb cbH x d fs n, ← layoutKidsT_geo cb cbH x d fs ns]
    cases layoutNodeT cb cbH x d fs n with
    | error e => rfl
    | ok a =>
      cases layoutKidsT cb cbH x d fs ns with
      | error e => rfl
      | ok b => simp [Except.map, pure, Except.pure]
end

mutual
/-- Every entry of the traced layout is a `layoutBox` result in the containing block it records. -/
theorem layoutNodeT_entries (cb : CB) (cbH : Len) (x : Rat) (d : Dir) (fs : Rat) : ∀ (n : Node) (out : List Placed),
    layoutNodeT cb cbH x d fs n = .ok out →
    ∀ p ∈ out, ∃ cbH' fs' s', layoutBox p.cb cbH' p.x fs' s' = .ok (p.g, p.u)
  | .mk s kids, out => by
    intro h p hp
    simp only [layoutNodeT, Except.bind_eq_ok_iff] at h
    obtain ⟨⟨g, u⟩, hb, rest, hr, ho⟩ := h
    simp only [pure, Except.pure, Except.ok.injEq] at ho
    subst ho
    simp only [List.mem_cons] at hp
    rcases hp with rfl | hp
    · exact ⟨_, _, _, hb⟩
    · exact layoutKidsT_entries _ _ _ _ _ kids rest hr p hp
theorem layoutKidsT_entries (cb : CB) (cbH : Len) (x : Rat) (d : Dir) (fs : Rat) : ∀ (ns : List Node) (out : List Placed),
    layoutKidsT cb cbH x d fs ns = .ok out →
    ∀ p ∈ out, ∃ cbH' fs' s', layoutBox p.cb cbH' p.x fs' s' = .ok (p.g, p.u)
  | [], out => by
    intro h p hp
    simp only [layoutKidsT, pure, Except.pure, Except.ok.injEq] at h
    subst h
    cases hp
  | n :: ns, out => by
    intro h p hp
    simp only [layoutKidsT, Except.bind_eq_ok_iff] at h
    obtain ⟨a, ha, b, hb, ho⟩ := h
    simp only [pure, Except.pure, Except.ok.injEq] at ho
    subst ho
    simp only [List.mem_append] at hp
    rcases hp with hp | hp
    · exact layoutNodeT_entries cb cbH x d fs n a ha p hp
    · exact layoutKidsT_entries cb cbH x d fs ns b hb p hp
end

/-- **Refinement, whole trees, ltr and rtl** (`check (model x) = true`): in the layout of any tree of blocks
by the model, every box (with non-negative resolved paddings, borders and `min-width`) laid out in a box
containing block of either direction passes every horizontal clause of the verified checker, with
tolerance 0, in the context of its own containing block. -/
theorem layoutNode_accepted (cb : CB) (cbH : Len) (x : Rat) (d : Dir) (fs : Rat) (n : Node)
    (out : List Placed) (h : layoutNodeT cb cbH x d fs n = .ok out) :
    ∀ p ∈ out, (∃ pw dir, p.cb = .box pw dir) → NonNegUsed p.u →
      nodeOk 0 { cx := p.x, pw := p.cb.width, prtl := p.cb.direction == .rtl }
        (uboxOf p.g p.u (p.dir == .rtl)) = true := by
  intro p hp ⟨pw, dir, hcb⟩ hnn
  obtain ⟨cbH', fs', s', hb⟩ := layoutNodeT_entries cb cbH x d fs n out h p hp
  rw [hcb] at hb ⊢
  exact layoutBox_accepted pw dir cbH' p.x fs' s' p.g p.u _ hb hnn

/-- The ltr instance. -/
theorem layoutNode_accepted_ltr (cb : CB) (cbH : Len) (x : Rat) (d : Dir) (fs : Rat) (n : Node)
    (out : List Placed) (h : layoutNodeT cb cbH x d fs n = .ok out) :
    ∀ p ∈ out, (∃ pw, p.cb = .box pw .ltr) → NonNegUsed p.u →
      nodeOk 0 { cx := p.x, pw := p.cb.width, prtl := false } (uboxOf p.g p.u (p.dir == .rtl)) = true := by
  intro p hp ⟨pw, hcb⟩ hnn
  have := layoutNode_accepted cb cbH x d fs n out h p hp ⟨pw, .ltr, hcb⟩ hnn
  rw [hcb] at this ⊢
  exact this

def exStyle : NStyle where
  ml := .px 0
  mr := .px 0
  mt := .px 0
  mb := .px 0
  pl := .px 0
  pr := .px 0
  pt := .px 0
  pb := .px 0
  bl := .px 0
  br := .px 0
  bt := .px 0
  bb := .px 0
  width := .auto
  height := .auto
  minW := .auto
  minH := .auto
  maxW := .none
  maxH := .none
  boxSizing := .contentBox
  dir := none
  fontSize := none

/-- Non-vacuity: a parent of 200px with a centred child of 50% width and a grandchild with paddings. -/
def exNode : Node :=
  .mk exStyle [.mk { exStyle with ml := .auto, mr := .auto, width := .pct 50 }
    [.mk { exStyle with pl := .em 1, bl := .px 2 } []]]

example : (match layoutNodeT (.box 200 .ltr) none 0 .ltr 16 exNode with
    | .ok l => l.map (fun p => (p.x, p.g.ml, p.g.w, p.g.mr))
    | .error _ => []) = [(0, 0, 200, 0), (0, 50, 100, 50), (50, 0, 82, 0)] := by
  decide +kernel

/-- Regression (`fixed: rtl-minmax-shift-accumulates`, /repo 165e254): on `width: 200px; max-width: 50px` in
a 100px rtl containing block the model — like the code since 165e254 — puts the 50px box at x = 50 (one shift
per pass of the min/max wrapper would give −50) and the checker accepts it. -/
example : (match layoutBox (.box 100 .rtl) none 0 16 { exStyle with width := .px 200, maxW := .px 50 } with
    | .ok (g, u) => (g.x, nodeVerdict 0 { cx := 0, pw := 100, prtl := true } (uboxOf g u true))
    | .error _ => (0, some "error")) = (50, none) := by
  decide +kernel

/-- Non-vacuity of the rtl half on a tree: an rtl parent of 200px, an over-constrained child clamped by
`max-width`, a grandchild clamped by `min-width`: all three accepted. -/
example : (match layoutNodeT (.box 200 .rtl) none 0 .rtl 16
      (.mk exStyle [.mk { exStyle with width := .px 300, maxW := .px 80 }
        [.mk { exStyle with width := .px 10, minW := .px 120, ml := .px 5 } []]]) with
    | .ok l => l.map (fun p => (p.x, p.g.x, p.g.w,
        nodeVerdict 0 { cx := p.x, pw := p.cb.width, prtl := p.cb.direction == .rtl } (uboxOf p.g p.u true)))
    | .error _ => []) = [(0, 0, 200, none), (0, 120, 80, none), (120, 75, 120, none)] := by
  decide +kernel

end Wp.C05Refine
