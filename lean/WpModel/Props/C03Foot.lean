/-
C03 / C02 on the footnote grammar (PM stage 2b): the first content of an empty page is accepted, every page makes
progress — a page with content strictly advances the resume position, a blank page made for postponed footnotes
strictly shortens the list of postponed footnotes — and `make_all_pages` terminates.
For every `footnote-policy`: since repair 67bf2ca `footnote-policy: block` no longer cancels the first content of
a page (regression example `policy_block_first_content` in `Witness/C01Foot.lean`).
-/
import WpModel.Props.C01Foot
import WpModel.Lemmas.FootPagesRun
import WpModel.Drive.PaginateFoot

namespace Wp.C03Foot
open Wp Wp.PM Wp.PMF

/-- `make_page` never fails its `assert root_box` (for every `footnote-policy` since repair 67bf2ca). -/
theorem remakePageF_total (d : FDoc) (index : Nat) (resume : Option Resume)
    (np : NextPage) (right : Bool) (pending reported : List Fn) :
    (remakePageF d index resume np right pending reported).isSome = true := by
  unfold remakePageF
  dsimp only
  have key : ∀ (c : FCtx) (b : FootBox) (fs : FState),
      (layoutBoxF c b 0 0 0 resume false true [] fs).r.frag ≠ none := by
    intro c b fs h
    have := box_someF b c 0 0 0 resume false [] fs
    rw [h] at this
    simp at this
  split
  · rename_i h
    exact absurd h (key _ _ _)
  · rfl

/-- **Strict progress of a page with content**: it finishes the content or hands a strictly later resume position
to the next page (any footnotes, any policy). -/
theorem page_progress (d : FDoc) (hN : NoFixedHeight d.root.erase) (hW : WellFormed d.root.erase) (index : Nat)
    (resume : Option Resume) (np : NextPage) (right : Bool) (pending reported : List Fn) (p : FPage)
    (hp : remakePageF d index resume np right pending reported = some p) (hnb : p.page.type.blank = false) :
    p.page.resume = none ∨ pos d.root.erase resume < pos d.root.erase p.page.resume := by
  obtain ⟨_, h2⟩ := remakePageF_lines d (good_of _ hN hW) index resume np right pending reported p hp
  cases hr : p.page.resume with
  | none => left; rfl
  | some r => right; exact (h2 hnb).2 r hr

/-! ### the blank page required by postponed footnotes makes progress -/

theorem placeReported_suffix (c : FCtx) (L : List Fn) (i : Nat) (fs : FState) (hr : fs.reported = []) :
    ∃ t, L = t ++ (placeReported c L i fs).reported ∧ (L ≠ [] → i = 0 → t ≠ []) := by
  induction L generalizing i fs with
  | nil => exact ⟨[], by simp [placeReported, hr], fun h => absurd rfl h⟩
  | cons f rest ih =>
    unfold placeReported
    dsimp only
    split
    · rename_i hov
      refine ⟨[], by simp, ?_⟩
      intro _ hi
      simp [hi] at hov
    · obtain ⟨t, ht, _⟩ := ih (i + 1) (layoutFootnote c { fs with pending := fs.pending ++ [f] } f).1 (by simp [hr])
      exact ⟨f :: t, by simp [← ht], fun _ _ => by simp⟩

theorem remakePageF_blank_state (d : FDoc) (index : Nat) (resume : Option Resume) (np : NextPage) (right : Bool)
    (pending reported : List Fn) (p : FPage) (hp : remakePageF d index resume np right pending reported = some p)
    (hb : p.page.type.blank = true) :
    p.reported = (pageStart d (pageCtxOf d index resume np right reported) pending reported).reported ∧
    p.cur = (pageStart d (pageCtxOf d index resume np right reported) pending reported).cur := by
  obtain ⟨R, _, hR, _, rfl⟩ := remakePageF_some d index resume np right pending reported p hp
  have hb' : isBlankF d resume np right reported = true := hb
  rw [hb', if_pos rfl] at hR
  subst hR
  rw [emptyRootF_state]
  exact ⟨rfl, rfl⟩

/-- **Progress of a blank page**: what it postpones is a strict suffix of what was postponed to it — at least the
first postponed footnote is placed (whatever its size: `make_page` never re-postpones `reported_footnotes[0]`). -/
theorem footnote_page_progress (d : FDoc) (index : Nat) (resume : Option Resume) (np : NextPage) (right : Bool)
    (pending reported : List Fn) (p : FPage) (hp : remakePageF d index resume np right pending reported = some p)
    (hb : p.page.type.blank = true) (hrep : reported ≠ []) :
    ∃ t, t ≠ [] ∧ reported = t ++ p.reported := by
  obtain ⟨h1, _⟩ := remakePageF_blank_state d index resume np right pending reported p hp hb
  obtain ⟨t, ht, hne⟩ := placeReported_suffix (pageCtxOf d index resume np right reported) reported 0
    { pending := pending, cur := [], reported := [], pageBottom := d.pageH, areaH := none } rfl
  refine ⟨t, hne hrep rfl, ?_⟩
  rw [h1]; exact ht

theorem blank_of_footnotes (d : FDoc) (index : Nat) (resume : Option Resume) (np : NextPage) (right : Bool)
    (pending reported : List Fn) (p : FPage) (hp : remakePageF d index resume np right pending reported = some p)
    (h : resume = none ∧ reported ≠ []) : p.page.type.blank = true := by
  rw [(remakePageF_spec d index resume np right pending reported p hp).1, h.1]
  cases reported with
  | nil => exact absurd rfl h.2
  | cons x xs => simp [isBlankF]

/-- Once only postponed footnotes are left, at most one page per footnote follows. -/
theorem footnote_phase_terminates (d : FDoc) (n index : Nat) (np : NextPage)
    (right : Bool) (pending reported : List Fn) (hl : reported.length ≤ n) (hne : reported ≠ []) :
    ∃ pages, makeAllPagesF d n index none np right pending reported = some pages ∧ pages.length ≤ n := by
  simp only [makeAllPagesF_eq_some]
  have key := PageLoop.run_total (step := pageStepF d)
    (fun s : PMF.PState => s.2.1 = none ∧ s.2.2.2.2.2 ≠ []) (fun s : PMF.PState => s.2.2.2.2.2.length) ?_ ?_ ?_
    n (index, none, np, right, pending, reported) ⟨rfl, hne⟩ hl
  · obtain ⟨ps, hps, hlen⟩ := key
    exact ⟨ps, hps, Nat.le_trans hlen hl⟩
  · intro ⟨i, r, n, b, pe, re⟩ e _
    exact PageLoop.stepOf_ne_error e (remakePageF_total d i r n b pe re)
  · intro ⟨i, r, n, b, pe, re⟩ h
    exact List.length_pos_iff.mpr h.2
  · intro ⟨i, r, n, b, pe, re⟩ p s' h hs
    obtain ⟨hp, ho⟩ := PageLoop.stepOf_ok hs
    have hr : r = none := h.1
    have hblank := blank_of_footnotes d i r n b pe re p hp h
    obtain ⟨hres, _, _⟩ := (remakePageF_spec d i r n b pe re p hp).2.1 hblank
    obtain ⟨t, htne, hsplit⟩ := footnote_page_progress d i r n b pe re p hp hblank h.2
    split at ho
    · cases ho
    · rename_i hstop
      cases ho
      refine ⟨⟨hres.trans hr, fun he => hstop ?_⟩, ?_⟩
      · have he : p.reported = [] := he
        simp [hres, hr, he]
      · have := congrArg List.length hsplit
        simp only [List.length_append] at this
        have : 1 ≤ t.length := List.length_pos_iff.mpr htne
        show p.reported.length < re.length
        omega

/-- `make_all_pages` uses one unit of fuel per page: any amount of fuel not below the page count gives the same
pages. -/
theorem makeAllPagesF_fuel (d : FDoc) (fuel index : Nat) (resume : Option Resume) (np : NextPage)
    (right : Bool) (pending reported : List Fn) (pages : List FPage)
    (h : makeAllPagesF d fuel index resume np right pending reported = some pages) :
    pages.length ≤ fuel ∧
      ∀ fuel', pages.length ≤ fuel' → makeAllPagesF d fuel' index resume np right pending reported = some pages := by
  simp only [makeAllPagesF_eq_some] at h ⊢
  exact PageLoop.run_fuel fuel _ pages h

/-- Pages still needed while content is left (as stage 1). -/
def contentNeeded (d : FDoc) (resume : Option Resume) (np : NextPage) (right : Bool) : Nat :=
  PageLoop.twoSided (size d.root.erase) (pos d.root.erase resume) (isBlank (requestedSide d.rootLtr np.brk) right)

/-- One page of content brings the page-maker strictly closer to the end (as stage 1). -/
theorem content_step (d : FDoc) (hN : NoFixedHeight d.root.erase) (hW : WellFormed d.root.erase) (index : Nat)
    (resume : Option Resume) (np : NextPage) (right : Bool) (pending reported : List Fn) (p : FPage)
    (hp : remakePageF d index resume np right pending reported = some p)
    (hfoot : ¬(resume = none ∧ reported ≠ [])) (r : Resume) (hres : p.page.resume = some r) :
    contentNeeded d (some r) p.page.nextPage (!right) + 1 ≤ contentNeeded d resume np right := by
  obtain ⟨hbl, hb1, _⟩ := remakePageF_spec d index resume np right pending reported p hp
  have hside : isBlankF d resume np right reported = isBlank (requestedSide d.rootLtr np.brk) right := by
    unfold isBlankF
    have : (!reported.isEmpty && resume.isNone) = false := by
      by_cases h1 : resume = none
      · by_cases h2 : reported = []
        · simp [h2]
        · exact absurd ⟨h1, h2⟩ hfoot
      · cases resume with
        | none => exact absurd rfl h1
        | some r => simp
    rw [this, Bool.or_false]
  exact twoSided_page (hbl.trans hside) (fun hb => by rw [← hres, (hb1 hb).1, (hb1 hb).2.1]; exact ⟨rfl, rfl⟩)
    (fun hb => ((remakePageF_lines d (good_of _ hN hW) index resume np right pending reported p hp).2 hb).2 r hres)
    (PM.pos_lt_size d.root.erase (some r))

/-- **`make_all_pages` terminates** (any footnote policy): from every page-maker state some amount of fuel
suffices (content pages: at most `contentNeeded`; then at most one blank page per footnote still postponed).
The list of postponed footnotes can grow on content pages, so no one measure goes down over both phases and
`PageLoop.run_bounded` does not apply: strong induction on `contentNeeded` for the content pages, then
`footnote_phase_terminates`. -/
theorem makeAllPagesF_terminates (d : FDoc) (hN : NoFixedHeight d.root.erase) (hW : WellFormed d.root.erase)
    (index : Nat) (resume : Option Resume) (np : NextPage) (right : Bool) (pending reported : List Fn) :
    ∃ fuel pages, makeAllPagesF d fuel index resume np right pending reported = some pages := by
  generalize hm : contentNeeded d resume np right = m
  induction m using Nat.strongRecOn generalizing index resume np right pending reported with
  | _ m ih =>
    -- only postponed footnotes left: the footnote phase
    have hphase : ∀ i n b pe re, re ≠ [] → ∃ fuel ps, makeAllPagesF d fuel i none n b pe re = some ps :=
      fun i n b pe re hre =>
        let ⟨ps, hps, _⟩ := footnote_phase_terminates d re.length i n b pe re (Nat.le_refl _) hre
        ⟨_, ps, hps⟩
    by_cases hfoot : resume = none ∧ reported ≠ []
    · exact hfoot.1 ▸ hphase index np right pending reported hfoot.2
    · obtain ⟨p, hp⟩ := Option.isSome_iff_exists.mp (remakePageF_total d index resume np right pending reported)
      by_cases hstop : (p.page.resume.isNone && p.reported.isEmpty) = true
      · exact ⟨1, [p], by rw [makeAllPagesF, hp]; exact if_pos hstop⟩
      · obtain ⟨fuel, ps, hps⟩ : ∃ fuel ps, makeAllPagesF d fuel (index + 1) p.page.resume p.page.nextPage (!right)
            p.pending p.reported = some ps := by
          cases hres : p.page.resume with
          | none => exact hphase _ _ _ _ _ fun he => hstop (by simp [hres, he])
          | some r =>
            exact ih _ (hm ▸ content_step d hN hW index resume np right pending reported p hp hfoot r hres)
              _ _ _ _ _ _ rfl
        exact ⟨fuel + 1, p :: ps, by rw [makeAllPagesF, hp]; simp only [if_neg hstop, hps]⟩

/-- **Pagination with footnotes terminates** with at least one page (any footnote policy), and more fuel does not
change the result. -/
theorem paginateFoot_terminates (d : FDoc) (hN : NoFixedHeight d.root.erase) (hW : WellFormed d.root.erase) :
    ∃ fuel pages, paginateFoot d fuel = some pages ∧ pages ≠ [] ∧
      ∀ k, paginateFoot d (fuel + k) = some pages := by
  unfold paginateFoot
  obtain ⟨fuel, pages, hp⟩ := makeAllPagesF_terminates d hN hW 0 none
    { brk := none, page := some (boxPageStart d.root.erase) } (firstRight d.erase) (boxFns d.root) []
  obtain ⟨hlen, hfuel⟩ := makeAllPagesF_fuel d fuel _ _ _ _ _ _ pages hp
  exact ⟨fuel, pages, hp, makeAllPagesF_ne_nil d fuel _ _ _ _ _ _ pages hp, fun k => hfuel (fuel + k) (by omega)⟩

/-! ### the page count is bounded by the amount of content -/

theorem placeReported_cur_pos (c : FCtx) (L : List Fn) (i : Nat) (fs : FState) (h : 1 ≤ fs.cur.length) :
    1 ≤ (placeReported c L i fs).cur.length := by
  induction L generalizing i fs with
  | nil => exact h
  | cons f rest ih =>
    unfold placeReported
    dsimp only
    have h1 : 1 ≤ (layoutFootnote c { fs with pending := fs.pending ++ [f] } f).1.cur.length := by
      simp only [layoutFootnote_cur, List.length_append, List.length_singleton]
      omega
    split
    · simp only [reportFootnote_cur, layoutFootnote_cur]
      rw [List.length_erase_of_mem (by simp)]
      simp only [List.length_append, List.length_singleton]
      omega
    · exact ih _ _ h1

/-- A page made for postponed footnotes places at least one of them in its footnote area. -/
theorem footnote_page_places (d : FDoc) (index : Nat) (resume : Option Resume) (np : NextPage) (right : Bool)
    (pending reported : List Fn) (p : FPage) (hp : remakePageF d index resume np right pending reported = some p)
    (hb : p.page.type.blank = true) (hrep : reported ≠ []) : 1 ≤ p.cur.length := by
  obtain ⟨_, h2⟩ := remakePageF_blank_state d index resume np right pending reported p hp hb
  rw [h2]
  unfold pageStart
  cases reported with
  | nil => exact absurd rfl hrep
  | cons f rest =>
    unfold placeReported
    dsimp only
    split
    · rename_i hov
      simp at hov
    · apply placeReported_cur_pos
      simp only [layoutFootnote_cur, List.length_append, List.length_singleton]
      omega

/-- **Page count, from every page-maker state**: once only postponed footnotes are left, every page places at
least one footnote; before that, the pages are at most `contentNeeded` plus one per footnote placed. -/
theorem makeAllPagesF_length (d : FDoc) (hN : NoFixedHeight d.root.erase) (hW : WellFormed d.root.erase) :
    ∀ (fuel index : Nat) (resume : Option Resume) (np : NextPage) (right : Bool) (pending reported : List Fn)
      (pages : List FPage), makeAllPagesF d fuel index resume np right pending reported = some pages →
    ((resume = none ∧ reported ≠ []) → pages.length ≤ (pagesCur pages).length) ∧
    (¬(resume = none ∧ reported ≠ []) →
      pages.length ≤ contentNeeded d resume np right + (pagesCur pages).length) := by
  intro fuel index resume np right pending reported pages h
  refine makeAllPagesF_induct d (fun _ resume np right _ reported pages =>
    ((resume = none ∧ reported ≠ []) → pages.length ≤ (pagesCur pages).length) ∧
    (¬(resume = none ∧ reported ≠ []) → pages.length ≤ contentNeeded d resume np right + (pagesCur pages).length))
    ?_ ?_ fuel index resume np right pending reported pages h
  · intro index resume np right pending reported p hp _ _
    constructor
    · intro hfoot
      have := footnote_page_places d index resume np right pending reported p hp
        (blank_of_footnotes d index resume np right pending reported p hp hfoot) hfoot.2
      simpa [pagesCur] using this
    · intro _
      have : 0 < contentNeeded d resume np right := PageLoop.twoSided_pos _ (PM.pos_lt_size d.root.erase resume)
      simp only [List.length_singleton]
      omega
  · intro index resume np right pending reported p ps hp hnl ih
    obtain ⟨i1, i2⟩ := ih
    simp only [List.length_cons, pagesCur, List.length_append]
    constructor
    · intro hfoot
      have hblank := blank_of_footnotes d index resume np right pending reported p hp hfoot
      have hplace := footnote_page_places d index resume np right pending reported p hp hblank hfoot.2
      obtain ⟨hres, _, _⟩ := (remakePageF_spec d index resume np right pending reported p hp).2.1 hblank
      have := i1 ⟨by rw [hres]; exact hfoot.1, fun he => hnl ⟨by rw [hres]; exact hfoot.1, he⟩⟩
      omega
    · intro hfoot
      cases hres : p.page.resume with
      | none =>
        have := i1 ⟨hres, fun he => hnl ⟨hres, he⟩⟩
        have : 0 < contentNeeded d resume np right := PageLoop.twoSided_pos _ (PM.pos_lt_size d.root.erase resume)
        omega
      | some r =>
        have hstep := content_step d hN hW index resume np right pending reported p hp hfoot r hres
        have := i2 (by rw [hres]; intro hc; cases hc.1)
        rw [hres] at this
        omega

/-- **The page count is bounded by the amount of content** (C03), footnote documents: at most two pages per unit
of content (line or box; the factor 2 pays for blank pages of left/right breaks) plus one page per footnote body —
the blank pages "required by a postponed footnote" each place at least one footnote. -/
theorem pages_bounded (d : FDoc) (h : C01Foot.FootWF d) (fuel : Nat) (pages : List FPage)
    (hp : paginateFoot d fuel = some pages) :
    pages.length ≤ 2 * size d.root.erase + (boxFns d.root).length := by
  have hc := C01Foot.footnotes_conserve d h fuel pages hp
  have hcur : (pagesCur pages).length = (boxFns d.root).length := by rw [C01Foot.pagesCur_eq, hc]
  unfold paginateFoot at hp
  have := (makeAllPagesF_length d h.noFixed h.wellFormed fuel 0 none _ _ _ _ pages hp).2
    (by intro hc; exact hc.2 rfl)
  rw [hcur] at this
  have hn : contentNeeded d none { brk := none, page := some (boxPageStart d.root.erase) } (firstRight d.erase) ≤
      2 * size d.root.erase :=
    twoSided_start ..
  omega

/-- **Explicit fuel**: `2 · size + #footnotes` pages always suffice — pagination of a well-formed footnote document
with that much fuel succeeds (so the `none` = `assert root_box` / out-of-fuel outcome of the model is unreachable),
and any larger amount gives the same pages. -/
theorem paginateFoot_total (d : FDoc) (h : C01Foot.FootWF d) (k : Nat) :
    ∃ pages, paginateFoot d (2 * size d.root.erase + (boxFns d.root).length + k) = some pages ∧ pages ≠ [] ∧
      pages.length ≤ 2 * size d.root.erase + (boxFns d.root).length := by
  obtain ⟨fuel, pages, hp, hne, _⟩ := paginateFoot_terminates d h.noFixed h.wellFormed
  have hb := pages_bounded d h fuel pages hp
  refine ⟨pages, ?_, hne, hb⟩
  unfold paginateFoot at hp ⊢
  exact (makeAllPagesF_fuel d fuel 0 none _ _ _ _ pages hp).2 _ (by omega)

/-! ### the driver's fuel -/

mutual
private theorem countBox_eq_size : (b : PBox) → Wp.Drive.Paginate.countBox b = size b
  | .para _ n _ _ => by simp [Wp.Drive.Paginate.countBox, size]
  | .block _ _ kids => by
    simp only [Wp.Drive.Paginate.countBox, size, countKids_eq_sizeList kids]; omega
private theorem countKids_eq_sizeList : (bs : List PBox) → Wp.Drive.Paginate.countKids bs = sizeList bs
  | [] => by simp [Wp.Drive.Paginate.countKids, sizeList]
  | b :: bs => by
    simp only [Wp.Drive.Paginate.countKids, sizeList, countBox_eq_size b, countKids_eq_sizeList bs]
end

/-- **The compiled driver never runs out of fuel** on a well-formed footnote document: the page budget
`fuelOf root = 2·(lines + boxes) + 8 + 2·#footnotes` it gives `paginateFoot` is enough, so its `err:pagination`
output can only mean the `assert root_box` of `make_page` — which `remakePageF_total` excludes. The correspondence
harness therefore compares real paginations, never an artefact of the fuel. -/
theorem driver_fuel_suffices (d : FDoc) (h : C01Foot.FootWF d) :
    ∃ pages, paginateFoot d (Wp.Drive.PaginateFoot.fuelOf d.root) = some pages ∧ pages ≠ [] := by
  have he : Wp.Drive.PaginateFoot.fuelOf d.root =
      2 * size d.root.erase + (boxFns d.root).length + (8 + (boxFns d.root).length) := by
    unfold Wp.Drive.PaginateFoot.fuelOf
    rw [countBox_eq_size]
    omega
  obtain ⟨pages, hp, hne, _⟩ := paginateFoot_total d h (8 + (boxFns d.root).length)
  exact ⟨pages, by rw [he]; exact hp, hne⟩

/-! ### non-vacuity -/

/-- `exDoc2`: page 2 is the blank page required by the two postponed footnotes; it places both. -/
example :
    (remakePageF C01Foot.exDoc2 1 none { brk := none, page := some "" } false [] 
      [⟨1, 2, 10, .auto, ""⟩, ⟨2, 2, 10, .auto, ""⟩]).map
      (fun p => (p.page.type.blank, p.cur.map (·.fid), p.reported.map (·.fid))) = some (true, [1, 2], []) := by
  decide +kernel

/-- `exDoc` (3 pages with content): positions 0 < 3 < 4 of 8 units (the last page finishes: `none`). -/
example : (paginateFoot C01Foot.exDoc 20).map (List.map (fun p => pos C01Foot.exDoc.root.erase p.page.resume)) =
    some [3, 4, 0] := by decide +kernel

/-- `exDoc2` (size 6: 3 lines + 3 boxes, 2 footnotes): 2 pages ≤ 2·6 + 2, the second one made for the footnotes. -/
example : size C01Foot.exDoc2.root.erase = 6 ∧ (boxFns C01Foot.exDoc2.root).length = 2 ∧
    (paginateFoot C01Foot.exDoc2 (2 * 6 + 2)).map List.length = some 2 := by
  refine ⟨by decide +kernel, by decide +kernel, by decide +kernel⟩

end Wp.C03Foot
