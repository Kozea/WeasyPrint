/-
C19 — the image cache key, tied to the source.  `Gen/ImageKey.lean` is regenerated from `weasyprint/images.py` on every
run (py/extract/image_key.py): the parts of the f-string assigned to `key` in `get_image_from_uri`, every expression
that indexes `cache` there, every `options[...]` the image code reads.

  `keyStr_renders_source_key`  the hand-written `ImageCache.keyStr` is, for all inputs, the rendering of exactly those
                               parts (so `C19.key_injective` / `cache_transparent` speak about the key of the source)
  `options_read_are_keyed`     every option read by the image code is a field of the key — the class of defect of
                               `image-cache-ignores-options` (and, for the orientation, of F18): a new
                               `options['…']` in `RasterImage` that is not added to the key breaks this proof
  `cache_indexed_by_key_only`  the cache is only ever indexed by `key` (the class of seeded change C19-3)
-/
import WpModel.Gen.ImageKey
import WpModel.Model.ImageCache

namespace Wp.C19.Key
open Wp Wp.ImageCache Wp.Gen.ImageKey

/-- The value of a key field for a request, as Python's `str()` renders it inside the f-string. -/
def fieldValue (url : String) (o : Orientation) (opts : Opts) : String → Option String
  | "url" => some url
  | "orientation" => some o.render
  | "options.optimize_images" => some (pyBool opts.optimize)
  | "options.jpeg_quality" => some (pyOptNat opts.jpegQuality)
  | "options.dpi" => some (pyOptNat opts.dpi)
  | _ => none

/-- Render the parts of an f-string; `none` if a field is unknown to the model. -/
def renderParts (value : String → Option String) : List (Bool × String) → Option String
  | [] => some ""
  | (false, text) :: rest => (renderParts value rest).map (text ++ ·)
  | (true, field) :: rest =>
    match value field, renderParts value rest with
    | some v, some r => some (v ++ r)
    | _, _ => none

/-- **The model's key is the source's key**: for every request, `keyStr` is the rendering of the f-string parts
extracted from `get_image_from_uri` (every field known, in the same order, with the same separators). -/
theorem keyStr_renders_source_key (url : String) (o : Orientation) (opts : Opts) :
    renderParts (fieldValue url o opts) keyParts = some (keyStr url o opts) := by
  simp [keyParts, renderParts, fieldValue, keyStr, String.append_assoc]

def keyFields : List String := keyParts.filterMap (fun p => if p.1 then some p.2 else none)

theorem key_fields :
    keyFields = ["url", "orientation", "options.optimize_images", "options.jpeg_quality", "options.dpi"] := rfl

/-- **Every option the image code reads is part of the key** (so two requests with the same key are decoded and
re-encoded with the same options, in the source as in the model).  The parameter `forced_mime_type` also decides what is
stored and is no `options[...]` read: it is outside this list and outside the key, and `C19.cache_transparent` assumes
`Exclusive` of the fetcher for it. -/
theorem options_read_are_keyed : ∀ r ∈ optionReads, ("options." ++ r.2) ∈ keyFields := by decide +kernel

/-- … and the model's `Opts` has exactly the options that are read. -/
theorem options_read_are_modelled :
    ∀ r ∈ optionReads, r.2 ∈ ["optimize_images", "jpeg_quality", "dpi"] := by decide +kernel

/-- **The cache is only indexed by `key`**: membership test, read and store of `get_image_from_uri` all use the one
variable that holds the full key. -/
theorem cache_indexed_by_key_only :
    cacheIndexExprs = [("in", "key"), ("load", "key"), ("store", "key")] := rfl

/-- Non-vacuity: the generated lists are not empty, and the rendering on a concrete request. -/
example : optionReads ≠ [] ∧ cacheIndexExprs ≠ [] ∧
    renderParts (fieldValue "u" (.angle .q90 true) ⟨true, some 30, none⟩) keyParts =
      some "u (90, True) True 30 None" := by decide +kernel

end Wp.C19.Key
