/-
C05 — box-decoration removal (`Model/BoxDeco.lean`: `_reset_spacing`, `ParentBox.remove_decoration`,
`InlineBox.remove_decoration`): what a fragment keeps and loses (clauses (a)(b)(g)), the laws of the operation
(`clone`, idempotence, start/end independence, rtl as the mirror image of ltr), what `remove_decoration_sides`
records, and the link to the pagination model (`PM.Geo.cutBottom`, the box cut by `find_earlier_page_break`,
is `remove_decoration(start=False, end=True)`) and to `resolve_radii_percentages`.

Every call removes a *set of sides*: `strip S` zeroes their margins, paddings and borders and records them, and
`strip S` then `strip T` is `strip (S ∪ T)` (`strip_strip`).  `resetSpacing_strip`, `removeDecoration_strip`,
`removeDecorationInline_strip` say which set each function removes; the laws of the operation are then Boolean
algebra on the sets, and the statements about fields read them off `strip`.  Core Lean only.
-/
import WpModel.Model.BoxDeco
import WpModel.Model.BoxModel
import WpModel.Model.Paginate

namespace Wp.C05Deco
open Wp Wp.BoxEdges Wp.BoxDeco

/-! ### removing the decoration of a set of sides -/

/-- A used value on a side: 0 once the side is removed. -/
def keepIf (removed : Bool) (x : Rat) : Rat := if removed then 0 else x

/-- The decoration of the sides in `S` removed and recorded. -/
def strip (S : Sides) (b : DBox) : DBox :=
  { box := { b.box with mt := keepIf S.top b.box.mt, pt := keepIf S.top b.box.pt, bt := keepIf S.top b.box.bt,
                        mr := keepIf S.right b.box.mr, pr := keepIf S.right b.box.pr, br := keepIf S.right b.box.br,
                        mb := keepIf S.bottom b.box.mb, pb := keepIf S.bottom b.box.pb, bb := keepIf S.bottom b.box.bb,
                        ml := keepIf S.left b.box.ml, pl := keepIf S.left b.box.pl, bl := keepIf S.left b.box.bl },
    removed := { top := S.top || b.removed.top, right := S.right || b.removed.right,
                 bottom := S.bottom || b.removed.bottom, left := S.left || b.removed.left } }

theorem keepIf_keepIf (c d : Bool) (x : Rat) : keepIf c (keepIf d x) = keepIf (d || c) x := by
  cases c <;> cases d <;> rfl

/-- Removing `S`, then `T`, is removing their union. -/
theorem strip_strip (S T : Sides) (b : DBox) :
    strip T (strip S b) =
      strip { top := S.top || T.top, right := S.right || T.right, bottom := S.bottom || T.bottom,
              left := S.left || T.left } b := by
  simp only [strip, keepIf_keepIf, Bool.or_comm, Bool.or_left_comm]

theorem strip_removed (S : Sides) (b : DBox) (t : Side) :
    (strip S b).removed.mem t = (S.mem t || b.removed.mem t) := by
  cases t <;> rfl

/-- What one side contributes to the margin box, before and after. -/
theorem keepIf_side (c : Bool) (m p w : Rat) :
    keepIf c m + keepIf c p + keepIf c w = m + p + w - (if c then m + p + w else 0) := by
  cases c
  · show m + p + w = m + p + w - 0
    grind
  · show (0 : Rat) + 0 + 0 = m + p + w - (m + p + w)
    grind

/-- The margin box loses exactly the removed margins, paddings and borders. -/
theorem strip_marginHeight (S : Sides) (b : DBox) :
    (strip S b).box.marginHeight = b.box.marginHeight
      - (if S.top then b.box.mt + b.box.pt + b.box.bt else 0)
      - (if S.bottom then b.box.mb + b.box.pb + b.box.bb else 0) := by
  have h1 := keepIf_side S.top b.box.mt b.box.pt b.box.bt
  have h2 := keepIf_side S.bottom b.box.mb b.box.pb b.box.bb
  simp only [strip, EBox.marginHeight, EBox.borderHeight, EBox.paddingHeight]
  grind

theorem strip_marginWidth (S : Sides) (b : DBox) :
    (strip S b).box.marginWidth = b.box.marginWidth
      - (if S.left then b.box.ml + b.box.pl + b.box.bl else 0)
      - (if S.right then b.box.mr + b.box.pr + b.box.br else 0) := by
  have h1 := keepIf_side S.left b.box.ml b.box.pl b.box.bl
  have h2 := keepIf_side S.right b.box.mr b.box.pr b.box.br
  simp only [strip, EBox.marginWidth, EBox.borderWidth, EBox.paddingWidth]
  grind

private theorem sub_zero_zero (x : Rat) : x - 0 - 0 = x := by grind

/-! ### `_reset_spacing` -/

theorem resetSpacing_strip (s : Side) (b : DBox) : resetSpacing s b = strip (Sides.empty.add s) b := by
  cases s <;> rfl

/-- (a) `_reset_spacing` never touches the position and the content size. -/
theorem resetSpacing_content (s : Side) (b : DBox) :
    (resetSpacing s b).box.x = b.box.x ∧ (resetSpacing s b).box.y = b.box.y ∧
    (resetSpacing s b).box.w = b.box.w ∧ (resetSpacing s b).box.h = b.box.h := by
  rw [resetSpacing_strip]
  exact ⟨rfl, rfl, rfl, rfl⟩

/-- It records the side, and only adds to the record. -/
theorem resetSpacing_removed (s t : Side) (b : DBox) :
    (resetSpacing s b).removed.mem t = (decide (t = s) || b.removed.mem t) := by
  rw [resetSpacing_strip, strip_removed]
  congr 1
  cases s <;> cases t <;> rfl

theorem resetSpacing_idem (s : Side) (b : DBox) : resetSpacing s (resetSpacing s b) = resetSpacing s b := by
  simp only [resetSpacing_strip, strip_strip, Bool.or_self]

theorem resetSpacing_comm (s t : Side) (b : DBox) :
    resetSpacing s (resetSpacing t b) = resetSpacing t (resetSpacing s b) := by
  simp only [resetSpacing_strip, strip_strip, Bool.or_comm]

/-! ### `ParentBox.remove_decoration` -/

/-- Without `clone`, the top side goes with `start` and the bottom side with `end`. -/
theorem removeDecoration_strip (c s e : Bool) (b : DBox) :
    removeDecoration c s e b = strip { top := !c && s, right := false, bottom := !c && e, left := false } b := by
  cases c <;> cases s <;> cases e <;> rfl

/-- `box-decoration-break: clone`: every fragment keeps the whole decoration. -/
theorem removeDecoration_clone (s e : Bool) (b : DBox) : removeDecoration true s e b = b := rfl

/-- Nothing to remove: nothing changes. -/
theorem removeDecoration_none (c : Bool) (b : DBox) : removeDecoration c false false b = b := by
  cases c <;> rfl

/-- (a) position and content size are never changed (the content box only moves because the decoration
above it is gone, see `removeDecoration_geometry`). -/
theorem removeDecoration_content (c s e : Bool) (b : DBox) :
    (removeDecoration c s e b).box.x = b.box.x ∧ (removeDecoration c s e b).box.y = b.box.y ∧
    (removeDecoration c s e b).box.w = b.box.w ∧ (removeDecoration c s e b).box.h = b.box.h ∧
    (removeDecoration c s e b).box.ml = b.box.ml ∧ (removeDecoration c s e b).box.mr = b.box.mr ∧
    (removeDecoration c s e b).box.pl = b.box.pl ∧ (removeDecoration c s e b).box.pr = b.box.pr ∧
    (removeDecoration c s e b).box.bl = b.box.bl ∧ (removeDecoration c s e b).box.br = b.box.br := by
  rw [removeDecoration_strip]
  exact ⟨rfl, rfl, rfl, rfl, rfl, rfl, rfl, rfl, rfl, rfl⟩

/-- The vertical used values after `remove_decoration(start, end)` without `clone`: the start side loses its
top margin, padding and border, the end side its bottom ones; the other side keeps them. -/
theorem removeDecoration_vertical (s e : Bool) (b : DBox) :
    let r := (removeDecoration false s e b).box
    r.mt = (if s then 0 else b.box.mt) ∧ r.pt = (if s then 0 else b.box.pt) ∧ r.bt = (if s then 0 else b.box.bt) ∧
    r.mb = (if e then 0 else b.box.mb) ∧ r.pb = (if e then 0 else b.box.pb) ∧ r.bb = (if e then 0 else b.box.bb) := by
  rw [removeDecoration_strip]
  exact ⟨rfl, rfl, rfl, rfl, rfl, rfl⟩

/-- (a)(g) **The geometry of a fragment**: the horizontal extent is unchanged; the margin box shrinks by exactly
the removed margins, paddings and borders; a fragment without its start decoration has its content box at the
top of its margin box (`content_box_y() = position_y`). -/
theorem removeDecoration_geometry (s e : Bool) (b : DBox) :
    let r := (removeDecoration false s e b).box
    r.marginWidth = b.box.marginWidth ∧ r.contentBoxX = b.box.contentBoxX ∧
    r.marginHeight = b.box.marginHeight
      - (if s then b.box.mt + b.box.pt + b.box.bt else 0) - (if e then b.box.mb + b.box.pb + b.box.bb else 0) ∧
    (s = true → r.contentBoxY = b.box.y) ∧ (s = false → r.contentBoxY = b.box.contentBoxY) := by
  rw [removeDecoration_strip]
  refine ⟨?_, rfl, strip_marginHeight _ b, ?_, ?_⟩
  · rw [strip_marginWidth]
    exact sub_zero_zero _
  · rintro rfl
    show b.box.y + 0 + 0 + 0 = b.box.y
    simp only [Rat.add_zero]
  · rintro rfl
    rfl

private theorem ite_nonneg {c : Bool} {x : Rat} (h : 0 ≤ x) : 0 ≤ (if c then 0 else x) := by
  split
  · exact Rat.le_refl
  · exact h

/-- (a) non-negative sizes stay non-negative. -/
theorem removeDecoration_nonneg (c s e : Bool) (b : DBox)
    (h : 0 ≤ b.box.pt ∧ 0 ≤ b.box.pb ∧ 0 ≤ b.box.bt ∧ 0 ≤ b.box.bb) :
    let r := (removeDecoration c s e b).box
    0 ≤ r.pt ∧ 0 ≤ r.pb ∧ 0 ≤ r.bt ∧ 0 ≤ r.bb := by
  cases c
  · obtain ⟨-, e1, e2, -, e3, e4⟩ := removeDecoration_vertical s e b
    dsimp only
    rw [e1, e2, e3, e4]
    exact ⟨ite_nonneg h.1, ite_nonneg h.2.1, ite_nonneg h.2.2.1, ite_nonneg h.2.2.2⟩
  · exact h

/-- Idempotent: removing the same decoration again changes nothing (a fragment that is laid out again). -/
theorem removeDecoration_idem (c s e : Bool) (b : DBox) :
    removeDecoration c s e (removeDecoration c s e b) = removeDecoration c s e b := by
  simp only [removeDecoration_strip, strip_strip, Bool.or_self]

/-- Start and end are independent: in any order, together or one after the other. -/
theorem removeDecoration_split (c s e : Bool) (b : DBox) :
    removeDecoration c s e b = removeDecoration c false e (removeDecoration c s false b) ∧
    removeDecoration c s e b = removeDecoration c s false (removeDecoration c false e b) := by
  simp only [removeDecoration_strip, strip_strip, Bool.and_false, Bool.or_false, Bool.false_or, and_self]

/-- Successive calls accumulate (a middle fragment: first cut at its end, later at its start). -/
theorem removeDecoration_acc (c s e s' e' : Bool) (b : DBox) :
    removeDecoration c s' e' (removeDecoration c s e b) = removeDecoration c (s || s') (e || e') b := by
  simp only [removeDecoration_strip, strip_strip, Bool.and_or_distrib_left, Bool.or_false]

/-- `remove_decoration_sides` after the call: exactly the sides recorded before plus the removed ones. -/
theorem removeDecoration_removed (c s e : Bool) (b : DBox) (t : Side) :
    (removeDecoration c s e b).removed.mem t =
      (b.removed.mem t || (!c && ((s && decide (t = .top)) || (e && decide (t = .bottom))))) := by
  rw [removeDecoration_strip, strip_removed, Bool.or_comm]
  congr 1
  cases t <;> simp [Sides.mem]

/-- A removed side has no margin, padding or border left (what the painter and `resolve_radii_percentages`
rely on when they read `remove_decoration_sides`). -/
theorem removeDecoration_zero (s e : Bool) (b : DBox) :
    let r := removeDecoration false s e b
    (s = true → r.removed.top = true ∧ r.box.mt = 0 ∧ r.box.pt = 0 ∧ r.box.bt = 0) ∧
    (e = true → r.removed.bottom = true ∧ r.box.mb = 0 ∧ r.box.pb = 0 ∧ r.box.bb = 0) := by
  rw [removeDecoration_strip]
  constructor <;> rintro rfl <;> exact ⟨rfl, rfl, rfl, rfl⟩

/-! ### `InlineBox.remove_decoration` -/

/-- Without `clone`, the left side goes with `start` in ltr and with `end` in rtl, the right side the other way. -/
theorem removeDecorationInline_strip (c ltr s e : Bool) (b : DBox) :
    removeDecorationInline c ltr s e b =
      strip { top := false, right := !c && (if ltr then e else s), bottom := false,
              left := !c && (if ltr then s else e) } b := by
  cases c <;> cases ltr <;> cases s <;> cases e <;> rfl

theorem removeDecorationInline_clone (ltr s e : Bool) (b : DBox) : removeDecorationInline true ltr s e b = b := rfl

/-- The horizontal used values: in ltr the start is the left side, in rtl the right side. -/
theorem removeDecorationInline_horizontal (ltr s e : Bool) (b : DBox) :
    let r := (removeDecorationInline false ltr s e b).box
    let l := if ltr then s else e      -- is the left side removed?
    let rr := if ltr then e else s     -- is the right side removed?
    r.ml = (if l then 0 else b.box.ml) ∧ r.pl = (if l then 0 else b.box.pl) ∧ r.bl = (if l then 0 else b.box.bl) ∧
    r.mr = (if rr then 0 else b.box.mr) ∧ r.pr = (if rr then 0 else b.box.pr) ∧ r.br = (if rr then 0 else b.box.br) ∧
    r.mt = b.box.mt ∧ r.mb = b.box.mb ∧ r.pt = b.box.pt ∧ r.pb = b.box.pb ∧ r.bt = b.box.bt ∧ r.bb = b.box.bb ∧
    r.w = b.box.w ∧ r.h = b.box.h ∧ r.x = b.box.x ∧ r.y = b.box.y := by
  rw [removeDecorationInline_strip]
  exact ⟨rfl, rfl, rfl, rfl, rfl, rfl, rfl, rfl, rfl, rfl, rfl, rfl, rfl, rfl, rfl, rfl⟩

/-- Left/right mirror image of a box and of its record. -/
def mirror (b : DBox) : DBox :=
  { box := { b.box with ml := b.box.mr, mr := b.box.ml, pl := b.box.pr, pr := b.box.pl, bl := b.box.br, br := b.box.bl },
    removed := { b.removed with left := b.removed.right, right := b.removed.left } }

theorem mirror_mirror (b : DBox) : mirror (mirror b) = b := rfl

theorem mirror_strip (S : Sides) (b : DBox) :
    mirror (strip S b) = strip { S with left := S.right, right := S.left } (mirror b) := rfl

/-- **rtl is the mirror image of ltr**: removing the decoration of an inline box in an rtl context is removing it
in ltr on the mirrored box, mirrored back. -/
theorem removeDecorationInline_rtl_mirror (c s e : Bool) (b : DBox) :
    removeDecorationInline c false s e b = mirror (removeDecorationInline c true s e (mirror b)) := by
  rw [removeDecorationInline_strip, removeDecorationInline_strip, mirror_strip, mirror_mirror]
  rfl

/-- …and swapping start and end is swapping the direction. -/
theorem removeDecorationInline_swap (c ltr s e : Bool) (b : DBox) :
    removeDecorationInline c ltr s e b = removeDecorationInline c (!ltr) e s b := by
  rw [removeDecorationInline_strip, removeDecorationInline_strip]
  cases ltr <;> rfl

theorem removeDecorationInline_width (ltr s e : Bool) (b : DBox) :
    let r := (removeDecorationInline false ltr s e b).box
    r.marginHeight = b.box.marginHeight ∧
    r.marginWidth = b.box.marginWidth
      - (if s then (if ltr then b.box.ml + b.box.pl + b.box.bl else b.box.mr + b.box.pr + b.box.br) else 0)
      - (if e then (if ltr then b.box.mr + b.box.pr + b.box.br else b.box.ml + b.box.pl + b.box.bl) else 0) := by
  rw [removeDecorationInline_strip]
  refine ⟨?_, ?_⟩
  · rw [strip_marginHeight]
    exact sub_zero_zero _
  · rw [strip_marginWidth]
    cases ltr <;> simp only [Bool.not_false, Bool.true_and, if_true, if_false, Bool.false_eq_true]
    -- in rtl the two subtracted terms come in the other order
    grind

/-! ### links: the pagination model and `resolve_radii_percentages` -/

/-- The vertical used values of a box as the pagination model keeps them. -/
def pmGeo (b : EBox) : PM.Geo :=
  { y := b.y, mt := b.mt, mb := b.mb, pt := b.pt, pb := b.pb, bt := b.bt, bb := b.bb, h := b.h }

/-- **The pagination model's cut is `remove_decoration(start=False, end=True)`** (block.py
`find_earlier_page_break` since /repo 24ce8bf: `new_child.remove_decoration(start=False, end=True)`): the
geometry `PM.Geo.cutBottom` gives the box it cuts is the vertical geometry of the function model, for every box
and both values of `box-decoration-break`. -/
theorem cutBottom_is_removeDecoration (st : PM.PStyle) (b : DBox) :
    (pmGeo b.box).cutBottom st = pmGeo (removeDecoration st.clone false true b).box := by
  unfold PM.Geo.cutBottom
  cases st.clone <;> rfl

/-- A fragment cut at its end has square bottom corners: `resolve_radii_percentages` gives `(0, 0)` for a corner
on a side recorded by `remove_decoration`. -/
theorem removed_side_radius (s : Bool) (b : DBox) (rx ry : BoxModel.DimQ) (bw bh : Rat) :
    BoxModel.resolveRadius rx ry (removeDecoration false s true b).removed.bottom bw bh = .ok (0, 0) := by
  rw [((removeDecoration_zero s true b).2 rfl).1]
  unfold BoxModel.resolveRadius
  split <;> rfl

def exBox : DBox :=
  { box := { x := 10, y := 20, w := 100, h := 30, ml := 1, mr := 2, mt := 3, mb := 4, pl := 5, pr := 6, pt := 7,
             pb := 8, bl := 9, br := 10, bt := 11, bb := 12 },
    removed := Sides.empty }

/-- A first fragment (`end`): margin box 75 − 24 = 51 high, content box still at 41; a middle fragment: 30 high,
content box at the top of the margin box; `clone` keeps everything; an rtl inline start fragment loses its right
side. -/
example :
    (removeDecoration false false true exBox).box.marginHeight = 51 ∧
    (removeDecoration false false true exBox).box.contentBoxY = 41 ∧
    (removeDecoration false true true exBox).box.marginHeight = 30 ∧
    (removeDecoration false true true exBox).box.contentBoxY = 20 ∧
    (removeDecoration false true true exBox).removed = { Sides.empty with top := true, bottom := true } ∧
    removeDecoration true true true exBox = exBox ∧
    (removeDecorationInline false false true false exBox).box.marginWidth = 133 - 18 ∧
    (removeDecorationInline false false true false exBox).removed = { Sides.empty with right := true } := by
  decide +kernel

end Wp.C05Deco
