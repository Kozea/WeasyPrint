/-
C20 — Resources go through the caller's URL fetcher; fetch failures degrade gracefully.
Property theorems, and the equations of the model functions (`getImage_miss`, `runStyleEl_cases`, `fontLoop_cons`,
`runRefs_skip` / `runRefs_fetch`) through which they and the other C20 files reason.  All statements are about the model of
`Model/Resources.lean` (tied to /repo by the correspondence harness `py/props/c20.py`) and about the
call-site lists of `Gen/FetchSites.lean`, regenerated from the source by an AST scan on every run.
-/
import WpModel.Model.Resources
import WpModel.Model.ResourcesDoc
import WpModel.Gen.FetchSites
import WpModel.Lemmas.Basic.List

namespace Wp.C20
open Wp Wp.Res

/-! ## (a) `fetch` is a funnel -/

def Ev.isCall : Ev → Bool
  | .call _ => true
  | _ => false

def Ev.isClose : Ev → Bool
  | .close => true
  | .closeWarn => true
  | _ => false

/-- `fetch_funnel` (1): whatever `Exception` the fetcher raises, the `with` statement raises
`URLFetchingError` carrying the class and message, and the body is never entered. -/
theorem fetch_funnel_raises {α} (e : Exc) (url : String) (body : Resp → Except Exc α) :
    fetch (.raises e) url body = ([.call url], .error ⟨"URLFetchingError", e.cls ++ ": " ++ e.msg⟩) ∧
    (Exc.wrapFetch e).isUrlFetching = true := by
  constructor
  · rfl
  · simp [Exc.wrapFetch, Exc.isUrlFetching]

/-- The four logs of one `with fetch(...)` block. -/
theorem fetch_log_cases {α} (f : Fetched) (url : String) (body : Resp → Except Exc α) :
    (fetch f url body).1 = [.call url] ∨ (fetch f url body).1 = [.call url, .body] ∨
    (fetch f url body).1 = [.call url, .body, .close] ∨ (fetch f url body).1 = [.call url, .body, .closeWarn] := by
  fun_cases fetch f url body
  case case3 fo _ => cases fo.closeErr <;> simp
  case case4 => exact .inr (.inl rfl)
  all_goals exact .inl rfl

/-- `fetch_funnel` (2): the fetcher is called exactly once, first, with the URL given. -/
theorem fetch_funnel_one_call {α} (f : Fetched) (url : String) (body : Resp → Except Exc α) :
    (fetch f url body).1.head? = some (.call url) ∧
    ((fetch f url body).1.filter Ev.isCall) = [.call url] := by
  rcases fetch_log_cases f url body with h | h | h | h <;> rw [h] <;> exact ⟨rfl, rfl⟩

/-- `fetch_funnel` (3): when the result carries a file object it is closed exactly once, after the
body, on every path — the body returning or raising makes no difference to the trace — and a
failing `close()` is only logged; without a file object nothing is closed. -/
theorem fetch_funnel_closes_once {α} (r : Resp) (url : String) (body : Resp → Except Exc α) :
    (∀ fo, r.fileObj = some fo →
      (fetch (.resp r) url body).1 = [.call url, .body, if fo.closeErr then .closeWarn else .close] ∧
      ((fetch (.resp r) url body).1.filter Ev.isClose).length = 1) ∧
    (r.fileObj = none → (fetch (.resp r) url body).1.filter Ev.isClose = []) := by
  constructor
  · intro fo h
    cases hc : fo.closeErr <;> simp [fetch, h, hc, List.filter, Ev.isClose]
  · intro h
    simp [fetch, h, List.filter, Ev.isClose]

/-- `fetch_funnel` (4): for a dict result, the `with` statement does what the body does on the
result completed with `redirected_url = url` by default (`mime_type` stays `None` when absent);
a failing `close()` never changes the outcome. -/
theorem fetch_funnel_body {α} (r : Resp) (url : String) (body : Resp → Except Exc α) :
    (fetch (.resp r) url body).2 = body (r.withDefaults url) ∧
    (r.withDefaults url).redirected = some (r.redirected.getD url) ∧
    (r.withDefaults url).mime = r.mime ∧ (r.withDefaults url).content = r.content := by
  refine ⟨?_, rfl, rfl, rfl⟩
  cases h : r.fileObj <;> simp [fetch, h]

theorem fetch_resp {α} (r : Resp) (url : String) (body : Resp → Except Exc α) :
    fetch (.resp r) url body = ((fetch (.resp r) url body).1, body (r.withDefaults url)) :=
  Prod.ext rfl (fetch_funnel_body r url body).1

/-- `fetch_funnel` (5): an exception leaving the `with` statement is the wrapped fetcher exception,
the `AttributeError` of a non-dict result, or an exception of the body itself. -/
theorem fetch_funnel_errors {α} (f : Fetched) (url : String) (body : Resp → Except Exc α) (e : Exc)
    (h : (fetch f url body).2 = .error e) :
    (∃ e', f = .raises e' ∧ e = e'.wrapFetch) ∨ (f = .notDict ∧ e.cls = "AttributeError") ∨
    (∃ r, f = .resp r ∧ body (r.withDefaults url) = .error e) := by
  revert h
  fun_cases fetch f url body <;> intro h
  · cases h; exact .inl ⟨_, rfl, rfl⟩
  · cases h; exact .inr (.inl ⟨rfl, rfl⟩)
  all_goals exact .inr (.inr ⟨_, rfl, h⟩)

example : (fetch (.raises ⟨"OSError", "reset"⟩) "http://a/x" (fun _ => Except.ok ())).2 =
    .error ⟨"URLFetchingError", "OSError: reset"⟩ := rfl

/-! ## (b) `get_image_from_uri` -/

/-- The fetch hands bytes to the loader or fails *at the fetcher*: the fetcher raises, or returns a
dict with a `string`, or with a `file_obj` whose `read()` succeeds. -/
def Fetched.absorbed : Fetched → Bool
  | .raises _ => true
  | .notDict => false
  | .resp r => r.hasString || (match r.fileObj with | some fo => fo.readErr.isNone | none => false)

private theorem readAll_ok_iff (r : Resp) (c : Content) :
    readAll r = .ok c ↔ Fetched.absorbed (.resp r) = true ∧ c = r.content := by
  fun_cases readAll r <;> simp [Fetched.absorbed, *, eq_comm (a := c)]

/-- `fetch` completes the result with defaults that `read()` does not look at. -/
private theorem readAll_ok_of_absorbed (r : Resp) (url : String) (h : Fetched.absorbed (.resp r) = true) :
    readAll (r.withDefaults url) = .ok r.content := (readAll_ok_iff r _).mpr ⟨h, rfl⟩

/-- What `decideImage` returns: an `SVGImage`, or the `RasterImage` Pillow's answer gives; every failure is an
`ImageLoadingError`. -/
private theorem decideImage_cases (req : Req) (opts : Opts) (fn : Option String) (c : Content) (m : Option String) :
    decideImage req opts fn c m = .ok (.svg c.id) ∨
    (∃ p fmt src, rasterInit p req.orient fn opts = .ok (fmt, src) ∧
      decideImage req opts fn c m = .ok (.raster fmt src c.id)) ∨
    ∃ msg, decideImage req opts fn c m = .error ⟨"ImageLoadingError", msg⟩ := by
  fun_cases decideImage req opts fn c m
  case case2 hr => exact Or.inr (Or.inl ⟨_, _, _, hr, rfl⟩)
  all_goals first | exact Or.inl rfl | exact Or.inr (Or.inr ⟨_, rfl⟩)

private theorem decideImage_error_cls (req : Req) (opts : Opts) (fn : Option String) (c : Content)
    (m : Option String) (e : Exc) (h : decideImage req opts fn c m = .error e) :
    e.isImageLoading = true := by
  rcases decideImage_cases req opts fn c m with h' | ⟨_, _, _, _, h'⟩ | ⟨msg, h'⟩
  · rw [h'] at h; cases h
  · rw [h'] at h; cases h
  · rw [h'] at h; cases h; rfl

/-- What the fetch and the decoders make of a request: the image, or the exception raised on the way. -/
def loadImage (fetcher : Fetcher) (opts : Opts) (req : Req) : Except Exc Img :=
  match (fetch (fetcher req.url) req.url (imageBody req)).2 with
  | .error e => .error e
  | .ok (filename, content, mime) => decideImage req opts filename content mime

theorem loadImage_raises (fetcher : Fetcher) (opts : Opts) (req : Req) (e : Exc) (h : fetcher req.url = .raises e) :
    loadImage fetcher opts req = .error e.wrapFetch := by
  rw [loadImage, h]; rfl

/-- A cache hit calls nothing and returns the cached value (an image, or the `None` of an earlier
failure). -/
theorem getImage_hit (cache : Cache) (fetcher : Fetcher) (opts : Opts) (req : Req) (v : Option Img)
    (h : cache.find? (req.key opts) = some v) :
    getImage cache fetcher opts req = (cache, [], .ok v) := by
  unfold getImage
  rw [h]

/-- `get_image_from_uri` on a cache miss: one fetch; then the image is cached, or `None` is cached for the
two exception classes caught, or the exception escapes and the cache stays as it is. -/
theorem getImage_miss (cache : Cache) (fetcher : Fetcher) (opts : Opts) (req : Req)
    (h : cache.find? (req.key opts) = none) :
    getImage cache fetcher opts req =
      match loadImage fetcher opts req with
      | .ok img =>
        ((req.key opts, some img) :: cache, (fetch (fetcher req.url) req.url (imageBody req)).1, .ok (some img))
      | .error e =>
        if e.isUrlFetching || e.isImageLoading then
          ((req.key opts, none) :: cache, (fetch (fetcher req.url) req.url (imageBody req)).1, .ok none)
        else (cache, (fetch (fetcher req.url) req.url (imageBody req)).1, .error e) := by
  unfold getImage loadImage
  rw [h]
  rfl

theorem getImage_log (cache : Cache) (fetcher : Fetcher) (opts : Opts) (req : Req) :
    (getImage cache fetcher opts req).2.1 = [] ∨
    (getImage cache fetcher opts req).2.1 = (fetch (fetcher req.url) req.url (imageBody req)).1 := by
  fun_cases getImage cache fetcher opts req
  · exact .inl rfl
  all_goals exact .inr (by simp only [*])

theorem getImage_cache (cache : Cache) (fetcher : Fetcher) (opts : Opts) (req : Req) :
    (getImage cache fetcher opts req).1 = cache ∨
    ∃ v, cache.find? (req.key opts) = none ∧ (getImage cache fetcher opts req).1 = (req.key opts, v) :: cache ∧
      ∀ img, v = some img → loadImage fetcher opts req = .ok img := by
  fun_cases getImage cache fetcher opts req
  · exact .inl rfl
  · next hc _ _ hf _ _ ho =>
    refine .inr ⟨_, hc, rfl, fun _ hi => ?_⟩
    cases hi
    rw [loadImage, hf]; exact ho
  · exact .inr ⟨none, ‹_›, rfl, nofun⟩
  · exact .inl rfl

/-- For an absorbed fetch outcome, whatever goes wrong is of one of the two classes `get_image_from_uri`
catches: the wrapped fetcher exception, or the `ImageLoadingError` of the decoders. -/
private theorem loadImage_error_cls (fetcher : Fetcher) (opts : Opts) (req : Req)
    (h : Fetched.absorbed (fetcher req.url) = true) (e : Exc) (he : loadImage fetcher opts req = .error e) :
    (e.isUrlFetching || e.isImageLoading) = true := by
  cases hf : fetcher req.url with
  | raises e' => rw [loadImage_raises fetcher opts req e' hf] at he; cases he; rfl
  | notDict => rw [hf] at h; cases h
  | resp r =>
    rw [loadImage, hf] at he
    rw [hf] at h
    rw [(fetch_funnel_body r req.url (imageBody req)).1, imageBody,
      readAll_ok_of_absorbed r req.url h] at he
    rw [decideImage_error_cls _ _ _ _ _ _ he, Bool.or_true]

/- Full statement (false of the current code, see `Witness.C20.read_error_escapes`):
   `∀ cache fetcher opts req, ∃ v, (getImage cache fetcher opts req).2.2 = .ok v`. -/
/-- `image_total`: for every fetch outcome that is absorbed (the fetcher raises — any exception —
or delivers bytes: empty, truncated, wrong type, HTML, anything), `get_image_from_uri` returns an
image or `None`; it never raises. -/
theorem image_total_partial (cache : Cache) (fetcher : Fetcher) (opts : Opts) (req : Req)
    (h : Fetched.absorbed (fetcher req.url) = true) :
    ∃ v, (getImage cache fetcher opts req).2.2 = .ok v := by
  cases hc : cache.find? (req.key opts) with
  | some v => exact ⟨v, by rw [getImage_hit cache fetcher opts req v hc]⟩
  | none =>
    rw [getImage_miss cache fetcher opts req hc]
    cases hl : loadImage fetcher opts req with
    | ok img => exact ⟨some img, rfl⟩
    | error e => exact ⟨none, by dsimp only; rw [if_pos (loadImage_error_cls fetcher opts req h e hl)]⟩

example : Fetched.absorbed (.resp ⟨true, none, some "text/html", none, ⟨22, false, none, false, true, false⟩⟩) = true ∧
    (getImage [] (fun _ => .resp ⟨true, none, some "text/html", none, ⟨22, false, none, false, true, false⟩⟩)
      ⟨false, none, none⟩ ⟨"http://a/x.png", .fromImage, none⟩).2.2 = .ok none := ⟨rfl, rfl⟩

/-- `image_total`, fetcher side: a fetcher that raises — whatever the exception — gives `None`,
which is cached under the request's key (the fetcher is not asked again). -/
theorem image_fetch_failure_is_none (cache : Cache) (fetcher : Fetcher) (opts : Opts) (req : Req) (e : Exc)
    (hmiss : cache.find? (req.key opts) = none) (h : fetcher req.url = .raises e) :
    getImage cache fetcher opts req = (((req.key opts), none) :: cache, [.call req.url], .ok none) := by
  unfold getImage
  simp [hmiss, h, fetch, Exc.wrapFetch, Exc.isUrlFetching]

/-- `image_total`, data side: bytes that neither Pillow nor the XML parser accept (empty, truncated
header, HTML, text, a font, …) give `None` under every MIME type, served as `string` or through a
readable `file_obj`. -/
theorem image_undecodable_is_none (cache : Cache) (fetcher : Fetcher) (opts : Opts) (req : Req) (r : Resp)
    (hmiss : cache.find? (req.key opts) = none) (h : fetcher req.url = .resp r)
    (habs : Fetched.absorbed (.resp r) = true) (hp : r.content.pillow = none) (hx : r.content.xmlOk = false) :
    (getImage cache fetcher opts req).2.2 = .ok none ∧
    (getImage cache fetcher opts req).1 = ((req.key opts), none) :: cache := by
  unfold getImage
  simp only [hmiss, h]
  rw [fetch_resp, imageBody, readAll_ok_of_absorbed r req.url habs]
  cases hm : (effectiveMime req.forcedMime (r.withDefaults req.url) == some "image/svg+xml") <;>
    simp [decideImage, hp, hx, hm, Exc.isImageLoading, Exc.isUrlFetching]

/-- The converse of `image_total_partial`: on a cache miss the three unabsorbed outcomes do escape
(and leave the cache unchanged): a non-dict result (`AttributeError`), a dict with neither `string`
nor `file_obj` (`KeyError`), a `file_obj` whose `read()` raises anything but the two caught classes
(that very exception). -/
theorem image_escapes (cache : Cache) (fetcher : Fetcher) (opts : Opts) (req : Req)
    (hmiss : cache.find? (req.key opts) = none) :
    (fetcher req.url = .notDict → ∃ m, (getImage cache fetcher opts req).2.2 = .error ⟨"AttributeError", m⟩) ∧
    (∀ r, fetcher req.url = .resp r → r.hasString = false → r.fileObj = none →
      (getImage cache fetcher opts req).2.2 = .error ⟨"KeyError", "'file_obj'"⟩) ∧
    (∀ r fo e, fetcher req.url = .resp r → r.hasString = false → r.fileObj = some fo → fo.readErr = some e →
      (e.isUrlFetching || e.isImageLoading) = false →
      (getImage cache fetcher opts req).2.2 = .error e ∧ (getImage cache fetcher opts req).1 = cache) := by
  refine ⟨?_, ?_, ?_⟩
  · intro hf
    exact ⟨"'NoneType' object has no attribute 'setdefault'",
      by simp [getImage, hmiss, hf, fetch, Exc.isUrlFetching, Exc.isImageLoading]⟩
  · intro r hf hs hfo
    simp [getImage, hmiss, hf, fetch, hfo, imageBody, readAll, Resp.withDefaults, hs, Exc.isUrlFetching,
      Exc.isImageLoading]
  · intro r fo e hf hs hfo hr hcls
    cases hc : fo.closeErr <;>
      simp [getImage, hmiss, hf, fetch, hfo, hc, imageBody, readAll, Resp.withDefaults, hs, hr, hcls]

example : ∃ e, (getImage [] (fun _ => .resp ⟨false, some ⟨some ⟨"OSError", "reset"⟩, false⟩, none, none,
      ⟨1, false, some ⟨"PNG", "RGB", false, false, true⟩, false, true, false⟩⟩) ⟨false, none, none⟩
      ⟨"http://a/x.png", .fromImage, none⟩).2.2 = .error e := ⟨_, rfl⟩

/-! ### the cache: one fetch per (URL, orientation, image options), failures included -/

theorem find_cons (c : Cache) (k k' : String) (v : Option Img) :
    Cache.find? ((k, v) :: c) k' = if k == k' then some v else c.find? k' := by
  simp [Cache.find?]

private theorem find_cons_self (c : Cache) (k : String) (v : Option Img) :
    Cache.find? ((k, v) :: c) k = some v := by
  rw [find_cons, beq_self_eq_true, if_pos rfl]

/-- A call that returns (an image, or `None` for a failure that is absorbed) leaves its answer in the cache
under the key of the request. -/
theorem getImage_ok_caches (cache : Cache) (fetcher : Fetcher) (opts : Opts) (req : Req) (v : Option Img)
    (h : (getImage cache fetcher opts req).2.2 = .ok v) :
    (getImage cache fetcher opts req).1.find? (req.key opts) = some v := by
  revert h
  fun_cases getImage cache fetcher opts req <;> intro h <;> cases h
  · assumption
  all_goals exact find_cons_self _ _ _

/-- After any call that returned (image or `None`), the same request is a cache hit: a resource is
fetched at most once per (URL, orientation, image options), also when the fetch failed. -/
theorem image_fetched_at_most_once (cache : Cache) (fetcher : Fetcher) (opts : Opts) (req : Req) (v : Option Img)
    (h : (getImage cache fetcher opts req).2.2 = .ok v) :
    getImage (getImage cache fetcher opts req).1 fetcher opts req =
      ((getImage cache fetcher opts req).1, [], .ok v) :=
  getImage_hit _ fetcher opts req v (getImage_ok_caches cache fetcher opts req v h)

/-! ### only the fetcher's answers for the requested URLs matter -/

/-- `every_loader_uses_fetcher` (images): the result of a call depends on the fetcher only through
its answer for the requested URL, … -/
theorem image_depends_on_fetcher_at_url (cache : Cache) (f g : Fetcher) (opts : Opts) (req : Req)
    (h : f req.url = g req.url) : getImage cache f opts req = getImage cache g opts req := by
  simp [getImage, h]

/-- … and so does any sequence of calls sharing a cache. -/
theorem images_depend_on_fetcher_at_urls (f g : Fetcher) (reqs : List (Opts × Req)) (cache : Cache)
    (h : ∀ r ∈ reqs, f r.2.url = g r.2.url) : runImages f cache reqs = runImages g cache reqs := by
  induction reqs generalizing cache with
  | nil => rfl
  | cons r rest ih =>
    obtain ⟨opts, req⟩ := r
    have h1 := image_depends_on_fetcher_at_url cache f g opts req (h (opts, req) (by simp))
    simp only [runImages, h1]
    rw [ih _ (fun r' hr' => h r' (by simp [hr']))]

theorem fetch_calls {α} (f : Fetched) (url : String) (body : Resp → Except Exc α) (u : String)
    (h : Ev.call u ∈ (fetch f url body).1) : u = url := by
  have : Ev.call u ∈ (fetch f url body).1.filter Ev.isCall := List.mem_filter.mpr ⟨h, rfl⟩
  rw [(fetch_funnel_one_call f url body).2] at this
  simpa using this

/-- The only URL a call hands to the fetcher is the requested one (absolute, as resolved by the caller). -/
theorem image_calls_only_requested (cache : Cache) (fetcher : Fetcher) (opts : Opts) (req : Req) (u : String)
    (h : Ev.call u ∈ (getImage cache fetcher opts req).2.1) : u = req.url := by
  rcases getImage_log cache fetcher opts req with e | e
  · rw [e] at h; exact absurd h List.not_mem_nil
  · rw [e] at h; exact fetch_calls _ _ _ u h

/-! ## (c) a failed reference leaves what the document without the reference leaves -/

/-- `failure_as_absent` (img): with an image that could not be loaded, `handle_img` generates exactly
the boxes of the same element without `src` (the alt text, or nothing). -/
theorem failure_as_absent_img (src alt : Option String) :
    handleImg src alt none = handleImg none alt none := by
  unfold handleImg
  cases src with
  | none => rfl
  | some s => by_cases h : s = "" <;> simp [h]

/-- `failure_as_absent` (embed, object): nothing / the fallback children, as without `src` / `data`. -/
theorem failure_as_absent_embed_object (src : Option String) :
    handleEmbed src none = handleEmbed none none ∧ handleObject src none = handleObject none none := by
  cases src <;> simp [handleEmbed, handleObject]

example : handleImg (some "http://a/x.png") (some "ALT") none = [.altText "ALT"] := by decide

/-- Same effect on the cascade and on the fonts: same selectors in the same order, same
`add_font_face` calls, same escaping exception (the fetch log may differ). -/
def _root_.Wp.Res.Out.sameEffect (a b : Out) : Prop := a.rules = b.rules ∧ a.fonts = b.fonts ∧ a.err = b.err

/-- No effect at all besides fetch events. -/
def _root_.Wp.Res.Out.silent (a : Out) : Prop := a.rules = [] ∧ a.fonts = [] ∧ a.err = none

private theorem ofEvs_silent (evs : List Ev) : (Out.ofEvs evs).silent := by
  refine ⟨?_, ?_, rfl⟩ <;> simp [Out.ofEvs, Out.rules, Out.fonts, List.filterMap_map]
  all_goals (induction evs <;> simp_all [List.filterMap])

private theorem empty_silent : ({} : Out).silent := ⟨rfl, rfl, rfl⟩

private theorem seq_fields (a b : Out) (h : a.err = none) :
    (a.seq b).rules = a.rules ++ b.rules ∧ (a.seq b).fonts = a.fonts ++ b.fonts ∧ (a.seq b).err = b.err := by
  simp [Out.seq, h, Out.rules, Out.fonts, List.filterMap_append]

private theorem seq_silent_left (s b : Out) (h : s.silent) : (s.seq b).sameEffect b := by
  obtain ⟨hr, hf, he⟩ := h
  obtain ⟨h1, h2, h3⟩ := seq_fields s b he
  exact ⟨by rw [h1, hr]; rfl, by rw [h2, hf]; rfl, h3⟩

private theorem seq_congr_right (a b b' : Out) (h : b.sameEffect b') : (a.seq b).sameEffect (a.seq b') := by
  cases ha : a.err with
  | some e => simp [Out.seq, ha, Out.sameEffect]
  | none =>
    obtain ⟨h1, h2, h3⟩ := seq_fields a b ha
    obtain ⟨h1', h2', h3'⟩ := seq_fields a b' ha
    obtain ⟨hr, hf, he⟩ := h
    exact ⟨by rw [h1, h1', hr], by rw [h2, h2', hf], by rw [h3, h3', he]⟩

private theorem absorb_raises_silent (evs : List Ev) (e : Exc) :
    (Out.ofEvs evs (some e.wrapFetch)).absorbFetchError.silent := by
  have h : (Out.ofEvs evs (some e.wrapFetch)).absorbFetchError = Out.ofEvs evs := by
    simp [Out.absorbFetchError, Out.ofEvs, Exc.wrapFetch, Exc.isUrlFetching]
  rw [h]; exact ofEvs_silent evs

private theorem absorb_of_silent (o : Out) (h : o.silent) : o.absorbFetchError = o := by
  simp [Out.absorbFetchError, h.2.2]

/-- A stylesheet fetch that fails gracefully: the fetcher raises (any exception), or — where the MIME
type is checked — the response is not `text/css`. -/
def _root_.Wp.Res.Sheet.failsGracefully (checkMime : Bool) : Sheet → Prop
  | .mk (.raises _) _ => True
  | .mk (.resp r) _ => checkMime = true ∧ r.mime ≠ some "text/css"
  | .mk .notDict _ => False

private theorem runSheet_raises (d : String) (c : Bool) (url : String) (e : Exc) (items : List CssItem) :
    runSheet d c url (.mk (.raises e) items) = Out.ofEvs [.call url] (some e.wrapFetch) := by
  simp [runSheet, fetch]

private theorem runSheet_wrong_mime (d : String) (url : String) (r : Resp) (items : List CssItem)
    (h : r.mime ≠ some "text/css") : (runSheet d true url (.mk (.resp r) items)).silent := by
  have hb : cssSourceBody true (r.withDefaults url) = .ok false := by
    simp [cssSourceBody, Resp.withDefaults, h]
  rw [runSheet, fetch_resp, hb]
  exact ofEvs_silent _

private theorem sheet_failure_absorbed_silent (d : String) (c : Bool) (url : String) (sh : Sheet)
    (hf : sh.failsGracefully c) : (runSheet d c url sh).absorbFetchError.silent := by
  cases sh with
  | mk fetched items =>
    cases fetched with
    | raises e => rw [runSheet_raises]; exact absorb_raises_silent _ e
    | notDict => exact absurd hf (by simp [Sheet.failsGracefully])
    | resp r =>
      obtain ⟨hc, hm⟩ := hf
      subst hc
      have hs := runSheet_wrong_mime d url r items hm
      rw [absorb_of_silent _ hs]; exact hs

/-- What one `<style>` / `<link>` element contributes to `find_stylesheets`: nothing, the items of a
`<style>`, or the sheet a `<link>` resolves to, fetched inside `try … except URLFetchingError`. -/
theorem runStyleEl_cases (d : String) (el : StyleEl) :
    runStyleEl d el = {} ∨
    (el.isLink = false ∧ runStyleEl d el = runItems d false el.items) ∨
    (el.isLink = true ∧ ∃ url, resolveHref el.href el.joined = some url ∧
      runStyleEl d el = (runSheet d true url el.target).absorbFetchError) := by
  fun_cases runStyleEl d el
  case case3 h => exact .inr (.inl ⟨by simpa using h, rfl⟩)
  case case7 h _ _ _ hr => exact .inr (.inr ⟨by simpa using h, _, hr, rfl⟩)
  all_goals exact .inl rfl

/-- `failure_as_absent` (linked stylesheet), element level: a `<link>` whose stylesheet fails
gracefully contributes no selector, no font and no exception, whatever its attributes. -/
theorem link_failure_is_silent (d : String) (el : StyleEl) (hl : el.isLink = true)
    (hf : el.target.failsGracefully true) : (runStyleEl d el).silent := by
  rcases runStyleEl_cases d el with h | ⟨hl', _⟩ | ⟨_, url, _, h⟩
  · rw [h]; exact empty_silent
  · rw [hl] at hl'; cases hl'
  · rw [h]; exact sheet_failure_absorbed_silent d true url el.target hf

private theorem findStylesheets_cons (d : String) (el : StyleEl) (rest : List StyleEl) :
    findStylesheets d (el :: rest) = (runStyleEl d el).seq (findStylesheets d rest) := rfl

/-- `failure_as_absent` (linked stylesheet), document level: the cascade input (selectors in order,
`@font-face` calls, escaping exception) of a document with a gracefully failing `<link>` anywhere is
that of the document without this element. -/
theorem failure_as_absent_link (d : String) (pre post : List StyleEl) (el : StyleEl) (hl : el.isLink = true)
    (hf : el.target.failsGracefully true) :
    (findStylesheets d (pre ++ el :: post)).sameEffect (findStylesheets d (pre ++ post)) := by
  induction pre with
  | nil =>
    simp only [List.nil_append, findStylesheets_cons]
    exact seq_silent_left _ _ (link_failure_is_silent d el hl hf)
  | cons x xs ih =>
    simp only [List.cons_append, findStylesheets_cons]
    exact seq_congr_right _ _ _ ih

example : (findStylesheets "print"
      [⟨true, none, none, some "stylesheet", some "http://a/s.css", none, [],
        .mk (.raises ⟨"OSError", "reset"⟩) [.rule 7]⟩,
       ⟨false, none, none, none, none, none, [.rule 3], .mk .notDict []⟩]).rules = [3] := by decide +kernel

/-- An `@import` rule is skipped (imports no longer allowed, no URL, no media list, media not matching), or its
sheet is fetched inside `try … except URLFetchingError` and the rest of the stylesheet follows. -/
theorem runItems_import_cases (d : String) (ign : Bool) (url : Option String) (media : Option (List String))
    (target : Sheet) (rest : List CssItem) :
    runItems d ign (.importRule url media target :: rest) = runItems d ign rest ∨
    ∃ u, url = some u ∧ runItems d ign (.importRule url media target :: rest) =
      (runSheet d false u target).absorbFetchError.seq (runItems d ign rest) := by
  cases ign with
  | true => left; simp only [runItems, if_true]
  | false =>
    simp only [runItems, Bool.false_eq_true, if_false]
    cases url with
    | none => exact Or.inl rfl
    | some u =>
      cases media with
      | none => exact Or.inl rfl
      | some m =>
        dsimp only
        split
        · exact Or.inl rfl
        · exact Or.inr ⟨u, rfl, rfl⟩

/-- `failure_as_absent` (@import): an `@import` whose fetch raises (any exception) is skipped: the
rest of the stylesheet has the effect it has without the rule — wherever the rule stands and whether
or not imports are still allowed there. -/
theorem failure_as_absent_import (d : String) (ign : Bool) (u : Option String) (m : Option (List String))
    (e : Exc) (items rest : List CssItem) :
    (runItems d ign (.importRule u m (.mk (.raises e) items) :: rest)).sameEffect (runItems d ign rest) := by
  rcases runItems_import_cases d ign u m (.mk (.raises e) items) rest with h | ⟨v, _, h⟩
  · rw [h]; exact ⟨rfl, rfl, rfl⟩
  · rw [h]; exact seq_silent_left _ _ (sheet_failure_absorbed_silent d false v _ trivial)

/-! ### @font-face -/

/-- What `add_font_face` leaves behind, apart from the fetch log. -/
def _root_.Wp.Res.FontOut.sameEffect (a b : FontOut) : Prop :=
  a.installed = b.installed ∧ a.written = b.written ∧ a.warned = b.warned ∧ a.err = b.err

/-- The same, not counting the bytes written to the private temp file (a fetched but unusable font
is written there before fontconfig rejects it). -/
def _root_.Wp.Res.FontOut.sameOutcome (a b : FontOut) : Prop :=
  a.installed = b.installed ∧ a.warned = b.warned ∧ a.err = b.err

/-- What one `src` entry does to the loop: `none` — no target, nothing happens; otherwise the events of its one
fetch and, when the bytes reach the temp file, their id and whether fontconfig accepts them. -/
def srcStep (fetcher : Fetcher) (src : FontSrc) : Option (List Ev × Option (Nat × Bool)) :=
  src.target.map fun url =>
    ((fetch (fetcher url) url readAll).1,
      match (fetch (fetcher url) url readAll).2 with
      | .error _ => none
      | .ok content => if content.woff && !content.woffOk then none else some (content.id, content.fontOk))

theorem fontLoop_cons (fetcher : Fetcher) (src : FontSrc) (rest : List FontSrc) (acc : FontOut) :
    fontLoop fetcher (src :: rest) acc =
      match srcStep fetcher src with
      | none => fontLoop fetcher rest acc
      | some (evs, none) => fontLoop fetcher rest { acc with log := acc.log ++ evs }
      | some (evs, some (id, false)) =>
        fontLoop fetcher rest { acc with log := acc.log ++ evs, written := acc.written ++ [id] }
      | some (evs, some (id, true)) =>
        { acc with log := acc.log ++ evs, written := acc.written ++ [id], installed := some id } := by
  rw [fontLoop, srcStep]
  cases src.target with
  | none => rfl
  | some url =>
    dsimp only [Option.map_some]
    cases (fetch (fetcher url) url readAll).2 with
    | error e => rfl
    | ok content =>
      dsimp only
      by_cases hw : (content.woff && !content.woffOk) = true
      · rw [if_pos hw, if_pos hw]
      · rw [if_neg hw, if_neg hw]
        cases hf : content.fontOk <;> rfl

/-- The loop started from two accumulators with the same outcome ends with the same outcome; and with the same
temp file when it started with the same one. -/
private theorem fontLoop_frame (fetcher : Fetcher) (srcs : List FontSrc) (a b : FontOut) (h : a.sameOutcome b) :
    (fontLoop fetcher srcs a).sameOutcome (fontLoop fetcher srcs b) ∧
    (a.written = b.written → (fontLoop fetcher srcs a).written = (fontLoop fetcher srcs b).written) := by
  induction srcs generalizing a b with
  | nil => exact ⟨⟨h.1, rfl, h.2.2⟩, id⟩
  | cons src rest ih =>
    rw [fontLoop_cons, fontLoop_cons]
    match srcStep fetcher src with
    | none => exact ih a b h
    | some (evs, none) => exact ih _ _ h
    | some (evs, some (id, false)) =>
      have := ih { a with log := a.log ++ evs, written := a.written ++ [id] }
        { b with log := b.log ++ evs, written := b.written ++ [id] } h
      exact ⟨this.1, fun hw => this.2 (congrArg (· ++ [id]) hw)⟩
    | some (evs, some (id, true)) => exact ⟨⟨rfl, h.2⟩, fun hw => congrArg (· ++ [id]) hw⟩

/-- Does this `src` entry end with a font registered in fontconfig? -/
def srcInstalls (fetcher : Fetcher) (src : FontSrc) : Bool :=
  match src.target with
  | none => false
  | some url =>
    match (fetch (fetcher url) url readAll).2 with
    | .error _ => false
    | .ok content => !(content.woff && !content.woffOk) && content.fontOk

private theorem srcInstalls_eq (fetcher : Fetcher) (src : FontSrc) : srcInstalls fetcher src =
    match srcStep fetcher src with
    | some (_, some (_, ok)) => ok
    | _ => false := by
  rw [srcInstalls, srcStep]
  cases src.target with
  | none => rfl
  | some url =>
    dsimp only [Option.map_some]
    cases (fetch (fetcher url) url readAll).2 with
    | error e => rfl
    | ok content =>
      dsimp only
      by_cases hw : (content.woff && !content.woffOk) = true
      · rw [if_pos hw, hw]; rfl
      · rw [if_neg hw, Bool.not_eq_true _ |>.mp hw]; rfl

/-- `failure_as_absent` (@font-face `src`), full strength since the repair of
`font-data-then-local-typeerror`: an entry that does not end with an installed font — broken URL,
`internal`, unmatched `local()`, a fetch that raises / is not a dict / cannot be read, a woff that
does not decode, data fontconfig rejects — is skipped: the font installed, the warning and the
outcome are those of the `src` list without it, wherever it stands and whatever follows. -/
theorem failure_as_absent_font_src (fetcher : Fetcher) (src : FontSrc) (rest : List FontSrc) (acc : FontOut)
    (h : srcInstalls fetcher src = false) :
    (fontLoop fetcher (src :: rest) acc).sameOutcome (fontLoop fetcher rest acc) := by
  rw [srcInstalls_eq] at h
  rw [fontLoop_cons]
  match hs : srcStep fetcher src, h with
  | none, _ => exact ⟨rfl, rfl, rfl⟩
  | some (evs, none), _ =>
    exact (fontLoop_frame fetcher rest { acc with log := acc.log ++ evs } acc ⟨rfl, rfl, rfl⟩).1
  | some (evs, some (id, false)), _ =>
    exact (fontLoop_frame fetcher rest { acc with log := acc.log ++ evs, written := acc.written ++ [id] } acc
      ⟨rfl, rfl, rfl⟩).1

/-- When the fetch itself fails (the fetcher raises — any exception), not even the temp file differs. -/
theorem failure_as_absent_font_fetch (fetcher : Fetcher) (u : String) (e : Exc) (rest : List FontSrc) (acc : FontOut)
    (hf : fetcher u = .raises e) :
    (fontLoop fetcher (.external (some u) :: rest) acc).sameEffect (fontLoop fetcher rest acc) := by
  simp only [fontLoop, FontSrc.target, hf, fetch]
  obtain ⟨⟨h1, h2, h3⟩, hw⟩ := fontLoop_frame fetcher rest { acc with log := acc.log ++ [.call u] } acc ⟨rfl, rfl, rfl⟩
  exact ⟨h1, hw rfl, h2, h3⟩

example : (fontLoop (fun _ => .raises ⟨"OSError", "x"⟩)
      [.external (some "http://a/f.woff"), .«local» "Nope" false false "file:///none"] {}).warned = true := by
  decide +kernel

/-- Regression (finding `font-data-then-local-typeerror`, repaired in 829d022): a fetched but unusable
font followed by a `local()` entry no longer raises; the entry is skipped and the next one is tried. -/
example :
    let fetcher : Fetcher := fun _ => .resp ⟨true, none, none, none, ⟨25, false, none, false, true, false⟩⟩
    (fontLoop fetcher [.external (some "http://a.test/f.ttf"), .«local» "Foo" true false "file:///none"] {}).err = none ∧
    (fontLoop fetcher [.external (some "http://a.test/f.ttf"), .«local» "Foo" true false "file:///none"] {}).warned = true ∧
    srcInstalls fetcher (.external (some "http://a.test/f.ttf")) = false := by decide +kernel

/-! ### attachments -/

/-- `failure_as_absent` (attachment): a failing fetch gives `None` (nothing is added to the PDF). -/
theorem attachment_failure_is_none (fetcher : Fetcher) (url : String) (e : Exc) (h : fetcher url = .raises e) :
    writeAttachment fetcher url = ([.call url], .ok none) := by
  simp [writeAttachment, h, fetch, Exc.wrapFetch, Exc.isUrlFetching]

/-- `failure_as_absent` (`<link rel=attachment>`): the embedded files of the document are those of
the document without an attachment for which `write_pdf_attachment` returned `None`, wherever it stands in the list. -/
theorem failure_as_absent_attachment (fetcher : Fetcher) (pre post : List String) (url : String)
    (h : (writeAttachment fetcher url).2 = .ok none) :
    (metadataAttachments fetcher (pre ++ url :: post)).2 = (metadataAttachments fetcher (pre ++ post)).2 := by
  induction pre with
  | nil =>
    cases hw : writeAttachment fetcher url with
    | mk evs out =>
      rw [hw] at h
      cases h
      simp only [List.nil_append, metadataAttachments, hw]
      cases (metadataAttachments fetcher post).2 <;> simp [Except.map]
  | cons x xs ih =>
    simp only [List.cons_append, metadataAttachments]
    cases hx : writeAttachment fetcher x with
    | mk evs out =>
      cases out with
      | error e' => rfl
      | ok v => simp only [ih]

/-- `add_annotations` fetches each distinct attachment target at most once: a target already in
`annot_files` (embedded, or failed) is not fetched again. -/
theorem annotation_target_fetched_once (fetcher : Fetcher) (files : List (String × Option Nat)) (url : String)
    (v : Option Nat) (rest : List String) (h : files.lookup url = some v) :
    (annotAttachments fetcher files (url :: rest)).1 = (annotAttachments fetcher files rest).1 := by
  simp [annotAttachments, h]

/-! ### graceful degradation of the other loaders: no exception for absorbed fetch outcomes -/

/-- `write_pdf_attachment` never raises for an absorbed fetch outcome. -/
theorem attachment_total_partial (fetcher : Fetcher) (url : String) (h : Fetched.absorbed (fetcher url) = true) :
    ∃ v, (writeAttachment fetcher url).2 = .ok v := by
  cases hf : fetcher url with
  | raises e => exact ⟨none, congrArg (·.2) (attachment_failure_is_none fetcher url e hf)⟩
  | notDict => simp [hf, Fetched.absorbed] at h
  | resp r =>
    rw [hf] at h
    rw [writeAttachment, hf, fetch_resp, show attachmentBody = readAll from rfl, readAll_ok_of_absorbed r url h]
    exact ⟨some r.content.id, rfl⟩

/-- The `src` loop of `add_font_face` never raises, whatever the `src` list and whatever the fetcher does for each URL
(raise, not a dict, unreadable stream, garbage, valid font).  Full strength since 829d022. -/
theorem fontLoop_total (fetcher : Fetcher) (srcs : List FontSrc) (acc : FontOut) (hacc : acc.err = none) :
    (fontLoop fetcher srcs acc).err = none := by
  fun_induction fontLoop fetcher srcs acc <;> first | exact hacc | (rename_i ih; exact ih hacc)

mutual
  /-- Every fetch reachable from the item is absorbed (raises at the fetcher, or delivers bytes). -/
  def itemAllAbsorbed : CssItem → Bool
    | .rule _ => true
    | .other => true
    | .importRule _ _ target => sheetAllAbsorbed target
    | .mediaRule _ items => itemsAllAbsorbed items
    | .fontFace _ _ => true
  def itemsAllAbsorbed : List CssItem → Bool
    | [] => true
    | i :: rest => itemAllAbsorbed i && itemsAllAbsorbed rest
  def sheetAllAbsorbed : Sheet → Bool
    | .mk f items => Fetched.absorbed f && itemsAllAbsorbed items
end

private theorem seq_err_none (a b : Out) (ha : a.err = none) (hb : b.err = none) : (a.seq b).err = none := by
  simp [Out.seq, ha, hb]

private theorem absorb_err_none (o : Out) (h : o.err = none) : o.absorbFetchError.err = none := by
  simp [Out.absorbFetchError, h]

/-- `CSS(url=…)` reads its source as every loader does, behind the MIME test. -/
private theorem cssSourceBody_eq (c : Bool) (r : Resp) :
    cssSourceBody c r = if c && r.mime != some "text/css" then .ok false else (readAll r).map fun _ => true := by
  fun_cases cssSourceBody c r <;> simp only [readAll, *] <;> rfl

private theorem cssSourceBody_ok (c : Bool) (r : Resp) (url : String) (h : Fetched.absorbed (.resp r) = true) :
    ∃ b, cssSourceBody c (r.withDefaults url) = .ok b := by
  rw [cssSourceBody_eq, readAll_ok_of_absorbed r url h]
  split
  · exact ⟨false, rfl⟩
  · exact ⟨true, rfl⟩

mutual
  /-- `preprocess_stylesheet` never raises when every reachable `@import` fetch is absorbed. -/
  theorem stylesheet_items_total_partial (d : String) :
      ∀ (ign : Bool) (items : List CssItem), itemsAllAbsorbed items = true → (runItems d ign items).err = none
    | _, [], _ => rfl
    | ign, .rule id :: rest, h => by
      simp only [itemsAllAbsorbed, itemAllAbsorbed, Bool.true_and] at h
      simp only [runItems]
      exact seq_err_none _ _ rfl (stylesheet_items_total_partial d true rest h)
    | ign, .other :: rest, h => by
      simp only [itemsAllAbsorbed, itemAllAbsorbed, Bool.true_and] at h
      simp only [runItems]
      exact stylesheet_items_total_partial d true rest h
    | ign, .fontFace complete face :: rest, h => by
      simp only [itemsAllAbsorbed, itemAllAbsorbed, Bool.true_and] at h
      simp only [runItems]
      refine seq_err_none _ _ ?_ (stylesheet_items_total_partial d true rest h)
      cases complete <;> rfl
    | ign, .mediaRule media items :: rest, h => by
      simp only [itemsAllAbsorbed, itemAllAbsorbed, Bool.and_eq_true] at h
      simp only [runItems]
      cases media with
      | none => exact stylesheet_items_total_partial d ign rest h.2
      | some m =>
        simp only
        split
        · exact stylesheet_items_total_partial d true rest h.2
        · exact seq_err_none _ _ (stylesheet_items_total_partial d true items h.1)
            (stylesheet_items_total_partial d true rest h.2)
    | ign, .importRule url media target :: rest, h => by
      simp only [itemsAllAbsorbed, itemAllAbsorbed, Bool.and_eq_true] at h
      rcases runItems_import_cases d ign url media target rest with e | ⟨u, _, e⟩
      · rw [e]; exact stylesheet_items_total_partial d ign rest h.2
      · rw [e]
        exact seq_err_none _ _ (stylesheet_sheet_total_partial d false u target h.1)
          (stylesheet_items_total_partial d ign rest h.2)
  /-- `CSS(url=…)` inside `try … except URLFetchingError` never raises when every reachable fetch is
  absorbed (the fetcher raising included: that is the logged case). -/
  theorem stylesheet_sheet_total_partial (d : String) (c : Bool) (url : String) :
      ∀ (sh : Sheet), sheetAllAbsorbed sh = true → (runSheet d c url sh).absorbFetchError.err = none
    | .mk (.raises e) items, _ => by
      rw [runSheet_raises]; exact (absorb_raises_silent _ e).2.2
    | .mk .notDict items, h => by simp [sheetAllAbsorbed, Fetched.absorbed] at h
    | .mk (.resp r) items, h => by
      simp only [sheetAllAbsorbed, Bool.and_eq_true] at h
      obtain ⟨b, hb⟩ := cssSourceBody_ok c r url h.1
      apply absorb_err_none
      rw [runSheet, fetch_resp, hb]
      cases b with
      | false => rfl
      | true => exact seq_err_none _ _ rfl (stylesheet_items_total_partial d false items h.2)
end

/-- `find_stylesheets` never raises when every stylesheet fetch of the document — linked or imported,
at any depth — is absorbed: failures are logged and skipped. -/
theorem find_stylesheets_total_partial (d : String) (els : List StyleEl)
    (h : ∀ el ∈ els, (el.isLink = false → itemsAllAbsorbed el.items = true) ∧
                     (el.isLink = true → sheetAllAbsorbed el.target = true)) :
    (findStylesheets d els).err = none := by
  induction els with
  | nil => rfl
  | cons el rest ih =>
    have hel := h el (by simp)
    refine seq_err_none _ _ ?_ (ih (fun e he => h e (by simp [he])))
    rcases runStyleEl_cases d el with h' | ⟨hl, h'⟩ | ⟨hl, url, _, h'⟩
    · rw [h']
    · rw [h']; exact stylesheet_items_total_partial d false el.items (hel.1 hl)
    · rw [h']; exact stylesheet_sheet_total_partial d true url el.target (hel.2 hl)

/-! ## (d) the bytes embedded are the bytes the fetcher returned -/

/-- Without a local file name, `RasterImage` keeps its data in memory. -/
theorem raster_without_filename_in_memory (p : Pil) (o : Orient) (opts : Opts) (fmt : String) (src : Src)
    (h : rasterInit p o none opts = .ok (fmt, src)) : src = .memOriginal ∨ src = .memReencoded := by
  revert h
  fun_cases rasterInit p o none opts <;> intro h <;> cases h
  -- each branch re-encodes, keeps `cacheImageData none`, or fails
  all_goals first | exact Or.inr rfl | exact Or.inl (congrArg cacheImageData (ite_self none))

/-- What `decideImage` builds from content `c` with no file name reads nothing from disk and embeds
`c`'s bytes, as they are or re-encoded by Pillow. -/
private theorem decideImage_no_filename (req : Req) (opts : Opts) (c : Content) (m : Option String) (img : Img)
    (h : decideImage req opts none c m = .ok img) (fs : Fs) :
    (dataAtWrite fs img = .ok (.fetched c.id) ∨ dataAtWrite fs img = .ok (.reencodedFrom c.id)) ∧
    opensAtWrite img = [] := by
  revert h
  fun_cases decideImage req opts none c m <;> intro h <;> cases h
  case case2 hr =>
    rcases raster_without_filename_in_memory _ _ _ _ _ hr with rfl | rfl
    · exact ⟨.inl rfl, rfl⟩
    · exact ⟨.inr rfl, rfl⟩
  all_goals exact ⟨.inl rfl, rfl⟩

/-- A loaded image whose reported location (`redirected_url`, by default the requested URL) is not a
`file:` URL was decoded without a file name: it holds the fetcher's bytes and opens nothing. -/
private theorem loadImage_no_file (fetcher : Fetcher) (opts : Opts) (req : Req) (img : Img)
    (hn : ∀ r, fetcher req.url = .resp r → urlScheme (r.redirected.getD req.url) ≠ "file")
    (h : loadImage fetcher opts req = .ok img) (fs : Fs) :
    ∃ r, fetcher req.url = .resp r ∧
      (dataAtWrite fs img = .ok (.fetched r.content.id) ∨ dataAtWrite fs img = .ok (.reencodedFrom r.content.id)) ∧
      opensAtWrite img = [] := by
  unfold loadImage at h
  cases hf : fetcher req.url with
  | raises e => rw [hf] at h; cases h
  | notDict => rw [hf] at h; cases h
  | resp r =>
    have hs : (urlScheme ((r.withDefaults req.url).redirected.getD "") == "file") = false := by
      simpa [Resp.withDefaults] using hn r hf
    rw [hf, (fetch_funnel_body r req.url (imageBody req)).1, imageBody, hs] at h
    cases hread : readAll (r.withDefaults req.url) with
    | error e => rw [hread] at h; cases h
    | ok content =>
      rw [hread] at h
      cases ((readAll_ok_iff _ _).mp hread).2
      exact ⟨r, rfl, decideImage_no_filename req opts r.content _ img h fs⟩

/- Full statement (false of the current code, see `Witness.C20.lazy_local_reread`): the same without
   the hypothesis on the scheme of the redirected URL. -/
/-- `bytes_from_fetcher`: when the URL the fetcher reports (`redirected_url`, by default the
requested URL) is not a `file:` URL, the image `get_image_from_uri` returns embeds the bytes the
fetcher returned — as they are, or re-encoded from them — whatever is on the local file system, and
opens no file when the PDF is written. -/
theorem bytes_from_fetcher_partial (fetcher : Fetcher) (opts : Opts) (req : Req) (r : Resp) (img : Img)
    (hf : fetcher req.url = .resp r)
    (hscheme : urlScheme (r.redirected.getD req.url) ≠ "file")
    (h : (getImage [] fetcher opts req).2.2 = .ok (some img)) (fs : Fs) :
    (dataAtWrite fs img = .ok (.fetched r.content.id) ∨ dataAtWrite fs img = .ok (.reencodedFrom r.content.id)) ∧
    opensAtWrite img = [] := by
  rw [getImage_miss [] fetcher opts req rfl] at h
  cases hl : loadImage fetcher opts req with
  | ok img' =>
    rw [hl] at h
    cases h
    obtain ⟨r', hr', hres⟩ := loadImage_no_file fetcher opts req img
      (fun r' hr' => by rw [hf] at hr'; cases hr'; exact hscheme) hl fs
    rw [hf] at hr'
    cases hr'
    exact hres
  | error e =>
    rw [hl] at h
    dsimp only at h
    split at h <;> cases h

example : (getImage [] (fun _ => .resp ⟨true, none, some "image/png", none,
      ⟨1, false, some ⟨"PNG", "RGB", false, false, true⟩, false, true, false⟩⟩) ⟨false, none, none⟩
      ⟨"http://a/x.png", .fromImage, none⟩).2.2 = .ok (some (.raster "PNG" .memOriginal 1)) := rfl

/-- SVG images, re-encoded rasters and in-memory rasters never read the file system, under any URL. -/
theorem only_lazy_local_opens (img : Img) (h : opensAtWrite img ≠ []) :
    ∃ fmt path c, img = .raster fmt (.lazyLocal path) c := by
  cases img with
  | svg c => simp [opensAtWrite] at h
  | raster fmt src c =>
    cases src with
    | lazyLocal path => exact ⟨fmt, path, c, rfl⟩
    | memOriginal => simp [opensAtWrite] at h
    | memReencoded => simp [opensAtWrite] at h

/-! ## (c′, d′) the whole document: render and write_pdf complete, nothing is opened -/

/-- No cached image re-reads the file system. -/
def cacheInMemory (cache : Cache) : Prop := ∀ k img, (k, some img) ∈ cache → opensAtWrite img = []

/-- The fetcher's answer for `u`, if a dict, does not report a `file:` location. -/
def notFileLocation (fetcher : Fetcher) (u : String) : Prop :=
  ∀ r, fetcher u = .resp r → urlScheme (r.redirected.getD u) ≠ "file"

private theorem getImage_keeps_in_memory (cache : Cache) (fetcher : Fetcher) (opts : Opts) (req : Req)
    (hc : cacheInMemory cache) (hn : notFileLocation fetcher req.url) :
    cacheInMemory (getImage cache fetcher opts req).1 := by
  rcases getImage_cache cache fetcher opts req with e | ⟨v, _, e, hv⟩
  · rw [e]; exact hc
  · rw [e]
    intro k img hmem
    rcases List.mem_cons.mp hmem with hk | hmem
    · obtain ⟨_, _, _, hopens⟩ := loadImage_no_file fetcher opts req img hn (hv img (Prod.mk.inj hk).2.symm) (fun _ => none)
      exact hopens
    · exact hc k img hmem

/-- A reference without URL, or with an empty one, fetches nothing and gets the boxes of a missing image. -/
theorem runRefs_skip (f : Fetcher) (o : Opts) (c : Cache) (r : Doc.ImgRef) (rest : List Doc.ImgRef)
    (h : r.url = none ∨ r.url = some "") :
    Doc.runRefs f o c (r :: rest) =
      ((Doc.runRefs f o c rest).1, Doc.refBoxes r none :: (Doc.runRefs f o c rest).2.1,
        (Doc.runRefs f o c rest).2.2.1, (Doc.runRefs f o c rest).2.2.2) := by
  rw [Doc.runRefs]
  rcases h with h | h <;> rw [h] <;> rfl

/-- Any other reference asks `get_image_from_uri`; an exception that escapes ends the stage. -/
theorem runRefs_fetch (f : Fetcher) (o : Opts) (c : Cache) (r : Doc.ImgRef) (rest : List Doc.ImgRef) (u : String)
    (hu : r.url = some u) (hne : u ≠ "") :
    Doc.runRefs f o c (r :: rest) =
      match (getImage c f o ⟨u, r.orient, r.forcedMime⟩).2.2 with
      | .error e =>
        ((getImage c f o ⟨u, r.orient, r.forcedMime⟩).2.1, [], (getImage c f o ⟨u, r.orient, r.forcedMime⟩).1, some e)
      | .ok image =>
        ((getImage c f o ⟨u, r.orient, r.forcedMime⟩).2.1 ++
            (Doc.runRefs f o (getImage c f o ⟨u, r.orient, r.forcedMime⟩).1 rest).1,
          Doc.refBoxes r image :: (Doc.runRefs f o (getImage c f o ⟨u, r.orient, r.forcedMime⟩).1 rest).2.1,
          (Doc.runRefs f o (getImage c f o ⟨u, r.orient, r.forcedMime⟩).1 rest).2.2.1,
          (Doc.runRefs f o (getImage c f o ⟨u, r.orient, r.forcedMime⟩).1 rest).2.2.2) := by
  rw [Doc.runRefs, hu]
  dsimp only
  rw [if_neg (by rwa [beq_iff_eq])]
  rfl

theorem ref_url_cases (r : Doc.ImgRef) :
    (r.url = none ∨ r.url = some "") ∨ ∃ u, r.url = some u ∧ u ≠ "" := by
  cases r.url with
  | none => exact Or.inl (Or.inl rfl)
  | some u =>
    by_cases h : u = ""
    · exact Or.inl (Or.inr (congrArg some h))
    · exact Or.inr ⟨u, rfl, h⟩

private theorem runRefs_total (fetcher : Fetcher) (opts : Opts) (refs : List Doc.ImgRef) (cache : Cache)
    (hc : cacheInMemory cache)
    (h : ∀ r ∈ refs, ∀ u, r.url = some u → Fetched.absorbed (fetcher u) = true ∧ notFileLocation fetcher u) :
    (Doc.runRefs fetcher opts cache refs).2.2.2 = none ∧
    cacheInMemory (Doc.runRefs fetcher opts cache refs).2.2.1 := by
  induction refs generalizing cache with
  | nil => exact ⟨rfl, hc⟩
  | cons r rest ih =>
    have hrest : ∀ r' ∈ rest, ∀ u, r'.url = some u → Fetched.absorbed (fetcher u) = true ∧ notFileLocation fetcher u :=
      fun r' hr' => h r' (by simp [hr'])
    rcases ref_url_cases r with hs | ⟨u, hu, hne⟩
    · rw [runRefs_skip fetcher opts cache r rest hs]; exact ih cache hc hrest
    · rw [runRefs_fetch fetcher opts cache r rest u hu hne]
      obtain ⟨habs, hnf⟩ := h r List.mem_cons_self u hu
      obtain ⟨v, hv⟩ := image_total_partial cache fetcher opts ⟨u, r.orient, r.forcedMime⟩ habs
      rw [hv]
      exact ih _ (getImage_keeps_in_memory cache fetcher opts ⟨u, r.orient, r.forcedMime⟩ hc hnf) hrest

/-! What one element of an SVG does to `drawItems`: nothing, a direct call of the fetcher, or `get_image_from_uri`. -/

theorem svgItem_cases (it : Doc.SvgItem) :
    (it = .image none ∨ it = .image (some "")) ∨ (∃ u, it = .useExternal u) ∨ ∃ u, it = .image (some u) ∧ u ≠ "" :=
  match it with
  | .useExternal u => .inr (.inl ⟨u, rfl⟩)
  | .image none => .inl (.inl rfl)
  | .image (some u) => if h : u = "" then .inl (.inr (h ▸ rfl)) else .inr (.inr ⟨u, rfl, h⟩)

section drawItems
variable {f : Fetcher} {o : Opts} {deeper : Cache → String → Nat → Svg.DrawOut} {c : Cache} {rest : List Doc.SvgItem}

theorem drawItems_skip {it : Doc.SvgItem} (h : it = .image none ∨ it = .image (some "")) :
    Svg.drawItems f o deeper c (it :: rest) = Svg.drawItems f o deeper c rest := by
  rcases h with h | h <;> rw [h, Svg.drawItems]
  rfl

/-- An `<image href>` with a URL, by the answer `g` of `get_image_from_uri`: an exception ends this SVG; an `SVGImage` is
drawn in turn (`deeper`), then the rest. -/
theorem drawItems_image {u : String} (hne : u ≠ "") {g : Cache × List Ev × Except Exc (Option Img)}
    (hg : getImage c f o ⟨u, .fromImage, some "image/*"⟩ = g) :
    Svg.drawItems f o deeper c (.image (some u) :: rest) =
      match g.2.2 with
      | .error _ => (g.1, g.2.1, false)
      | .ok (some (.svg n)) =>
        let (c1, e1, x1) := deeper g.1 (Svg.nestedKey o u) n
        let (c2, e2, x2) := Svg.drawItems f o deeper c1 rest
        (c2, g.2.1 ++ e1 ++ e2, x1 || x2)
      | .ok _ =>
        let (c2, e2, x2) := Svg.drawItems f o deeper g.1 rest
        (c2, g.2.1 ++ e2, x2) := by
  rw [Svg.drawItems, if_neg (by rwa [beq_iff_eq]), hg]
  match g with
  | (_, _, .error _) => rfl
  | (_, _, .ok none) => rfl
  | (_, _, .ok (some (.svg _))) => rfl
  | (_, _, .ok (some (.raster ..))) => rfl

end drawItems

private theorem drawItems_keeps_in_memory (fetcher : Fetcher) (opts : Opts) (deeper : Cache → String → Nat → Svg.DrawOut)
    (hdeeper : ∀ cache key c, cacheInMemory cache → cacheInMemory (deeper cache key c).1)
    (items : List Doc.SvgItem) (cache : Cache) (hc : cacheInMemory cache)
    (h : ∀ u, Doc.SvgItem.image (some u) ∈ items → notFileLocation fetcher u) :
    cacheInMemory (Svg.drawItems fetcher opts deeper cache items).1 := by
  induction items generalizing cache with
  | nil => exact hc
  | cons it rest ih =>
    have ih := fun c hc => ih c hc (fun u hu => h u (List.mem_cons_of_mem _ hu))
    rcases svgItem_cases it with hs | ⟨u, rfl⟩ | ⟨u, rfl, hne⟩
    · rw [drawItems_skip hs]; exact ih cache hc
    · exact ih cache hc
    · have hkeep := getImage_keeps_in_memory cache fetcher opts ⟨u, .fromImage, some "image/*"⟩ hc
        (h u List.mem_cons_self)
      rw [drawItems_image hne rfl]
      split
      · exact hkeep
      · exact ih _ (hdeeper _ _ _ hkeep)
      · exact ih _ hkeep

private theorem drawObject_keeps_in_memory (fetcher : Fetcher) (opts : Opts) (info : List (Nat × List Doc.SvgItem))
    (h : ∀ e ∈ info, ∀ u, Doc.SvgItem.image (some u) ∈ e.2 → notFileLocation fetcher u)
    (fuel : Nat) (drawing : List String) (cache : Cache) (key : String) (c : Nat) (hc : cacheInMemory cache) :
    cacheInMemory (Svg.drawObject fetcher opts info fuel drawing cache key c).1 := by
  induction fuel generalizing drawing cache key c with
  | zero => exact hc
  | succ fuel ih =>
    simp only [Svg.drawObject]
    split
    · exact hc
    · apply drawItems_keeps_in_memory fetcher opts _ (fun cache' key' c' hc' => ih _ cache' key' c' hc') _ cache hc
      intro u hu
      obtain ⟨items, hi, hu⟩ := List.mem_lookup_getD hu
      exact h (c, items) hi u hu

private theorem paintSvgs_keeps_in_memory (fetcher : Fetcher) (opts : Opts) (info : List (Nat × List Doc.SvgItem))
    (cs : List (String × Nat)) (cache : Cache) (hc : cacheInMemory cache)
    (h : ∀ e ∈ info, ∀ u, Doc.SvgItem.image (some u) ∈ e.2 → notFileLocation fetcher u) :
    cacheInMemory (Doc.paintSvgs fetcher opts info cache cs).1 := by
  induction cs generalizing cache with
  | nil => exact hc
  | cons c rest ih =>
    obtain ⟨key, c⟩ := c
    simp only [Doc.paintSvgs]
    apply ih
    exact drawObject_keeps_in_memory fetcher opts info h _ _ cache key c hc

private theorem localPaths_nil (cache : Cache) (fmt : String) (h : cacheInMemory cache) :
    Doc.localPaths cache fmt = [] := by
  unfold Doc.localPaths
  have hd : ∀ l : List String, l = [] → l.eraseDups = [] := by intro l hl; subst hl; rfl
  apply hd
  rw [List.filterMap_eq_nil_iff]
  intro x hx
  obtain ⟨k, v⟩ := x
  have hmem : (k, v) ∈ cache := by simpa using hx
  cases v with
  | none => rfl
  | some img =>
    cases img with
    | svg c => rfl
    | raster f src c =>
      cases src with
      | lazyLocal p =>
        have := h k _ hmem
        simp [opensAtWrite] at this
      | memOriginal => rfl
      | memReencoded => rfl

private theorem annots_total (fetcher : Fetcher) (urls : List String) (files : List (String × Option Nat))
    (h : ∀ u ∈ urls, Fetched.absorbed (fetcher u) = true) :
    ∃ vs, (annotAttachments fetcher files urls).2 = .ok vs := by
  fun_induction annotAttachments fetcher files urls with
  | case1 => exact ⟨[], rfl⟩
  | case3 _ u _ _ _ _ hw =>
    obtain ⟨v, hv⟩ := attachment_total_partial fetcher u (h u List.mem_cons_self)
    rw [hw] at hv; cases hv
  | case2 _ _ _ _ _ _ _ hr ih | case4 _ _ _ _ _ _ _ _ _ hr ih =>
    obtain ⟨vs, hvs⟩ := ih fun u' hu' => h u' (List.mem_cons_of_mem _ hu')
    rw [hr] at hvs; cases hvs
    exact ⟨_, rfl⟩

private theorem metas_total (fetcher : Fetcher) (urls : List String)
    (h : ∀ u ∈ urls, Fetched.absorbed (fetcher u) = true) :
    ∃ vs, (metadataAttachments fetcher urls).2 = .ok vs := by
  fun_induction metadataAttachments fetcher urls with
  | case1 => exact ⟨[], rfl⟩
  | case2 u _ _ _ hw =>
    obtain ⟨v, hv⟩ := attachment_total_partial fetcher u (h u List.mem_cons_self)
    rw [hw] at hv; cases hv
  | case3 _ _ _ _ _ _ _ hr ih =>
    obtain ⟨vs, hvs⟩ := ih fun u' hu' => h u' (List.mem_cons_of_mem _ hu')
    rw [hr] at hvs; cases hvs
    exact ⟨_, rfl⟩

private theorem interp_total (fetcher : Fetcher) (acts : List Act) (st : FontState) :
    (Doc.interp fetcher st acts).2.2.2 = none := by
  fun_induction Doc.interp fetcher st acts with
  | case1 => rfl
  | case2 _ _ _ _ _ _ _ hr ih | case3 _ _ _ _ _ _ _ hr ih | case5 _ _ _ _ _ _ _ _ _ _ _ hr ih => rw [hr] at ih; exact ih
  | case4 st face _ _ _ ha e he =>
    have herr : (addFontFace fetcher st face).2.err = none := by
      unfold addFontFace
      split
      · rfl
      · exact fontLoop_total fetcher face.srcs {} rfl
    rw [ha] at herr
    cases he.symm.trans herr

/-- A document on which the property must hold in full: every fetch it triggers either raises at the
fetcher or delivers bytes (any bytes), and no image comes with a `file:` location.  (`@font-face`
rules need no hypothesis since 829d022.) -/
structure PlainDocument (d : Doc.Document) : Prop where
  styles : ∀ el ∈ d.styles, (el.isLink = false → itemsAllAbsorbed el.items = true) ∧
                            (el.isLink = true → sheetAllAbsorbed el.target = true)
  images : ∀ r ∈ d.images, ∀ u, r.url = some u → Fetched.absorbed (d.fetcher u) = true ∧ notFileLocation d.fetcher u
  metas : ∀ u ∈ d.metaAttachments, Fetched.absorbed (d.fetcher u) = true
  annots : ∀ u ∈ d.annotAttachments, Fetched.absorbed (d.fetcher u) = true
  svgs : ∀ e ∈ d.svgInfo, ∀ u, Doc.SvgItem.image (some u) ∈ e.2 → notFileLocation d.fetcher u

/-- `failure degrades gracefully`, whole pipeline: on a plain document — whatever subset of its
fetches fails and in whatever mode (exception, empty, truncated, wrong type, HTML) — `render` and
`write_pdf` both complete, and no local file is opened behind the fetcher, whatever is on disk.  The
fetches made while SVG images are drawn need no hypothesis at all besides the `file:` one: whatever
they raise is absorbed by `SVGImage.draw`. -/
theorem document_completes_partial (d : Doc.Document) (h : PlainDocument d) :
    (Doc.run d).render = .ok () ∧ (Doc.run d).write = .ok () ∧ (Doc.run d).opens = [] := by
  have hcss := find_stylesheets_total_partial d.device d.styles h.styles
  have hinterp := interp_total d.fetcher (findStylesheets d.device d.styles).acts {}
  obtain ⟨hierr, hmem⟩ := runRefs_total d.fetcher d.opts d.images [] (by intro k img hm; simp at hm) h.images
  obtain ⟨as, has⟩ := annots_total d.fetcher d.annotAttachments [] h.annots
  obtain ⟨ms, hms⟩ := metas_total d.fetcher d.metaAttachments h.metas
  unfold Doc.run
  dsimp only
  -- the stages become variables; what the lemmas above say of them decides every `match` of `run`
  generalize Doc.interp d.fetcher {} (findStylesheets d.device d.styles).acts = r1 at hinterp ⊢
  generalize Doc.runRefs d.fetcher d.opts [] d.images = r2 at hierr hmem ⊢
  generalize annotAttachments d.fetcher [] d.annotAttachments = r3 at has ⊢
  generalize metadataAttachments d.fetcher d.metaAttachments = r4 at hms ⊢
  obtain ⟨log, rules, inst, fontErr⟩ := r1
  obtain ⟨ilog, boxes, cache, ierr⟩ := r2
  obtain ⟨evs, aout⟩ := r3
  obtain ⟨evs', mout⟩ := r4
  dsimp only at hinterp hierr hmem has hms ⊢
  subst hinterp hierr has hms
  have hmem := paintSvgs_keeps_in_memory d.fetcher d.opts d.svgInfo
    ((Doc.paintOrder d.images).filterMap (Doc.svgOfRef d.opts cache)) cache hmem h.svgs
  simp [hcss, localPaths_nil _ _ hmem, Doc.readLocal]

/-- Non-vacuity: a document with a stylesheet, an @import, a font, an image and an attachment whose
fetches all fail is plain; it renders with the alt text, no rule, no font, nothing embedded. -/
def failingDocument : Doc.Document where
  device := "print"
  styles := [⟨true, none, none, some "stylesheet", some "http://a.test/s.css", none, [],
              .mk (.raises ⟨"OSError", "reset"⟩) [.rule 1]⟩,
             ⟨false, none, none, none, none, none,
              [.importRule (some "http://a.test/i.css") (some ["all"]) (.mk (.raises ⟨"TimeoutError", ""⟩) [.rule 2]),
               .fontFace true ⟨1, [.external (some "http://a.test/f.woff")]⟩, .rule 3], .mk .notDict []⟩]
  images := [⟨.img, some "http://a.test/x.png", some "ALT", .fromImage, none, none⟩]
  metaAttachments := ["http://a.test/a.bin"]
  annotAttachments := []
  fetcher := fun _ => .raises ⟨"OSError", "reset"⟩
  opts := ⟨false, none, none⟩
  fs := fun _ => none

example : PlainDocument failingDocument := by
  refine ⟨?_, ?_, ?_, ?_, ?_⟩
  · intro el hel
    simp only [failingDocument, List.mem_cons, List.not_mem_nil, or_false] at hel
    rcases hel with h | h <;> subst h <;>
      simp [itemsAllAbsorbed, itemAllAbsorbed, sheetAllAbsorbed, Fetched.absorbed]
  · intro r hr u hu
    refine ⟨rfl, ?_⟩
    intro resp hresp
    simp [failingDocument] at hresp
  · intro u _; rfl
  · intro u hu; simp [failingDocument] at hu
  · intro e he u _ r hr
    simp [failingDocument] at hr

example : (Doc.run failingDocument).rules = [3] ∧ (Doc.run failingDocument).boxes = [[.altText "ALT"]] ∧
    (Doc.run failingDocument).embedded = [] := by decide +kernel

/-! ## (e) every loader gets its bytes from the fetcher; call sites that open files are whitelisted -/

/-- `every_loader_uses_fetcher` (fonts): the `src` loop depends on the fetcher only through its
answers for the URLs of the list (`url(...)` entries and the files matched by `local(...)`). -/
theorem fonts_depend_on_fetcher_at_urls (f g : Fetcher) (srcs : List FontSrc) (acc : FontOut)
    (h : ∀ s ∈ srcs, ∀ u, s.target = some u → f u = g u) :
    fontLoop f srcs acc = fontLoop g srcs acc := by
  induction srcs generalizing acc with
  | nil => rfl
  | cons s rest ih =>
    have hstep : srcStep f s = srcStep g s := by
      rw [srcStep, srcStep]
      cases ht : s.target with
      | none => rfl
      | some u => rw [Option.map_some, Option.map_some, h s List.mem_cons_self u ht]
    have ih := fun acc' => ih acc' (fun s' hs' => h s' (List.mem_cons_of_mem _ hs'))
    rw [fontLoop_cons, fontLoop_cons, hstep]
    match srcStep g s with
    | none => exact ih acc
    | some (evs, none) => exact ih _
    | some (evs, some (id, false)) => exact ih _
    | some (evs, some (id, true)) => rfl

/-- `every_loader_uses_fetcher` (attachments). -/
theorem attachment_depends_on_fetcher_at_url (f g : Fetcher) (url : String) (h : f url = g url) :
    writeAttachment f url = writeAttachment g url := by
  simp [writeAttachment, h]

/-- Classification of the call sites that can open a file, a URL or a socket. -/
inductive SiteKind where
  | callerInput      -- a path / target given by the caller through the API, not by the document
  | bundled          -- data files shipped with the package (importlib.resources)
  | fontTemp         -- the private temp dir where fetched fonts are written for fontconfig
  | diskCache        -- the image cache directory chosen by the caller
  | memory           -- `Image.open(BytesIO(...))`: bytes already in memory
  | defaultFetcher   -- inside `default_url_fetcher`, the fetcher used when the caller gives none
  | lazyLocalImage   -- `LazyLocalImage.data`: re-reads a `file:` path at write time (known finding)
  deriving DecidableEq, Repr

/-- The whitelist: every site that exists today, with the reason it is allowed. -/
def openWhitelist : List ((String × String × String × String) × SiteKind) := [
  (("__init__.py", "Attachment.__init__", "getctime", "filename"), .callerInput),
  (("__init__.py", "Attachment.__init__", "getmtime", "filename"), .callerInput),
  (("__init__.py", "_select_source", "open", "filename"), .callerInput),
  (("document.py", "DiskCache.__getitem__", "self._path_from_key(key).read_bytes", "-"), .diskCache),
  (("document.py", "DiskCache.__setitem__", "path.write_bytes", "value"), .diskCache),
  (("document.py", "DiskCache.__contains__", "self._path_from_key(key).exists", "-"), .diskCache),
  (("document.py", "DiskCache.__del__", "path.unlink", "-"), .diskCache),
  (("document.py", "Document.write_pdf", "open", "target"), .callerInput),
  (("draw/text.py", "draw_first_line", "Image.open", "BytesIO()"), .memory),
  (("html.py", "<module>", "files(css) / 'html5_ua.css'.read_text", "const"), .bundled),
  (("html.py", "<module>", "files(css) / 'html5_ua_form.css'.read_text", "const"), .bundled),
  (("html.py", "<module>", "files(css) / 'html5_ph.css'.read_text", "const"), .bundled),
  (("images.py", "RasterImage.get_x_object", "Image.open", "BytesIO()"), .memory),
  (("images.py", "LazyLocalImage.data", "Path(self._filename).read_bytes", "-"), .lazyLocalImage),
  (("images.py", "get_image_from_uri", "Image.open", "BytesIO()"), .memory),
  (("pdf/__init__.py", "generate_pdf", "files(__package__) / 'sRGB2014.icc'.read_bytes", "-"), .bundled),
  (("text/fonts.py", "FontConfiguration.add_font_face", "mkdtemp", "-"), .fontTemp),
  (("text/fonts.py", "FontConfiguration.add_font_face", "font_path.exists", "-"), .fontTemp),
  (("text/fonts.py", "FontConfiguration.add_font_face", "font_path.write_bytes", "font"), .fontTemp),
  (("text/fonts.py", "FontConfiguration.__del__", "rmtree", "self._folder"), .fontTemp),
  (("urls.py", "default_url_fetcher", "urlopen", "Request()"), .defaultFetcher),
  (("urls.py", "default_url_fetcher", "Request", "url"), .defaultFetcher)]

/-- `every_loader_uses_fetcher`, tie to the source: every call site of `open`, `read_bytes`,
`read_text`, `write_bytes`, `urlopen`, `Request`, `mkdtemp`, … found by the AST scan of
`weasyprint/**/*.py` on this run is on the whitelist.  (A new site breaks this fact.) -/
theorem open_sites_whitelisted : ∀ s ∈ Gen.openSites, (openWhitelist.map (·.1)).contains s = true := by
  decide +kernel

/-- Exactly one whitelisted kind reads a path named by the document behind the fetcher's back:
`LazyLocalImage.data` (the known finding `lazy-local-image-reread`). -/
theorem only_lazy_local_reads_document_paths :
    (openWhitelist.filter (fun e => e.2 = .lazyLocalImage)).map (·.1) =
      [("images.py", "LazyLocalImage.data", "Path(self._filename).read_bytes", "-")] := by
  decide +kernel

/-- The places where a fetcher is called: `urls.fetch` itself, the three loaders that go through it
(`_select_source` for HTML / CSS / attachments, `get_image_from_uri`, `add_font_face`), and the two
SVG sites that bypass `fetch` (`<use>` of an external document calls the fetcher directly;
`@import` in an SVG `<style>` calls a method that does not exist and the image is dropped). -/
def fetchWhitelist : List (String × String × String) := [
  ("__init__.py", "_select_source", "fetch"),
  ("images.py", "get_image_from_uri", "fetch"),
  ("svg/css.py", "find_stylesheets_rules", "tree.fetch_url"),
  ("svg/defs.py", "get_use_tree", "svg.url_fetcher"),
  ("text/fonts.py", "FontConfiguration.add_font_face", "fetch"),
  ("urls.py", "fetch", "url_fetcher")]

theorem fetch_sites_exact : Gen.fetchSites = fetchWhitelist := rfl

/-! ### which exceptions each loader absorbs: the `except` clauses of the source, regenerated each run -/

/-- The functions whose `try` statements the models mirror. -/
def loaderScopes : List String := ["fetch", "get_image_from_uri", "SVGImage.draw", "find_stylesheets", "preprocess_stylesheet",
  "FontConfiguration.add_font_face", "get_use_tree", "write_pdf_attachment", "handle_svg"]

/-- The `except` clauses of the loaders, in source order, and the model branch that mirrors each. -/
def handlerWhitelist : List (String × String × String) := [
  -- `try: CSS(url=…) except URLFetchingError` around a `<link>`: `Out.absorbFetchError` in `runStyleEl`
  ("css/__init__.py", "find_stylesheets", "URLFetchingError"),
  -- invalid selector (not a fetch); then `@import`: `absorbFetchError` in `runItems`
  ("css/__init__.py", "preprocess_stylesheet", "cssselect2.SelectorError"),
  ("css/__init__.py", "preprocess_stylesheet", "URLFetchingError"),
  -- inline `<svg>`: whatever building the image raises is logged, no box
  ("html.py", "handle_svg", "Exception"),
  -- `SVGImage.draw`: everything raised while drawing is swallowed, the `_drawing` flag reset (`Svg.drawItems`, error branch)
  ("images.py", "SVGImage.draw", "BaseException +finally"),
  -- `getImage`: `e.isUrlFetching || e.isImageLoading`; the four inner ones re-raise as `ImageLoadingError` (`decideImage`)
  ("images.py", "get_image_from_uri", "(URLFetchingError, ImageLoadingError)"),
  ("images.py", "get_image_from_uri", "Exception"),
  ("images.py", "get_image_from_uri", "Exception"),
  ("images.py", "get_image_from_uri", "Exception"),
  ("images.py", "get_image_from_uri", "Exception"),
  -- `writeAttachment`: `e.isUrlFetching`
  ("pdf/anchors.py", "write_pdf_attachment", "URLFetchingError"),
  -- local `<use>` target missing; external `<use>`: fetch + parse failures give no tree (`Svg.drawItems`, `useExternal`)
  ("svg/defs.py", "get_use_tree", "Exception"),
  ("svg/defs.py", "get_use_tree", "Exception"),
  -- `fontLoop`: `except Exception: continue` around the fetch, and around the WOFF decoding
  ("text/fonts.py", "FontConfiguration.add_font_face", "Exception"),
  ("text/fonts.py", "FontConfiguration.add_font_face", "Exception"),
  -- `fetch`: the fetcher call (→ `URLFetchingError`), the `with` body (`finally`: close), `file_obj.close()` (warning)
  ("urls.py", "fetch", "Exception"),
  ("urls.py", "fetch", " +finally"),
  ("urls.py", "fetch", "Exception")]

/-- The exception classes the loaders absorb are exactly those the models absorb: narrowing an `except` clause (a
failure mode then aborts the render) or widening one changes this list and breaks the proof. -/
theorem loader_handlers_exact :
    Gen.handlerSites.filter (fun s => loaderScopes.contains s.2.1) = handlerWhitelist := by decide +kernel

end Wp.C20
