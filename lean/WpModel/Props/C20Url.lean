/-
C20 — "… is obtained by calling the url_fetcher supplied by the caller with the absolute URL".
Theorems about the URL resolution model (`Model/ResourcesUrl.lean`: urllib.parse.urljoin, `iri_to_uri`,
`url_join`, `get_url_attribute`, `_find_base_url`), tied to the real functions by the `url-resolution`
correspondence section of py/props/c20.py.
-/
import WpModel.Model.ResourcesUrl
import WpModel.Lemmas.UriByte

namespace Wp.C20.Url
open Wp Wp.Res Wp.Res.Url

/-- ASCII and legal in a URI (unreserved, reserved, or `%`). -/
def isUriChar (c : Char) : Bool := isUriByte c.toNat

/-! ## `iri_to_uri` -/

private theorem isUriChar_eq (c : Char) : isUriChar c =
    (decide (c.toNat < 0x80) && (isAlpha c || isDigit c || "_.-~/:?#[]@!$&'()*+,;=%".toList.contains c)) := by
  rw [isUriChar, isUriByte, Char.ofNat_toNat]

private theorem flat_fix (l : List Char) (h : l.all isUriChar = true) :
    (l.flatMap utf8).flatMap quoteByte = l := by
  induction l with
  | nil => rfl
  | cons c rest ih =>
    simp only [List.all_cons, Bool.and_eq_true] at h
    have hc : isUriByte c.toNat = true := h.1
    have hlt := isUriByte_lt hc
    have hu : utf8 c = [c.toNat] := by simp [utf8, hlt]
    have hq : quoteByte c.toNat = [c] := by
      rw [quoteByte, if_pos hc, Char.ofNat_toNat]
    simp [List.flatMap_cons, hu, hq, ih h.2]

/-- `iri_to_uri` "turns a Unicode IRI into an ASCII-only URI": for every string that is not a `data:`
URL, every character of the result is ASCII and legal in a URI — whatever the input contains (spaces,
quotes, control characters, any Unicode). -/
theorem iri_to_uri_ascii (url : List Char) (h : url.take 5 ≠ "data:".toList) :
    (iriToUri url).all isUriChar = true := by
  have hb : (url.take 5 == "data:".toList) = false := by simpa using h
  simp only [iriToUri, hb, Bool.false_eq_true, ↓reduceIte, List.all_flatMap]
  exact List.all_eq_true.mpr fun c _ => List.all_eq_true.mpr fun b _ => List.all_eq_true.mpr (quoteByte_uri b)

/-- On a string that is already an ASCII URI, `iri_to_uri` is the identity (in particular `%` is never
double-encoded) … -/
theorem iri_to_uri_fixpoint (url : List Char) (h : url.all isUriChar = true) : iriToUri url = url := by
  fun_cases iriToUri url
  · rfl
  · exact flat_fix url h

/-- … hence it is idempotent. -/
theorem iri_to_uri_idempotent (url : List Char) : iriToUri (iriToUri url) = iriToUri url := by
  by_cases h : url.take 5 = "data:".toList
  · have hb : (url.take 5 == "data:".toList) = true := by simpa using h
    have h1 : iriToUri url = url := by simp only [iriToUri, hb, ↓reduceIte]
    rw [h1, h1]
  · exact iri_to_uri_fixpoint _ (iri_to_uri_ascii url h)

example : String.ofList (iriToUri "http://a.test/é b".toList) = "http://a.test/%C3%A9%20b" := by decide +kernel

/-! ## `url_join`, `get_url_attribute` -/

/-- `url_join` returns `None` (and logs "Relative URI reference without a base URI") exactly when the
reference is relative, there is no base URL and relative results are not allowed. -/
theorem url_join_none_iff (base url : List Char) (allowRelative : Bool) :
    urlJoin base url allowRelative = none ↔
      (urlIsAbsolute (String.ofList url) = false ∧ base = [] ∧ allowRelative = false) := by
  unfold urlJoin
  cases ha : urlIsAbsolute (String.ofList url) <;> cases base <;> cases allowRelative <;> simp

/-- An absolute reference ignores the base URL. -/
theorem url_join_absolute (base base' url : List Char) (a a' : Bool) (h : urlIsAbsolute (String.ofList url) = true) :
    urlJoin base url a = urlJoin base' url a' ∧ urlJoin base url a = some (iriToUri url) := by
  simp [urlJoin, h]

/-- A missing, empty or blank attribute gives no URL: nothing is fetched for it. -/
theorem get_url_attribute_blank (attr : Option (List Char)) (base : Option (List Char)) (a : Bool)
    (h : pyStrip (attr.getD []) = []) : getUrlAttribute attr base a = none := by
  simp [getUrlAttribute, h]

example : getUrlAttribute (some " \t ".toList) (some "http://a.test/".toList) true = none := by decide +kernel
example : (getUrlAttribute (some " x.png ".toList) (some "http://a.test/d/e.html".toList) false).map String.ofList =
    some "http://a.test/d/x.png" := by decide +kernel

/-! ## what reaches the fetcher is absolute -/

/-- A scheme as `UNICODE_SCHEME_RE` wants it: a letter, then at least one more scheme character. -/
def validScheme (s : List Char) : Bool :=
  match s with
  | c :: d :: rest => isAlpha c && (d :: rest).all isSchemeChar
  | _ => false

private theorem validScheme_all (s : List Char) (h : validScheme s = true) : s.all isSchemeChar = true := by
  match s, h with
  | c :: d :: more, h =>
    simp only [validScheme, Bool.and_eq_true] at h
    rw [List.all_cons, h.2, Bool.and_true, isSchemeChar, h.1]
    rfl

private theorem splitFirst_append_sep (sep : Char) (s rest : List Char) (h : s.all (· != sep) = true) :
    splitFirst sep (s ++ sep :: rest) = (s, some rest) := by
  induction s with
  | nil => simp [splitFirst]
  | cons c cs ih =>
    simp only [List.all_cons, Bool.and_eq_true, bne_iff_ne, ne_eq] at h
    have hc : (c == sep) = false := by simpa using h.1
    simp only [List.cons_append, splitFirst, hc, Bool.false_eq_true, ↓reduceIte]
    rw [ih (by simpa using h.2)]

private theorem schemeChar_ne_colon (c : Char) (h : isSchemeChar c = true) : (c != ':') = true := by
  by_cases hc : c = ':'
  · subst hc; exact absurd h (by decide)
  · simpa using hc

/-- A string that starts with a valid scheme and a colon is absolute for `url_is_absolute`. -/
theorem absolute_of_scheme_prefix (s rest : List Char) (h : validScheme s = true) :
    urlIsAbsolute (String.ofList (s ++ ':' :: rest)) = true := by
  have hall : s.all (· != ':') = true := by
    rw [List.all_eq_true]
    intro x hx
    exact schemeChar_ne_colon x (List.all_eq_true.mp (validScheme_all s h) x hx)
  unfold urlIsAbsolute
  rw [String.toList_ofList, splitFirst_append_sep ':' _ rest hall]
  match s, h with
  | c :: d :: more, h => exact h

private theorem isAlpha_lt (c : Char) (h : isAlpha c = true) : c.toNat < 0x80 := by
  simp only [isAlpha, Bool.or_eq_true, Bool.and_eq_true, decide_eq_true_eq] at h
  rcases h with ⟨_, h⟩ | ⟨_, h⟩
  · exact Nat.lt_of_le_of_lt (show c.toNat ≤ 'z'.toNat from h) (by decide)
  · exact Nat.lt_of_le_of_lt (show c.toNat ≤ 'Z'.toNat from h) (by decide)

private theorem isDigit_lt (c : Char) (h : isDigit c = true) : c.toNat < 0x80 := by
  simp only [isDigit, Bool.and_eq_true, decide_eq_true_eq] at h
  exact Nat.lt_of_le_of_lt (show c.toNat ≤ '9'.toNat from h.2) (by decide)

private theorem schemeChar_uri (c : Char) (h : isSchemeChar c = true) : isUriChar c = true := by
  simp only [isSchemeChar, Bool.or_eq_true, beq_iff_eq] at h
  rcases h with (((h | h) | h) | h) | h
  · rw [isUriChar_eq, h, decide_eq_true (isAlpha_lt c h)]; rfl
  · rw [isUriChar_eq, h, decide_eq_true (isDigit_lt c h), Bool.or_true]; rfl
  · exact punct_hex_uri.1 c (by subst h; decide)
  · exact punct_hex_uri.1 c (by subst h; decide)
  · exact punct_hex_uri.1 c (by subst h; decide)

/-- `iri_to_uri` keeps a prefix of URI characters as it is. -/
theorem iri_to_uri_keeps_prefix (s rest : List Char) (hs : s.all isUriChar = true) :
    ∃ rest', iriToUri (s ++ rest) = s ++ rest' := by
  unfold iriToUri
  split
  · exact ⟨rest, rfl⟩
  · exact ⟨(rest.flatMap utf8).flatMap quoteByte, by rw [List.flatMap_append, List.flatMap_append, flat_fix s hs]⟩

/-- What `iri_to_uri` makes of a string with a valid scheme is absolute for `url_is_absolute`. -/
theorem iri_to_uri_absolute (s rest : List Char) (h : validScheme s = true) :
    urlIsAbsolute (String.ofList (iriToUri (s ++ ':' :: rest))) = true := by
  have hs : (s ++ [':']).all isUriChar = true := by
    rw [List.all_append, List.all_eq_true.mpr fun x hx => schemeChar_uri x (List.all_eq_true.mp (validScheme_all s h) x hx)]
    simp only [Bool.true_and, List.all_cons, List.all_nil, Bool.and_true]
    exact punct_hex_uri.1 ':' (by decide)
  obtain ⟨rest', hk⟩ := iri_to_uri_keeps_prefix (s ++ [':']) rest hs
  rw [List.append_assoc, List.singleton_append] at hk
  rw [hk, List.append_assoc, List.singleton_append]
  exact absolute_of_scheme_prefix s rest' h

/-! ## `urljoin`: a relative reference against a hierarchical base gives an absolute URL -/

private theorem urlparse_scheme (url d : List Char) :
    (urlparse url d).scheme = (splitSchemeD (clean url) d).1 := by
  fun_cases urlparse url d <;> rfl

private theorem urlunparse_scheme_prefix (p : Parts) (h : p.scheme ≠ []) :
    ∃ rest, urlunparse p = p.scheme ++ ':' :: rest := by
  have hs : (!p.scheme.isEmpty) = true := by
    rw [Bool.not_eq_true', List.isEmpty_eq_false_iff]
    exact h
  unfold urlunparse
  extract_lets path slashed auth withScheme withQuery
  have h1 : withScheme = p.scheme ++ ':' :: auth := if_pos hs
  -- the query and the fragment are appended at the end: the prefix stays
  have h2 : ∃ r, withQuery = p.scheme ++ ':' :: r := by
    by_cases hq : (!p.query.isEmpty) = true
    · exact ⟨auth ++ '?' :: p.query, by rw [show withQuery = _ from if_pos hq, h1]; exact List.append_assoc ..⟩
    · exact ⟨auth, by rw [show withQuery = _ from if_neg hq, h1]⟩
  obtain ⟨r, h2⟩ := h2
  by_cases hf : (!p.fragment.isEmpty) = true
  · exact ⟨r ++ '#' :: p.fragment, by rw [if_pos hf, h2]; exact List.append_assoc ..⟩
  · exact ⟨r, by rw [if_neg hf, h2]⟩

/-- The reference has no scheme of its own (`urlsplit` finds none). -/
def isRelativeRef (url : List Char) : Bool := (splitScheme (clean url)).1.isEmpty

private theorem splitSchemeD_relative (url d : List Char) (h : isRelativeRef url = true) :
    (splitSchemeD (clean url) d).1 = d := by
  unfold isRelativeRef at h
  unfold splitSchemeD
  split
  · rfl
  · rename_i s rest hne heq
    rw [heq] at h
    simp only [List.isEmpty_iff] at h
    exact absurd h (fun e => hne e)

/-- When the reference parses to the base's scheme and that scheme is hierarchical, every remaining
branch of `urljoin` ends in `urlunparse` of parts that carry this scheme. -/
private theorem urljoin_eq_urlunparse (base url : List Char) (hb : base ≠ []) (hu : url ≠ [])
    (hsch : (urlparse url (urlparse base []).scheme).scheme = (urlparse base []).scheme)
    (hr : inList usesRelative (urlparse base []).scheme = true) :
    ∃ p : Parts, urljoin base url = urlunparse p ∧ p.scheme = (urlparse base []).scheme := by
  unfold urljoin
  rw [if_neg (by rwa [List.isEmpty_iff]), if_neg (by rwa [List.isEmpty_iff])]
  extract_lets b u
  change ∃ p : Parts, _ ∧ p.scheme = b.scheme
  have hsch : u.scheme = b.scheme := hsch
  have hr : inList usesRelative u.scheme = true := by rw [hsch]; exact hr
  -- from here on the two parses are opaque: nothing below may unfold `urlparse`
  clear_value u b
  rw [if_neg (by rw [hr, hsch, bne_self_eq_false]; decide)]
  by_cases h1 : (inList usesNetloc u.scheme && !u.netloc.isEmpty) = true
  · exact ⟨u, if_pos h1, hsch⟩
  · rw [if_neg h1]
    by_cases h2 : (u.path.isEmpty && u.params.isEmpty) = true
    · exact ⟨_, if_pos h2, hsch⟩
    · exact ⟨_, if_neg h2, hsch⟩

/-- `urljoin(base, url)` for a relative reference and a base whose scheme is hierarchical
(`uses_relative`): the result carries the base's scheme — it is never relative. -/
theorem urljoin_relative_has_scheme (base url : List Char) (hu : url ≠ []) (hrel : isRelativeRef url = true)
    (hs : (urlparse base []).scheme ≠ []) (hr : inList usesRelative (urlparse base []).scheme = true) :
    ∃ rest, urljoin base url = (urlparse base []).scheme ++ ':' :: rest := by
  have hb : base ≠ [] := by
    intro e; subst e
    exact hs (by decide)
  have hsch : (urlparse url (urlparse base []).scheme).scheme = (urlparse base []).scheme := by
    rw [urlparse_scheme, splitSchemeD_relative url _ hrel]
  obtain ⟨p, hj, hp⟩ := urljoin_eq_urlunparse base url hb hu hsch hr
  rw [hj, ← hp]
  exact urlunparse_scheme_prefix p (by rw [hp]; exact hs)

private theorem splitFirst_some (sep : Char) (l a b : List Char) (h : splitFirst sep l = (a, some b)) :
    l = a ++ sep :: b := by
  fun_induction splitFirst sep l generalizing a b with
  | case1 => cases h
  | case2 c cs hc => cases h; rw [eq_of_beq hc]; rfl
  | case3 c cs hc a' b' hr ih => cases h; rw [ih a' b hr]; rfl

private theorem absolute_has_valid_scheme (url : List Char) (h : urlIsAbsolute (String.ofList url) = true) :
    ∃ s rest, url = s ++ ':' :: rest ∧ validScheme s = true := by
  unfold urlIsAbsolute at h
  rw [String.toList_ofList] at h
  cases hs : splitFirst ':' url with
  | mk pre post =>
    rw [hs] at h
    match pre, post, h with
    | c :: d :: more, some r, h =>
      exact ⟨c :: d :: more, r, splitFirst_some ':' url _ _ hs, by simpa [validScheme] using h⟩

private theorem ofList_ne_empty (v : List Char) (h : v ≠ []) : String.ofList v ≠ "" := by
  intro e
  have : (String.ofList v).toList = "".toList := by rw [e]
  rw [String.toList_ofList] at this
  exact h this

private theorem usesRelative_valid : ∀ x ∈ usesRelative, x ≠ "" → validScheme x.toList = true := by decide +kernel

/-- The URL handed to the fetcher is absolute.  For a reference that is absolute, or relative (no
scheme of its own) with a base URL whose scheme is hierarchical (`http`, `https`, `file`, `ftp`, …),
`url_join` — hence `get_url_attribute`, used for `<img src>`, `<link href>`, `<object data>`, SVG
`href`, … — returns a URL that `url_is_absolute` accepts.
(A reference like `x:y`, with a one-letter scheme, is neither: `urljoin` leaves it as it is.) -/
theorem resolved_url_is_absolute (base value : List Char) (allowRelative : Bool)
    (hs : (urlparse base []).scheme ≠ []) (hr : inList usesRelative (urlparse base []).scheme = true)
    (hv : urlIsAbsolute (String.ofList value) = true ∨ (value ≠ [] ∧ isRelativeRef value = true)) :
    ∃ u, urlJoin base value allowRelative = some u ∧ urlIsAbsolute (String.ofList u) = true := by
  by_cases ha : urlIsAbsolute (String.ofList value) = true
  · obtain ⟨s, rest, hval, hvalid⟩ := absolute_has_valid_scheme value ha
    refine ⟨iriToUri value, by simp [urlJoin, ha], ?_⟩
    rw [hval]
    exact iri_to_uri_absolute s rest hvalid
  · obtain ⟨hne, hrel⟩ := hv.resolve_left ha
    have hbe : (!base.isEmpty) = true := by
      cases base with
      | nil => exact absurd (by decide) hs
      | cons _ _ => rfl
    obtain ⟨rest, hj⟩ := urljoin_relative_has_scheme base value hne hrel hs hr
    have hvalid : validScheme (urlparse base []).scheme = true := by
      have hmem : String.ofList (urlparse base []).scheme ∈ usesRelative := by
        simpa [inList, List.contains_iff_mem] using hr
      have := usesRelative_valid _ hmem (ofList_ne_empty _ hs)
      rwa [String.toList_ofList] at this
    refine ⟨iriToUri (urljoin base value), by rw [urlJoin, if_neg ha, if_pos hbe], ?_⟩
    rw [hj]
    exact iri_to_uri_absolute _ rest hvalid

example : ∃ u, urlJoin "http://a.test/d/e.html".toList "../x y.png".toList false = some u ∧
    String.ofList u = "http://a.test/x%20y.png" :=
  ⟨"http://a.test/x%20y.png".toList, by decide +kernel, String.ofList_toList⟩

/-! ## the stylesheet / image models use this resolution -/

private theorem resolve_aux (v base : List Char) :
    (if (String.ofList v == "") = true then none
      else if urlIsAbsolute (String.ofList v) = true then some (String.ofList (iriToUri (String.ofList v).toList))
      else if base.isEmpty = true then none else some (String.ofList (iriToUri (urljoin base v)))) =
    Option.map String.ofList (if v.isEmpty = true then none else urlJoin base v false) := by
  by_cases hv : v = []
  · subst hv; rfl
  · have hne : (String.ofList v == "") = false := beq_eq_false_iff_ne.mpr (ofList_ne_empty v hv)
    have hemp : v.isEmpty = false := by cases v <;> simp_all
    simp only [hne, Bool.false_eq_true, ↓reduceIte, hemp, urlJoin, String.toList_ofList]
    cases ha : urlIsAbsolute (String.ofList v)
    · cases hb : base.isEmpty <;> simp
    · simp

/-- Refinement: `resolveHref` of `Model/Resources.lean` — used by the stylesheet and document models,
where `iri_to_uri(urljoin(base, href))` is an input computed by the harness with urllib — is exactly
`get_url_attribute` with the `urljoin` model of this file: for every attribute value and base URL. -/
theorem resolveHref_refines (href : Option String) (base : List Char) :
    resolveHref href (if base.isEmpty then none
        else some (String.ofList (iriToUri (urljoin base (pyStrip ((href.getD "").toList)))))) =
      (getUrlAttribute (href.map (·.toList)) (some base) false).map String.ofList := by
  have hget : (href.map (·.toList)).getD [] = (href.getD "").toList := by cases href <;> rfl
  have := resolve_aux (stripChars (href.getD "").toList) base
  unfold resolveHref getUrlAttribute strip
  rw [hget]
  simp only [pyStrip, Option.getD_some] at this ⊢
  exact this

example : resolveHref (some " s é.css ") (some "http://a.test/d/s%20%C3%A9.css") = some "http://a.test/d/s%20%C3%A9.css" ∧
    resolveHref (some "http://a.test/é") none = some "http://a.test/%C3%A9" := by decide +kernel

end Wp.C20.Url
