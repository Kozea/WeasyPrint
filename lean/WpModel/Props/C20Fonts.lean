/-
C20 — `@font-face` rules are independent of each other (text/fonts.py `add_font_face`: the file of a rule is named after
*all* its descriptors, `src` included): a rule is skipped only when the very same rule was already written; whatever
other rules — of the same family or not — fetched, wrote or failed before, the `src` list of a rule is tried from its
first entry.  (The clause the `font-face` section samples with rules sharing a family; seeded regression C20-11 dropped
`src` from the key.)
-/
import WpModel.Model.Resources

namespace Wp.C20.Fonts
open Wp Wp.Res

/-- A rule that was not written before is tried from the start, whatever else is loaded. -/
theorem new_rule_is_tried (f : Fetcher) (st : FontState) (face : FontFace) (h : st.loaded.contains face.key = false) :
    (addFontFace f st face).2 = fontLoop f face.srcs {} := by
  have h' : ¬ face.key ∈ st.loaded := by simpa using h
  simp [addFontFace, h']

/-- `add_font_face` marks at most its own rule as written. -/
theorem loaded_grows_by_own_key (f : Fetcher) (st : FontState) (face : FontFace) (k : Nat)
    (h : (addFontFace f st face).1.loaded.contains k = true) : st.loaded.contains k = true ∨ k = face.key := by
  revert h
  fun_cases addFontFace f st face <;> intro h
  · exact .inl h
  · split at h
    · exact .inl h
    · simp only [List.contains_cons, Bool.or_eq_true, beq_iff_eq] at h
      exact h.symm

def stateAfter (f : Fetcher) : FontState → List FontFace → FontState
  | st, [] => st
  | st, face :: rest => stateAfter f (addFontFace f st face).1 rest

private theorem stateAfter_loaded (f : Fetcher) (faces : List FontFace) (st : FontState) (k : Nat)
    (h : (stateAfter f st faces).loaded.contains k = true) : st.loaded.contains k = true ∨ ∃ face ∈ faces, k = face.key := by
  induction faces generalizing st with
  | nil => exact Or.inl h
  | cons face rest ih =>
    rcases ih _ h with h1 | ⟨g, hg, hk⟩
    · rcases loaded_grows_by_own_key f st face k h1 with h2 | h2
      · exact Or.inl h2
      · exact Or.inr ⟨face, by simp, h2⟩
    · exact Or.inr ⟨g, by simp [hg], hk⟩

/-- `rules are independent`: after any sequence of other rules — same family or not, loaded or failed — a rule whose
descriptors (its key: family, `src`, …) differ from all of them is tried from its first `src` entry, exactly as in a
document that holds this rule only. -/
theorem rule_independent_of_other_rules (f : Fetcher) (before : List FontFace) (face : FontFace)
    (h : ∀ g ∈ before, g.key ≠ face.key) :
    (addFontFace f (stateAfter f {} before) face).2 = (addFontFace f {} face).2 := by
  have hnot : (stateAfter f {} before).loaded.contains face.key = false := by
    cases hc : (stateAfter f {} before).loaded.contains face.key with
    | false => rfl
    | true =>
      rcases stateAfter_loaded f before {} face.key hc with h1 | ⟨g, hg, hk⟩
      · simp at h1
      · exact absurd hk.symm (h g hg)
  rw [new_rule_is_tried f _ face hnot, new_rule_is_tried f {} face (by simp)]

/-- Non-vacuity: a rule served HTML instead of a font, then another rule (other key) served a valid font: installed. -/
example :
    let f : Fetcher := fun u => if u == "http://a.test/bad.otf"
      then .resp ⟨true, none, none, none, ⟨9, false, none, false, true, false⟩⟩
      else .resp ⟨true, none, none, none, ⟨7, false, none, false, true, true⟩⟩
    ((addFontFace f (stateAfter f {} [⟨1, [.external (some "http://a.test/bad.otf")]⟩])
      ⟨2, [.external (some "http://a.test/ok.otf")]⟩).2).installed = some 7 := by decide +kernel

end Wp.C20.Fonts
