/-
Property values as the cascade and `computed_values.py` see them, for the subset of value shapes
the C06 models talk about, and the Python failure points of the mirrored code.

  Python                                wire                     Lean
  'auto', 'bold', …  (str)              (kw auto)                `Val.kw "auto"`
  Dimension(3/2, 'em')                  (dim 3/2 em)             `Val.dim (3/2) "em"`     (unit None ↦ "none")
  3, 400, 1.5  (int / float / Fraction) (num 3)                  `Val.num 3`
  ('block', 'flow'), ('running()', x)   (strs block flow)        `Val.strs ["block", "flow"]`
  {'underline', 'overline'}  (set)      (strs overline underline) sorted
  ('PIXELS', 12), ('NUMBER', 3/2)       (tag PIXELS 12)          `Val.tagged "PIXELS" 12`
  None                                  (null)                   `Val.null`
  (Dimension, 'auto'), ((…), (…))       (tup v1 v2 …)            `Val.tup [v1, v2, …]`   (any other tuple)

`isinstance(value, int)` is modelled as "the number has denominator 1": the harnesses never pass an
integral-valued `Fraction` / `float` where the code tests for `int`.
No Mathlib, no Std: linked into the compiled driver.
-/
import WpModel.Model.Wire

namespace Wp

inductive Val where
  | kw (s : String)
  | dim (q : Rat) (unit : String)
  | num (q : Rat)
  | strs (l : List String)
  | tagged (tag : String) (q : Rat)
  /-- `None` -/
  | null
  /-- a tuple that is not a flat tuple of strings: `(Dimension, Dimension)`, `(('left', d, 'top', d),)` … -/
  | tup (l : List Val)
  deriving Repr, Inhabited

namespace Val

mutual
/-- Structural equality test (the derive handler does not support the nested `List Val`). -/
def beq : Val → Val → Bool
  | .kw a, .kw b => a == b
  | .dim q u, .dim q' u' => q == q' && u == u'
  | .num q, .num q' => q == q'
  | .strs l, .strs l' => l == l'
  | .tagged t q, .tagged t' q' => t == t' && q == q'
  | .null, .null => true
  | .tup l, .tup l' => beqList l l'
  | _, _ => false
def beqList : List Val → List Val → Bool
  | [], [] => true
  | a :: as, b :: bs => beq a b && beqList as bs
  | _, _ => false
end

instance : BEq Val := ⟨beq⟩

mutual
theorem eq_of_beq : ∀ (a b : Val), beq a b = true → a = b
  | .kw _, b, h => by cases b <;> simp [beq] at h; rw [h]
  | .dim .., b, h => by cases b <;> simp [beq] at h; rw [h.1, h.2]
  | .num _, b, h => by cases b <;> simp [beq] at h; rw [h]
  | .strs _, b, h => by cases b <;> simp [beq] at h; rw [h]
  | .tagged .., b, h => by cases b <;> simp [beq] at h; rw [h.1, h.2]
  | .null, b, h => by cases b <;> simp [beq] at h; rfl
  | .tup l, b, h => by
      cases b with
      | tup l' => rw [eq_of_beqList l l' h]
      | _ => simp [beq] at h
theorem eq_of_beqList : ∀ (l l' : List Val), beqList l l' = true → l = l'
  | [], [], _ => rfl
  | a :: as, b :: bs, h => by
      simp only [beqList, Bool.and_eq_true] at h
      rw [eq_of_beq a b h.1, eq_of_beqList as bs h.2]
  | [], _ :: _, h => by simp [beqList] at h
  | _ :: _, [], h => by simp [beqList] at h
end

mutual
theorem beq_self : ∀ (a : Val), beq a a = true
  | .kw _ | .num _ | .strs _ | .null => by simp [beq]
  | .dim .. | .tagged .. => by simp [beq]
  | .tup l => by simp only [beq]; exact beqList_self l
theorem beqList_self : ∀ (l : List Val), beqList l l = true
  | [] => rfl
  | a :: as => by simp only [beqList, beq_self a, beqList_self as, Bool.and_self]
end

instance : DecidableEq Val := fun a b =>
  if h : beq a b = true then isTrue (eq_of_beq a b h)
  else isFalse (fun e => h (e ▸ beq_self a))


/-- Parentheses cannot be part of an atom: `running()` travels as `running[]`. -/
def unesc (s : String) : String := (s.replace "[" "(").replace "]" ")"

partial def ofSx? : Sx → Option Val
  | .list [.atom "kw", .atom s] => some (.kw (unesc s))
  | .list [.atom "kw"] => some (.kw "")
  | .list [.atom "dim", q, .atom u] => q.rat?.map (fun q => .dim q (unesc u))
  | .list [.atom "num", q] => q.rat?.map .num
  | .list (.atom "strs" :: xs) => (allSome Sx.atom? xs).map (fun l => .strs (l.map unesc))
  | .list [.atom "tag", .atom t, q] => q.rat?.map (fun q => .tagged (unesc t) q)
  | .list [.atom "null"] => some .null
  | .list (.atom "tup" :: xs) => (allSome ofSx? xs).map .tup
  | _ => none

mutual
/-- Canonical text (the harness prints the implementation's value the same way). -/
def render : Val → String
  | .kw s => "kw:" ++ s
  | .dim q u => "dim:" ++ showRat q ++ ":" ++ u
  | .num q => "num:" ++ showRat q
  | .strs l => "strs:" ++ ",".intercalate l
  | .tagged t q => "tag:" ++ t ++ ":" ++ showRat q
  | .null => "null"
  | .tup l => "tup[" ++ renderList l ++ "]"
def renderList : List Val → String
  | [] => ""
  | [v] => render v
  | v :: rest => render v ++ "|" ++ renderList rest
end

def isKw (v : Val) (s : String) : Bool :=
  match v with
  | .kw t => t == s
  | _ => false

end Val

/-- Python failure points of the code mirrored by the C06 models (`Wp.PyErr` of the shared wire
file has no constructor for `KeyError`, `TypeError`, `OverflowError`). -/
inductive CErr where
  | assertion (site : String)
  | keyError (site : String)
  | attributeError (site : String)
  | typeError (site : String)
  | overflow (site : String)
  | indexError (site : String)
  | valueError (site : String)
  | unboundLocal (site : String)
  | unsupported (what : String)   -- outside the modelled fragment: never a Python outcome
  deriving Repr, DecidableEq

/-- The harness prints `err:<ExceptionClass>`; sites are for the reader only and not printed. -/
def CErr.render : CErr → String
  | .assertion _ => "err:AssertionError"
  | .keyError _ => "err:KeyError"
  | .attributeError _ => "err:AttributeError"
  | .typeError _ => "err:TypeError"
  | .overflow _ => "err:OverflowError"
  | .indexError _ => "err:IndexError"
  | .valueError _ => "err:ValueError"
  | .unboundLocal _ => "err:UnboundLocalError"
  | .unsupported w => "unsupported:" ++ w

def renderExcept {α} (f : α → String) : Except CErr α → String
  | .ok a => f a
  | .error e => e.render

end Wp
