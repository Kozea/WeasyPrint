/-
Box classes of `weasyprint/formatting_structure/boxes.py` that can occur in a box tree before
layout, the abstract classes `build.py` tests with `isinstance`, and the `white-space` keywords.
Hand-written enumerations; `Gen/BoxKinds.lean` (regenerated from /repo on every run) is stated over
these types: class flags through `issubclass`, class attributes, `BOX_TYPE_FROM_DISPLAY`.
-/
namespace Wp.Bx

/-- The concrete box classes a pre-layout tree is made of. -/
inductive BoxKind where
  | BlockBox | LineBox | InlineBox | TextBox | InlineBlockBox
  | BlockReplacedBox | InlineReplacedBox
  | TableBox | InlineTableBox | TableRowGroupBox | TableRowBox
  | TableColumnGroupBox | TableColumnBox | TableCellBox | TableCaptionBox
  | FlexBox | InlineFlexBox | GridBox | InlineGridBox
  deriving Repr, DecidableEq, BEq, Inhabited

/-- The derived `==` and the derived `DecidableEq` both compare constructor indices. -/
instance : LawfulBEq BoxKind where
  eq_of_beq {a b} h := by
    have hi : a.ctorIdx = b.ctorIdx := eq_of_beq (α := Nat) h
    refine of_decide_eq_true ?_
    unfold instDecidableEqBoxKind
    rw [dif_pos hi]
    rfl
  rfl := BEq.rfl (α := Nat)

namespace BoxKind

def all : List BoxKind := [BlockBox, LineBox, InlineBox, TextBox, InlineBlockBox, BlockReplacedBox,
  InlineReplacedBox, TableBox, InlineTableBox, TableRowGroupBox, TableRowBox, TableColumnGroupBox,
  TableColumnBox, TableCellBox, TableCaptionBox, FlexBox, InlineFlexBox, GridBox, InlineGridBox]

def name : BoxKind → String
  | BlockBox => "BlockBox" | LineBox => "LineBox" | InlineBox => "InlineBox" | TextBox => "TextBox"
  | InlineBlockBox => "InlineBlockBox" | BlockReplacedBox => "BlockReplacedBox"
  | InlineReplacedBox => "InlineReplacedBox" | TableBox => "TableBox"
  | InlineTableBox => "InlineTableBox" | TableRowGroupBox => "TableRowGroupBox"
  | TableRowBox => "TableRowBox" | TableColumnGroupBox => "TableColumnGroupBox"
  | TableColumnBox => "TableColumnBox" | TableCellBox => "TableCellBox"
  | TableCaptionBox => "TableCaptionBox" | FlexBox => "FlexBox" | InlineFlexBox => "InlineFlexBox"
  | GridBox => "GridBox" | InlineGridBox => "InlineGridBox"

def ofName? (s : String) : Option BoxKind := all.find? (fun k => k.name == s)

theorem mem_all (k : BoxKind) : k ∈ all := by cases k <;> decide

end BoxKind

/-- Abstract (and concrete) classes used as the second argument of `isinstance` in `build.py`. -/
inductive BoxClass where
  | ParentBox | BlockLevelBox | BlockContainerBox | InlineLevelBox | AtomicInlineLevelBox
  | ReplacedBox | FlexContainerBox | GridContainerBox
  | BlockBox | LineBox | InlineBox | TextBox | InlineBlockBox
  | TableBox | InlineTableBox | TableRowGroupBox | TableRowBox
  | TableColumnGroupBox | TableColumnBox | TableCellBox | TableCaptionBox
  deriving Repr, DecidableEq, BEq, Inhabited

namespace BoxClass
def all : List BoxClass := [ParentBox, BlockLevelBox, BlockContainerBox, InlineLevelBox,
  AtomicInlineLevelBox, ReplacedBox, FlexContainerBox, GridContainerBox, BlockBox, LineBox, InlineBox,
  TextBox, InlineBlockBox, TableBox, InlineTableBox, TableRowGroupBox, TableRowBox,
  TableColumnGroupBox, TableColumnBox, TableCellBox, TableCaptionBox]
end BoxClass

/-- Computed values of `white-space`. -/
inductive WS where
  | normal | nowrap | pre | preWrap | preLine
  deriving Repr, DecidableEq, BEq, Inhabited

namespace WS
def all : List WS := [normal, nowrap, pre, preWrap, preLine]
def toCss : WS → String
  | normal => "normal" | nowrap => "nowrap" | pre => "pre" | preWrap => "pre-wrap"
  | preLine => "pre-line"
def ofCss? (s : String) : Option WS := all.find? (fun w => w.toCss == s)
end WS

/-- Computed values of `text-transform`. -/
inductive TT where
  | none | capitalize | uppercase | lowercase | fullWidth
  deriving Repr, DecidableEq, BEq, Inhabited

/-- Unicode general category, first letter (`unicodedata.category(c)[0]`). -/
inductive UCat where
  | L | M | N | P | S | Z | C
  deriving Repr, DecidableEq, BEq, Inhabited

/-- Proof support, used by no definition: lets `decide` settle a statement about every box class by
going through `BoxKind.all`, which is how the facts read off the class tables of `Gen/BoxKinds.lean`
are proved.  Low priority, because `∀ k ∈ l, p k` has this shape as well and is to keep its own
instance, which looks at the members of `l` only. -/
instance (priority := low) {p : BoxKind → Prop} [DecidablePred p] : Decidable (∀ k, p k) :=
  decidable_of_iff (∀ k ∈ BoxKind.all, p k) ⟨fun h k => h k k.mem_all, fun h k _ => h k⟩

end Wp.Bx
