/-
C07 — computed values of grid track lists.  Mirrors, branch for branch, weasyprint/css/computed_values.py

  _compute_track_breadth, _track_size (with its recursion into `repeat()`), grid_template, grid_auto

over `length` of Model/LengthC07 (unit table regenerated from css/utils.py).  A track list is what the validator
`grid_template` of properties.py builds: line-name tuples at even indexes, track sections at odd indexes.
No Mathlib, no Std: linked into the driver.
-/
import WpModel.Model.Wire
import WpModel.Model.LengthC07

namespace Wp.Tracks07
open Wp Wp.Len07

/-- A track breadth: `'auto'` / `'min-content'` / `'max-content'`, or a `Dimension` (length, percentage, `fr`). -/
inductive Breadth where
  | kw (s : String)
  | dim (value : Rat) (unit : Option String)
  deriving Repr, BEq, DecidableEq

/-- One element of a track list. -/
inductive Track where
  | names (l : List String)                   -- a tuple of line names (even index)
  | breadth (b : Breadth)
  | minmax (a b : Breadth)                    -- ('minmax()', a, b)
  | fitContent (value : Rat) (unit : Option String)   -- ('fit-content()', Dimension)
  | rep (count : String) (tracks : List Track)        -- ('repeat()', n | 'auto-fill' | 'auto-fit', [tracks])
  | other (tag : String)                      -- any other tuple: no branch of `_track_size` takes it
  deriving Repr, BEq

/-- `length(style, name, value)` on a `Dimension`, as a `Dimension` again (`pixels_only=False`). -/
def lengthDim (ctx : FontCtx) (v : Rat) (u : Option String) : Rat × Option String :=
  match length ctx false (.dim v u) with
  | .dim v' u' => (v', u')
  | .number q => (q, some "px")        -- unreachable without pixels_only
  | .keyword _ => (v, u)               -- unreachable on a Dimension

/-- `_compute_track_breadth(style, name, value)` on a breadth (it returns `None` on anything else). -/
def computeBreadth (ctx : FontCtx) : Breadth → Breadth
  | .kw s => .kw s
  | .dim v u =>
    if u == some "fr" then .dim v u
    else
      let r := lengthDim ctx v u
      .dim r.1 r.2

mutual
/-- The track-section branch of `_track_size`: what is appended for one odd-index value (`[]`: nothing). -/
def trackSection (ctx : FontCtx) : Track → List Track
  | .breadth b => [.breadth (computeBreadth ctx b)]
  | .minmax a b => [.minmax (computeBreadth ctx a) (computeBreadth ctx b)]
  | .fitContent v u => let r := lengthDim ctx v u; [.fitContent r.1 r.2]
  | .rep n ts => [.rep n (trackSize ctx true ts)]
  | .names l => [.names l]               -- a validator never puts names at an odd index (`_track_size` would append nothing)
  | .other _ => []
/-- `_track_size(style, name, values)`: `even` = the index of the head is even (a line-name tuple, kept as is). -/
def trackSize (ctx : FontCtx) : Bool → List Track → List Track
  | _, [] => []
  | true, t :: rest => t :: trackSize ctx false rest
  | false, t :: rest => trackSection ctx t ++ trackSize ctx true rest
end

/-- What `grid_template(style, name, values)` gets: `'none'`, a `('subgrid', …)` tuple, or a track list. -/
inductive Template where
  | none
  | subgrid
  | tracks (ts : List Track)
  deriving Repr, BEq

/-- `grid_template` (computer of `grid-template-columns` / `-rows`). -/
def gridTemplate (ctx : FontCtx) : Template → Template
  | .none => .none
  | .subgrid => .subgrid
  | .tracks ts => .tracks (trackSize ctx true ts)

/-- `grid_auto` (computer of `grid-auto-columns` / `-rows`): a flat list of track sizes, no line names, and no
`repeat()` branch. -/
def gridAuto (ctx : FontCtx) : List Track → List Track
  | [] => []
  | .breadth b :: rest => .breadth (computeBreadth ctx b) :: gridAuto ctx rest
  | .minmax a b :: rest => .minmax (computeBreadth ctx a) (computeBreadth ctx b) :: gridAuto ctx rest
  | .fitContent v u :: rest => (let r := lengthDim ctx v u; .fitContent r.1 r.2) :: gridAuto ctx rest
  | _ :: rest => gridAuto ctx rest

/-! ### "Every length is in px" -/

/-- The unit of a computed dimension: px, a percentage, `fr`, or none. -/
def unitDone (u : Option String) : Bool := u == some "px" || u == some "%" || u == some "fr" || u == none

def Breadth.done : Breadth → Bool
  | .kw _ => true
  | .dim _ u => unitDone u

mutual
def Track.done : Track → Bool
  | .names _ => true
  | .breadth b => b.done
  | .minmax a b => a.done && b.done
  | .fitContent _ u => unitDone u
  | .rep _ ts => tracksDone ts
  | .other _ => true
def tracksDone : List Track → Bool
  | [] => true
  | t :: rest => t.done && tracksDone rest
end

/-- The unit of a specified dimension is one the validators let through: a length unit, `%`, `fr`, or none (0). -/
def unitKnown (u : Option String) : Bool :=
  match u with
  | none => true
  | some w => lengthUnits.contains w || w == "%" || w == "fr"

def Breadth.known : Breadth → Bool
  | .kw _ => true
  | .dim _ u => unitKnown u

mutual
def Track.known : Track → Bool
  | .names _ => true
  | .breadth b => b.known
  | .minmax a b => a.known && b.known
  | .fitContent _ u => unitKnown u
  | .rep _ ts => tracksKnown ts
  | .other _ => true
def tracksKnown : List Track → Bool
  | [] => true
  | t :: rest => t.known && tracksKnown rest
end

end Wp.Tracks07
