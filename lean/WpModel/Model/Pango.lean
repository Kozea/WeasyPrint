/-
PangoFP — the *assumed component* of C09: an abstract Pango for a fixed-pitch font (advance =
font-size `fs` for every character, spaces included) on texts made of letters, U+0020 and U+000A.
It is not a model of WeasyPrint code; its agreement with the real Pango (1.5x, WRAP_WORD / WRAP_CHAR,
one trailing white-space character discounted when a line is ended, automatic hyphen charged when a
line is ended between two letters unless `insert-hyphens` is off, the final space of a wrapped line
zero-width) is established only by the correspondence run (real Pango through the real
`split_first_line`, test font `weasyprint.otf`).

What WeasyPrint's own `Layout` adds is modelled literally: `Layout.set_text` keeps the text up to the
first newline plus one character; `create_layout` sets a width only under wrapping `white-space`
values and below `2 ** 21`, truncated to Pango units (1/1024 px).
-/
import WpModel.Model.PyStr
import WpModel.Gen.LineBreakTables

namespace Wp.Pango
open Wp Wp.Py

/-- `Layout.set_text`: `text[:index+2]` when a newline is present. -/
def truncNl (t : Text) : Text :=
  match find t '\n' with
  | none => t
  | some i => t.take (i + Gen.LineBreak.newlineKeep)

/-- The state of a `text.line_break.Layout` that matters for line breaking. -/
structure Layout where
  /-- `layout.text` (already cut by `set_text`) -/
  text : Text
  /-- Pango width in px (multiples of 1/1024); `none` = `-1` = unconstrained -/
  width : Option Rat
  /-- `PANGO_WRAP_CHAR` set (step 5) instead of the default `PANGO_WRAP_WORD` -/
  wrapChar : Bool
  /-- Pango's automatic hyphens are on (`insert-hyphens` attribute not disabled by `overflow-wrap`) -/
  hyph : Bool
  deriving Repr

def Layout.setText (l : Layout) (t : Text) : Layout := { l with text := truncNl t }

/-- First line of a layout: `first_line.length`, the second line's `start_index` (`None` when there is
no second line) and the logical width of the first line. -/
structure Line where
  length : Nat
  resume : Option Nat
  width : Rat
  deriving Repr, BEq

def isLetter (c : Char) : Bool := c != ' ' && c != '\n'

/-- Width Pango adds to the first `p` characters of the paragraph `P` when it ends a line there
(`find_break_extra_width`): minus one trailing space, plus a hyphen inside a word. -/
def breakExtra (fs : Rat) (hyph wrapChar : Bool) (P : Text) (p : Nat) : Rat :=
  if P[p - 1]? == some ' ' then -fs
  else if wrapChar && hyph &&
      (match P[p - 1]?, P[p]? with
       | some a, some b => isLetter a && isLetter b
       | _, _ => false) then fs
  else 0

/-- May a line end after `q` characters (`0 < q < n`)?  WRAP_WORD: after a run of spaces (UAX 14);
WRAP_CHAR: anywhere. -/
def canBreakAt (wrapChar : Bool) (P : Text) (q : Nat) : Bool :=
  decide (0 < q) && (wrapChar || (P[q - 1]? == some ' ' && P[q]? != some ' '))

def fitsAt (fs : Rat) (hyph wrapChar : Bool) (P : Text) (W : Rat) (q : Nat) : Bool :=
  decide ((q : Rat) * fs + breakExtra fs hyph wrapChar P q ≤ W)

/-- Number of characters Pango puts on the first line of the paragraph `P` (no newline inside),
`endDiscount`: the paragraph end is itself a break opportunity (end of text, or WRAP_CHAR). -/
def firstBreak (fs : Rat) (hyph wrapChar : Bool) (P : Text) (endDiscount : Bool) : Option Rat → Nat
  | none => P.length
  | some W =>
    let n := P.length
    if n = 0 then 0 else
    let endx : Rat := if P[n - 1]? == some ' ' && endDiscount then -fs else 0
    if (n : Rat) * fs + endx ≤ W then n else
    let cands := (List.range n).filter (canBreakAt wrapChar P)
    match (cands.filter (fitsAt fs hyph wrapChar P W)).getLast? with
    | some q => q
    | none =>
      match cands.head? with
      | some q => q
      | none => n

/-- The first paragraph of the layout text (up to the first newline). -/
def paraOf (T : Text) : Text :=
  match find T '\n' with
  | none => T
  | some i => T.take i

/-- `layout.get_first_line()` + `line_size(first_line)`. -/
def firstLine (fs : Rat) (lay : Layout) : Line :=
  let nl := find lay.text '\n'
  let P := paraOf lay.text
  let p := firstBreak fs lay.hyph lay.wrapChar P (nl.isNone || lay.wrapChar) lay.width
  if p < P.length then
    { length := p, resume := some p, width := (p : Rat) * fs + breakExtra fs lay.hyph lay.wrapChar P p }
  else
    { length := P.length, resume := nl.map (· + 1), width := (P.length : Rat) * fs }

/-- `PangoLogAttr.is_line_break` at character offset `i` of the layout text (`0 ≤ i ≤ len`). -/
def isLineBreakAttr (T : Text) (i : Nat) : Bool :=
  if i = 0 then false
  else if i = T.length then true
  else T[i - 1]? == some '\n' ||
    (T[i - 1]? == some ' ' && T[i]? != some ' ' && T[i]? != some '\n')

/-- `get_next_break_point(log_attrs[start:end])`: index relative to `start`.  The C array has
`len(T) + 1` entries and cffi slicing is unchecked: reading past it is reported as an error outcome
(it does not happen for `start ≤ len(T)`: `C09L.nextBreakPoint_ok`; step 1 of a text without newline never
reads there: `C09L.step1_ok`). -/
def nextBreakPoint (T : Text) (start end_ : Nat) : Except PyErr (Option Nat) :=
  if start < end_ ∧ T.length < start then .error (.indexError "log_attrs")
  else .ok ((List.range (end_ - start)).find? (fun k => isLineBreakAttr T (start + k)))

/-- `create_layout(text, style, context, max_width, …)` for a finite or absent width. -/
def quantize (W : Rat) : Rat := ((max 0 W * 1024).floor : Int) / 1024

end Wp.Pango
