/-
Counter styles: mirror of `weasyprint/css/counters.py`
  `symbol`, `CounterStyle.resolve_counter`, `CounterStyle.render_value`, `CounterStyle.render_marker`
branch for branch, quirks included (shared mutable `previous_types`, the second `extends` loop of
`render_value`, `(counter_value - 1) % length` on non-positive values, …).  Since 1bdaf16 the decimal
fallbacks of the four sign-using systems receive `original_value` and the numeric system tests its
symbol count first; since 5be1d36 the validator stores `range: auto` as the string `'auto'`
(`RangeDesc.auto`), so `RangeEntry.autoKw` (an element `'auto'` inside a range tuple, on which
`for min_range, max_range in …` raises ValueError) is no longer produced by any validator.

Python failure points are explicit (`CErr`).  The two unbounded Python constructs (the recursion of
`render_value` through fallbacks and the `while extends` loops) take explicit fuel; running out of fuel
is the observable outcome `err:RecursionError` (never a default value).  `Props/C15.lean` proves that
the fuel chosen by `renderValueTop` is never exhausted on well-formed style tables.

No Mathlib, no Std: this file is linked into the compiled driver.
-/
import WpModel.Model.Wire

namespace Wp.Counters

/-- Python exceptions that exist in the mirrored code. -/
inductive CErr where
  | valueError     -- `for min_range, max_range in counter_ranges` on the element `'auto'`
  | typeError      -- `len(None)`, `None[0]`, `for … in None`, `int - None`
  | indexError     -- `counter['symbols'][0]` on an empty tuple
  | assertion      -- `assert initial is not None`
  | recursion      -- fuel exhausted (Python: RecursionError / endless `while extends`)
  | keyError       -- `counter_values[name]` on a missing key (build.py)
  deriving Repr, DecidableEq

def CErr.render : CErr → String
  | .valueError => "err:ValueError"
  | .typeError => "err:TypeError"
  | .indexError => "err:IndexError"
  | .assertion => "err:AssertionError"
  | .recursion => "err:RecursionError"
  | .keyError => "err:KeyError"

instance exceptDecEq {α : Type} [DecidableEq α] : DecidableEq (Except CErr α) := fun a b =>
  match a, b with
  | .ok x, .ok y => if h : x = y then isTrue (by rw [h]) else isFalse (by intro e; cases e; exact h rfl)
  | .error x, .error y => if h : x = y then isTrue (by rw [h]) else isFalse (by intro e; cases e; exact h rfl)
  | .ok _, .error _ => isFalse (by intro e; cases e)
  | .error _, .ok _ => isFalse (by intro e; cases e)

/-- A symbol `('string', value)` or `('url', …)`. -/
inductive Sym where
  | str (s : String)
  | url
  deriving Repr, DecidableEq

/-- `symbol(string_or_url)`: the string, or `''` for images. -/
def Sym.text : Sym → String
  | .str s => s
  | .url => ""

/-- The `system` descriptor `(extends, system, fixed_number)`; `ext = true` is the keyword
`'extends'` (then `name` is the extended style's name), `false` is `None`. -/
structure Sys where
  ext : Bool
  name : String
  fixed : Option Int
  deriving Repr, DecidableEq

/-- `-inf`, an integer, `inf`. -/
inductive Bound where
  | negInf
  | fin (i : Int)
  | posInf
  deriving Repr, DecidableEq

/-- `bound <= v`. -/
def Bound.leInt : Bound → Int → Bool
  | .negInf, _ => true
  | .fin i, v => decide (i ≤ v)
  | .posInf, _ => false

/-- `v <= bound`. -/
def Bound.geInt : Bound → Int → Bool
  | .negInf, _ => false
  | .fin i, v => decide (v ≤ i)
  | .posInf, _ => true

/-- One element of a `range` tuple: a `(min, max)` pair, or anything that is not a pair (`autoKw`: the
string `'auto'`, which the validator wrapped in a tuple before 5be1d36; no validator produces it any more,
`C15.validated_range_is_pairs`; `render_value` handed such a tuple still raises ValueError). -/
inductive RangeEntry where
  | autoKw
  | pair (lo hi : Bound)
  deriving Repr, DecidableEq

/-- The `range` value: the plain string `'auto'` (`range: auto`, and the anonymous styles of
`resolve_counter`) or a tuple. -/
inductive RangeDesc where
  | auto
  | entries (l : List RangeEntry)
  deriving Repr, DecidableEq

/-- A counter style dictionary entry (`None` = `none`). -/
structure Desc where
  system : Option Sys := none
  negative : Option (Sym × Sym) := none
  pfx : Option Sym := none
  sfx : Option Sym := none
  range : Option RangeDesc := none
  pad : Option (Nat × Sym) := none
  fallback : Option String := none
  symbols : Option (List Sym) := none
  additive : Option (List (Nat × Sym)) := none
  deriving Repr, DecidableEq

/-- What is passed as `counter_name`: an identifier, `('string', s)` or `('symbols()', (system, …))`. -/
inductive CName where
  | named (s : String)
  | str (s : String)
  | symbols (sys : String) (args : List String)
  deriving Repr, DecidableEq

/-- The `CounterStyle` dict. -/
abbrev Styles := List (String × Desc)

def lookup (cs : Styles) (n : String) : Option Desc :=
  match cs with
  | [] => none
  | (k, d) :: rest => if k = n then some d else lookup rest n

/-- `for name, value in extended_counter.items(): if counter[name] is None and value is not None:
counter[name] = value`. -/
def merge (c e : Desc) : Desc :=
  { system := c.system.orElse fun _ => e.system
    negative := c.negative.orElse fun _ => e.negative
    pfx := c.pfx.orElse fun _ => e.pfx
    sfx := c.sfx.orElse fun _ => e.sfx
    range := c.range.orElse fun _ => e.range
    pad := c.pad.orElse fun _ => e.pad
    fallback := c.fallback.orElse fun _ => e.fallback
    symbols := c.symbols.orElse fun _ => e.symbols
    additive := c.additive.orElse fun _ => e.additive }

/-- `if counter['system']: extends, system, fixed = counter['system'] else: None, 'symbolic', None`. -/
def sysOf (d : Desc) : Bool × String × Option Int :=
  match d.system with
  | some s => (s.ext, s.name, s.fixed)
  | none => (false, "symbolic", none)

/-- The anonymous style built by `resolve_counter` for `('string', s)` and `symbols()`.
`pad` is `(0, '')` in the source: its second component is never read (the difference is ≤ 0). -/
def anonDesc (sys : Sys) (symbols : List Sym) (suffix : Sym) : Desc :=
  { system := some sys
    negative := some (.str "-", .str "")
    pfx := some (.str "")
    sfx := some suffix
    range := some .auto
    pad := some (0, .str "")
    fallback := some "decimal"
    symbols := some symbols
    additive := some [] }

/-- The `while extends:` loop of `resolve_counter` (state: counter, extends, system, previous_types). -/
def resolveLoop (cs : Styles) : Nat → Desc → Bool → String → List CName → Except CErr (Desc × List CName)
  | 0, _, _, _, _ => .error .recursion
  | fuel + 1, counter, ext, system, prev =>
    if !ext then .ok (counter, prev)
    else match lookup cs system with
      | none => .ok (counter, prev)
      | some e =>
        let counter := { counter with system := e.system }
        let prev := prev ++ [.named system]
        let (ext', system', _) := sysOf counter
        if ext' && prev.contains (.named system') then
          resolveLoop cs fuel counter true "decimal" prev
        else
          resolveLoop cs fuel (merge counter e) ext' system' prev

/-- Fuel for the `extends` loops: every iteration but the first and the forced `decimal` one appends
a name of the table that was not yet in `previous_types`. -/
def loopFuel (cs : Styles) : Nat := 2 * cs.length + 4

/-- `resolve_counter(counter_name, previous_types)`: the resolved dict or `None`, and the caller's
`previous_types` after the call (it is mutated when it is a list; a `None` stays `None`). -/
def resolveCounter (cs : Styles) (name : CName) (prev : Option (List CName)) :
    Except CErr (Option Desc × Option (List CName)) :=
  match name with
  | .str s =>
    .ok (some (anonDesc ⟨false, "cyclic", none⟩ [.str s] (.str "")), prev)
  | .symbols sys args =>
    .ok (some (anonDesc ⟨false, sys, if sys = "fixed" then some 1 else none⟩
      (args.map .str) (.str " ")), prev)
  | .named n =>
    match lookup cs n with
    | none => .ok (none, prev)
    | some d =>
      let run (p : List CName) : Except CErr (Desc × List CName) :=
        let (ext, system, _) := sysOf d
        resolveLoop cs (loopFuel cs) d ext system (p ++ [name])
      match prev with
      | none => do
        let (c, _) ← run []
        pure (some c, none)
      | some p =>
        if p.contains name then .ok (none, prev)
        else do
          let (c, p') ← run p
          pure (some c, some p')

/-- Outcome of the `while extends:` loop of `render_value`. -/
inductive ExtOut where
  | decimal                                                    -- `return self.render_value(value, 'decimal')`
  | go (counter : Desc) (system : String) (fixed : Option Int) (prev : List CName)

/-- The `while extends:` loop of `render_value`. -/
def renderExtLoop (cs : Styles) : Nat → Desc → Bool → String → Option Int → List CName → Except CErr ExtOut
  | 0, _, _, _, _, _ => .error .recursion
  | fuel + 1, counter, ext, system, fixed, prev =>
    if !ext then .ok (.go counter system fixed prev)
    else match lookup cs system with
      | none => .ok .decimal
      | some e =>
        let counter := { counter with system := e.system }
        let (ext', system', fixed') := sysOf counter
        if prev.contains (.named system') then .ok .decimal
        else renderExtLoop cs fuel (merge counter e) ext' system' fixed' (prev ++ [.named system'])

/-- Step 2: is the value inside the range?  (`none` on the Python `ValueError`.) -/
def inRanges (v : Int) : List RangeEntry → Except CErr Bool
  | [] => .ok false
  | .autoKw :: _ => .error .valueError
  | .pair lo hi :: rest => if lo.leInt v && hi.geInt v then .ok true else inRanges v rest

/-- The automatic range of a system. -/
def autoRange (system : String) : Bound × Bound :=
  if system = "alphabetic" || system = "symbolic" then (.fin 1, .posInf)
  else if system = "additive" then (.fin 0, .posInf)
  else (.negInf, .posInf)

def inRange (counter : Desc) (system : String) (v : Int) : Except CErr Bool :=
  match counter.range with
  | none | some .auto =>
    let (lo, hi) := autoRange system
    .ok (lo.leInt v && hi.geInt v)
  | some (.entries l) => inRanges v l

/-- `s * n` for a Python int `n` (empty when `n ≤ 0`). -/
def repeatStr (s : String) (n : Int) : String :=
  String.join (List.replicate n.toNat s)

def symAt (syms : List Sym) (i : Nat) : String :=
  match syms[i]? with
  | some s => s.text
  | none => ""

/-- Alphabetic system loop (bijective base `k`): indices of the symbols, most significant first.
`while value != 0: value -= 1; parts.append(value % k); value //= k`, then reversed. -/
def alphaDigitsAux (k : Nat) : Nat → Nat → List Nat → List Nat
  | 0, _, acc => acc
  | fuel + 1, n, acc =>
    if n = 0 then acc else alphaDigitsAux k fuel ((n - 1) / k) ((n - 1) % k :: acc)

def alphaDigits (k n : Nat) : List Nat := alphaDigitsAux k n n []

/-- Numeric system loop (base `k`), most significant first; `[]` for 0. -/
def numDigitsAux (k : Nat) : Nat → Nat → List Nat → List Nat
  | 0, _, acc => acc
  | fuel + 1, n, acc =>
    if n = 0 then acc else numDigitsAux k fuel (n / k) (n % k :: acc)

def numDigits (k n : Nat) : List Nat := numDigitsAux k n n []

/-- Additive system, non-zero value: the greedy loop.  Returns the parts when the remainder reaches 0
(`initial = ''.join(parts); break`), `none` when the tuples are exhausted first. Zero weights are
skipped. -/
def additiveLoop : List (Nat × Sym) → Nat → List (Nat × Sym) → Option (List (Nat × Sym))
  | [], _, _ => none
  | (w, s) :: rest, remaining, parts =>
    if w = 0 then additiveLoop rest remaining parts
    else
      let reps := remaining / w
      let parts := parts ++ List.replicate reps (w, s)
      let remaining := remaining - w * reps
      if remaining = 0 then some parts else additiveLoop rest remaining parts

/-- Additive system, value 0: `for weight, s in tuples: if weight == 0: initial = symbol(s)`
(the last zero-weight tuple wins). -/
def additiveZero : List (Nat × Sym) → Option String → Option String
  | [], acc => acc
  | (w, s) :: rest, acc => additiveZero rest (if w = 0 then some s.text else acc)

def joinSyms (syms : List Sym) (idx : List Nat) : String :=
  String.join (idx.map (symAt syms))

/-- Outcome of step 3. -/
inductive Step3 where
  | initial (s : String)
  | decimal (v : Int)        -- `return self.render_value(original_value | counter_value, 'decimal')`
  | fallback (v : Int)       -- `return self.render_value(v, counter['fallback'] or 'decimal', previous_types)`
  | err (e : CErr)
  deriving Repr, DecidableEq

/-- Step 3 for the (possibly `abs()`-ed) value `v`; `isNeg` is `counter_value < 0` of the original.
`orig` is `original_value` for the four systems that `abs()` the value (`-counter_value if is_negative else
counter_value` of the additive fallback is the same number); cyclic and fixed never change `counter_value`
and pass it on as it is. -/
def step3 (counter : Desc) (system : String) (fixed : Option Int) (v : Int) (isNeg : Bool) : Step3 :=
  let orig : Int := if isNeg then -v else v
  if system = "cyclic" then
    match counter.symbols with
    | none => .err .typeError
    | some syms =>
      if syms.length < 1 then .decimal v
      else .initial (symAt syms ((v - 1) % (syms.length : Int)).toNat)
  else if system = "fixed" then
    match counter.symbols with
    | none => .err .typeError
    | some syms =>
      if syms.length < 1 then .decimal v
      else match fixed with
        | none => .err .typeError
        | some f =>
          let index := v - f
          if 0 ≤ index && index < (syms.length : Int) then .initial (symAt syms index.toNat)
          else .fallback v
  else if system = "symbolic" then
    match counter.symbols with
    | none => .err .typeError
    | some syms =>
      if syms.length < 1 then .decimal orig
      else
        let index := (v - 1) % (syms.length : Int)
        let rep := (v - 1) / (syms.length : Int) + 1
        .initial (repeatStr (symAt syms index.toNat) rep)
  else if system = "alphabetic" then
    match counter.symbols with
    | none => .err .typeError
    | some syms =>
      if syms.length < 2 then .decimal orig
      else .initial (joinSyms syms (alphaDigits syms.length v.toNat))
  else if system = "numeric" then
    match counter.symbols with
    | none => .err .typeError
    | some syms =>
      if syms.length < 2 then .decimal orig
      else if v = 0 then .initial (symAt syms 0)
      else .initial (joinSyms syms (numDigits syms.length v.natAbs))
  else if system = "additive" then
    match counter.additive with
    | none => .err .typeError
    | some tuples =>
      if v = 0 then
        match additiveZero tuples none with
        | some s => .initial s
        | none => .fallback orig
      else if tuples.length < 1 then .decimal orig
      else match additiveLoop tuples v.toNat [] with
        | some parts => .initial (String.join (parts.map fun p => p.2.text))
        | none => .fallback orig
  else .err .assertion

/-- Does the system use the `negative` descriptor? -/
def usesNegative (system : String) : Bool :=
  system = "symbolic" || system = "alphabetic" || system = "numeric" || system = "additive"

/-- Steps 4 and 5: padding and the negative sign. -/
def padNeg (counter : Desc) (useNeg : Bool) (initial : String) : String :=
  let pad : Nat × Sym := counter.pad.getD (0, .str "")
  let (negPre, negSuf) : Sym × Sym := counter.negative.getD (.str "-", .str "")
  let diff : Int := (pad.1 : Int) - (initial.length : Int)
  let diff := if useNeg then diff - ((negPre.text.length : Int) + (negSuf.text.length : Int)) else diff
  let initial := if diff > 0 then repeatStr pad.2.text diff ++ initial else initial
  if useNeg then negPre.text ++ initial ++ negSuf.text else initial

/-- "Avoid circular fallbacks": `previous_types is not None and system in previous_types`. -/
def isCircular (prev : Option (List CName)) (system : String) : Bool :=
  match prev with
  | none => false
  | some p => p.contains (.named system)

/-- The value step 3 works on: `abs()` for the four systems that use the negative sign. -/
def step3Value (system : String) (value : Int) : Int :=
  if decide (value < 0) && usesNegative system then -value else value

/-- Steps 2–6 of `render_value` once the style is resolved to a non-`extends` system; `recur` is
`self.render_value` (the three recursive calls: fallback on range, decimal on a wrong symbol count,
fallback on an unrepresentable value). -/
def renderTail (recur : Int → CName → Option (List CName) → Except CErr String)
    (value : Int) (counter : Desc) (system : String) (fixed : Option Int) (prev : List CName) :
    Except CErr String :=
  let fallbackName := CName.named (counter.fallback.getD "decimal")
  match inRange counter system value with
  | .error e => .error e
  | .ok false => recur value fallbackName (some prev)
  | .ok true =>
    match step3 counter system fixed (step3Value system value) (decide (value < 0)) with
    | .err e => .error e
    | .decimal v => recur v (.named "decimal") none
    | .fallback v => recur v fallbackName (some prev)
    | .initial s => .ok (padNeg counter (decide (value < 0) && usesNegative system) s)

/-- `render_value(counter_value, counter_name, previous_types=…)`. -/
def renderValue (cs : Styles) : Nat → Int → CName → Option (List CName) → Except CErr String
  | 0, _, _, _ => .error .recursion
  | fuel + 1, value, name, prev =>
    let decimal (v : Int) : Except CErr String := renderValue cs fuel v (.named "decimal") none
    match resolveCounter cs name prev with
    | .error e => .error e
    | .ok (none, _) =>
      if (lookup cs "decimal").isSome then decimal value else .ok ""
    | .ok (some counter, prev) =>
      -- Avoid circular fallbacks
      if isCircular prev (sysOf counter).2.1 then decimal value
      else
        match renderExtLoop cs (loopFuel cs) counter (sysOf counter).1 (sysOf counter).2.1 (sysOf counter).2.2
            ((prev.getD []) ++ [name]) with
        | .error e => .error e
        | .ok .decimal => decimal value
        | .ok (.go counter system fixed prev) => renderTail (renderValue cs fuel) value counter system fixed prev

/-- Which exit a top-level `render_value` call takes (evidence only: branch histogram of the
correspondence inputs). -/
def topBranch (cs : Styles) (value : Int) (name : CName) : String :=
  match resolveCounter cs name none with
  | .error _ => "resolve-error"
  | .ok (none, _) => if (lookup cs "decimal").isSome then "unknown-style->decimal" else "unknown-style->empty"
  | .ok (some counter, _) =>
    match renderExtLoop cs (loopFuel cs) counter (sysOf counter).1 (sysOf counter).2.1 (sysOf counter).2.2 [name] with
    | .error _ => "extends-error"
    | .ok .decimal => "extends-unresolved->decimal"
    | .ok (.go counter system fixed _) =>
      let ext := if (sysOf counter).1 then "extends+" else ""
      match inRange counter system value with
      | .error _ => ext ++ system ++ ":range-ValueError"
      | .ok false => ext ++ system ++ ":out-of-range->fallback"
      | .ok true =>
        match step3 counter system fixed (step3Value system value) (decide (value < 0)) with
        | .err e => ext ++ system ++ ":" ++ e.render
        | .decimal _ => ext ++ system ++ ":too-few-symbols->decimal"
        | .fallback _ => ext ++ system ++ ":unrepresentable->fallback"
        | .initial _ =>
          ext ++ system ++ ":initial" ++ (if decide (value < 0) && usesNegative system then "+negative" else "") ++
            (if counter.pad.isSome then "+pad" else "")

/-- Recursion fuel of a top-level call (see `Props/C15.lean`, `render_terminates`). -/
def topFuel (cs : Styles) : Nat := 2 * cs.length + 8

def renderValueTop (cs : Styles) (value : Int) (name : CName) : Except CErr String :=
  renderValue cs (topFuel cs) value name none

/-- `render_marker(counter_name, counter_value)`. -/
def renderMarker (cs : Styles) (name : CName) (value : Int) : Except CErr String := do
  let (counter?, _) ← resolveCounter cs name none
  match counter? with
  | none =>
    if (lookup cs "decimal").isSome then
      -- `self.render_marker('decimal', counter_value)`: 'decimal' is in the table, one level only
      let (c?, _) ← resolveCounter cs (.named "decimal") none
      match c? with
      | none => pure ""
      | some c =>
        let v ← renderValueTop cs value (.named "decimal")
        pure ((c.pfx.getD (.str "")).text ++ v ++ (c.sfx.getD (.str ". ")).text)
    else pure ""
  | some c =>
    let v ← renderValueTop cs value name
    pure ((c.pfx.getD (.str "")).text ++ v ++ (c.sfx.getD (.str ". ")).text)

end Wp.Counters
