/-
Mirror of
  * `weasyprint/anchors.py::make_page_bookmark_tree` (skipped-levels stack, both `assert`s, the
    `last_by_depth` list of aliased children lists) and `weasyprint/document.py::make_bookmark_tree`;
  * `weasyprint/pdf/anchors.py::add_outlines` (object numbers, `Count`, `Prev/Next/First/Last/Parent`);
  * `weasyprint/pdf/anchors.py::resolve_links`;
  * `sorted(pdf_names, key=key_bytes)` of `weasyprint/pdf/__init__.py::generate_pdf` (since 09da5a8 the
    named destinations are ordered by the bytes of the written keys, not by code points).

Python failure points are explicit (`Except PyErr`): `skipped_levels.pop()` on an empty list,
`last_by_depth[depth - 1]`, the two asserts, `pdf.page_references[page]`.
No Mathlib: linked into the driver.
-/
import WpModel.Model.Wire
import WpModel.Model.Anchors
import WpModel.Model.C18PdfString

namespace Wp.Outline
open Wp Wp.Anchors

/-! ## Bookmark tree -/

/-- Target of a bookmark subtree: `(page_number, x, y)`. -/
structure Target where
  page : Int
  x : Rat
  y : Rat
  deriving Repr, BEq, DecidableEq

/-- A bookmark subtree `(label, target, children, state)`. -/
inductive BTree where
  | node (label : String) (target : Target) (children : List BTree) (state : String)
  deriving Repr

/-- One entry of `page.bookmarks` after the page matrix has been applied and the page number attached:
what the loop body of `make_page_bookmark_tree` consumes. -/
structure Entry where
  level : Int
  label : String
  target : Target
  state : String
  deriving Repr, BEq, DecidableEq

/-- An element of `last_by_depth` other than a bare list: the children list of a subtree that has
already been appended to its parent's list.  Python keeps the *same list object* in the parent tuple
and in `last_by_depth`; the zipper keeps the header of the owning subtree next to the list, and the
subtree is materialised when its list leaves `last_by_depth` (`closeOne`). -/
structure Frame where
  label : String
  target : Target
  state : String
  kids : List BTree
  deriving Repr

/-- The mutable state threaded through the pages by `make_bookmark_tree`.
`skipped` has the *top of the Python list first*; `frames` has `last_by_depth[-1]` first and
`last_by_depth[0]` (the root list, header unused) last. -/
structure BState where
  skipped : List Int
  frames : List Frame
  prev : Int
  deriving Repr

def rootFrame : Frame := ⟨"", ⟨0, 0, 0⟩, "", []⟩

/-- `skipped_levels = []; last_by_depth = [root]; previous_level = 0`. -/
def BState.init : BState := ⟨[], [rootFrame], 0⟩

def isum : List Int → Int
  | [] => 0
  | x :: xs => x + isum xs

/-- `while temp < previous_level: temp += 1 + skipped_levels.pop()`. -/
def popLoop (prev : Int) : Int → List Int → Except PyErr (Int × List Int)
  | temp, [] => if temp < prev then .error (.indexError "skipped_levels.pop") else .ok (temp, [])
  | temp, s :: rest =>
    if temp < prev then popLoop prev (temp + (1 + s)) rest else .ok (temp, s :: rest)

/-- The `if level > previous_level: … else: …` statement: the new `skipped_levels`. -/
def adjust (level prev : Int) (skipped : List Int) : Except PyErr (List Int) :=
  if level > prev then
    .ok ((level - prev - 1) :: skipped)
  else
    match popLoop prev level skipped with
    | .error e => .error e
    | .ok (temp, sk) =>
      if temp > prev then .ok ((temp - prev - 1) :: sk) else .ok sk

/-- `depth = level - sum(skipped_levels); assert depth == len(skipped_levels); assert depth >= 1`. -/
def depthOf (level : Int) (skipped : List Int) : Except PyErr Nat :=
  let depth := level - isum skipped
  if depth ≠ (skipped.length : Int) then .error (.assertFailed "depth==len")
  else if depth < 1 then .error (.assertFailed "depth>=1")
  else .ok depth.toNat

/-- The list at `last_by_depth[-1]` leaves `last_by_depth`: its owner (already a member of the list
below, by aliasing) is now final. -/
def closeOne : List Frame → List Frame
  | f :: g :: rest => { g with kids := g.kids ++ [.node f.label f.target f.kids f.state] } :: rest
  | fs => fs

def closeN : Nat → List Frame → List Frame
  | 0, fs => fs
  | n + 1, fs => closeN n (closeOne fs)

/-- `last_by_depth[depth - 1].append(subtree); del last_by_depth[depth:]; last_by_depth.append(children)`
(`depth ≥ 1`). -/
def place (depth : Nat) (e : Entry) (frames : List Frame) : Except PyErr (List Frame) :=
  if depth - 1 ≥ frames.length then .error (.indexError "last_by_depth")
  else .ok (⟨e.label, e.target, e.state, []⟩ :: closeN (frames.length - depth) frames)

/-- One iteration of the loop of `make_page_bookmark_tree`. -/
def stepEntry (st : BState) (e : Entry) : Except PyErr BState :=
  match adjust e.level st.prev st.skipped with
  | .error err => .error err
  | .ok sk =>
    match depthOf e.level sk with
    | .error err => .error err
    | .ok depth =>
      match place depth e st.frames with
      | .error err => .error err
      | .ok frames => .ok ⟨sk, frames, e.level⟩

def runEntries : BState → List Entry → Except PyErr BState
  | st, [] => .ok st
  | st, e :: rest =>
    match stepEntry st e with
    | .error err => .error err
    | .ok st' => runEntries st' rest

/-- `point_x, point_y = matrix.transform_point(point_x, point_y)` and the page number. -/
def toEntry (pageNumber : Int) (m : Matrix) (b : Bookmark) : Entry :=
  let p := m.transformPoint b.x b.y
  ⟨b.level, b.label, ⟨pageNumber, p.1, p.2⟩, b.state⟩

/-- `make_page_bookmark_tree(page, skipped_levels, last_by_depth, previous_level, page_number, matrix)`. -/
def makePageBookmarkTree (bookmarks : List Bookmark) (st : BState) (pageNumber : Int) (m : Matrix) :
    Except PyErr BState :=
  runEntries st (bookmarks.map (toEntry pageNumber m))

/-- The content of the root list: every list still in `last_by_depth` is reachable from it. -/
def rootOf (frames : List Frame) : List BTree :=
  match closeN (frames.length - 1) frames with
  | f :: _ => f.kids
  | [] => []

/-- A page as `make_bookmark_tree` sees it. -/
structure BPage where
  height : Rat
  bookmarks : List Bookmark
  deriving Repr

/-- `Matrix(a=scale, d=-scale, f=page.height * scale)` / `Matrix(a=scale, d=scale)`. -/
def bookmarkMatrix (scale : Rat) (transformPages : Bool) (height : Rat) : Matrix :=
  if transformPages then { a := scale, d := -scale, f := height * scale }
  else { a := scale, d := scale }

def runPages (scale : Rat) (transformPages : Bool) : BState → Nat → List BPage → Except PyErr BState
  | st, _, [] => .ok st
  | st, n, p :: rest =>
    match makePageBookmarkTree p.bookmarks st (n : Int) (bookmarkMatrix scale transformPages p.height) with
    | .error err => .error err
    | .ok st' => runPages scale transformPages st' (n + 1) rest

/-- `Document.make_bookmark_tree(scale, transform_pages)`. -/
def makeBookmarkTree (pages : List BPage) (scale : Rat) (transformPages : Bool) :
    Except PyErr (List BTree) :=
  match runPages scale transformPages BState.init 0 pages with
  | .error err => .error err
  | .ok st => .ok (rootOf st.frames)

/-! ## Outlines -/

/-- One outline dictionary written by `add_outlines` (`num` = its object number). -/
structure Outline where
  num : Nat
  title : String
  pageRef : Nat
  x : Rat
  y : Rat
  count : Int
  prev : Option Nat
  next : Option Nat
  first : Option Nat
  last : Option Nat
  parent : Option Nat
  deriving Repr, BEq, DecidableEq

inductive ONode where
  | mk (o : Outline) (kids : List ONode)
  deriving Repr

def ONode.outline : ONode → Outline
  | .mk o _ => o

/-- `pdf.page_references[page]` (a tuple: negative indices count from the end). -/
def pageReference (refs : List Nat) (page : Int) : Except PyErr Nat :=
  let n : Int := refs.length
  let i := if page < 0 then page + n else page
  if i < 0 ∨ i ≥ n then .error (.indexError "page_references")
  else match refs[i.toNat]? with
    | some r => .ok r
    | none => .error (.indexError "page_references")

def headNum : List ONode → Option Nat
  | [] => none
  | n :: _ => some n.outline.num

def lastNum : List ONode → Option Nat
  | [] => none
  | [n] => some n.outline.num
  | _ :: rest => lastNum rest

mutual
/-- The loop body of `add_outlines` for one bookmark: `next` is `len(pdf.objects)` on entry, `prev` the
reference of `outlines[-1]` if any.  The `Next` field is filled by the caller (it is assigned when
the following sibling is created).  Returns the node, what it adds to the caller's `count`, and the
new `len(pdf.objects)`. -/
def addOutline (refs : List Nat) (parent prev : Option Nat) (next : Nat) :
    BTree → Except PyErr (ONode × Int × Nat)
  | .node title target children state =>
    match pageReference refs target.page with
    | .error e => .error e
    | .ok pref =>
      match addOutlineList refs (some next) none (next + 1) children with
      | .error e => .error e
      | .ok (kids, childrenCount, next') =>
        let closed := state == "closed"
        let o : Outline :=
          { num := next, title := title, pageRef := pref, x := target.x, y := target.y
            count := if closed then childrenCount * -1 else childrenCount
            prev := prev, next := none
            first := headNum kids, last := lastNum kids
            parent := parent }
        .ok (.mk o kids, if closed then 1 else 1 + childrenCount, next')
/-- `for … in bookmarks:` with `count = len(bookmarks)` accumulated as 1 per entry. -/
def addOutlineList (refs : List Nat) (parent prev : Option Nat) (next : Nat) :
    List BTree → Except PyErr (List ONode × Int × Nat)
  | [] => .ok ([], 0, next)
  | t :: rest =>
    match addOutline refs parent prev next t with
    | .error e => .error e
    | .ok (.mk o kids, c, next') =>
      match addOutlineList refs parent (some o.num) next' rest with
      | .error e => .error e
      | .ok (nodes, c', next'') =>
        -- `outlines[-1]['Next'] = outline.reference` when the following sibling is created
        let o := { o with next := headNum nodes }
        .ok (.mk o kids :: nodes, c + c', next'')
end

/-- The outlines dictionary (`Count`, `First`, `Last`) added when `parent is None and outlines`. -/
structure OutlinesDict where
  num : Nat
  count : Int
  first : Nat
  last : Nat
  deriving Repr, BEq, DecidableEq

def setParent (p : Nat) : ONode → ONode
  | .mk o kids => .mk { o with parent := some p } kids

structure OutlinesResult where
  nodes : List ONode
  count : Int
  dict : Option OutlinesDict
  deriving Repr

/-- `add_outlines(pdf, bookmarks, parent)`; `next = len(pdf.objects)`. -/
def addOutlines (refs : List Nat) (next : Nat) (bookmarks : List BTree) (parent : Option Nat) :
    Except PyErr OutlinesResult :=
  match addOutlineList refs parent none next bookmarks with
  | .error e => .error e
  | .ok (nodes, count, next') =>
    match parent, headNum nodes, lastNum nodes with
    | none, some f, some l =>
      .ok ⟨nodes.map (setParent next'), count, some ⟨next', count, f, l⟩⟩
    | _, _, _ => .ok ⟨nodes, count, none⟩

mutual
/-- The outline dictionaries in the order of `pdf.objects`. -/
def flattenNode : ONode → List Outline
  | .mk o kids => o :: flattenNodes kids
def flattenNodes : List ONode → List Outline
  | [] => []
  | n :: rest => flattenNode n ++ flattenNodes rest
end

/-! ## Links -/

/-- `(anchor_name, (point_x, point_y, _, _))` of `page.anchors.items()`. -/
structure Anchor where
  name : String
  x : Rat
  y : Rat
  deriving Repr, BEq, DecidableEq

/-- `(link_type, target, rectangle, box)`; rectangle and box are carried through as `id`. -/
structure Link where
  type : String
  target : String
  id : Nat
  deriving Repr, BEq, DecidableEq

structure LPage where
  anchors : List Anchor
  links : List Link
  deriving Repr

/-- First loop of `resolve_links` for one page: `(paged_anchors[-1], anchors)`. -/
def pageAnchors : List Anchor → List String → List Anchor × List String
  | [], seen => ([], seen)
  | a :: rest, seen =>
    if seen.contains a.name then pageAnchors rest seen
    else
      let r := pageAnchors rest (seen ++ [a.name])
      (a :: r.1, r.2)

def allAnchors : List LPage → List String → List (List Anchor) × List String
  | [], seen => ([], seen)
  | p :: rest, seen =>
    let r := pageAnchors p.anchors seen
    let r' := allAnchors rest r.2
    (r.1 :: r'.1, r'.2)

/-- Second loop for one page. -/
def pageLinks (anchors : List String) : List Link → List Link
  | [] => []
  | l :: rest =>
    if l.type == "internal" then
      if !anchors.contains l.target then pageLinks anchors rest
      else l :: pageLinks anchors rest
    else l :: pageLinks anchors rest

/-- The `LOGGER.error('No anchor #%s for internal URI reference', anchor_name)` calls of one page, in order. -/
def pageErrors (anchors : List String) : List Link → List String
  | [] => []
  | l :: rest =>
    if l.type == "internal" && !anchors.contains l.target then l.target :: pageErrors anchors rest
    else pageErrors anchors rest

/-- All error messages of `list(resolve_links(pages))`: one per dropped link. -/
def resolveErrors (pages : List LPage) : List String :=
  let names := (allAnchors pages []).2
  pages.flatMap fun p => pageErrors names p.links

/-- `list(resolve_links(pages))`. -/
def resolveLinks (pages : List LPage) : List (List Link × List Anchor) :=
  let r := allAnchors pages []
  (pages.map (fun p => pageLinks r.2 p.links)).zip r.1

/-! ## Name tree order -/

/-- Python `bytes.__lt__` (and `str.__lt__`): lexicographic on the elements. -/
def nameLt : List Nat → List Nat → Bool
  | [], [] => false
  | [], _ :: _ => true
  | _ :: _, [] => false
  | a :: as, b :: bs => if a < b then true else if b < a then false else nameLt as bs

/-- `key_bytes(anchor)` of `generate_pdf`: `name.encode('ascii')` when `name.isascii()`, else
`BOM_UTF16_BE + name.encode('utf-16-be')` — the bytes `pydyf.String(name)` is given (a PDF reader reads the same
bytes back unless an ASCII name holds a carriage return: `Witness.C18.pdf_string_cr`).  (A lone surrogate cannot come out of the HTML parser; `encode` would raise on it exactly
where `pydyf.String.data` raises when the file is written: `Wp.PdfStr.encode`.) -/
def keyBytes (name : List Nat) : List Nat :=
  if name.all (· < 128) then name else 254 :: 255 :: name.flatMap Wp.PdfStr.utf16be

def insertName (x : List Nat × Nat) : List (List Nat × Nat) → List (List Nat × Nat)
  | [] => [x]
  | y :: ys => if nameLt (keyBytes y.1) (keyBytes x.1) then y :: insertName x ys else x :: y :: ys

/-- `sorted(pdf_names, key=key_bytes)`: only the name is compared; the second component identifies the
destination.  Stable insertion sort (as `sorted` is stable). -/
def sortNames : List (List Nat × Nat) → List (List Nat × Nat)
  | [] => []
  | x :: xs => insertName x (sortNames xs)

end Wp.Outline
