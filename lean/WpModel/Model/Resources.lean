/-
C20 — Resources go through the caller's URL fetcher; fetch failures degrade gracefully.

Executable model (no Mathlib) of the *control flow* of

  weasyprint/urls.py            `fetch` (context manager), `url_is_absolute`
  weasyprint/images.py          `get_image_from_uri`, `RasterImage.__init__` (data-source part),
                                `RasterImage.cache_image_data`, `LazyImage.data`, `LazyLocalImage.data`,
                                `rotate_pillow_image` (identity-or-copy part)
  weasyprint/html.py            `handle_img`, `handle_embed`, `handle_object`
  weasyprint/__init__.py        `_select_source` (url branch), `CSS.__init__` (source reading part)
  weasyprint/css/__init__.py    `find_stylesheets`, the `@import` / `@media` / `@font-face` branches of
                                `preprocess_stylesheet` (with `ignore_imports`)
  weasyprint/text/fonts.py      `FontConfiguration.add_font_face` (the `src` loop)
  weasyprint/pdf/anchors.py     `write_pdf_attachment`, the attachment cache of `add_annotations`

State after the repairs of round 3: the cache key of `get_image_from_uri` holds the image options (bca20a5), an image
Pillow opens but cannot re-encode is an `ImageLoadingError` (d7dc388: `rasterInit` returns `Except`), the `media`
attribute of `<style>` / `<link>` is lower-cased (b7ca8f6).  `layout_box_backgrounds` and `DiskCache` are in
`Model/ResourcesBg.lean`.

The code that exists is modelled, quirks included.  What third-party code says about a byte string
(does `ElementTree.fromstring` accept it, does Pillow open it, with which format / mode, does
fontconfig accept the font file) is a *parameter* (`Content`): the harness obtains it by calling
those libraries directly.  Python exceptions are explicit (`Exc`), never defaulted.
-/
import WpModel.Model.Wire

namespace Wp.Res
open Wp

/-! ## Exceptions, byte strings, fetcher outcomes -/

/-- A Python exception: class name and `str(exception)`. -/
structure Exc where
  cls : String
  msg : String
  deriving Repr, BEq, DecidableEq, Inhabited

/-- `URLFetchingError(f'{type(exception).__name__}: {exception}')`. -/
def Exc.wrapFetch (e : Exc) : Exc := ⟨"URLFetchingError", e.cls ++ ": " ++ e.msg⟩

def Exc.isUrlFetching (e : Exc) : Bool := e.cls == "URLFetchingError"
def Exc.isImageLoading (e : Exc) : Bool := e.cls == "ImageLoadingError"

/-- What Pillow says about a byte string it can open. -/
structure Pil where
  format : String          -- `Image.format`: "JPEG", "MPO", "PNG", "GIF", …
  mode : String            -- `Image.mode`
  hasExif : Bool           -- `'exif' in image.info`
  hasTransparency : Bool   -- `'transparency' in image.info`
  pngWritable : Bool       -- `image.save(file, format='PNG')` succeeds on the (converted, rotated) image; Pillow
                           -- refuses some modes it can open (CMYK / float TIFF: `OSError: cannot write mode …`)
  deriving Repr, BEq, DecidableEq, Inhabited

/-- What the css pipeline makes of a byte string read as a stylesheet is given separately (`Sheet`).
For images and fonts: the verdicts of the third-party parsers on a byte string. -/
structure Content where
  id : Nat                 -- identity of the byte string (two contents with the same id are equal)
  xmlOk : Bool             -- `ElementTree.fromstring` accepts it and `SVGImage(tree, …)` is built
  pillow : Option Pil      -- `Image.open(BytesIO(string))` succeeds
  woff : Bool              -- `font[:3] == b'wOF'`
  woffOk : Bool            -- the woff / woff2 decoding succeeds (only read when `woff`)
  fontOk : Bool            -- `FcConfigAppFontAddFile` accepts the (decoded) file
  deriving Repr, BEq, DecidableEq, Inhabited

/-- `result['file_obj']`: what `read()` and `close()` do. -/
structure FileObj where
  readErr : Option Exc
  closeErr : Bool
  deriving Repr, BEq, DecidableEq, Inhabited

/-- The dict returned by the fetcher. -/
structure Resp where
  hasString : Bool               -- `'string' in result`
  fileObj : Option FileObj       -- `'file_obj' in result`
  mime : Option String           -- `result.get('mime_type')`
  redirected : Option String     -- `result.get('redirected_url')`
  content : Content              -- the bytes (`result['string']` or what `read()` returns)
  deriving Repr, BEq, DecidableEq, Inhabited

/-- What calling `url_fetcher(url)` does. -/
inductive Fetched where
  | raises (e : Exc)             -- any `Exception`
  | notDict                      -- returns `None`
  | resp (r : Resp)
  deriving Repr, BEq, DecidableEq, Inhabited

/-- The caller's fetcher: the only source of bytes of every model function below. -/
abbrev Fetcher := String → Fetched

/-- Observable events of one `with fetch(url_fetcher, url) as result:` block. -/
inductive Ev where
  | call (url : String)          -- `url_fetcher(url)` called
  | body                         -- the `with` body entered
  | close                        -- `file_obj.close()` returned
  | closeWarn                    -- `file_obj.close()` raised: logged, not fatal
  deriving Repr, BEq, DecidableEq, Inhabited

/-! ## urls.py `fetch` -/

/-- `result.setdefault('redirected_url', url)` (`mime_type` defaults to `None`, already `none`). -/
def Resp.withDefaults (r : Resp) (url : String) : Resp :=
  { r with redirected := some (r.redirected.getD url) }

/-- `fetch(url_fetcher, url)` around a `with` body.  Returns the event trace and what the whole
`with` statement does (value of the body, or the exception that leaves it). -/
def fetch {α} (f : Fetched) (url : String) (body : Resp → Except Exc α) : List Ev × Except Exc α :=
  match f with
  | .raises e => ([.call url], .error e.wrapFetch)
  | .notDict => ([.call url], .error ⟨"AttributeError", "'NoneType' object has no attribute 'setdefault'"⟩)
  | .resp r =>
    let r' := r.withDefaults url
    match r.fileObj with
    | some fo => ([.call url, .body, if fo.closeErr then .closeWarn else .close], body r')
    | none => ([.call url, .body], body r')

/-- `result['string'] if 'string' in result else result['file_obj'].read()`. -/
def readAll (r : Resp) : Except Exc Content :=
  if r.hasString then .ok r.content
  else match r.fileObj with
    | none => .error ⟨"KeyError", "'file_obj'"⟩
    | some fo => match fo.readErr with
      | some e => .error e
      | none => .ok r.content

/-! ## URL pieces (`urllib.parse.urlsplit` on ASCII strings, `UNICODE_SCHEME_RE`) -/

def isAlpha (c : Char) : Bool := ('a' ≤ c && c ≤ 'z') || ('A' ≤ c && c ≤ 'Z')
def isDigit (c : Char) : Bool := '0' ≤ c && c ≤ '9'
def isSchemeChar (c : Char) : Bool := isAlpha c || isDigit c || c == '+' || c == '-' || c == '.'
def lowerChar (c : Char) : Char := if 'A' ≤ c && c ≤ 'Z' then Char.ofNat (c.toNat + 32) else c

/-- Split at the first `sep`: `(before, some after)` or `(all, none)`. -/
def splitFirst (sep : Char) : List Char → List Char × Option (List Char)
  | [] => ([], none)
  | c :: cs =>
    if c == sep then ([], some cs)
    else let (a, b) := splitFirst sep cs; (c :: a, b)

/-- `urlsplit(url)`: `(scheme, rest)`; the scheme is recognised only when `url[:i]` (i > 0, first
character a letter) consists of scheme characters. -/
def splitScheme (url : List Char) : List Char × List Char :=
  match splitFirst ':' url with
  | (pre, some rest) =>
    match pre with
    | c :: _ => if isAlpha c && pre.all isSchemeChar then (pre.map lowerChar, rest) else ([], url)
    | [] => ([], url)
  | (_, none) => ([], url)

def urlScheme (url : String) : String := String.ofList (splitScheme url.toList).1

/-- `urlparse(url).path`: after the scheme, drop `//netloc`, cut at `#` then `?`. -/
def urlPath (url : String) : String :=
  let rest := (splitScheme url.toList).2
  let rest := match rest with
    | '/' :: '/' :: r => r.dropWhile (fun c => c != '/' && c != '?' && c != '#')
    | r => r
  let rest := (splitFirst '#' rest).1
  String.ofList (splitFirst '?' rest).1

def hexValue (c : Char) : Option Nat :=
  if '0' ≤ c && c ≤ '9' then some (c.toNat - '0'.toNat)
  else if 'a' ≤ c && c ≤ 'f' then some (c.toNat - 'a'.toNat + 10)
  else if 'A' ≤ c && c ≤ 'F' then some (c.toNat - 'A'.toNat + 10)
  else none

/-- Leading `%hh` escapes of a string as bytes, and the rest. -/
def takeEscapes : List Char → List Nat × List Char
  | '%' :: a :: b :: rest =>
    match hexValue a, hexValue b with
    | some x, some y => let (bs, r) := takeEscapes rest; ((x * 16 + y) :: bs, r)
    | _, _ => ([], '%' :: a :: b :: rest)
  | cs => ([], cs)

/-- UTF-8 decoding with U+FFFD for bytes that do not start a well-formed sequence (`errors='replace'`; Python
merges some ill-formed runs into one replacement character: only well-formed escapes are generated). -/
def decodeUtf8Fuel : Nat → List Nat → List Char
  | 0, _ => []
  | _, [] => []
  | fuel + 1, b :: rest =>
    let bad := Char.ofNat 0xFFFD :: decodeUtf8Fuel fuel rest
    let cont (x : Nat) : Bool := 0x80 ≤ x && x < 0xC0
    if b < 0x80 then Char.ofNat b :: decodeUtf8Fuel fuel rest
    else if 0xC2 ≤ b && b < 0xE0 then
      match rest with
      | c :: rest' => if cont c then Char.ofNat ((b - 0xC0) * 64 + (c - 0x80)) :: decodeUtf8Fuel fuel rest' else bad
      | _ => bad
    else if 0xE0 ≤ b && b < 0xF0 then
      match rest with
      | c :: d :: rest' =>
        if cont c && cont d then Char.ofNat ((b - 0xE0) * 4096 + (c - 0x80) * 64 + (d - 0x80)) :: decodeUtf8Fuel fuel rest'
        else bad
      | _ => bad
    else if 0xF0 ≤ b && b < 0xF5 then
      match rest with
      | c :: d :: e :: rest' =>
        if cont c && cont d && cont e then
          Char.ofNat ((b - 0xF0) * 262144 + (c - 0x80) * 4096 + (d - 0x80) * 64 + (e - 0x80)) :: decodeUtf8Fuel fuel rest'
        else bad
      | _ => bad
    else bad

def decodeUtf8 (bytes : List Nat) : List Char := decodeUtf8Fuel bytes.length bytes

/-- `urllib.parse.unquote`: runs of `%hh` escapes are decoded as UTF-8 (`fuel`: the length of the string). -/
def unquoteFuel : Nat → List Char → List Char
  | 0, cs => cs
  | _, [] => []
  | fuel + 1, '%' :: tl =>
    match takeEscapes ('%' :: tl) with
    | ([], _) => '%' :: unquoteFuel fuel tl
    | (bytes, rest) => decodeUtf8 bytes ++ unquoteFuel fuel rest
  | fuel + 1, c :: rest => c :: unquoteFuel fuel rest

def unquote (cs : List Char) : List Char := unquoteFuel cs.length cs

/-- `url2pathname(urlparse(url).path)` on POSIX. -/
def urlFilename (url : String) : String := String.ofList (unquote (urlPath url).toList)

/-- `UNICODE_SCHEME_RE = '^([a-zA-Z][a-zA-Z0-9.+-]+):'` (at least two characters). -/
def urlIsAbsolute (url : String) : Bool :=
  match splitFirst ':' url.toList with
  | (c :: d :: rest, some _) => isAlpha c && (d :: rest).all isSchemeChar
  | _ => false

/-! ## images.py: `RasterImage.__init__` data source, `get_image_from_uri` -/

/-- The `orientation` argument: `'from-image'`, `'none'` or `(angle, flip)`. -/
inductive Orient where
  | fromImage
  | keep
  | explicit (angle : Nat) (flip : Bool)
  deriving Repr, BEq, DecidableEq, Inhabited

/-- `f'{orientation}'`. -/
def Orient.render : Orient → String
  | .fromImage => "from-image"
  | .keep => "none"
  | .explicit a f => "(" ++ toString a ++ ", " ++ (if f then "True" else "False") ++ ")"

/-- `rotate_pillow_image(img, orientation) is not img`. -/
def rotated (o : Orient) (p : Pil) : Bool :=
  match o with
  | .fromImage => p.hasExif       -- `ImageOps.exif_transpose` returns a new image
  | .keep => false
  | .explicit a f => decide (a > 0) || f

/-- Where `RasterImage.image_data` takes its bytes from. -/
inductive Src where
  | lazyLocal (path : String)   -- `LazyLocalImage(filename)`: `Path(filename).read_bytes()` on every `.data`
  | memOriginal                 -- `LazyImage` holding the bytes given by the fetcher
  | memReencoded                -- `LazyImage` holding bytes re-encoded by Pillow from the fetcher's bytes
  deriving Repr, BEq, DecidableEq, Inhabited

structure Opts where
  optimize : Bool              -- `options['optimize_images']`
  jpegQuality : Option Nat     -- `options['jpeg_quality']`
  dpi : Option Nat             -- `options['dpi']`
  deriving Repr, BEq, DecidableEq, Inhabited

/-- `f'{value}'` of an optional integer option. -/
def pyOptNat : Option Nat → String
  | some n => toString n
  | Option.none => "None"

def pyBool (b : Bool) : String := if b then "True" else "False"

/-- `cache_image_data(data, filename)`: `if filename:`. -/
def cacheImageData (filename : Option String) : Src :=
  match filename with
  | some f => if f != "" then .lazyLocal f else .memOriginal
  | none => .memOriginal

/-- `RasterImage.__init__`: `(self.format, self.image_data)`, or the exception of `pillow_image.save`. -/
def rasterInit (p : Pil) (o : Orient) (filename : Option String) (opts : Opts) : Except Exc (String × Src) :=
  -- transposed: "Discard original data, as the image has been transformed"
  let haveData := !rotated o p
  let filename := if rotated o p then Option.none else filename
  -- `convert()` returns an image whose `format` is None
  let converted := p.hasTransparency || p.mode == "1" || p.mode == "P" || p.mode == "I"
  let isJpeg := !converted && (p.format == "JPEG" || p.format == "MPO")
  let isPng := !converted && p.format == "PNG"
  if isJpeg then
    if !haveData || opts.optimize || opts.jpegQuality.isSome then .ok ("JPEG", .memReencoded)
    else .ok ("JPEG", cacheImageData filename)
  else
    if !haveData || opts.optimize || !isPng then
      -- `pillow_image.save(image_file, format='PNG', optimize=optimize)`
      if p.pngWritable then .ok ("PNG", .memReencoded)
      else .error ⟨"OSError", "cannot write mode " ++ p.mode ++ " as PNG"⟩
    else .ok ("PNG", cacheImageData filename)

/-- An `Image` instance as far as the property is concerned. -/
inductive Img where
  | svg (content : Nat)
  | raster (format : String) (src : Src) (content : Nat)
  deriving Repr, BEq, DecidableEq, Inhabited

structure Req where
  url : String
  orient : Orient
  forcedMime : Option String      -- `forced_mime_type` (`None` and `''` are both falsy)
  deriving Repr, BEq, DecidableEq, Inhabited

/-- `key = f'{url} {orientation} {options["optimize_images"]} {options["jpeg_quality"]} {options["dpi"]}'`. -/
def Req.key (r : Req) (opts : Opts) : String :=
  r.url ++ " " ++ r.orient.render ++ " " ++ pyBool opts.optimize ++ " " ++ pyOptNat opts.jpegQuality ++ " " ++
    pyOptNat opts.dpi

abbrev Cache := List (String × Option Img)

def Cache.find? (c : Cache) (key : String) : Option (Option Img) :=
  match c with
  | [] => Option.none
  | (k, v) :: rest => if k == key then some v else Cache.find? rest key

/-- `forced_mime_type or result['mime_type']`. -/
def effectiveMime (forced : Option String) (r : Resp) : Option String :=
  match forced with
  | some m => if m != "" then some m else r.mime
  | none => r.mime

/-- The body of the `with fetch(...)` block of `get_image_from_uri`. -/
def imageBody (req : Req) (r : Resp) : Except Exc (Option String × Content × Option String) :=
  let redirected := r.redirected.getD ""
  let filename := if urlScheme redirected == "file" then some (urlFilename redirected) else Option.none
  match readAll r with
  | .error e => .error e
  | .ok content => .ok (filename, content, effectiveMime req.forcedMime r)

/-- The decision tree after the `with` block. -/
def decideImage (req : Req) (opts : Opts) (filename : Option String) (content : Content)
    (mime : Option String) : Except Exc Img :=
  let isSvgMime := mime == some "image/svg+xml"
  -- "Try to rely on given mimetype for SVG"
  if isSvgMime && content.xmlOk then .ok (.svg content.id)
  else
    -- "Try pillow for raster images, or for failing SVG"
    match content.pillow with
    | some p =>
      -- `try: RasterImage(…) except Exception as exception: raise ImageLoadingError.from_exception(exception)`
      match rasterInit p req.orient filename opts with
      | .ok (fmt, src) => .ok (.raster fmt src content.id)
      | .error e => .error ⟨"ImageLoadingError", if e.msg == "" then e.cls else e.cls ++ ": " ++ e.msg⟩
    | Option.none =>
      if isSvgMime then
        -- "Tried SVGImage then Pillow for a SVG, abort"
        .error ⟨"ImageLoadingError", "svg"⟩
      else if content.xmlOk then
        -- "Last chance, try SVG"
        .ok (.svg content.id)
      else
        -- "Tried Pillow then SVGImage for a raster, abort"
        .error ⟨"ImageLoadingError", "raster"⟩

/-- `get_image_from_uri`: new cache, events, and the returned image or the exception that escapes. -/
def getImage (cache : Cache) (fetcher : Fetcher) (opts : Opts) (req : Req) :
    Cache × List Ev × Except Exc (Option Img) :=
  match cache.find? (req.key opts) with
  | some v => (cache, [], .ok v)
  | Option.none =>
    let (evs, fetched) := fetch (fetcher req.url) req.url (imageBody req)
    let outcome : Except Exc Img := match fetched with
      | .error e => .error e
      | .ok (filename, content, mime) => decideImage req opts filename content mime
    match outcome with
    | .ok img => ((req.key opts, some img) :: cache, evs, .ok (some img))
    | .error e =>
      -- `except (URLFetchingError, ImageLoadingError)`: log, `image = None`
      if e.isUrlFetching || e.isImageLoading then ((req.key opts, Option.none) :: cache, evs, .ok Option.none)
      else (cache, evs, .error e)

/-- A sequence of `get_image_from_uri` calls sharing one cache, each with its own options (one cache shared by
several renders; each call wrapped separately: an escaping exception does not stop the sequence). -/
def runImages (fetcher : Fetcher) :
    Cache → List (Opts × Req) → List (List Ev × Except Exc (Option Img)) × Cache
  | cache, [] => ([], cache)
  | cache, (opts, req) :: rest =>
    let (cache', evs, out) := getImage cache fetcher opts req
    let (outs, final) := runImages fetcher cache' rest
    ((evs, out) :: outs, final)

/-! ### What is embedded at write time -/

/-- Bytes that end up in the PDF for an image. -/
inductive Embedded where
  | fetched (content : Nat)            -- the fetcher's bytes as they are
  | reencodedFrom (content : Nat)      -- Pillow output computed from the fetcher's bytes
  | fileBytes (content : Nat)          -- bytes read from the local file system at write time
  deriving Repr, BEq, DecidableEq, Inhabited

/-- The local file system at write time: path ↦ identity of the bytes, if the file exists. -/
abbrev Fs := String → Option Nat

/-- `image_data.data` when the PDF is written (`LazyImage.data` / `LazyLocalImage.data`). -/
def dataAtWrite (fs : Fs) : Img → Except Exc Embedded
  | .svg c => .ok (.fetched c)
  | .raster _ .memOriginal c => .ok (.fetched c)
  | .raster _ .memReencoded c => .ok (.reencodedFrom c)
  | .raster _ (.lazyLocal path) _ =>
    match fs path with
    | some c => .ok (.fileBytes c)
    | Option.none => .error ⟨"FileNotFoundError", path⟩

/-- Paths opened behind the fetcher's back when the image is written. -/
def opensAtWrite : Img → List String
  | .raster _ (.lazyLocal path) _ => [path]
  | _ => []

/-! ## html.py `handle_img`, `handle_embed`, `handle_object` -/

inductive BoxOut where
  | replaced          -- `make_replaced_box(element, box, image)`
  | altText (s : String)   -- the box with one anonymous TextBox holding the alt text
  | fallback          -- `[box]`: the element's children are the fallback
  deriving Repr, BEq, DecidableEq, Inhabited

/-- `handle_img` given the resolved `src` (None when missing / unresolvable), `alt`, and what
`get_image_from_uri` returned. -/
def handleImg (src : Option String) (alt : Option String) (image : Option Img) : List BoxOut :=
  let altBoxes := match alt with
    | some a => if a != "" then [BoxOut.altText a] else []
    | Option.none => []
  match src with
  | some s =>
    if s != "" then
      match image with
      | some _ => [.replaced]
      | Option.none => altBoxes
    else altBoxes
  | Option.none => altBoxes

def handleEmbed (src : Option String) (image : Option Img) : List BoxOut :=
  match src, image with
  | some s, some _ => if s != "" then [.replaced] else []
  | _, _ => []

def handleObject (data : Option String) (image : Option Img) : List BoxOut :=
  match data, image with
  | some s, some _ => if s != "" then [.replaced] else [.fallback]
  | _, _ => [.fallback]

/-! ## Stylesheets: `find_stylesheets`, `CSS(url=…)`, `@import`, `@media`, `@font-face` -/

/-- One `('external'|'local'|'internal', url)` entry of a `src` descriptor. -/
inductive FontSrc where
  | external (url : Option String)
  | internal
  | «local» (name : String) (found : Bool) (nameMatches : Bool) (uri : String)
  -- `found`: FcFontMatch returned a pattern; `nameMatches`: its fullname / postscriptname equals
  -- the requested one; `uri`: `Path(path).as_uri()` of the matched file
  deriving Repr, BEq, DecidableEq, Inhabited

structure FontFace where
  key : Nat                 -- identity of `str(rule_descriptors)` (same key ⇒ same temp file)
  srcs : List FontSrc
  deriving Repr, BEq, DecidableEq, Inhabited

mutual
  /-- A parsed stylesheet, in source order. -/
  inductive CssItem where
    | rule (id : Nat)                         -- a valid qualified rule (adds selector `id`)
    | other                                   -- `@page`, `@counter-style`, …: only sets `ignore_imports`
    | importRule (url : Option String) (media : Option (List String)) (target : Sheet)
      -- `url = none`: no usable URL token; `media = none`: invalid media query
    | mediaRule (media : Option (List String)) (items : List CssItem)
    | fontFace (complete : Bool) (face : FontFace)   -- `complete`: has `src` and `font-family`
  /-- What the fetcher does for a stylesheet URL and what the returned bytes parse to. -/
  inductive Sheet where
    | mk (fetched : Fetched) (items : List CssItem)
end

instance : Inhabited CssItem := ⟨.other⟩
instance : Inhabited Sheet := ⟨.mk .notDict []⟩

/-- One observable action of stylesheet processing, in execution order. -/
inductive Act where
  | rule (id : Nat)            -- a selector added to the matcher
  | font (face : FontFace)     -- `font_config.add_font_face(rule_descriptors, url_fetcher)` called
  | ev (e : Ev)                -- fetch event
  deriving Repr, BEq, DecidableEq, Inhabited

/-- Effect of stylesheet processing: the actions in order, and the exception that escaped (processing
stops there). -/
structure Out where
  acts : List Act := []
  err : Option Exc := Option.none
  deriving Repr, BEq, DecidableEq, Inhabited

def Out.ofEvs (evs : List Ev) (err : Option Exc := Option.none) : Out := ⟨evs.map .ev, err⟩

/-- Selectors added to the matcher(s), in order. -/
def Out.rules (o : Out) : List Nat := o.acts.filterMap (fun a => match a with | .rule i => some i | _ => Option.none)
/-- `add_font_face` calls, in order. -/
def Out.fonts (o : Out) : List FontFace := o.acts.filterMap (fun a => match a with | .font f => some f | _ => Option.none)
/-- Fetch events, in order. -/
def Out.log (o : Out) : List Ev := o.acts.filterMap (fun a => match a with | .ev e => some e | _ => Option.none)

/-- Sequential composition: the second part runs only if the first did not raise. -/
def Out.seq (a b : Out) : Out :=
  match a.err with
  | some _ => a
  | Option.none => { acts := a.acts ++ b.acts, err := b.err }

/-- `try: CSS(url=…) except URLFetchingError: LOGGER.error(…)`: the fetch failure is logged and
processing goes on; any other exception escapes. -/
def Out.absorbFetchError (o : Out) : Out :=
  match o.err with
  | some e => if e.isUrlFetching then { o with err := Option.none } else o
  | Option.none => o

/-- `evaluate_media_query(query_list, device_media_type)`. -/
def evaluateMedia (query : List String) (device : String) : Bool :=
  query.contains "all" || query.contains device

/-- How `_select_source(url=…, check_css_mime_type=…)` + `CSS.__init__` read the source.
`.ok false`: the `Unsupported stylesheet type` branch (an empty stylesheet is parsed instead). -/
def cssSourceBody (checkMime : Bool) (r : Resp) : Except Exc Bool :=
  if checkMime && r.mime != some "text/css" then .ok false
  else if r.hasString then .ok true
  else match r.fileObj with
    | Option.none => .error ⟨"KeyError", "'file_obj'"⟩
    | some fo => match fo.readErr with      -- `source = source.read()`
      | some e => .error e
      | Option.none => .ok true

mutual
  /-- `preprocess_stylesheet(…, ignore_imports)` on parsed rules. -/
  def runItems (device : String) : Bool → List CssItem → Out
    | _, [] => {}
    | _, .rule id :: rest => Out.seq ⟨[.rule id], Option.none⟩ (runItems device true rest)
    | _, .other :: rest => runItems device true rest
    | ign, .importRule url media target :: rest =>
      if ign then runItems device ign rest
      else match url, media with
        | Option.none, _ => runItems device ign rest
        | some _, Option.none => runItems device ign rest
        | some u, some m =>
          if !evaluateMedia m device then runItems device ign rest
          else
            -- `try: CSS(url=url, …) except URLFetchingError: log`
            Out.seq (runSheet device false u target).absorbFetchError (runItems device ign rest)
    | ign, .mediaRule media items :: rest =>
      match media with
      | Option.none => runItems device ign rest
      | some m =>
        if !evaluateMedia m device then runItems device true rest
        else Out.seq (runItems device true items) (runItems device true rest)
    | _, .fontFace complete face :: rest =>
      Out.seq (if complete then ⟨[.font face], Option.none⟩ else {}) (runItems device true rest)
  /-- `CSS(url=url, _check_mime_type=checkMime, …)`. -/
  def runSheet (device : String) (checkMime : Bool) (url : String) : Sheet → Out
    | .mk fetched items =>
      let (evs, src) := fetch fetched url (cssSourceBody checkMime)
      match src with
      | .error e => Out.ofEvs evs (some e)
      | .ok false => Out.ofEvs evs
      | .ok true => Out.seq (Out.ofEvs evs) (runItems device false items)
end

/-- A `<style>` or `<link>` element as `find_stylesheets` reads it. -/
structure StyleEl where
  isLink : Bool                       -- `<link>` (else `<style>`)
  typeAttr : Option String            -- raw `type` attribute
  mediaAttr : Option String           -- raw `media` attribute
  rel : Option String                 -- raw `rel` attribute
  href : Option String                -- raw `href` attribute
  joined : Option String              -- `urljoin(base_url, href.strip())` when a base URL exists (urllib, oracle)
  items : List CssItem                -- `<style>`: the parsed text content
  target : Sheet                      -- `<link>`: what the fetcher serves for the resolved URL

def isHtmlSpace (c : Char) : Bool := c == ' ' || c == '\t' || c == '\n' || c == '\x0c' || c == '\r'
/-- Python `str.strip()` on ASCII strings: white space is 0x09–0x0d and 0x1c–0x20. -/
def isPySpace (c : Char) : Bool := (0x09 ≤ c.toNat && c.toNat ≤ 0x0d) || (0x1c ≤ c.toNat && c.toNat ≤ 0x20)

def stripChars (cs : List Char) : List Char :=
  ((cs.dropWhile isPySpace).reverse.dropWhile isPySpace).reverse

def strip (s : String) : String := String.ofList (stripChars s.toList)

/-- Split on a separator character (Python `str.split(sep)`). -/
def splitOnChar (sep : Char) : List Char → List (List Char)
  | [] => [[]]
  | c :: cs =>
    match splitOnChar sep cs with
    | [] => [[]]
    | first :: rest => if c == sep then [] :: first :: rest else (c :: first) :: rest

/-- Non-empty runs of non-space characters (`HTML_SPACE_SEPARATED_TOKENS_RE.findall`). -/
def spaceTokens (cs : List Char) : List (List Char) :=
  ((splitOnChar ' ' (cs.map (fun c => if isHtmlSpace c then ' ' else c))).filter (fun t => !t.isEmpty))

/-- `element_has_link_type(element, link_type)`. -/
def hasLinkType (rel : Option String) (linkType : String) : Bool :=
  (spaceTokens (rel.getD "").toList).any (fun t => String.ofList (t.map lowerChar) == linkType)

/-- `element.get('type', 'text/css').split(';', 1)[0].strip()`. -/
def styleMime (typeAttr : Option String) : String :=
  String.ofList (stripChars (splitFirst ';' (typeAttr.getD "text/css").toList).1)

/-- `[m.strip().lower() for m in (element.get('media', '').strip() or 'all').split(',')]` (ASCII). -/
def styleMedia (mediaAttr : Option String) : List String :=
  let raw := stripChars (mediaAttr.getD "").toList
  let raw := if raw.isEmpty then "all".toList else raw
  (splitOnChar ',' raw).map (fun m => String.ofList ((stripChars m).map lowerChar))

/-! ### urls.py `iri_to_uri` -/

/-- UTF-8 encoding of one character. -/
def utf8 (c : Char) : List Nat :=
  let n := c.toNat
  if n < 0x80 then [n]
  else if n < 0x800 then [0xC0 + n / 64, 0x80 + n % 64]
  else if n < 0x10000 then [0xE0 + n / 4096, 0x80 + n / 64 % 64, 0x80 + n % 64]
  else [0xF0 + n / 262144, 0x80 + n / 4096 % 64, 0x80 + n / 64 % 64, 0x80 + n % 64]

/-- Bytes `quote(url, safe=b"/:?#[]@!$&'()*+,;=~%")` leaves alone: unreserved and the given `safe`. -/
def isUriByte (b : Nat) : Bool :=
  b < 0x80 && (let c := Char.ofNat b
    isAlpha c || isDigit c || "_.-~/:?#[]@!$&'()*+,;=%".toList.contains c)

def hexUpper (n : Nat) : Char := if n < 10 then Char.ofNat ('0'.toNat + n) else Char.ofNat ('A'.toNat + n - 10)

def quoteByte (b : Nat) : List Char :=
  if isUriByte b then [Char.ofNat b] else ['%', hexUpper (b / 16 % 16), hexUpper (b % 16)]

/-- `iri_to_uri(url)` (UTF-8 also for `file:`: the file system encoding of the test environment). -/
def iriToUri (url : List Char) : List Char :=
  if url.take 5 == "data:".toList then url
  else (url.flatMap utf8).flatMap quoteByte

/-- `get_url_attribute(element, 'href', base_url)`: stripped value; absolute → itself, else joined
with the base URL when there is one (`joined` = `iri_to_uri(urljoin(base_url, value))`, computed by the
harness or by `Url.urljoin`), else `None` (error logged). -/
def resolveHref (href : Option String) (joined : Option String) : Option String :=
  let value := strip (href.getD "")
  if value == "" then Option.none
  else if urlIsAbsolute value then some (String.ofList (iriToUri value.toList))
  else joined

/-- One iteration of the loop of `find_stylesheets`. -/
def runStyleEl (device : String) (el : StyleEl) : Out :=
  if styleMime el.typeAttr != "text/css" then {}
  else if !evaluateMedia (styleMedia el.mediaAttr) device then {}
  else if !el.isLink then runItems device false el.items
  else if (el.href.getD "") == "" then {}
  else if !hasLinkType el.rel "stylesheet" || hasLinkType el.rel "alternate" then {}
  else match resolveHref el.href el.joined with
    | Option.none => {}
    | some url => (runSheet device true url el.target).absorbFetchError

/-- `find_stylesheets` consumed to the end (as `get_all_computed_styles` does). -/
def findStylesheets (device : String) : List StyleEl → Out
  | [] => {}
  | el :: rest => Out.seq (runStyleEl device el) (findStylesheets device rest)

/-! ## text/fonts.py `add_font_face` -/

structure FontState where
  loaded : List Nat := []         -- keys whose temp file exists (`font_path.exists()`)
  deriving Repr, BEq, DecidableEq, Inhabited

/-- Result of one `add_font_face` call. -/
structure FontOut where
  log : List Ev := []
  installed : Option Nat := Option.none   -- content id of the font registered in fontconfig
  written : List Nat := []        -- content ids written to `font_path` (last one stays on disk)
  warned : Bool := false          -- 'Font-face … cannot be loaded'
  err : Option Exc := Option.none
  deriving Repr, BEq, DecidableEq, Inhabited

/-- The URL a `src` entry asks the fetcher for, if any: `url(...)` as resolved; `local(...)` the file
URI of the matched system font (no matching pattern / names don't match: `continue`). -/
def FontSrc.target : FontSrc → Option String
  | .external u => u
  | .internal => Option.none
  | .«local» _ found nameMatches uri => if found && nameMatches then some uri else Option.none

/-- The `for font_type, url in rule_descriptors['src']` loop. -/
def fontLoop (fetcher : Fetcher) : List FontSrc → FontOut → FontOut
  | [], acc => { acc with warned := true }
  | src :: rest, acc =>
    match src.target with
    | Option.none => fontLoop fetcher rest acc
    | some url =>
      let (evs, got) := fetch (fetcher url) url readAll
      let acc := { acc with log := acc.log ++ evs }
      match got with
      | .error _ => fontLoop fetcher rest acc      -- `except Exception: continue`
      | .ok content =>
        if content.woff && !content.woffOk then fontLoop fetcher rest acc
        else
          let acc := { acc with written := acc.written ++ [content.id] }
          if content.fontOk then { acc with installed := some content.id }
          else fontLoop fetcher rest acc

/-- `add_font_face(rule_descriptors, url_fetcher)`. -/
def addFontFace (fetcher : Fetcher) (st : FontState) (face : FontFace) : FontState × FontOut :=
  if st.loaded.contains face.key then (st, {})
  else
    let out := fontLoop fetcher face.srcs {}
    (if out.written.isEmpty then st else { loaded := face.key :: st.loaded }, out)

def runFonts (fetcher : Fetcher) : FontState → List FontFace → List FontOut
  | _, [] => []
  | st, face :: rest =>
    let (st', out) := addFontFace fetcher st face
    out :: runFonts fetcher st' rest

/-! ## pdf/anchors.py `write_pdf_attachment`, attachment cache of `add_annotations` -/

/-- `Attachment.source` entered and read to the end: `_select_source(url=…)` without MIME check. -/
def attachmentBody (r : Resp) : Except Exc Content :=
  if r.hasString then .ok r.content
  else match r.fileObj with
    | Option.none => .error ⟨"KeyError", "'file_obj'"⟩
    | some fo => match fo.readErr with      -- `source.read(4096)`
      | some e => .error e
      | Option.none => .ok r.content

/-- `write_pdf_attachment(pdf, Attachment(url=url, url_fetcher=…), compress)`:
the embedded content (a `/Filespec`), `none` (logged, nothing written), or an escaping exception. -/
def writeAttachment (fetcher : Fetcher) (url : String) : List Ev × Except Exc (Option Nat) :=
  let (evs, got) := fetch (fetcher url) url attachmentBody
  match got with
  | .ok c => (evs, .ok (some c.id))
  | .error e => if e.isUrlFetching then (evs, .ok Option.none) else (evs, .error e)

/-- `add_annotations`: one `write_pdf_attachment` per distinct target; `None` results are cached
too.  Returns per link the embedded content, and the events. -/
def annotAttachments (fetcher : Fetcher) :
    List (String × Option Nat) → List String → List Ev × Except Exc (List (Option Nat))
  | _, [] => ([], .ok [])
  | files, url :: rest =>
    match files.lookup url with
    | some v =>
      let (evs, out) := annotAttachments fetcher files rest
      (evs, out.map (v :: ·))
    | Option.none =>
      match writeAttachment fetcher url with
      | (evs, .error e) => (evs, .error e)
      | (evs, .ok v) =>
        let (evs', out) := annotAttachments fetcher ((url, v) :: files) rest
        (evs ++ evs', out.map (v :: ·))

/-- The metadata attachments of `generate_pdf`: one `write_pdf_attachment` each, `None` dropped. -/
def metadataAttachments (fetcher : Fetcher) : List String → List Ev × Except Exc (List Nat)
  | [] => ([], .ok [])
  | url :: rest =>
    match writeAttachment fetcher url with
    | (evs, .error e) => (evs, .error e)
    | (evs, .ok v) =>
      let (evs', out) := metadataAttachments fetcher rest
      (evs ++ evs', out.map (fun l => match v with | some c => c :: l | Option.none => l))

end Wp.Res
