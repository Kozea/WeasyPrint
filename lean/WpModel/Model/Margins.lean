/-
Model of `weasyprint/layout/block.py` `collapse_margin` (C05 clause (h); the pagination model has its own
`PM.collapseMargin`, the same function: `C05.collapse_eq_pm`).

```python
def collapse_margin(adjoining_margins):
    margins = [0]  # add 0 to make sure that max/min don't get an empty list
    margins.extend(adjoining_margins)
    positives = (m for m in margins if m >= 0)
    negatives = (m for m in margins if m <= 0)
    return max(positives) + min(negatives)
```
Python's `max` / `min` of an empty iterable raise `ValueError`: that failure point is explicit here
(`pyMax?` / `pyMin?` return `none` on `[]`), and that it is never reached is a theorem of Props/C05.
No Mathlib: linked into the driver.
-/
import WpModel.Model.Wire

namespace Wp.Margins
open Wp

/-- Python `max(iterable)`: left fold keeping the current item unless a later one is strictly greater. -/
def pyMax? : List Rat → Option Rat
  | [] => none
  | x :: xs => some (xs.foldl (fun a b => if b > a then b else a) x)

/-- Python `min(iterable)`: left fold keeping the current item unless a later one is strictly smaller. -/
def pyMin? : List Rat → Option Rat
  | [] => none
  | x :: xs => some (xs.foldl (fun a b => if b < a then b else a) x)

/-- `collapse_margin`, line for line. -/
def collapseMargin (adjoining : List Rat) : Except PyErr Rat :=
  let margins := (0 : Rat) :: adjoining
  let positives := margins.filter (fun m => m ≥ 0)
  let negatives := margins.filter (fun m => m ≤ 0)
  match pyMax? positives, pyMin? negatives with
  | some p, some n => .ok (p + n)
  | none, _ => .error (.valueError "collapse_margin:max")
  | _, none => .error (.valueError "collapse_margin:min")

/-- The largest non-negative margin (0 when there is none): reference for clause (h). -/
def maxPos (ms : List Rat) : Rat := ms.foldl (fun a m => max a m) 0

/-- The most negative margin (0 when there is none). -/
def minNeg (ms : List Rat) : Rat := ms.foldl (fun a m => min a m) 0

end Wp.Margins
