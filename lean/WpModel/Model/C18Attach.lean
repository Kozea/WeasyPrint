/-
Mirror of the attachment code of `weasyprint/pdf/anchors.py` (`write_pdf_attachment`,
`add_annotations`) and of the "Embedded files" block of `weasyprint/pdf/__init__.py::generate_pdf`.

Outside the model (standard library / I/O, supplied by the harness as data): the bytes delivered by
the URL fetcher (only their length and whether fetching raised `URLFetchingError`), the code points of
a file name (file names are opaque atoms; `cpsOf` is supplied by the driver),
`basename(unquote(urlsplit(url).path))`, `mimetypes.guess_type`, `md5`, `strftime`.
No Mathlib: linked into the driver.
-/
import WpModel.Model.Wire
import WpModel.Model.Anchors
import WpModel.Model.C18PdfString
import WpModel.Model.Outline

namespace Wp.Attach
open Wp Wp.Anchors

/-- What `write_pdf_attachment` reads from an `Attachment`. -/
structure Att where
  /-- `none`: reading `attachment.source` raised `URLFetchingError`; `some n`: `n` bytes were read. -/
  size : Option Nat
  /-- `attachment.name`. -/
  name : Option String
  /-- `basename(unquote(urlsplit(url).path))` when `url and urlsplit(url).path`, else `none`. -/
  urlBase : Option String
  description : Option String
  deriving Repr, DecidableEq

/-- The file specification dictionary (object `spec`) and its embedded file stream (object `stream`). -/
structure FileSpec where
  stream : Nat
  spec : Nat
  filename : String
  subtype : String
  size : Nat
  desc : String
  deriving Repr, DecidableEq

/-- `if attachment.name: … elif url and urlsplit(url).path: … else: 'attachment.bin'`. -/
def chooseFilename (a : Att) : String :=
  match a.name with
  | some n => if n != "" then n else
    match a.urlBase with
    | some b => b
    | none => "attachment.bin"
  | none =>
    match a.urlBase with
    | some b => b
    | none => "attachment.bin"

/-- `mimetypes.guess_type(filename, strict=False)[0]` as a table supplied by the caller;
`if not mime_type: mime_type = 'application/octet-stream'`. -/
def mimeOf (guesses : List (String × String)) (filename : String) : String :=
  match guesses.find? (fun g => g.1 == filename) with
  | some g => if g.2 != "" then g.2 else "application/octet-stream"
  | none => "application/octet-stream"

/-- `write_pdf_attachment(pdf, attachment, compress)`; `next = len(pdf.objects)`.  `attachment.source` is a
property that opens the source anew for each call (a0bb005), so the function of an `Attachment` is the
same for every PDF written from the document: the model has no state for it.
`none`: the error was logged and nothing was added. -/
def writeAttachment (guesses : List (String × String)) (next : Nat) (a : Att) : Option FileSpec × Nat :=
  match a.size with
  | none => (none, next)
  | some n =>
    let filename := chooseFilename a
    (some ⟨next, next + 1, filename, mimeOf guesses filename, n, a.description.getD ""⟩, next + 2)

/-- The loop `for attachment in attachments: pdf_attachment = write_pdf_attachment(…); if … is not None: append`. -/
def writeAll (guesses : List (String × String)) : Nat → List Att → List FileSpec × Nat
  | next, [] => ([], next)
  | next, a :: rest =>
    match writeAttachment guesses next a with
    | (none, next') => writeAll guesses next' rest
    | (some f, next') =>
      let r := writeAll guesses next' rest
      (f :: r.1, r.2)

/-- The `/EmbeddedFiles` name dictionary: object number and `[F, reference, F, reference, …]`. -/
structure EmbeddedFiles where
  num : Nat
  names : List (String × Nat)
  deriving Repr, DecidableEq

/-- `str.encode(errors='ignore')` for one code point: UTF-8; a lone surrogate is dropped. -/
def utf8 (c : Nat) : List Nat :=
  if c < 128 then [c]
  else if c < 2048 then [192 + c / 64, 128 + c % 64]
  else if Wp.PdfStr.isSurrogate c then []
  else if c < 65536 then [224 + c / 4096, 128 + c / 64 % 64, 128 + c % 64]
  else [240 + c / 262144, 128 + c / 4096 % 64, 128 + c / 64 % 64, 128 + c % 64]

/-- The bytes of the `/F` key, `filename.encode(errors='ignore')` (what a PDF reader compares in the
`/EmbeddedFiles` name tree, unless the name holds a carriage return). -/
def fKey (cps : List Nat) : List Nat := cps.flatMap utf8

/-- `pydyf.String(<bytes>).data`, the written form of the `/F` key: the bytes between parentheses with
`\\`, `(` and `)` escaped.  It was the sort key of repair 186e86a (finding
`embedded-files-written-form-order`); since e909019 the keys are compared as bytes.  Kept for the
regression example. -/
def fData (cps : List Nat) : List Nat := 40 :: (Wp.PdfStr.escapeLit (fKey cps) ++ [41])

def insertSpec (cpsOf : String → List Nat) (x : FileSpec) : List FileSpec → List FileSpec
  | [] => [x]
  | y :: ys =>
    if Wp.Outline.nameLt (fKey (cpsOf y.filename)) (fKey (cpsOf x.filename)) then y :: insertSpec cpsOf x ys
    else x :: y :: ys

/-- `sorted(pdf_attachments, key=lambda attachment: attachment['F'].string)` (stable): `F` is
`pydyf.String(filename.encode(errors='ignore'))`, its `.string` the bytes of the file name. -/
def sortSpecs (cpsOf : String → List Nat) : List FileSpec → List FileSpec
  | [] => []
  | x :: xs => insertSpec cpsOf x (sortSpecs cpsOf xs)

/-- "Embedded files" of `generate_pdf`: `metadata.attachments` then `options['attachments']`; the name
array lists them sorted by the bytes of their `/F` key (e909019).  `cpsOf` gives the code points of a
file name. -/
def embeddedFiles (cpsOf : String → List Nat) (guesses : List (String × String)) (next : Nat) (atts : List Att) :
    List FileSpec × Option EmbeddedFiles × Nat :=
  let r := writeAll guesses next atts
  if r.1.isEmpty then (r.1, none, r.2)
  else (r.1, some ⟨r.2, (sortSpecs cpsOf r.1).map (fun f => (f.filename, f.spec))⟩, r.2 + 1)

/-- `<link rel=attachment href=… title=…>` as `get_html_metadata` sees it: `href` is the resolved URL
(`get_url_attribute`), `none` when the attribute is missing. -/
structure LinkEl where
  href : Option String
  title : Option String
  deriving Repr, DecidableEq

/-- The `attachments` list of `get_html_metadata`: an element without href is reported and skipped;
the title becomes the description. -/
def metaAttachments (fetch : String → Att) : List LinkEl → List Att
  | [] => []
  | e :: rest =>
    match e.href with
    | none => metaAttachments fetch rest
    | some url => { fetch url with description := e.title } :: metaAttachments fetch rest

/-! ## link-level attachments -/

/-- A `('attachment', target, rectangle, box)` entry of `Page.links` (other link types are skipped). -/
structure AttLink where
  target : String
  rect : Rect
  deriving Repr, DecidableEq

/-- One `/FileAttachment` annotation: its object number, the appearance stream before it, the file
specification it points to and its rectangle. -/
structure FileAnnot where
  stream : Nat
  annot : Nat
  fs : Nat
  rect : Rect
  deriving Repr, DecidableEq

/-- `annot_files`: URL → the file specification number, or `none` when loading failed (kept, so that
the URL is not fetched again). -/
abbrev Cache := List (String × Option Nat)

def Cache.get? (c : Cache) (url : String) : Option (Option Nat) :=
  (c.find? (fun e => e.1 == url)).map (·.2)

structure AnnotState where
  cache : Cache
  files : List FileSpec
  next : Nat
  deriving Repr

/-- One iteration of the loop of `add_annotations` for an attachment link; `fetch url` is what
`Attachment(url=…, url_fetcher=document.url_fetcher)` will deliver. -/
def annotStep (guesses : List (String × String)) (fetch : String → Att) (m : Matrix)
    (st : AnnotState) (l : AttLink) : AnnotState × Option FileAnnot :=
  let st := match st.cache.get? l.target with
    | some _ => st
    | none =>
      match writeAttachment guesses st.next (fetch l.target) with
      | (none, next') => { st with cache := st.cache ++ [(l.target, none)], next := next' }
      | (some f, next') =>
        { cache := st.cache ++ [(l.target, some f.spec)], files := st.files ++ [f], next := next' }
  match st.cache.get? l.target with
  | some (some fs) =>
    ({ st with next := st.next + 2 }, some ⟨st.next, st.next + 1, fs, annotRect m l.rect⟩)
  | _ => (st, none)

/-- `add_annotations` for one page. -/
def addAnnotations (guesses : List (String × String)) (fetch : String → Att) (m : Matrix) :
    AnnotState → List AttLink → AnnotState × List FileAnnot
  | st, [] => (st, [])
  | st, l :: rest =>
    let r := annotStep guesses fetch m st l
    let r' := addAnnotations guesses fetch m r.1 rest
    (r'.1, match r.2 with | some a => a :: r'.2 | none => r'.2)

/-- The page loop of `generate_pdf`: `annot_files = {}` is created once and shared by all pages. -/
def addAnnotationsPages (guesses : List (String × String)) (fetch : String → Att) :
    AnnotState → List (Matrix × List AttLink) → AnnotState × List (List FileAnnot)
  | st, [] => (st, [])
  | st, (m, links) :: rest =>
    let r := addAnnotations guesses fetch m st links
    let r' := addAnnotationsPages guesses fetch r.1 rest
    (r'.1, r.2 :: r'.2)

end Wp.Attach
