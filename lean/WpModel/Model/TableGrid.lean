/-
Slot assignment of `build.wrap_table` (weasyprint/formatting_structure/build.py): `grid_x` of
columns / column groups, `grid_x` and clipped `rowspan` of cells, `grid_width`, `grid_height`.
The tree plumbing (sorting children by type, header / footer, captions, wrapper) is in
`Model/AnonBoxes.lean`; this file is the arithmetic on which slot disjointness is proved.
No Mathlib.
-/
import WpModel.Model.Wire

namespace Wp.TableGrid

/-- What `wrap_table` reads of a cell: `cell.colspan`, `cell.rowspan` (0 = to the end of the group). -/
structure CellIn where
  colspan : Nat
  rowspan : Nat
  deriving Repr, BEq, DecidableEq, Inhabited

/-- What it writes: `cell.grid_x`, and `cell.rowspan` clipped to the row group. -/
structure CellOut where
  gridX : Nat
  colspan : Nat
  rowspan : Nat
  deriving Repr, BEq, DecidableEq, Inhabited

/-- An upper bound of a set of occupied columns, plus one. -/
def bound (occ : List Nat) : Nat := occ.foldl max 0 + 1

/-- `while grid_x in occupied_cells_in_this_row: grid_x += 1` with `fuel` iterations allowed. -/
def firstFreeGo (occ : List Nat) : Nat → Nat → Nat
  | 0, x => x
  | n + 1, x => if occ.contains x then firstFreeGo occ n (x + 1) else x

/-- The loop always ends before `bound occ` (proved: `firstFree_spec`, Lemmas/Grid.lean). -/
def firstFree (occ : List Nat) (x : Nat) : Nat := firstFreeGo occ (bound occ - x) x

/-- `for occupied_cells in spanned_rows[:k]: occupied_cells.update(cols)` -/
def markRows : List (List Nat) → Nat → List Nat → List (List Nat)
  | [], _, _ => []
  | r :: rs, 0, _ => r :: rs
  | r :: rs, k + 1, cols => (cols ++ r) :: markRows rs k cols

/-- `range(a, b)` -/
def rangeList (a b : Nat) : List Nat := (List.range (b - a)).map (· + a)

/-- The body of `for cell in row.children` for one cell: returns the placed cell, the updated
sets of the later rows, the next `grid_x`. -/
def placeCell (occ : List Nat) (later : List (List Nat)) (x : Nat) (c : CellIn) :
    CellOut × List (List Nat) × Nat :=
  let gx := firstFree occ x
  let nx := gx + c.colspan
  if c.rowspan != 1 then
    let maxRowspan := later.length + 1
    if c.rowspan == 0 then
      -- all rows until the end of the group
      (⟨gx, c.colspan, maxRowspan⟩, markRows later later.length (rangeList gx nx), nx)
    else
      let rs := min c.rowspan maxRowspan
      (⟨gx, c.colspan, rs⟩, markRows later (rs - 1) (rangeList gx nx), nx)
  else
    (⟨gx, c.colspan, 1⟩, later, nx)

/-- `for cell in row.children: …` threading `grid_x`, the later rows' sets and `grid_width`. -/
def placeRow (occ : List Nat) : List CellIn → List (List Nat) → Nat → Nat →
    List CellOut × List (List Nat) × Nat
  | [], later, _, w => ([], later, w)
  | c :: cs, later, x, w =>
    let (out, later', nx) := placeCell occ later x c
    let (outs, later'', w') := placeRow occ cs later' nx (max w nx)
    (out :: outs, later'', w')

/-- `for row in group.children: occupied_cells_in_this_row = occupied_cells_by_row.pop(0); …` -/
def placeRows : List (List CellIn) → List (List Nat) → Nat →
    Except PyErr (List (List CellOut) × Nat)
  | [], _, w => .ok ([], w)
  | row :: rows, occByRow, w =>
    match occByRow with
    | [] => .error (.indexError "occupied_cells_by_row.pop")
    | occ :: later =>
      let (outs, later', w') := placeRow occ row later 0 w
      match placeRows rows later' w' with
      | .error e => .error e
      | .ok (rest, w'') => .ok (outs :: rest, w'')

/-- One row group: `occupied_cells_by_row = [set() for row in group.children]`. -/
def placeGroup (rows : List (List CellIn)) (w : Nat) : Except PyErr (List (List CellOut) × Nat) :=
  placeRows rows (rows.map (fun _ => [])) w

/-- All row groups of a table, in the order header, bodies, footer; `grid_height`. -/
def placeGroups : List (List (List CellIn)) → Nat → Nat →
    Except PyErr (List (List (List CellOut)) × Nat × Nat)
  | [], w, h => .ok ([], w, h)
  | g :: gs, w, h =>
    match placeGroup g w with
    | .error e => .error e
    | .ok (out, w') =>
      match placeGroups gs w' (h + g.length) with
      | .error e => .error e
      | .ok (rest, w'', h') => .ok (out :: rest, w'', h')

/-- A column group as `wrap_table` sees it: `len(group.children)` and `group.span`. -/
structure ColGroupIn where
  nCols : Nat
  span : Nat
  deriving Repr, BEq, DecidableEq, Inhabited

/-- `group.grid_x` and the `grid_x` of its columns. -/
structure ColGroupOut where
  gridX : Nat
  cols : List Nat
  deriving Repr, BEq, DecidableEq, Inhabited

/-- `for group in column_groups: group.grid_x = grid_x; (columns one by one | grid_x += group.span)` -/
def placeColumns : List ColGroupIn → Nat → List ColGroupOut × Nat
  | [], x => ([], x)
  | g :: gs, x =>
    let nx := if g.nCols != 0 then x + g.nCols else x + g.span
    let (rest, w) := placeColumns gs nx
    (⟨x, rangeList x (x + g.nCols)⟩ :: rest, w)

/-- The whole numeric part of `wrap_table`. -/
structure TableOut where
  colGroups : List ColGroupOut
  groups : List (List (List CellOut))
  gridWidth : Nat
  gridHeight : Nat
  deriving Repr, BEq, DecidableEq

def placeTable (cols : List ColGroupIn) (groups : List (List (List CellIn))) : Except PyErr TableOut :=
  let (cg, w) := placeColumns cols 0
  match placeGroups groups w 0 with
  | .error e => .error e
  | .ok (gs, w', h) => .ok ⟨cg, gs, w', h⟩

end Wp.TableGrid
