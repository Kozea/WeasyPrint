/-
Mirror of `weasyprint/html.py::get_html_metadata` on the `<title>` / `<meta>` elements of a document
(`<link rel=attachment>`: `Model/C18Attach.lean`, `metaAttachments`) and of the "PDF information" block of
`weasyprint/pdf/__init__.py::generate_pdf` (which fields are written, under which truthiness test,
joined how), and of the `watch_elements` pass of `layout/__init__.py::layout_document`.
Strings are `List Char`.  No Mathlib: linked into the driver.
-/
import WpModel.Model.Wire
import WpModel.Model.Dates

namespace Wp.Metadata
open Wp Wp.Dates

/-- The elements `query_all('title', 'meta', …)` yields, in document order. -/
inductive HeadEl where
  | titleEl (text : Str)                  -- `get_child_text(element)`
  | metaEl (name content : Str)           -- `element.get('name', '')`, `element.get('content', '')`
  deriving Repr, BEq, DecidableEq

/-- The dictionary returned by `get_html_metadata` (without attachments and custom entries). -/
structure Meta where
  title : Option Str := none
  description : Option Str := none
  generator : Option Str := none
  keywords : List Str := []
  authors : List Str := []
  created : Option Str := none
  modified : Option Str := none
  lang : Option Str := none
  deriving Repr, BEq, DecidableEq

/-- `ascii_lower`: `string.encode().lower().decode()` maps A-Z only. -/
def asciiLower (s : Str) : Str :=
  s.map fun c => if 'A' ≤ c && c ≤ 'Z' then Char.ofNat (c.toNat + 32) else c

/-- `str.split(',')`: one more piece than there are commas. -/
def splitComma : Str → List Str
  | [] => [[]]
  | c :: rest =>
    match splitComma rest with
    | [] => [[c]]        -- unreachable: the result is never empty
    | p :: ps => if c == ',' then [] :: p :: ps else (c :: p) :: ps

def dropWs : Str → Str
  | [] => []
  | c :: rest => if isWs c then dropWs rest else c :: rest

/-- `strip_whitespace`: `string.strip(' \t\n\f\r')`. -/
def stripWs (s : Str) : Str := (dropWs (dropWs s).reverse).reverse

/-- `for keyword in map(strip_whitespace, content.split(',')): if keyword not in keywords: append`. -/
def addKeywords : List Str → List Str → List Str
  | [], acc => acc
  | k :: rest, acc => if acc.contains k then addKeywords rest acc else addKeywords rest (acc ++ [k])

/-- `parse_w3c_date(name, content)`. -/
def parseW3cDate (s : Str) : Option Str := if (matchW3C s).isSome then some s else none

def stepEl (m : Meta) : HeadEl → Meta
  | .titleEl text => if m.title.isNone then { m with title := some text } else m
  | .metaEl name content =>
    let name := asciiLower name
    if name == "keywords".toList then
      { m with keywords := addKeywords ((splitComma content).map stripWs) m.keywords }
    else if name == "author".toList then { m with authors := m.authors ++ [content] }
    else if name == "description".toList then
      if m.description.isNone then { m with description := some content } else m
    else if name == "generator".toList then
      if m.generator.isNone then { m with generator := some content } else m
    else if name == "dcterms.created".toList then
      if m.created.isNone then { m with created := parseW3cDate content } else m
    else if name == "dcterms.modified".toList then
      if m.modified.isNone then { m with modified := parseW3cDate content } else m
    else m

/-- `get_html_metadata(html)`; `lang` is the root element's `lang` attribute. -/
def getHtmlMetadata (lang : Option Str) (els : List HeadEl) : Meta :=
  els.foldl stepEl { lang := lang }

/-- `', '.join(items)`. -/
def joinComma : List Str → Str
  | [] => []
  | [x] => x
  | x :: rest => x ++ (',' :: ' ' :: joinComma rest)

def nonEmpty : Option Str → Option Str
  | some (c :: cs) => some (c :: cs)
  | _ => none

/-- `pydyf.String(_w3c_date_to_pdf(value, …))`: `None` would be written as the text `None`. -/
def dateField (s : Str) : Except PyErr Str :=
  match w3cDateToPdf s with
  | .error e => .error e
  | .ok none => .ok "None".toList
  | .ok (some r) => .ok r

def optField (key : String) (v : Option Str) : List (String × Str) :=
  match nonEmpty v with
  | some t => [(key, t)]
  | none => []

def listField (key : String) (v : List Str) : List (String × Str) :=
  if v.isEmpty then [] else [(key, joinComma v)]

def dateEntry (key : String) (v : Option Str) : Except PyErr (List (String × Str)) :=
  match nonEmpty v with
  | none => .ok []
  | some c =>
    match dateField c with
    | .error e => .error e
    | .ok r => .ok [(key, r)]

/-- The `/Info` entries written from the metadata (Producer excluded) and the catalog `/Lang`, in the
order of the `if metadata.…:` statements of `generate_pdf`. -/
def infoFields (m : Meta) : Except PyErr (List (String × Str)) :=
  match dateEntry "CreationDate" m.created, dateEntry "ModDate" m.modified with
  | .ok c, .ok d =>
    .ok (optField "Title" m.title ++ listField "Author" m.authors ++ optField "Subject" m.description ++
      listField "Keywords" m.keywords ++ optField "Creator" m.generator ++ c ++ d ++ optField "Lang" m.lang)
  | .error e, _ => .error e
  | _, .error e => .error e

/-! ## XMP packet (PDF/A, PDF/UA) -/

/-- `generate_rdf_metadata(metadata, variant, version, conformance)`: the `rdf:Description` blocks in
order, each as (qualified name, values) — an attribute (`@` prefix) has one value, `dc:creator` one
`rdf:li` per author, the others a single `rdf:li` or their text.  The W3C dates are written as they
are (XMP uses the W3C format). -/
def rdfFields (variant : String) (version : String) (conformance : Option String) (producer : Str) (m : Meta) :
    List (String × List Str) :=
  [("@pdf" ++ variant ++ "id:part", [version.toList])] ++
  (match conformance with
   | some c => if c != "" then [("@pdf" ++ variant ++ "id:conformance", [c.toList])] else []
   | none => []) ++
  [("@pdf:Producer", [producer])] ++
  (match nonEmpty m.title with | some t => [("dc:title", [t])] | none => []) ++
  (if m.authors.isEmpty then [] else [("dc:creator", m.authors)]) ++
  (match nonEmpty m.description with | some d => [("dc:subject", [d])] | none => []) ++
  (if m.keywords.isEmpty then [] else [("pdf:Keywords", [joinComma m.keywords])]) ++
  (match nonEmpty m.generator with | some g => [("xmp:CreatorTool", [g])] | none => []) ++
  (match nonEmpty m.created with | some c => [("xmp:CreateDate", [c])] | none => []) ++
  (match nonEmpty m.modified with | some c => [("xmp:ModifyDate", [c])] | none => [])

/-! ## one bookmark per element -/

/-- Which checklist a box belongs to (`element_tag.endswith('::before')` / `'::after'`). -/
inductive Pseudo where
  | none | before | after
  deriving Repr, DecidableEq

/-- A box of `page.descendants()` with a truthy `bookmark_label`: `(element id, pseudo)`.
Returns, for each box in order, whether it keeps its label. -/
def watch : List (Nat × Pseudo) → List (Nat × Pseudo) → List Bool
  | [], _ => []
  | b :: rest, seen =>
    if seen.contains b then false :: watch rest seen else true :: watch rest (seen ++ [b])

/-! ## links and anchors of the DOM -/

/-- The type `gather_anchors` records for an `<a href>`: a fragment-only href, or a URL that is the
document's own URL plus a fragment, is `internal` (`get_link_attribute`); any other URL is `external`,
turned into `attachment` by `rel=attachment`. -/
def linkType (isFragment isAttachment : Bool) : String :=
  if isFragment then "internal" else if isAttachment then "attachment" else "external"

/-- Anchor names in document order → the names that become destinations (first occurrence). -/
def firstOccurrences : List String → List String → List String
  | [], _ => []
  | n :: rest, seen =>
    if seen.contains n then firstOccurrences rest seen else n :: firstOccurrences rest (seen ++ [n])

end Wp.Metadata
