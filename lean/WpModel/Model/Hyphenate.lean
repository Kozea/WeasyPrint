/-
C09 — step 4 of `split_first_line` for `hyphens: auto` with a language (dictionary hyphenation), and
the steps around it with the `hyphenated` flag (`first_line_metrics(..., hyphenated,
hyphenate_character)`, step 5 resetting it).

The dictionary (pyphen) is an *assumed component*: its answer for every word of the text — the word's
first parts in `Pyphen(lang, left, right).iterate(word)` order, for the element's own
`hyphenate-limit-chars` — is an input of the model (`Cfg.dict`).  What is modelled is WeasyPrint's use
of it: the next word from Pango's word boundaries, `hyphenate-limit-chars` total, the
`hyphenate-limit-zone` test, the loop over the first parts with a fresh `create_layout`, the forced
hyphenation of an overflowing first word, and — implicitly — that the dictionary consulted is the one
of this element's limits (the cache `context.dictionaries` must not mix elements up).

`splitFirstLineHy st none` is `splitFirstLine st` (`Props/C09.hyphenation_off_is_plain`).
No Mathlib: linked into the driver.
-/
import WpModel.Model.LineBreak

namespace Wp.Hy
open Wp Wp.Py Wp.Pango Wp.LB

/-- the hyphenation inputs of one call -/
structure Cfg where
  /-- `hyphenate-limit-chars` total (the left / right limits are inside `dict`) -/
  total : Nat
  /-- `hyphenate-limit-zone`: unit is `%` -/
  zonePct : Bool
  zone : Rat
  /-- `hyphenate-character` -/
  hchar : Text
  /-- word ↦ lengths of the first parts, in `dictionary.iterate(word)` order (longest first) -/
  dict : List (Text × List Nat)
  deriving Repr

/-- `get_next_word_boundaries(text, lang)` on letters / spaces / newlines (Pango `is_word_end`,
`is_word_boundary`): the first maximal run of letters. -/
def nextWordBoundaries (t : Text) : Option (Nat × Nat) :=
  if t.length < 2 then none else
  let start := (t.takeWhile (fun c => !isLetter c)).length
  let stop := start + ((t.drop start).takeWhile isLetter).length
  if start < stop then some (start, stop) else none

/-- `first_line_metrics(first_line, text, layout, resume_at, space_collapse, style, hyphenated, char)` -/
def firstLineMetricsHy (fs : Rat) (cfg : Cfg) (line : Line) (text : Text) (lay : Layout)
    (resumeAt : Option Nat) (collapse hyphenated : Bool) : Res :=
  if hyphenated then
    { length := line.length - cfg.hchar.length, resume := resumeAt, width := line.width, text := lay.text }
  else firstLineMetrics fs line text lay resumeAt collapse

/-- what steps 4 and 5 carry: layout, first line, `resume_index`, `hyphenated` -/
structure State where
  lay : Layout
  line : Line
  ri : Option Nat
  hyphenated : Bool
  deriving Repr

/-- `auto_hyphenation`: the next word is long enough and the space left on the line is worth it -/
def autoHyphenation (cfg : Cfg) (maxW : MaxW) (flw : Rat) (wordLen : Nat) : Bool :=
  decide (cfg.total ≤ wordLen) &&
  match maxW with
  | .fin W =>
    let space := W - flw
    let limit := if cfg.zonePct then W * cfg.zone / 100 else cfg.zone
    decide (space > limit) || decide (space < 0)
  | .inf => !cfg.zonePct      -- `inf > limit_zone` (inf * v / 100 is inf or nan)
  | .none => false

/-- `new_space >= 0` -/
def spaceLeft (maxW : MaxW) (width : Rat) : Bool :=
  match maxW with
  | .fin W => decide (W - width ≥ 0)
  | _ => true

/-- the `for first_word_part in dictionary_iterations` loop: the first part whose hyphenated line
fits (or the last one if it does not wrap); `lastTried` = the last `new_first_line_text`. -/
def tryParts (st : Style) (cfg : Cfg) (maxW : MaxW) (pre word : Text) :
    List Nat → Option State × Option Text
  | [] => (none, none)
  | k :: rest =>
    let new := pre ++ word.take k
    let lay := createLayout st (new ++ cfg.hchar) maxW
    let line := firstLine st.fs lay
    if line.resume.isNone && (spaceLeft maxW line.width || rest.isEmpty) then
      (some { lay := lay, line := line, ri := some new.length, hyphenated := true }, some new)
    else
      match tryParts st cfg maxW pre word rest with
      | (some s, t) => (some s, t)
      | (none, none) => (none, some new)
      | (none, some t) => (none, some t)

/-- Step 4 (`hyphens: auto`, a language, no soft hyphen in the text). -/
def step4 (st : Style) (cfg : Cfg) (maxW : MaxW) (flt slt : Text) (s : State) : State :=
  match nextWordBoundaries slt with
  | none => s
  | some (sw, ew) =>
    let word := (slt.take ew).drop sw
    if autoHyphenation cfg maxW s.line.width (ew - sw) then
      let parts := ((cfg.dict.find? (fun e => e.1 == word)).map (·.2)).getD []
      match tryParts st cfg maxW (flt ++ slt.take sw) word parts with
      | (some s', _) => s'
      | (none, some lastNew) =>
        if flt = [] then
          -- recreate the layout with no width: never break before or inside the hyphenate character
          let lay : Layout := { s.lay.setText (lastNew ++ cfg.hchar) with width := none }
          { lay := lay, line := firstLine st.fs lay, ri := some lastNew.length, hyphenated := true }
        else s
      | (none, none) => s
    else s

/-- Step 5 with the `hyphenated` flag, then `first_line_metrics`. -/
def step5Hy (st : Style) (cfg : Cfg) (text : Text) (maxW : MaxW) (isLineStart minimum : Bool) (s : State) : Res :=
  let collapse := st.ws.spaceCollapse
  match maxW with
  | .fin W =>
    if W - s.line.width < 0 ∧ canBreakWord st isLineStart minimum = true then
      let lay' := step5Layout s.lay text W
      let line' := firstLine st.fs lay'
      firstLineMetrics st.fs line' text lay' (step5Resume line' text) collapse
    else firstLineMetricsHy st.fs cfg s.line text s.lay s.ri collapse s.hyphenated
  | _ => firstLineMetricsHy st.fs cfg s.line text s.lay s.ri collapse s.hyphenated

/-- steps 4 and 5 -/
def step45 (st : Style) (cfg : Cfg) (text : Text) (maxW : MaxW) (a b : Bool) (flt slt : Text)
    (lay : Layout) (line : Line) (ri : Option Nat) : Res :=
  step5Hy st cfg text maxW a b (step4 st cfg maxW flt slt { lay := lay, line := line, ri := ri, hyphenated := false })

/-- `step3Try` with step 4 in the path -/
def step3TryHy (st : Style) (cfg : Cfg) (d : Draft) (maxW : MaxW) (a b : Bool) (flt slt nextWord : Text)
    (c : Char) : Res :=
  let collapse := st.ws.spaceCollapse
  let text := d.text
  if c = ' ' then
    let new := flt ++ nextWord
    let lay := d.lay.setText new
    let line := firstLine st.fs lay
    match line.resume with
    | none =>
      if flt ≠ [] then firstLineMetrics st.fs line text lay (some (new.length + 1)) collapse
      else
        let r := line.length + 1
        step45 st cfg text maxW a b flt slt lay line (if r ≥ text.length then none else some r)
    | some r => step45 st cfg text maxW a b flt slt lay line (some r)
  else step45 st cfg text maxW a b flt slt d.lay d.line d.line.resume

def step3Hy (st : Style) (cfg : Cfg) (d : Draft) (maxW : MaxW) (a b : Bool) : Except PyErr Res :=
  let collapse := st.ws.spaceCollapse
  let text := d.text
  let flt := (step3Texts d maxW).1
  let slt := (step3Texts d maxW).2
  (step3BreakPoint d flt).bind fun bp =>
    let nextWord := rstripSp (sliceTo slt bp)
    if nextWord ≠ [] then
      if collapse then
        (Py.get slt (orInt bp (-1)) "second_line_text").map (step3TryHy st cfg d maxW a b flt slt nextWord)
      else .ok (step45 st cfg text maxW a b flt slt d.lay d.line d.line.resume)
    else if flt ≠ [] then
      .ok (firstLineMetrics st.fs d.line text d.lay d.line.resume collapse)
    else .ok (step45 st cfg text maxW a b flt slt d.lay d.line d.line.resume)

def finishHy (st : Style) (cfg : Cfg) (d : Draft) (maxW : MaxW) (a b : Bool) : Except PyErr Res :=
  let collapse := st.ws.spaceCollapse
  if maxW = .none then .ok (firstLineMetrics st.fs d.line d.text d.lay d.line.resume collapse)
  else if d.line.resume = none ∧ maxW.ge d.line.width then
    .ok (firstLineMetrics st.fs d.line d.text d.lay d.line.resume collapse)
  else step3Hy st cfg d maxW a b

/-- `split_first_line` with `hyphens: auto` and a language (`cfg`), or without (`none`). -/
def splitFirstLineHy (st : Style) (cfg : Option Cfg) (text : Text) (maxWidth : MaxW) (a b : Bool) :
    Except PyErr Res :=
  match cfg with
  | none => splitFirstLine st text maxWidth a b
  | some cfg =>
    let maxW := if st.ws.textWrap then maxWidth else .none
    let d : Except PyErr Draft :=
      match maxW with
      | .fin W => if st.fs ≠ 0 then step1 true st text W else .ok (draftFull st text maxWidth)
      | _ => .ok (draftFull st text maxWidth)
    d.bind fun d => finishHy st cfg d maxW a b

end Wp.Hy
