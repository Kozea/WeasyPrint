/-
C09 — `text/line_break.py::split_first_line` (steps 1, 2, 3, 5; step 4 is a no-op on texts without
soft hyphens under `hyphens: manual|none`, or `auto` without a language), `first_line_metrics`,
`create_layout`, and from `layout/inline.py`: `split_text_box`, `skip_first_whitespace` /
`remove_last_whitespace` (text part), `text_align`, `justify_line` / `count_expandable_spaces` /
`add_word_spacing`, and the line loop `iter_line_boxes` / `get_next_linebox` for a block whose line
box holds one text box and no float.

Mirrors the Python branch for branch, quirks included (the second-line break point made relative
twice, `break_point or -1`, the text cut to the heuristic prefix; since fix 3c674e2 a negative width is
clamped to 0 before the step-5 re-wrap).  Python failure points are explicit (`Except PyErr`).
No Mathlib: linked into the driver.
-/
import WpModel.Model.Pango

namespace Wp.LB
open Wp Wp.Py Wp.Pango

/-! ### keywords -/

inductive WS | normal | nowrap | pre | preWrap | preLine
  deriving DecidableEq, Repr, Inhabited

def WS.css : WS → String
  | .normal => "normal" | .nowrap => "nowrap" | .pre => "pre" | .preWrap => "pre-wrap"
  | .preLine => "pre-line"

def WS.all : List WS := [.normal, .nowrap, .pre, .preWrap, .preLine]
def WS.ofCss? (s : String) : Option WS := WS.all.find? (fun w => w.css == s)

inductive OW | normal | anywhere | breakWord
  deriving DecidableEq, Repr, Inhabited

def OW.css : OW → String
  | .normal => "normal" | .anywhere => "anywhere" | .breakWord => "break-word"

def OW.all : List OW := [.normal, .anywhere, .breakWord]
def OW.ofCss? (s : String) : Option OW := OW.all.find? (fun w => w.css == s)

inductive WB | normal | breakAll
  deriving DecidableEq, Repr, Inhabited

def WB.css : WB → String
  | .normal => "normal" | .breakAll => "break-all"

def WB.all : List WB := [.normal, .breakAll]
def WB.ofCss? (s : String) : Option WB := WB.all.find? (fun w => w.css == s)

/-- `style['white_space'] in ('normal', 'pre-wrap', 'pre-line')` (tuple regenerated from the source). -/
def WS.textWrap (w : WS) : Bool := Gen.LineBreak.textWrapValues.contains w.css
def WS.spaceCollapse (w : WS) : Bool := Gen.LineBreak.spaceCollapseValues.contains w.css
def WS.layoutWrap (w : WS) : Bool := Gen.LineBreak.createLayoutWrapValues.contains w.css
def WS.skipFirst (w : WS) : Bool := Gen.LineBreak.skipFirstWsValues.contains w.css
def WS.removeLast (w : WS) : Bool := Gen.LineBreak.removeLastWsValues.contains w.css
def WS.alignCollapse (w : WS) : Bool := Gen.LineBreak.textAlignCollapseValues.contains w.css
/-- `can_break_inside`: `text_wrap = box.style['white_space'] in ('normal', 'pre-wrap', 'pre-line')` -/
def WS.breakInside (w : WS) : Bool := Gen.LineBreak.canBreakInsideWrapValues.contains w.css
/-- `split_inline_box`: `box.style['white_space'] in ('pre', 'nowrap')` → no break between two children -/
def WS.noBreakBetween (w : WS) : Bool := Gen.LineBreak.inlineNoBreakValues.contains w.css
/-- `preferred.inline_line_widths`: its own `space_collapse` / `text_wrap` -/
def WS.prefCollapse (w : WS) : Bool := Gen.LineBreak.preferredCollapseValues.contains w.css
def WS.prefWrap (w : WS) : Bool := Gen.LineBreak.preferredWrapValues.contains w.css
/-- `overflow_wrap in ('anywhere', 'break-word')`: Pango's automatic hyphens are switched off. -/
def OW.wordBreaking (o : OW) : Bool := Gen.LineBreak.wordBreakingValues.contains o.css

/-- `max_width`: `None`, `math.inf` or a number. -/
inductive MaxW | none | inf | fin (q : Rat)
  deriving Repr, Inhabited, DecidableEq

/-- `x <= max_width` for a numeric `max_width`. -/
def MaxW.ge (m : MaxW) (x : Rat) : Bool :=
  match m with
  | .none => false
  | .inf => true
  | .fin q => decide (x ≤ q)

/-- the part of the computed style read by the modelled functions -/
structure Style where
  ws : WS
  wb : WB
  ow : OW
  fs : Rat
  deriving Repr

/-- `(length, resume_index, width)` of `split_first_line`'s result and `layout.text`. -/
structure Res where
  length : Nat
  resume : Option Nat
  width : Rat
  text : Text
  deriving Repr, BEq, DecidableEq

/-! ### create_layout / first_line_metrics -/

/-- `create_layout(text, style, context, max_width, …)`. -/
def createLayout (st : Style) (text : Text) (maxWidth : MaxW) : Layout :=
  let width : Option Rat :=
    match maxWidth with
    | .fin q => if st.ws.layoutWrap && decide (q < (2 : Rat) ^ Gen.LineBreak.maxWidthLog2) then some (quantize q) else none
    | _ => none
  { text := truncNl text, width := width, wrapChar := false, hyph := !st.ow.wordBreaking }

/-- `first_line_metrics(first_line, text, layout, resume_at, space_collapse, style)` (not hyphenated). -/
def firstLineMetrics (fs : Rat) (line : Line) (text : Text) (lay : Layout) (resumeAt : Option Nat)
    (spaceCollapse : Bool) : Res :=
  match resumeAt with
  | some r =>
    if r ≠ 0 then
      let flt := text.take line.length
      let flt := if spaceCollapse then rstripSp flt else flt
      let lay := ({ lay with width := none } : Layout).setText flt
      let l := firstLine fs lay
      { length := l.length, resume := resumeAt, width := l.width, text := lay.text }
    else { length := line.length, resume := resumeAt, width := line.width, text := lay.text }
  | none => { length := line.length, resume := none, width := line.width, text := lay.text }

/-! ### split_first_line -/

/-- Step 1: the amount of text handed to Pango.  `heur = false` is the function without its speed
heuristic (`short_text = text`), used to state `heuristic_transparent`. -/
def shortText (heur : Bool) (fs : Rat) (text : Text) (W : Rat) : Text :=
  if !heur then text
  else if fs * Gen.LineBreak.ratio > W then
    match find text ' ' with
    | some si => text.take (si + 2)
    | none => text
  else sliceTo text (some (truncZ (W / fs * Gen.LineBreak.ratio)))

/-- what step 1 leaves behind -/
structure Draft where
  text : Text
  short : Text
  lay : Layout
  line : Line
  deriving Repr

def step1 (heur : Bool) (st : Style) (text : Text) (W : Rat) : Except PyErr Draft :=
  let short := shortText heur st.fs text W
  let lay := createLayout st short (.fin W)
  let line := firstLine st.fs lay
  if line.resume = none ∧ short ≠ text then
    -- the small amount of text fits in one line: use the whole text
    .ok { text := text, short := text, lay := lay.setText text, line := firstLine st.fs (lay.setText text) }
  else
    let flt := sliceToNat short line.resume
    if flt ≠ short then
      (nextBreakPoint lay.text (flt.length + 1) short.length).map fun bp =>
        { text := if bp.isSome then short else text, short := short, lay := lay, line := line }
    else
      .ok { text := text, short := short, lay := lay, line := line }

/-- the `else:` of step 1 (no usable width): whole text, `original_max_width` -/
def draftFull (st : Style) (text : Text) (original : MaxW) : Draft :=
  let lay := createLayout st text original
  { text := text, short := text, lay := lay, line := firstLine st.fs lay }

/-- Step 5: the layout re-wrapped at character level (`set_text(text)`,
`set_width(int(max(0, max_width) * TO_UNITS))` — a negative available width is clamped to 0 like in
`create_layout`, so Pango never sees the negative value that means "no width" —, `PANGO_WRAP_CHAR`). -/
def step5Layout (lay : Layout) (text : Text) (W : Rat) : Layout :=
  { lay.setText text with width := some ((truncZ (max 0 W * 1024) : Rat) / 1024), wrapChar := true }

/-- Step 5: `resume_index = index or first_line.length`, `None` at the end of the text. -/
def step5Resume (line : Line) (text : Text) : Option Nat :=
  let r : Nat := match line.resume with
    | some i => if i ≠ 0 then i else line.length
    | none => line.length
  if r ≥ text.length then none else some r

/-- `can_break` of step 5. -/
def canBreakWord (st : Style) (isLineStart minimum : Bool) : Bool :=
  st.wb == .breakAll || (isLineStart && (st.ow == .anywhere || (st.ow == .breakWord && !minimum)))

/-- Step 5 (`word-break: break-all` / `overflow-wrap`), then the final `first_line_metrics`. -/
def step5 (st : Style) (text : Text) (maxW : MaxW) (isLineStart minimum : Bool)
    (lay : Layout) (line : Line) (ri : Option Nat) : Res :=
  let collapse := st.ws.spaceCollapse
  match maxW with
  | .fin W =>
    if W - line.width < 0 ∧ canBreakWord st isLineStart minimum = true then
      let lay' := step5Layout lay text W
      let line' := firstLine st.fs lay'
      firstLineMetrics st.fs line' text lay' (step5Resume line' text) collapse
    else firstLineMetrics st.fs line text lay ri collapse
  | _ => firstLineMetrics st.fs line text lay ri collapse

/-- Step 3, after `next_word` is known to be non-empty and white space collapses: the character
`second_line_text[break_point or -1]` decides whether the next word is tried on the first line. -/
def step3Try (st : Style) (d : Draft) (maxW : MaxW) (isLineStart minimum : Bool)
    (flt nextWord : Text) (c : Char) : Res :=
  let collapse := st.ws.spaceCollapse
  let text := d.text
  if c = ' ' then
    let new := flt ++ nextWord
    let lay := d.lay.setText new
    let line := firstLine st.fs lay
    match line.resume with
    | none =>
      if flt ≠ [] then
        -- the next word fits in the first line, keep the layout
        firstLineMetrics st.fs line text lay (some (new.length + 1)) collapse
      else
        let r := line.length + 1
        step5 st text maxW isLineStart minimum lay line (if r ≥ text.length then none else some r)
    | some r => step5 st text maxW isLineStart minimum lay line (some r)
  else step5 st text maxW isLineStart minimum d.lay d.line d.line.resume

/-- `first_line_text`, `second_line_text` of step 3. -/
def step3Texts (d : Draft) (maxW : MaxW) : Text × Text :=
  if maxW.ge d.line.width then (sliceToNat d.text d.line.resume, sliceFromNat d.text d.line.resume)
  else (([] : Text), d.text)

/-- `break_point` of step 3 (relative twice to the first line, as in the source). -/
def step3BreakPoint (d : Draft) (flt : Text) : Except PyErr (Option Int) :=
  if flt = d.short then .ok none
  else (nextBreakPoint d.lay.text (flt.length + 1) d.short.length).map
    (fun b => b.map (fun k => (k : Int) - ((flt.length : Int) + 1)))

/-- Step 3 (try to put the first word of the second line on the first line), then step 5. -/
def step3 (st : Style) (d : Draft) (maxW : MaxW) (isLineStart minimum : Bool) : Except PyErr Res :=
  let collapse := st.ws.spaceCollapse
  let text := d.text
  let flt := (step3Texts d maxW).1
  let slt := (step3Texts d maxW).2
  (step3BreakPoint d flt).bind fun bp =>
    let nextWord := rstripSp (sliceTo slt bp)
    if nextWord ≠ [] then
      if collapse then
        (get slt (orInt bp (-1)) "second_line_text").map
          (step3Try st d maxW isLineStart minimum flt nextWord)
      else .ok (step5 st text maxW isLineStart minimum d.lay d.line d.line.resume)
    else if flt ≠ [] then
      .ok (firstLineMetrics st.fs d.line text d.lay d.line.resume collapse)
    else
      .ok (step5 st text maxW isLineStart minimum d.lay d.line d.line.resume)

/-- Steps 2–5 on the draft of step 1. -/
def finish (st : Style) (d : Draft) (maxW : MaxW) (isLineStart minimum : Bool) : Except PyErr Res :=
  let collapse := st.ws.spaceCollapse
  -- Step 2
  if maxW = .none then
    .ok (firstLineMetrics st.fs d.line d.text d.lay d.line.resume collapse)
  else if d.line.resume = none ∧ maxW.ge d.line.width then
    .ok (firstLineMetrics st.fs d.line d.text d.lay d.line.resume collapse)
  else step3 st d maxW isLineStart minimum

/-- `split_first_line(text, style, context, max_width, justification_spacing, is_line_start, minimum)`
with (`heur = true`) or without its prefix heuristic. -/
def splitFirstLineH (heur : Bool) (st : Style) (text : Text) (maxWidth : MaxW)
    (isLineStart minimum : Bool) : Except PyErr Res :=
  let maxW := if st.ws.textWrap then maxWidth else .none
  let d : Except PyErr Draft :=
    match maxW with
    | .fin W => if st.fs ≠ 0 then step1 heur st text W else .ok (draftFull st text maxWidth)
    | _ => .ok (draftFull st text maxWidth)
  d.bind fun d => finish st d maxW isLineStart minimum

def splitFirstLine := splitFirstLineH true

/-! ### split_text_box -/

/-- what `split_text_box` keeps of the new box: its text and width -/
structure Child where
  text : Text
  width : Rat
  deriving Repr, BEq

structure TextSplit where
  child : Option Child
  resume : Option Nat
  preserved : Bool
  deriving Repr

/-- `between in line_breaks`: exactly one of the preserved line-break characters. -/
def isLineBreakText (between : Text) : Bool :=
  match between with
  | [c] => Gen.LineBreak.lineBreakChars.contains c.toNat
  | _ => false

/-- `split_text_box(context, box, available_width, skip, is_line_start)`. -/
def splitTextBox (st : Style) (text : Text) (avail : MaxW) (skip : Nat) (isLineStart : Bool) :
    Except PyErr TextSplit :=
  let t := text.drop skip
  if st.fs = 0 ∨ t = [] then
    .ok { child := none, resume := none, preserved := false }
  else
    (splitFirstLine st t avail isLineStart false).bind fun r =>
      if r.resume = some 0 then .error (.assertFailed "resume_index != 0") else
      let child := if r.length > 0 then some { text := r.text, width := r.width : Child } else none
      match r.resume with
      | none => .ok { child := child, resume := none, preserved := false }
      | some ri =>
        let between := (t.take ri).drop r.length
        let preserved := decide (r.length ≠ ri) && (between.any (· != ' '))
        if preserved && !isLineBreakText between then
          .error (.assertFailed "between in line_breaks")
        else .ok { child := child, resume := some (ri + skip), preserved := preserved }

/-! ### text_align / justify_line -/

inductive Align | left | right | center | justify | start | «end»
  deriving DecidableEq, Repr, Inhabited

def Align.css : Align → String
  | .left => "left" | .right => "right" | .center => "center" | .justify => "justify"
  | .start => "start" | .«end» => "end"

def Align.all : List Align := [.left, .right, .center, .justify, .start, .«end»]
def Align.ofCss? (s : String) : Option Align := Align.all.find? (fun w => w.css == s)

/-- inline-level boxes as `add_word_spacing` / `count_expandable_spaces` see them -/
inductive IBox where
  /-- `TextBox`: `position_x`, `width`, number of U+0020 / U+00A0 in its text -/
  | text (x w : Rat) (spaces : Nat)
  /-- `InlineBox` / `LineBox`: `position_x`, `width`, `direction == 'rtl'`, children -/
  | inl (x w : Rat) (rtl : Bool) (kids : List IBox)
  /-- any other box (atomic inline-level box — inline-block, inline table / flex / grid, replaced — or
  out-of-flow box): `position_x`, `is_in_normal_flow()`, and its own descendants when it is a
  `ParentBox` (their spaces are not the line's: the box is only translated) -/
  | atom (x : Rat) (inFlow : Bool) (kids : List IBox)
  deriving Repr, Inhabited

mutual
/-- `count_expandable_spaces(box)`: text boxes, and recursively `LineBox` / `InlineBox` only -/
def countSpaces : IBox → Nat
  | .text _ _ s => s
  | .inl _ _ _ kids => countSpacesL kids
  | .atom _ _ _ => 0
def countSpacesL : List IBox → Nat
  | [] => 0
  | b :: bs => countSpaces b + countSpacesL bs
end

def IBox.inFlow : IBox → Bool
  | .atom _ f _ => f
  | _ => true

mutual
/-- `box.translate(dx)`: the box and all its descendants -/
def IBox.translate (dx : Rat) : IBox → IBox
  | .text x w s => .text (x + dx) w s
  | .inl x w rtl kids => .inl (x + dx) w rtl (IBox.translateL dx kids)
  | .atom x f kids => .atom (x + dx) f (IBox.translateL dx kids)
def IBox.translateL (dx : Rat) : List IBox → List IBox
  | [] => []
  | b :: bs => b.translate dx :: IBox.translateL dx bs
end

mutual
/-- `add_word_spacing(context, box, justification_spacing, x_advance)` → (box, x_advance). -/
def addWordSpacing (js : Rat) : IBox → Rat → IBox × Rat
  | .text x w s, adv =>
    if s > 0 then (.text (x + adv) (w + js * s) s, adv + js * s) else (.text (x + adv) w s, adv)
  | .inl x w rtl kids, adv =>
    let (kids', adv') := if rtl then addWordSpacingR js kids adv else addWordSpacingL js kids adv
    (.inl (x + adv) (w + (adv' - adv)) rtl kids', adv')
  -- atomic inline-level box: `box.translate(x_advance, 0)`
  | .atom x f kids, adv => (.atom (x + adv) f (IBox.translateL adv kids), adv)
/-- the `for child in children` loop, first child first (`direction: ltr`) -/
def addWordSpacingL (js : Rat) : List IBox → Rat → List IBox × Rat
  | [], adv => ([], adv)
  | b :: bs, adv =>
    if b.inFlow then
      let (b', a) := addWordSpacing js b adv
      let (bs', a') := addWordSpacingL js bs a
      (b' :: bs', a')
    else
      let (bs', a') := addWordSpacingL js bs adv
      (b :: bs', a')
/-- the same loop over `children[::-1]` (`direction: rtl`): last child first -/
def addWordSpacingR (js : Rat) : List IBox → Rat → List IBox × Rat
  | [], adv => ([], adv)
  | b :: bs, adv =>
    let (bs', a) := addWordSpacingR js bs adv
    if b.inFlow then
      let (b', a') := addWordSpacing js b a
      (b' :: bs', a')
    else (b :: bs', a)
end

/-- `justify_line(context, line, extra_width)` -/
def justifyLine (line : IBox) (extra : Rat) : IBox :=
  let nb := countSpaces line
  if nb ≠ 0 then (addWordSpacing (extra / nb) line 0).1 else line

/-- the part of the line box's style read by `text_align` -/
structure AlignStyle where
  alignAll : Align
  /-- `text_align_last`; `none` = `auto` -/
  alignLast : Option Align
  ws : WS
  rtl : Bool
  deriving Repr

/-- `text_align`: `align` after `text-align-last` and after mapping `left` / `right` through `direction`. -/
def resolveAlign (s : AlignStyle) (last : Bool) : Align :=
  let align := if last then (match s.alignLast with | none => s.alignAll | some a => a) else s.alignAll
  if Gen.LineBreak.physicalAlignValues.contains align.css then
    (if (align == .left) != s.rtl then Align.start else Align.«end»)
  else align

/-- `text_align(context, line, available_width, last)` → (offset, line after justification). -/
def textAlign (s : AlignStyle) (line : IBox) (lineWidth avail : Rat) (last : Bool) :
    Except PyErr (Rat × IBox) :=
  if lineWidth ≥ avail then .ok (0, line) else
  let offset := avail - lineWidth
  match resolveAlign s last with
  | .start => .ok (0, line)
  | .justify => .ok (0, if s.ws.alignCollapse then justifyLine line offset else line)
  | .center => .ok (offset / 2, line)
  | .«end» => .ok (offset, line)
  | _ => .error (.assertFailed "align == 'end'")

/-! ### iter_line_boxes for one text box, no float -/

structure Para where
  st : Style
  text : Text
  /-- used `line-height` (`strut_layout`), in px -/
  lineHeight : Rat
  /-- content-box x and width of the containing block -/
  cbx : Rat
  width : Rat
  /-- resolved `text-indent` -/
  indent : Rat
  align : AlignStyle
  /-- starting `position_y` -/
  y : Rat
  deriving Repr

structure OutLine where
  x : Rat
  y : Rat
  w : Rat
  h : Rat
  /-- the text box: text, `position_x`, `width` -/
  child : Option (Text × Rat × Rat)
  /-- `resume_at` of the line (offset in the text box) -/
  resume : Option Nat
  deriving Repr

/-- `skip_first_whitespace` on the text box: the offset after removable leading spaces; `none` =
`'continue'` (nothing left). -/
def skipFirstWhitespace (ws : WS) (text : Text) (index : Nat) : Option Nat :=
  if index = text.length then none
  else if ws.skipFirst then some (index + ((text.drop index).takeWhile (· == ' ')).length)
  else some index

/-- `remove_last_whitespace` on a line whose last box is the text box: new (text, width) and the
removed width. -/
def removeLastWhitespace (st : Style) (c : Child) : Except PyErr (Child × Rat) :=
  if !st.ws.removeLast then .ok (c, 0) else
  let newText := rstripSp c.text
  if newText ≠ [] then
    if newText.length = c.text.length then .ok (c, 0)
    else
      (splitTextBox st newText .none 0 true).bind fun s =>
        match s.child, s.resume with
        | some nc, none => .ok ({ text := newText, width := nc.width }, c.width - nc.width)
        | none, _ => .error (.assertFailed "new_box is not None")
        | _, some _ => .error (.assertFailed "resume is None")
  else .ok ({ text := [], width := 0 }, c.width)

/-- `get_next_linebox` when the text box gives no new box: a phantom line box (height 0) unless a
preserved line break ends the line (an empty line of one line-height, aligned like a last line). -/
def emptyLine (p : Para) (lineX y : Rat) (s : TextSplit) : Except PyErr OutLine :=
  if !s.preserved then
    .ok { x := lineX, y := y, w := 0, h := 0, child := none, resume := s.resume }
  else
    (textAlign p.align (.inl lineX 0 p.align.rtl []) 0 p.width true).map fun r =>
      let off := if p.align.rtl then -r.1 - 0 else r.1
      { x := lineX + off, y := y, w := 0, h := p.lineHeight, child := none, resume := s.resume }

/-- `get_next_linebox` for a line holding the new text box `c` placed at `posX`:
`remove_last_whitespace`, `text_align`, vertical placement, translation. -/
def textLine (p : Para) (lineX posX y : Rat) (s : TextSplit) (c : Child) : Except PyErr OutLine :=
  let rtl := p.align.rtl
  (removeLastWhitespace p.st c).bind fun cr =>
    let c' := cr.1
    let removed := cr.2
    -- RTL line: the trailing space is at the left of the box
    let childX := if rtl then posX - removed else posX
    let lineW := posX + c.width - lineX - removed
    let last := s.resume.isNone || s.preserved
    let tree := IBox.inl lineX lineW rtl [IBox.text childX c'.width (count c'.text ' ')]
    (textAlign p.align tree lineW p.width last).bind fun r =>
      match r.2 with
      | .inl lx lw _ [.text cx cw _] =>
        -- `offset_x -= line.width` reads the width after justification
        let off := if rtl then -r.1 - lw else r.1
        .ok { x := lx + off, y := y, w := lw, h := p.lineHeight,
              child := some (c'.text, cx + off, cw), resume := s.resume }
      | _ => .error (.assertFailed "line tree")

/-- One `get_next_linebox` (ltr or rtl block, no float): the line and `resume_at`; `none` = no line. -/
def nextLine (p : Para) (skip : Option Nat) (y : Rat) (first : Bool) : Except PyErr (Option OutLine) :=
  match skipFirstWhitespace p.st.ws p.text (skip.getD 0) with
  | none => .ok none
  | some index =>
    let indent := if first then p.indent else 0
    -- avoid_collisions: the cursor is at the left (ltr) or right (rtl) bound
    let lineX := if p.align.rtl then p.cbx + p.width else p.cbx
    let maxX := (lineX + p.width) * Gen.LineBreak.fudge
    let posX := lineX + indent
    (splitTextBox p.st p.text (.fin (maxX - posX)) index true).bind fun s =>
      (match s.child with
       | none => emptyLine p lineX y s
       | some c => textLine p lineX posX y s c).map some

/-- `iter_line_boxes`: all the lines.  `fuel` bounds the loop; `none` = out of fuel, which never
happens from `text.length + 2` on (`Props/C09.iter_lines_terminates`: every `resume_at` is strictly larger
than the previous one). -/
def iterLines (p : Para) : Nat → Option Nat → Rat → Bool → Option (Except PyErr (List OutLine))
  | 0, _, _, _ => none
  | fuel + 1, skip, y, first =>
    match nextLine p skip y first with
    | .error e => some (.error e)
    | .ok none => some (.ok [])
    | .ok (some line) =>
      match line.resume with
      | none => some (.ok [line])
      | some r => (iterLines p fuel (some r) (line.y + line.h) false).map (·.map (line :: ·))

def paragraph (p : Para) : Except PyErr (List OutLine) :=
  match iterLines p (p.text.length + 2) none p.y true with
  | some r => r
  | none => .error (.recursion "iter_line_boxes")

end Wp.LB
