/-
Table width algorithms of `weasyprint/layout/table.py`, mirrored branch for branch:

* `fixedLayout`        ↔ `fixed_table_layout`   (with the part of `percent.resolve_percentages` it uses)
* `distributeExcess`   ↔ `distribute_excess_width` (six groups, optional column slice)
* `autoLayout`         ↔ `auto_table_layout`, *given* the tuple returned by
                          `preferred.table_and_columns_preferred_widths` (an input of this file, modelled in
                          `Model/TablePreferred`)
* `colPositions`, `cellGeom`, `finalColumns` ↔ the column-position loop, the per-cell placement
                          (`spanned_widths`, `cell.position_x`, `cell.width`) and the final rtl
                          reversal of `table_layout`.

Lengths are `Rat`, `'auto'` is `none`.  Python failure points are explicit (`Except PyErr`).
No Mathlib: linked into `driver_c10`.
-/
import WpModel.Model.Wire

namespace Wp.Table
open Wp

/-- `sum(...)` of rationals (Python folds from the left starting at 0; over ℚ the value is the same). -/
def sumR : List Rat → Rat
  | [] => 0
  | x :: xs => x + sumR xs

/-- A computed `width`: `'auto'`, `Dimension(v, 'px')`, `Dimension(v, '%')`. -/
inductive Dim where
  | auto
  | px (v : Rat)
  | pct (v : Rat)
  deriving Repr, DecidableEq

/-- `percent.percentage(value, refer_to)`. -/
def Dim.used (d : Dim) (referTo : Rat) : Len :=
  match d with
  | .auto => none
  | .px v => some v
  | .pct v => some (referTo * v / 100)

inductive BoxSizing where
  | content | padding | border
  deriving Repr, DecidableEq

/-- A cell of the first row, as `fixed_table_layout` reads it. -/
structure FCell where
  colspan : Nat
  width : Dim
  padL : Rat
  padR : Rat
  borL : Rat
  borR : Rat
  sizing : BoxSizing
  deriving Repr

/-- `resolve_percentages(cell, table)` followed by `cell.border_width()` when `cell.width != 'auto'`:
`adjust_box_sizing` shrinks the content width by `delta` (never below 0) when `delta > 0`. -/
def FCell.borderWidth (c : FCell) (tableW : Rat) : Option Rat :=
  match c.width.used tableW with
  | none => none
  | some w =>
    let delta := match c.sizing with
      | .border => c.padL + c.padR + c.borL + c.borR
      | .padding => c.padL + c.padR
      | .content => 0
    let w' := if delta > 0 then max 0 (w - delta) else w
    some (w' + c.padL + c.padR + c.borL + c.borR)

/-- `border_spacing_x` as both layouts read it. -/
def effSpacing (collapse : Bool) (spacing : Rat) : Rat := if collapse then 0 else spacing

/-! ### `fixed_table_layout` -/

/-- Widths known so far among the columns `[i, i+k)`. -/
def spanKnown (cw : List (Option Rat)) (i k : Nat) : Rat :=
  sumR (((cw.drop i).take k).filterMap id)

/-- Number of columns of `[i, i+k)` without width (`columns_without_width`). -/
def spanUnknown (cw : List (Option Rat)) (i k : Nat) : Nat :=
  (((cw.drop i).take k).filter Option.isNone).length

/-- `for j in columns_without_width: column_widths[j] = v` for the span `[i, i+k)`. -/
def fillSpan (cw : List (Option Rat)) (i k : Nat) (v : Rat) : List (Option Rat) :=
  cw.mapIdx (fun j o => if i ≤ j ∧ j < i + k then (match o with | some w => some w | none => some v) else o)

/-- The width a first-row cell leaves to its columns without width:
`cell.border_width() - border_spacing_x * (colspan - 1) - Σ known`. -/
def cellShare (s : Rat) (cw : List (Option Rat)) (i : Nat) (colspan : Nat) (bw : Rat) : Rat :=
  bw - s * ((colspan : Rat) - 1) - spanKnown cw i colspan

/-- One iteration of the loop over `first_row_cells` (state: widths so far, column index `i`).
`width_per_column = max(width, 0) / len(columns_without_width)`: a cell narrower than the spacings
and the known columns it spans gives its other columns 0, never a negative width (fix 5d962d2). -/
def cellStep (s tableW : Rat) (st : List (Option Rat) × Nat) (c : FCell) : List (Option Rat) × Nat :=
  let cw := st.1
  let i := st.2
  let cw' := match c.borderWidth tableW with
    | none => cw
    | some bw =>
      let m := spanUnknown cw i c.colspan
      if m = 0 then cw else fillSpan cw i c.colspan (max (cellShare s cw i c.colspan bw) 0 / (m : Rat))
  (cw', i + c.colspan)

def numColumns (cols : List Dim) (cells : List FCell) : Nat :=
  max cols.length (cells.map (·.colspan)).sum

/-- `column_widths` after the `<col>` pass and the first-row pass (`None` = not known yet). -/
def fixedAfterCells (tableW s : Rat) (cols : List Dim) (cells : List FCell) : List (Option Rat) :=
  let n := numColumns cols cells
  let cw0 := cols.map (·.used tableW) ++ List.replicate (n - cols.length) none
  (cells.foldl (cellStep s tableW) (cw0, 0)).1

/-- Does this first-row cell take the clamp `max(width, 0)` (its declared width is smaller than the
spacings and known columns it spans)?  Evidence tag; in the real code with `Fraction` inputs this
branch yields the float `0.0` (`int / int`). -/
def cellClamps (s tableW : Rat) (st : List (Option Rat) × Nat) (c : FCell) : Bool :=
  match c.borderWidth tableW with
  | none => false
  | some bw => decide (spanUnknown st.1 st.2 c.colspan ≠ 0) && decide (cellShare s st.1 st.2 c.colspan bw < 0)

/-- Some first-row cell takes the clamp branch. -/
def fixedClamped (tableW s : Rat) (cols : List Dim) (cells : List FCell) : Bool :=
  let n := numColumns cols cells
  let cw0 := cols.map (·.used tableW) ++ List.replicate (n - cols.length) none
  (cells.foldl (fun (acc : (List (Option Rat) × Nat) × Bool) c =>
    (cellStep s tableW acc.1 c, acc.2 || cellClamps s tableW acc.1 c)) ((cw0, 0), false)).2

/-- What the remaining columns get: the remainder shared equally, or 0 for a "broken table". -/
def fixedFill (tableW abs : Rat) (cw1 : List (Option Rat)) : Rat :=
  let minW := sumR (cw1.filterMap id) + abs
  let u := (cw1.filter Option.isNone).length
  if u ≠ 0 ∧ tableW ≥ minW then (tableW - minW) / (u : Rat) else 0

def fillNone (fill : Rat) (cw1 : List (Option Rat)) : List Rat :=
  cw1.map (fun o => match o with | some w => w | none => fill)

structure FixedOut where
  width : Rat
  cols : List Rat
  deriving Repr, DecidableEq

/-- `all_border_spacing = border_spacing_x * (num_columns + 1)`. -/
def allSpacing (s : Rat) (cols : List Dim) (cells : List FCell) : Rat :=
  s * ((numColumns cols cells : Rat) + 1)

/-- `column_widths` once every column has a width (before the final widening). -/
def fixedFilled (W s : Rat) (cols : List Dim) (cells : List FCell) : List Rat :=
  let cw1 := fixedAfterCells W s cols cells
  fillNone (fixedFill W (allSpacing s cols cells) cw1) cw1

/-- `extra_width = table.width - sum(column_widths) - all_border_spacing`. -/
def fixedExtra (W s : Rat) (cols : List Dim) (cells : List FCell) : Rat :=
  W - sumR (fixedFilled W s cols cells) - allSpacing s cols cells

/-- What the last step adds to every column. -/
def fixedBump (W s : Rat) (cols : List Dim) (cells : List FCell) : Rat :=
  if fixedExtra W s cols cells ≤ 0 then 0
  else if numColumns cols cells ≠ 0 then fixedExtra W s cols cells / (numColumns cols cells : Rat)
  else 0

/-- `fixed_table_layout`: `tableW` is `table.width` (`'auto'` trips the `assert`), `s` the effective
border spacing, `cols` the computed widths of all `<col>`s, `cells` the first row. -/
def fixedLayout (tableW : Len) (s : Rat) (cols : List Dim) (cells : List FCell) : Except PyErr FixedOut :=
  match tableW with
  | none => .error (.assertFailed "fixed_table_layout")
  | some W =>
    let n := numColumns cols cells
    let cw2 := fixedFilled W s cols cells
    let extra := fixedExtra W s cols cells
    if extra ≤ 0 then .ok ⟨W - extra, cw2⟩            -- "Substract a negative: widen the table."
    else if n ≠ 0 then .ok ⟨W, cw2.map (· + extra / (n : Rat))⟩
    else .ok ⟨W, cw2⟩

/-- The PEP 485 tolerance of the guess selection, modelled literally as a rational. -/
def eps : Rat := 1 / 1000000000

/-! ### `distribute_excess_width` -/

/-- One column as the auto layout sees it: min/max-content width, intrinsic percentage,
constrainedness, and the truthiness of the grid column object (`if column` in the fifth group). -/
structure ACol where
  minW : Rat
  maxW : Rat
  pct : Rat
  constrained : Bool
  truthy : Bool
  deriving Repr

abbrev Sel := Nat → ACol → Bool

def selCount (sel : Sel) : Nat → List ACol → Nat
  | _, [] => 0
  | i, c :: cs => (if sel i c then 1 else 0) + selCount sel (i + 1) cs

def selSum (sel : Sel) (f : ACol → Rat) : Nat → List ACol → Rat
  | _, [] => 0
  | i, c :: cs => (if sel i c then f c else 0) + selSum sel f (i + 1) cs

/-- `for i in columns: column_widths[i] += amount(i)`. -/
def addSel (sel : Sel) (f : ACol → Rat) : Nat → List ACol → List Rat → List Rat
  | _, [], ws => ws
  | _, _ :: _, [] => []
  | i, c :: cs, w :: ws => (if sel i c then w + f c else w) :: addSel sel f (i + 1) cs ws

/-- `i` is an index of `grid[column_slice]` (`slice(start, stop)`, `stop = None` ↦ `none`). -/
def inSlice (start : Nat) (stop : Option Nat) (i : Nat) : Bool :=
  decide (start ≤ i) && (match stop with | none => true | some e => decide (i < e))

def group1 (start : Nat) (stop : Option Nat) : Sel := fun i c =>
  inSlice start stop i && !c.constrained && decide (c.pct = 0) && decide (c.maxW > 0)
def group2 (start : Nat) (stop : Option Nat) : Sel := fun i c =>
  inSlice start stop i && !c.constrained && decide (c.pct = 0)
def group3 (start : Nat) (stop : Option Nat) : Sel := fun i c =>
  inSlice start stop i && c.constrained && decide (c.pct = 0) && decide (c.maxW > 0)
def group4 (start : Nat) (stop : Option Nat) : Sel := fun i c =>
  inSlice start stop i && decide (c.pct > 0) && decide (c.maxW > 0)
def group5 (start : Nat) (stop : Option Nat) : Sel := fun i c =>
  inSlice start stop i && c.truthy
def group6 (start : Nat) (stop : Option Nat) : Sel := fun i _ =>
  inSlice start stop i

/-- Proportional share: `ratio = excess / Σ f`, `column_widths[i] += f(i) * ratio`. -/
def shareProp (sel : Sel) (f : ACol → Rat) (excess : Rat) (cols : List ACol) (cw : List Rat)
    (site : String) : Except PyErr (List Rat) :=
  let total := selSum sel f 0 cols
  if total = 0 then .error (.zeroDivision site)
  else .ok (addSel sel (fun c => f c * (excess / total)) 0 cols cw)

/-- Equal share: `column_widths[i] += excess / len(columns)`. -/
def shareEqual (sel : Sel) (excess : Rat) (cols : List ACol) (cw : List Rat)
    (site : String) : Except PyErr (List Rat) :=
  let k := selCount sel 0 cols
  if k = 0 then .error (.zeroDivision site)
  else .ok (addSel sel (fun _ => excess / (k : Rat)) 0 cols cw)

/-- `distribute_excess_width(context, grid, excess, column_widths, constrainedness,
column_intrinsic_percentages, column_max_content_widths, slice(start, stop))`.
All per-column lists have the length of `grid` (`cols`); `cw` is `column_widths`. -/
def distributeExcess (cols : List ACol) (excess : Rat) (cw : List Rat)
    (start : Nat) (stop : Option Nat) : Except PyErr (List Rat) :=
  if selCount (group1 start stop) 0 cols ≠ 0 then
    shareProp (group1 start stop) (·.maxW) excess cols cw "group1"
  else if selCount (group2 start stop) 0 cols ≠ 0 then
    shareEqual (group2 start stop) excess cols cw "group2"
  else if selCount (group3 start stop) 0 cols ≠ 0 then
    shareProp (group3 start stop) (·.maxW) excess cols cw "group3"
  else if selCount (group4 start stop) 0 cols ≠ 0 then
    shareProp (group4 start stop) (·.pct) excess cols cw "group4"
  else if selCount (group5 start stop) 0 cols ≠ 0 then
    shareEqual (group5 start stop) excess cols cw "group5"
  else if selCount (group6 start stop) 0 cols ≠ 0 then
    -- the division is inside the loop body: never evaluated for an empty slice
    shareEqual (group6 start stop) excess cols cw "group6"
  else .ok cw

/-- Which group `distribute_excess_width` uses (0 = none: empty slice). For the evidence histogram. -/
def excessGroup (cols : List ACol) (start : Nat) (stop : Option Nat) : Nat :=
  if selCount (group1 start stop) 0 cols ≠ 0 then 1
  else if selCount (group2 start stop) 0 cols ≠ 0 then 2
  else if selCount (group3 start stop) 0 cols ≠ 0 then 3
  else if selCount (group4 start stop) 0 cols ≠ 0 then 4
  else if selCount (group5 start stop) 0 cols ≠ 0 then 5
  else if selCount (group6 start stop) 0 cols ≠ 0 then 6
  else 0

/-! ### `auto_table_layout` -/

/-- `max(a, b)` of Python (the first argument on ties: same value). -/
def pyMax (a b : Rat) : Rat := if b > a then b else a

/-- The percentage guess of a column: `max(pct / 100 * assignable, min)`. -/
def pctGuess (a : Rat) (c : ACol) : Rat := pyMax (c.pct / 100 * a) c.minW

def guess0 (cols : List ACol) : List Rat := cols.map (·.minW)
def guess1 (a : Rat) (cols : List ACol) : List Rat :=
  cols.map (fun c => if c.pct ≠ 0 then pctGuess a c else c.minW)
def guess2 (a : Rat) (cols : List ACol) : List Rat :=
  cols.map (fun c => if c.pct ≠ 0 then pctGuess a c else if c.constrained then c.maxW else c.minW)
def guess3 (a : Rat) (cols : List ACol) : List Rat :=
  cols.map (fun c => if c.pct ≠ 0 then pctGuess a c else c.maxW)

/-- `for guess in guesses: if sum(guess) <= a * (1 + 1e-9): lower = guess else: break`. -/
def pickLower (a : Rat) : List (List Rat) → List Rat → List Rat
  | [], cur => cur
  | g :: rest, cur => if sumR g ≤ a * (1 + eps) then pickLower a rest g else cur

/-- `for guess in guesses[::-1]: if sum(guess) >= a * (1 - 1e-9): upper = guess else: break`
(called on the reversed list). -/
def pickUpper (a : Rat) : List (List Rat) → List Rat → List Rat
  | [], cur => cur
  | g :: rest, cur => if sumR g ≥ a * (1 - eps) then pickUpper a rest g else cur

/-- `lower[i] + (upper[i] - lower[i]) * ratio`. -/
def interpolate (lower upper : List Rat) (ratio : Rat) : List Rat :=
  List.zipWith (fun l u => l + (u - l) * ratio) lower upper

/-- The three-way choice of `table.width`. -/
def autoTableWidth (tableW : Len) (avail tmin tmax : Rat) : Rat :=
  match tableW with
  | none =>
    if avail ≤ tmin then tmin
    else if avail < tmax then avail
    else tmax
  | some w => if w < tmin then tmin else w

structure AutoIn where
  tableW : Len          -- `table.width` after `resolve_percentages`
  tmin : Rat            -- table_min_content_width
  tmax : Rat            -- table_max_content_width
  spacing : Rat         -- total_horizontal_border_spacing
  marginL : Len         -- wrapper margins
  marginR : Len
  padL : Rat            -- table paddings and borders
  padR : Rat
  borL : Rat
  borR : Rat
  cbWidth : Rat
  cols : List ACol      -- one entry per grid column (`grid` empty ↔ `[]`)
  deriving Repr

structure AutoOut where
  width : Rat
  cols : List Rat
  branch : String       -- which branch produced `column_widths` (evidence only)
  deriving Repr, DecidableEq

def availableWidth (inp : AutoIn) : Rat :=
  let margins := (match inp.marginL with | none => 0 | some m => m) +
                 (match inp.marginR with | none => 0 | some m => m)
  inp.cbWidth - margins - (inp.padL + inp.padR) - (inp.borL + inp.borR)

/-- The column part of `auto_table_layout` (`grid` not empty): `a` is `assignable_width`. -/
def autoColumns (a : Rat) (cols : List ACol) : Except PyErr (List Rat × String) :=
  let g0 := guess0 cols
  let g1 := guess1 a cols
  let g2 := guess2 a cols
  let g3 := guess3 a cols
  if a < sumR g3 then
    let lower := pickLower a [g0, g1, g2, g3] g0
    let upper := pickUpper a [g3, g2, g1, g0] g3
    if upper = lower then .ok (upper, "guess")
    else
      -- `sum(added_widths)`, `added_widths[i] = upper[i] - lower[i]` (lists of equal length)
      let added := sumR upper - sumR lower
      if added = 0 then .error (.zeroDivision "available_ratio")
      else .ok (interpolate lower upper ((a - sumR lower) / added), "interpolate")
  else
    match distributeExcess cols (a - sumR g3) g3 0 none with
    | .error e => .error e
    | .ok cw => .ok (cw, "excess" ++ toString (excessGroup cols 0 none))

def autoLayout (inp : AutoIn) : Except PyErr AutoOut :=
  let width := autoTableWidth inp.tableW (availableWidth inp) inp.tmin inp.tmax
  match inp.cols with
  | [] => .ok ⟨width, [], "nogrid"⟩
  | _ :: _ =>
    match autoColumns (width - inp.spacing) inp.cols with
    | .error e => .error e
    | .ok (cw, branch) => .ok ⟨width, cw, branch⟩

/-! ### `table_wrapper_width` -/

/-- What `resolve_percentages(table, containing_block)` leaves in `table.width`: the computed width
resolved against the containing block, shrunk by `adjust_box_sizing`. -/
def tableUsedWidth (width : Dim) (cbWidth padL padR borL borR : Rat) (sizing : BoxSizing) : Len :=
  match width.used cbWidth with
  | none => none
  | some w =>
    let delta := match sizing with
      | .border => padL + padR + borL + borR
      | .padding => padL + padR
      | .content => 0
    some (if delta > 0 then max 0 (w - delta) else w)

/-- The dispatch of `table_wrapper_width`: the fixed algorithm runs iff `table-layout: fixed` and the
used width is not `auto`. -/
def usesFixed (layoutFixed : Bool) (usedWidth : Len) : Bool := layoutFixed && usedWidth.isSome

/-- `wrapper.width = table.border_width()` for the table width `W` left by the layout algorithm. -/
def wrapperWidth (W padL padR borL borR : Rat) : Rat := W + padL + padR + borL + borR

/-- `total_horizontal_border_spacing` of `preferred.table_and_columns_preferred_widths`: one spacing
plus one per grid column *in which a cell originates* (`any(column)`), in the separate model. -/
def totalSpacing (collapse : Bool) (s : Rat) (gridWidth nOrig : Nat) : Rat :=
  if !collapse && gridWidth > 0 then s * (1 + (nOrig : Rat)) else 0

/-- The table width that goes with laid-out column widths: fixed layout `Σ + (n+1)·s`
(`fixed_sum`), auto layout `Σ + total_horizontal_border_spacing` (`auto_sum_table`). -/
def docTableWidth (usedFixed collapse : Bool) (s : Rat) (cw : List Rat) (nOrig : Nat) : Rat :=
  sumR cw + (if usedFixed then effSpacing collapse s * ((cw.length : Rat) + 1)
             else totalSpacing collapse s cw.length nOrig)

/-- A cell of content width `w` holds a word of `k` glyphs of the fixed-pitch test font at size `fs`. -/
def wordFits (fs : Rat) (lens : List Nat) (w : Rat) : Bool :=
  lens.all (fun k => decide ((k : Rat) * fs ≤ w * (1 + eps) + eps))

/-! ### Geometry of `table_layout` -/

/-- ltr: `position_x += spacing; append(position_x); position_x += width`. -/
def colPositionsLtr (s : Rat) : Rat → List Rat → List Rat
  | _, [] => []
  | x, w :: ws => (x + s) :: colPositionsLtr s (x + s + w) ws

/-- rtl: `position_x -= spacing; position_x -= width; append(position_x)`. -/
def colPositionsRtl (s : Rat) : Rat → List Rat → List Rat
  | _, [] => []
  | x, w :: ws => (x - s - w) :: colPositionsRtl s (x - s - w) ws

structure ColGeom where
  positions : List Rat
  rowsLeftX : Rat     -- `rows_left_x`: position_x of groups, rows
  rowsWidth : Rat     -- `rows_width`
  deriving Repr, DecidableEq

/-- "Define column positions" of `table_layout`: `x` = `table.content_box_x()`, `W` = `table.width`. -/
def colPositions (ltr : Bool) (x W s : Rat) (cw : List Rat) : ColGeom :=
  if ltr then
    let ps := colPositionsLtr s x cw
    -- final position_x = x + Σ (s + w); rows_x = x + s
    ⟨ps, x + s, (x + sumR (cw.map (s + ·))) - (x + s)⟩
  else
    let ps := colPositionsRtl s (x + W) cw
    -- rows_x = x + W - s; final position_x = x + W - Σ (s + w)
    ⟨ps, x + s, (x + W - s) - (x + W - sumR (cw.map (s + ·)))⟩

structure CellGeom where
  x : Rat             -- `cell.position_x` (border box, margins are 0)
  borderWidth : Rat   -- `cell.width + borders_plus_padding`
  colspan : Nat       -- the clipped colspan
  deriving Repr, DecidableEq

/-- Placement of one cell: `spanned_widths = column_widths[grid_x:][:colspan]`; a cell entirely
beyond the grid is dropped (`none`). -/
def cellGeom (ltr : Bool) (pos cw : List Rat) (s : Rat) (gridX colspan : Nat) :
    Except PyErr (Option CellGeom) :=
  let spanned := (cw.drop gridX).take colspan
  let k := spanned.length
  if k = 0 then .ok none
  else
    let idx := if ltr then gridX else gridX + k - 1
    match pos[idx]? with
    | none => .error (.indexError "column_positions")
    | some x => .ok (some ⟨x, sumR spanned + s * ((k : Rat) - 1), k⟩)

/-- "Invert columns for drawing": what `table.column_widths` / `column_positions` hold after layout. -/
def finalColumns (ltr : Bool) (l : List Rat) : List Rat := if ltr then l else l.reverse

end Wp.Table
