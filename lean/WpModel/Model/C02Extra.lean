/-
C02 (totality), parts outside the pagination model — three small models with their Python failure
points explicit.  No Mathlib: linked into `driver_c02`.

1. `inline_block_baseline` (weasyprint/layout/inline.py) with `find_in_flow_baseline`
   (weasyprint/layout/table.py):

     def inline_block_baseline(box):
         if box.is_table_wrapper:
             for child in box.children:
                 if isinstance(child, boxes.TableBox):
                     if child.children and child.children[0].children:      -- guard
                         first_row = child.children[0].children[0]          -- two indexings
                         return first_row.baseline
         elif box.style['overflow'] == 'visible':
             result = find_in_flow_baseline(box, last=True)
             if result:                                                     -- truthiness: 0 is false
                 return result
         return box.position_y + box.margin_height()

     def find_in_flow_baseline(box, last=False, baseline_types=(boxes.LineBox,)):
         if isinstance(box, baseline_types): return box.position_y + box.baseline
         elif isinstance(box, boxes.TableCaptionBox): return
         children = reversed(box.children) if last else box.children
         for child in children:
             if child.is_in_normal_flow():
                 result = find_in_flow_baseline(child, last, baseline_types)
                 if result is not None: return result

   `IBox` = (class of the box among LineBox / TableCaptionBox / TableBox / anything else,
   `is_in_normal_flow()`, `position_y`, `baseline`, children).  The two indexings are `idx0`
   (IndexError on an empty sequence), so "the guard protects the indexings" is a theorem
   (`Props/C02Extra.inlineBlockBaseline_total`), not a property of the notation.

2. the size asked of Pillow's `thumbnail()` by `RasterImage.get_x_object` (weasyprint/images.py) when the
   `dpi` option downsamples an image:  `width = max(1, round(self.width * dpi_ratio))`,
   `height = max(1, round(self.height * dpi_ratio))` — Python `round` = half to even.  Pillow divides by
   both numbers: they must be >= 1 (`Props/C02Extra.thumbSize_pos`).

3. the growth checker of the section `nesting-growth`: the cost (number of Python function calls, a
   deterministic count) of rendering the same construct nested `d`, `3d/2`, `2d` deep.
-/
import WpModel.Model.Wire

namespace Wp.C02x
open Wp

/-! ### 1. inline_block_baseline -/

inductive Kind where
  | line | caption | table | other
  deriving Repr, DecidableEq, Inhabited

inductive IBox where
  | mk (kind : Kind) (inFlow : Bool) (posY baseline : Rat) (kids : List IBox)
  deriving Repr, Inhabited

def IBox.kids : IBox → List IBox
  | .mk _ _ _ _ ks => ks

def IBox.baseline : IBox → Rat
  | .mk _ _ _ b _ => b

def IBox.kind : IBox → Kind
  | .mk k _ _ _ _ => k

mutual
/-- `find_in_flow_baseline(box, last)`; `none` is Python's `None`. -/
def findBaseline (last : Bool) : IBox → Option Rat
  | .mk kind _ y b kids =>
    match kind with
    | .line => some (y + b)
    | .caption => none
    | _ => if last then findLastKid last kids else findFirstKid last kids
/-- `for child in box.children: if child.is_in_normal_flow(): …; if result is not None: return result` -/
def findFirstKid (last : Bool) : List IBox → Option Rat
  | [] => none
  | .mk kind fl y b kids :: rest =>
    match (if fl then findBaseline last (.mk kind fl y b kids) else none) with
    | some r => some r
    | none => findFirstKid last rest
/-- the same loop over `reversed(box.children)` -/
def findLastKid (last : Bool) : List IBox → Option Rat
  | [] => none
  | .mk kind fl y b kids :: rest =>
    match findLastKid last rest with
    | some r => some r
    | none => if fl then findBaseline last (.mk kind fl y b kids) else none
end

/-- `seq[0]`. -/
def idx0 {α : Type} (site : String) : List α → Except PyErr α
  | [] => .error (.indexError site)
  | x :: _ => .ok x

/-- The `for child in box.children` loop of the table-wrapper branch: `some baseline` when it returns
from inside the loop, `none` when the loop ends. -/
def tableBaseline : List IBox → Except PyErr (Option Rat)
  | [] => .ok none
  | child :: rest =>
    if child.kind = .table then
      -- `if child.children and child.children[0].children:`
      if (!child.kids.isEmpty && !(match child.kids with | [] => true | g :: _ => g.kids.isEmpty)) then do
        let group ← idx0 "inline.py:inline_block_baseline" child.kids
        let row ← idx0 "inline.py:inline_block_baseline" group.kids
        pure (some row.baseline)
      else tableBaseline rest
    else tableBaseline rest

/-- What `inline_block_baseline` reads of the inline-block itself. -/
structure IBlock where
  wrapper : Bool            -- box.is_table_wrapper
  overflowVisible : Bool    -- box.style['overflow'] == 'visible'
  posY : Rat
  marginHeight : Rat
  kids : List IBox
  deriving Repr, Inhabited

def inlineBlockBaseline (b : IBlock) : Except PyErr Rat :=
  if b.wrapper then
    match tableBaseline b.kids with
    | .error e => .error e
    | .ok (some r) => .ok r
    | .ok none => .ok (b.posY + b.marginHeight)
  else if b.overflowVisible then
    match findLastKid true b.kids with
    | some r => if r ≠ 0 then .ok r else .ok (b.posY + b.marginHeight)
    | none => .ok (b.posY + b.marginHeight)
  else .ok (b.posY + b.marginHeight)

/-! ### 2. thumbnail size -/

/-- Python `round(x)` on an exact number: half to even. -/
def roundHalfEven (q : Rat) : Int :=
  let f := q.floor
  let r := q - (f : Rat)
  if r < 1 / 2 then f
  else if r > 1 / 2 then f + 1
  else if f % 2 = 0 then f else f + 1

/-- `(max(1, round(self.width * dpi_ratio)), max(1, round(self.height * dpi_ratio)))`. -/
def thumbSize (w h : Nat) (ratio : Rat) : Int × Int :=
  (max 1 (roundHalfEven ((w : Rat) * ratio)), max 1 (roundHalfEven ((h : Rat) * ratio)))

/-! ### 3. growth checker -/

/-- Costs `c1 c2 c3` of one construct at nesting depths `d`, `3d/2`, `2d`.  Accepted when each step
multiplies the cost by at most 4: every cost `a + b·depth^k` with `k ≤ 3` is accepted
(`(3/2)^3 < 4`, `(4/3)^3 < 4`), a cost that doubles with every level (`d ≥ 6`: ×8 or more per step,
×64 over both) is not. -/
def growthOk (c1 c2 c3 : Nat) : Bool :=
  decide (c2 ≤ 4 * c1) && decide (c3 ≤ 4 * c2)

end Wp.C02x
