/-
Kind-trees and the anonymous-box rewriters of weasyprint/formatting_structure/build.py:
`process_whitespace` (tree part), `process_text_transform`,
`anonymous_table_boxes` / `table_boxes_children` / `wrap_improper` / `wrap_table`,
`flex_boxes` / `flex_children`, `grid_boxes` / `grid_children`, `inline_in_block`,
`block_in_inline` / `_inner_block_in_inline`, `create_anonymous_boxes`.

A `KBox` keeps of a real box exactly what these functions read or write: the class, the style
entries they test, the element attributes the constructors parse, the instance attributes they set,
the text, the children and (tables, after `wrap_table`) `column_groups`.
Class tests are `Gen.isSub kind class` (regenerated from boxes.py with `issubclass` on every run).
Python failure points are explicit (`BErr`).  Functions whose Python recursion is not structural
(`table_boxes_children` re-applied to fresh wrappers, the `while True` of `block_in_inline`)
take a fuel argument; `BErr.fuel` is not a Python outcome and never matches one.
No Mathlib.
-/
import WpModel.Model.Whitespace
import WpModel.Model.TableGrid

namespace Wp.Bx

/-- `style['display']` as far as `wrap_table` looks at it. -/
inductive GDisp where
  | header | footer | other
  deriving Repr, DecidableEq, BEq, Inhabited

/-- The style entries read by `build.py` after box creation. -/
structure Style where
  flt : Bool := false        -- style['float'] in ('left', 'right')
  foot : Bool := false       -- style['float'] == 'footnote'
  abs : Bool := false        -- style['position'] in ('absolute', 'fixed')
  run : Bool := false        -- style['position'][0] == 'running()'
  ws : WS := .normal         -- style['white_space']            (inherited)
  tt : TT := .none           -- style['text_transform']          (inherited)
  hyph : Bool := false       -- style['hyphens'] == 'none'        (inherited)
  disp : GDisp := .other     -- ('table-header-group',) / ('table-footer-group',) / anything else
  capBottom : Bool := false  -- style['caption_side'] == 'bottom' (inherited)
  anon : Bool := false       -- the style object is an `AnonymousStyle`
  deriving Repr, DecidableEq, BEq, Inhabited

/-- Element attributes parsed by constructors / properties: `int(element.get(name, '').strip())`
when it succeeds. -/
structure El where
  colspan : Option Int := none
  rowspan : Option Int := none
  span : Option Int := none
  deriving Repr, DecidableEq, BEq, Inhabited

/-- Instance attributes. -/
structure Inst where
  lcs : Bool := false        -- leading_collapsible_space
  tcs : Bool := false        -- trailing_collapsible_space
  colspan : Nat := 1         -- TableCellBox only
  rowspan : Nat := 1
  gridX : Option Nat := none -- cells, columns, column groups after wrap_table
  wrapper : Bool := false    -- is_table_wrapper
  isHeader : Bool := false
  isFooter : Bool := false
  flexItem : Bool := false
  gridItem : Bool := false
  noFloat : Bool := false    -- `child.is_floated = lambda: False` (flex_children)
  deriving Repr, DecidableEq, BEq, Inhabited

inductive KBox where
  | mk (kind : BoxKind) (st : Style) (el : El) (inst : Inst) (text : Text) (kids : List KBox)
       (cols : List KBox)
  deriving Repr, Inhabited

inductive BErr where
  | assertion | keyError | attributeError | indexError | fuel
  deriving Repr, DecidableEq, BEq

def BErr.render : BErr → String
  | .assertion => "err:AssertionError" | .keyError => "err:KeyError"
  | .attributeError => "err:AttributeError" | .indexError => "err:IndexError"
  | .fuel => "err:model-fuel"

namespace KBox

def kind : KBox → BoxKind | .mk k _ _ _ _ _ _ => k
def st : KBox → Style | .mk _ s _ _ _ _ _ => s
def el : KBox → El | .mk _ _ e _ _ _ _ => e
def inst : KBox → Inst | .mk _ _ _ i _ _ _ => i
def text : KBox → Text | .mk _ _ _ _ t _ _ => t
def kids : KBox → List KBox | .mk _ _ _ _ _ ks _ => ks
def cols : KBox → List KBox | .mk _ _ _ _ _ _ cs => cs

def withKids : KBox → List KBox → KBox | .mk k s e i t _ c, ks => .mk k s e i t ks c
def withInst : KBox → Inst → KBox | .mk k s e _ t ks c, i => .mk k s e i t ks c
def withStyle : KBox → Style → KBox | .mk k _ e i t ks c, s => .mk k s e i t ks c
def withCols : KBox → List KBox → KBox | .mk k s e i t ks _, c => .mk k s e i t ks c

/-- `isinstance(box, boxes.<c>)` -/
def isA (b : KBox) (c : BoxClass) : Bool := Gen.isSub b.kind c

def isFloated (b : KBox) : Bool := b.st.flt && !b.inst.noFloat
def isAbs (b : KBox) : Bool := b.st.abs
def isRunning (b : KBox) : Bool := b.st.run
/-- `is_in_normal_flow()` -/
def inFlow (b : KBox) : Bool := !(b.isFloated || b.st.abs || b.st.run || b.st.foot)

end KBox

/-- `TableCellBox.__init__`: `max(int(colspan), 1)` / `max(int(rowspan), 0)`, 1 when unparsable. -/
def cellColspan (e : El) : Nat := match e.colspan with | some v => (max v 1).toNat | none => 1
def cellRowspan (e : El) : Nat := match e.rowspan with | some v => (max v 0).toNat | none => 1

/-- `TableColumnBox.span` / the element part of `TableColumnGroupBox.span`. -/
def elSpan (e : El) : Nat := match e.span with | some v => (max v 1).toNat | none => 1

def initInst (cls : BoxKind) (e : El) : Inst :=
  if cls == .TableCellBox then { colspan := cellColspan e, rowspan := cellRowspan e } else {}

/-- `AnonymousStyle(parent_style)`: inherited entries from the parent, the others initial. -/
def anonStyle (p : Style) : Style := { ws := p.ws, tt := p.tt, hyph := p.hyph, capBottom := p.capBottom, anon := true }

/-- `cls.anonymous_from(parent, children)`: the element (hence its attributes) is the parent's. -/
def anonFrom (cls : BoxKind) (parent : KBox) (kids : List KBox) : KBox :=
  .mk cls (anonStyle parent.st) parent.el (initInst cls parent.el) [] kids []

/-! ## process_whitespace, process_text_transform -/

mutual
/-- `process_whitespace(box, following_collapsible_space)` → (box after mutation, return value). -/
def pw : KBox → Bool → KBox × Bool
  | .mk k st el inst text kids cols, fcs =>
    if Gen.isSub k .TextBox then
      if text.isEmpty then (.mk k st el inst text kids cols, fcs)
      else
        let r := processText st.ws text fcs
        (.mk k st el { inst with lcs := inst.lcs || r.setLeading } r.text kids cols,
         r.following && !st.run)
    else
      let (kids', f) := pwKids kids fcs
      (.mk k st el inst text kids' cols, f && !st.run)
/-- `for child in box.children: …`: the state goes from child to child whatever the box itself is
(a float, an absolutely positioned box …); only a child out of normal flow leaves it alone. -/
def pwKids : List KBox → Bool → List KBox × Bool
  | [], f => ([], f)
  | c :: cs, f =>
    if Gen.isSub c.kind .TextBox || Gen.isSub c.kind .InlineBox then
      let (c', cf) := pw c f
      let f' := if c.inFlow then cf else f
      let (cs', f'') := pwKids cs f'
      (c' :: cs', f'')
    else
      let f' := if c.inFlow then false else f
      let (cs', f'') := pwKids cs f'
      (c :: cs', f'')
end

mutual
/-- `process_text_transform(box)`. -/
def ptt : KBox → KBox
  | .mk k st el inst text kids cols =>
    if Gen.isSub k .TextBox then
      let t1 := applyTT st.tt text
      .mk k st el inst (if st.hyph then dropSoftHyphens t1 else t1) kids cols
    else if !st.run then .mk k st el inst text (pttKids kids) cols
    else .mk k st el inst text kids cols
def pttKids : List KBox → List KBox
  | [] => []
  | c :: cs =>
    (if Gen.isSub c.kind .TextBox || Gen.isSub c.kind .InlineBox then ptt c else c) :: pttKids cs
end

/-! ## inline_in_block -/

/-- The second loop of `inline_in_block` (`for child_box in children`): `line` and `acc` are
`new_line_children` and `new_children`, reversed. -/
def groupLines (parent : KBox) : List KBox → List KBox → List KBox → Except BErr (List KBox)
  | [], line, acc =>
    if !line.isEmpty then
      let lineBox := anonFrom .LineBox parent line.reverse
      if !acc.isEmpty then .ok ((anonFrom .BlockBox parent [lineBox] :: acc).reverse)
      else .ok [lineBox]
    else .ok acc.reverse
  | c :: cs, line, acc =>
    if c.isA .LineBox then .error .assertion
    else if !line.isEmpty && c.isAbs then groupLines parent cs (c :: line) acc
    else if c.isA .InlineLevelBox || (!line.isEmpty && !c.inFlow) then
      if !line.isEmpty || !(c.isA .TextBox && c.text == [Ch.sp] &&
          Gen.lineStartSpaceWs.contains c.st.ws) then
        groupLines parent cs (c :: line) acc
      else groupLines parent cs line acc
    else if !line.isEmpty then
      let lineBox := anonFrom .LineBox parent line.reverse
      groupLines parent cs [] (c :: anonFrom .BlockBox parent [lineBox] :: acc)
    else groupLines parent cs [] (c :: acc)

mutual
/-- `inline_in_block(box)`; `force`: the caller has just set `box.leading_collapsible_space = True`. -/
def iib (force : Bool) : KBox → Except BErr KBox
  | .mk k st el inst text kids cols =>
    let lcs0 := inst.lcs || force
    if kids.isEmpty || st.run then .ok (.mk k st el { inst with lcs := lcs0 } text kids cols)
    else
      let lcs1 := if lcs0 == false then (match kids with | c :: _ => c.inst.lcs | [] => false) else lcs0
      match iibKids false kids with
      | .error e => .error e
      | .ok (children, trailing) =>
        let tcs1 := if inst.tcs == false then trailing else inst.tcs
        let box := KBox.mk k st el { inst with lcs := lcs1, tcs := tcs1 } text children cols
        if !Gen.isSub k .BlockContainerBox then .ok box
        else
          match groupLines box children [] [] with
          | .error e => .error e
          | .ok newChildren => .ok (box.withKids newChildren)
/-- The first loop (`for child in box_children`) → (`children`, final `trailing_collapsible_space`). -/
def iibKids (trailing : Bool) : List KBox → Except BErr (List KBox × Bool)
  | [] => .ok ([], trailing)
  | c :: cs =>
    if Gen.isSub c.kind .TextBox && c.text.isEmpty then
      -- removed; `trailing_collapsible_space = child.leading_collapsible_space` (after the forcing)
      iibKids (c.inst.lcs || trailing) cs
    else
      match iib trailing c with
      | .error e => .error e
      | .ok c' =>
        match iibKids false cs with
        | .error e => .error e
        | .ok (rest, t) => .ok (c' :: rest, t)
end

/-! ## block_in_inline -/

/-- Outcome of the loop of `_inner_block_in_inline`. -/
inductive InnerLoop where
  | found (newKids : List KBox) (block : KBox) (resume : List Nat)
  | done (newKids : List KBox)

mutual
/-- `block_in_inline(box)` -/
def bii : Nat → KBox → Except BErr KBox
  | 0, _ => .error .fuel
  | n + 1, b =>
    if b.kids.isEmpty || b.st.run then .ok b
    else
      match biiKids n b b.kids with
      | .error e => .error e
      | .ok ks => .ok (b.withKids ks)
/-- `for child in box.children` of `block_in_inline` → `new_children`. -/
def biiKids : Nat → KBox → List KBox → Except BErr (List KBox)
  | 0, _, _ => .error .fuel
  | _ + 1, _, [] => .ok []
  | n + 1, parent, c :: cs =>
    if c.isA .LineBox then
      if parent.kids.length != 1 then .error .assertion
      else
        match biiLine n parent c [] false with
        | .error e => .error e
        | .ok pieces =>
          match biiKids n parent cs with
          | .error e => .error e
          | .ok rest => .ok (pieces ++ rest)
    else
      match bii n c with
      | .error e => .error e
      | .ok c' =>
        match biiKids n parent cs with
        | .error e => .error e
        | .ok rest => .ok (c' :: rest)
/-- The `while True` loop on one line box; `emitted`: `new_children` is already non-empty. -/
def biiLine : Nat → KBox → KBox → List Nat → Bool → Except BErr (List KBox)
  | 0, _, _, _, _ => .error .fuel
  | n + 1, parent, line, stack, emitted =>
    match inner n line stack with
    | .error e => .error e
    | .ok (newLine, none, _) =>
      if emitted then .ok [anonFrom .BlockBox parent [newLine]] else .ok [newLine]
    | .ok (newLine, some block, stack') =>
      match bii n block with
      | .error e => .error e
      | .ok block' =>
        match biiLine n parent line stack' true with
        | .error e => .error e
        | .ok rest => .ok (anonFrom .BlockBox parent [newLine] :: block' :: rest)
/-- `_inner_block_in_inline(box, skip_stack)`; a skip stack `{i: {j: None}}` is `[i, j]`, `None` is `[]`. -/
def inner : Nat → KBox → List Nat → Except BErr (KBox × Option KBox × List Nat)
  | 0, _, _ => .error .fuel
  | n + 1, box, stack =>
    let (skip, stack') := match stack with | [] => (0, []) | i :: tl => (i, tl)
    match innerKids n (box.kids.drop skip) skip stack' [] with
    | .error e => .error e
    | .ok (.found ks blk resume) => .ok (box.withKids ks, some blk, resume)
    | .ok (.done ks) => .ok (box.withKids ks, none, [])
/-- `for i, child in enumerate(box.children[skip:])`; `acc` is `new_children` reversed. -/
def innerKids : Nat → List KBox → Nat → List Nat → List KBox → Except BErr InnerLoop
  | 0, _, _, _, _ => .error .fuel
  | _ + 1, [], _, _, acc => .ok (.done acc.reverse)
  | n + 1, c :: cs, index, stack, acc =>
    if c.isA .BlockLevelBox && c.inFlow then
      if !stack.isEmpty then .error .assertion
      else .ok (.found acc.reverse c [index + 1])
    else if c.isA .InlineBox then
      match inner n c stack with
      | .error e => .error e
      | .ok (c', some blk, resume) => .ok (.found (c' :: acc).reverse blk (index :: resume))
      | .ok (c', none, _) => innerKids n cs (index + 1) [] (c' :: acc)
    else
      if !stack.isEmpty then .error .assertion
      else
        match bii n c with
        | .error e => .error e
        | .ok c' => innerKids n cs (index + 1) [] (c' :: acc)
end

/-! ## anonymous table boxes -/

/-- `is_whitespace(box)`: a text box without any character outside the class of the regular
expression (`Gen.reSpaceCp`, the graph of the real function: space, tab, LF, CR, FF). -/
def isWhitespace (b : KBox) : Bool := b.isA .TextBox && allReSpace b.text

/-- `TableColumnGroupBox.span` -/
def groupSpan (b : KBox) : Nat := if !b.kids.isEmpty then b.kids.length else elSpan b.el

/-- Rule 1.3, last child: `internal, text = children[-2:]; if … : children.pop()`. -/
def rule13Last (children : List KBox) : List KBox :=
  match children.reverse with
  | text :: internal :: _ =>
    if Gen.internalTableOrCaption internal.kind && isWhitespace text then children.dropLast else children
  | _ => children

/-- Rule 1.3, first child: `text, internal = children[:2]; if … : children.pop(0)`. -/
def rule13First (children : List KBox) : List KBox :=
  match children with
  | text :: internal :: rest =>
    if Gen.internalTableOrCaption internal.kind && isWhitespace text then internal :: rest else children
  | _ => children

/-- Rule 1.3 of `table_boxes_children`. -/
def rule13 (children : List KBox) : List KBox :=
  if children.length >= 2 then rule13First (rule13Last children) else children

/-- The test of rule 1.4 for one child between `prev` and the head of `next`. -/
def rule14Drop (prev : Option KBox) (c : KBox) (next : List KBox) : Bool :=
  (match prev with | some p => Gen.internalTableOrCaption p.kind | none => false) &&
  (match next with | nx :: _ => Gen.internalTableOrCaption nx.kind | [] => false) &&
  isWhitespace c

/-- Rule 1.4: drop white-space text between two internal table boxes. -/
def rule14 : Option KBox → List KBox → List KBox
  | _, [] => []
  | prev, c :: cs =>
    if rule14Drop prev c cs then rule14 (some c) cs else c :: rule14 (some c) cs

/-- Sort the children of a table as `wrap_table` does (`by_type[type(child)]`). -/
def sortTableKids : List KBox → Except BErr (List KBox × List KBox × List KBox)
  | [] => .ok ([], [], [])
  | c :: cs =>
    match sortTableKids cs with
    | .error e => .error e
    | .ok (columns, rows, captions) =>
      if c.kind == .TableColumnBox || c.kind == .TableColumnGroupBox then .ok (c :: columns, rows, captions)
      else if c.kind == .TableRowBox || c.kind == .TableRowGroupBox then .ok (columns, c :: rows, captions)
      else if c.kind == .TableCaptionBox then .ok (columns, rows, c :: captions)
      else .error .keyError

/-- Header / footer extraction: returns (header, footer, bodies reversed). -/
def splitGroups : List KBox → Option KBox → Option KBox → List KBox → Option KBox × Option KBox × List KBox
  | [], h, f, acc => (h, f, acc)
  | g :: gs, h, f, acc =>
    if g.st.disp == .header && h.isNone then
      splitGroups gs (some (g.withInst { g.inst with isHeader := true })) f acc
    else if g.st.disp == .footer && f.isNone then
      splitGroups gs h (some (g.withInst { g.inst with isFooter := true })) acc
    else splitGroups gs h f (g :: acc)

/-- `cell.colspan`, `cell.rowspan` of every child of a row (AttributeError on anything but a cell). -/
def rowCells : List KBox → Except BErr (List TableGrid.CellIn)
  | [] => .ok []
  | c :: cs =>
    if c.kind != .TableCellBox then .error .attributeError
    else match rowCells cs with
      | .error e => .error e
      | .ok rest => .ok (⟨c.inst.colspan, c.inst.rowspan⟩ :: rest)

def groupCells : List KBox → Except BErr (List (List TableGrid.CellIn))
  | [] => .ok []
  | r :: rs =>
    match rowCells r.kids, groupCells rs with
    | .ok a, .ok b => .ok (a :: b)
    | .error e, _ => .error e
    | _, .error e => .error e

def tableCells : List KBox → Except BErr (List (List (List TableGrid.CellIn)))
  | [] => .ok []
  | g :: gs =>
    match groupCells g.kids, tableCells gs with
    | .ok a, .ok b => .ok (a :: b)
    | .error e, _ => .error e
    | _, .error e => .error e

/-- Write `grid_x` / clipped `rowspan` back on the cells of a row. -/
def setRow : List KBox → List TableGrid.CellOut → List KBox
  | c :: cs, o :: os =>
    c.withInst { c.inst with gridX := some o.gridX, rowspan := o.rowspan } :: setRow cs os
  | cs, _ => cs

def setGroup : List KBox → List (List TableGrid.CellOut) → List KBox
  | r :: rs, o :: os => r.withKids (setRow r.kids o) :: setGroup rs os
  | rs, _ => rs

def setGroups : List KBox → List (List (List TableGrid.CellOut)) → List KBox
  | g :: gs, o :: os => g.withKids (setGroup g.kids o) :: setGroups gs os
  | gs, _ => gs

def setCols : List KBox → List Nat → List KBox
  | c :: cs, x :: xs => c.withInst { c.inst with gridX := some x } :: setCols cs xs
  | cs, _ => cs

def setColGroups : List KBox → List TableGrid.ColGroupOut → List KBox
  | g :: gs, o :: os =>
    (g.withInst { g.inst with gridX := some o.gridX }).withKids (setCols g.kids o.cols) :: setColGroups gs os
  | gs, _ => gs

def isTopCaption (c : KBox) : Bool := !c.st.capBottom

mutual
/-- `table_boxes_children(box, children)`; `box.kids` are the children the box had before. -/
def tbc : Nat → KBox → List KBox → Except BErr KBox
  | 0, _, _ => .error .fuel
  | n + 1, box, children =>
    let k := box.kind
    let children :=
      if Gen.isSub k .TableColumnBox then []                          -- rule 1.1
      else if Gen.isSub k .TableColumnGroupBox then                   -- rule 1.2
        let cols := children.filter (fun c => c.isA .TableColumnBox)
        if cols.isEmpty then List.replicate (groupSpan box) (anonFrom .TableColumnBox box [])
        else cols
      else children
    let children := if Gen.tabularContainer k then rule13 children else children
    let children := rule14 none children
    -- rules 2.1 / 2.2
    let step1 : Except BErr (List KBox) :=
      if Gen.isSub k .TableBox then
        wrapImproper n box children .TableRowBox (fun c => Gen.properTableChild c.kind) []
      else if Gen.isSub k .TableRowGroupBox then
        wrapImproper n box children .TableRowBox (fun c => c.isA .TableRowBox) []
      else .ok children
    match step1 with
    | .error e => .error e
    | .ok children =>
      -- rules 2.3 / 3.1
      let step2 :=
        if Gen.isSub k .TableRowBox then
          wrapImproper n box children .TableCellBox (fun c => c.isA .TableCellBox) []
        else
          wrapImproper n box children .TableRowBox (fun c => !c.isA .TableCellBox) []
      match step2 with
      | .error e => .error e
      | .ok children =>
        -- rule 3.2
        let step3 :=
          if Gen.isSub k .InlineBox then
            wrapImproper n box children .InlineTableBox (fun c => !Gen.properTableChild c.kind) []
          else
            wrapImproper n box children .TableBox
              (fun c => !Gen.properTableChild c.kind || (Gen.properParents c.kind).contains k) []
        match step3 with
        | .error e => .error e
        | .ok children =>
          if Gen.isSub k .TableBox then wrapTable n box children
          else .ok (box.withKids children)
/-- `wrap_improper(box, children, wrapper_type, test)`; `improper` reversed. -/
def wrapImproper : Nat → KBox → List KBox → BoxKind → (KBox → Bool) → List KBox →
    Except BErr (List KBox)
  | 0, _, _, _, _, _ => .error .fuel
  | n + 1, box, [], wt, _, improper =>
    if !improper.isEmpty then
      match tbc n (anonFrom wt box []) improper.reverse with
      | .error e => .error e
      | .ok w => .ok [w]
    else .ok []
  | n + 1, box, c :: cs, wt, test, improper =>
    if test c then
      if !improper.isEmpty then
        match tbc n (anonFrom wt box []) improper.reverse with
        | .error e => .error e
        | .ok w =>
          match wrapImproper n box cs wt test [] with
          | .error e => .error e
          | .ok rest => .ok (w :: c :: rest)
      else
        match wrapImproper n box cs wt test [] with
        | .error e => .error e
        | .ok rest => .ok (c :: rest)
    else wrapImproper n box cs wt test (c :: improper)
/-- `wrap_table(box, children)` (for `border-collapse: separate`). -/
def wrapTable : Nat → KBox → List KBox → Except BErr KBox
  | 0, _, _ => .error .fuel
  | n + 1, box, children =>
    match sortTableKids children with
    | .error e => .error e
    | .ok (columns, rows, allCaptions) =>
      match wrapImproper n box columns .TableColumnGroupBox (fun c => c.isA .TableColumnGroupBox) [] with
      | .error e => .error e
      | .ok columnGroups =>
        match wrapImproper n box rows .TableRowGroupBox (fun c => c.isA .TableRowGroupBox) [] with
        | .error e => .error e
        | .ok rowGroups0 =>
          let (header, footer, bodiesRev) := splitGroups rowGroups0 none none []
          let rowGroups := header.toList ++ bodiesRev.reverse ++ footer.toList
          match tableCells rowGroups with
          | .error e => .error e
          | .ok cells =>
            let colsIn := columnGroups.map (fun g => (⟨g.kids.length, groupSpan g⟩ : TableGrid.ColGroupIn))
            match TableGrid.placeTable colsIn cells with
            | .error _ => .error .indexError
            | .ok out =>
              let rowGroups := setGroups rowGroups out.groups
              let columnGroups := setColGroups columnGroups out.colGroups
              let tst := box.st
              let tableStyle : Style :=
                { tst with
                  flt := if Gen.wrapperTakesFloat then false else tst.flt
                  foot := if Gen.wrapperTakesFloat then false else tst.foot
                  abs := if Gen.wrapperTakesPosition then false else tst.abs
                  run := if Gen.wrapperTakesPosition then false else tst.run }
              let table := ((box.withKids rowGroups).withCols columnGroups).withStyle tableStyle
              let wrapperType := if box.isA .InlineTableBox then BoxKind.InlineBlockBox else BoxKind.BlockBox
              let top := allCaptions.filter isTopCaption
              let bottom := allCaptions.filter (fun c => !isTopCaption c)
              let w := anonFrom wrapperType box (top ++ [table] ++ bottom)
              let wst := w.st
              let wrapperStyle : Style :=
                { wst with
                  flt := if Gen.wrapperTakesFloat then tst.flt else wst.flt
                  foot := if Gen.wrapperTakesFloat then tst.foot else wst.foot
                  abs := if Gen.wrapperTakesPosition then tst.abs else wst.abs
                  run := if Gen.wrapperTakesPosition then tst.run else wst.run }
              .ok ((w.withStyle wrapperStyle).withInst { w.inst with wrapper := true })
end

/-- Fuel for `table_boxes_children` on `n` children (the rules nest at most five levels deep: four wrappers). -/
def tableFuel (n : Nat) : Nat := 8 * (n + 8)

mutual
/-- `anonymous_table_boxes(box)` -/
def atb : KBox → Except BErr KBox
  | .mk k st el inst text kids cols =>
    if !Gen.isSub k .ParentBox || st.run then .ok (.mk k st el inst text kids cols)
    else
      match atbKids kids with
      | .error e => .error e
      | .ok children =>
        -- rule 1.2 may create `span` anonymous columns: they count for the fuel
        tbc (tableFuel (children.length + groupSpan (.mk k st el inst text kids cols)))
          (.mk k st el inst text kids cols) children
def atbKids : List KBox → Except BErr (List KBox)
  | [] => .ok []
  | c :: cs =>
    match atb c, atbKids cs with
    | .ok a, .ok b => .ok (a :: b)
    | .error e, _ => .error e
    | _, .error e => .error e
end

/-! ## flex_boxes, grid_boxes -/

/-- `flex_children` for a flex container (`grid = false`) / `grid_children` (`grid = true`). -/
def itemChildren (grid : Bool) : List KBox → List KBox
  | [] => []
  | c :: cs =>
    -- flex: `child.is_floated = lambda: False`
    let c := if grid then c else c.withInst { c.inst with noFloat := true }
    let c := if c.inFlow then
        (if grid then c.withInst { c.inst with gridItem := true } else c.withInst { c.inst with flexItem := true })
      else c
    let mark (b : KBox) : KBox :=
      if grid then b.withInst { b.inst with gridItem := true } else b.withInst { b.inst with flexItem := true }
    if c.isA .TextBox && allPlainSpaces c.text then itemChildren grid cs
    else if c.isA .InlineBlockBox then
      -- `anonymous.is_table_wrapper = child.is_table_wrapper`: the wrapper of an inline-table stays one
      let a := (anonFrom .BlockBox c c.kids).withStyle c.st
      mark (a.withInst { a.inst with wrapper := c.inst.wrapper }) :: itemChildren grid cs
    else if c.isA .InlineLevelBox then
      let inner := if grid then c.withInst { c.inst with gridItem := false } else c
      mark ((anonFrom .BlockBox c [inner]).withStyle c.st) :: itemChildren grid cs
    else c :: itemChildren grid cs

mutual
/-- `flex_boxes(box)` (`grid = false`) / `grid_boxes(box)` (`grid = true`). -/
def fgb (grid : Bool) : KBox → KBox
  | .mk k st el inst text kids cols =>
    if !Gen.isSub k .ParentBox || st.run then .mk k st el inst text kids cols
    else
      let children := fgbKids grid kids
      let container := if grid then Gen.isSub k .GridContainerBox else Gen.isSub k .FlexContainerBox
      .mk k st el inst text (if container then itemChildren grid children else children) cols
def fgbKids (grid : Bool) : List KBox → List KBox
  | [] => []
  | c :: cs => fgb grid c :: fgbKids grid cs
end

/-! ## the pipeline -/

mutual
def KBox.size : KBox → Nat
  | .mk _ _ _ _ _ kids cols => 1 + KBox.sizeList kids + KBox.sizeList cols
def KBox.sizeList : List KBox → Nat
  | [] => 0
  | c :: cs => c.size + KBox.sizeList cs
end

def biiFuel (b : KBox) : Nat := 6 * b.size + 16

/-- `create_anonymous_boxes(box)` -/
def createAnonymousBoxes (b : KBox) : Except BErr KBox :=
  match atb b with
  | .error e => .error e
  | .ok b1 =>
    let b2 := fgb false b1
    let b3 := fgb true b2
    match iib false b3 with
    | .error e => .error e
    | .ok b4 => bii (biiFuel b4) b4

end Wp.Bx
